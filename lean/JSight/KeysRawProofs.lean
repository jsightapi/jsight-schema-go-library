import JSight.ExampleTextRKeys
import JSight.KeysThm
import JSight.ATreeExamples
/-!
C15, text level for ANNOTATED trees: the hypothesis `AT.KeysRaw` of `ExampleTextRKeys` holds — the key spans the loader
records for the text of a well-formed annotated tree are the tree's key tokens as written (from `AT.K.tree_loads_keys`:
the `ATreeLoad*` induction over the abstraction `Loader.K.absK` that keeps `src[b..e]` of every recorded key span) —
and with it the round trip for ALL annotated trees of the class (`annotated_roundtrip`).
-/
namespace AT
open Loader (XNode xfresh rawKeysN exampleTextR)

/-- the key tokens in the `keys` slot of an abstract node -/
def keyToks (x : XNode) : List Bytes := x.keys.map (·.1)

theorem rkeys_toks : (ms : AMembers) → ms.rkeys.map (·.1) = ms.rawKeyList
  | .nil _ => rfl
  | .cons _ k _ _ _ _ _ rest => by simp [AMembers.rkeys, AMembers.rawKeyList, rkeys_toks rest]

mutual
theorem nodesK_rawKeys : (v : ATree) → (par : Option Nat) → (n : Nat) → (v.nodesK par n).map keyToks = v.rawKeys
  | .scalar _ _, _, _ => by simp [ATree.nodesK, ATree.rawKeys, keyToks, annX_keys, xfresh]
  | .arr _ its, _, n => by
    simp [ATree.nodesK, ATree.rawKeys, keyToks, annX_keys, xfresh, ← itemsK_rawKeys its n (n + 1)]
  | .obj _ ms, _, n => by
    simp [ATree.nodesK, ATree.rawKeys, keyToks, rkeys_toks, ← membersK_rawKeys ms n (n + 1)]
theorem itemsK_rawKeys : (its : AItems) → (a n : Nat) → (its.nodesK a n).map keyToks = its.rawKeys
  | .nil _, _, _ => rfl
  | .cons _ v _ _ rest, a, n => by
    simp [AItems.nodesK, AItems.rawKeys, nodesK_rawKeys v, itemsK_rawKeys rest]
theorem membersK_rawKeys : (ms : AMembers) → (a n : Nat) → (ms.nodesK a n).map keyToks = ms.rawKeys
  | .nil _, _, _ => rfl
  | .cons _ _ _ _ v _ _ rest, a, n => by
    simp [AMembers.nodesK, AMembers.rawKeys, nodesK_rawKeys v, membersK_rawKeys rest]
end


/-! ### `tableK` refines `table` -/

def decKeys (x : XNode) : XNode := { x with keys := x.keys.map Loader.K.dec }

theorem decKeys_annX (a : Option Annot) (x : XNode) : decKeys (annX a x) = annX a (decKeys x) := by
  cases a <;> rfl

mutual
theorem nodesK_dec : (v : ATree) → (par : Option Nat) → (n : Nat) → (v.nodesK par n).map decKeys = v.nodes par n
  | .scalar _ _, _, _ => by simp [ATree.nodesK, ATree.nodes, decKeys_annX]; rfl
  | .arr an its, par, n => by
    simp only [ATree.nodesK, ATree.nodes, List.map_cons, itemsK_dec its n (n + 1)]
    congr 1
    cases an <;> rfl
  | .obj an ms, par, n => by
    simp only [ATree.nodesK, ATree.nodes, List.map_cons, membersK_dec ms n (n + 1)]
    congr 1
    cases an <;> simp [decKeys, annX, Lay.addAnn, AMembers.rkeys_dec]
theorem itemsK_dec : (its : AItems) → (a n : Nat) → (its.nodesK a n).map decKeys = its.nodes a n
  | .nil _, _, _ => rfl
  | .cons _ v _ _ rest, a, n => by
    simp [AItems.nodesK, AItems.nodes, nodesK_dec v, itemsK_dec rest]
theorem membersK_dec : (ms : AMembers) → (a n : Nat) → (ms.nodesK a n).map decKeys = ms.nodes a n
  | .nil _, _, _ => rfl
  | .cons _ _ _ _ v _ _ rest, a, n => by
    simp [AMembers.nodesK, AMembers.nodes, nodesK_dec v, membersK_dec rest]
end

theorem tableK_dec (t : ATree) : t.tableK.map (fun x => { x with keys := x.keys.map Loader.K.dec }) = t.table :=
  nodesK_dec t none 0

theorem keyToks_absK (src : Array UInt8) (n : Loader.Node) : keyToks (Loader.K.absK src n) = rawKeysN src n := by
  simp [keyToks, Loader.K.absK, Loader.K.rawOf, rawKeysN]

/-- **the loaded key spans of an annotated tree are its key tokens** -/
theorem keysRaw (w0 : Gap) (t : ATree) (w1 : Gap) (hc : t.isContainer = true) (hl : lineOK w0 t = true)
    (hw : TokOK (docToks w0 t w1)) : KeysRaw w0 t w1 := by
  intro st hload
  obtain ⟨st', hload', _, habs⟩ := K.tree_loads_keys w0 t w1 hc hl hw
  rw [hload] at hload'
  cases hload'
  have := congrArg (List.map keyToks) habs
  rw [List.map_map] at this
  rw [← nodesK_rawKeys t none 0, ← ATree.tableK, ← this]
  apply List.map_congr_left
  intro n _
  exact (keyToks_absK _ n).symm

/-- **the round trip for every annotated tree of the class** -/
theorem annotated_roundtrip (w0 : Gap) (t : ATree) (w1 : Gap) (hc : t.isContainer = true)
    (hl : lineOK w0 t = true) (hw : TokOK (docToks w0 t w1)) (hx : t.exClass = true) :
    exampleTextR (docText w0 t w1) = .ok t.compact :=
  annotated_roundtrip_of_keys w0 t w1 hc hl hw hx (keysRaw w0 t w1 hc hl hw)

end AT

namespace AT.ExKeys
open AT.Ex
open SchemaScan.Len.Ex (b)

/-- `{"\u0061": 1, "a b": [ ] }` — a key with an escape (decoded: `a`; the example keeps the TOKEN) -/
def tEsc : ATree :=
  .obj none
    (.cons [] (b "\"\\u0061\"") [] [.sp 32] (.scalar (b "1") none) [] true
    (.cons [.sp 32] (b "\"aa\"") [] [.sp 32] (.arr none (.nil [.sp 32])) [.sp 32] false (.nil [])))

theorem kEsc_wf : BTok.WF (.key (b "\"\\u0061\"")) := ⟨_, rfl, rfl⟩

theorem tEsc_tok : TokOK (docToks [] tEsc []) := by
  simp only [docToks, tEsc, ATree.toks, AMembers.toks, AItems.toks, ATree.toksB, headToks, gapToks, List.map,
    List.cons_append, List.nil_append, List.append_nil, cond_true, cond_false, tokOK_cons_iff]
  exact ⟨trivial, kEsc_wf, trivial, sp_wf, one_wf, trivial, sp_wf, kaa_wf, trivial, sp_wf, trivial, sp_wf, trivial, sp_wf,
    trivial, tokOK_nil⟩

theorem tEsc_line : lineOK [] tEsc = true := by decide

end AT.ExKeys
