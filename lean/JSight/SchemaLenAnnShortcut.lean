import JSight.SchemaLenTokEof
/-!
C14: a top-level TYPE SHORTCUT followed on its line by an inline annotation (`@cat | @dog // {…} - note`).
-/
namespace SchemaScan
namespace Len

variable {lc : Bool} {data : Array Cls}

/-- `/` behind a root shortcut (or behind the spaces that follow it): the shortcut is closed, the annotation starts -/
theorem ts_slash_d (f : Nat) (nm : Bool) (o i : Nat) (c0 : Ctx) (p1 p2 : Option Cls) :
    dispatch (f + 1) (tsSt nm) (cfgL lc (tsSt nm) [] (K2 o) false i [c0] sctx true) .slash p1 p2
      = .ok { cfgL lc .anyAnnStart [.endTop] (K2 o) false i [] c0 true with finds := [.tsE, .mixE] } := by
  cases nm <;> (unfold tsSt; unfold dispatch; rfl)

theorem S_ts_slash (nm : Bool) (o i : Nat) (c0 : Ctx) (hc : data[i]? = some .slash) :
    Path data (cfgL lc (tsSt nm) [] (K2 o) false i [c0] sctx true)
      [⟨.tsE, o, i - 1⟩, ⟨.mixE, o, mixEnd data i⟩]
      (cfgL lc .anyAnnStart [.endTop] [] false (i + 1) [] c0 true) :=
  cfg_byte hc (fun p1 p2 => ts_slash_d 7 nm o (i + 1) c0 p1 p2) rfl rfl

theorem lenRun_ann_shortcut (ws0 : List Cls) (sc : Shortcut) (s1 : List Cls) (b : InlBody) (w : List Cls)
    (x : Cls) (rest : List Cls) (h0 : IsWs ws0) (hv : sc.Valid) (h1 : IsSpTabs s1) (hb : b.Valid) (hw : IsWs w)
    (hx : x.isForeign = true)
    (hat : At data 0
      (ws0 ++ (sc.render ++ (s1 ++ (Cls.slash :: Cls.slash :: (b.render ++ (Cls.nl :: (w ++ x :: rest))))))))
    (hsize : data.size
      = ws0.length + sc.render.length + s1.length + 2 + b.render.length + 1 + w.length + 1 + rest.length) :
    ∃ es f, Drain data { lengthComputing := true } es f ∧
      f.len data es 0 = .ok (ws0.length + sc.render.length + s1.length + 2 + b.render.length + 1 + w.length) := by
  rw [At_append, At_append, At_append] at hat
  obtain ⟨hat0, hatsc, hats1, hsl1, hatann⟩ := hat
  simp only [Nat.zero_add] at hatsc hats1 hsl1 hatann
  -- leading layout
  have t0 := trun_blanks .foundRoot rfl false [] [] { ty := .initial } true ws0 0 h0
  have P0 := sim_run (lc := true) (data := data) (blankToks ws0) _ _ _ t0 (wf_blankToks ws0 h0)
    (by rw [render_blankToks]; exact hat0)
  have P0' : Path data { lengthComputing := true } (nlEvs 0 ws0)
      (cfgL true .foundRoot [] [] false ws0.length [] { ty := .initial } true) := by
    have := P0
    simp only [Nat.zero_add] at this
    exact this
  -- the shortcut
  simp only [Shortcut.render] at hatsc
  obtain ⟨hcat, hatsc'⟩ := hatsc
  have P1 := S_root_at (lc := true) ws0.length [] { ty := .initial } true hcat
  have P2 := ts_run (lc := true) _ _ _ _ _ (shortcut_tsRun sc hv) (K2 ws0.length) (ws0.length + 1)
    [{ ty := .initial }] sctx true hatsc'
  have hE : ws0.length + 1 + (sc.first ++ renderAlts sc.alts).length = ws0.length + sc.render.length := by
    simp only [Shortcut.render, List.length_cons]; omega
  rw [hE] at P2
  have P3 := ts_run (lc := true) s1 .tsName false _ false (sp_tsRun .tsName (Or.inl rfl) s1 h1 false)
    (K2 ws0.length) (ws0.length + sc.render.length) [{ ty := .initial }] sctx true hats1
  rw [tsSt_of_isEmpty] at P3
  have P4 := S_ts_slash (lc := true) s1.isEmpty ws0.length (ws0.length + sc.render.length + s1.length)
    { ty := .initial } hsl1
  obtain ⟨hsl2, hatb⟩ := hatann
  rw [At_append] at hatb
  obtain ⟨hatb1, hnl, hatw0⟩ := hatb
  have hann : At data (ws0.length + sc.render.length + s1.length + 1) (Cls.slash :: (b.render ++ [Cls.nl])) := by
    refine ⟨hsl2, ?_⟩
    rw [At_append]
    exact ⟨hatb1, hnl, trivial⟩
  have P5 := ann_line (lc := true) b hb .endTop [] rfl (ws0.length + sc.render.length + s1.length) []
    { ty := .initial } true hann
  have hatw : At data (ws0.length + sc.render.length + s1.length + 2 + b.render.length + 1) (w ++ x :: rest) := by
    rw [show ws0.length + sc.render.length + s1.length + 2 + b.render.length + 1
      = ws0.length + sc.render.length + s1.length + 1 + 1 + b.render.length + 1 by omega]
    exact hatw0
  rw [At_append] at hatw
  have t6 := trun_blanks .endTop rfl b.hasNote [] [] { ty := .initial } true w
    (ws0.length + sc.render.length + s1.length + 2 + b.render.length + 1) hw
  have P6 := sim_run (lc := true) (data := data) (blankToks w) _ _ _ t6 (wf_blankToks w hw)
    (by rw [render_blankToks]; exact hatw.1)
  have PA := Path.trans P0' (Path.trans P1 (Path.trans P2 (Path.trans P3 (Path.trans P4 (Path.trans P5 P6)))))
  have r := foreign_at_top (data := data) b.hasNote hx
    (ws0.length + sc.render.length + s1.length + 2 + b.render.length + 1 + w.length) [] { ty := .initial } true hatw.2.1
  have hnt : noTop (nlEvs 0 ws0 ++ ([⟨.mixB, ws0.length, ws0.length⟩, ⟨.tsB, ws0.length, ws0.length⟩] ++ ([] ++ ([] ++
      ([⟨.tsE, ws0.length, ws0.length + sc.render.length + s1.length - 1⟩,
        ⟨.mixE, ws0.length, mixEnd data (ws0.length + sc.render.length + s1.length)⟩] ++
      (b.evs (ws0.length + sc.render.length + s1.length) ++
        nlEvs (ws0.length + sc.render.length + s1.length + 2 + b.render.length + 1) w)))))) = true := by
    simp only [noTop_append, noTop_nlEvs, noTop_inlEvs, List.nil_append]; rfl
  have R := Drain.after PA hnt r
  exact ⟨_, _, R, rfl⟩

end Len

open Len in
/-- **C14 (schema scanner), annotated top-level type shortcut**: classes `ws0 shortcut s1 // body ⏎ w x rest`.
`Len` counts the annotation: the length of `ws0 shortcut s1 // body` without trailing blanks. -/
theorem C14_schema_len_annotated_shortcut (ws0 : List Cls) (sc : Shortcut) (s1 : List Cls) (b : InlBody) (w : List Cls)
    (x : Cls) (rest : List Cls) (h0 : IsWs ws0) (hv : sc.Valid) (h1 : IsSpTabs s1) (hb : b.Valid) (hw : IsWs w)
    (hx : x.isForeign = true) (bs : List UInt8)
    (hbs : bs.map classify
      = ws0 ++ (sc.render ++ (s1 ++ (Cls.slash :: Cls.slash :: (b.render ++ (Cls.nl :: (w ++ x :: rest))))))) :
    length bs = .ok (rtrimLen (ws0 ++ (sc.render ++ (s1 ++ (Cls.slash :: Cls.slash :: b.render))))) := by
  have hat : At (bs.map classify).toArray 0
      (ws0 ++ (sc.render ++ (s1 ++ (Cls.slash :: Cls.slash :: (b.render ++ (Cls.nl :: (w ++ x :: rest))))))) :=
    At_toArray _ [] _ hbs
  have hsize : (bs.map classify).toArray.size
      = ws0.length + sc.render.length + s1.length + 2 + b.render.length + 1 + w.length + 1 + rest.length := by
    rw [hbs]; simp only [List.size_toArray, List.length_append, List.length_cons]; omega
  obtain ⟨es, f, hrun, hL⟩ := lenRun_ann_shortcut ws0 sc s1 b w x rest h0 hv h1 hb hw hx hat hsize
  rw [length_of_drain bs hrun hL, hbs]
  have e : ws0 ++ (sc.render ++ (s1 ++ (Cls.slash :: Cls.slash :: (b.render ++ (Cls.nl :: (w ++ x :: rest))))))
      = ((ws0 ++ (sc.render ++ (s1 ++ (Cls.slash :: Cls.slash :: b.render)))) ++ (Cls.nl :: w)) ++ (x :: rest) := by simp
  have hl : ws0.length + sc.render.length + s1.length + 2 + b.render.length + 1 + w.length
      = ((ws0 ++ (sc.render ++ (s1 ++ (Cls.slash :: Cls.slash :: b.render)))) ++ (Cls.nl :: w)).length := by
    simp only [List.length_append, List.length_cons]; omega
  rw [e, hl, trimBlank_prefix _ _ _ (Nat.le_refl _)]
  show Except.ok (rtrimLen _) = _
  rw [rtrimLen_append_ws _ _ (by
    intro c hc
    rcases List.mem_cons.mp hc with rfl | hc
    · rfl
    · exact hw c hc)]

#print axioms C14_schema_len_annotated_shortcut

end SchemaScan
