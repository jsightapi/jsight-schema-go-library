import JSight.AstText
import JSight.AnnotNoteThm
/-!
C16 at text level, annotated top-level scalar: `astOfText` of `tok // {rules} - note` / `tok /* {rules} - note */`
(and the forms without a note) is the AST computed from the TREE — the value token, the (name, value) pairs of the
rule object in written order, the note — whatever the layout (blanks, line breaks in the multi-line form, trailing
comma, inline or multi-line form).
-/
namespace AstText
open SchemaScan Lay
open Loader (NK Node St slice trimSpaces nameOf keyText)

/-! ### the spec on the tree -/

/-- the rule list of the AST from the (name, value) pairs as written: one rule node per pair, in written order;
a name written twice is refused by the library (501) -/
def rulesOfPairs : List (Bytes × Bytes) → List (Bytes × RNode) → M (List (Bytes × RNode))
  | [], acc => pure acc.reverse
  | (name, v) :: ps, acc =>
    match scalarRule name v with
    | .error e => .error e
    | .ok n => if acc.any (·.1 == name) then unsup "duplicate rule" else rulesOfPairs ps ((name, n) :: acc)

/-- **the AST of an annotated scalar, from the tree**: one literal node — JSON token kind of the example, its
literal value (unquoted), the schema type decided by the rules, the rules as written (names, values, order), the
note text (trimmed) -/
def astOfScalar (tok : Bytes) (pairs : List (Bytes × Bytes)) (note : Bytes) : M AstNode :=
  match rulesOfPairs pairs [] with
  | .error e => .error e
  | .ok rules =>
    match RulesF.kindOfTok tok with
    | none => unsup "literal kind"
    | some k => pure (.mk [] false (kindTok k) (schemaTypeOf rules (kindName k)) (unq tok) (trimSpaces note) rules [])

/-- the names whose values the library reads with an embedded loader -/
def embNames : List Bytes := [sb "enum", sb "allOf", sb "or"]

theorem regexVal_eq (v r : Bytes) (h : regexVal v = some r) : r = Unquote.unquote v := by
  unfold regexVal at h
  split at h
  · rename_i hc
    simp only [Bool.and_eq_true] at hc
    simp only [Unquote.unquote, hc.1, if_true, h]
  · cases h

/-- every node `m` can return satisfies `P` -/
def Yields (P : RNode → Prop) (m : M RNode) : Prop := ∀ n, m = .ok n → P n

theorem Yields.ite {P : RNode → Prop} {c : Prop} [Decidable c] {a b : M RNode} (ha : Yields P a) (hb : Yields P b) :
    Yields P (if c then a else b) := by
  split <;> assumption

theorem Yields.unsup {P : RNode → Prop} {why : String} : Yields P (unsup why) := fun _ h => nomatch h

theorem Yields.pure {P : RNode → Prop} {n : RNode} (h : P n) : Yields P (pure n) := fun _ hn => by
  cases hn; exact h

/-- a rule with a literal value becomes a leaf that carries the value as written or unquoted; the proof follows the
branches of `scalarRule` -/
theorem scalarRule_leaf (name v : Bytes) :
    Yields (fun n => ∃ t x, n = leaf t x ∧ (x = v ∨ x = Unquote.unquote v)) (scalarRule name v) := by
  unfold scalarRule
  refine .ite (.ite (.pure ⟨_, _, rfl, .inl rfl⟩) .unsup) (.ite ?_ (.ite (.ite (.pure ⟨_, _, rfl, .inl rfl⟩) .unsup)
    (.ite (.pure ⟨_, _, rfl, .inr rfl⟩) (.ite ?_ (.ite (.ite (.pure ⟨_, _, rfl, .inr rfl⟩)
      (.ite (.pure ⟨_, _, rfl, .inr rfl⟩) .unsup)) .unsup)))))
  · cases RulesF.number v
    · exact .unsup
    · exact .pure ⟨_, _, rfl, .inl rfl⟩
  · cases hr : regexVal v
    · exact .unsup
    · exact .pure ⟨_, _, rfl, .inr (regexVal_eq _ _ hr)⟩

theorem scalarRule_as_written (name v : Bytes) (t : String) (val c : Bytes) (s : Src) (p : List (Bytes × RNode))
    (i : List RNode) (h : scalarRule name v = .ok (.mk t val c s p i)) :
    (val = v ∨ val = Unquote.unquote v) ∧ c = [] ∧ s = .manual ∧ p = [] ∧ i = [] := by
  obtain ⟨t', x, hn, hx⟩ := scalarRule_leaf name v _ h
  cases hn
  exact ⟨hx, rfl, rfl, rfl, rfl⟩

/-! ### the rule table of the loader against the pairs -/

theorem ruleAst_scalar (src : Array UInt8) (evs : List Ev) (nsp vsp : Nat × Nat) (name v : Bytes)
    (hn : nameOf src nsp = name) (hv : slice src vsp.1 vsp.2 = v) (he : name ∉ embNames) :
    ruleAst src evs .lit (.inl nsp, some vsp) = (scalarRule name v).map (fun n => (name, n)) := by
  simp only [embNames, List.mem_cons, List.not_mem_nil, or_false, not_or] at he
  obtain ⟨h1, h2, h3⟩ := he
  unfold ruleAst
  simp only [hn, hv]
  have d1 : (name == sb "enum") = false := by simpa using h1
  have d2 : (name == sb "allOf") = false := by simpa using h2
  have d3 : (name == sb "or") = false := by simpa using h3
  simp only [d1, d2, d3, show (NK.lit == NK.mixed) = false from rfl, Bool.false_and, Bool.false_eq_true, if_false]
  cases scalarRule name v <;> rfl

theorem rulesAst_pairs (src : Array UInt8) (evs : List Ev) : ∀ (sps vsps : List (Nat × Nat)) (pairs : List (Bytes × Bytes))
    (acc : List (Bytes × RNode)),
    sps.map (nameOf src) = pairs.map (·.1) → vsps.map (fun p => slice src p.1 p.2) = pairs.map (·.2) →
    (∀ p ∈ pairs, p.1 ∉ embNames) →
    rulesAst src evs .lit ((sps.map Sum.inl).zip (vsps.map some)) acc = rulesOfPairs pairs acc
  | [], vsps, pairs, acc, h1, h2, _ => by
    cases pairs with
    | nil => simp [rulesAst, rulesOfPairs]
    | cons p ps => simp at h1
  | sp :: sps, [], pairs, acc, h1, h2, _ => by
    cases pairs with
    | nil => simp at h1
    | cons p ps => simp at h2
  | sp :: sps, vsp :: vsps, pairs, acc, h1, h2, he => by
    cases pairs with
    | nil => simp at h1
    | cons p ps =>
      obtain ⟨name, v⟩ := p
      simp only [List.map_cons, List.cons.injEq] at h1 h2
      have hr := ruleAst_scalar src evs sp vsp name v h1.1 h2.1 (he (name, v) (by simp))
      simp only [List.map_cons, List.zip_cons_cons, rulesAst, rulesOfPairs, hr]
      cases hs : scalarRule name v with
      | error e => rfl
      | ok n =>
        simp only [Except.map]
        split
        · rfl
        · exact rulesAst_pairs src evs sps vsps ps _ h1.2 h2.2 (fun q hq => he q (by simp [hq]))

theorem pairs_fst (ob : BObj) : ob.pairs.map (·.1) = ob.names := (names_of_pairs ob).symm

/-! ### the AST of a one-node table -/

/-- the own fields of a literal node carrying rule spans and (maybe) a note span -/
theorem ownOf_single (src : Array UInt8) (evs : List Ev) (vb ve : Nat)
    (sps vsps : List (Nat × Nat)) (cm : Option (Nat × Nat)) (tok : Bytes) (pairs : List (Bytes × Bytes)) (note : Bytes)
    (hlen : sps.length = vsps.length)
    (htok : slice src vb ve = tok)
    (h1 : sps.map (nameOf src) = pairs.map (·.1)) (h2 : vsps.map (fun p => slice src p.1 p.2) = pairs.map (·.2))
    (he : ∀ p ∈ pairs, p.1 ∉ embNames)
    (hnote : noteSpan src cm = trimSpaces note) :
    ownOf src evs { Loader.addSpans { kind := .lit, parent := none, value := some (vb, ve) } sps vsps with comment := cm }
      = (match rulesOfPairs pairs [] with
        | .error e => .error e
        | .ok rules =>
          match RulesF.kindOfTok tok with
          | none => unsup "literal kind"
          | some k => pure ⟨kindTok k, schemaTypeOf rules (kindName k), unq tok, trimSpaces note, rules⟩) := by
  have hra := rulesAst_pairs src evs sps vsps pairs [] h1 h2 he
  simp only [ownOf, Loader.addSpans, List.nil_append, hra, List.length_map, hlen, htok, noteOf]
  cases hro : rulesOfPairs pairs [] with
  | error e => rfl
  | ok rules =>
    simp only [bind, Except.bind, bne_self_eq_false, Bool.false_eq_true, if_false]
    cases hk : RulesF.kindOfTok tok with
    | none => rfl
    | some k =>
      simp only [pure, Except.pure, hnote]

/-- the AST of a table with one literal node carrying rule spans and (maybe) a note span -/
theorem astOfTable_single (src : Array UInt8) (evs : List Ev) (st : Loader.St) (vb ve : Nat)
    (sps vsps : List (Nat × Nat)) (cm : Option (Nat × Nat)) (tok : Bytes) (pairs : List (Bytes × Bytes)) (note : Bytes)
    (hr : st.root = some 0)
    (hn : st.nodes = #[{ Loader.addSpans { kind := .lit, parent := none, value := some (vb, ve) } sps vsps with comment := cm }])
    (hlen : sps.length = vsps.length)
    (htok : slice src vb ve = tok)
    (h1 : sps.map (nameOf src) = pairs.map (·.1)) (h2 : vsps.map (fun p => slice src p.1 p.2) = pairs.map (·.2))
    (he : ∀ p ∈ pairs, p.1 ∉ embNames)
    (hnote : noteSpan src cm = trimSpaces note) :
    astOfTable src evs st = astOfScalar tok pairs note := by
  have ho := ownOf_single src evs vb ve sps vsps cm tok pairs note hlen htok h1 h2 he hnote
  unfold astOfTable astOfScalar
  rw [hr, hn]
  show astAt src evs _ (1 + 1) 0 ([], false) = _
  unfold astAt
  simp only [List.getElem?_toArray, List.getElem?_cons_zero, ho]
  cases hro : rulesOfPairs pairs [] with
  | error e => rfl
  | ok rules =>
    cases hk : RulesF.kindOfTok tok with
    | none => rfl
    | some k => rfl

/-- the AST of a loaded annotated scalar -/
theorem _root_.Lay.ScalarLoaded.ast {src : Array UInt8} {st : Loader.St} {tok : Bytes} {pairs : List (Bytes × Bytes)}
    {note : Option Bytes} (h : ScalarLoaded src st tok pairs note) (evs : List Ev) (he : ∀ p ∈ pairs, p.1 ∉ embNames) :
    astOfTable src evs st = astOfScalar tok pairs (note.getD []) := by
  obtain ⟨ve, sps, vsps, cm, hn, hlen, hv, h1, h2, hc⟩ := h.table
  refine astOfTable_single src evs st 0 ve sps vsps cm tok pairs _ h.root hn hlen hv h1 h2 he ?_
  subst hc
  cases cm <;> rfl

/-- … and of a text that loads so -/
theorem astOfText_loaded {bs : Bytes} {st : Loader.St} {tok : Bytes} {pairs : List (Bytes × Bytes)} {note : Option Bytes}
    (h1 : Loader.loadText bs = .ok st) (hs : ScalarLoaded bs.toArray st tok pairs note)
    (he : ∀ p ∈ pairs, p.1 ∉ embNames) : astOfText bs = astOfScalar tok pairs (note.getD []) := by
  unfold astOfText
  rw [h1]
  exact hs.ast _ he

end AstText
