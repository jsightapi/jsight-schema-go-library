import JSight.BridgeCK2Order
import JSight.CheckerLit
/-!
Bridge (A)∩(C): the VALIDATORS of a literal node. (A) collects the failing validators and keeps the one of
least `constraint.Type` (`Compile.litErr`), (C) sorts the constraint map by `constraint.Type` and stops at the first
that fails (`CK.validateLiteralValue`): the same validator (`select_eq`, `filter_find_nul`), the same error code
(`cn_validate`: 602, 603, 610 … 616, 0). `BridgeCK3Lit.lean` applies this to an EXAMPLE token (`lit_tok`).
-/
namespace BridgeCK
open Compile

/-- the kind guessed from the EXAMPLE token is the node's kind -/
def guessK (spec : RulesF.LitSpecF) : Bool := RulesF.kindOfTok spec.ex == some spec.kind

theorem jt_kind (k : Rules.Kind) : jtOf (JT.ofKind k) = CK.jtOfKind k := by cases k <;> rfl

theorem typesList_nul (nul : Bool) (rest : List CK.Cn) : CK.typesList? (nulCs nul ++ rest) = CK.typesList? rest := by
  cases nul <;> rfl

/-! ### node-local checks of (C) that have nothing to say -/

theorem compat_none (i : CK.Info) (h : (i.cs.any fun c => !CK.compat c.ty i.jt) = false) : CK.compatErr i = none := by
  unfold CK.compatErr
  rw [h]
  simp

theorem compat_bad (i : CK.Info) (h1 : (i.nk == .mixed || i.nk == .mixedValue) = false)
    (h : (i.cs.any fun c => !CK.compat c.ty i.jt) = true) : CK.compatErr i = some (.raw 1117) := by
  unfold CK.compatErr
  rw [h1, h]
  simp

theorem links_none (env : CK.Env) (i : CK.Info) (h : CK.typesList? i.cs = none) : CK.linksErr env i = none := by
  unfold CK.linksErr
  rw [h]

theorem compat_nul (nul : Bool) (jt : CK.JT) : ((nulCs nul).any fun c => !CK.compat c.ty jt) = false := by
  cases nul <;> rfl

theorem checkNode_mk (env : CK.Env) (i : CK.Info) (kids : List CK.Node) :
    CK.checkNode noOracles env (.mk i kids) =
      match CK.nodeErr noOracles env ⟨i, kids.length⟩ with
      | some p => some p
      | none => if CK.isBranch i.nk then CK.checkNodes noOracles env kids else none := by
  rw [CK.checkNode]
  rfl

/-- a node (not the root of an or-member) with a constraint its JSON type does not admit: 1117 at its lexeme -/
theorem nodeErr_incompatible (env : CK.Env) (h : CK.Hd) (h1 : (h.info.nk == .mixed || h.info.nk == .mixedValue) = false)
    (hc : (h.info.cs.any fun c => !CK.compat c.ty h.info.jt) = true) :
    CK.nodeErr noOracles env h = some (.doc 1117 h.info.lex.file h.info.lex.begin) := by
  rw [CK.nodeErr_eq_parts, CK.parts, compat_bad _ h1 hc]
  rfl

/-- a node whose constraints its JSON type admits and which has no types list: only the checks of its class are left -/
theorem nodeErr_plain (env : CK.Env) (h : CK.Hd) (hc : (h.info.cs.any fun c => !CK.compat c.ty h.info.jt) = false)
    (hl : CK.typesList? h.info.cs = none) :
    CK.nodeErr noOracles env h =
      (match h.info.nk with
       | .lit => CK.literalErr noOracles env h.info
       | .arr => CK.orElse (CK.arrayItems env env.fuel h) fun _ => CK.arrayNodeErr h
       | .obj => CK.orElse (CK.keysErr env h.info.keys) fun _ => CK.addPropsErr env h.info
       | .mixed | .mixedValue => none).map (CK.catchLex h.info.lex) := by
  unfold CK.nodeErr
  simp only [compat_none _ hc, links_none env _ hl]
  rfl

/-! ### the first `some` along `List.range` -/

theorem range_findSome_none {β : Type} (f : Nat → Option β) : (n : Nat) → (∀ t, t < n → f t = none) →
    (List.range n).findSome? f = none
  | 0, _ => rfl
  | n + 1, h => by
    rw [List.range_succ, List.findSome?_append, range_findSome_none f n (fun t ht => h t (by omega))]
    simp [h n (by omega)]

theorem range_findSome {β : Type} (f : Nat → Option β) (k : Nat) (v : β) (hlt : ∀ t, t < k → f t = none)
    (hv : f k = some v) : (n : Nat) → k < n → (List.range n).findSome? f = some v
  | 0, h => by omega
  | n + 1, h => by
    rw [List.range_succ, List.findSome?_append]
    by_cases hk : k < n
    · rw [range_findSome f k v hlt hv n hk]; rfl
    · have : k = n := by omega
      subst this
      rw [range_findSome_none f k hlt]
      simp [hv]

/-! ### the least key, first among equals -/

def stepMin (best c : Nat × Nat) : Nat × Nat := if c.1 < best.1 then c else best

theorem foldl_min : (rest : List (Nat × Nat)) → (acc : Nat × Nat) →
    (acc :: rest).find? (fun kv => kv.1 == (rest.foldl stepMin acc).1) = some (rest.foldl stepMin acc) ∧
    ∀ x ∈ acc :: rest, (rest.foldl stepMin acc).1 ≤ x.1
  | [], acc => by simp
  | c :: rest, acc => by
    simp only [List.foldl_cons]
    by_cases hc : c.1 < acc.1
    · have e : stepMin acc c = c := by simp [stepMin, hc]
      rw [e]
      obtain ⟨h1, h2⟩ := foldl_min rest c
      have hr : (rest.foldl stepMin c).1 ≤ c.1 := h2 c List.mem_cons_self
      refine ⟨?_, ?_⟩
      · rw [List.find?_cons]
        have : (acc.1 == (rest.foldl stepMin c).1) = false := by
          rw [beq_eq_false_iff_ne]; omega
        rw [this]
        exact h1
      · intro x hx
        rcases List.mem_cons.1 hx with e | hx
        · subst e; omega
        · exact h2 x hx
    · have e : stepMin acc c = acc := by simp [stepMin, hc]
      rw [e]
      obtain ⟨h1, h2⟩ := foldl_min rest acc
      have hr : (rest.foldl stepMin acc).1 ≤ acc.1 := h2 acc List.mem_cons_self
      refine ⟨?_, ?_⟩
      · rw [List.find?_cons] at h1 ⊢
        cases hk : (acc.1 == (rest.foldl stepMin acc).1)
        · rw [hk] at h1
          simp only at h1 ⊢
          rw [List.find?_cons]
          have : (c.1 == (rest.foldl stepMin acc).1) = false := by
            rw [beq_eq_false_iff_ne]
            have : acc.1 ≠ (rest.foldl stepMin acc).1 := by simpa using hk
            omega
          rw [this]
          exact h1
        · rw [hk] at h1
          exact h1
      · intro x hx
        rcases List.mem_cons.1 hx with e | hx
        · subst e; exact hr
        · rcases List.mem_cons.1 hx with e | hx
          · subst e; omega
          · exact h2 x (List.mem_cons_of_mem _ hx)

def pickMin : List (Nat × Nat) → Option Nat
  | [] => none
  | f :: fs => some (fs.foldl stepMin f).2

/-- **sorting by key and taking the first = keeping the least key while folding**; the keys are `constraint.Type`
numbers, of which there are 26 (`CK.Cn.ty`, `CK.sortedCs` walks `List.range 26`) -/
theorem select_eq (L : List (Nat × Nat)) (hk : ∀ x ∈ L, x.1 < 26) :
    (List.range 26).findSome? (fun t => (L.find? (fun kv => kv.1 == t)).map (·.2)) = pickMin L := by
  cases L with
  | nil => exact range_findSome_none _ 26 (fun t _ => rfl)
  | cons f fs =>
    obtain ⟨h1, h2⟩ := foldl_min fs f
    have hmem : fs.foldl stepMin f ∈ f :: fs := List.mem_of_find?_eq_some h1
    refine range_findSome _ (fs.foldl stepMin f).1 _ (fun t ht => ?_) (by rw [h1]; rfl) 26 (hk _ hmem)
    have : (f :: fs).find? (fun kv => kv.1 == t) = none := by
      rw [List.find?_eq_none]
      intro x hx hcon
      have : x.1 = t := by simpa using hcon
      have := h2 x hx
      omega
    rw [this]; rfl

/-! ### one validator -/

/-- (A)'s table: `constraint.Type` of the validator and the code it fails with -/
def codeR (tok : List UInt8) (r : RulesF.Rule) : Nat × Nat :=
  let num : Nat := if (RulesF.number tok).isSome then 602 else 0
  match r with
  | .minLength _ => (0, 603) | .maxLength _ => (1, 603) | .min _ _ => (2, num) | .max _ _ => (3, num)
  | .precision _ => (6, num) | .enum _ => (15, 610) | .regex _ => (20, 611)
  | .fmt .email => (12, 607) | .fmt .uri => (21, 612) | .fmt .date => (22, 616) | .fmt .datetime => (23, 613)
  | .fmt .uuid => (24, 614) | .const => (25, 615)

def codeOfPanic : CK.Panic → Nat
  | .raw c => c
  | .doc c _ _ => c
  | _ => 0

theorem codeR_lt (tok : List UInt8) (r : RulesF.Rule) : (codeR tok r).1 < 26 := by
  cases r <;> simp [codeR]
  rename_i f; cases f <;> simp

theorem cn_ty (ex tok : List UInt8) (r : RulesF.Rule) : (cnOfRule ex r).ty = (codeR tok r).1 := by
  cases r <;> try rfl
  rename_i f; cases f <;> rfl

/-- (C)'s `Validate` of the dumped constraint = (A)'s `ruleOK`, with (A)'s code. `email` is left out: (C) raises 606 on an
empty address and 607 otherwise (`CK.cnPanic`), (A)'s table `codeR` has 607 only, and `compileNode` never builds an
`email` validator (`bFinish` answers `unsupported`) — hence `noEmail` in every class of the bridge -/
theorem cn_validate (ex tok : List UInt8) (r : RulesF.Rule) (hne : r ≠ .fmt .email)
    (hen : (RulesF.enumItem tok).isSome = true) :
    (CK.cnValidate noOracles tok (cnOfRule ex r)).map codeOfPanic =
      if RulesF.ruleOK noOracles ex tok r then none else some (codeR tok r).2 := by
  cases r with
  | fmt f =>
    cases f with
    | email => exact absurd rfl hne
    | uri =>
      show (if RulesF.ruleOK noOracles ex tok (.fmt .uri) = true then none else some (CK.Panic.raw 612)).map codeOfPanic = _
      cases RulesF.ruleOK noOracles ex tok (.fmt .uri) <;> rfl
    | uuid =>
      show (if RulesF.ruleOK noOracles ex tok (.fmt .uuid) = true then none else some (CK.Panic.raw 614)).map codeOfPanic = _
      cases RulesF.ruleOK noOracles ex tok (.fmt .uuid) <;> rfl
    | date =>
      show (if RulesF.ruleOK noOracles ex tok (.fmt .date) = true then none else some (CK.Panic.raw 616)).map codeOfPanic = _
      cases RulesF.ruleOK noOracles ex tok (.fmt .date) <;> rfl
    | datetime =>
      show (if RulesF.ruleOK noOracles ex tok (.fmt .datetime) = true then none else some (CK.Panic.raw 613)).map codeOfPanic = _
      cases RulesF.ruleOK noOracles ex tok (.fmt .datetime) <;> rfl
  | enum items =>
    have hn : (RulesF.enumItem tok).isNone = false := by
      cases h : RulesF.enumItem tok with
      | none => rw [h] at hen; cases hen
      | some _ => rfl
    show (if RulesF.ruleOK noOracles ex tok (.enum items) = true then none
      else some (if (RulesF.enumItem tok).isNone then CK.Panic.other else CK.Panic.raw 610)).map codeOfPanic = _
    rw [hn]
    cases RulesF.ruleOK noOracles ex tok (.enum items) <;> rfl
  | min b x =>
    show (if RulesF.ruleOK noOracles ex tok (.min b x) = true then none
      else some (if (RulesF.number tok).isNone then CK.Panic.other else CK.Panic.raw 602)).map codeOfPanic = _
    cases RulesF.ruleOK noOracles ex tok (.min b x) <;> cases hnum : RulesF.number tok <;> simp [codeR, hnum, codeOfPanic]
  | max b x =>
    show (if RulesF.ruleOK noOracles ex tok (.max b x) = true then none
      else some (if (RulesF.number tok).isNone then CK.Panic.other else CK.Panic.raw 602)).map codeOfPanic = _
    cases RulesF.ruleOK noOracles ex tok (.max b x) <;> cases hnum : RulesF.number tok <;> simp [codeR, hnum, codeOfPanic]
  | precision p =>
    show (if RulesF.ruleOK noOracles ex tok (.precision p) = true then none
      else some (if (RulesF.number tok).isNone then CK.Panic.other else CK.Panic.raw 602)).map codeOfPanic = _
    cases RulesF.ruleOK noOracles ex tok (.precision p) <;> cases hnum : RulesF.number tok <;> simp [codeR, hnum, codeOfPanic]
  | minLength n =>
    show (if RulesF.ruleOK noOracles ex tok (.minLength n) = true then none else some (CK.Panic.raw 603)).map codeOfPanic = _
    cases RulesF.ruleOK noOracles ex tok (.minLength n) <;> rfl
  | maxLength n =>
    show (if RulesF.ruleOK noOracles ex tok (.maxLength n) = true then none else some (CK.Panic.raw 603)).map codeOfPanic = _
    cases RulesF.ruleOK noOracles ex tok (.maxLength n) <;> rfl
  | regex p =>
    show (if RulesF.ruleOK noOracles ex tok (.regex p) = true then none else some (CK.Panic.raw 611)).map codeOfPanic = _
    cases RulesF.ruleOK noOracles ex tok (.regex p) <;> rfl
  | const =>
    show (if RulesF.ruleOK noOracles ex tok .const = true then none else some (CK.Panic.raw 615)).map codeOfPanic = _
    cases RulesF.ruleOK noOracles ex tok .const <;> rfl

/-! ### the whole constraint map -/

theorem findSome_flatMap {α β γ : Type} (f : α → List β) (g : β → Option γ) : (l : List α) →
    (l.flatMap f).findSome? g = l.findSome? (fun a => (f a).findSome? g)
  | [] => rfl
  | a :: l => by
    rw [List.flatMap_cons, List.findSome?_append, List.findSome?_cons, findSome_flatMap f g l]
    cases (f a).findSome? g <;> rfl

/-- the validators of one `constraint.Type`: (C)'s filtered constraint map against (A)'s list of failing codes -/
theorem filter_find (ex tok : List UInt8) (hen : (RulesF.enumItem tok).isSome = true) (t : Nat) :
    (rs : List RulesF.Rule) → (∀ r ∈ rs, r ≠ .fmt .email) →
    ((rs.map (cnOfRule ex)).filter (fun c => c.ty == t)).findSome? (fun c => (CK.cnValidate noOracles tok c).map codeOfPanic)
      = (((rs.filter fun r => !RulesF.ruleOK noOracles ex tok r).map (codeR tok)).find? (fun kv => kv.1 == t)).map (·.2)
  | [], _ => rfl
  | r :: rs, hne => by
    have ih := filter_find ex tok hen t rs (fun x hx => hne x (List.mem_cons_of_mem _ hx))
    have hv := cn_validate ex tok r (hne r List.mem_cons_self) hen
    simp only [List.map_cons, List.filter_cons, cn_ty ex tok r]
    cases hk : ((codeR tok r).1 == t) <;> cases hok : RulesF.ruleOK noOracles ex tok r
    · simp only [Bool.false_eq_true, if_false, Bool.not_false, if_true, List.map_cons, List.find?_cons, hk]
      exact ih
    · simp only [Bool.false_eq_true, if_false, Bool.not_true]
      exact ih
    · rw [hok] at hv
      simp only [if_true, Bool.not_false, List.map_cons, List.findSome?_cons, List.find?_cons, hk, hv, Bool.false_eq_true,
        if_false, Option.map_some]
    · rw [hok] at hv
      simp only [if_true, Bool.not_true, Bool.false_eq_true, if_false, List.findSome?_cons, hv]
      exact ih

theorem filter_find_nul (ex tok : List UInt8) (hen : (RulesF.enumItem tok).isSome = true) (t : Nat) (nul : Bool)
    (rs : List RulesF.Rule) (hne : ∀ r ∈ rs, r ≠ .fmt .email) :
    ((nulCs nul ++ rs.map (cnOfRule ex)).filter (fun c => c.ty == t)).findSome?
        (fun c => (CK.cnValidate noOracles tok c).map codeOfPanic)
      = (((rs.filter fun r => !RulesF.ruleOK noOracles ex tok r).map (codeR tok)).find? (fun kv => kv.1 == t)).map (·.2) := by
  cases nul with
  | false => exact filter_find ex tok hen t rs hne
  | true =>
    simp only [nulCs, if_true, List.cons_append, List.nil_append, List.filter_cons]
    split
    · rw [List.findSome?_cons]
      exact filter_find ex tok hen t rs hne
    · exact filter_find ex tok hen t rs hne

theorem nullableValue_litCs (spec : RulesF.LitSpecF) : CK.nullableValue (litCs spec) = spec.nul := by
  unfold litCs
  cases spec.nul with
  | true => rfl
  | false =>
    simp only [nulCs, Bool.false_eq_true, if_false, List.nil_append]
    induction spec.rules with
    | nil => rfl
    | cons r rs ih =>
      simp only [List.map_cons]
      cases r <;> first | exact ih | (rename_i f; cases f <;> exact ih)

theorem typesList_litCs (spec : RulesF.LitSpecF) : CK.typesList? (litCs spec) = none := by
  unfold litCs
  rw [typesList_nul]
  induction spec.rules with
  | nil => rfl
  | cons r rs ih =>
    simp only [List.map_cons]
    cases r <;> first | exact ih | (rename_i f; cases f <;> exact ih)

theorem hasEnum_litCs (spec : RulesF.LitSpecF) : CK.hasTy (litCs spec) 15 = RulesF.hasEnum spec := by
  unfold litCs CK.hasTy RulesF.hasEnum
  rw [List.any_append]
  have : ((nulCs spec.nul).any fun x => x.ty == 15) = false := by cases spec.nul <;> rfl
  rw [this, Bool.false_or, List.any_map]
  congr 1
  funext r
  cases r <;> first | rfl | (rename_i f; cases f <;> rfl)

/-- `Compile.litErr` unfolded, with `codeR` / `stepMin` in place of its local table and fold -/
theorem litErr_eq (l : RulesF.LitSpecF) (tok : List UInt8) :
    litErr l tok =
      if RulesF.litOKFull noOracles l tok then none
      else if !RulesF.kindGate l tok then some 210
      else (match (l.rules.filter fun r => !RulesF.ruleOK noOracles l.ex tok r).map (codeR tok) with
        | [] => some 0
        | f :: fs => some (fs.foldl stepMin f).2) := by
  unfold litErr
  rfl

end BridgeCK
