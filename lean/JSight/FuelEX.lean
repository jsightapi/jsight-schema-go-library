import JSight.Example
import JSight.FuelRel
import JSight.VisitMeasure
/-!
C09 (c): the example builder (`exampleBuilder.Build`, model `EX.build`) counts how often each type is being
expanded on the current path and omits the value at the third nested expansion (`proc n > 1`). So the number of
reference expansions on a path is at most `2 · |types|`, for EVERY type table — recursive or not, accepted by the
recursion check or not — and any fuel above that gives the same result.
-/
namespace EX

/-- expansions still possible: two per table entry, minus what the path has used -/
def W (ts : Types) (proc : String → Nat) : Nat := (ts.map (fun p => 2 - min (proc p.1) 2)).sum

theorem W_le (ts : Types) (proc : String → Nat) : W ts proc ≤ 2 * ts.length := by
  unfold W
  induction ts with
  | nil => simp
  | cons p ps ih => simp only [List.map_cons, List.sum_cons, List.length_cons]; omega

theorem bump_le (proc : String → Nat) (n m : String) : 2 - min (bump proc n m) 2 ≤ 2 - min (proc m) 2 := by
  unfold bump; split <;> omega

theorem W_lt (ts : Types) (proc : String → Nat) (n : String) (t : N) (hl : lookupT ts n = some t)
    (hp : proc n ≤ 1) : W ts (bump proc n) < W ts proc :=
  Visit.sum_add_le _ _ 1 ts (fun p _ => bump_le proc n p.1)
    (.inr ⟨(n, t), Visit.find_entry hl, by simp only [bump, beq_self_eq_true, if_true]; omega⟩)

/-! Two amounts of fuel that agree on the references at `proc` agree on every node at `proc` (by recursion on the node:
arrays and objects pass fuel and `proc` on unchanged); references then by `Fuel.rel`: entering a type bumps `proc`. -/

mutual
theorem build_congr (ts : Types) (f f' : Nat) (proc : String → Nat)
    (href : ∀ n, build ts f proc (.ref n) = build ts f' proc (.ref n)) : (n : N) → build ts f proc n = build ts f' proc n
  | .lit tok => by simp only [build]
  | .arr items => by simp only [build, buildKids_congr ts f f' proc href items]
  | .obj props => by simp only [build, buildProps_congr ts f f' proc href props]
  | .ref n => href n
theorem buildKids_congr (ts : Types) (f f' : Nat) (proc : String → Nat)
    (href : ∀ n, build ts f proc (.ref n) = build ts f' proc (.ref n)) :
    (cs : List N) → buildKids ts f proc cs = buildKids ts f' proc cs
  | [] => by simp only [buildKids]
  | c :: cs => by simp only [buildKids, build_congr ts f f' proc href c, buildKids_congr ts f f' proc href cs]
theorem buildProps_congr (ts : Types) (f f' : Nat) (proc : String → Nat)
    (href : ∀ n, build ts f proc (.ref n) = build ts f' proc (.ref n)) :
    (ps : List (List JsonScan.Cls × N)) → buildProps ts f proc ps = buildProps ts f' proc ps
  | [] => by simp only [buildProps]
  | (k, c) :: ps => by simp only [buildProps, build_congr ts f f' proc href c, buildProps_congr ts f f' proc href ps]
end

theorem ref_le (ts : Types) (f f' : Nat) (proc : String → Nat) (n : String) : W ts proc < f → f ≤ f' →
    build ts f proc (.ref n) = build ts f' proc (.ref n) := by
  refine Fuel.rel (fun f (x : (String → Nat) × String) => build ts f x.1 (.ref x.2)) (fun x => W ts x.1) (fun _ => Eq) ?_
    f f' (proc, n)
  intro f f' (proc, n) ih _
  simp only [build]
  split
  · rfl
  next hp =>
    cases hl : lookupT ts n with
    | none => rfl
    | some t => exact build_congr ts f f' _ (fun m => ih (bump proc n, m) (W_lt ts proc n t hl (by omega))) t

/-- more fuel changes nothing once the fuel exceeds the expansions still possible -/
theorem build_le (ts : Types) (f f' : Nat) (proc : String → Nat) (n : N) (h : W ts proc < f) (hle : f ≤ f') :
    build ts f proc n = build ts f' proc n :=
  build_congr ts f f' proc (fun m => ref_le ts f f' proc m h hle) n

/-- the same for the loops over children and over properties, at one unit of fuel more -/
theorem buildKids_succ (ts : Types) : (fuel : Nat) → (proc : String → Nat) → (cs : List N) → W ts proc < fuel →
    buildKids ts (fuel + 1) proc cs = buildKids ts fuel proc cs :=
  fun fuel proc cs h => (buildKids_congr ts fuel (fuel + 1) proc (fun m => ref_le ts _ _ proc m h (Nat.le_succ _)) cs).symm

theorem buildProps_succ (ts : Types) : (fuel : Nat) → (proc : String → Nat) → (ps : List (List JsonScan.Cls × N)) →
    W ts proc < fuel → buildProps ts (fuel + 1) proc ps = buildProps ts fuel proc ps :=
  fun fuel proc ps h => (buildProps_congr ts fuel (fuel + 1) proc (fun m => ref_le ts _ _ proc m h (Nat.le_succ _)) ps).symm

/-- **fuel sufficiency of the example builder**, every type table: `2·|types| + 1` units of fuel or more all give
the same example (or the same omission / error) -/
theorem build_fuel_stable (ts : Types) (n : N) (fuel : Nat) (h : 2 * ts.length + 1 ≤ fuel) :
    build ts fuel (fun _ => 0) n = build ts (2 * ts.length + 1) (fun _ => 0) n :=
  (build_le ts _ fuel _ n (Nat.lt_succ_of_le (W_le ts _)) h).symm

end EX
