import JSight.SchemaFrame
import JSight.SchemaErrIdxStep
import JSight.SchemaDispatch
/-! Two facts about single steps: the steps an annotation starts from are leaves (`St.annRet_isLeaf`, for `Good.side`), and
where `finishShortcut` goes (`finishShortcut_facts`, for the look-ahead lemmas).  The tactic `annF` belongs to the frame
`F` of `SchemaFrame`. -/
namespace SchemaScan

theorem St.annRet_isLeaf {r : St} (h : r.annRet = true) : r.isLeaf = true := by
  cases r <;> first | rfl | simp [St.annRet] at h

/-- where `finishShortcut` goes, whatever the state: one of three step functions, `lengthComputing` kept.  (Under the
invariant `finishShortcut_spec` of `SchemaLeafE` says which of the three, and that the invariant's `Eff` holds again.) -/
theorem finishShortcut_facts {s s2 : Sc} (h : finishShortcut s = .ok s2) :
    (s2.step = .afterValue ∨ s2.step = .afterItem ∨ s2.step = .endTop) ∧ s2.lengthComputing = s.lengthComputing := by
  unfold finishShortcut at h
  simp only [bind, Except.bind, pure, Except.pure] at h
  split at h
  · cases h; exact ⟨Or.inl rfl, rfl⟩
  · cases h; exact ⟨Or.inr (Or.inl rfl), rfl⟩
  · unfold restoreContext at h
    split at h <;> cases h
    exact ⟨Or.inr (Or.inr rfl), rfl⟩
  · cases h

macro "annF" h:ident : tactic => `(tactic| (
  unfold dispatch at $h:ident; dsimp only at $h:ident
  try simp only [bind, Except.bind, pure, Except.pure] at $h:ident
  repeat' split at $h:ident
  all_goals (first
    | (cases $h:ident; done)
    | (cases $h:ident; frc)
    | (have hx := inlTxt_F $h:ident; frc)
    | (have hx := mlTxt_F $h:ident; frc)
    | (have hx := foundRoot_F $h:ident; frc))))

end SchemaScan
