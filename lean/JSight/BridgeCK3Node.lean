import JSight.BridgeCK3Loops
import JSight.CheckerPos
/-!
Bridge (A)∩(C): **a node that carries an EXAMPLE together with a types list** (`1 // {type: "@t"}`,
`1 // {or: ["@a", "@b"]}`): `checkLinksOfNode` (1301 / 1302 / 1303) and `checkLiteralNode` (the first failing alternative's
code when there is one alternative, 204 when there are several) agree in the two models, through chains of references
of any length (`refex_agree`); the classes `xr` and `xrk ⊇ xr` of trees with such nodes.
-/
namespace BridgeCK
open Compile

/-- an EXAMPLE token the checkers can read: its kind is the node's JSON type -/
def tokOK (jt : JT) (tok : Bytes) : Bool :=
  (match RulesF.kindOfTok tok with
   | some k => jt == JT.ofKind k
   | none => false) && (RulesF.enumItem tok).isSome

/-- the type a key shortcut names is not an alias (the same predicate as `CL.keyDirect` of `CompileLinks`, there written
without `keyHead`) -/
def keyDirect (ts : Types) (k : String) : Bool :=
  match lookupT ts ("@" ++ k) with
  | some cn => keyHead cn
  | none => true

mutual
/-- the class: `nr` plus nodes with an EXAMPLE and a types list (any list of names: `type`, `or`) -/
def xr (ts : Types) : CN → Bool
  | .lit spec bad => (bad || (guessK spec && (spec.rules.isEmpty || litRulesOK spec))) && noEmail spec
  | .any jt lit =>
    (match lit with
     | some l => jt == JT.ofKind l.kind && guessK l && l.rules.isEmpty
     | none => jt == .obj || jt == .arr)
  | .arr items _ _ => xrItems ts items
  | .obj props add _ _ => xrProps ts props && (match add with | .type n => decide (nameOK n) | _ => true)
  | .ref names _ jt ex orShort =>
    (names.all fun n => decide (nameOK n)) &&
      (if jt == .mixed then ex.isNone else !orShort && match ex with | some tok => tokOK jt tok | none => false)
def xrItems (ts : Types) : List CN → Bool
  | [] => true
  | x :: xs => xr ts x && xrItems ts xs
def xrProps (ts : Types) : List (String × Bool × Bool × Bool × CN) → Bool
  | [] => true
  | (k, short, _, _, x) :: xs =>
    (!short || (decide (byteChars ("@" ++ k)) && keyDirect ts k)) && xr ts x && xrProps ts xs
end

mutual
/-- the class: `xr` with key shortcuts of ANY named type (no `keyDirect`, the only place where `xr` reads `ts`: here `ts`
is a parameter all the same, so that `xrk ts` stands wherever `xr ts` does) -/
def xrk (ts : Types) : CN → Bool
  | .lit spec bad => (bad || (guessK spec && (spec.rules.isEmpty || litRulesOK spec))) && noEmail spec
  | .any jt lit =>
    (match lit with
     | some l => jt == JT.ofKind l.kind && guessK l && l.rules.isEmpty
     | none => jt == .obj || jt == .arr)
  | .arr items _ _ => xrkItems ts items
  | .obj props add _ _ => xrkProps ts props && (match add with | .type n => decide (nameOK n) | _ => true)
  | .ref names _ jt ex orShort =>
    (names.all fun n => decide (nameOK n)) &&
      (if jt == .mixed then ex.isNone else !orShort && match ex with | some tok => tokOK jt tok | none => false)
def xrkItems (ts : Types) : List CN → Bool
  | [] => true
  | x :: xs => xrk ts x && xrkItems ts xs
def xrkProps (ts : Types) : List (String × Bool × Bool × Bool × CN) → Bool
  | [] => true
  | (k, short, _, _, x) :: xs =>
    (!short || decide (byteChars ("@" ++ k))) && xrk ts x && xrkProps ts xs
end

mutual
theorem xr_sub (ts : Types) : (cn : CN) → xr ts cn = true → xrk ts cn = true
  | .lit _ _, h => by simpa only [xr, xrk] using h
  | .any _ lit, h => by cases lit <;> simpa only [xr, xrk] using h
  | .ref _ _ _ ex _, h => by cases ex <;> simpa only [xr, xrk] using h
  | .arr items _ _, h => by
    simp only [xr] at h
    simp only [xrk]
    exact xrItems_sub ts items h
  | .obj props add _ _, h => by
    simp only [xr, Bool.and_eq_true] at h
    simp only [xrk, Bool.and_eq_true]
    exact ⟨xrProps_sub ts props h.1, by cases add <;> first | rfl | exact h.2⟩
theorem xrItems_sub (ts : Types) : (items : List CN) → xrItems ts items = true → xrkItems ts items = true
  | [], _ => rfl
  | x :: xs, h => by
    simp only [xrItems, Bool.and_eq_true] at h
    simp only [xrkItems, Bool.and_eq_true]
    exact ⟨xr_sub ts x h.1, xrItems_sub ts xs h.2⟩
theorem xrProps_sub (ts : Types) : (props : List (String × Bool × Bool × Bool × CN)) → xrProps ts props = true →
    xrkProps ts props = true
  | [], _ => rfl
  | (k, short, _, _, x) :: xs, h => by
    simp only [xrProps, Bool.and_eq_true, Bool.or_eq_true, Bool.not_eq_true', decide_eq_true_eq] at h
    simp only [xrkProps, Bool.and_eq_true, Bool.or_eq_true, Bool.not_eq_true', decide_eq_true_eq]
    exact ⟨⟨h.1.1.imp id (fun h => h.1), xr_sub ts x h.1.2⟩, xrProps_sub ts xs h.2⟩
end

theorem xrk_head (ts : Types) : (cn : CN) → xrk ts cn = true → headOK cn = true
  | .lit spec bad, h => by
    simp only [xrk, Bool.and_eq_true] at h
    exact h.2
  | .any jt (some l), h => by
    simp only [xrk, Bool.and_eq_true] at h
    simp only [headOK, Bool.and_eq_true]
    exact ⟨h.1.1, h.2⟩
  | .any jt none, h => by simpa [xrk, headOK] using h
  | .arr _ _ _, _ => rfl
  | .obj _ _ _ _, _ => rfl
  | .ref names _ _ _ _, h => by
    simp only [xrk, Bool.and_eq_true] at h
    exact h.1

theorem xr_head (ts : Types) (cn : CN) (h : xr ts cn = true) : headOK cn = true := xrk_head ts cn (xr_sub ts cn h)

section
variable (ts : Types) (env : CK.Env) (fuel : Nat)

/-! ### the node with an EXAMPLE and a types list -/

/-- (A)'s verdict over the alternatives of a types list (`none`: this one accepts): rejected only if all reject, with
the code of the one alternative or 204 for several -/
def verdictA (alts : List (Option Nat)) : Except Err Unit :=
  if alts.all (·.isSome) then
    (match alts with
     | [some c] => .error (.code c 0)
     | _ => .error (.code 204 0))
  else .ok ()

/-- the EXAMPLE's kind is among the kinds the named types allow (`none`: any kind) -/
def alOK (jt : JT) : Option (List JT) → Bool
  | none => true
  | some l => l.contains jt

theorem checkNode_refex (names : List String) (nul : Bool) (jt : JT) (tok : Bytes) (os : Bool)
    (hj : (jt == JT.mixed) = false) :
    Compile.checkNode ts fuel (.ref names nul jt (some tok) os) =
      match allowed ts fuel [] names with
      | .error e => .error e
      | .ok al =>
        if !(alOK jt al) then .error (.code 1301 0)
        else
          match exampleAlts ts tok fuel [] names with
          | .error e => .error e
          | .ok (_, alts) => verdictA alts := by
  simp only [Compile.checkNode, hj]
  cases allowed ts fuel [] names with
  | error e => rfl
  | ok al => cases al <;> rfl

/-- (C)'s `Info` of the dump of a node with the EXAMPLE `tok` and the types list `names` -/
def refInfo (names : List String) (nul : Bool) (jt : JT) (tok : Bytes) : CK.Info :=
  { nk := nkOfJT jt, jt := jtOf jt, lex := lexLit tok, cs := [.typesList (names.map name)] ++ nulCs nul,
    gtypes := if jt == .mixed then names.map name else [] }

theorem dump_refex (names : List String) (nul : Bool) (jt : JT) (tok : Bytes) (os : Bool) :
    dumpNode (.ref names nul jt (some tok) os) = .mk (refInfo names nul jt tok) [] := by
  simp only [dumpNode, refInfo]

theorem linksErr_refex (names : List String) (nul : Bool) (jt : JT) (tok : Bytes) (hnk : nkOfJT jt = .lit) :
    CK.linksErr env (refInfo names nul jt tok) =
      match CK.collectNames (CK.collect env (env.types.length + 1)) env [] (names.map name) [] with
      | .error p => some p
      | .ok al => if al.contains (jtOf jt) then none else some (.raw 1301) := by
  have htl : CK.typesList? (refInfo names nul jt tok).cs = some (names.map name) := rfl
  unfold CK.linksErr
  rw [htl, fuel_succ]
  simp only []
  unfold CK.collect
  simp only [refInfo, hnk]
  rfl

theorem literalErr_refex (names : List String) (nul : Bool) (jt : JT) (tok : Bytes) :
    CK.literalErr noOracles env (refInfo names nul jt tok) =
      match CK.buildNames (CK.build env (env.types.length + 1)) env (names.map name) ([], []) with
      | .error e => some e
      | .ok st => CK.literalVerdict noOracles (lexLit tok) st.2 := by
  have htl : CK.typesList? (refInfo names nul jt tok).cs = some (names.map name) := rfl
  unfold CK.literalErr CK.checkerList
  rw [fuel_succ]
  unfold CK.build
  simp only [htl]
  cases CK.buildNames (CK.build env (env.types.length + 1)) env (names.map name) ([], []) <;> rfl

theorem verdictA_eq (alts : List (Option Nat)) :
    verdictA alts = if alts.all (·.isSome) then .error (.code (CK.verdictCode alts) 0) else .ok () := by
  unfold verdictA
  split
  · match alts with
    | [] | [none] | [some _] | none :: _ :: _ | some _ :: _ :: _ => rfl
  · rfl

theorem verdict_eq (tok : Bytes) (chks : List CK.Chk) :
    (CK.literalVerdict noOracles (lexLit tok) chks).map (CK.catchLex (lexLit tok)) =
      panicOf (verdictA (chks.map (CK.Chk.check noOracles (lexLit tok)))) ∧
    Pos (verdictA (chks.map (CK.Chk.check noOracles (lexLit tok)))) := by
  rw [CK.literalVerdict_eq, verdictA_eq, List.all_map]
  simp only [Function.comp_def]
  split
  · exact ⟨rfl, pos_code _⟩
  · exact ⟨rfl, pos_ok⟩

theorem contains_jt (x : List JT) (j : JT) : (x.map jtOf).contains (jtOf j) = x.contains j := by
  induction x with
  | nil => rfl
  | cons a x ih =>
    simp only [List.map_cons, List.contains_cons, ih]
    congr 1
    cases j <;> cases a <;> rfl

/-- **an EXAMPLE under a types list** — (C)'s `checkNode` on the dump is (A)'s `checkNode`, unless (A) ran out of fuel.
The two loops of each side are compared by `collect_rel` and `build_rel` (`BridgeCK3Loops`), whose answer `RelE` has four
cases: (A) out of fuel (excluded by `hA`), (C) out of fuel (excluded by `CheckerFuel`), the same code, related results.
In the "same code" cases `catchLex (lexLit tok)` puts (C)'s bare code at position 0 0 and `panicOf` reads (A)'s code the
same way -/
theorem refex_agree (hE : EnvRelN ts env) (hT : ∀ n cn, lookupT ts n = some cn → headOK cn = true) (hf : ∃ f, fuel = f + 1)
    (names : List String) (nul : Bool) (jt : JT) (tok : Bytes) (os : Bool) (hj : (jt == JT.mixed) = false)
    (htok : tokOK jt tok = true) (hb : ∀ n ∈ names, nameOK n)
    (hA : NoFuel (Compile.checkNode ts fuel (.ref names nul jt (some tok) os))) :
    CK.checkNode noOracles env (dumpNode (.ref names nul jt (some tok) os)) =
        panicOf (Compile.checkNode ts fuel (.ref names nul jt (some tok) os)) ∧
      Pos (Compile.checkNode ts fuel (.ref names nul jt (some tok) os)) := by
  obtain ⟨f, rfl⟩ := hf
  simp only [tokOK, Bool.and_eq_true] at htok
  obtain ⟨hk, hen⟩ := htok
  cases hd : RulesF.kindOfTok tok with
  | none => rw [hd] at hk; cases hk
  | some d =>
  rw [hd] at hk
  have hjd : jt = JT.ofKind d := by simpa using hk
  have hnk : nkOfJT jt = .lit := by rw [hjd]; cases d <;> rfl
  rw [checkNode_refex ts (f + 1) names nul jt tok os hj] at hA ⊢
  rw [dump_refex]
  have hcompat : CK.compatErr (refInfo names nul jt tok) = none := compat_none _ (by cases nul <;> rfl)
  have hnode : CK.checkNode noOracles env (.mk (refInfo names nul jt tok) []) =
      (CK.orElse (CK.linksErr env (refInfo names nul jt tok)) fun _ =>
        CK.literalErr noOracles env (refInfo names nul jt tok)).map (CK.catchLex (lexLit tok)) := by
    rw [checkNode_mk, CK.nodeErr_eq_parts, CK.parts, hcompat]
    simp only [show (refInfo names nul jt tok).nk = CK.NK.lit from hnk, CK.isBranch]
    cases CK.linksErr env (refInfo names nul jt tok) <;>
      cases CK.literalErr noOracles env (refInfo names nul jt tok) <;> rfl
  rw [hnode]
  have hl1 := CK.linksErr_no_crash env (refInfo names nul jt tok)
  have hl2 := CK.literalErr_no_crash noOracles env (refInfo names nul jt tok)
  rw [linksErr_refex env names nul jt tok hnk] at hl1 ⊢
  rw [literalErr_refex env names nul jt tok] at hl2 ⊢
  have r1 := collect_rel ts env hE hT (f + 1) (env.types.length + 1) [] names [] hb (by simp)
  simp only [List.map_nil] at r1
  generalize allowed ts (f + 1) [] names = a1 at r1 hA ⊢
  generalize CK.collectNames (CK.collect env (env.types.length + 1)) env [] (names.map name) [] = c1 at r1 hl1 ⊢
  cases r1 with
  | fuelA w b => exact absurd rfl (hA w)
  | fuelC a w => exact absurd rfl (hl1 w)
  | err c => exact ⟨by simp [CK.orElse, CK.catchLex, lexLit, panicOf], fun e he => by cases he; exact ⟨c, rfl⟩⟩
  | ok al l hR =>
    have hcont : l.contains (jtOf jt) = alOK jt al := by
      cases al with
      | some x =>
        simp only [RAllowed, List.nil_append] at hR
        rw [hR, contains_jt]
        rfl
      | none =>
        obtain ⟨l', e, hl'⟩ := hR
        simp only [List.nil_append] at e
        rw [e]
        simp only [List.contains_iff_mem, alOK]
        exact hl' _ (by cases jt <;> simp [jtOf, CK.allTypes])
    simp only [hcont]
    cases hc : alOK jt al
    · simp only [hc] at hA ⊢
      exact ⟨by simp [CK.orElse, CK.catchLex, lexLit, panicOf], fun e he => by
        simp at he; exact ⟨1301, he.symm⟩⟩
    · simp only [hc, Bool.not_true, Bool.false_eq_true, if_false, if_true, CK.orElse] at hA ⊢
      have r2 := build_rel ts env hE hT tok d hd hen (f + 1) (env.types.length + 1) [] names [] hb (by simp)
      simp only [List.map_nil] at r2
      generalize exampleAlts ts tok (f + 1) [] names = a2 at r2 hA ⊢
      generalize CK.buildNames (CK.build env (env.types.length + 1)) env (names.map name) ([], []) = c2 at r2 hl2 ⊢
      cases r2 with
      | fuelA w b => exact absurd rfl (hA w)
      | fuelC a w => exact absurd rfl (hl2 w)
      | err c => exact ⟨by simp [CK.catchLex, lexLit, panicOf], fun e he => by cases he; exact ⟨c, rfl⟩⟩
      | ok a c hR2 =>
        obtain ⟨added, alts⟩ := a
        obtain ⟨c1', chks'⟩ := c
        obtain ⟨_, _, chks, h3, h4⟩ := hR2
        simp only [List.nil_append] at h3 h4
        subst h3
        subst h4
        exact verdict_eq tok chks'

end

end BridgeCK
