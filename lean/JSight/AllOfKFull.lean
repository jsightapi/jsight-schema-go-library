import JSight.AllOfKSem
import JSight.AllOfKTrans
/-!
C03, allOf: the statement of the property, literally. An expanded type whose keys are all plain accepts an object
document iff the document meets the requirement of every own property of the type AND of every own property of every
type it inherits from through any number of allOf steps, and additionalProperties (the first constraint present: the
type's own, else the first one met along the bases) accepts every member whose key none of them names.
(`allOf_semantics_transitive`: `AllOfKSem.allOf_semantics_conj` unfolded along `AllOfKTrans.allOf_transitive`.)
-/
namespace AOK
open VN (J)
variable {L D : Type}

/-- the requirement one property puts on the members of a document: every member with its key has a value the
property accepts (`VK.shape`: the union over the alternatives of the position), and a required key is present -/
def EntryMet (env : VK.Env L) (litOK : L → D → Bool) (keyOK : String → String → Bool)
    (e : String × Bool × Bool × CS L) (ms : List (String × J D)) : Prop :=
  (∀ m ∈ ms, m.1 = e.1 → VK.shape env litOK keyOK (toVK e.2.2.2) m.2 = true) ∧
  (e.2.2.1 = true → ∃ m ∈ ms, m.1 = e.1)

theorem lookup_cons (k' : String) (r : Bool) (s : VK.S L) (ps : List (String × Bool × VK.S L)) (k : String) :
    VK.lookup ((k', r, s) :: ps) k = if k' = k then some s else VK.lookup ps k := by
  by_cases h : k' = k <;> simp [VK.lookup, h]

theorem lookup_plainOf_some_iff (ents : List (String × Bool × Bool × CS L)) (hnd : (ents.map keyOf).Nodup)
    (k : String) (s : VK.S L) :
    VK.lookup (plainOf ents) k = some s ↔ ∃ e ∈ ents, e.1 = k ∧ e.2.1 = false ∧ toVK e.2.2.2 = s := by
  induction ents with
  | nil => simp [plainOf, VK.lookup]
  | cons e es ih =>
    obtain ⟨k', sh, r, v⟩ := e
    simp only [List.map_cons, List.nodup_cons] at hnd
    cases sh with
    | true =>
      simp only [plainOf, if_true, ih hnd.2, List.mem_cons, exists_eq_or_imp, Bool.true_eq_false, false_and,
        and_false, false_or]
    | false =>
      simp only [plainOf, Bool.false_eq_true, if_false, lookup_cons, List.mem_cons, exists_eq_or_imp, true_and]
      by_cases hk : k' = k
      · subst hk
        rw [if_pos rfl, Option.some.injEq]
        refine ⟨fun h => Or.inl ⟨rfl, h⟩, fun h => h.elim And.right ?_⟩
        rintro ⟨e, he, hek, hes, _⟩
        exact absurd (List.mem_map.2 ⟨e, he, by simp [keyOf, hek, hes]⟩) hnd.1
      · rw [if_neg hk, ih hnd.2]
        simp only [hk, false_and, false_or]

theorem lookup_plainOf_none_iff (ents : List (String × Bool × Bool × CS L)) (k : String) :
    VK.lookup (plainOf ents) k = none ↔ ∀ e ∈ ents, e.2.1 = false → e.1 ≠ k := by
  induction ents with
  | nil => simp [plainOf, VK.lookup]
  | cons e es ih =>
    obtain ⟨k', sh, r, v⟩ := e
    cases sh with
    | true => simp only [plainOf, if_true, ih, List.forall_mem_cons, Bool.true_eq_false, false_imp_iff, true_and]
    | false =>
      simp only [plainOf, Bool.false_eq_true, if_false, lookup_cons, List.forall_mem_cons, true_imp_iff]
      by_cases hk : k' = k
      · rw [if_pos hk]
        simp only [reduceCtorEq, ne_eq, hk, not_true_eq_false, false_and]
      · rw [if_neg hk, ih]
        simp only [ne_eq, hk, not_false_eq_true, true_and]

theorem mem_requiredKeys_plainOf (ents : List (String × Bool × Bool × CS L)) (k : String) :
    k ∈ VK.requiredKeys (plainOf ents) ↔ ∃ e ∈ ents, e.1 = k ∧ e.2.1 = false ∧ e.2.2.1 = true := by
  induction ents with
  | nil => simp [plainOf, VK.requiredKeys]
  | cons e es ih =>
    obtain ⟨k', sh, r, v⟩ := e
    cases sh <;> cases r <;>
      simp only [plainOf, requiredKeys_cons, if_true, Bool.false_eq_true, if_false, List.mem_cons, ih,
        exists_eq_or_imp, Bool.true_eq_false, and_false, and_true, false_or, eq_comm (a := k)]
/-- an object whose keys are all plain and distinct: accepted iff every property's requirement is met and
additionalProperties accepts every member no property names -/
theorem plain_object_accepts_iff (envV : VK.Env L) (litOK : L → D → Bool) (keyOK : String → String → Bool)
    (ents : List (String × Bool × Bool × CS L)) (req : List String) (add : Option (AP L))
    (hplain : ∀ e ∈ ents, e.2.1 = false) (hnd : (ents.map keyOf).Nodup) (ms : List (String × J D)) :
    VK.validateT envV litOK keyOK (toVK (.obj ents req add)) (.obj ms) = true ↔
      (∀ e ∈ ents, EntryMet envV litOK keyOK e ms) ∧
      (∀ m ∈ ms, (∀ e ∈ ents, e.1 ≠ m.1) → AddAccepts envV litOK keyOK (modeOf add) m.2 = true) := by
  rw [validate_plain_obj envV litOK keyOK ents req add hplain]
  constructor
  · rintro ⟨h1, h2⟩
    refine ⟨?_, ?_⟩
    · intro e he
      refine ⟨?_, ?_⟩
      · intro m hm hme
        have := h1 m hm
        rw [(lookup_plainOf_some_iff ents hnd m.1 (toVK e.2.2.2)).2 ⟨e, he, hme.symm, hplain e he, rfl⟩] at this
        exact this
      · intro hr
        exact h2 e.1 ((mem_requiredKeys_plainOf ents e.1).2 ⟨e, he, rfl, hplain e he, hr⟩)
    · intro m hm hno
      have := h1 m hm
      rw [(lookup_plainOf_none_iff ents m.1).2 (fun e he _ => hno e he)] at this
      exact this
  · rintro ⟨h1, h2⟩
    refine ⟨?_, ?_⟩
    · intro m hm
      cases hl : VK.lookup (plainOf ents) m.1 with
      | some s =>
        obtain ⟨e, he, hek, _, hs⟩ := (lookup_plainOf_some_iff ents hnd m.1 s).1 hl
        subst hs
        exact (h1 e he).1 m hm hek.symm
      | none =>
        exact h2 m hm (fun e he => (lookup_plainOf_none_iff ents m.1).1 hl e he (hplain e he))
    · intro k hk
      obtain ⟨e, he, hek, _, hr⟩ := (mem_requiredKeys_plainOf ents k).1 hk
      obtain ⟨m, hm, hmk⟩ := (h1 e he).2 hr
      exact ⟨m, hm, by rw [hmk, hek]⟩

section
variable [DecidableEq L]

/-- **C03, allOf, as the property reads**: a type `n` of the table that expands to `c` (an object whose keys are
plain and pairwise distinct — the expansion guarantees distinctness between own and inherited keys and among the
inherited ones, the loader within the own ones) accepts an object document iff its members meet the requirement of
every OWN property of `n` and of every own property of every type `m` that `n` inherits from through any number of
allOf steps, and additionalProperties accepts every member whose key none of these properties names -/
theorem allOf_semantics_transitive (env : PEnv L) (envV : VK.Env L) (litOK : L → D → Bool) (keyOK : String → String → Bool)
    (f : Nat) (P : List String) (n : String) (c : CS L) (h : processType env f P n = .ok c)
    (hplain : ∀ e ∈ entsOf c, e.2.1 = false) (hnd : ((entsOf c).map keyOf).Nodup) (hobj : isObj c = true)
    (ms : List (String × J D)) :
    VK.validateT envV litOK keyOK (toVK c) (.obj ms) = true ↔
      (∀ e ∈ ownPart env n c, EntryMet envV litOK keyOK e ms) ∧
      (∀ m cm, Anc env n m → Expands env m cm → ∀ e ∈ ownPart env m cm, EntryMet envV litOK keyOK e ms) ∧
      (∀ m ∈ ms, (∀ e ∈ entsOf c, e.1 ≠ m.1) → AddAccepts envV litOK keyOK (modeOf (addOf c)) m.2 = true) := by
  have htr := allOf_transitive env f P n c h
  obtain ⟨ents, req, add, rfl⟩ := (isObj_iff c).1 hobj
  simp only [entsOf, addOf] at hplain hnd htr ⊢
  rw [plain_object_accepts_iff envV litOK keyOK ents req add hplain hnd ms]
  constructor
  · rintro ⟨h1, h2⟩
    refine ⟨fun e he => h1 e ((htr e).2 (Or.inl he)), ?_, h2⟩
    intro m cm ha hx e he
    exact h1 e ((htr e).2 (Or.inr ⟨m, cm, ha, hx, he⟩))
  · rintro ⟨h1, h2, h3⟩
    refine ⟨?_, h3⟩
    intro e he
    rcases (htr e).1 he with ho | ⟨m, cm, ha, hx, hm⟩
    · exact h1 e ho
    · exact h2 m cm ha hx e hm

end

end AOK
