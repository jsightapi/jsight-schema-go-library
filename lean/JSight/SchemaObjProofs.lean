import JSight.SchemaObj
/-!
# Theorems about the orchestration model `SchemaObj` (C11, once-only load / compile / len with cached error)

The model changes a pool in one way only: an object is replaced by a later one (`Obj.le`). `Fill i o o' evs add` says what
happened to the receiver `i` of a call (later; every stage that ran used up its potential; its table grew by `add` unless
its compile body ran), `Moves p p' evs add` says the same of the pool and is closed under composition. Each once cell has
ONE statement (`ensureLoad_spec`, `ensureLen_spec`, `ensureCompile_spec`: the receiver is replaced by a later object whose
cell holds the answer), each public method and each history one `Moves` (`step_moves`, `run_moves`); "each stage at most
once", "cells are stable" and the closed form of the table are its three fields. A query answered from the receiver's
cells (`cellOut`) leaves its answer there (`cells_after_step`) and filled cells keep answering it (`answer_of_cells`):
`repeat_same` and `compile_fixes` are both that.
-/
namespace SchemaObj
variable {W : World}

/-- what a filled load cell holds: the load stage applied to the object's own text and options and to a rule list `rs`
— the rules the object holds, unless the load failed before `inner` was set (then `AddRule` is still accepted afterwards,
without effect); and `rs = []` as long as the object holds no rule -/
def LoadSpec (o : Obj W) : Prop :=
  ∀ r, o.loadC = some r → ∃ rs, r = W.load o.text o.opt rs ∧ ((∀ e, r ≠ .failEarly e) → rs = o.rules) ∧
    (o.rules = [] → rs = [])

/-- `o'` is `o` later: same text and options, every filled cell keeps its value -/
structure Obj.le (o o' : Obj W) : Prop where
  text : o'.text = o.text
  opt : o'.opt = o.opt
  loadC : ∀ r, o.loadC = some r → o'.loadC = some r
  compC : ∀ r, o.compC = some r → o'.compC = some r
  lenC : ∀ r, o.lenC = some r → o'.lenC = some r
  wf : (o.compC.isSome → o.loadC.isSome) → (o'.compC.isSome → o'.loadC.isSome)
  lenSpec : (∀ r, o.lenC = some r → r = W.len o.text) → ∀ r, o'.lenC = some r → r = W.len o'.text
  loadSpec : LoadSpec o → LoadSpec o'

theorem Obj.le_refl (o : Obj W) : o.le o := ⟨rfl, rfl, fun _ h => h, fun _ h => h, fun _ h => h, fun h => h, fun h => h, fun h => h⟩

theorem Obj.le_trans {a b c : Obj W} (h1 : a.le b) (h2 : b.le c) : a.le c :=
  ⟨h2.text.trans h1.text, h2.opt.trans h1.opt, fun r h => h2.loadC r (h1.loadC r h),
   fun r h => h2.compC r (h1.compC r h), fun r h => h2.lenC r (h1.lenC r h), fun h => h2.wf (h1.wf h), fun h => h2.lenSpec (h1.lenSpec h), fun h => h2.loadSpec (h1.loadSpec h)⟩

/-- a new table leaves every cell as it is -/
theorem Obj.le_types (o : Obj W) (t : Table) : o.le { o with types := t } :=
  ⟨rfl, rfl, fun _ h => h, fun _ h => h, fun _ h => h, fun h => h, fun h => h, fun h => h⟩

/-- pool order: every object is still there, later -/
@[reducible] def PoolLe (p p' : Pool W) : Prop :=
  ∀ (i : Nat) (o : Obj W), p[i]? = some o → ∃ o' : Obj W, p'[i]? = some o' ∧ o.le o'

theorem poolLe_refl (p : Pool W) : PoolLe p p := fun _ o h => ⟨o, h, Obj.le_refl o⟩

theorem poolLe_trans {a b c : Pool W} (h1 : PoolLe a b) (h2 : PoolLe b c) : PoolLe a c := by
  intro i o h
  obtain ⟨o1, g1, l1⟩ := h1 i o h
  obtain ⟨o2, g2, l2⟩ := h2 i o1 g1
  exact ⟨o2, g2, Obj.le_trans l1 l2⟩

theorem get_set_self {p : Pool W} {j : Nat} {o : Obj W} (o' : Obj W) (hj : p[j]? = some o) :
    (p.set j o')[j]? = some o' := by
  have : j < p.length := by
    rcases Nat.lt_or_ge j p.length with h | h
    · exact h
    · simp [List.getElem?_eq_none h] at hj
  simp [this]

theorem get_set_ne {p : Pool W} {i j : Nat} (o' : Obj W) (hij : j ≠ i) : (p.set j o')[i]? = p[i]? := by
  simp [hij]

/-- the cached branch of a once cell returns the pool as it is -/
theorem set_same {p : Pool W} {j : Nat} {o : Obj W} (hj : p[j]? = some o) : p.set j o = p := by
  apply List.ext_getElem?
  intro i
  by_cases h : j = i
  · subst h; rw [get_set_self o hj, hj]
  · exact get_set_ne o h

def typesOf (p : Pool W) (i : Nat) : Table := match p[i]? with | some o => o.types | none => []

/-! ## stages and their potential -/

def Ev.idx : Ev → Nat
  | .load i => i | .compile i => i | .len i => i

/-- potential of a stage in an object: 1 while its cell is empty -/
def Obj.phi (o : Obj W) : Ev → Nat
  | .load _ => if o.loadC.isSome then 0 else 1
  | .compile _ => if o.compC.isSome then 0 else 1
  | .len _ => if o.lenC.isSome then 0 else 1

def phi (p : Pool W) (e : Ev) : Nat := match p[e.idx]? with | some o => o.phi e | none => 1

theorem Obj.phi_le_one (o : Obj W) (e : Ev) : o.phi e ≤ 1 := by
  cases e <;> simp only [Obj.phi] <;> split <;> omega

theorem phi_le_one (p : Pool W) (e : Ev) : phi p e ≤ 1 := by
  unfold phi; split
  · exact Obj.phi_le_one _ e
  · omega

/-- a filled cell stays filled -/
theorem Obj.le.phi {o o' : Obj W} (h : o.le o') (e : Ev) : o'.phi e ≤ o.phi e := by
  have key : ∀ {α : Type} (c c' : Option α), (∀ r, c = some r → c' = some r) →
      (if c'.isSome then 0 else 1) ≤ (if c.isSome then 0 else 1) := by
    intro α c c' hc
    cases c with
    | none => split <;> simp
    | some r => simp [hc r rfl]
  cases e with
  | load i => exact key _ _ h.loadC
  | compile i => exact key _ _ h.compC
  | len i => exact key _ _ h.lenC

/-! ## what a call does to the receiver, and what calls do to the pool -/

/-- object `i`, `o` before and `o'` after, while the stages `evs` ran: `o'` is `o` later, the stages are stages of `i` and each
used up its potential (ran on an empty cell, which is filled afterwards), and unless the compile body ran the table has
only grown, by `add` -/
structure Fill (i : Nat) (o o' : Obj W) (evs : List Ev) (add : Table) : Prop where
  le : o.le o'
  own : ∀ e ∈ evs, e.idx = i
  pot : ∀ e, evs.count e + o'.phi e ≤ o.phi e
  types : evs.count (.compile i) = 0 → o'.types = o.types ++ add

theorem Fill.refl (i : Nat) (o : Obj W) : Fill i o o [] [] :=
  ⟨Obj.le_refl o, nofun, fun e => by simp, fun _ => by simp⟩

/-- no stage ran -/
theorem Fill.of_le (i : Nat) {o o' : Obj W} {add : Table} (h : o.le o') (ht : o'.types = o.types ++ add) :
    Fill i o o' [] add :=
  ⟨h, nofun, fun e => by simpa using h.phi e, fun _ => ht⟩

theorem Fill.trans {i : Nat} {a b c : Obj W} {e1 e2 : List Ev} {t1 t2 : Table} (h1 : Fill i a b e1 t1) (h2 : Fill i b c e2 t2) :
    Fill i a c (e1 ++ e2) (t1 ++ t2) :=
  ⟨Obj.le_trans h1.le h2.le, fun e he => (List.mem_append.1 he).elim (h1.own e) (h2.own e),
   fun e => by have := h1.pot e; have := h2.pot e; simp only [List.count_append]; omega,
   fun h => by
    simp only [List.count_append] at h
    rw [h2.types (by omega), h1.types (by omega), List.append_assoc]⟩

/-- what every call, and every history, does to the pool: every object is still there, later; every stage that ran used up
its potential; and as long as the compile body of `i` has not run the table of `i` has only grown, by `add i` -/
structure Moves (p p' : Pool W) (evs : List Ev) (add : Nat → Table) : Prop where
  le : PoolLe p p'
  pot : ∀ e, evs.count e + phi p' e ≤ phi p e
  types : ∀ i, evs.count (.compile i) = 0 → typesOf p' i = typesOf p i ++ add i

theorem Moves.refl (p : Pool W) : Moves p p [] (fun _ => []) :=
  ⟨poolLe_refl p, fun e => by simp, fun i _ => by simp⟩

theorem Moves.trans {p p1 p2 : Pool W} {e1 e2 : List Ev} {a1 a2 : Nat → Table} (h1 : Moves p p1 e1 a1)
    (h2 : Moves p1 p2 e2 a2) : Moves p p2 (e1 ++ e2) (fun i => a1 i ++ a2 i) :=
  ⟨poolLe_trans h1.le h2.le, fun e => by
    have := h1.pot e; have := h2.pot e; simp only [List.count_append]; omega,
   fun i h => by
    simp only [List.count_append] at h
    rw [h2.types i (by omega), h1.types i (by omega), List.append_assoc]⟩

theorem Moves.congr {p p' : Pool W} {evs evs' : List Ev} {a a' : Nat → Table} (h : Moves p p' evs a) (he : evs = evs')
    (ha : ∀ i, a i = a' i) : Moves p p' evs' a' := by
  rw [← he, ← funext ha]; exact h

/-- the one way the model changes a pool: object `i` is replaced -/
theorem Fill.moves {p : Pool W} {i : Nat} {o o' : Obj W} {evs : List Ev} {add : Table} (ho : p[i]? = some o)
    (h : Fill i o o' evs add) : Moves p (p.set i o') evs (fun k => if i = k then add else []) := by
  refine ⟨fun k ok hk => ?_, fun e => ?_, fun k hc => ?_⟩
  · by_cases hik : i = k
    · subst hik; rw [ho] at hk; cases hk; exact ⟨o', get_set_self o' ho, h.le⟩
    · exact ⟨ok, by rw [get_set_ne o' hik]; exact hk, Obj.le_refl ok⟩
  · unfold phi
    by_cases hie : i = e.idx
    · subst hie; rw [get_set_self o' ho, ho]; exact h.pot e
    · rw [get_set_ne o' hie]
      have : evs.count e = 0 := List.count_eq_zero.2 fun he => hie (h.own e he).symm
      omega
  · unfold typesOf
    by_cases hik : i = k
    · subst hik; rw [get_set_self o' ho, ho, if_pos rfl]; exact h.types hc
    · rw [get_set_ne o' hik, if_neg hik]; simp

theorem Fill.moves_nil {p : Pool W} {i : Nat} {o o' : Obj W} {evs : List Ev} (ho : p[i]? = some o)
    (h : Fill i o o' evs []) : Moves p (p.set i o') evs (fun _ => []) := by
  simpa using h.moves ho

/-! ## the once cells: the receiver is replaced by a later object whose cell holds the answer -/

theorem ensureLoad_spec (p : Pool W) (i : Nat) (o : Obj W) (ho : p[i]? = some o) :
    ∃ o' r evs, ensureLoad p i = (p.set i o', evs, some r) ∧ Fill i o o' evs [] ∧ o'.loadC = some r ∧
      o'.rules = o.rules ∧ o'.compC = o.compC ∧ o'.lenC = o.lenC ∧
      (o.loadC = none → r = W.load o.text o.opt o.rules ∧ evs = [.load i]) ∧ (o.loadC.isSome → o' = o ∧ evs = []) := by
  unfold ensureLoad
  simp only [ho]
  split
  · rename_i r hr
    exact ⟨o, r, [], by rw [set_same ho], Fill.refl i o, hr, rfl, rfl, rfl, fun h => by simp [h] at hr, fun _ => ⟨rfl, rfl⟩⟩
  · rename_i hc
    refine ⟨_, _, _, rfl, ⟨⟨rfl, rfl, fun r h => by simp [hc] at h, fun r h => h, fun r h => h, fun _ _ => rfl, fun h => h,
      fun _ r h => ?_⟩, fun e he => by rw [List.mem_singleton.1 he]; rfl, fun e => ?_, fun _ => by simp⟩, rfl, rfl, rfl, rfl,
      fun _ => ⟨rfl, rfl⟩, fun h => by simp [hc] at h⟩
    · simp only [Option.some.injEq] at h; exact ⟨o.rules, h.symm, fun _ => rfl, fun h => h⟩
    · cases e <;> simp [Obj.phi, hc, List.count_cons] <;> split <;> omega

theorem ensureLen_spec (p : Pool W) (i : Nat) (o : Obj W) (ho : p[i]? = some o) :
    ∃ o' r evs, ensureLen p i = (p.set i o', evs, some r) ∧ Fill i o o' evs [] ∧ o'.lenC = some r ∧
      (o.lenC = none → r = W.len o.text) := by
  unfold ensureLen
  simp only [ho]
  split
  · rename_i r hr
    exact ⟨o, r, [], by rw [set_same ho], Fill.refl i o, hr, fun h => by simp [h] at hr⟩
  · rename_i hc
    refine ⟨_, _, _, rfl, ⟨⟨rfl, rfl, fun r h => h, fun r h => h, fun r h => by simp [hc] at h, fun h => h,
      fun _ r h => by simp only [Option.some.injEq] at h; exact h.symm, fun h => h⟩,
      fun e he => by rw [List.mem_singleton.1 he]; rfl, fun e => ?_, fun _ => by simp⟩, rfl, fun _ => rfl⟩
    cases e <;> simp [Obj.phi, hc, List.count_cons] <;> split <;> omega

/-- the compile body on a loaded object with an empty compile cell: a new table, the cell filled -/
theorem Fill.compile (i : Nat) {o : Obj W} (hc : o.compC = none) {l : LoadRes W.Err W.Loaded} (hl : o.loadC = some l)
    (t : Table) (r : Except W.Err W.Compiled) : Fill i o { o with types := t, compC := some r } [.compile i] [] :=
  ⟨⟨rfl, rfl, fun _ h => h, fun r h => by simp [hc] at h, fun _ h => h, fun _ _ => by simp [hl], fun h => h, fun h => h⟩,
   fun e he => by rw [List.mem_singleton.1 he]; rfl,
   fun e => by cases e <;> simp [Obj.phi, hc, List.count_cons] <;> split <;> omega,
   fun h => by simp at h⟩

theorem ensureCompile_spec (p : Pool W) (i : Nat) (o : Obj W) (ho : p[i]? = some o) :
    ∃ o' r evs, ensureCompile p i = (p.set i o', evs, some r) ∧ Fill i o o' evs [] ∧ o'.compC = some r ∧
      (o.compC.isSome → o' = o ∧ evs = []) ∧ (o.compC = none → evs = (ensureLoad p i).2.1 ++ [.compile i]) := by
  cases hc : o.compC with
  | some r =>
    refine ⟨o, r, [], ?_, Fill.refl i o, hc, fun _ => ⟨rfl, rfl⟩, nofun⟩
    unfold ensureCompile; simp only [ho, hc, set_same ho]
  | none =>
    obtain ⟨o1, r1, ev1, hE, f1, hl, _, hc1, _, _, _⟩ := ensureLoad_spec p i o ho
    have h1 := get_set_self o1 ho
    have hc1' : o1.compC = none := by rw [hc1, hc]
    unfold ensureCompile
    simp only [ho, hc, hE, h1]
    cases r1 with
    | ok l =>
      simp only [compileBody, List.set_set, get_set_self _ ho]
      exact ⟨_, _, _, rfl, f1.trans (Fill.compile i hc1' hl _ _), rfl, nofun, fun _ => rfl⟩
    | failEarly e =>
      simp only [List.set_set]
      exact ⟨_, _, _, rfl, f1.trans (Fill.compile i hc1' hl o1.types _), rfl, nofun, fun _ => rfl⟩
    | failLate e =>
      simp only [List.set_set]
      exact ⟨_, _, _, rfl, f1.trans (Fill.compile i hc1' hl o1.types _), rfl, nofun, fun _ => rfl⟩

theorem ensureLoad_moves (p : Pool W) (i : Nat) : Moves p (ensureLoad p i).1 (ensureLoad p i).2.1 (fun _ => []) := by
  cases ho : p[i]? with
  | none => simp only [ensureLoad, ho]; exact Moves.refl p
  | some o => obtain ⟨o', r, evs, hE, f, _⟩ := ensureLoad_spec p i o ho; rw [hE]; exact f.moves_nil ho

theorem ensureLen_moves (p : Pool W) (i : Nat) : Moves p (ensureLen p i).1 (ensureLen p i).2.1 (fun _ => []) := by
  cases ho : p[i]? with
  | none => simp only [ensureLen, ho]; exact Moves.refl p
  | some o => obtain ⟨o', r, evs, hE, f, _⟩ := ensureLen_spec p i o ho; rw [hE]; exact f.moves_nil ho

theorem ensureCompile_moves (p : Pool W) (i : Nat) :
    Moves p (ensureCompile p i).1 (ensureCompile p i).2.1 (fun _ => []) := by
  cases ho : p[i]? with
  | none => simp only [ensureCompile, ho]; exact Moves.refl p
  | some o => obtain ⟨o', r, evs, hE, f, _⟩ := ensureCompile_spec p i o ho; rw [hE]; exact f.moves_nil ho

/-! ## every public method -/

/-- the entry a call contributes to the table of `i`: an `AddType` on receiver `i` that answered nil -/
def addOf (i : Nat) : Op W → Out W → Table
  | .addType i' n j, .ok => if i' = i then [(n, j)] else []
  | _, _ => []

theorem addEntry_moves (p : Pool W) (i : Nat) (n : String) (j : Nat) :
    Moves p (addEntry p i n j).1 [] (fun k => addOf k (.addType i n j) (addEntry p i n j).2) := by
  unfold addEntry
  split
  · exact Moves.refl p
  · rename_i o ho
    split
    · exact Moves.refl p
    · split
      · exact Moves.refl p
      · exact (Fill.of_le i (o.le_types _) rfl).moves ho

theorem putRule_moves (p : Pool W) (i : Nat) (n : String) (r : W.Rule) : Moves p (putRule p i n r) [] (fun _ => []) := by
  unfold putRule
  split
  · exact Moves.refl p
  · rename_i o ho
    split
    · exact Moves.refl p
    · exact Moves.refl p
    · rename_i h1 h2
      refine (Fill.of_le i (o := o) (o' := { o with rules := o.rules.filter (fun e => e.1 != n) ++ [(n, r)] })
        ⟨rfl, rfl, fun r h => h, fun r h => h, fun r h => h, fun h => h, fun h => h, ?_⟩ (List.append_nil _).symm).moves_nil ho
      intro hs r hr
      simp only at hr
      cases r with
      | ok l => exact absurd hr (h1 l)
      | failLate e => exact absurd hr (h2 e)
      | failEarly e =>
        obtain ⟨rs, e1, _, _⟩ := hs _ hr
        exact ⟨rs, e1, fun hne => absurd rfl (hne e), fun h => absurd h (by simp)⟩

theorem step_moves (p : Pool W) (op : Op W) :
    Moves p (step p op).1 (step p op).2.1 (fun k => addOf k op (step p op).2.2) := by
  cases op with
  | len i => exact ensureLen_moves p i
  | used i => exact ensureLoad_moves p i
  | check i | build i | getAST i | «example» i | validate i d => exact ensureCompile_moves p i
  | addRule i n r =>
    simp only [step]
    repeat' split
    all_goals first | exact Moves.refl p | exact putRule_moves p i n _
  | addType i n j =>
    simp only [step]
    have g1 := ensureLoad_moves p i
    generalize ensureLoad p i = x1 at g1 ⊢
    obtain ⟨p1, ev1, _ | _ | _ | l1⟩ := x1
    iterate 3 exact g1
    have g2 := g1.trans (ensureLoad_moves p1 j)
    dsimp only at g2 ⊢
    generalize ensureLoad p1 j = x2 at g2 ⊢
    obtain ⟨p2, ev2, _ | _ | _ | l⟩ := x2
    iterate 3 exact g2.congr rfl (fun _ => rfl)
    dsimp only at g2 ⊢
    split
    · exact g2.congr rfl (fun _ => rfl)
    · exact (g2.trans (addEntry_moves p2 i n j)).congr (List.append_nil _) (fun _ => rfl)

/-- closed form over a history and its answers -/
def tableAt (i : Nat) : List (Op W) → List (Out W) → Table
  | op :: ops, o :: os => addOf i op o ++ tableAt i ops os
  | _, _ => []

theorem run_moves (p : Pool W) (h : List (Op W)) :
    Moves p (run p h).1 (run p h).2.1 (fun i => tableAt i h (run p h).2.2) := by
  induction h generalizing p with
  | nil => exact Moves.refl p
  | cons op ops ih => exact (step_moves p op).trans (ih (step p op).1)

/-- **each stage runs at most once per object**, in every history from every pool -/
theorem stage_at_most_once (p : Pool W) (h : List (Op W)) (e : Ev) : (run p h).2.1.count e ≤ 1 := by
  have := (run_moves p h).pot e
  have := phi_le_one p e
  omega

/-- cells never change once filled; text and options never change -/
theorem cells_stable (p : Pool W) (h : List (Op W)) : PoolLe p (run p h).1 := (run_moves p h).le

/-- **the table of the first compile, in closed form**: as long as `i`'s compile body has not run, `i`'s table is its
initial table followed by exactly the `AddType` calls on receiver `i` that answered nil, in call order -/
theorem table_closed_form (p : Pool W) (h : List (Op W)) (i : Nat)
    (hc : (run p h).2.1.count (.compile i) = 0) :
    typesOf (run p h).1 i = typesOf p i ++ tableAt i h (run p h).2.2 := (run_moves p h).types i hc

theorem run_append (p : Pool W) (h1 h2 : List (Op W)) : (run p (h1 ++ h2)).1 = (run (run p h1).1 h2).1 := by
  induction h1 generalizing p with
  | nil => rfl
  | cons op ops ih =>
    simp only [List.cons_append, run]
    rcases step p op with ⟨p1, ev, o⟩
    simp only
    have := ih p1
    rcases hr : run p1 (ops ++ h2) with ⟨a, b, c⟩
    rw [hr] at this
    rcases hr2 : run p1 ops with ⟨a2, b2, c2⟩
    rw [hr2] at this
    simpa using this

/-! ## a repeated query answers what it answered the first time -/

def usedOut : LoadRes W.Err W.Loaded → Out W
  | .ok l => .val (W.used l)
  | .failEarly e => .err e
  | .failLate e => .err e

def checkOut : Except W.Err W.Compiled → Out W
  | .ok _ => .ok
  | .error e => .err e

def astOut (o : Obj W) : Except W.Err W.Compiled → Out W
  | .ok _ => (match o.loaded? with | some l => .val (W.ast l) | none => .noObj)
  | .error e => .err e

/-- receiver of a query answered from the receiver's once cells alone (`Validate` / `Example` also read the table) -/
def cellRecv : Op W → Option Nat
  | .len i => some i | .used i => some i | .check i => some i | .build i => some i | .getAST i => some i
  | _ => none

/-- the answer the cells of the receiver hold for a query, if they are filled -/
def cellOut (o : Obj W) : Op W → Option (Out W)
  | .len _ => o.lenC.map outOfVal
  | .used _ => o.loadC.map usedOut
  | .check _ => o.compC.map checkOut
  | .build _ => o.compC.map checkOut
  | .getAST _ => o.compC.map (astOut o)
  | _ => none

theorem loaded?_mono {o o' : Obj W} (h : o.le o') (hl : o.loadC.isSome) : o'.loaded? = o.loaded? := by
  cases hc : o.loadC with
  | none => simp [hc] at hl
  | some r => simp only [Obj.loaded?, hc, h.loadC r hc]

/-- a filled cell keeps its answer (`GetAST` also reads the load cell, which must have been filled by then) -/
theorem cellOut_mono {o o' : Obj W} (h : o.le o') (q : Op W) (out : Out W) (hl : ∀ j, q = .getAST j → o.loadC.isSome)
    (hq : cellOut o q = some out) : cellOut o' q = some out := by
  have key : ∀ {α : Type} (c c' : Option α) (f : α → Out W), (∀ r, c = some r → c' = some r) → c.map f = some out →
      c'.map f = some out := by
    intro α c c' f hc h
    cases c with
    | none => cases h
    | some r => rw [hc r rfl]; exact h
  cases q with
  | len i => exact key _ _ _ h.lenC hq
  | used i => exact key _ _ _ h.loadC hq
  | check i | build i => exact key _ _ _ h.compC hq
  | getAST i =>
    have : astOut o' = astOut o := by unfold astOut; rw [loaded?_mono h (hl i rfl)]
    simp only [cellOut, this]; exact key _ _ _ h.compC hq
  | _ => cases hq

/-- after a cell query the receiver, later, holds its answer in its cells -/
theorem cells_after_step (p : Pool W) (q : Op W) (i : Nat) (o : Obj W) (hr : cellRecv q = some i)
    (ho : p[i]? = some o) : ∃ o', (step p q).1[i]? = some o' ∧ o.le o' ∧ cellOut o' q = some (step p q).2.2 := by
  cases q with
  | len j =>
    cases hr
    obtain ⟨o', r, evs, hE, f, hc, _⟩ := ensureLen_spec p i o ho
    simp only [step, hE]
    exact ⟨o', get_set_self o' ho, f.le, by simp [cellOut, hc]⟩
  | used j =>
    cases hr
    obtain ⟨o', r, evs, hE, f, hc, _⟩ := ensureLoad_spec p i o ho
    simp only [step, hE]
    exact ⟨o', get_set_self o' ho, f.le, by simp only [cellOut, hc, Option.map_some]; cases r <;> rfl⟩
  | check j | build j | getAST j =>
    cases hr
    obtain ⟨o', r, evs, hE, f, hc, _⟩ := ensureCompile_spec p i o ho
    simp only [step, hE, get_set_self o' ho]
    exact ⟨o', rfl, f.le, by simp only [cellOut, hc, Option.map_some]; cases r <;> rfl⟩
  | _ => cases hr

/-- once the cells of the receiver hold an answer to `q`, `q` answers it after every further history -/
theorem answer_of_cells (P : Pool W) (h2 : List (Op W)) (q : Op W) (i : Nat) (o : Obj W) (out : Out W)
    (hr : cellRecv q = some i) (ho : P[i]? = some o) (hq : cellOut o q = some out)
    (hl : ∀ j, q = .getAST j → o.loadC.isSome) : (step (run P h2).1 q).2.2 = out := by
  obtain ⟨o3, g3, l3⟩ := cells_stable P h2 i o ho
  obtain ⟨o4, _, l4, c4⟩ := cells_after_step (run P h2).1 q i o3 hr g3
  rw [cellOut_mono (Obj.le_trans l3 l4) q out hl hq] at c4
  exact (Option.some.inj c4).symm

/-- objects whose compile cell is filled only after their load cell: true of fresh pools, kept by every call -/
def WF (p : Pool W) : Prop := ∀ (i : Nat) (o : Obj W), p[i]? = some o → o.compC.isSome → o.loadC.isSome

/-- **a repeated query returns the first answer**: `q` (Len / UsedUserTypes / Check / Build / GetAST on an object of the
pool) asked after `h1`, then again after any further history `h2`, answers the same -/
theorem repeat_same (p : Pool W) (hw : WF p) (h1 h2 : List (Op W)) (q : Op W) (i : Nat) (o : Obj W)
    (hr : cellRecv q = some i) (ho : p[i]? = some o) :
    answer p (h1 ++ q :: h2) q = answer p h1 q := by
  unfold answer
  rw [run_append]
  obtain ⟨o1, g1, l1⟩ := cells_stable p h1 i o ho
  obtain ⟨o2, g2, l2, c2⟩ := cells_after_step (run p h1).1 q i o1 hr g1
  refine answer_of_cells (step (run p h1).1 q).1 h2 q i o2 _ hr g2 c2 fun j hj => ?_
  subst hj
  refine (Obj.le_trans l1 l2).wf (hw i o ho) ?_
  cases hc : o2.compC with
  | none => simp [cellOut, hc] at c2
  | some r => rfl

/-! ## the answers are functions of the object's own inputs -/

def mkPool (specs : List (W.Text × Bool)) : Pool W := specs.map fun s => Obj.new s.1 s.2

theorem mkPool_get (specs : List (W.Text × Bool)) (i : Nat) (s : W.Text × Bool) (hs : specs[i]? = some s) :
    (mkPool specs : Pool W)[i]? = some (Obj.new s.1 s.2) := by
  simp [mkPool, hs]

theorem mkPool_wf (specs : List (W.Text × Bool)) : WF (mkPool specs : Pool W) := by
  intro i o ho hc
  simp only [mkPool, List.getElem?_map] at ho
  cases hs : specs[i]? with
  | none => simp [hs] at ho
  | some s => simp [hs] at ho; subst ho; simp [Obj.new] at hc

/-- the receiver after `h` and then the query `q`: later than the fresh object, holding the answer -/
theorem after_query (specs : List (W.Text × Bool)) (h : List (Op W)) (q : Op W) (i : Nat) (s : W.Text × Bool)
    (hs : specs[i]? = some s) (hr : cellRecv q = some i) :
    ∃ o' : Obj W, (step (run (mkPool specs) h).1 q).1[i]? = some o' ∧ (Obj.new s.1 s.2 : Obj W).le o' ∧
      cellOut o' q = some (answer (mkPool specs) h q) := by
  obtain ⟨o1, g1, l1⟩ := cells_stable (mkPool specs) h i _ (mkPool_get specs i s hs)
  obtain ⟨o2, g2, l2, c2⟩ := cells_after_step (run (mkPool specs) h).1 q i o1 hr g1
  exact ⟨o2, g2, Obj.le_trans l1 l2, c2⟩

/-- **`Len` is history-free**: after any history, on any object of a pool of fresh objects, it answers the len stage
applied to the object's own text -/
theorem len_history_free (specs : List (W.Text × Bool)) (h : List (Op W)) (i : Nat) (s : W.Text × Bool)
    (hs : specs[i]? = some s) : answer (mkPool specs) h (.len i) = outOfVal (W.len s.1) := by
  obtain ⟨o', _, l, c⟩ := after_query specs h (.len i) i s hs rfl
  have hspec := l.lenSpec (by intro r hr; simp [Obj.new] at hr)
  cases hc : o'.lenC with
  | none => simp [cellOut, hc] at c
  | some r =>
    simp only [cellOut, hc, Option.map_some, Option.some.injEq] at c
    rw [← c, hspec r hc, l.text]; rfl

/-- **`UsedUserTypes` is a function of the object's own text, options and rules**: after any history it answers the load
stage applied to the object's own text and options and a rule list `rs` which is the list of rules the object holds
(`AddRule` is refused after a load that set `inner`), and is `[]` if the object holds no rule -/
theorem used_function_of_inputs (specs : List (W.Text × Bool)) (h : List (Op W)) (i : Nat) (s : W.Text × Bool)
    (hs : specs[i]? = some s) :
    ∃ (o' : Obj W) (rs : List (String × W.Rule)),
      answer (mkPool specs) h (.used i) = usedOut (W.load s.1 s.2 rs) ∧
      ((∀ e, W.load s.1 s.2 rs ≠ .failEarly e) → rs = o'.rules) ∧ (o'.rules = [] → rs = []) ∧
      (step (run (mkPool specs) h).1 (.used i)).1[i]? = some o' := by
  obtain ⟨o2, g2, l, c2⟩ := after_query specs h (.used i) i s hs rfl
  have hspec : LoadSpec o2 := l.loadSpec (by intro r hr; simp [Obj.new] at hr)
  cases hc : o2.loadC with
  | none => simp [cellOut, hc] at c2
  | some r =>
    simp only [cellOut, hc, Option.map_some, Option.some.injEq] at c2
    obtain ⟨rs, e1, e2, e3⟩ := hspec r hc
    have ht : o2.text = s.1 := l.text
    have hp : o2.opt = s.2 := l.opt
    rw [ht, hp] at e1
    refine ⟨o2, rs, ?_, ?_, e3, g2⟩
    · rw [← c2, e1]
    · intro hne; exact e2 (by rw [e1]; exact hne)

/-! ## the compile-stage answers are fixed by the first compiling call -/

/-- receiver of a method that runs `compile()` -/
def compRecv : Op W → Option Nat
  | .check i => some i | .build i => some i | .getAST i => some i | .example i => some i | .validate i _ => some i
  | _ => none

theorem compiling_step_pool (P : Pool W) (c : Op W) (i : Nat) (hc : compRecv c = some i) :
    (step P c).1 = (ensureCompile P i).1 := by
  cases c with
  | check j | build j | getAST j | «example» j | validate j d =>
    simp only [compRecv, Option.some.injEq] at hc
    subst hc; simp only [step]
  | len j | used j | addType j n k | addRule j n r => simp [compRecv] at hc

/-- **the first compiling call fixes the verdict**: once ANY method that compiles (`Check`, `Build`, `GetAST`,
`Example`, `Validate`) was called on object `i` after the history `h1`, `Check` / `Build` on `i` answer — after every
further history `h2` — what they would have answered at that moment: the compile stage applied to the pool as it was
after `h1` (tables included), or the cached load error. Nothing called later (`AddType` on `i` or on its types, calls on
other objects) changes it. -/
theorem compile_fixes (p : Pool W) (h1 h2 : List (Op W)) (c q : Op W) (i : Nat) (o : Obj W)
    (hc : compRecv c = some i) (hq : q = .check i ∨ q = .build i) (ho : p[i]? = some o) :
    answer p (h1 ++ c :: h2) q = answer p h1 q := by
  have hr : cellRecv q = some i := by rcases hq with h | h <;> subst h <;> rfl
  have hcq : compRecv q = some i := by rcases hq with h | h <;> subst h <;> rfl
  unfold answer
  rw [run_append]
  obtain ⟨o1, g1, _⟩ := cells_stable p h1 i o ho
  obtain ⟨o2, g2, _, c2⟩ := cells_after_step (run p h1).1 q i o1 hr g1
  rw [compiling_step_pool _ q i hcq, ← compiling_step_pool _ c i hc] at g2
  exact answer_of_cells (step (run p h1).1 c).1 h2 q i o2 _ hr g2 c2 fun j hj => by rcases hq with h | h <;> subst h <;> cases hj

/-- what the compile cell of `i` holds after its first compiling call on the pool `P`: the compile stage applied to the
view of the pool after `i`'s load, with `i`'s table hoisted — or the load error -/
def compileValue (P : Pool W) (i : Nat) : Option (Except W.Err W.Compiled) :=
  let P1 := (ensureLoad P i).1
  match P1[i]?, (ensureLoad P i).2.2 with
  | some o1, some (.ok _) => some (W.compile i (view (P1.set i { o1 with types := hoisted P1 i o1.types })))
  | some _, some (.failEarly e) => some (.error e)
  | some _, some (.failLate e) => some (.error e)
  | _, _ => none

theorem ensureCompile_value (P : Pool W) (i : Nat) (o : Obj W) (ho : P[i]? = some o) (hc : o.compC = none) :
    (ensureCompile P i).2.2 = compileValue P i := by
  obtain ⟨o1, r1, ev1, hE, _⟩ := ensureLoad_spec P i o ho
  unfold ensureCompile compileValue
  simp only [ho, hc, hE, get_set_self o1 ho]
  cases r1 with
  | ok l => simp only [compileBody, get_set_self _ (get_set_self o1 ho)]
  | failEarly e => rfl
  | failLate e => rfl

/-! ## order of calls: the clean statement and its refutation -/

/-- receiver of a set-up call -/
def setupRecv : Op W → Option Nat
  | .addType i _ _ => some i | .addRule i _ _ => some i
  | _ => none

/-- the set-up calls on receiver `i`, in their order -/
def setupOf (h : List (Op W)) (i : Nat) : List (Op W) := h.filter (fun op => setupRecv op == some i)

/-- every set-up call comes before its receiver's first compiling call (`cs` = receivers compiled so far) -/
def setupFirst : List (Op W) → List Nat → Bool
  | [], _ => true
  | op :: ops, cs =>
    (match setupRecv op with | some i => !cs.contains i | none => true) &&
      setupFirst ops (match compRecv op with | some i => i :: cs | none => cs)

/-- the clean order-freedom statement: same set-up per receiver (same calls, same relative order, all before the
receiver's first compiling call), same query ⇒ same answer, whatever the interleaving -/
def OrderFree (W : World) : Prop :=
  ∀ (specs : List (W.Text × Bool)) (h1 h2 : List (Op W)) (q : Op W),
    (∀ i, setupOf h1 i = setupOf h2 i) → setupFirst h1 [] = true → setupFirst h2 [] = true → setupRecv q = none →
    answer (mkPool specs) h1 q = answer (mkPool specs) h2 q

/-- a world whose compile succeeds iff the receiver's table (after hoisting) has exactly two entries -/
@[reducible] def W2 : World where
  Text := Unit
  Err := Nat
  Loaded := Unit
  Compiled := Unit
  Rule := Unit
  Doc := Unit
  Val := Nat
  load := fun _ _ _ => .ok ()
  emptyRoot := fun _ => false
  validName := fun _ => true
  ruleCheck := fun _ => none
  compile := fun i v => match v[i]? with
    | some (_, t) => if t.length == 2 then .ok () else .error t.length
    | none => .error 99
  len := fun _ => .ok 0
  ast := fun _ => 1
  used := fun _ => 2
  exampleF := fun _ _ _ => .ok 3
  validate := fun _ _ _ _ => none

def specs3 : List (W2.Text × Bool) := [((), false), ((), false), ((), false)]
/-- root 0 gets the type `@t` = object 1, object 1 gets the type `@u` = object 2, then `Check` on the root -/
def hA : List (Op W2) := [.addType 0 "@t" 1, .addType 1 "@u" 2, .check 0]
/-- the same calls, the `AddType` on the TYPE object after the root's `Check` -/
def hB : List (Op W2) := [.addType 0 "@t" 1, .check 0, .addType 1 "@u" 2]

theorem hA_answer : answer (mkPool specs3) hA (.check 0) = .ok := by rfl
theorem hB_answer : answer (mkPool specs3) hB (.check 0) = .err 1 := by rfl

/-- the clean statement is false: the table a compile sees includes the tables of the added objects AS THEY ARE WHEN THE
ROOT COMPILES (hoisting, `loader.AddUnnamedTypes`), so an `AddType` on a type object counts only if it comes before the
first compile of every root that holds it -/
theorem not_orderFree : ¬ OrderFree W2 := by
  intro h
  have := h specs3 hA hB (.check 0)
    (by intro i; rcases i with _ | _ | i <;> rfl) (by rfl) (by rfl) (by rfl)
  rw [hA_answer, hB_answer] at this
  cases this


end SchemaObj
