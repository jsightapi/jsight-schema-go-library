import JSight.SchemaLenAnnScalar
import JSight.SchemaLenEvents
/-!
C14, "the prefix of that length is accepted with the same meaning": the events of a schema given as a token list —
scanned alone (`scanAll`, ordinary mode) and at the start of a longer text (`lengthEvents`, length mode) — are the
events `trun` computes, plus the end of a top-level scalar; `emits_atoks_whole` / `scan_atoks_whole`: the same for a token list
with multi-line annotations (`arun`) whose text is the whole input.
-/
namespace SchemaScan
namespace Len

variable {data : Array Cls}

/-- what `lenEventsLoop` returns on a drain that does not fail -/
theorem lenEventsLoop_of_drain {s : Sc} {evs : List Ev} {f : Stop} (h : Drain data s evs f) (hf : ∀ e, f ≠ .err e) :
    ∀ fuel acc, evs.length < fuel → lenEventsLoop data fuel s acc = .ok (acc.reverse ++ evs) := by
  induction h with
  | eof hn =>
    intro fuel acc hfu
    obtain ⟨f, rfl⟩ : ∃ f, fuel = f + 1 := ⟨fuel - 1, by omega⟩
    rw [lenEventsLoop]
    simp only [bind, Except.bind, hn.next, List.append_nil]
    rfl
  | top hn ht =>
    intro fuel acc hfu
    obtain ⟨f, rfl⟩ : ∃ f, fuel = f + 1 := ⟨fuel - 1, by omega⟩
    rw [lenEventsLoop]
    simp only [bind, Except.bind, hn.next, ht, List.append_nil]
    rfl
  | err hn => exact absurd rfl (hf _)
  | @ev s s' e evs f hn ht _ ih =>
    intro fuel acc hfu
    obtain ⟨f, rfl⟩ : ∃ f, fuel = f + 1 := ⟨fuel - 1, by omega⟩
    rw [lenEventsLoop]
    simp only [bind, Except.bind, hn.next]
    have : (e.ty == LexT.endTop) = false := by simpa using ht
    simp only [this]
    rw [ih hf f (e :: acc) (by simpa using hfu)]
    simp

end Len

open Len in
/-- the events `Length()` reads from a text that starts with an accepted token list and goes on with a foreign byte:
the events of the token list (`trun`), and the end of a top-level scalar -/
theorem schema_length_events_tokens (toks : List Tok) (hw : ∀ t ∈ toks, t.WF) (c' : TC) (evs : List Ev)
    (h : trun TC.init toks = some (c', evs)) (x : Cls) (rest : List Cls) (hx : x.isForeign = true) (hend : EndsAt c' x)
    (bs : List UInt8) (hbs : bs.map classify = renderToks toks ++ x :: rest) :
    lengthEvents bs = .ok (evs ++ endClosers c') := by
  have hat : At (bs.map classify).toArray 0 (renderToks toks ++ x :: rest) := At_toArray _ [] _ hbs
  obtain ⟨f, hrun, hf, -⟩ := drain_toks_embedded toks hw c' evs h x rest hx hend hat
  unfold lengthEvents
  simp only
  rw [lenEventsLoop_of_drain hrun hf _ [] hrun.length_init]
  rfl

namespace Len

/-- where a scan of the token text ALONE may end: behind the complete top-level value (`EndsAt c x` without its condition on
the byte `x` that follows) -/
def Complete (c : TC) : Prop :=
  (c.st = .endTop ∧ c.K = []) ∨ (PV c.st = true ∧ c.g = false ∧ (c.K = [] ∨ ∃ b, c.K = [(.litB, b)]))

end Len

#print axioms schema_length_events_tokens

open Len in
/-- the scan of an accepted token list (multi-line annotations included) whose text is the whole input -/
theorem emits_atoks_whole (toks : List ATok) (hw : ∀ t ∈ toks, t.WF) (c' : TC) (evs : List Ev)
    (h : arun TC.init toks = some (c', evs)) (hend : Complete c')
    (bs : List UInt8) (hbs : bs.map classify = renderAToks toks) :
    Emits (bs.map classify).toArray {} (evs ++ endClosers c') := by
  have hat : At (bs.map classify).toArray 0 (renderAToks toks) := At_toArray _ [] _ (by rw [hbs]; simp)
  have hsize : (bs.map classify).toArray.size = (renderAToks toks).length := by rw [hbs]; simp
  obtain ⟨P, hi', -⟩ := arun_doc (lc := false) toks hw c' evs h hat
  obtain ⟨st, g, K, i, CS, cx, al⟩ := c'
  simp only at hi' hend
  subst hi'
  have fin : Emits (bs.map classify).toArray (TC.sc false ⟨st, g, K, (renderAToks toks).length, CS, cx, al⟩)
      (endClosers ⟨st, g, K, (renderAToks toks).length, CS, cx, al⟩) := by
    rcases hend with ⟨rfl, rfl⟩ | ⟨hpv, rfl, hK⟩
    · exact Emits.done rfl (by simp only [TC.sc, cfgL]; omega) rfl
    · rcases hK with rfl | ⟨b, rfl⟩
      · exact Emits.done rfl (by simp only [TC.sc, cfgL]; omega) rfl
      · exact Emits.eofLit (s := TC.sc false ⟨st, false, [(.litB, b)], (renderAToks toks).length, CS, cx, al⟩)
          rfl (by simp only [TC.sc, cfgL]; omega) rfl rfl
  exact P.emits fin

#print axioms emits_atoks_whole

open Len in
/-- the event stream of the scanner model for the text of an accepted token list, multi-line annotations included -/
theorem scan_atoks_whole (toks : List ATok) (hw : ∀ t ∈ toks, t.WF) (c' : TC) (evs : List Ev)
    (h : arun TC.init toks = some (c', evs)) (hend : Complete c')
    (bs : List UInt8) (hbs : bs.map classify = renderAToks toks) :
    scanAll bs = .ok (evs ++ endClosers c') := by
  exact scanAll_of_emits rfl (emits_atoks_whole toks hw c' evs h hend bs hbs)

#print axioms scan_atoks_whole

end SchemaScan
