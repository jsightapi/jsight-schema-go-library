import JSight.CheckRulesSteps
import JSight.ListFacts
/-!
`compileNode` + `CompileAllOf` + the compatibility check accept a rule set exactly when the statement's
conditions hold (`Consistent`): theorem `pipeline_iff`.

Each step of `CR.compile` is a list of complaints and a next map (`CheckRulesSteps`), the whole pipeline one list
(`pipeline_rows`, cut after `typeConstraint`: `nodeRows`), its verdict "no complaint" (`pipeline_ok`); most steps only test.  `m2 S`, `m5 S`,
`m6 S`, `m7 S`, `mF S` are the maps after the steps that do change the map of the rule set `S`: after `falseConstraints`
and `orConstraint` (steps 1–2), after `typeConstraint` (step 5; `enum` and `precision` in between only test), after
`exclusiveMinimum` and after `exclusiveMaximum` (numbered on: `allowedConstraintCheck` and `anyConstraint` only test),
and after `CompileAllOf`.  A lemma `N_x` rewrites the condition of step `x`, taken on the map that step sees, into a
condition on `S` itself; `pipeline_iff` chains them, and `assemble` reorders the conjunction into that of `Consistent`.

The stages `m2 … mF` have no lemmas of their own.  Each step that changes the map has one equation for what the new map
answers at a key `k` and one for presence (`fc_fun` / `fc_has`, `orNext_apply` / `_has`, `typeNext_apply` / `_has`,
`exMinNext_…`, `exMaxNext_…`, `allOfNext_…`), in which `k` is compared with constraint types written out in the text;
all but `fc_fun` are `simp` lemmas.  What a step reads at a named key, through however many earlier steps, is therefore found by
unfolding the stage and comparing constructors: `simp [m7, m6, m5, m2, adds]` (with `fc_fun` for a value, `eff_eq_has`
for presence).  Only `typeConstraint` writes at a key that depends on the data (the constraint the type name adds,
`addedKey`); its equation fences that key by the list `adds` of the seven it can be, so that every other named key
still reduces.
-/
namespace CR

/-! ### the pipeline as a conjunction of step conditions on explicit intermediate maps -/

/-- the map after `orConstraint` -/
def m2 (S : CMap) : CMap := orNext (falseConstraints S)
/-- the map after `typeConstraint` -/
def m5 (S : CMap) : CMap := typeNext (m2 S)
/-- the map after `exclusiveMinimum` -/
def m6 (S : CMap) : CMap := exMinNext (m5 S)
/-- the map after `exclusiveMaximum` -/
def m7 (S : CMap) : CMap := exMaxNext (m6 S)
/-- the map the compatibility check sees -/
def mF (S : CMap) : CMap := allOfNext (m7 S)

/-- the conditions of the steps of `compileNode`, each on the map its step sees -/
def compileOK (c : Ctx) (S : CMap) : Bool :=
  orOK c (falseConstraints S) && (enumOK (m2 S) && (precOK (m2 S) && (typeOK c (m2 S) && (allowedOK (m5 S) && (anyOK c (m5 S)
    && (exMinOK (m5 S) && (exMaxOK (m6 S) && (pairsOK (m7 S) && (optOK c (m7 S) && emptyOK c (m7 S))))))))))

/-- … then `CompileAllOf` and the compatibility check -/
def pipelineOK (c : Ctx) (S : CMap) : Bool := compileOK c S && (allOfOK c (m7 S) && compatOK c (mF S))

/-! ### the pipeline as one list of complaints -/

/-- the complaints from `allowedConstraintCheck` to `emptyArray`, read on the map `m` that `typeConstraint` hands on -/
def restRows (c : Ctx) (m : CMap) : List (Option Code) :=
  allowedRows m ++ (anyRows c m ++ (gd (exMinOK m) 1109 :: gd (exMaxOK (exMinNext m)) 1110 ::
    (pairRows (exNext m) ++ (gd (optOK c (exNext m)) 1101 :: emptyRows c (exNext m)))))

/-- … and on to the compatibility check -/
def tailRows (c : Ctx) (m : CMap) : List (Option Code) :=
  restRows c m ++ (allOfRows c (exNext m) ++ [gd (compatOK c (allOfNext (exNext m))) 1117])

/-- every complaint of `compileNode` about the rule set `S`, in code order -/
def compileRows (c : Ctx) (S : CMap) : List (Option Code) :=
  orRows c (falseConstraints S) ++ (enumRows (m2 S) ++ (gd (precOK (m2 S)) 1117 :: (typeRows c (m2 S) ++ restRows c (m5 S))))

/-- … then those of `CompileAllOf` and of the compatibility check -/
def pipelineRows (c : Ctx) (S : CMap) : List (Option Code) :=
  compileRows c S ++ (allOfRows c (m7 S) ++ [gd (compatOK c (mF S)) 1117])

theorem compile_rows (c : Ctx) (S : CMap) : compile c S = firstErr (compileRows c S) (m7 S) := by
  have e : emptyArray c = fun m => firstErr (emptyRows c m) m := funext (empty_rows c)
  unfold compile compileRows restRows exNext m7 m6 m5 m2
  rw [e]
  simp only [bind_assoc, or_rows, enum_rows, prec_rows, type_rows, allowed_rows, any_rows, exMin_rows, exMax_rows, pairs_rows,
    opt_rows, firstErr_append, List.singleton_append]

theorem pipeline_rows (c : Ctx) (S : CMap) :
    (compile c S >>= allOfStep c >>= checkCompat c) = firstErr (pipelineRows c S) () := by
  have e : checkCompat c = fun m => firstErr [gd (compatOK c m) 1117] () := funext (compat_rows c)
  unfold pipelineRows mF
  rw [compile_rows, e]
  simp only [bind_assoc, allOf_rows, firstErr_append]

/-- the whole list from the map `S'` that `falseConstraints` leaves, cut where `typeConstraint` hands its map on -/
def nodeRows (c : Ctx) (S' : CMap) : List (Option Code) :=
  orRows c S' ++ (enumRows (orNext S') ++ (gd (precOK (orNext S')) 1117 ::
    (typeRows c (orNext S') ++ tailRows c (typeNext (orNext S')))))

theorem pipelineRows_eq (c : Ctx) (S : CMap) : pipelineRows c S = nodeRows c (falseConstraints S) := by
  simp only [pipelineRows, compileRows, nodeRows, tailRows, mF, m7, m6, m5, m2, exNext, List.append_assoc, List.cons_append]

theorem compileRows_all (c : Ctx) (S : CMap) : (compileRows c S).all (·.isNone) = compileOK c S := by
  simp only [compileRows, restRows, compileOK, exNext, m6, m7, List.all_append, List.all_cons, orOK, enumOK, typeOK, allowedOK,
    anyOK, pairsOK, emptyOK, gd_isNone]

theorem toOpt_compile (c : Ctx) (S : CMap) : toOpt (compile c S) = if compileOK c S then some (m7 S) else none := by
  rw [compile_rows, toOpt_firstErr, compileRows_all]

theorem pipeline_ok (c : Ctx) (S : CMap) :
    isOk (compile c S >>= allOfStep c >>= checkCompat c) = pipelineOK c S := by
  have e : (pipelineRows c S).all (·.isNone) = pipelineOK c S := by
    simp only [pipelineRows, pipelineOK, allOfOK, List.all_append, List.all_cons, List.all_nil, compileRows_all, gd_isNone,
      Bool.and_true]
  rw [pipeline_rows, isOk_eq, toOpt_firstErr, e]
  cases pipelineOK c S <;> rfl

/-! ### well-formed inputs -/

/-- the JSON type of a node goes with its class (`NKind.ctx`, `memberCtx`) -/
def Ctx.wf (c : Ctx) : Bool :=
  match c.cls with
  | .literal => c.jt = .string || c.jt = .integer || c.jt = .float || c.jt = .boolean || c.jt = .null
  | .object => c.jt = .object
  | .array => c.jt = .array
  | .mixedValue => c.jt = .mixed
  | .mixed => true

/-- what every loaded rule set looks like before `compileNode`: no constraint of the kinds only the compiler adds,
a TypesList exactly with an `or` (of at least two members) -/
structure Shape (S : CMap) : Prop where
  any : S .any = none
  email : S .email = none
  uri : S .uri = none
  uuid : S .uuid = none
  date : S .date = none
  datetime : S .datetime = none
  orT : S.has .typesList = S.has .or
  orLen : S.has .or = true → 2 ≤ typesLen S
  allOfV : ∀ v, S .allOf = some v → ∃ ns, v = .allOf ns
  typeV : ∀ v, S .type = some v → ∃ tok gen, v = .type tok gen
  minV : ∀ a e, S .min = some (.num a e) → e = false
  maxV : ∀ a e, S .max = some (.num a e) → e = false

/-- a map that agrees with a loaded rule set outside `typesList`, `or`, `type` has its shape, given the facts about
those three keys -/
theorem Shape.congr {R R' : CMap} (hR : Shape R) (h : ∀ k, k ≠ .typesList → k ≠ .or → k ≠ .type → R' k = R k)
    (orT : R'.has .typesList = R'.has .or) (orLen : R'.has .or = true → 2 ≤ typesLen R')
    (typeV : ∀ v, R' .type = some v → ∃ tok gen, v = .type tok gen) : Shape R' := by
  constructor
  case orT => exact orT
  case orLen => exact orLen
  case typeV => exact typeV
  -- every other field speaks of one key, none of the three
  all_goals rw [h _ (by decide) (by decide) (by decide)]
  all_goals cases hR; assumption

/-! ### the maps between the steps: what each step's map answers at a key -/

/-- `falseConstraints` deletes `nullable`, then `const`, each only when its value is the flag `false`; the two deletions
touch different keys, so key by key the result is `S` with exactly those bindings gone -/
theorem fc_fun (S : CMap) (k : CT) : falseConstraints S k =
    if (k = .nullable ∨ k = .const) ∧ S k = some (.flag false) then none else S k := by
  unfold falseConstraints
  by_cases hn : S .nullable = some (.flag false) <;> by_cases hc : S .const = some (.flag false)
    <;> simp only [hn, hc, if_true, if_false, CMap.del]
    <;> by_cases h1 : k = .nullable <;> by_cases h2 : k = .const <;> simp_all [CMap.del]

theorem fc_apply (S : CMap) (k : CT) (h1 : k ≠ .nullable) (h2 : k ≠ .const) : falseConstraints S k = S k := by
  rw [fc_fun]; simp [h1, h2]

/-- `eff` is by definition "present and not a false-valued `nullable` / `const`", which by `fc_fun` is presence after
`falseConstraints` -/
theorem fc_has (S : CMap) (k : CT) : (falseConstraints S).has k = eff S k := by
  unfold CMap.has eff CMap.has
  rw [fc_fun]
  by_cases h : (k = .nullable ∨ k = .const) ∧ S k = some (.flag false)
  · rw [if_pos h]; obtain ⟨h1, h2⟩ := h
    rcases h1 with h1 | h1 <;> simp [h1] <;> simp [← h1, h2]
  · rw [if_neg h]
    by_cases h1 : k = .nullable
    · simp [h1] at h ⊢; simp [h]
    · by_cases h2 : k = .const
      · simp [h2] at h ⊢; simp [h]
      · simp [h1, h2]

attribute [simp] fc_has

@[simp] theorem orNext_apply (m : CMap) (k : CT) : orNext m k = if k = .or then none else m k := by
  unfold orNext
  by_cases h : m.has .or = true
  · rw [if_pos h]; rfl
  · rw [if_neg h]; split
    · subst k; simpa [CMap.has] using h
    · rfl

/-- the constraint the type rule adds -/
def addedKey (S : CMap) : Option CT := (typeTok S).bind fun p => tyAdd (tyOf p.1)
/-- … and its value -/
def addedVal (S : CMap) : Option CV := (typeTok S).map fun p => tyAddVal (tyOf p.1)
/-- the constraint types `typeConstraint` can add (`tyAdd_mem`) -/
def adds : List CT := [.any, .email, .uri, .uuid, .date, .datetime, .typesList]

theorem mem_adds {k : CT} : k ∈ adds ↔
    k = .any ∨ k = .email ∨ k = .uri ∨ k = .uuid ∨ k = .date ∨ k = .datetime ∨ k = .typesList := by simp [adds]

theorem tyAdd_mem {ty : TyName} {k : CT} (h : tyAdd ty = some k) : k ∈ adds := by
  cases ty <;> simp [tyAdd] at h <;> simp [← h, adds]

@[simp] theorem typeNext_apply (m : CMap) (k : CT) : typeNext m k =
    if k = .type then (if (typeTok m).isSome then none else m .type)
    else if k ∈ adds ∧ addedKey m = some k then addedVal m else m k := by
  unfold typeNext addedKey addedVal
  cases typeTok m with
  | none => simp only [Option.isSome_none, Bool.false_eq_true, if_false, Option.bind_none, reduceCtorEq, and_false]; split <;> simp [*]
  | some p =>
    obtain ⟨tok, gen⟩ := p
    simp only [Option.bind_some, Option.map_some, Option.isSome_some, if_true]
    cases ha : tyAdd (tyOf tok) with
    | none => simp [CMap.del]
    | some k' =>
      have hk' := tyAdd_mem ha
      by_cases h1 : k = .type
      · simp [CMap.del, h1]
      · by_cases h2 : k = k'
        · subst h2; simp [CMap.del, CMap.set, h1, hk']
        · simp [CMap.del, CMap.set, h1, h2, Ne.symm h2]

/-- the exclusive flag of a numeric bound set, anything else left as it is -/
def setEx (x : Option CV) : Option CV :=
  match x with
  | some (.num v _) => some (.num v true)
  | x => x

theorem setExclusive_apply (m : CMap) (k k' : CT) : setExclusive m k k' = if k' = k then setEx (m k) else m k' := by
  unfold setExclusive setEx
  cases h : m k with
  | none => by_cases hk : k' = k <;> simp [hk, h]
  | some v =>
    cases v <;> by_cases hk : k' = k <;> simp [hk, h, CMap.set]

/-- the `match` is the common body of `exMinNext` and `exMaxNext`, for a flag key `f` and the bound `b` it marks -/
theorem exStep_apply (f b : CT) (m : CMap) (k : CT) :
    (match m f with | none => m | some v => (if v = CV.flag true then setExclusive m b else m).del f) k =
    if k = f then none else if k = b ∧ m f = some (.flag true) then setEx (m b) else m k := by
  cases h : m f with
  | none =>
    by_cases h1 : k = f
    · subst h1; simp [h]
    · simp [h1]
  | some v =>
    by_cases h1 : k = f
    · subst h1; simp [CMap.del]
    · by_cases hv : v = .flag true
      · subst hv
        simp only [CMap.del, h1, if_false, if_true, setExclusive_apply]
        by_cases h2 : k = b <;> simp [h2]
      · simp [CMap.del, h1, hv]

@[simp] theorem exMinNext_apply (m : CMap) (k : CT) : exMinNext m k =
    if k = .exclusiveMinimum then none
    else if k = .min ∧ m .exclusiveMinimum = some (.flag true) then setEx (m .min) else m k :=
  exStep_apply .exclusiveMinimum .min m k

@[simp] theorem exMaxNext_apply (m : CMap) (k : CT) : exMaxNext m k =
    if k = .exclusiveMaximum then none
    else if k = .max ∧ m .exclusiveMaximum = some (.flag true) then setEx (m .max) else m k :=
  exStep_apply .exclusiveMaximum .max m k

@[simp] theorem setEx_isSome (x : Option CV) : (setEx x).isSome = x.isSome := by
  unfold setEx; split <;> simp

@[simp] theorem allOfNext_apply (m : CMap) (k : CT) : allOfNext m k =
    if k = .allOf then (match m .allOf with | some (.allOf _) => none | x => x) else m k := by
  unfold allOfNext
  cases h : m .allOf with
  | none => split <;> simp [*]
  | some v => cases v <;> split <;> simp [CMap.del, *]

/-! … and the same for presence -/

theorem has_eq (m : CMap) (k : CT) : m.has k = (m k).isSome := rfl

@[simp] theorem orNext_has (m : CMap) (k : CT) : (orNext m).has k = if k = .or then false else m.has k := by
  rw [has_eq, orNext_apply]; split <;> rfl

@[simp] theorem typeNext_has (m : CMap) (k : CT) : (typeNext m).has k =
    if k = .type then (!(typeTok m).isSome && m.has .type)
    else if k ∈ adds ∧ addedKey m = some k then true else m.has k := by
  rw [has_eq, typeNext_apply]
  split
  · cases (typeTok m).isSome <;> rfl
  · split
    · next h =>
      obtain ⟨_, h⟩ := h
      unfold addedKey at h; unfold addedVal
      cases hT : typeTok m <;> simp [hT] at h ⊢
    · rfl

theorem exStep_has (f b : CT) (m : CMap) (k : CT) :
    CMap.has (match m f with | none => m | some v => (if v = CV.flag true then setExclusive m b else m).del f) k =
    if k = f then false else m.has k := by
  rw [has_eq, exStep_apply]
  split
  · rfl
  · split
    · next h => rw [setEx_isSome, h.1]; rfl
    · rfl

@[simp] theorem exMinNext_has (m : CMap) (k : CT) : (exMinNext m).has k = if k = .exclusiveMinimum then false else m.has k :=
  exStep_has .exclusiveMinimum .min m k

@[simp] theorem exMaxNext_has (m : CMap) (k : CT) : (exMaxNext m).has k = if k = .exclusiveMaximum then false else m.has k :=
  exStep_has .exclusiveMaximum .max m k

@[simp] theorem allOfNext_has (m : CMap) (k : CT) : (allOfNext m).has k =
    if k = .allOf then (match m .allOf with | some (.allOf _) => false | x => x.isSome) else m.has k := by
  rw [has_eq, allOfNext_apply]; split
  · split <;> simp_all
  · rfl

/-- the two exclusive steps together (what the bridge reads) -/
theorem exNext_apply (m : CMap) (k : CT) : exNext m k =
    if k = .exclusiveMaximum ∨ k = .exclusiveMinimum then none
    else if k = .max ∧ m .exclusiveMaximum = some (.flag true) then setEx (m .max)
    else if k = .min ∧ m .exclusiveMinimum = some (.flag true) then setEx (m .min)
    else m k := by
  by_cases h1 : k = .exclusiveMaximum <;> by_cases h2 : k = .exclusiveMinimum <;> by_cases h3 : k = .max <;> simp [exNext, *]

theorem exNext_has (m : CMap) (k : CT) : (exNext m).has k =
    if k = .exclusiveMaximum ∨ k = .exclusiveMinimum then false else m.has k := by
  by_cases h1 : k = .exclusiveMaximum <;> by_cases h2 : k = .exclusiveMinimum <;> simp [exNext, *]

/-- the `type` constraint of a loaded rule set is a type token: after `typeConstraint` it is gone -/
theorem Shape.typeGone {S : CMap} (hS : Shape S) (h : typeTok S = none) : S.has .type = false := by
  unfold typeTok at h; unfold CMap.has
  cases hv : S .type with
  | none => rfl
  | some v => obtain ⟨tok, gen, rfl⟩ := hS.typeV v hv; rw [hv] at h; cases h

/-! ### counting = "no other rule" -/

theorem onlyHas_fc (S : CMap) (A : List CT) : onlyHas (falseConstraints S) A = onlyRules S A := by
  unfold onlyHas onlyRules
  simp only [fc_has]

theorem onlyHas_absent {m : CMap} {A : List CT} (h : onlyHas m A = true) (k : CT) (hk : A.contains k = false) :
    m.has k = false := by
  have := (all_iff _).1 h k
  rw [hk] at this
  simpa using this

/-! In `len_eq_extra m A B rfl` below, `A` is the list of allowed keys as the statement has it and `B` the same keys in the
order of `CT.all`, which is how the filter that `rfl` evaluates returns them. -/

theorem count_or (m : CMap) (hor : m.has .or = true) (hty : m.has .typesList = true) :
    decide (m.len - 1 - bnat (m.has .or) - bnat (m.has .optional) - bnat (m.has .nullable) - bnat (m.has .type) = 0)
    = onlyHas m [.or, .typesList, .optional, .nullable, .type] := by
  rw [← extra_eq_zero, len_eq_extra m [.or, .typesList, .optional, .nullable, .type] [.type, .optional, .nullable, .or, .typesList] rfl, decide_eq_decide]
  simp only [List.map_cons, List.map_nil, List.sum_cons, List.sum_nil, hor, hty, bnat_true]
  omega

theorem count_enum (m : CMap) (h : m.has .enum = true) :
    decide (m.len - 1 - bnat (m.has .optional) - bnat (m.has .const) - bnat (m.has .nullable) - bnat (m.has .type) = 0)
    = onlyHas m [.enum, .optional, .const, .nullable, .type] := by
  rw [← extra_eq_zero, len_eq_extra m [.enum, .optional, .const, .nullable, .type] [.type, .optional, .nullable, .const, .enum] rfl, decide_eq_decide]
  simp only [List.map_cons, List.map_nil, List.sum_cons, List.sum_nil, h, bnat_true]
  omega

theorem count_user (m : CMap) (h : m.has .type = true) :
    decide (m.len - bnat (m.has .optional) - bnat (m.has .nullable) = 1)
    = onlyHas m [.type, .optional, .nullable] := by
  rw [← extra_eq_zero, len_eq_extra m [.type, .optional, .nullable] [.type, .optional, .nullable] rfl, decide_eq_decide]
  simp only [List.map_cons, List.map_nil, List.sum_cons, List.sum_nil, h, bnat_true]
  omega

theorem count_any (m : CMap) (h : m.has .any = true) :
    decide (m.len - 1 - bnat (m.has .optional) - bnat (m.has .nullable) - bnat (m.has .const) = 0)
    = onlyHas m [.any, .optional, .nullable, .const] := by
  rw [← extra_eq_zero, len_eq_extra m [.any, .optional, .nullable, .const] [.optional, .nullable, .const, .any] rfl, decide_eq_decide]
  simp only [List.map_cons, List.map_nil, List.sum_cons, List.sum_nil, h, bnat_true]
  omega

/-! ### the steps in terms of the rule set -/

theorem ofBytes_ne_json_mixed (b : Bytes) : TyName.ofBytes b ≠ .json .mixed := by
  unfold TyName.ofBytes
  intro h
  split at h
  · cases h
  · cases hl : tyTable.lookup b with
    | none => rw [hl] at h; cases h
    | some v =>
      rw [hl] at h; simp at h; subst h
      have := List.mem_of_lookup_eq_some _ _ _ hl
      revert this
      simp [tyTable]
theorem tyOf_ne_json_mixed (tok : Bytes) : tyOf tok ≠ .json .mixed := ofBytes_ne_json_mixed _

theorem eff_eq_has (S : CMap) (k : CT) (h1 : k ≠ .nullable) (h2 : k ≠ .const) : eff S k = S.has k := by
  simp [eff, h1, h2]

/-! `typeTok` reads the key `type` only, `typesUsers` the key `typesList`: a step that leaves the key alone leaves them alone -/

theorem typeTok_congr {m m' : CMap} (h : m' .type = m .type) : typeTok m' = typeTok m := by unfold typeTok; rw [h]
theorem typesUsers_congr {m m' : CMap} (h : m' .typesList = m .typesList) : typesUsers m' = typesUsers m := by
  unfold typesUsers; rw [h]

theorem typeTok_del (m : CMap) (k : CT) (h : k ≠ .type) : typeTok (m.del k) = typeTok m :=
  typeTok_congr (del_other m (Ne.symm h))
theorem typesUsers_del (m : CMap) (k : CT) (h : k ≠ .typesList) : typesUsers (m.del k) = typesUsers m :=
  typesUsers_congr (del_other m (Ne.symm h))

@[simp] theorem typeTok_fc (S : CMap) : typeTok (falseConstraints S) = typeTok S := typeTok_congr (by simp [fc_fun])
@[simp] theorem typesUsers_fc (S : CMap) : typesUsers (falseConstraints S) = typesUsers S := typesUsers_congr (by simp [fc_fun])
@[simp] theorem typeTok_orNext (m : CMap) : typeTok (orNext m) = typeTok m := typeTok_congr (by simp)
@[simp] theorem typesUsers_orNext (m : CMap) : typesUsers (orNext m) = typesUsers m := typesUsers_congr (by simp)
theorem typeTok_m2 (S : CMap) : typeTok (m2 S) = typeTok S := by simp [m2]
theorem typesUsers_m2 (S : CMap) : typesUsers (m2 S) = typesUsers S := by simp [m2]
@[simp] theorem addedKey_fc (S : CMap) : addedKey (falseConstraints S) = addedKey S := by simp [addedKey]
@[simp] theorem addedKey_orNext (m : CMap) : addedKey (orNext m) = addedKey m := by simp [addedKey]

theorem N_or (c : Ctx) (S : CMap) (hS : Shape S) : orOK c (falseConstraints S) = combOr c S := by
  unfold orOK orRows combOr orUsers isContainer rawIs usersAny
  rw [typeTok_fc, typesUsers_fc, fc_apply S .or (by decide) (by decide)]
  by_cases hor : S.has .or = true
  · have h1 : (falseConstraints S).has .or = true := by rw [fc_has, eff_eq_has _ _ (by decide) (by decide)]; exact hor
    have h2 : (falseConstraints S).has .typesList = true := by
      rw [fc_has, eff_eq_has _ _ (by decide) (by decide), hS.orT]; exact hor
    rw [count_or _ h1 h2, onlyHas_fc, h1, h2, hor]
    simp [Bool.and_assoc]
  · have h1 : (falseConstraints S).has .or = false := by
      rw [fc_has, eff_eq_has _ _ (by decide) (by decide)]; simpa using hor
    simp [h1, hor]

/-- without an `or` rule `orConstraint` changes nothing -/
theorem m2_noOr (S : CMap) (h : S.has .or = false) : m2 S = falseConstraints S := by
  funext k
  rw [m2, orNext_apply]
  split
  · next hk => subst hk; rw [fc_apply S .or (by decide) (by decide)]; exact ((has_false_iff _ _).1 h).symm
  · rfl

theorem m2_has_or (S : CMap) : (m2 S).has .or = false := by simp [m2]

theorem onlyRules_absent {S : CMap} {A : List CT} (h : onlyRules S A = true) (k : CT) (hk : A.contains k = false) :
    eff S k = false := by
  rw [← onlyHas_fc] at h
  rw [← fc_has]; exact onlyHas_absent h k hk

/-- with `or` present and alone, there is no enum rule -/
theorem combOr_noEnum {c : Ctx} {S : CMap} (h : combOr c S = true) (hor : S.has .or = true) : S.has .enum = false := by
  unfold combOr at h
  simp only [hor, Bool.not_true, Bool.false_or, Bool.and_eq_true] at h
  have := onlyRules_absent h.1.1.1.2 .enum (by decide)
  rwa [eff_eq_has _ _ (by decide) (by decide)] at this

theorem N_enum (c : Ctx) (S : CMap) (h : combOr c S = true) : enumOK (m2 S) = combEnum S := by
  unfold enumOK enumRows combEnum rawIs
  have e : (m2 S).has .enum = S.has .enum := by simp [m2, eff_eq_has]
  rw [typeTok_m2, e]
  by_cases hen : S.has .enum = true
  · have hor : S.has .or = false := by
      by_cases hor : S.has .or = true
      · have := combOr_noEnum h hor; rw [hen] at this; cases this
      · simpa using hor
    rw [count_enum _ (e ▸ hen), m2_noOr _ hor, onlyHas_fc, hen]
    simp
  · simp at hen; simp [hen]

theorem N_prec (S : CMap) : precOK (m2 S) = PrecisionOnlyDecimal S := by
  unfold precOK PrecisionOnlyDecimal tyName
  rw [typeTok_m2, show (m2 S).has .precision = S.has .precision by simp [m2, eff_eq_has]]
  cases typeTok S with
  | none => simp
  | some p => obtain ⟨tok, gen⟩ := p; simp

theorem hasKind_eq (c : Ctx) : hasKind c = (!decide (c.cls = .mixed) && !decide (c.cls = .mixedValue)) := by
  unfold hasKind; cases c.cls <;> simp

theorem not_hasKind (c : Ctx) : (!hasKind c) = (decide (c.cls = .mixed) || decide (c.cls = .mixedValue)) := by
  unfold hasKind; cases c.cls <;> rfl

theorem typeTok_has {S : CMap} {tok : Bytes} {gen : Bool} (h : typeTok S = some (tok, gen)) : S.has .type = true := by
  unfold typeTok at h
  cases hT : S .type with
  | none => rw [hT] at h; cases h
  | some v => simp [CMap.has, hT]

/-- `or` (alone) next to a `type` rule: the rule says "mixed" -/
theorem combOr_ty {c : Ctx} {S : CMap} (h : combOr c S = true) (hor : S.has .or = true) {tok : Bytes} {gen : Bool}
    (hT : typeTok S = some (tok, gen)) : tyOf tok = .mixed := by
  unfold combOr at h
  simp only [hor, Bool.not_true, Bool.false_or, Bool.and_eq_true] at h
  have := h.1.1.1.1
  unfold rawIs at this
  rw [hT] at this
  simp at this
  subst this
  decide

/-- … so a `type` rule that names something else excludes `or` -/
theorem combOr_noOr {c : Ctx} {S : CMap} (h : combOr c S = true) {tok : Bytes} {gen : Bool}
    (hT : typeTok S = some (tok, gen)) (hty : tyOf tok ≠ .mixed) : S.has .or = false := by
  cases hor : S.has .or with
  | false => rfl
  | true => exact absurd (combOr_ty h hor hT) hty

theorem typesLen_noOr {S : CMap} (hS : Shape S) (hor : S.has .or = false) : typesLen S = 0 := by
  have : S .typesList = none := by
    have := hS.orT; rw [hor] at this; exact (has_false_iff _ _).1 this
  unfold typesLen typesUsers; rw [this]

theorem N_type (c : Ctx) (S : CMap) (hc : c.wf = true) (hS : Shape S) (h : combOr c S = true) :
    typeOK c (m2 S) = (TypeFits c S && combUser c S) := by
  unfold typeOK typeRows TypeFits combUser tyName
  rw [typeTok_m2]
  cases hT : typeTok S with
  | none => simp
  | some p =>
    obtain ⟨tok, gen⟩ := p
    simp only [Option.map_some, Option.some.injEq]
    generalize hty : tyOf tok = ty
    -- what `typeConstraint` asks of the map it sees, asked of the rule set
    have look : ∀ k, k ≠ .or → k ≠ .nullable → k ≠ .const → (m2 S).has k = S.has k := fun k h0 h1 h2 => by
      simp [m2, h0, eff_eq_has, h1, h2]
    cases ty <;> simp only [tyRows, fits, List.all_cons, List.all_nil, gd_isNone, Bool.and_true, tyFits]
    case user =>
      have hor : S.has .or = false := combOr_noOr h hT (by rw [hty]; decide)
      have h1 : (m2 S).has .type = true := by rw [look _ (by decide) (by decide) (by decide)]; exact typeTok_has hT
      have h2 : (m2 S).has .typesList = false := by rw [look _ (by decide) (by decide) (by decide), hS.orT]; exact hor
      rw [count_user _ h1, h2, m2_noOr _ hor, onlyHas_fc]
      simp [isContainer, Bool.and_assoc]
    case mixed =>
      unfold typesLen; rw [typesUsers_m2]
      by_cases hor : S.has .or = true
      · have := hS.orLen hor; unfold typesLen at this; simp [hor, this]
      · simp at hor; have := typesLen_noOr hS hor; unfold typesLen at this; simp [hor, this]
    case json t =>
      -- a JSON type name that is the node's own fits it; on a node with a kind nothing else does
      have ht : t ≠ .mixed := fun e => tyOf_ne_json_mixed tok (by rw [hty, e])
      simp only [realTypeOK_json, hasKind_eq]
      unfold Ctx.wf at hc
      by_cases e : t = c.jt
      · subst e
        cases hcls : c.cls <;> rw [hcls] at hc <;> simp at hc ⊢
        exact ht hc
      · have e' : ¬ c.jt = t := fun x => e x.symm
        cases hcls : c.cls <;> simp [e, e']
    case unknown => rfl
    -- `enum`, `any`, `decimal` and the five formats: presence of named keys, which `look` reads off `S`
    all_goals simp [look, has_eq, hS.any, hS.email, hS.uri, hS.uuid, hS.date, hS.datetime, ← not_hasKind, realTypeOK]

theorem addedKey_some {S : CMap} {k : CT} (h : addedKey S = some k) :
    ∃ tok gen, typeTok S = some (tok, gen) ∧ tyAdd (tyOf tok) = some k := by
  unfold addedKey at h
  cases hT : typeTok S with
  | none => rw [hT] at h; cases h
  | some p => rw [hT] at h; exact ⟨p.1, p.2, rfl, h⟩

theorem isFormat_added (ty : TyName) :
    (decide (tyAdd ty = some CT.email) || decide (tyAdd ty = some CT.uri) || decide (tyAdd ty = some CT.uuid) ||
      decide (tyAdd ty = some CT.date) || decide (tyAdd ty = some CT.datetime)) = ty.isFormat := by
  cases ty <;> simp [tyAdd, TyName.isFormat]

theorem isAny_added (ty : TyName) : decide (tyAdd ty = some CT.any) = decide (some ty = some TyName.any) := by
  cases ty <;> simp [tyAdd]

theorem tyName_some {S : CMap} {t : TyName} (h : tyName S = some t) : ∃ tok gen, typeTok S = some (tok, gen) ∧ tyOf tok = t := by
  unfold tyName at h
  cases hT : typeTok S with
  | none => rw [hT] at h; cases h
  | some p => obtain ⟨tok, gen⟩ := p; rw [hT] at h; simp at h; exact ⟨tok, gen, rfl, h⟩

theorem eff_none {S : CMap} {k : CT} (h : S k = none) : eff S k = false := by simp [eff, has_eq, h]

/-- a loaded rule set has none of the constraints `typeConstraint` adds for `any` and the formats -/
theorem Shape.noAdded {S : CMap} (hS : Shape S) : eff S .any = false ∧ eff S .email = false ∧ eff S .uri = false
    ∧ eff S .uuid = false ∧ eff S .date = false ∧ eff S .datetime = false :=
  ⟨eff_none hS.any, eff_none hS.email, eff_none hS.uri, eff_none hS.uuid, eff_none hS.date, eff_none hS.datetime⟩

theorem hasFormat_m5 (S : CMap) (hS : Shape S) :
    hasFormat (m5 S) = (match typeTok S with | some (tok, _) => (tyOf tok).isFormat | none => false) := by
  simp only [hasFormat, m5, m2, typeNext_has, orNext_has, fc_has, adds, addedKey_orNext, addedKey_fc, hS.noAdded, List.mem_cons, reduceCtorEq,
    List.not_mem_nil, or_false, or_true, true_and, if_false, Bool.if_false_right, Bool.and_true]
  unfold addedKey
  cases typeTok S with
  | none => simp
  | some p => obtain ⟨tok, gen⟩ := p; simp only [Option.bind_some]; exact isFormat_added _

theorem m5_has_any (S : CMap) (hS : Shape S) : (m5 S).has .any = decide (tyName S = some .any) := by
  simp only [m5, m2, typeNext_has, orNext_has, fc_has, adds, addedKey_orNext, addedKey_fc, hS.noAdded, List.mem_cons, reduceCtorEq,
    List.not_mem_nil, or_false, true_and, if_false, Bool.if_false_right, Bool.and_true]
  unfold addedKey tyName
  cases typeTok S with
  | none => simp
  | some p => obtain ⟨tok, gen⟩ := p; simp only [Option.bind_some, Option.map_some]; exact isAny_added _

/-- presence after `typeConstraint`, for every key -/
theorem m5_has_all (S : CMap) (hS : Shape S) (k : CT) :
    (m5 S).has k = (if k = .type ∨ k = .or then false else if addedKey S = some k then true else eff S k) := by
  simp only [m5, m2, typeNext_has, orNext_has, fc_has, addedKey_orNext, addedKey_fc]
  by_cases h1 : k = .type
  · subst h1; simpa [eff_eq_has] using hS.typeGone
  · by_cases h0 : k = .or
    · subst h0; simp [adds]
    · simp only [h1, h0, if_false, or_self]
      by_cases ha : addedKey S = some k
      · obtain ⟨_, _, _, ha'⟩ := addedKey_some ha; simp [ha, tyAdd_mem ha']
      · simp [ha]

/-- with `type: "any"` (so no `or`): "only `any`, optional, nullable, const, and not `const`" after `typeConstraint` is
"only `type`, optional, nullable" of the rule set -/
theorem onlyHas_m5_any (S : CMap) (hS : Shape S) (hadd : addedKey S = some .any) (hor : S.has .or = false) :
    (!(m5 S).has .const && onlyHas (m5 S) [.any, .optional, .nullable, .const]) = onlyRules S [.type, .optional, .nullable] := by
  have hm : ∀ k, k ≠ .type → k ≠ .or → k ≠ .any → (m5 S).has k = eff S k := by
    intro k h1 h2 h3
    rw [m5_has_all S hS, hadd, if_neg (by simp [h1, h2]), if_neg (fun e => h3 (Option.some.inj e).symm)]
  have hSany : eff S .any = false := by
    rw [eff_eq_has _ _ (by decide) (by decide)]; exact (has_false_iff _ _).2 hS.any
  have hSor : eff S .or = false := by rw [eff_eq_has _ _ (by decide) (by decide)]; exact hor
  rw [Bool.eq_iff_iff, Bool.and_eq_true, Bool.not_eq_true', hm .const (by decide) (by decide) (by decide),
    onlyHas, onlyRules, all_iff, all_iff]
  constructor
  · rintro ⟨hc, H⟩ k
    by_cases h1 : k = .type
    · subst h1; simp
    by_cases h2 : k = .or
    · subst h2; simp [hSor]
    by_cases h3 : k = .any
    · subst h3; simp [hSany]
    by_cases h4 : k = .const
    · subst h4; simp [hc]
    have := H k
    rw [hm k h1 h2 h3] at this
    simpa [h1, h3, h4] using this
  · intro H
    refine ⟨by simpa using H .const, fun k => ?_⟩
    by_cases h1 : k = .type
    · subst h1; simp [m5_has_all S hS]
    by_cases h2 : k = .or
    · subst h2; simp [m5_has_all S hS]
    by_cases h3 : k = .any
    · subst h3; simp
    have := H k
    rw [hm k h1 h2 h3]
    by_cases h4 : k = .const
    · subst h4; simp at this; simp [this]
    simpa [h1, h3, h4] using this

theorem N_allowed_any (c : Ctx) (S : CMap) (hS : Shape S) (h : combOr c S = true) :
    (allowedOK (m5 S) && anyOK c (m5 S)) = (FormatExcludesLengthRegex S && combAny c S) := by
  unfold allowedOK anyOK allowedRows anyRows FormatExcludesLengthRegex combAny
  simp only [List.all_cons, List.all_nil, gd_isNone, Bool.and_true]
  rw [hasFormat_m5 S hS]
  by_cases hany : tyName S = some .any
  · obtain ⟨tok, gen, hT, hty⟩ := tyName_some hany
    have hadd : addedKey S = some .any := by unfold addedKey; rw [hT]; simp [hty, tyAdd]
    have hor : S.has .or = false := combOr_noOr h hT (by rw [hty]; decide)
    have hanyhas : (m5 S).has .any = true := by rw [m5_has_any S hS]; simp [hany]
    rw [count_any _ hanyhas, hanyhas, ← onlyHas_m5_any S hS hadd hor]
    simp [hT, hty, hany, TyName.isFormat, isContainer, Bool.and_assoc]
  · have hanyhas : (m5 S).has .any = false := by rw [m5_has_any S hS]; simp [hany]
    have e : (m5 S).has .minLength = S.has .minLength ∧ (m5 S).has .maxLength = S.has .maxLength
        ∧ (m5 S).has .regex = S.has .regex := by simp [m5, m2, adds, eff_eq_has]
    rw [hanyhas, e.1, e.2.1, e.2.2]
    unfold tyName at hany ⊢
    cases hT : typeTok S with
    | none => simp
    | some p => obtain ⟨tok, gen⟩ := p; rw [hT] at hany; simp at hany; simp [hany]

theorem N_ex (S : CMap) : (exMinOK (m5 S) && exMaxOK (m6 S)) = ExclusiveHasBound S := by
  simp [exMinOK, exMaxOK, ExclusiveHasBound, m6, m5, m2, adds, eff_eq_has]

/-- the bounds as read carry no exclusive flag (`ha`, `hb`): after the exclusive steps each carries its own -/
theorem pairNum_setEx (e1 e2 : Bool) (a b : Option CV) (ha : ∀ v e, a = some (.num v e) → e = false)
    (hb : ∀ v e, b = some (.num v e) → e = false) :
    (pairNumRow (if e1 then setEx a else a) (if e2 then setEx b else b)).isNone = numPairOK (e1 || e2) a b := by
  cases a with
  | none => cases e1 <;> rfl
  | some va =>
    cases va with
    | num x ex =>
      cases ha x ex rfl
      cases b with
      | none => cases e1 <;> cases e2 <;> rfl
      | some vb =>
        cases vb with
        | num y ey => cases hb y ey rfl; cases e1 <;> cases e2 <;> exact gd_isNone _ _
        | _ => cases e1 <;> cases e2 <;> rfl
    | _ => cases e1 <;> rfl

theorem N_pairs (S : CMap) (hS : Shape S) : pairsOK (m7 S) = PairsOrdered S := by
  unfold pairsOK pairRows PairsOrdered strictPair
  simp only [List.all_cons, List.all_nil, pairNatRow_isNone, Bool.and_true, ← Bool.and_assoc]
  have := pairNum_setEx (decide (S .exclusiveMinimum = some (.flag true))) (decide (S .exclusiveMaximum = some (.flag true)))
    (S .min) (S .max) hS.minV hS.maxV
  simp only [decide_eq_true_eq] at this
  simp [m7, m6, m5, m2, adds, fc_fun, this]

theorem N_opt (c : Ctx) (S : CMap) : optOK c (m7 S) = (!S.has .optional || c.isProp) := by
  simp [optOK, m7, m6, m5, m2, adds, eff_eq_has]

theorem N_empty (c : Ctx) (S : CMap) : emptyOK c (m7 S) = EmptyArrayCounts c S := by
  unfold emptyOK emptyRows EmptyArrayCounts
  simp only [List.all_cons, List.all_nil, gd_isNone, Bool.and_true, ← Bool.or_and_distrib_left]
  simp [m7, m6, m5, m2, adds, fc_fun]

theorem N_allOf (c : Ctx) (S : CMap) (hS : Shape S) :
    allOfOK c (m7 S) = (AllOfNamesSomething S && (!S.has .allOf || decide (c.cls = .object))) := by
  unfold allOfOK allOfRows AllOfNamesSomething CMap.has
  rw [show m7 S .allOf = S .allOf by simp [m7, m6, m5, m2, adds, fc_fun]]
  cases h : S .allOf with
  | none => simp
  | some v =>
    obtain ⟨ns, e⟩ := hS.allOfV v h
    subst e; simp

theorem mF_has (S : CMap) (hS : Shape S) (k : CT) : (mF S).has k =
    if k = .allOf ∨ k = .exclusiveMaximum ∨ k = .exclusiveMinimum ∨ k = .type ∨ k = .or then false
    else if addedKey S = some k then true else eff S k := by
  have hall : m7 S .allOf = S .allOf := by simp [m7, m6, m5, m2, adds, fc_fun]
  have hv : (match S .allOf with | some (.allOf _) => false | x => x.isSome) = false := by
    cases h : S .allOf with
    | none => rfl
    | some v => obtain ⟨ns, rfl⟩ := hS.allOfV v h; rfl
  rw [mF, allOfNext_has, hall, hv]
  simp only [m7, m6, exMaxNext_has, exMinNext_has, m5_has_all S hS]
  by_cases h : k = .allOf ∨ k = .exclusiveMaximum ∨ k = .exclusiveMinimum ∨ k = .type ∨ k = .or
  · rcases h with rfl | rfl | rfl | rfl | rfl <;> simp
  · rw [if_neg h]; simp only [not_or] at h; simp [h]

theorem addedKey_cases (S : CMap) : addedKey S = none ∨ addedKey S = some .any ∨ addedKey S = some .email
    ∨ addedKey S = some .uri ∨ addedKey S = some .uuid ∨ addedKey S = some .date ∨ addedKey S = some .datetime
    ∨ addedKey S = some .typesList := by
  cases h : addedKey S with
  | none => simp
  | some k =>
    obtain ⟨_, _, _, h⟩ := addedKey_some h
    rcases mem_adds.1 (tyAdd_mem h) with e | e | e | e | e | e | e <;> simp [e]

/-- a format added by the type rule: the rule names that format -/
theorem addedKey_fmt {S : CMap} {k : CT} (h : addedKey S = some k) (hk : k = .email ∨ k = .uri ∨ k = .uuid ∨ k = .date ∨ k = .datetime) :
    ∃ tok gen, typeTok S = some (tok, gen) ∧ (tyOf tok).isFormat = true := by
  obtain ⟨tok, gen, hT, h⟩ := addedKey_some h
  refine ⟨tok, gen, hT, ?_⟩
  generalize tyOf tok = ty at h
  cases ty <;> simp [tyAdd] at h <;> simp [TyName.isFormat] <;> (subst h; simp at hk)

theorem fits_fmt {c : Ctx} {S : CMap} (hk : hasKind c = true) (hTF : TypeFits c S = true) {tok : Bytes} {gen : Bool}
    (hT : typeTok S = some (tok, gen)) (hf : (tyOf tok).isFormat = true) : c.jt = .string := by
  unfold TypeFits at hTF
  rw [hT] at hTF
  simp only at hTF
  generalize tyOf tok = ty at hTF hf
  cases ty <;> simp [TyName.isFormat] at hf <;> simp [tyFits, hk] at hTF <;> exact hTF

theorem wf_object {c : Ctx} (hc : c.wf = true) (h : c.cls = .object) : c.jt = .object := by
  unfold Ctx.wf at hc; rw [h] at hc; simpa using hc

theorem compat_iff (c : Ctx) (S : CMap) (hc : c.wf = true) (hS : Shape S) (hk : hasKind c = true)
    (hTF : TypeFits c S = true) (hEx : ExclusiveHasBound S = true)
    (hAO : (!S.has .allOf || decide (c.cls = .object)) = true) :
    (CT.all.all fun k => !(mF S).has k || compat k c.jt) = (CT.all.all fun k => !eff S k || compat k c.jt) := by
  rw [Bool.eq_iff_iff, all_iff, all_iff]
  unfold ExclusiveHasBound at hEx
  simp only [Bool.and_eq_true, Bool.or_eq_true, Bool.not_eq_true', decide_eq_true_eq] at hEx hAO
  obtain ⟨hEx1, hEx2⟩ := hEx
  constructor
  · intro H k
    by_cases hE : eff S k = true
    · have key : ∀ k', eff S k' = true → ¬(k' = .allOf ∨ k' = .exclusiveMaximum ∨ k' = .exclusiveMinimum ∨ k' = .type ∨ k' = .or)
          → compat k' c.jt = true := by
        intro k' hE' hn
        have := H k'
        rw [mF_has S hS, if_neg hn] at this
        have h2 : (if addedKey S = some k' then true else eff S k') = true := by split <;> simp [hE']
        rw [h2] at this; simpa using this
      rw [hE]
      show compat k c.jt = true
      by_cases hsp : (k = .allOf ∨ k = .exclusiveMaximum ∨ k = .exclusiveMinimum ∨ k = .type ∨ k = .or)
      · -- an exclusive flag has its bound, and the bound applies to the same kinds
        rcases hsp with rfl | rfl | rfl | rfl | rfl
        · rw [eff_eq_has _ _ (by decide) (by decide)] at hE
          rcases hAO with h | h
          · rw [hE] at h; cases h
          · simp [compat, wf_object hc h]
        · rw [eff_eq_has _ _ (by decide) (by decide)] at hE
          rcases hEx2 with h | h
          · rw [hE] at h; cases h
          · exact key .max (by rw [eff_eq_has _ _ (by decide) (by decide)]; exact h) (by decide)
        · rw [eff_eq_has _ _ (by decide) (by decide)] at hE
          rcases hEx1 with h | h
          · rw [hE] at h; cases h
          · exact key .min (by rw [eff_eq_has _ _ (by decide) (by decide)]; exact h) (by decide)
        · rfl
        · rfl
      · exact key k hE hsp
    · simp at hE; simp [hE]
  · intro H k
    rw [mF_has S hS]
    by_cases hsp : (k = .allOf ∨ k = .exclusiveMaximum ∨ k = .exclusiveMinimum ∨ k = .type ∨ k = .or)
    · simp [hsp]
    · rw [if_neg hsp]
      by_cases ha : addedKey S = some k
      · rw [if_pos ha]
        have hstr : (k = .email ∨ k = .uri ∨ k = .uuid ∨ k = .date ∨ k = .datetime) → c.jt = .string := by
          intro hf
          obtain ⟨tok, gen, hT, hfm⟩ := addedKey_fmt ha hf
          exact fits_fmt hk hTF hT hfm
        obtain ⟨_, _, _, ha⟩ := addedKey_some ha
        rcases mem_adds.1 (tyAdd_mem ha) with e | e | e | e | e | e | e <;> subst e <;> simp [compat] <;> (apply hstr; simp)
      · rw [if_neg ha]; exact H k

theorem pipelineOK_eq (c : Ctx) (S : CMap) : pipelineOK c S =
    (orOK c (falseConstraints S) && (enumOK (m2 S) && (precOK (m2 S) && (typeOK c (m2 S) && ((allowedOK (m5 S) && anyOK c (m5 S))
      && ((exMinOK (m5 S) && exMaxOK (m6 S)) && (pairsOK (m7 S) && (optOK c (m7 S) && (emptyOK c (m7 S)
      && (allOfOK c (m7 S) && compatOK c (mF S)))))))))))  := by
  simp only [pipelineOK, compileOK, Bool.and_assoc]

theorem compatOK_applies (c : Ctx) (S : CMap) (hc : c.wf = true) (hS : Shape S)
    (hTF : TypeFits c S = true) (hEx : ExclusiveHasBound S = true)
    (hAO : (!S.has .allOf || decide (c.cls = .object)) = true) :
    compatOK c (mF S) = (!hasKind c || CT.all.all fun k => !eff S k || compat k c.jt) := by
  unfold compatOK
  by_cases hk : hasKind c = true
  · rw [compat_iff c S hc hS hk hTF hEx hAO, hk]
    rw [hasKind_eq] at hk
    simp only [Bool.and_eq_true, Bool.not_eq_true'] at hk
    rw [hk.1, hk.2]; simp
  · simp only [Bool.not_eq_true] at hk
    rw [hk]
    rw [hasKind_eq] at hk
    cases h1 : decide (c.cls = .mixed) <;> cases h2 : decide (c.cls = .mixedValue) <;> simp [h1, h2] at hk ⊢

theorem and_congr_of_imp (p x y : Bool) (h : p = true → x = y) : (p && x) = (p && y) := by
  cases p
  · rfl
  · exact congrArg _ (h rfl)

/-- both sides are the conjunction of the same conditions, except for `x` against `y`, which agree when `tf`, `ex`
and `ao` hold -/
theorem assemble (a b c d e f g i j tf ex ao x y : Bool) (hxy : tf = true → ex = true → ao = true → x = y) :
    (a && (b && ((tf && c) && ((d && e) && (ex && (f && (g && (i && ((j && ao) && x))))))))) =
    ((y && g && ao) && f && ex && b && d && (true && a && e && c) && tf && i && j) := by
  have h : ((tf && ex && ao) && x) = ((tf && ex && ao) && y) :=
    and_congr_of_imp _ x y fun h => by
      simp only [Bool.and_eq_true] at h
      exact hxy h.1.1 h.1.2 h.2
  calc _ = (((tf && ex && ao) && x) && (a && b && c && d && e && f && g && i && j)) := by ac_rfl
    _ = (((tf && ex && ao) && y) && (a && b && c && d && e && f && g && i && j)) := by rw [h]
    _ = _ := by rw [Bool.true_and]; ac_rfl

/-- `compileNode`, `CompileAllOf` and the compatibility check accept a rule set exactly when the statement's
conditions hold -/
theorem pipeline_iff (c : Ctx) (S : CMap) (hc : c.wf = true) (hS : Shape S) : pipelineOK c S = Consistent c S := by
  rw [pipelineOK_eq, N_or c S hS]
  by_cases h : combOr c S = true
  · rw [N_enum c S h, N_prec, N_type c S hc hS h, N_allowed_any c S hS h, N_ex, N_pairs S hS, N_opt, N_empty, N_allOf c S hS, h]
    unfold Consistent CombinatorsAlone Applies
    rw [h]
    simp only [Bool.true_and]
    exact assemble _ _ _ _ _ _ _ _ _ _ _ _ _ _ (compatOK_applies c S hc hS)
  · simp at h
    unfold Consistent CombinatorsAlone
    simp [h]

/-- the compiler, `CompileAllOf` and the compatibility check on a loaded rule set -/
theorem compile_iff (c : Ctx) (S : CMap) (hc : c.wf = true) (hS : Shape S) :
    isOk (compile c S >>= allOfStep c >>= checkCompat c) = Consistent c S := by
  rw [pipeline_ok, pipeline_iff c S hc hS]

end CR
