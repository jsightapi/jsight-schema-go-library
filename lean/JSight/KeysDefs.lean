import JSight.ATreeDefs
/-!
C15 / C13, raw keys. Loader side: the abstraction `absK` that keeps the key TOKENS (`src[b..e]` of the recorded key
spans, quotes included) in the `keys` slot of `XNode` where `absX` keeps the decoded keys; `dec` maps the one to the
other; `absK` is `absG rawOf`, so the lemmas `X_*` of `AnnTreeLoad` apply (`LS.iffG`). Tree side: the table an annotated
tree denotes with its key tokens in the `keys` slot (`ATree.tableK`) — `ATree.table` with `AMembers.rkeys` for
`AMembers.keys`.
-/
namespace Loader.K
open Loader

/-- the key token of a recorded key span -/
def rawOf (src : Array UInt8) (k : Nat × Nat × Bool) : List UInt8 × Bool := (slice src k.1 k.2.1, k.2.2)

/-- what the loader compares (`keyText`), from the key token -/
def dec (k : List UInt8 × Bool) : List UInt8 × Bool := (if k.2 then k.1 else Unquote.unquote k.1, k.2)

theorem dec_rawOf (src : Array UInt8) (k : Nat × Nat × Bool) : dec (rawOf src k) = keyText src k := rfl

/-- a node read against the text, keys as WRITTEN -/
def absK (src : Array UInt8) (n : Node) : XNode := { absX src n with keys := n.keys.map (rawOf src) }

/-- the part of the loader state the node loader reads, on the abstraction -/
structure LS (src : Array UInt8) (st : St) (AL : List XNode) (leaf last : Option Nat) (pl : Nat) (root : Option Nat) :
    Prop where
  nodes : st.nodes.toList.map (absK src) = AL
  leaf : st.leaf = leaf
  last : st.last = last
  pl : st.perLine = pl
  root : st.root = root
  mode : st.mode = .default

theorem LS.iffG {src : Array UInt8} {st : St} {AL : List XNode} {leaf last : Option Nat} {pl : Nat} {root : Option Nat} :
    LS src st AL leaf last pl root ↔ LSG rawOf src st AL leaf last pl root :=
  ⟨fun h => ⟨h.nodes, h.leaf, h.last, h.pl, h.root, h.mode⟩, fun h => ⟨h.nodes, h.leaf, h.last, h.pl, h.root, h.mode⟩⟩

end Loader.K

namespace AT
open Loader (XNode xfresh)

/-- key tokens as written, in source order -/
def AMembers.rkeys : AMembers → List (Bytes × Bool)
  | .nil _ => []
  | .cons _ k _ _ _ _ _ rest => (k, false) :: rest.rkeys

theorem AMembers.rkeys_dec : (ms : AMembers) → ms.rkeys.map Loader.K.dec = ms.keys
  | .nil _ => rfl
  | .cons _ k _ _ _ _ _ rest => by
    simp only [AMembers.rkeys, AMembers.keys, List.map_cons, AMembers.rkeys_dec rest]
    rfl

mutual
def ATree.nodesK (par : Option Nat) : Nat → ATree → List XNode
  | _, .scalar tok an => [annX (an.map (·.a)) { xfresh .lit par with value := some tok }]
  | n, .arr an items =>
    { annX (an.map (·.2)) (xfresh .arr par) with children := items.idx (n + 1) } :: items.nodesK n (n + 1)
  | n, .obj an ms =>
    { annX (an.map (·.2)) (xfresh .obj par) with children := ms.idx (n + 1), keys := ms.rkeys } :: ms.nodesK n (n + 1)
def AItems.nodesK (a : Nat) : Nat → AItems → List XNode
  | _, .nil _ => []
  | n, .cons _ v _ _ rest => v.nodesK (some a) n ++ rest.nodesK a (n + v.count)
def AMembers.nodesK (a : Nat) : Nat → AMembers → List XNode
  | _, .nil _ => []
  | n, .cons _ _ _ _ v _ _ rest => v.nodesK (some a) n ++ rest.nodesK a (n + v.count)
end

/-- the table an annotated tree denotes, keys as written -/
def ATree.tableK (t : ATree) : List XNode := t.nodesK none 0

end AT
