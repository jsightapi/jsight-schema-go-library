import JSight.ExampleKProofs
/-!
C15: the FULL self-validation statement is false for the library, and the model agrees with the library on the
recorded witnesses: the builder model emits exactly the text the real `Example()` returns, and the validator model
rejects it, as the real `Validate` does.

* K-C15-reqcut — `@t = {"a": @u // {optional: true}}`, `@u = {"b": @t}`, root `@t`: `{"a":{"b":{"a":{}}}}`.
* K-C15-arraycut — `@t = [@t // {nullable: true}, 1]`, root `[@t]`: `[[[1],1]]`.
* K-C15-keyclash — `{"a": 1, @K: null}` with `@K = "a"`: `{"a":1,"a":null}` (the key type's example is also a
  literal key of the object) is rejected.
-/
namespace VK.Witness
open JsonScan (Cls JA)
open VN (J)

/-- literals are named by their text; a value passes a literal's rules when it is that text -/
def litOK (l d : String) : Bool := l == d

def wTok (s : String) : List Cls :=
  if s == "a" then [.quote, .la, .quote] else if s == "b" then [.quote, .lb, .quote]
  else if s == "1" then [.d19] else [.ln, .lu, .ll, .ll]

theorem checkedEnv_of_all (env : Env String) (h : env.all (fun p => checkedS litOK id p.2) = true) :
    CheckedEnv env litOK id := by
  intro n t hl
  unfold lookupT at hl
  cases hf : env.find? (·.1 == n) with
  | none => rw [hf] at hl; simp at hl
  | some p =>
    rw [hf] at hl; simp at hl; subst hl
    exact List.all_eq_true.1 h p (List.mem_of_find?_eq_some hf)

theorem keyLink (env : Env String) : KeyLink env litOK (fun _ _ => true) id id := by
  intro K l _; simp [litOK]

theorem keyTokLink (env : Env String) : KeyTokLink wTok wTok env id id := fun _ _ _ => rfl

/-! ### K-C15-reqcut -/

def envReq : Env String :=
  [("t", .obj [("a", false, .ref ["u"] none)] [] .none), ("u", .obj [("b", true, .ref ["t"] none)] [] .none)]

def docReq : J String := .obj [("a", .obj [("b", .obj [("a", .obj [])])])]

theorem reqcut_emitted :
    EXK.build (tsOfK wTok wTok id envReq) 8 (fun _ => 0) (ofK wTok wTok id (.ref ["t"] none))
      = some (some (VR.jaOfN wTok wTok docReq).render) := by
  simp [EXK.build, EXK.buildProps, EXK.buildKey, EXK.lookupT, tsOfK, ofK, ofKProps, ofKShorts, envReq, EX.bump, EX.joinC,
    docReq, VR.jaOfN, VR.jaMembersN, JA.render, JsonScan.renderMembers, wTok]

theorem reqcut_rejected : validateT envReq litOK (fun _ _ => true) (.ref ["t"] none) docReq = false := by
  rw [C03_key_shortcuts]
  decide

/-- the replay says so: the cut-off is consumed at the REQUIRED property `b` -/
theorem reqcut_outside (strict : Bool) : exDoc envReq id id strict 8 (fun _ => 0) (.ref ["t"] none) = none := by
  simp [exDoc, exProps, exShorts, lookupT, envReq, bump]

/-! ### K-C15-arraycut -/

def envArr : Env String := [("t", .arr [.ref ["t"] (some "null"), .lit "1"])]

def docArr : J String := .arr [.arr [.arr [.lit "1"], .lit "1"]]

theorem arraycut_emitted :
    EXK.build (tsOfK wTok wTok id envArr) 8 (fun _ => 0) (ofK wTok wTok id (.arr [.ref ["t"] none]))
      = some (some (VR.jaOfN wTok wTok docArr).render) := by
  simp [EXK.build, EXK.buildKids, EXK.lookupT, tsOfK, ofK, ofKItems, envArr, EX.bump, EX.joinC,
    docArr, VR.jaOfN, VR.jaItemsN, JA.render, JsonScan.renderItems, wTok]

theorem arraycut_rejected : validateT envArr litOK (fun _ _ => true) (.arr [.ref ["t"] none]) docArr = false := by
  rw [C03_key_shortcuts]
  decide

/-! ### a key shortcut whose type example is also a literal key of the object -/

def envKey : Env String := [("K", .lit "a")]

def schemaKey : S String := .obj [("a", true, .lit "1")] [("K", true, .lit "null")] .none

def docKey : J String := .obj [("a", .lit "1"), ("a", .lit "null")]

theorem keyclash_emitted :
    EXK.build (tsOfK wTok wTok id envKey) 8 (fun _ => 0) (ofK wTok wTok id schemaKey)
      = some (some (VR.jaOfN wTok wTok docKey).render) := by
  simp [EXK.build, EXK.buildProps, EXK.buildKey, EXK.lookupT, tsOfK, ofK, ofKProps, ofKShorts, envKey, schemaKey,
    EX.joinC, docKey, VR.jaOfN, VR.jaMembersN, JA.render, JsonScan.renderMembers, wTok]

theorem keyclash_rejected : validateT envKey litOK (fun _ _ => true) schemaKey docKey = false := by
  rw [C03_key_shortcuts]
  decide

/-! ### the full statement and its negation -/

/-- the property as its text reads, on the model: whatever a checked schema's builder emits, its validator accepts -/
def SelfValidFull : Prop :=
  ∀ (L D : Type) (env : Env L) (litOK : L → D → Bool) (keyOK : String → String → Bool) (ex : L → D) (keyStr : D → String)
    (tok : D → List Cls) (keyTok : String → List Cls),
    CheckedEnv env litOK ex → KeyLink env litOK keyOK ex keyStr → KeyTokLink tok keyTok env ex keyStr →
    ∀ (fuel : Nat) (s : S L), checkedS litOK ex s = true → ∀ d : J D,
      EXK.build (tsOfK tok keyTok ex env) fuel (fun _ => 0) (ofK tok keyTok ex s)
        = some (some (VR.jaOfN tok keyTok d).render) →
      validateT env litOK keyOK s d = true

/-- a checked schema whose emitted example the validator rejects refutes it -/
theorem not_selfValidFull (env : Env String) (s : S String) (d : J String)
    (henv : env.all (fun p => checkedS litOK id p.2) = true) (hs : checkedS litOK id s = true)
    (he : EXK.build (tsOfK wTok wTok id env) 8 (fun _ => 0) (ofK wTok wTok id s) = some (some (VR.jaOfN wTok wTok d).render))
    (hr : validateT env litOK (fun _ _ => true) s d = false) : ¬ SelfValidFull := by
  intro h
  have := h String String env litOK (fun _ _ => true) id id wTok wTok (checkedEnv_of_all env henv) (keyLink _)
    (keyTokLink _) 8 s hs d he
  rw [hr] at this
  cases this

theorem selfValidFull_false_reqcut : ¬ SelfValidFull :=
  not_selfValidFull envReq (.ref ["t"] none) docReq (by decide) rfl reqcut_emitted reqcut_rejected

theorem selfValidFull_false_arraycut : ¬ SelfValidFull :=
  not_selfValidFull envArr (.arr [.ref ["t"] none]) docArr (by decide) rfl arraycut_emitted arraycut_rejected

theorem selfValidFull_false_keyclash : ¬ SelfValidFull :=
  not_selfValidFull envKey schemaKey docKey (by decide) (by decide) keyclash_emitted keyclash_rejected

/-! ### non-vacuity of the positive theorems: optional recursion, a key shortcut, an omitted array suffix -/

/-- `@t = {"a": 1, "t": @t // {optional: true}}`: the cut-off falls on the optional property -/
def envOpt : Env String := [("t", .obj [("a", true, .lit "1"), ("t", false, .ref ["t"] none)] [] .none)]

theorem optcut_inside : exDoc envOpt id id true 8 (fun _ => 0) (.ref ["t"] none)
    = some (some (.obj [("a", .lit "1"), ("t", .obj [("a", .lit "1")])])) := by
  simp [exDoc, exProps, exShorts, lookupT, envOpt, bump]

theorem envOpt_checked : CheckedEnv envOpt litOK id := checkedEnv_of_all envOpt (by decide)

/-- `{"b": 1, @K: [@t]}` with `@K = "a"`, `@t = [@t]`: a key shortcut, and an omitted last array element -/
def envMix : Env String := [("K", .lit "a"), ("t", .arr [.ref ["t"] none])]

def schemaMix : S String := .obj [("b", true, .lit "1")] [("K", true, .arr [.ref ["t"] none])] .none

theorem mix_inside : exDoc envMix id id false 8 (fun _ => 0) schemaMix
    = some (some (.obj [("b", .lit "1"), ("a", .arr [.arr [.arr []]])])) := by
  simp [exDoc, exProps, exShorts, exItems, lookupT, litOf, envMix, schemaMix, bump]

theorem envMix_checked : CheckedEnv envMix litOK id := checkedEnv_of_all envMix (by decide)

#print axioms selfValidFull_false_reqcut
#print axioms selfValidFull_false_arraycut
#print axioms selfValidFull_false_keyclash

end VK.Witness
