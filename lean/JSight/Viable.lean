import JSight.Rfc
/-!
C17 (positions): the recogniser has the *viable prefix* property — every configuration it can reach can be
completed to an accepted text — so "the first byte on which it dies" is exactly the first byte after which no
continuation is a JSON text.
-/
namespace Rfc
open JsonScan (Cls)

def closeCtx : List Ctx → List Cls
  | [] => []
  | .arr :: k => .rbrack :: closeCtx k
  | .obj :: k => .rbrace :: closeCtx k

/-- a suffix that completes the configuration to an accepted text -/
def complete (r : RCfg) : List Cls :=
  match r.st with
  | .value => .zero :: closeCtx r.ctx
  | .arrFirst | .objFirst | .after => closeCtx r.ctx
  | .key => .quote :: .quote :: .colon :: .zero :: closeCtx r.ctx
  | .str k => .quote :: ((if k then [.colon, .zero] else []) ++ closeCtx r.ctx)
  | .esc k => .quote :: .quote :: ((if k then [.colon, .zero] else []) ++ closeCtx r.ctx)
  | .hex k n => List.replicate n .zero ++ .quote :: ((if k then [.colon, .zero] else []) ++ closeCtx r.ctx)
  | .colon => .colon :: .zero :: closeCtx r.ctx
  | .num n => (if n.final then [] else [.zero]) ++ closeCtx r.ctx
  | .word rest => rest ++ closeCtx r.ctx

/-- what holds of every reachable configuration -/
def WFC (r : RCfg) : Prop :=
  match r.st with
  | .arrFirst => ∃ k, r.ctx = .arr :: k
  | .objFirst | .key | .colon | .str true | .esc true => ∃ k, r.ctx = .obj :: k
  | .hex true n => (∃ k, r.ctx = .obj :: k) ∧ 1 ≤ n
  | .hex false n => 1 ≤ n
  | .word rest => rest ≠ []
  | _ => True

/-- closing all open containers after a complete value -/
theorem run_close (k : List Ctx) : run ⟨.after, k⟩ (closeCtx k) = some ⟨.after, []⟩ := by
  induction k with
  | nil => rfl
  | cons c k ih =>
    cases c
    · have : step ⟨.after, .obj :: k⟩ .rbrace = some ⟨.after, k⟩ := rfl
      simp only [closeCtx, run, this]; exact ih
    · have : step ⟨.after, .arr :: k⟩ .rbrack = some ⟨.after, k⟩ := rfl
      simp only [closeCtx, run, this]; exact ih

theorem run_close_num (n : Num) (hn : n.final = true) (k : List Ctx) :
    ∃ r, run ⟨.num n, k⟩ (closeCtx k) = some r ∧ accepting r = true := by
  cases k with
  | nil => exact ⟨⟨.num n, []⟩, rfl, by simp [accepting, hn]⟩
  | cons c k =>
    refine ⟨⟨.after, []⟩, ?_, rfl⟩
    cases c
    · have : step ⟨.num n, .obj :: k⟩ .rbrace = some ⟨.after, k⟩ := by cases n <;> simp [Num.final] at hn <;> rfl
      simp only [closeCtx, run, this]; exact run_close k
    · have : step ⟨.num n, .arr :: k⟩ .rbrack = some ⟨.after, k⟩ := by cases n <;> simp [Num.final] at hn <;> rfl
      simp only [closeCtx, run, this]; exact run_close k

theorem run_append (r : RCfg) (xs ys : List Cls) :
    run r (xs ++ ys) = match run r xs with | some r' => run r' ys | none => none := by
  induction xs generalizing r with
  | nil => rfl
  | cons c cs ih =>
    simp only [List.cons_append, run]
    cases step r c with
    | none => rfl
    | some r' => exact ih r'

theorem zero_then_close (k : List Ctx) :
    ∃ r, run ⟨.value, k⟩ (.zero :: closeCtx k) = some r ∧ accepting r = true := by
  have : step ⟨.value, k⟩ .zero = some ⟨.num .zero, k⟩ := rfl
  simp only [run, this]
  exact run_close_num .zero rfl k

theorem hex_run (isKey : Bool) (ctx : List Ctx) (rest : List Cls) : ∀ n, 1 ≤ n →
    run ⟨.hex isKey n, ctx⟩ (List.replicate n .zero ++ rest) = run ⟨.str isKey, ctx⟩ rest := by
  intro n
  induction n with
  | zero => intro h; omega
  | succ n ih =>
    intro _
    cases n with
    | zero =>
      have : step ⟨.hex isKey 1, ctx⟩ .zero = some ⟨.str isKey, ctx⟩ := rfl
      simp only [List.replicate, List.cons_append, List.nil_append, run, this]
    | succ m =>
      have : step ⟨.hex isKey (m + 2), ctx⟩ .zero = some ⟨.hex isKey (m + 1), ctx⟩ := rfl
      simp only [List.replicate, List.cons_append, run, this]
      exact ih (by omega)

theorem word_run (ctx : List Ctx) (tail : List Cls) : ∀ rest, rest ≠ [] →
    run ⟨.word rest, ctx⟩ (rest ++ tail) = run ⟨.after, ctx⟩ tail := by
  intro rest
  induction rest with
  | nil => intro h; exact absurd rfl h
  | cons x xs ih =>
    intro _
    cases xs with
    | nil =>
      have : step ⟨.word [x], ctx⟩ x = some ⟨.after, ctx⟩ := by
        show (if x = x then some (⟨.after, ctx⟩ : RCfg) else none) = _
        simp
      simp only [List.cons_append, List.nil_append, run, this]
    | cons y ys =>
      have : step ⟨.word (x :: y :: ys), ctx⟩ x = some ⟨.word (y :: ys), ctx⟩ := by
        show (if x = x then some (⟨.word (y :: ys), ctx⟩ : RCfg) else none) = _
        simp
      simp only [List.cons_append, run, this]
      exact ih (by simp)

/-- after the closing quote of a string -/
theorem str_close (isKey : Bool) (ctx : List Ctx) (h : isKey = true → ∃ k, ctx = .obj :: k) :
    ∃ r, run (strEnd isKey ctx) ((if isKey then [.colon, .zero] else []) ++ closeCtx ctx) = some r ∧ accepting r = true := by
  cases isKey with
  | false => exact ⟨_, run_close ctx, rfl⟩
  | true =>
    obtain ⟨k, rfl⟩ := h rfl
    have a : step (strEnd true (.obj :: k)) .colon = some ⟨.value, .obj :: k⟩ := rfl
    simp only [if_true, List.cons_append, List.nil_append, run, a]
    exact zero_then_close (.obj :: k)

/-- **viable prefix**: every reachable configuration can be completed to an accepted text -/
theorem viable (r : RCfg) (h : WFC r) : ∃ r', run r (complete r) = some r' ∧ accepting r' = true := by
  obtain ⟨st, ctx⟩ := r
  cases st with
  | value => exact zero_then_close ctx
  | arrFirst =>
    obtain ⟨k, rfl⟩ : ∃ k, ctx = .arr :: k := h
    have : step ⟨.arrFirst, .arr :: k⟩ .rbrack = some ⟨.after, k⟩ := rfl
    exact ⟨_, by simp only [complete, closeCtx, run, this]; exact run_close k, rfl⟩
  | objFirst =>
    obtain ⟨k, rfl⟩ : ∃ k, ctx = .obj :: k := h
    have : step ⟨.objFirst, .obj :: k⟩ .rbrace = some ⟨.after, k⟩ := rfl
    exact ⟨_, by simp only [complete, closeCtx, run, this]; exact run_close k, rfl⟩
  | key =>
    obtain ⟨k, rfl⟩ : ∃ k, ctx = .obj :: k := h
    have a : step ⟨.key, .obj :: k⟩ .quote = some ⟨.str true, .obj :: k⟩ := rfl
    have b : step ⟨.str true, .obj :: k⟩ .quote = some ⟨.colon, .obj :: k⟩ := rfl
    have c : step ⟨.colon, .obj :: k⟩ .colon = some ⟨.value, .obj :: k⟩ := rfl
    simp only [complete, run, a, b, c]
    exact zero_then_close (.obj :: k)
  | str isKey =>
    have a : step ⟨.str isKey, ctx⟩ .quote = some (strEnd isKey ctx) := rfl
    simp only [complete, run, a]
    exact str_close isKey ctx (by intro hk; subst hk; exact h)
  | esc isKey =>
    have a : step ⟨.esc isKey, ctx⟩ .quote = some ⟨.str isKey, ctx⟩ := rfl
    have b : step ⟨.str isKey, ctx⟩ .quote = some (strEnd isKey ctx) := rfl
    simp only [complete, run, a, b]
    exact str_close isKey ctx (by intro hk; subst hk; exact h)
  | hex isKey n =>
    have hn : 1 ≤ n := by cases isKey <;> simp [WFC] at h <;> omega
    have b : step ⟨.str isKey, ctx⟩ .quote = some (strEnd isKey ctx) := rfl
    simp only [complete]
    rw [hex_run isKey ctx _ n hn]
    simp only [run, b]
    exact str_close isKey ctx (by intro hk; subst hk; exact h.1)
  | colon =>
    obtain ⟨k, rfl⟩ : ∃ k, ctx = .obj :: k := h
    have c : step ⟨.colon, .obj :: k⟩ .colon = some ⟨.value, .obj :: k⟩ := rfl
    simp only [complete, run, c]
    exact zero_then_close (.obj :: k)
  | after => exact ⟨_, run_close ctx, rfl⟩
  | num n =>
    cases n with
    | zero => exact run_close_num .zero rfl ctx
    | int => exact run_close_num .int rfl ctx
    | frac => exact run_close_num .frac rfl ctx
    | exp => exact run_close_num .exp rfl ctx
    | minus =>
      have a : step ⟨.num .minus, ctx⟩ .zero = some ⟨.num .zero, ctx⟩ := rfl
      simp only [complete, Num.final, Bool.false_eq_true, if_false, List.cons_append, List.nil_append, run, a]
      exact run_close_num .zero rfl ctx
    | dot =>
      have a : step ⟨.num .dot, ctx⟩ .zero = some ⟨.num .frac, ctx⟩ := rfl
      simp only [complete, Num.final, Bool.false_eq_true, if_false, List.cons_append, List.nil_append, run, a]
      exact run_close_num .frac rfl ctx
    | e =>
      have a : step ⟨.num .e, ctx⟩ .zero = some ⟨.num .exp, ctx⟩ := rfl
      simp only [complete, Num.final, Bool.false_eq_true, if_false, List.cons_append, List.nil_append, run, a]
      exact run_close_num .exp rfl ctx
    | esign =>
      have a : step ⟨.num .esign, ctx⟩ .zero = some ⟨.num .exp, ctx⟩ := rfl
      simp only [complete, Num.final, Bool.false_eq_true, if_false, List.cons_append, List.nil_append, run, a]
      exact run_close_num .exp rfl ctx
  | word rest =>
    have hne : rest ≠ [] := h
    simp only [complete]
    rw [word_run ctx _ rest hne]
    exact ⟨_, run_close ctx, rfl⟩

theorem wfc_init : WFC RCfg.init := trivial

macro "wfc_close" : tactic => `(tactic|
  first
  | trivial
  | exact ⟨_, rfl⟩
  | exact ⟨⟨_, rfl⟩, by omega⟩
  | (show (_ : List Cls) ≠ []; simp [Word.rest])
  | (show 1 ≤ _; omega))

/-! `WFC` is kept by every step. The proofs go by the branches of `step` and of its two helpers, not class by
class: each branch names the classes it is for. -/

theorem afterValue_wfc {ctx : List Ctx} {c : Cls} {r' : RCfg} (h : afterValue ctx c = some r') : WFC r' := by
  unfold afterValue at h
  split at h <;> first
    | (cases h; done)
    | (cases h; trivial)
    | (split at h <;> first | (cases h; done) | (cases h; wfc_close))

theorem beginValue_wfc {ctx : List Ctx} {c : Cls} {r' : RCfg} (h : beginValue ctx c = some r') : WFC r' := by
  unfold beginValue at h
  split at h <;> first | (cases h; done) | (cases h; wfc_close)

theorem wfc_step (r r' : RCfg) (c : Cls) (hw : WFC r) (h : step r c = some r') : WFC r' := by
  obtain ⟨st, ctx⟩ := r
  cases st with
  | hex isKey n =>
    have h' : (if c.isHex = true then (if n ≤ 1 then some (⟨.str isKey, ctx⟩ : RCfg) else some ⟨.hex isKey (n - 1), ctx⟩) else none) = some r' := h
    split at h'
    · split at h'
      · cases h'; cases isKey
        · trivial
        · exact hw.1
      · cases h'; cases isKey
        · show 1 ≤ n - 1; omega
        · exact ⟨hw.1, by show 1 ≤ n - 1; omega⟩
    · cases h'
  | word rest =>
    rcases rest with _ | ⟨x, _ | ⟨y, ys⟩⟩
    · exact absurd rfl hw
    · have h' : (if c = x then some (⟨.after, ctx⟩ : RCfg) else none) = some r' := h
      split at h'
      · cases h'; trivial
      · cases h'
    · have h' : (if c = x then some (⟨.word (y :: ys), ctx⟩ : RCfg) else none) = some r' := h
      split at h'
      · cases h'; show (y :: ys) ≠ []; simp
      · cases h'
  | num n =>
    dsimp only [step] at h
    split at h <;> first | (cases h; done) | (cases h; trivial) | exact afterValue_wfc h
  | after => exact afterValue_wfc h
  | value =>
    dsimp only [step] at h
    split at h <;> first | (cases h; trivial) | exact beginValue_wfc h
  | arrFirst =>
    obtain ⟨k, rfl⟩ : ∃ k, ctx = .arr :: k := hw
    dsimp only [step] at h
    split at h <;> first | (cases h; wfc_close) | exact beginValue_wfc h
  | str isKey =>
    dsimp only [step] at h
    cases isKey
    · split at h <;> first | (cases h; done) | (cases h; trivial)
    · split at h <;> first | (cases h; done) | (cases h; exact hw)
  | esc isKey =>
    dsimp only [step] at h
    cases isKey
    · split at h <;> first | (cases h; done) | (cases h; wfc_close)
    · split at h <;> first | (cases h; done) | (cases h; first | exact hw | exact ⟨hw, by omega⟩)
  | objFirst =>
    obtain ⟨k, rfl⟩ : ∃ k, ctx = .obj :: k := hw
    dsimp only [step] at h
    split at h <;> first | (cases h; done) | (cases h; wfc_close)
  | key =>
    dsimp only [step] at h
    split at h <;> first | (cases h; done) | (cases h; exact hw)
  | colon =>
    dsimp only [step] at h
    split at h <;> first | (cases h; done) | (cases h; first | exact hw | trivial)
theorem wfc_run (r r' : RCfg) (cs : List Cls) (hw : WFC r) (h : run r cs = some r') : WFC r' := by
  induction cs generalizing r with
  | nil => simp [run] at h; subst h; exact hw
  | cons c cs ih =>
    simp only [run] at h
    cases hs : step r c with
    | none => rw [hs] at h; simp at h
    | some r1 => rw [hs] at h; exact ih r1 (wfc_step r r1 c hw hs) h

/-- **C17, positions (RFC side)**: if the recogniser survives `pre` and dies on the next byte `c`, then `pre` can be
extended to a JSON text and `pre ++ [c]` cannot -/
theorem first_dead_byte (pre : List Cls) (c : Cls) (r : RCfg) (h1 : run RCfg.init pre = some r) (h2 : step r c = none) :
    (∃ suffix, acceptsC (pre ++ suffix) = true) ∧ (∀ suffix, acceptsC (pre ++ c :: suffix) = false) := by
  constructor
  · obtain ⟨r', hr, ha⟩ := viable r (wfc_run _ _ pre wfc_init h1)
    refine ⟨complete r, ?_⟩
    simp [acceptsC, run_append, h1, hr, ha]
  · intro suffix
    simp [acceptsC, run_append, h1, run, h2]

#print axioms first_dead_byte

end Rfc
