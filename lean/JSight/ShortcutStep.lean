import JSight.ShortcutRun
/-!
C09 / C16 / C06: a TYPE SHORTCUT (`@name`, `@a | @b …`) as a VALUE inside a container (object member value, array
item) — single-byte behaviour of the scanner model, for either value of `lengthComputing`, as `Path`s:
the start (`@` in `objValue` / `arrItemOrEmpty` / `arrItem`) and the four bytes that may end it (line break, `,`, `]`,
`}`), each with the exact events (`types-shortcut-end`, `mixed-value-end` with its one-blank strip, the item / value
end) — and a line break and the end of input behind a root shortcut.
-/
namespace SchemaScan
namespace Len

variable {lc : Bool} {data : Array Cls}

/-! ### the start of a shortcut inside a container -/

theorem start_ts_d (f : Nat) (ctx : VCtx) (hctx : ctx ≠ .root)
    (K : List (LexT × Nat)) (i : Nat) (CS : List Ctx) (cx : Ctx) (al : Bool) (p1 p2 : Option Cls) :
    dispatch (f + 1) ctx.st (cfgL lc ctx.st [] K false i CS cx al) .at p1 p2
      = .ok { cfgL lc .tsBeginName [] K true i CS (ctx.cx' cx) al with finds := ctx.preTys ++ [.mixB, .tsB] } := by
  cases ctx <;> first | exact absurd rfl hctx | (unfold dispatch; rfl)

theorem S_start_ts (ctx : VCtx) (hctx : ctx ≠ .root)
    (K : List (LexT × Nat)) (o : Nat) (CS : List Ctx) (cx : Ctx) (al : Bool) (hc : data[o]? = some .at) :
    Path data (cfgL lc ctx.st [] K false o CS cx al) (ctx.preEvs o ++ [⟨.mixB, o, o⟩, ⟨.tsB, o, o⟩])
      (cfgL lc .tsBeginName [] (K2 o ++ (ctx.pre o ++ K)) true (o + 1) CS (ctx.cx' cx) al) := by
  refine cfg_byte hc (fun p1 p2 => start_ts_d 7 ctx hctx K (o + 1) CS cx al p1 p2) rfl ?_
  cases ctx <;> first | exact absurd rfl hctx | rfl

/-! ### the end of a shortcut inside a container -/

/-- the context type in which an item / a member value lives -/
def ckTy : CK → CtxT | .item => .array | .val => .object | .key => .initial

/-- `stateEndValue` with a shortcut on top of the stack: `finishShortcut` queues the three closing lexemes and hands the
byte to the state behind the item / the member value -/
theorem ev_ts_ck (g : Nat) (st : St) (ck : CK) (hck : ck ≠ .key) (o b2 : Nat) (R : List (LexT × Nat)) (i : Nat)
    (CS : List Ctx) (cx : Ctx) (hcx : cx.ty = ckTy ck) (al : Bool) (x : Cls) (p1 p2 : Option Cls) :
    endValue g (cfgL lc st [] (K2 o ++ (ck.B, b2) :: R) false i CS cx al) x p1 p2
      = dispatch g ck.aft
          { cfgL lc ck.aft [] (K2 o ++ (ck.B, b2) :: R) false i CS cx al with finds := [.tsE, .mixE, ck.E] } x p1 p2 := by
  obtain ⟨ty, ah⟩ := cx
  simp only at hcx
  subst hcx
  cases ck <;> first | exact absurd rfl hck | (unfold endValue dispatch'; rfl)

/-- a delimiter behind a shortcut (behind its last name byte, `nm = true`, or behind the blanks that follow it); behind a
name one hand-over less has been paid for, so one more unit of fuel is left (`nm.toNat`) -/
theorem ts_fin_d (f : Nat) (nm : Bool) (x : Cls) (hx : tsDelim nm x = true) (ck : CK) (hck : ck ≠ .key) (o b2 : Nat)
    (R : List (LexT × Nat)) (i : Nat) (CS : List Ctx) (cx : Ctx) (hcx : cx.ty = ckTy ck) (al : Bool)
    (p1 p2 : Option Cls) :
    dispatch (f + 3) (tsSt nm) (cfgL lc (tsSt nm) [] (K2 o ++ (ck.B, b2) :: R) false i CS cx al) x p1 p2
      = dispatch (f + nm.toNat + 1) ck.aft
          { cfgL lc ck.aft [] (K2 o ++ (ck.B, b2) :: R) false i CS cx al with finds := [.tsE, .mixE, ck.E] } x p1 p2 := by
  cases nm
  · exact (tsBeforePipe_delim (f + 1) x hx _ i _ _ al p1 p2).trans
      (ev_ts_ck (f + 1) .endValue ck hck o b2 R i CS cx hcx al x p1 p2)
  · exact (tsName_delim (f + 2) x hx _ i _ _ al p1 p2).trans
      (ev_ts_ck (f + 2) .tsName ck hck o b2 R i CS cx hcx al x p1 p2)

/-- the three closing events of a shortcut that is an item / a member value, delivered when the byte at `i` is read -/
def tsClosers (data : Array Cls) (ck : CK) (o b2 i : Nat) : List Ev :=
  [⟨.tsE, o, i - 1⟩, ⟨.mixE, o, mixEnd data i⟩, ⟨ck.E, b2, i - 1⟩]

/-! `S_tsc_…`: the byte behind a shortcut that is an item / a member value, as a `Path` that delivers `tsClosers` and what
the byte itself delivers. -/

theorem S_tsc_nl (nm : Bool) (ck : CK) (hck : ck ≠ .key) (o b2 : Nat) (R : List (LexT × Nat)) (i : Nat)
    (CS : List Ctx) (cx : Ctx) (hcx : cx.ty = ckTy ck) (al : Bool) (hc : data[i]? = some .nl) :
    Path data (cfgL lc (tsSt nm) [] (K2 o ++ (ck.B, b2) :: R) false i CS cx al)
      (tsClosers data ck o b2 i ++ [⟨.newLine, i, i⟩])
      (cfgL lc ck.aft [] R false (i + 1) CS cx al) := by
  have haft : wsLoop ck.aft = true := by cases ck <;> rfl
  have hnl : nlSt ck.aft = ck.aft := by cases ck <;> rfl
  have hal : nlAl ck.aft al = al := by cases ck <;> rfl
  refine cfg_byte hc (fun p1 p2 => (ts_fin_d 5 nm .nl (by cases nm <;> rfl) ck hck o b2 R (i + 1) CS cx hcx al p1 p2).trans
    (loop_nl (5 + nm.toNat) ck.aft haft _ (i + 1) CS cx al _ p1 p2)) rfl ?_
  rw [hnl, hal]
  cases ck <;> first | exact absurd rfl hck | rfl

theorem S_tsc_sep (nm : Bool) (ck : CK) (hck : ck ≠ .key) (o b2 : Nat) (R : List (LexT × Nat)) (i : Nat)
    (CS : List Ctx) (cx : Ctx) (hcx : cx.ty = ckTy ck) (al : Bool) (hc : data[i]? = some ck.sep) :
    Path data (cfgL lc (tsSt nm) [] (K2 o ++ (ck.B, b2) :: R) false i CS cx al)
      (tsClosers data ck o b2 i)
      (cfgL lc ck.nxt [] R false (i + 1) CS cx al) := by
  have hd : tsDelim nm ck.sep = true := by cases nm <;> cases ck <;> first | exact absurd rfl hck | rfl
  refine cfg_byte hc (fun p1 p2 => (ts_fin_d 5 nm ck.sep hd ck hck o b2 R (i + 1) CS cx hcx al p1 p2).trans
    (aft_sep (5 + nm.toNat) ck _ (i + 1) CS cx al _ p1 p2)) rfl ?_
  cases ck <;> first | exact absurd rfl hck | rfl

theorem S_tsc_rbrack (nm : Bool) (o b2 a : Nat) (K : List (LexT × Nat)) (i : Nat) (c0 : Ctx)
    (CS : List Ctx) (cx : Ctx) (hcx : cx.ty = .array) (al : Bool) (hc : data[i]? = some .rbrack) :
    Path data (cfgL lc (tsSt nm) [] (K2 o ++ (.itemB, b2) :: (.arrB, a) :: K) false i (c0 :: CS) cx al)
      (tsClosers data .item o b2 i ++ [⟨.arrE, a, i⟩])
      (cfgL lc .endValue [] K false (i + 1) CS c0 (!cx.arrayHasItem)) := by
  have hd : tsDelim nm .rbrack = true := by cases nm <;> rfl
  exact cfg_byte hc (fun p1 p2 =>
    (ts_fin_d 5 nm .rbrack hd .item (by simp) o b2 _ (i + 1) (c0 :: CS) cx hcx al p1 p2).trans
      (aft_rbrack (5 + nm.toNat) _ _ (i + 1) c0 CS cx al _ p1 p2)) rfl rfl

theorem S_tsc_rbrace (nm : Bool) (o b2 a : Nat) (K : List (LexT × Nat)) (i : Nat) (c0 : Ctx)
    (CS : List Ctx) (cx : Ctx) (hcx : cx.ty = .object) (al : Bool) (hc : data[i]? = some .rbrace) :
    Path data (cfgL lc (tsSt nm) [] (K2 o ++ (.valB, b2) :: (.objB, a) :: K) false i (c0 :: CS) cx al)
      (tsClosers data .val o b2 i ++ [⟨.objE, a, i⟩])
      (cfgL lc .endValue [] K false (i + 1) CS c0 al) := by
  have hd : tsDelim nm .rbrace = true := by cases nm <;> rfl
  exact cfg_byte hc (fun p1 p2 =>
    (ts_fin_d 5 nm .rbrace hd .val (by simp) o b2 _ (i + 1) (c0 :: CS) cx hcx al p1 p2).trans
      (aft_rbrace (5 + nm.toNat) _ (i + 1) c0 CS cx al _ p1 p2)) rfl rfl

/-! ### the end of `mixed-value-end`, read off the text -/

/-- the end of the `mixed-value-end` lexeme of a shortcut whose last byte (blanks included) is at `e`: one SPACE before
the delimiter is not counted -/
def _root_.SchemaScan.mixEndOf (e : Nat) (r : List Cls) : Nat := if r.getLast? == some Cls.sp then e - 1 else e

theorem at_last : ∀ (r : List Cls) (o : Nat), At data o r → r ≠ [] → data[o + r.length - 1]? = r.getLast? := by
  intro r o hat hne
  obtain ⟨pre, d, rfl⟩ := exists_snoc r hne
  rw [At_append] at hat
  have := hat.2.1
  simp only [List.length_append, List.length_cons, List.length_nil, List.getLast?_append, List.getLast?_singleton,
    Option.some_or]
  rw [show o + (pre.length + (0 + 1)) - 1 = o + pre.length by omega]
  exact this

theorem mixEnd_at (r : List Cls) (o : Nat) (hat : At data o r) (hne : r ≠ []) :
    mixEnd data (o + r.length) = mixEndOf (o + r.length - 1) r := by
  unfold mixEnd mixEndOf
  rw [at_last r o hat hne]
  have : 1 ≤ r.length := by cases r with | nil => exact absurd rfl hne | cons _ _ => simp
  split <;> omega

theorem short_ne (sc : Shortcut) (sps : List Cls) : sc.render ++ sps ≠ [] := by simp [Shortcut.render]

theorem cx'_ty (ctx : VCtx) (cx : Ctx) : (ctx.cx' cx).ty = cx.ty := by cases ctx <;> rfl

/-- layout that may follow a shortcut leaf: empty, or starting with a line break (spaces / tabs directly behind the
shortcut belong to the leaf) -/
def _root_.SchemaScan.NlFirst (w : List Cls) : Prop := w = [] ∨ ∃ r, w = Cls.nl :: r

/-! ### a root shortcut: a line break, the end of input -/

/-- a line break ends the shortcut -/
theorem S_ts_nl (nm : Bool) (o i : Nat) (c0 : Ctx) (al : Bool) (hc : data[i]? = some .nl) :
    Path data (cfgL lc (tsSt nm) [] (K2 o) false i [c0] sctx al)
      [⟨.tsE, o, i - 1⟩, ⟨.mixE, o, mixEnd data i⟩, ⟨.newLine, i, i⟩]
      (cfgL lc .endTop [] [] false (i + 1) [] c0 al) :=
  cfg_byte hc (fun p1 p2 => ts_end_nl_d 4 nm o (i + 1) c0 al p1 p2) rfl rfl

/-- the end of input right behind a root shortcut (or the blanks that follow it): both closing lexemes are delivered -/
theorem emits_eof_ts (nm : Bool) (o i : Nat) (c0 : Ctx) (al : Bool) (hsz : data.size = i) :
    Emits data (cfgL lc (tsSt nm) [] (K2 o) false i [c0] sctx al)
      [⟨.tsE, o, i - 1⟩, ⟨.mixE, o, mixEnd data i⟩] := by
  have hn1 : NextOk data (cfgL lc (tsSt nm) [] (K2 o) false i [c0] sctx al)
      (some ({ cfgL lc (tsSt nm) [] [(.mixB, o)] false (i + 1) [c0] sctx al with finds := [.mixE] }, ⟨.tsE, o, i - 1⟩)) := by
    refine ⟨1, by omega, ?_⟩
    rw [next_succ]
    unfold nextBody shiftFound eofStep
    simp only [cfgL, show ¬ i < data.size by omega, if_false]
    cases nm <;> rfl
  have hn2 : NextOk data { cfgL lc (tsSt nm) [] [(.mixB, o)] false (i + 1) [c0] sctx al with finds := [.mixE] }
      (some (cfgL lc (tsSt nm) [] [] false (i + 1) [c0] sctx al, ⟨.mixE, o, mixEnd data i⟩)) := nextOk_shift rfl rfl
  have hn3 : NextOk data (cfgL lc (tsSt nm) [] [] false (i + 1) [c0] sctx al) none :=
    nextOk_done rfl (by simp only [cfgL]; omega) rfl
  exact Emits.cons hn1 (Emits.cons hn2 (Emits.nil hn3))

end Len
end SchemaScan
