import JSight.SchemaRun
/-! Invariant of the JSight schema scanner model (`SchemaScan`), on which the proofs up to `SchemaNoCrash` rest.

The scanner queues lexemes in `finds` and only later applies them to `stack` (`processFound`).
The invariant is stated on the *effective* stack: the lexeme types of `stack` after all queued
`finds` have been applied.  `Good step eff ret` is a grammar relating the current step function,
the effective stack and the return-step stack. -/
namespace SchemaScan

def Err.isCrash : Err → Bool
  | .crash _ => true
  | _ => false

/-- outcome predicate: a result satisfying `P`, or a structured (non-crash) error -/
def OKRes {α : Type} (P : α → Prop) : M α → Prop
  | .ok a => P a
  | .error e => e.isCrash = false

/-- effect of one queued lexeme on the lexeme types of the stack (`processFound` without positions) -/
def applyFind (t : LexT) (stk : List LexT) : Option (List LexT) :=
  if t == .newLine || t == .endTop then some stk
  else if t.isOpening then some (t :: stk)
  else match stk with
    | [] => none
    | p :: rest => if isNonScalarPair p t || isScalarPair p t then some rest else none

def applyFinds : List LexT → List LexT → Option (List LexT)
  | [], stk => some stk
  | t :: ts, stk => (applyFind t stk).bind (applyFinds ts)

/-- the context types (current :: saved) determined by the effective stack -/
def ctxsOf : List LexT → List CtxT
  | [] => [.initial]
  | [.mixB] => [.shortcut, .initial]
  | .objB :: r => .object :: ctxsOf r
  | .arrB :: r => .array :: ctxsOf r
  | _ :: r => ctxsOf r

def St.isGuard : St → Bool | .guard _ => true | _ => false
def St.isComment : St → Bool | .anyCommentStart | .inlineComment | .multiLineComment => true | _ => false
/-- 1 inside a user comment (also through the guard closure) -/
def St.cflag : St → Nat
  | .guard x => x.cflag
  | .anyCommentStart | .inlineComment | .multiLineComment => 1
  | _ => 0
/-- steps from which an annotation can be started (`switchToAnnotation`) -/
def St.annRet : St → Bool
  | .foundRoot | .objKeyOrEmpty | .objKey | .afterKey | .afterValue | .afterItem | .endTop
  | .objValue | .arrItemOrEmpty | .arrItem => true
  | _ => false
def St.objState : St → Bool
  | .objKeyOrEmpty | .objKey | .objKeyAfterNL | .afterKey | .objValue | .afterValue => true | _ => false
def St.arrState : St → Bool | .arrItemOrEmpty | .arrItem | .afterItem => true | _ => false
def St.ksState : St → Bool | .keyShortcut | .endValue => true | _ => false
def St.keyState : St → Bool
  | .inString | .esc | .annKeyFirst | .annKey | .annKeyAfter | .endValue => true | _ => false
def St.litState : St → Bool
  | .inString | .esc | .neg | .d1 | .d0 | .dot | .dot0 | .t | .tr | .tru | .f | .fa | .fal | .fals
  | .n | .nu | .nul | .endValue => true
  | _ => false
def St.tsState : St → Bool
  | .tsBeginName | .tsName | .tsBeforePipe | .tsAfterPipe | .endValue => true | _ => false
def St.pendState : St → Bool | .anyAnnStart | .inlAnnStart | .inlTxtSkip => true | _ => false
def St.inlState : St → Bool | .inlAnn | .inlTxtPrefix | .inlTxtPrefix2 => true | _ => false
def St.mlState : St → Bool | .mlAnn | .mlTxtPrefix | .mlTxtPrefix2 | .mlAnnEnd => true | _ => false
def St.uState : St → Bool | .u0 | .u1 | .u2 | .u3 => true | _ => false
def LexT.isMarker : LexT → Bool | .inlAnnB | .mlAnnB => true | _ => false

mutual
/-- value holder: what a literal / type shortcut / container may sit on -/
inductive VH : List LexT → List St → Prop
  | root : VH [] []
  | val {V ret} : CH V ret → VH (.valB :: .objB :: V) ret
  | item {V ret} : CH V ret → VH (.itemB :: .arrB :: V) ret
/-- container holder: a value holder, or an annotation marker (with its return step) -/
inductive CH : List LexT → List St → Prop
  | vh {V ret} : VH V ret → CH V ret
  | marker {m r σ ret} : m.isMarker = true → r.annRet = true → Good r σ ret → CH (m :: σ) (r :: ret)
/-- `Good step eff ret`: step function, effective stack (top first) and return stack fit together -/
inductive Good : St → List LexT → List St → Prop
  | foundRoot : Good .foundRoot [] []
  | endTop : Good .endTop [] []
  | obj {st V ret} : st.objState = true → CH V ret → Good st (.objB :: V) ret
  | arr {st V ret} : st.arrState = true → CH V ret → Good st (.arrB :: V) ret
  | ks {st V ret} : st.ksState = true → CH V ret → Good st (.ksB :: .objB :: V) ret
  | key {st V ret} : st.keyState = true → CH V ret → Good st (.keyB :: .objB :: V) ret
  | lit {st V ret} : st.litState = true → VH V ret → Good st (.litB :: V) ret
  | ts {st V ret} : st.tsState = true → VH V ret → Good st (.tsB :: .mixB :: V) ret
  | done {V ret} : CH V ret → Good .endValue V ret
  | uesc {st stk ret} : st.uState = true → Good .inString stk ret → Good st stk (.inString :: ret)
  | comment {st r stk ret} : st.isComment = true → r.cflag = 0 → Good r stk ret →
      Good st stk (r :: ret)
  | pend {st r stk ret} : st.pendState = true → r.annRet = true → Good r stk ret → Good st stk (r :: ret)
  | inl {st r σ ret} : st.inlState = true → r.annRet = true → Good r σ ret →
      Good st (.inlAnnB :: σ) (r :: ret)
  | inlTxt {r σ ret} : r.annRet = true → Good r σ ret → Good .inlTxt (.inlTxtB :: .inlAnnB :: σ) (r :: ret)
  | ml {st r σ ret} : st.mlState = true → r.annRet = true → Good r σ ret →
      Good st (.mlAnnB :: σ) (r :: ret)
  | mlTxt {r σ ret} : r.annRet = true → Good r σ ret → Good .mlTxt (.mlTxtB :: .mlAnnB :: σ) (r :: ret)
  | guard {x stk ret} : x.isGuard = false → Good x stk ret → Good (.guard x) stk ret
end

/-- `s` has effective stack `eff`: the queued finds apply cleanly, and the contexts fit -/
def Eff (s : Sc) (eff : List LexT) : Prop :=
  applyFinds s.finds (s.stack.map (·.1)) = some eff ∧
  s.ctx.ty :: s.ctxStack.map (·.ty) = ctxsOf eff

/-- the invariant, for an explicit step `st` (normally `s.step`) -/
def InvAt (st : St) (s : Sc) : Prop := ∃ eff, Eff s eff ∧ Good st eff s.ret

def Inv (s : Sc) : Prop := InvAt s.step s

end SchemaScan
