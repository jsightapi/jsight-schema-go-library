import JSight.AllOfK
import JSight.ExceptWp
import JSight.VisitMeasure
/-!
C03, allOf as coded: what `AOK.compileWith` / `processType` / `compileAll` produce and when they fail. Each function
is looked at in three ways.

* When it passes and what it then returns, exactly: `addKeys_ok_iff`, `mergeAdd_spec`, `extendWith_ok_iff`,
  `extendAll_ok_iff` (`Resolves pt names bases`: every name resolves to its base), the one-step forms
  `compileList_cons_ok` … `compileWith_obj_ok`, and `compileWith_obj_ok_iff` — THE characterisation of a successful
  expansion of an object with an allOf list (the bases are objects, their keys are new, their additionalProperties agree;
  the result is the own entries followed by the bases' entries, required keys and the first additionalProperties): the
  registered allOf theorems (`Props/C03`, `AllOfKErrors`, `AllOfKSem`, `AllOfKTrans`, `AllOfKFull`) are read off it.
  `compileEnts_shape`: the children keep their keys and flags.
* Monotone in the resolver `pt` (`_mono`: `extendWith` … the mutual `compileWith` / `compileList` / `compileEnts`,
  `processType_mono`), hence `processType_proc_irrelevant`: the result does not depend on the in-progress set, i.e. on
  the context in which a type is expanded.
* Where a verdict comes from: `ByNames pt names x` — `x` passes only if `pt` resolves every name of `names`, its error is
  one `processNode` raises itself (`Err.isLocal`) or the error of `pt` for one of the names — for `extendWith`,
  `extendAll` and the mutual `compileWith_names` / `compileList_names` / `compileEnts_names` over `allOfNames`;
  `processType_succ_error` reads the non-local errors of one level off it.

The whole table: `compileTypes_spec` and `compileAll_spec` (one `wp` statement each: what is returned, where an error
comes from), and `compileAll_never_out_of_fuel` — the fuel `|table| + 1` suffices because every level of
`processType` puts a new name of the table in progress (`Visit.unvisited`, `processType_never_out_of_fuel`).
-/
namespace AOK
open VK (AddMode)
open Except (wp)
variable {L : Type}

/-! ### accessors on compiled objects -/

def entsOf : CS L → List (String × Bool × Bool × CS L)
  | .obj e _ _ => e
  | _ => []
def reqsOf : CS L → List String
  | .obj _ r _ => r
  | _ => []
def addOf : CS L → Option (AP L)
  | .obj _ _ a => a
  | _ => none
def keysOf (c : CS L) : List (String × Bool) := (entsOf c).map keyOf

theorem isObj_iff (c : CS L) : isObj c = true ↔ ∃ e r a, c = .obj e r a := by
  cases c <;> simp [isObj]

theorem reqOf_cons {X : Type} (k : String) (sh r : Bool) (v : X) (es : List (String × Bool × Bool × X)) :
    reqOf ((k, sh, r, v) :: es) = if r then goKey k sh :: reqOf es else reqOf es := by
  cases r <;> rfl

theorem requiredKeys_cons (k : String) (r : Bool) (s : VK.S L) (ps : List (String × Bool × VK.S L)) :
    VK.requiredKeys ((k, r, s) :: ps) = if r then k :: VK.requiredKeys ps else VK.requiredKeys ps := by
  cases r <;> rfl

/-- a key under which `find?` finds an entry is a key of the list (`lookupP` and `VK.lookup` are both `find?` on the key, then a projection) -/
theorem mem_keys_of_find? {α β : Type} {l : List (String × α)} {k : String} {f : String × α → β} {x : β}
    (h : (l.find? (·.1 == k)).map f = some x) : k ∈ l.map (·.1) := by
  obtain ⟨e, he, _⟩ := Option.map_eq_some_iff.1 h
  exact List.mem_map.2 ⟨e, List.mem_of_find?_eq_some he, by simpa using List.find?_some he⟩

/-! ### `addKeys`: keys are appended unless one of them was met before -/

/-- none of `ks` is in `keys`, and `ks` has no repetition -/
def Fresh (keys ks : List (String × Bool)) : Prop := (∀ k ∈ ks, k ∉ keys) ∧ ks.Nodup

theorem fresh_append (keys a b : List (String × Bool)) :
    Fresh keys (a ++ b) ↔ Fresh keys a ∧ Fresh (keys ++ a) b := by
  simp only [Fresh, List.mem_append, List.nodup_append]
  constructor
  · rintro ⟨h1, h2, h3, h4⟩
    refine ⟨⟨fun k hk => h1 k (Or.inl hk), h2⟩, ?_, h3⟩
    rintro k hk (hm | hm)
    · exact h1 k (Or.inr hk) hm
    · exact h4 k hm k hk rfl
  · rintro ⟨⟨h1, h2⟩, h3, h4⟩
    refine ⟨?_, h2, h4, ?_⟩
    · rintro k (hk | hk)
      · exact h1 k hk
      · exact fun hm => h3 k hk (Or.inl hm)
    · rintro x hx y hy rfl
      exact h3 x hy (Or.inr hx)

theorem addKeys_ok_iff (ks : List (String × Bool)) : ∀ (keys r : List (String × Bool)),
    addKeys keys ks = .ok r ↔ (r = keys ++ ks ∧ Fresh keys ks) := by
  induction ks with
  | nil => intro keys r; simp [addKeys, Fresh, eq_comm]
  | cons k ks ih =>
    intro keys r
    have hsplit := fresh_append keys [k] ks
    have hone : Fresh keys [k] ↔ k ∉ keys := by simp [Fresh]
    simp only [List.singleton_append] at hsplit
    simp only [addKeys]
    by_cases hk : keys.contains k = true
    · simp only [hk, if_true]
      constructor
      · intro h; cases h
      · rintro ⟨_, hf⟩
        exact absurd (List.contains_iff_mem.1 hk) (hone.1 (hsplit.1 hf).1)
    · have hk' : k ∉ keys := fun h => hk (List.contains_iff_mem.2 h)
      rw [if_neg hk, ih, hsplit, hone]
      simp [hk']

theorem addKeys_error (ks : List (String × Bool)) : ∀ (keys : List (String × Bool)) (e : Err),
    addKeys keys ks = .error e → e = .duplicateKey := by
  induction ks with
  | nil => intro keys e h; simp [addKeys] at h
  | cons k ks ih =>
    intro keys e h
    simp only [addKeys] at h
    split at h
    · cases h; rfl
    · exact ih _ _ h

theorem addKeys_fails_iff (keys ks : List (String × Bool)) :
    (∃ e, addKeys keys ks = .error e) ↔ ¬ Fresh keys ks := by
  cases h : addKeys keys ks with
  | ok r =>
    have := (addKeys_ok_iff ks keys r).1 h
    simp [this.2]
  | error e =>
    simp only [Except.error.injEq, exists_eq', true_iff]
    intro hf
    have := (addKeys_ok_iff ks keys (keys ++ ks)).2 ⟨rfl, hf⟩
    rw [h] at this; cases this

/-! ### `mergeAdd` -/
section
variable [DecidableEq L]

theorem AP.isEqual_refl (a : AP L) : a.isEqual a = true := by
  cases a <;> simp [AP.isEqual]

theorem AP.isEqual_symm (a b : AP L) : a.isEqual b = b.isEqual a := by
  cases a <;> cases b <;> simp only [AP.isEqual] <;> exact Bool.beq_comm

theorem AP.isEqual_trans (a b c : AP L) (h1 : a.isEqual b = true) (h2 : b.isEqual c = true) : a.isEqual c = true := by
  cases a <;> cases b <;> simp [AP.isEqual] at h1 <;> cases c <;> simp [AP.isEqual] at h2 ⊢ <;> simp_all

/-- the additionalProperties constraints that are present agree pairwise in the sense of `IsEqual` -/
def Compatible (l : List (Option (AP L))) : Prop :=
  ∀ a b, some a ∈ l → some b ∈ l → a.isEqual b = true

/-- the first constraint present -/
def firstAdd : List (Option (AP L)) → Option (AP L)
  | [] => none
  | some a :: _ => some a
  | none :: l => firstAdd l

omit [DecidableEq L] in
theorem firstAdd_mem (l : List (Option (AP L))) (a : AP L) (h : firstAdd l = some a) : some a ∈ l := by
  induction l with
  | nil => simp [firstAdd] at h
  | cons x l ih =>
    cases x with
    | none => exact List.mem_cons_of_mem _ (ih (by simpa [firstAdd] using h))
    | some b => simp [firstAdd] at h; simp [h]

omit [DecidableEq L] in
theorem firstAdd_none (l : List (Option (AP L))) (h : firstAdd l = none) : ∀ a, some a ∉ l := by
  induction l with
  | nil => simp
  | cons x l ih =>
    cases x with
    | none => intro a; simp [ih (by simpa [firstAdd] using h) a]
    | some b => simp [firstAdd] at h

omit [DecidableEq L] in
theorem firstAdd_snoc (l : List (Option (AP L))) (b : Option (AP L)) : firstAdd (l ++ [b]) = (firstAdd l).or b := by
  induction l with
  | nil => cases b <;> rfl
  | cons x l ih => cases x <;> simp [firstAdd, ih]

/-- one step of the merge, seen on the list of constraints met so far -/
theorem mergeAdd_spec (l : List (Option (AP L))) (hc : Compatible l) (b : Option (AP L)) :
    (Compatible (l ++ [b]) → mergeAdd (firstAdd l) b = .ok (firstAdd (l ++ [b]))) ∧
    (¬ Compatible (l ++ [b]) → mergeAdd (firstAdd l) b = .error .conflictAdd) := by
  cases b with
  | none =>
    have : Compatible (l ++ [none]) := by
      intro a b ha hb
      simp only [List.mem_append, List.mem_singleton, reduceCtorEq, or_false] at ha hb
      exact hc a b ha hb
    simp [mergeAdd, firstAdd_snoc, this]
  | some b =>
    cases hf : firstAdd l with
    | none =>
      have hnone := firstAdd_none l hf
      have : Compatible (l ++ [some b]) := by
        intro x y hx hy
        simp only [List.mem_append, List.mem_singleton, Option.some.injEq] at hx hy
        rcases hx with hx | rfl
        · exact absurd hx (hnone x)
        · rcases hy with hy | rfl
          · exact absurd hy (hnone y)
          · exact AP.isEqual_refl _
      simp [mergeAdd, firstAdd_snoc, hf, this]
    | some a =>
      have ha := firstAdd_mem l a hf
      by_cases he : b.isEqual a = true
      · have : Compatible (l ++ [some b]) := by
          intro x y hx hy
          simp only [List.mem_append, List.mem_singleton, Option.some.injEq] at hx hy
          rcases hx with hx | rfl <;> rcases hy with hy | rfl
          · exact hc x y hx hy
          · exact AP.isEqual_trans x a _ (hc x a hx ha) (by rw [AP.isEqual_symm]; exact he)
          · exact AP.isEqual_trans _ a y he (hc a y ha hy)
          · exact AP.isEqual_refl _
        simp [mergeAdd, firstAdd_snoc, hf, this, he]
      · have : ¬ Compatible (l ++ [some b]) := by
          intro hc'
          exact he (hc' b a (by simp) (by simp [ha]))
        simp [mergeAdd, this, he]

theorem compatible_prefix (l m : List (Option (AP L))) (h : Compatible (l ++ m)) : Compatible l :=
  fun a b ha hb => h a b (List.mem_append_left _ ha) (List.mem_append_left _ hb)


/-! ### `extendWith`, `extend` -/

/-- every name resolves to its base -/
inductive Resolves (pt : String → Except Err (CS L)) : List String → List (CS L) → Prop
  | nil : Resolves pt [] []
  | cons {n : String} {b : CS L} {ns : List String} {bs : List (CS L)} :
      pt n = .ok b → Resolves pt ns bs → Resolves pt (n :: ns) (b :: bs)

omit [DecidableEq L] in
theorem resolves_nil_iff (pt : String → Except Err (CS L)) (bases : List (CS L)) : Resolves pt [] bases ↔ bases = [] := by
  constructor
  · intro h; cases h; rfl
  · rintro rfl; exact .nil

omit [DecidableEq L] in
theorem resolves_unique (pt : String → Except Err (CS L)) (names : List String) :
    ∀ (b1 b2 : List (CS L)), Resolves pt names b1 → Resolves pt names b2 → b1 = b2 := by
  induction names with
  | nil => intro b1 b2 h1 h2; cases h1; cases h2; rfl
  | cons n ns ih =>
    intro b1 b2 h1 h2
    cases h1 with
    | cons hb1 hr1 =>
      cases h2 with
      | cons hb2 hr2 => rw [hb1] at hb2; cases hb2; rw [ih _ _ hr1 hr2]

theorem extendWith_ok_iff (pt : String → Except Err (CS L)) (l : List (Option (AP L))) (hl : Compatible l)
    (acc acc' : Acc L) (hacc : acc.add = firstAdd l) (n : String) :
    extendWith pt acc n = .ok acc' ↔
      ∃ b, pt n = .ok b ∧ isObj b = true ∧ Fresh acc.keys (keysOf b) ∧ Compatible (l ++ [addOf b]) ∧
        acc' = ⟨acc.keys ++ keysOf b, acc.inh ++ entsOf b, acc.req ++ reqsOf b, firstAdd (l ++ [addOf b])⟩ := by
  unfold extendWith
  cases hp : pt n with
  | error e => simp
  | ok b =>
    cases b with
    | obj bents breq badd =>
      simp only [Except.ok.injEq, exists_eq_left', isObj, keysOf, entsOf, reqsOf, addOf, true_and]
      rw [hacc]
      obtain ⟨m1, m2⟩ := mergeAdd_spec l hl badd
      by_cases hc : Compatible (l ++ [badd])
      · rw [m1 hc]
        simp only [hc, true_and]
        cases ha : addKeys acc.keys (bents.map keyOf) with
        | error e =>
          simp only [reduceCtorEq, false_iff, not_and]
          intro hf
          have := (addKeys_ok_iff _ acc.keys _).2 ⟨rfl, hf⟩
          rw [ha] at this; cases this
        | ok keys' =>
          obtain ⟨rfl, hf⟩ := (addKeys_ok_iff _ acc.keys _).1 ha
          simp only [Except.ok.injEq, hf, true_and]
          exact eq_comm
      · rw [m2 hc]; simp [hc]
    | lit l | any | arr items | ref names nul => simp [isObj]

theorem extendAll_ok_iff (pt : String → Except Err (CS L)) (names : List String) :
    ∀ (l : List (Option (AP L))) (_ : Compatible l) (acc acc' : Acc L) (_ : acc.add = firstAdd l),
    extendAll pt acc names = .ok acc' ↔
      ∃ bases, Resolves pt names bases ∧ (∀ b ∈ bases, isObj b = true) ∧
        Fresh acc.keys (bases.flatMap keysOf) ∧ Compatible (l ++ bases.map addOf) ∧
        acc' = ⟨acc.keys ++ bases.flatMap keysOf, acc.inh ++ bases.flatMap entsOf, acc.req ++ bases.flatMap reqsOf,
                firstAdd (l ++ bases.map addOf)⟩ := by
  induction names with
  | nil =>
    intro l hl acc acc' hacc
    simp only [extendAll, Except.ok.injEq, resolves_nil_iff]
    constructor
    · rintro rfl
      exact ⟨[], rfl, by simp, ⟨by simp, List.nodup_nil⟩, by simpa using hl, by simp [← hacc]⟩
    · rintro ⟨_, rfl, _, _, _, rfl⟩
      simp [← hacc]
  | cons n ns ih =>
    intro l hl acc acc' hacc
    simp only [extendAll]
    cases h1 : extendWith pt acc n with
    | error e =>
      simp only [reduceCtorEq, false_iff, not_exists, not_and]
      intro bases hr hobj hf hc
      cases hr with
      | cons hb hr' =>
        rename_i b bs
        have : extendWith pt acc n = .ok _ :=
          (extendWith_ok_iff pt l hl acc _ hacc n).2 ⟨b, hb, hobj b (List.mem_cons_self ..),
            ((fresh_append _ _ _).1 (by simpa using hf)).1,
            compatible_prefix _ (bs.map addOf) (by simpa using hc), rfl⟩
        rw [h1] at this; cases this
    | ok acc1 =>
      obtain ⟨b, hb, hob, hfb, hcb, rfl⟩ := (extendWith_ok_iff pt l hl acc acc1 hacc n).1 h1
      rw [ih (l ++ [addOf b]) hcb _ acc' rfl]
      constructor
      · rintro ⟨bs, hr, hobj, hf, hc, rfl⟩
        refine ⟨b :: bs, Resolves.cons hb hr, ?_, ?_, ?_, ?_⟩
        · intro x hx
          rcases List.mem_cons.1 hx with rfl | hx
          · exact hob
          · exact hobj x hx
        · simp only [List.flatMap_cons]
          exact (fresh_append _ _ _).2 ⟨hfb, hf⟩
        · simpa using hc
        · simp [List.append_assoc]
      · rintro ⟨bases, hr, hobj, hf, hc, rfl⟩
        cases hr with
        | cons hb' hr' =>
          rename_i b' bs
          have : b' = b := by rw [hb] at hb'; cases hb'; rfl
          subst this
          refine ⟨bs, hr', fun x hx => hobj x (List.mem_cons_of_mem _ hx), ?_, ?_, ?_⟩
          · exact ((fresh_append _ _ _).1 (by simpa using hf)).2
          · simpa using hc
          · simp [List.append_assoc]



/-! ### one step of `compileList`, `compileEnts`, `compileWith` -/

theorem compileList_cons_ok {pt : String → Except Err (CS L)} {x : PS L} {xs : List (PS L)} {cs : List (CS L)} :
    compileList pt (x :: xs) = .ok cs ↔
      ∃ x' xs', compileWith pt x = .ok x' ∧ compileList pt xs = .ok xs' ∧ cs = x' :: xs' := by
  rw [compileList]
  cases compileWith pt x with
  | error e => simp
  | ok x' => cases compileList pt xs <;> simp [eq_comm]

theorem compileEnts_cons_ok {pt : String → Except Err (CS L)} {k : String} {sh r : Bool} {v : PS L}
    {es : List (String × Bool × Bool × PS L)} {cs : List (String × Bool × Bool × CS L)} :
    compileEnts pt ((k, sh, r, v) :: es) = .ok cs ↔
      ∃ v' es', compileWith pt v = .ok v' ∧ compileEnts pt es = .ok es' ∧ cs = (k, sh, r, v') :: es' := by
  rw [compileEnts]
  cases compileWith pt v with
  | error e => simp
  | ok v' => cases compileEnts pt es <;> simp [eq_comm]

theorem compileWith_arr_ok {pt : String → Except Err (CS L)} {items : List (PS L)} {c : CS L} :
    compileWith pt (.arr items) = .ok c ↔ ∃ items', compileList pt items = .ok items' ∧ c = .arr items' := by
  rw [compileWith]
  cases compileList pt items <;> simp [eq_comm]

theorem compileWith_obj_ok {pt : String → Except Err (CS L)} {ents : List (String × Bool × Bool × PS L)}
    {add : Option (AP L)} {allOf : Option (List String)} {c : CS L} :
    compileWith pt (.obj ents add allOf) = .ok c ↔
      ∃ acc own, extendObj pt ⟨ents.map keyOf, [], reqOf ents, add⟩ allOf = .ok acc ∧
        compileEnts pt ents = .ok own ∧ c = .obj (own ++ acc.inh) acc.req acc.add := by
  rw [compileWith]
  cases extendObj pt ⟨ents.map keyOf, [], reqOf ents, add⟩ allOf with
  | error e => simp
  | ok acc => cases compileEnts pt ents <;> simp [eq_comm]

/-! ### the object case of `processNode` -/

theorem compatible_single (a : Option (AP L)) : Compatible [a] := by
  intro x y hx hy
  simp only [List.mem_singleton] at hx hy
  subst hx; cases hy; exact AP.isEqual_refl _

omit [DecidableEq L] in
theorem firstAdd_single (a : Option (AP L)) : firstAdd [a] = a := by
  cases a <;> rfl

/-- `C03_allOf_expand` for the model that follows the code: an object with a non-empty allOf list expands iff
every name resolves to an object, the own children expand, no (key, isShortcut) pair comes twice and the
additionalProperties constraints present agree (`IsEqual`); the result has the own children followed by the
children of the bases in list order, the own required keys followed by the bases' required keys, and the first
additionalProperties constraint present (own first) -/
theorem compileWith_obj_ok_iff (pt : String → Except Err (CS L)) (ents : List (String × Bool × Bool × PS L))
    (add : Option (AP L)) (names : List String) (c : CS L) :
    compileWith pt (.obj ents add (some names)) = .ok c ↔
      names ≠ [] ∧ ∃ bases own, Resolves pt names bases ∧ (∀ b ∈ bases, isObj b = true) ∧
        compileEnts pt ents = .ok own ∧
        Fresh (ents.map keyOf) (bases.flatMap keysOf) ∧ Compatible (add :: bases.map addOf) ∧
        c = .obj (own ++ bases.flatMap entsOf) (reqOf ents ++ bases.flatMap reqsOf) (firstAdd (add :: bases.map addOf)) := by
  rw [compileWith_obj_ok]
  cases names with
  | nil => simp [extendObj]
  | cons n ns =>
    have key := fun acc => extendAll_ok_iff pt (n :: ns) [add] (compatible_single add)
      ⟨ents.map keyOf, [], reqOf ents, add⟩ acc (firstAdd_single add).symm
    simp only [extendObj, key, ne_eq, reduceCtorEq, not_false_eq_true, true_and, List.singleton_append]
    constructor
    · rintro ⟨_, own, ⟨bases, hr, hobj, hf, hc, rfl⟩, ho, rfl⟩
      exact ⟨bases, own, hr, hobj, ho, hf, hc, by rw [List.nil_append]⟩
    · rintro ⟨bases, own, hr, hobj, ho, hf, hc, rfl⟩
      exact ⟨_, own, ⟨bases, hr, hobj, hf, hc, rfl⟩, ho, by rw [List.nil_append]⟩

/-- without allOf the object keeps its children, its required keys and its additionalProperties constraint -/
theorem compileWith_obj_none_iff (pt : String → Except Err (CS L)) (ents : List (String × Bool × Bool × PS L))
    (add : Option (AP L)) (c : CS L) :
    compileWith pt (.obj ents add none) = .ok c ↔
      ∃ own, compileEnts pt ents = .ok own ∧ c = .obj own (reqOf ents) add := by
  simp [compileWith_obj_ok, extendObj]

/-! ### the children keep their keys and flags -/

theorem compileEnts_shape (pt : String → Except Err (CS L)) :
    ∀ (ents : List (String × Bool × Bool × PS L)) (own : List (String × Bool × Bool × CS L)),
    compileEnts pt ents = .ok own → own.map keyOf = ents.map keyOf ∧ reqOf own = reqOf ents
  | [], own, h => by simp only [compileEnts, Except.ok.injEq] at h; subst h; exact ⟨rfl, rfl⟩
  | (k, sh, r, v) :: es, own, h => by
    obtain ⟨v', es', _, h2, rfl⟩ := compileEnts_cons_ok.1 h
    obtain ⟨i1, i2⟩ := compileEnts_shape pt es es' h2
    exact ⟨by rw [List.map_cons, List.map_cons, i1]; rfl, by rw [reqOf_cons, reqOf_cons, i2]⟩

/-! ### the result does not depend on the context in which a type is expanded

`compileWith` is monotone in the resolver: a resolver that succeeds more often with the same answers gives
the same answer. Hence `processType` gives the same compiled type with more fuel and fewer types in
progress: expanding a type again (the model) and taking it from the memo `compiledTypes` (the code) agree. -/

theorem extendWith_mono (pt pt' : String → Except Err (CS L)) (h : ∀ n c, pt n = .ok c → pt' n = .ok c)
    (acc acc' : Acc L) (n : String) (hc : extendWith pt acc n = .ok acc') : extendWith pt' acc n = .ok acc' := by
  unfold extendWith at hc ⊢
  cases hp : pt n with
  | error e => rw [hp] at hc; cases hc
  | ok b => rw [hp] at hc; rw [h n b hp]; exact hc

theorem extendAll_mono (pt pt' : String → Except Err (CS L)) (h : ∀ n c, pt n = .ok c → pt' n = .ok c)
    (names : List String) : ∀ (acc acc' : Acc L), extendAll pt acc names = .ok acc' → extendAll pt' acc names = .ok acc' := by
  induction names with
  | nil => intro acc acc' hc; exact hc
  | cons n ns ih =>
    intro acc acc' hc
    simp only [extendAll] at hc ⊢
    cases h1 : extendWith pt acc n with
    | error e => rw [h1] at hc; cases hc
    | ok a1 => rw [h1] at hc; rw [extendWith_mono pt pt' h acc a1 n h1]; exact ih a1 acc' hc

theorem extendObj_mono (pt pt' : String → Except Err (CS L)) (h : ∀ n c, pt n = .ok c → pt' n = .ok c)
    (acc acc' : Acc L) : ∀ (allOf : Option (List String)), extendObj pt acc allOf = .ok acc' →
    extendObj pt' acc allOf = .ok acc'
  | none, hc => hc
  | some [], hc => hc
  | some (_ :: _), hc => extendAll_mono pt pt' h _ _ _ hc

mutual
theorem compileWith_mono (pt pt' : String → Except Err (CS L)) (h : ∀ n c, pt n = .ok c → pt' n = .ok c) :
    ∀ (t : PS L) (c : CS L), compileWith pt t = .ok c → compileWith pt' t = .ok c
  | .lit l, c, hc => by simpa [compileWith] using hc
  | .any, c, hc => by simpa [compileWith] using hc
  | .ref names nul, c, hc => by simpa [compileWith] using hc
  | .bad names, c, hc => by simp [compileWith] at hc
  | .arr items, c, hc => by
    obtain ⟨items', hl, rfl⟩ := compileWith_arr_ok.1 hc
    exact compileWith_arr_ok.2 ⟨items', compileList_mono pt pt' h items items' hl, rfl⟩
  | .obj ents add allOf, c, hc => by
    obtain ⟨acc, own, h1, h2, rfl⟩ := compileWith_obj_ok.1 hc
    exact compileWith_obj_ok.2 ⟨acc, own, extendObj_mono pt pt' h _ _ _ h1, compileEnts_mono pt pt' h ents own h2, rfl⟩
theorem compileList_mono (pt pt' : String → Except Err (CS L)) (h : ∀ n c, pt n = .ok c → pt' n = .ok c) :
    ∀ (xs : List (PS L)) (cs : List (CS L)), compileList pt xs = .ok cs → compileList pt' xs = .ok cs
  | [], cs, hc => hc
  | x :: xs, cs, hc => by
    obtain ⟨x', xs', h1, h2, rfl⟩ := compileList_cons_ok.1 hc
    exact compileList_cons_ok.2 ⟨x', xs', compileWith_mono pt pt' h x x' h1, compileList_mono pt pt' h xs xs' h2, rfl⟩
theorem compileEnts_mono (pt pt' : String → Except Err (CS L)) (h : ∀ n c, pt n = .ok c → pt' n = .ok c) :
    ∀ (es : List (String × Bool × Bool × PS L)) (cs : List (String × Bool × Bool × CS L)),
      compileEnts pt es = .ok cs → compileEnts pt' es = .ok cs
  | [], cs, hc => hc
  | (k, sh, r, v) :: es, cs, hc => by
    obtain ⟨v', es', h1, h2, rfl⟩ := compileEnts_cons_ok.1 hc
    exact compileEnts_cons_ok.2 ⟨v', es', compileWith_mono pt pt' h v v' h1, compileEnts_mono pt pt' h es es' h2, rfl⟩
end

theorem processType_succ_ok_iff (env : PEnv L) (f : Nat) (P : List String) (n : String) (c : CS L) :
    processType env (f + 1) P n = .ok c ↔
      n ∉ P ∧ ∃ t, lookupP env n = some t ∧ compileWith (fun m => processType env f (n :: P) m) t = .ok c := by
  simp only [processType, List.contains_iff_mem]
  by_cases hn : n ∈ P
  · simp [hn]
  · cases lookupP env n <;> simp [hn]

/-- more fuel and fewer types in progress: the same compiled type -/
theorem processType_mono (env : PEnv L) : ∀ (f f' : Nat) (P P' : List String) (n : String) (c : CS L),
    f ≤ f' → (∀ x, x ∈ P' → x ∈ P) → processType env f P n = .ok c → processType env f' P' n = .ok c := by
  intro f
  induction f with
  | zero => intro f' P P' n c _ _ h; simp [processType] at h
  | succ f ih =>
    intro f' P P' n c hf hP h
    obtain ⟨g, rfl⟩ : ∃ g, f' = g + 1 := ⟨f' - 1, by omega⟩
    obtain ⟨hn, t, hl, h⟩ := (processType_succ_ok_iff env f P n c).1 h
    refine (processType_succ_ok_iff env g P' n c).2 ⟨fun hm => hn (hP n hm), t, hl, ?_⟩
    refine compileWith_mono _ _ (fun m c' hm => ih g (n :: P) (n :: P') m c' (by omega) ?_ hm) t c h
    intro x hx
    rcases List.mem_cons.1 hx with rfl | hx
    · exact List.mem_cons_self ..
    · exact List.mem_cons_of_mem _ (hP x hx)

/-- the expansion of a type is the same in every context in which it succeeds -/
theorem processType_proc_irrelevant (env : PEnv L) (f f' : Nat) (P P' : List String) (n : String) (c c' : CS L)
    (h : processType env f P n = .ok c) (h' : processType env f' P' n = .ok c') : c = c' := by
  have h1 := processType_mono env f (max f f') P [] n c (Nat.le_max_left ..) (by simp) h
  have h2 := processType_mono env f' (max f f') P' [] n c' (Nat.le_max_right ..) (by simp) h'
  rw [h1] at h2; cases h2; rfl

/-! ### where an error comes from -/

mutual
/-- every type name in an allOf list of a node of the schema -/
def allOfNames : PS L → List String
  | .lit _ => []
  | .any => []
  | .ref _ _ => []
  | .bad names => names
  | .arr items => allOfNamesList items
  | .obj ents _ allOf => (match allOf with | some names => names | none => []) ++ allOfNamesEnts ents
def allOfNamesList : List (PS L) → List String
  | [] => []
  | x :: xs => allOfNames x ++ allOfNamesList xs
def allOfNamesEnts : List (String × Bool × Bool × PS L) → List String
  | [] => []
  | (_, _, _, v) :: es => allOfNames v ++ allOfNamesEnts es
end

/-- the errors `processNode` raises itself (the others come out of `processType`) -/
def Err.isLocal : Err → Bool
  | .notObject | .unexpectedConstraint | .duplicateKey | .conflictAdd | .emptyAllOf => true
  | .recursion | .unknownType | .fuel => false

theorem mergeAdd_error (a b : Option (AP L)) (e : Err) (h : mergeAdd a b = .error e) : e = .conflictAdd := by
  cases b with
  | none => simp [mergeAdd] at h
  | some b =>
    cases a with
    | none => simp [mergeAdd] at h
    | some a =>
      simp only [mergeAdd] at h
      split at h
      · cases h
      · cases h; rfl

/-- `x` passes only if `pt` resolves every name of `names`; its error is raised by `processNode` itself or is the
error of `pt` for one of the names -/
def ByNames {α : Type} (pt : String → Except Err (CS L)) (names : List String) (x : Except Err α) : Prop :=
  wp x (fun _ => ∀ n ∈ names, ∃ cn, pt n = .ok cn) (fun e => e.isLocal = true ∨ ∃ n ∈ names, pt n = .error e)

omit [DecidableEq L] in
/-- first the names `l1`, then — if that passed — the names `l2` -/
theorem ByNames.append {α β : Type} {pt : String → Except Err (CS L)} {l1 l2 : List String} {x : Except Err α}
    {y : Except Err β} (h1 : ByNames pt l1 x) (h2 : ByNames pt l2 y) :
    wp x (fun _ => ByNames pt (l1 ++ l2) y) (fun e => e.isLocal = true ∨ ∃ n ∈ l1 ++ l2, pt n = .error e) :=
  h1.elim (fun _ he => he.imp_right fun ⟨m, hm, hp⟩ => ⟨m, List.mem_append_left _ hm, hp⟩) fun _ ha =>
    h2.elim (fun _ he => he.imp_right fun ⟨m, hm, hp⟩ => ⟨m, List.mem_append_right _ hm, hp⟩) fun _ hb n hn =>
      (List.mem_append.1 hn).elim (ha n) (hb n)

theorem extendWith_names (pt : String → Except Err (CS L)) (acc : Acc L) (n : String) :
    ByNames pt [n] (extendWith pt acc n) := by
  unfold extendWith
  cases hp : pt n with
  | error e => exact Or.inr ⟨n, List.mem_cons_self, hp⟩
  | ok b =>
    have hok : ∀ m ∈ [n], ∃ cn, pt m = .ok cn := fun m hm => by rw [List.mem_singleton.1 hm]; exact ⟨b, hp⟩
    cases b with
    | obj bents breq badd =>
      dsimp only
      cases hm : mergeAdd acc.add badd with
      | error e' => exact Or.inl (by rw [mergeAdd_error _ _ _ hm]; rfl)
      | ok a =>
        dsimp only
        cases hk : addKeys acc.keys (bents.map keyOf) with
        | error e' => exact Or.inl (by rw [addKeys_error _ _ _ hk]; rfl)
        | ok ks => exact hok
    | lit l | any | arr items | ref names nul => exact Or.inl rfl

theorem extendAll_names (pt : String → Except Err (CS L)) : ∀ (names : List String) (acc : Acc L),
    ByNames pt names (extendAll pt acc names)
  | [], _ => nofun
  | n :: ns, acc => by
    unfold extendAll
    refine (extendWith_names pt acc n).elim
      (fun _ he => he.imp_right fun ⟨m, hm, hp⟩ => ⟨m, List.mem_singleton.1 hm ▸ List.mem_cons_self, hp⟩) fun a1 h1 => ?_
    dsimp only
    exact (extendAll_names pt ns a1).elim (fun _ he => he.imp_right fun ⟨m, hm, hp⟩ => ⟨m, List.mem_cons_of_mem _ hm, hp⟩)
      fun _ h2 => List.forall_mem_cons.2 ⟨h1 n List.mem_cons_self, h2⟩

mutual
theorem compileWith_names (pt : String → Except Err (CS L)) : ∀ (t : PS L), ByNames pt (allOfNames t) (compileWith pt t)
  | .lit l => nofun
  | .any => nofun
  | .ref names nul => nofun
  | .bad [] => Or.inl rfl
  | .bad (n :: ns) => by
    simp only [compileWith, extendBad]
    cases hp : pt n with
    | error e' => exact Or.inr ⟨n, List.mem_cons_self, hp⟩
    | ok b => refine Or.inl ?_; dsimp only; split <;> rfl
  | .arr items => by
    rw [compileWith]
    exact (compileList_names pt items).elim (fun _ he => he) fun _ h => h
  | .obj ents add allOf => by
    rw [compileWith]
    have h1 : ByNames pt (match allOf with | some names => names | none => [])
        (extendObj pt ⟨ents.map keyOf, [], reqOf ents, add⟩ allOf) := by
      rcases allOf with _ | _ | ⟨n, ns⟩
      · exact nofun
      · exact Or.inl rfl
      · exact extendAll_names pt _ _
    refine (h1.append (compileEnts_names pt ents)).elim (fun _ he => he) fun acc h => ?_
    exact h.elim (fun _ he => he) fun _ h => h
theorem compileList_names (pt : String → Except Err (CS L)) : ∀ (xs : List (PS L)),
    ByNames pt (allOfNamesList xs) (compileList pt xs)
  | [] => nofun
  | x :: xs => by
    simp only [compileList]
    refine ((compileWith_names pt x).append (compileList_names pt xs)).elim (fun _ he => he) fun x' h => ?_
    exact h.elim (fun _ he => he) fun _ h => h
theorem compileEnts_names (pt : String → Except Err (CS L)) : ∀ (es : List (String × Bool × Bool × PS L)),
    ByNames pt (allOfNamesEnts es) (compileEnts pt es)
  | [] => nofun
  | (k, sh, r, v) :: es => by
    simp only [compileEnts]
    refine ((compileWith_names pt v).append (compileEnts_names pt es)).elim (fun _ he => he) fun v' h => ?_
    exact h.elim (fun _ he => he) fun _ h => h
end

theorem compileList_fuel (pt : String → Except Err (CS L)) :
    ∀ (xs : List (PS L)), compileList pt xs = .error .fuel → ∃ n, pt n = .error .fuel :=
  fun xs h => ((compileList_names pt xs).error h).elim (fun hl => absurd hl Bool.false_ne_true)
    fun ⟨n, _, hn⟩ => ⟨n, hn⟩

theorem compileEnts_fuel (pt : String → Except Err (CS L)) :
    ∀ (es : List (String × Bool × Bool × PS L)), compileEnts pt es = .error .fuel → ∃ n, pt n = .error .fuel :=
  fun es h => ((compileEnts_names pt es).error h).elim (fun hl => absurd hl Bool.false_ne_true)
    fun ⟨n, _, hn⟩ => ⟨n, hn⟩

/-- an error of `processType` that `processNode` does not raise itself: a cycle, an unknown type, or the same
error for a name of an allOf list of the type's body -/
theorem processType_succ_error (env : PEnv L) (f : Nat) (P : List String) (n : String) (e : Err)
    (hloc : e.isLocal = false) (h : processType env (f + 1) P n = .error e) :
    n ∈ P ∧ e = .recursion ∨ lookupP env n = none ∧ e = .unknownType ∨
      n ∉ P ∧ ∃ t, lookupP env n = some t ∧ ∃ m ∈ allOfNames t, processType env f (n :: P) m = .error e := by
  simp only [processType, List.contains_iff_mem] at h
  by_cases hn : n ∈ P
  · rw [if_pos hn] at h; cases h; exact Or.inl ⟨hn, rfl⟩
  · rw [if_neg hn] at h
    cases hl : lookupP env n with
    | none => rw [hl] at h; cases h; exact Or.inr (Or.inl ⟨rfl, rfl⟩)
    | some t =>
      rw [hl] at h
      rcases (compileWith_names _ t).error h with h' | h'
      · rw [hloc] at h'; cases h'
      · exact Or.inr (Or.inr ⟨hn, t, rfl, h'⟩)

/-! ### the fuel of `compileAll` suffices -/

/-- `processType` never runs out of fuel when the fuel exceeds the number of types not in progress (`Visit.unvisited`) -/
theorem processType_never_out_of_fuel (env : PEnv L) : ∀ (f : Nat) (P : List String) (n : String),
    Visit.unvisited Prod.fst env P < f → processType env f P n ≠ .error .fuel := by
  intro f
  induction f with
  | zero => intro P n h; omega
  | succ f ih =>
    intro P n hfree h
    rcases processType_succ_error env f P n .fuel rfl h with ⟨_, h⟩ | ⟨_, h⟩ | ⟨hn, t, hl, m, _, hm⟩
    · cases h
    · cases h
    · have := Visit.unvisited_enter env P n t hl hn
      exact ih (n :: P) m (by omega) hm

/-! ### the whole table -/

theorem firstErr_some (env : PEnv L) (f : Nat) (e : Err) : ∀ (ns : List String), firstErr env f ns = some e →
    ∃ n ∈ ns, processType env f [] n = .error e := by
  intro ns
  induction ns with
  | nil => intro h; simp [firstErr] at h
  | cons m ms ih =>
    intro h
    simp only [firstErr] at h
    cases hp : processType env f [] m with
    | error e' => rw [hp] at h; simp only [Option.some.injEq] at h; subst h; exact ⟨m, List.mem_cons_self .., hp⟩
    | ok c =>
      rw [hp] at h
      obtain ⟨n, hn, hpn⟩ := ih h
      exact ⟨n, List.mem_cons_of_mem _ hn, hpn⟩

/-- the compiled table holds what `processType` answers for each name; an error is the error of `processType` for a name -/
theorem compileTypes_spec (env : PEnv L) (f : Nat) : ∀ (ns : List String),
    wp (compileTypes env f ns) (fun cs => ∀ p ∈ cs, processType env f [] p.1 = .ok p.2)
      (fun e => ∃ n ∈ ns, processType env f [] n = .error e)
  | [] => nofun
  | m :: ms => by
    simp only [compileTypes]
    cases hp : processType env f [] m with
    | error e => exact ⟨m, List.mem_cons_self, hp⟩
    | ok c =>
      dsimp only
      exact (compileTypes_spec env f ms).elim (fun _ ⟨n, hn, h⟩ => ⟨n, List.mem_cons_of_mem _ hn, h⟩)
        fun cs h => List.forall_mem_cons.2 ⟨hp, h⟩

/-- `CompileAllOf` passes with the root and the table as `processType` compiles them (on an empty in-progress set); its
error is an error of the root or of `processType` for some name -/
theorem compileAll_spec (env : PEnv L) (root : PS L) :
    wp (compileAll env root)
      (fun r => compileWith (fun m => processType env (env.length + 1) [] m) root = .ok r.2 ∧
        firstErr env (env.length + 1) (sortNames (env.map (·.1))) = none ∧
        compileTypes env (env.length + 1) (env.map (·.1)) = .ok r.1)
      (fun e => compileWith (fun m => processType env (env.length + 1) [] m) root = .error e ∨
        ∃ n, processType env (env.length + 1) [] n = .error e) := by
  simp only [compileAll]
  cases h1 : compileWith (fun m => processType env (env.length + 1) [] m) root with
  | error e => exact Or.inl rfl
  | ok r =>
    dsimp only
    cases h2 : firstErr env (env.length + 1) (sortNames (env.map (·.1))) with
    | some e => exact Or.inr (let ⟨n, _, hn⟩ := firstErr_some env _ _ _ h2; ⟨n, hn⟩)
    | none =>
      dsimp only
      cases h3 : compileTypes env (env.length + 1) (env.map (·.1)) with
      | error e => exact Or.inr (let ⟨n, _, hn⟩ := (compileTypes_spec env _ _).error h3; ⟨n, hn⟩)
      | ok e' => exact ⟨rfl, rfl, rfl⟩

/-- `CompileAllOf` as modelled never reports the artificial fuel error: the recursion of the model
terminates on every table, whatever its cycles -/
theorem compileAll_never_out_of_fuel (env : PEnv L) (root : PS L) : compileAll env root ≠ .error .fuel := by
  have hpt : ∀ n, processType env (env.length + 1) [] n ≠ .error .fuel := fun n =>
    processType_never_out_of_fuel env _ [] n (Nat.lt_succ_of_le (Visit.unvisited_le Prod.fst env []))
  intro h
  rcases (compileAll_spec env root).error h with h | ⟨n, h⟩
  · rcases (compileWith_names _ root).error h with hl | ⟨n, _, hn⟩
    · cases hl
    · exact hpt n hn
  · exact hpt n h

end

end AOK
