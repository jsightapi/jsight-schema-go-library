import JSight.FinishProofs
/-! The specification of C10 and the two theorems against it. `den` reads off what a numeral TEXT denotes by position
only (sign, mantissa digits, how many stand after the point, exponent digits), validating nothing. `Rel` relates the
scanner's accumulator to that reading along the character loop (`rel_step`, `rel_run`); `scan_spec` adds `finish_spec`:
the normal form of a recognised numeral has the value its text denotes. `C10_cmp_exact` (`Cmp` is `cmpDen` of the two
texts) and `C10_fracLen` follow. -/
namespace Num

structure Den where
  neg : Bool := false
  seenDot : Bool := false
  seenE : Bool := false
  expNeg : Bool := false
  digits : List Nat := []      -- mantissa digits
  fra : Nat := 0               -- how many of them stand after the point
  expDigits : List Nat := []

def Den.step (a : Den) : Ch → Den
  | .minus => if a.seenE then { a with expNeg := true } else { a with neg := true }
  | .plus => a
  | .dot => { a with seenDot := true }
  | .e => { a with seenE := true }
  | .d n => if a.seenE then { a with expDigits := a.expDigits ++ [n] }
            else { a with digits := a.digits ++ [n], fra := if a.seenDot then a.fra + 1 else a.fra }
  | .other => a

def den (cs : List Ch) : Den := cs.foldl Den.step {}

/-- signed mantissa and number of fractional digits of the denoted value `mant · 10^(-t)` -/
def Den.mant (a : Den) : Int := (if a.neg then -1 else 1) * (natVal a.digits : Int)
def Den.t (a : Den) : Int := (a.fra : Int) - (if a.expNeg then -1 else 1) * (natVal a.expDigits : Int)

def St.isExp : St → Bool | .expFound | .expSign | .expNum => true | _ => false
def St.isFrac : St → Bool | .pointFound | .fracFound => true | _ => false

def ValidCh : Ch → Prop | .d n => n < 10 | _ => True

structure Rel (s : Sc) (a : Den) : Prop where
  digits : s.digits = a.digits
  fra : s.fraLen = a.fra
  len : s.intLen + s.fraLen = a.digits.length
  neg : s.neg = a.neg
  expNeg : s.expNeg = a.expNeg
  expDigits : s.expDigits = a.expDigits
  seenE : a.seenE = s.st.isExp
  seenDot : a.seenE = false → a.seenDot = s.st.isFrac
  digs : Digits a.digits
  negStart : s.st = .start → a.neg = false

theorem rel_init : Rel {} {} := by
  constructor <;> simp [St.isExp, St.isFrac, Digits]

theorem digits_snoc {ds : List Nat} {n : Nat} (h : Digits ds) (hn : n < 10) : Digits (ds ++ [n]) :=
  digits_append h (by intro d hd; simp at hd; omega)

@[simp] theorem ite_isExp (n : Nat) : (if n = 0 then St.firstZero else St.intFound).isExp = false := by
  split <;> rfl
@[simp] theorem ite_isFrac (n : Nat) : (if n = 0 then St.firstZero else St.intFound).isFrac = false := by
  split <;> rfl
@[simp] theorem ite_ne_start (n : Nat) : (if n = 0 then St.firstZero else St.intFound) ≠ St.start := by
  split <;> simp

theorem rel_step (s s' : Sc) (a : Den) (c : Ch) (r : Rel s a) (hc : ValidCh c) (h : s.step c = some s') :
    Rel s' (a.step c) := by
  obtain ⟨r1, r2, r3, r4, r5, r6, r7, r8, r9, r10⟩ := r
  unfold Sc.step at h
  split at h
  case h_16 => cases h
  -- per transition: the state tells what `a` has seen, which fixes the step of `a`; then field by field
  all_goals (
    rename_i hst
    cases h
    simp only [hst, St.isExp, St.isFrac] at r7 r8
    simp only [Den.step, r7, r8, Bool.false_eq_true, if_false, if_true]
    constructor <;> simp [hst, r1, r2, r4, r5, r6, r7, r9] <;> first | done | exact digits_snoc r9 hc | omega | simp [St.isExp, St.isFrac])

theorem rel_run (cs : List Ch) (s s' : Sc) (a : Den) (r : Rel s a) (hc : ∀ c ∈ cs, ValidCh c)
    (h : cs.foldlM Sc.step s = some s') : Rel s' (cs.foldl Den.step a) := by
  induction cs generalizing s a with
  | nil => simp at h; subst h; exact r
  | cons c cs ih =>
    simp only [List.foldlM_cons, Option.bind_eq_bind] at h
    cases h1 : s.step c with
    | none => rw [h1] at h; simp at h
    | some s1 =>
      rw [h1] at h
      exact ih s1 (a.step c) (rel_step s s1 a c r (hc c (by simp)) h1) (fun x hx => hc x (by simp [hx])) h

/-- a recognised numeral is normalised to a well-formed normal form whose value is the value the text denotes -/
theorem scan_spec (cs : List Ch) (hc : ∀ c ∈ cs, ValidCh c) (n : N) (h : scan cs = some n) :
    WFN n ∧ n.mant * 10 ^ (den cs).t.toNat = (den cs).mant * 10 ^ (-(den cs).t).toNat * 10 ^ n.exp ∧
    (0 < n.exp → ∀ d, n.nat.getLast? = some d → d ≠ 0) := by
  unfold scan at h
  cases h1 : cs.foldlM Sc.step ({} : Sc) with
  | none => rw [h1] at h; simp at h
  | some s =>
    rw [h1] at h
    simp only [] at h
    have r := rel_run cs {} s {} rel_init hc h1
    have ok : ScOK s := ⟨by rw [r.digits]; exact r.digs, by rw [r.digits]; exact r.len⟩
    obtain ⟨wf, v, lz⟩ := finish_spec s ok n h
    refine ⟨wf, ?_, lz⟩
    have hm : s.mant = (den cs).mant := by
      unfold Sc.mant Den.mant den; rw [r.neg, r.digits]
    have ht : s.t = (den cs).t := by
      unfold Sc.t Den.t Sc.e den; rw [r.fra, r.expNeg, r.expDigits]
    rw [← hm, ← ht]; exact v

/-- spec comparison of two denotations `m·10^(-t)` by cross-scaling with non-negative powers only -/
def cmpDen (a b : Den) : Ordering :=
  compare (a.mant * 10 ^ (b.t.toNat + (-a.t).toNat)) (b.mant * 10 ^ (a.t.toNat + (-b.t).toNat))

/-- `cmpDen` orders the values `mant · 10^(-t)` -/
theorem cmpDen_lt_iff (a b : Den) : cmpDen a b = .lt ↔ dval a.mant a.t < dval b.mant b.t := by
  unfold cmpDen; rw [Int.compare_eq_lt, dval_lt_iff]
theorem cmpDen_eq_iff (a b : Den) : cmpDen a b = .eq ↔ dval a.mant a.t = dval b.mant b.t := by
  unfold cmpDen; rw [Int.compare_eq_eq, dval_eq_iff]
theorem cmpDen_gt_iff (a b : Den) : cmpDen a b = .gt ↔ dval b.mant b.t < dval a.mant a.t := by
  unfold cmpDen; rw [Int.compare_eq_gt, dval_lt_iff]

theorem cmpDen_refl (a : Den) : cmpDen a a = .eq := (cmpDen_eq_iff a a).2 rfl

/-- **C10**: `Cmp` on two recognised numerals is the exact comparison of the values their texts denote -/
theorem C10_cmp_exact (ca cb : List Ch) (ha : ∀ c ∈ ca, ValidCh c) (hb : ∀ c ∈ cb, ValidCh c)
    (na nb : N) (sa : scan ca = some na) (sb : scan cb = some nb) :
    na.cmp nb = cmpDen (den ca) (den cb) := by
  obtain ⟨wa, va, _⟩ := scan_spec ca ha na sa
  obtain ⟨wb, vb, _⟩ := scan_spec cb hb nb sb
  have ea := (dval_eq_iff_spec _ _ _ _).2 va
  have eb := (dval_eq_iff_spec _ _ _ _).2 vb
  -- `cmpVal` orders the values of the normal forms, `cmpDen` those of the texts: the same values
  rw [cmp_correct na nb wa wb]
  exact int_compare_congr (by rw [← dval_lt_iff_nat, ea, eb, dval_lt_iff]) (by rw [← dval_lt_iff_nat, ea, eb, dval_lt_iff])

/-- a normal form whose last fractional digit is not zero needs all its `n.exp` fractional digits: fewer do not
make the value times that power of ten an integer -/
theorem fracLen_le_iff (n : N) (wf : WFN n) (lz : 0 < n.exp → ∀ d, n.nat.getLast? = some d → d ≠ 0) (p : Nat) :
    n.exp ≤ p ↔ ∃ z : Int, n.mant * 10 ^ p = z * 10 ^ n.exp := by
  constructor
  · intro hle
    refine ⟨n.mant * 10 ^ (p - n.exp), ?_⟩
    rw [Int.mul_assoc, ← pow_add]; congr 2; omega
  · intro ⟨z, hz⟩
    by_contra hgt
    have hlt : p < n.exp := by omega
    -- cancel 10^p : mant = z * 10^(exp - p), so 10 divides the digit string's value
    have e1 : n.mant * 10 ^ p = (z * 10 ^ (n.exp - p)) * 10 ^ p := by
      rw [hz, Int.mul_assoc, ← pow_add]; congr 2; omega
    have e2 : n.mant = z * 10 ^ (n.exp - p) := Int.eq_of_mul_eq_mul_right (Int.ne_of_gt (Int.pow_pos (by omega))) e1
    have hdvd : (10 : Int) ∣ n.mant := by
      rw [e2]
      have : n.exp - p = (n.exp - p - 1) + 1 := by omega
      rw [this, pow_succ]
      exact ⟨z * 10 ^ (n.exp - p - 1), by ring⟩
    have hdvdN : 10 ∣ natVal n.nat := by
      have : (10 : Int) ∣ (natVal n.nat : Int) := by
        unfold N.mant at hdvd
        cases hn : n.neg <;> simp [hn] at hdvd <;> exact hdvd
      exact_mod_cast this
    rcases List.eq_nil_or_concat n.nat with h0 | ⟨xs, d, hx⟩
    · have := wf.expLe; rw [h0] at this; simp at this; omega
    · rw [List.concat_eq_append] at hx
      have hd : d ≠ 0 := lz (by omega) d (by rw [hx]; simp)
      have hd10 : d < 10 := wf.digits d (by rw [hx]; simp)
      rw [hx, natVal_snoc] at hdvdN
      omega

/-- **C10** for the normal form `n` of a recognised numeral, `LengthOfFractionalPart` (= `n.exp`) is at most `p` exactly
when the value of `n` times `10^p` is an integer; `cs` and `hc` only serve to know that `n` is well formed and ends in no
zero. That the value of `n` is the value of the text `cs` is the second clause of `scan_spec`. -/
theorem C10_fracLen (cs : List Ch) (hc : ∀ c ∈ cs, ValidCh c) (n : N) (h : scan cs = some n) (p : Nat) :
    n.exp ≤ p ↔ ∃ z : Int, n.mant * 10 ^ p = z * 10 ^ n.exp := by
  obtain ⟨wf, _, lz⟩ := scan_spec cs hc n h
  exact fracLen_le_iff n wf lz p

#print axioms C10_fracLen
#print axioms C10_cmp_exact
#print axioms scan_spec

end Num
