import JSight.SchemaInv
/-! First consequences of the invariant: what queuing a lexeme does to the effective stack (`Eff_found`,
`Eff_found_setContext`, `restoreContext_ok`), and the inversion of `Good` (`Good.inv`): the states fall into classes (`St.kind`), and
`GoodInv k eff ret` says what the effective stack and the return stack look like when the scanner is in a state of class `k`. -/
namespace SchemaScan

theorem OKRes_err {α} (P : α → Prop) {e : Err} (h : e.isCrash = false) : OKRes P (Except.error e) := h
theorem OKRes_ok {α} (P : α → Prop) {a : α} (h : P a) : OKRes P (Except.ok a) := h

theorem applyFinds_append (F : List LexT) (t : LexT) (S : List LexT) :
    applyFinds (F ++ [t]) S = (applyFinds F S).bind (applyFind t) := by
  induction F generalizing S with
  | nil => simp [applyFinds]
  | cons a F ih =>
    simp only [List.cons_append, applyFinds]
    cases applyFind a S with
    | none => rfl
    | some S' => simpa using ih S'

theorem ctxsOf_ne_nil (S : List LexT) : ∃ a L, ctxsOf S = a :: L := by
  induction S with
  | nil => exact ⟨_, _, rfl⟩
  | cons x S ih =>
    obtain ⟨a, L, h⟩ := ih
    cases x <;> first | exact ⟨_, _, rfl⟩ | exact ⟨a, L, h⟩ | skip
    cases S <;> first | exact ⟨_, _, rfl⟩ | exact ⟨a, L, h⟩

/-- queueing a lexeme whose effect on the effective stack is known and leaves the contexts alone -/
theorem Eff_found {s : Sc} {eff eff' : List LexT} {t : LexT} (h : Eff s eff)
    (ha : applyFind t eff = some eff') (hc : ctxsOf eff' = ctxsOf eff) : Eff (found s t) eff' := by
  refine ⟨?_, ?_⟩
  · show applyFinds (s.finds ++ [t]) (s.stack.map (·.1)) = some eff'
    rw [applyFinds_append, h.1]; exact ha
  · show s.ctx.ty :: s.ctxStack.map (·.ty) = ctxsOf eff'
    rw [hc]; exact h.2

theorem Eff_found_setContext {s : Sc} {eff eff' : List LexT} {t : LexT} {ty : CtxT} (h : Eff s eff)
    (ha : applyFind t eff = some eff') (hc : ctxsOf eff' = ty :: ctxsOf eff) :
    Eff (setContext (found s t) { ty := ty }) eff' := by
  refine ⟨?_, ?_⟩
  · show applyFinds (s.finds ++ [t]) (s.stack.map (·.1)) = some eff'
    rw [applyFinds_append, h.1]; exact ha
  · show ty :: s.ctx.ty :: s.ctxStack.map (·.ty) = ctxsOf eff'
    rw [hc, h.2]

theorem restoreContext_ok {s : Sc} {a : CtxT} {V : List LexT}
    (h : s.ctx.ty :: s.ctxStack.map (·.ty) = a :: ctxsOf V) :
    ∃ c rest, restoreContext s = .ok { s with ctx := c, ctxStack := rest } ∧
      c.ty :: rest.map (·.ty) = ctxsOf V := by
  obtain ⟨b, L, hL⟩ := ctxsOf_ne_nil V
  rw [hL] at h
  unfold restoreContext
  cases hcs : s.ctxStack with
  | nil => simp [hcs] at h
  | cons c rest =>
    refine ⟨c, rest, rfl, ?_⟩
    rw [hcs] at h
    simp only [List.map_cons, List.cons.injEq] at h
    rw [hL]; simp [h.2.1, h.2.2]

macro "good_inv" st:ident h:ident hst:ident cls:ident : tactic =>
  `(tactic| (cases $st:ident <;> simp [$cls:ident] at $hst:ident <;>
    (cases $h:ident <;> simp_all [St.objState, St.arrState, St.ksState, St.keyState, St.litState, St.tsState,
      St.uState, St.isComment, St.pendState, St.inlState, St.mlState] <;>
      try (refine ⟨_, _, ⟨rfl, rfl⟩, ?_, ?_⟩ <;> assumption))))

/-! ### inversion of `Good` -/

/-- the states, by which rules of `Good` can hold of them -/
inductive StKind
  | root | obj | arr | ks | endValue | str | key | lit | ts | u | comment | pend | inl | inlTxt | ml | mlTxt
  | guard (x : St)

def St.kind : St → StKind
  | .foundRoot | .endTop => .root
  | .objKeyOrEmpty | .objKey | .objKeyAfterNL | .afterKey | .objValue | .afterValue => .obj
  | .arrItemOrEmpty | .arrItem | .afterItem => .arr
  | .keyShortcut => .ks
  | .endValue => .endValue
  | .inString | .esc => .str
  | .annKeyFirst | .annKey | .annKeyAfter => .key
  | .neg | .d1 | .d0 | .dot | .dot0 | .t | .tr | .tru | .f | .fa | .fal | .fals | .n | .nu | .nul => .lit
  | .tsBeginName | .tsName | .tsBeforePipe | .tsAfterPipe => .ts
  | .u0 | .u1 | .u2 | .u3 => .u
  | .anyCommentStart | .inlineComment | .multiLineComment => .comment
  | .anyAnnStart | .inlAnnStart | .inlTxtSkip => .pend
  | .inlAnn | .inlTxtPrefix | .inlTxtPrefix2 => .inl
  | .inlTxt => .inlTxt
  | .mlAnn | .mlTxtPrefix | .mlTxtPrefix2 | .mlAnnEnd => .ml
  | .mlTxt => .mlTxt
  | .guard x => .guard x

/-- what `Good st eff ret` says of `eff` and `ret` for a state of kind `k` -/
def GoodInv (k : StKind) (eff : List LexT) (ret : List St) : Prop :=
  match k with
  | .root => eff = [] ∧ ret = []
  | .obj => ∃ V, eff = .objB :: V ∧ CH V ret
  | .arr => ∃ V, eff = .arrB :: V ∧ CH V ret
  | .ks => ∃ V, eff = .ksB :: .objB :: V ∧ CH V ret
  | .endValue =>
    (∃ V, eff = .ksB :: .objB :: V ∧ CH V ret) ∨ (∃ V, eff = .keyB :: .objB :: V ∧ CH V ret) ∨
    (∃ V, eff = .litB :: V ∧ VH V ret) ∨ (∃ V, eff = .tsB :: .mixB :: V ∧ VH V ret) ∨ CH eff ret
  | .str => (∃ V, eff = .litB :: V ∧ VH V ret) ∨ (∃ V, eff = .keyB :: .objB :: V ∧ CH V ret)
  | .key => ∃ V, eff = .keyB :: .objB :: V ∧ CH V ret
  | .lit => ∃ V, eff = .litB :: V ∧ VH V ret
  | .ts => ∃ V, eff = .tsB :: .mixB :: V ∧ VH V ret
  | .u => ∃ ret', ret = .inString :: ret' ∧ Good .inString eff ret'
  | .comment => ∃ r ret', ret = r :: ret' ∧ r.cflag = 0 ∧ Good r eff ret'
  | .pend => ∃ r ret', ret = r :: ret' ∧ r.annRet = true ∧ Good r eff ret'
  | .inl => ∃ r σ ret', eff = .inlAnnB :: σ ∧ ret = r :: ret' ∧ r.annRet = true ∧ Good r σ ret'
  | .inlTxt => ∃ r σ ret', eff = .inlTxtB :: .inlAnnB :: σ ∧ ret = r :: ret' ∧ r.annRet = true ∧ Good r σ ret'
  | .ml => ∃ r σ ret', eff = .mlAnnB :: σ ∧ ret = r :: ret' ∧ r.annRet = true ∧ Good r σ ret'
  | .mlTxt => ∃ r σ ret', eff = .mlTxtB :: .mlAnnB :: σ ∧ ret = r :: ret' ∧ r.annRet = true ∧ Good r σ ret'
  | .guard x => x.isGuard = false ∧ Good x eff ret

/-- **inversion of `Good`**: each rule speaks of a class of states; a state of the class has a kind that admits the rule -/
theorem Good.inv {st eff ret} (h : Good st eff ret) : GoodInv st.kind eff ret := by
  cases h with
  | foundRoot => exact ⟨rfl, rfl⟩
  | endTop => exact ⟨rfl, rfl⟩
  | obj hst hV => cases st <;> first | (cases hst; done) | exact ⟨_, rfl, hV⟩
  | arr hst hV => cases st <;> first | (cases hst; done) | exact ⟨_, rfl, hV⟩
  | ks hst hV => cases st <;> first | (cases hst; done) | exact ⟨_, rfl, hV⟩ | exact Or.inl ⟨_, rfl, hV⟩
  | key hst hV =>
    cases st <;>
      (first | (cases hst; done) | exact ⟨_, rfl, hV⟩ | exact Or.inr ⟨_, rfl, hV⟩ | exact Or.inr (Or.inl ⟨_, rfl, hV⟩))
  | lit hst hV =>
    cases st <;>
      (first | (cases hst; done) | exact ⟨_, rfl, hV⟩ | exact Or.inl ⟨_, rfl, hV⟩ | exact Or.inr (Or.inr (Or.inl ⟨_, rfl, hV⟩)))
  | ts hst hV =>
    cases st <;> (first | (cases hst; done) | exact ⟨_, rfl, hV⟩ | exact Or.inr (Or.inr (Or.inr (Or.inl ⟨_, rfl, hV⟩))))
  | done hC => exact Or.inr (Or.inr (Or.inr (Or.inr hC)))
  | uesc hst h' => cases st <;> first | (cases hst; done) | exact ⟨_, rfl, h'⟩
  | comment hst hr h' => cases st <;> first | (cases hst; done) | exact ⟨_, _, rfl, hr, h'⟩
  | pend hst hr h' => cases st <;> first | (cases hst; done) | exact ⟨_, _, rfl, hr, h'⟩
  | inl hst hr h' => cases st <;> first | (cases hst; done) | exact ⟨_, _, _, rfl, rfl, hr, h'⟩
  | inlTxt hr h' => exact ⟨_, _, _, rfl, rfl, hr, h'⟩
  | ml hst hr h' => cases st <;> first | (cases hst; done) | exact ⟨_, _, _, rfl, rfl, hr, h'⟩
  | mlTxt hr h' => exact ⟨_, _, _, rfl, rfl, hr, h'⟩
  | guard hg h' => exact ⟨hg, h'⟩

/-- `Good.inv` for a state known by its kind only -/
theorem Good.inv_of {st eff ret k} (hk : st.kind = k) (h : Good st eff ret) : GoodInv k eff ret := hk ▸ h.inv

end SchemaScan
