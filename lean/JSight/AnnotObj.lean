import JSight.AnnotQRun
/-!
C13, inline versus multi-line annotations: the rule object. Grammar (on byte classes): rules
`blanks name spaces ":" blanks value blanks` separated by `,`, optionally a trailing comma with blanks behind it,
or an empty object with blanks; events. The run of the scanner model from behind `{` to behind `}` (`obj_run`) is in
`AnnotQObj`, as the case of bare names and literal values of `obj_runQ`.
-/
namespace SchemaScan

variable {data : Array Cls}

structure CRule where
  b1 : List Cls      -- blanks before the name
  name : List Cls    -- bare rule name
  n2 : Nat           -- spaces between the name and the colon
  b3 : List Cls      -- blanks between the colon and the value
  val : List Cls     -- literal value
  b4 : List Cls      -- blanks behind the value

def CRule.render (r : CRule) : List Cls :=
  r.b1 ++ (r.name ++ (List.replicate r.n2 Cls.sp ++ (Cls.colon :: (r.b3 ++ (r.val ++ r.b4)))))

def CRule.Valid (a : Ann) (r : CRule) : Prop :=
  ABlank a r.b1 ∧ IsName r.name ∧ ABlank a r.b3 ∧ IsScalar r.val ∧ ABlank a r.b4

/-- offset of the name / of the value of a rule that starts (with its blanks) at `p` -/
def CRule.nameOff (r : CRule) (p : Nat) : Nat := p + r.b1.length
def CRule.valOff (r : CRule) (p : Nat) : Nat := p + r.b1.length + r.name.length + r.n2 + 1 + r.b3.length

/-- events up to the literal-begin of the value -/
def CRule.openEvs (r : CRule) (p : Nat) : List Ev :=
  nlEvs p r.b1 ++ (⟨.keyB, r.nameOff p, r.nameOff p⟩ :: ⟨.keyE, r.nameOff p, r.nameOff p + r.name.length + r.n2 - 1⟩ ::
    (nlEvs (r.nameOff p + r.name.length + r.n2 + 1) r.b3 ++
      [⟨.valB, r.valOff p, r.valOff p⟩, ⟨.litB, r.valOff p, r.valOff p⟩]))

/-- events from the end of the value on -/
def CRule.closeEvs (r : CRule) (p : Nat) : List Ev :=
  ⟨.litE, r.valOff p, r.valOff p + r.val.length - 1⟩ :: ⟨.valE, r.valOff p, r.valOff p + r.val.length - 1⟩ ::
    nlEvs (r.valOff p + r.val.length) r.b4

def CRule.evs (r : CRule) (p : Nat) : List Ev := r.openEvs p ++ r.closeEvs p

/-! ### the rules of an object -/

/-- the rule object behind its `{`: empty with blanks, or rules with an optional trailing comma (and blanks) -/
inductive CObj
  | empty (b0 : List Cls)
  | rules (r : CRule) (rs : List CRule) (tc : Option (List Cls))

def renderRules : CRule → List CRule → List Cls
  | r, [] => r.render
  | r, r' :: rs => r.render ++ (Cls.comma :: renderRules r' rs)

def renderTc : Option (List Cls) → List Cls
  | none => []
  | some b5 => Cls.comma :: b5

/-- the text between `{` and `}` -/
def CObj.body : CObj → List Cls
  | .empty b0 => b0
  | .rules r rs tc => renderRules r rs ++ renderTc tc

def rulesEvs : Nat → CRule → List CRule → List Ev
  | p, r, [] => r.evs p
  | p, r, r' :: rs => r.evs p ++ rulesEvs (p + r.render.length + 1) r' rs

def tcEvs (p : Nat) : Option (List Cls) → List Ev
  | none => []
  | some b5 => nlEvs (p + 1) b5

/-- the events of the object whose `{` stands at `o` -/
def CObj.evs (o : Nat) : CObj → List Ev
  | .empty b0 => nlEvs (o + 1) b0 ++ [⟨.objE, o, o + 1 + b0.length⟩]
  | .rules r rs tc =>
    rulesEvs (o + 1) r rs ++ (tcEvs (o + 1 + (renderRules r rs).length) tc ++
      [⟨.objE, o, o + 1 + (renderRules r rs ++ renderTc tc).length⟩])

def ValidRules (a : Ann) (r : CRule) (rs : List CRule) : Prop := r.Valid a ∧ ∀ x ∈ rs, x.Valid a

def CObj.Valid (a : Ann) : CObj → Prop
  | .empty b0 => ABlank a b0
  | .rules r rs tc => ValidRules a r rs ∧ (∀ b5, tc = some b5 → ABlank a b5)

theorem CRule.render_length (r : CRule) :
    r.render.length = r.b1.length + r.name.length + r.n2 + 1 + r.b3.length + r.val.length + r.b4.length := by
  simp only [CRule.render, List.length_append, List.length_cons, List.length_replicate]; omega

/-- one rule up to (and including) the delimiter `d` that follows it -/
theorem rule_at_split (r : CRule) (d : Cls) (rest : List Cls) (p : Nat) (h : At data p (r.render ++ (d :: rest))) :
    At data p (r.b1 ++ (r.name ++ (List.replicate r.n2 Cls.sp ++ (Cls.colon :: (r.b3 ++ r.val))))) ∧
    At data (r.valOff p + r.val.length) (r.b4 ++ [d]) ∧ At data (p + r.render.length + 1) rest := by
  have e : r.render ++ (d :: rest)
      = (r.b1 ++ (r.name ++ (List.replicate r.n2 Cls.sp ++ (Cls.colon :: (r.b3 ++ r.val))))) ++ ((r.b4 ++ [d]) ++ rest) := by
    simp [CRule.render]
  rw [e, At_append] at h
  obtain ⟨h1, h23⟩ := h
  rw [At_append] at h23
  obtain ⟨h2, h3⟩ := h23
  refine ⟨h1, ?_, ?_⟩
  · have : p + (r.b1 ++ (r.name ++ (List.replicate r.n2 Cls.sp ++ (Cls.colon :: (r.b3 ++ r.val))))).length
        = r.valOff p + r.val.length := by
      simp only [CRule.valOff, List.length_append, List.length_cons, List.length_replicate]; omega
    rw [← this]; exact h2
  · have : p + (r.b1 ++ (r.name ++ (List.replicate r.n2 Cls.sp ++ (Cls.colon :: (r.b3 ++ r.val))))).length
        + (r.b4 ++ [d]).length = p + r.render.length + 1 := by
      simp only [CRule.render_length, List.length_append, List.length_cons, List.length_replicate, List.length_nil]; omega
    rw [← this]; exact h3

end SchemaScan
