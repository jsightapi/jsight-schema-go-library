import JSight.EnumNoCrashStep
/-!
No-crash theorem for the enum-rule scanner model: from one `dispatch` (`EnumNoCrashStep`) to `shiftFound`, `next`, `events`, `lengthLoop`
(including sufficiency of all fuel parameters).

Loop condition `C data B s`: either `Inv s` (see EnumNoCrashStep) and
`|finds| + 4 * (size - index) + 4 ≤ B` (a byte queues at most 4 lexemes: `inv_len`), or the tail phase (`finds = []`, `size ≤ index`, `|stack| ≤ B`).
Each successful `next` lowers `B` by one; `next` itself needs fuel `> size - index`.
-/
namespace EnumScan
open SchemaScan (Cls classify)

/-! ### one `dispatch` from a quiescent invariant state, then all the queued `shiftFound`s -/

theorem inv_len {st : St} {ret : List St} {ty finds : List LexT} (h : inv st ret ty finds = true) :
    finds.length ≤ 4 := by
  unfold inv at h
  simp only [Bool.and_eq_true, decide_eq_true_eq] at h
  exact h.1

theorem inv_cons {st : St} {ret : List St} {ty : List LexT} {t : LexT} {rest : List LexT}
    (h : inv st ret ty (t :: rest) = true) : ∃ ty', popTy ty t = some ty' ∧ inv st ret ty' rest = true := by
  unfold inv at h ⊢
  simp only [Bool.and_eq_true, decide_eq_true_eq, drainTy, List.length_cons] at h
  obtain ⟨hl, hd⟩ := h
  cases hp : popTy ty t with
  | none => simp [hp] at hd
  | some ty' =>
    refine ⟨ty', rfl, ?_⟩
    simp only [hp] at hd
    simp only [Bool.and_eq_true, decide_eq_true_eq]
    exact ⟨by omega, hd⟩

theorem shift_cons {s : Sc} {t : LexT} {rest : List LexT} (hq : Inv s) (hfs : s.finds = t :: rest) :
    ∃ s' ev, shiftFound s = .ok (some (s', ev)) ∧ Inv s' ∧ s'.index = s.index ∧ s'.finds = rest := by
  unfold Inv at hq
  rw [hfs] at hq
  obtain ⟨ty', hp, hi⟩ := inv_cons hq
  obtain ⟨s', ev, h1, h2, h3, h4, h5, h6, _⟩ := processFound_ok { s with finds := rest } t ty' hp
  refine ⟨s', ev, ?_, ?_, h6, h5⟩
  · unfold shiftFound
    rw [hfs]
    simp only [h1, Functor.map, Except.map]
  · unfold Inv
    rw [h2, h3, h4, h5]
    exact hi

theorem shift_nil {s : Sc} (hfs : s.finds = []) : shiftFound s = .ok none := by
  unfold shiftFound
  rw [hfs]
  rfl

/-! ### `next`, `events`, `lengthLoop` -/

/-- the branch of `next` at the end of the input (`processTail` in scanner.go; the `else` of the model's `next`) -/
def tailE (data : Array Cls) (s : Sc) : M (Sc × Ev) := do
  if s.stack.isEmpty then throw .eos
  let s := { s with index := s.index + 1 }
  match stackTy s 0 with
  | some .litB => if s.unf then throw (.unexpectedEOF (data.size - 1)) else processFound s .litE
  | some .inlAnnB => processFound s .inlAnnE
  | some .inlTxtB => processFound s .inlTxtE
  | some .mlAnnB => processFound s .mlAnnE
  | some .mlTxtB => processFound s .mlTxtE
  | _ => throw (.unexpectedEOF (data.size - 1))

theorem next_succ (content : Array UInt8) (data : Array Cls) (fuel : Nat) (s : Sc) :
    next content data (fuel + 1) s = (do
      if let some r ← shiftFound s then return r
      if s.index < data.size then
        let c := data[s.index]!
        let s := { s with index := s.index + 1 }
        let s ← dispatch content 8 s c data[s.index]?
        if let some r ← shiftFound s then return r
        next content data fuel s
      else tailE data s) := by
  rfl

def TailOut (data : Array Cls) (s : Sc) (r : M (Sc × Ev)) : Prop :=
  match r with
  | .ok (s', _) => s'.finds = [] ∧ data.size ≤ s'.index ∧ s'.stack.length + 1 = s.stack.length
  | .error e => e.isCrash = false

theorem tailE_spec (data : Array Cls) (s : Sc) (hf : s.finds = []) (hi : data.size ≤ s.index) :
    TailOut data s (tailE data s) := by
  obtain ⟨step, ret, stack, finds, index, ann, unf, lc, htr, uq⟩ := s
  simp only at hf hi
  subst hf
  unfold tailE
  cases stack with
  | nil => rfl
  | cons pb rest =>
    obtain ⟨p, b⟩ := pb
    cases p <;> cases unf <;> first | exact ⟨rfl, Nat.le_succ_of_le hi, rfl⟩ | rfl

theorem qs_len {st : St} {ret : List St} {ty : List LexT} (hs : qs st ret ty = true) : ty.length ≤ 3 := by
  cases st <;>
  first
  | (obtain ⟨r, _, hr, rfl⟩ := qs_ann rfl hs
     rcases hr with rfl | rfl | rfl | rfl <;> simp [base])
  | (simp [qs, lit3] at hs
     obtain ⟨_, hs⟩ := hs
     first
     | (subst hs; simp)
     | (rcases hs with rfl | rfl <;> simp))

theorem Inv_stack_len {s : Sc} (hq : Inv s) (hf : s.finds = []) : s.stack.length ≤ 3 := by
  have := qs_len (Inv_quiescent hq hf)
  simpa [tys] using this

/-- loop condition with the bound `B` on the number of events still to come -/
def C (data : Array Cls) (B : Nat) (s : Sc) : Prop :=
  (Inv s ∧ s.finds.length + 4 * (data.size - s.index) + 4 ≤ B)
  ∨ (s.finds = [] ∧ data.size ≤ s.index ∧ s.stack.length ≤ B)

def NextOut (data : Array Cls) (B : Nat) (r : M (Sc × Ev)) : Prop :=
  match r with
  | .ok (s', _) => 1 ≤ B ∧ C data (B - 1) s'
  | .error e => e.isCrash = false

theorem tail_next {data : Array Cls} {B : Nat} {s : Sc} (hf : s.finds = []) (hi : data.size ≤ s.index)
    (hB : s.stack.length ≤ B) : NextOut data B (tailE data s) := by
  have := tailE_spec data s hf hi
  unfold TailOut at this
  unfold NextOut
  cases h : tailE data s with
  | error e => rw [h] at this; exact this
  | ok x =>
    obtain ⟨s', ev⟩ := x
    rw [h] at this
    simp only at this ⊢
    exact ⟨by omega, Or.inr ⟨this.1, this.2.1, by omega⟩⟩

theorem next_spec (content : Array UInt8) (data : Array Cls) :
    ∀ (nf : Nat) (s : Sc) (B : Nat), data.size - s.index < nf → C data B s →
      NextOut data B (next content data nf s) := by
  intro nf
  induction nf with
  | zero => intro s B h; omega
  | succ nf ih =>
    intro s B hnf hC
    rw [next_succ]
    rcases hC with ⟨hq, hB⟩ | ⟨hf, hi, hB⟩
    · cases hfs : s.finds with
      | cons t rest =>
        obtain ⟨s', ev, h1, h2, h3, h4⟩ := shift_cons hq hfs
        simp only [h1, bind, Except.bind, pure, Except.pure]
        rw [hfs] at hB
        simp only [List.length_cons] at hB
        refine ⟨by omega, Or.inl ⟨h2, ?_⟩⟩
        rw [h4, h3]
        omega
      | nil =>
        simp only [shift_nil hfs, bind, Except.bind]
        by_cases hlt : s.index < data.size
        · simp only [hlt, if_true]
          have hg : Good { s with index := s.index + 1 }
              (dispatch content 8 { s with index := s.index + 1 } data[s.index]! data[s.index + 1]?) :=
            good_dispatch (f := 6) (s := { s with index := s.index + 1 }) hq hfs
          simp only [hfs] at hg
          generalize dispatch content 8 _ _ _ = r at hg ⊢
          cases r with
          | error e => exact hg
          | ok s2 =>
            obtain ⟨hq2, hi2⟩ := hg
            simp only at hi2 ⊢
            cases hfs2 : s2.finds with
            | cons t rest =>
              obtain ⟨s', ev, h1, h2, h3, h4⟩ := shift_cons hq2 hfs2
              simp only [h1, pure, Except.pure]
              have hl := inv_len hq2
              rw [hfs2] at hl
              simp only [List.length_cons] at hl
              rw [hfs] at hB
              simp only [List.length_nil] at hB
              refine ⟨by omega, Or.inl ⟨h2, ?_⟩⟩
              rw [h4, h3, hi2]
              omega
            | nil =>
              simp only [shift_nil hfs2]
              rw [hfs] at hB
              simp only [List.length_nil] at hB
              refine ih s2 B (by omega) (Or.inl ⟨hq2, ?_⟩)
              rw [hfs2, hi2]
              simp only [List.length_nil]
              omega
        · simp only [hlt, if_false]
          exact tail_next hfs (by omega) (by have := Inv_stack_len hq hfs; omega)
    · have hn : ¬ s.index < data.size := by omega
      simp only [shift_nil hf, bind, Except.bind, hn, if_false]
      exact tail_next hf hi hB

theorem events_spec (content : Array UInt8) (data : Array Cls) :
    ∀ (fuel : Nat) (s : Sc) (acc : List Ev) (B : Nat), B < fuel → C data B s →
      ∀ e, events content data fuel s acc = .error e → e.isCrash = false := by
  intro fuel
  induction fuel with
  | zero => intro s acc B h; omega
  | succ fuel ih =>
    intro s acc B hB hC e he
    have hn := next_spec content data (2 * data.size + 16) s B (by omega) hC
    unfold events at he
    unfold NextOut at hn
    split at he
    · cases he
    · rename_i e' _ heq
      rw [heq] at hn
      cases he
      exact hn
    · rename_i s' ev heq
      rw [heq] at hn
      exact ih s' _ (B - 1) (by omega) hn.2 e he

theorem lengthLoop_spec (content : Array UInt8) (data : Array Cls) :
    ∀ (fuel : Nat) (s : Sc) (len : Nat) (B : Nat), B < fuel → C data B s →
      ∀ e, lengthLoop content data fuel s len = .error e → e.isCrash = false := by
  intro fuel
  induction fuel with
  | zero => intro s acc B h; omega
  | succ fuel ih =>
    intro s len B hB hC e he
    have hn := next_spec content data (2 * data.size + 16) s B (by omega) hC
    unfold lengthLoop at he
    unfold NextOut at hn
    split at he
    · cases he
    · rename_i e' _ heq
      rw [heq] at hn
      cases he
      exact hn
    · rename_i s' ev heq
      rw [heq] at hn
      exact ih s' _ (B - 1) (by omega) hn.2 e he

theorem Inv_init : Inv {} := by unfold Inv; decide
theorem Inv_init_len : Inv { lengthComputing := true } := by unfold Inv; decide

/-- the enum-rule scanner model never ends in a crash-kind error (`.other _`: empty stack, incorrect ending of a
lexical event, or exhaustion of any of the fuel parameters), whatever the bytes -/
theorem scanAll_no_crash (bs : List UInt8) : ∀ e, scanAll bs = .error e → e.isCrash = false := by
  intro e he
  unfold scanAll at he
  refine events_spec _ _ _ {} [] (4 * ((bs.map classify).toArray.size) + 4) (by omega) (Or.inl ⟨Inv_init, ?_⟩) e he
  simp

theorem length_no_crash (bs : List UInt8) : ∀ e, length bs = .error e → e.isCrash = false := by
  intro e he
  unfold length at he
  simp only [bind, Except.bind] at he
  split at he
  · rename_i e' heq
    cases he
    refine lengthLoop_spec _ _ _ { lengthComputing := true } 0 (4 * ((bs.map classify).toArray.size) + 4) (by omega)
      (Or.inl ⟨Inv_init_len, ?_⟩) _ heq
    simp
  · cases he

end EnumScan

#print axioms EnumScan.good_dispatch
#print axioms EnumScan.next_spec
#print axioms EnumScan.scanAll_no_crash
#print axioms EnumScan.length_no_crash
