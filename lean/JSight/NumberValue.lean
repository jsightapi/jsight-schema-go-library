import Mathlib.Tactic.Ring
/-! The decimal value `m · 10^(-t)` as a rational number. The model and its specification never divide: they
state equalities and comparisons of such values cross-scaled by non-negative powers of ten. The lemmas here
read each of those spellings as a statement about `dval`, so that arguments about values are arguments in `Rat`. -/
namespace Num

/-- the value with signed mantissa `m` and `t` fractional digits (`t` may be negative) -/
def dval (m t : Int) : Rat := m * (10 : Rat) ^ (-t)

theorem pow10_rat_pos (n : Nat) : (0 : Rat) < 10 ^ n := by
  rw [← Rat.zpow_natCast]; exact Rat.zpow_pos (by decide)

/-- `10^(-t)` without the division: `10^(-t) · 10^(t⁺) = 10^((-t)⁺)` -/
theorem ten_split (t : Int) : (10 : Rat) ^ (-t) * 10 ^ t.toNat = 10 ^ (-t).toNat := by
  rw [← Rat.zpow_natCast, ← Rat.zpow_natCast, ← Rat.zpow_add (by decide)]
  congr 1; omega

theorem dval_cross (m t t' : Int) :
    dval m t * (10 ^ (t.toNat + t'.toNat) : Rat) = ((m * 10 ^ (t'.toNat + (-t).toNat) : Int) : Rat) := by
  have := ten_split t
  unfold dval
  push_cast
  rw [pow_add, pow_add, ← this]; ring

/-- the spelling of `cmpDen` -/
theorem dval_lt_iff (m t m' t' : Int) :
    dval m t < dval m' t' ↔ m * 10 ^ (t'.toNat + (-t).toNat) < m' * 10 ^ (t.toNat + (-t').toNat) := by
  rw [← Rat.intCast_lt_intCast, ← dval_cross, ← dval_cross, Nat.add_comm t'.toNat,
    Rat.mul_lt_mul_right (pow10_rat_pos _)]

theorem dval_eq_iff (m t m' t' : Int) :
    dval m t = dval m' t' ↔ m * 10 ^ (t'.toNat + (-t).toNat) = m' * 10 ^ (t.toNat + (-t').toNat) := by
  rw [← Rat.intCast_inj, ← dval_cross, ← dval_cross, Nat.add_comm t'.toNat]
  exact ⟨fun h => by rw [h], fun h => mul_right_cancel₀ (ne_of_gt (pow10_rat_pos _)) h⟩

/-- the spelling of `cmpVal`: both numbers of fractional digits natural -/
theorem dval_lt_iff_nat (m m' : Int) (e e' : Nat) : dval m e < dval m' e' ↔ m * 10 ^ e' < m' * 10 ^ e := by
  rw [dval_lt_iff, Int.toNat_neg_natCast, Int.toNat_neg_natCast, Int.toNat_natCast, Int.toNat_natCast]; rfl

theorem dval_eq_iff_nat (m m' : Int) (e e' : Nat) : dval m e = dval m' e' ↔ m * 10 ^ e' = m' * 10 ^ e := by
  rw [dval_eq_iff, Int.toNat_neg_natCast, Int.toNat_neg_natCast, Int.toNat_natCast, Int.toNat_natCast]; rfl

/-- the spelling of the value clauses of `shift_spec`, `finish_spec`, `scan_spec` (a normal form with `e`
fractional digits against a denotation with any `t`) and, with `m'` bound by `∃`, of `FracDigitsLE e` -/
theorem dval_eq_iff_spec (m' : Int) (e : Nat) (m t : Int) :
    dval m' e = dval m t ↔ m' * 10 ^ t.toNat = m * 10 ^ (-t).toNat * 10 ^ e := by
  rw [dval_eq_iff, Int.toNat_neg_natCast, Int.toNat_natCast, Nat.add_zero, pow_add, Int.mul_comm (10 ^ e), ← Int.mul_assoc]

theorem dval_mul_left (σ m t : Int) : dval (σ * m) t = σ * dval m t := by
  unfold dval; push_cast; ring

end Num
