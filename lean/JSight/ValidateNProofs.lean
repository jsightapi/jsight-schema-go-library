import JSight.ValidateN
import JSight.ValidateCommon
/-!
The independent-leaves machine of `ValidateN` accepts exactly the union semantics (`C03_validate_iff_union`).
`skip_value` / `skip_top` are stated for any reader that only counts depth, and serve the tree machines too.
-/
namespace VN
variable {L D : Type} (litOK : L → D → Bool)

theorem childAt_eq (items : List (S L)) (i : Nat) : childAt items i = Tbl.clampAt items i := by cases items <;> rfl

theorem run_append_mem (K : List (Frame L)) (es fs : List (Ev D)) (X : List (Frame L)) :
    X ∈ run litOK K (es ++ fs) ↔ ∃ K', K' ∈ run litOK K es ∧ X ∈ run litOK K' fs := by
  induction es generalizing K with
  | nil => simp [run]
  | cons e es ih =>
    simp only [List.cons_append, run, List.mem_flatMap]
    constructor
    · rintro ⟨K1, h1, h2⟩
      obtain ⟨K', h3, h4⟩ := (ih K1).1 h2
      exact ⟨K', ⟨K1, h1, h3⟩, h4⟩
    · rintro ⟨K', ⟨K1, h1, h3⟩, h4⟩
      exact ⟨K1, h1, (ih K1).2 ⟨K', h3, h4⟩⟩

theorem evs_ne_nil (d : J D) : evs d ≠ [] := by
  cases d <;> simp [evs]

/-! ### the lexemes of a value are balanced

`R n es` stands for a reader at nesting depth `n` that has `es` still to read and only counts depth. -/

mutual
theorem skip_value {α : Type} (R : Nat → List (Ev D) → α)
    (hopen : ∀ n e es, e.isOpening = true → R n (e :: es) = R (n+1) es)
    (hclose : ∀ n e es, e.isOpening = false → R (n+2) (e :: es) = R (n+1) es)
    (d : J D) (n : Nat) (es : List (Ev D)) : R (n+1) (evs d ++ es) = R (n+1) es := by
  cases d with
  | lit k =>
    simp only [evs, List.cons_append, List.nil_append]
    rw [hopen _ _ _ rfl, hclose _ _ _ rfl]
  | arr xs =>
    simp only [evs, List.cons_append, List.append_assoc, List.nil_append]
    rw [hopen _ _ _ rfl, skip_items R hopen hclose xs (n+1), hclose _ _ _ rfl]
  | obj ms =>
    simp only [evs, List.cons_append, List.append_assoc, List.nil_append]
    rw [hopen _ _ _ rfl, skip_members R hopen hclose ms (n+1), hclose _ _ _ rfl]
theorem skip_items {α : Type} (R : Nat → List (Ev D) → α)
    (hopen : ∀ n e es, e.isOpening = true → R n (e :: es) = R (n+1) es)
    (hclose : ∀ n e es, e.isOpening = false → R (n+2) (e :: es) = R (n+1) es)
    (xs : List (J D)) (n : Nat) (es : List (Ev D)) : R (n+1) (evsItems xs ++ es) = R (n+1) es := by
  cases xs with
  | nil => simp only [evsItems, List.nil_append]
  | cons x xs =>
    simp only [evsItems, List.cons_append, List.append_assoc]
    rw [hopen _ _ _ rfl, skip_value R hopen hclose x (n+1), hclose _ _ _ rfl, skip_items R hopen hclose xs n]
theorem skip_members {α : Type} (R : Nat → List (Ev D) → α)
    (hopen : ∀ n e es, e.isOpening = true → R n (e :: es) = R (n+1) es)
    (hclose : ∀ n e es, e.isOpening = false → R (n+2) (e :: es) = R (n+1) es)
    (ms : List (String × J D)) (n : Nat) (es : List (Ev D)) : R (n+1) (evsMembers ms ++ es) = R (n+1) es := by
  cases ms with
  | nil => simp only [evsMembers, List.nil_append]
  | cons m ms =>
    obtain ⟨k, v⟩ := m
    simp only [evsMembers, List.cons_append, List.append_assoc]
    rw [hopen _ _ _ rfl, hclose _ _ _ rfl, hopen _ _ _ rfl, skip_value R hopen hclose v (n+1), hclose _ _ _ rfl,
      skip_members R hopen hclose ms n]
end

/-- the same from depth 0, where the last lexeme of the value ends the reader -/
theorem skip_top {α : Type} (R : Nat → List (Ev D) → α)
    (hopen : ∀ n e es, e.isOpening = true → R n (e :: es) = R (n+1) es)
    (hclose : ∀ n e es, e.isOpening = false → R (n+2) (e :: es) = R (n+1) es)
    (d : J D) (es : List (Ev D)) (z : α) (hlast : ∀ e, e.isOpening = false → R 1 (e :: es) = z) :
    R 0 (evs d ++ es) = z := by
  cases d with
  | lit k =>
    simp only [evs, List.cons_append, List.nil_append]
    rw [hopen _ _ _ rfl, hlast _ rfl]
  | arr xs =>
    simp only [evs, List.cons_append, List.append_assoc, List.nil_append]
    rw [hopen _ _ _ rfl, skip_items R hopen hclose xs 0, hlast _ rfl]
  | obj ms =>
    simp only [evs, List.cons_append, List.append_assoc, List.nil_append]
    rw [hopen _ _ _ rfl, skip_members R hopen hclose ms 0, hlast _ rfl]

/-! ### one leaf, one lexeme -/

variable {litOK}

theorem run_fail {K : List (Frame L)} {e : Ev D} (h : feed litOK K e = []) (es : List (Ev D)) :
    run litOK K (e :: es) = [] := by
  rw [run, h]; rfl

theorem run_one {K K' : List (Frame L)} {e : Ev D} (h : feed litOK K e = [K']) (es : List (Ev D)) :
    run litOK K (e :: es) = run litOK K' es := by
  rw [run, h, List.flatMap_singleton]

theorem run_kids {K K' : List (Frame L)} {hs : List (Frame L)} {e : Ev D} (h : feed litOK K e = hs.map (· :: K'))
    (es : List (Ev D)) :
    run litOK K (e :: es) = hs.flatMap (fun h => run litOK (h :: K') es) := by
  rw [run, h, List.flatMap_map]

variable (litOK)

/-! ### the cases of `feed` that depend on more than the frame and the lexeme -/

theorem feed_any (n : Nat) (K : List (Frame L)) (e : Ev D) :
    feed litOK (.any n :: K) e
      = if (if e.isOpening then n + 1 else n - 1) == 0 then [K] else [.any (if e.isOpening then n + 1 else n - 1) :: K] :=
  rfl

theorem feed_litE (l : L) (K : List (Frame L)) (d : D) :
    feed litOK (.lit l :: K) (.litE d) = if litOK l d then [K] else [] :=
  rfl

theorem feed_itemB (items : List (S L)) (c : Nat) (K : List (Frame L)) :
    feed litOK (.arr items c :: K) (.itemB : Ev D)
      = match childAt items c with
        | some s => (heads s).map (fun h => h :: .arr items (c + 1) :: K)
        | none => [] :=
  rfl

theorem feed_valB (props : List (String × Bool × S L)) (req : List String) (k : String) (K : List (Frame L)) :
    feed litOK (.obj props req (some k) :: K) (.valB : Ev D)
      = match lookup props k with
        | some s => (heads s).map (fun h => h :: .obj props req (some k) :: K)
        | none => [] :=
  rfl

/-! ### the `any` validator only counts depth -/

theorem any_open (K : List (Frame L)) (n : Nat) (e : Ev D) (es : List (Ev D)) (h : e.isOpening = true) :
    run litOK (.any n :: K) (e :: es) = run litOK (.any (n+1) :: K) es :=
  run_one (by rw [feed_any, h]; rfl) es

theorem any_close (K : List (Frame L)) (n : Nat) (e : Ev D) (es : List (Ev D)) (h : e.isOpening = false) :
    run litOK (.any (n+2) :: K) (e :: es) = run litOK (.any (n+1) :: K) es :=
  run_one (by rw [feed_any, h]; rfl) es

theorem any_keep (d : J D) (n : Nat) (K : List (Frame L)) (rest : List (Ev D)) :
    run litOK (.any (n+1) :: K) (evs d ++ rest) = run litOK (.any (n+1) :: K) rest :=
  skip_value (fun n es => run litOK (.any n :: K) es) (any_open litOK K) (any_close litOK K) d n rest

theorem any_top (d : J D) (K : List (Frame L)) (rest : List (Ev D)) :
    run litOK (.any 0 :: K) (evs d ++ rest) = run litOK K rest :=
  skip_top (fun n es => run litOK (.any n :: K) es) (any_open litOK K) (any_close litOK K) d rest _
    (fun e h => run_one (by rw [feed_any, h]; rfl) rest)

/-- the statement proved for every schema / document pair -/
def ValueOK (s : S L) (d : J D) : Prop :=
  ∀ (K : List (Frame L)) (rest : List (Ev D)) (X : List (Frame L)),
    X ∈ (heads s).flatMap (fun h => run litOK (h :: K) (evs d ++ rest)) ↔ (shape litOK s d = true ∧ X ∈ run litOK K rest)

/-! A schema is a tree of alternatives over `any`, literals, arrays and objects; only the last two look into the
value. So for one value: from arrays and objects to every schema by recursion on the schema, and for arrays and
objects by recursion on the value. -/

mutual
theorem value_of (d : J D) (harr : ∀ items, ValueOK litOK (.arr items) d) (hobj : ∀ props, ValueOK litOK (.obj props) d) :
    (s : S L) → ValueOK litOK s d
  | .alt alts => fun K rest X => by simpa only [heads, shape] using alts_of d harr hobj alts K rest X
  | .any => fun K rest X => by simp only [heads, shape, List.flatMap_singleton, any_top, true_and]
  | .arr items => harr items
  | .obj props => hobj props
  | .lit l => fun K rest X => by
    cases d with
    | lit dk =>
      simp only [heads, shape, List.flatMap_singleton, evs, List.cons_append, List.nil_append]
      rw [run_one (K' := .lit l :: K) rfl]
      cases h : litOK l dk
      · rw [run_fail (by rw [feed_litE, h]; rfl)]; simp
      · rw [run_one (K' := K) (by rw [feed_litE, h]; rfl)]; simp
    | arr xs => simp only [heads, shape, List.flatMap_singleton, evs, List.cons_append]; rw [run_fail rfl]; simp
    | obj ms => simp only [heads, shape, List.flatMap_singleton, evs, List.cons_append]; rw [run_fail rfl]; simp
theorem alts_of (d : J D) (harr : ∀ items, ValueOK litOK (.arr items) d) (hobj : ∀ props, ValueOK litOK (.obj props) d) :
    (alts : List (S L)) → ∀ (K : List (Frame L)) (rest : List (Ev D)) (X : List (Frame L)),
    X ∈ (headsList alts).flatMap (fun h => run litOK (h :: K) (evs d ++ rest))
      ↔ (shapeAlts litOK alts d = true ∧ X ∈ run litOK K rest)
  | [] => fun K rest X => by simp [headsList, shapeAlts]
  | a :: as => fun K rest X => by
    simp only [headsList, List.flatMap_append, List.mem_append, shapeAlts, Bool.or_eq_true]
    rw [value_of d harr hobj a K rest X, alts_of d harr hobj as K rest X, or_and_right]
end

mutual
theorem arr_ok (items : List (S L)) (d : J D) : ValueOK litOK (.arr items) d := by
  intro K rest X
  cases d with
  | lit dk => simp only [heads, shape, List.flatMap_singleton, evs, List.cons_append]; rw [run_fail rfl]; simp
  | arr xs =>
    simp only [heads, shape, List.flatMap_singleton, evs, List.cons_append, List.append_assoc, List.nil_append]
    rw [run_one (K' := .arr items 0 :: K) rfl]
    exact items_ok items xs 0 K rest X
  | obj ms => simp only [heads, shape, List.flatMap_singleton, evs, List.cons_append]; rw [run_fail rfl]; simp
theorem obj_ok (props : List (String × Bool × S L)) (d : J D) : ValueOK litOK (.obj props) d := by
  intro K rest X
  cases d with
  | lit dk => simp only [heads, shape, List.flatMap_singleton, evs, List.cons_append]; rw [run_fail rfl]; simp
  | arr xs => simp only [heads, shape, List.flatMap_singleton, evs, List.cons_append]; rw [run_fail rfl]; simp
  | obj ms =>
    simp only [heads, shape, List.flatMap_singleton, evs, List.cons_append, List.append_assoc, List.nil_append]
    rw [run_one (K' := .obj props (requiredKeys props) none :: K) rfl]
    exact members_ok props ms (requiredKeys props) none K rest X
theorem items_ok (items : List (S L)) (xs : List (J D)) (c : Nat) (K : List (Frame L)) (rest : List (Ev D))
    (X : List (Frame L)) :
    X ∈ run litOK (.arr items c :: K) (evsItems xs ++ .arrE :: rest)
      ↔ (shapeItems litOK items c xs = true ∧ X ∈ run litOK K rest) := by
  cases xs with
  | nil =>
    simp only [evsItems, shapeItems, List.nil_append, true_and]
    rw [run_one (K' := K) rfl]
  | cons x xs =>
    cases hc : childAt items c with
    | none =>
      simp only [evsItems, shapeItems, hc, List.cons_append]
      rw [run_fail (by rw [feed_itemB, hc])]; simp
    | some s =>
      simp only [evsItems, shapeItems, hc, List.cons_append, List.append_assoc]
      rw [run_kids (hs := heads s) (K' := .arr items (c+1) :: K) (by rw [feed_itemB, hc]),
        value_of litOK x (arr_ok · x) (obj_ok · x) s, run_one (K' := .arr items (c+1) :: K) rfl,
        items_ok items xs (c+1) K rest X, Bool.and_eq_true, and_assoc]
theorem members_ok (props : List (String × Bool × S L)) (ms : List (String × J D)) (req : List String)
    (last : Option String) (K : List (Frame L)) (rest : List (Ev D)) (X : List (Frame L)) :
    X ∈ run litOK (.obj props req last :: K) (evsMembers ms ++ .objE :: rest)
      ↔ ((shapeMembers litOK props ms && req.all (fun r => ms.any (fun m => m.1 == r))) = true ∧ X ∈ run litOK K rest) := by
  cases ms with
  | nil =>
    simp only [evsMembers, shapeMembers, List.nil_append, all_none_isEmpty, Bool.true_and]
    cases req
    · rw [run_one (K' := K) rfl]; simp
    · rw [run_fail rfl]; simp
  | cons m ms =>
    obtain ⟨k, v⟩ := m
    simp only [evsMembers, List.cons_append, List.append_assoc]
    rw [run_one (K' := .obj props req last :: K) rfl, run_one (K' := .obj props (req.filter (· != k)) (some k) :: K) rfl]
    cases hl : lookup props k with
    | none =>
      simp only [shapeMembers, hl]
      rw [run_fail (by rw [feed_valB, hl])]; simp
    | some s =>
      simp only [shapeMembers, hl]
      rw [run_kids (hs := heads s) (K' := .obj props (req.filter (· != k)) (some k) :: K) (by rw [feed_valB, hl]),
        value_of litOK v (arr_ok · v) (obj_ok · v) s, run_one (K' := .obj props (req.filter (· != k)) (some k) :: K) rfl,
        members_ok props ms (req.filter (· != k)) (some k) K rest X, req_step req k v ms]
      simp only [Bool.and_eq_true, and_assoc]
end

theorem value_ok (s : S L) (d : J D) : ValueOK litOK s d :=
  value_of litOK d (arr_ok litOK · d) (obj_ok litOK · d) s

theorem alts_ok (alts : List (S L)) (d : J D) (K : List (Frame L)) (rest : List (Ev D)) (X : List (Frame L)) :
    X ∈ (headsList alts).flatMap (fun h => run litOK (h :: K) (evs d ++ rest))
      ↔ (shapeAlts litOK alts d = true ∧ X ∈ run litOK K rest) :=
  alts_of litOK d (arr_ok litOK · d) (obj_ok litOK · d) alts K rest X

/-- C03 (model level, independent leaves): with alternatives, `Validate` accepts exactly the union. -/
theorem C03_validate_iff_union (s : S L) (d : J D) : validate litOK s d = shape litOK s d := by
  have h := value_ok litOK s d [] []
  simp only [List.append_nil, run] at h
  unfold validate
  cases hs : shape litOK s d with
  | false =>
    rw [Bool.eq_false_iff]
    intro hany
    rw [List.any_eq_true] at hany
    obtain ⟨X, hX, _⟩ := hany
    have := (h X).1 hX
    rw [hs] at this
    exact absurd this.1 (by simp)
  | true =>
    rw [List.any_eq_true]
    exact ⟨[], (h []).2 ⟨hs, by simp⟩, rfl⟩

end VN

#print axioms VN.C03_validate_iff_union
