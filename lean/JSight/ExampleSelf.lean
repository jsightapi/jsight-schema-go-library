import JSight.Example
import JSight.CheckExample
/-!
C15 (self-validation) for reference-free schemas: what `Example()` emits for a schema that `Check` accepts is
the (compact) text of the schema's EXAMPLE document, and that document validates against the schema.

`tok d` is the source token of the literal value `d`, `keyTok k` the source token of key `k`.
-/
namespace EX
open JsonScan
variable {L D : Type} (tok : D → List Cls) (keyTok : String → List Cls) (ex : L → D)

mutual
/-- the example builder's view of a reference-free schema -/
def ofS : VP.S L → N
  | .lit l => .lit (tok (ex l))
  | .any => .arr []
  | .arr items => .arr (ofItems items)
  | .obj props => .obj (ofProps props)
def ofItems : List (VP.S L) → List N
  | [] => []
  | s :: ss => ofS s :: ofItems ss
def ofProps : List (String × Bool × VP.S L) → List (List Cls × N)
  | [] => []
  | (k, _, s) :: ps => (keyTok k, ofS s) :: ofProps ps
end

mutual
/-- a document as a JSON tree in compact layout -/
def jaOf : VP.J D → JA
  | .lit d => .scalar (tok d)
  | .arr xs => .arr [] ((jaItems xs).map fun v => ([], v, []))
  | .obj ms => .obj [] ((jaMembers ms).map fun m => ([], m.1, [], [], m.2, []))
def jaItems : List (VP.J D) → List JA
  | [] => []
  | x :: xs => jaOf x :: jaItems xs
def jaMembers : List (String × VP.J D) → List (List Cls × JA)
  | [] => []
  | (k, v) :: ms => (keyTok k, jaOf v) :: jaMembers ms
end

mutual
theorem tree_ofS (ts : Types) (fuel : Nat) (proc : String → Nat) : (s : VP.S L) →
    tree ts fuel proc (ofS tok keyTok ex s) = some (some (jaOf tok keyTok (VP.exampleOf ex s)))
  | .lit l => by simp [ofS, tree, VP.exampleOf, jaOf]
  | .any => by simp [ofS, tree, treeKids, VP.exampleOf, jaOf, jaItems]
  | .arr items => by
    simp only [ofS, tree, VP.exampleOf, jaOf]
    rw [treeKids_ofItems ts fuel proc items]
  | .obj props => by
    simp only [ofS, tree, VP.exampleOf, jaOf]
    rw [treeProps_ofProps ts fuel proc props]
theorem treeKids_ofItems (ts : Types) (fuel : Nat) (proc : String → Nat) : (ss : List (VP.S L)) →
    treeKids ts fuel proc (ofItems tok keyTok ex ss) = some (jaItems tok keyTok (VP.exampleItems ex ss))
  | [] => by simp [ofItems, treeKids, VP.exampleItems, jaItems]
  | s :: ss => by
    simp only [ofItems, treeKids, VP.exampleItems, jaItems]
    rw [tree_ofS ts fuel proc s, treeKids_ofItems ts fuel proc ss]
theorem treeProps_ofProps (ts : Types) (fuel : Nat) (proc : String → Nat) : (ps : List (String × Bool × VP.S L)) →
    treeProps ts fuel proc (ofProps tok keyTok ex ps) = some (jaMembers tok keyTok (VP.exampleProps ex ps))
  | [] => by simp [ofProps, treeProps, VP.exampleProps, jaMembers]
  | (k, r, s) :: ps => by
    simp only [ofProps, treeProps, VP.exampleProps, jaMembers]
    rw [tree_ofS ts fuel proc s, treeProps_ofProps ts fuel proc ps]
end

/-- **C15 (reference-free schemas)**: for a schema `Check` accepts, `Example()` emits exactly the compact
text of the EXAMPLE document — nothing is omitted — and that document is accepted by `Validate`. -/
theorem C15_self_valid (litOK : L → D → Bool) (ts : Types) (fuel : Nat) (proc : String → Nat) (s : VP.S L)
    (h : VP.checked litOK ex s = true) :
    build ts fuel proc (ofS tok keyTok ex s) = some (some (jaOf tok keyTok (VP.exampleOf ex s)).render) ∧
    VP.validate litOK s (VP.exampleOf ex s) = true := by
  refine ⟨?_, VP.C04_example_valid litOK ex s h⟩
  rw [build_eq, tree_ofS]
  rfl

end EX
