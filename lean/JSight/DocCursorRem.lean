import JSight.DocCursorFuel
import JSight.DocCursorThm
import JSight.JsonBridge
/-!
What the whole-text scanner model (`JsonScan.events`, the model of C05 / C06 / C07 / C14 / C17) still answers from a state
of the incremental `Document` scanner: `rem cls s` is its answer (the events to come, or the error), `remSeen cls s` the
events it delivers before that answer. A byte of the scanner changes neither (`rem_step`, `remSeen_step`); at the start
they are `events` and `eventsSeen` (`rem_init`, `remSeen_init`).

The stack-shape invariant: as long as bytes are left, the configuration behind the pending finds is one of the reachable
shapes of the C05 simulation (`Sim.R`), in which no literal-begin lies below the top of the stack (`R_top`); at the end of
input `Next` may close a finished literal that is nested in an open container before it reports "unexpected end"
(`InvB`: what is left then has no literal-begin on top, so the next call is the error).
-/
namespace DocCursor
open JsonScan

/-- `r` with the events `acc` (newest first) put in front of its events -/
def pre (acc : List Ev) (r : List (LexT × Nat) × List Ev × Bool) : List (LexT × Nat) × List Ev × Bool :=
  (r.1, acc.reverse ++ r.2.1, r.2.2)

theorem map_pre_cons (acc : List Ev) (ev : Ev) (x : Except ErrS (List (LexT × Nat) × List Ev × Bool)) :
    x.map (pre (ev :: acc)) = (x.map (pre [ev])).map (pre acc) := by
  cases x with
  | error e => rfl
  | ok r => simp only [Except.map, pre, List.reverse_cons, List.reverse_nil, List.nil_append, List.append_assoc]

theorem applyFindsS_acc (i : Nat) : ∀ (fs : List LexT) (S : List (LexT × Nat)) (acc : List Ev),
    applyFindsS i S fs acc = (applyFindsS i S fs []).map (pre acc) := by
  intro fs
  induction fs with
  | nil => intro S acc; simp only [applyFindsS, Except.map, pre, List.reverse_nil, List.append_nil]
  | cons f fs ih =>
    intro S acc
    by_cases hf : f = .endTop
    · subst hf
      simp only [applyFindsS, Except.map, pre, List.reverse_cons, List.reverse_nil, List.nil_append, BEq.rfl, ↓reduceIte]
    · rcases applyFindsS_cons i S hf with ⟨S', ev, h⟩ | ⟨w, h⟩
      · rw [h, h, ih S' (ev :: acc), ih S' [ev]]
        exact map_pre_cons acc ev _
      · rw [h, h]; rfl

/-- the rest of the whole-text scan behind the finds of the current byte -/
def fin (cls : List Cls) (a : Bool) (idx : Nat) (st : St) (unf : Bool) :
    Except ErrS (List (LexT × Nat) × List Ev × Bool) → Except ErrS (List Ev)
  | .error e => .error e
  | .ok (stk, evs, stop) =>
    if stop then .ok evs else (evsFrom a cls.length (cls.drop idx) idx ⟨st, stk, unf⟩).map (evs ++ ·)

/-- what is still to come from a scanner state, by the whole-text model -/
def rem (cls : List Cls) (s : Scn) : Except ErrS (List Ev) :=
  fin cls s.allow s.index s.st s.unf (applyFindsS (s.index - 1) s.stack s.finds [])

theorem fin_pre (cls : List Cls) (a : Bool) (idx : Nat) (st : St) (unf : Bool) (ev : Ev)
    (X : Except ErrS (List (LexT × Nat) × List Ev × Bool)) :
    fin cls a idx st unf (X.map (pre [ev])) = (fin cls a idx st unf X).map (ev :: ·) := by
  cases X with
  | error e => rfl
  | ok r =>
    obtain ⟨stk, evs, stop⟩ := r
    simp only [Except.map, pre, fin, List.reverse_cons, List.reverse_nil, List.nil_append]
    split
    · rfl
    · cases evsFrom a cls.length (cls.drop idx) idx ⟨st, stk, unf⟩ <;> simp [Except.map]

theorem rem_nofinds (cls : List Cls) (s : Scn) (hf : s.finds = []) :
    rem cls s = evsFrom s.allow cls.length (cls.drop s.index) s.index ⟨s.st, s.stack, s.unf⟩ := by
  unfold rem
  rw [hf]
  simp only [applyFindsS, fin, List.reverse_nil, Bool.false_eq_true, ↓reduceIte]
  exact map_append_nil _

theorem drop_of_getElem? {cls : List Cls} {i : Nat} {c : Cls} (hc : cls[i]? = some c) :
    cls.drop i = c :: cls.drop (i + 1) := by
  obtain ⟨hlt, hce⟩ := List.getElem?_eq_some_iff.mp hc
  rw [List.drop_eq_getElem_cons hlt, hce]

/-- one byte of the whole-text model, from a state without pending finds -/
theorem rem_step (cls : List Cls) (s : Scn) (hf : s.finds = []) (c : Cls) (hc : cls[s.index]? = some c)
    (st' : St) (unf' : Bool) (fs : List LexT)
    (hst : step s.allow s.st (s.stack.map (·.1)) s.unf c = .ok (st', unf', fs)) :
    rem cls s = rem cls { s with index := s.index + 1, st := st', unf := unf', finds := fs } := by
  rw [rem_nofinds cls s hf, drop_of_getElem? hc]
  unfold evsFrom
  rw [hst]
  unfold rem fin
  simp only [Nat.add_sub_cancel]
  cases applyFindsS s.index s.stack fs [] <;> rfl

/-- a byte the control step refuses is the model's "invalid character" -/
theorem rem_step_err (cls : List Cls) (s : Scn) (hf : s.finds = []) (c : Cls) (hc : cls[s.index]? = some c)
    (e : Err) (hst : step s.allow s.st (s.stack.map (·.1)) s.unf c = .error e) :
    rem cls s = .error (.invalidChar s.index) := by
  rw [rem_nofinds cls s hf, drop_of_getElem? hc]
  unfold evsFrom
  rw [hst]

theorem rem_init (t : List UInt8) (o : Bool) : rem (clsOf t) { allow := o } = events o t := by
  rw [rem_nofinds _ _ rfl]
  unfold events
  rw [eventsLoop_eq, map_append_nil]
  simp [clsOf]

/-! ### the events delivered before the answer -/

/-- The whole-text scan with the delivered events KEPT when it ends in an error: `eventsLoop` drops its accumulator on
an error; this is that accumulator, plus - at the end of input - the literal-end of a FINISHED literal (a number) that
`Next` closes before it reports "unexpected end" for the container around it (`[1`). -/
def seenFrom (allow : Bool) (n : Nat) : List Cls → Nat → CfgS → List Ev
  | [], _, cfg =>
    match cfg.stack with
    | (.litB, b) :: _ => if cfg.unf then [] else [⟨.litE, b, n - 1⟩]
    | _ => []
  | c :: cs, i, cfg =>
    match step allow cfg.st (cfg.stack.map (·.1)) cfg.unf c with
    | .error _ => []
    | .ok (st', unf', finds) =>
      match applyFindsS i cfg.stack finds [] with
      | .error _ => []
      | .ok (stack', evs, stop) =>
        if stop then evs
        else evs ++ seenFrom allow n cs (i + 1) { st := st', stack := stack', unf := unf' }

/-- the events the whole-text model has delivered when it stops (at the error, if there is one) -/
def eventsSeen (allow : Bool) (bs : List UInt8) : List Ev :=
  seenFrom allow bs.length (bs.map classify) 0 {}

def finSeen (cls : List Cls) (a : Bool) (idx : Nat) (st : St) (unf : Bool) :
    Except ErrS (List (LexT × Nat) × List Ev × Bool) → List Ev
  | .error _ => []
  | .ok (stk, evs, stop) =>
    if stop then evs else evs ++ seenFrom a cls.length (cls.drop idx) idx ⟨st, stk, unf⟩

def remSeen (cls : List Cls) (s : Scn) : List Ev :=
  finSeen cls s.allow s.index s.st s.unf (applyFindsS (s.index - 1) s.stack s.finds [])

theorem finSeen_pre (cls : List Cls) (a : Bool) (idx : Nat) (st : St) (unf : Bool) (ev : Ev)
    (r : List (LexT × Nat) × List Ev × Bool) :
    finSeen cls a idx st unf (.ok (pre [ev] r)) = ev :: finSeen cls a idx st unf (.ok r) := by
  obtain ⟨stk, evs, stop⟩ := r
  simp only [pre, finSeen, List.reverse_cons, List.reverse_nil, List.nil_append]
  split <;> simp

theorem remSeen_nofinds (cls : List Cls) (s : Scn) (hf : s.finds = []) :
    remSeen cls s = seenFrom s.allow cls.length (cls.drop s.index) s.index ⟨s.st, s.stack, s.unf⟩ := by
  unfold remSeen
  rw [hf]
  simp [applyFindsS, finSeen]

/-- one byte of the whole-text model with the events kept -/
theorem remSeen_step (cls : List Cls) (s : Scn) (hf : s.finds = []) (c : Cls) (hc : cls[s.index]? = some c)
    (st' : St) (unf' : Bool) (fs : List LexT)
    (hst : step s.allow s.st (s.stack.map (·.1)) s.unf c = .ok (st', unf', fs)) :
    remSeen cls s = remSeen cls { s with index := s.index + 1, st := st', unf := unf', finds := fs } := by
  rw [remSeen_nofinds cls s hf, drop_of_getElem? hc]
  unfold remSeen finSeen
  conv => lhs; unfold seenFrom
  rw [hst]
  simp only [Nat.add_sub_cancel]

theorem remSeen_init (t : List UInt8) (o : Bool) : remSeen (clsOf t) { allow := o } = eventsSeen o t := by
  rw [remSeen_nofinds _ _ rfl]
  simp [eventsSeen, clsOf]

theorem map_err {x : Except ErrS (List Ev)} {ev : Ev} {e : ErrS} (h : x.map (ev :: ·) = .error e) :
    x = .error e := by
  cases x with
  | error e' => simpa [Except.map] using h
  | ok M => simp [Except.map] at h

/-- end of input in the whole-text model: anything open except one finished literal alone is "unexpected end" -/
theorem evsFrom_nil_err (a : Bool) (n i : Nat) (st : St) (p : LexT) (b : Nat) (rest : List (LexT × Nat)) (unf : Bool)
    (h : (p == .litB && !unf) = false ∨ rest ≠ []) :
    evsFrom a n [] i ⟨st, (p, b) :: rest, unf⟩ = .error (.unexpectedEOF (n - 1)) := by
  unfold evsFrom
  cases rest with
  | cons qb r => cases p <;> rfl
  | nil =>
    rcases h with h | h
    · cases p <;> try rfl
      cases unf
      · cases h
      · rfl
    · exact absurd rfl h

/-- and only a finished literal on top is closed before that -/
theorem seenFrom_nil_none (a : Bool) (n i : Nat) (st : St) (p : LexT) (b : Nat) (rest : List (LexT × Nat)) (unf : Bool)
    (h : (p == .litB && !unf) = false) : seenFrom a n [] i ⟨st, (p, b) :: rest, unf⟩ = [] := by
  unfold seenFrom
  cases p <;> try rfl
  cases unf
  · cases h
  · rfl

/-- on accepted texts nothing is lost: the kept events are the events -/
theorem seenFrom_of_ok (a : Bool) (n : Nat) : ∀ (cs : List Cls) (i : Nat) (cfg : CfgS) (evs : List Ev),
    evsFrom a n cs i cfg = .ok evs → seenFrom a n cs i cfg = evs := by
  intro cs
  induction cs with
  | nil =>
    intro i cfg evs h
    obtain ⟨st, stack, unf⟩ := cfg
    unfold evsFrom at h
    unfold seenFrom
    rcases stack with _ | ⟨⟨p, b⟩, _ | ⟨q, r⟩⟩
    · simpa using h
    · cases p <;> simp only at h ⊢ <;> try (cases h; done)
      cases unf <;> simp at h ⊢
      exact h
    · cases p <;> simp at h
  | cons c cs ih =>
    intro i cfg evs h
    unfold evsFrom at h
    unfold seenFrom
    cases hst : step a cfg.st (cfg.stack.map (·.1)) cfg.unf c with
    | error e => rw [hst] at h; simp at h
    | ok r =>
      obtain ⟨st', unf', fs⟩ := r
      rw [hst] at h
      simp only at h ⊢
      cases hap : applyFindsS i cfg.stack fs [] with
      | error e => rw [hap] at h; simp at h
      | ok r2 =>
        obtain ⟨S', ev1, stop⟩ := r2
        rw [hap] at h
        simp only at h ⊢
        cases stop with
        | true => simpa using h
        | false =>
          simp only [Bool.false_eq_true, if_false] at h ⊢
          cases hrec : evsFrom a n cs (i + 1) ⟨st', S', unf'⟩ with
          | error e => rw [hrec] at h; simp [Except.map] at h
          | ok L =>
            rw [hrec] at h
            simp [Except.map] at h
            rw [ih _ _ _ hrec, h]

theorem eventsSeen_of_ok (o : Bool) (t : List UInt8) (evs : List Ev) (h : events o t = .ok evs) :
    eventsSeen o t = evs := by
  unfold events at h
  rw [eventsLoop_eq, map_append_nil] at h
  exact seenFrom_of_ok o _ _ _ _ _ h

/-! ### the deliveries of a fresh document -/

/-- the deliveries that a list of events stands for: `EndTop` comes with EOF and ends the list, plain EOF otherwise -/
def conv : List Ev → List NextRes
  | [] => [.eof]
  | e :: es => if e.ty == .endTop then [.eofLex e] else .lex e :: conv es

/-- one `NextLexeme` of a fresh document whose error cell is empty: the scanner's answer is delivered, an error is kept -/
theorem lexAt_step (t : List UInt8) (o : Bool) (k : Nat) (hnone : (scanAt t o k).2 = none) {x : NextRes} {s' : Scn}
    (hn : (scanAt t o k).1.next (clsOf t) = (x, s')) :
    lexAt t o k = x ∧ scanAt t o (k + 1) = (s', match x with | .err c q => some (c, q) | _ => none) := by
  have e : nextL (clsOf t) (scanAt t o k) = (x, (s', match x with | .err c q => some (c, q) | _ => none)) := by
    unfold nextL
    rw [hnone]
    simp only [hn]
    cases x <;> rfl
  exact ⟨congrArg Prod.fst e, congrArg Prod.snd e⟩

/-! ### the shapes of the stack -/

/-- the configuration is a reachable shape of the C05 simulation -/
def RS (S : List (LexT × Nat)) (st : St) (unf : Bool) : Prop :=
  ∃ r seen, Sim.R r ⟨st, S.map (·.1), unf, seen⟩

/-- bytes are left (or just used up): behind the queued finds the configuration is a reachable shape. The finds of the byte
at `s.index - 1` are queued when `s.index` already points behind it, hence the `- 1`. -/
def InvA (cls : List Cls) (s : Scn) : Prop :=
  s.index ≤ cls.length ∧
    ∀ S' evs, applyFindsS (s.index - 1) s.stack s.finds [] = .ok (S', evs, false) → RS S' s.st s.unf

/-- past the end of the text, nothing queued, and no literal-begin on top: `Next` has no literal left to close -/
def InvB (cls : List Cls) (s : Scn) : Prop :=
  s.finds = [] ∧ cls.length ≤ s.index ∧ ∀ p b rest, s.stack = (p, b) :: rest → p ≠ .litB

/-- no literal-begin below the top -/
theorem R_top {r : Rfc.RCfg} {m : Cfg} (h : Sim.R r m) :
    ∀ q rest, m.stack = .litB :: q :: rest → q ≠ .litB := by
  cases h <;> intro q rest hs <;> simp only [Sim.mk, Cfg.init] at hs
  all_goals first
    | (cases hs; done)
    | (rename_i k
       cases k with
       | nil => simp [Sim.inside] at hs
       | cons x k' => cases x <;> simp [Sim.inside] at hs <;> (obtain ⟨rfl, _⟩ := hs; decide))
    | (rename_i k _ _ _ _
       cases k with
       | nil => simp [Sim.inside] at hs
       | cons x k' => cases x <;> simp [Sim.inside] at hs <;> (obtain ⟨rfl, _⟩ := hs; decide))

theorem invA_step (cls : List Cls) (s : Scn) (hf : s.finds = []) (hA : InvA cls s) (c : Cls)
    (hlt : s.index < cls.length) (st' : St) (unf' : Bool) (fs : List LexT)
    (hst : step s.allow s.st (s.stack.map (·.1)) s.unf c = .ok (st', unf', fs)) :
    InvA cls { s with index := s.index + 1, st := st', unf := unf', finds := fs } := by
  refine ⟨by simp only; omega, ?_⟩
  intro S' evs hap
  simp only [Nat.add_sub_cancel] at hap
  obtain ⟨_, hR⟩ := hA
  rw [hf] at hR
  obtain ⟨r, seen, hr⟩ := hR s.stack [] (by simp [applyFindsS])
  obtain ⟨ha, _, _⟩ := applyFinds_ok _ fs s.stack [] S' evs false hap
  simp only [Bool.false_eq_true, if_false] at ha
  have hfeed : feed s.allow ⟨s.st, s.stack.map (·.1), s.unf, seen⟩ c =
      .ok (.cont ⟨st', S'.map (·.1), unf', seen || !fs.isEmpty⟩) := by
    simp [feed, hst, ha, bind, Except.bind, pure, Except.pure]
  rcases Sim.sim_step s.allow hr c with ⟨r', m', _, h1, h3⟩ | ⟨_, ⟨_, h1⟩ | ⟨_, ctx, h1⟩⟩
  · rw [hfeed] at h1; cases h1; exact ⟨r', _, h3⟩
  · rw [hfeed] at h1; cases h1
  · rw [hfeed] at h1; cases h1

theorem invA_init (t : List UInt8) (o : Bool) : InvA (clsOf t) { allow := o } := by
  refine ⟨Nat.zero_le _, ?_⟩
  intro S' evs h
  simp only [applyFindsS, List.reverse_nil, Except.ok.injEq, Prod.mk.injEq] at h
  obtain ⟨rfl, _, _⟩ := h
  exact ⟨_, _, Sim.R.root⟩

/-! ### a queued `EndTop`

`et` stands for `EndTop`, `dw` for the `dropWhile (· != .endTop)` in `etOK`; `etFree acc` (`DocCursorFuel`): no `EndTop` in `acc`. -/

/-- `EndTop` is the last find of its step and puts the scanner into `stateEndTop` -/
def etOK (st' : St) (fs : List LexT) : Bool :=
  match fs.dropWhile (· != .endTop) with
  | [] => true
  | [_] => st' == .endTop
  | _ => false

theorem dw_free : ∀ acc : List LexT, etFree acc = true → acc.dropWhile (· != .endTop) = [] := by
  intro acc
  induction acc with
  | nil => intro _; rfl
  | cons a acc ih =>
    intro h
    simp only [etFree, List.all_cons, Bool.and_eq_true] at h
    simp only [List.dropWhile_cons, h.1, ↓reduceIte]
    exact ih h.2

theorem dw_app : ∀ (acc l : List LexT), etFree acc = true →
    (acc ++ l).dropWhile (· != .endTop) = l.dropWhile (· != .endTop) := by
  intro acc
  induction acc with
  | nil => intro l _; rfl
  | cons a acc ih =>
    intro l h
    simp only [etFree, List.all_cons, Bool.and_eq_true] at h
    simp only [List.cons_append, List.dropWhile_cons, h.1, ↓reduceIte]
    exact ih l h.2

theorem etOK_free (st : St) (acc : List LexT) (h : etFree acc = true) : etOK st acc = true := by
  unfold etOK; rw [dw_free acc h]

theorem etOK_app_free (st : St) (acc : List LexT) (x : LexT) (h : etFree acc = true) (hx : (x != .endTop) = true) :
    etOK st (acc ++ [x]) = true := by
  unfold etOK; rw [dw_app acc _ h]; simp [hx]

theorem etOK_app_top (acc : List LexT) (h : etFree acc = true) : etOK .endTop (acc ++ [.endTop]) = true := by
  unfold etOK; rw [dw_app acc _ h]; rfl

theorem step_et {a u : Bool} {st : St} {stack : List LexT} {c : Cls} {r : St × Bool × List LexT}
    (h : step a st stack u c = .ok r) : etOK r.1 r.2.2 = true := by
  obtain ⟨acc, _, hf, he | ⟨x, he, hx⟩⟩ := step_finds h
  · rw [he]; exact etOK_free _ _ hf
  · rw [he]
    by_cases hxe : x = .endTop
    · rw [hxe, hx hxe]; exact etOK_app_top _ hf
    · exact etOK_app_free _ _ _ hf (by simpa using hxe)

theorem etOK_top {st : St} {rest : List LexT} (h : etOK st (.endTop :: rest) = true) : rest = [] ∧ st = .endTop := by
  unfold etOK at h
  simp only [List.dropWhile_cons] at h
  cases rest with
  | nil => simp at h; exact ⟨rfl, h⟩
  | cons a r => simp at h

theorem etOK_tail {st : St} {f : LexT} {rest : List LexT} (hf : f ≠ .endTop) (h : etOK st (f :: rest) = true) :
    etOK st rest = true := by
  unfold etOK at h ⊢
  have : (f != .endTop) = true := by simpa using hf
  simpa [List.dropWhile_cons, this] using h

end DocCursor
