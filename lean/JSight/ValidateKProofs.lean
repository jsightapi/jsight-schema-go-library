import JSight.ValidateKSpec
/-!
The validator tree of `ValidateK` accepts exactly `VK.shape` of `ValidateKSpec` (`C03_key_shortcuts`).  Same plan as
`ValidateAProofs`; `members_T` also carries the list of key shortcuts already used.
-/
namespace VK
open VN (J Ev evs evsItems evsMembers)
variable {L D : Type} (env : Env L) (litOK : L → D → Bool) (keyOK : String → String → Bool)

theorem childAt_eq (items : List (S L)) (i : Nat) : childAt items i = Tbl.clampAt items i := by cases items <;> rfl

theorem stepG_append (g1 g2 : List (T L)) (e : Ev D) :
    stepG env litOK keyOK (g1 ++ g2) e
      = ((stepG env litOK keyOK g1 e).1 ++ (stepG env litOK keyOK g2 e).1, (stepG env litOK keyOK g1 e).2 || (stepG env litOK keyOK g2 e).2) := by
  induction g1 with
  | nil => simp [stepG]
  | cons t ts ih =>
    simp only [List.cons_append, stepG, ih]
    cases (stepT env litOK keyOK t e).1 <;> simp [Bool.or_assoc]

theorem runQ_eq (g : List (T L)) (es : List (Ev D)) :
    runQ env litOK keyOK g es = TreeRun.run (stepG env litOK keyOK) g es := by
  induction es generalizing g with
  | nil => rfl
  | cons e es ih => simp only [runQ, TreeRun.run, ih]

theorem runQ_nil (es : List (Ev D)) : runQ env litOK keyOK ([] : List (T L)) es = some ([], false) := by
  rw [runQ_eq]; exact TreeRun.run_nil _ (fun _ => rfl) es

theorem runQ_cons (g : List (T L)) (e : Ev D) (es : List (Ev D)) (h : (stepG env litOK keyOK g e).2 = false) :
    runQ env litOK keyOK g (e :: es) = runQ env litOK keyOK (stepG env litOK keyOK g e).1 es := by
  simp only [runQ_eq]; exact TreeRun.run_cons _ g e es h

/-- siblings do not interact -/
theorem runQ_group_append (g1 g2 : List (T L)) (es : List (Ev D)) :
    runQ env litOK keyOK (g1 ++ g2) es =
      match runQ env litOK keyOK g1 es, runQ env litOK keyOK g2 es with
      | some r1, some r2 => some (r1.1 ++ r2.1, r1.2 || r2.2)
      | _, _ => none := by
  simp only [runQ_eq, TreeRun.run_group_append _ (stepG_append env litOK keyOK)]
  cases TreeRun.run (stepG env litOK keyOK) g1 es <;> cases TreeRun.run (stepG env litOK keyOK) g2 es <;> rfl

/-! ### a parent that is not a leaf only waits for its children -/

theorem stepG_node_wait (P : Frame L) (g : List (T L)) (e : Ev D) :
    stepG env litOK keyOK [T.node P false g] e
      = (if (stepG env litOK keyOK g e).2 then [T.node P true (stepG env litOK keyOK g e).1]
         else if (stepG env litOK keyOK g e).1.isEmpty then [] else [T.node P false (stepG env litOK keyOK g e).1], false) := by
  simp only [stepG, stepT, own, assemble, Bool.false_eq_true, if_false, List.map_nil, List.append_nil, Bool.false_or]
  cases (stepG env litOK keyOK g e).2 <;> cases h : (stepG env litOK keyOK g e).1.isEmpty <;> simp [h]

theorem node_wait (P : Frame L) (es : List (Ev D)) : ∀ (g g' : List (T L)) (b : Bool),
    runQ env litOK keyOK g es = some (g', b) → es ≠ [] →
    runQ env litOK keyOK [T.node P false g] es
      = some (if b then [T.node P true g'] else if g'.isEmpty then [] else [T.node P false g'], false) := by
  simp only [runQ_eq]
  exact TreeRun.run_wait _ (T.node P) (fun _ => rfl) (stepG_node_wait env litOK keyOK P) es

def leafRes : FeedRes L → List (T L) × Bool
  | .fail => ([], false)
  | .done => ([], true)
  | .stay f' => ([leafT f'], false)
  | .kids f' hs => (if hs.isEmpty then [] else [T.node f' false (hs.map leafT)], false)

theorem stepG_leaf (f : Frame L) (e : Ev D) : stepG env litOK keyOK [leafT f] e = leafRes (feed1 env litOK keyOK f e) := by
  simp only [leafT, stepG, stepT, own, if_true]
  cases feed1 env litOK keyOK f e with
  | fail => rfl
  | done => rfl
  | stay f' => rfl
  | kids f' hs => cases hs <;> rfl

variable {env litOK keyOK}

theorem leaf_fail {f : Frame L} {e : Ev D} (h : feed1 env litOK keyOK f e = .fail) (es : List (Ev D)) :
    runQ env litOK keyOK [leafT f] (e :: es) = some ([], false) := by
  rw [runQ_cons _ _ _ _ _ _ (by rw [stepG_leaf, h]; rfl), stepG_leaf, h]; exact runQ_nil env litOK keyOK es

theorem leaf_done {f : Frame L} {e : Ev D} (h : feed1 env litOK keyOK f e = .done) :
    runQ env litOK keyOK [leafT f] [e] = some ([], true) := by
  rw [runQ, stepG_leaf, h]; rfl

theorem leaf_stay {f f' : Frame L} {e : Ev D} (h : feed1 env litOK keyOK f e = .stay f') (es : List (Ev D)) :
    runQ env litOK keyOK [leafT f] (e :: es) = runQ env litOK keyOK [leafT f'] es := by
  rw [runQ_cons _ _ _ _ _ _ (by rw [stepG_leaf, h]; rfl), stepG_leaf, h]; rfl

theorem leaf_kids {f f' : Frame L} {hs : List (Frame L)} {e : Ev D} (h : feed1 env litOK keyOK f e = .kids f' hs)
    (es : List (Ev D)) :
    runQ env litOK keyOK [leafT f] (e :: es) = runQ env litOK keyOK (leafRes (.kids f' hs)).1 es := by
  rw [runQ_cons _ _ _ _ _ _ (by rw [stepG_leaf, h]; rfl), stepG_leaf, h]

variable (env litOK keyOK)

/-! ### the cases of `feed1` that depend on more than the frame and the lexeme -/

theorem feed1_any (n : Nat) (e : Ev D) :
    feed1 env litOK keyOK (.any n : Frame L) e
      = if (if e.isOpening then n + 1 else n - 1) == 0 then .done else .stay (.any (if e.isOpening then n + 1 else n - 1)) :=
  rfl

theorem feed1_litE (l : L) (d : D) :
    feed1 env litOK keyOK (.lit l : Frame L) (.litE d) = if litOK l d then .done else .fail :=
  rfl

/-- the `find?` written out in `feed1` is the spec's `pickShort`: here the machine and the spec meet -/
theorem feed1_valB (props shorts : List (String × Bool × S L)) (add : AddMode L) (req used : List String) (k : String) :
    feed1 env litOK keyOK (.obj props shorts add req used (some k)) (.valB : Ev D)
      = match lookup props k with
        | some s => .kids (.obj props shorts add req used (some k)) (heads env s)
        | none =>
          match pickShort keyOK shorts used k with
          | some sc => .kids (.obj props shorts add (req.filter (· != "@" ++ sc.1)) (sc.1 :: used) (some k)) (heads env sc.2.2)
          | none => .kids (.obj props shorts add req used (some k)) (addHeads env add) :=
  rfl

theorem feed1_itemB (items : List (S L)) (c : Nat) :
    feed1 env litOK keyOK (.arr items c) (.itemB : Ev D)
      = match childAt items c with
        | some s => .kids (.arr items (c + 1)) (heads env s)
        | none => .fail :=
  rfl

theorem any_openT (n : Nat) (e : Ev D) (es : List (Ev D)) (h : e.isOpening = true) :
    runQ env litOK keyOK [leafT (.any n : Frame L)] (e :: es) = runQ env litOK keyOK [leafT (.any (n+1))] es :=
  leaf_stay (by rw [feed1_any, h]; rfl) es

theorem any_closeT (n : Nat) (e : Ev D) (es : List (Ev D)) (h : e.isOpening = false) :
    runQ env litOK keyOK [leafT (.any (n+2) : Frame L)] (e :: es) = runQ env litOK keyOK [leafT (.any (n+1))] es :=
  leaf_stay (by rw [feed1_any, h]; rfl) es

theorem any_lastT (e : Ev D) (h : e.isOpening = false) :
    runQ env litOK keyOK [leafT (.any 1 : Frame L)] [e] = some ([], true) :=
  leaf_done (by rw [feed1_any, h]; rfl)

theorem any_keepT (d : J D) (n : Nat) (r : Ev D) (rs : List (Ev D)) :
    runQ env litOK keyOK [leafT (.any (n+1) : Frame L)] (evs d ++ r :: rs) = runQ env litOK keyOK [leafT (.any (n+1))] (r :: rs) :=
  VN.skip_value (fun n es => runQ env litOK keyOK [leafT (.any n)] es) (any_openT env litOK keyOK) (any_closeT env litOK keyOK)
    d n (r :: rs)

theorem any_topT (d : J D) : runQ env litOK keyOK [leafT (.any 0 : Frame L)] (evs d) = some ([], true) := by
  simpa using VN.skip_top (fun n es => runQ env litOK keyOK [leafT (.any n)] es) (any_openT env litOK keyOK)
    (any_closeT env litOK keyOK) d [] _ (any_lastT env litOK keyOK)

/-! ### the union semantics with named types, `additionalProperties` and key shortcuts -/

theorem position_run (P : Frame L) (hs : List (Frame L)) (b : Bool) (x : J D) (r : Ev D) (rs : List (Ev D))
    (hv : runQ env litOK keyOK (hs.map leafT) (evs x) = some ([], b)) :
    runQ env litOK keyOK (leafRes (FeedRes.kids P hs)).1 (evs x ++ r :: rs)
      = if b then runQ env litOK keyOK [leafT P] (r :: rs) else some ([], false) := by
  rw [runQ_eq] at hv
  simpa [runQ_eq, leafRes, leafT] using
    TreeRun.run_position _ (T.node P) (fun _ => rfl) (stepG_node_wait env litOK keyOK P) _ b _ (r :: rs)
      (VN.evs_ne_nil x) (by simp) hv

/-- additionalProperties "object" / "array": the first lexeme decides, the rest is skipped -/
theorem addObj_T (v : J D) :
    runQ env litOK keyOK [leafT (Frame.addObj : Frame L)] (evs v) = some ([], match v with | .obj _ => true | _ => false) := by
  cases v with
  | lit k => exact leaf_fail rfl _
  | arr xs => exact leaf_fail rfl _
  | obj ms =>
    -- after `{` as `any` would be
    rw [← any_topT env litOK keyOK (.obj ms)]
    simp only [evs]
    rw [leaf_stay (f' := .any 1) rfl, any_openT env litOK keyOK 0 _ _ rfl]

theorem addArr_T (v : J D) :
    runQ env litOK keyOK [leafT (Frame.addArr : Frame L)] (evs v) = some ([], match v with | .arr _ => true | _ => false) := by
  cases v with
  | lit k => exact leaf_fail rfl _
  | obj ms => exact leaf_fail rfl _
  | arr xs =>
    rw [← any_topT env litOK keyOK (.arr xs)]
    simp only [evs]
    rw [leaf_stay (f' := .any 1) rfl, any_openT env litOK keyOK 0 _ _ rfl]

/-- what an unknown key's value must satisfy: part of the specification (the `none` branch of `shapeMembers` written out;
`KeyOrder` uses it too), kept next to `add_run`, which decides it -/
def shapeAdd (add : AddMode L) (v : J D) : Bool :=
  addDecide litOK add v (fun n => (alts env (.ref [n] none)).any (fun a => shapeA env litOK keyOK a v))

/-- the validators of an unknown key's value decide `shapeAdd` (the two recursive facts are passed in) -/
theorem add_run (add : AddMode L) (v : J D)
    (hlit : ∀ l, runQ env litOK keyOK [leafT (frameOf (S.lit l))] (evs v) = some ([], shapeA env litOK keyOK (S.lit l) v))
    (htype : ∀ n, runQ env litOK keyOK ((heads env (.ref [n] none)).map leafT) (evs v)
        = some ([], (alts env (.ref [n] none)).any (fun a => shapeA env litOK keyOK a v))) :
    runQ env litOK keyOK ((addHeads env add).map leafT) (evs v) = some ([], shapeAdd env litOK keyOK add v) := by
  cases add with
  | none => exact runQ_nil env litOK keyOK _
  | any => exact any_topT env litOK keyOK v
  | obj => exact (addObj_T env litOK keyOK v).trans (by cases v <;> rfl)
  | arr => exact (addArr_T env litOK keyOK v).trans (by cases v <;> rfl)
  | lit l => exact (hlit l).trans (by cases v <;> rfl)
  | type n => exact htype n

/-- a list of alternatives over one value, from each alternative over that value -/
theorem alts_of_alt (d : J D)
    (h : ∀ a : S L, runQ env litOK keyOK [leafT (frameOf a)] (evs d) = some ([], shapeA env litOK keyOK a d)) (as : List (S L)) :
    runQ env litOK keyOK ((as.map frameOf).map leafT) (evs d) = some ([], as.any (fun a => shapeA env litOK keyOK a d)) := by
  induction as with
  | nil => exact runQ_nil env litOK keyOK _
  | cons a as ih =>
    rw [List.map_cons, List.map_cons, ← List.singleton_append, runQ_group_append, h a, ih]
    rfl

mutual
/-- one alternative (a non-reference schema) over one value -/
theorem alt_T (a : S L) (d : J D) :
    runQ env litOK keyOK [leafT (frameOf a)] (evs d) = some ([], shapeA env litOK keyOK a d) := by
  cases a with
  | ref names nul => cases d <;> exact leaf_fail rfl _
  | any => simpa only [frameOf, shapeA] using any_topT env litOK keyOK d
  | lit l =>
    cases d with
    | lit dk =>
      simp only [frameOf, evs, shapeA]
      rw [leaf_stay (f' := .lit l) rfl]
      cases h : litOK l dk
      · exact leaf_fail (by rw [feed1_litE, h]; rfl) _
      · exact leaf_done (by rw [feed1_litE, h]; rfl)
    | arr xs => exact leaf_fail rfl _
    | obj ms => exact leaf_fail rfl _
  | arr items =>
    cases d with
    | lit dk => exact leaf_fail rfl _
    | arr xs =>
      exact (leaf_stay (f' := .arr items 0) rfl _).trans (items_T items xs 0)
    | obj ms => exact leaf_fail rfl _
  | obj props shorts add =>
    cases d with
    | lit dk => exact leaf_fail rfl _
    | arr xs => exact leaf_fail rfl _
    | obj ms =>
      exact (leaf_stay (f' := .obj props shorts add _ [] none) rfl _).trans (members_T props shorts add ms _ [] none)

theorem items_T (items : List (S L)) (xs : List (J D)) (c : Nat) :
    runQ env litOK keyOK [leafT (.arr items c)] (evsItems xs ++ [.arrE]) = some ([], shapeItems env litOK keyOK items c xs) := by
  cases xs with
  | nil => exact leaf_done rfl
  | cons x xs =>
    cases hc : childAt items c with
    | none =>
      simp only [evsItems, List.cons_append, List.append_assoc, shapeItems, hc]
      exact leaf_fail (by rw [feed1_itemB, hc]) _
    | some s =>
      simp only [evsItems, List.cons_append, List.append_assoc, shapeItems, hc]
      rw [leaf_kids (f' := .arr items (c+1)) (hs := heads env s) (by rw [feed1_itemB, hc]),
        position_run env litOK keyOK _ (heads env s) _ x .itemE _ (alts_of_alt env litOK keyOK x (fun a => alt_T a x) (alts env s))]
      cases (alts env s).any (fun a => shapeA env litOK keyOK a x) with
      | false => rfl
      | true =>
        simp only [if_true, Bool.true_and]
        rw [leaf_stay (f' := .arr items (c+1)) rfl]
        exact items_T items xs (c+1)
theorem members_T (props shorts : List (String × Bool × S L)) (add : AddMode L) (ms : List (String × J D))
    (req used : List String) (last : Option String) :
    runQ env litOK keyOK [leafT (.obj props shorts add req used last)] (evsMembers ms ++ [.objE])
      = some ([], shapeMembers env litOK keyOK props shorts add req used ms) := by
  cases ms with
  | nil =>
    simp only [evsMembers, List.nil_append, shapeMembers]
    cases req
    · exact leaf_done rfl
    · exact leaf_fail rfl _
  | cons m ms =>
    obtain ⟨k, v⟩ := m
    -- the validators of this value, the frame that waits for them, and what the spec does with the rest
    have hpos : ∃ (hs : List (Frame L)) (bv : Bool) (req' used' : List String),
        feed1 env litOK keyOK (Frame.obj props shorts add (req.filter (· != k)) used (some k)) (Ev.valB : Ev D)
          = FeedRes.kids (.obj props shorts add req' used' (some k)) hs ∧
        runQ env litOK keyOK (hs.map leafT) (evs v) = some ([], bv) ∧
        shapeMembers env litOK keyOK props shorts add req used ((k, v) :: ms)
          = (bv && shapeMembers env litOK keyOK props shorts add req' used' ms) := by
      cases hl : lookup props k with
      | some s =>
        refine ⟨heads env s, shape env litOK keyOK s v, req.filter (· != k), used, by rw [feed1_valB, hl],
          alts_of_alt env litOK keyOK v (fun a => alt_T a v) (alts env s), ?_⟩
        simp only [shapeMembers, hl]; rfl
      | none =>
        cases hp : pickShort keyOK shorts used k with
        | some sc =>
          refine ⟨heads env sc.2.2, shape env litOK keyOK sc.2.2 v, (req.filter (· != k)).filter (· != "@" ++ sc.1),
            sc.1 :: used, ?_, alts_of_alt env litOK keyOK v (fun a => alt_T a v) (alts env sc.2.2), ?_⟩
          · rw [feed1_valB, hl, hp]
          · simp only [shapeMembers, hl, hp]; rfl
        | none =>
          refine ⟨addHeads env add, shapeAdd env litOK keyOK add v, req.filter (· != k), used, ?_,
            add_run env litOK keyOK add v (fun l => alt_T (.lit l) v)
              (fun n => alts_of_alt env litOK keyOK v (fun a => alt_T a v) (alts env (.ref [n] none))), ?_⟩
          · rw [feed1_valB, hl, hp]
          · simp only [shapeMembers, hl, hp]; rfl
    obtain ⟨hs, bv, req', used', hfeed, hv, hshape⟩ := hpos
    simp only [evsMembers, List.cons_append, List.append_assoc]
    rw [leaf_stay (f' := .obj props shorts add req used last) rfl,
      leaf_stay (f' := .obj props shorts add (req.filter (· != k)) used (some k)) rfl,
      leaf_kids hfeed, position_run env litOK keyOK _ hs bv v .valE _ hv, hshape]
    cases bv with
    | false => rfl
    | true =>
      simp only [if_true, Bool.true_and]
      rw [leaf_stay (f' := .obj props shorts add req' used' (some k)) rfl]
      exact members_T props shorts add ms req' used' (some k)
end

/-- a list of alternatives over one value -/
theorem alts_T (as : List (S L)) (d : J D) :
    runQ env litOK keyOK ((as.map frameOf).map leafT) (evs d) = some ([], as.any (fun a => shapeA env litOK keyOK a d)) :=
  alts_of_alt env litOK keyOK d (alt_T env litOK keyOK · d) as

/-- **C03** with key shortcuts: the shared-parent validator tree accepts exactly the union over the alternatives
`NodeValidatorList` builds at every position, a key the example does not name taking the first unused shortcut whose
key type accepts it (`pickShort`) and otherwise falling to `additionalProperties` -/
theorem C03_key_shortcuts (s : S L) (d : J D) : validateT env litOK keyOK s d = shape env litOK keyOK s d := by
  unfold validateT
  rw [show runQ env litOK keyOK ((heads env s).map leafT) (evs d) = some ([], shape env litOK keyOK s d) from
    alts_T env litOK keyOK (alts env s) d]

#print axioms C03_key_shortcuts

end VK
