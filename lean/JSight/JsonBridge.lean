import JSight.TreeEvents
import JSight.ErrPos
import JSight.NoCrash
/-!
The two JSON scanner machines: the span-carrying one (`eventsLoop` / `events` / `checkS`, used for C06, C14, C17) is the
span-free one (`run` / `check`, `Sim.errPos`, used for C05, C07, C17) with positions. Both use the same control step; the
first keeps positions on its stack and collects events, the second only counts whether anything was found. One
induction (`evsFrom_erase`) says what the answer of the first tells about the second: acceptance, the kind of error and
its index. `checkS_iff_check`, `events_no_crash` and the error-index statements of `DocCorollaries` are its readings.
-/
namespace JsonScan

def nonTop (evs : List Ev) : List Ev := evs.filter (·.ty != .endTop)

theorem nonTop_append (a b : List Ev) : nonTop (a ++ b) = nonTop a ++ nonTop b := by simp [nonTop]

theorem nonTop_of_all (l : List Ev) (h : ∀ e ∈ l, e.ty ≠ .endTop) : nonTop l = l := by
  unfold nonTop
  rw [List.filter_eq_self]
  intro e he
  simpa using h e he

/-- an error of the finds is a panic, in both machines -/
theorem applyFinds_err (i : Nat) : ∀ (fs : List LexT) (S : List (LexT × Nat)) (acc : List Ev) (e : ErrS),
    applyFindsS i S fs acc = .error e →
    (∃ w, e = .crash w) ∧ ∃ e', applyFinds (S.map (·.1)) fs = .error e' ∧ Sim.Err.isCrash e' = true := by
  intro fs
  induction fs with
  | nil => intro S acc e h; simp [applyFindsS] at h
  | cons f fs ih =>
    intro S acc e h
    unfold applyFindsS at h
    unfold applyFinds
    split at h
    · simp at h
    · rename_i hf
      simp only [hf, if_false, Bool.false_eq_true]
      split at h
      · rename_i ho
        simp only [ho, if_true]
        exact ih _ _ e h
      · rename_i ho
        simp only [ho, if_false, Bool.false_eq_true]
        cases S with
        | nil => cases h; exact ⟨⟨_, rfl⟩, _, rfl, rfl⟩
        | cons p rest =>
          obtain ⟨p, b⟩ := p
          simp only [List.map_cons] at h ⊢
          split at h
          · rename_i hp
            have : pairs p f = true := by
              simp only [Bool.or_eq_true, Bool.and_eq_true, beq_iff_eq] at hp
              rcases hp with ⟨rfl, rfl⟩ | ⟨rfl, rfl⟩ <;> rfl
            simp only [this, if_true]
            exact ih _ _ e h
          · split at h
            · rename_i hp
              simp only [hp, if_true]
              exact ih _ _ e h
            · rename_i hp
              simp only [hp, if_false, Bool.false_eq_true]
              cases h
              exact ⟨⟨_, rfl⟩, _, rfl, rfl⟩

theorem applyFinds_ok (i : Nat) : ∀ (fs : List LexT) (S : List (LexT × Nat)) (acc : List Ev)
    (S' : List (LexT × Nat)) (evs : List Ev) (stop : Bool),
    applyFindsS i S fs acc = .ok (S', evs, stop) →
    applyFinds (S.map (·.1)) fs = .ok (if stop then none else some (S'.map (·.1))) ∧
    (stop = true → LexT.endTop ∈ fs) ∧
    ∃ new, evs = acc.reverse ++ new ∧ (stop = false → new.length = fs.length ∧ ∀ e ∈ new, e.ty ≠ .endTop) := by
  intro fs
  induction fs with
  | nil =>
    intro S acc S' evs stop h
    simp only [applyFindsS, Except.ok.injEq, Prod.mk.injEq] at h
    obtain ⟨rfl, rfl, rfl⟩ := h
    exact ⟨rfl, by simp, [], by simp, by simp⟩
  | cons f fs ih =>
    intro S acc S' evs stop h
    unfold applyFindsS at h
    unfold applyFinds
    split at h
    · rename_i hf
      simp only [Except.ok.injEq, Prod.mk.injEq] at h
      obtain ⟨rfl, rfl, rfl⟩ := h
      have hf' : f = .endTop := by simpa using hf
      subst hf'
      refine ⟨by simp, by simp, [⟨.endTop, i, i⟩], by simp, by simp⟩
    · rename_i hf
      have hfne : f ≠ .endTop := by simpa using hf
      simp only [hf, if_false, Bool.false_eq_true]
      -- common closing argument
      have close : ∀ (S1 : List (LexT × Nat)) (ev : Ev), ev.ty = f →
          applyFindsS i S1 fs (ev :: acc) = .ok (S', evs, stop) →
          applyFinds (S1.map (·.1)) fs = .ok (if stop then none else some (S'.map (·.1))) ∧
          (stop = true → LexT.endTop ∈ f :: fs) ∧
          ∃ new, evs = acc.reverse ++ new ∧ (stop = false → new.length = (f :: fs).length ∧ ∀ e ∈ new, e.ty ≠ .endTop) := by
        intro S1 ev hev h1
        obtain ⟨a, b, new, hn, hl⟩ := ih S1 (ev :: acc) S' evs stop h1
        refine ⟨a, fun hs => List.mem_cons_of_mem _ (b hs), ev :: new, by simp [hn], ?_⟩
        intro hs
        obtain ⟨l1, l2⟩ := hl hs
        refine ⟨by simp [l1], ?_⟩
        intro e he
        rcases List.mem_cons.1 he with rfl | he
        · rw [hev]; exact hfne
        · exact l2 e he
      split at h
      · rename_i ho
        simp only [ho, if_true]
        exact close ((f, i) :: S) _ rfl h
      · rename_i ho
        simp only [ho, if_false, Bool.false_eq_true]
        cases S with
        | nil => simp at h
        | cons p rest =>
          obtain ⟨p, b⟩ := p
          simp only [List.map_cons] at h ⊢
          split at h
          · rename_i hp
            have : pairs p f = true := by
              simp only [Bool.or_eq_true, Bool.and_eq_true, beq_iff_eq] at hp
              rcases hp with ⟨rfl, rfl⟩ | ⟨rfl, rfl⟩ <;> rfl
            simp only [this, if_true]
            exact close rest _ rfl h
          · split at h
            · rename_i hp
              simp only [hp, if_true]
              exact close rest _ rfl h
            · simp at h

theorem foundRoot_step (allow : Bool) (stack : List LexT) (unf : Bool) (c : Cls) (st' : St) (unf' : Bool)
    (finds : List LexT) (h : step allow .foundRoot stack unf c = .ok (st', unf', finds)) :
    LexT.endTop ∉ finds ∧ (finds = [] → st' = .foundRoot) := by
  cases c <;> cases h <;> first | exact ⟨by decide, fun _ => rfl⟩ | exact ⟨by decide, nofun⟩

/-- the span-free configuration under a span-carrying one -/
def Erased (c : Cfg) (cS : CfgS) : Prop := c.st = cS.st ∧ c.stack = cS.stack.map (·.1) ∧ c.unf = cS.unf

/-- what the answer `X` of the span-carrying scan from byte `i` says of the span-free run `r` and its error index `ep`
(`ep` is read only for `allow = false`). The guard of the `.ok` clause: as long as nothing was seen the scanner is in its root
state (`root`); there no `EndTop` can be found (`foundRoot_step`), so the span-free run, which answers ok on every stop, and
`checkS`, which asks for a lexeme, cannot differ. -/
def Reads (allow : Bool) (n i len : Nat) (seen root : Bool) (X : Except ErrS (List Ev)) (r : Except Err Unit)
    (ep : Option Nat) : Prop :=
  match X with
  | .ok new => (allow = false → ep = none) ∧ ((seen = false → root = true) → r.isOk = (seen || !(nonTop new).isEmpty))
  | .error (.invalidChar p) => i ≤ p ∧ p < i + len ∧ r.isOk = false ∧ (allow = false → ep = some p)
  | .error (.unexpectedEOF p) => p = n - 1 ∧ r.isOk = false ∧ (allow = false → ep = none)
  | .error (.crash _) => ∃ e, r = .error e ∧ Sim.Err.isCrash e = true
  | .error .emptyJson => False

theorem evsFrom_erase (allow : Bool) (n : Nat) : ∀ (cs : List Cls) (i : Nat) (cS : CfgS) (c : Cfg), Erased c cS →
    Reads allow n i cs.length c.seen (cS.st == .foundRoot) (evsFrom allow n cs i cS) (run allow c cs) (Sim.errPos c cs i) := by
  intro cs
  induction cs with
  | nil =>
    intro i cS c ⟨h1, h2, h3⟩
    obtain ⟨st, stack, unf, seen⟩ := c
    simp only at h1 h2 h3
    subst h1 h2 h3
    unfold evsFrom run atEof Sim.errPos
    cases hS : cS.stack with
    | nil => cases seen <;> simp [Reads, Except.isOk, Except.toBool, nonTop]
    | cons p rest =>
      obtain ⟨t, b⟩ := p
      -- only a literal alone on the stack can end the text
      by_cases ht : t = .litB
      · subst ht
        cases rest with
        | nil => cases hu : cS.unf <;> simp [Reads, Except.isOk, Except.toBool, nonTop]
        | cons q rest' => simp [Reads, Except.isOk, Except.toBool]
      · cases t <;> first | exact absurd rfl ht | exact ⟨rfl, rfl, fun _ => rfl⟩
  | cons x cs ih =>
    intro i cS c ⟨h1, h2, h3⟩
    obtain ⟨st, stack, unf, seen⟩ := c
    simp only at h1 h2 h3
    subst h1 h2 h3
    unfold evsFrom run Sim.errPos
    cases hstep : step allow cS.st (cS.stack.map (·.1)) cS.unf x with
    | error e =>
      have hfeed : ∀ a, a = allow → feed a ⟨cS.st, cS.stack.map (·.1), cS.unf, seen⟩ x = .error e := by
        intro a ha; subst ha; simp [feed, hstep, bind, Except.bind]
      simp only [hfeed allow rfl, bind, Except.bind]
      refine ⟨Nat.le_refl _, by simp, rfl, fun ha => ?_⟩
      rw [hfeed false ha.symm]
    | ok r =>
      obtain ⟨st', unf', finds⟩ := r
      simp only
      cases haf : applyFindsS i cS.stack finds [] with
      | error e =>
        obtain ⟨⟨w, rfl⟩, e', he', hc⟩ := applyFinds_err i finds cS.stack [] e haf
        exact ⟨e', by simp [feed, hstep, he', bind, Except.bind], hc⟩
      | ok r2 =>
        obtain ⟨S', evs, stop⟩ := r2
        obtain ⟨ha, hb, new, hn, hl⟩ := applyFinds_ok i finds cS.stack [] S' evs stop haf
        simp only [List.reverse_nil, List.nil_append] at hn
        subst hn
        have hfeed : ∀ a, a = allow → feed a ⟨cS.st, cS.stack.map (·.1), cS.unf, seen⟩ x =
            .ok (if stop then .stop else .cont ⟨st', S'.map (·.1), unf', seen || !finds.isEmpty⟩) := by
          intro a h; subst h
          cases stop <;> simp [feed, hstep, ha, bind, Except.bind, pure, Except.pure]
        cases stop with
        | true =>
          simp only [if_true, hfeed allow rfl, bind, Except.bind, pure, Except.pure]
          refine ⟨fun h => by rw [hfeed false h.symm]; rfl, fun h5 => ?_⟩
          -- something was seen before: the end-top lexeme cannot be found from the root state
          cases hs : seen with
          | true => rfl
          | false =>
            have hr : cS.st = .foundRoot := by simpa using h5 hs
            rw [hr] at hstep
            exact absurd (hb rfl) (foundRoot_step allow _ _ _ _ _ _ hstep).1
        | false =>
          obtain ⟨hlen, hall⟩ := hl rfl
          have hev : evs.isEmpty = finds.isEmpty := by
            cases evs <;> cases finds <;> first | rfl | simp at hlen
          have IH := ih (i + 1) ⟨st', S', unf'⟩ ⟨st', S'.map (·.1), unf', seen || !finds.isEmpty⟩ ⟨rfl, rfl, rfl⟩
          simp only [Bool.false_eq_true, if_false, hfeed allow rfl, bind, Except.bind] at IH ⊢
          have hep : allow = false → Sim.errPos ⟨cS.st, cS.stack.map (·.1), cS.unf, seen⟩ (x :: cs) i
              = Sim.errPos ⟨st', S'.map (·.1), unf', seen || !finds.isEmpty⟩ cs (i + 1) := by
            intro h
            conv => lhs; unfold Sim.errPos
            rw [hfeed false h.symm]
            rfl
          cases hX : evsFrom allow n cs (i + 1) ⟨st', S', unf'⟩ with
          | error e =>
            rw [hX] at IH
            cases e with
            | invalidChar p =>
              obtain ⟨a1, a2, a3, a4⟩ := IH
              exact ⟨by omega, by simp only [List.length_cons]; omega, a3, fun h => (hep h).trans (a4 h)⟩
            | unexpectedEOF p =>
              obtain ⟨a1, a2, a3⟩ := IH
              exact ⟨a1, a2, fun h => (hep h).trans (a3 h)⟩
            | emptyJson => exact IH
            | crash w => exact IH
          | ok new' =>
            rw [hX] at IH
            obtain ⟨a1, a2⟩ := IH
            refine ⟨fun h => (hep h).trans (a1 h), fun h5 => ?_⟩
            show _ = (seen || !(nonTop (evs ++ new')).isEmpty)
            rw [a2 ?_, nonTop_append, nonTop_of_all evs hall]
            · cases seen <;> cases hA : evs <;> simp [← hev, hA]
            · intro hs
              have hs' : seen = false ∧ finds = [] := by
                cases seen <;> cases finds <;> first | exact ⟨rfl, rfl⟩ | cases hs
              have hr : cS.st = .foundRoot := by simpa using h5 hs'.1
              rw [hr] at hstep
              simp [(foundRoot_step allow _ _ _ _ _ _ hstep).2 hs'.2]

theorem events_eq_evsFrom (o : Bool) (t : List UInt8) : events o t = evsFrom o t.length (t.map classify) 0 {} := by
  unfold events
  rw [eventsLoop_eq, map_append_nil]

/-- the whole text: what `events` answers, read for `check` and `Sim.errPos` -/
theorem events_reads (o : Bool) (t : List UInt8) :
    Reads o t.length 0 t.length false true (events o t) (run o Cfg.init (t.map classify))
      (Sim.errPos Cfg.init (t.map classify) 0) := by
  have := evsFrom_erase o t.length (t.map classify) 0 {} Cfg.init ⟨rfl, rfl, rfl⟩
  rw [← events_eq_evsFrom, List.length_map] at this
  exact this

/-- **the two JSON scanner machines accept the same byte strings** (both modes) -/
theorem checkS_iff_check (allow : Bool) (bs : List UInt8) : (checkS allow bs).isOk = check allow bs := by
  have h := events_reads allow bs
  unfold checkS check checkC
  cases he : events allow bs with
  | ok evs =>
    rw [he] at h
    rw [h.2 (fun _ => rfl)]
    simp only [nonTop, Bool.false_or]
    cases (evs.filter (·.ty != .endTop)).isEmpty <;> rfl
  | error e =>
    rw [he] at h
    cases e with
    | invalidChar p => exact h.2.2.1.symm
    | unexpectedEOF p => exact h.2.1.symm
    | emptyJson => exact h.elim
    | crash w =>
      obtain ⟨e, h1, _⟩ := h
      rw [h1]; rfl

theorem events_no_crash (o : Bool) (t : List UInt8) (w : String) : events o t ≠ .error (.crash w) := by
  intro h
  have hr := events_reads o t
  rw [h] at hr
  obtain ⟨e, he, hc⟩ := hr
  rw [Sim.C07_json_no_crash o t e he] at hc
  cases hc

end JsonScan
