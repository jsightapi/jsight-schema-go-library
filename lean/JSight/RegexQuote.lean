import JSight.Unquote
/-!
C18: (1) `regex.doCompile` pattern extraction, (2) Go `%q` quoting of a printable-ASCII
string is undone by the JSON unquoting the schema scanner/loader applies (the hand-over in
`AddType` for regex types).
-/
namespace RegexT

/-- the scan loop of `doCompile` over `content[1:]`: index of the first unescaped '/', if any -/
def findEnd : List UInt8 → Bool → Nat → Option Nat
  | [], _, _ => none
  | c :: cs, escaped, i =>
    if c == 92 then findEnd cs (!escaped) (i + 1)
    else if c == 47 then (if !escaped then some i else findEnd cs false (i + 1))
    else findEnd cs false (i + 1)

/-- `Pattern()`: `none` = error (no leading '/', or no unescaped closing '/', or empty pattern) -/
def pattern (content : List UInt8) : Option (List UInt8) :=
  match content with
  | 47 :: rest =>
    match findEnd rest false 0 with
    | some i => if i == 0 then none else some (rest.take i)
    | none => none
  | _ => none

def len (content : List UInt8) : Option Nat := (pattern content).map (·.length + 2)

/-- a pattern body: scanning it finds no unescaped '/', and ends in the given escape state -/
def endState : List UInt8 → Bool → Option Bool
  | [], e => some e
  | c :: cs, e =>
    if c == 92 then endState cs (!e)
    else if c == 47 then (if !e then none else endState cs false)
    else endState cs false

theorem findEnd_append (P rest : List UInt8) (e : Bool) (i : Nat) (h : endState P e = some false) :
    findEnd (P ++ 47 :: rest) e i = some (i + P.length) := by
  induction P generalizing e i with
  | nil =>
    simp only [endState] at h
    cases h
    simp [findEnd]
  | cons c cs ih =>
    simp only [endState] at h
    simp only [List.cons_append, findEnd, List.length_cons]
    by_cases h1 : c == 92
    · simp only [h1, if_true] at h ⊢
      rw [ih (!e) (i + 1) h]; congr 1; omega
    · simp only [h1, Bool.false_eq_true, if_false] at h ⊢
      by_cases h2 : c == 47
      · simp only [h2, if_true] at h ⊢
        cases e with
        | false => simp at h
        | true =>
          simp only [Bool.not_true, Bool.false_eq_true, if_false] at h ⊢
          rw [ih false (i + 1) h]; congr 1; omega
      · simp only [h2, Bool.false_eq_true, if_false] at h ⊢
        rw [ih false (i + 1) h]; congr 1; omega

/-- C18: the token `/P/` followed by anything yields pattern `P` and length `|P| + 2`. -/
theorem C18_regex_extract (P rest : List UInt8) (hne : P ≠ []) (h : endState P false = some false) :
    pattern (47 :: (P ++ 47 :: rest)) = some P ∧ len (47 :: (P ++ 47 :: rest)) = some (P.length + 2) := by
  have := findEnd_append P rest false 0 h
  have hl : P.length ≠ 0 := by
    intro e; exact hne (List.length_eq_zero_iff.1 e)
  have hp : pattern (47 :: (P ++ 47 :: rest)) = some P := by
    simp only [pattern, this, Nat.zero_add]
    have : (P.length == 0) = false := by simpa using hl
    simp [this]
  exact ⟨hp, by simp [len, hp]⟩

end RegexT

namespace GoQuote
open Unquote

def printable (c : UInt8) : Bool := 32 ≤ c && c < 127

/-- `%q` on printable ASCII: only `"` and `\\` are escaped -/
def esc : List UInt8 → List UInt8
  | [] => []
  | c :: cs => if c == 34 then 92 :: 34 :: esc cs else if c == 92 then 92 :: 92 :: esc cs else c :: esc cs

def q (s : List UInt8) : List UInt8 := 34 :: (esc s ++ [34])

theorem body_esc (s : List UInt8) (hp : ∀ c ∈ s, printable c = true) :
    ∀ fuel, (esc s).length < fuel → body fuel (esc s) = some s := by
  induction s with
  | nil => intro fuel h; cases fuel <;> simp_all [esc, body]
  | cons c cs ih =>
    intro fuel hf
    have hc : printable c = true := hp c (by simp)
    have ih' := ih (fun x hx => hp x (by simp [hx]))
    cases fuel with
    | zero => simp at hf
    | succ fuel =>
      simp only [printable, Bool.and_eq_true, decide_eq_true_eq] at hc
      by_cases h1 : c = 34
      · subst h1
        simp only [esc, beq_self_eq_true, if_true, List.length_cons] at hf ⊢
        have := ih' fuel (by omega)
        simp [body, this]
      · by_cases h2 : c = 92
        · subst h2
          have e1 : ((92 : UInt8) == 34) = false := by decide
          simp only [esc, e1, Bool.false_eq_true, if_false, beq_self_eq_true, if_true, List.length_cons] at hf ⊢
          have := ih' fuel (by omega)
          simp [body, this]
        · have e1 : (c == 34) = false := by simpa using h1
          have e2 : (c == 92) = false := by simpa using h2
          simp only [esc, e1, e2, Bool.false_eq_true, if_false, List.length_cons] at hf ⊢
          have := ih' fuel (by omega)
          have hlt : ¬ c < 32 := by
            intro hh; have := hc.1; exact absurd hh (by simpa [UInt8.not_lt] using this)
          have h80 : c < 0x80 := by
            have := hc.2
            exact UInt8.lt_trans this (by decide)
          simp [body, e1, e2, hlt, h80, this]


/-- C18: what `fmt.Sprintf("%q", s)` writes for a printable-ASCII string is read back as `s`
by the JSON unquoting used for schema strings. -/
theorem C18_goquote_roundtrip (s : List UInt8) (hp : ∀ c ∈ s, printable c = true) :
    unquote (q s) = s := by
  have hlast : (34 :: (esc s ++ [34])).getLast? = some (34 : UInt8) := by
    rw [← List.cons_append]
    exact List.getLast?_concat ..
  have hin : inQuotes (q s) = true := by
    simp [inQuotes, q, hlast]
  have hinner : ((q s).drop 1).dropLast = esc s := by
    simp [q]
  unfold unquote
  rw [hin]
  simp only [if_true, hinner]
  rw [body_esc s hp ((q s).length + 1) (by simp [q]; omega)]

end GoQuote

#print axioms RegexT.C18_regex_extract
#print axioms GoQuote.C18_goquote_roundtrip
