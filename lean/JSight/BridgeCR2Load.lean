import JSight.BridgeCRThm
import JSight.CheckRulesLoad
/-!
Bridge (A)∩(B). The annotation-reading phase with VALUES: (B)'s rule set read from the translated rules is the
explicit function `mapOf` of (A)'s rule list — per constraint type the value read from the (unique) rule of that name
(`readRule_ruleOf`, `readSet_mapOf`). Hence, by `CR.foldO_some`, when (B)'s fold of `CR.loadRule` over the translated
rules accepts, the constraint map it returns is `mapOf`, the rule names are pairwise different and every value is one
(A) can read again during `compileNode` (`foldB`).
-/
namespace BridgeCR
open Compile

/-- the constraint value `NewConstraintFromRule` makes of a literal token (total: `.unit` where the reader fails) -/
def cvLit (rn : CR.RName) (tok : Bytes) : CR.CV :=
  match rn with
  | .min | .max => (match RulesF.number tok with | some v => .num v false | none => .unit)
  | .minLength | .maxLength | .precision | .minItems | .maxItems =>
    (match CR.parseUint tok with | some n => .nat n | none => .unit)
  | .exclusiveMinimum | .exclusiveMaximum | .optional | .nullable | .const =>
    (match CR.parseBool tok with | some b => .flag b | none => .unit)
  | .type => .type tok false
  | _ => .unit

/-- the value constraint `k` gets from rule `r` (of the name that creates `k`) -/
def cvAt (k : CR.CT) (r : Rule) : CR.CV :=
  match k with
  | .typesList =>
    if r.gen then .types ((splitPipe (r.val.getD [])).map fun b => b.head? == some 64)
    else .types (List.replicate (((r.val.bind scalarItems).getD []).length) true)
  | .or => .or r.gen
  | .minLength => cvLit .minLength (r.val.getD []) | .maxLength => cvLit .maxLength (r.val.getD [])
  | .min => cvLit .min (r.val.getD []) | .max => cvLit .max (r.val.getD [])
  | .exclusiveMinimum => cvLit .exclusiveMinimum (r.val.getD [])
  | .exclusiveMaximum => cvLit .exclusiveMaximum (r.val.getD [])
  | .type => .type (r.val.getD []) r.gen | .precision => cvLit .precision (r.val.getD [])
  | .optional => cvLit .optional (r.val.getD []) | .nullable => cvLit .nullable (r.val.getD [])
  | .const => cvLit .const (r.val.getD [])
  | .minItems => cvLit .minItems (r.val.getD []) | .maxItems => cvLit .maxItems (r.val.getD [])
  | _ => .unit

theorem cvAt_ct (rn : CR.RName) (h : rn ≠ .or) (r : Rule) (hg : r.gen = false) : cvAt rn.ct r = cvLit rn (r.val.getD []) := by
  cases rn <;> first | exact absurd rfl h | rfl | simp [cvAt, cvLit, CR.RName.ct, hg]

/-- (B)'s constraint map as a function of (A)'s rule list -/
def mapOf (rs : List Rule) : CR.CMap :=
  fun k => (rs.find? fun r => ctName k == some r.name).map (cvAt k)

def SInv (rs : List Rule) (m : CR.CMap) : Prop := ∀ k, m k = mapOf rs k

theorem sinv_empty : SInv [] CR.CMap.empty := by
  intro k
  rfl

/-! ### the names of an accepted annotation -/

/-- the names both models take -/
def goodName (nm : Bytes) : Prop :=
  ∃ rn : CR.RName, nm = rbytes rn ∧ rn ≠ .allOf ∧ rn ≠ .regex ∧ rn ≠ .minItems ∧ rn ≠ .maxItems

/-- what acceptance says about the VALUE of a rule, where (A) reads it again during `compileNode` -/
def okVal (r : Rule) : Prop :=
  (r.name = CR.n_optional → (CR.parseBool (r.val.getD [])).isSome = true) ∧
  (r.name = CR.n_additionalProperties → CR.addPropsOK (r.val.getD []) = true) ∧ goodName r.name ∧
  (r.name = CR.n_or → r.gen = false → 2 ≤ ((r.val.bind scalarItems).getD []).length)

theorem okVal_mk (rn : CR.RName) (v : Bytes) (pos npos : Nat) (h1 : rn = .optional → (CR.parseBool v).isSome = true)
    (h2 : rn = .additionalProperties → CR.addPropsOK v = true)
    (hk : rn ≠ .allOf ∧ rn ≠ .regex ∧ rn ≠ .minItems ∧ rn ≠ .maxItems)
    (h4 : rn = .or → 2 ≤ ((scalarItems v).getD []).length) : okVal (mk rn v pos npos) :=
  ⟨fun e => h1 (rbytes_inj rn .optional e), fun e => h2 (rbytes_inj rn .additionalProperties e), ⟨rn, rfl, hk⟩,
   fun e _ => h4 (rbytes_inj rn .or e)⟩

/-! ### one rule, read -/

theorem ite_some_eq {p : Prop} [Decidable p] {a v : CR.CV} (h : (if p then some a else none) = some v) : v = a ∧ p := by
  split at h
  · cases h; exact ⟨rfl, ‹p›⟩
  · cases h

/-- a literal value that is read is the value `cvLit` names -/
theorem readLit_cvLit {env : CR.Env} {rn : CR.RName} {tok : Bytes} {v : CR.CV} (h : CR.readLit env rn tok = some v) :
    v = cvLit rn tok := by
  cases rn with
  | precision =>
    have h' : ((CR.parseUint tok).bind fun n => if n = 0 then none else some (.nat n)) = some v := h
    revert h'
    unfold cvLit
    cases CR.parseUint tok with
    | none => intro h; cases h
    | some n => intro h; exact (ite_some_eq (p := ¬ n = 0) (by simpa using h)).1
  | additionalProperties | regex => exact (ite_some_eq h).1
  | type => cases h; rfl
  | or | enum | allOf => cases h
  | minLength | maxLength | minItems | maxItems =>
    have h' : (CR.parseUint tok).map CR.CV.nat = some v := h
    revert h'
    unfold cvLit
    cases CR.parseUint tok <;> intro h' <;> cases h' <;> rfl
  | min | max =>
    have h' : (RulesF.number tok).map (CR.CV.num · false) = some v := h
    revert h'
    unfold cvLit
    cases RulesF.number tok <;> intro h' <;> cases h' <;> rfl
  | _ =>
    have h' : (CR.parseBool tok).map CR.CV.flag = some v := h
    revert h'
    unfold cvLit
    cases CR.parseBool tok <;> intro h' <;> cases h' <;> rfl

/-- the constraints a rule name creates, (B)'s way (`nkTop`) and the bridge's way (`ctName`) -/
theorem nkTop_ctName (rn : CR.RName) (k : CR.CT) : (CR.nkTop (rbytes rn)).contains k = (ctName k == some (rbytes rn)) := by
  by_cases h1 : rn = .or
  · subst h1
    rw [show rbytes .or = CR.n_or from rfl, ctName_or, show CR.nkTop CR.n_or = [.typesList, .or] from by decide]
    simp only [List.contains_cons, List.contains_nil, Bool.or_false, Bool.beq_eq_decide_eq]
    exact Bool.or_comm _ _
  · rw [CR.nkTop_lit (ofBytes_rbytes rn) h1, ctName_single rn h1]
    simp only [List.contains_cons, List.contains_nil, Bool.or_false, Bool.beq_eq_decide_eq]

theorem lookup_map_self {α β : Type} [BEq α] [LawfulBEq α] (f : α → β) (l : List α) (k : α) :
    (l.map fun a => (a, f a)).lookup k = if l.contains k then some (f k) else none := by
  induction l with
  | nil => rfl
  | cons a l ih =>
    simp only [List.map_cons, List.lookup, List.contains_cons]
    cases h : k == a
    · simpa using ih
    · simp [eq_of_beq h]

/-- an `or` value of (A)'s class that (B) reads: at least two members, all of them user types -/
theorem orValue_items (env : CR.Env) (c : CR.Ctx) (items : List Bytes)
    (hu : (items.all fun it => !Unquote.inQuotes it || isUserTypeName (unq it)) = true)
    (hv : CR.orValueOK env c (.arr (items.map .lit)) = true) :
    2 ≤ items.length ∧ CR.orValueUsers (.arr (items.map .lit)) = List.replicate items.length true := by
  simp only [CR.orValueOK, List.length_map, Bool.and_eq_true, decide_eq_true_eq, List.all_map, List.all_eq_true,
    Function.comp] at hv
  refine ⟨hv.1, ?_⟩
  simp only [CR.orValueUsers, List.map_map]
  rw [List.eq_replicate_iff]
  refine ⟨by simp, ?_⟩
  intro b hb
  obtain ⟨it, hit, rfl⟩ := List.mem_map.1 hb
  have h1 := List.all_eq_true.1 hu it hit
  have h2 := hv.2 it hit
  simp only [CR.memberOK, Bool.and_eq_true] at h2
  simp only [Function.comp, CR.memberIsUser, ← isUserTypeName_eq]
  simpa [h2.1, unq] using h1

/-- what a readable translated rule of the common class reads to, in (A)'s data: the constraints of its name, each
with the value `cvAt`; and its value is valid -/
theorem readRule_ruleOf (env : CR.Env) (c : CR.Ctx) (r : Rule) (hg : r.gen = false) (hc : ruleCommon r = true)
    (bs : List (CR.CT × CR.CV)) (h : CR.readRule env c (ruleOf r) = some bs) :
    okVal r ∧ bs = (CR.nkTop r.name).map fun k => (k, cvAt k r) := by
  obtain ⟨name, gen, val, pos, npos⟩ := r
  simp only at hg
  subst hg
  obtain ⟨v, hv⟩ := common_val hc
  simp only at hv
  subst hv
  cases hof : CR.RName.ofBytes name with
  | none =>
    have h0 : CR.RName.ofBytes (ruleOf ⟨name, false, some v, pos, npos⟩).1 = none := hof
    rw [CR.readRule_none h0] at h; cases h
  | some rn =>
  obtain rfl := ofBytes_some name rn hof
  have hk := common_known hc
  by_cases h1 : rn = .or
  · subst h1
    obtain ⟨items, hs, hu⟩ := common_or hc
    rw [ruleOf_items (mk .or v pos npos) (Or.inl rfl) items hs, CR.readRule_or (e := ((mk .or v pos npos).name, _)) hof] at h
    split at h
    · next hv =>
      obtain ⟨hl, hus⟩ := orValue_items env c items hu hv
      cases h
      refine ⟨okVal_mk .or v pos npos (fun e => by cases e) (fun e => by cases e) hk (fun _ => by rw [hs]; exact hl), ?_⟩
      rw [hus, show CR.nkTop (mk .or v pos npos).name = [.typesList, .or] from (by decide : CR.nkTop CR.n_or = _)]
      show _ = [(CR.CT.typesList, CR.CV.types (List.replicate ((scalarItems v).getD []).length true)), (CR.CT.or, CR.CV.or false)]
      rw [hs]; rfl
    · cases h
  have hnk : CR.nkTop (mk rn v pos npos).name = [rn.ct] := CR.nkTop_lit hof h1
  rw [hnk]
  by_cases h2 : rn = .enum
  · subst h2
    obtain ⟨items, hs, _⟩ := common_enum hc
    rw [ruleOf_items (mk .enum v pos npos) (Or.inr rfl) items hs, CR.readRule_enum (e := ((mk .enum v pos npos).name, _)) hof] at h
    split at h
    · cases h
      exact ⟨okVal_mk .enum v pos npos (fun e => by cases e) (fun e => by cases e) hk (fun e => by cases e), rfl⟩
    · cases h
  have h3 : rn ≠ .allOf := hk.1
  rw [ruleOf_lit rn v pos npos h1 h2 h3, CR.readRule_lit (e := (rbytes rn, _)) hof h1 h2 h3] at h
  simp only [Option.map_eq_some_iff] at h
  obtain ⟨cv, hcv, rfl⟩ := h
  have e := readLit_cvLit hcv
  refine ⟨okVal_mk rn v pos npos (fun e => ?_) (fun e => ?_) hk (fun e => absurd e h1), ?_⟩
  · subst e; simp only [CR.readLit, Option.map_eq_some_iff] at hcv; obtain ⟨b, hb, _⟩ := hcv; rw [hb]; rfl
  · subst e; exact (ite_some_eq hcv).2
  · rw [List.map_cons, List.map_nil, cvAt_ct rn h1 _ rfl, e]; rfl

theorem lookup_ruleOf (env : CR.Env) (c : CR.Ctx) (r : Rule) (hg : r.gen = false) (hc : ruleCommon r = true)
    (bs : List (CR.CT × CR.CV)) (h : CR.readRule env c (ruleOf r) = some bs) (k : CR.CT) :
    bs.lookup k = if ctName k == some r.name then some (cvAt k r) else none := by
  obtain ⟨⟨_, _, ⟨rn, hrn, _⟩, _⟩, rfl⟩ := readRule_ruleOf env c r hg hc bs h
  rw [lookup_map_self, hrn, nkTop_ctName]

/-- reading the translated rule set = `mapOf` (both: the first rule whose name creates constraint `k`) -/
theorem readSet_mapOf (env : CR.Env) (c : CR.Ctx) (rs : List Rule)
    (hr : ∀ r ∈ rs, r.gen = false ∧ ruleCommon r = true)
    (hall : ∀ r ∈ rs, (CR.readRule env c (ruleOf r)).isSome = true) (k : CR.CT) :
    CR.readSet (CR.readRule env c) (rs.map ruleOf) k = mapOf rs k := by
  induction rs with
  | nil => rfl
  | cons r rs ih =>
    obtain ⟨bs, hbs⟩ := Option.isSome_iff_exists.1 (hall r List.mem_cons_self)
    rw [List.map_cons, CR.readSet_cons, hbs, Option.bind_some,
      lookup_ruleOf env c r (hr r List.mem_cons_self).1 (hr r List.mem_cons_self).2 bs hbs k,
      ih (fun x hx => hr x (List.mem_cons_of_mem _ hx)) (fun x hx => hall x (List.mem_cons_of_mem _ hx))]
    unfold mapOf
    rw [List.find?_cons]
    cases ctName k == some r.name <;> rfl

/-- the loader's fold is the fold of "read the rule, bind it fresh", wherever `AddConstraint` is the plain insertion -/
theorem foldO_of_fold (env : CR.Env) (c : CR.Ctx) (l : List CR.Rule) (m0 m' : CR.CMap)
    (hl : ∀ e ∈ l, c.cls ≠ .mixedValue ∨ (e.1 ≠ CR.n_type ∧ e.1 ≠ CR.n_or))
    (h : l.foldlM (CR.loadRule env c) m0 = .ok m') : CR.foldO (CR.readRule env c) m0 l = some m' := by
  rw [← CR.foldO_eq, ← CR.foldlM_inv (I := fun _ l => ∀ e ∈ l, c.cls ≠ .mixedValue ∨ (e.1 ≠ CR.n_type ∧ e.1 ≠ CR.n_or))
    (f := fun m r => CR.toOpt (CR.loadRule env c m r)) ?_ ?_ m0 l hl, ← CR.toOpt_foldlM _ _ (fun _ _ => rfl)]
  · exact CR.toOpt_eq_some.2 h
  · intro m r rest hI
    have := hI r List.mem_cons_self
    exact CR.toOpt_loadRule_step env c m r
      (fun ht => this.elim Or.inl fun a => absurd (CR.ofBytes_some ht) a.1)
      (fun ho => this.elim (fun a => Or.inr (Or.inl a)) fun a => absurd (CR.ofBytes_some ho) a.2)
  · exact fun _ _ _ _ hI _ e he => hI e (List.mem_cons_of_mem _ he)

/-- when (B)'s fold over the translated rules accepts, from a map that is the `mapOf` of earlier rules, the result is the
`mapOf` of all rules, the names are pairwise different and every value is valid (`CR.foldO_some` read in (A)'s data) -/
theorem foldB (env : CR.Env) (c : CR.Ctx) (rs pre : List Rule) (m0 m' : CR.CMap) (hI : SInv pre m0)
    (hn : (pre.map (·.name)).Nodup)
    (hr : ∀ r ∈ rs, r.gen = false ∧ ruleCommon r = true ∧ (c.cls ≠ .mixedValue ∨ (r.name ≠ CR.n_type ∧ r.name ≠ CR.n_or)))
    (h : (rs.map ruleOf).foldlM (CR.loadRule env c) m0 = .ok m') :
    SInv (pre ++ rs) m' ∧ ((pre ++ rs).map (·.name)).Nodup ∧ ∀ r ∈ rs, okVal r := by
  have h' := foldO_of_fold env c _ m0 m' (by
    intro e he
    obtain ⟨r, hx, rfl⟩ := List.mem_map.1 he
    exact (hr r hx).2.2) h
  rw [CR.foldO_some (CR.keyFn_top env c)] at h'
  obtain ⟨hall, hnd, hfresh, hm⟩ := h'
  have hr' : ∀ r ∈ rs, r.gen = false ∧ ruleCommon r = true := fun r hx => ⟨(hr r hx).1, (hr r hx).2.1⟩
  have hall' : ∀ r ∈ rs, (CR.readRule env c (ruleOf r)).isSome = true :=
    fun r hx => hall _ (List.mem_map_of_mem hx)
  have hrd : ∀ r ∈ rs, okVal r ∧ ∃ k ∈ CR.nkTop r.name, (ctName k == some r.name) = true := by
    intro r hx
    obtain ⟨bs, hbs⟩ := Option.isSome_iff_exists.1 (hall' r hx)
    obtain ⟨ok, e⟩ := readRule_ruleOf env c r (hr' r hx).1 (hr' r hx).2 bs hbs
    refine ⟨ok, ?_⟩
    obtain ⟨rn, hrn, _⟩ := ok.2.2.1
    cases hnk : CR.nkTop r.name with
    | nil => rw [hnk] at e; exact absurd e ((CR.keyFn_top env c).nonempty _ _ hbs)
    | cons k0 _ =>
      refine ⟨k0, List.mem_cons_self, ?_⟩
      rw [hrn, ← nkTop_ctName, List.contains_iff_mem, ← hrn, hnk]
      exact List.mem_cons_self
  -- an earlier rule of the name of a rule of `rs` would have left a constraint of that name in `m0`
  have key : ∀ r ∈ rs, ∀ x ∈ pre, x.name ≠ r.name := by
    intro r hx x hxp exr
    obtain ⟨k0, hk0, h1⟩ := (hrd r hx).2
    have h0 := hfresh _ (List.mem_map_of_mem hx) k0 hk0
    have : (mapOf pre k0).isSome = true := by
      unfold mapOf
      rw [Option.isSome_map, List.find?_isSome]
      exact ⟨x, hxp, by rw [exr]; exact h1⟩
    rw [← hI k0] at this
    rw [CR.CMap.has, this] at h0
    cases h0
  refine ⟨fun k => ?_, ?_, fun r hx => (hrd r hx).1⟩
  · rw [hm, CR.overlay, readSet_mapOf env c rs hr' hall' k, hI k]
    unfold mapOf
    rw [List.find?_append]
    cases hp : pre.find? (fun r => ctName k == some r.name) with
    | none => cases (rs.find? fun r => ctName k == some r.name) <;> rfl
    | some x =>
      have hx0 := List.find?_some hp
      have hx : ctName k = some x.name := eq_of_beq hx0
      have hnone : rs.find? (fun r => ctName k == some r.name) = none :=
        List.find?_eq_none.2 fun r hxr hpr =>
          key r hxr x (List.mem_of_find?_eq_some hp) (Option.some.inj (hx.symm.trans (eq_of_beq hpr)))
      rw [hnone]
      rfl
  · rw [List.map_append, List.nodup_append]
    refine ⟨hn, (show CR.namesOf (rs.map ruleOf) = rs.map (·.name) from List.map_map) ▸ hnd, ?_⟩
    intro a ha b hb e
    obtain ⟨x, hx, rfl⟩ := List.mem_map.1 ha
    obtain ⟨r, hxr, rfl⟩ := List.mem_map.1 hb
    exact key r hxr x hx e

end BridgeCR
