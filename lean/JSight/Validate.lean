import JSight.ValidateCommon
/-!
C01: the validator on the rule-free fragment as a stack machine over lexical events (`feed`, `run`), and
`C01_validate_iff_shape`: it accepts exactly the documents that have the example's shape (`shape`).  The machine is
`ValidateP`'s at fixed types (`L := Kind × Bool`, `D := Kind`, `litOK := kindOK`), declared with types of its own; the
proofs are `ValidateP`'s with those erased.
-/
namespace V

inductive Kind | str | int | flt | bool | null
  deriving DecidableEq, Repr

/-- JSON documents; objects are member *lists* (duplicates and any order are inputs). -/
inductive J
  | lit (k : Kind)
  | arr (xs : List J)
  | obj (ms : List (String × J))

/-- Schemas of the fragment (after `compile`: each property carries `required`). -/
inductive S
  | lit (k : Kind) (nullable : Bool)
  | any
  | arr (items : List S)
  | obj (props : List (String × Bool × S))

inductive Ev
  | litB | litE (k : Kind) | objB | objE | keyB | keyE (k : String) | valB | valE | arrB | arrE | itemB | itemE
  deriving DecidableEq, Repr

def Ev.isOpening : Ev → Bool
  | .litB | .objB | .keyB | .valB | .arrB | .itemB => true
  | _ => false

mutual
def evs : J → List Ev
  | .lit k => [.litB, .litE k]
  | .arr xs => .arrB :: (evsItems xs ++ [.arrE])
  | .obj ms => .objB :: (evsMembers ms ++ [.objE])
def evsItems : List J → List Ev
  | [] => []
  | x :: xs => .itemB :: (evs x ++ .itemE :: evsItems xs)
def evsMembers : List (String × J) → List Ev
  | [] => []
  | (k, v) :: ms => .keyB :: .keyE k :: .valB :: (evs v ++ .valE :: evsMembers ms)
end

/-! ### the machine (single chain of validators = stack of frames) -/

inductive Frame
  | lit (k : Kind) (nullable : Bool)
  | any (depth : Nat)
  | arr (items : List S) (count : Nat)
  | obj (props : List (String × Bool × S)) (req : List String) (last : Option String)

def requiredKeys (props : List (String × Bool × S)) : List String :=
  (props.filter (fun p => p.2.1)).map (·.1)

def newV : S → Frame
  | .lit k n => .lit k n
  | .any => .any 0
  | .arr items => .arr items 0
  | .obj props => .obj props (requiredKeys props) none

/-- kind compatibility matrix of `checkNotAnEnum` -/
def kindOK (doc schema : Kind) (nullable : Bool) : Bool :=
  doc == schema || (doc == .int && schema == .flt) || (doc == .null && nullable)

/-- `ArrayNode.Child`: clamp to the last example element; none when the example array is empty. -/
def childAt (items : List S) (i : Nat) : Option S :=
  match items with
  | [] => none
  | _ => items[min i (items.length - 1)]?

def lookup (props : List (String × Bool × S)) (k : String) : Option S :=
  (props.find? (fun p => p.1 == k)).map (·.2.2)

/-- Feed one event to the leaf (head of the stack). `none` = validation error. -/
def feed : List Frame → Ev → Option (List Frame)
  | [], _ => none
  | .lit k n :: K, e =>
    match e with
    | .litB => some (.lit k n :: K)
    | .litE d => if kindOK d k n then some K else none
    | _ => none
  | .any d :: K, e =>
    let d' := if e.isOpening then d + 1 else d - 1
    if d' == 0 then some K else some (.any d' :: K)
  | .arr items c :: K, e =>
    match e with
    | .arrB | .itemE => some (.arr items c :: K)
    | .itemB => match childAt items c with
      | some s => some (newV s :: .arr items (c + 1) :: K)
      | none => none
    | .arrE => some K
    | _ => none
  | .obj props req last :: K, e =>
    match e with
    | .objB | .keyB | .valE => some (.obj props req last :: K)
    | .keyE k => some (.obj props (req.filter (· != k)) (some k) :: K)
    | .valB => match last with
      | some k => match lookup props k with
        | some s => some (newV s :: .obj props req last :: K)
        | none => none
      | none => none
    | .objE => if req.isEmpty then some K else none
    | _ => none

def run : List Frame → List Ev → Option (List Frame)
  | K, [] => some K
  | K, e :: es => match feed K e with
    | some K' => run K' es
    | none => none

def validate (s : S) (d : J) : Bool :=
  match run [newV s] (evs d) with
  | some [] => true
  | _ => false

mutual
def shape : S → J → Bool
  | .any, _ => true
  | .lit k n, .lit d => kindOK d k n
  | .lit _ _, _ => false
  | .arr items, .arr xs => shapeItems items 0 xs
  | .arr _, _ => false
  | .obj props, .obj ms => shapeMembers props ms && (requiredKeys props).all (fun k => ms.any (fun m => m.1 == k))
  | .obj _, _ => false
def shapeItems : List S → Nat → List J → Bool
  | _, _, [] => true
  | items, i, x :: xs => (match childAt items i with
      | some s => shape s x
      | none => false) && shapeItems items (i + 1) xs
def shapeMembers : List (String × Bool × S) → List (String × J) → Bool
  | _, [] => true
  | props, (k, v) :: ms => (match lookup props k with
      | some s => shape s v
      | none => false) && shapeMembers props ms
end

theorem childAt_eq (items : List S) (i : Nat) : childAt items i = Tbl.clampAt items i := by cases items <;> rfl

theorem run_append (K : List Frame) (es fs : List Ev) :
    run K (es ++ fs) = match run K es with | some K' => run K' fs | none => none := by
  induction es generalizing K with
  | nil => simp [run]
  | cons e es ih =>
    simp only [List.cons_append, run]
    cases feed K e with
    | none => simp
    | some K' => simpa using ih K'

theorem run_some {K K' : List Frame} {e : Ev} (h : feed K e = some K') (es : List Ev) : run K (e :: es) = run K' es := by
  rw [run, h]

theorem feed_any (n : Nat) (K : List Frame) (e : Ev) :
    feed (.any n :: K) e
      = if (if e.isOpening then n + 1 else n - 1) == 0 then some K else some (.any (if e.isOpening then n + 1 else n - 1) :: K) :=
  rfl

theorem any_open (K : List Frame) (n : Nat) (e : Ev) (es : List Ev) (h : e.isOpening = true) :
    run (.any n :: K) (e :: es) = run (.any (n+1) :: K) es :=
  run_some (by rw [feed_any, h]; rfl) es

theorem any_close (K : List Frame) (n : Nat) (e : Ev) (es : List Ev) (h : e.isOpening = false) :
    run (.any (n+2) :: K) (e :: es) = run (.any (n+1) :: K) es :=
  run_some (by rw [feed_any, h]; rfl) es

theorem any_last (K : List Frame) (e : Ev) (es : List Ev) (h : e.isOpening = false) :
    run (.any 1 :: K) (e :: es) = run K es :=
  run_some (by rw [feed_any, h]; rfl) es

mutual
theorem any_keep (d : J) (n : Nat) (K : List Frame) (rest : List Ev) :
    run (.any (n+1) :: K) (evs d ++ rest) = run (.any (n+1) :: K) rest := by
  cases d with
  | lit k =>
    simp only [evs, List.cons_append, List.nil_append]
    rw [any_open K _ _ _ rfl, any_close K _ _ _ rfl]
  | arr xs =>
    simp only [evs, List.cons_append, List.append_assoc, List.nil_append]
    rw [any_open K _ _ _ rfl, any_keep_items xs (n+1) K, any_close K _ _ _ rfl]
  | obj ms =>
    simp only [evs, List.cons_append, List.append_assoc, List.nil_append]
    rw [any_open K _ _ _ rfl, any_keep_members ms (n+1) K, any_close K _ _ _ rfl]
theorem any_keep_items (xs : List J) (n : Nat) (K : List Frame) (rest : List Ev) :
    run (.any (n+1) :: K) (evsItems xs ++ rest) = run (.any (n+1) :: K) rest := by
  cases xs with
  | nil => simp only [evsItems, List.nil_append]
  | cons x xs =>
    simp only [evsItems, List.cons_append, List.append_assoc]
    rw [any_open K _ _ _ rfl, any_keep x (n+1) K, any_close K _ _ _ rfl, any_keep_items xs n K rest]
theorem any_keep_members (ms : List (String × J)) (n : Nat) (K : List Frame) (rest : List Ev) :
    run (.any (n+1) :: K) (evsMembers ms ++ rest) = run (.any (n+1) :: K) rest := by
  cases ms with
  | nil => simp only [evsMembers, List.nil_append]
  | cons m ms =>
    obtain ⟨k, v⟩ := m
    simp only [evsMembers, List.cons_append, List.append_assoc]
    rw [any_open K _ _ _ rfl, any_close K _ _ _ rfl, any_open K _ _ _ rfl, any_keep v (n+1) K, any_close K _ _ _ rfl,
      any_keep_members ms n K rest]
end

theorem any_top (d : J) (K : List Frame) (rest : List Ev) :
    run (.any 0 :: K) (evs d ++ rest) = run K rest := by
  cases d with
  | lit k =>
    simp only [evs, List.cons_append, List.nil_append]
    rw [any_open K _ _ _ rfl, any_last K _ _ rfl]
  | arr xs =>
    simp only [evs, List.cons_append, List.append_assoc, List.nil_append]
    rw [any_open K _ _ _ rfl, any_keep_items xs 0 K, any_last K _ _ rfl]
  | obj ms =>
    simp only [evs, List.cons_append, List.append_assoc, List.nil_append]
    rw [any_open K _ _ _ rfl, any_keep_members ms 0 K, any_last K _ _ rfl]

mutual
theorem run_value (s : S) (d : J) (K : List Frame) (rest : List Ev) :
    run (newV s :: K) (evs d ++ rest) = bif shape s d then run K rest else none := by
  cases s with
  | any => simp [newV, shape, any_top]
  | lit k n =>
    cases d with
    | lit dk => cases h : kindOK dk k n <;> simp [newV, evs, shape, run, feed, h]
    | arr xs => simp [newV, evs, shape, run, feed]
    | obj ms => simp [newV, evs, shape, run, feed]
  | arr items =>
    cases d with
    | lit dk => simp [newV, evs, shape, run, feed]
    | arr xs =>
      have := run_items items xs 0 K rest
      simp only [newV, evs, shape, run, feed, List.append_assoc, List.cons_append, List.nil_append] at this ⊢
      exact this
    | obj ms => simp [newV, evs, shape, run, feed]
  | obj props =>
    cases d with
    | lit dk => simp [newV, evs, shape, run, feed]
    | arr xs => simp [newV, evs, shape, run, feed]
    | obj ms =>
      have := run_members props ms (requiredKeys props) none K rest
      simp only [newV, evs, shape, run, feed, List.append_assoc, List.cons_append, List.nil_append] at this ⊢
      exact this
theorem run_items (items : List S) (xs : List J) (c : Nat) (K : List Frame) (rest : List Ev) :
    run (.arr items c :: K) (evsItems xs ++ .arrE :: rest)
      = bif shapeItems items c xs then run K rest else none := by
  cases xs with
  | nil => simp [evsItems, shapeItems, run, feed]
  | cons x xs =>
    cases hc : childAt items c with
    | none => simp [evsItems, shapeItems, hc, run, feed]
    | some s =>
      have h1 := run_value s x (.arr items (c+1) :: K) (.itemE :: (evsItems xs ++ .arrE :: rest))
      have h2 := run_items items xs (c+1) K rest
      simp only [evsItems, shapeItems, hc, List.cons_append, List.append_assoc, run, feed, h1]
      cases hs : shape s x
      · simp
      · simp [h2]
theorem run_members (props : List (String × Bool × S)) (ms : List (String × J)) (req : List String)
    (last : Option String) (K : List Frame) (rest : List Ev) :
    run (.obj props req last :: K) (evsMembers ms ++ .objE :: rest)
      = bif shapeMembers props ms && req.all (fun r => ms.any (fun m => m.1 == r)) then run K rest else none := by
  cases ms with
  | nil =>
    simp only [evsMembers, shapeMembers, List.nil_append, run, feed, all_none_isEmpty, Bool.true_and]
    cases req <;> simp
  | cons m ms =>
    obtain ⟨k, v⟩ := m
    cases hl : lookup props k with
    | none => simp [evsMembers, shapeMembers, hl, run, feed]
    | some s =>
      have h1 := run_value s v (.obj props (req.filter (· != k)) (some k) :: K) (.valE :: (evsMembers ms ++ .objE :: rest))
      have h2 := run_members props ms (req.filter (· != k)) (some k) K rest
      simp only [evsMembers, shapeMembers, hl, List.cons_append, List.append_assoc, run, feed, h1]
      cases hs : shape s v
      · simp
      · simp only [cond_true, h2, Bool.true_and]
        rw [req_step req k v ms]
end

/-- C01 (model level): the validator accepts exactly the documents shaped like the example. -/
theorem C01_validate_iff_shape (s : S) (d : J) : validate s d = shape s d := by
  have := run_value s d [] []
  simp only [List.append_nil, run] at this
  unfold validate
  rw [this]
  cases shape s d <;> rfl

end V

#print axioms V.C01_validate_iff_shape
