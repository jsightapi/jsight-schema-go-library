import JSight.SchemaGram
/-!
The grammar of scanned text, whole documents: leading layout, a value of any kind (a scalar, a container, a type shortcut),
trailing layout, possibly a last `#` comment that the end of input cuts off — the exact event stream up to the end of
input, for either value of `lengthComputing` (`Gram.emits_doc_at`; `Gram.emits_doc` in ordinary mode), for every tree type
at once. What the top level adds to `Val.run`: the run up to the last byte of the value (`root_path`), the first byte of a
layout behind it (`Val.close_root`), the end of input glued to it (`Val.end_glued`).
-/
namespace SchemaScan
namespace Gram
open Len

variable {lc : Bool} {data : Array Cls} {S : Bool}

/-- what may stand at the very end of a text: nothing, or a line comment that is not ended by a line break (its text does not
begin with `#`: `##` opens a block comment, which only `###` ends) -/
def Ending (fin : List Cls) : Prop :=
  fin = [] ∨ ∃ text, fin = .hash :: text ∧ (∀ c ∈ text, c ≠ Cls.nl) ∧ text.head? ≠ some Cls.hash

/-- the events of a top-level scalar or container that the byte behind it delivers (`LK.own`, `SchemaGram`) are
`rootClosers`: the `literal-end` of a scalar, nothing for a container -/
theorem Val.own_root {o : Nat} {t : List Cls} {ev : List Ev} {lit : Bool} {stE : St} (h : Val S o t ev (.ofLit lit) stE) :
    (LK.ofLit lit).own ev = rootClosers lit o (o + t.length - 1) := by
  cases lit <;> cases h <;> rfl

/-- in `endTop` with nothing open: a last comment up to the end of input delivers nothing -/
theorem Ending.run {fin : List Cls} (hf : Ending fin) (i : Nat) (CS : List Ctx) (cx : Ctx) (al : Bool)
    (hat : At data i fin) (hn : data.size = i + fin.length) :
    Emits data (cfgL lc .endTop [] [] false i CS cx al) [] := by
  rcases hf with rfl | ⟨text, rfl, h1, h2⟩
  · exact Emits.done rfl (by simp only [cfgL]; simp at hn; omega) rfl
  · exact (S_hash (st := .endTop) rfl [] i CS cx al hat.1).emits
      (cmt_eof text h1 h2 [.endTop] (i + 1) CS cx al hat.2 (by simp only [List.length_cons] at hn; omega))

/-- the context stack and the context record behind the top-level value: a shortcut at the root has pushed the initial
record and works in a record of its own (inside a container it takes the container's) -/
def LK.rootCS : LK → List Ctx | .short => [{ ty := .initial }] | _ => []
/-- the context record that goes with `LK.rootCS` -/
def LK.rootCx : LK → Ctx | .short => sctx | _ => { ty := .initial }

theorem LK.root_of_ne {lk : LK} (h : lk ≠ .short) : lk.rootCS = [] ∧ lk.rootCx = { ty := .initial } := by
  cases lk <;> first | exact ⟨rfl, rfl⟩ | exact absurd rfl h

theorem LK.eq_ofLit {lk : LK} (h : lk ≠ .short) : ∃ lit, lk = .ofLit lit := by
  cases lk
  · exact ⟨true, rfl⟩
  · exact ⟨false, rfl⟩
  · exact absurd rfl h

/-- the run up to the last byte of the top-level value -/
theorem root_path {w0 t : List Cls} {e0 ev : List Ev} {lk : LK} {stE : St} (h0 : Layout 0 w0 e0)
    (hv : Val S w0.length t ev lk stE) (hat : At data 0 (w0 ++ t)) :
    ∃ al, Path data { lengthComputing := lc } (e0 ++ lk.opn w0.length ev)
      (cfgL lc stE [] (lk.pend w0.length) false (w0.length + t.length) lk.rootCS lk.rootCx al) := by
  rw [At_append, Nat.zero_add] at hat
  -- `true`: `allowAnnotation` of the initial scanner
  obtain ⟨st', al1, a, -, p1⟩ := Layout.run (lc := lc) (st := .foundRoot) rfl [] [] { ty := .initial } h0 true hat.1
  rw [a (by simp), Nat.zero_add] at p1
  by_cases hk : lk = .short
  · subst hk
    cases hv with
    | @short _ sc sps _ hsc hsp =>
      have hat' := hat.2
      simp only [Shortcut.render, List.cons_append] at hat'
      obtain ⟨hc, hat'⟩ := hat'
      rw [At_append] at hat'
      have h1 := S_root_at (lc := lc) w0.length [] { ty := .initial } al1 hc
      have h2 := ts_run (lc := lc) _ _ _ _ _ (shortcut_tsRun sc hsc) (K2 w0.length) (w0.length + 1) [{ ty := .initial }] sctx
        al1 hat'.1
      have h3 := ts_run (lc := lc) sps .tsName false _ false (sp_tsRun .tsName (Or.inl rfl) sps hsp false) (K2 w0.length) _
        [{ ty := .initial }] sctx al1 hat'.2
      rw [tsSt_of_isEmpty] at h3
      refine ⟨al1, (Path.trans p1 (Path.trans (Path.trans h1 h2) h3)).cast (by simp [LK.opn]) (cfg_congr rfl ?_)⟩
      simp only [Shortcut.render, List.length_cons, List.length_append]; omega
  · obtain ⟨al2, p2⟩ := hv.run (lc := lc) .root (absurd · hk) [] hat.2 [] { ty := .initial } al1
    rw [(LK.root_of_ne hk).1, (LK.root_of_ne hk).2]
    exact ⟨al2, Path.trans p1 (by simpa [VCtx.preEvs, VCtx.pre, VCtx.st, VCtx.cx'] using p2)⟩

/-- a non-empty layout behind the top-level value: its first byte closes the value (behind a shortcut it is a line break) -/
theorem Val.close_root {o : Nat} {t : List Cls} {ev : List Ev} {lk : LK} {stE : St} (h : Val S o t ev lk stE)
    (hatv : At data o t) (al : Bool) {c : Cls} {w : List Cls} {e : List Ev} (hl : Layout (o + t.length) (c :: w) e)
    (hf : lk = .short → NlFirst (c :: w)) (hat : At data (o + t.length) (c :: w)) :
    ∃ al', Path data (cfgL lc stE [] (lk.pend o) false (o + t.length) lk.rootCS lk.rootCx al) (lk.own ev ++ e)
      (cfgL lc .endTop [] [] false (o + t.length + (w.length + 1)) [] { ty := .initial } al') := by
  have hnl : lk = .short → data[o + t.length]? = some .nl := fun hk => by
    rcases hf hk with h | ⟨r, h⟩ <;> cases h
    exact hat.1
  cases h with
  | scalar _ _ hp =>
    obtain ⟨al', p⟩ := Layout.close_root (lc := lc) hp true o [] { ty := .initial } al hl hat
    exact ⟨al', p.cast (by simp [LK.own, rootClosers]) rfl⟩
  | cont _ _ =>
    obtain ⟨al', p⟩ := Layout.close_root (lc := lc) (st := .endValue) rfl false o [] { ty := .initial } al hl hat
    exact ⟨al', p.cast (by simp [LK.own, rootClosers]) rfl⟩
  | short _ _ _ =>
    have hnl := hnl rfl
    refine Layout.from (st := .endTop) rfl (by simp) [] [] { ty := .initial } al hl hat
      (fun _ hs hc => by rw [hnl] at hc; cases hc; cases hs)
      (fun hc => (S_ts_nl _ o _ { ty := .initial } al hc).cast ?_ rfl)
      (fun hc => by rw [hnl] at hc; cases hc)
    rw [mixEnd_at _ o hatv (short_ne _ _)]
    rfl

/-- the end of input (or a last comment that it cuts off) glued to the top-level value -/
theorem Val.end_glued {o : Nat} {t : List Cls} {ev : List Ev} {lk : LK} {stE : St} (h : Val S o t ev lk stE)
    (hatv : At data o t) (al : Bool) {fin : List Cls} (hf : Ending fin) (hfs : lk = .short → fin = [])
    (hat : At data (o + t.length) fin) (hsz : data.size = o + t.length + fin.length) :
    Emits data (cfgL lc stE [] (lk.pend o) false (o + t.length) lk.rootCS lk.rootCx al) (lk.own ev) := by
  by_cases hk : lk = .short
  · subst hk
    cases hfs rfl
    cases h with
    | @short _ sc sps _ _ _ =>
      have := emits_eof_ts (lc := lc) (data := data) sps.isEmpty o (o + (sc.render ++ sps).length) { ty := .initial } al
        (by simpa using hsz)
      rw [mixEnd_at _ o hatv (short_ne _ _)] at this
      exact this
  · have hp := h.pv hk
    obtain ⟨lit, rfl⟩ := LK.eq_ofLit hk
    rw [h.own_root, (LK.root_of_ne hk).1, (LK.root_of_ne hk).2, LK.ofLit_pend]
    rcases hf with rfl | ⟨text, rfl, g1, g2⟩
    · exact Emits.eofRoot (s := cfgL lc stE [] (pendOf lit o) false _ [] { ty := .initial } al) rfl
        (by simp only [cfgL]; simp at hsz; omega) lit _ rfl rfl
    · have := (S_root_hash (lc := lc) hp lit o _ [] { ty := .initial } al hat.1).emits
        (cmt_eof text g1 g2 [.endTop] _ [] { ty := .initial } al hat.2 (by simp only [List.length_cons] at hsz; omega))
      rwa [List.append_nil] at this

/-- the event stream of a document that fills the input `data`.  Behind a shortcut the trailing layout is empty or starts
with a line break (`hfo`), and a cut-off comment needs that layout (`hfs`). -/
theorem emits_doc_at {w0 t w1 fin : List Cls} {e0 ev e1 : List Ev} {lk : LK} {stE : St} (h0 : Layout 0 w0 e0)
    (hv : Val S w0.length t ev lk stE) (h1 : Layout (w0.length + t.length) w1 e1) (hfo : lk = .short → NlFirst w1)
    (hf : Ending fin) (hfs : lk = .short → w1 = [] → fin = [])
    (hat : At data 0 (w0 ++ (t ++ (w1 ++ fin)))) (hsz : data.size = w0.length + t.length + w1.length + fin.length) :
    Emits data { lengthComputing := lc } (e0 ++ (ev ++ e1)) := by
  rw [← List.append_assoc, At_append] at hat
  obtain ⟨hat0, hat'⟩ := hat
  have hatv : At data w0.length t := by rw [At_append, Nat.zero_add] at hat0; exact hat0.2
  rw [At_append] at hat'
  simp only [Nat.zero_add, List.length_append] at hat'
  obtain ⟨hat1, hatf⟩ := hat'
  obtain ⟨al, P⟩ := root_path (lc := lc) h0 hv hat0
  -- what follows the value delivers the events of the value that are still to come; `E` is the rest of the run
  have E : Emits data (cfgL lc stE [] (lk.pend w0.length) false (w0.length + t.length) lk.rootCS lk.rootCx al)
      (lk.own ev ++ e1) := by
    cases w1 with
    | nil =>
      rw [h1.nil_evs, List.append_nil]
      exact hv.end_glued hatv al hf (hfs · rfl) (by simpa using hatf) (by simpa using hsz)
    | cons c w =>
      obtain ⟨al3, p3⟩ := hv.close_root (lc := lc) hatv al h1 hfo hat1
      have := p3.emits (hf.run _ [] _ al3 hatf (by simp only [List.length_cons] at hsz ⊢; omega))
      rwa [List.append_nil] at this
  have := P.emits E
  rwa [List.append_assoc, hv.opn_own] at this

/-- the event stream of a document in ordinary mode -/
theorem emits_doc {w0 t w1 fin : List Cls} {e0 ev e1 : List Ev} {lk : LK} {stE : St} (h0 : Layout 0 w0 e0)
    (hv : Val S w0.length t ev lk stE) (h1 : Layout (w0.length + t.length) w1 e1) (hfo : lk = .short → NlFirst w1)
    (hf : Ending fin) (hfs : lk = .short → w1 = [] → fin = []) :
    Emits (w0 ++ (t ++ (w1 ++ fin))).toArray {} (e0 ++ (ev ++ e1)) :=
  emits_doc_at (lc := false) h0 hv h1 hfo hf hfs (At_toArray _ [] _ rfl)
    (by simp only [List.size_toArray, List.length_append]; omega)

end Gram
end SchemaScan
