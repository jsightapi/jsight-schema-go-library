import JSight.KeysDefs
import JSight.AnnTreeEffect
import JSight.SchemaLenAnnScalar
/-!
C13 / C16 / C15, whole annotated trees: segments. `Seg c ts c' a a'`: from the token-level scanner state `c` the tokens
`ts` (followed by at least one more token) lead to `c'`, and the loader, fed with the events delivered meanwhile, goes
from the abstract state `a` to `a'` — whatever text holds the bytes of `ts` at offset `c.i`. Segments compose; here are
the layout and the annotation token as segments, the structural tokens are in `ATreeTok`. `Lvl` is a segment between the
brackets of one container, with what stays true there.

The loader side is written once, in `AT.G`, for a `View` of the keys in the loader's node table: the table with decoded
keys (`viewX`: `Loader.LS`) and the table with the key tokens as written (`viewK`: `Loader.K.LS`) are its two instances.
`AT.Seg` (here) and `AT.K.Seg` (`KeysThm`) are the segments written over `Loader.LS` and `Loader.K.LS` themselves; a
segment of the view is one of them (`Seg.of_view`), and `AT.value_all` / `AT.K.value_all` read the induction in that form.
-/
namespace AT
open SchemaScan (Cls classify Ev LexT St Ctx CK VCtx PV wsLoop cmtLoop nlSt nlAl keySt keyAl closersOf)
open SchemaScan.Len (ATok Tok TC arun astep aslot slotStep closePV noML isObjKey nlStep mlSlot pendOfK annLoop cxA)
open Loader (XNode xfresh LS Fold)

/-! ### scanner side -/

def pre (e : List Ev) (r : TC × List Ev) : TC × List Ev := (r.1, e ++ r.2)

/-- `ts` leads from `c` to `c'` delivering `evs`, whatever follows -/
def ScansA (c : TC) (ts : List ATok) (evs : List Ev) (c' : TC) : Prop :=
  ∀ rest, arun c (ts ++ rest) = (arun c' rest).map (pre evs)

/-- the same when at least one token follows (the closing lexemes of a value are delivered with the next token) -/
def Scans (c : TC) (ts : List ATok) (evs : List Ev) (c' : TC) : Prop :=
  ∀ rest, rest ≠ [] → arun c (ts ++ rest) = (arun c' rest).map (pre evs)

theorem ScansA.weak {c c' : TC} {ts : List ATok} {evs : List Ev} (h : ScansA c ts evs c') : Scans c ts evs c' :=
  fun rest _ => h rest

theorem map_pre_pre (e1 e2 : List Ev) (o : Option (TC × List Ev)) :
    (o.map (pre e2)).map (pre e1) = o.map (pre (e1 ++ e2)) := by
  cases o <;> simp [pre]

theorem Scans.trans {c c1 c2 : TC} {t1 t2 : List ATok} {e1 e2 : List Ev} (h1 : Scans c t1 e1 c1)
    (h2 : Scans c1 t2 e2 c2) : Scans c (t1 ++ t2) (e1 ++ e2) c2 := by
  intro rest hr
  rw [List.append_assoc, h1 (t2 ++ rest) (by simp [hr]), h2 rest hr, map_pre_pre]

theorem ScansA.trans {c c1 c2 : TC} {t1 t2 : List ATok} {e1 e2 : List Ev} (h1 : ScansA c t1 e1 c1)
    (h2 : ScansA c1 t2 e2 c2) : ScansA c (t1 ++ t2) (e1 ++ e2) c2 := by
  intro rest
  rw [List.append_assoc, h1 (t2 ++ rest), h2 rest, map_pre_pre]

theorem ScansA.one {c c1 : TC} {t : ATok} {e : List Ev} (h : astep c t = some (c1, e)) : ScansA c [t] e c1 := by
  intro rest
  simp only [List.cons_append, List.nil_append, arun, h]
  rfl

theorem ScansA.nil (c : TC) : ScansA c [] [] c := by
  intro rest
  simp only [List.nil_append]
  cases arun c rest <;> simp [pre]

/-- behind a value: the closing lexemes, delivered with whatever token follows -/
theorem Scans.close {c c1 : TC} {e1 : List Ev} (hpv : PV c.st = true) (hg : c.g = false)
    (hc : closePV c = some (c1, e1)) (h1 : PV c1.st = false) : Scans c [] e1 c1 := by
  intro rest hr
  cases rest with
  | nil => exact absurd rfl hr
  | cons t ts =>
    have ha : astep c t = (aslot c1 t).map (fun r => (r.1, e1 ++ r.2)) := by
      unfold astep
      rw [if_pos hpv, hg]
      simp only [Bool.false_eq_true, if_false, hc]
    have hb : astep c1 t = aslot c1 t := by
      unfold astep
      rw [if_neg (by simp [h1])]
    simp only [List.nil_append, arun, ha, hb]
    cases aslot c1 t with
    | none => rfl
    | some r =>
      obtain ⟨c2, e2⟩ := r
      simp only [Option.map_some]
      cases arun c2 ts with
      | none => rfl
      | some r2 => simp [pre]

/-! ### loader side and segments, for the table with decoded keys

`LSx`, `Loads`, `Seg` here are about `Loader.LS` itself (`Seg.close`: the closing lexemes of a value as such a segment);
`AT.G` below has the same three notions for every view of the keys, the induction is done there, and `Seg.of_view`
(`ATreeThm`) leads from a segment of `AT.G.viewX` to one of these. -/

/-- the part of the loader state the node loader reads, on the abstraction -/
structure AS where
  AL : List XNode
  leaf : Option Nat
  last : Option Nat
  pl : Nat
  root : Option Nat

def LSx (src : Array UInt8) (st : Loader.St) (a : AS) : Prop := LS src st a.AL a.leaf a.last a.pl a.root

def Loads (i : Nat) (bs : Bytes) (evs : List Ev) (a a' : AS) : Prop :=
  ∀ (src : Array UInt8) (st : Loader.St), Lay.AtB src i bs → LSx src st a →
    ∃ st', Fold src evs st st' ∧ LSx src st' a'

structure Seg (c : TC) (ts : List BTok) (c' : TC) (a a' : AS) : Prop where
  ex : ∃ evs, Scans c (ts.map BTok.cls) evs c' ∧ Loads c.i (bytesOf ts) evs a a'
  idx : c'.i = c.i + (bytesOf ts).length

theorem bytesOf_append (t1 t2 : List BTok) : bytesOf (t1 ++ t2) = bytesOf t1 ++ bytesOf t2 := by
  induction t1 with
  | nil => rfl
  | cons t ts ih => simp [bytesOf, ih]

/-- the closing lexemes of a value -/
theorem Seg.close {c c1 : TC} {e1 : List Ev} {a a1 : AS} (hpv : PV c.st = true) (hg : c.g = false)
    (hc : closePV c = some (c1, e1)) (h1 : PV c1.st = false) (hl : Loads c.i [] e1 a a1) : Seg c [] c1 a a1 :=
  ⟨⟨e1, Scans.close hpv hg hc h1, hl⟩, by
    have := SchemaScan.Len.closePV_index hc
    simp [bytesOf, this]⟩

/-! ### layout -/

/-- the token-level scanner state behind one layout token -/
def LTok.fx (c : TC) : LTok → TC
  | .sp _ => { c with i := c.i + 1 }
  | .nl _ => { c with st := nlSt c.st, g := c.g && !isObjKey c.st, al := nlAl c.st c.al, i := c.i + 1 }
  | .cmt t _ =>
    { c with st := nlSt c.st, g := c.g && !isObjKey c.st, al := nlAl c.st c.al, i := c.i + 1 + t.length + 1 }

/-- … behind a whole layout -/
def gapTC (c : TC) : Gap → TC
  | [] => c
  | l :: g => gapTC (l.fx c) g

theorem step_sp (st : St) (h : wsLoop st = true) (g : Bool) (K : List (LexT × Nat)) (i : Nat) (CS : List Ctx) (cx : Ctx)
    (al : Bool) (x : Cls) :
    astep ⟨st, g, K, i, CS, cx, al⟩ (.base (.sp x)) = some (⟨st, g, K, i + 1, CS, cx, al⟩, []) := by
  cases st <;> simp [wsLoop] at h <;> rfl

theorem step_nl (st : St) (h : wsLoop st = true) (g : Bool) (K : List (LexT × Nat)) (i : Nat) (CS : List Ctx) (cx : Ctx)
    (al : Bool) :
    astep ⟨st, g, K, i, CS, cx, al⟩ (.base .nl)
      = some (⟨nlSt st, g && !isObjKey st, K, i + 1, CS, cx, nlAl st al⟩, [⟨.newLine, i, i⟩]) := by
  cases st <;> simp [wsLoop] at h <;> rfl

theorem step_cmt (st : St) (h : cmtLoop st = true) (g : Bool) (K : List (LexT × Nat)) (i : Nat) (CS : List Ctx)
    (cx : Ctx) (al : Bool) (t : List Cls) :
    astep ⟨st, g, K, i, CS, cx, al⟩ (.base (.cmt t))
      = some (⟨nlSt st, g && !isObjKey st, K, i + 1 + t.length + 1, CS, cx, nlAl st al⟩,
          [⟨.newLine, i + t.length, i + t.length⟩, ⟨.newLine, i + 1 + t.length, i + 1 + t.length⟩]) := by
  cases st <;> simp [cmtLoop] at h <;> rfl

theorem gapPl_cons (pl : Nat) (l : LTok) (g : Gap) : gapPl pl (l :: g) = gapPl (gapPl pl [l]) g := by
  simp only [gapPl, Gap.hasNl, List.any_cons, List.any_nil, Bool.or_false]
  cases l.isNl <;> cases g.any LTok.isNl <;> rfl

theorem cmtLoop_fx {c : TC} {l : LTok} (h : cmtLoop c.st = true) : cmtLoop (LTok.fx c l).st = true := by
  cases l <;> simp only [LTok.fx] <;> first | exact h | exact SchemaScan.cmtLoop_nlSt h

theorem wsLoop_fx {c : TC} {l : LTok} (h : wsLoop c.st = true) : wsLoop (LTok.fx c l).st = true := by
  cases l <;> simp only [LTok.fx] <;> first | exact h | exact SchemaScan.wsLoop_nlSt h

theorem hasCmt_cons (l : LTok) (g : Gap) : Gap.hasCmt (l :: g) = (l.isCmt || Gap.hasCmt g) := rfl
theorem hasNl_cons (l : LTok) (g : Gap) : Gap.hasNl (l :: g) = (l.isNl || Gap.hasNl g) := rfl

/-- what a layout leaves of the scanner state -/
structure GapFacts (c : TC) (g : Gap) (c' : TC) : Prop where
  K : c'.K = c.K
  CS : c'.CS = c.CS
  cx : c'.cx = c.cx
  st : c'.st = (bif Gap.hasNl g then nlSt c.st else c.st)
  /-- the guard behind an inline annotation with a note (`TC.g`) stays off -/
  gf : c.g = false → c'.g = false
  al : c.al = true → c'.al = true
  /-- behind a separator a line break switches `allowAnnotation` on (what `Lvl.gap` needs for `gapAk`) -/
  alSep : (c.st = .objKey ∨ c.st = .arrItem) → Gap.hasNl g = true → c'.al = true

theorem nlSt_nlSt (st : St) : nlSt (nlSt st) = nlSt st := by cases st <;> rfl

theorem nlAl_true (st : St) : nlAl st true = true := by cases st <;> rfl

theorem gap_facts : ∀ (g : Gap) (c : TC), GapFacts c g (gapTC c g)
  | [], c => ⟨rfl, rfl, rfl, rfl, id, id, fun _ h => by simp [Gap.hasNl] at h⟩
  | l :: g, c => by
    have ih := gap_facts g (LTok.fx c l)
    cases l with
    | sp b =>
      refine ⟨ih.K, ih.CS, ih.cx, ?_, ih.gf, ih.al, fun h1 h2 => ih.alSep h1 (by simpa [hasNl_cons, LTok.isNl] using h2)⟩
      have := ih.st
      simpa [hasNl_cons, LTok.isNl, LTok.fx, gapTC] using this
    | nl b =>
      refine ⟨ih.K, ih.CS, ih.cx, ?_, fun h => ih.gf (by simp [LTok.fx, h]), fun h => ih.al (by simp [LTok.fx, h, nlAl_true]),
        fun h1 _ => ih.al (by rcases h1 with h | h <;> simp [LTok.fx, h, nlAl])⟩
      have := ih.st
      simp only [LTok.fx] at this
      simp only [gapTC, LTok.fx, this, hasNl_cons, LTok.isNl, Bool.true_or, cond_true]
      cases Gap.hasNl g <;> simp [nlSt_nlSt]
    | cmt t n =>
      refine ⟨ih.K, ih.CS, ih.cx, ?_, fun h => ih.gf (by simp [LTok.fx, h]), fun h => ih.al (by simp [LTok.fx, h, nlAl_true]),
        fun h1 _ => ih.al (by rcases h1 with h | h <;> simp [LTok.fx, h, nlAl])⟩
      have := ih.st
      simp only [LTok.fx] at this
      simp only [gapTC, LTok.fx, this, hasNl_cons, LTok.isNl, Bool.true_or, cond_true]
      cases Gap.hasNl g <;> simp [nlSt_nlSt]

theorem gapTC_st (g : Gap) (c : TC) (h : nlSt c.st = c.st) : (gapTC c g).st = c.st := by
  rw [(gap_facts g c).st]; cases Gap.hasNl g <;> simp [h]

/-! ### annotations -/

theorem annBody_cls (s2 : Bytes) (ob : Lay.BObj) (s3 : Bytes) (nt : Option (Bytes × Bytes)) :
    (Lay.annBody s2 ob s3 nt).map classify = (Lay.mlOf s2 ob s3 nt).render := by
  -- `decide` is left with the classes of the literal bytes `{`, `}`, `-`
  cases nt with
  | none => simp [Lay.annBody, Lay.mlOf, SchemaScan.Len.MlBody.render, Lay.BObj.body_cls, Lay.clsNt, SchemaScan.Len.noteTail]; decide
  | some q =>
    obtain ⟨s4, txt⟩ := q
    simp [Lay.annBody, Lay.mlOf, SchemaScan.Len.MlBody.render, Lay.BObj.body_cls, Lay.clsNt, SchemaScan.Len.noteTail]; decide

theorem ml_inl_render (s2 : Bytes) (ob : Lay.BObj) (s3 : Bytes) (nt : Option (Bytes × Bytes)) :
    (Lay.inlOf s2 ob s3 nt).render = (Lay.mlOf s2 ob s3 nt).render := rfl

theorem annBody_len (s2 : Bytes) (ob : Lay.BObj) (s3 : Bytes) (nt : Option (Bytes × Bytes)) :
    (Lay.mlOf s2 ob s3 nt).render.length = (Lay.annBody s2 ob s3 nt).length := by
  rw [← annBody_cls, List.length_map]

theorem step_ml (st : St) (h : annLoop st = true) (K : List (LexT × Nat)) (i : Nat) (CS : List Ctx) (cx : Ctx)
    (b : SchemaScan.Len.MlBody) :
    astep ⟨st, false, K, i, CS, cx, true⟩ (.ml b)
      = some (⟨st, false, K, i + 2 + b.render.length + 2, CS, cxA st cx, true⟩, b.evs i) := by
  cases st <;> simp [annLoop] at h <;> rfl

theorem step_inl (st : St) (h : annLoop st = true) (K : List (LexT × Nat)) (hK : noML K = true) (i : Nat)
    (CS : List Ctx) (cx : Ctx) (b : SchemaScan.Len.InlBody) :
    astep ⟨st, false, K, i, CS, cx, true⟩ (.base (.ann b))
      = some (⟨st, b.hasNote, K, i + 2 + b.render.length + 1, CS, cxA st cx, true⟩, b.evs i) := by
  cases st <;> simp [annLoop] at h <;>
    simp [astep, PV, aslot, slotStep, annLoop, hK]

/-- the scanner state behind an annotation -/
def annTC (c : TC) (a : Annot) : TC :=
  { c with g := (bif a.multi then false else a.nt.isSome), cx := cxA c.st c.cx, i := c.i + a.bytes.length }

end AT

/-! ### the loader side, for a view of the node table -/

namespace AT.G
open SchemaScan (Cls classify Ev LexT St Ctx CK VCtx PV wsLoop cmtLoop nlSt nlAl keySt keyAl closersOf)
open SchemaScan.Len (ATok Tok TC arun astep aslot slotStep closePV noML isObjKey nlStep mlSlot pendOfK annLoop cxA)
open Loader (XNode xfresh Fold)

/-- A view of the loader's node table: `kview` is the entry shown for a recorded key token, `kdec` leads from an entry to
what the loader compares (`Loader.keyText`). The table with decoded keys (`viewX`) and the table with the keys as
written (`viewK`) are the two instances; the loader facts `Loader.X_*`, `Lay.ml_effectG`, `Lay.inl_effectG` hold for
every view (`Loader.LSG`). -/
class View where
  kview : Bytes × Bool → Bytes × Bool
  kdec : Bytes × Bool → Bytes × Bool
  kdec_kview : ∀ r, kdec (kview r) = Loader.K.dec r

/-- the loader state `st` shows the table `AL` (and the leaf, the node created last, the number of nodes created on
the line, the root) -/
def View.LS [V : View] : Array UInt8 → Loader.St → List XNode → Option Nat → Option Nat → Nat → Option Nat → Prop :=
  Loader.LSG (fun src k => V.kview (Loader.K.rawOf src k))

/-- the table with decoded keys -/
def viewX : View := ⟨Loader.K.dec, id, fun _ => rfl⟩

/-- the table with the key tokens as written -/
def viewK : View := ⟨id, Loader.K.dec, fun _ => rfl⟩

variable [V : View]

def LSx (src : Array UInt8) (st : Loader.St) (a : AS) : Prop := V.LS src st a.AL a.leaf a.last a.pl a.root

def Loads (i : Nat) (bs : Bytes) (evs : List Ev) (a a' : AS) : Prop :=
  ∀ (src : Array UInt8) (st : Loader.St), Lay.AtB src i bs → LSx src st a →
    ∃ st', Fold src evs st st' ∧ LSx src st' a'

theorem Loads.trans {i : Nat} {b1 b2 : Bytes} {e1 e2 : List Ev} {a a1 a2 : AS} (h1 : Loads i b1 e1 a a1)
    (h2 : Loads (i + b1.length) b2 e2 a1 a2) : Loads i (b1 ++ b2) (e1 ++ e2) a a2 := by
  intro src st hat hl
  rw [Lay.AtB_append] at hat
  obtain ⟨s1, f1, l1⟩ := h1 src st hat.1 hl
  obtain ⟨s2, f2, l2⟩ := h2 src s1 hat.2 l1
  exact ⟨s2, Fold.trans f1 f2, l2⟩

theorem Loads.nil (i : Nat) (bs : Bytes) (a : AS) : Loads i bs [] a a :=
  fun _ st _ hl => ⟨st, Loader.Fold.nil _ _, hl⟩

structure Seg (c : TC) (ts : List BTok) (c' : TC) (a a' : AS) : Prop where
  ex : ∃ evs, Scans c (ts.map BTok.cls) evs c' ∧ Loads c.i (bytesOf ts) evs a a'
  idx : c'.i = c.i + (bytesOf ts).length

theorem Seg.trans {c c1 c2 : TC} {t1 t2 : List BTok} {a a1 a2 : AS} (h1 : Seg c t1 c1 a a1) (h2 : Seg c1 t2 c2 a1 a2) :
    Seg c (t1 ++ t2) c2 a a2 := by
  obtain ⟨⟨e1, s1, l1⟩, i1⟩ := h1
  obtain ⟨⟨e2, s2, l2⟩, i2⟩ := h2
  refine ⟨⟨e1 ++ e2, ?_, ?_⟩, ?_⟩
  · rw [List.map_append]; exact s1.trans s2
  · rw [bytesOf_append]; rw [i1] at l2; exact l1.trans l2
  · rw [i2, i1, bytesOf_append, List.length_append]; omega

theorem Seg.refl (c : TC) (a : AS) : Seg c [] c a a :=
  ⟨⟨[], (ScansA.nil c).weak, Loads.nil _ _ _⟩, rfl⟩

/-- one token, read at a place between tokens -/
theorem Seg.tok {c c1 : TC} {t : BTok} {e : List Ev} {a a1 : AS} (h : astep c t.cls = some (c1, e))
    (hl : Loads c.i t.bytes e a a1) (hi : c1.i = c.i + t.bytes.length) : Seg c [t] c1 a a1 :=
  ⟨⟨e, (ScansA.one h).weak, by simpa [bytesOf] using hl⟩, by simpa [bytesOf] using hi⟩

theorem loads_nl (i : Nat) (bs : Bytes) (a : AS) (evs : List Ev) (he : ∀ e ∈ evs, e.ty = .newLine) (hne : evs ≠ []) :
    Loads i bs evs a { a with pl := 0 } := by
  intro src st _ hl
  obtain ⟨st', f, l⟩ := Loader.X_nls src evs hl he
  rw [if_neg hne] at l
  exact ⟨st', f, l⟩

theorem ltok_seg (c : TC) (l : LTok) (hw : wsLoop c.st = true) (hc : l.isCmt = true → cmtLoop c.st = true) (a : AS) :
    Seg c [.lay l] (LTok.fx c l) a { a with pl := gapPl a.pl [l] } := by
  obtain ⟨st, g, K, i, CS, cx, al⟩ := c
  cases l with
  | sp b =>
    exact Seg.tok (step_sp st hw g K i CS cx al _) (by simpa [gapPl, Gap.hasNl, LTok.isNl] using Loads.nil _ _ _) rfl
  | nl b =>
    exact Seg.tok (step_nl st hw g K i CS cx al)
      (by simpa [gapPl, Gap.hasNl, LTok.isNl] using loads_nl i _ a _ (by simp) (by simp)) rfl
  | cmt t n =>
    have h := step_cmt st (hc rfl) g K i CS cx al (t.map classify)
    rw [List.length_map] at h
    refine Seg.tok h
      (by simpa [gapPl, Gap.hasNl, LTok.isNl] using loads_nl i _ a _ (by simp) (by simp)) ?_
    simp only [LTok.fx, BTok.bytes, LTok.bytes, List.length_cons, List.length_append, List.length_nil]; omega

/-- a layout, at a place where the scanner reads blanks (and comments, if it holds any) -/
theorem gap_seg : ∀ (g : Gap) (c : TC) (a : AS), wsLoop c.st = true → (Gap.hasCmt g = true → cmtLoop c.st = true) →
    Seg c (gapToks g) (gapTC c g) a { a with pl := gapPl a.pl g }
  | [], c, a, _, _ => Seg.refl c a
  | l :: g, c, a, hw, hc => by
    have h1 := ltok_seg c l hw (fun hl => hc (by rw [hasCmt_cons, hl]; rfl)) a
    have hc' : Gap.hasCmt g = true → cmtLoop (LTok.fx c l).st = true := fun hg =>
      cmtLoop_fx (hc (by rw [hasCmt_cons, hg]; simp))
    have h2 := gap_seg g (LTok.fx c l) { a with pl := gapPl a.pl [l] } (wsLoop_fx hw) hc'
    have := h1.trans h2
    rw [gapPl_cons]
    exact this

/-! ### segments on one level

Between the brackets of one container the scanner's stacks `K` and `CS` stay as they are. `ak` is what the line
discipline knows of the scanner's `allowAnnotation`: `ATree.chk`, `AItems.chk`, `AMembers.chk` (`ATreeDefs`) compute it
along the tree (`gapAk` over a layout, `annChk` at an annotation), and `ak = true` claims `c.al = true`. The scanner
state `c` of a statement is arbitrary, so `c.al` is known only through that claim: `Lvl.al` says that the claim at the exit
follows from the claim at the entry. `OK` is what holds at every place inside a container: the claim, and no multi-line
annotation open (`noML`, a fact about `K`, so `Lvl.ok` carries it along by `Lvl.K`). `Lvl` is a segment together with
these facts: what `GapFacts` says of a layout and what survives composition. -/

/-- a place between two tokens: the scanner state, the loader's state as the view shows it, and `ak` -/
structure Pt where
  c : TC
  a : AS
  ak : Bool

/-- what holds at every place inside a container -/
structure OK (c : TC) (ak : Bool) : Prop where
  noML : noML c.K = true
  al : ak = true → c.al = true

/-- `ts` read on one level -/
structure Lvl (P : Pt) (ts : List BTok) (P' : Pt) : Prop where
  seg : Seg P.c ts P'.c P.a P'.a
  K : P'.c.K = P.c.K
  CS : P'.c.CS = P.c.CS
  al : (P.ak = true → P.c.al = true) → P'.ak = true → P'.c.al = true

theorem Lvl.trans {P P1 P2 : Pt} {t1 t2 : List BTok} (h1 : Lvl P t1 P1) (h2 : Lvl P1 t2 P2) : Lvl P (t1 ++ t2) P2 :=
  ⟨h1.seg.trans h2.seg, h2.K.trans h1.K, h2.CS.trans h1.CS, fun h => h2.al (h1.al h)⟩

theorem Lvl.refl (P : Pt) : Lvl P [] P := ⟨Seg.refl _ _, rfl, rfl, id⟩

theorem Lvl.ok {P P' : Pt} {ts : List BTok} (h : Lvl P ts P') (hok : OK P.c P.ak) : OK P'.c P'.ak :=
  ⟨by rw [h.K]; exact hok.noML, h.al hok.al⟩

/-- a segment that leaves both stacks as they were is one on one level with exit flag `false`: nothing is claimed about
`allowAnnotation` at its end (so the entries of a container end in front of its closing bracket, and a container as a value) -/
theorem Lvl.ofSeg {P : Pt} {ts : List BTok} {c' : TC} {a' : AS} (s : Seg P.c ts c' P.a a') (hK : c'.K = P.c.K)
    (hCS : c'.CS = P.c.CS) : Lvl P ts ⟨c', a', false⟩ :=
  ⟨s, hK, hCS, fun _ h => by cases h⟩

/-- a layout; behind a separator (`sep`) a line break switches `allowAnnotation` on -/
theorem Lvl.gap (g : Gap) (c : TC) (a : AS) (ak sep : Bool) (hws : wsLoop c.st = true)
    (hcm : Gap.hasCmt g = true → cmtLoop c.st = true) (hsep : sep = true → c.st = .objKey ∨ c.st = .arrItem) :
    Lvl ⟨c, a, ak⟩ (gapToks g) ⟨gapTC c g, { a with pl := gapPl a.pl g }, gapAk sep ak g⟩ := by
  have gf := gap_facts g c
  refine ⟨gap_seg g c a hws hcm, gf.K, gf.CS, fun hak h => ?_⟩
  unfold gapAk at h
  cases hk : ak with
  | true => exact gf.al (hak hk)
  | false =>
    rw [hk] at h
    simp only [Bool.false_or, Bool.and_eq_true] at h
    exact gf.alSep (hsep h.1) h.2

/-- **an annotation token**: scanner allowed (`al`, no guard), loader: exactly one node on the line, `n` the last. A bare
`Seg` at any table `a`; `gap_ann_seg` (`ATreeLoad`) puts it on one level behind a layout. -/
theorem ann_seg (c : TC) (an : Annot) (hw : an.WF) (hl : annLoop c.st = true) (hg : c.g = false) (hal : c.al = true)
    (hK : noML c.K = true) (a : AS) (n : Nat) (xn : XNode) (hlast : a.last = some n) (hpl : a.pl = 1)
    (hn : a.AL[n]? = some xn) :
    Seg c [.ann an] (annTC c an)
      a { a with AL := a.AL.set n (annX (some an) xn), pl := (bif an.multi then 1 else 0) } := by
  obtain ⟨st, g, K, i, CS, cx, al⟩ := c
  obtain ⟨AL, leaf, last, pl, root⟩ := a
  simp only at hl hg hal hK hlast hpl hn
  subst hg hal hlast hpl
  obtain ⟨multi, s2, ob, s3, nt, nlb⟩ := an
  obtain ⟨hcls, hnt, hnl⟩ := hw
  cases multi with
  | true =>
    have hv : (Lay.mlOf s2 ob s3 nt).Valid := hcls
    have hlen : i + 2 + (Lay.mlOf s2 ob s3 nt).render.length + 2 = i + (Annot.bytes ⟨true, s2, ob, s3, nt, nlb⟩).length := by
      simp only [Annot.bytes, cond_true, annBody_len, List.length_cons, List.length_append, List.length_nil]; omega
    refine Seg.tok (e := (Lay.mlOf s2 ob s3 nt).evs i)
      (c1 := annTC ⟨st, false, K, i, CS, cx, true⟩ ⟨true, s2, ob, s3, nt, nlb⟩) ?_ ?_ rfl
    · have := step_ml st hl K i CS cx (Lay.mlOf s2 ob s3 nt)
      simp only [BTok.cls, Annot.cls, cond_true]
      rw [this, hlen]
      rfl
    · intro src s hat hls
      have hat' : Lay.AtB src (i + 2) (Lay.annBody s2 ob s3 nt ++ [42, 47]) := by
        simp only [BTok.bytes, Annot.bytes, cond_true, Lay.AtB] at hat
        exact hat.2.2
      obtain ⟨s', f, l⟩ := Lay.ml_effectG src hls xn hn s2 ob s3 nt i hv.2.1 hnt [42, 47] hat'
      exact ⟨s', f, l⟩
  | false =>
    have hv : (Lay.inlOf s2 ob s3 nt).Valid := hcls
    have hlen : i + 2 + (Lay.inlOf s2 ob s3 nt).render.length + 1 = i + (Annot.bytes ⟨false, s2, ob, s3, nt, nlb⟩).length := by
      simp only [Annot.bytes, cond_false, ml_inl_render, annBody_len, List.length_cons, List.length_append, List.length_nil]
      omega
    have hnote : (Lay.inlOf s2 ob s3 nt).hasNote = nt.isSome := by cases nt <;> rfl
    refine Seg.tok (e := (Lay.inlOf s2 ob s3 nt).evs i)
      (c1 := annTC ⟨st, false, K, i, CS, cx, true⟩ ⟨false, s2, ob, s3, nt, nlb⟩) ?_ ?_ rfl
    · have := step_inl st hl K hK i CS cx (Lay.inlOf s2 ob s3 nt)
      simp only [BTok.cls, Annot.cls, cond_false]
      rw [this, hlen, hnote]
      rfl
    · intro src s hat hls
      have hat' : Lay.AtB src (i + 2) (Lay.annBody s2 ob s3 nt ++ [nlb]) := by
        simp only [BTok.bytes, Annot.bytes, cond_false, Lay.AtB] at hat
        exact hat.2.2
      obtain ⟨s', f, l⟩ := Lay.inl_effectG src hls xn hn s2 ob s3 nt i hv.2.1 hnt [nlb] hat'
      exact ⟨s', f, l⟩

end AT.G
