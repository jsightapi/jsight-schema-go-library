import JSight.SchemaEventsBase
import JSight.SchemaStepEq
/-!
Single-byte behaviour of the schema scanner model on plain JSON: `dispatch` at concrete states
(three layers: post-value state → `endValue` → after-state), for either value of the `lengthComputing` flag
(`Len.cfgL lc …`; `cfg …` is `cfgL false …`).
-/
namespace SchemaScan

/-- a scanner state outside annotations/comments; `cx`, `al` (context record, allowAnnotation) are bookkeeping -/
def cfg (st : St) (ret : List St) (K : List (LexT × Nat)) (u : Bool) (i : Nat) (CS : List Ctx) (cx : Ctx)
    (al : Bool) : Sc :=
  { step := st, ret := ret, stack := K, ctxStack := CS, ctx := cx, finds := [], index := i, ann := .none, unf := u,
    lengthComputing := false, boundaryQuote := false, allowAnnotation := al, hasTrailing := false }

/-- post-value states: a value has just been read (its literal end may still be pending) -/
def PV : St → Bool
  | .endValue | .d0 | .d1 | .dot0 => true
  | _ => false

def Cls.isDelim : Cls → Bool | .sp | .tab | .nl | .comma | .rbrack | .rbrace | .colon => true | _ => false

/-! ### a post-value state on a delimiter is `stateEndValue` -/

/-- a byte that cannot continue a number -/
theorem pv_num (f : Nat) (st : St) (h : PV st = true) (c : Cls)
    (hc : (c.isDigit || c == .dot || c == .le || c == .uE) = false) (s : Sc) (p1 p2 : Option Cls) :
    dispatch (f + 1) st s c p1 p2 = endValue f s c p1 p2 := by
  cases st <;> simp only [PV, reduceCtorEq] at h
  case endValue => rw [dispatch_endValue]
  case d1 => rw [dispatch_d1, state0_eq]; cases c <;> cases hc <;> rfl
  case d0 => rw [dispatch_d0, state0_eq]; cases c <;> cases hc <;> rfl
  case dot0 => rw [dispatch_dot0]; cases c <;> cases hc <;> rfl

theorem pv_dispatch (f : Nat) (st : St) (h : PV st = true) (c : Cls) (hc : c.isDelim = true) (s : Sc)
    (p1 p2 : Option Cls) : dispatch (f + 1) st s c p1 p2 = endValue f s c p1 p2 :=
  pv_num f st h c (by cases c <;> simp [Cls.isDelim] at hc <;> rfl) s p1 p2

/-! ### what `stateEndValue` closes: the pending pairs, their closing lexemes, the after-state that gets the byte -/

/-- kind of closing, i.e. what is closed when a value ends: an array item, an object member value, an object key -/
inductive CK | item | val | key
  deriving DecidableEq

def CK.B : CK → LexT | .item => .itemB | .val => .valB | .key => .keyB
def CK.E : CK → LexT | .item => .itemE | .val => .valE | .key => .keyE
def CK.aft : CK → St | .item => .afterItem | .val => .afterValue | .key => .afterKey
/-- the separator that may follow, and the state it leads to -/
def CK.sep : CK → Cls | .item => .comma | .val => .comma | .key => .colon
def CK.nxt : CK → St | .item => .arrItem | .val => .objKey | .key => .objValue

def pendOf (lit : Bool) (o : Nat) : List (LexT × Nat) := if lit then [(.litB, o)] else []
def closeTys (lit : Bool) (ck : CK) : List LexT := (if lit then [.litE] else []) ++ [ck.E]

/-! ### the states that loop on white space, and what a line break changes -/

def Cls.isSpTab : Cls → Bool | .sp | .tab => true | _ => false

def wsLoop : St → Bool
  | .foundRoot | .objKeyOrEmpty | .objKey | .objKeyAfterNL | .objValue | .arrItemOrEmpty | .arrItem
  | .afterKey | .afterValue | .afterItem | .endTop => true
  | _ => false

/-- the state after a line break: only `objKey` moves (to `objKeyAfterNL`) -/
def nlSt : St → St | .objKey => .objKeyAfterNL | st => st
/-- `allowAnnotation` after a line break -/
def nlAl : St → Bool → Bool | .objKey, _ => true | .arrItem, _ => true | _, al => al

/-! ### the token automaton: bytes inside a scalar or a key queue nothing and leave the stack alone -/

def silent : St → List St → Bool → Cls → Option (St × List St × Bool)
  | .inString, r, unf, c => match c with
      | .quote => some (.endValue, r, false)
      | .bslash => some (.esc, r, unf)
      | .tab | .nl | .ctrl => none
      | _ => some (.inString, r, unf)
  | .esc, r, unf, c => match c with
      | .lb | .lf | .ln | .lr | .lt | .bslash | .slash | .quote => some (.inString, r, unf)
      | .lu => some (.u0, .inString :: r, unf)
      | _ => none
  | .u0, r, unf, c => if c.isHex then some (.u1, r, unf) else none
  | .u1, r, unf, c => if c.isHex then some (.u2, r, unf) else none
  | .u2, r, unf, c => if c.isHex then some (.u3, r, unf) else none
  | .u3, r0 :: r, unf, c => if c.isHex then some (r0, r, unf) else none
  | .neg, r, _, c => match c with | .zero => some (.d0, r, false) | .d19 => some (.d1, r, false) | _ => none
  | .d1, r, unf, c => match c with
      | .zero | .d19 => some (.d1, r, unf) | .dot => some (.dot, r, true) | _ => none
  | .d0, r, _, c => match c with | .dot => some (.dot, r, true) | _ => none
  | .dot, r, _, c => match c with | .zero | .d19 => some (.dot0, r, false) | _ => none
  | .dot0, r, unf, c => match c with | .zero | .d19 => some (.dot0, r, unf) | _ => none
  | .t, r, unf, c => match c with | .lr => some (.tr, r, unf) | _ => none
  | .tr, r, unf, c => match c with | .lu => some (.tru, r, unf) | _ => none
  | .tru, r, _, c => match c with | .le => some (.endValue, r, false) | _ => none
  | .f, r, unf, c => match c with | .la => some (.fa, r, unf) | _ => none
  | .fa, r, unf, c => match c with | .ll => some (.fal, r, unf) | _ => none
  | .fal, r, unf, c => match c with | .ls => some (.fals, r, unf) | _ => none
  | .fals, r, _, c => match c with | .le => some (.endValue, r, false) | _ => none
  | .n, r, unf, c => match c with | .lu => some (.nu, r, unf) | _ => none
  | .nu, r, unf, c => match c with | .ll => some (.nul, r, unf) | _ => none
  | .nul, r, _, c => match c with | .ll => some (.endValue, r, false) | _ => none
  | _, _, _, _ => none

/-- one step of the token automaton, whatever the rest of the scanner state is -/
theorem silent_dispatch (f : Nat) (s : Sc) (c : Cls) (st' : St) (r' : List St) (u' : Bool)
    (h : silent s.step s.ret s.unf c = some (st', r', u')) (p1 p2 : Option Cls) :
    dispatch (f + 1) s.step s c p1 p2 = .ok { s with step := st', ret := r', unf := u' } := by
  obtain ⟨st, r, K, CS, cx, fs, i, a, u, lc, q, al, tr⟩ := s
  cases st
  -- inside strings nearly every class of byte is accepted: one case per class
  case inString | esc | u0 | u1 | u2 =>
    simp only [dispatch_inString, dispatch_esc, dispatch_u0, dispatch_u1, dispatch_u2]
    cases c <;> cases h <;> rfl
  case u3 =>
    cases r with
    | nil => cases h
    | cons r0 r => rw [dispatch_u3]; cases c <;> cases h <;> rfl
  -- numbers and keywords accept one or two classes: the cases of `silent` suffice
  case neg | d1 | d0 | dot | dot0 | t | tr | tru | f | fa | fal | fals | n | nu | nul =>
    simp only [dispatch_neg, dispatch_d1, dispatch_d0, state0_eq, dispatch_dot, dispatch_dot0, dispatch_t, dispatch_tr,
      dispatch_tru, dispatch_f, dispatch_fa, dispatch_fal, dispatch_fals, dispatch_n, dispatch_nu, dispatch_nul]
    simp only [silent] at h
    split at h <;> cases h <;> rfl
  all_goals cases h

/-! ### where a value or a key may start -/

/-- the positions at which a value may start -/
inductive VCtx | root | item0 | item1 | objv

def VCtx.st : VCtx → St
  | .root => .foundRoot | .item0 => .arrItemOrEmpty | .item1 => .arrItem | .objv => .objValue
def VCtx.preTys : VCtx → List LexT
  | .root => [] | .objv => [.valB] | _ => [.itemB]
def VCtx.pre (o : Nat) : VCtx → List (LexT × Nat)
  | .root => [] | .objv => [(.valB, o)] | _ => [(.itemB, o)]
def VCtx.preEvs (o : Nat) : VCtx → List Ev
  | .root => [] | .objv => [⟨.valB, o, o⟩] | _ => [⟨.itemB, o, o⟩]
/-- the context record after the first byte of a value (`arrayHasItem`, F-13) -/
def VCtx.cx' : VCtx → Ctx → Ctx
  | .item0, cx => { cx with arrayHasItem := true }
  | _, cx => cx

/-- first byte of a scalar token -/
def litStart : Cls → Option (St × Bool)
  | .quote => some (.inString, true)
  | .minus => some (.neg, true)
  | .zero => some (.d0, false)
  | .d19 => some (.d1, false)
  | .lt => some (.t, true)
  | .lf => some (.f, true)
  | .ln => some (.n, true)
  | _ => none

def keySt : St → Bool
  | .objKeyOrEmpty | .objKey | .objKeyAfterNL => true
  | _ => false
def keyAl : St → Bool → Bool | .objKeyOrEmpty, _ => true | _, al => al

/-! ### single bytes, for an arbitrary `lengthComputing` flag

In the `d_…` lemmas the step FIELD of the state (`x`) is independent of the state function that is run (`st`): behind an
inline annotation with a note the step field is the closure `guard st`, which runs `st` on every byte but `/`. The
white-space loops, separators and closers never read the field; `loop_…`, `aft_…` are the case `x = st`. -/

namespace Len

/-- a plain-JSON scanner state with the `lengthComputing` flag `lc` -/
def cfgL (lc : Bool) (st : St) (ret : List St) (K : List (LexT × Nat)) (u : Bool) (i : Nat) (CS : List Ctx) (cx : Ctx)
    (al : Bool) : Sc :=
  { step := st, ret := ret, stack := K, ctxStack := CS, ctx := cx, finds := [], index := i, ann := .none, unf := u,
    lengthComputing := lc, boundaryQuote := false, allowAnnotation := al, hasTrailing := false }

theorem cfgL_false : @cfgL false = @cfg := rfl

variable {lc : Bool}

/-- `ev_…`: what `endValue` (the scanner's `stateEndValue`) does.  Behind an item / a member value it queues the closing
lexemes and hands the byte to the state behind the entry. -/
theorem ev_close (f : Nat) (st : St) (lit : Bool) (ck : CK) (b b2 : Nat) (R : List (LexT × Nat)) (i : Nat)
    (CS : List Ctx) (cx : Ctx) (al : Bool) (c : Cls) (p1 p2 : Option Cls) :
    endValue f (cfgL lc st [] (pendOf lit b ++ (ck.B, b2) :: R) false i CS cx al) c p1 p2
      = dispatch f ck.aft
          { cfgL lc ck.aft [] (pendOf lit b ++ (ck.B, b2) :: R) false i CS cx al with finds := closeTys lit ck } c p1 p2 := by
  cases lit <;> cases ck <;> (unfold endValue dispatch'; rfl)

/-- behind the top-level value `endValue` hands the byte to `endTop` -/
theorem ev_root (f : Nat) (st : St) (lit : Bool) (b : Nat) (i : Nat)
    (CS : List Ctx) (cx : Ctx) (al : Bool) (c : Cls) (p1 p2 : Option Cls) :
    endValue f (cfgL lc st [] (pendOf lit b) false i CS cx al) c p1 p2
      = dispatch f .endTop
          { cfgL lc .endTop [] (pendOf lit b) false i CS cx al with finds := if lit then [.litE] else [] } c p1 p2 := by
  cases lit <;> (unfold endValue dispatch'; rfl)

theorem d_sp (f : Nat) (st : St) (h : wsLoop st = true) (c : Cls) (hc : c.isSpTab = true) (x : St)
    (K : List (LexT × Nat)) (i : Nat) (CS : List Ctx) (cx : Ctx) (al : Bool) (fs : List LexT) (p1 p2 : Option Cls) :
    dispatch (f + 1) st { cfgL lc x [] K false i CS cx al with finds := fs } c p1 p2
      = .ok { cfgL lc x [] K false i CS cx al with finds := fs } := by
  cases st <;> simp [wsLoop] at h <;> cases c <;> simp [Cls.isSpTab] at hc <;> (unfold dispatch; rfl)

theorem loop_sp (f : Nat) (st : St) (h : wsLoop st = true) (c : Cls) (hc : c.isSpTab = true)
    (K : List (LexT × Nat)) (i : Nat) (CS : List Ctx) (cx : Ctx) (al : Bool) (fs : List LexT) (p1 p2 : Option Cls) :
    dispatch (f + 1) st { cfgL lc st [] K false i CS cx al with finds := fs } c p1 p2
      = .ok { cfgL lc st [] K false i CS cx al with finds := fs } :=
  d_sp f st h c hc st K i CS cx al fs p1 p2

/-- the step field after a line break: only `objKey` assigns a new one -/
def nlX : St → St → St | .objKey, _ => .objKeyAfterNL | _, x => x

theorem nlX_self (st : St) : nlX st st = nlSt st := by
  cases st <;> rfl

theorem d_nl (f : Nat) (st : St) (h : wsLoop st = true) (x : St)
    (K : List (LexT × Nat)) (i : Nat) (CS : List Ctx) (cx : Ctx) (al : Bool) (fs : List LexT) (p1 p2 : Option Cls) :
    dispatch (f + 1) st { cfgL lc x [] K false i CS cx al with finds := fs } .nl p1 p2
      = .ok { cfgL lc (nlX st x) [] K false i CS cx (nlAl st al) with finds := fs ++ [.newLine] } := by
  cases st <;> simp [wsLoop] at h <;> (unfold dispatch; rfl)

theorem loop_nl (f : Nat) (st : St) (h : wsLoop st = true)
    (K : List (LexT × Nat)) (i : Nat) (CS : List Ctx) (cx : Ctx) (al : Bool) (fs : List LexT) (p1 p2 : Option Cls) :
    dispatch (f + 1) st { cfgL lc st [] K false i CS cx al with finds := fs } .nl p1 p2
      = .ok { cfgL lc (nlSt st) [] K false i CS cx (nlAl st al) with finds := fs ++ [.newLine] } := by
  rw [← nlX_self]
  exact d_nl f st h st K i CS cx al fs p1 p2

theorem d_sep (f : Nat) (ck : CK) (x : St)
    (K : List (LexT × Nat)) (i : Nat) (CS : List Ctx) (cx : Ctx) (al : Bool) (fs : List LexT) (p1 p2 : Option Cls) :
    dispatch (f + 1) ck.aft { cfgL lc x [] K false i CS cx al with finds := fs } ck.sep p1 p2
      = .ok { cfgL lc ck.nxt [] K false i CS cx al with finds := fs } := by
  cases ck <;> (unfold dispatch; rfl)

theorem aft_sep (f : Nat) (ck : CK)
    (K : List (LexT × Nat)) (i : Nat) (CS : List Ctx) (cx : Ctx) (al : Bool) (fs : List LexT) (p1 p2 : Option Cls) :
    dispatch (f + 1) ck.aft { cfgL lc ck.aft [] K false i CS cx al with finds := fs } ck.sep p1 p2
      = .ok { cfgL lc ck.nxt [] K false i CS cx al with finds := fs } :=
  d_sep f ck ck.aft K i CS cx al fs p1 p2

theorem d_rbrack (f : Nat) (x : St) (y : LexT × Nat)
    (K : List (LexT × Nat)) (i : Nat) (c0 : Ctx) (CS : List Ctx) (cx : Ctx) (al : Bool) (fs : List LexT) (p1 p2 : Option Cls) :
    dispatch (f + 1) .afterItem { cfgL lc x [] (y :: K) false i (c0 :: CS) cx al with finds := fs } .rbrack p1 p2
      = .ok { cfgL lc .endValue [] (y :: K) false i CS c0 (!cx.arrayHasItem) with finds := fs ++ [.arrE] } := by
  unfold dispatch; rfl

theorem aft_rbrack (f : Nat) (x : LexT × Nat)
    (K : List (LexT × Nat)) (i : Nat) (c0 : Ctx) (CS : List Ctx) (cx : Ctx) (al : Bool) (fs : List LexT) (p1 p2 : Option Cls) :
    dispatch (f + 1) .afterItem { cfgL lc .afterItem [] (x :: K) false i (c0 :: CS) cx al with finds := fs } .rbrack p1 p2
      = .ok { cfgL lc .endValue [] (x :: K) false i CS c0 (!cx.arrayHasItem) with finds := fs ++ [.arrE] } :=
  d_rbrack f .afterItem x K i c0 CS cx al fs p1 p2

theorem d_rbrace (f : Nat) (x : St)
    (K : List (LexT × Nat)) (i : Nat) (c0 : Ctx) (CS : List Ctx) (cx : Ctx) (al : Bool) (fs : List LexT) (p1 p2 : Option Cls) :
    dispatch (f + 1) .afterValue { cfgL lc x [] K false i (c0 :: CS) cx al with finds := fs } .rbrace p1 p2
      = .ok { cfgL lc .endValue [] K false i CS c0 al with finds := fs ++ [.objE] } := by
  unfold dispatch; rfl

theorem aft_rbrace (f : Nat)
    (K : List (LexT × Nat)) (i : Nat) (c0 : Ctx) (CS : List Ctx) (cx : Ctx) (al : Bool) (fs : List LexT) (p1 p2 : Option Cls) :
    dispatch (f + 1) .afterValue { cfgL lc .afterValue [] K false i (c0 :: CS) cx al with finds := fs } .rbrace p1 p2
      = .ok { cfgL lc .endValue [] K false i CS c0 al with finds := fs ++ [.objE] } :=
  d_rbrace f .afterValue K i c0 CS cx al fs p1 p2

theorem silent_dispatch (f : Nat) (st : St) (r : List St) (u : Bool) (c : Cls) (st' : St) (r' : List St) (u' : Bool)
    (h : silent st r u c = some (st', r', u'))
    (K : List (LexT × Nat)) (i : Nat) (CS : List Ctx) (cx : Ctx) (al : Bool) (p1 p2 : Option Cls) :
    dispatch (f + 1) st (cfgL lc st r K u i CS cx al) c p1 p2 = .ok (cfgL lc st' r' K u' i CS cx al) :=
  SchemaScan.silent_dispatch f (cfgL lc st r K u i CS cx al) c st' r' u' h p1 p2

theorem d_scalar (f : Nat) (c : Cls) (st0 : St) (u0 : Bool) (h : litStart c = some (st0, u0)) (ctx : VCtx) (x : St)
    (K : List (LexT × Nat)) (i : Nat) (CS : List Ctx) (cx : Ctx) (al : Bool) (p1 p2 : Option Cls) :
    dispatch (f + 1) ctx.st (cfgL lc x [] K false i CS cx al) c p1 p2
      = .ok { cfgL lc st0 [] K u0 i CS (ctx.cx' cx) al with finds := ctx.preTys ++ [.litB] } := by
  cases c <;> simp [litStart] at h <;> obtain ⟨rfl, rfl⟩ := h <;> cases ctx <;> (unfold dispatch; rfl)

theorem d_array (f : Nat) (ctx : VCtx) (x : St)
    (K : List (LexT × Nat)) (i : Nat) (CS : List Ctx) (cx : Ctx) (al : Bool) (p1 p2 : Option Cls) :
    dispatch (f + 1) ctx.st (cfgL lc x [] K false i CS cx al) .lbrack p1 p2
      = .ok { cfgL lc .arrItemOrEmpty [] K false i (ctx.cx' cx :: CS) { ty := .array } al with
                finds := ctx.preTys ++ [.arrB] } := by
  cases ctx <;> (unfold dispatch; rfl)

theorem d_object (f : Nat) (ctx : VCtx) (x : St)
    (K : List (LexT × Nat)) (i : Nat) (CS : List Ctx) (cx : Ctx) (al : Bool) (p1 p2 : Option Cls) :
    dispatch (f + 1) ctx.st (cfgL lc x [] K false i CS cx al) .lbrace p1 p2
      = .ok { cfgL lc .objKeyOrEmpty [] K false i (ctx.cx' cx :: CS) { ty := .object } al with
                finds := ctx.preTys ++ [.objB] } := by
  cases ctx <;> (unfold dispatch; rfl)

theorem d_key (f : Nat) (st : St) (h : keySt st = true) (x : St)
    (K : List (LexT × Nat)) (i : Nat) (CS : List Ctx) (cx : Ctx) (al : Bool) (p1 p2 : Option Cls) :
    dispatch (f + 1) st (cfgL lc x [] K false i CS cx al) .quote p1 p2
      = .ok { cfgL lc .inString [] K false i CS cx (keyAl st al) with finds := [.keyB] } := by
  cases st <;> simp [keySt] at h <;> (unfold dispatch; rfl)

theorem d_empty_arr (f : Nat) (x : St) (y : LexT × Nat)
    (K : List (LexT × Nat)) (i : Nat) (c0 : Ctx) (CS : List Ctx) (cx : Ctx) (al : Bool) (p1 p2 : Option Cls) :
    dispatch (f + 1) .arrItemOrEmpty (cfgL lc x [] (y :: K) false i (c0 :: CS) cx al) .rbrack p1 p2
      = .ok { cfgL lc .endValue [] (y :: K) false i CS c0 (!cx.arrayHasItem) with finds := [.arrE] } := by
  unfold dispatch; rfl

theorem d_empty_obj (f : Nat) (x : St)
    (K : List (LexT × Nat)) (i : Nat) (c0 : Ctx) (CS : List Ctx) (cx : Ctx) (al : Bool) (p1 p2 : Option Cls) :
    dispatch (f + 1) .objKeyOrEmpty (cfgL lc x [] K false i (c0 :: CS) cx al) .rbrace p1 p2
      = .ok { cfgL lc .endValue [] K false i CS c0 true with finds := [.objE] } := by
  unfold dispatch; rfl

end Len

end SchemaScan
