import JSight.ATreeLoad
/-! C13 / C16, whole annotated trees: scalars in a container, with their annotation before or behind the comma. -/
namespace AT.G
open SchemaScan (classify LexT Ctx VCtx wsLoop cmtLoop nlSt)
open SchemaScan.Len (TC noML annLoop)
open Loader (XNode xfresh)

variable [V : View]

theorem ctxKind_cases (ctx : VCtx) : ctxKind ctx = .arr ∨ ctxKind ctx = .obj := by cases ctx <;> simp [ctxKind]

/-- the scalar token and its closing lexemes -/
theorem scalar_seg (tok : Bytes) (hwf : SchemaScan.IsScalar (tok.map classify)) (ctx : VCtx) (hctx : ctx ≠ .root)
    (c : TC) (hst : c.st = ctx.st) (ak : Bool) (C : Cont) (hC : C.Is (ctxKind ctx)) :
    Lvl ⟨c, C.as, ak⟩ [.scalar tok]
      ⟨{ c with st := (ctxCk ctx).aft, g := false, i := c.i + tok.length, cx := ctx.cx' c.cx },
        (C.grow [C.next] [] [{ xfresh .lit (some C.n) with value := some tok }] (some C.next) (C.pl + 1)).as, ak⟩ := by
  obtain ⟨st, g, K, i, CS, cx, al⟩ := c
  simp only at hst
  subst hst
  have h := step_scalar ctx g K i CS cx al (tok.map classify)
  rw [List.length_map] at h
  refine ⟨Seg.tokClose (t := .scalar tok) h (SchemaScan.Len.endStOf_scalar hwf) rfl
    (by rw [pre_eq ctx hctx]; exact close_ck _ true (ctxCk ctx) i i K _ CS _ al) (aft_notPV _) ?_ rfl, rfl, rfl, id⟩
  rw [preEvs_eq ctx hctx, closers_eq]
  have hkk : C.xa.kind = .arr ∨ C.xa.kind = .obj := by rw [hC.kind]; exact ctxKind_cases ctx
  have l1 := (loads_pre ctx i i C hC).mono tok
  have l2 := (loads_create i ⟨.litB, i, i⟩ .lit rfl rfl C hkk hC.waiting).mono tok
  have l3 := loads_litE i tok (Lay.scalar_ne hwf) C.kid (xfresh .lit (some C.n)) rfl (some C.next) (C.pl + 1)
  simp only [Cont.kid_grow] at l3
  have l4 := (loads_post ctx i i (i + tok.length - 1) _ (hC.grow [C.next] []
    [{ xfresh .lit (some C.n) with value := some tok }] (some C.next) (C.pl + 1))).mono tok
  exact (l1.seq l2).seq (l3.seq l4)

/-- what `gap_ann_seg` asks of the scanner state behind a value -/
theorem aft_loops (ctx : VCtx) (b : Bool) : wsLoop (ctxCk ctx).aft = true ∧ cmtLoop (ctxCk ctx).aft = true ∧
    annLoop (bif b then nlSt (ctxCk ctx).aft else (ctxCk ctx).aft) = true ∧
    (bif b then nlSt (ctxCk ctx).aft else (ctxCk ctx).aft) = (ctxCk ctx).aft := by
  cases ctx <;> cases b <;> exact ⟨rfl, rfl, rfl, rfl⟩

theorem value_scalar (tok : Bytes) (an : Option SAnn) : ValueStmt (.scalar tok an) := by
  intro ctx c ak C ak' pl' hctx hst hok hC hchk hw
  have hwf : SchemaScan.IsScalar (tok.map classify) := by
    have : BTok.WF (.scalar tok) := hw _ (by
      match an with
      | none => simp [ATree.toks]
      | some ⟨true, _, _⟩ => simp [ATree.toks]
      | some ⟨false, _, _⟩ => simp [ATree.toks])
    exact this
  have L0 := scalar_seg tok hwf ctx hctx c hst ak C hC
  match an, hchk, hw with
  | none, hchk, _ =>
    simp only [ATree.chk, Option.some.injEq, Prod.mk.injEq] at hchk
    obtain ⟨rfl, rfl⟩ := hchk
    exact ⟨_, _, L0, rfl, fun h => by simp [ATree.hasB] at h⟩
  | some ⟨true, g', a⟩, hchk, _ =>
    simp only [ATree.chk, Option.some.injEq, Prod.mk.injEq] at hchk
    obtain ⟨rfl, rfl⟩ := hchk
    exact ⟨_, _, L0, rfl, fun _ => rfl⟩
  | some ⟨false, g', a⟩, hchk, hw =>
    simp only [ATree.chk] at hchk
    have hw' : TokOK (gapToks g' ++ [.ann a]) := by
      have : TokOK (.scalar tok :: (gapToks g' ++ [.ann a])) := by simpa [ATree.toks] using hw
      exact (tokOK_cons this).2
    obtain ⟨l1, l2, l3, l4⟩ := aft_loops ctx (Gap.hasNl g')
    have hgk : gapAk false ak g' = ak := by simp [gapAk]
    -- `gap_ann_seg` at the table of the grown container up to the scalar's node (only `.xa` of `C.grow … none 0` is read)
    obtain ⟨c', L1, h1⟩ := gap_ann_seg _ g' a hw' l1 l2 l3 rfl false (by simp) ak (L0.ok hok) (C.pl + 1) ak' pl'
      (by rw [hgk]; exact hchk) (C.L0 ++ (C.grow [C.next] [] [] none 0).xa :: C.M)
      { xfresh .lit (some C.n) with value := some tok } (some C.L0.length) C.root
    simp only [zip_len, zip_snoc] at L1
    refine ⟨c', some C.next, ?_, by rw [h1, l4], fun h => by simp [ATree.hasB] at h⟩
    simpa [ATree.toks, ATree.nodesVA, ATree.hasB, ATree.nodesV, Cont.as, Cont.grow, Cont.next, Cont.n] using L0.trans L1

theorem hasB_false {v : ATree} (h : v.hasB = false) :
    v.toksB = [] ∧ (∀ ak pl, v.chkB ak pl = some (ak, pl)) ∧ ∀ par n, v.nodesVA par n = v.nodesV par n := by
  refine ⟨?_, ?_, fun par n => by simp [ATree.nodesVA, h]⟩
  · match v, h with
    | .scalar _ none, _ => rfl
    | .scalar _ (some ⟨false, _, _⟩), _ => rfl
    | .scalar _ (some ⟨true, _, _⟩), h => simp [ATree.hasB] at h
    | .arr _ _, _ => rfl
    | .obj _ _, _ => rfl
  · intro ak pl
    match v, h with
    | .scalar _ none, _ => rfl
    | .scalar _ (some ⟨false, _, _⟩), _ => rfl
    | .scalar _ (some ⟨true, _, _⟩), h => simp [ATree.hasB] at h
    | .arr _ _, _ => rfl
    | .obj _ _, _ => rfl

/-- the annotation of a scalar behind the comma: it is added to the node of `v`, which stands at `C.next` and is the node
created last (`hlast`); `cs`, `ks` are whatever the caller has added to the container so far -/
theorem toksB_seg (v : ATree) (c : TC) (ak : Bool) (hst : c.st = .arrItem ∨ c.st = .objKey) (hg : c.g = false)
    (hok : OK c ak) (C : Cont) (cs : List Nat) (ks : List (Bytes × Bool)) (last : Option Nat) (pl : Nat) (ak' : Bool) (pl' : Nat)
    (hchk : v.chkB ak pl = some (ak', pl')) (hw : TokOK v.toksB) (par : Option Nat) (hlast : v.hasB = true → last = some C.next) :
    ∃ c' last', Lvl ⟨c, (C.grow cs ks (v.nodesVA par C.next) last pl).as, ak⟩ v.toksB
        ⟨c', (C.grow cs ks (v.nodesV par C.next) last' pl').as, ak'⟩ ∧ c'.st = c.st := by
  cases hb : v.hasB with
  | false =>
    obtain ⟨h1, h2, h3⟩ := hasB_false hb
    rw [h2] at hchk
    simp only [Option.some.injEq, Prod.mk.injEq] at hchk
    obtain ⟨rfl, rfl⟩ := hchk
    rw [h1, h3]
    exact ⟨c, last, Lvl.refl _, rfl⟩
  | true =>
    match v, hb, hchk, hw, hlast with
    | .scalar tok (some ⟨true, g', a⟩), _, hchk, hw, hlast =>
      simp only [ATree.chkB] at hchk
      have hl := hlast rfl
      subst hl
      obtain ⟨_, h2, _, _⟩ := annChk_some hchk
      have hnl : Gap.hasNl g' = false := by
        cases h : Gap.hasNl g' with
        | false => rfl
        | true => simp [gapPl, h] at h2
      have hloops : wsLoop c.st = true ∧ cmtLoop c.st = true ∧ annLoop c.st = true := by
        rcases hst with h | h <;> rw [h] <;> exact ⟨rfl, rfl, rfl⟩
      obtain ⟨c', L, h1⟩ := gap_ann_seg c g' a hw hloops.1 hloops.2.1 (by rw [hnl]; exact hloops.2.2) hg
        true (fun _ => hst.symm) ak hok pl ak' pl' hchk (C.L0 ++ (C.grow cs ks [] none 0).xa :: C.M)
        { xfresh .lit par with value := some tok } (some C.L0.length) C.root
      simp only [zip_len, zip_snoc] at L
      refine ⟨c', some C.next, ?_, by rw [h1, hnl]; rfl⟩
      simpa [ATree.nodesVA, ATree.hasB, ATree.nodesV, ATree.toksB, Cont.as, Cont.grow, Cont.next] using L
    | .scalar _ none, hb, _, _, _ => simp [ATree.hasB] at hb
    | .scalar _ (some ⟨false, _, _⟩), hb, _, _, _ => simp [ATree.hasB] at hb
    | .arr _ _, hb, _, _, _ => simp [ATree.hasB] at hb
    | .obj _ _, hb, _, _, _ => simp [ATree.hasB] at hb

end AT.G
