import JSight.OMap
import JSight.ListFacts
/-!
C19: the generated ordered map `M` (Go `map` plus order slice) against `Ref`, the insertion-ordered association list it
stands for. `WF` (the order slice lists the keys of the map once each, `size` counts them) is kept by every operation,
and under `WF` the entries of `set`, `delete`, `filter` are `Ref.set`, `Ref.delete`, `Ref.filter` of the entries.
`delete` and `filter` are the code with the fix of finding F-1 of DESIGN.md §5 (at the commit under verification `Delete`
of an absent key dropped the last key of the order slice, and `Filter` visited a key twice).
-/
namespace OMap
variable {κ ν : Type} [DecidableEq κ]

/-! #### Set -/
theorem wf_set (m : M κ ν) (h : WF m) (k : κ) (v : ν) : WF (m.set k v) := by
  by_cases hk : m.has k
  · have hmem : k ∈ m.order := (h.dom k).2 (by simpa [M.has] using hk)
    refine ⟨by simpa [M.set, hk] using h.nodup, ?_, by simpa [M.set, hk] using h.size⟩
    intro x
    by_cases hx : x = k
    · subst hx; simp [M.set, hk, hmem]
    · simp [M.set, hk, hx, h.dom x]
  · have hnot : k ∉ m.order := fun hm => hk (by simpa [M.has] using (h.dom k).1 hm)
    refine ⟨?_, ?_, ?_⟩
    · simp only [M.set, hk]
      exact List.nodup_append.2 ⟨h.nodup, by simp, by intro a ha b hb; simp at hb; subst hb; exact fun e => hnot (e ▸ ha)⟩
    · intro x
      by_cases hx : x = k
      · subst hx; simp [M.set, hk]
      · simp [M.set, hk, hx, h.dom x]
    · simp [M.set, hk, h.size]

theorem has_iff_ref (m : M κ ν) (h : WF m) (k : κ) : Ref.has m.entries k = m.has k := by
  have : ∀ o : List κ,
      (o.filterMap (fun k => (m.data k).map (fun v => (k, v)))).any (·.1 == k) = (decide (k ∈ o) && (m.data k).isSome) := by
    intro o
    induction o with
    | nil => simp
    | cons a o ih =>
      simp only [List.filterMap_cons]
      cases hd : m.data a with
      | none =>
        have := ih
        simp only [Option.map_none, this]
        by_cases hak : k = a
        · subst hak; simp [hd]
        · simp [hak]
      | some v =>
        have := ih
        simp only [Option.map_some, List.any_cons, this]
        by_cases hak : k = a
        · subst hak; simp [hd]
        · have : (a == k) = false := by simpa using fun e => hak e.symm
          simp [hak, this]
  have h1 := this m.order
  unfold Ref.has M.entries
  rw [h1]
  by_cases hk : m.has k
  · have : k ∈ m.order := (h.dom k).2 (by simpa [M.has] using hk)
    simp [this, M.has] at hk ⊢
  · have : (m.data k).isSome = false := by simpa [M.has] using hk
    simp [this, M.has]


/-- under WF every key of `order` has a value -/
theorem data_some_of_mem (m : M κ ν) (h : WF m) {k : κ} (hk : k ∈ m.order) : ∃ v, m.data k = some v := by
  have := (h.dom k).1 hk
  cases hd : m.data k with
  | none => simp [hd] at this
  | some v => exact ⟨v, rfl⟩

theorem mem_entries_fst (m : M κ ν) {e : κ × ν} (he : e ∈ m.entries) : e.1 ∈ m.order ∧ m.data e.1 = some e.2 := by
  unfold M.entries at he
  rw [List.mem_filterMap] at he
  obtain ⟨k, hk, hf⟩ := he
  cases hd : m.data k with
  | none => simp [hd] at hf
  | some v =>
    simp [hd] at hf
    subst hf
    exact ⟨hk, hd⟩

/-- `Len` = number of iterated keys -/
theorem len_eq (m : M κ ν) (h : WF m) : m.len = m.entries.length := by
  have : ∀ o : List κ, (∀ k ∈ o, (m.data k).isSome) →
      (o.filterMap (fun k => (m.data k).map (fun v => (k, v)))).length = o.length := by
    intro o
    induction o with
    | nil => simp
    | cons a o ih =>
      intro hs
      have ha := hs a (by simp)
      cases hd : m.data a with
      | none => simp [hd] at ha
      | some v =>
        simp only [List.filterMap_cons, hd, Option.map_some, List.length_cons]
        rw [ih (fun k hk => hs k (by simp [hk]))]
  unfold M.len M.entries
  rw [this m.order (fun k hk => (h.dom k).1 hk), h.size]

/-! #### Set refines Ref.set -/
theorem entries_set (m : M κ ν) (h : WF m) (k : κ) (v : ν) :
    (m.set k v).entries = Ref.set m.entries k v := by
  unfold Ref.set
  rw [has_iff_ref m h k]
  by_cases hk : m.has k
  · simp only [hk, if_true]
    unfold M.entries M.set
    simp only [hk, if_true]
    -- order unchanged, data updated at k
    rw [List.map_filterMap]
    apply List.filterMap_congr_left
    intro x _
    by_cases hx : x = k
    · subst hx
      cases hd : m.data x with
      | none => simp [M.has, hd] at hk
      | some w => simp
    · cases hd : m.data x <;> simp [hx, hd]
  · simp only [hk, Bool.false_eq_true, if_false]
    have hnot : k ∉ m.order := fun hm => hk (by simpa [M.has] using (h.dom k).1 hm)
    unfold M.entries M.set
    simp only [hk, Bool.false_eq_true, if_false, List.filterMap_append]
    congr 1
    · apply List.filterMap_congr_left
      intro x hx
      have : x ≠ k := fun e => hnot (e ▸ hx)
      simp [this]
    · simp


/-! #### Delete refines Ref.delete -/
theorem wf_delete (m : M κ ν) (h : WF m) (k : κ) : WF (m.delete k) := by
  refine ⟨?_, ?_, ?_⟩
  · exact h.nodup.erase k
  · intro x
    by_cases hx : x = k
    · subst hx
      simp [M.delete, List.Nodup.mem_erase_iff h.nodup]
    · simp [M.delete, hx, List.Nodup.mem_erase_iff h.nodup, h.dom x]
  · by_cases hk : m.has k
    · have hmem : k ∈ m.order := (h.dom k).2 (by simpa [M.has] using hk)
      simp [M.delete, hk, h.size, List.length_erase_of_mem hmem]
    · have hnot : k ∉ m.order := fun hm => hk (by simpa [M.has] using (h.dom k).1 hm)
      simp [M.delete, hk, h.size, List.erase_of_not_mem hnot]

theorem entries_delete (m : M κ ν) (h : WF m) (k : κ) :
    (m.delete k).entries = Ref.delete m.entries k := by
  unfold M.entries M.delete Ref.delete
  simp only
  rw [h.nodup.erase_eq_filter k]
  have : ∀ o : List κ,
      (o.filter (· != k)).filterMap (fun x => (if x = k then none else m.data x).map (fun w => (x, w)))
        = (o.filterMap (fun x => (m.data x).map (fun w => (x, w)))).filter (fun e => e.1 != k) := by
    intro o
    induction o with
    | nil => rfl
    | cons a o ih =>
      by_cases hak : a = k
      · subst hak
        cases hd : m.data a with
        | none => simp [hd, ih]
        | some w => simp [hd, ih]
      · have h1 : (a != k) = true := by simp [hak]
        cases hd : m.data a with
        | none => simp [List.filter_cons, h1, hak, hd, ih]
        | some w => simp [List.filter_cons, h1, hak, hd, ih]
  exact this m.order

/-- deleting an absent key changes nothing observable -/
theorem delete_absent (m : M κ ν) (h : WF m) (k : κ) (hk : m.has k = false) :
    (m.delete k).entries = m.entries ∧ (m.delete k).len = m.len := by
  constructor
  · rw [entries_delete m h k]
    unfold Ref.delete
    apply List.filter_eq_self.2
    intro e he
    have := mem_entries_fst m he
    have : e.1 ≠ k := by
      intro heq
      rw [heq] at this
      simp [M.has, this.2] at hk
    simpa using this
  · simp [M.delete, M.len, hk]


/-! #### Filter refines Ref.filter and visits every entry exactly once, in order -/

theorem entries_unique (m : M κ ν) {e : κ × ν} (he : e ∈ m.entries) {v : ν} (hv : m.data e.1 = some v) : e.2 = v := by
  have := (mem_entries_fst m he).2
  rw [hv] at this
  exact (Option.some.inj this).symm

/-- the loop of `filter` with the keys `ks` still to visit: what has been visited and fails `p` is gone (second
conjunct), and the trace of visited keys gains `ks` in order -/
theorem filterAux_spec (p : κ → ν → Bool) (ks : List κ) (m : M κ ν) (tr : List κ)
    (h : WF m) (hks : ks.Nodup) (hsub : ∀ k ∈ ks, k ∈ m.order) :
    WF (M.filterAux p ks m tr).1 ∧
    (M.filterAux p ks m tr).1.entries = m.entries.filter (fun e => decide (e.1 ∉ ks) || p e.1 e.2) ∧
    (M.filterAux p ks m tr).2 = tr ++ ks := by
  induction ks generalizing m tr with
  | nil =>
    refine ⟨h, ?_, by simp [M.filterAux]⟩
    simp only [M.filterAux, List.not_mem_nil, not_false_eq_true, decide_true, Bool.true_or]
    exact (List.filter_eq_self.2 (fun _ _ => rfl)).symm
  | cons k ks ih =>
    have hn := List.nodup_cons.1 hks
    obtain ⟨v, hv⟩ := data_some_of_mem m h (hsub k (by simp))
    simp only [M.filterAux, hv]
    by_cases hp : p k v
    · simp only [hp, if_true]
      obtain ⟨w1, w2, w3⟩ := ih m (tr ++ [k]) h hn.2 (fun x hx => hsub x (by simp [hx]))
      refine ⟨w1, ?_, by simp [w3]⟩
      rw [w2]
      apply List.filter_congr
      intro e he
      by_cases hek : e.1 = k
      · have : e.2 = v := entries_unique m he (hek ▸ hv)
        simp [hek, this, hp]
      · simp [hek]
    · simp only [hp, Bool.false_eq_true, if_false]
      have hwf' := wf_delete m h k
      have hsub' : ∀ x ∈ ks, x ∈ (m.delete k).order := by
        intro x hx
        have : x ≠ k := fun e => hn.1 (e ▸ hx)
        simp [M.delete, List.Nodup.mem_erase_iff h.nodup, this, hsub x (by simp [hx])]
      obtain ⟨w1, w2, w3⟩ := ih (m.delete k) (tr ++ [k]) hwf' hn.2 hsub'
      refine ⟨w1, ?_, by simp [w3]⟩
      rw [w2, entries_delete m h k]
      unfold Ref.delete
      rw [List.filter_filter]
      apply List.filter_congr
      intro e he
      by_cases hek : e.1 = k
      · have : e.2 = v := entries_unique m he (hek ▸ hv)
        simp [hek, this, hp]
      · simp [hek]

theorem filter_refines (m : M κ ν) (h : WF m) (p : κ → ν → Bool) :
    WF (m.filter p).1 ∧ (m.filter p).1.entries = Ref.filter m.entries p ∧ (m.filter p).2 = m.order := by
  obtain ⟨w1, w2, w3⟩ := filterAux_spec p m.order m [] h h.nodup (fun k hk => hk)
  refine ⟨w1, ?_, by simpa [M.filter] using w3⟩
  unfold M.filter Ref.filter
  rw [w2]
  apply List.filter_congr
  intro e he
  have := (mem_entries_fst m he).1
  simp [this]

end OMap

#print axioms OMap.filter_refines
#print axioms OMap.entries_set
#print axioms OMap.entries_delete
