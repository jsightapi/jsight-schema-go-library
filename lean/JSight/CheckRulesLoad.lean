import JSight.CheckRulesCompile
import JSight.ListFacts
/-!
Loading the annotation rule by rule = reading the rule SET: a generic fold lemma (`foldO_some`: the fold of
"add these fresh bindings" steps succeeds iff every rule is readable, the names are pairwise different and the map it
starts from has none of the rules' keys, and then the map is the rule set looked up by name, laid over the start), the value loaders against the specification's value predicates (the
`toOpt_load…` lemmas), and the per-rule lemma `loadRule = stepO readRule` (`toOpt_loadRule_step`). The `O` of `stepO`,
`foldO`: the loader as an `Option`, the error code forgotten (`toOpt`).
-/
namespace CR

/-! ### a fold of "add these fresh bindings" steps -/

/-- the bindings `bs` written into `m`, in order -/
def setAll (m : CMap) (bs : List (CT × CV)) : CMap := bs.foldl (fun m b => m.set b.1 b.2) m
/-- `m` has none of the keys of `bs` -/
def fresh (m : CMap) (bs : List (CT × CV)) : Bool := bs.all fun b => !m.has b.1
def keysOf (bs : List (CT × CV)) : List CT := bs.map (·.1)

/-- one rule: its bindings, all fresh -/
def stepO (rd : Rule → Option (List (CT × CV))) (m : CMap) (r : Rule) : Option CMap :=
  (rd r).bind fun bs => if fresh m bs then some (setAll m bs) else none

/-- the rules one after the other -/
def foldO (rd : Rule → Option (List (CT × CV))) : CMap → List Rule → Option CMap
  | m, [] => some m
  | m, r :: rs => (stepO rd m r).bind fun m' => foldO rd m' rs

theorem mem_keysOf {bs : List (CT × CV)} {b : CT × CV} (h : b ∈ bs) : b.1 ∈ keysOf bs := List.mem_map.2 ⟨b, h, rfl⟩

theorem toOpt_foldlM {α : Type} (f : CMap → α → Except Code CMap) (g : CMap → α → Option CMap)
    (h : ∀ m a, toOpt (f m a) = g m a) (m : CMap) (l : List α) :
    toOpt (l.foldlM f m) = l.foldlM g m := by
  induction l generalizing m with
  | nil => rfl
  | cons a l ih =>
    simp only [List.foldlM_cons, toOpt_bind, h]
    cases g m a with
    | none => rfl
    | some m' => simp [ih]

theorem foldlM_inv {I : CMap → List Rule → Prop} {f g : CMap → Rule → Option CMap}
    (hstep : ∀ m r rest, I m (r :: rest) → f m r = g m r)
    (hpres : ∀ m r rest m', I m (r :: rest) → g m r = some m' → I m' rest) :
    ∀ (m : CMap) (rs : List Rule), I m rs → rs.foldlM f m = rs.foldlM g m := by
  intro m rs
  induction rs generalizing m with
  | nil => intro _; rfl
  | cons r rest ih =>
    intro hI
    simp only [List.foldlM_cons]
    rw [hstep m r rest hI]
    cases hg : g m r with
    | none => rfl
    | some m' => simp only [Option.bind_eq_bind, Option.bind_some]; exact ih m' (hpres m r rest m' hI hg)

theorem foldO_eq (rd : Rule → Option (List (CT × CV))) (m : CMap) (rs : List Rule) :
    rs.foldlM (stepO rd) m = foldO rd m rs := by
  induction rs generalizing m with
  | nil => rfl
  | cons r rs ih =>
    simp only [List.foldlM_cons, foldO]
    cases stepO rd m r with
    | none => rfl
    | some m' => simp [ih]

theorem setAll_apply_not_mem (m : CMap) (bs : List (CT × CV)) (k : CT) (h : k ∉ keysOf bs) : setAll m bs k = m k := by
  induction bs generalizing m with
  | nil => rfl
  | cons b bs ih =>
    simp only [keysOf, List.map_cons, List.mem_cons, not_or] at h
    simp only [setAll, List.foldl_cons]
    have := ih (m.set b.1 b.2) (by simpa [keysOf] using h.2)
    simp only [setAll] at this
    rw [this, set_other _ _ h.1]

theorem setAll_apply_mem (m : CMap) (bs : List (CT × CV)) (hn : (keysOf bs).Nodup) (k : CT) (v : CV)
    (h : (k, v) ∈ bs) : setAll m bs k = some v := by
  induction bs generalizing m with
  | nil => cases h
  | cons b bs ih =>
    simp only [keysOf, List.map_cons, List.nodup_cons] at hn
    simp only [setAll, List.foldl_cons]
    rcases List.mem_cons.1 h with e | e
    · subst e
      have := setAll_apply_not_mem (m.set k v) bs k (by simpa [keysOf] using hn.1)
      simp only [setAll] at this
      rw [this]; simp
    · have := ih (m.set b.1 b.2) (by simpa [keysOf] using hn.2) e
      simpa [setAll] using this

theorem setAll_apply (m : CMap) (bs : List (CT × CV)) (hn : (keysOf bs).Nodup) (k : CT) :
    setAll m bs k = match bs.lookup k with | some v => some v | none => m k := by
  cases h : bs.lookup k with
  | none => simp only; exact setAll_apply_not_mem m bs k (List.not_mem_of_lookup_eq_none bs k h)
  | some v => simp only; exact setAll_apply_mem m bs hn k v (List.mem_of_lookup_eq_some bs k v h)

theorem setAll_has (m : CMap) (bs : List (CT × CV)) (hn : (keysOf bs).Nodup) (k : CT) :
    (setAll m bs).has k = (decide (k ∈ keysOf bs) || m.has k) := by
  unfold CMap.has
  rw [setAll_apply m bs hn]
  cases h : bs.lookup k with
  | none => have : k ∉ keysOf bs := List.not_mem_of_lookup_eq_none bs k h; simp [this]
  | some v =>
    have : k ∈ keysOf bs := mem_keysOf (List.mem_of_lookup_eq_some bs k v h)
    simp [this]

/-- the keys a rule binds depend on its name only; different names bind different keys, and a rule binds at least one
(`nonempty`: so two rules of one name do clash) -/
structure KeyFn (rd : Rule → Option (List (CT × CV))) (nk : Bytes → List CT) : Prop where
  keys : ∀ r bs, rd r = some bs → keysOf bs = nk r.1
  nodup : ∀ a, (nk a).Nodup
  nonempty : ∀ r bs, rd r = some bs → bs ≠ []
  disj : ∀ a b, a ≠ b → ∀ k, k ∈ nk a → k ∉ nk b

theorem KeyFn.mem_keys {rd : Rule → Option (List (CT × CV))} {nk : Bytes → List CT} (hK : KeyFn rd nk) {r : Rule}
    {bs : List (CT × CV)} (hr : rd r = some bs) {b : CT × CV} (hb : b ∈ bs) : b.1 ∈ nk r.1 :=
  hK.keys r bs hr ▸ mem_keysOf hb

theorem readSet_cons (rd : Rule → Option (List (CT × CV))) (r : Rule) (rs : List Rule) (k : CT) :
    readSet rd (r :: rs) k = match (rd r).bind (fun bs => bs.lookup k) with
      | some v => some v
      | none => readSet rd rs k := by
  unfold readSet
  simp only [List.findSome?_cons]
  cases (rd r).bind (fun bs => bs.lookup k) <;> rfl

/-- what a readable rule binds -/
theorem readSet_some_binding {rd : Rule → Option (List (CT × CV))} {rs : List Rule} {k : CT} {v : CV}
    (h : readSet rd rs k = some v) : ∃ r ∈ rs, ∃ bs, rd r = some bs ∧ (k, v) ∈ bs := by
  induction rs with
  | nil => simp [readSet] at h
  | cons r rs ih =>
    rw [readSet_cons] at h
    cases hb : (rd r).bind (fun bs => bs.lookup k) with
    | none =>
      rw [hb] at h
      obtain ⟨r', hr', bs, hbs, hm⟩ := ih h
      exact ⟨r', List.mem_cons_of_mem _ hr', bs, hbs, hm⟩
    | some v' =>
      rw [hb] at h; simp only [Option.some.injEq] at h; subst h
      cases hr : rd r with
      | none => rw [hr] at hb; cases hb
      | some bs =>
        rw [hr] at hb; simp only [Option.bind_some] at hb
        exact ⟨r, List.mem_cons_self .., bs, hr, List.mem_of_lookup_eq_some bs k v' hb⟩

theorem readSet_some_key {rd : Rule → Option (List (CT × CV))} {nk : Bytes → List CT} (hK : KeyFn rd nk)
    {rs : List Rule} {k : CT} {v : CV} (h : readSet rd rs k = some v) : ∃ r ∈ rs, k ∈ nk r.1 := by
  obtain ⟨r, hr, bs, hbs, hm⟩ := readSet_some_binding h
  exact ⟨r, hr, hK.mem_keys hbs hm⟩

/-- `top` where it is defined, `base` elsewhere -/
def overlay (top base : CMap) : CMap := fun k => match top k with | some v => some v | none => base k

/-- the rules after `r` bind none of its keys: binding `r` first, or reading it with the others, is the same map -/
theorem overlay_cons {rd : Rule → Option (List (CT × CV))} {nk : Bytes → List CT} (hK : KeyFn rd nk)
    {r : Rule} {bs : List (CT × CV)} (hr : rd r = some bs) {rs : List Rule} (m0 : CMap)
    (hdisj : ∀ r' ∈ rs, ∀ k ∈ nk r'.1, k ∉ nk r.1) :
    overlay (readSet rd rs) (setAll m0 bs) = overlay (readSet rd (r :: rs)) m0 := by
  have hkeys := hK.keys r bs hr
  funext k
  simp only [overlay]
  rw [readSet_cons, hr]
  simp only [Option.bind_some]
  rw [setAll_apply m0 bs (by rw [hkeys]; exact hK.nodup _)]
  cases hl : bs.lookup k with
  | none => rfl
  | some v =>
    simp only
    cases hrs : readSet rd rs k with
    | none => rfl
    | some v' =>
      exfalso
      obtain ⟨r', hr', hk'⟩ := readSet_some_key hK hrs
      apply hdisj r' hr' k hk'
      exact hK.mem_keys hr (List.mem_of_lookup_eq_some bs k v hl)

theorem foldO_some {rd : Rule → Option (List (CT × CV))} {nk : Bytes → List CT} (hK : KeyFn rd nk)
    (m0 : CMap) (rs : List Rule) (m : CMap) :
    foldO rd m0 rs = some m ↔
      ((∀ r ∈ rs, (rd r).isSome = true) ∧ (namesOf rs).Nodup ∧ (∀ r ∈ rs, ∀ k ∈ nk r.1, m0.has k = false)
        ∧ m = overlay (readSet rd rs) m0) := by
  induction rs generalizing m0 with
  | nil =>
    simp only [foldO, Option.some.injEq, List.not_mem_nil, false_implies, implies_true, namesOf, List.map_nil,
      List.nodup_nil, true_and]
    have : overlay (readSet rd []) m0 = m0 := by funext k; simp [overlay, readSet]
    rw [this]; exact eq_comm
  | cons r rs ih =>
    simp only [foldO]
    cases hr : rd r with
    | none =>
      simp only [stepO, hr, Option.bind_none]
      constructor
      · intro h; cases h
      · intro h; have := h.1 r (List.mem_cons_self ..); rw [hr] at this; cases this
    | some bs =>
      have hkeys := hK.keys r bs hr
      have hnd : (keysOf bs).Nodup := by rw [hkeys]; exact hK.nodup _
      by_cases hf : fresh m0 bs = true
      · simp only [stepO, hr, Option.bind_some, hf, if_true]
        rw [ih (setAll m0 bs)]
        have hfresh : ∀ k ∈ nk r.1, m0.has k = false := by
          intro k hk
          rw [← hkeys] at hk
          simp only [keysOf, List.mem_map] at hk
          obtain ⟨b, hb, e⟩ := hk
          have := List.all_eq_true.1 hf b hb
          subst e; simpa using this
        constructor
        · rintro ⟨h1, h2, h3, h4⟩
          have hdisj : ∀ r' ∈ rs, ∀ k ∈ nk r'.1, k ∉ nk r.1 ∧ m0.has k = false := by
            intro r' hr' k hk
            have := h3 r' hr' k hk
            rw [setAll_has m0 bs hnd, hkeys] at this
            simp only [Bool.or_eq_false_iff, decide_eq_false_iff_not] at this
            exact this
          refine ⟨?_, ?_, ?_, ?_⟩
          · intro r' hr'
            rcases List.mem_cons.1 hr' with e | e
            · subst e; rw [hr]; rfl
            · exact h1 r' e
          · simp only [namesOf, List.map_cons, List.nodup_cons]
            refine ⟨?_, h2⟩
            intro hmem
            simp only [List.mem_map] at hmem
            obtain ⟨r', hr', e⟩ := hmem
            -- r' has the same name as r: its keys are r's keys, not empty
            obtain ⟨bs', hbs'⟩ := Option.isSome_iff_exists.1 (h1 r' hr')
            have hne := hK.nonempty r' bs' hbs'
            have hk' := hK.keys r' bs' hbs'
            cases bs' with
            | nil => exact hne rfl
            | cons b _ =>
              have : b.1 ∈ nk r'.1 := by rw [← hk']; simp [keysOf]
              have h' := (hdisj r' hr' b.1 this).1
              rw [e] at this; exact h' this
          · intro r' hr' k hk
            rcases List.mem_cons.1 hr' with e | e
            · subst e; exact hfresh k hk
            · exact (hdisj r' e k hk).2
          · rw [h4]; exact overlay_cons hK hr m0 fun r' hr' k hk => (hdisj r' hr' k hk).1
        · rintro ⟨h1, h2, h3, h4⟩
          simp only [namesOf, List.map_cons, List.nodup_cons] at h2
          have hdisj : ∀ r' ∈ rs, ∀ k ∈ nk r'.1, k ∉ nk r.1 := by
            intro r' hr' k hk
            have hne : r'.1 ≠ r.1 := by
              intro e; apply h2.1; simp only [List.mem_map]; exact ⟨r', hr', e⟩
            exact hK.disj r'.1 r.1 hne k hk
          refine ⟨fun r' hr' => h1 r' (List.mem_cons_of_mem _ hr'), h2.2, ?_, ?_⟩
          · intro r' hr' k hk
            rw [setAll_has m0 bs hnd, hkeys]
            simp only [Bool.or_eq_false_iff, decide_eq_false_iff_not]
            exact ⟨hdisj r' hr' k hk, h3 r' (List.mem_cons_of_mem _ hr') k hk⟩
          · rw [h4]; exact (overlay_cons hK hr m0 hdisj).symm
      · simp only [stepO, hr, Option.bind_some, hf]
        constructor
        · intro h; simp at h
        · rintro ⟨_, _, h3, _⟩
          exfalso; apply hf
          apply List.all_eq_true.2
          intro b hb
          have : b.1 ∈ nk r.1 := hK.mem_keys hr hb
          have := h3 r (List.mem_cons_self ..) b.1 this
          simp [this]

theorem foldO_none_of {rd : Rule → Option (List (CT × CV))} {nk : Bytes → List CT} (hK : KeyFn rd nk) (m0 : CMap) (rs : List Rule)
    (h : ¬ ((∀ r ∈ rs, (rd r).isSome = true) ∧ (namesOf rs).Nodup ∧ (∀ r ∈ rs, ∀ k ∈ nk r.1, m0.has k = false))) :
    foldO rd m0 rs = none := by
  cases hf : foldO rd m0 rs with
  | none => rfl
  | some m =>
    have := (foldO_some hK m0 rs m).1 hf
    exact absurd ⟨this.1, this.2.1, this.2.2.1⟩ h

/-! ### names -/

/-- the bytes of a rule name: `rnameTable` read backwards (`table_bytes`, `ofBytes_bytes`); the bridge has the same table
under its own name, `BridgeCR.rbytes` -/
def RName.bytes : RName → Bytes
  | .minLength => n_minLength | .maxLength => n_maxLength | .min => n_min | .max => n_max
  | .exclusiveMinimum => n_exclusiveMinimum | .exclusiveMaximum => n_exclusiveMaximum | .type => n_type
  | .precision => n_precision | .optional => n_optional | .minItems => n_minItems | .maxItems => n_maxItems
  | .additionalProperties => n_additionalProperties | .nullable => n_nullable | .regex => n_regex
  | .const => n_const | .or => n_or | .enum => n_enum | .allOf => n_allOf

theorem table_bytes : ∀ p ∈ rnameTable, p.1 = p.2.bytes := by decide

theorem ofBytes_some {b : Bytes} {r : RName} (h : RName.ofBytes b = some r) : b = r.bytes :=
  table_bytes (b, r) (List.mem_of_lookup_eq_some _ _ _ h)

theorem ofBytes_bytes (r : RName) : RName.ofBytes r.bytes = some r := by cases r <;> decide

theorem ofBytes_inj {a b : Bytes} {r : RName} (ha : RName.ofBytes a = some r) (hb : RName.ofBytes b = some r) : a = b := by
  rw [ofBytes_some ha, ofBytes_some hb]

theorem ofBytes_or (b : Bytes) : RName.ofBytes b = some .or ↔ b = n_or :=
  ⟨fun h => ofBytes_some h, fun h => by rw [h]; decide⟩
theorem ofBytes_enum (b : Bytes) : RName.ofBytes b = some .enum ↔ b = n_enum :=
  ⟨fun h => ofBytes_some h, fun h => by rw [h]; decide⟩
theorem ofBytes_allOf (b : Bytes) : RName.ofBytes b = some .allOf ↔ b = n_allOf :=
  ⟨fun h => ofBytes_some h, fun h => by rw [h]; decide⟩

/-- `RName.ct` keeps the position in the declaration -/
theorem ct_ctorIdx (r : RName) : r.ct.ctorIdx = r.ctorIdx := by cases r <;> rfl

theorem ct_inj {r r' : RName} (h : r.ct = r'.ct) : r = r' := by
  rw [← RName.ofNat_ctorIdx r, ← RName.ofNat_ctorIdx r', ← ct_ctorIdx, ← ct_ctorIdx, h]
theorem ct_ne_typesList (r : RName) : r.ct ≠ .typesList := by cases r <;> simp [RName.ct]

/-! ### literal values -/

theorem toOpt_mkLit (env : Env) (name tok : Bytes) :
    toOpt (mkLit env name tok) = match RName.ofBytes name with
      | some r => (readLit env r tok).map fun v => (r.ct, v)
      | none => none := by
  unfold mkLit
  cases RName.ofBytes name with
  | none => rfl
  | some r =>
    cases r with
    | minLength | maxLength | minItems | maxItems => simp only [readLit]; cases parseUint tok <;> rfl
    | min | max => simp only [readLit]; cases RulesF.number tok <;> rfl
    | exclusiveMinimum | exclusiveMaximum | optional | nullable | const =>
      simp only [readLit]; cases parseBool tok <;> rfl
    | precision =>
      simp only [readLit]
      cases parseUint tok with
      | none => rfl
      | some n => simp only [Option.bind_some]; split <;> rfl
    | additionalProperties | regex => simp only [readLit]; split <;> rfl
    | type | or | enum | allOf => rfl

/-! ### enum and allOf values -/

theorem loadEnumItems_ok (items : List Val) (seen : List (Option (Bytes × Rules.Kind))) :
    isOk (loadEnumItems items seen) = true ↔
      ((∀ v ∈ items, v.isLit = true) ∧ (items.map fun v => enumKey v.tok).Nodup
        ∧ ∀ v ∈ items, enumKey v.tok ∉ seen) := by
  induction items generalizing seen with
  | nil => simp [loadEnumItems, isOk]
  | cons v rest ih =>
    cases v with
    | lit tok =>
      simp only [loadEnumItems]
      by_cases hm : enumKey tok ∈ seen
      · simp [hm, isOk, Val.tok]
      · simp only [hm, if_false]
        rw [ih]
        simp only [List.mem_cons, forall_eq_or_imp, Val.isLit, Val.tok, List.map_cons, List.nodup_cons, true_and,
          List.mem_map, not_or, not_exists, not_and]
        constructor
        · rintro ⟨h1, h2, h3⟩
          exact ⟨h1, ⟨fun x hx e => (h3 x hx).1 e, h2⟩, hm, fun x hx => (h3 x hx).2⟩
        · rintro ⟨h1, ⟨h2, h3⟩, _, h4⟩
          exact ⟨h1, h3, fun x hx => ⟨fun e => h2 x hx e, h4 x hx⟩⟩
    | _ => simp [loadEnumItems, isOk, Val.isLit]

theorem isOk_loadEnumValue (env : Env) (v : Val) : isOk (loadEnumValue env v) = enumValueOK env v := by
  cases v with
  | arr items =>
    simp only [loadEnumValue, enumValueOK]
    rw [Bool.eq_iff_iff, loadEnumItems_ok]
    simp
  | ref name => simp only [loadEnumValue, enumValueOK]; split <;> simp_all [isOk]
  | _ => rfl

theorem toOpt_allOfName (tok : Bytes) :
    toOpt (allOfName tok) = if typeNameTokOK tok then some (Unquote.unquote tok) else none := by
  unfold allOfName typeNameTokOK
  cases Unquote.inQuotes tok <;> cases isUserTypeName (Unquote.unquote tok) <;> simp

theorem toOpt_loadAllOfItems (items : List Val) (acc : List Bytes) :
    toOpt (loadAllOfItems items acc) =
      if (items.all fun v => v.isLit && typeNameTokOK v.tok) then some (acc ++ items.map fun v => Unquote.unquote v.tok)
      else none := by
  induction items generalizing acc with
  | nil => simp [loadAllOfItems]
  | cons v rest ih =>
    cases v with
    | lit tok =>
      have e1 : (Val.lit tok).isLit = true := rfl
      have e2 : (Val.lit tok).tok = tok := rfl
      simp only [loadAllOfItems, toOpt_bind, toOpt_allOfName, List.all_cons, List.map_cons, e1, e2, Bool.true_and]
      cases typeNameTokOK tok
      · simp
      · simp only [if_true, Option.bind_some, ih, Bool.true_and, List.append_assoc, List.singleton_append]
    | _ => simp [loadAllOfItems, Val.isLit]

theorem toOpt_map {ε α β : Type} (x : Except ε α) (f : α → β) : toOpt (x.map f) = (toOpt x).map f := by
  cases x <;> rfl

theorem toOpt_loadAllOfValue (v : Val) :
    toOpt (loadAllOfValue v) = if allOfValueOK v then some (allOfNames v) else none := by
  cases v with
  | lit tok =>
    simp only [loadAllOfValue, allOfValueOK, allOfNames]
    rw [toOpt_map, toOpt_allOfName]
    by_cases h : typeNameTokOK tok = true <;> simp [h]
  | arr items => simp only [loadAllOfValue, allOfValueOK, allOfNames, toOpt_loadAllOfItems]; simp
  | _ => rfl

/-! ### member rule-sets -/

theorem readLit_allOf {env : Env} {r : RName} {tok : Bytes} {v : CV} (h : readLit env r tok = some v) : r.ct ≠ .allOf ∧ r.ct ≠ .or := by
  cases r <;> simp [RName.ct] <;> simp [readLit] at h

theorem readSetRule_enum {env : Env} {e : Rule} (h : RName.ofBytes e.1 = some .enum) : readSetRule env e =
    if enumValueOK env e.2 then some [(.enum, .unit)] else none := by
  unfold readSetRule; rw [h]

theorem readSetRule_none {env : Env} {e : Rule} (h : RName.ofBytes e.1 = none) : readSetRule env e = none := by
  unfold readSetRule; rw [h]

theorem readSetRule_lit {env : Env} {e : Rule} {r : RName} (h : RName.ofBytes e.1 = some r) (h2 : r ≠ .enum) :
    readSetRule env e =
    match e.2 with
    | .lit tok => (readLit env r tok).map fun v => [(r.ct, v)]
    | _ => none := by
  unfold readSetRule; rw [h]
  cases r <;> first | rfl | contradiction | (cases e.2 <;> rfl)

/-- the keys a rule of that NAME binds inside a member rule-set of an `or`: its constraint type -/
def nkSet (name : Bytes) : List CT :=
  match RName.ofBytes name with
  | some r => [r.ct]
  | none => []

theorem readSetRule_shape {env : Env} {e : Rule} {bs : List (CT × CV)} (h : readSetRule env e = some bs) :
    ∃ r v, RName.ofBytes e.1 = some r ∧ bs = [(r.ct, v)] ∧ r ≠ .or ∧ r ≠ .allOf ∧
      ((r = .enum ∧ v = .unit) ∨ ∃ tok, e.2 = .lit tok ∧ readLit env r tok = some v) := by
  cases hr : RName.ofBytes e.1 with
  | none => rw [readSetRule_none hr] at h; cases h
  | some r =>
    by_cases h2 : r = .enum
    · subst h2
      rw [readSetRule_enum hr] at h
      split at h
      · exact ⟨.enum, .unit, rfl, (Option.some.inj h).symm, by decide, by decide, Or.inl ⟨rfl, rfl⟩⟩
      · cases h
    rw [readSetRule_lit hr h2] at h
    cases hv : e.2 with
    | lit tok =>
      rw [hv] at h; simp only [Option.map_eq_some_iff] at h
      obtain ⟨v, hv', e'⟩ := h
      have hl := readLit_allOf hv'
      exact ⟨r, v, rfl, e'.symm, fun e => hl.2 (e ▸ rfl), fun e => hl.1 (e ▸ rfl), Or.inr ⟨tok, rfl, hv'⟩⟩
    | _ => rw [hv] at h; cases h

theorem keyFn_set (env : Env) : KeyFn (readSetRule env) nkSet where
  keys := by
    intro r bs h
    obtain ⟨rn, v, hr, hb, _⟩ := readSetRule_shape h
    simp [nkSet, hr, hb, keysOf]
  nodup := by intro a; unfold nkSet; split <;> simp
  nonempty := by
    intro r bs h
    obtain ⟨rn, v, hr, hb, _⟩ := readSetRule_shape h
    simp [hb]
  disj := by
    intro a b hab k hk hk'
    unfold nkSet at hk hk'
    cases ha : RName.ofBytes a with
    | none => rw [ha] at hk; simp at hk
    | some ra =>
      cases hb : RName.ofBytes b with
      | none => rw [hb] at hk'; simp at hk'
      | some rb =>
        rw [ha] at hk; rw [hb] at hk'
        simp at hk hk'
        have := ct_inj (hk.symm.trans hk')
        subst this
        exact hab (ofBytes_inj ha hb)

theorem setAll_single (m : CMap) (k : CT) (v : CV) : setAll m [(k, v)] = m.set k v := rfl
theorem fresh_single (m : CMap) (k : CT) (v : CV) : fresh m [(k, v)] = !m.has k := by simp [fresh]

theorem toOpt_loadEnumValue (env : Env) (v : Val) :
    toOpt (loadEnumValue env v) = if enumValueOK env v then some () else none := by
  rw [← isOk_loadEnumValue]; cases loadEnumValue env v <;> rfl

/-- an `enum` rule, in a member rule-set or in the annotation: the constraint is added, then the value is loaded -/
theorem toOpt_enum_entry (env : Env) (m : CMap) (v : Val) :
    toOpt (addBase m .enum .unit >>= fun m => loadEnumValue env v >>= fun _ => .ok m) =
      (if enumValueOK env v then some [(CT.enum, CV.unit)] else none).bind fun bs =>
        if fresh m bs then some (setAll m bs) else none := by
  simp only [toOpt_bind, toOpt_addBase, toOpt_loadEnumValue]
  cases hm : m.has .enum <;> cases enumValueOK env v <;> simp [fresh_single, setAll_single, hm]

theorem bind_single (m : CMap) (k : CT) (x : Option CV) :
    ((x.map fun v => (k, v)).bind fun kv => if m.has kv.1 = true then none else some (m.set kv.1 kv.2))
    = ((x.map fun v => [(k, v)]).bind fun bs => if fresh m bs = true then some (setAll m bs) else none) := by
  cases x with
  | none => rfl
  | some v => simp only [Option.map_some, Option.bind_some, fresh_single, setAll_single]; cases m.has k <;> rfl

theorem toOpt_loadSetEntry (env : Env) (m : CMap) (e : Rule) :
    toOpt (loadSetEntry env m e) = stepO (readSetRule env) m e := by
  unfold loadSetEntry stepO
  by_cases hen : e.1 = n_enum
  · rw [if_pos hen, readSetRule_enum ((ofBytes_enum e.1).2 hen)]
    exact toOpt_enum_entry env m e.2
  · rw [if_neg hen]
    cases hr : RName.ofBytes e.1 with
    | none =>
      rw [readSetRule_none hr]
      cases e.2 with
      | lit tok => simp only [toOpt_bind, toOpt_mkLit, hr]; rfl
      | _ => rfl
    | some r =>
      rw [readSetRule_lit hr fun h => hen ((ofBytes_enum _).1 (h ▸ hr))]
      cases e.2 with
      | lit tok => simp only [toOpt_bind, toOpt_mkLit, hr, toOpt_addBase]; exact bind_single m _ _
      | _ => rfl

theorem overlay_empty (top : CMap) : overlay top CMap.empty = top := by
  funext k; simp only [overlay, CMap.empty]; cases top k <;> rfl

/-- a readable rule list binds the keys of each of its rules -/
theorem readSet_has {rd : Rule → Option (List (CT × CV))} {nk : Bytes → List CT} (hK : KeyFn rd nk) {rs : List Rule}
    (hall : ∀ r ∈ rs, (rd r).isSome = true) {r : Rule} (hr : r ∈ rs) {k : CT} (hk : k ∈ nk r.1) :
    (readSet rd rs).has k = true := by
  induction rs with
  | nil => cases hr
  | cons r0 rs ih =>
    unfold CMap.has
    rw [readSet_cons]
    obtain ⟨bs0, hbs0⟩ := Option.isSome_iff_exists.1 (hall r0 (List.mem_cons_self ..))
    rw [hbs0]; simp only [Option.bind_some]
    cases hl : bs0.lookup k with
    | some v => rfl
    | none =>
      simp only
      rcases List.mem_cons.1 hr with e | e
      · subst e
        rw [← hK.keys r bs0 hbs0] at hk
        exact absurd hk (List.not_mem_of_lookup_eq_none bs0 k hl)
      · exact ih (fun r' hr' => hall r' (List.mem_cons_of_mem _ hr')) e

/-! ### the compiler alone (an `or` member is compiled, not checked) -/

/-- for an `or` member (no allOf in its rule-set) compiling is the whole check -/
theorem isOk_compile_member (S : CMap) (hS : Shape S) (hA : S .allOf = none) :
    isOk (compile memberCtx S) = Consistent memberCtx S := by
  rw [← pipeline_iff memberCtx S (by decide) hS, pipelineOK, isOk_eq, toOpt_compile]
  have h1 : allOfOK memberCtx (m7 S) = true := by
    rw [N_allOf memberCtx S hS]; simp [AllOfNamesSomething, hA, CMap.has]
  have h2 : compatOK memberCtx (mF S) = true := by simp [compatOK, memberCtx]
  rw [h1, h2]
  cases compileOK memberCtx S <;> rfl

/-- a step whose result is not used -/
theorem toOpt_then {α β : Type} (x : Except Code α) (b : β) :
    toOpt (x >>= fun _ => .ok b) = if isOk x then some b else none := by
  cases x <;> rfl

/-! ### the shape of a read rule set -/

theorem ct_cases (r : RName) : r.ct ≠ .typesList ∧ r.ct ≠ .any ∧ r.ct ≠ .email ∧ r.ct ≠ .uri ∧ r.ct ≠ .uuid
    ∧ r.ct ≠ .date ∧ r.ct ≠ .datetime := by cases r <;> simp [RName.ct]

theorem readLit_type {env : Env} {r : RName} {tok : Bytes} {v : CV} (h : readLit env r tok = some v) (hr : r.ct = .type) :
    v = .type tok false := by
  cases r <;> simp [RName.ct] at hr
  simpa [readLit] using h.symm

theorem readLit_min {env : Env} {r : RName} {tok : Bytes} {a : Num.N} {e : Bool} (h : readLit env r tok = some (.num a e)) :
    e = false := by
  cases r with
  | min | max =>
    simp only [readLit, Option.map_eq_some_iff, CV.num.injEq] at h
    obtain ⟨_, _, _, h⟩ := h
    exact h.symm
  | precision =>
    simp only [readLit, Option.bind_eq_some_iff] at h
    obtain ⟨n, _, h⟩ := h
    split at h <;> cases h
  | _ => simp [readLit] at h

theorem set_binding {env : Env} {rs : List Rule} {k : CT} {v : CV} (h : readSet (readSetRule env) rs k = some v) :
    ∃ r, k = r.ct ∧ r ≠ .or ∧ r ≠ .allOf ∧ ((r = .enum ∧ v = .unit) ∨ ∃ tok, readLit env r tok = some v) := by
  obtain ⟨e, _, bs, hbs, hm⟩ := readSet_some_binding h
  obtain ⟨r, v', _, hb, h1, h2, h3⟩ := readSetRule_shape hbs
  subst hb
  simp only [List.mem_singleton, Prod.mk.injEq] at hm
  obtain ⟨rfl, rfl⟩ := hm
  refine ⟨r, rfl, h1, h2, ?_⟩
  rcases h3 with h3 | ⟨tok, _, h3⟩
  · exact Or.inl h3
  · exact Or.inr ⟨tok, h3⟩

/-- what one binding of a read rule set looks like -/
def BindOK (k : CT) (v : CV) : Prop :=
  k ∉ [.any, .email, .uri, .uuid, .date, .datetime] ∧ (k = .allOf → ∃ ns, v = .allOf ns) ∧
    (k = .type → ∃ tok gen, v = .type tok gen) ∧ (∀ a e, v = .num a e → e = false) ∧
    (k = .typesList → ∃ us, v = .types us ∧ 2 ≤ us.length)

theorem bindOK_lit {env : Env} {r : RName} {tok : Bytes} {v : CV} (h : readLit env r tok = some v) : BindOK r.ct v :=
  ⟨by simpa using (ct_cases r).2, fun e => absurd e (readLit_allOf h).1, fun e => ⟨tok, false, readLit_type h e⟩,
    fun _ _ hv => readLit_min (hv ▸ h), fun e => absurd e (ct_ne_typesList r)⟩

/-- a map all of whose bindings look so, with a TypesList exactly with an `or`, has the shape of a loaded rule set -/
theorem shape_of_bindings {R : CMap} (h : ∀ k v, R k = some v → BindOK k v) (orT : R.has .typesList = R.has .or) :
    Shape R := by
  have noKey : ∀ k, k ∈ [CT.any, .email, .uri, .uuid, .date, .datetime] → R k = none :=
    fun k hk => Option.eq_none_iff_forall_ne_some.2 fun v hv => (h k v hv).1 hk
  exact {
    any := noKey _ (by decide), email := noKey _ (by decide), uri := noKey _ (by decide), uuid := noKey _ (by decide)
    date := noKey _ (by decide), datetime := noKey _ (by decide)
    orT := orT
    orLen := by
      intro ho
      obtain ⟨v, hv⟩ := (has_iff _ _).1 (orT ▸ ho)
      obtain ⟨us, rfl, hl⟩ := (h _ v hv).2.2.2.2 rfl
      unfold typesLen typesUsers; rw [hv]; exact hl
    allOfV := fun v hv => (h _ v hv).2.1 rfl
    typeV := fun v hv => (h _ v hv).2.2.1 rfl
    minV := fun a e hv => (h _ _ hv).2.2.2.1 a e rfl
    maxV := fun a e hv => (h _ _ hv).2.2.2.1 a e rfl }

theorem shape_set (env : Env) (rs : List Rule) :
    Shape (readSet (readSetRule env) rs) ∧ readSet (readSetRule env) rs .allOf = none := by
  have hb : ∀ k v, readSet (readSetRule env) rs k = some v → k ≠ .or ∧ k ≠ .allOf ∧ BindOK k v := by
    intro k v hv
    obtain ⟨r, rfl, h1, h2, h3⟩ := set_binding hv
    refine ⟨fun e => h1 (ct_inj (r' := .or) e), fun e => h2 (ct_inj (r' := .allOf) e), ?_⟩
    rcases h3 with ⟨rfl, rfl⟩ | ⟨tok, h3⟩
    · simp [BindOK, RName.ct]
    · exact bindOK_lit h3
  have hor : readSet (readSetRule env) rs .or = none := Option.eq_none_iff_forall_ne_some.2 fun v hv => (hb _ v hv).1 rfl
  have hall : readSet (readSetRule env) rs .allOf = none := Option.eq_none_iff_forall_ne_some.2 fun v hv => (hb _ v hv).2.1 rfl
  have htl : readSet (readSetRule env) rs .typesList = none := Option.eq_none_iff_forall_ne_some.2 fun v hv => by
    obtain ⟨r, e, _⟩ := set_binding hv; exact ct_ne_typesList r e.symm
  exact ⟨shape_of_bindings (fun k v hv => (hb k v hv).2.2) (by simp [CMap.has, htl, hor]), hall⟩

theorem len_empty : CMap.empty.len = 0 := rfl

theorem len_zero (m : CMap) : decide (m.len = 0) = onlyHas m [] := by
  rw [← extra_eq_zero, len_eq_extra m [] [] rfl, decide_eq_decide]
  simp only [List.map_nil, List.sum_nil, Nat.zero_add]

theorem len_one_type (m : CMap) (h : m.has .type = true) : decide (m.len = 1) = onlyHas m [.type] := by
  rw [← extra_eq_zero, len_eq_extra m [.type] [.type] rfl, decide_eq_decide]
  simp only [List.map_cons, List.map_nil, List.sum_cons, List.sum_nil, h, bnat_true]
  omega

theorem typeTok_single (tok : Bytes) (gen : Bool) : typeTok (CMap.empty.set .type (.type tok gen)) = some (tok, gen) := by
  simp [typeTok]

/-- a rule set that is the single rule `type: @user` meets every conjunct of `Consistent`, each for want of the rule it
speaks of -/
theorem consistent_user (tok : Bytes) (h : tyOf tok = .user) :
    Consistent memberCtx (CMap.empty.set .type (.type tok false)) = true := by
  have hT := typeTok_single tok false
  simp [Consistent, Applies, PairsOrdered, ExclusiveHasBound, PrecisionOnlyDecimal, FormatExcludesLengthRegex,
    CombinatorsAlone, combOr, combEnum, combAny, combUser, TypeFits, EmptyArrayCounts, AllOfNamesSomething, tyName, hT, h,
    tyFits, hasKind, memberCtx, isContainer, Ctx.isBranch, onlyRules, all_unfold, eff, CMap.has, CMap.set, CMap.empty,
    numPairOK, natPairOK, TyName.isFormat]

theorem readSet_nil (rd : Rule → Option (List (CT × CV))) : readSet rd [] = CMap.empty := by
  funext k; simp [readSet, CMap.empty]

/-- in a readable member rule-set every rule's key is bound -/
theorem readSet_has_name {env : Env} {rs : List Rule} (hall : ∀ r ∈ rs, (readSetRule env r).isSome = true) {e : Rule}
    (he : e ∈ rs) : ∃ r, RName.ofBytes e.1 = some r ∧ (readSet (readSetRule env) rs).has r.ct = true := by
  obtain ⟨bs, hbs⟩ := Option.isSome_iff_exists.1 (hall e he)
  obtain ⟨r, v, hr, _⟩ := readSetRule_shape hbs
  exact ⟨r, hr, readSet_has (keyFn_set env) hall he (by simp [nkSet, hr])⟩

theorem memberSetIsUser_true {rs : List Rule} (h : memberSetIsUser rs = true) :
    ∃ e tok, rs = [e] ∧ RName.ofBytes e.1 = some .type ∧ e.2 = .lit tok ∧ tyOf tok = .user := by
  match rs, h with
  | [e], h =>
    simp only [memberSetIsUser, Bool.and_eq_true, decide_eq_true_eq] at h
    cases hv : e.2 with
    | lit tok => rw [hv] at h; exact ⟨e, tok, rfl, h.1, hv, of_decide_eq_true h.2⟩
    | _ => rw [hv] at h; cases h.2

theorem readSet_single_type (env : Env) {e : Rule} {tok : Bytes} (hname : RName.ofBytes e.1 = some .type)
    (hv : e.2 = .lit tok) : readSet (readSetRule env) [e] = CMap.empty.set .type (.type tok false) := by
  funext k
  rw [readSet_cons]
  simp only [readSetRule, hname, hv, readLit, Option.map_some, Option.bind_some, RName.ct, readSet_nil]
  by_cases hk : k = .type
  · subst hk; simp [List.lookup]
  · have : (k == CT.type) = false := by simp [hk]
    simp [List.lookup, this, CMap.set, CMap.empty, hk]

/-- the single-rule member `{type: "@name"}` -/
theorem memberSetIsUser_iff (env : Env) (rs : List Rule) (hall : ∀ r ∈ rs, (readSetRule env r).isSome = true)
    (hnd : (namesOf rs).Nodup) (hne : rs ≠ []) :
    let S := readSet (readSetRule env) rs
    (decide (S.len = 1) && (match typeTok S with | some (tok, _) => decide (tyOf tok = .user) | none => false))
      = memberSetIsUser rs := by
  intro S
  rw [Bool.eq_iff_iff]
  constructor
  · intro h
    simp only [Bool.and_eq_true] at h
    obtain ⟨h1, h2⟩ := h
    cases hT : typeTok S with
    | none => rw [hT] at h2; cases h2
    | some p =>
      obtain ⟨tok, gen⟩ := p
      rw [hT] at h2; simp only [decide_eq_true_eq] at h2
      have hty := typeTok_has hT
      rw [len_one_type S hty] at h1
      -- every rule binds the key `type`
      have hkey : ∀ e ∈ rs, RName.ofBytes e.1 = some .type := by
        intro e he
        obtain ⟨r, hr, hh⟩ := readSet_has_name hall he
        have := onlyHas_absent h1 r.ct
        by_cases hc : r.ct = .type
        · rw [ct_inj (r' := .type) hc] at hr; exact hr
        · have h' := this (by simpa using hc)
          rw [hh] at h'; cases h'
      cases rs with
      | nil => exact absurd rfl hne
      | cons e rest =>
        cases rest with
        | cons e' rest' =>
          exfalso
          simp only [namesOf, List.map_cons, List.nodup_cons, List.mem_cons, not_or] at hnd
          exact hnd.1.1 (ofBytes_inj (hkey e (by simp)) (hkey e' (by simp)))
        | nil =>
          have hname := hkey e (by simp)
          simp only [memberSetIsUser, hname, decide_true, Bool.true_and]
          obtain ⟨bs, hbs⟩ := Option.isSome_iff_exists.1 (hall e (by simp))
          obtain ⟨r, v, hr, hb, _, _, h3⟩ := readSetRule_shape hbs
          rw [hname] at hr; cases hr
          rcases h3 with h3 | ⟨tok', hv, hl⟩
          · cases h3.1
          · rw [hv]
            have hS : S = CMap.empty.set .type (.type tok' false) := readSet_single_type env hname hv
            rw [hS] at hT
            simp only [typeTok, set_same, Option.some.injEq, Prod.mk.injEq] at hT
            rw [hT.1]; simpa using h2
  · intro h
    obtain ⟨e, tok, rfl, hname, hv, h2⟩ := memberSetIsUser_true h
    have hS : S = CMap.empty.set .type (.type tok false) := readSet_single_type env hname hv
    rw [hS, len_one_type _ (by simp), typeTok_single]
    simp only [h2, decide_true, Bool.and_true]
    simp [onlyHas, all_unfold, CMap.has, CMap.set, CMap.empty]

theorem finishSet_eq (m : CMap) : finishSet m =
    if m.len = 0 then .error 905
    else if (decide (m.len = 1) && (match typeTok m with | some (tok, _) => decide (tyOf tok = .user) | none => false)) = true
      then .ok true
    else compile memberCtx m >>= fun _ => .ok false := by
  unfold finishSet
  split
  · rfl
  · congr 1

/-- a member rule-set of an `or`, loaded from the empty map and finished -/
theorem toOpt_memberSet (env : Env) (rs : List Rule) :
    toOpt (rs.foldlM (loadSetEntry env) CMap.empty >>= finishSet) =
      if memberSetOK env rs then some (memberSetIsUser rs) else none := by
  rw [toOpt_bind, toOpt_foldlM _ _ (toOpt_loadSetEntry env), foldO_eq]
  unfold memberSetOK
  by_cases hall : ∀ r ∈ rs, (readSetRule env r).isSome = true
  · by_cases hnd : (namesOf rs).Nodup
    · have hf := (foldO_some (keyFn_set env) CMap.empty rs _).2 ⟨hall, hnd, fun _ _ _ _ => rfl, rfl⟩
      rw [hf, overlay_empty]
      simp only [Option.bind_some]
      have hall' : rs.all (fun e => (readSetRule env e).isSome) = true := List.all_eq_true.2 hall
      rw [hall']
      simp only [hnd, decide_true, Bool.and_true]
      cases hrs : rs with
      | nil =>
        simp [readSet_nil, finishSet, len_empty]
      | cons e rest =>
        rw [← hrs]
        have hne : rs ≠ [] := by rw [hrs]; simp
        have hemp : rs.isEmpty = false := by rw [hrs]; rfl
        rw [hemp]
        simp only [Bool.not_false, Bool.true_and]
        -- the first rule's key is present: the set is not empty
        have hlen : (readSet (readSetRule env) rs).len ≠ 0 := by
          intro h0
          have := len_zero (readSet (readSetRule env) rs)
          rw [h0] at this
          simp only [decide_true] at this
          obtain ⟨r, _, hh⟩ := readSet_has_name hall (e := e) (by rw [hrs]; simp)
          have := onlyHas_absent this.symm r.ct (by simp)
          rw [hh] at this; cases this
        rw [finishSet_eq, if_neg hlen]
        have hu := memberSetIsUser_iff env rs hall hnd hne
        simp only at hu
        rw [hu]
        have ⟨hS, hA⟩ := shape_set env rs
        cases hmu : memberSetIsUser rs with
        | true =>
          simp only [if_true, toOpt_ok]
          -- then the set is `{type: "@name"}`, which is consistent
          have : Consistent memberCtx (readSet (readSetRule env) rs) = true := by
            obtain ⟨e0, tok, rfl, hname, hv, h2⟩ := memberSetIsUser_true hmu
            rw [readSet_single_type env hname hv]; exact consistent_user tok h2
          rw [this]; rfl
        | false =>
          simp only [Bool.false_eq_true, if_false]
          rw [toOpt_then, isOk_compile_member _ hS hA]
    · rw [foldO_none_of (keyFn_set env) _ _ (fun h => hnd h.2.1)]; simp [hnd]
  · rw [foldO_none_of (keyFn_set env) _ _ (fun h => hall h.1)]
    have : rs.all (fun e => (readSetRule env e).isSome) = false := by
      cases h : rs.all (fun e => (readSetRule env e).isSome) with
      | false => rfl
      | true => exact absurd (List.all_eq_true.1 h) hall
    simp [this]

theorem shape_single (tok : Bytes) : Shape (CMap.empty.set .type (.type tok false)) :=
  shape_of_bindings (fun k v hv => by
    by_cases hk : k = .type
    · subst hk; rw [set_same] at hv; cases hv; simp [BindOK]
    · rw [set_other _ _ hk] at hv; cases hv) rfl

/-- one member of an `or`: a quoted type name or a rule-set -/
theorem toOpt_loadOrItem (env : Env) (c : Ctx) (users : List Bool) (v : Val) :
    toOpt (loadOrItem env c users v) = if memberOK env c v then some (users ++ [memberIsUser v]) else none := by
  cases v with
  | lit tok =>
    simp only [loadOrItem, memberOK, memberIsUser]
    by_cases hq : Unquote.inQuotes tok = true
    · simp only [hq, Bool.not_true, Bool.false_eq_true, if_false, Bool.true_and]
      by_cases hu : isUserTypeName (Unquote.unquote tok) = true
      · simp [hu]
      · simp only [Bool.not_eq_true] at hu
        simp only [hu, Bool.false_or]
        simp only [Bool.false_eq_true, if_false]
        rw [toOpt_then, isOk_compile_member _ (shape_single (Unquote.unquote tok)) (by simp [CMap.set, CMap.empty])]
    · simp [hq]
  | obj entries =>
    simp only [loadOrItem, memberOK, memberIsUser]
    by_cases hm : c.cls = .mixedValue
    · simp [hm]
    · simp only [hm, if_false]
      have := toOpt_memberSet env entries
      simp only [toOpt_bind] at this ⊢
      rw [this]
      by_cases hs : memberSetOK env entries = true
      · simp [hs, hm]
      · simp [hs, hm]
  | _ => simp [loadOrItem, memberOK]

theorem toOpt_loadOrItems (env : Env) (c : Ctx) (items : List Val) (acc : List Bool) :
    toOpt (items.foldlM (loadOrItem env c) acc) =
      if items.all (memberOK env c) then some (acc ++ items.map memberIsUser) else none := by
  induction items generalizing acc with
  | nil => simp [List.foldlM, pure, Except.pure]
  | cons v rest ih =>
    simp only [List.foldlM_cons, toOpt_bind, toOpt_loadOrItem, List.all_cons, List.map_cons]
    by_cases hv : memberOK env c v = true
    · simp [hv, ih]
    · simp [hv]

theorem toOpt_loadOrValue (env : Env) (c : Ctx) (v : Val) :
    toOpt (loadOrValue env c v) = if orValueOK env c v then some (orValueUsers v) else none := by
  cases v with
  | arr items =>
    simp only [loadOrValue, orValueOK, orValueUsers, toOpt_bind, toOpt_loadOrItems, List.nil_append]
    by_cases hall : items.all (memberOK env c) = true
    case neg => simp [hall]
    case pos =>
      simp only [hall, if_true, Option.bind_some, List.length_map, Bool.and_true]
      by_cases h0 : items.length = 0
      · simp [h0]
      · by_cases h1 : items.length = 1
        · simp [h1]
        · have : 2 ≤ items.length := by omega
          simp [h0, h1, this]
  | _ => rfl

/-! ### the annotation of a node with a JSON kind (and of an or shortcut) -/

/-- the keys a rule of that NAME binds at the top of an annotation: its constraint type, and the types list for `or` -/
def nkTop (name : Bytes) : List CT :=
  match RName.ofBytes name with
  | some .or => [.typesList, .or]
  | some r => [r.ct]
  | none => []

theorem readRule_or {env : Env} {c : Ctx} {e : Rule} (h : RName.ofBytes e.1 = some .or) : readRule env c e =
    if orValueOK env c e.2 then some [(.typesList, .types (orValueUsers e.2)), (.or, .or false)] else none := by
  unfold readRule; rw [h]

theorem readRule_enum {env : Env} {c : Ctx} {e : Rule} (h : RName.ofBytes e.1 = some .enum) : readRule env c e =
    if enumValueOK env e.2 then some [(.enum, .unit)] else none := by
  unfold readRule; rw [h]

theorem readRule_allOf {env : Env} {c : Ctx} {e : Rule} (h : RName.ofBytes e.1 = some .allOf) : readRule env c e =
    if allOfValueOK e.2 then some [(.allOf, .allOf (allOfNames e.2))] else none := by
  unfold readRule; rw [h]

theorem readRule_none {env : Env} {c : Ctx} {e : Rule} (h : RName.ofBytes e.1 = none) : readRule env c e = none := by
  unfold readRule; rw [h]

theorem readRule_lit {env : Env} {c : Ctx} {e : Rule} {r : RName} (h : RName.ofBytes e.1 = some r)
    (h1 : r ≠ .or) (h2 : r ≠ .enum) (h3 : r ≠ .allOf) : readRule env c e =
    match e.2 with
    | .lit tok => (readLit env r tok).map fun v => [(r.ct, v)]
    | _ => none := by
  unfold readRule; rw [h]
  cases r <;> first | rfl | contradiction

theorem nkTop_lit {a : Bytes} {r : RName} (h : RName.ofBytes a = some r) (h1 : r ≠ .or) : nkTop a = [r.ct] := by
  unfold nkTop; rw [h]
  cases r <;> first | rfl | contradiction

theorem mem_nkTop {a : Bytes} {k : CT} (h : k ∈ nkTop a) :
    ∃ r, RName.ofBytes a = some r ∧ (k = r.ct ∨ (r = .or ∧ k = .typesList)) := by
  unfold nkTop at h
  split at h
  · next ho =>
    simp only [List.mem_cons, List.not_mem_nil, or_false] at h
    rcases h with rfl | rfl
    · exact ⟨.or, ho, .inr ⟨rfl, rfl⟩⟩
    · exact ⟨.or, ho, .inl rfl⟩
  · next r _ hr => exact ⟨r, hr, .inl (List.mem_singleton.1 h)⟩
  · cases h

/-- what `readRule` can answer on one rule: the four shapes of a rule and its bindings -/
inductive TopShape (env : Env) (c : Ctx) (e : Rule) (bs : List (CT × CV)) : Prop
  | or (h : RName.ofBytes e.1 = some .or) (hv : orValueOK env c e.2 = true)
      (hb : bs = [(.typesList, .types (orValueUsers e.2)), (.or, .or false)])
  | enum (h : RName.ofBytes e.1 = some .enum) (hv : enumValueOK env e.2 = true) (hb : bs = [(.enum, .unit)])
  | allOf (h : RName.ofBytes e.1 = some .allOf) (hv : allOfValueOK e.2 = true) (hb : bs = [(.allOf, .allOf (allOfNames e.2))])
  | lit (r : RName) (h : RName.ofBytes e.1 = some r) (h1 : r ≠ .or) (h2 : r ≠ .enum) (h3 : r ≠ .allOf) (tok : Bytes) (v : CV)
      (hv : e.2 = .lit tok) (hl : readLit env r tok = some v) (hb : bs = [(r.ct, v)])

theorem readRule_shape {env : Env} {c : Ctx} {e : Rule} {bs : List (CT × CV)} (h : readRule env c e = some bs) :
    TopShape env c e bs := by
  cases hr : RName.ofBytes e.1 with
  | none => rw [readRule_none hr] at h; cases h
  | some r =>
    by_cases h1 : r = .or
    · subst h1
      rw [readRule_or hr] at h
      split at h
      · exact .or hr (by assumption) (Option.some.inj h).symm
      · cases h
    by_cases h2 : r = .enum
    · subst h2
      rw [readRule_enum hr] at h
      split at h
      · exact .enum hr (by assumption) (Option.some.inj h).symm
      · cases h
    by_cases h3 : r = .allOf
    · subst h3
      rw [readRule_allOf hr] at h
      split at h
      · exact .allOf hr (by assumption) (Option.some.inj h).symm
      · cases h
    rw [readRule_lit hr h1 h2 h3] at h
    cases hv : e.2 with
    | lit tok =>
      rw [hv] at h; simp only [Option.map_eq_some_iff] at h
      obtain ⟨v, hv', e'⟩ := h
      exact .lit r hr h1 h2 h3 tok v hv hv' e'.symm
    | _ => rw [hv] at h; cases h

theorem keyFn_top (env : Env) (c : Ctx) : KeyFn (readRule env c) nkTop where
  keys := by
    intro r bs h
    cases readRule_shape h with
    | or h _ hb => simp [nkTop, h, hb, keysOf]
    | enum h _ hb => rw [nkTop_lit h (by decide), hb]; rfl
    | allOf h _ hb => rw [nkTop_lit h (by decide), hb]; rfl
    | lit rn hn h1 _ _ _ _ _ _ hb => rw [nkTop_lit hn h1, hb]; rfl
  nodup := by
    intro a; unfold nkTop
    split <;> simp
  nonempty := by
    intro r bs h
    cases readRule_shape h with
    | or _ _ hb => simp [hb]
    | enum _ _ hb => simp [hb]
    | allOf _ _ hb => simp [hb]
    | lit _ _ _ _ _ _ _ _ _ hb => simp [hb]
  disj := by
    intro a b hab k hk hk'
    obtain ⟨ra, ha, h1⟩ := mem_nkTop hk
    obtain ⟨rb, hb, h2⟩ := mem_nkTop hk'
    have : ra = rb := by
      rcases h1 with rfl | ⟨rfl, rfl⟩ <;> rcases h2 with h2 | ⟨rfl, h2⟩
      · exact ct_inj h2
      · exact absurd h2 (ct_ne_typesList ra)
      · exact absurd h2.symm (ct_ne_typesList rb)
      · rfl
    subst this
    exact hab (ofBytes_inj ha hb)

theorem addC_base {c : Ctx} (hc : c.cls ≠ .mixedValue) (m : CMap) (k : CT) (v : CV) : addC c m k v = addBase m k v := by
  unfold addC; rw [if_neg hc]

/-- the loader of `or` writes an empty types list, then `or`, then the types list again: the pair of bindings
(last step of `toOpt_or_entry`) -/
theorem set_set_set (m : CMap) (a b : CV) (us : CV) :
    ((m.set .typesList a).set .or b).set .typesList us = setAll m [(.typesList, us), (.or, b)] := by
  funext k
  simp only [setAll, List.foldl_cons, List.foldl_nil, CMap.set]
  by_cases h1 : k = .typesList
  · subst h1; simp
  · by_cases h2 : k = .or
    · subst h2; simp
    · simp [h1, h2]

theorem set_set (m : CMap) (k : CT) (a b : CV) : (m.set k a).set k b = m.set k b := by
  funext k'; simp only [CMap.set]; split <;> rfl

/-- `AddConstraint` is the plain insertion except for `type` / `or` on a shortcut node that already has a type -/
theorem addC_plain (c : Ctx) (m : CMap) (k : CT) (v : CV)
    (h : c.cls ≠ .mixedValue ∨ m .type = none ∨ (k ≠ .type ∧ k ≠ .or)) : addC c m k v = addBase m k v := by
  unfold addC
  by_cases hc : c.cls = .mixedValue
  · rw [if_pos hc]
    split
    · rcases h with h | h | h
      · exact absurd hc h
      · simp only [addTypeMV, h]
      · exact absurd rfl h.1
    · rcases h with h | h | h
      · exact absurd hc h
      · simp only [h]; rfl
      · exact absurd rfl h.2
    · rfl
  · rw [if_neg hc]

theorem fresh_pair (m : CMap) (k1 k2 : CT) (a b : CV) : fresh m [(k1, a), (k2, b)] = (!m.has k1 && !m.has k2) := by
  simp [fresh]

/-- an `or` rule where `AddConstraint` is the plain insertion: the empty TypesList and the `or` constraint are added,
then the value is loaded and its TypesList put in place -/
theorem toOpt_or_entry (env : Env) (c : Ctx) (m : CMap) (v : Val) :
    toOpt (addBase m .typesList (.types []) >>= fun m => addBase m .or (.or false) >>= fun m =>
      loadOrValue env c v >>= fun us => .ok (m.set .typesList (.types us))) =
    (if orValueOK env c v then some [(CT.typesList, CV.types (orValueUsers v)), (CT.or, CV.or false)] else none).bind
      fun bs => if fresh m bs then some (setAll m bs) else none := by
  have hh : (m.set .typesList (.types [])).has .or = m.has .or := has_set_other _ _ (by decide)
  simp only [toOpt_bind, toOpt_addBase, toOpt_loadOrValue, toOpt_ok]
  cases h1 : m.has .typesList
  case true => cases orValueOK env c v <;> simp only [if_true, Option.bind_some, fresh_pair, h1] <;> rfl
  simp only [Bool.false_eq_true, if_false, Option.bind_some, hh]
  cases h2 : m.has .or
  case true => cases orValueOK env c v <;> simp only [if_true, Option.bind_some, fresh_pair, h1, h2] <;> rfl
  cases orValueOK env c v
  · rfl
  · simp only [if_true, Option.bind_some, fresh_pair, h1, h2]
    exact congrArg some (set_set_set m _ _ _)

/-- the rule loader on one rule: read the rule, its bindings must be fresh — wherever `AddConstraint` is the plain
insertion (always on a node with a JSON kind; on a shortcut node while it has no type constraint) -/
theorem toOpt_loadRule_step (env : Env) (c : Ctx) (m : CMap) (r : Rule)
    (hty : RName.ofBytes r.1 = some .type → c.cls ≠ .mixedValue ∨ m .type = none)
    (hor : RName.ofBytes r.1 = some .or → m.has .typesList = true ∨ c.cls ≠ .mixedValue ∨ m .type = none) :
    toOpt (loadRule env c m r) = stepO (readRule env c) m r := by
  unfold loadRule stepO
  by_cases hor' : r.1 = n_or
  · have hO := (ofBytes_or r.1).2 hor'
    rw [if_pos hor', readRule_or hO]
    have e1 : ∀ v, addC c m .typesList v = addBase m .typesList v :=
      fun v => addC_plain c m _ v (Or.inr (Or.inr ⟨by decide, by decide⟩))
    by_cases h1 : m.has .typesList = true
    · simp only [e1, toOpt_bind, toOpt_addBase, h1, if_true, Option.bind_none]
      cases orValueOK env c r.2
      · rfl
      · simp only [if_true, Option.bind_some, fresh_pair, h1]; rfl
    · have h2' : ∀ a v, addC c (m.set .typesList a) .or v = addBase (m.set .typesList a) .or v := by
        intro a v
        apply addC_plain
        rcases hor hO with h | h | h
        · exact absurd h h1
        · exact Or.inl h
        · exact Or.inr (Or.inl (by rw [set_other _ _ (by decide)]; exact h))
      have key := toOpt_or_entry env c m r.2
      simp only [Bool.not_eq_true] at h1
      simp only [toOpt_bind, toOpt_addBase, h1, Bool.false_eq_true, if_false, Option.bind_some] at key
      simp only [e1, toOpt_bind, toOpt_addBase, h1, Bool.false_eq_true, if_false, Option.bind_some, h2']
      exact key
  rw [if_neg hor']
  by_cases hen : r.1 = n_enum
  · rw [if_pos hen, readRule_enum ((ofBytes_enum r.1).2 hen)]
    have e1 : ∀ v, addC c m .enum v = addBase m .enum v :=
      fun v => addC_plain c m _ v (Or.inr (Or.inr ⟨by decide, by decide⟩))
    simp only [e1]
    exact toOpt_enum_entry env m r.2
  rw [if_neg hen]
  by_cases hal : r.1 = n_allOf
  · rw [if_pos hal, readRule_allOf ((ofBytes_allOf r.1).2 hal)]
    have e1 : ∀ v, addC c m .allOf v = addBase m .allOf v :=
      fun v => addC_plain c m _ v (Or.inr (Or.inr ⟨by decide, by decide⟩))
    simp only [e1, toOpt_bind, toOpt_addBase, toOpt_loadAllOfValue]
    by_cases hm : m.has .allOf = true <;> by_cases hv : allOfValueOK r.2 = true
      <;> simp [fresh_single, hm, hv, setAll_single, set_set]
  rw [if_neg hal]
  cases hr : RName.ofBytes r.1 with
  | none =>
    rw [readRule_none hr]
    cases r.2 with
    | lit tok => simp only [toOpt_bind, toOpt_mkLit, hr]; rfl
    | _ => rfl
  | some rn =>
    have hnor : rn ≠ .or := fun h => hor' ((ofBytes_or _).1 (h ▸ hr))
    rw [readRule_lit hr hnor (fun h => hen ((ofBytes_enum _).1 (h ▸ hr))) (fun h => hal ((ofBytes_allOf _).1 (h ▸ hr)))]
    cases r.2 with
    | lit tok =>
      have e1 : ∀ v, addC c m rn.ct v = addBase m rn.ct v := by
        intro v
        apply addC_plain
        by_cases ht : rn = .type
        · subst ht
          rcases hty hr with h | h
          · exact Or.inl h
          · exact Or.inr (Or.inl h)
        · exact Or.inr (Or.inr ⟨fun e => ht (ct_inj (r' := .type) e), fun e => hnor (ct_inj (r' := .or) e)⟩)
      simp only [toOpt_bind, toOpt_mkLit, hr]
      cases readLit env rn tok with
      | none => rfl
      | some v =>
        simp only [Option.map_some, Option.bind_some, e1, toOpt_addBase, fresh_single, setAll_single]
        cases m.has rn.ct <;> rfl
    | _ => rfl

theorem top_binding {env : Env} {c : Ctx} {rs : List Rule} {k : CT} {v : CV} (h : readSet (readRule env c) rs k = some v) :
    ∃ e ∈ rs, ∃ bs, TopShape env c e bs ∧ (k, v) ∈ bs := by
  obtain ⟨e, he, bs, hbs, hm⟩ := readSet_some_binding h
  exact ⟨e, he, bs, readRule_shape hbs, hm⟩

theorem orValueUsers_len {env : Env} {c : Ctx} {v : Val} (h : orValueOK env c v = true) : 2 ≤ (orValueUsers v).length := by
  cases v with
  | arr items => simp [orValueOK] at h; simp [orValueUsers, h.1]
  | _ => cases h

/-- the annotation binds `or` / TypesList exactly when it has an `or` rule -/
theorem top_has_or_iff (env : Env) (c : Ctx) (rs : List Rule) (hall : ∀ r ∈ rs, (readRule env c r).isSome = true)
    (k : CT) (hk : k = .typesList ∨ k = .or) :
    (readSet (readRule env c) rs).has k = true ↔ ∃ e ∈ rs, RName.ofBytes e.1 = some .or := by
  constructor
  · intro h
    obtain ⟨v, hv⟩ := (has_iff _ _).1 h
    obtain ⟨e, he, bs, hs, hm⟩ := top_binding hv
    refine ⟨e, he, ?_⟩
    cases hs with
    | or h0 _ _ => exact h0
    | enum _ _ hb => subst hb; simp at hm; rcases hk with rfl | rfl <;> simp at hm
    | allOf _ _ hb => subst hb; simp at hm; rcases hk with rfl | rfl <;> simp at hm
    | lit r h0 h1 _ _ _ _ _ _ hb =>
      subst hb; simp at hm
      rcases hk with rfl | rfl
      · exact absurd hm.1.symm (ct_ne_typesList r)
      · exact absurd (ct_inj (r' := .or) hm.1.symm) h1
  · rintro ⟨e, he, h0⟩
    apply readSet_has (keyFn_top env c) hall he
    simp only [nkTop, h0]
    rcases hk with rfl | rfl <;> simp

theorem bindOK_top {env : Env} {c : Ctx} {e : Rule} {bs : List (CT × CV)} (hs : TopShape env c e bs) {k : CT} {v : CV}
    (hm : (k, v) ∈ bs) : BindOK k v := by
  cases hs with
  | or _ hv hb =>
    subst hb
    simp only [List.mem_cons, Prod.mk.injEq, List.not_mem_nil, or_false] at hm
    rcases hm with ⟨rfl, rfl⟩ | ⟨rfl, rfl⟩ <;> simp [BindOK, orValueUsers_len hv]
  | enum _ _ hb => subst hb; simp at hm; obtain ⟨rfl, rfl⟩ := hm; simp [BindOK]
  | allOf _ _ hb => subst hb; simp at hm; obtain ⟨rfl, rfl⟩ := hm; simp [BindOK]
  | lit r _ _ _ _ tok _ _ hl hb => subst hb; simp at hm; obtain ⟨rfl, rfl⟩ := hm; exact bindOK_lit hl

theorem bindOK_readRule {env : Env} {c : Ctx} {rs : List Rule} {k : CT} {v : CV}
    (hv : readSet (readRule env c) rs k = some v) : BindOK k v := by
  obtain ⟨e, _, bs, hs, hm⟩ := top_binding hv
  exact bindOK_top hs hm

/-- the shape of the annotation's rule set (all rules readable) -/
theorem shape_top (env : Env) (c : Ctx) (rs : List Rule) (hall : ∀ r ∈ rs, (readRule env c r).isSome = true) :
    Shape (readSet (readRule env c) rs) :=
  shape_of_bindings (fun _ _ => bindOK_readRule)
    (by rw [Bool.eq_iff_iff, top_has_or_iff env c rs hall _ (Or.inl rfl), top_has_or_iff env c rs hall _ (Or.inr rfl)])

end CR
