import JSight.SchemaFails
/-!
Towards C17 for the SCHEMA scanner model (an "invalid character"-class error, 301 / 302 / 304, is determined by the
bytes up to the offending one plus the look-ahead window), this module gives where an error lies.  `Agree n data data'`
says two inputs coincide below `n`.  `Fails.where_`: a failing run ends with the end-of-file error at the last byte, or
with an error whose offset lies between the offset the run starts at and the end of the input — the index never moves
back across a step (`dispatch_idx`) — and "after first #" stands in front of a byte other than `#`; `Fails.idx_range`,
`Fails.eof_idx`, `Fails.window_next` are its parts; on byte strings `scanAll_error_idx`, `scanAll_error_idx_lt`,
`scanAll_eof_idx`.  The replay of a failing run on another input is `Fails.transferX` (`SchemaErrWindow`).
-/
namespace SchemaScan

/-- the two inputs coincide (content and end of input) on the offsets below `n` -/
def Agree (n : Nat) (data data' : Array Cls) : Prop := ∀ k, k < n → data[k]? = data'[k]?

theorem Agree.lt_size {n data data'} (h : Agree n data data') {k} (hk : k < n) (hs : k < data.size) :
    k < data'.size := by
  have := h k hk
  rw [Array.getElem?_eq_getElem hs] at this
  exact (Array.getElem?_eq_some_iff.mp this.symm).1

theorem Agree.bang {n data data'} (h : Agree n data data') {k} (hk : k < n) : data[k]! = data'[k]! := by
  have := h k hk
  simp only [getElem!_def, this]

/-! ### the end-of-input rule -/

theorem eofStep_err {data : Array Cls} {s : Sc} {e : Err} (h : eofStep data s = .error e) :
    e = .unexpectedEOF (data.size - 1) ∨ e.isCrash = true := by
  unfold eofStep at h
  split at h
  · dsimp only at h
    split at h
    · split at h
      · cases h; exact Or.inl rfl
      · exact Or.inr (processFound_err (map_err _ _ _ h))
    · exact Or.inr (processFound_err (map_err _ _ _ h))
    · exact Or.inr (processFound_err (map_err _ _ _ h))
    · split at h
      · cases h; exact Or.inl rfl
      · exact Or.inr (processFound_err (map_err _ _ _ h))
    · cases h; exact Or.inl rfl
  · cases h

theorem eofStep_index {data : Array Cls} {s s' : Sc} {ev : Ev} (h : eofStep data s = .ok (some (s', ev))) :
    s'.index = s.index + 1 := by
  unfold eofStep at h
  split at h
  · dsimp only at h
    split at h
    · split at h
      · cases h
      · obtain ⟨a, ha, hb⟩ := map_ok _ _ _ h
        cases hb
        exact (processFound_finds ha).2
    · obtain ⟨a, ha, hb⟩ := map_ok _ _ _ h
      cases hb
      exact (processFound_finds ha).2
    · obtain ⟨a, ha, hb⟩ := map_ok _ _ _ h
      cases hb
      exact (processFound_finds ha).2
    · split at h
      · cases h
      · obtain ⟨a, ha, hb⟩ := map_ok _ _ _ h
        cases hb
        exact (processFound_finds ha).2
    · cases h
  · cases h

/-- the error of a transition: a structured one carries the offset just read and is not the end-of-file error -/
theorem readStep_err {data : Array Cls} {s : Sc} {e : Err} (h : readStep data s = .error e) (hc : e.isCrash = false) :
    e.idx = s.index ∧ e.isEOF = false :=
  (dispatch_E h).idx hc

/-- a read step leaves the index inside the input and does not move it back -/
theorem readStep_idx {data : Array Cls} {s s1 : Sc} (hi : s.index < data.size) (hr : readStep data s = .ok s1) :
    s.index ≤ s1.index ∧ s1.index ≤ data.size := by
  rcases dispatch_idx hr with h | ⟨h, _⟩ | ⟨h, _, _, h2⟩
  · have h' : s1.index = s.index + 1 := h
    omega
  · have h' : s1.index + 1 = s.index + 1 := h
    omega
  · have h' : s1.index = s.index + 1 + 2 := h
    have := (Array.getElem?_eq_some_iff.mp h2).1
    omega

/-- **where a failing run fails**: with "unexpected end of file" at the last byte, or at an offset of the input not before
the start of the run, "after first #" standing in front of a byte other than `#` -/
theorem Fails.where_ {data : Array Cls} {s : Sc} {e : Err} (h : Fails data s e) (hc : e.isCrash = false) :
    e = .unexpectedEOF (data.size - 1) ∨
    (s.index < data.size ∧ e.isEOF = false ∧ s.index ≤ e.idx ∧ e.idx < data.size ∧
      (e.window = 1 → data[e.idx + 1]? ≠ some Cls.hash)) := by
  induction h with
  | @err s e h1 =>
    rcases micro_err h1 with h1 | ⟨_, hlt, hr⟩ | ⟨_, _, he⟩
    · rw [shiftFound_err h1] at hc; cases hc
    · obtain ⟨hidx, he⟩ := readStep_err hr hc
      refine Or.inr ⟨hlt, he, by omega, by omega, fun hw => ?_⟩
      rw [hidx]
      exact dispatch_w hr hw
    · rcases eofStep_err he with h | h
      · exact Or.inl h
      · rw [h] at hc; cases hc
  | @step s s' e h1 _ ih =>
    rcases ih hc with h | ⟨h2, h3, h4, h5, h6⟩
    · exact Or.inl h
    · -- the run goes on inside the input: the step was not the end-of-input rule
      rcases micro_ok h1 with ⟨ev, h1⟩ | ⟨_, hlt, hr⟩ | ⟨_, hlt, ev, he⟩
      · obtain ⟨⟨t, rest, stk, _, rfl⟩, _⟩ := shiftFound_some h1
        exact Or.inr ⟨h2, h3, h4, h5, h6⟩
      · have := (readStep_idx hlt hr).1
        exact Or.inr ⟨hlt, h3, by omega, h5, h6⟩
      · have := eofStep_index he
        omega

theorem Fails.idx_range {data : Array Cls} {s : Sc} {e : Err} (h : Fails data s e) (hc : e.isCrash = false)
    (he : e.isEOF = false) : s.index ≤ e.idx ∧ e.idx < data.size := by
  rcases h.where_ hc with h | ⟨_, _, h1, h2, _⟩
  · rw [h] at he; cases he
  · exact ⟨h1, h2⟩

/-- the end-of-file error always carries the offset of the last byte -/
theorem Fails.eof_idx {data : Array Cls} {s : Sc} {e : Err} (h : Fails data s e) (he : e.isEOF = true) :
    e = .unexpectedEOF (data.size - 1) := by
  rcases h.where_ (by cases e <;> first | rfl | cases he) with h | ⟨_, h1, _⟩
  · exact h
  · rw [h1] at he; cases he

/-- the error "after first #" stands in front of a byte other than `#` (or of the end of input) -/
theorem Fails.window_next {data : Array Cls} {s : Sc} {e : Err} (h : Fails data s e) (hc : e.isCrash = false)
    (hw : e.window = 1) : data[e.idx + 1]? ≠ some Cls.hash := by
  rcases h.where_ hc with h | ⟨_, _, _, _, h1⟩
  · rw [h] at hw; cases hw
  · exact h1 hw

/-! ### on byte strings -/

theorem agree_of_lists {bs bs' : List UInt8} {n : Nat} (h : ∀ k, k < n → bs'[k]? = bs[k]?) :
    Agree n (bs.map classify).toArray (bs'.map classify).toArray := by
  intro k hk
  simp only [List.getElem?_toArray, List.getElem?_map, h k hk]

/-- a structured error other than "unexpected end of file" lies at an offset of the text -/
theorem scanAll_error_idx (bs : List UInt8) (e : Err) (h : scanAll bs = .error e) (he : e.isEOF = false) :
    e.idx < bs.length := by
  have := ((scanAll_fails h).idx_range (scanAll_no_crash bs e h) he).2
  simpa using this

/-- every error position lies inside the text (below `max 1 length`: the statement does not exclude offset 0 on the empty
text) -/
theorem scanAll_error_idx_lt (bs : List UInt8) (e : Err) (h : scanAll bs = .error e) :
    e.idx < max 1 bs.length := by
  by_cases he : e.isEOF = true
  · have := (scanAll_fails h).eof_idx he
    rw [this]
    simp only [Err.idx, List.size_toArray, List.length_map]
    omega
  · have := scanAll_error_idx bs e h (by simpa using he)
    omega

/-- the end-of-file error is reported at the last byte -/
theorem scanAll_eof_idx (bs : List UInt8) (e : Err) (h : scanAll bs = .error e) (he : e.isEOF = true) :
    e = .unexpectedEOF (bs.length - 1) := by
  have := (scanAll_fails h).eof_idx he
  simpa using this

end SchemaScan
