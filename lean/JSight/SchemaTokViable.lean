import JSight.SchemaLenTokEv
/-!
C17, schema scanner, viability on the TOKEN level: whatever token list has been accepted so far can be completed.

* `Shape`: the invariant of the token-level scanner (`tstep` / `astep`) — the step function, the lexeme stack and the
  context stack fit together (`Below`: the stack under a value slot is a pile of `item ∈ array` / `value ∈ object`
  frames, one saved context per frame); `astep_shape`, `arun_shape`: every state reached from `TC.init` has it;
* `closers c`: the closing tokens of a state — finish what the step function waits for (a value `1`, a member `"a":1`,
  `:1` behind a key), then close the brackets on the lexeme stack from the top (`}` / `]`; an open key gets `:1`);
* `closers_complete`: from a state with `Shape` the token-level scanner accepts `closers c` and ends `Complete`;
* `arun_viable` / `trun_viable`: every accepted token prefix can be completed; `bytes_viable`: lifted through the
  simulation (`scan_atoks_whole`): the byte text of an accepted token list is a viable prefix for `scanAll`.
-/
namespace SchemaScan
namespace Len

/-! ### the closing tokens -/

/-- the scalar `1` -/
def one : List Cls := [.d19]
/-- the key `"a"` -/
def keyA : List Cls := [.quote, .la, .quote]

theorem one_scalar : IsScalar one := ⟨.d19, [], .d1, false, .d1, rfl, rfl, rfl, rfl⟩
theorem keyA_key : IsKey keyA := ⟨[.la, .quote], rfl, rfl⟩

def closerOf : LexT → List Tok
  | .arrB => [.rbrack]
  | .objB => [.rbrace]
  | .keyB => [.colon, .scalar one]
  | _ => []

/-- close the lexeme stack from the top -/
def closeK : List (LexT × Nat) → List Tok
  | [] => []
  | (t, _) :: R => closerOf t ++ closeK R

/-- what the step function still waits for -/
def headOf : St → List Tok
  | .foundRoot | .objValue | .arrItem => [.scalar one]
  | .objKey | .objKeyAfterNL => [.key keyA, .colon, .scalar one]
  | .afterKey => [.colon, .scalar one]
  | _ => []

/-- **the closing tokens of a state** -/
def closers (c : TC) : List Tok := headOf c.st ++ closeK c.K

theorem closerOf_wf (t : LexT) : ∀ x ∈ closerOf t, x.WF := by
  intro x hx
  cases t <;> simp [closerOf] at hx
  · subst hx; trivial
  · rcases hx with rfl | rfl
    · trivial
    · exact one_scalar
  · subst hx; trivial

theorem closeK_wf : ∀ (K : List (LexT × Nat)), ∀ x ∈ closeK K, x.WF
  | [], x, hx => by simp [closeK] at hx
  | (t, _) :: R, x, hx => by
    simp only [closeK, List.mem_append] at hx
    rcases hx with h | h
    · exact closerOf_wf t x h
    · exact closeK_wf R x h

theorem headOf_wf (st : St) : ∀ x ∈ headOf st, x.WF := by
  intro x hx
  have k : (Tok.key keyA).WF := keyA_key
  have o : (Tok.scalar one).WF := one_scalar
  have c : Tok.colon.WF := trivial
  -- `headOf st` is `[]`, `[1]`, `[:, 1]` or `["a", :, 1]`
  cases st <;> simp only [headOf, List.mem_cons, List.not_mem_nil, or_false] at hx <;>
    first | (subst hx; assumption) | (rcases hx with rfl | rfl <;> assumption) | (rcases hx with rfl | rfl | rfl <;> assumption)

theorem closers_wf (c : TC) : ∀ x ∈ closers c, x.WF := by
  intro x hx
  simp only [closers, List.mem_append] at hx
  rcases hx with h | h
  · exact headOf_wf _ x h
  · exact closeK_wf _ x h

/-! ### the invariant -/

/-- the stack under a value slot: `item ∈ array` / `member value ∈ object` frames, one saved context per frame -/
inductive Below : List (LexT × Nat) → List Ctx → Prop
  | root : Below [] []
  | item {R CS} (b a : Nat) (c0 : Ctx) : Below R CS → Below ((.itemB, b) :: (.arrB, a) :: R) (c0 :: CS)
  | val {R CS} (b a : Nat) (c0 : Ctx) : Below R CS → Below ((.valB, b) :: (.objB, a) :: R) (c0 :: CS)

/-- the states of the token-level scanner, by what the lexeme stack under them looks like -/
inductive SKind | root | top | pv | obj | arr | none

def slotKind : St → SKind
  | .foundRoot => .root
  | .endTop => .top
  | .endValue | .d0 | .d1 | .dot0 => .pv
  | .objKeyOrEmpty | .objKey | .objKeyAfterNL | .afterValue | .afterKey | .objValue => .obj
  | .arrItemOrEmpty | .arrItem | .afterItem => .arr
  | _ => .none

/-- step function, guard flag, lexeme stack and context stack of a reachable state: a state behind a value has the
pending lexemes of the value, or an open key, on top of the pile of its slot; an object or array state has its bracket -/
def Shape (st : St) (g : Bool) (K : List (LexT × Nat)) (CS : List Ctx) : Prop :=
  match slotKind st with
  | .root => K = [] ∧ CS = []
  | .top => K = []
  | .pv => g = false ∧ ((∃ lit b K0, K = pendOf lit b ++ K0 ∧ Below K0 CS) ∨
      ∃ b a c0 R CS', K = (.keyB, b) :: (.objB, a) :: R ∧ CS = c0 :: CS' ∧ Below R CS')
  | .obj => ∃ a c0 R CS', K = (.objB, a) :: R ∧ CS = c0 :: CS' ∧ Below R CS'
  | .arr => ∃ a c0 R CS', K = (.arrB, a) :: R ∧ CS = c0 :: CS' ∧ Below R CS'
  | .none => False

def TC.Shape (c : TC) : Prop := Len.Shape c.st c.g c.K c.CS

theorem TC.init_shape : TC.init.Shape := ⟨rfl, rfl⟩

theorem slotKind_pv {st : St} : slotKind st = .pv ↔ PV st = true := by cases st <;> simp [slotKind, PV]

/-- behind a value in a slot whose pile is `K0` -/
theorem Shape.pv {st : St} {K0 : List (LexT × Nat)} {CS : List Ctx} (lit : Bool) (b : Nat) (hpv : PV st = true)
    (hB : Below K0 CS) : Shape st false (pendOf lit b ++ K0) CS := by
  unfold Shape; rw [slotKind_pv.2 hpv]; exact ⟨rfl, Or.inl ⟨_, _, _, rfl, hB⟩⟩

theorem Shape.pv_inv {st : St} {g K CS} (hpv : PV st = true) (h : Shape st g K CS) :
    g = false ∧ ((∃ lit b K0, K = pendOf lit b ++ K0 ∧ Below K0 CS) ∨
      ∃ b a c0 R CS', K = (.keyB, b) :: (.objB, a) :: R ∧ CS = c0 :: CS' ∧ Below R CS') := by
  unfold Shape at h; rw [slotKind_pv.2 hpv] at h; exact h

/-- the step function moves inside its class, stack and contexts stay -/
theorem Shape.move {st st' : St} {g g' : Bool} {K CS} (h : Shape st g K CS) (hn : PV st = false)
    (hk : slotKind st' = slotKind st) : Shape st' g' K CS := by
  unfold Shape at h ⊢
  rw [hk]
  cases hs : slotKind st <;> rw [hs] at h <;> first | exact h | skip
  rw [slotKind_pv.1 hs] at hn; cases hn

/-! ### running token lists -/

theorem trun_cons_some {c c1 c2 : TC} {t : Tok} {ts : List Tok} {e1 e2 : List Ev} (h1 : tstep c t = some (c1, e1))
    (h2 : trun c1 ts = some (c2, e2)) : trun c (t :: ts) = some (c2, e1 ++ e2) := by
  simp only [trun, h1, h2, Option.map_some]

/-- a completing run exists -/
def Completes (c : TC) (ts : List Tok) : Prop := ∃ c'' evs, trun c ts = some (c'', evs) ∧ Complete c''

theorem Completes.cons {c c1 : TC} {t : Tok} {ts : List Tok} {e1 : List Ev} (h1 : tstep c t = some (c1, e1))
    (h2 : Completes c1 ts) : Completes c (t :: ts) := by
  obtain ⟨c2, e2, hr, hc⟩ := h2
  exact ⟨c2, e1 ++ e2, trun_cons_some h1 hr, hc⟩

theorem closeK_pend (lit : Bool) (b : Nat) (K : List (LexT × Nat)) : closeK (pendOf lit b ++ K) = closeK K := by
  cases lit <;> rfl

/-- a value has been completed in a slot whose stack is `K0`: close the brackets below it -/
theorem close_below {K0 : List (LexT × Nat)} {CS : List Ctx} (hB : Below K0 CS) :
    ∀ (st : St), PV st = true → ∀ (lit : Bool) (b i : Nat) (cx : Ctx) (al : Bool),
      Completes ⟨st, false, pendOf lit b ++ K0, i, CS, cx, al⟩ (closeK K0) := by
  induction hB with
  | root =>
    intro st hpv lit b i cx al
    refine ⟨_, [], rfl, Or.inr ⟨hpv, rfl, ?_⟩⟩
    cases lit
    · exact Or.inl rfl
    · exact Or.inr ⟨b, rfl⟩
  | @item R CS b2 a c0 _ ih =>
    intro st hpv lit b i cx al
    have hstep : ∃ e, tstep ⟨st, false, pendOf lit b ++ (.itemB, b2) :: (.arrB, a) :: R, i, c0 :: CS, cx, al⟩ .rbrack
        = some (⟨.endValue, false, R, i + 1, CS, c0, !cx.arrayHasItem⟩, e) := by
      cases st <;> simp [PV] at hpv <;> cases lit <;> exact ⟨_, rfl⟩
    obtain ⟨e, hstep⟩ := hstep
    -- `false 0`: behind a closing bracket no literal is pending, and `pendOf false b = []` whatever `b`: the `0` is a dummy
    exact Completes.cons hstep (ih .endValue rfl false 0 (i + 1) c0 _)
  | @val R CS b2 a c0 _ ih =>
    intro st hpv lit b i cx al
    have hstep : ∃ e, tstep ⟨st, false, pendOf lit b ++ (.valB, b2) :: (.objB, a) :: R, i, c0 :: CS, cx, al⟩ .rbrace
        = some (⟨.endValue, false, R, i + 1, CS, c0, al⟩, e) := by
      cases st <;> simp [PV] at hpv <;> cases lit <;> exact ⟨_, rfl⟩
    obtain ⟨e, hstep⟩ := hstep
    exact Completes.cons hstep (ih .endValue rfl false 0 (i + 1) c0 _)

/-- where a member value may start -/
theorem close_objValue {R : List (LexT × Nat)} {CS : List Ctx} (hB : Below R CS) (g : Bool) (a i : Nat) (c0 cx : Ctx)
    (al : Bool) : Completes ⟨.objValue, g, (.objB, a) :: R, i, c0 :: CS, cx, al⟩ (.scalar one :: .rbrace :: closeK R) :=
  Completes.cons (c1 := ⟨.d1, false, pendOf true i ++ (.valB, i) :: (.objB, a) :: R, i + 1, c0 :: CS, cx, al⟩) rfl
    (close_below (Below.val i a c0 hB) .d1 rfl true i (i + 1) cx al)

/-- behind a key -/
theorem close_pvKey {R : List (LexT × Nat)} {CS : List Ctx} (hB : Below R CS) {st : St} (hpv : PV st = true)
    (b a i : Nat) (c0 cx : Ctx) (al : Bool) :
    Completes ⟨st, false, (.keyB, b) :: (.objB, a) :: R, i, c0 :: CS, cx, al⟩
      (.colon :: .scalar one :: .rbrace :: closeK R) := by
  have hstep : ∃ e, tstep ⟨st, false, (.keyB, b) :: (.objB, a) :: R, i, c0 :: CS, cx, al⟩ .colon
      = some (⟨.objValue, false, (.objB, a) :: R, i + 1, c0 :: CS, cx, al⟩, e) := by
    cases st <;> simp [PV] at hpv <;> exact ⟨_, rfl⟩
  obtain ⟨e, hstep⟩ := hstep
  exact Completes.cons hstep (close_objValue hB false a (i + 1) c0 cx al)

/-- **the closing tokens are accepted and complete the text** -/
theorem closers_complete (c : TC) (h : c.Shape) : Completes c (closers c) := by
  obtain ⟨st, g, K, i, CS, cx, al⟩ := c
  simp only [TC.Shape] at h
  have pv : ∀ {st}, PV st = true → Shape st g K CS → Completes ⟨st, g, K, i, CS, cx, al⟩ (closers ⟨st, g, K, i, CS, cx, al⟩) := by
    intro st hpv h
    have hh : headOf st = [] := by cases st <;> simp [PV] at hpv <;> rfl
    simp only [closers, hh, List.nil_append]
    obtain ⟨rfl, ⟨lit, b, K0, rfl, hB⟩ | ⟨b, a, c0, R, CS', rfl, rfl, hB⟩⟩ := h.pv_inv hpv
    · rw [closeK_pend]; exact close_below hB st hpv lit b i cx al
    · exact close_pvKey hB hpv b a i c0 cx al
  cases st <;> first | exact h.elim | exact pv rfl h | skip
  case foundRoot =>
    obtain ⟨rfl, rfl⟩ := h
    exact ⟨⟨.d1, false, [(.litB, i)], i + 1, [], cx, al⟩, _, rfl, Or.inr ⟨rfl, rfl, Or.inr ⟨i, rfl⟩⟩⟩
  case endTop => cases h; exact ⟨_, [], rfl, Or.inl ⟨rfl, rfl⟩⟩
  all_goals obtain ⟨a, c0, R, CS', rfl, rfl, hB⟩ := h
  case objKeyOrEmpty =>
    exact Completes.cons (c1 := ⟨.endValue, false, R, i + 1, CS', c0, true⟩) rfl
      (close_below hB .endValue rfl false 0 (i + 1) c0 true)
  case objKey =>
    -- `i + 3`: behind the three bytes of `keyA`; in every `c1` the fields are what `tstep` computes, `rfl` checks them
    exact Completes.cons (c1 := ⟨.endValue, false, (.keyB, i) :: (.objB, a) :: R, i + 3, c0 :: CS', cx, al⟩) rfl
      (close_pvKey hB rfl i a (i + 3) c0 cx al)
  case objKeyAfterNL =>
    exact Completes.cons (c1 := ⟨.endValue, false, (.keyB, i) :: (.objB, a) :: R, i + 3, c0 :: CS', cx, al⟩) rfl
      (close_pvKey hB rfl i a (i + 3) c0 cx al)
  case objValue => exact close_objValue hB g a i c0 cx al
  case afterKey =>
    exact Completes.cons (c1 := ⟨.objValue, false, (.objB, a) :: R, i + 1, c0 :: CS', cx, al⟩) rfl
      (close_objValue hB false a (i + 1) c0 cx al)
  case afterValue =>
    exact Completes.cons (c1 := ⟨.endValue, false, R, i + 1, CS', c0, al⟩) rfl
      (close_below hB .endValue rfl false 0 (i + 1) c0 al)
  case arrItemOrEmpty =>
    exact Completes.cons (c1 := ⟨.endValue, false, R, i + 1, CS', c0, !cx.arrayHasItem⟩) rfl
      (close_below hB .endValue rfl false 0 (i + 1) c0 _)
  case arrItem =>
    exact Completes.cons (c1 := ⟨.d1, false, pendOf true i ++ (.itemB, i) :: (.arrB, a) :: R, i + 1, c0 :: CS', cx, al⟩) rfl
      (close_below (Below.item i a c0 hB) .d1 rfl true i (i + 1) cx al)
  case afterItem =>
    exact Completes.cons (c1 := ⟨.endValue, false, R, i + 1, CS', c0, !cx.arrayHasItem⟩) rfl
      (close_below hB .endValue rfl false 0 (i + 1) c0 _)

/-! ### every reachable state has the invariant -/

/-- the stack of a value that starts in a slot -/
theorem slot_below {st : St} {g : Bool} {K : List (LexT × Nat)} {CS : List Ctx} (h : Shape st g K CS) {ctx : VCtx}
    (hv : vctxOf st = some ctx) (i : Nat) : Below (ctx.pre i ++ K) CS := by
  obtain rfl := vctxOf_st hv
  cases ctx
  · obtain ⟨rfl, rfl⟩ := h; exact Below.root
  all_goals obtain ⟨a, c0, R, CS', rfl, rfl, hB⟩ := h
  · exact Below.item i a c0 hB
  · exact Below.item i a c0 hB
  · exact Below.val i a c0 hB

theorem slotKind_nlSt (st : St) : slotKind (nlSt st) = slotKind st := by cases st <;> rfl

theorem closePV_shape {c c1 : TC} {e1 : List Ev} (h : c.Shape) (hpv : PV c.st = true)
    (hc : closePV c = some (c1, e1)) : c1.Shape ∧ PV c1.st = false := by
  obtain ⟨st, g, K, i, CS, cx, al⟩ := c
  obtain ⟨rfl, ⟨lit, b, K0, rfl, hB⟩ | ⟨b, a, c0, R, CS', rfl, rfl, hB⟩⟩ := Shape.pv_inv hpv h
  · cases hB with
    | root =>
      have : c1 = ⟨.endTop, false, [], i, [], cx, al⟩ := by
        cases lit <;> (simp [closePV, pendOf, pendOfK, isLitB] at hc; exact hc.1.symm)
      subst this
      exact ⟨rfl, rfl⟩
    | @item R CS' b2 a c0 hB' =>
      have : c1 = ⟨.afterItem, false, (.arrB, a) :: R, i, c0 :: CS', cx, al⟩ := by
        cases lit <;> (simp [closePV, pendOf, pendOfK, isLitB, ckOf, CK.aft] at hc; exact hc.1.symm)
      subst this
      exact ⟨⟨a, c0, R, CS', rfl, rfl, hB'⟩, rfl⟩
    | @val R CS' b2 a c0 hB' =>
      have : c1 = ⟨.afterValue, false, (.objB, a) :: R, i, c0 :: CS', cx, al⟩ := by
        cases lit <;> (simp [closePV, pendOf, pendOfK, isLitB, ckOf, CK.aft] at hc; exact hc.1.symm)
      subst this
      exact ⟨⟨a, c0, R, CS', rfl, rfl, hB'⟩, rfl⟩
  · have : c1 = ⟨.afterKey, false, (.objB, a) :: R, i, c0 :: CS', cx, al⟩ := by
      simp [closePV, pendOfK, isLitB, ckOf, CK.aft] at hc; exact hc.1.symm
    subst this
    exact ⟨⟨a, c0, R, CS', rfl, rfl, hB⟩, rfl⟩

theorem slotStep_shape {c c' : TC} {t : Tok} {e : List Ev} (h : c.Shape) (hn : PV c.st = false)
    (hs : slotStep c t = some (c', e)) (hw : t.WF) : c'.Shape := by
  cases slotStep_slot hs with
  | sp _ => exact h
  | nl _ | cmt _ => exact h.move hn (slotKind_nlSt _)
  | ann _ _ _ _ => exact Shape.move h hn rfl
  | @scalar _ tok ctx hv =>
    obtain ⟨c0, tl, st0, u0, stE, rfl, hl, hr, hp⟩ := hw
    have hE : endStOf (c0 :: tl) = stE := by simp [endStOf, Tree.endSt, hl, hr]
    exact Shape.pv true c.i (by rw [hE]; exact hp) (slot_below h hv c.i)
  | key hk =>
    have : slotKind c.st = .obj := by cases hst : c.st <;> first | rfl | (rw [hst] at hk; cases hk)
    unfold TC.Shape Shape at h
    rw [this] at h
    obtain ⟨a, c0, R, CS', hK, hC, hB⟩ := h
    exact ⟨rfl, Or.inr ⟨c.i, a, c0, R, CS', by simp only [hK], hC, hB⟩⟩
  | op br hv => cases br <;> exact ⟨c.i, _, _, _, rfl, rfl, slot_below h hv c.i⟩
  | cl br empty hst hK hC =>
    -- in both states of the closing bracket the invariant says that the bracket's opening lexeme is on top
    have : ∃ a c0 R CS', c.K = (br.opB, a) :: R ∧ c.CS = c0 :: CS' ∧ Below R CS' := by
      cases br <;> cases empty <;> (unfold TC.Shape Shape at h; rw [hst] at h; exact h)
    obtain ⟨_, _, _, _, hK2, hC2, hB⟩ := this
    rw [hK] at hK2; rw [hC] at hC2; cases hK2; cases hC2
    exact Shape.pv false 0 rfl hB
  | sep ck hst => exact Shape.move h hn (by rw [hst]; cases ck <;> rfl)

theorem aslot_shape {c c' : TC} {t : ATok} {e : List Ev} (h : c.Shape) (hn : PV c.st = false)
    (hs : aslot c t = some (c', e)) (hw : t.WF) : c'.Shape := by
  cases t with
  | base t => exact slotStep_shape h hn hs hw
  | ml b =>
    simp only [aslot, mlSlot] at hs
    split at hs <;> cases hs
    exact h

/-- one token keeps the invariant -/
theorem astep_shape {c c' : TC} {t : ATok} {e : List Ev} (h : c.Shape) (hs : astep c t = some (c', e)) (hw : t.WF) :
    c'.Shape := by
  obtain ⟨c1, e1, e2, ⟨hn, rfl, _⟩ | ⟨hpv, _, hc⟩, ha, _⟩ := astep_cases hs
  · exact aslot_shape h hn ha hw
  · obtain ⟨h1, hn1⟩ := closePV_shape h hpv hc
    exact aslot_shape h1 hn1 ha hw

theorem arun_shape : ∀ (toks : List ATok) (c c' : TC) (evs : List Ev), c.Shape → arun c toks = some (c', evs) →
    (∀ t ∈ toks, t.WF) → c'.Shape
  | [], c, c', evs, h, hr, _ => by
    simp only [arun, Option.some.injEq, Prod.mk.injEq] at hr
    obtain ⟨rfl, _⟩ := hr
    exact h
  | t :: ts, c, c', evs, h, hr, hw => by
    obtain ⟨c1, e1, e2, ht, hr2, _⟩ := arun_cons hr
    exact arun_shape ts c1 c' e2 (astep_shape h ht (hw t (by simp))) hr2 (fun x hx => hw x (by simp [hx]))

/-! ### every accepted token prefix can be completed -/

theorem renderAToks_append : ∀ (a b : List ATok), renderAToks (a ++ b) = renderAToks a ++ renderAToks b
  | [], _ => rfl
  | t :: ts, b => by simp only [List.cons_append, renderAToks, renderAToks_append ts b, List.append_assoc]

/-- **viability on the token level** (token grammar with inline and multi-line annotations and user comments):
whatever token list has been accepted from the initial state, the closing tokens of the state reached are well-formed,
are accepted behind it, and complete the text -/
theorem arun_viable (toks : List ATok) (hw : ∀ t ∈ toks, t.WF) (c' : TC) (evs : List Ev)
    (h : arun TC.init toks = some (c', evs)) :
    (∀ t ∈ closers c', t.WF) ∧
    ∃ c'' evs', arun TC.init (toks ++ (closers c').map ATok.base) = some (c'', evs ++ evs') ∧ Complete c'' := by
  refine ⟨closers_wf c', ?_⟩
  have hS := arun_shape toks TC.init c' evs TC.init_shape h hw
  obtain ⟨c'', evs', hr, hc⟩ := closers_complete c' hS
  refine ⟨c'', evs', ?_, hc⟩
  exact arun_append toks _ TC.init c' c'' evs evs' h (by rw [arun_base]; exact hr)

/-- the same for the token grammar without multi-line annotations (`trun`) -/
theorem trun_viable (toks : List Tok) (hw : ∀ t ∈ toks, t.WF) (c' : TC) (evs : List Ev)
    (h : trun TC.init toks = some (c', evs)) :
    (∀ t ∈ closers c', t.WF) ∧
    ∃ c'' evs', trun TC.init (toks ++ closers c') = some (c'', evs ++ evs') ∧ Complete c'' := by
  have h' : arun TC.init (toks.map ATok.base) = some (c', evs) := by rw [arun_base]; exact h
  obtain ⟨h1, c'', evs', hr, hc⟩ := arun_viable (toks.map ATok.base) (wf_base hw) c' evs h'
  refine ⟨h1, c'', evs', ?_, hc⟩
  rw [← List.map_append, arun_base] at hr
  exact hr

/-! ### lifted to bytes -/

/-- a byte of every class -/
def clsByte : Cls → UInt8
  | .sp => 32 | .tab => 9 | .nl => 10 | .lbrace => 123 | .rbrace => 125 | .lbrack => 91 | .rbrack => 93
  | .colon => 58 | .comma => 44 | .quote => 34 | .bslash => 92 | .slash => 47 | .hash => 35 | .at => 64
  | .star => 42 | .pipe => 124 | .minus => 45 | .underscore => 95 | .plus => 43 | .zero => 48 | .d19 => 49
  | .dot => 46 | .le => 101 | .uE => 69 | .lt => 116 | .lr => 114 | .lu => 117 | .lf => 102 | .la => 97
  | .ll => 108 | .ls => 115 | .ln => 110 | .lb => 98 | .hexo => 99 | .nameo => 103 | .ctrl => 1 | .other => 33

theorem classify_clsByte (c : Cls) : classify (clsByte c) = c := by cases c <;> decide +kernel

theorem map_classify_clsByte (l : List Cls) : (l.map clsByte).map classify = l := by
  induction l with
  | nil => rfl
  | cons c cs ih => simp only [List.map_cons, classify_clsByte, ih]

/-- the closing text of a state: `1`, `"a":1`, `:1`, then `}` / `]` / `:1` for what is open -/
def closerBytes (c : TC) : List UInt8 := (renderToks (closers c)).map clsByte

end Len

open Len in
/-- **the byte text of an accepted token list is a viable prefix**: the scanner model accepts it followed by the closing
text of the state reached -/
theorem bytes_viable (toks : List ATok) (hw : ∀ t ∈ toks, t.WF) (c' : TC) (evs : List Ev)
    (h : arun TC.init toks = some (c', evs)) (bs : List UInt8) (hbs : bs.map classify = renderAToks toks) :
    ∃ evs', scanAll (bs ++ closerBytes c') = .ok evs' := by
  obtain ⟨hwc, c'', evs', hr, hc⟩ := arun_viable toks hw c' evs h
  refine ⟨_, scan_atoks_whole (toks ++ (closers c').map ATok.base) ?_ c'' (evs ++ evs') hr hc _ ?_⟩
  · intro t ht
    rcases List.mem_append.mp ht with h1 | h1
    · exact hw t h1
    · obtain ⟨x, hx, rfl⟩ := List.mem_map.mp h1
      exact hwc x hx
  · rw [List.map_append, hbs, renderAToks_append, renderAToks_base, closerBytes, map_classify_clsByte]

end SchemaScan
