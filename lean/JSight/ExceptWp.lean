/-!
Outcomes of a call that answers in `Except`.  `wp x Q E` says `Q` of the value of `x` and `E` of its error; on a
constructor it is `Q a` resp. `E e` by definition.  A function of a model is specified by one such statement, and the
specifications are composed along the model's chains `match x with | .error e => .error e | .ok a => …` by `wp.elim`:
it is an eliminator, so `refine h.elim (fun e he => …) fun a ha => ?_` abstracts the call `x` in the goal whatever
`match` the model wraps around it (Lean does not unify two stuck matchers, so a rule stated on `match` or `>>=` would
not apply to the model's text).  When the continuation is a `match` on the value, `dsimp only` after the step
brings the next call into view.  `wp.ok` / `wp.error` read a `wp` fact at a known answer.  Where a model is written
with `do`, the rules `wp_pure`, `wp_throw`, `wp_bind`, `wp_ite` rewrite a `wp` statement along its text (`SchemaWp`).
-/
namespace Except

def wp {ε α : Type} (x : Except ε α) (Q : α → Prop) (E : ε → Prop) : Prop :=
  match x with
  | .ok a => Q a
  | .error e => E e

theorem wp.ok {ε α} {x : Except ε α} {Q E a} (h : wp x Q E) (hx : x = .ok a) : Q a := by
  subst hx; exact h

theorem wp.error {ε α} {x : Except ε α} {Q E e} (h : wp x Q E) (hx : x = .error e) : E e := by
  subst hx; exact h

@[elab_as_elim]
theorem wp.elim {ε α} {motive : Except ε α → Prop} {x : Except ε α} {Q : α → Prop} {E : ε → Prop}
    (h : wp x Q E) (error : ∀ e, E e → motive (.error e)) (ok : ∀ a, Q a → motive (.ok a)) : motive x := by
  cases x with
  | error e => exact error e h
  | ok a => exact ok a h

theorem wp.imp {ε α} {x : Except ε α} {Q Q' : α → Prop} {E E' : ε → Prop}
    (h : wp x Q E) (hQ : ∀ a, Q a → Q' a) (hE : ∀ e, E e → E' e) : wp x Q' E' :=
  h.elim hE hQ

theorem wp.mono {ε α} {x : Except ε α} {Q Q' : α → Prop} {E : ε → Prop}
    (h : wp x Q E) (hQ : ∀ a, Q a → Q' a) : wp x Q' E :=
  h.imp hQ fun _ he => he

theorem wp_ok {ε α} (a : α) (Q : α → Prop) (E : ε → Prop) : wp (.ok a) Q E = Q a := rfl
theorem wp_error {ε α} (e : ε) (Q : α → Prop) (E : ε → Prop) : wp (.error e : Except ε α) Q E = E e := rfl
theorem wp_pure {ε α} (a : α) (Q : α → Prop) (E : ε → Prop) : wp (pure a) Q E = Q a := rfl
theorem wp_throw {ε α} (e : ε) (Q : α → Prop) (E : ε → Prop) : wp (throw e : Except ε α) Q E = E e := rfl
theorem wp_bind {ε α β} (x : Except ε α) (k : α → Except ε β) (Q : β → Prop) (E : ε → Prop) :
    wp (x >>= k) Q E = wp x (fun a => wp (k a) Q E) E := by
  cases x <;> rfl
theorem wp_ite {ε α} (c : Prop) [Decidable c] (a b : Except ε α) (Q : α → Prop) (E : ε → Prop) :
    wp (if c then a else b) Q E ↔ (c → wp a Q E) ∧ (¬ c → wp b Q E) := by
  split <;> simp [*]

/-! ### folds

`Folds f l s s'`: folding `f` over `l` leads from `s` to `s'` and meets no error.  A loader's run over a list of events
is such a fold (`Loader.Fold`, `EnumRoute.FoldB`); runs are composed with `trans` / `cons`, a step is `one`. -/

def Folds {ε σ α : Type} (f : σ → α → Except ε σ) (l : List α) (s s' : σ) : Prop := l.foldlM f s = .ok s'

namespace Folds
variable {ε σ α : Type} {f : σ → α → Except ε σ}

theorem nil (f : σ → α → Except ε σ) (s : σ) : Folds f [] s s := rfl

theorem one {a : α} {s s' : σ} (h : f s a = .ok s') : Folds f [a] s s' := by
  simp only [Folds, List.foldlM_cons, List.foldlM_nil, h, bind, Except.bind, pure, Except.pure]

theorem trans {a b : List α} {s1 s2 s3 : σ} (h1 : Folds f a s1 s2) (h2 : Folds f b s2 s3) : Folds f (a ++ b) s1 s3 := by
  unfold Folds at *
  rw [List.foldlM_append, h1]
  exact h2

theorem cons {x : α} {b : List α} {s1 s2 s3 : σ} (h1 : f s1 x = .ok s2) (h2 : Folds f b s2 s3) :
    Folds f (x :: b) s1 s3 := (one h1).trans h2

theorem cast {a a' : List α} {s1 s2 s2' : σ} (h : Folds f a s1 s2) (ha : a = a') (hs : s2 = s2') :
    Folds f a' s1 s2' := by subst ha hs; exact h

end Folds

end Except
