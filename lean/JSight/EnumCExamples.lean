import JSight.EnumRouteEq
/-!
Non-vacuity witnesses for the C18 theorems on comments / exponents / named = inline: a concrete rule text with both
comment forms at every kind of place, and the same item list inline in both annotation forms.
-/
namespace EnumScan
open SchemaScan (Cls classify)

def bsOf (s : String) : List UInt8 := s.toUTF8.toList

/-- `␠[ // one⏎ 1 /* a*b */ , "a" //⏎ , true ] /* end */ ␠` -/
def xPre : List UInt8 := [32]
def xWs0 : LayB := [.blank 32, .inl [32] [111, 110, 101] 10, .blank 32]
def xItems : List ItemC :=
  [([], [49], [.blank 32, .ml [32] [97, 42, 98, 32], .blank 32]),
   ([.blank 32], [34, 97, 34], [.blank 32, .inl [] [] 10, .blank 32]),
   ([.blank 32], [116, 114, 117, 101], [.blank 32])]
def xPost : LayB := [.blank 32, .ml [32] [101, 110, 100, 32], .blank 32]

theorem xWs0_valid : xWs0.Valid := by
  intro p hp
  simp only [xWs0, List.mem_cons, List.not_mem_nil, or_false] at hp
  rcases hp with rfl | rfl | rfl
  · exact ⟨(by show (classify 32).isBlank = true; decide), trivial⟩
  · refine ⟨⟨by unfold IsSp; decide, ⟨by unfold NoNl; decide, by decide⟩⟩, by decide⟩
  · exact ⟨(by show (classify 32).isBlank = true; decide), trivial⟩

theorem blank32_valid : (PieceB.blank 32).Valid := ⟨(by show (classify 32).isBlank = true; decide), trivial⟩

theorem ml_valid (txt : List UInt8) (h1 : noClose (txt.map classify ++ [.star]) = true)
    (h2 : ∀ c, (txt.map classify).head? = some c → c.isBlank = false) : (PieceB.ml [32] txt).Valid :=
  ⟨⟨by unfold IsWs; decide, h1, h2⟩, trivial⟩

theorem xPost_valid : xPost.Valid := by
  intro p hp
  simp only [xPost, List.mem_cons, List.not_mem_nil, or_false] at hp
  rcases hp with rfl | rfl | rfl
  · exact blank32_valid
  · exact ml_valid _ (by decide) (by decide)
  · exact blank32_valid

theorem lay_nil_valid : LayB.Valid [] := by intro p hp; cases hp
theorem lay_sp_valid : LayB.Valid [.blank 32] := by
  intro p hp; simp only [List.mem_cons, List.not_mem_nil, or_false] at hp; subst hp; exact blank32_valid

theorem xItems_valid : GValidItemsC xItems := by
  have t1 : GTok (List.map classify [49]) := by
    have e : List.map classify [49] = (NumTok.mk false [.d19] none).render := by decide
    rw [e]
    exact GTok.num _ ⟨Or.inr ⟨[], rfl, by intro c hc; simp at hc⟩, by intro d ds h; cases h⟩
  have t2 : GTok (List.map classify [34, 97, 34]) := by
    have e : List.map classify [34, 97, 34] = .quote :: ([.la] ++ [.quote]) := by decide
    rw [e]
    exact GTok.str _ (.plain _ _ rfl .nil)
  have t3 : GTok (List.map classify [116, 114, 117, 101]) := by
    have e : List.map classify [116, 114, 117, 101] = [.lt, .lr, .lu, .le] := by decide
    rw [e]
    exact GTok.wtrue
  intro it hit
  simp only [xItems, List.mem_cons, List.not_mem_nil, or_false] at hit
  rcases hit with rfl | rfl | rfl
  · refine ⟨lay_nil_valid, t1, ?_⟩
    intro p hp
    simp only [List.mem_cons, List.not_mem_nil, or_false] at hp
    rcases hp with rfl | rfl | rfl
    · exact blank32_valid
    · exact ml_valid _ (by decide) (by decide)
    · exact blank32_valid
  · refine ⟨lay_sp_valid, t2, ?_⟩
    intro p hp
    simp only [List.mem_cons, List.not_mem_nil, or_false] at hp
    rcases hp with rfl | rfl | rfl
    · exact blank32_valid
    · refine ⟨⟨by unfold IsSp; decide, ⟨by unfold NoNl; decide, by decide⟩⟩, by decide⟩
    · exact blank32_valid
  · exact ⟨lay_sp_valid, t3, lay_sp_valid⟩

theorem xPre_ws : IsWsB xPre := by unfold IsWsB IsWs; decide

#eval String.fromUTF8! ⟨(renderEnumC xPre xWs0 xItems xPost).toArray⟩
#eval (match scanAll (renderEnumC xPre xWs0 xItems xPost) with
  | .ok evs => evs == enumEvsC xPre xWs0 xItems xPost
  | _ => false)
#eval length (renderEnumC xPre xWs0 xItems xPost)
#eval (rtrimB (renderEnumC xPre xWs0 xItems xPost)).length
#eval String.fromUTF8! ⟨(renderEnum xPre (LayB.blankOut xWs0) (xItems.map blankItem) (LayB.blankOut xPost)).toArray⟩

end EnumScan

namespace EnumRoute
open SchemaScan (Cls classify Ann)
open EnumScan (xPre xWs0 xItems xPost)

/-- `1 // { enum : [ 1, "a" ,true ] }` -/
def xObj : BEObj := ⟨[32], 1, [32], [32], [([], [49], []), ([32], [34, 97, 34], [32]), ([], [116, 114, 117, 101], [32])], [32]⟩

#eval String.fromUTF8! ⟨(inlineText .inline [49] [32] [32] xObj [] []).toArray⟩
#eval String.fromUTF8! ⟨(inlineText .multi [49] [32] [10] xObj [10] [42, 47, 10]).toArray⟩
#eval (match routeInline (inlineText .inline [49] [32] [32] xObj [] []),
        ruleValues (EnumScan.renderEnumC xPre xWs0 xItems xPost) with
  | .ok [cB], .ok vs => (match appendValues 0 { ruleName := [64, 69] } vs with
      | .ok cA => (proj cA == proj cB, cA.items.map CItem.src, cA.items.map CItem.comment)
      | _ => (false, [], []))
  | _, _ => (false, [], []))

theorem xItems_guessable : ∀ it ∈ xItems, Guessable it.2.1 := by
  intro it hit
  simp only [EnumScan.xItems, List.mem_cons, List.not_mem_nil, or_false] at hit
  rcases hit with rfl | rfl | rfl <;> exact ⟨by decide +kernel, by decide +kernel⟩

theorem xObj_valid (a : Ann) : xObj.cls.Valid a := by
  have hb : ∀ (l : List Cls), (∀ c ∈ l, c.isSpTab = true) → SchemaScan.ABlank a l := by
    intro l h c hc
    simp [Ann.okBlank, h c hc]
  refine ⟨hb _ (by decide), enumName_isName, hb _ (by decide), hb _ (by decide), ?_, hb _ (by decide)⟩
  intro it hit
  simp only [xObj, BEObj.cls, List.map_cons, List.map_nil, clsItem, List.mem_cons, List.not_mem_nil, or_false] at hit
  rcases hit with rfl | rfl | rfl
  · exact ⟨hb _ (by decide), ⟨.d19, [], .d1, false, .d1, rfl, rfl, rfl, rfl⟩, hb _ (by decide)⟩
  · exact ⟨hb _ (by decide), EnumScan.gtok_isScalar (by
      show EnumScan.GTok (List.map classify [34, 97, 34])
      have e : List.map classify [34, 97, 34] = .quote :: ([.la] ++ [.quote]) := by decide
      rw [e]; exact EnumScan.GTok.str _ (.plain _ _ rfl .nil)), hb _ (by decide)⟩
  · exact ⟨hb _ (by decide), SchemaScan.true_isScalar, hb _ (by decide)⟩

theorem xInline_valid : InlineValid .inline [49] [32] [32] xObj [] [] :=
  ⟨⟨.d19, [], .d1, false, .d1, rfl, rfl, rfl, rfl⟩, by intro c hc; simp at hc; subst hc; rfl,
   by intro c hc; simp at hc; subst hc; rfl, xObj_valid .inline, by intro c hc; simp at hc, .eof⟩

theorem xMulti_valid : InlineValid .multi [49] [32] [10] xObj [10] [42, 47, 10] :=
  ⟨⟨.d19, [], .d1, false, .d1, rfl, rfl, rfl, rfl⟩, by intro c hc; simp at hc; subst hc; rfl,
   by intro c hc; simp at hc; subst hc; rfl, xObj_valid .multi, by intro c hc; simp at hc; subst hc; rfl,
   .close [.nl] (by intro c hc; simp at hc; subst hc; rfl)⟩

end EnumRoute
