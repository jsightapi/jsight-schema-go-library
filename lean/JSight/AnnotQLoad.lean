import JSight.AnnotQObj
import JSight.AnnotLoad
/-!
The loader model folded over the events of a rule object in general (names bare or quoted, values literal or lists):
`rule_foldQ`, `rules_foldQ`, `obj_foldQ` over an arbitrary node table (`annG`), and `annot_foldQ`, the annotated
top-level scalar (`annEvsQ`). The node gets one rule per rule of the object, in written order: the name span is the
key-end span (quote to quote for a quoted name), the value span runs from the first to the last byte of the value
(bracket to bracket for a list, which the rule loader passes through `embContainer` — only when the rule's name, as
`nameOf` reads it, is `or` / `enum` / `allOf`: the side condition `embOK`, `embOKObj`; `listText` is the one fact of
the object's validity the fold uses). `obj_fold`, for bare names and literal values, is `obj_foldQ` at `CObj.toQ`,
where both side conditions hold for want of a list (`spans_toQ` reads `QObj.spans` there as `CObj.spans`).
-/
namespace SchemaScan

/-- the rule name's span, as the key-end event carries it -/
def QRule.span (r : QRule) (p : Nat) : Nat × Nat := (r.c.nameOff p, r.keyEnd p)

def spansRulesQ : Nat → QRule → List QRule → List (Nat × Nat)
  | p, r, [] => [r.span p]
  | p, r, r' :: rs => r.span p :: spansRulesQ (p + r.c.render.length + 1) r' rs

def QObj.spans (o : Nat) : QObj → List (Nat × Nat)
  | .empty _ => []
  | .rules r rs _ => spansRulesQ (o + 1) r rs

end SchemaScan

namespace Loader
open SchemaScan (Ev LexT Ann Cls CRule CObj QRule QObj QV CItem nlEvs rulesEvsQ tcEvs annEvsQ annEvs tailEvs spansRulesQ
  spansRules vspansRules citemsEvs renderCItems)

/-! ### single events of a list value -/

/-- a list value under a name that is not `or` / `enum` / `allOf`: error 802 at the bracket (on the one-node table of an
annotated scalar, `annSt`, which is `annG (lit1 e) … 0 …`: `annSt_eq`) -/
theorem st_value_list_plain (src : Array UInt8) (m : Mode) (hm : m ≠ .default) (nd : Node) (rn : Nat × Nat) (pl x y : Nat)
    (h : isEmbName src rn = false) :
    step src (annSt m .value nd rn pl) ⟨.arrB, x, y⟩ = .error (.ruleValueType x) := by
  simp only [isEmbName] at h
  cases m with
  | default => exact absurd rfl hm
  | inline => simp only [step, annSt, ruleLoad, h]; rfl
  | multi => simp only [step, annSt, ruleLoad, h]; rfl

theorem renderCItems_cons_length (w1 t w2 : List Cls) (its : List CItem) :
    (renderCItems ((w1, t, w2) :: its)).length
      = w1.length + t.length + w2.length + (if its.isEmpty then 0 else 1) + (renderCItems its).length := by
  cases its with
  | nil => simp [renderCItems]; omega
  | cons i2 r2 => simp [renderCItems]; omega

theorem renderCItems_pos : ∀ (its : List CItem), 0 < (renderCItems its).length
  | [] => by simp [renderCItems]
  | (w1, t, w2) :: its => by
    have := renderCItems_pos its
    rw [renderCItems_cons_length]; omega

/-- the items of a list value: the rule loader waits for the closing bracket and records the span -/
theorem citems_fold (src : Array UInt8) (base : St) (m : Mode) (hm : m ≠ .default) (i : Nat) (nd : Node) (rn : Nat × Nat) (v : Nat) :
    ∀ (items : List CItem) (o : Nat),
    Fold src (citemsEvs v o items) (annG base m (.embContainer 1) i nd rn)
      (annG base m .valueEnd i { nd with ruleVals := nd.ruleVals.dropLast ++ [some (v, o + (renderCItems items).length - 1)] } rn)
  | [], o => by
    refine (Fold.one (Moves.step src base hm i nd rn (.embArrE v o))).cast rfl ?_
    simp [renderCItems]
  | (w1, t, w2) :: its, o => by
    have f1 := nl_fold src base m hm (.embContainer 1) rfl i nd rn w1 o
    have f2 := nl_fold src base m hm (.embContainer 1) rfl i nd rn w2 (o + w1.length + t.length)
    have ih := citems_fold src base m hm i nd rn v its
      (o + w1.length + t.length + w2.length + (if its.isEmpty then 0 else 1))
    have mid : Fold src [⟨.itemB, o + w1.length, o + w1.length⟩, ⟨.litB, o + w1.length, o + w1.length⟩,
        ⟨.litE, o + w1.length, o + w1.length + t.length - 1⟩, ⟨.itemE, o + w1.length, o + w1.length + t.length - 1⟩]
        (annG base m (.embContainer 1) i nd rn) (annG base m (.embContainer 1) i nd rn) :=
      Fold.cons (Moves.step src base hm i nd rn (.skip _ (Or.inl rfl) _ _))
        (Fold.cons (Moves.step src base hm i nd rn (.skip _ (Or.inr (Or.inl rfl)) _ _))
          (Fold.cons (Moves.step src base hm i nd rn (.skip _ (Or.inr (Or.inr (Or.inl rfl))) _ _))
            (Fold.one (Moves.step src base hm i nd rn (.skip _ (Or.inr (Or.inr (Or.inr rfl))) _ _)))))
    refine (Fold.trans f1 (Fold.trans mid (Fold.trans f2 ih))).cast ?_ ?_
    · simp [citemsEvs]
    · have hp := renderCItems_pos its
      have e : o + w1.length + t.length + w2.length + (if its.isEmpty then 0 else 1) + (renderCItems its).length - 1
          = o + (renderCItems ((w1, t, w2) :: its)).length - 1 := by rw [renderCItems_cons_length]; omega
      rw [e]

/-! ### one rule -/

/-- what the fold of a rule uses of its validity: a list value is spelt `[`, blanks, items -/
def listText (r : QRule) : Prop :=
  ∀ w0 items, r.v = .list w0 items → r.c.val = Cls.lbrack :: (w0 ++ renderCItems items)

theorem listText_of_valid {a : Ann} {r : QRule} (hv : r.Valid a) : listText r := by
  intro w0 items hvk
  have h := hv.2.2.2.1
  rw [hvk] at h
  exact h.1

/-- a list value sits under a name the loader reads as `or` / `enum` / `allOf` -/
def embOK (src : Array UInt8) (r : QRule) (p : Nat) : Prop :=
  ∀ w0 items, r.v = .list w0 items → isEmbName src (r.span p) = true

/-- one rule adds its name span and its value span to the node. A LITERAL value under `or` / `enum` / `allOf` takes the
rows `embLit`, `embLitE` (the rule is added when the literal begins, the span is put in when it ends) and ends in the
same node as the rows `lit`, `litE` of any other name, which add both at the literal's end. -/
theorem rule_foldQ (src : Array UInt8) (base : St) (m : Mode) (hm : m ≠ .default) (i : Nat) (nd : Node) (rn : Nat × Nat)
    (r : QRule) (hl : listText r) (p : Nat) (hemb : embOK src r p) :
    Fold src (r.evs p) (annG base m .keyOrObjectEnd i nd rn)
      (annG base m .keyOrObjectEnd i { nd with rules := nd.rules ++ [.inl (r.span p)], ruleVals := nd.ruleVals ++ [some (r.c.vspan p)] } (r.span p)) := by
  have f1 := nl_fold src base m hm .keyOrObjectEnd rfl i nd rn r.c.b1 p
  have f3 := nl_fold src base m hm .valueBegin rfl i nd (r.span p) r.c.b3 (r.c.nameOff p + r.c.name.length + r.c.n2 + 1)
  have f5 := nl_fold src base m hm .keyOrObjectEnd rfl i { nd with rules := nd.rules ++ [.inl (r.span p)], ruleVals := nd.ruleVals ++ [some (r.c.vspan p)] } (r.span p) r.c.b4 (r.c.valOff p + r.c.val.length)
  have key : Fold src [⟨.keyB, r.c.nameOff p, r.c.nameOff p⟩, ⟨.keyE, r.c.nameOff p, r.keyEnd p⟩]
      (annG base m .keyOrObjectEnd i nd rn) (annG base m .valueBegin i nd (r.span p)) :=
    Fold.cons (Moves.step src base hm i nd rn (.keyB _ _)) (Fold.one (Moves.step src base hm i nd rn (.keyE _ _)))
  have mid : Fold src (r.v.openEvs (r.c.valOff p) ++ r.v.closeEvs (r.c.valOff p) (r.c.valOff p + r.c.val.length - 1))
      (annG base m .valueBegin i nd (r.span p))
      (annG base m .keyOrObjectEnd i { nd with rules := nd.rules ++ [.inl (r.span p)], ruleVals := nd.ruleVals ++ [some (r.c.vspan p)] } (r.span p)) := by
    cases hvk : r.v with
    | lit =>
      show Fold src [⟨.valB, r.c.valOff p, r.c.valOff p⟩, ⟨.litB, r.c.valOff p, r.c.valOff p⟩,
        ⟨.litE, r.c.valOff p, r.c.valOff p + r.c.val.length - 1⟩, ⟨.valE, r.c.valOff p, r.c.valOff p + r.c.val.length - 1⟩] _ _
      refine Fold.cons (Moves.step src base hm i nd _ (.valB _ _)) ?_
      cases h : isEmbName src (r.span p) with
      | true =>
        exact Fold.cons (Moves.step src base hm i nd _ (.embLit _ _ h)) (Fold.cons
          ((Moves.step src base hm i _ _ (.embLitE _ _)).trans (by simp [CRule.vspan]))
          (Fold.one (Moves.step src base hm i _ _ (.valE _ _))))
      | false =>
        exact Fold.cons (Moves.step src base hm i nd _ (.lit _ _ h)) (Fold.cons (Moves.step src base hm i _ _ (.litE _ _))
          (Fold.one (Moves.step src base hm i _ _ (.valE _ _))))
    | list w0 items =>
      have hve := hl w0 items hvk
      have h := hemb w0 items hvk
      have g1 := Fold.one (Moves.step src base hm i nd (r.span p) (.valB (r.c.valOff p) (r.c.valOff p)))
      have g2 := Fold.one (Moves.step src base hm i nd (r.span p) (.embArr (r.c.valOff p) (r.c.valOff p) h))
      have g3 := nl_fold src base m hm (.embContainer 1) rfl i { nd with rules := nd.rules ++ [.inl (r.span p)], ruleVals := nd.ruleVals ++ [none] } (r.span p) w0 (r.c.valOff p + 1)
      have g4 := citems_fold src base m hm i { nd with rules := nd.rules ++ [.inl (r.span p)], ruleVals := nd.ruleVals ++ [none] } (r.span p) (r.c.valOff p)
        items (r.c.valOff p + 1 + w0.length)
      have g5 := Fold.one (Moves.step src base hm i { nd with rules := nd.rules ++ [.inl (r.span p)], ruleVals := (nd.ruleVals ++ [none]).dropLast ++ [some (r.c.valOff p, r.c.valOff p + 1 + w0.length + (renderCItems items).length - 1)] } (r.span p) (.valE (r.c.valOff p) (r.c.valOff p + r.c.val.length - 1)))
      refine (Fold.trans g1 (Fold.trans g2 (Fold.trans g3 (Fold.trans g4 g5)))).cast ?_ ?_
      · simp [QV.openEvs, QV.closeEvs]
      · have hl : r.c.val.length = 1 + w0.length + (renderCItems items).length := by
          rw [hve]; simp only [List.length_cons, List.length_append]; omega
        have e : r.c.valOff p + 1 + w0.length + (renderCItems items).length - 1 = r.c.valOff p + r.c.val.length - 1 := by
          omega
        simp only [List.dropLast_concat, CRule.vspan, e]
  refine (Fold.trans f1 (Fold.trans key (Fold.trans f3 (Fold.trans mid f5)))).cast ?_ rfl
  simp [QRule.evs, QRule.openEvs, QRule.closeEvs]

/-! ### the rules, the object, the annotated scalar -/

def embOKRules (src : Array UInt8) : Nat → QRule → List QRule → Prop
  | p, r, [] => embOK src r p
  | p, r, r' :: rs => embOK src r p ∧ embOKRules src (p + r.c.render.length + 1) r' rs

def embOKObj (src : Array UInt8) (o : Nat) : QObj → Prop
  | .empty _ => True
  | .rules r rs _ => embOKRules src (o + 1) r rs

/-- `rule_foldQ` along the rules; `rn'`, the pending name behind them, is the last rule's span -/
theorem rules_foldQ (src : Array UInt8) (base : St) (m : Mode) (hm : m ≠ .default) (i : Nat) : ∀ (rs : List QRule)
    (r : QRule), (∀ x ∈ r :: rs, listText x) → ∀ (nd : Node) (rn : Nat × Nat) (p : Nat), embOKRules src p r rs →
    ∃ rn', Fold src (rulesEvsQ p r rs) (annG base m .keyOrObjectEnd i nd rn)
      (annG base m .keyOrObjectEnd i (addSpans nd (spansRulesQ p r rs) (vspansRules p r.c (rs.map QRule.c))) rn')
  | [], r, hl, nd, rn, p, he =>
    ⟨r.span p, (rule_foldQ src base m hm i nd rn r (hl r (by simp)) p he).cast rfl (by simp [addSpans, spansRulesQ, vspansRules])⟩
  | r' :: rs, r, hl, nd, rn, p, he => by
    obtain ⟨rn', ih⟩ := rules_foldQ src base m hm i rs r' (fun z hz => hl z (List.mem_cons_of_mem _ hz))
      { nd with rules := nd.rules ++ [.inl (r.span p)], ruleVals := nd.ruleVals ++ [some (r.c.vspan p)] }
      (r.span p) (p + r.c.render.length + 1) he.2
    refine ⟨rn', (Fold.trans (rule_foldQ src base m hm i nd rn r (hl r (by simp)) p he.1) ih).cast rfl ?_⟩
    rw [addSpans_cons]; rfl

def rulesOf : QObj → List QRule
  | .empty _ => []
  | .rules r rs _ => r :: rs

/-- the events of a rule object behind its object-begin event, for any node table `base`, node `i` and pending rule
name `rn`: the node gets the rules with the spans of `ob` (`addSpans`), the rule loader ends in `.commentTextBegin`.
This is the hypothesis `hobj` of `ann_fold_of`. -/
theorem obj_foldQ (src : Array UInt8) (base : St) (m : Mode) (hm : m ≠ .default) (i : Nat) (ob : QObj)
    (hl : ∀ x ∈ rulesOf ob, listText x) (o : Nat) (he : embOKObj src o ob) (nd : Node) (rn : Nat × Nat) :
    ∃ rn', Fold src (ob.evs o) (annG base m .keyOrObjectEnd i nd rn)
      (annG base m .commentTextBegin i (addSpans nd (ob.spans o) (ob.c.vspans o)) rn') := by
  cases ob with
  | empty b0 =>
    refine ⟨rn, ?_⟩
    have f1 := nl_fold src base m hm .keyOrObjectEnd rfl i nd rn b0 (o + 1)
    have f2 := Fold.one (Moves.step src base hm i nd rn (.objE o (o + 1 + b0.length)))
    exact (Fold.trans f1 f2).cast (by simp [QObj.evs])
      (by simp [QObj.spans, QObj.c, CObj.vspans, addSpans])
  | rules r rs tc =>
    obtain ⟨rn', f1⟩ := rules_foldQ src base m hm i rs r hl nd rn (o + 1) he
    have f2 : Fold src (tcEvs (o + 1 + (SchemaScan.renderRules r.c (rs.map QRule.c)).length) tc)
        (annG base m .keyOrObjectEnd i (addSpans nd (spansRulesQ (o + 1) r rs) (vspansRules (o + 1) r.c (rs.map QRule.c))) rn')
        (annG base m .keyOrObjectEnd i (addSpans nd (spansRulesQ (o + 1) r rs) (vspansRules (o + 1) r.c (rs.map QRule.c))) rn') := by
      cases tc with
      | none => exact Fold.nil _ _
      | some b5 => exact nl_fold src base m hm .keyOrObjectEnd rfl i _ rn' b5 _
    have f3 := Fold.one (Moves.step src base hm i (addSpans nd (spansRulesQ (o + 1) r rs) (vspansRules (o + 1) r.c (rs.map QRule.c))) rn' (.objE o
      (o + 1 + (SchemaScan.renderRules r.c (rs.map QRule.c) ++ SchemaScan.renderTc tc).length)))
    exact ⟨rn', (Fold.trans f1 (Fold.trans f2 f3)).cast (by simp [QObj.evs])
      (by simp [QObj.spans, QObj.c, CObj.vspans])⟩

theorem listText_of_obj {a : Ann} {ob : QObj} (hv : ob.Valid a) : ∀ x ∈ rulesOf ob, listText x := by
  cases ob with
  | empty b0 => intro x hx; cases hx
  | rules r rs tc =>
    intro x hx
    rcases List.mem_cons.1 hx with rfl | hx
    · exact listText_of_valid hv.1.1
    · exact listText_of_valid (hv.1.2 x hx)

/-- **the loader on the events of an annotated scalar** (quoted names, list values): one node, the rules named by the
key-end spans in written order, each with the span of its value -/
theorem annot_foldQ (src : Array UInt8) (a : Ann) (ha : a.isAnn = true) (tok s1 s2 : List Cls) (ob : QObj)
    (hv : ob.Valid a) (he : embOKObj src (SchemaScan.objOff tok s1 s2) ob) (s3 tl : List Cls) :
    ∃ st, Fold src (annEvsQ a tok s1 s2 ob s3 tl) {} st ∧ st.root = some 0 ∧
      st.nodes = #[addSpans { kind := .lit, parent := none, value := some (0, tok.length - 1) }
        (ob.spans (SchemaScan.objOff tok s1 s2)) (ob.c.vspans (SchemaScan.objOff tok s1 s2))] :=
  annot_fold_of src a ha tok s1 s2 (ob.evs (SchemaScan.objOff tok s1 s2)) ob.c.body.length _
    (obj_foldQ src _ (modeOf a) modeOf_ne 0 ob (listText_of_obj hv) (SchemaScan.objOff tok s1 s2) he _) s3 tl _

/-! ### bare names and literal values -/

theorem spansRulesQ_toQ : ∀ (rs : List CRule) (r : CRule) (p : Nat),
    spansRulesQ p r.toQ (rs.map CRule.toQ) = spansRules p r rs
  | [], _, _ => rfl
  | r' :: rs, r, p => by
    simp only [List.map_cons, spansRulesQ, spansRules, spansRulesQ_toQ rs r']
    rfl

theorem spans_toQ (ob : CObj) (o : Nat) : ob.toQ.spans o = ob.spans o := by
  cases ob with
  | empty b0 => rfl
  | rules r rs tc => exact spansRulesQ_toQ rs r (o + 1)

theorem embOKRules_toQ (src : Array UInt8) : ∀ (rs : List CRule) (r : CRule) (p : Nat),
    embOKRules src p r.toQ (rs.map CRule.toQ)
  | [], _, _ => fun _ _ h => by cases h
  | r' :: rs, _, _ => ⟨fun _ _ h => (by cases h), embOKRules_toQ src rs r' _⟩

/-- `obj_foldQ` for bare names and literal values -/
theorem obj_fold (src : Array UInt8) (base : St) (m : Mode) (hm : m ≠ .default) (i : Nat) (ob : CObj) (o : Nat) (nd : Node)
    (rn : Nat × Nat) :
    ∃ rn', Fold src (ob.evs o) (annG base m .keyOrObjectEnd i nd rn)
      (annG base m .commentTextBegin i (addSpans nd (ob.spans o) (ob.vspans o)) rn') := by
  have hl : ∀ x ∈ rulesOf ob.toQ, listText x := by
    intro x hx w0 items h
    cases ob with
    | empty b0 => cases hx
    | rules r rs tc =>
      simp only [CObj.toQ, rulesOf, List.mem_cons, List.mem_map] at hx
      rcases hx with rfl | ⟨y, _, rfl⟩ <;> cases h
  have he : embOKObj src o ob.toQ := by
    cases ob with
    | empty b0 => trivial
    | rules r rs tc => exact embOKRules_toQ src rs r (o + 1)
  have h := obj_foldQ src base m hm i ob.toQ hl o he nd rn
  rwa [CObj.toQ_evs, spans_toQ, CObj.toQ_c] at h

end Loader
