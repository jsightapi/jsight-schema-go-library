import JSight.BridgeCK4Keys
import JSight.BridgeCK3Fuel
/-!
Bridge (A)∩(C): the TREE and the TYPE TABLE on the class `xrk` ⊇ `xr` — `xr` without `keyDirect`: the type a
KEY shortcut names may be any entry of the table, a type shortcut `@k = @s` / or-shortcut `@k = @a | @b` included (chains
and cycles of any length). The tree induction `node_c` (`BridgeCK2NoRef`) at the class `xrk` (`xrk_class`): the key
step is `keys_agree_k` (`BridgeCK4Keys`), which needs `|table| + 2 ≤ fuel` on (A)'s side and `|table| ≤ |(C)'s table|`.
`agree_typed_k`: `checkA root ts` = `checkC root ts` read back by `resOf` (on `xr ⊆ xrk` too: `xr_sub`).
-/
namespace BridgeCK
open Compile

section
variable (ts : Types) (env : CK.Env) (fuel : Nat)

theorem xrkItems_mem (items : List CN) (h : xrkItems ts items = true) : ∀ x ∈ items, xrk ts x = true :=
  mem_of_all (fun _ _ => rfl) items h

theorem xrkProps_mem (props : List (String × Bool × Bool × Bool × CN)) (h : xrkProps ts props = true) :
    ∀ p ∈ props, xrk ts p.2.2.2.2 = true ∧ (p.2.1 = true → nameOK ("@" ++ p.1)) := fun p hp => by
  have := mem_of_all (P := fun p => (!p.2.1 || decide (byteChars ("@" ++ p.1))) && xrk ts p.2.2.2.2)
    (fun ⟨_, _, _, _, _⟩ _ => rfl) props h p hp
  simp only [Bool.and_eq_true, Bool.or_eq_true, Bool.not_eq_true', decide_eq_true_eq] at this
  exact ⟨this.2, fun hs => ⟨this.1.resolve_left (by simp [hs]), named_at _⟩⟩

theorem xrk_class (hE : EnvRelN ts env) (hT : ∀ n cn, lookupT ts n = some cn → xrk ts cn = true)
    (hf : (∃ f, fuel = f + 1) ∧ ts.length + 2 ≤ fuel ∧ ts.length ≤ env.types.length) :
    TreeClass ts env fuel fun cn => xrk ts cn = true :=
  TreeClass.of_xrk ts env fuel hE (fun n cn hl => xrk_head ts cn (hT n cn hl)) hf.1 _ (fun _ h => h)
    (fun items _ _ h => xrkItems_mem ts items (by simpa only [xrk] using h))
    (fun props _ _ _ h => by
      simp only [xrk, Bool.and_eq_true] at h
      have hm := xrkProps_mem ts props h.1
      exact ⟨fun p hp => (hm p hp).1,
        keys_agree_k ts env hE (fun n cn hl => xrk_head ts cn (hT n cn hl)) fuel hf.2.1 hf.2.2 props fun p hp => (hm p hp).2⟩)

theorem items_k (hE : EnvRelN ts env) (hT : ∀ n cn, lookupT ts n = some cn → xrk ts cn = true) (hf : (∃ f, fuel = f + 1) ∧ ts.length + 2 ≤ fuel ∧ ts.length ≤ env.types.length) :
    (items : List CN) → xrkItems ts items = true → NoFuel (checkItems ts fuel items) →
    CK.checkNodes noOracles env (dumpItems items) = panicOf (checkItems ts fuel items) ∧ Pos (checkItems ts fuel items) :=
  fun items h => items_c ts env fuel _ (xrk_class ts env fuel hE hT hf) items (xrkItems_mem ts items h)

theorem props_k (hE : EnvRelN ts env) (hT : ∀ n cn, lookupT ts n = some cn → xrk ts cn = true) (hf : (∃ f, fuel = f + 1) ∧ ts.length + 2 ≤ fuel ∧ ts.length ≤ env.types.length) :
    (props : List (String × Bool × Bool × Bool × CN)) → xrkProps ts props = true → NoFuel (checkProps ts fuel props) →
    CK.checkNodes noOracles env (dumpProps props) = panicOf (checkProps ts fuel props) ∧ Pos (checkProps ts fuel props) :=
  fun props h => props_c ts env fuel _ (xrk_class ts env fuel hE hT hf) props fun p hp => (xrkProps_mem ts props h p hp).1

end

mutual
theorem orShortsK_shape (ts : Types) : (path : String) → Hash path → (cn : CN) → xrk ts cn = true →
    ∀ p ∈ orShorts path cn, ShapeOK p
  | _, _, .lit _ _, _, p, hm => by simp [orShorts] at hm
  | _, _, .any _ _, _, p, hm => by simp [orShorts] at hm
  | path, hp, .arr items _ _, h, p, hm =>
    orShortsKItems_shape ts path hp 0 items (by simpa [xrk] using h) p (by simpa [orShorts] using hm)
  | path, hp, .obj props _ _ _, h, p, hm => by
    simp only [xrk, Bool.and_eq_true] at h
    exact orShortsKProps_shape ts path hp 0 props h.1 p (by simpa [orShorts] using hm)
  | path, hp, .ref names nul jt ex os, h, p, hm => by
    cases os with
    | false => simp [orShorts] at hm
    | true =>
      simp only [orShorts, List.mem_singleton] at hm
      subst hm
      simp only [xrk, Bool.and_eq_true, List.all_eq_true, decide_eq_true_eq] at h
      obtain ⟨hb, hcase⟩ := h
      by_cases hmx : jt = .mixed
      · subst hmx
        simp only [beq_self_eq_true, if_true, Option.isNone_iff_eq_none] at hcase
        subst hcase
        exact ⟨hp, names, nul, rfl, hb⟩
      · have hmb : (jt == JT.mixed) = false := by simpa using hmx
        simp [hmb] at hcase
theorem orShortsKItems_shape (ts : Types) : (path : String) → Hash path → (i : Nat) → (items : List CN) →
    xrkItems ts items = true → ∀ p ∈ orShortsItems path i items, ShapeOK p
  | _, _, _, [], _, p, hm => by simp [orShortsItems] at hm
  | path, hp, i, x :: xs, h, p, hm => by
    simp only [xrkItems, Bool.and_eq_true] at h
    simp only [orShortsItems, List.mem_append] at hm
    rcases hm with hm | hm
    · exact orShortsK_shape ts _ (hash_append _ _ (hash_append _ _ hp)) x h.1 p hm
    · exact orShortsKItems_shape ts path hp (i + 1) xs h.2 p hm
theorem orShortsKProps_shape (ts : Types) : (path : String) → Hash path → (i : Nat) →
    (props : List (String × Bool × Bool × Bool × CN)) → xrkProps ts props = true → ∀ p ∈ orShortsProps path i props, ShapeOK p
  | _, _, _, [], _, p, hm => by simp [orShortsProps] at hm
  | path, hp, i, (_, _, _, _, x) :: xs, h, p, hm => by
    simp only [xrkProps, Bool.and_eq_true] at h
    simp only [orShortsProps, List.mem_append] at hm
    rcases hm with hm | hm
    · exact orShortsK_shape ts _ (hash_append _ _ (hash_append _ _ hp)) x h.1.2 p hm
    · exact orShortsKProps_shape ts path hp (i + 1) xs h.2 p hm
end

theorem orShortsProps_shape (ts : Types) : (path : String) → Hash path → (i : Nat) →
    (props : List (String × Bool × Bool × Bool × CN)) → xrProps ts props = true → ∀ p ∈ orShortsProps path i props, ShapeOK p :=
  fun path hp i props h => orShortsKProps_shape ts path hp i props (xrProps_sub ts props h)

/-- **the two checkers agree on the class `xrk`** (nodes with an EXAMPLE and a types list, reference chains of any
length, key shortcuts of any named type, or-shortcuts and their unnamed types): the same verdict and the same first error
code; neither side runs out of fuel ((A): `node_fuel`, (C): `C04_checker_no_crash`) -/
theorem agree_typed_k (root : Option CN) (ts : Types) (hroot : ∀ r, root = some r → xrk ts r = true)
    (hts : ∀ t ∈ ts, xrk ts t.2 = true ∧ byteChars t.1 ∧ (name t.1).head? = some 64)
    (hnd : (ts.map (·.1)).Nodup) :
    resOf (checkC root ts) = some (checkA root ts) := by
  let U := ts.flatMap fun t => orShorts ("#" ++ t.1) t.2
  have hun : unnamed ts = U.map typeEntry := rfl
  have hnamed : ∀ t ∈ ts, CK.isUnnamed (name t.1) = false := fun t ht => by
    unfold CK.isUnnamed; rw [(hts t ht).2.2]; rfl
  have hUs : ∀ u ∈ U, ShapeOK u := by
    intro u hu
    obtain ⟨t, ht, hut⟩ := List.mem_flatMap.1 hu
    exact orShortsK_shape ts _ (hash_start t.1) t.2 (hts t ht).1 u hut
  have hall : (ts.all fun t => orShortsOK ts t.2) = U.all (okRef ts) := by
    rw [List.all_flatMap]
    congr 1
    funext t
    exact orShortsOK_all ts _ t.2
  have hE := envRelN_ext ts U (fun t ht => (hts t ht).2.1) (fun u hu => (hUs u hu).1)
  have hT : ∀ n cn, lookupT ts n = some cn → xrk ts cn = true :=
    lookup_class ts (fun cn => xrk ts cn = true) (fun t ht => (hts t ht).1)
  have hfuel : ∀ r, (∃ f, checkFuel r ts = f + 1) ∧ ts.length + 2 ≤ checkFuel r ts ∧
      ts.length ≤ (⟨(ts.map typeEntry ++ U.map typeEntry).map fun t => (t.name, t.root.hd)⟩ : CK.Env).types.length :=
    fun r => ⟨⟨checkFuel r ts - 1, by
      have : 0 < checkFuel r ts := by unfold checkFuel; omega
      omega⟩, by unfold checkFuel; omega, by simp⟩
  have hvis : CK.sortTypes (ts.map typeEntry ++ U.map typeEntry) =
      CK.sortTypes (U.map typeEntry) ++ (sortTs ts).map typeEntry := by
    rw [sort_append, sort_entries ts hnd (fun t ht => ⟨(hts t ht).2.1, hnamed t ht⟩)]
    intro a ha v hv
    obtain ⟨t, ht, rfl⟩ := List.mem_map.1 ha
    obtain ⟨u, hu, rfl⟩ := List.mem_map.1 hv
    exact goesFirst_named_unnamed _ _ (hts t ht).2.2 (hUs u hu).1
  have hL : ∀ r, ∀ t ∈ sortTs ts, t ∈ ts ∧ xrk ts t.2 = true ∧ NoFuel (Compile.checkNode ts (checkFuel r ts) t.2) :=
    fun r t ht =>
      have hm := (mem_sortTs ts t).1 ht
      ⟨hm, (hts t hm).1, node_fuel ts _ t.2 (table_fuel r ts t.1 t.2 (Tbl.firstBy_of_nodup_keys Prod.fst Prod.snd ts hnd t hm))⟩
  -- the visit of the type table: the unnamed types (1302 or nothing), then the named ones
  have hvisit : ∀ r,
      resOf (CK.checkTypes noOracles ⟨(ts.map typeEntry ++ U.map typeEntry).map fun t => (t.name, t.root.hd)⟩
          (CK.sortTypes (U.map typeEntry) ++ (sortTs ts).map typeEntry)) =
        some (if !(ts.all fun t => orShortsOK ts t.2) then .error (.code 1302 0)
          else Compile.checkTypes ts (checkFuel r ts) ((sortTs ts).map (·.1))) := by
    intro r
    have hchk : ∀ v ∈ CK.sortTypes (U.map typeEntry), ∃ u ∈ U, v = typeEntry u := by
      intro v hv
      obtain ⟨u, hu, e⟩ := List.mem_map.1 ((mem_sortTypes _ v).1 hv)
      exact ⟨u, hu, e.symm⟩
    rw [hall]
    cases hok : U.all (okRef ts)
    · simp only [Bool.not_false, if_true]
      obtain ⟨ut, hut⟩ := checkTypes_prefix_bad _ (CK.sortTypes (U.map typeEntry)) ((sortTs ts).map typeEntry)
        (fun v hv => by
          obtain ⟨u, hu, rfl⟩ := hchk v hv
          rw [unnamed_check ts _ hE u (hUs u hu)]
          cases okRef ts u
          · exact Or.inr ⟨_, rfl⟩
          · exact Or.inl rfl)
        (by
          obtain ⟨u, hu, hbad⟩ := List.all_eq_false.1 hok
          have hbad : okRef ts u = false := by simpa using hbad
          refine ⟨typeEntry u, (mem_sortTypes _ _).2 (List.mem_map_of_mem hu), ?_⟩
          rw [unnamed_check ts _ hE u (hUs u hu), hbad]
          simp)
      rw [hut]
      rfl
    · simp only [Bool.not_true, Bool.false_eq_true, if_false]
      rw [checkTypes_prefix_ok _ _ _ (fun v hv => by
        obtain ⟨u, hu, rfl⟩ := hchk v hv
        rw [unnamed_check ts _ hE u (hUs u hu), List.all_eq_true.1 hok u hu]
        rfl)]
      exact types_c ts _ _ _ (xrk_class ts _ _ hE hT (hfuel r)) hnd (sortTs ts) (hL r)
  unfold checkC CK.checkSchema dumpOf
  simp only [hun, CK.Schema.visit, CK.Schema.env, hvis]
  cases root with
  | none =>
    simp only [Option.map_none, checkA, checkNoRoot, ← sortTs_names]
    exact hvisit none
  | some r =>
    simp only [Option.map_some, checkA, ← sortTs_names]
    exact root_c ts _ _ _ (xrk_class ts _ _ hE hT (hfuel (some r))) r (hroot r rfl) (node_fuel ts _ r (root_fuel r ts))
      (hvisit (some r))

end BridgeCK
