import JSight.SchemaHelpers
/-! Leaf transitions of the comment and annotation states, and of `endTop`. -/
namespace SchemaScan

theorem St.annRet_not_guard {r : St} (h : r.annRet = true) : r.isGuard = false := by
  cases r <;> first | rfl | simp [St.annRet] at h

theorem anyCommentStart_ok {f s c p1 p2} (h : InvAt .anyCommentStart s) :
    OKRes Inv (dispatch (f+1) .anyCommentStart s c p1 p2) := by
  obtain ⟨eff, hE, hG⟩ := h
  obtain ⟨r, ret', hret, hrc, hGr⟩ := hG.inv
  unfold dispatch; dsimp only
  simp only [bind, Except.bind, pure, Except.pure]
  split
  · split
    · refine OKRes.bind (popRet_spec hret) ?_
      rintro _ rfl
      exact ⟨_, Eff_found hE rfl rfl, hGr⟩
    · refine ⟨_, hE, ?_⟩
      show Good .inlineComment eff s.ret
      rw [hret]; exact Good.comment rfl hrc hGr
  · split
    · refine ⟨_, hE, ?_⟩
      show Good .multiLineComment eff s.ret
      rw [hret]; exact Good.comment rfl hrc hGr
    · rfl

theorem inlineComment_ok {f s c p1 p2} (h : InvAt .inlineComment s) (hs : StepOK .inlineComment s c) :
    OKRes Inv (dispatch (f+1) .inlineComment s c p1 p2) := by
  obtain ⟨eff, hE, hG⟩ := h
  have hK := Good.keep hs hG
  obtain ⟨r, ret', hret, hrc, hGr⟩ := hG.inv
  unfold dispatch; dsimp only
  simp only [bind, Except.bind, pure, Except.pure]
  split
  · refine OKRes.bind (popRet_spec hret) ?_
    rintro _ rfl
    exact ⟨_, Eff_found hE rfl rfl, hGr⟩
  · exact ⟨_, hE, hK⟩

theorem multiLineComment_ok {f s c p1 p2} (h : InvAt .multiLineComment s)
    (hs : StepOK .multiLineComment s c) :
    OKRes Inv (dispatch (f+1) .multiLineComment s c p1 p2) := by
  obtain ⟨eff, hE, hG⟩ := h
  have hK := Good.keep hs hG
  obtain ⟨r, ret', hret, hrc, hGr⟩ := hG.inv
  unfold dispatch; dsimp only
  simp only [bind, Except.bind, pure, Except.pure]
  split
  · refine OKRes.bind (popRet_spec hret) ?_
    rintro _ rfl
    exact ⟨_, hE, hGr⟩
  · exact ⟨_, hE, hK⟩

theorem anyAnnStart_ok {f s c p1 p2} (h : InvAt .anyAnnStart s) :
    OKRes Inv (dispatch (f+1) .anyAnnStart s c p1 p2) := by
  obtain ⟨eff, hE, hG⟩ := h
  obtain ⟨r, ret', hret, hr, hGr⟩ := hG.inv
  have h1 : Good .inlAnn (.inlAnnB :: eff) s.ret := by rw [hret]; exact Good.inl rfl hr hGr
  have h2 : Good .mlAnn (.mlAnnB :: eff) s.ret := by rw [hret]; exact Good.ml rfl hr hGr
  unfold dispatch; dsimp only
  cases c <;> first | rfl | exact ⟨_, Eff_found hE rfl rfl, h1⟩ | exact ⟨_, Eff_found hE rfl rfl, h2⟩

theorem inlAnnStart_ok {f s c p1 p2} (h : InvAt .inlAnnStart s) :
    OKRes Inv (dispatch (f+1) .inlAnnStart s c p1 p2) := by
  obtain ⟨eff, hE, hG⟩ := h
  obtain ⟨r, ret', hret, hr, hGr⟩ := hG.inv
  have h1 : Good .inlAnn (.inlAnnB :: eff) s.ret := by rw [hret]; exact Good.inl rfl hr hGr
  unfold dispatch; dsimp only
  split
  · rfl
  · exact ⟨_, Eff_found hE rfl rfl, h1⟩

theorem inlTxtPrefix_ok {f s c p1 p2} (h : InvAt .inlTxtPrefix s) (hs : StepOK .inlTxtPrefix s c) :
    OKRes Inv (dispatch (f+1) .inlTxtPrefix s c p1 p2) := by
  obtain ⟨eff, hE, hG⟩ := h
  have hK := Good.keep hs hG
  obtain ⟨r, σ, ret', rfl, hret, hr, hGr⟩ := hG.inv
  have h2 : Good .inlTxtPrefix2 (.inlAnnB :: σ) s.ret := by rw [hret]; exact Good.inl rfl hr hGr
  unfold dispatch; dsimp only
  simp only [bind, Except.bind, pure, Except.pure]
  refine OKRes.ite (fun _ => ⟨_, hE, hK⟩) fun _ => ?_
  refine OKRes.ite (fun _ => ?_) fun _ => ?_
  · refine OKRes.bind (popRet_spec (s := found (found s .inlAnnE) .newLine) hret) ?_
    rintro _ rfl
    have hE' : Eff (found (found s .inlAnnE) .newLine) σ := Eff_found (Eff_found hE rfl rfl) rfl rfl
    dsimp only
    split
    · exact ⟨_, hE', hGr⟩
    · exact ⟨_, hE', hGr⟩
  refine OKRes.ite (fun _ => swCom_ok hs hE hG rfl) fun _ => ?_
  exact OKRes.ite (fun _ => ⟨_, hE, h2⟩) fun _ => rfl

theorem inlTxt_ok {f s c p1 p2} (h : InvAt .inlTxt s) (hs : StepOK .inlTxt s c) :
    OKRes Inv (dispatch (f+1) .inlTxt s c p1 p2) := by
  obtain ⟨eff, hE, hG⟩ := h
  have hK := Good.keep hs hG
  obtain ⟨r, σ, ret', rfl, hret, hr, hGr⟩ := hG.inv
  have hE2 : Eff (found (found s .inlTxtE) .inlAnnE) σ := Eff_found (Eff_found hE rfl rfl) rfl rfl
  unfold dispatch; dsimp only
  simp only [bind, Except.bind, pure, Except.pure]
  have h2 : Good .inlTxtSkip σ s.ret := by rw [hret]; exact Good.pend rfl hr hGr
  refine OKRes.ite (fun _ => ?_) fun _ => ?_
  · refine OKRes.bind (popRet_spec (s := found (found (found s .inlTxtE) .inlAnnE) .newLine) hret) ?_
    rintro _ rfl
    have hE' : Eff (found (found (found s .inlTxtE) .inlAnnE) .newLine) σ := Eff_found hE2 rfl rfl
    have hg := Good.guard (St.annRet_not_guard hr) hGr
    dsimp only
    split
    · exact ⟨_, hE', hg⟩
    · exact ⟨_, hE', hg⟩
  refine OKRes.ite (fun _ => ?_) fun _ => ⟨_, hE, hK⟩
  exact OKRes.ite (fun _ => ⟨_, hE2, h2⟩) fun _ => ⟨_, hE, hK⟩

theorem inlTxtSkip_ok {f s c p1 p2} (h : InvAt .inlTxtSkip s) (hs : StepOK .inlTxtSkip s c) :
    OKRes Inv (dispatch (f+1) .inlTxtSkip s c p1 p2) := by
  obtain ⟨eff, hE, hG⟩ := h
  have hK := Good.keep hs hG
  obtain ⟨r, ret', hret, hr, hGr⟩ := hG.inv
  unfold dispatch; dsimp only
  simp only [bind, Except.bind, pure, Except.pure]
  split
  · exact ⟨_, hE, hK⟩
  · refine OKRes.bind (popRet_spec (s := found s .newLine) hret) ?_
    rintro _ rfl
    have hE' : Eff (found s .newLine) eff := Eff_found hE rfl rfl
    have hg := Good.guard (St.annRet_not_guard hr) hGr
    dsimp only
    split
    · exact ⟨_, hE', hg⟩
    · exact ⟨_, hE', hg⟩

theorem mlTxtPrefix_ok {f s c p1 p2} (h : InvAt .mlTxtPrefix s) (hs : StepOK .mlTxtPrefix s c) :
    OKRes Inv (dispatch (f+1) .mlTxtPrefix s c p1 p2) := by
  obtain ⟨eff, hE, hG⟩ := h
  have hK := Good.keep hs hG
  obtain ⟨r, σ, ret', rfl, hret, hr, hGr⟩ := hG.inv
  have h1 : Good .mlAnnEnd (.mlAnnB :: σ) s.ret := by rw [hret]; exact Good.ml rfl hr hGr
  have h2 : Good .mlTxtPrefix2 (.mlAnnB :: σ) s.ret := by rw [hret]; exact Good.ml rfl hr hGr
  unfold dispatch; dsimp only
  simp only [bind, Except.bind, pure, Except.pure]
  refine OKRes.ite (fun _ => ⟨_, Eff_found hE rfl rfl, hK⟩) fun _ => ?_
  refine OKRes.ite (fun _ => ⟨_, hE, hK⟩) fun _ => ?_
  refine OKRes.ite (fun _ => swCom_ok hs hE hG rfl) fun _ => ?_
  refine OKRes.ite (fun _ => ⟨_, hE, h1⟩) fun _ => ?_
  exact OKRes.ite (fun _ => ⟨_, hE, h2⟩) fun _ => rfl

theorem mlAnnEnd_ok {f s c p1 p2} (h : InvAt .mlAnnEnd s) :
    OKRes Inv (dispatch (f+1) .mlAnnEnd s c p1 p2) := by
  obtain ⟨eff, hE, hG⟩ := h
  obtain ⟨r, σ, ret', rfl, hret, hr, hGr⟩ := hG.inv
  unfold dispatch; dsimp only
  simp only [bind, Except.bind, pure, Except.pure]
  split
  · rfl
  · refine OKRes.bind (popRet_spec (s := found { s with ann := .none } .mlAnnE) hret) ?_
    rintro _ rfl
    exact ⟨_, Eff_found (s := { s with ann := .none }) hE rfl rfl, hGr⟩

theorem mlTxt_ok {f s c p1 p2} (h : InvAt .mlTxt s) (hs : StepOK .mlTxt s c) :
    OKRes Inv (dispatch (f+1) .mlTxt s c p1 p2) := by
  obtain ⟨eff, hE, hG⟩ := h
  have hK := Good.keep hs hG
  obtain ⟨r, σ, ret', rfl, hret, hr, hGr⟩ := hG.inv
  unfold dispatch; dsimp only
  split
  · refine ⟨_, Eff_found hE rfl rfl, ?_⟩
    show Good .mlAnnEnd _ s.ret
    rw [hret]; exact Good.ml rfl hr hGr
  · exact ⟨_, hE, hK⟩

theorem endTop_ok {f s c p1 p2} (h : InvAt .endTop s) (hs : StepOK .endTop s c) :
    OKRes Inv (dispatch (f+1) .endTop s c p1 p2) := by
  obtain ⟨eff, hE, hG⟩ := h
  have hK := Good.keep hs hG
  unfold dispatch; dsimp only
  simp only [bind, Except.bind, pure, Except.pure]
  refine OKRes.ite (fun _ => ⟨_, Eff_found hE rfl rfl, hK⟩) fun _ => ?_
  rcases isNewLineM_cases s c with hn | ⟨e, hn, he⟩ <;> simp only [hn]
  · refine OKRes.ite (fun _ => ⟨_, Eff_found hE rfl rfl, hK⟩) fun _ => ?_
    refine OKRes.ite (fun h => swAnn_ok hs h hE hG rfl) fun _ => ?_
    refine OKRes.ite (fun _ => swCom_ok hs hE hG rfl) fun _ => ?_
    refine OKRes.ite (fun _ => ?_) fun _ => ⟨_, hE, hK⟩
    refine OKRes.ite (fun _ => ?_) fun _ => ?_
    · exact OKRes.ite (fun _ => ⟨_, hE, hK⟩) fun _ => ⟨_, Eff_found hE rfl rfl, hK⟩
    · exact OKRes.ite (fun _ => rfl) fun _ => ⟨_, hE, hK⟩
  · exact he

end SchemaScan
