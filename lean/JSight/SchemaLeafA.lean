import JSight.SchemaHelpers
/-! First part of the invariant lemmas of the single states (continued in `SchemaLeafB` … `SchemaLeafE`): the states where
a value or a key separator is expected.  Their step functions do not read `stack`, which lags behind the queued `finds`
(`SchemaInv`), so no hypothesis `s.finds = []` is needed. -/
namespace SchemaScan

/-- what `beginValue` answers from a state of the invariant: at `.cont` (blank, line break, annotation) the invariant
holds again; at the other answers only the step function has moved (`Eff` and `ret` are those of `s`) and the caller
still has to queue the lexemes of the value (`valueFinds`) -/
def BVPost (s : Sc) (eff : List LexT) : BV × Sc → Prop
  | (.cont, s') => Inv s'
  | (.obj, s') => Eff s' eff ∧ s'.ret = s.ret ∧ s'.step = .objKeyOrEmpty
  | (.arr, s') => Eff s' eff ∧ s'.ret = s.ret ∧ s'.step = .arrItemOrEmpty
  | (.lit, s') => Eff s' eff ∧ s'.ret = s.ret ∧ s'.step.litState = true
  | (.ts, s') => Eff s' eff ∧ s'.ret = s.ret ∧ s'.step = .tsBeginName

theorem beginValue_spec {which s c eff} (hs : StepOK which s c) (hE : Eff s eff)
    (hG : Good which eff s.ret) (hr : which.annRet = true) :
    OKRes (BVPost s eff) (beginValue s c) := by
  have hK := Good.keep hs hG
  unfold beginValue
  simp only [bind, Except.bind, pure, Except.pure]
  rcases isNewLineM_cases s c with hn | ⟨e, hn, he⟩ <;> simp only [hn]
  · refine OKRes.ite (fun _ => ⟨_, Eff_found hE rfl rfl, hK⟩) fun _ => ?_
    refine OKRes.ite (fun _ => ⟨_, hE, hK⟩) fun _ => ?_
    refine OKRes.ite (fun h => OKRes.bind (swAnn_ok hs h hE hG hr) (fun a ha => ha)) fun _ => ?_
    split <;> first | rfl | exact ⟨hE, rfl, rfl⟩
  · exact he

/-- the lexemes queued for a value that begins: `s'` is the state `beginValue` answered, `s''` the one after the lexeme
that opens the member value or the array item, if there is one -/
def valueFinds (r : BV) (s' s'' : Sc) : Sc :=
  match r with
  | .cont => s'
  | .lit => found s'' .litB
  | .obj => setContext (found s'' .objB) { ty := .object }
  | .arr => setContext (found s'' .arrB) { ty := .array }
  | .ts => found (found s'' .mixB) .tsB

/-- **a value begins in a holder** with lexemes `Hl` (the root, a member value, an array item): the lexemes queued for it re-establish
the invariant.  A type shortcut at the root opens a context of its own and is not covered (`hts`). -/
theorem value_begins {s s' s'' : Sc} {r : BV} {eff Hl : List LexT} (hp : BVPost s eff (r, s')) (hs : s''.step = s'.step)
    (hr : s''.ret = s'.ret) (hE : Eff s' eff → Eff s'' Hl) (hH : VH Hl s.ret) (hts : r = .ts → Hl ≠ []) :
    Inv (valueFinds r s' s'') := by
  cases r with
  | cont => exact hp
  | obj =>
    obtain ⟨h1, h2, h3⟩ := hp
    refine ⟨_, Eff_found_setContext (hE h1) rfl rfl, ?_⟩
    show Good s''.step _ s''.ret
    rw [hs, hr, h3, h2]; exact Good.obj rfl (CH.vh hH)
  | arr =>
    obtain ⟨h1, h2, h3⟩ := hp
    refine ⟨_, Eff_found_setContext (hE h1) rfl rfl, ?_⟩
    show Good s''.step _ s''.ret
    rw [hs, hr, h3, h2]; exact Good.arr rfl (CH.vh hH)
  | lit =>
    obtain ⟨h1, h2, h3⟩ := hp
    refine ⟨_, Eff_found (hE h1) rfl rfl, ?_⟩
    show Good s''.step _ s''.ret
    rw [hs, hr, h2]; exact Good.lit h3 hH
  | ts =>
    obtain ⟨h1, h2, h3⟩ := hp
    obtain ⟨a, L, rfl⟩ : ∃ a L, Hl = a :: L := by
      cases Hl with
      | nil => exact absurd rfl (hts rfl)
      | cons a L => exact ⟨a, L, rfl⟩
    refine ⟨_, Eff_found (Eff_found (hE h1) rfl rfl) rfl rfl, ?_⟩
    show Good s''.step _ s''.ret
    rw [hs, hr, h3, h2]; exact Good.ts rfl hH

theorem afterKey_ok {f s c p1 p2} (h : InvAt .afterKey s) (hs : StepOK .afterKey s c) :
    OKRes Inv (dispatch (f+1) .afterKey s c p1 p2) := by
  obtain ⟨eff, hE, hG⟩ := h
  have hK := Good.keep hs hG
  obtain ⟨V, rfl, hV⟩ := hG.inv
  rw [dispatch_afterKey]
  simp only [bind, Except.bind, pure, Except.pure]
  rcases isNewLineM_cases s c with hn | ⟨e, hn, he⟩ <;> simp only [hn]
  · cases hnl : c.isNewLine <;> simp only [Bool.false_eq_true, if_false, if_true]
    · refine OKRes.ite (fun _ => ⟨_, hE, hK⟩) fun _ => ?_
      refine OKRes.ite (fun h => swAnn_ok hs h hE hG rfl) fun _ => ?_
      exact OKRes.ite (fun _ => ⟨_, hE, Good.obj rfl hV⟩) fun _ => rfl
    · have hE' : Eff (found s .newLine) _ := Eff_found hE rfl rfl
      refine OKRes.ite (fun _ => ⟨_, hE', hK⟩) fun _ => ?_
      refine OKRes.ite (fun h => ?_) fun _ => ?_
      · rw [eq_of_beq h] at hnl; cases hnl
      exact OKRes.ite (fun _ => ⟨_, hE', Good.obj rfl hV⟩) fun _ => rfl
  · exact he

theorem foundRoot_ok {f s c p1 p2} (h : InvAt .foundRoot s) (hs : StepOK .foundRoot s c) :
    OKRes Inv (dispatch (f+1) .foundRoot s c p1 p2) := by
  obtain ⟨eff, hE, hG⟩ := h
  obtain ⟨rfl, hret⟩ := hG.inv
  rw [dispatch_foundRoot]
  simp only [bind, Except.bind, pure, Except.pure]
  refine OKRes.ite (fun h => swAnn_ok hs h hE hG rfl) fun _ => ?_
  refine OKRes.ite (fun _ => swCom_ok hs hE hG rfl) fun _ => ?_
  refine OKRes.bind (beginValue_spec hs hE hG rfl) ?_
  rintro ⟨r, s'⟩ hp
  cases r with
  | ts =>
    obtain ⟨h1, h2, h3⟩ := hp
    refine ⟨[.tsB, .mixB], ⟨?_, ?_⟩, ?_⟩
    · show applyFinds (s'.finds ++ [.mixB] ++ [.tsB]) (s'.stack.map (·.1)) = _
      rw [applyFinds_append, applyFinds_append, h1.1]; rfl
    · show CtxT.shortcut :: s'.ctx.ty :: s'.ctxStack.map (·.ty) = _
      rw [h1.2]; rfl
    · show Good s'.step _ s'.ret
      rw [h3, h2, hret]; exact Good.ts rfl VH.root
  | _ => exact value_begins hp rfl rfl id (hret ▸ VH.root) (fun h => by cases h)

theorem objValue_ok {f s c p1 p2} (h : InvAt .objValue s) (hs : StepOK .objValue s c) :
    OKRes Inv (dispatch (f+1) .objValue s c p1 p2) := by
  obtain ⟨eff, hE, hG⟩ := h
  obtain ⟨V, rfl, hV⟩ := hG.inv
  rw [dispatch.eq_def]
  simp only [bind, Except.bind, pure, Except.pure]
  refine OKRes.bind (beginValue_spec hs hE hG rfl) ?_
  rintro ⟨r, s'⟩ hp
  cases r <;> exact value_begins (s'' := found s' .valB) hp rfl rfl (Eff_found · rfl rfl) (VH.val hV)
    (fun _ => List.cons_ne_nil _ _)

/-- the finds queued for a value beginning inside an array -/
theorem arrItemFinds_ok {s s' V r} (hV : CH V s.ret) (hp : BVPost s (.arrB :: V) (r, s')) :
    OKRes Inv (arrItemFinds r s') := by
  cases r <;> exact value_begins (s'' := found s' .itemB) hp rfl rfl (Eff_found · rfl rfl) (VH.item hV)
    (fun _ => List.cons_ne_nil _ _)

theorem arrItem_core {s c V} (hE : Eff s (.arrB :: V)) (hG : Good .arrItem (.arrB :: V) s.ret)
    (hV : CH V s.ret) (hs : StepOK .arrItem s c) :
    OKRes Inv (if isCommentStart s c = true then switchToComment s
      else Except.bind (beginValue s c) (fun v => arrItemFinds v.fst v.snd)) := by
  split
  · exact swCom_ok hs hE hG rfl
  · refine OKRes.bind (beginValue_spec hs hE hG rfl) ?_
    rintro ⟨r, s'⟩ hp
    exact arrItemFinds_ok hV hp

theorem arrItem_ok {f s c p1 p2} (h : InvAt .arrItem s) (hs : StepOK .arrItem s c) :
    OKRes Inv (dispatch (f+1) .arrItem s c p1 p2) := by
  obtain ⟨eff, hE, hG⟩ := h
  obtain ⟨V, rfl, hV⟩ := hG.inv
  rw [dispatch.eq_def]
  simp only [bind, Except.bind]
  by_cases hc : (c.isNewLine && s.ann == Ann.none) = true <;> simp only [hc, ↓reduceIte]
  · exact arrItem_core (s := { s with allowAnnotation := true }) hE hG hV hs
  · exact arrItem_core hE hG hV hs

end SchemaScan
