import JSight.AnnotNoteLoad
import JSight.LoaderTree
/-!
Annotated trees (property C13), loader side: the loader's single steps on the node table read against the text.

* `ann_foldG`: the events of `// {rules} [- note]` / `/* {rules} [- note] */` add the rules (name and value spans,
  written order) and the note to node `i` of an arbitrary node table and touch nothing else (`Loader.ann_fold_of` for
  the rule objects with bare names and literal values).
* `XNode` / `absX`: a node read against the teXt (kind, parent, children, decoded keys, literal text, rule names, rule
  value texts, note); `LS`: the part of the loader state the node loader reads, on that abstraction (`pl`: `perLine`,
  the number of nodes on the line). The lemmas `X_*` say what one lexical event does to it: `X_root`, `X_create`,
  `X_keyE`, `X_nl`; `X_upd` / `X_noop`, the two cases of `X_grows`, read a row of `Loader.Grows`; `X_ann` is `ann_foldG`
  there, the annotation's effect on node `i` being `addX`. They are stated for `LSG kv` — the fields of `LS` with the
  key entries read by `kv` (`absG kv`) — so that they serve `LS` (`kv = keyText`, `LS.iffG`) and the abstraction with
  the keys as written, `K.LS` of `KeysDefs` (`kv = rawOf`), alike.
-/
namespace Loader
open SchemaScan (Ev Ann CRule CObj nlEvs rulesEvs tcEvs spansRules vspansRules)

/-- **an annotation over an arbitrary table** (bare names, literal values): `ann_fold_of` for the fold `obj_fold` of its object -/
theorem ann_foldG (src : Array UInt8) (a : Ann) (ha : a.isAnn = true) (st : St) (i : Nat) (nd : Node)
    (hm : st.mode = .default) (hl : st.last = some i) (hp : st.perLine = 1) (hn : st.nodes[i]? = some nd)
    (pre mid : List Ev) (hpre : ∀ e ∈ pre, e.ty = .newLine) (hmid : ∀ e ∈ mid, e.ty = .newLine) (ob : CObj)
    (o x y x2 y2 : Nat) (nt : Option (Nat × Nat)) :
    ∃ st', Fold src (⟨a.B, x, y⟩ :: (pre ++ (⟨.objB, o, o⟩ :: (ob.evs o ++ (mid ++ (noteEvs a nt ++ [⟨a.E, x2, y2⟩])))))) st st' ∧
      st'.nodes = st.nodes.setIfInBounds i (setNote (addSpans nd (ob.spans o) (ob.vspans o)) nt) ∧
      st'.leaf = st.leaf ∧ st'.last = st.last ∧ st'.perLine = st.perLine ∧ st'.root = st.root ∧ st'.mode = .default :=
  ann_fold_of src a ha st i nd hm hl hp hn pre mid hpre hmid (ob.evs o) _ (obj_fold src st (modeOf a) modeOf_ne i ob o nd)
    o x y x2 y2 nt

/-! ### nodes read against the text -/

structure XNode where
  kind : NK
  parent : Option Nat
  children : List Nat
  keys : List (List UInt8 × Bool)
  waiting : Bool
  value : Option (List UInt8)
  rules : List (List UInt8)
  ruleVals : List (Option (List UInt8))
  note : Option (List UInt8)
  deriving DecidableEq, Repr

def absX (src : Array UInt8) (n : Node) : XNode :=
  { kind := n.kind, parent := n.parent, children := n.children, keys := n.keys.map (keyText src), waiting := n.waiting
    value := n.value.map (fun p => slice src p.1 p.2)
    rules := n.rules.map (Lay.ruleText src)
    ruleVals := n.ruleVals.map (Option.map (fun p => slice src p.1 p.2))
    note := n.comment.map (fun p => trimSpaces (slice src p.1 p.2)) }

def xfresh (k : NK) (parent : Option Nat) : XNode :=
  { kind := k, parent := parent, children := [], keys := [], waiting := false, value := none, rules := [], ruleVals := [],
    note := none }

theorem absX_fresh (src : Array UInt8) (k : NK) (p : Option Nat) : absX src (fresh k p) = xfresh k p := rfl

/-- the part of the loader state the node loader reads, on the abstraction -/
structure LS (src : Array UInt8) (st : St) (AL : List XNode) (leaf last : Option Nat) (pl : Nat) (root : Option Nat) :
    Prop where
  nodes : st.nodes.toList.map (absX src) = AL
  leaf : st.leaf = leaf
  last : st.last = last
  pl : st.perLine = pl
  root : st.root = root
  mode : st.mode = .default

/-- `absX` with the key entries read by `kv` (`absX` itself for `kv = keyText`) -/
def absG (kv : Array UInt8 → Nat × Nat × Bool → List UInt8 × Bool) (src : Array UInt8) (n : Node) : XNode :=
  { absX src n with keys := n.keys.map (kv src) }

/-- `LS` over `absG kv`. The lemmas `X_*` below are stated for it; `LS` is the case `kv = keyText` (`LS.iffG`). -/
structure LSG (kv : Array UInt8 → Nat × Nat × Bool → List UInt8 × Bool) (src : Array UInt8) (st : St) (AL : List XNode)
    (leaf last : Option Nat) (pl : Nat) (root : Option Nat) : Prop where
  nodes : st.nodes.toList.map (absG kv src) = AL
  leaf : st.leaf = leaf
  last : st.last = last
  pl : st.perLine = pl
  root : st.root = root
  mode : st.mode = .default

theorem LS.iffG {src : Array UInt8} {st : St} {AL : List XNode} {leaf last : Option Nat} {pl : Nat} {root : Option Nat} :
    LS src st AL leaf last pl root ↔ LSG keyText src st AL leaf last pl root :=
  ⟨fun h => ⟨h.nodes, h.leaf, h.last, h.pl, h.root, h.mode⟩, fun h => ⟨h.nodes, h.leaf, h.last, h.pl, h.root, h.mode⟩⟩

variable {kv : Array UInt8 → Nat × Nat × Bool → List UInt8 × Bool}

theorem LSG.get {src : Array UInt8} {st : St} {AL : List XNode} {leaf last : Option Nat} {pl : Nat} {root : Option Nat}
    (h : LSG kv src st AL leaf last pl root) {i : Nat} {xn : XNode} (hn : AL[i]? = some xn) :
    ∃ n, st.nodes[i]? = some n ∧ absG kv src n = xn := by
  rw [← h.nodes, List.getElem?_map] at hn
  cases hc : st.nodes.toList[i]? with
  | none => rw [hc] at hn; cases hn
  | some n =>
    rw [hc] at hn
    simp only [Option.map_some, Option.some.injEq] at hn
    exact ⟨n, by simpa using hc, hn⟩

theorem LSG.size {src : Array UInt8} {st : St} {AL : List XNode} {leaf last : Option Nat} {pl : Nat} {root : Option Nat}
    (h : LSG kv src st AL leaf last pl root) : st.nodes.size = AL.length := by
  rw [← h.nodes]; simp

/-- a new-line event resets `perLine` -/
theorem X_nl (src : Array UInt8) {st : St} {AL : List XNode} {leaf last : Option Nat} {pl : Nat} {root : Option Nat}
    (h : LSG kv src st AL leaf last pl root) (e : Ev) (he : e.ty = .newLine) :
    ∃ st', step src st e = .ok st' ∧ LSG kv src st' AL leaf last 0 root :=
  ⟨_, step_newLine_default src st e he h.mode, ⟨h.nodes, h.leaf, h.last, rfl, h.root, h.mode⟩⟩

theorem X_nls (src : Array UInt8) : ∀ (evs : List Ev) {st : St} {AL : List XNode} {leaf last : Option Nat} {pl : Nat}
    {root : Option Nat}, LSG kv src st AL leaf last pl root → (∀ e ∈ evs, e.ty = .newLine) →
    ∃ st', Fold src evs st st' ∧ LSG kv src st' AL leaf last (if evs = [] then pl else 0) root
  | [], st, _, _, _, _, _, h, _ => ⟨st, Fold.nil _ _, by simpa using h⟩
  | e :: evs, st, AL, leaf, last, pl, root, h, he => by
    obtain ⟨st1, s1, h1⟩ := X_nl src h e (he e (by simp))
    obtain ⟨st2, s2, h2⟩ := X_nls src evs h1 (fun x hx => he x (by simp [hx]))
    refine ⟨st2, Fold.cons s1 s2, ?_⟩
    have : (if evs = [] then 0 else 0) = 0 := by split <;> rfl
    rw [this] at h2
    simpa using h2

/-- the first value event on the empty table creates the root -/
theorem X_root (src : Array UInt8) {st : St} {last : Option Nat} {pl : Nat} {root : Option Nat}
    (h : LSG kv src st [] none last pl root) (e : Ev) (k : NK) (hp : plainTy e.ty = true) (he : kindOfLex e.ty = some k) :
    ∃ st', step src st e = .ok st' ∧ LSG kv src st' [xfresh k none] (some 0) (some 0) (pl + 1) (some 0) := by
  have hsz : st.nodes.size = 0 := by have := h.size; simpa using this
  have hnil : st.nodes.toList = [] := by
    have := h.nodes
    simpa using this
  exact ⟨rootSt st k, step_root src st e k h.mode h.leaf hp he,
    by simp [rootSt, hnil, absG, absX, xfresh], by simp [rootSt, hsz], by simp [rootSt, hsz],
    by simp [rootSt, h.pl], by simp [rootSt, hsz], h.mode⟩

/-- an event that creates no node, on the abstraction -/
theorem X_grows (src : Array UInt8) {st : St} {AL : List XNode} {i : Nat} {last : Option Nat} {pl : Nat}
    {root : Option Nat} (h : LSG kv src st AL (some i) last pl root) {n : Node} (hn : st.nodes[i]? = some n) {e : Ev}
    {o : Option (Node → Node)} {l' : Option Nat} (hg : Grows src i n e o l') :
    ∃ st', step src st e = .ok st' ∧
      LSG kv src st' (o.elim AL fun f => AL.set i (absG kv src (f n))) l' last pl root := by
  have hs := hg.via st i h.mode h.leaf _ _ _ (hg.grow hn)
  cases o with
  | none => exact ⟨_, hs, ⟨h.nodes, rfl, h.last, h.pl, h.root, h.mode⟩⟩
  | some f =>
    refine ⟨_, hs, ⟨?_, rfl, h.last, h.pl, h.root, h.mode⟩⟩
    have := toList_updNode st i f n (by simpa using hn)
    simp only [Bool.false_eq_true, if_false, Option.elim]
    rw [this, List.map_set, h.nodes]

/-- `X_grows` for a row that updates node `i` -/
theorem X_upd (src : Array UInt8) {st : St} {AL : List XNode} {i : Nat} {last : Option Nat} {pl : Nat}
    {root : Option Nat} (h : LSG kv src st AL (some i) last pl root) {n : Node} (hn : st.nodes[i]? = some n) {e : Ev}
    {f : Node → Node} {l' : Option Nat} (hg : Grows src i n e (some f) l') :
    ∃ st', step src st e = .ok st' ∧ LSG kv src st' (AL.set i (absG kv src (f n))) l' last pl root :=
  X_grows src h hn hg

/-- `X_grows` for a row that leaves the table as it is -/
theorem X_noop (src : Array UInt8) {st : St} {AL : List XNode} {i : Nat} {last : Option Nat} {pl : Nat}
    {root : Option Nat} (h : LSG kv src st AL (some i) last pl root) {n : Node} (hn : st.nodes[i]? = some n) {e : Ev}
    {l' : Option Nat} (hg : Grows src i n e none l') :
    ∃ st', step src st e = .ok st' ∧ LSG kv src st' AL l' last pl root :=
  X_grows src h hn hg

/-- the key-end event adds the key, read by `kv`, to the object `i`. `kd` turns an entry as `kv` reads it back into
the decoded key (`hkd`): the loader's duplicate test compares decoded keys, so `hd` asks that the new one is not among
them -/
theorem X_keyE (src : Array UInt8) {st : St} {AL : List XNode} {i : Nat} {last : Option Nat} {pl : Nat}
    {root : Option Nat} (h : LSG kv src st AL (some i) last pl root) (xn : XNode) (hn : AL[i]? = some xn)
    (hk : xn.kind = .obj) (hw : xn.waiting = false) (x y : Nat) (kd : List UInt8 × Bool → List UInt8 × Bool)
    (hkd : ∀ k, kd (kv src k) = keyText src k) (hd : keyText src (x, y, false) ∉ xn.keys.map kd) :
    ∃ st', step src st ⟨.keyE, x, y⟩ = .ok st' ∧
      LSG kv src st' (AL.set i { xn with keys := xn.keys ++ [kv src (x, y, false)] }) (some i) last pl root := by
  obtain ⟨n, hc, rfl⟩ := h.get hn
  have hany : n.keys.any (fun k' => keyText src k' == keyText src (x, y, false)) = false := by
    rw [List.any_eq_false]
    intro k' hk' heq
    exact hd (by
      simp only [absG, List.map_map, List.mem_map]
      exact ⟨k', hk', by simpa [hkd] using heq⟩)
  have := X_upd src h hc (.keyE x y hk hw hany)
  simpa [absG, absX] using this

/-- a container that waits for a child creates it -/
theorem X_create (src : Array UInt8) {st : St} {AL : List XNode} {i : Nat} {last : Option Nat} {pl : Nat}
    {root : Option Nat} (h : LSG kv src st AL (some i) last pl root) (xn : XNode) (hn : AL[i]? = some xn)
    (hk : xn.kind = .arr ∨ xn.kind = .obj) (hw : xn.waiting = true) (e : Ev) (k : NK) (hp : plainTy e.ty = true)
    (he : kindOfLex e.ty = some k) :
    ∃ st', step src st e = .ok st' ∧
      LSG kv src st' (AL.set i { xn with waiting := false, children := xn.children ++ [AL.length] } ++ [xfresh k (some i)])
        (some AL.length) (some AL.length) (pl + 1) root := by
  obtain ⟨n, hc, rfl⟩ := h.get hn
  have hsz : st.nodes.toList.length = AL.length := by rw [← h.nodes]; simp
  obtain ⟨st', s, ⟨c1, c2, c3, c4⟩, hlast, hpl⟩ := create_step src e k i n st.nodes.toList root (.plain src hp) he
    (by simpa using hc) hk hw st ⟨rfl, h.leaf, h.root, h.mode⟩
  refine ⟨st', s, ⟨?_, by rw [c2, hsz], by rw [hlast, hsz], by rw [hpl, h.pl], c3, c4⟩⟩
  rw [c1, List.map_append, List.map_set, h.nodes, hsz]
  rfl

/-- the annotation, on the abstraction -/
def addX (src : Array UInt8) (xn : XNode) (sps vsps : List (Nat × Nat)) (nt : Option (Nat × Nat)) : XNode :=
  { xn with
    rules := xn.rules ++ sps.map (nameOf src)
    ruleVals := xn.ruleVals ++ vsps.map (fun p => some (slice src p.1 p.2))
    note := match nt with
      | none => xn.note
      | some sp => some (trimSpaces (slice src sp.1 sp.2)) }

/-- `ann_foldG` on the abstraction (bare names, literal values): the rule names and value texts of `ob` and the
trimmed note are added to node `i` (`addX`) -/
theorem X_ann (src : Array UInt8) (a : Ann) (ha : a.isAnn = true) {st : St} {AL : List XNode} {leaf : Option Nat}
    {i : Nat} {root : Option Nat} (h : LSG kv src st AL leaf (some i) 1 root) (xn : XNode) (hn : AL[i]? = some xn)
    (pre mid : List Ev) (hpre : ∀ e ∈ pre, e.ty = .newLine) (hmid : ∀ e ∈ mid, e.ty = .newLine) (ob : CObj)
    (o x y x2 y2 : Nat) (nt : Option (Nat × Nat)) :
    ∃ st', Fold src (⟨a.B, x, y⟩ :: (pre ++ (⟨.objB, o, o⟩ :: (ob.evs o ++ (mid ++ (noteEvs a nt ++ [⟨a.E, x2, y2⟩])))))) st st' ∧
      LSG kv src st' (AL.set i (addX src xn (ob.spans o) (ob.vspans o) nt)) leaf (some i) 1 root := by
  obtain ⟨n, hc, rfl⟩ := h.get hn
  obtain ⟨st', hf, h1, h2, h3, h4, h5, h6⟩ := ann_foldG src a ha st i n h.mode h.last h.pl hc pre mid hpre hmid ob o x y x2 y2 nt
  refine ⟨st', hf, ⟨?_, by rw [h2, h.leaf], by rw [h3, h.last], by rw [h4, h.pl], by rw [h5, h.root], h6⟩⟩
  rw [h1, Array.toList_setIfInBounds, List.map_set, h.nodes]
  congr 1
  -- `absG kv` of the node with the spans and the note added is `addX` of its abstraction: `ruleText` on a span is `nameOf`
  cases nt with
  | none => simp [setNote, addX, absG, absX, addSpans, Function.comp_def, Lay.ruleText]
  | some sp => simp [setNote, addX, absG, absX, addSpans, Function.comp_def, Lay.ruleText]

end Loader
