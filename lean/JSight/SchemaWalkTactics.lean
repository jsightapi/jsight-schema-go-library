import JSight.SchemaFrame
/-!
Search tactics for facts about one state function of `SchemaScan.dispatch`: unfold the function, split every `if` and
`match` in the hypothesis, and close each leaf from the facts of the helper calls it finds in the context
(`leafF`: frame; `leafE`: error offset; `leafLC`: `lengthComputing`; `leafW`: error window). They expect the
per-helper lemmas of the fact in question, under the names their alternatives mention (`switchToAnnotation_F`,
`beginValue_F`, `popRet_lc`, `isNewLineM_E`, `of_w0`, …), to be in scope at the call. The library states none of them,
since its proof of these four facts does not call the tactics: it lists the paths through the step function with the
simp set `schema_wp` (`SchemaWp`, `dispatch_post` in `SchemaErrIdxStep`).
-/
namespace SchemaScan

/-- frame property of a leaf transition given as `h : dispatch (f+1) .X s c p1 p2 = .ok s'` -/
macro "leafF" h:ident : tactic => `(tactic| (
  unfold dispatch at $h:ident; dsimp only at $h:ident
  try simp only [bind, Except.bind, pure, Except.pure] at $h:ident
  repeat' split at $h:ident
  all_goals (first
    | (cases $h:ident; done)
    | (have hx := switchToAnnotation_F $h:ident; frc)
    | (have hx := switchToComment_F $h:ident; frc)
    | (have hx := foundObjectEnd_F $h:ident; frc)
    | (have hx := foundArrayEnd_F $h:ident; frc)
    | (have hx := beginKeyShortcut_F $h:ident; frc)
    | (have hx := beginAnnKeyOrEmpty_F $h:ident; frc)
    | (have hx := hexStep_F $h:ident; frc)
    | (have hx := expect_F $h:ident; frc)
    | (have ha := arrItemFinds_F $h:ident; frc)
    | (have hx := beginString_F $h:ident; frc)
    | (cases $h:ident; frc))))

/-- `s'.index = s.index` from the frame facts of the helper calls found in the context -/
macro "idx" : tactic => `(tactic| (
  try (have hb := (beginValue_F ‹beginValue _ _ = Except.ok _›).1)
  try (have hp := (popRet_F ‹popRet _ = Except.ok _›).1)
  try (have hbs := (beginString_F ‹beginString _ _ = Except.ok _›).1)
  try (have hfs := (finishShortcut_F ‹finishShortcut _ = Except.ok _›).1)
  try (have hsa := (switchToAnnotation_F ‹switchToAnnotation _ = Except.ok _›).1)
  first
    | rfl
    | assumption
    | (simp [apply_ite Sc.index] at *; done)
    | (simp [apply_ite Sc.index] at *; omega)))

/-- the error comes from a helper call recorded in the context -/
macro "ectx" : tactic => `(tactic| (first
    | exact isNewLineM_E ‹isNewLineM _ _ = Except.error _› (by idx)
    | exact switchToAnnotation_E ‹switchToAnnotation _ = Except.error _› (by idx)
    | exact switchToComment_E ‹switchToComment _ = Except.error _› (by idx)
    | exact beginValue_E ‹beginValue _ _ = Except.error _› (by idx)
    | exact beginString_E ‹beginString _ _ = Except.error _› (by idx)
    | exact finishShortcut_E ‹finishShortcut _ = Except.error _›
    | exact popRet_E ‹popRet _ = Except.error _›
    | exact restoreContext_E ‹restoreContext _ = Except.error _›
    | (have hh := ‹(throw (errChar _ _) : Except Err Unit) = Except.error _›; cases hh; exact errChar_E _ _ (by idx))))

macro "eclose" h:ident ih:ident : tactic => `(tactic| (first
    | (cases $h:ident; done)
    | (cases $h:ident; exact errChar_E _ _ (by idx))
    | (cases $h:ident; trivial)
    | (cases $h:ident; show _ - 1 = _ - 1; congr 1; idx)
    | (cases $h:ident; ectx)
    | exact isNewLineM_E $h:ident (by idx)
    | exact switchToAnnotation_E $h:ident (by idx)
    | exact switchToComment_E $h:ident (by idx)
    | exact beginValue_E $h:ident (by idx)
    | exact beginString_E $h:ident (by idx)
    | exact beginKeyShortcut_E $h:ident (by idx)
    | exact beginAnnKeyOrEmpty_E $h:ident (by idx)
    | exact hexStep_E $h:ident (by idx)
    | exact expect_E $h:ident (by idx)
    | exact foundObjectEnd_E $h:ident
    | exact foundArrayEnd_E $h:ident
    | exact finishShortcut_E $h:ident
    | exact arrItemFinds_E $h:ident
    | exact popRet_E $h:ident
    | exact restoreContext_E $h:ident
    | exact $ih:ident _ _ _ _ _ _ _ $h:ident (by idx)))

macro "eclose2" h:ident ih:ident hE:ident h0:ident : tactic => `(tactic| (first
    | eclose $h $ih
    | exact $hE:ident _ _ _ _ _ _ $h:ident (by idx)
    | exact $h0:ident _ _ _ _ _ _ $h:ident (by idx)))

macro "leafE" h:ident ih:ident hE:ident h0:ident : tactic => `(tactic| (
  unfold dispatch at $h:ident; dsimp only at $h:ident
  try simp only [bind, Except.bind, pure, Except.pure] at $h:ident
  repeat' split at $h:ident
  all_goals (eclose2 $h $ih $hE $h0)))

/-- closes `s'.lengthComputing = s.lengthComputing` from the frame facts of the helper calls found in the context -/
macro "lcc" : tactic => `(tactic| (
  try (have hb := beginValue_lc ‹beginValue _ _ = Except.ok _›)
  try (have hp := popRet_lc ‹popRet _ = Except.ok _›)
  try (have hbs := beginString_lc ‹beginString _ _ = Except.ok _›)
  try (have hfs := finishShortcut_lc ‹finishShortcut _ = Except.ok _›)
  simp [apply_ite Sc.lengthComputing] at * <;> simp_all))

/-- `h : … = .ok s'` after unfolding one transition: split it and close every leaf -/
macro "leafLC" h:ident ihD:ident ihE:ident ihS:ident : tactic => `(tactic| (
  try simp only [bind, Except.bind, pure, Except.pure] at $h:ident
  repeat' split at $h:ident
  all_goals (first
    | (cases $h:ident; done)
    | (cases $h:ident; rfl)
    | (have hx := $ihD _ _ _ $h:ident; lcc)
    | (have hx := $ihE _ _ $h:ident; lcc)
    | (have hx := $ihS _ _ $h:ident; lcc)
    | (have hx := switchToAnnotation_lc $h:ident; lcc)
    | (have hx := switchToComment_lc $h:ident; lcc)
    | (have hx := foundObjectEnd_lc $h:ident; lcc)
    | (have hx := foundArrayEnd_lc $h:ident; lcc)
    | (have hx := beginKeyShortcut_lc $h:ident; lcc)
    | (have hx := beginAnnKeyOrEmpty_lc $h:ident; lcc)
    | (have hx := hexStep_lc $h:ident; lcc)
    | (have hx := expect_lc $h:ident; lcc)
    | (have ha := arrItemFinds_lc $h:ident; lcc)
    | (have hx := beginString_lc $h:ident; lcc)
    | (cases $h:ident; lcc))))

/-- closes the goal from the window facts of the helper calls found in the context -/
macro "wcc" : tactic => `(tactic| (first
  | exact of_w0 (by assumption)
  | exact of_w0 (isNewLineM_w ‹isNewLineM _ _ = Except.error _›)
  | exact of_w0 (beginValue_w ‹beginValue _ _ = Except.error _›)
  | exact of_w0 (popRet_w ‹popRet _ = Except.error _›)
  | exact of_w0 (beginString_w ‹beginString _ _ = Except.error _›)
  | exact of_w0 (finishShortcut_w ‹finishShortcut _ = Except.error _›)
  | exact of_w0 (w0_errChar _ _ (by decide))
  | exact of_w0 rfl))

macro "leafW" h:ident ihD:ident ihE:ident ihS:ident : tactic => `(tactic| (
  try simp only [bind, Except.bind, pure, Except.pure] at $h:ident
  repeat' split at $h:ident
  all_goals (first
    | (cases $h:ident; done)
    | (exact $ihD _ _ _ $h:ident)
    | (exact $ihE _ _ $h:ident)
    | (exact $ihS _ _ $h:ident)
    | (exact of_w0 (switchToAnnotation_w $h:ident))
    | (exact of_w0 (switchToComment_w $h:ident))
    | (exact of_w0 (foundObjectEnd_w $h:ident))
    | (exact of_w0 (foundArrayEnd_w $h:ident))
    | (exact of_w0 (beginKeyShortcut_w $h:ident))
    | (exact of_w0 (beginAnnKeyOrEmpty_w $h:ident))
    | (exact of_w0 (hexStep_w $h:ident))
    | (exact of_w0 (arrItemFinds_w $h:ident))
    | (exact of_w0 (beginString_w $h:ident))
    | (have hx := expect_w $h:ident; subst hx; exact of_w0 (w0_errChar _ _ (by decide)))
    | (have hx := ‹throw _ = Except.ok _›; cases hx)
    | (cases $h:ident; have hx := ‹throw _ = Except.error _›; cases hx; exact of_w0 (w0_errChar _ _ (by decide)))
    | (cases $h:ident; wcc))))

end SchemaScan
