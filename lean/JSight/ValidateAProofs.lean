import JSight.ValidateA
/-!
The validator tree of `ValidateA` accepts exactly `VA.shape` (`C03_additional_properties`).  Same plan as
`ValidateRProofs`; new is the value of an unknown key, decided by `additionalProperties` (`addObj_T`, `addArr_T`, `add_run`).
-/
namespace VA
open VN (J Ev evs evsItems evsMembers)
variable {L D : Type} (env : Env L) (litOK : L → D → Bool)

theorem stepG_append (g1 g2 : List (T L)) (e : Ev D) :
    stepG env litOK (g1 ++ g2) e
      = ((stepG env litOK g1 e).1 ++ (stepG env litOK g2 e).1, (stepG env litOK g1 e).2 || (stepG env litOK g2 e).2) := by
  induction g1 with
  | nil => simp [stepG]
  | cons t ts ih =>
    simp only [List.cons_append, stepG, ih]
    cases (stepT env litOK t e).1 <;> simp [Bool.or_assoc]

theorem runQ_eq (g : List (T L)) (es : List (Ev D)) : runQ env litOK g es = TreeRun.run (stepG env litOK) g es := by
  induction es generalizing g with
  | nil => rfl
  | cons e es ih => simp only [runQ, TreeRun.run, ih]

theorem runQ_nil (es : List (Ev D)) : runQ env litOK ([] : List (T L)) es = some ([], false) := by
  rw [runQ_eq]; exact TreeRun.run_nil _ (fun _ => rfl) es

theorem runQ_cons (g : List (T L)) (e : Ev D) (es : List (Ev D)) (h : (stepG env litOK g e).2 = false) :
    runQ env litOK g (e :: es) = runQ env litOK (stepG env litOK g e).1 es := by
  simp only [runQ_eq]; exact TreeRun.run_cons _ g e es h

/-- siblings do not interact -/
theorem runQ_group_append (g1 g2 : List (T L)) (es : List (Ev D)) :
    runQ env litOK (g1 ++ g2) es =
      match runQ env litOK g1 es, runQ env litOK g2 es with
      | some r1, some r2 => some (r1.1 ++ r2.1, r1.2 || r2.2)
      | _, _ => none := by
  simp only [runQ_eq, TreeRun.run_group_append _ (stepG_append env litOK)]
  cases TreeRun.run (stepG env litOK) g1 es <;> cases TreeRun.run (stepG env litOK) g2 es <;> rfl

/-! ### a parent that is not a leaf only waits for its children -/

theorem stepG_node_wait (P : Frame L) (g : List (T L)) (e : Ev D) :
    stepG env litOK [T.node P false g] e
      = (if (stepG env litOK g e).2 then [T.node P true (stepG env litOK g e).1]
         else if (stepG env litOK g e).1.isEmpty then [] else [T.node P false (stepG env litOK g e).1], false) := by
  simp only [stepG, stepT, own, assemble, Bool.false_eq_true, if_false, List.map_nil, List.append_nil, Bool.false_or]
  cases (stepG env litOK g e).2 <;> cases h : (stepG env litOK g e).1.isEmpty <;> simp [h]

theorem node_wait (P : Frame L) (es : List (Ev D)) : ∀ (g g' : List (T L)) (b : Bool),
    runQ env litOK g es = some (g', b) → es ≠ [] →
    runQ env litOK [T.node P false g] es
      = some (if b then [T.node P true g'] else if g'.isEmpty then [] else [T.node P false g'], false) := by
  simp only [runQ_eq]
  exact TreeRun.run_wait _ (T.node P) (fun _ => rfl) (stepG_node_wait env litOK P) es

def leafRes : FeedRes L → List (T L) × Bool
  | .fail => ([], false)
  | .done => ([], true)
  | .stay f' => ([leafT f'], false)
  | .kids f' hs => (if hs.isEmpty then [] else [T.node f' false (hs.map leafT)], false)

theorem stepG_leaf (f : Frame L) (e : Ev D) : stepG env litOK [leafT f] e = leafRes (feed1 env litOK f e) := by
  simp only [leafT, stepG, stepT, own, if_true]
  cases feed1 env litOK f e with
  | fail => rfl
  | done => rfl
  | stay f' => rfl
  | kids f' hs => cases hs <;> rfl

variable {env litOK}

theorem leaf_fail {f : Frame L} {e : Ev D} (h : feed1 env litOK f e = .fail) (es : List (Ev D)) :
    runQ env litOK [leafT f] (e :: es) = some ([], false) := by
  rw [runQ_cons _ _ _ _ _ (by rw [stepG_leaf, h]; rfl), stepG_leaf, h]; exact runQ_nil env litOK es

theorem leaf_done {f : Frame L} {e : Ev D} (h : feed1 env litOK f e = .done) :
    runQ env litOK [leafT f] [e] = some ([], true) := by
  rw [runQ, stepG_leaf, h]; rfl

theorem leaf_stay {f f' : Frame L} {e : Ev D} (h : feed1 env litOK f e = .stay f') (es : List (Ev D)) :
    runQ env litOK [leafT f] (e :: es) = runQ env litOK [leafT f'] es := by
  rw [runQ_cons _ _ _ _ _ (by rw [stepG_leaf, h]; rfl), stepG_leaf, h]; rfl

theorem leaf_kids {f f' : Frame L} {hs : List (Frame L)} {e : Ev D} (h : feed1 env litOK f e = .kids f' hs)
    (es : List (Ev D)) :
    runQ env litOK [leafT f] (e :: es) = runQ env litOK (leafRes (.kids f' hs)).1 es := by
  rw [runQ_cons _ _ _ _ _ (by rw [stepG_leaf, h]; rfl), stepG_leaf, h]

variable (env litOK)

/-! ### the cases of `feed1` that depend on more than the frame and the lexeme -/

theorem feed1_any (n : Nat) (e : Ev D) :
    feed1 env litOK (.any n : Frame L) e
      = if (if e.isOpening then n + 1 else n - 1) == 0 then .done else .stay (.any (if e.isOpening then n + 1 else n - 1)) :=
  rfl

theorem feed1_litE (l : L) (d : D) :
    feed1 env litOK (.lit l : Frame L) (.litE d) = if litOK l d then .done else .fail :=
  rfl

theorem feed1_itemB (items : List (S L)) (c : Nat) :
    feed1 env litOK (.arr items c) (.itemB : Ev D)
      = match childAt items c with
        | some s => .kids (.arr items (c + 1)) (heads env s)
        | none => .fail :=
  rfl

theorem feed1_valB (props : List (String × Bool × S L)) (add : AddMode L) (req : List String) (k : String) :
    feed1 env litOK (.obj props add req (some k)) (.valB : Ev D)
      = match lookup props k with
        | some s => .kids (.obj props add req (some k)) (heads env s)
        | none => .kids (.obj props add req (some k)) (addHeads env add) :=
  rfl

theorem any_openT (n : Nat) (e : Ev D) (es : List (Ev D)) (h : e.isOpening = true) :
    runQ env litOK [leafT (.any n : Frame L)] (e :: es) = runQ env litOK [leafT (.any (n+1))] es :=
  leaf_stay (by rw [feed1_any, h]; rfl) es

theorem any_closeT (n : Nat) (e : Ev D) (es : List (Ev D)) (h : e.isOpening = false) :
    runQ env litOK [leafT (.any (n+2) : Frame L)] (e :: es) = runQ env litOK [leafT (.any (n+1))] es :=
  leaf_stay (by rw [feed1_any, h]; rfl) es

theorem any_lastT (e : Ev D) (h : e.isOpening = false) :
    runQ env litOK [leafT (.any 1 : Frame L)] [e] = some ([], true) :=
  leaf_done (by rw [feed1_any, h]; rfl)

theorem any_keepT (d : J D) (n : Nat) (r : Ev D) (rs : List (Ev D)) :
    runQ env litOK [leafT (.any (n+1) : Frame L)] (evs d ++ r :: rs) = runQ env litOK [leafT (.any (n+1))] (r :: rs) :=
  VN.skip_value (fun n es => runQ env litOK [leafT (.any n)] es) (any_openT env litOK) (any_closeT env litOK) d n (r :: rs)

theorem any_topT (d : J D) : runQ env litOK [leafT (.any 0 : Frame L)] (evs d) = some ([], true) := by
  simpa using VN.skip_top (fun n es => runQ env litOK [leafT (.any n)] es) (any_openT env litOK) (any_closeT env litOK) d [] _
    (any_lastT env litOK)

/-! ### the union semantics with named types and `additionalProperties` -/

theorem position_run (P : Frame L) (hs : List (Frame L)) (b : Bool) (x : J D) (r : Ev D) (rs : List (Ev D))
    (hv : runQ env litOK (hs.map leafT) (evs x) = some ([], b)) :
    runQ env litOK (leafRes (FeedRes.kids P hs)).1 (evs x ++ r :: rs)
      = if b then runQ env litOK [leafT P] (r :: rs) else some ([], false) := by
  rw [runQ_eq] at hv
  simpa [runQ_eq, leafRes, leafT] using
    TreeRun.run_position _ (T.node P) (fun _ => rfl) (stepG_node_wait env litOK P) _ b _ (r :: rs)
      (VN.evs_ne_nil x) (by simp) hv

/-- additionalProperties "object" / "array": the first lexeme decides, the rest is skipped -/
theorem addObj_T (v : J D) :
    runQ env litOK [leafT (Frame.addObj : Frame L)] (evs v) = some ([], match v with | .obj _ => true | _ => false) := by
  cases v with
  | lit k => exact leaf_fail rfl _
  | arr xs => exact leaf_fail rfl _
  | obj ms =>
    -- after `{` as `any` would be
    rw [← any_topT env litOK (.obj ms)]
    simp only [evs]
    rw [leaf_stay (f' := .any 1) rfl, any_openT env litOK 0 _ _ rfl]

theorem addArr_T (v : J D) :
    runQ env litOK [leafT (Frame.addArr : Frame L)] (evs v) = some ([], match v with | .arr _ => true | _ => false) := by
  cases v with
  | lit k => exact leaf_fail rfl _
  | obj ms => exact leaf_fail rfl _
  | arr xs =>
    rw [← any_topT env litOK (.arr xs)]
    simp only [evs]
    rw [leaf_stay (f' := .any 1) rfl, any_openT env litOK 0 _ _ rfl]

/-- what an unknown key's value must satisfy -/
def shapeAdd (add : AddMode L) (v : J D) : Bool :=
  addDecide litOK add v (fun n => (alts env (.ref [n] none)).any (fun a => shapeA env litOK a v))

/-- the validators of an unknown key's value decide `shapeAdd` (the two recursive facts are passed in) -/
theorem add_run (add : AddMode L) (v : J D)
    (hlit : ∀ l, runQ env litOK [leafT (frameOf (S.lit l))] (evs v) = some ([], shapeA env litOK (S.lit l) v))
    (htype : ∀ n, runQ env litOK ((heads env (.ref [n] none)).map leafT) (evs v)
        = some ([], (alts env (.ref [n] none)).any (fun a => shapeA env litOK a v))) :
    runQ env litOK ((addHeads env add).map leafT) (evs v) = some ([], shapeAdd env litOK add v) := by
  cases add with
  | none => exact runQ_nil env litOK _
  | any => exact any_topT env litOK v
  | obj => exact (addObj_T env litOK v).trans (by cases v <;> rfl)
  | arr => exact (addArr_T env litOK v).trans (by cases v <;> rfl)
  | lit l => exact (hlit l).trans (by cases v <;> rfl)
  | type n => exact htype n

/-- a list of alternatives over one value, from each alternative over that value -/
theorem alts_of_alt (d : J D)
    (h : ∀ a : S L, runQ env litOK [leafT (frameOf a)] (evs d) = some ([], shapeA env litOK a d)) (as : List (S L)) :
    runQ env litOK ((as.map frameOf).map leafT) (evs d) = some ([], as.any (fun a => shapeA env litOK a d)) := by
  induction as with
  | nil => exact runQ_nil env litOK _
  | cons a as ih =>
    rw [List.map_cons, List.map_cons, ← List.singleton_append, runQ_group_append, h a, ih]
    rfl

mutual
/-- one alternative (a non-reference schema) over one value -/
theorem alt_T (a : S L) (d : J D) :
    runQ env litOK [leafT (frameOf a)] (evs d) = some ([], shapeA env litOK a d) := by
  cases a with
  | ref names nul => cases d <;> exact leaf_fail rfl _
  | any => simpa only [frameOf, shapeA] using any_topT env litOK d
  | lit l =>
    cases d with
    | lit dk =>
      simp only [frameOf, evs, shapeA]
      rw [leaf_stay (f' := .lit l) rfl]
      cases h : litOK l dk
      · exact leaf_fail (by rw [feed1_litE, h]; rfl) _
      · exact leaf_done (by rw [feed1_litE, h]; rfl)
    | arr xs => exact leaf_fail rfl _
    | obj ms => exact leaf_fail rfl _
  | arr items =>
    cases d with
    | lit dk => exact leaf_fail rfl _
    | arr xs =>
      exact (leaf_stay (f' := .arr items 0) rfl _).trans (items_T items xs 0)
    | obj ms => exact leaf_fail rfl _
  | obj props add =>
    cases d with
    | lit dk => exact leaf_fail rfl _
    | arr xs => exact leaf_fail rfl _
    | obj ms =>
      exact (leaf_stay (f' := .obj props add (requiredKeys props) none) rfl _).trans
        (members_T props add ms (requiredKeys props) none)
theorem items_T (items : List (S L)) (xs : List (J D)) (c : Nat) :
    runQ env litOK [leafT (.arr items c)] (evsItems xs ++ [.arrE]) = some ([], shapeItems env litOK items c xs) := by
  cases xs with
  | nil =>
    simp only [evsItems, List.nil_append, shapeItems]
    exact leaf_done rfl
  | cons x xs =>
    cases hc : childAt items c with
    | none =>
      simp only [evsItems, List.cons_append, List.append_assoc, shapeItems, hc]
      exact leaf_fail (by rw [feed1_itemB, hc]) _
    | some s =>
      simp only [evsItems, List.cons_append, List.append_assoc, shapeItems, hc]
      rw [leaf_kids (f' := .arr items (c+1)) (hs := heads env s) (by rw [feed1_itemB, hc]),
        position_run env litOK _ (heads env s) _ x .itemE _ (alts_of_alt env litOK x (fun a => alt_T a x) (alts env s))]
      cases (alts env s).any (fun a => shapeA env litOK a x) with
      | false => rfl
      | true =>
        simp only [if_true, Bool.true_and]
        rw [leaf_stay (f' := .arr items (c+1)) rfl]
        exact items_T items xs (c+1)
theorem members_T (props : List (String × Bool × S L)) (add : AddMode L) (ms : List (String × J D)) (req : List String)
    (last : Option String) :
    runQ env litOK [leafT (.obj props add req last)] (evsMembers ms ++ [.objE])
      = some ([], shapeMembers env litOK props add ms && req.all (fun r => ms.any (fun m => m.1 == r))) := by
  cases ms with
  | nil =>
    simp only [evsMembers, List.nil_append, shapeMembers, all_none_isEmpty, Bool.true_and]
    cases req
    · exact leaf_done rfl
    · exact leaf_fail rfl _
  | cons m ms =>
    obtain ⟨k, v⟩ := m
    -- the validators of this value and what they decide
    have hpos : ∃ (hs : List (Frame L)) (bv : Bool),
        feed1 env litOK (Frame.obj props add (req.filter (· != k)) (some k)) (Ev.valB : Ev D)
          = FeedRes.kids (.obj props add (req.filter (· != k)) (some k)) hs ∧
        runQ env litOK (hs.map leafT) (evs v) = some ([], bv) ∧
        shapeMembers env litOK props add ((k, v) :: ms) = (bv && shapeMembers env litOK props add ms) := by
      cases hl : lookup props k with
      | some s =>
        refine ⟨heads env s, shape env litOK s v, by rw [feed1_valB, hl],
          alts_of_alt env litOK v (fun a => alt_T a v) (alts env s), ?_⟩
        simp only [shapeMembers, hl]; rfl
      | none =>
        refine ⟨addHeads env add, shapeAdd env litOK add v, by rw [feed1_valB, hl],
          add_run env litOK add v (fun l => alt_T (.lit l) v)
            (fun n => alts_of_alt env litOK v (fun a => alt_T a v) (alts env (.ref [n] none))), ?_⟩
        simp only [shapeMembers, hl]; rfl
    obtain ⟨hs, bv, hfeed, hv, hshape⟩ := hpos
    simp only [evsMembers, List.cons_append, List.append_assoc]
    rw [leaf_stay (f' := .obj props add req last) rfl,
      leaf_stay (f' := .obj props add (req.filter (· != k)) (some k)) rfl,
      leaf_kids hfeed, position_run env litOK _ hs bv v .valE _ hv, hshape]
    cases bv with
    | false => rfl
    | true =>
      simp only [if_true, Bool.true_and]
      rw [leaf_stay (f' := .obj props add (req.filter (· != k)) (some k)) rfl,
        members_T props add ms (req.filter (· != k)) (some k), req_step req k v ms]
end

/-- a list of alternatives over one value -/
theorem alts_T (as : List (S L)) (d : J D) :
    runQ env litOK ((as.map frameOf).map leafT) (evs d) = some ([], as.any (fun a => shapeA env litOK a d)) :=
  alts_of_alt env litOK d (alt_T env litOK · d) as

/-- **C03** with `additionalProperties`: the shared-parent validator tree accepts exactly the union over the
alternatives `NodeValidatorList` builds at every position, the value of a key the example does not name being decided
by the object's `additionalProperties` (`addDecide`) -/
theorem C03_additional_properties (s : S L) (d : J D) : validateT env litOK s d = shape env litOK s d := by
  unfold validateT
  rw [show runQ env litOK ((heads env s).map leafT) (evs d) = some ([], shape env litOK s d) from
    alts_T env litOK (alts env s) d]

#print axioms C03_additional_properties

end VA
