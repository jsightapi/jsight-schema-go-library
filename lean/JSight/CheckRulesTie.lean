import JSight.CheckRules
import JSight.Generated.CompatTable
/-!
Tie for the C08 model's applicability table: `CR.compat` (the model's `IsJsonTypeCompatible`) against
`Gen.compatTable`, which `vh tgen-compat` regenerates on every run by EXECUTING the constraints of /repo's
working tree (hook `VerifCompatTable`). `Tie/Compat.lean` proves the same table equal to the statement's.
-/
namespace CR

def ctOfString : String → Option CT
  | "minLength" => some .minLength | "maxLength" => some .maxLength | "min" => some .min | "max" => some .max
  | "exclusiveMinimum" => some .exclusiveMinimum | "exclusiveMaximum" => some .exclusiveMaximum | "type" => some .type
  | "precision" => some .precision | "optional" => some .optional | "minItems" => some .minItems | "maxItems" => some .maxItems
  | "additionalProperties" => some .additionalProperties | "nullable" => some .nullable | "regex" => some .regex
  | "const" => some .const | "or" => some .or | "enum" => some .enum | "allOf" => some .allOf | "types" => some .typesList
  | "any" => some .any | "email" => some .email | "uri" => some .uri | "uuid" => some .uuid | "date" => some .date
  | "datetime" => some .datetime
  | _ => none

def jtOfString : String → Option JT
  | "object" => some .object | "array" => some .array | "string" => some .string | "integer" => some .integer
  | "float" => some .float | "boolean" => some .boolean | "null" => some .null | "mixed" => some .mixed
  | _ => none

/-- the model's `compat` is what `IsJsonTypeCompatible` answers in the code, row by row of the regenerated table -/
theorem compat_is_table : (Gen.compatTable.all fun row =>
    match ctOfString row.1, jtOfString row.2.1 with
    | some k, some t => compat k t == row.2.2
    | _, _ => true) = true := by decide +kernel

/-- … and the table has a row for every constraint type of the model and every JSON type -/
theorem compat_table_covers :
    (CT.all.all fun k => [JT.object, .array, .string, .integer, .float, .boolean, .null, .mixed].all fun t =>
      Gen.compatTable.any fun row => ctOfString row.1 == some k && jtOfString row.2.1 == some t) = true := by
  -- the rows of `k` are picked once and searched for each `t`: the sweep over all (k, t, row) is slow to check
  have h : ∀ k t, (Gen.compatTable.any fun row => ctOfString row.1 == some k && jtOfString row.2.1 == some t)
      = ((Gen.compatTable.filter fun row => ctOfString row.1 == some k).any fun row => jtOfString row.2.1 == some t) :=
    fun k t => List.any_filter.symm
  simp only [h]
  decide +kernel

end CR
