import JSight.SchemaLenPrefix
import JSight.SchemaRunLen
/-!
C14: `Len` returns an error when the text ends while something is still open: an object, an array, a member whose
value is missing, … (every prefix of a schema text that ends at a token boundary inside the top-level value), or a string.
-/
namespace SchemaScan
namespace Len

variable {data : Array Cls}

/-- what is open and cannot be closed by the end of input -/
def plainOpen : LexT → Bool
  | .keyB | .valB | .itemB | .objB | .arrB => true
  | _ => false

/-- `fuelErr` (`SchemaLenBase`) is the model's own crash when `next` runs out of fuel; `NextErr` asks that the error is another -/
theorem eofErr_ne (i : Nat) : Err.unexpectedEOF i ≠ fuelErr := by
  intro h; cases h

/-- the end of input with an open object, array, key, member value or item on top of the lexeme stack -/
theorem nextErr_eof (s : Sc) (hf : s.finds = []) (hi : data.size ≤ s.index) (t : LexT) (b : Nat)
    (rest : List (LexT × Nat)) (hs : s.stack = (t, b) :: rest) (ht : plainOpen t = true) :
    NextErr data s (.unexpectedEOF (data.size - 1)) := by
  refine ⟨eofErr_ne _, 1, by omega, ?_⟩
  rw [next_at_eof s hf hi]
  unfold eofStep
  -- `s` is taken apart so that `subst hs` can put the stack into the record and `rfl` evaluate `eofStep` on it
  obtain ⟨step, ret, stack, ctxStack, ctx, finds, index, ann, unf, lc, bq, al, ht'⟩ := s
  simp only at hs
  subst hs
  cases t <;> first | (cases ht; done) | rfl

/-- the end of input behind a complete scalar that stands inside an open container -/
theorem drain_eof_lit (s : Sc) (hf : s.finds = []) (hi : data.size ≤ s.index) (b : Nat) (t2 : LexT) (b2 : Nat)
    (rest : List (LexT × Nat)) (hs : s.stack = (.litB, b) :: (t2, b2) :: rest) (hu : s.unf = false)
    (ht : plainOpen t2 = true) : Drain data s [⟨.litE, b, s.index - 1⟩] (.err (.unexpectedEOF (data.size - 1))) := by
  have hn : NextOk data s (some ({ s with index := s.index + 1, stack := (t2, b2) :: rest }, ⟨.litE, b, s.index - 1⟩)) := by
    refine ⟨1, by omega, ?_⟩
    rw [next_at_eof s hf hi]
    unfold eofStep
    obtain ⟨step, ret, stack, ctxStack, ctx, finds, index, ann, unf, lc, bq, al, ht'⟩ := s
    simp only at hs hu
    subst hs hu
    rfl
  exact Drain.ev hn (by intro h; cases h)
    (Drain.err (nextErr_eof { s with index := s.index + 1, stack := (t2, b2) :: rest } hf (by simp only; omega) t2 b2 rest rfl ht))

/-- something is open behind the last token that the end of input cannot close -/
def eofErrK : List (LexT × Nat) → Bool
  | [] => false
  | (t, _) :: rest =>
    if isLitB t then (match rest with | (t2, _) :: _ => plainOpen t2 | [] => false) else plainOpen t

theorem drain_eof_tc (lc : Bool) (c : TC) (hi : data.size ≤ c.i) (hK : eofErrK c.K = true) :
    ∃ evs, evs.length ≤ 1 ∧ Drain data (c.sc lc) evs (.err (.unexpectedEOF (data.size - 1))) := by
  obtain ⟨st, g, K, i, CS, cx, al⟩ := c
  simp only at hi hK
  cases K with
  | nil => cases hK
  | cons p rest =>
    obtain ⟨t, b⟩ := p
    simp only [eofErrK] at hK
    split at hK
    · rename_i hl
      cases rest with
      | nil => cases hK
      | cons q rest2 =>
        obtain ⟨t2, b2⟩ := q
        rw [isLitB_eq hl]
        exact ⟨_, Nat.le_refl _, drain_eof_lit _ rfl hi b t2 b2 rest2 rfl rfl hK⟩
    · exact ⟨[], by simp, Drain.err (nextErr_eof _ rfl hi t b rest rfl hK)⟩

/-- the end of input inside a scalar that is not finished (an open string, `-`, `tr` …) -/
theorem nextErr_eof_unf (s : Sc) (hf : s.finds = []) (hi : data.size ≤ s.index) (b : Nat)
    (rest : List (LexT × Nat)) (hs : s.stack = (.litB, b) :: rest) (hu : s.unf = true) :
    NextErr data s (.unexpectedEOF (data.size - 1)) := by
  refine ⟨eofErr_ne _, 1, by omega, ?_⟩
  rw [next_at_eof s hf hi]
  unfold eofStep
  obtain ⟨step, ret, stack, ctxStack, ctx, finds, index, ann, unf, lc, bq, al, ht'⟩ := s
  simp only at hs hu
  subst hs hu
  rfl

end Len

open Len in
/-- **C14, `Len` errs on an incomplete schema (token boundaries)**: the input is the text of a token list accepted from
the initial state, and behind it an object, an array, a key, a member value or an array item is still open
(`eofErrK`): `Len` returns the error "unexpected end of input" (the library's error code 303) at the last byte. -/
theorem C14_schema_len_error_tokens (toks : List Tok) (hw : ∀ t ∈ toks, t.WF) (c' : TC) (evs : List Ev)
    (h : trun TC.init toks = some (c', evs)) (hopen : eofErrK c'.K = true)
    (bs : List UInt8) (hbs : bs.map classify = renderToks toks) :
    length bs = .error (.unexpectedEOF (bs.length - 1)) := by
  have hat : At (bs.map classify).toArray 0 (renderToks toks) := At_toArray _ [] _ (by rw [hbs]; simp)
  have hsize : (bs.map classify).toArray.size = (renderToks toks).length := by rw [hbs]; simp
  have hsz2 : (bs.map classify).toArray.size = bs.length := by simp
  obtain ⟨P, hi', hnt⟩ := trun_doc (lc := true) toks hw c' evs h hat
  obtain ⟨ev1, hk, r⟩ := drain_eof_tc (data := (bs.map classify).toArray) true c' (by rw [hi', hsize]; exact Nat.le_refl _) hopen
  have R := Drain.after P hnt r
  unfold length
  simp only [bind, Except.bind]
  rw [lengthLoop_of_drain R _ 0 R.length_init, Stop.len, hsz2]

#print axioms C14_schema_len_error_tokens

namespace Len

/-- the end of input inside a string that starts where a value may start, behind an accepted token list: what `Next()`
delivers and where it stops, for either value of `lengthComputing` -/
theorem drain_eof_string (lc : Bool) (toks : List Tok) (hw : ∀ t ∈ toks, t.WF) (c' : TC) (evs : List Ev)
    (h : trun TC.init toks = some (c', evs)) (ctx : VCtx) (hctx : vctxOf c'.st = some ctx) (body : List Cls)
    (hb : StrBody body) (hat : At data 0 (renderToks toks ++ (Cls.quote :: body)))
    (hsize : data.size = (renderToks toks).length + (body.length + 1)) :
    ∃ es, Drain data { lengthComputing := lc } es (.err (.unexpectedEOF (data.size - 1))) := by
  rw [At_append] at hat
  obtain ⟨hat0, hq, hatb⟩ := hat
  simp only [Nat.zero_add] at hq hatb
  obtain ⟨P, hi', hnt⟩ := trun_doc (lc := lc) toks hw c' evs h hat0
  obtain ⟨st, g, K, i, CS, cx, al⟩ := c'
  simp only at hi' hctx
  subst hi'
  have hst := vctxOf_st hctx
  subst hst
  have s1 : Path data (TC.sc lc ⟨ctx.st, g, K, (renderToks toks).length, CS, cx, al⟩)
      (ctx.preEvs (renderToks toks).length ++ [⟨.litB, (renderToks toks).length, (renderToks toks).length⟩])
      (cfgL lc .inString [] ((.litB, (renderToks toks).length) :: (ctx.pre (renderToks toks).length ++ K)) true
        ((renderToks toks).length + 1) CS (ctx.cx' cx) al) := by
    refine slot_byte ⟨ctx.st, g, K, _, CS, cx, al⟩ .quote (by simp) hq
      (fun f p1 p2 => d_scalar f .quote .inString true rfl ctx _ K _ CS cx al p1 p2) rfl ?_
    cases ctx <;> rfl
  have s2 := Len.tok_run (lc := lc) body _ _ _ _ _ _ (strBody_open body hb true)
    ((.litB, (renderToks toks).length) :: (ctx.pre (renderToks toks).length ++ K)) ((renderToks toks).length + 1) CS
    (ctx.cx' cx) al hatb
  have P2 := Path.trans P (Path.trans s1 s2)
  have hpre := preEvs_noTop ctx (renderToks toks).length
  have hnt2 : noTop (evs ++ ((ctx.preEvs (renderToks toks).length ++
      [⟨.litB, (renderToks toks).length, (renderToks toks).length⟩]) ++ [])) = true := by
    rw [noTop_append, hnt, noTop_append, noTop_append, hpre]; rfl
  have r := Drain.err (nextErr_eof_unf (data := data)
    (cfgL lc .inString [] ((.litB, (renderToks toks).length) :: (ctx.pre (renderToks toks).length ++ K)) true
      ((renderToks toks).length + 1 + body.length) CS (ctx.cx' cx) al) rfl (by simp only [cfgL]; omega) _ _ rfl rfl)
  exact ⟨_, Drain.after P2 hnt2 r⟩

end Len

open Len in
/-- **C14, `Len` errs on an open string**: an accepted token list that ends where a value may start (`vctxOf`: the
start of the text, behind `[`, `,` in an array, or `:`), then `"` and string characters (`StrBody`: plain bytes and
complete escapes) up to the end of input: error 303 at the last byte. -/
theorem C14_schema_len_error_string (toks : List Tok) (hw : ∀ t ∈ toks, t.WF) (c' : TC) (evs : List Ev)
    (h : trun TC.init toks = some (c', evs)) (ctx : VCtx) (hctx : vctxOf c'.st = some ctx) (body : List Cls)
    (hb : StrBody body) (bs : List UInt8) (hbs : bs.map classify = renderToks toks ++ (Cls.quote :: body)) :
    length bs = .error (.unexpectedEOF (bs.length - 1)) := by
  have hat : At (bs.map classify).toArray 0 (renderToks toks ++ (Cls.quote :: body)) := At_toArray _ [] _ (by rw [hbs]; simp)
  have hsize : (bs.map classify).toArray.size = (renderToks toks).length + (body.length + 1) := by rw [hbs]; simp
  have hsz2 : (bs.map classify).toArray.size = bs.length := by simp
  obtain ⟨es, R⟩ := drain_eof_string true toks hw c' evs h ctx hctx body hb hat hsize
  unfold length
  simp only [bind, Except.bind]
  rw [lengthLoop_of_drain R _ 0 R.length_init, Stop.len, hsz2]

#print axioms C14_schema_len_error_string

end SchemaScan
