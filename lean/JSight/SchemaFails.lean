import JSight.SchemaErrIdxStep
import JSight.SchemaEventsBase
import JSight.SchemaNoCrash
/-!
Fuel-free description of a FAILING run of the schema scanner model.  `micro` is one step of `Next()`: deliver a queued
lexeme, else read a byte, else apply the end-of-input rule; `Fails data s e` — draining the scanner from `s` ends with the
error `e` — is its closure.  `events_fails` / `fails_events` connect it with `events` (and so with `scanAll`).
-/
namespace SchemaScan

/-- the read step of `Next()`: advance the index, call the current step function on the byte and its look-ahead -/
def readStep (data : Array Cls) (s : Sc) : M Sc :=
  dispatch 8 s.step { s with index := s.index + 1 } data[s.index]! data[s.index + 1]? data[s.index + 1 + 1]?

/-- one step of `Next()`; `none` when the run is over -/
def micro (data : Array Cls) (s : Sc) : M (Option Sc) :=
  match shiftFound data s with
  | .error e => .error e
  | .ok (some r) => .ok (some r.1)
  | .ok none =>
    if s.index < data.size then some <$> readStep data s else (Option.map Prod.fst) <$> eofStep data s

inductive Fails (data : Array Cls) : Sc → Err → Prop
  | err {s e} : micro data s = .error e → Fails data s e
  | step {s s' e} : micro data s = .ok (some s') → Fails data s' e → Fails data s e

theorem map_err {α β} (f : α → β) (x : M α) (e : Err) (h : (f <$> x) = .error e) : x = .error e := by
  cases x with
  | error e' => cases h; rfl
  | ok a => cases h

theorem map_ok {α β} (f : α → β) (x : M α) (b : β) (h : (f <$> x) = .ok b) : ∃ a, x = .ok a ∧ f a = b := by
  cases x with
  | error e' => cases h
  | ok a => cases h; exact ⟨a, rfl, rfl⟩

/-- the three kinds of step -/
theorem micro_ok {data : Array Cls} {s s' : Sc} (h : micro data s = .ok (some s')) :
    (∃ ev, shiftFound data s = .ok (some (s', ev))) ∨
    (shiftFound data s = .ok none ∧ s.index < data.size ∧ readStep data s = .ok s') ∨
    (shiftFound data s = .ok none ∧ ¬ s.index < data.size ∧ ∃ ev, eofStep data s = .ok (some (s', ev))) := by
  unfold micro at h
  split at h
  · cases h
  · cases h; exact Or.inl ⟨_, ‹_›⟩
  · split at h
    · obtain ⟨a, ha, hb⟩ := map_ok _ _ _ h
      cases hb
      exact Or.inr (Or.inl ⟨‹_›, ‹_›, ha⟩)
    · obtain ⟨a, ha, hb⟩ := map_ok _ _ _ h
      cases a with
      | none => cases hb
      | some r => cases hb; exact Or.inr (Or.inr ⟨‹_›, ‹_›, r.2, ha⟩)

/-- the three kinds of failing step -/
theorem micro_err {data : Array Cls} {s : Sc} {e : Err} (h : micro data s = .error e) :
    shiftFound data s = .error e ∨
    (shiftFound data s = .ok none ∧ s.index < data.size ∧ readStep data s = .error e) ∨
    (shiftFound data s = .ok none ∧ ¬ s.index < data.size ∧ eofStep data s = .error e) := by
  unfold micro at h
  split at h
  · cases h; exact Or.inl ‹_›
  · cases h
  · split at h
    · exact Or.inr (Or.inl ⟨‹_›, ‹_›, map_err _ _ _ h⟩)
    · exact Or.inr (Or.inr ⟨‹_›, ‹_›, map_err _ _ _ h⟩)

theorem Fails.shiftErr {data s e} (h : shiftFound data s = .error e) : Fails data s e :=
  .err (by unfold micro; rw [h])
theorem Fails.shift {data s s' ev e} (h : shiftFound data s = .ok (some (s', ev))) (hf : Fails data s' e) :
    Fails data s e :=
  .step (by unfold micro; rw [h]) hf
theorem Fails.readErr {data s e} (h : shiftFound data s = .ok none) (hi : s.index < data.size)
    (hr : readStep data s = .error e) : Fails data s e :=
  .err (by unfold micro; rw [h]; simp only [hi, if_true, hr]; rfl)
theorem Fails.read {data s s1 e} (h : shiftFound data s = .ok none) (hi : s.index < data.size)
    (hr : readStep data s = .ok s1) (hf : Fails data s1 e) : Fails data s e :=
  .step (by unfold micro; rw [h]; simp only [hi, if_true, hr]; rfl) hf
theorem Fails.eofErr {data s e} (h : shiftFound data s = .ok none) (hi : ¬ s.index < data.size)
    (he : eofStep data s = .error e) : Fails data s e :=
  .err (by unfold micro; rw [h]; simp only [hi, if_false, he]; rfl)
theorem Fails.eof {data s s' ev e} (h : shiftFound data s = .ok none) (hi : ¬ s.index < data.size)
    (he : eofStep data s = .ok (some (s', ev))) (hf : Fails data s' e) : Fails data s e :=
  .step (by unfold micro; rw [h]; simp only [hi, if_false, he]; rfl) hf

theorem Fails.det {data : Array Cls} {s : Sc} {e e' : Err} (h : Fails data s e) (h' : Fails data s e') : e = e' := by
  induction h with
  | err h1 => cases h' with
    | err g1 => rw [h1] at g1; cases g1; rfl
    | step g1 _ => rw [h1] at g1; cases g1
  | step h1 _ ih => cases h' with
    | err g1 => rw [h1] at g1; cases g1
    | step g1 g2 => rw [h1] at g1; cases g1; exact ih g2

theorem nextBody_shiftErr {data k s e} (h : shiftFound data s = .error e) : nextBody data k s = .error e := by
  unfold nextBody; rw [h]

theorem nextBody_shift {data k s r} (h : shiftFound data s = .ok (some r)) : nextBody data k s = .ok (some r) := by
  unfold nextBody; rw [h]

theorem nextBody_readErr {data k s e} (h : shiftFound data s = .ok none) (hi : s.index < data.size)
    (hr : readStep data s = .error e) : nextBody data k s = .error e := by
  unfold nextBody; rw [h]
  simp only [hi, if_true]
  unfold readStep at hr
  rw [hr]

theorem nextBody_read {data k s s1} (h : shiftFound data s = .ok none) (hi : s.index < data.size)
    (hr : readStep data s = .ok s1) :
    nextBody data k s = (match shiftFound data s1 with
      | .error e => .error e
      | .ok (some r) => .ok (some r)
      | .ok none => k s1) := by
  unfold nextBody; rw [h]
  simp only [hi, if_true]
  unfold readStep at hr
  rw [hr]
  rfl

theorem nextBody_eof {data k s} (h : shiftFound data s = .ok none) (hi : ¬ s.index < data.size) :
    nextBody data k s = eofStep data s := by
  unfold nextBody; rw [h]
  simp only [hi, if_false]

theorem events_succ (data : Array Cls) (fuel : Nat) (s : Sc) (acc : List Ev) :
    events data (fuel + 1) s acc = (match next data (3 * data.size + 16) s with
      | .error e => .error e
      | .ok none => .ok acc.reverse
      | .ok (some (s', e)) => events data fuel s' (e :: acc)) := by
  rw [events]
  simp only [bind, Except.bind]
  cases next data (3 * data.size + 16) s with
  | error e => rfl
  | ok r =>
    cases r with
    | none => rfl
    | some p => obtain ⟨s', e⟩ := p; rfl

/-! ### from `next` / `events` to `Fails` -/

theorem next_fails (data : Array Cls) : ∀ (nf : Nat) (s : Sc),
    (∀ e, next data nf s = .error e → e.isCrash = false → Fails data s e) ∧
    (∀ s' ev, next data nf s = .ok (some (s', ev)) → ∀ e, Fails data s' e → Fails data s e)
  | 0, s => by
    refine ⟨?_, ?_⟩
    · intro e h hc; rw [next_zero] at h; cases h; cases hc
    · intro s' ev h; rw [next_zero] at h; cases h
  | nf + 1, s => by
    rw [next_succ]
    cases h1 : shiftFound data s with
    | error e1 =>
      rw [nextBody_shiftErr h1]
      refine ⟨?_, ?_⟩
      · intro e h _; cases h; exact Fails.shiftErr h1
      · intro s' ev h; cases h
    | ok o =>
      cases o with
      | some r =>
        obtain ⟨s1, ev1⟩ := r
        rw [nextBody_shift h1]
        refine ⟨?_, ?_⟩
        · intro e h; cases h
        · intro s' ev h e hf; cases h; exact Fails.shift h1 hf
      | none =>
        by_cases hi : s.index < data.size
        · cases hr : readStep data s with
          | error e1 =>
            rw [nextBody_readErr h1 hi hr]
            refine ⟨?_, ?_⟩
            · intro e h _; cases h; exact Fails.readErr h1 hi hr
            · intro s' ev h; cases h
          | ok s1 =>
            rw [nextBody_read h1 hi hr]
            cases h2 : shiftFound data s1 with
            | error e2 =>
              refine ⟨?_, ?_⟩
              · intro e h _; cases h; exact Fails.read h1 hi hr (Fails.shiftErr h2)
              · intro s' ev h; cases h
            | ok o2 =>
              cases o2 with
              | some r2 =>
                obtain ⟨s2, ev2⟩ := r2
                refine ⟨?_, ?_⟩
                · intro e h; cases h
                · intro s' ev h e hf; cases h; exact Fails.read h1 hi hr (Fails.shift h2 hf)
              | none =>
                have ih := next_fails data nf s1
                refine ⟨?_, ?_⟩
                · intro e h hc; exact Fails.read h1 hi hr (ih.1 e h hc)
                · intro s' ev h e hf; exact Fails.read h1 hi hr (ih.2 s' ev h e hf)
        · rw [nextBody_eof h1 hi]
          refine ⟨?_, ?_⟩
          · intro e h _; exact Fails.eofErr h1 hi h
          · intro s' ev h e hf; exact Fails.eof h1 hi h hf

theorem events_fails (data : Array Cls) : ∀ (fuel : Nat) (s : Sc) (acc : List Ev) (e : Err),
    events data fuel s acc = .error e → e.isCrash = false → Fails data s e
  | 0, s, acc, e, h, hc => by
    rw [events] at h; cases h; cases hc
  | fuel + 1, s, acc, e, h, hc => by
    rw [events_succ] at h
    have hn := next_fails data (3 * data.size + 16) s
    cases hx : next data (3 * data.size + 16) s with
    | error e1 =>
      rw [hx] at h; cases h
      exact hn.1 _ hx hc
    | ok r =>
      rw [hx] at h
      cases r with
      | none => cases h
      | some p =>
        obtain ⟨s', ev⟩ := p
        exact hn.2 s' ev hx e (events_fails data fuel s' _ e h hc)

/-! ### a failing run does not succeed -/

/-- the fuel `events` gives `next`, as a successor (for `next_succ`) -/
theorem next_pos_fuel (data : Array Cls) : 3 * data.size + 16 = (3 * data.size + 15) + 1 := rfl

theorem fails_not_ok {data : Array Cls} {s : Sc} {e : Err} (hf : Fails data s e) :
    ∀ (fuel : Nat) (acc evs : List Ev), events data fuel s acc = .ok evs → False := by
  induction hf with
  | err h1 =>
    intro fuel acc evs h
    cases fuel with
    | zero => rw [events] at h; cases h
    | succ fuel =>
      rw [events_succ, next_pos_fuel, next_succ] at h
      rcases micro_err h1 with h1 | ⟨h1, hi, hr⟩ | ⟨h1, hi, he⟩
      · rw [nextBody_shiftErr h1] at h; cases h
      · rw [nextBody_readErr h1 hi hr] at h; cases h
      · rw [nextBody_eof h1 hi, he] at h; cases h
  | @step s s1 e h1 _ ih =>
    intro fuel acc evs h
    cases fuel with
    | zero => rw [events] at h; cases h
    | succ fuel =>
      rcases micro_ok h1 with ⟨ev, h1⟩ | ⟨h1, hi, hr⟩ | ⟨h1, hi, ev, he⟩
      · rw [events_succ, next_pos_fuel, next_succ, nextBody_shift h1] at h
        exact ih fuel _ evs h
      · -- a read step is silent: `next` answers from `s1` what it answers from `s`
        apply ih (fuel + 1) acc evs
        rw [events_succ] at h ⊢
        have key : ∀ r, next data (3 * data.size + 16) s = .ok r → next data (3 * data.size + 16) s1 = .ok r := by
          intro r hr'
          rw [next_pos_fuel, next_succ, nextBody_read h1 hi hr] at hr'
          cases h2 : shiftFound data s1 with
          | error e2 => rw [h2] at hr'; cases hr'
          | ok o2 =>
            rw [h2] at hr'
            cases o2 with
            | some r2 =>
              rw [next_pos_fuel, next_succ, nextBody_shift h2]
              exact hr'
            | none =>
              exact next_mono data _ _ s1 r hr' (by omega)
        cases hx : next data (3 * data.size + 16) s with
        | error e1 => rw [hx] at h; cases h
        | ok r =>
          rw [hx] at h
          rw [key r hx]
          exact h
      · rw [events_succ, next_pos_fuel, next_succ, nextBody_eof h1 hi, he] at h
        exact ih fuel _ evs h

/-! ### from `Fails` back to `events` -/

theorem fails_events {data : Array Cls} {s : Sc} {e : Err} (hf : Fails data s e)
    {fuel : Nat} (hR : RunInv data.size s fuel) (acc : List Ev) : events data fuel s acc = .error e := by
  cases hx : events data fuel s acc with
  | ok evs => exact absurd hx (fun h => fails_not_ok hf fuel acc evs h)
  | error e' =>
    have hc' := events_ok fuel s acc hR e' hx
    have := events_fails data fuel s acc e' hx hc'
    rw [hf.det this]

theorem scanAll_fails {bs : List UInt8} {e : Err} (h : scanAll bs = .error e) :
    Fails (bs.map classify).toArray {} e :=
  events_fails _ _ _ _ _ h (scanAll_no_crash bs e h)

theorem fails_scanAll {bs : List UInt8} {e : Err} (h : Fails (bs.map classify).toArray {} e) :
    scanAll bs = .error e :=
  fails_events h (RunInv_init _ false) []

end SchemaScan
