import JSight.Dfs
import JSight.ValidateRProofs
import JSight.Example
/-!
C15 (self-validation) with user-type references: whenever the example builder completes *without a recursion
cut-off* (no child omitted), the document it builds is accepted by the validator — for arbitrary (also
recursive) type tables, any literal rule semantics. The builder follows the first name of a reference, as
`example.go` does; the validator accepts through any alternative (`alts`, C03).
The cut-off cases are exactly where the known findings K-C15-reqcut / K-C15-arraycut live.
The second half (`ofR`, `tree_ofR`, `build_ofR`) reads a `VR` schema as a node of the builder model `EX` and shows that
`EX.tree` / `EX.build` emit exactly that document.
-/
namespace VR
open VN (J)
variable {L D : Type}

def bump (proc : String → Nat) (n : String) : String → Nat := fun m => if m == n then proc m + 1 else proc m

mutual
/-- the example document; `none` = unknown type, out of fuel, or a recursion cut-off anywhere below -/
def exDoc (env : Env L) (ex : L → D) : Nat → (String → Nat) → S L → Option (J D)
  | _, _, .lit l => some (.lit (ex l))
  | _, _, .any => some (.arr [])
  | fuel, proc, .arr items => (exItems env ex fuel proc items).map .arr
  | fuel, proc, .obj props => (exProps env ex fuel proc props).map .obj
  | 0, _, .ref _ _ => none
  | _ + 1, _, .ref [] _ => none
  | fuel + 1, proc, .ref (n :: _) _ =>
    if proc n > 1 then none
    else match lookupT env n with
      | some t => exDoc env ex fuel (bump proc n) t
      | none => none
termination_by fuel _ s => (fuel, sizeOf s)
def exItems (env : Env L) (ex : L → D) : Nat → (String → Nat) → List (S L) → Option (List (J D))
  | _, _, [] => some []
  | fuel, proc, s :: ss =>
    match exDoc env ex fuel proc s, exItems env ex fuel proc ss with
    | some x, some xs => some (x :: xs)
    | _, _ => none
termination_by fuel _ ss => (fuel, sizeOf ss)
def exProps (env : Env L) (ex : L → D) : Nat → (String → Nat) → List (String × Bool × S L) → Option (List (String × J D))
  | _, _, [] => some []
  | fuel, proc, (k, _, s) :: ps =>
    match exDoc env ex fuel proc s, exProps env ex fuel proc ps with
    | some x, some xs => some ((k, x) :: xs)
    | _, _ => none
termination_by fuel _ ps => (fuel, sizeOf ps)
end

def keysNodup : List (String × Bool × S L) → Bool
  | [] => true
  | (k, _, _) :: ps => !(ps.any (fun p => p.1 == k)) && keysNodup ps

mutual
/-- what `Check` establishes on one schema text: every literal passes its own rules, keys are unique -/
def checkedS (litOK : L → D → Bool) (ex : L → D) : S L → Bool
  | .lit l => litOK l (ex l)
  | .any => true
  | .arr items => checkedItems litOK ex items
  | .obj props => checkedProps litOK ex props && keysNodup props
  | .ref _ _ => true
def checkedItems (litOK : L → D → Bool) (ex : L → D) : List (S L) → Bool
  | [] => true
  | s :: ss => checkedS litOK ex s && checkedItems litOK ex ss
def checkedProps (litOK : L → D → Bool) (ex : L → D) : List (String × Bool × S L) → Bool
  | [] => true
  | (_, _, s) :: ps => checkedS litOK ex s && checkedProps litOK ex ps
end

/-- … and on every user type -/
def CheckedEnv (env : Env L) (litOK : L → D → Bool) (ex : L → D) : Prop :=
  ∀ n t, lookupT env n = some t → checkedS litOK ex t = true

theorem keysNodup_eq (props : List (String × Bool × S L)) : keysNodup props = Tbl.keysNodupBy (·.1) props := by
  induction props with
  | nil => rfl
  | cons p ps ih => simp only [keysNodup, Tbl.keysNodupBy, ih]

theorem lookup_of_nodup (props : List (String × Bool × S L)) (h : keysNodup props = true)
    (k : String) (r : Bool) (s : S L) (hm : (k, r, s) ∈ props) : lookup props k = some s :=
  Tbl.firstBy_of_nodup (fun p : String × Bool × S L => p.1) (·.2.2) props (keysNodup_eq props ▸ h) (k, r, s) hm

theorem alts_nonref (env : Env L) (s : S L) (h : isRef s = false) : alts env s = [s] := by
  unfold alts; rw [build_nonref env _ s h]; rfl

/-- the alternatives of the first name's type are alternatives of the reference -/
theorem alts_of_first (env : Env L) (n : String) (ns : List String) (nul : Option L) (t : S L)
    (hl : lookupT env n = some t) (a : S L) (ha : a ∈ alts env t) : a ∈ alts env (.ref (n :: ns) nul) :=
  alts_complete env (n :: ns) nul n (by simp) a (reachS_of_name env n t hl a ((alts_iff_reach env t a).1 ha))

/-- induction over a schema with the hypothesis for every member of a child list -/
theorem S.mem_induct {motive : S L → Prop} (lit : ∀ l, motive (.lit l)) (any : motive .any)
    (arr : ∀ items, (∀ s ∈ items, motive s) → motive (.arr items))
    (obj : ∀ props, (∀ p ∈ props, motive p.2.2) → motive (.obj props))
    (ref : ∀ names nul, motive (.ref names nul)) (s : S L) : motive s :=
  S.rec (motive_1 := motive) (motive_2 := fun ss => ∀ s ∈ ss, motive s)
    (motive_3 := fun ps => ∀ p ∈ ps, motive p.2.2) (motive_4 := fun p => motive p.2.2) (motive_5 := fun p => motive p.2)
    lit any arr obj ref
    (fun _ h => nomatch h) (fun _ _ h hs => List.forall_mem_cons.2 ⟨h, hs⟩)
    (fun _ h => nomatch h) (fun _ _ h hs => List.forall_mem_cons.2 ⟨h, hs⟩)
    (fun _ _ h => h) (fun _ _ h => h) s

/-! ### what a completed run of `exDoc` says about its parts -/
section replay
variable {env : Env L} {ex : L → D} {fuel : Nat} {proc : String → Nat}

/-- a reference has spent one unit of fuel and followed its first name, which was not cut off -/
theorem exDoc_ref {names : List String} {nul : Option L} {d : J D} (h : exDoc env ex fuel proc (.ref names nul) = some d) :
    ∃ f n ns, fuel = f + 1 ∧ names = n :: ns ∧ ¬ proc n > 1 ∧
      ∃ t, lookupT env n = some t ∧ exDoc env ex f (bump proc n) t = some d := by
  cases fuel with
  | zero => simp [exDoc] at h
  | succ f =>
    cases names with
    | nil => simp [exDoc] at h
    | cons n ns =>
      simp only [exDoc] at h
      split at h
      · cases h
      · next hp =>
        split at h
        · next t hl => exact ⟨f, n, ns, rfl, rfl, hp, t, hl, h⟩
        · cases h

theorem exItems_cons {s : S L} {ss : List (S L)} {xs : List (J D)} (h : exItems env ex fuel proc (s :: ss) = some xs) :
    ∃ x rest, exDoc env ex fuel proc s = some x ∧ exItems env ex fuel proc ss = some rest ∧ xs = x :: rest := by
  simp only [exItems] at h
  split at h
  · next x rest h1 h2 => exact ⟨x, rest, h1, h2, (Option.some.inj h).symm⟩
  · cases h

theorem exProps_cons {k : String} {r : Bool} {s : S L} {ps : List (String × Bool × S L)} {ms : List (String × J D)}
    (h : exProps env ex fuel proc ((k, r, s) :: ps) = some ms) :
    ∃ x rest, exDoc env ex fuel proc s = some x ∧ exProps env ex fuel proc ps = some rest ∧ ms = (k, x) :: rest := by
  simp only [exProps] at h
  split at h
  · next x rest h1 h2 => exact ⟨x, rest, h1, h2, (Option.some.inj h).symm⟩
  · cases h

end replay

theorem exProps_keys (env : Env L) (ex : L → D) (fuel : Nat) (proc : String → Nat) :
    (ps : List (String × Bool × S L)) → ∀ ms, exProps env ex fuel proc ps = some ms → ms.map (·.1) = ps.map (·.1)
  | [], ms, h => by simp [exProps] at h; subst h; rfl
  | (k, r, s) :: ps, ms, h => by
    obtain ⟨x, rest, _, h2, rfl⟩ := exProps_cons h
    simp [exProps_keys env ex fuel proc ps rest h2]

section selfvalid
variable (env : Env L) (litOK : L → D → Bool) (ex : L → D) (henv : CheckedEnv env litOK ex)
include henv

/-! The lists of an array or object are walked with the claim for their members as a hypothesis; `ex_shape` supplies
it by induction on the fuel and, for one fuel, on the schema. -/

omit henv in
theorem shapeItems_of {fuel : Nat} {proc : String → Nat} : (ss : List (S L)) →
    (∀ s ∈ ss, checkedS litOK ex s = true → ∀ d, exDoc env ex fuel proc s = some d →
      (alts env s).any (fun a => shapeA env litOK a d) = true) →
    ∀ pre, checkedItems litOK ex ss = true → ∀ xs, exItems env ex fuel proc ss = some xs →
      shapeItems env litOK (pre ++ ss) pre.length xs = true
  | [], _, pre, _, xs, h => by simp [exItems] at h; subst h; simp [shapeItems]
  | s :: ss, hs, pre, hc, xs, h => by
    simp only [checkedItems, Bool.and_eq_true] at hc
    obtain ⟨x, rest, h1, h2, rfl⟩ := exItems_cons h
    have e1 := hs s (by simp) hc.1 x h1
    have e2 := shapeItems_of ss (fun t ht => hs t (by simp [ht])) (pre ++ [s]) hc.2 rest h2
    simp only [shapeItems, childAt_eq, Tbl.clampAt_append, e1, Bool.true_and]
    simpa [List.append_assoc] using e2

omit henv in
theorem shapeMembers_of {fuel : Nat} {proc : String → Nat} (props : List (String × Bool × S L))
    (hn : keysNodup props = true) : (ps : List (String × Bool × S L)) → (∀ p ∈ ps, p ∈ props) →
    (∀ p ∈ ps, checkedS litOK ex p.2.2 = true → ∀ d, exDoc env ex fuel proc p.2.2 = some d →
      (alts env p.2.2).any (fun a => shapeA env litOK a d) = true) →
    checkedProps litOK ex ps = true → ∀ ms, exProps env ex fuel proc ps = some ms → shapeMembers env litOK props ms = true
  | [], _, _, _, ms, h => by simp [exProps] at h; subst h; simp [shapeMembers]
  | (k, r, s) :: ps, hsub, hs, hc, ms, h => by
    simp only [checkedProps, Bool.and_eq_true] at hc
    obtain ⟨x, rest, h1, h2, rfl⟩ := exProps_cons h
    have hl := lookup_of_nodup props hn k r s (hsub _ (by simp))
    have e1 := hs (k, r, s) (by simp) hc.1 x h1
    simp only [shapeMembers, hl, e1, Bool.true_and]
    exact shapeMembers_of props hn ps (fun p hp => hsub p (by simp [hp])) (fun p hp => hs p (by simp [hp])) hc.2 rest h2

theorem ex_shape (fuel : Nat) : ∀ (proc : String → Nat) (s : S L), checkedS litOK ex s = true →
    ∀ d, exDoc env ex fuel proc s = some d → (alts env s).any (fun a => shapeA env litOK a d) = true := by
  induction fuel using Nat.strongRecOn with
  | _ fuel ihf =>
    intro proc s
    induction s using S.mem_induct with
    | lit l =>
      intro hc d h; simp [exDoc] at h; subst h
      rw [alts_nonref env _ rfl]
      simpa [shapeA, checkedS] using hc
    | any =>
      intro _ d h
      rw [alts_nonref env _ rfl]; simp [shapeA]
    | arr items ih =>
      intro hc d h
      simp only [exDoc, Option.map_eq_some_iff] at h
      obtain ⟨xs, hk, rfl⟩ := h
      have := shapeItems_of env litOK ex items ih [] (by simpa [checkedS] using hc) xs hk
      rw [alts_nonref env _ rfl]
      simpa [shapeA] using this
    | obj props ih =>
      intro hc d h
      simp only [exDoc, Option.map_eq_some_iff] at h
      obtain ⟨ms, hk, rfl⟩ := h
      simp only [checkedS, Bool.and_eq_true] at hc
      have h1 := shapeMembers_of env litOK ex props hc.2 props (fun _ hp => hp) ih hc.1 ms hk
      have hkeys := exProps_keys env ex fuel proc props ms hk
      rw [alts_nonref env _ rfl]
      simp only [List.any_cons, List.any_nil, Bool.or_false, shapeA, Bool.and_eq_true]
      refine ⟨h1, ?_⟩
      rw [List.all_eq_true]
      intro k hk'
      simp only [requiredKeys, List.mem_map, List.mem_filter] at hk'
      obtain ⟨p, ⟨hp, _⟩, rfl⟩ := hk'
      have : p.1 ∈ ms.map (·.1) := by rw [hkeys]; exact List.mem_map.2 ⟨p, hp, rfl⟩
      obtain ⟨m, hm, hmk⟩ := List.mem_map.1 this
      exact List.any_eq_true.2 ⟨m, hm, by simp [hmk]⟩
    | ref names nul =>
      intro _ d h
      obtain ⟨f, n, ns, rfl, rfl, _, t, hl, ht⟩ := exDoc_ref h
      obtain ⟨a, ha, hs⟩ := List.any_eq_true.1 (ihf f (Nat.lt_succ_self f) (bump proc n) t (henv n t hl) d ht)
      exact List.any_eq_true.2 ⟨a, alts_of_first env n ns nul t hl a ha, hs⟩

theorem ex_items : (fuel : Nat) → (proc : String → Nat) → (pre ss : List (S L)) → checkedItems litOK ex ss = true →
    ∀ xs, exItems env ex fuel proc ss = some xs → shapeItems env litOK (pre ++ ss) pre.length xs = true :=
  fun fuel proc pre ss => shapeItems_of env litOK ex ss (fun s _ => ex_shape env litOK ex henv fuel proc s) pre

theorem ex_props : (fuel : Nat) → (proc : String → Nat) → (props pre ps : List (String × Bool × S L)) →
    props = pre ++ ps → keysNodup props = true → checkedProps litOK ex ps = true →
    ∀ ms, exProps env ex fuel proc ps = some ms → shapeMembers env litOK props ms = true :=
  fun fuel proc props pre ps hp hn =>
    shapeMembers_of env litOK ex props hn ps (fun p h => by rw [hp]; simp [h])
      (fun p _ => ex_shape env litOK ex henv fuel proc p.2.2)

/-- **C15 with references**: if the builder completes without a cut-off, `Validate` accepts what it built -/
theorem C15_self_valid_refs (fuel : Nat) (proc : String → Nat) (s : S L) (hc : checkedS litOK ex s = true)
    (d : J D) (h : exDoc env ex fuel proc s = some d) : validateT env litOK s d = true := by
  rw [C03_named_types]
  exact ex_shape env litOK ex henv fuel proc s hc d h

end selfvalid

/-! ### the builder model `EX.tree` emits exactly that document -/
section bridge
open JsonScan (Cls JA)
variable {L D : Type} (tok : D → List Cls) (keyTok : String → List Cls)

mutual
def ofR (ex : L → D) : S L → EX.N
  | .lit l => .lit (tok (ex l))
  | .any => .arr []
  | .arr items => .arr (ofRItems ex items)
  | .obj props => .obj (ofRProps ex props)
  | .ref [] _ => .ref ""
  | .ref (n :: _) _ => .ref n
def ofRItems (ex : L → D) : List (S L) → List EX.N
  | [] => []
  | s :: ss => ofR ex s :: ofRItems ex ss
def ofRProps (ex : L → D) : List (String × Bool × S L) → List (List Cls × EX.N)
  | [] => []
  | (k, _, s) :: ps => (keyTok k, ofR ex s) :: ofRProps ex ps
end

def tsOf (ex : L → D) (env : Env L) : EX.Types := env.map fun p => (p.1, ofR tok keyTok ex p.2)

theorem lookup_tsOf (ex : L → D) (env : Env L) (n : String) :
    EX.lookupT (tsOf tok keyTok ex env) n = (lookupT env n).map (ofR tok keyTok ex) :=
  Tbl.named_map (ofR tok keyTok ex) env n

mutual
def jaOfN : J D → JA
  | .lit d => .scalar (tok d)
  | .arr xs => .arr [] ((jaItemsN xs).map fun v => ([], v, []))
  | .obj ms => .obj [] ((jaMembersN ms).map fun m => ([], m.1, [], [], m.2, []))
def jaItemsN : List (J D) → List JA
  | [] => []
  | x :: xs => jaOfN x :: jaItemsN xs
def jaMembersN : List (String × J D) → List (List Cls × JA)
  | [] => []
  | (k, v) :: ms => (keyTok k, jaOfN v) :: jaMembersN ms
end

variable (env : Env L) (ex : L → D)

theorem treeKids_of {fuel : Nat} {proc : String → Nat} : (ss : List (S L)) →
    (∀ s ∈ ss, ∀ d, exDoc env ex fuel proc s = some d →
      EX.tree (tsOf tok keyTok ex env) fuel proc (ofR tok keyTok ex s) = some (some (jaOfN tok keyTok d))) →
    ∀ xs, exItems env ex fuel proc ss = some xs →
      EX.treeKids (tsOf tok keyTok ex env) fuel proc (ofRItems tok keyTok ex ss) = some (jaItemsN tok keyTok xs)
  | [], _, xs, h => by simp [exItems] at h; subst h; simp [ofRItems, EX.treeKids, jaItemsN]
  | s :: ss, hs, xs, h => by
    obtain ⟨x, rest, h1, h2, rfl⟩ := exItems_cons h
    simp only [ofRItems, EX.treeKids, jaItemsN]
    rw [hs s (by simp) x h1, treeKids_of ss (fun t ht => hs t (by simp [ht])) rest h2]

theorem treeProps_of {fuel : Nat} {proc : String → Nat} : (ps : List (String × Bool × S L)) →
    (∀ p ∈ ps, ∀ d, exDoc env ex fuel proc p.2.2 = some d →
      EX.tree (tsOf tok keyTok ex env) fuel proc (ofR tok keyTok ex p.2.2) = some (some (jaOfN tok keyTok d))) →
    ∀ ms, exProps env ex fuel proc ps = some ms →
      EX.treeProps (tsOf tok keyTok ex env) fuel proc (ofRProps tok keyTok ex ps) = some (jaMembersN tok keyTok ms)
  | [], _, ms, h => by simp [exProps] at h; subst h; simp [ofRProps, EX.treeProps, jaMembersN]
  | (k, r, s) :: ps, hs, ms, h => by
    obtain ⟨x, rest, h1, h2, rfl⟩ := exProps_cons h
    simp only [ofRProps, EX.treeProps, jaMembersN]
    rw [hs (k, r, s) (by simp) x h1, treeProps_of ps (fun p hp => hs p (by simp [hp])) rest h2]

theorem tree_ofR (fuel : Nat) : ∀ (proc : String → Nat) (s : S L) d, exDoc env ex fuel proc s = some d →
    EX.tree (tsOf tok keyTok ex env) fuel proc (ofR tok keyTok ex s) = some (some (jaOfN tok keyTok d)) := by
  induction fuel using Nat.strongRecOn with
  | _ fuel ihf =>
    intro proc s
    induction s using S.mem_induct with
    | lit l => intro d h; simp [exDoc] at h; subst h; simp [ofR, EX.tree, jaOfN]
    | any => intro d h; simp [exDoc] at h; subst h; simp [ofR, EX.tree, EX.treeKids, jaOfN, jaItemsN]
    | arr items ih =>
      intro d h
      simp only [exDoc, Option.map_eq_some_iff] at h
      obtain ⟨xs, hk, rfl⟩ := h
      simp only [ofR, EX.tree, jaOfN]
      rw [treeKids_of tok keyTok env ex items ih xs hk]
    | obj props ih =>
      intro d h
      simp only [exDoc, Option.map_eq_some_iff] at h
      obtain ⟨ms, hk, rfl⟩ := h
      simp only [ofR, EX.tree, jaOfN]
      rw [treeProps_of tok keyTok env ex props ih ms hk]
    | ref names nul =>
      intro d h
      obtain ⟨f, n, ns, rfl, rfl, hp, t, hl, ht⟩ := exDoc_ref h
      simp only [ofR, EX.tree, hp, if_false]
      rw [lookup_tsOf, hl]
      exact ihf f (Nat.lt_succ_self f) (bump proc n) t d ht

theorem treeKids_ofR : (fuel : Nat) → (proc : String → Nat) → (ss : List (S L)) → ∀ xs, exItems env ex fuel proc ss = some xs →
    EX.treeKids (tsOf tok keyTok ex env) fuel proc (ofRItems tok keyTok ex ss) = some (jaItemsN tok keyTok xs) :=
  fun fuel proc ss => treeKids_of tok keyTok env ex ss fun s _ => tree_ofR tok keyTok env ex fuel proc s

theorem treeProps_ofR : (fuel : Nat) → (proc : String → Nat) → (ps : List (String × Bool × S L)) →
    ∀ ms, exProps env ex fuel proc ps = some ms →
    EX.treeProps (tsOf tok keyTok ex env) fuel proc (ofRProps tok keyTok ex ps) = some (jaMembersN tok keyTok ms) :=
  fun fuel proc ps => treeProps_of tok keyTok env ex ps fun p _ => tree_ofR tok keyTok env ex fuel proc p.2.2

/-- the bytes `Example()` emits in that case are the compact text of that document -/
theorem build_ofR (fuel : Nat) (proc : String → Nat) (s : S L) (d : J D) (h : exDoc env ex fuel proc s = some d) :
    EX.build (tsOf tok keyTok ex env) fuel proc (ofR tok keyTok ex s) = some (some (jaOfN tok keyTok d).render) := by
  rw [EX.build_eq, tree_ofR tok keyTok env ex fuel proc s d h]; rfl

end bridge

end VR
