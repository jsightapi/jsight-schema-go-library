import JSight.SchemaDispatch
/-! The invariant across one byte: `step_ok` names the lemma of each of the step functions, `dispatch_ok` adds the guard
closure installed after an inline annotation. -/
namespace SchemaScan

/-- one call of a non-guard step function from a state with no queued finds -/
theorem step_ok {f s c p1 p2 which} (h : InvAt which s) (hf : s.finds = [])
    (hs : StepOK which s c) (hng : which.isGuard = false) :
    OKRes Inv (dispatch (f+3) which s c p1 p2) := by
  cases which with
  | guard x => simp [St.isGuard] at hng
  | foundRoot => exact foundRoot_ok h hs
  | objKeyOrEmpty => exact objKeyOrEmpty_ok h hf hs
  | objKey => exact objKey_ok h hf hs
  | objKeyAfterNL => exact objKeyAfterNL_ok h hf hs
  | objValue => exact objValue_ok h hs
  | arrItemOrEmpty => exact arrItemOrEmpty_ok h hf hs
  | arrItem => exact arrItem_ok h hs
  | keyShortcut => exact keyShortcut_ok h hf hs
  | endValue => exact endValueSt_ok h hf
  | afterKey => exact afterKey_ok h hs
  | afterValue => exact annRet_ok rfl h hf hs
  | afterItem => exact annRet_ok rfl h hf hs
  | endTop => exact endTop_ok h hs
  | inString => exact inString_ok h hs
  | esc => exact esc_ok h hs
  | u0 => exact u0_ok h
  | u1 => exact u1_ok h
  | u2 => exact u2_ok h
  | u3 => exact u3_ok h
  | neg => exact neg_ok h
  | d1 => exact d1_ok h hf
  | d0 => exact d0_ok h hf
  | dot => exact dot_ok h
  | dot0 => exact dot0_ok h hf hs
  | t => exact t_ok h
  | tr => exact tr_ok h
  | tru => exact tru_ok h
  | f => exact f_ok h
  | fa => exact fa_ok h
  | fal => exact fal_ok h
  | fals => exact fals_ok h
  | n => exact n_ok h
  | nu => exact nu_ok h
  | nul => exact nul_ok h
  | tsBeginName => exact tsBeginName_ok h
  | tsName => exact tsName_ok h hf
  | tsBeforePipe => exact tsBeforePipe_ok h hf
  | tsAfterPipe => exact tsAfterPipe_ok h
  | anyCommentStart => exact anyCommentStart_ok h
  | inlineComment => exact inlineComment_ok h hs
  | multiLineComment => exact multiLineComment_ok h hs
  | anyAnnStart => exact anyAnnStart_ok h
  | inlAnnStart => exact inlAnnStart_ok h
  | inlAnn => exact inlAnn_ok h hs
  | inlTxtPrefix => exact inlTxtPrefix_ok h hs
  | inlTxtPrefix2 => exact inlTxtPrefix2_ok h hs
  | inlTxt => exact inlTxt_ok h hs
  | inlTxtSkip => exact inlTxtSkip_ok h hs
  | mlAnn => exact mlAnn_ok h hs
  | mlTxtPrefix => exact mlTxtPrefix_ok h hs
  | mlTxtPrefix2 => exact mlTxtPrefix2_ok h hs
  | mlAnnEnd => exact mlAnnEnd_ok h
  | mlTxt => exact mlTxt_ok h hs
  | annKeyFirst => exact annKeyFirst_ok h
  | annKey => exact annKey_ok h hf hs
  | annKeyAfter => exact annKeyAfter_ok h hf hs

/-- From a state satisfying the invariant with no queued finds, one call of the current step function with
re-dispatch fuel at least 4 (`next` calls `dispatch 8`) either returns a state satisfying the invariant or a
structured error — never a crash, and the fuel is not exhausted. -/
theorem dispatch_ok {f s c p1 p2} (h : Inv s) (hf : s.finds = []) :
    OKRes Inv (dispatch (f+4) s.step s c p1 p2) := by
  cases hst : s.step with
  | guard x =>
    obtain ⟨eff, hE, hG⟩ := h
    rw [hst] at hG
    obtain ⟨hng, hGx⟩ := hG.inv
    unfold dispatch; dsimp only
    split
    · rfl
    · refine step_ok ⟨eff, hE, hGx⟩ hf (Or.inr ⟨hst, hng, ?_⟩) hng
      intro hc; subst hc; simp at *
  | _ =>
    rw [← hst]
    exact step_ok (f := f + 1) h hf (Or.inl rfl) (by rw [hst]; rfl)

end SchemaScan
