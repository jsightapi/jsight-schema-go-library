import JSight.VisitMeasure
/-!
C03 / C09: the depth-first expansion of type references with one global visited set (`buildList`) collects *every*
alternative reachable through reference chains ("resolved completely").  Stated once, for a node type `σ` seen through
`isRef` / `ref` / `lit` and a table of named nodes (`Sig`), and for ANY function that obeys the equations of `build`
(`IsBuild`); `Dfs` and `DfsK` are the instances for the schemas of `ValidateR` and `ValidateK`.
-/
namespace RefSearch

/-- how a node type is seen by the search: which nodes are references, the reference to given names (optionally
nullable), the literal of a nullable reference, the table of named types -/
structure Sig (σ L : Type) where
  isRef : σ → Bool
  ref : List String → Option L → σ
  lit : L → σ
  env : List (String × σ)

abbrev St (σ : Type) := List String × List σ

variable {σ L : Type} (G : Sig σ L)

def Sig.look (n : String) : Option σ := (G.env.find? (·.1 == n)).map (·.2)

/-- `a` is an alternative reachable from the type name `n` along a chain of names none of which is in `V` -/
inductive RNV (V : List String) : String → σ → Prop
  | leaf (n : String) (t : σ) : n ∉ V → G.look n = some t → G.isRef t = false → RNV V n t
  | null (n : String) (names : List String) (l : L) :
      n ∉ V → G.look n = some (G.ref names (some l)) → RNV V n (G.lit l)
  | step (n : String) (names : List String) (nul : Option L) (m : String) (a : σ) :
      n ∉ V → G.look n = some (G.ref names nul) → m ∈ names → RNV V m a → RNV V n a

variable {G} in
theorem RNV.start {V : List String} {n : String} {a : σ} (h : RNV G V n a) : n ∉ V := by
  cases h <;> assumption

variable {G} in
theorem RNV.entry {V : List String} {n : String} {a : σ} (h : RNV G V n a) : ∃ t, G.look n = some t := by
  cases h <;> exact ⟨_, ‹_›⟩

/-- the `foldl` of `buildList` over the names of one reference -/
def expand (bld : Nat → σ → St σ → St σ) (fuel : Nat) (names : List String) (st : St σ) : St σ :=
  names.foldl (fun st n =>
    if st.1.contains n then st
    else match G.look n with
      | some t => bld fuel t (n :: st.1, st.2)
      | none => (n :: st.1, st.2)) st

/-- `ref` is the one constructor of references, and the three equations of `build` -/
structure IsBuild (bld : Nat → σ → St σ → St σ) : Prop where
  cases : ∀ t, G.isRef t = false ∨ ∃ names nul, t = G.ref names nul
  isRef_ref : ∀ names nul, G.isRef (G.ref names nul) = true
  inj : ∀ {names nul names' nul'}, G.ref names nul = G.ref names' nul' → names = names' ∧ nul = nul'
  zero : ∀ s st, bld 0 s st = st
  nonref : ∀ fuel s st, G.isRef s = false → bld (fuel + 1) s st = (st.1, st.2 ++ [s])
  ref : ∀ fuel names nul st, bld (fuel + 1) (G.ref names nul) st =
    match nul with
    | some l => ((expand G bld fuel names st).1, (expand G bld fuel names st).2 ++ [G.lit l])
    | none => expand G bld fuel names st

theorem expand_cons (bld : Nat → σ → St σ → St σ) (fuel : Nat) (n : String) (ns : List String) (st : St σ) :
    expand G bld fuel (n :: ns) st =
      expand G bld fuel ns (if st.1.contains n then st
        else match G.look n with
          | some t => bld fuel t (n :: st.1, st.2)
          | none => (n :: st.1, st.2)) := rfl

/-- what one stretch of the search guarantees: nothing is forgotten, and every name marked during the stretch has
been explored completely relative to the visited set at its start ("white path") -/
structure Good (V : List String) (acc : List σ) (V' : List String) (acc' : List σ) : Prop where
  monoV : ∀ x ∈ V, x ∈ V'
  monoA : ∀ a ∈ acc, a ∈ acc'
  white : ∀ m, m ∈ V' → m ∉ V → ∀ a, RNV G V m a → a ∈ acc'

theorem good_refl (V : List String) (acc : List σ) : Good G V acc V acc :=
  ⟨fun _ h => h, fun _ h => h, fun _ h1 h2 => absurd h1 h2⟩

/-- a path that avoids `V` either also avoids `V1`, or runs into a name of `V1 \\ V`, from which it continues -/
theorem split_path (V V1 : List String) (m : String) (a : σ) (h : RNV G V m a) :
    RNV G V1 m a ∨ ∃ p, p ∈ V1 ∧ p ∉ V ∧ RNV G V p a := by
  induction h with
  | leaf n t hn hl hr =>
    by_cases h1 : n ∈ V1
    · exact Or.inr ⟨n, h1, hn, .leaf n t hn hl hr⟩
    · exact Or.inl (.leaf n t h1 hl hr)
  | null n names l hn hl =>
    by_cases h1 : n ∈ V1
    · exact Or.inr ⟨n, h1, hn, .null n names l hn hl⟩
    · exact Or.inl (.null n names l h1 hl)
  | step n names nul m a hn hl hm hrest ih =>
    by_cases h1 : n ∈ V1
    · exact Or.inr ⟨n, h1, hn, .step n names nul m a hn hl hm hrest⟩
    · rcases ih with h2 | ⟨p, hp1, hp2, hp3⟩
      · exact Or.inl (.step n names nul m a h1 hl hm h2)
      · exact Or.inr ⟨p, hp1, hp2, hp3⟩

variable {G} in
theorem good_trans {V V1 V' : List String} {acc acc1 acc' : List σ}
    (g1 : Good G V acc V1 acc1) (g2 : Good G V1 acc1 V' acc') : Good G V acc V' acc' := by
  refine ⟨fun x h => g2.monoV x (g1.monoV x h), fun a h => g2.monoA a (g1.monoA a h), ?_⟩
  intro m hm hmV a hp
  by_cases hm1 : m ∈ V1
  · exact g2.monoA a (g1.white m hm1 hmV a hp)
  · rcases split_path G V V1 m a hp with h | ⟨p, hp1, hp2, hp3⟩
    · exact g2.white m hm hm1 a h
    · exact g2.monoA a (g1.white p hp1 hp2 a hp3)

open Visit (unvisited unvisited_mono unvisited_enter)

/-- what `build` on the root of one type guarantees -/
structure BuildOK (t : σ) (V0 : List String) (acc0 : List σ) (V' : List String) (acc' : List σ) : Prop where
  good : Good G V0 acc0 V' acc'
  leaf : G.isRef t = false → t ∈ acc'
  null : ∀ names l, t = G.ref names (some l) → G.lit l ∈ acc'
  names : ∀ names nul, t = G.ref names nul → ∀ m ∈ names, m ∈ V'

/-- a path avoiding `V` either avoids `n` too or continues from `n`'s own type -/
theorem through_n (V : List String) (n : String) (t : σ) (hl : G.look n = some t)
    (m : String) (a : σ) (h : RNV G V m a) :
    RNV G (n :: V) m a ∨ (G.isRef t = false ∧ a = t) ∨ (∃ names l, t = G.ref names (some l) ∧ a = G.lit l) ∨
      (∃ names nul m', t = G.ref names nul ∧ m' ∈ names ∧ RNV G (n :: V) m' a) := by
  induction h with
  | leaf x tx hx hlx hr =>
    by_cases e : x = n
    · subst e; rw [hl] at hlx; cases hlx; exact Or.inr (Or.inl ⟨hr, rfl⟩)
    · exact Or.inl (.leaf x tx (by simp [e, hx]) hlx hr)
  | null x names l hx hlx =>
    by_cases e : x = n
    · subst e; rw [hl] at hlx; cases hlx; exact Or.inr (Or.inr (Or.inl ⟨names, l, rfl, rfl⟩))
    · exact Or.inl (.null x names l (by simp [e, hx]) hlx)
  | step x names nul m2 a hx hlx hm hrest ih =>
    rcases ih with h2 | h2
    · by_cases e : x = n
      · subst e; rw [hl] at hlx; cases hlx
        exact Or.inr (Or.inr (Or.inr ⟨names, nul, m2, rfl, hm, h2⟩))
      · exact Or.inl (.step x names nul m2 a (by simp [e, hx]) hlx hm h2)
    · exact Or.inr h2

theorem good_name (V : List String) (acc : List σ) (n : String) (t : σ)
    (hl : G.look n = some t) (V' : List String) (acc' : List σ)
    (ok : BuildOK G t (n :: V) acc V' acc') : Good G V acc V' acc' := by
  refine ⟨fun x h => ok.good.monoV x (by simp [h]), ok.good.monoA, ?_⟩
  intro m hm hmV a hp
  rcases through_n G V n t hl m a hp with h | ⟨hr, rfl⟩ | ⟨names, l, rfl, rfl⟩ | ⟨names, nul, m', rfl, hm', h⟩
  · exact ok.good.white m hm h.start a h
  · exact ok.leaf hr
  · exact ok.null names l rfl
  · exact ok.good.white m' (ok.names names nul rfl m' hm') h.start a h

/-! ### the search -/

variable {G} in
theorem good_more {V V' : List String} {acc acc' : List σ} (g : Good G V acc V' acc')
    (extra : List σ) : Good G V acc V' (acc' ++ extra) :=
  ⟨g.monoV, fun a h => List.mem_append_left _ (g.monoA a h), fun m h1 h2 a hp => List.mem_append_left _ (g.white m h1 h2 a hp)⟩

/-- the alternatives of a node, declaratively -/
def ReachS (t : σ) (a : σ) : Prop :=
  (G.isRef t = false ∧ a = t) ∨
  ∃ names nul, t = G.ref names nul ∧ ((∃ l, nul = some l ∧ a = G.lit l) ∨ ∃ n ∈ names, RNV G [] n a)

theorem reachS_of_name (n : String) (t : σ) (hl : G.look n = some t) (a : σ)
    (h : ReachS G t a) : RNV G [] n a := by
  rcases h with ⟨hr, rfl⟩ | ⟨names, nul, rfl, ⟨l, rfl, rfl⟩ | ⟨m, hm, hp⟩⟩
  · exact .leaf n _ (by simp) hl hr
  · exact .null n names l (by simp) hl
  · exact .step n names nul m a (by simp) hl hm hp

variable {G} {bld : Nat → σ → St σ → St σ} (hb : IsBuild G bld)
include hb

theorem build_ok : ∀ (fuel : Nat) (t : σ) (V0 : List String) (acc0 : List σ),
    unvisited Prod.fst G.env V0 < fuel → BuildOK G t V0 acc0 (bld fuel t (V0, acc0)).1 (bld fuel t (V0, acc0)).2 := by
  intro fuel
  induction fuel with
  | zero => intro _ _ _ h; omega
  | succ fuel ih =>
    intro t V0 acc0 hU
    rcases hb.cases t with hr | ⟨names, nul, rfl⟩
    · rw [hb.nonref fuel t _ hr]
      refine ⟨⟨fun _ h => h, fun a h => List.mem_append_left _ h, fun m h1 h2 => absurd h1 h2⟩, fun _ => by simp, ?_, ?_⟩
      · intro names l e; subst e; simp [hb.isRef_ref] at hr
      · intro names nul e; subst e; simp [hb.isRef_ref] at hr
    · -- the fold over the names
      have hexp : ∀ (ns : List String) (st : St σ), unvisited Prod.fst G.env st.1 ≤ fuel →
          Good G st.1 st.2 (expand G bld fuel ns st).1 (expand G bld fuel ns st).2 ∧
            ∀ m ∈ ns, m ∈ (expand G bld fuel ns st).1 := by
        intro ns
        induction ns with
        | nil => intro st _; exact ⟨good_refl G _ _, fun m h => by simp at h⟩
        | cons n ns ihn =>
          intro st hst
          rw [expand_cons]
          by_cases hc : st.1.contains n = true
          · simp only [hc, if_true]
            obtain ⟨g, hm⟩ := ihn st hst
            refine ⟨g, fun m h => ?_⟩
            rcases List.mem_cons.1 h with rfl | h
            · exact g.monoV _ (by simpa using hc)
            · exact hm m h
          · have hn : n ∉ st.1 := by simpa using hc
            simp only [hc, Bool.false_eq_true, if_false]
            cases hl : G.look n with
            | none =>
              simp only []
              have g1 : Good G st.1 st.2 (n :: st.1) st.2 := by
                refine ⟨fun x h => by simp [h], fun _ h => h, ?_⟩
                intro m h1 h2 a hp
                have : m = n := by simpa [h2] using h1
                subst this
                obtain ⟨t, ht⟩ := hp.entry
                rw [hl] at ht; cases ht
              obtain ⟨g2, hm⟩ := ihn (n :: st.1, st.2)
                (Nat.le_trans (unvisited_mono Prod.fst G.env st.1 (n :: st.1) (fun x h => by simp [h])) hst)
              refine ⟨good_trans g1 g2, fun m h => ?_⟩
              rcases List.mem_cons.1 h with rfl | h
              · exact g2.monoV _ (by simp)
              · exact hm m h
            | some t =>
              simp only []
              have hlt := unvisited_enter G.env st.1 n t hl hn
              have ok := ih t (n :: st.1) st.2 (by omega)
              have g1 := good_name G st.1 st.2 n t hl _ _ ok
              obtain ⟨g2, hm⟩ := ihn (bld fuel t (n :: st.1, st.2))
                (Nat.le_trans (unvisited_mono Prod.fst G.env st.1 _ g1.monoV) hst)
              refine ⟨good_trans g1 g2, fun m h => ?_⟩
              rcases List.mem_cons.1 h with rfl | h
              · exact g2.monoV _ (ok.good.monoV _ (by simp))
              · exact hm m h
      obtain ⟨g, hm⟩ := hexp names (V0, acc0) (by simp only []; omega)
      rw [hb.ref]
      cases nul with
      | none =>
        exact ⟨g, fun h => (by simp [hb.isRef_ref] at h), fun _ _ e => (by cases (hb.inj e).2),
          fun _ _ e => (by cases (hb.inj e).1; exact hm)⟩
      | some l =>
        refine ⟨good_more g _, fun h => (by simp [hb.isRef_ref] at h), ?_, fun _ _ e => (by cases (hb.inj e).1; exact hm)⟩
        intro ns l' e; cases (hb.inj e).2; simp

/-- every alternative reachable from one of the names of a reference through any chain of references is collected -/
theorem alts_complete (names : List String) (nul : Option L) (n : String) (hn : n ∈ names) (a : σ)
    (h : RNV G [] n a) : a ∈ (bld (G.env.length + 1) (G.ref names nul) ([], [])).2 := by
  have ok := build_ok hb (G.env.length + 1) (G.ref names nul) [] [] (by simp [unvisited])
  exact ok.good.white n (ok.names names nul rfl n hn) (by simp) a h

theorem alts_null (names : List String) (l : L) :
    G.lit l ∈ (bld (G.env.length + 1) (G.ref names (some l)) ([], [])).2 :=
  (build_ok hb (G.env.length + 1) (G.ref names (some l)) [] [] (by simp [unvisited])).null names l rfl

theorem build_sound : ∀ (fuel : Nat) (t : σ) (st : St σ) (a : σ),
    a ∈ (bld fuel t st).2 → a ∈ st.2 ∨ ReachS G t a := by
  intro fuel
  induction fuel with
  | zero => intro t st a h; rw [hb.zero] at h; exact Or.inl h
  | succ fuel ih =>
    intro t st a h
    rcases hb.cases t with hr | ⟨names, nul, rfl⟩
    · rw [hb.nonref fuel t _ hr] at h
      rcases List.mem_append.1 h with h | h
      · exact Or.inl h
      · exact Or.inr (Or.inl ⟨hr, by simpa using h⟩)
    · have hexp : ∀ (ns : List String) (st : St σ), a ∈ (expand G bld fuel ns st).2 →
          a ∈ st.2 ∨ ∃ n ∈ ns, RNV G [] n a := by
        intro ns
        induction ns with
        | nil => intro st h; exact Or.inl h
        | cons n ns ihn =>
          intro st h
          rw [expand_cons] at h
          rcases ihn _ h with h1 | ⟨m, hm, hp⟩
          · by_cases hc : st.1.contains n = true
            · simp only [hc, if_true] at h1; exact Or.inl h1
            · simp only [hc, Bool.false_eq_true, if_false] at h1
              cases hl : G.look n with
              | none => rw [hl] at h1; exact Or.inl h1
              | some t =>
                rw [hl] at h1
                rcases ih t _ a h1 with h2 | h2
                · exact Or.inl h2
                · exact Or.inr ⟨n, by simp, reachS_of_name G n t hl a h2⟩
          · exact Or.inr ⟨m, by simp [hm], hp⟩
      rw [hb.ref] at h
      cases nul with
      | none =>
        rcases hexp names st h with h1 | ⟨n, hn, hp⟩
        · exact Or.inl h1
        · exact Or.inr (Or.inr ⟨names, none, rfl, Or.inr ⟨n, hn, hp⟩⟩)
      | some l =>
        rcases List.mem_append.1 h with h | h
        · rcases hexp names st h with h1 | ⟨n, hn, hp⟩
          · exact Or.inl h1
          · exact Or.inr (Or.inr ⟨names, some l, rfl, Or.inr ⟨n, hn, hp⟩⟩)
        · exact Or.inr (Or.inr ⟨names, some l, rfl, Or.inl ⟨l, rfl, by simpa using h⟩⟩)

/-- the nodes collected for a position are exactly the alternatives reachable through reference chains (every name,
any depth, cycles included), plus `null` for a nullable reference -/
theorem alts_iff_reach (s : σ) (a : σ) : a ∈ (bld (G.env.length + 1) s ([], [])).2 ↔ ReachS G s a := by
  constructor
  · intro h
    rcases build_sound hb _ s ([], []) a h with h | h
    · simp at h
    · exact h
  · rintro (⟨hr, rfl⟩ | ⟨names, nul, rfl, ⟨l, rfl, rfl⟩ | ⟨n, hn, hp⟩⟩)
    · rw [hb.nonref _ _ _ hr]; simp
    · exact alts_null hb names l
    · exact alts_complete hb names nul n hn a hp

end RefSearch
