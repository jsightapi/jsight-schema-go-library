import JSight.E2ESchema
import JSight.ValidateKSpec
import JSight.KeyOrder
/-!
Validator half of `C01_text_level`: on the validator schema of a plain-JSON value (`vkOf`: no references, no key
shortcuts, no `additionalProperties`, rule-free literals) the specification of the validator machine `VK`
(`VK.shape`, which `VK.validateT` equals: `C03_key_shortcuts`) is the shape specification of C01 (`VN.shape`) with the
kind matrix `kindOKTok` on document tokens.
-/
namespace E2E
open Rules (Kind)
open Lay (JV)
open Compile

variable (opt : Bool) (kOK : String → String → Bool)

/-- the value under the first key that decodes to `k` -/
abbrev jvLookup : List (List UInt8 × JV) → String → Option JV := Tbl.firstBy (fun p => keyOf p.1) (·.2)

theorem vkItems_eq_map : (items : List JV) → vkItems opt items = items.map (vkOf opt)
  | [] => rfl
  | v :: vs => by simp [vkItems, vkItems_eq_map vs]

theorem schemaItems_eq_map : (items : List JV) → schemaItems opt items = items.map (schemaOf opt)
  | [] => rfl
  | v :: vs => by simp [schemaItems, schemaItems_eq_map vs]

theorem vkMembers_eq_map : (ms : List (List UInt8 × JV)) →
    vkMembers opt ms = ms.map fun p => (keyOf p.1, !opt, vkOf opt p.2)
  | [] => rfl
  | _ :: ms => by simp [vkMembers, vkMembers_eq_map ms]

theorem schemaMembers_eq_map : (ms : List (List UInt8 × JV)) →
    schemaMembers opt ms = ms.map fun p => (keyOf p.1, !opt, schemaOf opt p.2)
  | [] => rfl
  | _ :: ms => by simp [schemaMembers, schemaMembers_eq_map ms]

theorem childAt_vk (items : List JV) (i : Nat) :
    VK.childAt (vkItems opt items) i = (Tbl.clampAt items i).map (vkOf opt) := by
  rw [vkItems_eq_map, VK.childAt_eq]; exact Tbl.clampAt_map _ _ _

theorem childAt_vn (items : List JV) (i : Nat) :
    VN.childAt (schemaItems opt items) i = (Tbl.clampAt items i).map (schemaOf opt) := by
  rw [schemaItems_eq_map, VN.childAt_eq]; exact Tbl.clampAt_map _ _ _

theorem lookup_vk (props : List (List UInt8 × JV)) (k : String) :
    VK.lookup (vkMembers opt props) k = (jvLookup props k).map (vkOf opt) := by
  simp only [vkMembers_eq_map, VK.lookup, jvLookup, Tbl.firstBy, List.find?_map, Option.map_map, Function.comp_def]

theorem lookup_vn (props : List (List UInt8 × JV)) (k : String) :
    VN.lookup (schemaMembers opt props) k = (jvLookup props k).map (schemaOf opt) := by
  simp only [schemaMembers_eq_map, VN.lookup, jvLookup, Tbl.firstBy, List.find?_map, Option.map_map, Function.comp_def]

theorem requiredKeys_eq : (props : List (List UInt8 × JV)) →
    VK.requiredKeys (vkMembers opt props) = VN.requiredKeys (schemaMembers opt props)
  | [] => rfl
  | (k, v) :: ps => by
    have ih := requiredKeys_eq ps
    simp only [VK.requiredKeys, VN.requiredKeys, vkMembers, schemaMembers, List.filter_cons] at ih ⊢
    cases opt <;> simp [ih]

theorem alts_vkOf (v : JV) : VK.alts ([] : VK.Env Lit) (vkOf opt v) = [vkOf opt v] := by
  cases v <;> rfl

/-- an object without key shortcuts and without `additionalProperties`: every member is decided by its property, and
the required keys are among the members -/
theorem shapeMembers_all {L D : Type} (env : VK.Env L) (litOK : L → D → Bool) (kOK : String → String → Bool)
    (props : List (String × Bool × VK.S L)) (ms : List (String × VN.J D)) (req : List String) :
    VK.shapeMembers env litOK kOK props [] .none req [] ms =
      ((ms.all fun m => match VK.lookup props m.1 with
          | some s => VK.shape env litOK kOK s m.2
          | none => false) &&
        req.all (fun r => ms.any (fun m => m.1 == r))) := by
  rw [Bool.eq_iff_iff, KeyOrder.shapeMembers_noShorts]
  simp only [Bool.and_eq_true, List.all_eq_true, List.any_eq_true, beq_iff_eq]
  refine and_congr (forall₂_congr fun m _ => ?_) Iff.rfl
  cases VK.lookup props m.1 <;> simp [VK.shapeAdd, VK.addDecide]

/- `kOK` (the test of a document key against a key type) is a variable: a plain schema has no key shortcut, so it is never
asked; `litOK` is the definition `Compile.litOK`, the literal validator.  In the object case `VK.shapeA` has
`VK.requiredKeys` unfolded in the goal, so the induction hypothesis and `requiredKeys_eq` are unfolded to the same form
before rewriting. -/
mutual
theorem shape_value : (dd : VN.J (List UInt8)) → (v : JV) →
    VK.shapeA ([] : VK.Env Lit) litOK kOK (vkOf opt v) dd = VN.shape kindOKTok (schemaOf opt v) dd
  | .lit d, .lit tok => by simp [vkOf, schemaOf, VK.shapeA, VN.shape, litOK, litOK_plain]
  | .lit d, .arr items => by simp [vkOf, schemaOf, VK.shapeA, VN.shape]
  | .lit d, .obj ms => by simp [vkOf, schemaOf, VK.shapeA, VN.shape]
  | .arr xs, .lit tok => by simp [vkOf, schemaOf, VK.shapeA, VN.shape]
  | .arr xs, .arr items => by simp [vkOf, schemaOf, VK.shapeA, VN.shape, shape_items xs items 0]
  | .arr xs, .obj ms => by simp [vkOf, schemaOf, VK.shapeA, VN.shape]
  | .obj ms, .lit tok => by simp [vkOf, schemaOf, VK.shapeA, VN.shape]
  | .obj ms, .arr items => by simp [vkOf, schemaOf, VK.shapeA, VN.shape]
  | .obj ms, .obj props => by
    simp only [vkOf, schemaOf, VK.shapeA, VN.shape, VK.requiredKeys, List.filter_nil, List.map_nil, List.append_nil]
    have := shape_members ms props (VK.requiredKeys (vkMembers opt props))
    simp only [VK.requiredKeys] at this
    rw [this]
    have hr := requiredKeys_eq opt props
    simp only [VK.requiredKeys] at hr
    rw [hr]
theorem shape_items : (xs : List (VN.J (List UInt8))) → (items : List JV) → (i : Nat) →
    VK.shapeItems ([] : VK.Env Lit) litOK kOK (vkItems opt items) i xs
      = VN.shapeItems kindOKTok (schemaItems opt items) i xs
  | [], _, _ => by simp [VK.shapeItems, VN.shapeItems]
  | x :: xs, items, i => by
    simp only [VK.shapeItems, VN.shapeItems, childAt_vk, childAt_vn, shape_items xs items (i + 1)]
    cases Tbl.clampAt items i with
    | none => rfl
    | some s => simp [alts_vkOf, shape_value x s]
theorem shape_members : (ms : List (String × VN.J (List UInt8))) → (props : List (List UInt8 × JV)) →
    (req : List String) →
    VK.shapeMembers ([] : VK.Env Lit) litOK kOK (vkMembers opt props) [] .none req [] ms
      = (VN.shapeMembers kindOKTok (schemaMembers opt props) ms && req.all (fun r => ms.any (fun m => m.1 == r)))
  | [], _, req => by simp [shapeMembers_all, VN.shapeMembers]
  | (k, x) :: ms, props, req => by
    have ih := shape_members ms props []
    rw [shapeMembers_all] at ih ⊢
    simp only [List.all_nil, Bool.and_true] at ih
    simp only [List.all_cons, VN.shapeMembers, ← ih, lookup_vk opt props k, lookup_vn]
    cases jvLookup props k with
    | none => rfl
    | some s => simp only [Option.map_some, VK.shape, alts_vkOf, List.any_cons, List.any_nil, Bool.or_false, shape_value x s]
end

/-- **validator half**: the spec of the validator machine on the schema of a plain-JSON value is the C01 shape -/
theorem shape_plain (v : JV) (dd : VN.J (List UInt8)) :
    VK.shape ([] : VK.Env Lit) litOK kOK (vkOf opt v) dd = VN.shape kindOKTok (schemaOf opt v) dd := by
  simp [VK.shape, alts_vkOf, shape_value opt kOK dd v]

end E2E
