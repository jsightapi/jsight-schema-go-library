import JSight.SchemaLenAnnRun
/-!
C14, schemas with annotations: what the closure `guard st` does (`guard_pass`), and the byte `/` at the places between
tokens ("slots": `annLoop`, `d_slash`), with the step field of the state independent of the state function that is run (as
in the `d_…` lemmas of `SchemaEventsStep`; the byte `#` is `d_hash` in `SchemaCommentRun`).
-/
namespace SchemaScan
namespace Len

variable {lc : Bool} {data : Array Cls}

/-- the step function at a place between tokens: `guard st` behind an inline annotation with a note -/
def gst : Bool → St → St | true, st => .guard st | false, st => st

theorem gdispatch (g : Bool) (st : St) (s s1 : Sc) (c : Cls) (hc : c ≠ .slash) (p1 p2 : Option Cls)
    (h : ∀ f, dispatch (f + 1) st s c p1 p2 = .ok s1) : dispatch 8 (gst g st) s c p1 p2 = .ok s1 := by
  cases g
  · exact h 7
  · exact (dispatch_guard_pass 7 st s c hc p1 p2).trans (h 6)

/-- states in which `/` starts an annotation -/
def annLoop : St → Bool
  | .foundRoot | .objKeyOrEmpty | .objKey | .objValue | .arrItemOrEmpty | .arrItem
  | .afterKey | .afterValue | .afterItem | .endTop => true
  | _ => false

/-- the context record after `/` (`arrayHasItem`, F-13) -/
def cxA : St → Ctx → Ctx
  | .arrItemOrEmpty, cx => { cx with arrayHasItem := true }
  | _, cx => cx

theorem d_slash (f : Nat) (st : St) (h : annLoop st = true) (x : St)
    (K : List (LexT × Nat)) (i : Nat) (CS : List Ctx) (cx : Ctx) (fs : List LexT) (p1 p2 : Option Cls) :
    dispatch (f + 1) st { cfgL lc x [] K false i CS cx true with finds := fs } .slash p1 p2
      = .ok { cfgL lc .anyAnnStart [x] K false i CS (cxA st cx) true with finds := fs } := by
  cases st <;> simp [annLoop] at h <;> (unfold dispatch; rfl)

end Len
end SchemaScan
