import JSight.LayoutPlain
/-!
C13, user comments: erasing them. `BTree.erase` replaces every comment of the layout by what remains of it for the
scanner — the terminating line break of a `#` comment, nothing for a `## … ###` block. The text with comments and
the erased text deliver the same lexical events up to `newLine` events and spans (`comments_events`), and load into
the same table (`comments_erased`).
-/
namespace Lay
open SchemaScan

def LI.erase : LI → List LI
  | .blank b => [.blank b]
  | .line _ nl => [.blank nl]
  | .block _ => []

def eraseL : List LI → List LI
  | [] => []
  | it :: w => it.erase ++ eraseL w

mutual
/-- every comment replaced by what remains of it: its line break (`#`), nothing (`###`) -/
def BTree.erase : BTree → BTree
  | .scalar tok => .scalar tok
  | .arr w0 its => .arr (eraseL w0) (eraseItems its)
  | .obj w0 ms => .obj (eraseL w0) (eraseMembers ms)
def eraseItems : List BItem → List BItem
  | [] => []
  | (w1, v, w2) :: its => (eraseL w1, v.erase, eraseL w2) :: eraseItems its
def eraseMembers : List BMember → List BMember
  | [] => []
  | (w1, k, w2, w3, v, w4) :: ms => (eraseL w1, k, eraseL w2, eraseL w3, v.erase, eraseL w4) :: eraseMembers ms
end

mutual
theorem erase_value : (t : BTree) → t.erase.value = t.value
  | .scalar _ => rfl
  | .arr _ its => by simp only [BTree.erase, BTree.value, eraseItems_value its]
  | .obj _ ms => by simp only [BTree.erase, BTree.value, eraseMembers_value ms]
theorem eraseItems_value : (its : List BItem) → valueItems (eraseItems its) = valueItems its
  | [] => rfl
  | (_, v, _) :: its => by simp only [eraseItems, valueItems, erase_value v, eraseItems_value its]
theorem eraseMembers_value : (ms : List BMember) → valueMembers (eraseMembers ms) = valueMembers ms
  | [] => rfl
  | (_, _, _, _, v, _) :: ms => by simp only [eraseMembers, valueMembers, erase_value v, eraseMembers_value ms]
end

theorem eraseL_blank : ∀ (w : List LI), ValidL w → BlankL (eraseL w)
  | [], _ => ⟨by simp [eraseL, ValidL], by simp [eraseL, PlainL]⟩
  | it :: w, hv => by
    have ih := eraseL_blank w (fun x hx => hv x (by simp [hx]))
    have hi := hv it (by simp)
    cases it with
    | blank b => exact blankL_cons.2 ⟨⟨hi, rfl⟩, ih⟩
    | line text nl =>
      obtain ⟨_, _, hnl⟩ := hi
      refine blankL_cons.2 ⟨⟨?_, rfl⟩, ih⟩
      simp only [isNlB, Bool.or_eq_true, beq_iff_eq] at hnl
      rcases hnl with rfl | rfl <;> rfl
    | block body => exact ih

mutual
theorem erase_valid : (t : BTree) → t.Valid → t.erase.Valid ∧ t.erase.Plain
  | .scalar tok, hv => ⟨hv, by simp [BTree.erase, BTree.Plain]⟩
  | .arr w0 its, hv => by
    obtain ⟨h0, hi⟩ : ValidL w0 ∧ ValidItems its := by simpa [BTree.Valid] using hv
    obtain ⟨a, b⟩ := eraseL_blank w0 h0
    obtain ⟨c, d⟩ := eraseItems_valid its hi
    exact ⟨by simpa [BTree.erase, BTree.Valid] using And.intro a c,
      by simpa [BTree.erase, BTree.Plain] using And.intro b d⟩
  | .obj w0 ms, hv => by
    obtain ⟨h0, hi⟩ : ValidL w0 ∧ ValidMembers ms := by simpa [BTree.Valid] using hv
    obtain ⟨a, b⟩ := eraseL_blank w0 h0
    obtain ⟨c, d⟩ := eraseMembers_valid ms hi
    exact ⟨by simpa [BTree.erase, BTree.Valid] using And.intro a c,
      by simpa [BTree.erase, BTree.Plain] using And.intro b d⟩
theorem eraseItems_valid : (its : List BItem) → ValidItems its →
    ValidItems (eraseItems its) ∧ PlainItems (eraseItems its)
  | [], _ => ⟨by simp [eraseItems, ValidItems], by simp [eraseItems, PlainItems]⟩
  | (w1, v, w2) :: its, hv => by
    obtain ⟨h1, hvv, h2, hits⟩ : ValidL w1 ∧ v.Valid ∧ ValidL w2 ∧ ValidItems its := by simpa [ValidItems] using hv
    obtain ⟨a1, b1⟩ := eraseL_blank w1 h1
    obtain ⟨a2, b2⟩ := eraseL_blank w2 h2
    obtain ⟨c, d⟩ := erase_valid v hvv
    obtain ⟨e, f⟩ := eraseItems_valid its hits
    exact ⟨by simpa [eraseItems, ValidItems] using And.intro a1 (And.intro c (And.intro a2 e)),
      by simpa [eraseItems, PlainItems] using And.intro b1 (And.intro d (And.intro b2 f))⟩
theorem eraseMembers_valid : (ms : List BMember) → ValidMembers ms →
    ValidMembers (eraseMembers ms) ∧ PlainMembers (eraseMembers ms)
  | [], _ => ⟨by simp [eraseMembers, ValidMembers], by simp [eraseMembers, PlainMembers]⟩
  | (w1, k, w2, w3, v, w4) :: ms, hv => by
    obtain ⟨h1, hk, ⟨h2, _⟩, ⟨h3, _⟩, hvv, h4, hms⟩ :
        ValidL w1 ∧ IsKey (k.map classify) ∧ (ValidL w2 ∧ PlainL w2) ∧ (ValidL w3 ∧ PlainL w3) ∧ v.Valid ∧
          ValidL w4 ∧ ValidMembers ms := by
      simpa [ValidMembers] using hv
    obtain ⟨a1, b1⟩ := eraseL_blank w1 h1
    have c2 : ValidL (eraseL w2) ∧ PlainL (eraseL w2) := eraseL_blank w2 h2
    have c3 : ValidL (eraseL w3) ∧ PlainL (eraseL w3) := eraseL_blank w3 h3
    obtain ⟨a4, b4⟩ := eraseL_blank w4 h4
    obtain ⟨c, d⟩ := erase_valid v hvv
    obtain ⟨e, f⟩ := eraseMembers_valid ms hms
    exact ⟨by simpa [eraseMembers, ValidMembers] using And.intro a1 (And.intro hk (And.intro c2 (And.intro c3
        (And.intro c (And.intro a4 e))))),
      by simpa [eraseMembers, PlainMembers] using And.intro b1 (And.intro d (And.intro b4 f))⟩
end

/-- **the text with comments and the text with the comments erased load into the same table** -/
theorem comments_erased (t : BTree) (hv : t.Valid) (hk : t.value.KeysNodup) (w0 w1 : List LI)
    (h0 : ValidL w0) (h1 : ValidL w1) (fin : List UInt8) (hf : IsFin fin) :
    ∃ st st', Loader.loadText (docTextF w0 t w1 fin) = .ok st ∧
      Loader.loadText (docText (eraseL w0) t.erase (eraseL w1)) = .ok st' ∧ st.root = st'.root ∧
      absTable (docTextF w0 t w1 fin).toArray st = absTable (docText (eraseL w0) t.erase (eraseL w1)).toArray st' := by
  have := comments_invisible t t.erase hv (erase_valid t hv).1 (erase_value t).symm hk w0 w1 (eraseL w0) (eraseL w1)
    h0 h1 (eraseL_blank w0 h0).1 (eraseL_blank w1 h1).1 fin [] hf (Or.inl rfl)
  rw [docTextF_nil] at this
  exact this

/-! ### the events, `newLine` events and spans aside -/

def notNL (e : Ev) : Bool := e.ty != .newLine

mutual
/-- the event types a value denotes -/
def JV.tys : JV → List LexT
  | .lit _ => [.litB, .litE]
  | .arr its => .arrB :: tysItems its
  | .obj ms => .objB :: tysMembers ms
def tysItems : List JV → List LexT
  | [] => [.arrE]
  | v :: its => .itemB :: (v.tys ++ (.itemE :: tysItems its))
def tysMembers : List (List UInt8 × JV) → List LexT
  | [] => [.objE]
  | (_, v) :: ms => .keyB :: .keyE :: .valB :: (v.tys ++ (.valE :: tysMembers ms))
end

/-- an event stream with the `newLine` events dropped and the spans forgotten -/
def strip (evs : List Ev) : List LexT := (evs.filter notNL).map (·.ty)

theorem strip_nil : strip [] = [] := rfl

theorem strip_cons (ty : LexT) (b e : Nat) (l : List Ev) :
    strip (⟨ty, b, e⟩ :: l) = if ty = .newLine then strip l else ty :: strip l := by
  by_cases h : ty = .newLine
  · subst h
    have hn : notNL ⟨.newLine, b, e⟩ = false := rfl
    simp [strip, hn]
  · have hn : notNL ⟨ty, b, e⟩ = true := by simp [notNL, h]
    simp [strip, hn, h]

theorem strip_append (a b : List Ev) : strip (a ++ b) = strip a ++ strip b := by
  simp [strip, List.filter_append]

theorem strip_layEvs : ∀ (o : Nat) (w : List LI), strip (layEvs o w) = []
  | _, [] => rfl
  | o, it :: w => by
    have ih := strip_layEvs (o + it.render.length) w
    cases it with
    | blank b =>
      simp only [layEvs, LI.evs, strip_append, ih, List.append_nil]
      split <;> simp [strip_cons, strip_nil]
    | line text nl => simp [layEvs, LI.evs, ih, strip_cons]
    | block body => simpa [layEvs, LI.evs] using ih

mutual
theorem cevs_tys : (t : BTree) → (o : Nat) → strip (cEvsAt o t) = t.value.tys
  | .scalar _, _ => by simp [cEvsAt, strip_cons, strip_nil, BTree.value, JV.tys]
  | .arr w0 its, o => by
    simp [cEvsAt, strip_cons, strip_append, strip_layEvs, BTree.value, JV.tys, citems_tys its o]
  | .obj w0 ms, o => by
    simp [cEvsAt, strip_cons, strip_append, strip_layEvs, BTree.value, JV.tys, cmembers_tys ms o]
theorem citems_tys : (its : List BItem) → (a o : Nat) → strip (cEvsItems a o its) = tysItems (valueItems its)
  | [], _, _ => by simp [cEvsItems, strip_cons, strip_nil, valueItems, tysItems]
  | (w1, v, w2) :: its, a, o => by
    simp [cEvsItems, strip_cons, strip_append, strip_layEvs, valueItems, tysItems, cevs_tys v, citems_tys its a]
theorem cmembers_tys : (ms : List BMember) → (a o : Nat) → strip (cEvsMembers a o ms) = tysMembers (valueMembers ms)
  | [], _, _ => by simp [cEvsMembers, strip_cons, strip_nil, valueMembers, tysMembers]
  | (w1, k, w2, w3, v, w4) :: ms, a, o => by
    simp [cEvsMembers, strip_cons, strip_append, strip_layEvs, valueMembers, tysMembers, cevs_tys v,
      cmembers_tys ms a]
end

theorem docEvs_tys (w0 : List LI) (t : BTree) (w1 : List LI) : strip (docEvs w0 t w1) = t.value.tys := by
  simp [docEvs, strip_append, strip_layEvs, cevs_tys]

/-- **same events**: the scanner model reads the text with comments and the erased text into event streams that
agree once `newLine` events are dropped and spans forgotten -/
theorem comments_events (t : BTree) (hv : t.Valid) (w0 w1 : List LI) (h0 : ValidL w0) (h1 : ValidL w1)
    (fin : List UInt8) (hf : IsFin fin) :
    ∃ evs evs', scanAll (docTextF w0 t w1 fin) = .ok evs ∧
      scanAll (docText (eraseL w0) t.erase (eraseL w1)) = .ok evs' ∧
      strip evs = strip evs' := by
  refine ⟨docEvs w0 t w1, docEvs (eraseL w0) t.erase (eraseL w1), C13_events_with_comments t hv w0 w1 h0 h1 fin hf, ?_, ?_⟩
  · rw [← docTextF_nil]
    exact C13_events_with_comments t.erase (erase_valid t hv).1 (eraseL w0) (eraseL w1) (eraseL_blank w0 h0).1
      (eraseL_blank w1 h1).1 [] (Or.inl rfl)
  · rw [docEvs_tys, docEvs_tys, erase_value]

end Lay
