import JSight.SchemaNext
import JSight.SchemaQ
/-! `next` before the end of input (`next_A`; `next_B` of `SchemaNext` is the phase after it): every step of it lowers the
potential `Phi`, by the frame property `dispatchQ` of `dispatch`. -/
namespace SchemaScan

/-- potential: bounds the number of events still to come before the end of input.  A byte weighs 8: a call queues at most
5 lexemes (`St.budget`) and may enter a user comment (2); leaving one at a line break gives the byte back and queues the
break (1 < 2). -/
def Phi (N : Nat) (s : Sc) : Nat := 8 * (N + 1 - s.index) + s.finds.length + 2 * s.step.cflag

theorem Inv.eof_facts {s : Sc} (h : Inv s) (hf : s.finds = []) :
    TsOK (s.stack.map (·.1)) ∧ eofLen (s.stack.map (·.1)) ≤ 2 := by
  obtain ⟨eff, hE, hG⟩ := h
  rw [hE.stack_eq hf]
  exact ⟨hG.tsOK, hG.eofLen_le⟩

/-- a read step lowers the potential and stays inside the input; if it queues nothing it moves on -/
theorem read_phi {N : Nat} {s s3 : Sc} {p2 : Option Cls} (hq : Q { s with index := s.index + 1 } p2 s3) (hf : s.finds = [])
    (hlt : s.index < N) (hp2 : p2.isSome = true → s.index + 2 < N) :
    s3.index ≤ N ∧ Phi N s3 < Phi N s ∧ (s3.finds = [] → s.index + 1 ≤ s3.index) := by
  have := s3.step.cflag_le
  have := s.step.cflag_le
  unfold Phi
  rw [hf]
  rcases hq with ⟨h1 | ⟨h1, h2⟩, h3⟩ | ⟨h1, h3, h4, h5⟩
  · have h1' : s3.index = s.index + 1 := h1
    have h3' : s3.finds.length ≤ s.finds.length + 5 := h3
    rw [hf] at h3'
    simp only [List.length_nil] at h3' ⊢
    exact ⟨by omega, by omega, fun _ => by omega⟩
  · have h1' : s3.index = s.index + 1 + 2 := h1
    have h3' : s3.finds.length ≤ s.finds.length + 5 := h3
    have := hp2 h2
    rw [hf] at h3'
    simp only [List.length_nil] at h3' ⊢
    exact ⟨by omega, by omega, fun _ => by omega⟩
  · have h1' : s3.index + 1 = s.index + 1 := h1
    have h3' : s3.finds.length = s.finds.length + 1 := h3
    have h4' : s.step.cflag = 1 := h4
    rw [hf] at h3'
    simp only [List.length_nil] at h3' ⊢
    refine ⟨by omega, by omega, fun h0 => ?_⟩
    rw [h0] at h3'; cases h3'

/-- `next` before the end of input (phase A): the invariant is kept and the potential `Phi` drops, or the phase after
the end of input (`PB`) is entered -/
theorem next_A {data : Array Cls} : ∀ (fuel : Nat) (s : Sc), Inv s →
    s.index ≤ data.size → data.size + 1 - s.index ≤ fuel →
    NPost (fun s' => (Inv s' ∧ s'.index ≤ data.size ∧ Phi data.size s' < Phi data.size s) ∨
      (PB data.size s' ∧ muB s'.finds (s'.stack.map (·.1)) < 2)) (next data fuel s) := by
  intro fuel
  induction fuel with
  | zero => intro s _ h1 h2; omega
  | succ fuel ih =>
    intro s hI hidx hfuel
    -- delivering a queued lexeme lowers the potential by one
    have shift : ∀ {s : Sc} {t rest}, Inv s → s.finds = t :: rest → ∃ s' e, shiftFound data s = .ok (some (s', e)) ∧
        Inv s' ∧ s'.index = s.index ∧ Phi data.size s' < Phi data.size s := by
      intro s t rest hI hfs
      obtain ⟨stk, e, hp, hI'⟩ := shiftFound_cons data hI hfs
      refine ⟨_, e, hp, hI', rfl, ?_⟩
      show 8 * (data.size + 1 - s.index) + rest.length + 2 * s.step.cflag <
        8 * (data.size + 1 - s.index) + s.finds.length + 2 * s.step.cflag
      rw [hfs]; simp
    cases hfs : s.finds with
    | cons t rest =>
      obtain ⟨s', e, hp, hI', hi', hphi⟩ := shift hI hfs
      unfold next
      simp only [bind, Except.bind, pure, Except.pure, hp]
      exact Or.inl ⟨hI', by rw [hi']; exact hidx, hphi⟩
    | nil =>
      by_cases hlt : s.index < data.size
      · -- one more byte
        have hI2 : Inv { s with index := s.index + 1 } := hI
        unfold next
        simp only [bind, Except.bind, pure, Except.pure, shiftFound_nil data hfs, hlt, ↓reduceIte]
        -- `dispatch_ok` is stated for the fuel `f + 4` (four re-dispatches at most): `next` gives 8
        have hd : OKRes Inv (dispatch 8 s.step { s with index := s.index + 1 } data[s.index]!
            data[s.index + 1]? data[s.index + 1 + 1]?) := dispatch_ok (f := 4) hI2 hfs
        cases hdisp : dispatch 8 s.step { s with index := s.index + 1 } data[s.index]!
            data[s.index + 1]? data[s.index + 1 + 1]? with
        | error e => rw [hdisp] at hd; exact hd
        | ok s3 =>
          rw [hdisp] at hd
          have hI3 : Inv s3 := hd
          obtain ⟨hi3, hphi3, hmv⟩ := read_phi (N := data.size)
            (dispatchQ _ _ _ _ _ hI2 hfs hdisp) hfs hlt (fun h => by
              rcases Option.isSome_iff_exists.mp h with ⟨a, ha⟩
              exact (Array.getElem?_eq_some_iff.mp ha).1)
          dsimp only
          cases hfs3 : s3.finds with
          | cons t rest =>
            obtain ⟨s', e, hp, hI', hi', hphi⟩ := shift hI3 hfs3
            simp only [hp]
            exact Or.inl ⟨hI', by rw [hi']; exact hi3, Nat.lt_trans hphi hphi3⟩
          | nil =>
            simp only [shiftFound_nil data hfs3]
            have := ih s3 hI3 hi3 (by have := hmv hfs3; omega)
            revert this
            cases next data fuel s3 with
            | error e => exact id
            | ok r =>
              cases r with
              | none => exact id
              | some r =>
                obtain ⟨s', e⟩ := r
                rintro (⟨h1, h2, h3⟩ | h)
                · exact Or.inl ⟨h1, h2, Nat.lt_trans h3 hphi3⟩
                · exact Or.inr h
      · -- end of input
        obtain ⟨hT, hL⟩ := hI.eof_facts hfs
        have := eof_next (fuel := fuel) hfs hlt hT
        revert this
        cases next data (fuel + 1) s with
        | error e => exact id
        | ok r =>
          cases r with
          | none => exact id
          | some r =>
            obtain ⟨s', e⟩ := r
            rintro ⟨h1, h2⟩
            exact Or.inr ⟨h1, by omega⟩

end SchemaScan
