import JSight.ShortcutStep
import JSight.SchemaEventsTree
/-!
C06 / C09 / C16: schema texts that are JSON trees whose LEAVES are scalars or TYPE SHORTCUTS (`@name`, `@a | @b …`),
any nesting, any layout of spaces, tabs and line breaks: the exact event list of the scanner model in ORDINARY mode
(and, as a `Path`, for either value of `lengthComputing`).

A shortcut leaf is written `@first (blanks | blanks @name)* sps`: `sps` are the spaces / tabs that follow the last name
— the scanner keeps them inside the `types-shortcut-end` lexeme (and inside the item / value end), and strips ONE
space (not a tab) from the `mixed-value-end` lexeme.  What follows a shortcut leaf is therefore a line break, `,`, `]`,
`}` or the end of input (`Follow`); every run of blanks splits this way (`Len.ws_split` in `SchemaLenShortcut`).
-/
namespace SchemaScan
open Len

/-- a JSON value with its layout whose leaves are scalars or type shortcuts -/
inductive STree
  | scalar (tok : List Cls)
  | short (sc : Shortcut) (sps : List Cls)
  | arr (ws0 : List Cls) (items : List (List Cls × STree × List Cls))
  | obj (ws0 : List Cls) (members : List (List Cls × List Cls × List Cls × List Cls × STree × List Cls))

abbrev SItem := List Cls × STree × List Cls
abbrev SMember := List Cls × List Cls × List Cls × List Cls × STree × List Cls

mutual
def STree.render : STree → List Cls
  | .scalar tok => tok
  | .short sc sps => sc.render ++ sps
  | .arr ws0 items => .lbrack :: (ws0 ++ sRenderItems items)
  | .obj ws0 members => .lbrace :: (ws0 ++ sRenderMembers members)
def sRenderItems : List SItem → List Cls
  | [] => [.rbrack]
  | (w1, v, w2) :: its => w1 ++ (v.render ++ (w2 ++ ((if its.isEmpty then [] else [.comma]) ++ sRenderItems its)))
def sRenderMembers : List SMember → List Cls
  | [] => [.rbrace]
  | (w1, k, w2, w3, v, w4) :: ms =>
    w1 ++ (k ++ (w2 ++ (.colon :: (w3 ++ (v.render ++ (w4 ++ ((if ms.isEmpty then [] else [.comma]) ++ sRenderMembers ms)))))))
end

mutual
/-- the events of a value that starts at offset `o` -/
def sEvsAt : Nat → STree → List Ev
  | o, .scalar tok => [⟨.litB, o, o⟩, ⟨.litE, o, o + tok.length - 1⟩]
  | o, .short sc sps =>
    [⟨.mixB, o, o⟩, ⟨.tsB, o, o⟩, ⟨.tsE, o, o + (sc.render ++ sps).length - 1⟩,
     ⟨.mixE, o, mixEndOf (o + (sc.render ++ sps).length - 1) (sc.render ++ sps)⟩]
  | o, .arr ws0 items => ⟨.arrB, o, o⟩ :: (nlEvs (o + 1) ws0 ++ sEvsItems o (o + 1 + ws0.length) items)
  | o, .obj ws0 members => ⟨.objB, o, o⟩ :: (nlEvs (o + 1) ws0 ++ sEvsMembers o (o + 1 + ws0.length) members)
def sEvsItems (a : Nat) : Nat → List SItem → List Ev
  | o, [] => [⟨.arrE, a, o⟩]
  | o, (w1, v, w2) :: its =>
    nlEvs o w1 ++ (⟨.itemB, o + w1.length, o + w1.length⟩ ::
      (sEvsAt (o + w1.length) v ++ (⟨.itemE, o + w1.length, o + w1.length + v.render.length - 1⟩ ::
        (nlEvs (o + w1.length + v.render.length) w2 ++
          sEvsItems a (o + w1.length + v.render.length + w2.length + (if its.isEmpty then 0 else 1)) its))))
def sEvsMembers (a : Nat) : Nat → List SMember → List Ev
  | o, [] => [⟨.objE, a, o⟩]
  | o, (w1, k, w2, w3, v, w4) :: ms =>
    nlEvs o w1 ++ (⟨.keyB, o + w1.length, o + w1.length⟩ :: ⟨.keyE, o + w1.length, o + w1.length + k.length - 1⟩ ::
      (nlEvs (o + w1.length + k.length) w2 ++ (nlEvs (o + w1.length + k.length + w2.length + 1) w3 ++
      (⟨.valB, o + w1.length + k.length + w2.length + 1 + w3.length, o + w1.length + k.length + w2.length + 1 + w3.length⟩ ::
      (sEvsAt (o + w1.length + k.length + w2.length + 1 + w3.length) v ++
        (⟨.valE, o + w1.length + k.length + w2.length + 1 + w3.length,
          o + w1.length + k.length + w2.length + 1 + w3.length + v.render.length - 1⟩ ::
        (nlEvs (o + w1.length + k.length + w2.length + 1 + w3.length + v.render.length) w4 ++
        sEvsMembers a (o + w1.length + k.length + w2.length + 1 + w3.length + v.render.length + w4.length
          + (if ms.isEmpty then 0 else 1)) ms)))))))
end

def STree.isShort : STree → Bool | .short _ _ => true | _ => false

/-- the white space behind a value: behind a shortcut leaf it is empty or starts with a line break -/
def Follow (v : STree) (w : List Cls) : Prop := v.isShort = true → NlFirst w

mutual
def STree.Valid : STree → Prop
  | .scalar tok => IsScalar tok
  | .short sc sps => sc.Valid ∧ IsSpTabs sps
  | .arr ws0 items => IsWs ws0 ∧ SValidItems items
  | .obj ws0 members => IsWs ws0 ∧ SValidMembers members
def SValidItems : List SItem → Prop
  | [] => True
  | (w1, v, w2) :: its => IsWs w1 ∧ v.Valid ∧ IsWs w2 ∧ Follow v w2 ∧ SValidItems its
def SValidMembers : List SMember → Prop
  | [] => True
  | (w1, k, w2, w3, v, w4) :: ms =>
    IsWs w1 ∧ IsKey k ∧ IsWs w2 ∧ IsWs w3 ∧ v.Valid ∧ IsWs w4 ∧ Follow v w4 ∧ SValidMembers ms
end

/-- the kind of value, for the grammar of scanned text -/
def lkS : STree → Gram.LK | .scalar _ => .lit | .short _ _ => .short | _ => .cont

theorem Follow.lk {v : STree} {w : List Cls} (h : Follow v w) : lkS v = .short → NlFirst w := by
  cases v <;> simp [lkS] <;> exact h rfl

/-! ### a valid tree is a derivation of the grammar of scanned text -/

open Gram in
mutual
theorem STree.gram : (v : STree) → v.Valid → ∀ o, ∃ stE, Val true o v.render (sEvsAt o v) (lkS v) stE
  | .scalar tok, hv, o => by
    obtain ⟨c, tl, st0, u0, stE, rfl, hs, hr, hp⟩ : IsScalar tok := by simpa [STree.Valid] using hv
    exact ⟨stE, Val.scalar hs hr hp⟩
  | .short sc sps, hv, o => by
    obtain ⟨hsc, hsp⟩ : sc.Valid ∧ IsSpTabs sps := by simpa [STree.Valid] using hv
    exact ⟨_, Val.short rfl hsc hsp⟩
  | .arr ws0 items, hv, o => by
    obtain ⟨hw0, hi⟩ : IsWs ws0 ∧ SValidItems items := by simpa [STree.Valid] using hv
    exact ⟨_, Val.cont (br := .arr) (Layout.of_ws hw0 _) (gram_sitems items hi true (fun _ => rfl) o _)⟩
  | .obj ws0 ms, hv, o => by
    obtain ⟨hw0, hi⟩ : IsWs ws0 ∧ SValidMembers ms := by simpa [STree.Valid] using hv
    exact ⟨_, Val.cont (br := .obj) (Layout.of_ws hw0 _) (gram_smembers ms hi true (fun _ => rfl) o _)⟩
theorem gram_sitems : (its : List SItem) → SValidItems its → (first : Bool) → (its = [] → first = true) →
    ∀ a o, Entries true .arr a o first (sRenderItems its) (sEvsItems a o its)
  | [], _, first, hf, a, o => by rw [hf rfl]; exact .nil
  | (w1, v, w2) :: its, hv, first, _, a, o => by
    obtain ⟨hw1, hvv, hw2, hfo, hits⟩ : IsWs w1 ∧ v.Valid ∧ IsWs w2 ∧ Follow v w2 ∧ SValidItems its := by
      simpa [SValidItems] using hv
    obtain ⟨stE, hg⟩ := v.gram hvv (o + w1.length)
    cases its with
    | nil =>
      simpa [sRenderItems, sEvsItems, CK.B, CK.E] using
        Entries.last (a := a) (first := first) (Layout.of_ws hw1 o) .item hg (Layout.of_ws hw2 _) hfo.lk
    | cons it its' =>
      simpa [sRenderItems, sEvsItems, CK.B, CK.E] using
        Entries.cons (first := first) (Layout.of_ws hw1 o) .item hg (Layout.of_ws hw2 _) hfo.lk
          (gram_sitems (it :: its') hits false (by simp) a _)
theorem gram_smembers : (ms : List SMember) → SValidMembers ms → (first : Bool) → (ms = [] → first = true) →
    ∀ a o, Entries true .obj a o first (sRenderMembers ms) (sEvsMembers a o ms)
  | [], _, first, hf, a, o => by rw [hf rfl]; exact .nil
  | (w1, k, w2, w3, v, w4) :: ms, hv, first, _, a, o => by
    obtain ⟨hw1, hk, hw2, hw3, hvv, hw4, hfo, hms⟩ :
        IsWs w1 ∧ IsKey k ∧ IsWs w2 ∧ IsWs w3 ∧ v.Valid ∧ IsWs w4 ∧ Follow v w4 ∧ SValidMembers ms := by
      simpa [SValidMembers] using hv
    obtain ⟨stE, hg⟩ := v.gram hvv (o + w1.length + k.length + w2.length + 1 + w3.length)
    cases ms with
    | nil =>
      simpa [sRenderMembers, sEvsMembers, CK.B, CK.E] using
        Entries.last (a := a) (first := first) (Layout.of_ws hw1 o) (.key hk hw2 hw3) hg (Layout.of_ws hw4 _) hfo.lk
    | cons m ms' =>
      simpa [sRenderMembers, sEvsMembers, CK.B, CK.E] using
        Entries.cons (first := first) (Layout.of_ws hw1 o) (.key hk hw2 hw3) hg (Layout.of_ws hw4 _) hfo.lk
          (gram_smembers (m :: ms') hms false (by simp) a _)
end

end SchemaScan
