import JSight.EnumEventsStep
/-!
The calculus `Pre s evs s'` ("from `s` the stream delivers `evs` and arrives at `s'`") and its instances on the
literal-list grammar: token runs, layout loops, brackets, the closing phase of an item.
-/
namespace EnumScan
open SchemaScan (Cls classify)

variable {content : Array UInt8} {data : Array Cls}

/-- `Pre s evs s'`: from `s` the stream delivers `evs` and arrives at `s'`, by delivering queued lexemes and reading
bytes; `Pre.outT` continues such a run with the rest of the stream. -/
inductive Pre (content : Array UInt8) (data : Array Cls) : Sc → List Ev → Sc → Prop
  | refl (s : Sc) : Pre content data s [] s
  | shiftThen {s s1 s' : Sc} {t : LexT} {rest : List LexT} {ev : Ev} {evs : List Ev} :
      s.finds = t :: rest → processFound { s with finds := rest } t = .ok (s1, ev) →
      Pre content data s1 evs s' → Pre content data s (ev :: evs) s'
  | byteThen {s s2 s' : Sc} {c : Cls} {evs : List Ev} :
      s.finds = [] → data[s.index]? = some c →
      dispatch content 8 { s with index := s.index + 1 } c data[s.index + 1]? = .ok s2 → s2.index = s.index + 1 →
      Pre content data s2 evs s' → Pre content data s evs s'

theorem Pre.trans {s s1 s2 : Sc} {e1 e2 : List Ev} (h1 : Pre content data s e1 s1) (h2 : Pre content data s1 e2 s2) :
    Pre content data s (e1 ++ e2) s2 := by
  induction h1 with
  | refl s => exact h2
  | shiftThen hf hp _ ih => exact .shiftThen hf hp (ih h2)
  | byteThen hf hc hd hi _ ih => exact .byteThen hf hc hd hi (ih h2)

theorem Pre.cast {s s' : Sc} {e e' : List Ev} (h : Pre content data s e s') (he : e = e') : Pre content data s e' s' := by
  subst he; exact h

theorem Pre.castS {s s' s'' : Sc} {e : List Ev} (h : Pre content data s e s') (hs : s' = s'') :
    Pre content data s e s'' := by
  subst hs; exact h

/-- one byte whose effect does not depend on the look-ahead -/
theorem Pre.byte {st : St} {ret : List St} {stack : List (LexT × Nat)} {i : Nat} {ann unf lc ht : Bool}
    {uq : List (List UInt8 × Bool)} {c : Cls} {s2 : Sc}
    (hc : data[i]? = some c)
    (hd : ∀ p1, dispatch content 8 ⟨st, ret, stack, [], i + 1, ann, unf, lc, ht, uq⟩ c p1 = .ok s2)
    (hi : s2.index = i + 1) :
    Pre content data ⟨st, ret, stack, [], i, ann, unf, lc, ht, uq⟩ [] s2 :=
  .byteThen (s := ⟨st, ret, stack, [], i, ann, unf, lc, ht, uq⟩) rfl hc (hd _) hi (.refl _)

/-- one byte, with the look-ahead byte the scanner sees -/
theorem Pre.byteP {st : St} {ret : List St} {stack : List (LexT × Nat)} {i : Nat} {ann unf lc ht : Bool}
    {uq : List (List UInt8 × Bool)} {c : Cls} {s2 : Sc}
    (hc : data[i]? = some c)
    (hd : dispatch content 8 ⟨st, ret, stack, [], i + 1, ann, unf, lc, ht, uq⟩ c data[i + 1]? = .ok s2)
    (hi : s2.index = i + 1) :
    Pre content data ⟨st, ret, stack, [], i, ann, unf, lc, ht, uq⟩ [] s2 :=
  .byteThen (s := ⟨st, ret, stack, [], i, ann, unf, lc, ht, uq⟩) rfl hc hd hi (.refl _)

theorem Pre.shift {st : St} {ret : List St} {stack : List (LexT × Nat)} {t : LexT} {rest : List LexT} {i : Nat}
    {ann unf lc ht : Bool} {uq : List (List UInt8 × Bool)} {s1 : Sc} {ev : Ev}
    (hp : processFound ⟨st, ret, stack, rest, i, ann, unf, lc, ht, uq⟩ t = .ok (s1, ev)) :
    Pre content data ⟨st, ret, stack, t :: rest, i, ann, unf, lc, ht, uq⟩ [ev] s1 :=
  .shiftThen (s := ⟨st, ret, stack, t :: rest, i, ann, unf, lc, ht, uq⟩) rfl hp (.refl _)

/-- a silent byte step lifted over a segment: `S i` is the state at offset `i`, `P` what the step needs of a byte -/
theorem Pre.loop (S : Nat → Sc) (P : Cls → Prop)
    (step : ∀ i c, P c → data[i]? = some c → Pre content data (S i) [] (S (i + 1))) (l : List Cls)
    (hl : ∀ c ∈ l, P c) : ∀ i, SegA data i l → Pre content data (S i) [] (S (i + l.length)) := by
  induction l with
  | nil => intro i _; exact Pre.refl _
  | cons c cs ih =>
    intro i hseg
    have h2 := ih (fun x hx => hl x (List.mem_cons_of_mem _ hx)) (i + 1) hseg.2
    rw [show i + 1 + cs.length = i + (c :: cs).length by simp only [List.length_cons]; omega] at h2
    exact (step i c (hl c List.mem_cons_self) hseg.1).trans h2

/-! ### composing with `OutT` -/

theorem OutT.cast {s : Sc} {n n' : Nat} {r r' : M (List Ev)} (h : OutT content data s n r) (hn : n = n') (hr : r = r') :
    OutT content data s n' r' := by
  subst hn hr; exact h

theorem Pre.outT {s s' : Sc} {evs : List Ev} (h : Pre content data s evs s') {n : Nat} {r : M (List Ev)}
    (ho : OutT content data s' n r) : OutT content data s (n + evs.length) (r.map (evs ++ ·)) := by
  induction h with
  | refl s => exact ho.cast rfl (map_nil_app r).symm
  | shiftThen hf hp _ ih => exact (OutT.shift hf hp (ih ho)).cast rfl (map_map_cons r _ _)
  | byteThen hf hc hd hi _ ih => exact OutT.byte hf hc hd hi (ih ho)

/-- a failing byte behind a prefix of events -/
theorem OutT.fail' {st : St} {ret : List St} {stack : List (LexT × Nat)} {i : Nat} {ann unf lc ht : Bool}
    {uq : List (List UInt8 × Bool)} {c : Cls} {e : Err}
    (hc : data[i]? = some c)
    (hd : ∀ p1, dispatch content 8 ⟨st, ret, stack, [], i + 1, ann, unf, lc, ht, uq⟩ c p1 = .error e)
    (hne : e ≠ .eos) :
    OutT content data ⟨st, ret, stack, [], i, ann, unf, lc, ht, uq⟩ 0 (.error e) :=
  OutT.fail rfl hc (hd _) hne

/-! ### token bytes -/

/-- the run of the schema scanner's token automaton, in the enum scanner -/
theorem pre_silentRunS (tok : List Cls) (stack : List (LexT × Nat)) (ann lc ht : Bool) (uq : List (List UInt8 × Bool)) :
    ∀ (st : SchemaScan.St) (ret : List SchemaScan.St) (unf : Bool) (i : Nat) (st' : SchemaScan.St)
      (ret' : List SchemaScan.St) (unf' : Bool),
      SegA data i tok → SchemaScan.silentRun st ret unf tok = some (st', ret', unf') →
      Pre content data ⟨ofS st, ret.map ofS, stack, [], i, ann, unf, lc, ht, uq⟩ []
        ⟨ofS st', ret'.map ofS, stack, [], i + tok.length, ann, unf', lc, ht, uq⟩ := by
  induction tok with
  | nil =>
    intro st ret unf i st' ret' unf' _ h
    simp only [SchemaScan.silentRun, Option.some.injEq, Prod.mk.injEq] at h
    obtain ⟨rfl, rfl, rfl⟩ := h
    exact Pre.refl _
  | cons c cs ih =>
    intro st ret unf i st' ret' unf' hseg h
    simp only [SchemaScan.silentRun] at h
    cases hs : SchemaScan.silent st ret unf c with
    | none => rw [hs] at h; cases h
    | some p =>
      obtain ⟨s1, r1, u1⟩ := p
      rw [hs] at h
      have h1 := Pre.byte (content := content) hseg.1
        (fun p1 => silentS_dispatch hs stack (i + 1) ann lc ht uq p1) rfl
      have h2 := ih s1 r1 u1 (i + 1) st' ret' unf' hseg.2 h
      rw [show i + (c :: cs).length = i + 1 + cs.length by simp only [List.length_cons]; omega]
      exact h1.trans h2

/-! ### layout -/

def IsWs (ws : List Cls) : Prop := ∀ c ∈ ws, c.isBlank = true

/-- `SchemaScan.IsWs` is the same predicate under a second name; which of the two a statement means depends on its
namespace and on the imports. This holds them together: it stops compiling the day they differ. -/
theorem isWs_iff {ws : List Cls} : IsWs ws ↔ SchemaScan.IsWs ws := Iff.rfl

/-- the new-line events of a layout segment starting at offset `o` -/
def nlEvs : Nat → List Cls → List Ev
  | _, [] => []
  | o, c :: cs => (if c.isNewLine then [⟨.newLine, o, o⟩] else []) ++ nlEvs (o + 1) cs

theorem nlEvs_length_le (o : Nat) (ws : List Cls) : (nlEvs o ws).length ≤ ws.length := by
  induction ws generalizing o with
  | nil => simp [nlEvs]
  | cons c cs ih =>
    have := ih (o + 1)
    simp only [nlEvs, List.length_append, List.length_cons]
    split <;> simp <;> omega

def LoopSt (st : St) : Prop := st = .arrItemOrEmpty ∨ st = .arrItem ∨ st = .afterItem

theorem blank_cases {c : Cls} (hb : c.isBlank = true) : c = .sp ∨ c = .tab ∨ c = .nl := by
  cases c <;> first | exact .inl rfl | exact .inr (.inl rfl) | exact .inr (.inr rfl) | cases hb

/-- a blank between the items, outside a comment -/
theorem dispatch_blank_loop {s : Sc} {f : Nat} {c : Cls} {p1 : Option Cls} (hst : LoopSt s.step)
    (hb : c.isBlank = true) (ha : s.ann = false) :
    dispatch content (f + 1) s c p1 = pure (if c.isNewLine then found s .newLine else s) := by
  rcases hst with h | h | h
  · rw [dispatch_arrItemOrEmpty h, beginItem_eq]
    rcases blank_cases hb with rfl | rfl | rfl <;> simp only [ha] <;> rfl
  · rw [dispatch_arrItem h, beginItem_eq]
    rcases blank_cases hb with rfl | rfl | rfl <;> simp only [ha] <;> rfl
  · rw [dispatch_afterItem h]
    rcases blank_cases hb with rfl | rfl | rfl <;> simp only [ha] <;> rfl

theorem pre_blank_loop {st : St} (hst : LoopSt st) {c : Cls} (hb : c.isBlank = true) (a i : Nat) (lc ht : Bool)
    (uq : List (List UInt8 × Bool)) (hc : data[i]? = some c) :
    Pre content data ⟨st, [], [(.arrB, a)], [], i, false, false, lc, ht, uq⟩
      (if c.isNewLine then [⟨.newLine, i, i⟩] else [])
      ⟨st, [], [(.arrB, a)], [], i + 1, false, false, lc, ht, uq⟩ := by
  have hd : ∀ p1, dispatch content 8 ⟨st, [], [(.arrB, a)], [], i + 1, false, false, lc, ht, uq⟩ c p1 = _ :=
    fun p1 => dispatch_blank_loop hst hb rfl
  cases hn : c.isNewLine <;> simp only [hn, Bool.false_eq_true, if_false, if_true] at hd ⊢
  · exact Pre.byte hc hd rfl
  · exact (Pre.byte hc hd rfl).trans (Pre.shift rfl)

theorem pre_ws_begin (lc ht : Bool) (uq : List (List UInt8 × Bool)) (ws : List Cls) (hw : IsWs ws) :
    ∀ i, SegA data i ws →
    Pre content data ⟨.begin, [], [], [], i, false, false, lc, ht, uq⟩ []
      ⟨.begin, [], [], [], i + ws.length, false, false, lc, ht, uq⟩ :=
  Pre.loop (fun i => ⟨.begin, [], [], [], i, false, false, lc, ht, uq⟩) (·.isBlank = true)
    (fun i c hb hc => Pre.byte hc (fun p1 => by rw [dispatch_begin rfl]; exact if_pos hb) rfl) ws hw

/-- a blank behind the closing bracket -/
theorem pre_blank_end {st : St} (hst : st = .endValue ∨ st = .endTop) {c : Cls} (hb : c.isBlank = true) (i : Nat)
    (lc : Bool) (uq : List (List UInt8 × Bool)) (hc : data[i]? = some c) :
    Pre content data ⟨st, [], [], [], i, false, false, lc, false, uq⟩
      (if c.isNewLine then [⟨.newLine, i, i⟩] else [])
      ⟨.endTop, [], [], [], i + 1, false, false, lc, false, uq⟩ := by
  have hd : ∀ p1, dispatch content 8 ⟨st, [], [], [], i + 1, false, false, lc, false, uq⟩ c p1 =
      pure ⟨.endTop, [], [], if c.isNewLine then [.newLine] else [], i + 1, false, false, lc, false, uq⟩ := by
    intro p1
    rcases hst with rfl | rfl
    · rw [dispatch_endValue rfl, endValue_nil rfl, dispatch_endTop rfl]
      rcases blank_cases hb with rfl | rfl | rfl <;> rfl
    · rw [dispatch_endTop rfl]
      rcases blank_cases hb with rfl | rfl | rfl <;> rfl
  cases hn : c.isNewLine <;> simp only [hn, Bool.false_eq_true, if_false, if_true] at hd ⊢
  · exact Pre.byte hc hd rfl
  · exact (Pre.byte hc hd rfl).trans (Pre.shift rfl)

/-! ### brackets and the first byte of a token -/

theorem pre_lbrack (i : Nat) (lc ht : Bool) (uq : List (List UInt8 × Bool)) (hc : data[i]? = some .lbrack) :
    Pre content data ⟨.begin, [], [], [], i, false, false, lc, ht, uq⟩ [⟨.arrB, i, i⟩]
      ⟨.arrItemOrEmpty, [], [(.arrB, i)], [], i + 1, false, false, lc, ht, uq⟩ :=
  (Pre.byte hc (fun p1 => by rw [dispatch_begin rfl]; rfl) rfl).trans (Pre.shift rfl)

theorem pre_rbrack_empty (a i : Nat) (lc ht : Bool) (uq : List (List UInt8 × Bool)) (hc : data[i]? = some .rbrack) :
    Pre content data ⟨.arrItemOrEmpty, [], [(.arrB, a)], [], i, false, false, lc, ht, uq⟩ [⟨.arrE, a, i⟩]
      ⟨.endValue, [], [], [], i + 1, false, false, lc, ht, uq⟩ :=
  (Pre.byte hc (fun p1 => by rw [dispatch_arrItemOrEmpty rfl]; rfl) rfl).trans (Pre.shift rfl)

theorem pre_litStart {st : St} (hst : st = .arrItemOrEmpty ∨ st = .arrItem) {c : Cls} {st0 : St} {unf0 : Bool}
    (hl : litStart c = some (st0, unf0)) (a i : Nat) (lc ht : Bool) (uq : List (List UInt8 × Bool))
    (hc : data[i]? = some c) :
    Pre content data ⟨st, [], [(.arrB, a)], [], i, false, false, lc, ht, uq⟩ [⟨.itemB, i, i⟩, ⟨.litB, i, i⟩]
      ⟨st0, [], [(.litB, i), (.itemB, i), (.arrB, a)], [], i + 1, false, unf0, lc, ht, uq⟩ := by
  have hd : ∀ p1, dispatch content 8 ⟨st, [], [(.arrB, a)], [], i + 1, false, false, lc, ht, uq⟩ c p1
      = .ok ⟨st0, [], [(.arrB, a)], [.itemB, .litB], i + 1, false, unf0, lc, ht, uq⟩ := by
    intro p1
    rcases hst with rfl | rfl
    · rw [dispatch_arrItemOrEmpty rfl, beginItem_eq]; cases c <;> cases hl <;> rfl
    · rw [dispatch_arrItem rfl, beginItem_eq]; cases c <;> cases hl <;> rfl
  exact ((Pre.byte hc hd rfl).trans (Pre.shift rfl)).trans (Pre.shift rfl)

/-! ### the closing phase of an item -/

/-- states in which a literal has been read completely (its end is still pending) -/
def PV : St → Bool
  | .endValue | .d0 | .d1 | .dot0 => true
  | _ => false

/-- the states in which a number is complete -/
def NumEnd : St → Bool | .d0 | .d1 | .dot0 => true | _ => false

theorem PV_ofS {st : SchemaScan.St} (h : SchemaScan.PV st = true) : PV (ofS st) = true := by
  cases st <;> first | rfl | cases h

/-- what may stand behind a token: a blank, `,`, `]`, or the `/` of a comment -/
def isDelimC : Cls → Bool | .sp | .tab | .nl | .comma | .rbrack | .slash => true | _ => false

/-- what the byte `c` that closes an item leaves behind: the state (`delimStC`), the return stack (`delimRetC`), the queue
behind `litE`, `itemE` (`delimFinds`), the stack (`delimStack`) and the events behind those of the item (`delimEvs`) -/
def delimStC : Cls → St
  | .comma => .arrItem
  | .rbrack => .endValue
  | .slash => .anyAnnStart
  | _ => .afterItem
def delimRetC : Cls → List St
  | .slash => [.afterItem]
  | _ => []
def delimFinds : Cls → List LexT
  | .nl => [.newLine]
  | .rbrack => [.arrE]
  | _ => []
def delimStack (a : Nat) : Cls → List (LexT × Nat)
  | .rbrack => []
  | _ => [(.arrB, a)]
def delimEvs (a d : Nat) : Cls → List Ev
  | .nl => [⟨.newLine, d, d⟩]
  | .rbrack => [⟨.arrE, a, d⟩]
  | _ => []

theorem pv_dispatch {s : Sc} {f : Nat} {c : Cls} {p1 : Option Cls} (hp : PV s.step = true) (hc : isDelimC c = true) :
    dispatch content (f + 1) s c p1 = endValue content f s c p1 := by
  cases h : s.step <;> rw [h] at hp <;> cases hp
  · exact dispatch_endValue h
  · rw [dispatch_d1 h, state0_eq]; cases c <;> cases hc <;> rfl
  · rw [dispatch_d0 h, state0_eq]; cases c <;> cases hc <;> rfl
  · rw [dispatch_dot0 h]; cases c <;> cases hc <;> rfl

theorem close_dispatch (st : St) (hp : PV st = true) (c : Cls) (hc : isDelimC c = true) (b b' a d : Nat) (lc : Bool)
    (uq : List (List UInt8 × Bool)) (p1 : Option Cls) :
    dispatch content 8 ⟨st, [], [(.litB, b), (.itemB, b'), (.arrB, a)], [], d + 1, false, false, lc, false, uq⟩ c p1 =
      if uq.contains (keyAt content b (d - b)) then .error (.duplicate b)
      else .ok ⟨delimStC c, delimRetC c, [(.litB, b), (.itemB, b'), (.arrB, a)], [.litE, .itemE] ++ delimFinds c, d + 1,
                false, false, lc, false, keyAt content b (d - b) :: uq⟩ := by
  rw [pv_dispatch hp hc, endValue_item rfl, dispatch_afterItem rfl]
  simp only [Nat.add_sub_cancel]
  split
  · rfl
  · cases c <;> cases hc <;> rfl

theorem pre_close {st : St} (hp : PV st = true) {c : Cls} (hc : isDelimC c = true) (b b' a d : Nat) (lc : Bool)
    (uq : List (List UInt8 × Bool)) (hd : data[d]? = some c)
    (hfresh : uq.contains (keyAt content b (d - b)) = false) :
    Pre content data ⟨st, [], [(.litB, b), (.itemB, b'), (.arrB, a)], [], d, false, false, lc, false, uq⟩
      ([⟨.litE, b, d - 1⟩, ⟨.itemE, b', d - 1⟩] ++ delimEvs a d c)
      ⟨delimStC c, delimRetC c, delimStack a c, [], d + 1, false, false, lc, false, keyAt content b (d - b) :: uq⟩ := by
  have h1 := Pre.byte (content := content) (data := data) hd
    (fun p1 => by rw [close_dispatch st hp c hc b b' a d lc uq p1, hfresh]; rfl) rfl
  have h2 := (h1.trans (Pre.shift rfl)).trans (Pre.shift rfl)
  cases c <;> cases hc
  · exact h2
  · exact h2
  · exact h2.trans (Pre.shift rfl)
  · exact h2.trans (Pre.shift rfl)
  · exact h2
  · exact h2

/-- `,` or `]` in state `afterItem` -/
theorem pre_term {c : Cls} (hc : c = .comma ∨ c = .rbrack) (a d : Nat) (lc ht : Bool)
    (uq : List (List UInt8 × Bool)) (hd : data[d]? = some c) :
    Pre content data ⟨.afterItem, [], [(.arrB, a)], [], d, false, false, lc, ht, uq⟩ (delimEvs a d c)
      ⟨delimStC c, [], delimStack a c, [], d + 1, false, false, lc, ht, uq⟩ := by
  rcases hc with rfl | rfl
  · exact Pre.byte hd (fun p1 => by rw [dispatch_afterItem rfl]; rfl) rfl
  · exact (Pre.byte hd (fun p1 => by rw [dispatch_afterItem rfl]; rfl) rfl).trans (Pre.shift rfl)

/-- a blank is a delimiter that leaves the scanner between the items -/
theorem blank_delim {c : Cls} (hb : c.isBlank = true) :
    isDelimC c = true ∧ delimStC c = .afterItem ∧ delimRetC c = [] ∧ (∀ a, delimStack a c = [(.arrB, a)]) ∧
      (∀ a d, delimEvs a d c = nlEvs d [c]) := by
  rcases blank_cases hb with rfl | rfl | rfl <;> exact ⟨rfl, rfl, rfl, fun _ => rfl, fun _ _ => rfl⟩

end EnumScan
