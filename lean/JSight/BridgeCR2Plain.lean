import JSight.BridgeCR2Rows
/-!
Bridge (A)∩(B): the END of `compileNode` — `allowedConstraintCheck`, `anyConstraint`, the exclusive flags,
`checkPairConstraints`, `optionalConstraints`, `emptyArray`, `CompileAllOf`, `checkCompatibilityOfConstraints` of (B)
(`CR.tailRows`) against `bAllowed` … `bFinish` + the compatibility flag of (A), ONCE for every value of the flags
`typeConstraint` hands on (`tail_agree`, over the dictionary `RelT`). The last row is the caller's: the compatibility
table on a node without types list and without `any` (`compat_key`), nothing to object to on the others (`compatOK_quiet`).
-/
namespace BridgeCR
open Compile
open Loader (NK)

/-! ### the compatibility table -/

theorem fmt_unknown (rn : CR.RName) : (rbytes rn == sb "fmt") = false := by
  cases rn <;> decide +kernel

/-- the compatibility TABLES agree: (A)'s `incompatible` on a rule name is (B)'s `compat` on its constraint, negated
(not on `mixed`, which (B) has no column for, nor on the exclusive flags, which (B) has dropped by then: `tab_ex`) -/
theorem tab (jt : JT) (rn : CR.RName) (hj : jt ≠ .mixed) (h1 : rn ≠ .exclusiveMinimum) (h2 : rn ≠ .exclusiveMaximum) :
    incompatible jt (rbytes rn) = !CR.compat rn.ct (cjt jt) := by
  unfold incompatible
  -- the tests on the name become tests on `rn`: the sweep below compares no bytes
  simp only [names_rbytes, rbytes_beq, fmt_unknown]
  cases rn <;> first
    | exact absurd rfl h1
    | exact absurd rfl h2
    | (cases jt <;> first | exact absurd rfl hj | rfl)

theorem tab_ex (jt : JT) : incompatible jt (rbytes .exclusiveMinimum) = false ∧
    incompatible jt (rbytes .exclusiveMaximum) = false := by
  unfold incompatible
  simp only [names_rbytes, rbytes_beq, fmt_unknown]
  exact ⟨rfl, rfl⟩

/-- the ten rules whose constraint is in (B)'s map at the compatibility check exactly if (A)'s list has the rule -/
def plain10 : List CR.RName :=
  [.minLength, .maxLength, .min, .max, .precision, .optional, .additionalProperties, .nullable, .const, .enum]

/-- the names a common node's rules may carry (`Good.known`): the ten plain ones, `type`, `or`, the exclusive flags -/
theorem classify (rn : CR.RName) (g1 : rn ≠ .allOf) (g2 : rn ≠ .regex) (g3 : rn ≠ .minItems) (g4 : rn ≠ .maxItems) :
    rn ∈ plain10 ∨ rn = .type ∨ rn = .or ∨ rn = .exclusiveMinimum ∨ rn = .exclusiveMaximum := by
  cases rn <;> first | decide | contradiction

section
variable {frs : List Rule} {fmt : Option RulesF.Fmt} {m : CR.CMap}

/-- after the two exclusive steps (`CR.exNext`) a plain constraint is present exactly if (A)'s list has the rule -/
theorem exNext_plain (H : ∀ k, m.has k = hasT frs false fmt false k) (rn : CR.RName) (h : rn ∈ plain10) :
    (CR.exNext m).has rn.ct = hasName frs (rbytes rn) := by
  rw [CR.exNext_has, H]
  simp only [plain10, List.mem_cons, List.mem_nil_iff, or_false] at h
  rcases h with rfl | rfl | rfl | rfl | rfl | rfl | rfl | rfl | rfl | rfl <;>
    simp [hasT, CR.RName.ct, hasRule_hasName, rbytes, sb_minLength, sb_maxLength, sb_min, sb_max, sb_precision, sb_optional,
      sb_additionalProperties, sb_nullable, sb_const, sb_enum]

theorem hasName_of_mem (r : Rule) (hr : r ∈ frs) : hasName frs r.name = true := by
  unfold hasName
  rw [List.any_eq_true]
  exact ⟨r, hr, by simp⟩

/-- **the compatibility row**, node without types list and without `any`. Why it holds: by then (B)'s map holds, for
each rule of (A)'s list other than `type`, `or` and the exclusive flags, its one constraint (`exNext_plain`), `type` and
`or` fit every column, plus the format's constraint; so "every present constraint fits `c.jt`" (B) is "no rule name is
`incompatible` with `jt`" (A) row by row of the table (`tab`), and the format row is the `fmt.isSome && jt != .str` test.
The two directions walk the rules (→) and the constraints (←); what `simp` closes are table look-ups -/
theorem compat_key (H : ∀ k, m.has k = hasT frs false fmt false k) (G : Good frs)
    {kind : NK} {jt : JT} {nch : Nat} {isProp : Bool} {c : CR.Ctx} (C : CtxOK kind jt nch isProp c)
    (hf : fmt = none ∨ fmt = some .uuid ∨ fmt = some .date) :
    CR.CT.all.all (fun k => !(CR.exNext m).has k || CR.compat k c.jt)
      = !((frs.any fun r => incompatible jt r.name) || (fmt.isSome && jt != .str)) := by
  rw [Bool.eq_iff_iff, CR.all_iff, C.jtc]
  constructor
  · intro h
    rw [Bool.not_eq_true', Bool.or_eq_false_iff]
    constructor
    · rw [List.any_eq_false]
      intro r hr
      obtain ⟨rn, e, g1, g2, g3, g4⟩ := G.known r hr
      rw [e]
      rcases classify rn g1 g2 g3 g4 with hp | rfl | rfl | rfl | rfl
      · have h1 : rn ≠ .exclusiveMinimum := by intro e; subst e; simp [plain10] at hp
        have h2 : rn ≠ .exclusiveMaximum := by intro e; subst e; simp [plain10] at hp
        rw [tab jt rn C.jtm h1 h2]
        have hk := h rn.ct
        rw [exNext_plain H rn hp, ← e, hasName_of_mem r hr] at hk
        simpa using hk
      · rw [tab jt _ C.jtm (by decide) (by decide)]; simp [CR.compat, CR.RName.ct]
      · rw [tab jt _ C.jtm (by decide) (by decide)]; simp [CR.compat, CR.RName.ct]
      · simp [(tab_ex jt).1]
      · simp [(tab_ex jt).2]
    · have hu := h .uuid
      have hd := h .date
      rw [CR.exNext_has, H] at hu hd
      rcases hf with rfl | rfl | rfl
      · rfl
      · cases jt <;> simp [hasT, CR.compat, cjt] at hu ⊢
      · cases jt <;> simp [hasT, CR.compat, cjt] at hd ⊢
  · intro h k
    rw [Bool.not_eq_true', Bool.or_eq_false_iff] at h
    obtain ⟨hA, hF⟩ := h
    have plainc : ∀ rn, rn ∈ plain10 → (!(CR.exNext m).has rn.ct || CR.compat rn.ct (cjt jt)) = true := by
      intro rn hp
      rw [exNext_plain H rn hp]
      cases hh : hasName frs (rbytes rn) with
      | false => rfl
      | true =>
        unfold hasName at hh
        rw [List.any_eq_true] at hh
        obtain ⟨r, hr, e⟩ := hh
        have e' : r.name = rbytes rn := by simpa using e
        have := List.any_eq_false.1 hA r hr
        rw [e'] at this
        have h1 : rn ≠ .exclusiveMinimum := by intro e; subst e; simp [plain10] at hp
        have h2 : rn ≠ .exclusiveMaximum := by intro e; subst e; simp [plain10] at hp
        rw [tab jt rn C.jtm h1 h2] at this
        simpa using this
    cases k
    case minLength => exact plainc .minLength (by simp [plain10])
    case maxLength => exact plainc .maxLength (by simp [plain10])
    case min => exact plainc .min (by simp [plain10])
    case max => exact plainc .max (by simp [plain10])
    case precision => exact plainc .precision (by simp [plain10])
    case optional => exact plainc .optional (by simp [plain10])
    case additionalProperties => exact plainc .additionalProperties (by simp [plain10])
    case nullable => exact plainc .nullable (by simp [plain10])
    case const => exact plainc .const (by simp [plain10])
    case enum => exact plainc .enum (by simp [plain10])
    case uuid =>
      rw [CR.exNext_has, H]
      rcases hf with rfl | rfl | rfl
      · simp [hasT]
      · cases jt <;> simp [hasT, CR.compat, cjt] at hF ⊢
      · simp [hasT]
    case date =>
      rw [CR.exNext_has, H]
      rcases hf with rfl | rfl | rfl
      · simp [hasT]
      · simp [hasT]
      · cases jt <;> simp [hasT, CR.compat, cjt] at hF ⊢
    all_goals (rw [CR.exNext_has, H]; simp [hasT])

/-! ### `optional`, `additionalProperties` -/

theorem boolRule_optional (G : Good frs) : (boolRule frs "optional").isSome = hasRule frs "optional" := by
  rw [← findRule_isSome]
  unfold boolRule
  cases hf : findRule frs "optional" with
  | none => rfl
  | some r =>
    obtain ⟨nm, hm⟩ := findRule_name hf
    have := (G.valid r hm).1 (by rw [nm, sb_optional])
    simp only [Option.isSome_some]
    rw [parseBool_val]
    exact this

theorem parseAdd_of_valid (G : Good frs) (r : Rule) (hf : findRule frs "additionalProperties" = some r) :
    ∃ add, parseAdd (r.val.getD []) = .ok add := by
  obtain ⟨nm, hm⟩ := findRule_name hf
  have := (G.valid r hm).2.1 (by rw [nm, sb_additionalProperties])
  rw [← parseAdd_addPropsOK] at this
  cases hp : parseAdd (r.val.getD []) with
  | ok a => exact ⟨a, rfl⟩
  | error e => rw [hp] at this; simp [okE] at this

end

theorem absent_of_others (frs : List Rule) (L : List String) (h : others frs L = 0) (s : String)
    (hs : (L.map sb).contains (sb s) = false) : hasRule frs s = false := by
  have h1 := others_ne frs L
  rw [h] at h1
  have h2 : (frs.any fun r => !(L.map sb).contains r.name) = false := by rw [← h1]; rfl
  unfold hasRule
  rw [List.any_eq_false] at h2 ⊢
  intro r hr hname
  have e : r.name = sb s := by simpa using hname
  have := h2 r hr
  rw [e, hs] at this
  simp at this

/-! ### the end of `compileNode` -/

/-- `checkMinAndMax`: (A) compares the value texts, (B) the numbers it stored -/
theorem agreeA_bMinMax (frs : List Rule) (e1 e2 : Bool) {x : Except Err Basic} {rb : List (Option CR.Code)}
    (ht : Agree (outA x) (CR.firstErr rb ())) :
    Agree (outA (bMinMax frs e1 e2 x))
      (CR.firstErr (CR.pairNumRow (if e1 then CR.setEx (mapOf frs .min) else mapOf frs .min)
        (if e2 then CR.setEx (mapOf frs .max) else mapOf frs .max) :: rb) ()) := by
  rw [mapOf_named frs .min "min" ct_min, mapOf_named frs .max "max" ct_max]
  unfold bMinMax
  cases findRule frs "min" with
  | none => cases e1 <;> exact ht
  | some a =>
    cases findRule frs "max" with
    | none =>
      cases e1 <;> cases e2 <;> simp only [Option.map_some, Option.map_none, CR.setEx, if_true, if_false, Bool.false_eq_true] <;>
        (unfold CR.pairNumRow; split <;> first | exact ht | simp_all)
    | some b =>
      simp only [Option.map_some, cmpNum_eq, cvAt, cvLit]
      cases RulesF.number (a.val.getD []) with
      | none => cases e1 <;> cases e2 <;> exact ht
      | some na =>
        cases RulesF.number (b.val.getD []) with
        | none => cases e1 <;> cases e2 <;> exact ht
        | some nb =>
          cases hc : na.cmp nb <;> cases e1 <;> cases e2 <;>
            simp only [CR.pairNumRow, CR.setEx, hc, Bool.or_self, Bool.or_true, Bool.true_or, Bool.false_eq_true, if_true, if_false] <;>
            first | exact ht | exact rfl

/-- `checkMinLengthAndMaxLength` -/
theorem agreeA_bLens (frs : List Rule) (G : Good frs) {x : Except Err Basic} {rb : List (Option CR.Code)}
    (ht : Agree (outA x) (CR.firstErr rb ())) :
    Agree (outA (bLens frs x)) (CR.firstErr (CR.pairNatRow (mapOf frs .minLength) (mapOf frs .maxLength) :: rb) ()) := by
  rw [mapOf_named frs .minLength "minLength" ct_minLength, mapOf_named frs .maxLength "maxLength" ct_maxLength]
  unfold bLens
  cases h1 : findRule frs "minLength" with
  | none => exact ht
  | some a =>
    cases h2 : findRule frs "maxLength" with
    | none => simp only [Option.map_some, Option.map_none, CR.pairNatRow]; split <;> first | exact ht | simp_all
    | some b =>
      obtain ⟨an, am⟩ := findRule_name h1
      obtain ⟨bn, bm⟩ := findRule_name h2
      have ga : a.gen = false := by
        cases hga : a.gen with
        | false => rfl
        | true => rcases G.gens a am hga with e | e <;> (rw [an] at e; exact absurd e (by decide +kernel))
      have gb : b.gen = false := by
        cases hgb : b.gen with
        | false => rfl
        | true => rcases G.gens b bm hgb with e | e <;> (rw [bn] at e; exact absurd e (by decide +kernel))
      have la := common_len a .minLength (an.trans sb_minLength) (Or.inl rfl) (G.common a am ga)
      have lb := common_len b .maxLength (bn.trans sb_maxLength) (Or.inr (Or.inl rfl)) (G.common b bm gb)
      simp only [Option.map_some, cvAt, cvLit, parseUint_eq _ la, parseUint_eq _ lb]
      cases Compile.parseUint (a.val.getD []) with
      | none => exact ht
      | some na =>
        cases Compile.parseUint (b.val.getD []) with
        | none => exact ht
        | some nb =>
          by_cases hgt : na > nb
          · have : ¬ na ≤ nb := by omega
            simp only [CR.pairNatRow, hgt, if_true, this, decide_false]; exact rfl
          · have : na ≤ nb := by omega
            simp only [CR.pairNatRow, hgt, if_false, this, decide_true]; exact ht

/-- (A)'s compatibility flag -/
def badA (frs : List Rule) (jt : JT) (fmt : Option RulesF.Fmt) : Bool :=
  (frs.any fun r => incompatible jt r.name) || (fmt.isSome && jt != .str)

section
variable {frs : List Rule} {any : Bool} {fmt : Option RulesF.Fmt} {tl : Bool} {m : CR.CMap}

/-- **the end of `compileNode`, once**, for every value of the flags `typeConstraint` hands on: all rows but the last are
read off the dictionary. The callers (`tail_plain`, `tail_tl`, `tail_any` in `BridgeCR2Front`) still owe what the
dictionary does not hold: under `any`, that (B)'s count of the map is (A)'s count of the foreign rules (`hcnt`) and that
the two children tests are one (`hch`); and the compatibility row (`hcompat`: `compat_key` on a node without types
list and without `any`, `compatOK_quiet` on the others) -/
theorem tail_agree (R : RelT frs any fmt tl m) (G : Good frs)
    {jt : JT} {nch : Nat} {isProp : Bool} {c : CR.Ctx} {names : Option (List String)} {orShort : Bool} (hprop : c.isProp = isProp)
    (hf : fmt = none ∨ fmt = some .uuid ∨ fmt = some .date)
    (hcnt : any = true → decide (m.len - 1 - CR.bnat (m.has .optional) - CR.bnat (m.has .nullable) - CR.bnat (m.has .const) = 0)
      = !(others frs ["type", "optional", "nullable", "const"] != 0))
    (hch : any = true → (c.isBranch && decide (c.children ≠ 0)) = (nch != 0))
    (hcompat : (any && hasRule frs "const") = false → (any && others frs ["type", "optional", "nullable", "const"] != 0) = false →
      CR.compatOK c (CR.exNext m) = !(names.isNone && !any && badA frs jt fmt)) :
    Agree (outA (bAllowed frs jt isProp nch any fmt names orShort)) (CR.firstErr (CR.tailRows c m) ()) := by
  have H := hasT_of R G
  -- `HX`, `nX`, `vX`: presence, absence, value in the map after the two exclusive steps, `CR.exNext m`
  have HX : ∀ k, (CR.exNext m).has k = if k = .exclusiveMaximum ∨ k = .exclusiveMinimum then false else hasT frs any fmt tl k :=
    fun k => by rw [CR.exNext_has, H]
  have nX : ∀ k, hasT frs any fmt tl k = false → k ≠ .exclusiveMaximum → k ≠ .exclusiveMinimum → k ≠ .min → k ≠ .max → CR.exNext m k = none :=
    fun k h _ _ _ _ => (CR.has_false_iff _ _).1 (by rw [HX, h]; simp)
  have vX : ∀ k, k = .minLength ∨ k = .maxLength → CR.exNext m k = mapOf frs k := fun k h => by
    rw [CR.exNext_apply, ← relT_val R k (by rcases h with rfl | rfl <;> simp)]
    rcases h with rfl | rfl <;> simp
  have e1 : CR.exNext m .minItems = none := nX .minItems rfl (by decide) (by decide) (by decide) (by decide)
  have e2 : CR.exNext m .maxItems = none := nX .maxItems rfl (by decide) (by decide) (by decide) (by decide)
  have e3 : CR.exNext m .allOf = none := nX .allOf rfl (by decide) (by decide) (by decide) (by decide)
  have e4 : CR.allOfRows c (CR.exNext m) = [] := by unfold CR.allOfRows; rw [e3]
  have e5 : CR.allOfNext (CR.exNext m) = CR.exNext m := by unfold CR.allOfNext; rw [e3]
  unfold bAllowed CR.tailRows CR.restRows CR.allowedRows CR.anyRows CR.pairRows CR.emptyRows
  rw [e4, e5]
  simp only [List.cons_append, List.nil_append]
  refine agreeA_guard (by unfold CR.hasFormat; simp only [H, hasT]; rcases hf with rfl | rfl | rfl <;> simp) fun _ => ?_
  refine agreeA_guard (by simp only [H, hasT, Bool.not_not]) fun h2 => ?_
  refine agreeA_guard (by
    rw [H .any]; show _ = !(!any || _)
    cases any
    · rfl
    · rw [hcnt rfl]; simp) fun h3 => ?_
  refine agreeA_guard (by
    rw [H .any]; show _ = !(!any || _)
    cases any
    · rfl
    · rw [hch rfl]; simp) fun _ => ?_
  refine agreeA_guard (by simp only [CR.exMinOK, H, hasT]; cases hasRule frs "exclusiveMinimum" <;> cases hasRule frs "min" <;> rfl) fun _ => ?_
  refine agreeA_guard (by simp only [CR.exMaxOK, CR.exMinNext_has, H, hasT, reduceCtorEq, if_false]
                          cases hasRule frs "exclusiveMaximum" <;> cases hasRule frs "max" <;> rfl) fun _ => ?_
  unfold bPairs
  rw [exNext_min R, exNext_max R, vX .minLength (by simp), vX .maxLength (by simp)]
  refine agreeA_bMinMax _ _ _ (agreeA_bLens _ G (agree_skipB (by rw [e1]; rfl) ?_))
  unfold bOptional
  refine agreeA_guard (by simp only [CR.optOK, HX, hasT, boolRule_optional G, hprop, reduceCtorEq, or_self, if_false, Bool.not_not]) fun _ => ?_
  refine agree_skipB (by rw [e1]; simp [CR.countNonZero, CR.gd]) (agree_skipB (by rw [e2]; simp [CR.countNonZero, CR.gd]) ?_)
  -- the last stage of (A): the compatibility flag
  have hfin : ∀ add lits, Agree (outA (bFinish frs jt (boolRule frs "optional") any fmt names orShort lits add))
      (CR.firstErr [CR.gd (CR.compatOK c (CR.exNext m)) 1117] ()) := fun add lits => by
    rw [hcompat h2 h3]
    unfold bFinish badA
    rcases hf with rfl | rfl | rfl <;> simp only [outA, pure, Except.pure] <;>
      cases (names.isNone && !any && _) <;> first | exact trivial | exact rfl
  cases hfa : findRule frs "additionalProperties" with
  | none => exact hfin _ _
  | some r =>
    obtain ⟨add, hadd⟩ := parseAdd_of_valid G r hfa
    simp only [hadd]
    exact hfin _ _

/-- on a node restricted to `or` / `type` / `optional` / `nullable` every constraint left is compatible with every JSON type -/
theorem compatOK_quiet (H : ∀ k, m.has k = hasT frs any none tl k)
    (hres : others frs ["or", "optional", "nullable", "type"] = 0) : CR.compatOK c (CR.exNext m) = true := by
  have ab : ∀ s, ((["or", "optional", "nullable", "type"].map sb).contains (sb s) = false) → hasRule frs s = false :=
    fun s hs => absent_of_others frs _ hres s hs
  unfold CR.compatOK
  rw [Bool.or_eq_true]; right
  rw [CR.all_iff]; intro k
  rw [CR.exNext_has, H]
  cases k <;> simp [hasT, CR.compat, ab "minLength" (by decide +kernel), ab "maxLength" (by decide +kernel),
    ab "min" (by decide +kernel), ab "max" (by decide +kernel), ab "precision" (by decide +kernel),
    ab "additionalProperties" (by decide +kernel), ab "const" (by decide +kernel), ab "enum" (by decide +kernel)]

end

end BridgeCR
