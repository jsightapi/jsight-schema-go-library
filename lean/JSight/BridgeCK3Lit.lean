import JSight.BridgeCK2Lit
/-!
Bridge (A)∩(C): **an EXAMPLE token against the literal validator of a node** — the node's own EXAMPLE, or the EXAMPLE of
ANOTHER node that reaches this one as the root of a named type through a types list. (A): `Compile.litErr spec tok`;
(C): `CK.validateLiteralValue` on the dumped constraint map of the node — `litCs spec` plus the marker constraints of
`dumpNode` (`allOf` for a node flagged incompatible, `any` for an `any` node), which no validator reads. `lit_tok`: the same verdict and the same code (210, the
validator codes, 0), for every guessable token.
-/
namespace BridgeCK
open Compile

def noEmail (spec : RulesF.LitSpecF) : Bool := spec.rules.all fun r => match r with | .fmt .email => false | _ => true

/-- the marker constraints `dumpNode` appends -/
def Marker (m : List CK.Cn) : Prop := ∀ c ∈ m, c = CK.Cn.allOf ∨ c = CK.Cn.any

theorem noEmail_ne {spec : RulesF.LitSpecF} (h : noEmail spec = true) : ∀ r ∈ spec.rules, r ≠ .fmt .email := by
  intro r hr e
  have := List.all_eq_true.1 h r hr
  rw [e] at this
  simp at this

theorem cnOfRule_ty (ex : List UInt8) (r : RulesF.Rule) : (cnOfRule ex r).ty ≠ 19 ∧ (cnOfRule ex r).ty ≠ 8 := by
  cases r with
  | fmt f => cases f <;> constructor <;> simp [cnOfRule, CK.Cn.ty]
  | _ => constructor <;> simp [cnOfRule, CK.Cn.ty]

theorem hasTy_append (a b : List CK.Cn) (t : Nat) : CK.hasTy (a ++ b) t = (CK.hasTy a t || CK.hasTy b t) := by
  unfold CK.hasTy
  rw [List.any_append]

theorem hasTy_marker {m : List CK.Cn} (hm : Marker m) (t : Nat) (h17 : t ≠ 17) (h18 : t ≠ 18) : CK.hasTy m t = false := by
  unfold CK.hasTy
  rw [List.any_eq_false]
  intro c hc
  rcases hm c hc with rfl | rfl
  · simp [CK.Cn.ty]; omega
  · simp [CK.Cn.ty]; omega

theorem hasTy19_litCs (spec : RulesF.LitSpecF) : CK.hasTy (litCs spec) 19 = spec.nul := by
  unfold litCs
  rw [hasTy_append]
  have h2 : CK.hasTy (spec.rules.map (cnOfRule spec.ex)) 19 = false := by
    unfold CK.hasTy
    rw [List.any_eq_false]
    intro c hc
    obtain ⟨r, _, rfl⟩ := List.mem_map.1 hc
    simpa using (cnOfRule_ty spec.ex r).1
  rw [h2]
  cases spec.nul <;> rfl

theorem nullableValue_append_marker {m : List CK.Cn} (hm : Marker m) : (cs : List CK.Cn) →
    CK.nullableValue (cs ++ m) = CK.nullableValue cs
  | [] => by
    induction m with
    | nil => rfl
    | cons c m ih =>
      have hm' : Marker m := fun x hx => hm x (List.mem_cons_of_mem _ hx)
      rcases hm c List.mem_cons_self with rfl | rfl
      · exact ih hm'
      · exact ih hm'
  | c :: cs => by
    have ih := nullableValue_append_marker hm cs
    cases c <;> first | exact ih | rfl

theorem typesList_append_none : (a b : List CK.Cn) → CK.typesList? a = none → CK.typesList? (a ++ b) = CK.typesList? b
  | [], _, _ => rfl
  | c :: a, b, h => by
    cases c <;> first | exact typesList_append_none a b h | (simp [CK.typesList?] at h)

theorem typesList_marker {m : List CK.Cn} (hm : Marker m) : CK.typesList? m = none := by
  induction m with
  | nil => rfl
  | cons c m ih =>
    have hm' : Marker m := fun x hx => hm x (List.mem_cons_of_mem _ hx)
    rcases hm c List.mem_cons_self with rfl | rfl
    · exact ih hm'
    · exact ih hm'

/-- the validators of a literal node with marker constraints behind them -/
theorem validators_agree_m (ex tok : List UInt8) (hen : (RulesF.enumItem tok).isSome = true) (nul : Bool)
    (rs : List RulesF.Rule) (hne : ∀ r ∈ rs, r ≠ .fmt .email) (m : List CK.Cn) (hm : Marker m) :
    ((CK.sortedCs (nulCs nul ++ rs.map (cnOfRule ex) ++ m)).findSome? (CK.cnValidate noOracles tok)).map codeOfPanic =
      pickMin ((rs.filter fun r => !RulesF.ruleOK noOracles ex tok r).map (codeR tok)) := by
  rw [List.map_findSome?, Function.comp_def]
  unfold CK.sortedCs
  rw [findSome_flatMap]
  have : (fun t => ((nulCs nul ++ rs.map (cnOfRule ex) ++ m).filter (fun c => c.ty == t)).findSome?
        (fun c => (CK.cnValidate noOracles tok c).map codeOfPanic)) =
      (fun t => (((rs.filter fun r => !RulesF.ruleOK noOracles ex tok r).map (codeR tok)).find? (fun kv => kv.1 == t)).map (·.2)) :=
    funext fun t => by
      rw [List.filter_append, List.findSome?_append, filter_find_nul ex tok hen t nul rs hne]
      have : (m.filter fun c => c.ty == t).findSome? (fun c => (CK.cnValidate noOracles tok c).map codeOfPanic) = none := by
        rw [List.findSome?_eq_none_iff]
        intro c hc
        rcases hm c (List.mem_filter.1 hc).1 with rfl | rfl <;> rfl
      rw [this]
      simp
  rw [this]
  exact select_eq _ (fun x hx => by
    obtain ⟨r, _, rfl⟩ := List.mem_map.1 hx
    exact codeR_lt tok r)

/-- **a token against the validator of another node**: (C)'s `ValidateLiteralValue` on the dumped constraint map of a
literal (or `any`) type root and (A)'s `litErr` fail together, with the same code -/
theorem lit_tok (spec : RulesF.LitSpecF) (tok : List UInt8) (d : Rules.Kind) (hd : RulesF.kindOfTok tok = some d)
    (hen : (RulesF.enumItem tok).isSome = true) (hne : noEmail spec = true) (m : List CK.Cn) (hm : Marker m) :
    (CK.validateLiteralValue noOracles (jtOf (JT.ofKind spec.kind)) (litCs spec ++ m) tok).map codeOfPanic
      = litErr spec tok := by
  have hne' := noEmail_ne hne
  have h15 : CK.hasTy (litCs spec ++ m) 15 = RulesF.hasEnum spec := by
    rw [hasTy_append, hasEnum_litCs, hasTy_marker hm 15 (by omega) (by omega), Bool.or_false]
  have h19 : CK.hasTy (litCs spec ++ m) 19 = spec.nul := by
    rw [hasTy_append, hasTy19_litCs, hasTy_marker hm 19 (by omega) (by omega), Bool.or_false]
  have hcne : CK.checkNotAnEnum (jtOf (JT.ofKind spec.kind)) (litCs spec ++ m) tok =
      if RulesF.kindGate spec tok then none else some (.raw 210) := by
    unfold CK.checkNotAnEnum CK.literalJsonType RulesF.kindGate
    rw [h15, h19, hd]
    cases RulesF.hasEnum spec
    · simp only [Bool.false_eq_true, if_false, Bool.false_or, jt_kind, CK.gate_kinds]
    · simp
  have hval := validators_agree_m spec.ex tok hen spec.nul spec.rules hne' m hm
  rw [litErr_eq]
  unfold CK.validateLiteralValue RulesF.litOKFull
  rw [hcne, nullableValue_append_marker hm, nullableValue_litCs]
  cases hgate : RulesF.kindGate spec tok
  · simp [codeOfPanic]
  · simp only [if_true, Bool.true_and, Bool.not_true, Bool.false_eq_true, if_false]
    cases hnl : (spec.nul && tok == RulesF.sNull)
    · simp only [Bool.false_eq_true, if_false, Bool.false_or]
      show ((CK.sortedCs (litCs spec ++ m)).findSome? (CK.cnValidate noOracles tok)).map codeOfPanic = _
      unfold litCs
      rw [hval]
      cases hall : spec.rules.all (RulesF.ruleOK noOracles spec.ex tok)
      · simp only [Bool.false_eq_true, if_false]
        cases hL : (spec.rules.filter fun r => !RulesF.ruleOK noOracles spec.ex tok r).map (codeR tok) with
        | nil =>
          exfalso
          have : (spec.rules.filter fun r => !RulesF.ruleOK noOracles spec.ex tok r) = [] := by
            cases h : (spec.rules.filter fun r => !RulesF.ruleOK noOracles spec.ex tok r) with
            | nil => rfl
            | cons a b => rw [h] at hL; simp at hL
          rw [List.filter_eq_nil_iff] at this
          have : spec.rules.all (RulesF.ruleOK noOracles spec.ex tok) = true := by
            rw [List.all_eq_true]
            intro r hr
            have := this r hr
            simpa using this
          rw [hall] at this
          cases this
        | cons f fs => rfl
      · simp only [if_true]
        have : (spec.rules.filter fun r => !RulesF.ruleOK noOracles spec.ex tok r) = [] := by
          rw [List.filter_eq_nil_iff]
          intro r hr
          have := List.all_eq_true.1 hall r hr
          simp [this]
        rw [this]
        rfl
    · simp

end BridgeCK
