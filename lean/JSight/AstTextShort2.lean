import JSight.AstTextShort
import JSight.ShortE2ESide
import JSight.ByteLemmas
/-!
C16 at text level, shortcut leaves — the byte facts behind `C16_shortcut_leaf_type` / `_or` without the hypothesis `hp`:

* `slice_ts` / `slice_mix`: at a shortcut `@first (s1 | s2 @name)* sps` of the text, the `types-shortcut-end` slice is the
  shortcut with its trailing blanks, the `mixed-value-end` slice is the same with possibly one trailing SPACE less;
* `trim_mix_eq_trim_ts`: `TrimSpaces` of the two slices agree — both are the shortcut as written (`scBytes`);
* `hasPipe_mix`: the `|` test on the trimmed value slice is "there are alternatives";
* `splitPipe_sc`: the items of the synthesised `or` rule are the names as TOKENS, in written order;
* `astOff_short_leaf`: the AST node of a shortcut leaf, on tokens (`shortLeaf`).
-/
namespace AstText
namespace S2
open Loader (slice trimSpaces isBlank)
open SE (Bytes Alt BST scBytes altBytes clsSc clsB clsAlts)
open SchemaScan (Cls classify)
open SchemaScan.Len (Shortcut IsTypeName IsSpTabs ValidAlts)
open Lay (AtB AtB_append slice_tok)

/-! ### the two slices -/

/-- only the first comparison of `classify` answers `sp` -/
theorem classify_sp (b : UInt8) : (classify b == Cls.sp) = (b == 32) := by
  unfold classify
  by_cases h : (b == 32) = true
  · rw [if_pos h, h]; rfl
  · rw [if_neg h, Bool.eq_false_iff.2 h]
    refine beq_eq_false_iff_ne.2 ?_
    iterate 35 refine Bytes.ite_ne (by decide) ?_
    decide

theorem render_eq (f : Bytes) (as : List Alt) (sps : Bytes) :
    (clsSc f as).render ++ clsB sps = (scBytes f as ++ sps).map classify := by
  rw [List.map_append, SE.scBytes_cls]; rfl

theorem scBytes_ne (f : Bytes) (as : List Alt) (sps : Bytes) : scBytes f as ++ sps ≠ [] := by simp [scBytes]

/-- the `types-shortcut-end` slice: the shortcut and the blanks behind it -/
theorem slice_ts (src : Array UInt8) (o : Nat) (f : Bytes) (as : List Alt) (sps : Bytes)
    (hat : AtB src o (scBytes f as ++ sps)) :
    slice src o (S.tsEnd o (clsSc f as) (clsB sps)) = scBytes f as ++ sps := by
  unfold S.tsEnd
  rw [SE.sc_length]
  exact slice_tok src _ o hat (scBytes_ne f as sps)

theorem isSpTabs_append {a b : Bytes} : IsSpTabs (clsB (a ++ b)) ↔ IsSpTabs (clsB a) ∧ IsSpTabs (clsB b) := by
  simp only [IsSpTabs, clsB, List.map_append, List.mem_append]
  constructor
  · intro h; exact ⟨fun c hc => h c (Or.inl hc), fun c hc => h c (Or.inr hc)⟩
  · rintro ⟨h1, h2⟩ c (hc | hc)
    · exact h1 c hc
    · exact h2 c hc

theorem getLast_snoc (l : List Cls) (a : Cls) : (l ++ [a]).getLast? = some a := by simp

/-- the `mixed-value-end` slice: the same, one trailing SPACE less when the last byte is a space -/
theorem slice_mix (src : Array UInt8) (o : Nat) (f : Bytes) (as : List Alt) (sps : Bytes)
    (hv : (clsSc f as).Valid) (hs : IsSpTabs (clsB sps)) (hat : AtB src o (scBytes f as ++ sps)) :
    ∃ sps', IsSpTabs (clsB sps') ∧ (sps' = sps ∨ sps = sps' ++ [32]) ∧
      slice src o (S.mixEnd o (clsSc f as) (clsB sps)) = scBytes f as ++ sps' := by
  unfold S.mixEnd SchemaScan.mixEndOf
  rw [render_eq, List.length_map]
  rcases List.eq_nil_or_concat sps with rfl | ⟨sps0, c, rfl⟩
  · obtain ⟨x, d, he, hd⟩ := SE.scBytes_last f as hv
    have hl : ((scBytes f as ++ []).map classify).getLast? = some (classify d) := by
      rw [List.append_nil, he, List.map_append]
      exact getLast_snoc _ _
    have hne : (some (classify d) == some Cls.sp) = false := by
      have : (classify d == Cls.sp) = false := by
        rw [classify_sp]
        cases hd32 : d == 32
        · rfl
        · have : d = 32 := by simpa using hd32
          subst this; exact absurd hd (by decide)
      simpa using this
    rw [hl, hne]
    simp only [Bool.false_eq_true, if_false]
    exact ⟨[], hs, Or.inl rfl, slice_tok src _ o hat (scBytes_ne f as [])⟩
  · simp only [List.concat_eq_append] at hs hat ⊢
    have hl : ((scBytes f as ++ (sps0 ++ [c])).map classify).getLast? = some (classify c) := by
      rw [← List.append_assoc, List.map_append]
      exact getLast_snoc _ _
    rw [hl]
    have hs0 := (isSpTabs_append.1 hs).1
    by_cases hc : c = 32
    · subst hc
      have : (some (classify 32) == some Cls.sp) = true := by decide
      rw [this]
      simp only [if_true]
      refine ⟨sps0, hs0, Or.inr rfl, ?_⟩
      rw [← List.append_assoc, AtB_append] at hat
      have := slice_tok src _ o hat.1 (scBytes_ne f as sps0)
      rw [← this]
      congr 1
      simp only [List.length_append, List.length_cons, List.length_nil]
      have : 1 ≤ (scBytes f as).length := by simp [scBytes]
      omega
    · have : (some (classify c) == some Cls.sp) = false := by
        have : (classify c == Cls.sp) = false := by
          rw [classify_sp]; simpa using hc
        simpa using this
      rw [this]
      simp only [Bool.false_eq_true, if_false]
      exact ⟨sps0 ++ [c], hs, Or.inl rfl, slice_tok src _ o hat (scBytes_ne f as _)⟩

/-- `TrimSpaces` of the `mixed-value-end` slice and (`trim_ts`) of the `types-shortcut-end` slice: both are the shortcut
as written, without the blanks behind it -/
theorem trim_mix (src : Array UInt8) (o : Nat) (f : Bytes) (as : List Alt) (sps : Bytes)
    (hv : (clsSc f as).Valid) (hs : IsSpTabs (clsB sps)) (hat : AtB src o (scBytes f as ++ sps)) :
    trimSpaces (slice src o (S.mixEnd o (clsSc f as) (clsB sps))) = scBytes f as := by
  obtain ⟨sps', hs', _, he⟩ := slice_mix src o f as sps hv hs hat
  rw [he, SE.trim_sc f as sps' hv hs']

theorem trim_ts (src : Array UInt8) (o : Nat) (f : Bytes) (as : List Alt) (sps : Bytes)
    (hv : (clsSc f as).Valid) (hs : IsSpTabs (clsB sps)) (hat : AtB src o (scBytes f as ++ sps)) :
    trimSpaces (slice src o (S.tsEnd o (clsSc f as) (clsB sps))) = scBytes f as := by
  rw [slice_ts src o f as sps hat, SE.trim_sc f as sps hv hs]

theorem trim_mix_eq_trim_ts (src : Array UInt8) (o : Nat) (f : Bytes) (as : List Alt) (sps : Bytes)
    (hv : (clsSc f as).Valid) (hs : IsSpTabs (clsB sps)) (hat : AtB src o (scBytes f as ++ sps)) :
    trimSpaces (slice src o (S.mixEnd o (clsSc f as) (clsB sps)))
      = trimSpaces (slice src o (S.tsEnd o (clsSc f as) (clsB sps))) := by
  rw [trim_mix src o f as sps hv hs hat, trim_ts src o f as sps hv hs hat]

theorem isSpTabs_nil : IsSpTabs (clsB []) := by intro c hc; simp [clsB] at hc

/-- the hypothesis `hp` of `C16_shortcut_leaf_type` / `_or`: the `|` test on the trimmed value slice says whether the
shortcut has alternatives -/
theorem hasPipe_mix (src : Array UInt8) (o : Nat) (f : Bytes) (as : List Alt) (sps : Bytes)
    (hv : (clsSc f as).Valid) (hs : IsSpTabs (clsB sps)) (hat : AtB src o (scBytes f as ++ sps)) :
    hasPipe (trimSpaces (slice src o (S.mixEnd o (clsSc f as) (clsB sps)))) = !as.isEmpty := by
  rw [trim_mix src o f as sps hv hs hat]
  have := SE.hasPipe_sc f as [] hv.1 isSpTabs_nil
  rwa [List.append_nil] at this

/-! ### the names of an `or` shortcut, as tokens -/

/-- the names behind the first one, each with its `@` -/
def altNames : List Alt → List Bytes
  | [] => []
  | (_, _, n) :: r => (64 :: n) :: altNames r

/-- the names of a shortcut in written order -/
def namesB (f : Bytes) (as : List Alt) : List Bytes := (64 :: f) :: altNames as

theorem trim_lead (pre rest : Bytes) (h : ∀ b ∈ pre, isBlank b = true) :
    trimSpaces (pre ++ rest) = trimSpaces rest := by
  unfold trimSpaces
  rw [SE.dropWhile_all pre rest h]

/-- blanks, `@name`, blanks: `TrimSpaces` gives `@name` -/
theorem trim_name (pre n post : Bytes) (hpre : ∀ b ∈ pre, isBlank b = true) (hn : IsTypeName (clsB n))
    (hpost : ∀ b ∈ post, isBlank b = true) :
    trimSpaces (pre ++ ((64 :: n) ++ post)) = 64 :: n := by
  rw [trim_lead pre _ hpre]
  obtain ⟨hne, hall⟩ := SE.name_bytes hn
  obtain ⟨x, d, rfl⟩ := SE.exists_snoc' n hne
  have := SE.trim_tail x 64 post (by decide) d (hall d (by simp)).2.1 hpost
  simpa [List.append_assoc] using this

theorem go_nopipe : ∀ (seg rest cur : Bytes), (∀ b ∈ seg, b ≠ 124) →
    splitPipe.go (seg ++ rest) cur = splitPipe.go rest (seg.reverse ++ cur)
  | [], _, _, _ => rfl
  | c :: seg, rest, cur, h => by
    have hc : (c == 124) = false := by simpa using h c (by simp)
    simp only [List.cons_append, splitPipe.go, hc, Bool.false_eq_true, if_false]
    rw [go_nopipe seg rest (c :: cur) (fun b hb => h b (by simp [hb]))]
    simp

theorem go_alts (sps : Bytes) (hs : IsSpTabs (clsB sps)) : ∀ (as : List Alt) (pre n : Bytes),
    (∀ b ∈ pre, isBlank b = true ∧ b ≠ 124) → IsTypeName (clsB n) → ValidAlts (clsAlts as) →
    splitPipe.go (altBytes as ++ sps) ((pre ++ (64 :: n)).reverse) = (64 :: n) :: altNames as
  | [], pre, n, hpre, hn, _ => by
    have h := go_nopipe sps [] ((pre ++ (64 :: n)).reverse) (fun b hb => (SE.sp_bytes hs b hb).2)
    simp only [List.append_nil] at h
    simp only [altBytes, List.nil_append, h, splitPipe.go, altNames]
    have := trim_name pre n sps (fun b hb => (hpre b hb).1) hn (fun b hb => (SE.sp_bytes hs b hb).1)
    simp only [List.reverse_append, List.reverse_reverse]
    simpa [List.append_assoc] using this
  | (s1, s2, m) :: r, pre, n, hpre, hn, hv => by
    obtain ⟨h1, h2, hm, hr⟩ : IsSpTabs (clsB s1) ∧ IsSpTabs (clsB s2) ∧ IsTypeName (clsB m) ∧ ValidAlts (clsAlts r) := by
      simpa [clsAlts, ValidAlts] using hv
    have e1 : altBytes ((s1, s2, m) :: r) ++ sps
        = s1 ++ (124 :: ((s2 ++ (64 :: m)) ++ (altBytes r ++ sps))) := by
      simp [altBytes, List.append_assoc]
    rw [e1, go_nopipe s1 _ _ (fun b hb => (SE.sp_bytes h1 b hb).2)]
    simp only [splitPipe.go, beq_self_eq_true, if_true]
    have hnp : ∀ b ∈ s2 ++ (64 :: m), b ≠ 124 := by
      intro b hb
      rcases List.mem_append.1 hb with hb | hb
      · exact (SE.sp_bytes h2 b hb).2
      · rcases List.mem_cons.1 hb with rfl | hb
        · decide
        · exact ((SE.name_bytes hm).2 b hb).2.2
    rw [go_nopipe (s2 ++ (64 :: m)) _ [] hnp, List.append_nil]
    rw [go_alts sps hs r s2 m (fun b hb => SE.sp_bytes h2 b hb) hm hr]
    have := trim_name pre n s1 (fun b hb => (hpre b hb).1) hn (fun b hb => (SE.sp_bytes h1 b hb).1)
    simp only [List.reverse_append, List.reverse_reverse, altNames]
    congr 1
    simpa [List.append_assoc] using this

/-- **the items of the synthesised `or` rule are the names as written, in written order** (the blanks around `|` and
behind the last name do not count) -/
theorem splitPipe_sc (f : Bytes) (as : List Alt) (sps : Bytes) (hv : (clsSc f as).Valid) (hs : IsSpTabs (clsB sps)) :
    splitPipe (scBytes f as ++ sps) = namesB f as := by
  unfold splitPipe namesB
  have h := go_alts sps hs as [] f (by intro b hb; cases hb) hv.1 hv.2
  have e : scBytes f as ++ sps = (64 :: f) ++ (altBytes as ++ sps) := by simp [scBytes, List.append_assoc]
  have hnp : ∀ b ∈ (64 :: f), b ≠ 124 := by
    intro b hb
    rcases List.mem_cons.1 hb with rfl | hb
    · decide
    · exact ((SE.name_bytes hv.1).2 b hb).2.2
  rw [e, go_nopipe (64 :: f) _ [] hnp, List.append_nil]
  simpa using h

/-! ### the AST node of a shortcut leaf, on tokens -/

/-- **the AST node of a shortcut leaf**: `@A` — TokenType `reference`, SchemaType and Value the name, the generated rule
`type` with the name; `@A | @B …` — TokenType `reference`, SchemaType `mixed`, Value the shortcut as written, the
generated rule `or` with one generated `string` item per name in written order -/
def shortLeaf (key : Bytes × Bool) (f : Bytes) : List Alt → AstNode
  | [] => .mk key.1 key.2 "reference" (64 :: f) (64 :: f) []
      [(sb "type", leaf "reference" (64 :: f) .generated)] []
  | a :: r => .mk key.1 key.2 "reference" (sb "mixed") (scBytes f (a :: r)) []
      [(sb "or", .mk "array" [] [] .generated [] ((namesB f (a :: r)).map fun nm => leaf "string" nm .generated))] []

theorem scBytes_nil (f : Bytes) : scBytes f [] = 64 :: f := by simp [scBytes, altBytes]

theorem unq_name (f : Bytes) (hf : IsTypeName (clsB f)) :
    unq (64 :: f) = 64 :: f ∧ isUserTypeName (64 :: f) = true := by
  obtain ⟨hne, hall⟩ := SE.name_bytes hf
  cases f with
  | nil => exact absurd rfl hne
  | cons c rest =>
    have hq : Unquote.inQuotes (64 :: c :: rest) = false := by simp [Unquote.inQuotes]
    refine ⟨by simp [unq, Unquote.unquote, hq], ?_⟩
    simp only [isUserTypeName, List.all_eq_true]
    exact fun b hb => (hall b hb).1

/-- a shortcut leaf of the text, by offsets = the leaf on tokens (no hypothesis about `|`) -/
theorem astOff_short_leaf (src : Array UInt8) (evs : List SchemaScan.Ev) (o : Nat) (f : Bytes) (as : List Alt)
    (sps : Bytes) (key : Bytes × Bool) (hv : (clsSc f as).Valid) (hs : IsSpTabs (clsB sps))
    (hat : AtB src o (scBytes f as ++ sps)) :
    S.astOff src evs o (.short (clsSc f as) (clsB sps)) key = .ok (shortLeaf key f as) := by
  have hp := hasPipe_mix src o f as sps hv hs hat
  have hm := trim_mix src o f as sps hv hs hat
  have ht := trim_ts src o f as sps hv hs hat
  cases as with
  | nil =>
    rw [S.astOff_short_type src evs o _ _ key rfl (by simpa using hp), hm, ht, scBytes_nil]
    obtain ⟨hu, hn⟩ := unq_name f hv.1
    simp only [hu, hn, if_true, shortLeaf]
  | cons a r =>
    rw [S.astOff_short_or src evs o _ _ key (by obtain ⟨_, _, _⟩ := a; simp [clsSc, clsAlts]) (by simpa using hp), hm,
      slice_ts src o f (a :: r) sps hat, splitPipe_sc f (a :: r) sps hv hs]
    rfl

end S2
end AstText
