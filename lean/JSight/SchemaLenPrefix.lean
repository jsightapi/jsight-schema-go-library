import JSight.SchemaLenTokEv
/-!
C14: "the prefix of length `Len` is accepted with the same meaning" — for a schema `S` (token list ending with its
top-level value) followed by layout `w`, a foreign byte and anything: `Len = |S|`, and the events of `S` scanned alone
are the events `Length()` reads inside the longer text, up to the `newLine` events of `w`.
-/
namespace SchemaScan

open Len in
/-- the events of an accepted token list whose text is the whole input (ordinary mode) -/
theorem schema_events_tokens_whole (toks : List Tok) (hw : ∀ t ∈ toks, t.WF) (c' : TC) (evs : List Ev)
    (h : trun TC.init toks = some (c', evs)) (hend : Complete c')
    (bs : List UInt8) (hbs : bs.map classify = renderToks toks) :
    scanAll bs = .ok (evs ++ endClosers c') :=
  scan_atoks_whole (toks.map .base) (wf_base hw) c' evs
    (by rw [arun_base]; exact h) hend bs (by rw [renderAToks_base]; exact hbs)

#print axioms schema_events_tokens_whole

namespace Len

theorem trun_snoc_inv : ∀ (ts : List Tok) (t : Tok) (c c' : TC) (evs : List Ev),
    trun c (ts ++ [t]) = some (c', evs) →
    ∃ c1 e1 e2, trun c ts = some (c1, e1) ∧ tstep c1 t = some (c', e2) ∧ evs = e1 ++ e2
  | [], t, c, c', evs, h => by
    simp only [List.nil_append, trun] at h
    cases ht : tstep c t with
    | none => rw [ht] at h; cases h
    | some r =>
      obtain ⟨c1, e1⟩ := r
      rw [ht] at h
      simp only [Option.map_some, Option.some.injEq, Prod.mk.injEq, List.append_nil] at h
      obtain ⟨rfl, rfl⟩ := h
      exact ⟨c, [], e1, rfl, ht, rfl⟩
  | t0 :: ts, t, c, c', evs, h => by
    obtain ⟨c0, e0, e2, ht, hr, rfl⟩ := trun_cons (ts := ts ++ [t]) h
    obtain ⟨c1, e1, e3, h1, h2, rfl⟩ := trun_snoc_inv ts t c0 c' e2 hr
    refine ⟨c1, e0 ++ e1, e3, ?_, h2, by simp⟩
    simp only [trun, ht, h1, Option.map_some]

/-- only a scalar, a key or a closing bracket leaves the scanner right behind a value -/
theorem slotStep_PV_last {c c' : TC} {t : Tok} {evs : List Ev} (h : slotStep c t = some (c', evs)) (hw : t.WF)
    (hpv : PV c'.st = true) : ∃ pre d, t.render = pre ++ [d] ∧ d.isBlank = false := by
  cases slotStep_slot h with
  | sp hl => rw [wsLoop_notPV hl] at hpv; cases hpv
  | nl hl => exact absurd ((wsLoop_notPV (wsLoop_nlSt hl)).symm.trans hpv) (by simp)
  | cmt hl => exact absurd ((wsLoop_notPV (wsLoop_nlSt (cmtLoop_wsLoop hl))).symm.trans hpv) (by simp)
  | ann hl _ _ _ =>
    have : PV c.st = false := by cases hs : c.st <;> simp [hs, annLoop] at hl <;> rfl
    rw [this] at hpv; cases hpv
  | scalar _ => exact scalar_last hw
  | key _ =>
    obtain ⟨tl, rfl, hr⟩ := hw
    cases tl with
    | nil => simp [silentRun] at hr
    | cons c2 cs =>
      obtain ⟨pre, d, he, hd⟩ := silentRun_last (c2 :: cs) .inString [] false .endValue [] false (by simp) hr rfl
      exact ⟨Cls.quote :: pre, d, by simp [Tok.render, he], hd⟩
  | op br _ => cases br <;> cases hpv
  | cl br _ _ _ _ => cases br <;> exact ⟨[], _, rfl, rfl⟩
  | sep ck _ => cases ck <;> cases hpv

theorem tstep_PV_last {c c' : TC} {t : Tok} {evs : List Ev} (h : tstep c t = some (c', evs)) (hw : t.WF)
    (hpv : PV c'.st = true) : ∃ pre d, t.render = pre ++ [d] ∧ d.isBlank = false := by
  obtain ⟨c1, e1, e2, -, hs, -⟩ := tstep_cases h
  exact slotStep_PV_last hs hw hpv

/-- the text of a token list that ends right behind a value has no trailing blank -/
theorem trun_PV_last (toks : List Tok) (hw : ∀ t ∈ toks, t.WF) (c' : TC) (evs : List Ev)
    (h : trun TC.init toks = some (c', evs)) (hpv : PV c'.st = true) :
    ∃ pre d, renderToks toks = pre ++ [d] ∧ d.isBlank = false := by
  rcases List.eq_nil_or_concat toks with rfl | ⟨ts, t, rfl⟩
  · simp only [trun, Option.some.injEq, Prod.mk.injEq] at h
    obtain ⟨rfl, _⟩ := h
    cases hpv
  · rw [List.concat_eq_append] at h hw ⊢
    obtain ⟨c1, e1, e2, _, h2, _⟩ := trun_snoc_inv ts t TC.init c' evs h
    obtain ⟨pre, d, he, hd⟩ := tstep_PV_last h2 (hw t (by simp)) hpv
    refine ⟨renderToks ts ++ pre, d, ?_, hd⟩
    rw [renderToks_append]
    simp only [renderToks, List.append_nil, he, List.append_assoc]

/-- layout behind the complete top-level value -/
theorem trun_root_blanks (st : St) (hpv : PV st = true) (lit : Bool) (b i : Nat) (CS : List Ctx) (cx : Ctx) (al : Bool)
    (c : Cls) (w : List Cls) (hw : IsWs (c :: w)) :
    trun ⟨st, false, pendOf lit b, i, CS, cx, al⟩ (blankToks (c :: w))
      = some (⟨.endTop, false, [], i + (w.length + 1), CS, cx, al⟩, rootClosers lit b (i - 1) ++ nlEvs i (c :: w)) := by
  -- the first blank closes the root value (`closePV`) and is then read in `endTop`; the two `tstep` facts evaluate that
  have h2 := trun_blanks .endTop rfl false [] CS cx al w (i + 1) hw.tail
  simp only [blankToks, List.map_cons, trun] at h2 ⊢
  by_cases hc : c = Cls.nl
  · subst hc
    have : tstep ⟨st, false, pendOf lit b, i, CS, cx, al⟩ (blankTok Cls.nl)
        = some (⟨.endTop, false, [], i + 1, CS, cx, al⟩, rootClosers lit b (i - 1) ++ [⟨.newLine, i, i⟩]) := by
      cases lit <;>
        simp [tstep, hpv, closePV, pendOf, pendOfK, isLitB, rootClosers, blankTok, slotStep, nlStep, wsLoop, nlSt, nlAl,
          isObjKey]
    rw [this]
    simp only [h2, Option.map_some, nlEvs, if_true, List.append_assoc]
    rw [show i + 1 + w.length = i + (w.length + 1) by omega]
  · have hs : c.isSpTab = true := by
      rcases blank_cases hw.head with h | h
      · exact h
      · exact absurd h hc
    have : tstep ⟨st, false, pendOf lit b, i, CS, cx, al⟩ (blankTok c)
        = some (⟨.endTop, false, [], i + 1, CS, cx, al⟩, rootClosers lit b (i - 1) ++ []) := by
      cases lit <;> simp [tstep, hpv, closePV, pendOf, pendOfK, isLitB, rootClosers, blankTok, hc, slotStep, wsLoop]
    rw [this]
    simp only [h2, Option.map_some, nlEvs, if_neg hc, List.nil_append, List.append_nil]
    rw [show i + 1 + w.length = i + (w.length + 1) by omega]

end Len

open Len in
/-- **C14, the prefix of length `Len` means what `S` means.** `S` = the text of a token list accepted from the initial
state that ends right behind its top-level value (`lit`: a scalar, whose literal is still open at `b`); the input is
`S`, layout `w`, a foreign byte `x` (which, glued to `S`, must not continue a number: `adjOk`) and anything. Then
`Len` = `|S|`; `S` alone scans (ordinary mode) into the events of the token list and the end of the scalar; and these
are exactly the events `Length()` reads inside the longer text before `end-top`, followed only by the `newLine` events
of the line breaks of `w`. -/
theorem C14_schema_prefix_same_events (toks : List Tok) (hw : ∀ t ∈ toks, t.WF) (st : St) (lit : Bool) (b : Nat)
    (CS : List Ctx) (cx : Ctx) (al : Bool) (evs : List Ev) (hpv : PV st = true)
    (h : trun TC.init toks = some (⟨st, false, pendOf lit b, (renderToks toks).length, CS, cx, al⟩, evs))
    (w : List Cls) (hws : IsWs w) (x : Cls) (rest : List Cls) (hx : x.isForeign = true)
    (hadj : w = [] → adjOk st x = true)
    (bs : List UInt8) (hbs : bs.map classify = renderToks toks ++ (w ++ x :: rest)) :
    length bs = .ok (renderToks toks).length ∧
    scanAll (bs.take (renderToks toks).length)
      = .ok (evs ++ rootClosers lit b ((renderToks toks).length - 1)) ∧
    lengthEvents bs
      = .ok (evs ++ rootClosers lit b ((renderToks toks).length - 1) ++ nlEvs (renderToks toks).length w) := by
  have hK : pendOf lit b = [] ∨ ∃ b', pendOf lit b = [(.litB, b')] := by
    cases lit
    · exact Or.inl rfl
    · exact Or.inr ⟨b, rfl⟩
  have hcl : endClosers ⟨st, false, pendOf lit b, (renderToks toks).length, CS, cx, al⟩
      = rootClosers lit b ((renderToks toks).length - 1) := by cases lit <;> rfl
  obtain ⟨pre, d, hlast, hd⟩ := trun_PV_last toks hw _ evs h hpv
  have hrt : rtrimLen (renderToks toks) = (renderToks toks).length := by
    have := rtrimLen_snoc pre d [] hd (by intro c hc; cases hc)
    rw [List.append_nil] at this
    rw [hlast, this]; simp
  -- the prefix alone
  have hpre : (bs.take (renderToks toks).length).map classify = renderToks toks := by
    rw [List.map_take, hbs]
    simp
  have e2 := schema_events_tokens_whole toks hw _ evs h (Or.inr ⟨hpv, rfl, hK⟩) _ hpre
  rw [hcl] at e2
  cases w with
  | nil =>
    have hbs' : bs.map classify = renderToks toks ++ x :: rest := by rw [hbs]; rfl
    have hend : EndsAt ⟨st, false, pendOf lit b, (renderToks toks).length, CS, cx, al⟩ x :=
      Or.inr ⟨hpv, rfl, hK, hadj rfl⟩
    refine ⟨?_, e2, ?_⟩
    · rw [C14_schema_len_tokens toks hw _ evs h x rest hx hend bs hbs', hrt]
    · rw [schema_length_events_tokens toks hw _ evs h x rest hx hend bs hbs', hcl]
      simp [nlEvs]
  | cons c w' =>
    have t2 := trun_root_blanks st hpv lit b (renderToks toks).length CS cx al c w' hws
    have tall := trun_append _ _ _ _ _ _ _ h t2
    have hwf : ∀ t ∈ toks ++ blankToks (c :: w'), t.WF := by
      intro t ht
      rcases List.mem_append.mp ht with ht | ht
      · exact hw t ht
      · exact wf_blankToks _ hws t ht
    have hbs' : bs.map classify = renderToks (toks ++ blankToks (c :: w')) ++ x :: rest := by
      rw [hbs, renderToks_append, render_blankToks]; simp
    have hend : EndsAt ⟨.endTop, false, [], (renderToks toks).length + (w'.length + 1), CS, cx, al⟩ x :=
      Or.inl ⟨rfl, rfl⟩
    refine ⟨?_, e2, ?_⟩
    · rw [C14_schema_len_tokens _ hwf _ _ tall x rest hx hend bs hbs', renderToks_append, render_blankToks,
        rtrimLen_append_ws _ _ hws, hrt]
    · rw [schema_length_events_tokens _ hwf _ _ tall x rest hx hend bs hbs']
      simp [endClosers, List.append_assoc]

#print axioms C14_schema_prefix_same_events

end SchemaScan
