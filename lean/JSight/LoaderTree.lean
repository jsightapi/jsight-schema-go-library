import JSight.LoaderValue
import JSight.SchemaRunLen
/-!
C16 (loader part): `GetAST` mirrors the schema text. For a schema that is plain JSON (no annotations) the loader
builds one node per value of the text, numbered in pre-order (the order in which `newNode` allocates them), of the
value's kind, children in source order, object keys in source order with the key tokens' spans, literal values with
the literal tokens' spans, no rules, no comment — for every `SchemaScan.Tree` (any nesting, width and layout incl.
line breaks), provided the keys of every object are pairwise distinct after decoding (`keyText`); otherwise the
loader stops with error 402 at the first repeated key.

* `nodesOf parent first o v` — the expected node table of the value `v` rendered at offset `o`, its root node
  getting index `first` and parent `parent`;
* `C16_load_mirrors_tree` — `load` on the events of the tree (form: fold of `step` over the event list);
* `C16_scan_load_mirrors_tree` — end to end: `scanAll bs` gives events on which `load bs.toArray` builds `nodesOf`;
* `C16_loadText_mirrors_tree` — the same for the interleaved loop `loadText`;
* the duplicate-key case (`C16_load_duplicate_key`) is in `LoaderTreeDup`.
-/
namespace Loader
open SchemaScan (Ev Cls Tree nlEvs schemaEvsAt evsItems evsMembers)

abbrev Item := List Cls × Tree × List Cls
abbrev Member := List Cls × List Cls × List Cls × List Cls × Tree × List Cls

/-! ### the expected node table -/

mutual
/-- number of values (= nodes) of a tree -/
def nodeCount : Tree → Nat
  | .scalar _ => 1
  | .arr _ its => 1 + countItems its
  | .obj _ ms => 1 + countMembers ms
def countItems : List Item → Nat
  | [] => 0
  | (_, v, _) :: its => nodeCount v + countItems its
def countMembers : List Member → Nat
  | [] => 0
  | (_, _, _, _, v, _) :: ms => nodeCount v + countMembers ms
end

/-- node indices of the items when the first item gets index `n` -/
def idxItems : Nat → List Item → List Nat
  | _, [] => []
  | n, (_, v, _) :: its => n :: idxItems (n + nodeCount v) its

def idxMembers : Nat → List Member → List Nat
  | _, [] => []
  | n, (_, _, _, _, v, _) :: ms => n :: idxMembers (n + nodeCount v) ms

/-- offset of the member value -/
def valOff (o : Nat) (w1 k w2 w3 : List Cls) : Nat := o + w1.length + k.length + w2.length + 1 + w3.length

/-- offset of the next member / the closing brace -/
def nextMember (o : Nat) (w1 k w2 w3 : List Cls) (v : Tree) (w4 : List Cls) (ms : List Member) : Nat :=
  valOff o w1 k w2 w3 + v.render.length + w4.length + (if ms.isEmpty then 0 else 1)

def nextItem (o : Nat) (w1 : List Cls) (v : Tree) (w2 : List Cls) (its : List Item) : Nat :=
  o + w1.length + v.render.length + w2.length + (if its.isEmpty then 0 else 1)

/-- the key entries of an object whose first member (with its leading white space) starts at `o`:
span of each key token, not a shortcut -/
def keysMembers : Nat → List Member → List (Nat × Nat × Bool)
  | _, [] => []
  | o, (w1, k, w2, w3, v, w4) :: ms =>
    (o + w1.length, o + w1.length + k.length - 1, false) :: keysMembers (nextMember o w1 k w2 w3 v w4 ms) ms

mutual
/-- the node table of `v` rendered at offset `o`: pre-order, the root of `v` at index `n` with parent `parent` -/
def nodesOf (parent : Option Nat) : Nat → Nat → Tree → List Node
  | _, o, .scalar tok => [{ kind := .lit, parent := parent, value := some (o, o + tok.length - 1) }]
  | n, o, .arr ws0 its =>
    { kind := .arr, parent := parent, children := idxItems (n + 1) its } ::
      nodesItems n (n + 1) (o + 1 + ws0.length) its
  | n, o, .obj ws0 ms =>
    { kind := .obj, parent := parent, children := idxMembers (n + 1) ms,
      keys := keysMembers (o + 1 + ws0.length) ms } ::
      nodesMembers n (n + 1) (o + 1 + ws0.length) ms
/-- nodes of the items of the array node `a`; first free index `n`, items start at offset `o` -/
def nodesItems (a : Nat) : Nat → Nat → List Item → List Node
  | _, _, [] => []
  | n, o, (w1, v, w2) :: its =>
    nodesOf (some a) n (o + w1.length) v ++ nodesItems a (n + nodeCount v) (nextItem o w1 v w2 its) its
def nodesMembers (a : Nat) : Nat → Nat → List Member → List Node
  | _, _, [] => []
  | n, o, (w1, k, w2, w3, v, w4) :: ms =>
    nodesOf (some a) n (valOff o w1 k w2 w3) v ++
      nodesMembers a (n + nodeCount v) (nextMember o w1 k w2 w3 v w4 ms) ms
end

mutual
/-- the keys of every object are pairwise distinct after decoding, in the loader's own terms (`keyText`) -/
def KeysDistinct (src : Array UInt8) : Nat → Tree → Prop
  | _, .scalar _ => True
  | o, .arr ws0 its => DistinctItems src (o + 1 + ws0.length) its
  | o, .obj ws0 ms =>
    ((keysMembers (o + 1 + ws0.length) ms).map (keyText src)).Nodup ∧ DistinctMembers src (o + 1 + ws0.length) ms
def DistinctItems (src : Array UInt8) : Nat → List Item → Prop
  | _, [] => True
  | o, (w1, v, w2) :: its => KeysDistinct src (o + w1.length) v ∧ DistinctItems src (nextItem o w1 v w2 its) its
def DistinctMembers (src : Array UInt8) : Nat → List Member → Prop
  | _, [] => True
  | o, (w1, k, w2, w3, v, w4) :: ms =>
    KeysDistinct src (valOff o w1 k w2 w3) v ∧ DistinctMembers src (nextMember o w1 k w2 w3 v w4 ms) ms
end

mutual
theorem nodesOf_length (parent : Option Nat) : (v : Tree) → (n o : Nat) → (nodesOf parent n o v).length = nodeCount v
  | .scalar _, _, _ => by simp [nodesOf, nodeCount]
  | .arr ws0 its, n, o => by
    simp only [nodesOf, nodeCount, List.length_cons, nodesItems_length n its]; omega
  | .obj ws0 ms, n, o => by
    simp only [nodesOf, nodeCount, List.length_cons, nodesMembers_length n ms]; omega
theorem nodesItems_length (a : Nat) : (its : List Item) → (n o : Nat) → (nodesItems a n o its).length = countItems its
  | [], _, _ => by simp [nodesItems, countItems]
  | (w1, v, w2) :: its, n, o => by
    simp only [nodesItems, countItems, List.length_append, nodesOf_length (some a) v, nodesItems_length a its]
theorem nodesMembers_length (a : Nat) : (ms : List Member) → (n o : Nat) →
    (nodesMembers a n o ms).length = countMembers ms
  | [], _, _ => by simp [nodesMembers, countMembers]
  | (w1, k, w2, w3, v, w4) :: ms, n, o => by
    simp only [nodesMembers, countMembers, List.length_append, nodesOf_length (some a) v, nodesMembers_length a ms]
end

/-! ### the events of a tree are the events of a value (`Loader.Value`) with table `nodesOf` -/

def kindOf : Tree → NK
  | .scalar _ => .lit
  | .arr _ _ => .arr
  | .obj _ _ => .obj

/-- the key entry the loader records for the member key `k` after white space `w1` at offset `o` -/
abbrev kspan (o : Nat) (w1 k : List Cls) : Nat × Nat × Bool := (o + w1.length, o + w1.length + k.length - 1, false)

theorem nl_nlEvs : ∀ (ws : List Cls) (o : Nat), NL (nlEvs o ws)
  | [], _ => NL.nil
  | c :: cs, o => by
    rw [nlEvs]
    refine NL.append ?_ (nl_nlEvs cs (o + 1))
    split
    · intro e he; rw [List.mem_singleton.mp he]
    · exact NL.nil

mutual
theorem value_spec (src : Array UInt8) : (v : Tree) → (o : Nat) → KeysDistinct src o v →
    Value src (schemaEvsAt o v) (fun par n => nodesOf par n o v)
  | .scalar tok, o, _ => Value.lit o o o (o + tok.length - 1)
  | .arr ws0 its, o, hd => by
    simp only [schemaEvsAt, nodesOf]
    exact Items.value _ rfl (nl_nlEvs ws0 (o + 1))
      (items_spec src its o (o + 1 + ws0.length) (by simpa [KeysDistinct] using hd))
  | .obj ws0 ms, o, hd => by
    obtain ⟨hk, hd'⟩ : ((keysMembers (o + 1 + ws0.length) ms).map (keyText src)).Nodup ∧
        DistinctMembers src (o + 1 + ws0.length) ms := by simpa [KeysDistinct] using hd
    simp only [schemaEvsAt, nodesOf]
    exact Members.value _ rfl (nl_nlEvs ws0 (o + 1)) (members_spec src ms o (o + 1 + ws0.length) hd') hk
theorem items_spec (src : Array UInt8) : (its : List Item) → (x o : Nat) → DistinctItems src o its →
    Items src (evsItems x o its) (fun n => idxItems n its) (fun a n => nodesItems a n o its)
  | [], x, o, _ => Items.nil x o
  | (w1, v, w2) :: its, x, o, hd => by
    obtain ⟨hdv, hdi⟩ : KeysDistinct src (o + w1.length) v ∧ DistinctItems src (nextItem o w1 v w2 its) its := by
      simpa [DistinctItems] using hd
    simp only [evsItems, idxItems, nodesItems]
    exact Items.cons (c := nodeCount v) (cn := fun par n => nodesOf par n _ v) (idx := fun n => idxItems n its)
      (nodes := fun a n => nodesItems a n _ its) _ _ _ _ (nl_nlEvs w1 o) (value_spec src v (o + w1.length) hdv)
      (fun par n => nodesOf_length par v n _) (nl_nlEvs w2 _) (items_spec src its x (nextItem o w1 v w2 its) hdi)
theorem members_spec (src : Array UInt8) : (ms : List Member) → (x o : Nat) → DistinctMembers src o ms →
    Members src (evsMembers x o ms) (fun n => idxMembers n ms) (keysMembers o ms) (fun a n => nodesMembers a n o ms)
  | [], x, o, _ => Members.nil x o
  | (w1, k, w2, w3, v, w4) :: ms, x, o, hd => by
    obtain ⟨hdv, hdi⟩ : KeysDistinct src (valOff o w1 k w2 w3) v ∧
        DistinctMembers src (nextMember o w1 k w2 w3 v w4 ms) ms := by
      simpa [DistinctMembers] using hd
    simp only [evsMembers, idxMembers, keysMembers, nodesMembers]
    exact Members.cons (c := nodeCount v) (cn := fun par n => nodesOf par n _ v) (idx := fun n => idxMembers n ms)
      (nodes := fun a n => nodesMembers a n _ ms) _ _ _ _ _ _ _ _ (nl_nlEvs w1 o) (nl_nlEvs w2 _) (nl_nlEvs w3 _)
      (value_spec src v (valOff o w1 k w2 w3) hdv) (fun par n => nodesOf_length par v n _) (nl_nlEvs w4 _)
      (members_spec src ms x (nextMember o w1 k w2 w3 v w4 ms) hdi)
end

theorem items_run (src : Array UInt8) : (its : List Item) → (x a : Nat) → (na : Node) → (L : List Node) → (o : Nat) →
    (r : Option Nat) → L[a]? = some na → na.kind = .arr → na.waiting = false → DistinctItems src o its →
    Run src (evsItems x o its) L (some a) r
      (L.set a { na with children := na.children ++ idxItems L.length its } ++ nodesItems a L.length o its)
      na.parent r :=
  fun its x a na L o r hn hk hw hd => items_spec src its x o hd a na L r hn hk hw

theorem members_run (src : Array UInt8) : (ms : List Member) → (x a : Nat) → (na : Node) → (L : List Node) →
    (o : Nat) → (r : Option Nat) → L[a]? = some na → na.kind = .obj → na.waiting = false →
    ((na.keys ++ keysMembers o ms).map (keyText src)).Nodup → DistinctMembers src o ms →
    Run src (evsMembers x o ms) L (some a) r
      (L.set a { na with children := na.children ++ idxMembers L.length ms, keys := na.keys ++ keysMembers o ms }
        ++ nodesMembers a L.length o ms)
      na.parent r :=
  fun ms x a na L o r hn hk hw hnd hd => members_spec src ms x o hd a na L r hn hk hw hnd

/-! ### the whole document -/

theorem doc_run (src : Array UInt8) (v : Tree) (ws0 ws1 : List Cls) (hd : KeysDistinct src ws0.length v) :
    Run src (nlEvs 0 ws0 ++ (schemaEvsAt ws0.length v ++ nlEvs (ws0.length + v.render.length) ws1))
      [] none none (nodesOf none 0 ws0.length v) none (some 0) :=
  (value_spec src v ws0.length hd).doc (nl_nlEvs ws0 0) (nl_nlEvs ws1 _)

theorem core_init : Core {} [] none none := ⟨rfl, rfl, rfl, rfl⟩

/-- **C16 (loader), event-list form.** On the events of a plain-JSON value tree `v` (any nesting, width, layout with
line breaks; leading / trailing white space `ws0` / `ws1`) whose objects have pairwise distinct decoded keys, `load`
(the fold of `step` over the event list) succeeds; the root is node 0 and the node table is exactly `nodesOf`:
one node per value in pre-order, kinds, parents, children and keys in source order, key and literal spans,
no rules, no comment. (No validity assumption on the tokens is needed on the loader's side.) -/
theorem C16_load_mirrors_tree (src : Array UInt8) (v : Tree) (ws0 ws1 : List Cls)
    (hd : KeysDistinct src ws0.length v) :
    ∃ st, load src (nlEvs 0 ws0 ++ (schemaEvsAt ws0.length v ++ nlEvs (ws0.length + v.render.length) ws1)) = .ok st ∧
      st.root = some 0 ∧ st.nodes.toList = nodesOf none 0 ws0.length v ∧ st.leaf = none := by
  obtain ⟨st, h, hn, hl, hr, _⟩ := doc_run src v ws0 ws1 hd {} core_init
  exact ⟨st, h, hr, hn, hl⟩

/-- **C16, end to end (scanner model, then loader model).** A schema text `bs` that is the rendering of a valid
plain-JSON tree is scanned by `scanAll` into events on which `load` builds exactly `nodesOf` of the tree. -/
theorem C16_scan_load_mirrors_tree (v : Tree) (hv : v.Valid) (ws0 ws1 : List Cls)
    (h0 : SchemaScan.IsWs ws0) (h1 : SchemaScan.IsWs ws1)
    (bs : List UInt8) (hbs : bs.map SchemaScan.classify = ws0 ++ (v.render ++ ws1))
    (hd : KeysDistinct bs.toArray ws0.length v) :
    ∃ evs st, SchemaScan.scanAll bs = .ok evs ∧ load bs.toArray evs = .ok st ∧
      st.root = some 0 ∧ st.nodes.toList = nodesOf none 0 ws0.length v := by
  obtain ⟨st, h, hr, hn, _⟩ := C16_load_mirrors_tree bs.toArray v ws0 ws1 hd
  exact ⟨_, st, SchemaScan.C06_schema_events_of_tree v hv ws0 ws1 h0 h1 bs hbs, h, hr, hn⟩

/-! ### the interleaved loop `loadLoop` / `loadText` -/

/-- on the events the scanner emits, the interleaved loop is the fold of `step` over them (loader errors shown) -/
theorem loadLoop_eq_fold (src : Array UInt8) {data : Array Cls} {sc : SchemaScan.Sc} {evs : List Ev}
    (h : SchemaScan.Emits data sc evs) :
    ∀ (fuel : Nat) (st : St), evs.length < fuel →
      loadLoop src data fuel sc st = (evs.foldlM (step src) st).mapError showLErr := by
  induction h with
  | nil hn =>
    intro fuel st hf
    cases fuel with
    | zero => cases hf
    | succ f => rw [loadLoop]; simp only [hn.next]; rfl
  | cons hn _ ih =>
    intro fuel st hf
    cases fuel with
    | zero => cases hf
    | succ f =>
      rw [loadLoop]
      simp only [hn.next, List.foldlM_cons]
      cases hs : step src st _ with
      | error le => rfl
      | ok st1 => exact ih f st1 (by simpa using hf)

/-- `loadText` on a text whose classes the scanner turns into `evs` is the fold of `step` over `evs` (loader errors
shown); the fuel `loadText` takes suffices for any such text (`Emits.length_init`) -/
theorem loadText_eq_fold {bs : List UInt8} {cs : List Cls} {evs : List Ev} (hcls : bs.map SchemaScan.classify = cs)
    (h : SchemaScan.Emits cs.toArray {} evs) :
    loadText bs = (evs.foldlM (step bs.toArray) {}).mapError showLErr := by
  unfold loadText
  simp only [hcls]
  exact loadLoop_eq_fold _ h _ {} h.length_init

theorem loadText_of_emits {bs : List UInt8} {cs : List Cls} {evs : List Ev} {st : St}
    (hcls : bs.map SchemaScan.classify = cs) (h : SchemaScan.Emits cs.toArray {} evs)
    (hfold : evs.foldlM (step bs.toArray) {} = .ok st) :
    loadText bs = .ok st := by
  rw [loadText_eq_fold hcls h, hfold]; rfl

/-- **C16, end to end (interleaved form).** `loadText` — `Scanner.Next()` and the loader step by step, as
`doLoad` runs them — on the rendering of a valid plain-JSON tree builds exactly `nodesOf` of the tree. -/
theorem C16_loadText_mirrors_tree (v : Tree) (hv : v.Valid) (ws0 ws1 : List Cls)
    (h0 : SchemaScan.IsWs ws0) (h1 : SchemaScan.IsWs ws1)
    (bs : List UInt8) (hbs : bs.map SchemaScan.classify = ws0 ++ (v.render ++ ws1))
    (hd : KeysDistinct bs.toArray ws0.length v) :
    ∃ st, loadText bs = .ok st ∧ st.root = some 0 ∧ st.nodes.toList = nodesOf none 0 ws0.length v := by
  obtain ⟨st, h, hr, hn, _⟩ := C16_load_mirrors_tree bs.toArray v ws0 ws1 hd
  exact ⟨st, loadText_of_emits hbs (SchemaScan.emits_of_tree v hv ws0 ws1 h0 h1) h, hr, hn⟩

#print axioms C16_load_mirrors_tree
#print axioms C16_scan_load_mirrors_tree
#print axioms C16_loadText_mirrors_tree

end Loader
