import JSight.ShortE2ELinks
import JSight.E2EThm
import JSight.OrRuleSetProofs
/-!
C03 at TEXT level, assembly: root text and added type texts of the class `SE.BST` (leaves: scalars or type shortcuts
`@A`, `@A | @B`), document text = one JSON value in any white space.  When the check stage passes, the whole pipeline
`E2E.validateText` answers `acc` / `rej` according to the specification `VK.shape` of the validator machine on

* the validator schema `RE.vkOf opt t` of the root tree (a shortcut leaf is the reference node `.ref names none`),
* the table `RE.envB tys`: every added type under its name, as the validator schema of its tree.
-/
namespace RE
open SE (BST BItem BMember TypeText namesOf cnOf cnItems cnMembers typesOf typeTexts docText TextOK TypesOK)
open Compile

mutual
/-- the validator schema of a tree with shortcut leaves -/
def vkOf (opt : Bool) : BST → VK.S Lit
  | .scalar tok => .lit (.node { kind := E2E.kindOf tok, ex := tok, nul := false, rules := [] })
  | .short f as sps => .ref (namesOf f as sps) none
  | .arr _ its => .arr (vkItems opt its)
  | .obj _ ms => .obj (vkMembers opt ms) [] .none
def vkItems (opt : Bool) : List BItem → List (VK.S Lit)
  | [] => []
  | (_, v, _) :: its => vkOf opt v :: vkItems opt its
def vkMembers (opt : Bool) : List BMember → List (String × Bool × VK.S Lit)
  | [] => []
  | (_, k, _, _, v, _) :: ms => (E2E.keyOf k, !opt, vkOf opt v) :: vkMembers opt ms
end

mutual
theorem toVK_b (opt : Bool) : (t : BST) → (path : String) → toVK path (cnOf opt t) = vkOf opt t
  | .scalar _, _ => rfl
  | .short _ _ _, _ => by simp [cnOf, toVK, vkOf]
  | .arr _ its, path => by simp [cnOf, toVK, vkOf, toVKItems_b opt its path 0]
  | .obj _ ms, path => by
    simp [cnOf, toVK, vkOf, toVKProps_b opt ms path 0, toVKShorts_b opt ms path 0, toAdd]
theorem toVKItems_b (opt : Bool) : (its : List BItem) → (path : String) → (i : Nat) →
    toVKItems path i (cnItems opt its) = vkItems opt its
  | [], _, _ => rfl
  | (_, v, _) :: its, path, i => by
    simp [cnItems, toVKItems, vkItems, toVK_b opt v, toVKItems_b opt its path (i + 1)]
theorem toVKProps_b (opt : Bool) : (ms : List BMember) → (path : String) → (i : Nat) →
    toVKProps path i false (cnMembers opt ms) = vkMembers opt ms
  | [], _, _ => rfl
  | (_, k, _, _, v, _) :: ms, path, i => by
    simp [cnMembers, toVKProps, vkMembers, toVK_b opt v, toVKProps_b opt ms path (i + 1)]
theorem toVKShorts_b (opt : Bool) : (ms : List BMember) → (path : String) → (i : Nat) →
    toVKProps path i true (cnMembers opt ms) = []
  | [], _, _ => rfl
  | (_, k, _, _, v, _) :: ms, path, i => by simp [cnMembers, toVKProps, toVKShorts_b opt ms path (i + 1)]
end

mutual
theorem synth_b (opt : Bool) : (t : BST) → (path : String) → synth path (cnOf opt t) = []
  | .scalar _, _ => rfl
  | .short _ _ _, _ => rfl
  | .arr _ its, path => by simp [cnOf, synth, synthItems_b opt its path 0]
  | .obj _ ms, path => by simp [cnOf, synth, synthProps_b opt ms path 0]
theorem synthItems_b (opt : Bool) : (its : List BItem) → (path : String) → (i : Nat) →
    synthItems path i (cnItems opt its) = []
  | [], _, _ => rfl
  | (_, v, _) :: its, path, i => by simp [cnItems, synthItems, synth_b opt v, synthItems_b opt its path (i + 1)]
theorem synthProps_b (opt : Bool) : (ms : List BMember) → (path : String) → (i : Nat) →
    synthProps path i (cnMembers opt ms) = []
  | [], _, _ => rfl
  | (_, k, _, _, v, _) :: ms, path, i => by
    simp [cnMembers, synthProps, synth_b opt v, synthProps_b opt ms path (i + 1)]
end

mutual
theorem shortcutsOK_b (ts : Types) (opt : Bool) : (t : BST) → shortcutsOK ts (cnOf opt t) = true
  | .scalar _ => rfl
  | .short _ _ _ => rfl
  | .arr _ its => by simp [cnOf, shortcutsOK, shortcutsItems_b ts opt its]
  | .obj _ ms => by simp [cnOf, shortcutsOK, shortcutsProps_b ts opt ms]
theorem shortcutsItems_b (ts : Types) (opt : Bool) : (its : List BItem) → shortcutsItems ts (cnItems opt its) = true
  | [] => rfl
  | (_, v, _) :: its => by simp [cnItems, shortcutsItems, shortcutsOK_b ts opt v, shortcutsItems_b ts opt its]
theorem shortcutsProps_b (ts : Types) (opt : Bool) : (ms : List BMember) → shortcutsProps ts (cnMembers opt ms) = true
  | [] => rfl
  | (_, k, _, _, v, _) :: ms => by
    simp [cnMembers, shortcutsProps, shortcutsOK_b ts opt v, shortcutsProps_b ts opt ms]
end

mutual
theorem rawKeyTypes_b (ts : Types) (opt : Bool) : (t : BST) → rawKeyTypes ts (cnOf opt t) = false
  | .scalar _ => rfl
  | .short _ _ _ => rfl
  | .arr _ its => by simp [cnOf, rawKeyTypes, rawKeyItems_b ts opt its]
  | .obj _ ms => by simp [cnOf, rawKeyTypes, rawKeyProps_b ts opt ms]
theorem rawKeyItems_b (ts : Types) (opt : Bool) : (its : List BItem) → rawKeyItems ts (cnItems opt its) = false
  | [] => rfl
  | (_, v, _) :: its => by simp [cnItems, rawKeyItems, rawKeyTypes_b ts opt v, rawKeyItems_b ts opt its]
theorem rawKeyProps_b (ts : Types) (opt : Bool) : (ms : List BMember) → rawKeyProps ts (cnMembers opt ms) = false
  | [] => rfl
  | (_, k, _, _, v, _) :: ms => by simp [cnMembers, rawKeyProps, rawKeyTypes_b ts opt v, rawKeyProps_b ts opt ms]
end

/-- the validator's table: every added type under its name -/
def envB (tys : List TypeText) : VK.Env Lit := tys.map fun x => (x.1, vkOf false x.2.2.1)

theorem flatMap_synth : (tys : List TypeText) → (typesOf tys).flatMap (fun t => synth t.1 t.2) = []
  | [] => rfl
  | x :: rest => by
    have := flatMap_synth rest
    simp only [typesOf, List.map_cons, List.flatMap_cons, synth_b, List.nil_append] at this ⊢
    exact this

theorem envOf_b (opt : Bool) (t : BST) (tys : List TypeText) : envOf (cnOf opt t) (typesOf tys) = envB tys := by
  simp only [envOf, synth_b, flatMap_synth, List.append_nil]
  simp [typesOf, envB, toVK_b]

theorem shortcuts_types (ts : Types) : (tys : List TypeText) →
    (typesOf tys).all (fun t => shortcutsOK ts t.2) = true
  | [] => rfl
  | x :: rest => by
    have := shortcuts_types ts rest
    simp only [typesOf, List.map_cons, List.all_cons, shortcutsOK_b, Bool.true_and] at this ⊢
    exact this

theorem rawKey_types (ts : Types) : (tys : List TypeText) →
    (typesOf tys).any (fun t => rawKeyTypes ts t.2) = false
  | [] => rfl
  | x :: rest => by
    have := rawKey_types ts rest
    simp only [typesOf, List.map_cons, List.any_cons, rawKeyTypes_b, Bool.false_or] at this ⊢
    exact this

/-- **assembly**: scanner + loader + compile + check + JSON scanner + validator machine on the texts = the
specification of the validator machine on `vkOf` / `envB` -/
theorem text_level_vk (w0 : SE.Bytes) (t : BST) (w1 : SE.Bytes) (ht : TextOK w0 t w1) (tys : List TypeText)
    (htys : TypesOK tys) (hn : CL.typeNamesOK (typeTexts tys) = true) (opt : Bool)
    (hc : Compile.check (cnOf opt t) (typesOf tys) = .ok ())
    (d : VPos.T UInt8) (hd : (VPos.toJA JsonScan.classify d).Valid) (ws0 ws1 : List UInt8)
    (hw0 : JsonScan.IsWs (ws0.map JsonScan.classify)) (hw1 : JsonScan.IsWs (ws1.map JsonScan.classify)) :
    E2E.validateText (docText w0 t w1) (typeTexts tys) (ws0 ++ (d.render VPos.byteSym ++ ws1)) opt
      = if VK.shape (envB tys) litOK (keyOK (typesOf tys)) (vkOf opt t) (E2E.docOf d) then .acc else .rej := by
  simp only [CL.typeNamesOK, Bool.and_eq_true, decide_eq_true_eq] at hn
  rw [E2E.validateText_loaded (SE.loadSchema_stree w0 t w1 ht opt) hn.1 hn.2 (SE.loadTypes_stree tys htys), hc,
    E2E.afterCheck_valid _ _ (by simp [shortcutsOK_b, shortcuts_types]) (by simp [rawKeyTypes_b, rawKey_types])
      d hd ws0 ws1 hw0 hw1, envOf_b, toVK_b]

end RE
