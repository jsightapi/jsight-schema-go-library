import JSight.AnnotQThm
import JSight.SchemaEventsJson
/-!
The list value of an `enum` / `or` rule is recorded by the loader as the text from `[` to `]` and read AGAIN by the
constraint constructors with the JSON scanner (`Compile.scalarItems`). Bridge: a scalar token of the SCHEMA scanner's token
automaton is a scalar token of the JSON scanner's (`isScalar_toJ`: the schema automaton is the JSON automaton without
exponents), blanks of an annotation are JSON white space, so the JSON scanner model on the recorded text delivers one
item per written item and `scalarItems` returns exactly the written item tokens (`scalarItems_list`).
-/
namespace SchemaScan

/-- token states of the schema scanner as token states of the JSON scanner -/
def stJ : St → JsonScan.St
  | .inString => .inString | .esc => .esc | .u0 => .u0 | .u1 => .u1 | .u2 => .u2 | .u3 => .u3
  | .neg => .neg | .d1 => .d1 | .d0 => .d0 | .dot => .dot | .dot0 => .dot0
  | .t => .t | .tr => .tr | .tru => .tru | .f => .f | .fa => .fa | .fal => .fal | .fals => .fals
  | .n => .n | .nu => .nu | .nul => .nul | .endValue => .endValue
  | _ => .foundRoot

def isU : St → Bool | .u0 | .u1 | .u2 | .u3 => true | _ => false

/-- inside a scalar token the return stack holds `inString` exactly while a `\uXXXX` escape is read -/
def TokInv (st : St) (r : List St) : Prop := if isU st then r = [.inString] else r = []

theorem isHex_toJ (c : Cls) : (toJ c).isHex = c.isHex := by cases c <;> rfl

theorem silent_toJ (st : St) (r : List St) (u : Bool) (c : Cls) (st' : St) (r' : List St) (u' : Bool)
    (h : silent st r u c = some (st', r', u')) (hi : TokInv st r) :
    JsonScan.silent (stJ st) u (toJ c) = some (stJ st', u') ∧ TokInv st' r' := by
  unfold silent at h
  split at h
  case h_22 => cases h
  all_goals simp only [TokInv, isU, Bool.false_eq_true, if_false, if_true] at hi
  all_goals cases hi
  -- inside a string: a byte that is not a quote, a backslash or a control character stays there
  case h_1 =>
    split at h <;> cases h
    · exact ⟨rfl, rfl⟩
    · exact ⟨rfl, rfl⟩
    · cases c <;> first | exact ⟨rfl, rfl⟩ | contradiction
  -- the four hex digits of `\uXXXX`
  case h_3 | h_4 | h_5 | h_6 =>
    split at h <;> cases h
    exact ⟨by simp only [stJ, JsonScan.silent, isHex_toJ, *, if_true], rfl⟩
  all_goals split at h <;> cases h
  all_goals exact ⟨rfl, rfl⟩
theorem silentRun_toJ : ∀ (tok : List Cls) (st : St) (r : List St) (u : Bool) (st' : St) (r' : List St) (u' : Bool),
    silentRun st r u tok = some (st', r', u') → TokInv st r →
    JsonScan.silentRun (stJ st) u (tok.map toJ) = some (stJ st', u') ∧ TokInv st' r'
  | [], st, r, u, st', r', u', h, hi => by
    simp only [silentRun, Option.some.injEq, Prod.mk.injEq] at h
    obtain ⟨rfl, rfl, rfl⟩ := h
    exact ⟨rfl, hi⟩
  | c :: cs, st, r, u, st', r', u', h, hi => by
    simp only [silentRun] at h
    cases hs : silent st r u c with
    | none => rw [hs] at h; cases h
    | some p =>
      obtain ⟨s1, r1, u1⟩ := p
      rw [hs] at h
      obtain ⟨h1, hi1⟩ := silent_toJ st r u c s1 r1 u1 hs hi
      obtain ⟨h2, hi2⟩ := silentRun_toJ cs s1 r1 u1 st' r' u' h hi1
      refine ⟨?_, hi2⟩
      simp only [List.map_cons, JsonScan.silentRun, h1]
      exact h2

/-- **a scalar token of the schema scanner is a scalar token of the JSON scanner** -/
theorem isScalar_toJ {tok : List Cls} (h : IsScalar tok) : JsonScan.IsScalar (tok.map toJ) := by
  obtain ⟨c, tl, st0, unf0, stE, rfl, hs, hr, hp⟩ := h
  have hi0 : TokInv st0 [] := by
    cases c <;> simp [litStart] at hs <;> obtain ⟨rfl, rfl⟩ := hs <;> rfl
  obtain ⟨h1, _⟩ := silentRun_toJ tl st0 [] unf0 stE [] false hr hi0
  refine ⟨toJ c, tl.map toJ, stJ st0, unf0, stJ stE, rfl, ?_, h1, ?_⟩
  · cases c <;> simp [litStart] at hs <;> obtain ⟨rfl, rfl⟩ := hs <;> rfl
  · cases stE <;> simp [PV] at hp <;> rfl

theorem ablank_toJ {a : Ann} {ws : List Cls} (h : ABlank a ws) : JsonScan.IsWs (ws.map toJ) := by
  intro c hc
  obtain ⟨x, hx, rfl⟩ := List.mem_map.1 hc
  rcases okBlank_cases (h x hx) with hs | ⟨_, rfl⟩
  · cases x <;> simp [Cls.isSpTab] at hs <;> rfl
  · rfl

/-- the items of a list value as a JSON array with layout -/
def itemsJA (its : List CItem) : List (List JsonScan.Cls × JsonScan.JA × List JsonScan.Cls) :=
  its.map fun it => (it.1.map toJ, .scalar (it.2.1.map toJ), it.2.2.map toJ)

theorem itemsJA_isEmpty (its : List CItem) : (itemsJA its).isEmpty = its.isEmpty := by
  cases its <;> rfl

theorem renderCItems_toJ : ∀ (its : List CItem), (renderCItems its).map toJ = JsonScan.renderItems (itemsJA its)
  | [] => rfl
  | (w1, t, w2) :: its => by
    have ih := renderCItems_toJ its
    have e : itemsJA ((w1, t, w2) :: its) = (w1.map toJ, .scalar (t.map toJ), w2.map toJ) :: itemsJA its := rfl
    simp only [renderCItems, e, JsonScan.renderItems, JsonScan.JA.render, List.map_append, ih, itemsJA_isEmpty]
    cases its <;> rfl

theorem validItemsJA (a : Ann) : ∀ (its : List CItem), CItemsValid a its → JsonScan.ValidItems (itemsJA its)
  | [], _ => trivial
  | (w1, t, w2) :: its, hv => by
    obtain ⟨h1, h2, h3⟩ : ABlank a w1 ∧ IsScalar t ∧ ABlank a w2 := hv (w1, t, w2) (by simp)
    have e : itemsJA ((w1, t, w2) :: its) = (w1.map toJ, .scalar (t.map toJ), w2.map toJ) :: itemsJA its := rfl
    rw [e]
    exact ⟨ablank_toJ h1, by simpa [JsonScan.JA.Valid] using isScalar_toJ h2, ablank_toJ h3,
      validItemsJA a its (fun z hz => hv z (by simp [hz]))⟩

end SchemaScan

namespace Lay
open SchemaScan

/-- the items of a list value and the closing bracket, as bytes -/
def itemsText : List GItem → List UInt8
  | [] => [93]
  | i :: is => i.w1 ++ (i.tok ++ (i.w2 ++ ((if is.isEmpty then [] else [44]) ++ itemsText is)))

theorem renderGItems_itemsText : ∀ (is : List GItem) (i : GItem), renderGItems (i :: is) ++ [93] = itemsText (i :: is)
  | [], i => by simp [renderGItems, itemsText]
  | i' :: is, i => by
    have ih := renderGItems_itemsText is i'
    simp only [renderGItems, itemsText, List.append_assoc, List.cons_append, List.isEmpty_cons, Bool.false_eq_true,
      if_false, List.nil_append] at ih ⊢
    rw [ih]

theorem drop_take_mid (pre t post : List UInt8) : ((pre ++ (t ++ post)).drop pre.length).take t.length = t := by
  rw [List.drop_left, List.take_left]

/-- reading the item tokens off the JSON scanner model's events of the recorded text -/
theorem go_items (txt : List UInt8) : ∀ (items : List GItem) (o : Nat) (pre post : List UInt8) (acc : List (List UInt8)),
    txt = pre ++ (itemsText items ++ post) → o = pre.length → (∀ i ∈ items, i.tok ≠ []) →
    Compile.scalarItems.go txt (JsonScan.evsItems 0 o (itemsJA (items.map GItem.cls))) acc
      = some (acc.reverse ++ items.map (·.tok))
  | [], o, pre, post, acc, _, _, _ => by
    simp [itemsJA, JsonScan.evsItems, Compile.scalarItems.go]
  | i :: is, o, pre, post, acc, ht, ho, hne => by
    have e : itemsJA ((i :: is).map GItem.cls)
        = ((i.w1.map classify).map toJ, .scalar ((i.tok.map classify).map toJ), (i.w2.map classify).map toJ)
            :: itemsJA (is.map GItem.cls) := rfl
    have hemp : (itemsJA (is.map GItem.cls)).isEmpty = is.isEmpty := by cases is <;> rfl
    have htl : 1 ≤ i.tok.length := by
      have := hne i (by simp)
      cases h : i.tok with
      | nil => exact absurd h this
      | cons _ _ => simp
    have ih := go_items txt is (o + i.w1.length + i.tok.length + i.w2.length + (if is.isEmpty then 0 else 1))
      (pre ++ (i.w1 ++ (i.tok ++ (i.w2 ++ (if is.isEmpty then [] else [44]))))) post
      (i.tok :: acc) (by rw [ht]; simp [itemsText]) (by
        subst ho
        cases is <;> simp [List.length_append] <;> omega) (fun z hz => hne z (by simp [hz]))
    have hslice : (txt.drop (o + i.w1.length)).take (o + i.w1.length + i.tok.length - 1 + 1 - (o + i.w1.length)) = i.tok := by
      have hl : o + i.w1.length + i.tok.length - 1 + 1 - (o + i.w1.length) = i.tok.length := by omega
      rw [hl, ht, ho]
      have e2 : pre ++ (itemsText (i :: is) ++ post)
          = (pre ++ i.w1) ++ (i.tok ++ (i.w2 ++ ((if is.isEmpty then [] else [44]) ++ itemsText is) ++ post)) := by
        simp [itemsText]
      rw [e2, show pre.length + i.w1.length = (pre ++ i.w1).length by simp]
      exact drop_take_mid _ _ _
    rw [e]
    simp only [JsonScan.evsItems, JsonScan.evsAt, JsonScan.JA.render, List.length_map, List.cons_append, List.nil_append,
      Compile.scalarItems.go, hslice, hemp]
    rw [ih]
    simp

/-- **the constraint constructors read back exactly the written item tokens** -/
theorem scalarItems_list (a : Ann) (b0 : List UInt8) (items : List GItem) (hv : (GVal.list b0 items).Valid a) :
    Compile.scalarItems (GVal.list b0 items).spell = some (items.map (·.tok)) := by
  have hq := GVal.valid_cls a _ hv
  have hne : ∀ i ∈ items, i.tok ≠ [] := fun i hi => scalar_ne (hv.2 i hi).2.1
  -- the recorded text as a JSON array with layout
  obtain ⟨w0, its, hqv, hsp, htxt⟩ : ∃ (w0 : List UInt8) (its : List GItem),
      (GVal.list b0 items).qv = .list (w0.map classify) (its.map GItem.cls) ∧ its = items ∧
      (GVal.list b0 items).spell = 91 :: (w0 ++ itemsText items) := by
    cases items with
    | nil => exact ⟨b0, [], rfl, rfl, by simp [GVal.spell, itemsText]⟩
    | cons i is => exact ⟨[], i :: is, rfl, rfl, by simp [GVal.spell, renderGItems_itemsText]⟩
  subst hsp
  rw [hqv] at hq
  obtain ⟨hve, hw0, hits⟩ := hq
  let v : JsonScan.JA := .arr ((w0.map classify).map toJ) (itemsJA (its.map GItem.cls))
  have hvv : v.Valid := by
    simp only [v, JsonScan.JA.Valid]
    exact ⟨ablank_toJ hw0, validItemsJA a _ hits⟩
  have hcls : (GVal.list b0 its).spell.map JsonScan.classify = v.render := by
    rw [map_classify_toJ, hve]
    simp only [v, JsonScan.JA.render, List.map_cons, List.map_append, renderCItems_toJ]
    rfl
  have hev := JsonScan.C06_events_of_tree false v hvv [] [] (fun _ h => absurd h List.not_mem_nil)
    (fun _ h => absurd h List.not_mem_nil)
  simp only [List.nil_append, List.append_nil, List.length_nil] at hev
  have hlen : (GVal.list b0 its).spell.length = v.render.length := by rw [← hcls, List.length_map]
  unfold Compile.scalarItems JsonScan.events
  rw [hcls, hlen, hev]
  simp only [v, JsonScan.evsAt, Nat.zero_add, List.length_map]
  exact (go_items _ its (1 + w0.length) (91 :: w0) [] [] (by rw [htxt]; simp) (by simp; omega) hne).trans (by simp)

end Lay
