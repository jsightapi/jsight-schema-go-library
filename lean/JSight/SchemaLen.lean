import JSight.SchemaGramLen
/-!
C14 (schema scanner): `Len` reports exactly where an embedded schema ends.

`SchemaScan.length` is the model of the Go schema scanner's `Length()` (scanner in length-computing mode, end of the
last event / `end-top` at the first foreign byte, trailing blanks trimmed).  For every plain-JSON value tree `v`
(any nesting, width, layout incl. line breaks) with leading white space `ws0` (spaces, tabs, line breaks; no comments):

* `C14_schema_len_whole`    : classes `ws0 ++ v.render ++ ws1`, `ws1` white space  ⟹  `length = |ws0| + |v.render|`;
* `C14_schema_len_embedded` : classes `ws0 ++ v.render ++ w ++ x :: rest`, `w` white space, `x` foreign (not white space, not `/`,
  not `#`), and — only when `x` is glued to the value (`w = []`) — `x` does not continue the token
  (`adjOk (v.endSt) x`), `rest` arbitrary  ⟹  `length = |ws0| + |v.render|`.
-/
namespace SchemaScan
open Len in
/-- **C14 (schema scanner), embedded schema**: the classes of the input are `ws0 ++ v.render ++ w ++ x :: rest` — leading
white space, a plain-JSON value (any tree, any layout incl. line breaks), white space `w`, a foreign byte `x` (not white
space, not `/`, not `#`), anything.  If `x` is glued to the value (`w = []`) it must not continue the value's last token
(`adjOk`: after a number no digit / `.` / `e` / `E`, with the model's exact exceptions).  Then `Len` is the offset just
after the last byte of the value. -/
theorem C14_schema_len_embedded (v : Tree) (hv : v.Valid) (ws0 w : List Cls) (h0 : IsWs ws0) (hw : IsWs w)
    (x : Cls) (rest : List Cls) (hx : x.isForeign = true) (hadj : w = [] → adjOk v.endSt x = true)
    (bs : List UInt8) (hbs : bs.map classify = ws0 ++ (v.render ++ (w ++ x :: rest))) :
    length bs = .ok (ws0.length + v.render.length) := by
  have hat : At (bs.map classify).toArray 0 (ws0 ++ (v.render ++ (w ++ x :: rest))) := At_toArray _ [] _ hbs
  have hg := v.gram hv ws0.length
  -- a plain tree is never a shortcut (`LK.ofLit_ne`, `hg.pv`): what `lenRun_embedded` asks behind a shortcut is void
  obtain ⟨evs, f, L, hrun, hL, lo, hi⟩ := Gram.lenRun_embedded (Gram.Layout.of_ws h0 0) hg (Gram.Layout.of_ws hw _)
    (absurd · (Gram.LK.ofLit_ne _)) x rest hx (fun h _ => hadj h)
    (fun _ nm h => by have := hg.pv (Gram.LK.ofLit_ne _); rw [h] at this; cases nm <;> cases this) hat
  rw [length_of_drain bs hrun hL, trim_text v.render hg.ends.1 ws0 w (x :: rest) hw hat L (hg.rtrimLen_lit ▸ lo) hi]

open Len in
/-- **C14 (schema scanner), schema filling the whole input**: the classes of the input are `ws0 ++ v.render ++ ws1` with
white space `ws0`, `ws1`.  Then `Len` is the offset just after the last byte of the value: the input length minus the
trailing white space. -/
theorem C14_schema_len_whole (v : Tree) (hv : v.Valid) (ws0 ws1 : List Cls) (h0 : IsWs ws0) (h1 : IsWs ws1)
    (bs : List UInt8) (hbs : bs.map classify = ws0 ++ (v.render ++ ws1)) :
    length bs = .ok (ws0.length + v.render.length) := by
  have hat : At (bs.map classify).toArray 0 (ws0 ++ (v.render ++ ws1)) := At_toArray _ [] _ hbs
  have hg := v.gram hv ws0.length
  obtain ⟨evs, f, L, hrun, hL, lo, hi⟩ := Gram.lenRun_whole (Gram.Layout.of_ws h0 0) hg (Gram.Layout.of_ws h1 _)
    (absurd · (Gram.LK.ofLit_ne _)) hat (by rw [hbs]; simp only [List.size_toArray, List.length_append]; omega)
  rw [length_of_drain bs hrun hL,
    trim_text v.render hg.ends.1 ws0 ws1 [] h1 (by rwa [List.append_nil]) L (hg.rtrimLen_lit ▸ lo) hi]

/-- the embedded case for a foreign byte that is no digit, `.`, `e`, `E`: no side condition on gluing -/
theorem C14_schema_len_embedded_simple (v : Tree) (hv : v.Valid) (ws0 w : List Cls) (h0 : IsWs ws0) (hw : IsWs w)
    (x : Cls) (rest : List Cls) (hx : x.isForeign = true) (hn : x.isNumCont = false)
    (bs : List UInt8) (hbs : bs.map classify = ws0 ++ (v.render ++ (w ++ x :: rest))) :
    length bs = .ok (ws0.length + v.render.length) :=
  C14_schema_len_embedded v hv ws0 w h0 hw x rest hx (fun _ => Len.adjOk_of_not_numCont _ x hn) bs hbs

/-- the embedded case with at least one blank between the value and the foreign byte: any foreign byte -/
theorem C14_schema_len_embedded_separated (v : Tree) (hv : v.Valid) (ws0 w : List Cls) (h0 : IsWs ws0) (c : Cls)
    (hw : IsWs (c :: w)) (x : Cls) (rest : List Cls) (hx : x.isForeign = true)
    (bs : List UInt8) (hbs : bs.map classify = ws0 ++ (v.render ++ ((c :: w) ++ x :: rest))) :
    length bs = .ok (ws0.length + v.render.length) :=
  C14_schema_len_embedded v hv ws0 (c :: w) h0 hw x rest hx (fun h => by cases h) bs hbs

/-- the same for trees given by the JSON grammar (`Tree.Json`: strings, numbers without exponent, `true`/`false`/`null`) -/
theorem C14_schema_len_embedded_json (v : Tree) (hv : v.Json) (ws0 w : List Cls) (h0 : IsWs ws0) (hw : IsWs w)
    (x : Cls) (rest : List Cls) (hx : x.isForeign = true) (hadj : w = [] → adjOk v.endSt x = true)
    (bs : List UInt8) (hbs : bs.map classify = ws0 ++ (v.render ++ (w ++ x :: rest))) :
    length bs = .ok (ws0.length + v.render.length) :=
  C14_schema_len_embedded v (Tree.Json.valid v hv) ws0 w h0 hw x rest hx hadj bs hbs

theorem C14_schema_len_whole_json (v : Tree) (hv : v.Json) (ws0 ws1 : List Cls) (h0 : IsWs ws0) (h1 : IsWs ws1)
    (bs : List UInt8) (hbs : bs.map classify = ws0 ++ (v.render ++ ws1)) :
    length bs = .ok (ws0.length + v.render.length) :=
  C14_schema_len_whole v (Tree.Json.valid v hv) ws0 ws1 h0 h1 bs hbs

#print axioms C14_schema_len_embedded
#print axioms C14_schema_len_whole
#print axioms C14_schema_len_embedded_simple
#print axioms C14_schema_len_embedded_separated
#print axioms C14_schema_len_embedded_json
#print axioms C14_schema_len_whole_json

/-! ### non-vacuity, and the boundary of the side conditions -/

/-- the general theorem, instantiated: the sample schema of `SchemaEventsTree` followed by `⏎ GET /` -/
theorem sample_len_embedded : length (sampleBytes ++ [71, 69, 84, 32, 47]) = .ok (1 + sampleTree.render.length) :=
  C14_schema_len_embedded sampleTree sampleTree_valid [.sp] [.nl, .sp]
    (by simp [IsWs, Cls.isBlank, Cls.isSpace]) (by simp [IsWs, Cls.isBlank, Cls.isSpace, Cls.isNewLine])
    .nameo [.uE, .nameo, .sp, .slash] rfl (fun h => by cases h) _ (by decide)

theorem sample_len_whole : length sampleBytes = .ok (1 + sampleTree.render.length) :=
  C14_schema_len_whole sampleTree sampleTree_valid [.sp] [.nl, .sp]
    (by simp [IsWs, Cls.isBlank, Cls.isSpace]) (by simp [IsWs, Cls.isBlank, Cls.isSpace, Cls.isNewLine]) _ sample_classes

example : 1 + sampleTree.render.length = 51 := by decide

def lenOf (bs : List UInt8) : Option Nat := match length bs with | .ok n => some n | .error _ => none

-- evaluations of the model (`#guard`: tests, not proofs)
-- glued foreign bytes (instances of the theorem): `12x`, `{}x`, `[1,2]]`, `"ab"x`, `true1`, `01`, `1.5.x`
#guard lenOf [49, 50, 120] == some 2
#guard lenOf [123, 125, 120] == some 2
#guard lenOf [91, 49, 44, 50, 93, 93] == some 5
#guard lenOf [34, 97, 98, 34, 120] == some 4
#guard lenOf [116, 114, 117, 101, 49] == some 4
#guard lenOf [48, 49] == some 1
#guard lenOf [49, 46, 53, 46, 120] == some 3
-- excluded by `adjOk`: a glued byte that continues the number — `1.x`, `1ex` are errors, `123` is another number
#guard lenOf [49, 46, 120] == none
#guard lenOf [49, 101, 120] == none
#guard lenOf [49, 50, 51] == some 3
-- excluded by `isForeign`: `/` starts an annotation, `#` a comment; what follows decides:
-- `{} /x` is an error, `{} // x⏎y` counts the annotation (7), `{} #c⏎ x` counts the comment (5), `{} /` and `12/` give 2
#guard lenOf [123, 125, 32, 47, 120] == none
#guard lenOf [123, 125, 32, 47, 47, 32, 120, 10, 121] == some 7
#guard lenOf [123, 125, 32, 35, 99, 10, 32, 120] == some 5
#guard lenOf [123, 125, 32, 47] == some 2
#guard lenOf [49, 50, 47] == some 2

end SchemaScan
