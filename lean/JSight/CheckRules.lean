import JSight.RulesFull
/-!
# C08 model: the rule checker itself — what `Check` does with the RULES of one annotated node

One annotated node = its kind (`NKind`: the EXAMPLE's JSON kind, for containers the number of children, a type
shortcut `@t`, an or shortcut `@a | @b`), whether it is an object property, and the ORDERED list of
(rule name, rule value) as the loader meets them in the annotation. The rule name is the text after
`TrimSpaces().Unquote()` (`RuleNameSpelling.lean` / `C13_rule_name_spelling` cover that step); the rule value is
the value tree of the annotation (`Val`: scalar token with its raw bytes, `@name` shortcut, array, object).

`checkRules` runs, in the order the code runs, everything that looks only at the rules and the node kind:

1. the shortcut constraints a `@t` / `@a | @b` node starts with (`loader/shortcut.go`);
2. rule by rule (`ruleLoader.ruleValue`, `embedded_loader_for_rule*.go`): `or` (TypesList + Or constraints, then
   the members: a quoted type name or a rule-set, each rule-set LOADED AND COMPILED on the spot as an anonymous
   type — `orRuleSetLoader.makeTypeFromRuleSet`), `enum`, `allOf`, any other name with a literal value through
   `constraint.NewConstraintFromRule` (`constraint.go`: unknown name 601; the constructors `c_*.go`: 604, 605, 103,
   "Incorrect number value" = code 0), then `AddConstraint` (`base_node.go`: duplicate 501; `mixed_value_node.go`:
   the special cases for `type` / `or` on a shortcut node, modelled as coded — known finding K-C08-ref-type-or);
3. `compileNode` (`loader/compiler_basic.go`) step by step: `falseConstraints`, `orConstraint`, `enumConstraint`,
   `precisionConstraint`, `typeConstraint` (user type / `jsonTypesHandler` / `NewJsonType` / `SetRealType`),
   `allowedConstraintCheck`, `anyConstraint`, `exclusiveMinimum/MaximumConstraint` (folded into min / max BEFORE
   the pair check: fix F-25), `checkPairConstraints`, `optionalConstraints`, `emptyArray`;
4. `CompileAllOf` on the node (`compiler_all_of.go`: empty list 809, not an object 1117; the allOf constraint is
   deleted — the parents are assumed to resolve to object types, that is the link check's business, C09);
5. `checkCompatibilityOfConstraints` (`checker/check_schema.go`): every remaining constraint against the JSON
   type of the node (`compat` = `IsJsonTypeCompatible`; tied to the regenerated table by `compat_is_table`).

The result is the FIRST error code in code order, or `ok`. What comes after (link check, the EXAMPLE against
the rules, item counts of a non-empty array) belongs to C04 / C09 and is not part of this model.

The constraint map is represented by its lookup function (`CMap = CT → Option CV`): the pipeline reads it only
through `Has` / `Get` / `Len` / `Set` / `Delete`, the key-wise `Filter` of `falseConstraints` and the `Each` of the
compatibility check, all of whose failures carry the same code (`Gen.C08_cmap_uses_reviewed`,
`Props.C08.C08_lookup_perm`).

Oracles (data of the node, computed by the harness with the real standard library): which `regex` tokens are
JSON strings that Go's `regexp` compiles (`okRegex`), which named enum rules exist (`enumRules`).
-/
namespace CR

abbrev Bytes := List UInt8
abbrev Code := Nat

/-! ### values of the annotation -/

/-- a value as the loader sees it: a scalar token (raw bytes: quotes included), a `@name` shortcut, an array,
an object (keys after TrimSpaces/Unquote) -/
inductive Val
  | lit (tok : Bytes)
  | ref (name : Bytes)
  | arr (items : List Val)
  | obj (entries : List (Bytes × Val))

abbrev Rule := Bytes × Val

/-! ### vocabulary: how names and tokens are read -/

def n_minLength : Bytes := [109, 105, 110, 76, 101, 110, 103, 116, 104]
def n_maxLength : Bytes := [109, 97, 120, 76, 101, 110, 103, 116, 104]
def n_min : Bytes := [109, 105, 110]
def n_max : Bytes := [109, 97, 120]
def n_exclusiveMinimum : Bytes := [101, 120, 99, 108, 117, 115, 105, 118, 101, 77, 105, 110, 105, 109, 117, 109]
def n_exclusiveMaximum : Bytes := [101, 120, 99, 108, 117, 115, 105, 118, 101, 77, 97, 120, 105, 109, 117, 109]
def n_type : Bytes := [116, 121, 112, 101]
def n_precision : Bytes := [112, 114, 101, 99, 105, 115, 105, 111, 110]
def n_optional : Bytes := [111, 112, 116, 105, 111, 110, 97, 108]
def n_minItems : Bytes := [109, 105, 110, 73, 116, 101, 109, 115]
def n_maxItems : Bytes := [109, 97, 120, 73, 116, 101, 109, 115]
def n_additionalProperties : Bytes := [97, 100, 100, 105, 116, 105, 111, 110, 97, 108, 80, 114, 111, 112, 101, 114, 116, 105, 101, 115]
def n_nullable : Bytes := [110, 117, 108, 108, 97, 98, 108, 101]
def n_regex : Bytes := [114, 101, 103, 101, 120]
def n_const : Bytes := [99, 111, 110, 115, 116]
def n_or : Bytes := [111, 114]
def n_enum : Bytes := [101, 110, 117, 109]
def n_allOf : Bytes := [97, 108, 108, 79, 102]

/-- the rule names the code knows (`ruleLoader.ruleValue` + `NewConstraintFromRule`) -/
inductive RName
  | minLength | maxLength | min | max | exclusiveMinimum | exclusiveMaximum | type | precision | optional
  | minItems | maxItems | additionalProperties | nullable | regex | const | or | enum | allOf
  deriving DecidableEq, Repr

/-- the name ↦ rule table of `ruleLoader.ruleValue` / `NewConstraintFromRule` -/
def rnameTable : List (Bytes × RName) :=
  [(n_minLength, .minLength), (n_maxLength, .maxLength), (n_min, .min), (n_max, .max),
   (n_exclusiveMinimum, .exclusiveMinimum), (n_exclusiveMaximum, .exclusiveMaximum), (n_type, .type),
   (n_precision, .precision), (n_optional, .optional), (n_minItems, .minItems), (n_maxItems, .maxItems),
   (n_additionalProperties, .additionalProperties), (n_nullable, .nullable), (n_regex, .regex), (n_const, .const),
   (n_or, .or), (n_enum, .enum), (n_allOf, .allOf)]

def RName.ofBytes (b : Bytes) : Option RName := rnameTable.lookup b

def t_mixed : Bytes := [109, 105, 120, 101, 100]
def t_enum : Bytes := [101, 110, 117, 109]
def t_any : Bytes := [97, 110, 121]
def t_decimal : Bytes := [100, 101, 99, 105, 109, 97, 108]
def t_email : Bytes := [101, 109, 97, 105, 108]
def t_uri : Bytes := [117, 114, 105]
def t_uuid : Bytes := [117, 117, 105, 100]
def t_date : Bytes := [100, 97, 116, 101]
def t_datetime : Bytes := [100, 97, 116, 101, 116, 105, 109, 101]
def t_object : Bytes := [111, 98, 106, 101, 99, 116]
def t_array : Bytes := [97, 114, 114, 97, 121]
def t_string : Bytes := [115, 116, 114, 105, 110, 103]
def t_integer : Bytes := [105, 110, 116, 101, 103, 101, 114]
def t_float : Bytes := [102, 108, 111, 97, 116]
def t_boolean : Bytes := [98, 111, 111, 108, 101, 97, 110]
def t_null : Bytes := [110, 117, 108, 108]
def t_true : Bytes := [116, 114, 117, 101]
def t_false : Bytes := [102, 97, 108, 115, 101]
def t_comment : Bytes := [99, 111, 109, 109, 101, 110, 116]
/-- the raw tokens `"mixed"` and `"enum"` (quotes included): `orConstraint` / `enumConstraint` compare the RAW value -/
def q_mixed : Bytes := [34, 109, 105, 120, 101, 100, 34]
def q_enum : Bytes := [34, 101, 110, 117, 109, 34]

/-- `json.Type` of a node -/
inductive JT | object | array | string | integer | float | boolean | null | mixed
  deriving DecidableEq, Repr

/-- `bytes.IsValidUserTypeNameByte` -/
def isNameByte (c : UInt8) : Bool :=
  c == 45 || c == 95 || (97 ≤ c && c ≤ 122) || (65 ≤ c && c ≤ 90) || (48 ≤ c && c ≤ 57)

/-- `Bytes.IsUserTypeName` -/
def isUserTypeName (b : Bytes) : Bool :=
  match b with
  | 64 :: c :: rest => (c :: rest).all isNameByte
  | _ => false

/-- what the (unquoted) value of a `type` rule names -/
inductive TyName
  | user | mixed | enum | any | decimal | email | uri | uuid | date | datetime
  | json (t : JT)        -- object array string integer float boolean null (never `mixed`)
  | unknown
  deriving DecidableEq, Repr

/-- the keys of `jsonTypesHandler` and the names `NewJsonType` knows -/
def tyTable : List (Bytes × TyName) :=
  [(t_mixed, .mixed), (t_enum, .enum), (t_any, .any), (t_decimal, .decimal), (t_email, .email), (t_uri, .uri),
   (t_uuid, .uuid), (t_date, .date), (t_datetime, .datetime), (t_object, .json .object), (t_array, .json .array),
   (t_string, .json .string), (t_integer, .json .integer), (t_float, .json .float), (t_boolean, .json .boolean),
   (t_null, .json .null)]

/-- `typeConstraint`: `IsUserTypeName` first, then the keys of `jsonTypesHandler`, then `NewJsonType` -/
def TyName.ofBytes (b : Bytes) : TyName :=
  if isUserTypeName b then .user else (tyTable.lookup b).getD .unknown

def TyName.isFormat : TyName → Bool
  | .email | .uri | .uuid | .date | .datetime => true
  | _ => false

/-- the type a `type` rule token names -/
def tyOf (tok : Bytes) : TyName := TyName.ofBytes (Unquote.unquote tok)

/-- `Bytes.ParseBool` -/
def parseBool (b : Bytes) : Option Bool :=
  if b = t_true then some true else if b = t_false then some false else none

def isDigit (c : UInt8) : Bool := 48 ≤ c && c ≤ 57

/-- `Bytes.ParseUint`: digits only, not empty; Go's `uint` arithmetic wraps at 2^64 -/
def parseUint (b : Bytes) : Option Nat :=
  if b.isEmpty || !b.all isDigit then none
  else some (b.foldl (fun u c => (u * 10 + (c.toNat - 48)) % 18446744073709551616) 0)

/-- `NewAdditionalProperties`: "any" / "true" / "false", a user type name, or a name `IsValidType` knows (the names a
`type` rule takes and `comment`: the set `Compile.parseAdd` accepts, `BridgeCR.parseAdd_addPropsOK`) -/
def addPropsOK (tok : Bytes) : Bool :=
  let u := Unquote.unquote tok
  u = t_true || u = t_false || u = t_comment || TyName.ofBytes u != .unknown

/-! ### constraints -/

/-- `constraint.Type` (required-keys is never on the annotated node when these steps run) -/
inductive CT
  | minLength | maxLength | min | max | exclusiveMinimum | exclusiveMaximum | type | precision | optional
  | minItems | maxItems | additionalProperties | nullable | regex | const | or | enum | allOf
  | typesList | any | email | uri | uuid | date | datetime
  deriving DecidableEq, Repr

def CT.all : List CT :=
  [.minLength, .maxLength, .min, .max, .exclusiveMinimum, .exclusiveMaximum, .type, .precision, .optional,
   .minItems, .maxItems, .additionalProperties, .nullable, .regex, .const, .or, .enum, .allOf,
   .typesList, .any, .email, .uri, .uuid, .date, .datetime]

/-- the constraint type a rule name creates -/
def RName.ct : RName → CT
  | .minLength => .minLength | .maxLength => .maxLength | .min => .min | .max => .max
  | .exclusiveMinimum => .exclusiveMinimum | .exclusiveMaximum => .exclusiveMaximum | .type => .type
  | .precision => .precision | .optional => .optional | .minItems => .minItems | .maxItems => .maxItems
  | .additionalProperties => .additionalProperties | .nullable => .nullable | .regex => .regex
  | .const => .const | .or => .or | .enum => .enum | .allOf => .allOf

/-- what the pipeline reads of a constraint -/
inductive CV
  | flag (b : Bool)                          -- optional, nullable, const, exclusiveMinimum, exclusiveMaximum
  | nat (n : Nat)                            -- minLength, maxLength, minItems, maxItems, precision
  | num (v : Num.N) (exclusive : Bool)       -- min, max (the flag is set by the exclusive* steps)
  | type (tok : Bytes) (generated : Bool)    -- the raw token; generated = added by a `@t` shortcut
  | or (generated : Bool)
  | types (users : List Bool)                -- TypesList: per name "starts with @"
  | allOf (names : List Bytes)
  | unit                                     -- regex, enum, additionalProperties, any, the formats
  deriving DecidableEq, Repr

abbrev CMap := CT → Option CV

def bnat (b : Bool) : Nat := if b then 1 else 0

namespace CMap
def empty : CMap := fun _ => none
def has (m : CMap) (k : CT) : Bool := (m k).isSome
def set (m : CMap) (k : CT) (v : CV) : CMap := fun k' => if k' = k then some v else m k'
def del (m : CMap) (k : CT) : CMap := fun k' => if k' = k then none else m k'
/-- `NumberOfConstraints` -/
def len (m : CMap) : Nat := (CT.all.map fun k => bnat (m.has k)).sum
end CMap

/-- `baseNode.AddConstraint` -/
def addBase (m : CMap) (k : CT) (v : CV) : Except Code CMap :=
  if m.has k then .error 501 else .ok (m.set k v)

/-! ### the node -/

inductive Cls
  | literal | object | array
  | mixedValue      -- `MixedValueNode`: a type shortcut or an or shortcut
  | mixed           -- `MixedNode`: the root of an or member's anonymous type
  deriving DecidableEq, Repr

structure Ctx where
  cls : Cls
  jt : JT
  children : Nat := 0
  isProp : Bool := false
  deriving DecidableEq, Repr

def Ctx.isBranch (c : Ctx) : Bool := c.cls = .object || c.cls = .array

/-- the root of an or member (`NewMixedNode`): no parent; its JSON type is never read by these steps -/
def memberCtx : Ctx := { cls := .mixed, jt := .mixed }

inductive NKind
  | integer | float | string | boolean | null
  | object (children : Nat)
  | array (children : Nat)
  | typeRef (name : Bytes)              -- `@t`
  | orShortcut (users : List Bool)      -- `@a | @b`: per name "starts with @" (the scanner only lets type names through)
  deriving DecidableEq, Repr

structure Node where
  kind : NKind
  isProp : Bool
  rules : List Rule
  /-- oracle: the `regex` value tokens that are JSON strings Go's regexp compiles -/
  okRegex : List Bytes := []
  /-- oracle: the names of the enum rules added with `AddRule` (all well-formed) -/
  enumRules : List Bytes := []

def NKind.ctx (k : NKind) (isProp : Bool) : Ctx :=
  match k with
  | .integer => { cls := .literal, jt := .integer, isProp }
  | .float => { cls := .literal, jt := .float, isProp }
  | .string => { cls := .literal, jt := .string, isProp }
  | .boolean => { cls := .literal, jt := .boolean, isProp }
  | .null => { cls := .literal, jt := .null, isProp }
  | .object n => { cls := .object, jt := .object, children := n, isProp }
  | .array n => { cls := .array, jt := .array, children := n, isProp }
  | .typeRef _ => { cls := .mixedValue, jt := .mixed, isProp }
  | .orShortcut _ => { cls := .mixedValue, jt := .mixed, isProp }

def Node.ctx (n : Node) : Ctx := n.kind.ctx n.isProp

/-- `addShortcutConstraint`: what a shortcut node carries before its annotation is read -/
def initMap : NKind → CMap
  | .typeRef name => CMap.empty.set .type (.type name true)
  | .orShortcut us => (CMap.empty.set .typesList (.types us)).set .or (.or true)
  | _ => CMap.empty

/-! ### `AddConstraint` -/

/-- `MixedValueNode.addTypeConstraint` -/
def addTypeMV (m : CMap) (tok : Bytes) (gen : Bool) : Except Code CMap :=
  match m .type with
  | some (.type old _) =>
    let newVal := Unquote.unquote tok
    if newVal ≠ Unquote.unquote old ∧ newVal ≠ t_mixed then .error 501
    else .ok (m.set .type (.type tok gen))
  | _ => addBase m .type (.type tok gen)

/-- `node.AddConstraint(c)` for the node classes -/
def addC (c : Ctx) (m : CMap) (k : CT) (v : CV) : Except Code CMap :=
  if c.cls = .mixedValue then
    match k, v with
    | .type, .type tok gen => addTypeMV m tok gen
    | .or, v =>
      -- `addOrConstraint`: an existing type rule becomes "mixed" (same source), then the ordinary insertion
      (match m .type with
       | some (.type _ gen) => addTypeMV m q_mixed gen
       | _ => .ok m) >>= fun m => addBase m .or v
    | k, v => addBase m k v
  else addBase m k v

/-! ### rule values -/

structure Env where
  okRegex : List Bytes
  enumRules : List Bytes

/-- `NewConstraintFromRule` on a literal value: the constraint, or the constructor's error -/
def mkLit (env : Env) (name : Bytes) (tok : Bytes) : Except Code (CT × CV) :=
  match RName.ofBytes name with
  | some .minLength => match parseUint tok with | some n => .ok (.minLength, .nat n) | none => .error 604
  | some .maxLength => match parseUint tok with | some n => .ok (.maxLength, .nat n) | none => .error 604
  | some .min => match RulesF.number tok with | some v => .ok (.min, .num v false) | none => .error 0
  | some .max => match RulesF.number tok with | some v => .ok (.max, .num v false) | none => .error 0
  | some .exclusiveMinimum => match parseBool tok with | some b => .ok (.exclusiveMinimum, .flag b) | none => .error 604
  | some .exclusiveMaximum => match parseBool tok with | some b => .ok (.exclusiveMaximum, .flag b) | none => .error 604
  | some .type => .ok (.type, .type tok false)
  | some .precision =>
    (match parseUint tok with
     | some n => if n = 0 then .error 605 else .ok (.precision, .nat n)
     | none => .error 604)
  | some .optional => match parseBool tok with | some b => .ok (.optional, .flag b) | none => .error 604
  | some .minItems => match parseUint tok with | some n => .ok (.minItems, .nat n) | none => .error 604
  | some .maxItems => match parseUint tok with | some n => .ok (.maxItems, .nat n) | none => .error 604
  | some .additionalProperties => if addPropsOK tok then .ok (.additionalProperties, .unit) else .error 103
  | some .nullable => match parseBool tok with | some b => .ok (.nullable, .flag b) | none => .error 604
  | some .regex => if tok ∈ env.okRegex then .ok (.regex, .unit) else .error 0
  | some .const => match parseBool tok with | some b => .ok (.const, .flag b) | none => .error 604
  | _ => .error 601        -- or / enum / allOf with a literal value never get here at top level; inside a rule-set "or", "allOf" do

/-- `NewEnumItem`'s identity of an item: (decoded text for strings / source text otherwise, guessed kind) -/
def enumKey (tok : Bytes) : Option (Bytes × Rules.Kind) := RulesF.enumItem tok

/-- `enumValueLoader`: array of literals (807 for another item, 810 for a repeated (value, kind)), or the name of
an enum rule (1602 when it does not exist), anything else 806 -/
def loadEnumItems : List Val → List (Option (Bytes × Rules.Kind)) → Except Code Unit
  | [], _ => .ok ()
  | .lit tok :: rest, seen =>
    let k := enumKey tok
    if k ∈ seen then .error 810 else loadEnumItems rest (k :: seen)
  | _ :: _, _ => .error 807

def loadEnumValue (env : Env) : Val → Except Code Unit
  | .arr items => loadEnumItems items []
  | .ref name => if name ∈ env.enumRules then .ok () else .error 1602
  | _ => .error 806

/-- `AllOf.Append` -/
def allOfName (tok : Bytes) : Except Code Bytes :=
  if !Unquote.inQuotes tok then .error 808
  else if !isUserTypeName (Unquote.unquote tok) then .error 702
  else .ok (Unquote.unquote tok)

def loadAllOfItems : List Val → List Bytes → Except Code (List Bytes)
  | [], acc => .ok acc
  | .lit tok :: rest, acc => (allOfName tok) >>= fun nm => loadAllOfItems rest (acc ++ [nm])
  | _ :: _, _ => .error 808

/-- `allOfValueLoader` -/
def loadAllOfValue : Val → Except Code (List Bytes)
  | .lit tok => (allOfName tok).map fun nm => [nm]
  | .arr items => loadAllOfItems items []
  | _ => .error 808

/-! ### `compileNode` -/

def falseConstraints (m : CMap) : CMap :=
  let m := if m .nullable = some (.flag false) then m.del .nullable else m
  if m .const = some (.flag false) then m.del .const else m

def typeTok (m : CMap) : Option (Bytes × Bool) :=
  match m .type with
  | some (.type tok gen) => some (tok, gen)
  | _ => none

def typesUsers (m : CMap) : Option (List Bool) :=
  match m .typesList with
  | some (.types us) => some us
  | _ => none

/-- `TypesList.Len()`; 0 when there is no TypesList -/
def typesLen (m : CMap) : Nat :=
  match typesUsers m with | some us => us.length | none => 0

/-- the `type` rule, if any, is written exactly `q` (the RAW token is compared) -/
def rawIs (m : CMap) (q : Bytes) : Bool :=
  match typeTok m with | some (tok, _) => decide (tok = q) | none => true

/-- `TypesList.HasUserTypes` / "some name starts with @" -/
def usersAny (m : CMap) : Bool :=
  match typesUsers m with | some us => us.any id | none => false

/-- `orConstraint` with `ensureCanUseORConstraint` / `checkBranchNodeWithOrConstraint` -/
def orConstraint (c : Ctx) (m : CMap) : Except Code CMap :=
  if !m.has .or then .ok m
  else if !m.has .typesList then .error 801
  else
    let n := m.len - 1 - bnat (m.has .or) - bnat (m.has .optional) - bnat (m.has .nullable) - bnat (m.has .type)
    if !rawIs m q_mixed then .error 1111
    else if n ≠ 0 then .error 1103
    else if c.isBranch && c.children ≠ 0 then .error 1108
    else if c.isBranch && usersAny m then .error 1108
    else if c.cls = .mixedValue && m .or = some (.or false) && usersAny m then .error 1108
    else .ok (m.del .or)

def enumConstraint (m : CMap) : Except Code CMap :=
  if !m.has .enum then .ok m
  else
    let n := m.len - 1 - bnat (m.has .optional) - bnat (m.has .const) - bnat (m.has .nullable) - bnat (m.has .type)
    if !rawIs m q_enum then .error 1111
    else if n ≠ 0 then .error 1104
    else .ok m

def precisionConstraint (m : CMap) : Except Code CMap :=
  if !m.has .precision then .ok m
  else match typeTok m with
    | some (tok, _) => if tyOf tok ≠ .decimal then .error 1117 else .ok m
    | none => .ok m

/-- `compatibleTypes[valStr]` has the node's JSON type (`baseNode.SetRealType`) -/
def realTypeOK (ty : TyName) (jt : JT) : Bool :=
  match ty with
  | .mixed | .any => true
  | .enum => jt = .string || jt = .integer || jt = .float || jt = .boolean || jt = .null
  | .decimal => jt = .float
  | .email | .uri | .uuid | .date | .datetime => jt = .string
  | .json t => jt = t
  | .user | .unknown => false

def fmtCT : TyName → Option CT
  | .email => some .email | .uri => some .uri | .uuid => some .uuid | .date => some .date | .datetime => some .datetime
  | _ => none

/-- `typeConstraint`: `typeConstraintForUserType` / `typeConstraintForJSONTypes`, then the type rule is deleted -/
def typeConstraint (c : Ctx) (m : CMap) : Except Code CMap :=
  match typeTok m with
  | none => .ok m
  | some (tok, gen) =>
    let ty := tyOf tok
    if ty = .user then
      let n := m.len - bnat (m.has .optional) - bnat (m.has .nullable)
      if n ≠ 1 then .error 1102
      else if c.isBranch then .error 1107
      else if c.cls = .mixedValue && !gen then .error 1107
      else (addBase m .typesList (.types [true])) >>= fun m => .ok (m.del .type)
    else
      (match ty with
       | .mixed => if typesLen m < 2 then .error 1114 else .ok m
       | .enum => if m.has .enum then .ok m else .error 1113
       | .any => addBase m .any .unit
       | .decimal => if m.has .precision then .ok m else .error 1112
       | .email => addBase m .email .unit
       | .uri => addBase m .uri .unit
       | .uuid => addBase m .uuid .unit
       | .date => addBase m .date .unit
       | .datetime => addBase m .datetime .unit
       | .json t => if c.cls = .mixed then .ok m else if t ≠ c.jt then .error 1115 else .ok m
       | _ => .error 102) >>= fun m =>
      if c.cls = .mixed || c.cls = .mixedValue || realTypeOK ty c.jt then .ok (m.del .type) else .error 1115

def hasFormat (m : CMap) : Bool := m.has .email || m.has .uri || m.has .uuid || m.has .date || m.has .datetime

/-- `allowedConstraintCheck` (`bannedConstraints`; every failure has the same code) -/
def allowedConstraintCheck (m : CMap) : Except Code CMap :=
  if hasFormat m && (m.has .minLength || m.has .maxLength || m.has .regex) then .error 1117
  else if m.has .any && m.has .const then .error 1117
  else .ok m

def anyConstraint (c : Ctx) (m : CMap) : Except Code CMap :=
  if !m.has .any then .ok m
  else
    let n := m.len - 1 - bnat (m.has .optional) - bnat (m.has .nullable) - bnat (m.has .const)
    if n ≠ 0 then .error 1105
    else if c.isBranch && c.children ≠ 0 then .error 1106
    else .ok m

def setExclusive (m : CMap) (k : CT) : CMap :=
  match m k with
  | some (.num v _) => m.set k (.num v true)
  | _ => m

def exclusiveMinimumConstraint (m : CMap) : Except Code CMap :=
  match m .exclusiveMinimum with
  | none => .ok m
  | some v =>
    if !m.has .min then .error 1109
    else .ok ((if v = .flag true then setExclusive m .min else m).del .exclusiveMinimum)

def exclusiveMaximumConstraint (m : CMap) : Except Code CMap :=
  match m .exclusiveMaximum with
  | none => .ok m
  | some v =>
    if !m.has .max then .error 1110
    else .ok ((if v = .flag true then setExclusive m .max else m).del .exclusiveMaximum)

/-- `checkMinAndMax` (after the exclusive flags were folded into the bounds) -/
def pairNum (x y : Option CV) : Except Code Unit :=
  match x, y with
  | some (.num a ea), some (.num b eb) =>
    if ea || eb then (if a.cmp b ≠ .lt then .error 618 else .ok ())
    else (if a.cmp b = .gt then .error 617 else .ok ())
  | _, _ => .ok ()

/-- `checkMinLengthAndMaxLength`, `checkMinItemsAndMaxItems` -/
def pairNat (x y : Option CV) : Except Code Unit :=
  match x, y with
  | some (.nat a), some (.nat b) => if a > b then .error 617 else .ok ()
  | _, _ => .ok ()

/-- `checkPairConstraints` -/
def checkPairConstraints (m : CMap) : Except Code CMap :=
  pairNum (m .min) (m .max) >>= fun _ => pairNat (m .minLength) (m .maxLength) >>= fun _ =>
  pairNat (m .minItems) (m .maxItems) >>= fun _ => .ok m

def optionalConstraints (c : Ctx) (m : CMap) : Except Code CMap :=
  if m.has .optional && !c.isProp then .error 1101 else .ok m

/-- an item-count constraint with a value other than 0 -/
def countNonZero (x : Option CV) : Bool :=
  match x with | some (.nat a) => decide (a ≠ 0) | _ => false

def emptyArray (c : Ctx) (m : CMap) : Except Code CMap :=
  if c.cls = .array && c.children = 0 then
    if countNonZero (m .minItems) then .error 1204
    else if countNonZero (m .maxItems) then .error 1204
    else .ok m
  else .ok m

/-- `schemaCompiler.compileNode` on one node -/
def compile (c : Ctx) (m : CMap) : Except Code CMap :=
  orConstraint c (falseConstraints m) >>= enumConstraint >>= precisionConstraint >>= typeConstraint c
    >>= allowedConstraintCheck >>= anyConstraint c >>= exclusiveMinimumConstraint >>= exclusiveMaximumConstraint
    >>= checkPairConstraints >>= optionalConstraints c >>= emptyArray c

/-! ### `or` members -/

/-- one entry of a member rule-set (`orRuleSetLoader`): `enum` has its own value loader, every other name needs a
literal value (805) and goes through `NewConstraintFromRule`; `typeRoot.AddConstraint` is the plain insertion -/
def loadSetEntry (env : Env) (m : CMap) (e : Rule) : Except Code CMap :=
  if e.1 = n_enum then
    addBase m .enum .unit >>= fun m => loadEnumValue env e.2 >>= fun _ => .ok m
  else match e.2 with
    | .lit tok => mkLit env e.1 tok >>= fun kv => addBase m kv.1 kv.2
    | _ => .error 805

/-- `makeTypeFromRuleSet`: empty 905; a lone `type: "@name"` is the named type itself; anything else is compiled
as an anonymous type on the spot. Result: does the member's name start with `@` -/
def finishSet (m : CMap) : Except Code Bool :=
  if m.len = 0 then .error 905
  else if m.len = 1 && (match typeTok m with | some (tok, _) => tyOf tok = .user | none => false) then .ok true
  else compile memberCtx m >>= fun _ => .ok false

/-- one item of the `or` array (`orValueLoader.itemInner` / `literal`) -/
def loadOrItem (env : Env) (c : Ctx) (users : List Bool) (v : Val) : Except Code (List Bool) :=
  match v with
  | .lit tok =>
    if !Unquote.inQuotes tok then .error 904
    else if isUserTypeName (Unquote.unquote tok) then .ok (users ++ [true])
    else compile memberCtx (CMap.empty.set .type (.type (Unquote.unquote tok) false)) >>= fun _ => .ok (users ++ [false])
  | .obj entries =>
    if c.cls = .mixedValue then .error 1102          -- `newOrRuleSetLoader` on a shortcut node
    else entries.foldlM (loadSetEntry env) CMap.empty >>= finishSet >>= fun u => .ok (users ++ [u])
  | _ => .error 904

/-- `orValueLoader`: an array (901) of at least two members (902 / 903) -/
def loadOrValue (env : Env) (c : Ctx) : Val → Except Code (List Bool)
  | .arr items => items.foldlM (loadOrItem env c) [] >>= fun us =>
      if us.length = 0 then .error 902 else if us.length = 1 then .error 903 else .ok us
  | _ => .error 901

/-! ### the annotation, rule by rule -/

/-- `ruleLoader.ruleValue` … `ruleValueLiteral` for one rule of the annotated node -/
def loadRule (env : Env) (c : Ctx) (m : CMap) (r : Rule) : Except Code CMap :=
  if r.1 = n_or then
    addC c m .typesList (.types []) >>= fun m => addC c m .or (.or false) >>= fun m =>
    loadOrValue env c r.2 >>= fun us => .ok (m.set .typesList (.types us))
  else if r.1 = n_enum then
    addC c m .enum .unit >>= fun m => loadEnumValue env r.2 >>= fun _ => .ok m
  else if r.1 = n_allOf then
    addC c m .allOf (.allOf []) >>= fun m => loadAllOfValue r.2 >>= fun ns => .ok (m.set .allOf (.allOf ns))
  else match r.2 with
    | .lit tok => mkLit env r.1 tok >>= fun kv => addC c m kv.1 kv.2
    | _ => .error 802

/-! ### after the compiler -/

/-- `CompileAllOf` on the node (parents assumed to be object types) -/
def allOfStep (c : Ctx) (m : CMap) : Except Code CMap :=
  match m .allOf with
  | some (.allOf ns) => if ns.isEmpty then .error 809 else if c.cls ≠ .object then .error 1117 else .ok (m.del .allOf)
  | _ => .ok m

/-- `IsJsonTypeCompatible` of every constraint type -/
def compat (k : CT) (t : JT) : Bool :=
  match k with
  | .min | .max | .exclusiveMinimum | .exclusiveMaximum => t = .integer || t = .float
  | .precision => t = .float
  | .minLength | .maxLength | .regex | .email | .uri | .uuid | .date | .datetime => t = .string
  | .minItems | .maxItems => t = .array
  | .additionalProperties | .allOf => t = .object
  | .enum => t = .string || t = .integer || t = .float || t = .boolean || t = .null || t = .mixed
  | .const => t ≠ .object && t ≠ .array
  | .type | .optional | .nullable | .or | .typesList | .any => true

/-- `checkCompatibilityOfConstraints` (skipped for MixedNode / MixedValueNode) -/
def checkCompat (c : Ctx) (m : CMap) : Except Code Unit :=
  if c.cls = .mixed || c.cls = .mixedValue then .ok ()
  else if CT.all.all (fun k => !m.has k || compat k c.jt) then .ok () else .error 1117

/-- what `Check` does with the rules of one annotated node: the first error code in code order -/
def checkRules (n : Node) : Except Code Unit :=
  let env : Env := { okRegex := n.okRegex, enumRules := n.enumRules }
  n.rules.foldlM (loadRule env n.ctx) (initMap n.kind) >>= compile n.ctx >>= allOfStep n.ctx >>= checkCompat n.ctx

def isOk {ε α : Type} : Except ε α → Bool
  | .ok _ => true
  | .error _ => false

end CR
