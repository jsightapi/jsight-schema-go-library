import JSight.E2EShape
/-!
The shape specification on tokens (`VN.shape kindOKTok`) and on kinds (`V.shape`, the spec of
`C01_validate_iff_shape`) agree on documents whose scalar tokens all have a kind (`kinds_value`).
-/
namespace E2E
open Rules (Kind)
open Lay (JV)

variable (opt : Bool)

/-- `vKind` respects the Boolean equality of kinds in both directions -/
theorem vKind_inj (a b : Kind) : (vKind a == vKind b) = (a == b) := by cases a <;> cases b <;> rfl

theorem kindOK_tok (k : Kind) (tok : List UInt8) (h : (RulesF.kindOfTok tok).isSome = true) :
    V.kindOK (vKind (kindOf tok)) (vKind k) false = kindOKTok k tok := by
  obtain ⟨d, hd⟩ := Option.isSome_iff_exists.mp h
  simp only [kindOf, kindOKTok, hd, Option.getD_some, V.kindOK]
  cases d <;> cases k <;> rfl

theorem schemaVItems_eq_map : (items : List JV) → schemaVItems opt items = items.map (schemaV opt)
  | [] => rfl
  | v :: vs => by simp [schemaVItems, schemaVItems_eq_map vs]

theorem schemaVMembers_eq_map : (ms : List (List UInt8 × JV)) →
    schemaVMembers opt ms = ms.map fun p => (keyOf p.1, !opt, schemaV opt p.2)
  | [] => rfl
  | _ :: ms => by simp [schemaVMembers, schemaVMembers_eq_map ms]

theorem childAt_v (items : List JV) (i : Nat) :
    V.childAt (schemaVItems opt items) i = (Tbl.clampAt items i).map (schemaV opt) := by
  rw [schemaVItems_eq_map, V.childAt_eq]; exact Tbl.clampAt_map _ _ _

theorem lookup_v (props : List (List UInt8 × JV)) (k : String) :
    V.lookup (schemaVMembers opt props) k = (jvLookup props k).map (schemaV opt) := by
  simp only [schemaVMembers_eq_map, V.lookup, jvLookup, Tbl.firstBy, List.find?_map, Option.map_map, Function.comp_def]

theorem requiredKeys_v : (props : List (List UInt8 × JV)) →
    V.requiredKeys (schemaVMembers opt props) = VN.requiredKeys (schemaMembers opt props)
  | [] => rfl
  | (k, v) :: ps => by
    have ih := requiredKeys_v ps
    simp only [V.requiredKeys, VN.requiredKeys, schemaVMembers, schemaMembers, List.filter_cons] at ih ⊢
    cases opt <;> simp [ih]

theorem any_toVJ : (ms : List (String × VN.J (List UInt8))) → (k : String) →
    (toVJMembers ms).any (fun m => m.1 == k) = ms.any (fun m => m.1 == k)
  | [], _ => rfl
  | (k', v) :: ms, k => by simp [toVJMembers, any_toVJ ms k]

mutual
theorem kinds_value : (dd : VN.J (List UInt8)) → docGuessable dd = true → (v : JV) →
    V.shape (schemaV opt v) (toVJ dd) = VN.shape kindOKTok (schemaOf opt v) dd
  | .lit d, hg, .lit tok => by
    simp only [docGuessable] at hg
    simp [schemaV, schemaOf, toVJ, V.shape, VN.shape, kindOK_tok _ d hg]
  | .lit d, _, .arr items => by simp [schemaV, schemaOf, toVJ, V.shape, VN.shape]
  | .lit d, _, .obj ms => by simp [schemaV, schemaOf, toVJ, V.shape, VN.shape]
  | .arr xs, _, .lit tok => by simp [schemaV, schemaOf, toVJ, V.shape, VN.shape]
  | .arr xs, hg, .arr items => by
    have hg' : docGuessableItems xs = true := by simpa [docGuessable] using hg
    simp [schemaV, schemaOf, toVJ, V.shape, VN.shape, kinds_items xs hg' items 0]
  | .arr xs, _, .obj ms => by simp [schemaV, schemaOf, toVJ, V.shape, VN.shape]
  | .obj ms, _, .lit tok => by simp [schemaV, schemaOf, toVJ, V.shape, VN.shape]
  | .obj ms, _, .arr items => by simp [schemaV, schemaOf, toVJ, V.shape, VN.shape]
  | .obj ms, hg, .obj props => by
    have hg' : docGuessableMembers ms = true := by simpa [docGuessable] using hg
    simp only [schemaV, schemaOf, toVJ, V.shape, VN.shape, kinds_members ms hg' props, requiredKeys_v, any_toVJ]
theorem kinds_items : (xs : List (VN.J (List UInt8))) → docGuessableItems xs = true → (items : List JV) → (i : Nat) →
    V.shapeItems (schemaVItems opt items) i (toVJItems xs) = VN.shapeItems kindOKTok (schemaItems opt items) i xs
  | [], _, _, _ => by simp [toVJItems, V.shapeItems, VN.shapeItems]
  | x :: xs, hg, items, i => by
    obtain ⟨hg1, hg2⟩ : docGuessable x = true ∧ docGuessableItems xs = true := by simpa [docGuessableItems] using hg
    simp only [toVJItems, V.shapeItems, VN.shapeItems, childAt_v, childAt_vn, kinds_items xs hg2 items (i + 1)]
    cases Tbl.clampAt items i with
    | none => rfl
    | some s => simp [kinds_value x hg1 s]
theorem kinds_members : (ms : List (String × VN.J (List UInt8))) → docGuessableMembers ms = true →
    (props : List (List UInt8 × JV)) →
    V.shapeMembers (schemaVMembers opt props) (toVJMembers ms) = VN.shapeMembers kindOKTok (schemaMembers opt props) ms
  | [], _, _ => by simp [toVJMembers, V.shapeMembers, VN.shapeMembers]
  | (k, x) :: ms, hg, props => by
    obtain ⟨hg1, hg2⟩ : docGuessable x = true ∧ docGuessableMembers ms = true := by simpa [docGuessableMembers] using hg
    simp only [toVJMembers, V.shapeMembers, VN.shapeMembers, lookup_v, lookup_vn, kinds_members ms hg2 props]
    cases jvLookup props k with
    | none => rfl
    | some s => simp [kinds_value x hg1 s]
end

end E2E
