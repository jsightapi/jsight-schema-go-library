import JSight.SchemaEventsStep
/-!
Schema scanner model (`SchemaScan`), `Length()`: fuel-free machinery.

* `Len.Path data s evs s'` : from `s` the scanner delivers `evs` and is then in `s'` — a *syntactic* chain of
  `Next()` results and silent byte reads (unlike `Steps`, it does not need the run to terminate, so it can be used
  when arbitrary foreign text follows);
* `Len.Drain data s evs f` : from `s`, `Next()` delivers `evs` (no `end-top` among them) and then stops with `f : Stop`
  (end of input / `end-top` / error): what `lengthLoop` and `lenEventsLoop` see; `Drain.after` puts a `Path` in front;
* single bytes of plain JSON (`cfgL lc …`, `SchemaEventsStep`) as `Path`s. Here and in `SchemaEventsRun` the lemmas of
  `namespace Len` whose name starts with `S_` yield a `Path` (the `d_…`, `ev_…`, `loop_…`, `aft_…` lemmas they rest on are
  equations about `dispatch`); a `Path` gives `Steps` (`Path.steps`).
-/
namespace SchemaScan
namespace Len

/-! ### errors of `Next()`, fuel-free -/

/-- the model's own guard against running out of fuel (never a result of the real scanner) -/
def fuelErr : Err := .crash "next: fuel exhausted"

theorem next_monoE (data : Array Cls) (nf m : Nat) (s : Sc) (e : Err)
    (h : next data nf s = .error e) (he : e ≠ fuelErr) (hm : nf ≤ m) : next data m s = .error e :=
  next_fuel_mono data _ (fun h => he (Except.error.inj h)) nf m s h hm

/-- `Next()` from `s` fails with the scanner error `e` -/
def NextErr (data : Array Cls) (s : Sc) (e : Err) : Prop :=
  e ≠ fuelErr ∧ ∃ nf, nf ≤ data.size - s.index + 2 ∧ next data nf s = .error e

theorem NextErr.next {data : Array Cls} {s : Sc} {e : Err} (h : NextErr data s e) :
    SchemaScan.next data (3 * data.size + 16) s = .error e := by
  obtain ⟨he, nf, hb, hn⟩ := h
  exact next_monoE data nf _ s e hn he (by omega)

/-! ### paths -/

/-- from `s` the scanner delivers `evs` and is then in `s'`.  `read`: a byte is read that queues nothing, stated as what it
means for the caller — whatever `Next()` returns from the state behind the byte, value or error, it returns from the state
before it (`nextOk_read_ge`, `nextErr_read_ge`); `ev`: `Next()` returns an event. -/
inductive Path (data : Array Cls) : Sc → List Ev → Sc → Prop
  | refl (s : Sc) : Path data s [] s
  | read {s s1 s' : Sc} {evs : List Ev} :
      (∀ r, NextOk data s1 r → NextOk data s r) → (∀ e, NextErr data s1 e → NextErr data s e) →
      Path data s1 evs s' → Path data s evs s'
  | ev {s s1 s' : Sc} {e : Ev} {evs : List Ev} :
      NextOk data s (some (s1, e)) → Path data s1 evs s' → Path data s (e :: evs) s'

theorem Path.trans {data : Array Cls} {s s1 s2 : Sc} {a b : List Ev}
    (h1 : Path data s a s1) (h2 : Path data s1 b s2) : Path data s (a ++ b) s2 := by
  induction h1 with
  | refl _ => exact h2
  | read hl hle _ ih => exact Path.read hl hle (ih h2)
  | ev hn _ ih => exact Path.ev hn (ih h2)

theorem Path.cast {data : Array Cls} {s s1 s1' : Sc} {evs evs' : List Ev} (h : Path data s evs s1) (he : evs = evs')
    (hs : s1 = s1') : Path data s evs' s1' := he ▸ hs ▸ h

theorem emits_lift {data : Array Cls} {s s1 : Sc} (hl : ∀ r, NextOk data s1 r → NextOk data s r) {l : List Ev}
    (h : Emits data s1 l) : Emits data s l := by
  cases h with
  | nil hn => exact Emits.nil (hl _ hn)
  | cons hn h' => exact Emits.cons (hl _ hn) h'

/-- a path in front of a terminating run (the link to `Emits`) -/
theorem Path.emits {data : Array Cls} {s s1 : Sc} {a b : List Ev}
    (h1 : Path data s a s1) (h2 : Emits data s1 b) : Emits data s (a ++ b) := by
  induction h1 with
  | refl _ => exact h2
  | read hl _ _ ih => exact emits_lift hl (ih h2)
  | ev hn _ ih => exact Emits.cons hn (ih h2)

/-- a path is a run in the sense of `Steps` -/
theorem Path.steps {data : Array Cls} {s s1 : Sc} {evs : List Ev} (h : Path data s evs s1) : Steps data s evs s1 :=
  fun _ ht => h.emits ht

theorem nextOk_shift {data : Array Cls} {s s' : Sc} {t : LexT} {rest : List LexT} {e : Ev}
    (hf : s.finds = t :: rest) (hp : processFound data { s with finds := rest } t = .ok (s', e)) :
    NextOk data s (some (s', e)) := by
  refine ⟨1, by omega, ?_⟩
  rw [next_succ]
  unfold nextBody shiftFound
  rw [hf]
  simp only [bind, Except.bind, hp]
  rfl

/-- a queued lexeme is delivered -/
theorem Path.shift {data : Array Cls} {s s' : Sc} {t : LexT} {rest : List LexT} {e : Ev}
    (hf : s.finds = t :: rest) (hp : processFound data { s with finds := rest } t = .ok (s', e)) :
    Path data s [e] s' :=
  Path.ev (nextOk_shift hf hp) (Path.refl _)

/-- one byte is read (whatever it queues): a call of `next` that has fuel left behind the byte returns what the call from
the state behind the byte returns, value or error -/
theorem next_read {data : Array Cls} {s s1 : Sc} {c : Cls}
    (hf : s.finds = []) (hc : data[s.index]? = some c)
    (hd : dispatch 8 s.step { s with index := s.index + 1 } c data[s.index + 1]? data[s.index + 1 + 1]? = .ok s1)
    (m : Nat) (x : M (Option (Sc × Ev))) (hn : next data (m + 1) s1 = x) : next data (m + 1 + 1) s = x := by
  obtain ⟨hlt, hget⟩ := Array.getElem?_eq_some_iff.mp hc
  have hbang : data[s.index]! = c := by rw [getElem!_pos data s.index hlt]; exact hget
  rw [next_succ]
  unfold nextBody
  have hs : shiftFound data s = .ok none := by unfold shiftFound; rw [hf]; rfl
  rw [hs]
  simp only [hlt, if_true, hbang, hd]
  rw [next_succ] at hn
  unfold nextBody at hn
  cases h3 : shiftFound data s1 with
  | error e => rw [h3] at hn; exact hn
  | ok o =>
    rw [h3] at hn
    cases o with
    | some p => exact hn
    | none =>
      simp only []
      rw [next_succ]
      unfold nextBody
      rw [h3]
      exact hn

/-- one byte is read (the index may move on by more than one): the results of `Next()` are those of the state after the
byte -/
theorem nextOk_read_ge {data : Array Cls} {s s1 : Sc} {c : Cls}
    (hf : s.finds = []) (hc : data[s.index]? = some c)
    (hd : dispatch 8 s.step { s with index := s.index + 1 } c data[s.index + 1]? data[s.index + 1 + 1]? = .ok s1)
    (hi : s.index + 1 ≤ s1.index) : ∀ r, NextOk data s1 r → NextOk data s r := by
  intro r ⟨nf, hb, hn⟩
  have hlt := (Array.getElem?_eq_some_iff.mp hc).1
  cases nf with
  | zero => rw [next_zero] at hn; cases hn
  | succ n => exact ⟨n + 1 + 1, by omega, next_read hf hc hd n _ hn⟩

theorem nextErr_read_ge {data : Array Cls} {s s1 : Sc} {c : Cls}
    (hf : s.finds = []) (hc : data[s.index]? = some c)
    (hd : dispatch 8 s.step { s with index := s.index + 1 } c data[s.index + 1]? data[s.index + 1 + 1]? = .ok s1)
    (hi : s.index + 1 ≤ s1.index) : ∀ e, NextErr data s1 e → NextErr data s e := by
  intro e ⟨he, nf, hb, hn⟩
  have hlt := (Array.getElem?_eq_some_iff.mp hc).1
  cases nf with
  | zero => rw [next_zero] at hn; cases hn; exact absurd rfl he
  | succ n => exact ⟨he, n + 1 + 1, by omega, next_read hf hc hd n _ hn⟩

theorem Path.readByte {data : Array Cls} {s s1 : Sc} {c : Cls}
    (hf : s.finds = []) (hc : data[s.index]? = some c)
    (hd : dispatch 8 s.step { s with index := s.index + 1 } c data[s.index + 1]? data[s.index + 1 + 1]? = .ok s1)
    (hi : s1.index = s.index + 1) : Path data s [] s1 :=
  Path.read (nextOk_read_ge hf hc hd (by omega)) (nextErr_read_ge hf hc hd (by omega)) (Path.refl _)

theorem Path.drain {data : Array Cls} : ∀ (fs : List LexT) (s s' : Sc) (evs : List Ev),
    s.finds = fs → drainL data fs s = .ok (s', evs) → Path data s evs s'
  | [], s, s', evs, _, h => by
    simp only [drainL, pure, Except.pure] at h
    cases h
    exact Path.refl s
  | t :: rest, s, s', evs, hf, h => by
    simp only [drainL] at h
    cases hp : processFound data { s with finds := rest } t with
    | error e => rw [hp] at h; cases h
    | ok p =>
      obtain ⟨s1, e⟩ := p
      rw [hp] at h
      simp only [] at h
      cases hd : drainL data rest s1 with
      | error e => rw [hd] at h; cases h
      | ok q =>
        obtain ⟨s2, es⟩ := q
        rw [hd] at h
        simp only [] at h
        have h1 := Path.shift hf hp
        have h2 := Path.drain rest s1 s2 es (processFound_finds hp).1 hd
        cases h
        exact Path.trans h1 h2

/-- one byte: dispatch, then deliver everything it queued -/
theorem Path.byte {data : Array Cls} {s s1 s2 : Sc} {c : Cls} {evs : List Ev}
    (hf : s.finds = []) (hc : data[s.index]? = some c)
    (hd : ∀ p1 p2, dispatch 8 s.step { s with index := s.index + 1 } c p1 p2 = .ok s1)
    (hi : s1.index = s.index + 1)
    (hdr : drainL data s1.finds s1 = .ok (s2, evs)) : Path data s evs s2 := by
  have h1 := Path.readByte hf hc (hd _ _) hi
  have h2 := Path.drain s1.finds s1 s2 evs rfl hdr
  exact Path.trans h1 h2

/-! ### `lengthLoop`, fuel-free -/

/-- the length after an event that is not `end-top` -/
def upd (data : Array Cls) (e : Ev) : Nat := if e.e == data.size then e.e else e.e + 1

def lenAfter (data : Array Cls) : List Ev → Nat → Nat
  | [], len => len
  | e :: es, _ => lenAfter data es (upd data e)

def noTop (evs : List Ev) : Bool := evs.all (fun e => e.ty != .endTop)

theorem noTop_append (a b : List Ev) : noTop (a ++ b) = (noTop a && noTop b) := by
  simp [noTop, List.all_append]

theorem noTop_cons (e : Ev) (l : List Ev) : noTop (e :: l) = (e.ty != .endTop && noTop l) := by
  simp [noTop]

theorem lenAfter_append (data : Array Cls) : ∀ (a b : List Ev) (len : Nat),
    lenAfter data (a ++ b) len = lenAfter data b (lenAfter data a len)
  | [], _, _ => rfl
  | _ :: a, b, _ => by simp only [List.cons_append, lenAfter]; exact lenAfter_append data a b _

/-- how a drain of the scanner in length-computing mode stops: at the end of input, at the `end-top` event (its end, and
whether trailing text had been seen), with an error -/
inductive Stop
  | eof
  | top (e : Nat) (trailing : Bool)
  | err (e : Err)

/-- from `s`, `Next()` delivers `evs`, none of them `end-top`, and then stops with `f`: what every loop over `Next()` in
length-computing mode (`lengthLoop`, `lenEventsLoop`) sees -/
inductive Drain (data : Array Cls) : Sc → List Ev → Stop → Prop
  | eof {s : Sc} : NextOk data s none → Drain data s [] .eof
  | top {s s' : Sc} {e : Ev} : NextOk data s (some (s', e)) → e.ty = .endTop → Drain data s [] (.top e.e s'.hasTrailing)
  | err {s : Sc} {e : Err} : NextErr data s e → Drain data s [] (.err e)
  | ev {s s' : Sc} {e : Ev} {evs : List Ev} {f : Stop} : NextOk data s (some (s', e)) → e.ty ≠ .endTop →
      Drain data s' evs f → Drain data s (e :: evs) f

/-- what `lengthLoop` returns on a drain -/
def Stop.len (data : Array Cls) (evs : List Ev) (len : Nat) : Stop → M Nat
  | .eof => .ok (lenAfter data evs len)
  | .top e tr => .ok (if tr then e - 1 else e)
  | .err e => .error e

theorem Stop.len_append (data : Array Cls) (a b : List Ev) (len : Nat) (f : Stop) :
    f.len data (a ++ b) len = f.len data b (lenAfter data a len) := by
  cases f <;> simp [Stop.len, lenAfter_append]

theorem lengthLoop_of_drain {data : Array Cls} {s : Sc} {evs : List Ev} {f : Stop} (h : Drain data s evs f) :
    ∀ fuel len, evs.length < fuel → lengthLoop data fuel s len = f.len data evs len := by
  induction h with
  | eof hn | err hn =>
    intro fuel len hf
    obtain ⟨f, rfl⟩ : ∃ f, fuel = f + 1 := ⟨fuel - 1, by omega⟩
    rw [lengthLoop]
    simp only [bind, Except.bind, hn.next]
    rfl
  | top hn ht =>
    intro fuel len hf
    obtain ⟨f, rfl⟩ : ∃ f, fuel = f + 1 := ⟨fuel - 1, by omega⟩
    rw [lengthLoop]
    simp only [bind, Except.bind, hn.next, ht]
    rfl
  | @ev s s' e evs f hn ht _ ih =>
    intro fuel len hf
    obtain ⟨f, rfl⟩ : ∃ f, fuel = f + 1 := ⟨fuel - 1, by omega⟩
    rw [lengthLoop]
    simp only [bind, Except.bind, hn.next]
    have : (e.ty == LexT.endTop) = false := by simpa using ht
    simp only [this]
    exact ih f _ (by simpa using hf)

theorem Drain.lift {data : Array Cls} {s s1 : Sc} (hl : ∀ r, NextOk data s1 r → NextOk data s r)
    (hle : ∀ e, NextErr data s1 e → NextErr data s e) {evs : List Ev} {f : Stop} (h : Drain data s1 evs f) :
    Drain data s evs f := by
  cases h with
  | eof hn => exact .eof (hl _ hn)
  | top hn ht => exact .top (hl _ hn) ht
  | err hn => exact .err (hle _ hn)
  | ev hn ht h' => exact .ev (hl _ hn) ht h'

/-- one byte is read in front of a drain -/
theorem Drain.read {data : Array Cls} {s s1 : Sc} {c : Cls} (hf : s.finds = []) (hc : data[s.index]? = some c)
    (hd : dispatch 8 s.step { s with index := s.index + 1 } c data[s.index + 1]? data[s.index + 1 + 1]? = .ok s1)
    (hi : s1.index = s.index + 1) {evs : List Ev} {f : Stop} (h : Drain data s1 evs f) : Drain data s evs f :=
  h.lift (nextOk_read_ge hf hc hd (by omega)) (nextErr_read_ge hf hc hd (by omega))

/-- an event stream without `end-top` that runs to the end of input, as a drain -/
theorem _root_.SchemaScan.Emits.drain {data : Array Cls} {s : Sc} {evs : List Ev} (h : Emits data s evs) :
    noTop evs = true → Drain data s evs .eof := by
  induction h with
  | nil h => exact fun _ => .eof h
  | cons h _ ih =>
    intro hnt
    simp only [noTop, List.all_cons, Bool.and_eq_true, bne_iff_ne, ne_eq] at hnt
    exact .ev h hnt.1 (ih (by simpa [noTop] using hnt.2))

/-- a path of events without `end-top` in front of a drain -/
theorem Drain.after {data : Array Cls} {s s' : Sc} {a : List Ev} (hp : Path data s a s') :
    noTop a = true → ∀ {b : List Ev} {f : Stop}, Drain data s' b f → Drain data s (a ++ b) f := by
  induction hp with
  | refl _ => intro _ _ _ h; exact h
  | read hl hle _ ih => intro hnt _ _ h; exact (ih hnt h).lift hl hle
  | @ev s s1 s' e evs hn _ ih =>
    intro hnt _ _ h
    simp only [noTop, List.all_cons, Bool.and_eq_true, bne_iff_ne, ne_eq] at hnt
    exact .ev hn hnt.1 (ih (by simpa [noTop] using hnt.2) h)

/-! ### single bytes of plain JSON as `Path`s -/

variable {lc : Bool} {data : Array Cls}

theorem cfg_byte {st : St} {r : List St} {K : List (LexT × Nat)} {u : Bool} {i : Nat} {CS : List Ctx} {cx : Ctx}
    {al : Bool} {c : Cls} {s1 s2 : Sc} {evs : List Ev} (hc : data[i]? = some c)
    (hd : ∀ p1 p2, dispatch 8 st (cfgL lc st r K u (i + 1) CS cx al) c p1 p2 = .ok s1)
    (hi : s1.index = i + 1) (hdr : drainL data s1.finds s1 = .ok (s2, evs)) :
    Path data (cfgL lc st r K u i CS cx al) evs s2 :=
  Path.byte (s := cfgL lc st r K u i CS cx al) rfl hc hd hi hdr

theorem S_silent {st : St} {r : List St} {u : Bool} {c : Cls} {st' : St} {r' : List St} {u' : Bool}
    (h : silent st r u c = some (st', r', u'))
    (K : List (LexT × Nat)) (i : Nat) (CS : List Ctx) (cx : Ctx) (al : Bool) (hc : data[i]? = some c) :
    Path data (cfgL lc st r K u i CS cx al) [] (cfgL lc st' r' K u' (i + 1) CS cx al) :=
  cfg_byte hc (fun p1 p2 => silent_dispatch 7 st r u c st' r' u' h K (i + 1) CS cx al p1 p2) rfl rfl

theorem S_sp {st : St} (h : wsLoop st = true) {c : Cls} (hs : c.isSpTab = true)
    (K : List (LexT × Nat)) (i : Nat) (CS : List Ctx) (cx : Ctx) (al : Bool) (hc : data[i]? = some c) :
    Path data (cfgL lc st [] K false i CS cx al) [] (cfgL lc st [] K false (i + 1) CS cx al) :=
  cfg_byte hc (fun p1 p2 => loop_sp 7 st h c hs K (i + 1) CS cx al [] p1 p2) rfl rfl

theorem S_nl {st : St} (h : wsLoop st = true)
    (K : List (LexT × Nat)) (i : Nat) (CS : List Ctx) (cx : Ctx) (al : Bool) (hc : data[i]? = some .nl) :
    Path data (cfgL lc st [] K false i CS cx al) [⟨.newLine, i, i⟩] (cfgL lc (nlSt st) [] K false (i + 1) CS cx (nlAl st al)) :=
  cfg_byte hc (fun p1 p2 => loop_nl 7 st h K (i + 1) CS cx al [] p1 p2) rfl rfl

end Len
end SchemaScan
