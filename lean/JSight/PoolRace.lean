/-!
C12: concurrent `Example()` calls on one schema object share the buffer pool of `example.go`. Model: every
goroutine runs  get buffer → write its content → copy the result out → put the buffer back ; the steps of all
goroutines are interleaved by an arbitrary schedule. `sync.Pool.Get` / `Put` are atomic steps.
Theorem: under every schedule every goroutine's result is its own content (what the sequential run gives).
The pinned variant — what the Go tree does at the commit under verification: hand out the pooled buffer itself — fails
under a concrete schedule.
-/
namespace PoolRace

structure G where
  pc : Nat := 0                      -- 0 get, 1 write, 2 copy out, 3 put, 4 done
  buf : Nat := 0                     -- the buffer held while 1 ≤ pc ≤ 3
  res : Option (List Nat) := none

structure PS where
  pool : List Nat := []              -- free buffer ids
  bufs : List (List Nat) := []       -- buffer id = index; content
  gs : Nat → G := fun _ => {}

def upd (gs : Nat → G) (g : Nat) (x : G) : Nat → G := fun h => if h = g then x else gs h

/-- one step of goroutine `g`; `inp g` is the text its `Example()` assembles -/
def step (inp : Nat → List Nat) (s : PS) (g : Nat) : PS :=
  match (s.gs g).pc with
  | 0 => match s.pool with
    | id :: rest => { s with pool := rest, gs := upd s.gs g { s.gs g with pc := 1, buf := id } }
    | [] => { s with bufs := s.bufs ++ [[]], gs := upd s.gs g { s.gs g with pc := 1, buf := s.bufs.length } }
  | 1 => { s with bufs := s.bufs.set (s.gs g).buf (inp g), gs := upd s.gs g { s.gs g with pc := 2 } }
  | 2 => { s with gs := upd s.gs g { s.gs g with pc := 3, res := s.bufs[(s.gs g).buf]? } }
  | 3 => { s with pool := (s.gs g).buf :: s.pool, gs := upd s.gs g { s.gs g with pc := 4 } }
  | _ => s

def run (inp : Nat → List Nat) (s : PS) (sched : List Nat) : PS := sched.foldl (step inp) s

def holds (x : G) : Prop := 1 ≤ x.pc ∧ x.pc ≤ 3

structure Inv (inp : Nat → List Nat) (s : PS) : Prop where
  pool_lt : ∀ id ∈ s.pool, id < s.bufs.length
  pool_nodup : s.pool.Nodup
  held_lt : ∀ g, holds (s.gs g) → (s.gs g).buf < s.bufs.length
  held_free : ∀ g, holds (s.gs g) → (s.gs g).buf ∉ s.pool
  held_distinct : ∀ g h, holds (s.gs g) → holds (s.gs h) → (s.gs g).buf = (s.gs h).buf → g = h
  written : ∀ g, (s.gs g).pc = 2 → s.bufs[(s.gs g).buf]? = some (inp g)
  result : ∀ g, 3 ≤ (s.gs g).pc → (s.gs g).res = some (inp g)

theorem inv_init (inp : Nat → List Nat) : Inv inp {} where
  pool_lt := by simp
  pool_nodup := by simp
  held_lt := by intro g h; simp [holds] at h
  held_free := by intro g h; simp [holds] at h
  held_distinct := by intro g h hg; simp [holds] at hg
  written := by intro g h; simp at h
  result := by intro g h; simp at h

theorem upd_same (gs : Nat → G) (g : Nat) (x : G) : upd gs g x g = x := by simp [upd]
theorem upd_other (gs : Nat → G) (g h : Nat) (x : G) (hne : h ≠ g) : upd gs g x h = gs h := by simp [upd, hne]

/-- The frame of one step of goroutine `g`: what is to be shown of the new pool, the new buffers and `g`'s new record
`x`; every other goroutine keeps its facts. -/
theorem inv_upd {inp : Nat → List Nat} {s : PS} (hi : Inv inp s) (g : Nat) (pool' : List Nat) (bufs' : List (List Nat)) (x : G)
    (hpool : ∀ id ∈ pool', id < bufs'.length) (hnd : pool'.Nodup) (hlen : s.bufs.length ≤ bufs'.length)
    (hfree : ∀ h, h ≠ g → holds (s.gs h) → (s.gs h).buf ∉ pool')
    (hbuf : ∀ h, h ≠ g → (s.gs h).pc = 2 → bufs'[(s.gs h).buf]? = s.bufs[(s.gs h).buf]?)
    (xlt : holds x → x.buf < bufs'.length) (xfree : holds x → x.buf ∉ pool')
    (xdist : ∀ h, h ≠ g → holds x → holds (s.gs h) → x.buf ≠ (s.gs h).buf)
    (xwr : x.pc = 2 → bufs'[x.buf]? = some (inp g)) (xres : 3 ≤ x.pc → x.res = some (inp g)) :
    Inv inp { pool := pool', bufs := bufs', gs := upd s.gs g x } := by
  refine ⟨hpool, hnd, ?_, ?_, ?_, ?_, ?_⟩
  · intro h hh
    by_cases e : h = g
    · subst e; simp only [upd_same] at hh ⊢; exact xlt hh
    · simp only [upd_other _ _ _ _ e] at hh ⊢; exact Nat.lt_of_lt_of_le (hi.held_lt h hh) hlen
  · intro h hh
    by_cases e : h = g
    · subst e; simp only [upd_same] at hh ⊢; exact xfree hh
    · simp only [upd_other _ _ _ _ e] at hh ⊢; exact hfree h e hh
  · intro a b ha hb hab
    by_cases ea : a = g <;> by_cases eb : b = g
    · rw [ea, eb]
    · subst ea
      simp only [upd_other _ _ _ _ eb] at hb hab
      simp only [upd_same] at ha hab
      exact absurd hab (xdist b eb ha hb)
    · subst eb
      simp only [upd_other _ _ _ _ ea] at ha hab
      simp only [upd_same] at hb hab
      exact absurd hab.symm (xdist a ea hb ha)
    · simp only [upd_other _ _ _ _ ea] at ha hab
      simp only [upd_other _ _ _ _ eb] at hb hab
      exact hi.held_distinct a b ha hb hab
  · intro h hh
    by_cases e : h = g
    · subst e; simp only [upd_same] at hh ⊢; exact xwr hh
    · simp only [upd_other _ _ _ _ e] at hh ⊢; rw [hbuf h e hh]; exact hi.written h hh
  · intro h hh
    by_cases e : h = g
    · subst e; simp only [upd_same] at hh ⊢; exact xres hh
    · simp only [upd_other _ _ _ _ e] at hh ⊢; exact hi.result h hh

theorem step_inv (inp : Nat → List Nat) (s : PS) (hi : Inv inp s) (g : Nat) : Inv inp (step inp s g) := by
  unfold step
  split
  · -- get: the buffer comes out of the pool, or is new
    rename_i hpc
    split
    · rename_i id rest hp
      have hnd : id ∉ rest ∧ rest.Nodup := by have := hi.pool_nodup; rw [hp] at this; simpa using this
      have hsub : ∀ x ∈ rest, x ∈ s.pool := fun x hx => by simp [hp, hx]
      exact inv_upd hi g rest s.bufs _ (fun x hx => hi.pool_lt x (hsub x hx)) hnd.2 (Nat.le_refl _)
        (fun h _ hh hm => hi.held_free h hh (hsub _ hm)) (fun _ _ _ => rfl)
        (fun _ => hi.pool_lt id (by simp [hp])) (fun _ => hnd.1)
        (fun h _ _ hh e => hi.held_free h hh (e ▸ (by simp [hp])))
        (fun h => by simp at h) (fun h => by simp at h)
    · rename_i hp
      exact inv_upd hi g s.pool (s.bufs ++ [[]]) _ (by simp [hp]) (by simp [hp]) (by simp) (by simp [hp])
        (fun h _ hh => List.getElem?_append_left (hi.held_lt h (by simp [holds, hh])))
        (fun _ => by simp) (fun _ => by simp [hp])
        (fun h _ _ hh e => by have := hi.held_lt h hh; simp only at e; omega)
        (fun h => by simp at h) (fun h => by simp at h)
  · -- write
    rename_i hpc
    have hg : holds (s.gs g) := by simp [holds, hpc]
    exact inv_upd hi g s.pool _ _ (fun x hx => by simpa using hi.pool_lt x hx) hi.pool_nodup (by simp)
      (fun h _ hh => hi.held_free h hh)
      (fun h e hh => List.getElem?_set_ne (fun hb => e (hi.held_distinct g h hg (by simp [holds, hh]) hb).symm))
      (fun _ => by simpa using hi.held_lt g hg) (fun _ => hi.held_free g hg)
      (fun h e _ hh hb => e (hi.held_distinct g h hg hh hb).symm)
      (fun _ => by simp [hi.held_lt g hg]) (fun h => by simp at h)
  · -- copy out
    rename_i hpc
    have hg : holds (s.gs g) := by simp [holds, hpc]
    exact inv_upd hi g s.pool s.bufs _ hi.pool_lt hi.pool_nodup (Nat.le_refl _) (fun h _ hh => hi.held_free h hh)
      (fun _ _ _ => rfl) (fun _ => hi.held_lt g hg) (fun _ => hi.held_free g hg)
      (fun h e _ hh hb => e (hi.held_distinct g h hg hh hb).symm)
      (fun h => by simp at h) (fun _ => hi.written g hpc)
  · -- put
    rename_i hpc
    have hg : holds (s.gs g) := by simp [holds, hpc]
    have hnh : ¬ holds { s.gs g with pc := 4 } := by simp [holds]
    exact inv_upd hi g _ s.bufs _
      (fun x hx => by
        rcases List.mem_cons.1 hx with rfl | hx
        · exact hi.held_lt g hg
        · exact hi.pool_lt x hx)
      (List.nodup_cons.2 ⟨hi.held_free g hg, hi.pool_nodup⟩) (Nat.le_refl _)
      (fun h e hh hm => by
        rcases List.mem_cons.1 hm with hm | hm
        · exact e (hi.held_distinct h g hh hg hm)
        · exact hi.held_free h hh hm)
      (fun _ _ _ => rfl) (fun hx => absurd hx hnh) (fun hx => absurd hx hnh) (fun _ _ hx => absurd hx hnh)
      (fun h => by simp at h) (fun _ => hi.result g (by omega))
  · exact hi

theorem run_inv (inp : Nat → List Nat) (sched : List Nat) : ∀ s, Inv inp s → Inv inp (run inp s sched) := by
  induction sched with
  | nil => intro s h; exact h
  | cons g gs ih => intro s h; exact ih _ (step_inv inp s h g)

/-- **under every schedule** a goroutine that has copied its result out (and any that has finished) holds
exactly its own text -/
theorem result_is_own (inp : Nat → List Nat) (sched : List Nat) (g : Nat)
    (h : 3 ≤ ((run inp {} sched).gs g).pc) : ((run inp {} sched).gs g).res = some (inp g) :=
  (run_inv inp sched {} (inv_init inp)).result g h

/-! ### the pinned variant: the pooled buffer itself is the result -/
/-- step 2 records the buffer id instead of copying; the caller reads the buffer later -/
def readPinned (s : PS) (g : Nat) : Option (List Nat) := s.bufs[(s.gs g).buf]?

/-- goroutine 0 finishes, goroutine 1 reuses the buffer: what goroutine 0 holds now reads as 1's text -/
theorem pinned_overwritten :
    let inp : Nat → List Nat := fun g => [g + 7]
    let s := run inp {} [0, 0, 0, 0, 1, 1]
    (s.gs 0).pc = 4 ∧ readPinned s 0 = some [8] := by decide

end PoolRace
