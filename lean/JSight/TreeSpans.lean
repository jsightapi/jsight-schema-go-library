import JSight.TreeLen
/-!
C06 corollaries about the denoted events (`evsAt`): every span lies inside the value's text, begins do not exceed ends,
a container's closing event carries the offset of its opening bracket.
-/
namespace JsonScan

theorem render_pos (v : JA) (hv : v.Valid) : 0 < v.render.length := by
  obtain ⟨pre, x, e, _⟩ := render_last_nonws v hv
  rw [e]; simp

theorem renderItems_pos (its : List (List Cls × JA × List Cls)) : 0 < (renderItems its).length := by
  obtain ⟨pre, e⟩ := renderItems_last its; rw [e]; simp

theorem renderMembers_pos (ms : List (List Cls × List Cls × List Cls × List Cls × JA × List Cls)) :
    0 < (renderMembers ms).length := by
  obtain ⟨pre, e⟩ := renderMembers_last ms; rw [e]; simp

/-- inside `[lo, hi)` and well-formed -/
def Ev.within (e : Ev) (lo hi : Nat) : Prop := lo ≤ e.b ∧ e.b ≤ e.e ∧ e.e < hi

theorem Ev.within_mono {e : Ev} {lo hi lo' hi' : Nat} (h : e.within lo hi) (h1 : lo' ≤ lo) (h2 : hi ≤ hi') :
    e.within lo' hi' := ⟨by have := h.1; omega, h.2.1, by have := h.2.2; omega⟩

mutual
theorem spans_value : (v : JA) → v.Valid → (o : Nat) → ∀ e ∈ evsAt o v, e.within o (o + v.render.length)
  | .scalar tok, hv, o => by
    have hp := render_pos (.scalar tok) hv
    simp only [JA.render] at hp
    intro e he
    simp only [evsAt, List.mem_cons, List.mem_nil_iff, or_false] at he
    rcases he with rfl | rfl <;> simp only [Ev.within, JA.render] <;> omega
  | .arr ws0 items, hv, o => by
    obtain ⟨_, hi⟩ : IsWs ws0 ∧ ValidItems items := by simpa [JA.Valid] using hv
    have hpos := renderItems_pos items
    intro e he
    simp only [evsAt, List.mem_cons] at he
    simp only [JA.render, List.length_cons, List.length_append]
    rcases he with rfl | he
    · simp only [Ev.within]; omega
    · rcases spans_items items hi o (o + 1 + ws0.length) e he with ⟨h1, h2, h3⟩ | h
      · simp only [Ev.within]; omega
      · exact Ev.within_mono h (by omega) (by omega)
  | .obj ws0 members, hv, o => by
    obtain ⟨_, hi⟩ : IsWs ws0 ∧ ValidMembers members := by simpa [JA.Valid] using hv
    have hpos := renderMembers_pos members
    intro e he
    simp only [evsAt, List.mem_cons] at he
    simp only [JA.render, List.length_cons, List.length_append]
    rcases he with rfl | he
    · simp only [Ev.within]; omega
    · rcases spans_members members hi o (o + 1 + ws0.length) e he with ⟨h1, h2, h3⟩ | h
      · simp only [Ev.within]; omega
      · exact Ev.within_mono h (by omega) (by omega)
/-- the closing event of the array opened at `a`, or an event inside the items -/
theorem spans_items : (its : List (List Cls × JA × List Cls)) → ValidItems its → (a o : Nat) →
    ∀ e ∈ evsItems a o its,
      (e.ty = .arrE ∧ e.b = a ∧ e.e = o + (renderItems its).length - 1) ∨ e.within o (o + (renderItems its).length - 1)
  | [], _, a, o => by
    intro e he
    simp only [evsItems, List.mem_cons, List.mem_nil_iff, or_false] at he
    subst he
    left; simp [renderItems]
  | (w1, v, w2) :: its, hv, a, o => by
    obtain ⟨_, hvv, _, hits⟩ : IsWs w1 ∧ v.Valid ∧ IsWs w2 ∧ ValidItems its := by simpa [ValidItems] using hv
    have hp := render_pos v hvv
    have hq := renderItems_pos its
    intro e he
    simp only [evsItems, List.mem_cons, List.mem_append] at he
    have hlen : (renderItems ((w1, v, w2) :: its)).length
        = w1.length + v.render.length + w2.length + (if its.isEmpty then 0 else 1) + (renderItems its).length := by
      simp only [renderItems, List.length_append]
      split <;> simp <;> omega
    rw [hlen]
    -- no bound below depends on whether a comma follows
    generalize (if its.isEmpty then 0 else 1) = sep at he ⊢
    rcases he with rfl | he | rfl | he
    · right; simp only [Ev.within]; omega
    · right
      exact Ev.within_mono (spans_value v hvv (o + w1.length) e he) (by omega) (by omega)
    · right; simp only [Ev.within]; omega
    · rcases spans_items its hits a _ e he with ⟨h1, h2, h3⟩ | h
      · left; refine ⟨h1, h2, ?_⟩; rw [h3]; omega
      · right; exact Ev.within_mono h (by omega) (by omega)
theorem spans_members : (ms : List (List Cls × List Cls × List Cls × List Cls × JA × List Cls)) → ValidMembers ms →
    (a o : Nat) → ∀ e ∈ evsMembers a o ms,
      (e.ty = .objE ∧ e.b = a ∧ e.e = o + (renderMembers ms).length - 1) ∨ e.within o (o + (renderMembers ms).length - 1)
  | [], _, a, o => by
    intro e he
    simp only [evsMembers, List.mem_cons, List.mem_nil_iff, or_false] at he
    subst he
    left; simp [renderMembers]
  | (w1, k, w2, w3, v, w4) :: ms, hv, a, o => by
    obtain ⟨_, hk, _, _, hvv, _, hms⟩ :
        IsWs w1 ∧ IsKey k ∧ IsWs w2 ∧ IsWs w3 ∧ v.Valid ∧ IsWs w4 ∧ ValidMembers ms := by
      simpa [ValidMembers] using hv
    have hp := render_pos v hvv
    have hq := renderMembers_pos ms
    have hkp : 0 < k.length := by obtain ⟨tl, rfl, _⟩ := hk; simp
    intro e he
    simp only [evsMembers, List.mem_cons, List.mem_append] at he
    have hlen : (renderMembers ((w1, k, w2, w3, v, w4) :: ms)).length
        = w1.length + k.length + w2.length + 1 + w3.length + v.render.length + w4.length
          + (if ms.isEmpty then 0 else 1) + (renderMembers ms).length := by
      simp only [renderMembers, List.length_append, List.length_cons]
      split <;> simp <;> omega
    rw [hlen]
    generalize (if ms.isEmpty then 0 else 1) = sep at he ⊢
    rcases he with rfl | rfl | rfl | he | rfl | he
    · right; simp only [Ev.within]; omega
    · right; simp only [Ev.within]; omega
    · right; simp only [Ev.within]; omega
    · right
      exact Ev.within_mono (spans_value v hvv _ e he) (by omega) (by omega)
    · right; simp only [Ev.within]; omega
    · rcases spans_members ms hms a _ e he with ⟨h1, h2, h3⟩ | h
      · left; refine ⟨h1, h2, ?_⟩; rw [h3]; omega
      · right; exact Ev.within_mono h (by omega) (by omega)
end

/-- **C06, spans**: every event the scanner delivers for a valid document lies inside the document, and begins do not
exceed ends -/
theorem C06_spans (allow : Bool) (v : JA) (hv : v.Valid) (ws0 ws1 : List Cls) (h0 : IsWs ws0) (h1 : IsWs ws1) :
    ∃ evs, eventsLoop allow (ws0 ++ (v.render ++ ws1)).length (ws0 ++ (v.render ++ ws1)) 0 {} [] = .ok evs ∧
      ∀ e ∈ evs, e.b ≤ e.e ∧ e.e < (ws0 ++ (v.render ++ ws1)).length := by
  refine ⟨_, C06_events_of_tree allow v hv ws0 ws1 h0 h1, ?_⟩
  intro e he
  have := spans_value v hv ws0.length e he
  simp only [List.length_append]
  exact ⟨this.2.1, by have := this.2.2; omega⟩

#print axioms C06_spans

end JsonScan
