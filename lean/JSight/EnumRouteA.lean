import JSight.EnumRoute
import JSight.EnumC2
/-!
C18, route A (named rule): `Enum.Values()` on the text grammar of `EnumC` (literal list, layout with comments) lists
the item tokens in source order (plus comment entries): `values_of_text`. (The loop of `enumValueLoader.ruleName` that
hands them to `constraint.Enum.Append` is in `EnumRouteEq`.) The fuels are the model's: `ruleValues` gives `compileLoop`
`8 * size + 16`, and `compileLoop` gives every call of `next` `2 * size + 16`.
-/
namespace EnumRoute
open EnumScan (OutT Ev Sc LexT Piece Lay layEvs layEvsB LayB ItemC)
open SchemaScan (Cls classify)
open RulesF (Bytes)

/-! ### `doCompile` is a fold over the delivered events -/

theorem OutT_compileLoop (bs : Bytes) (content : Array UInt8) (data : Array Cls) :
    ∀ (fuel : Nat) {s : Sc} {n : Nat} {r : EnumScan.M (List Ev)} (st : CSt), OutT content data s n r → n < fuel →
      ∀ evs, r = .ok evs → compileLoop bs content data fuel s st = evs.foldlM (compileStep bs) st
  | 0, _, _, _, _, _, hfu => by omega
  | fuel + 1, s, n, r, st, h, hfu => by
    intro evs hr
    unfold compileLoop
    cases h.head (2 * data.size + 16) (by omega) with
    | stop hx => rw [hx]; cases hr; rfl
    | err hx hne => cases hr
    | @ev s1 ev n r hx ho =>
      rw [hx]
      cases r with
      | error e => cases hr
      | ok evs' =>
        cases hr
        simp only [List.foldlM_cons, bind, Except.bind]
        cases compileStep bs st ev with
        | error x => rfl
        | ok st' => exact OutT_compileLoop bs content data fuel st' ho (by omega) evs' rfl

/-- `Values()` of a text whose event stream is `evs` -/
theorem ruleValues_of_out (bs : Bytes) (evs : List Ev)
    (h : OutT bs.toArray (bs.map classify).toArray ⟨.begin, [], [], [], 0, false, false, false, false, []⟩ evs.length
      (.ok evs)) (hlen : evs.length < 8 * bs.length + 16) :
    ruleValues bs = (evs.foldlM (compileStep bs) {}).map (fun st => st.rvalues.reverse) := by
  have := OutT_compileLoop bs bs.toArray (bs.map classify).toArray (8 * (bs.map classify).toArray.size + 16) {} h
    (by simpa using hlen) evs rfl
  show (compileLoop bs bs.toArray (bs.map classify).toArray (8 * (bs.map classify).toArray.size + 16)
    ⟨.begin, [], [], [], 0, false, false, false, false, []⟩ {} >>= fun st => pure st.rvalues.reverse) = _
  rw [this]
  cases evs.foldlM (compileStep bs) {} <;> rfl

/-! ### the fold -/

/-- the literal values (source tokens) among `Values`, comment entries skipped -/
def litVals (vs : List Value) : List Bytes := vs.filterMap (fun v => if v.ty == .comment then none else v.value)

/-- every entry is a comment entry or carries its source token -/
def WFV (vs : List Value) : Prop := ∀ v ∈ vs, v.ty = .comment ∨ v.value.isSome = true

/-- `handleEndOfComment` never indexes an empty slice; the entries are well formed -/
def CInv (st : CSt) : Prop := (st.collect = true → st.rvalues ≠ []) ∧ WFV st.rvalues

/-- events that leave the literal values alone -/
def Pres (bs : Bytes) (evs : List Ev) : Prop :=
  ∀ st, CInv st → ∃ st', evs.foldlM (compileStep bs) st = .ok st' ∧ CInv st' ∧ litVals st'.rvalues = litVals st.rvalues

/-- events that add exactly the literals `toks`, in this order -/
def Adds (bs : Bytes) (evs : List Ev) (toks : List Bytes) : Prop :=
  ∀ st, CInv st → ∃ st', evs.foldlM (compileStep bs) st = .ok st' ∧ CInv st' ∧
    litVals st'.rvalues = toks.reverse ++ litVals st.rvalues

theorem Pres.adds {bs : Bytes} {evs : List Ev} (h : Pres bs evs) : Adds bs evs [] := by
  intro st hi
  obtain ⟨st', h1, h2, h3⟩ := h st hi
  exact ⟨st', h1, h2, by simpa using h3⟩

theorem Adds.append {bs : Bytes} {a b : List Ev} {ta tb : List Bytes} (ha : Adds bs a ta) (hb : Adds bs b tb) :
    Adds bs (a ++ b) (ta ++ tb) := by
  intro st hi
  obtain ⟨s1, h1, h2, h3⟩ := ha st hi
  obtain ⟨s2, h4, h5, h6⟩ := hb s1 h2
  refine ⟨s2, ?_, h5, ?_⟩
  · rw [List.foldlM_append, h1]; exact h4
  · rw [h6, h3]; simp

theorem Pres.append {bs : Bytes} {a b : List Ev} (ha : Pres bs a) (hb : Pres bs b) : Pres bs (a ++ b) := by
  intro st hi
  obtain ⟨s1, h1, h2, h3⟩ := ha st hi
  obtain ⟨s2, h4, h5, h6⟩ := hb s1 h2
  refine ⟨s2, ?_, h5, by rw [h6, h3]⟩
  rw [List.foldlM_append, h1]; exact h4

theorem Pres.nil (bs : Bytes) : Pres bs [] := fun st hi => ⟨st, rfl, hi, rfl⟩

/-- an event the collector does not look at -/
def noop : LexT → Bool
  | .litB | .arrB | .arrE | .itemB | .itemE | .inlAnnB | .inlAnnE | .inlTxtB | .mlAnnB | .mlAnnE | .endTop => true
  | _ => false

theorem Pres.noop (bs : Bytes) (e : Ev) (h : noop e.ty = true) : Pres bs [e] := by
  intro st hi
  refine ⟨st, ?_, hi, rfl⟩
  obtain ⟨ty, b, e'⟩ := e
  cases ty <;> first | rfl | (simp [EnumRoute.noop] at h)

theorem Pres.newLine (bs : Bytes) (b e : Nat) : Pres bs [⟨.newLine, b, e⟩] := by
  intro st hi
  refine ⟨if st.inAnn then st else { st with collect := false }, rfl, ?_, ?_⟩
  · split
    · exact hi
    · exact ⟨(by intro h; cases h), hi.2⟩
  · split <;> rfl

theorem Pres.mlTxtB (bs : Bytes) (b e : Nat) : Pres bs [⟨.mlTxtB, b, e⟩] :=
  fun st hi => ⟨{ st with inAnn := true }, rfl, hi, rfl⟩

theorem litVals_setComment (v : Value) (vs : List Value) (c : Bytes) :
    litVals ({ v with comment := c } :: vs) = litVals (v :: vs) := by
  simp [litVals, List.filterMap_cons]

/-- the end of a comment's text, its span inside the text -/
theorem Pres.txtE (bs : Bytes) (ty : LexT) (hty : ty = .inlTxtE ∨ ty = .mlTxtE) (b e : Nat) (h1 : b ≤ e + 1)
    (h2 : e + 1 ≤ bs.length) : Pres bs [⟨ty, b, e⟩] := by
  intro st hi
  have hs : sliceE bs b e = .ok ((bs.drop b).take (e + 1 - b)) := by
    unfold sliceE; simp [h1, h2]; rfl
  have hstep : compileStep bs st ⟨ty, b, e⟩ = (do
      let v ← sliceE bs b e
      let st ← endOfComment st (RulesF.trimSpaces v)
      pure { st with inAnn := false }) := by
    rcases hty with rfl | rfl <;> rfl
  cases hc : st.collect with
  | false =>
    refine ⟨CSt.mk (Value.mk VType.comment none (RulesF.trimSpaces ((bs.drop b).take (e + 1 - b))) :: st.rvalues)
      st.collect false, ?_, ?_, ?_⟩
    · simp only [List.foldlM_cons, List.foldlM_nil, hstep, hs, endOfComment, hc, bind, Except.bind, pure, Except.pure]
      rfl
    · refine ⟨(by intro h; simp), ?_⟩
      intro v hv
      simp only [List.mem_cons] at hv
      rcases hv with rfl | hv
      · exact Or.inl rfl
      · exact hi.2 v hv
    · simp [litVals]
  | true =>
    cases hr : st.rvalues with
    | nil => exact absurd hr (hi.1 hc)
    | cons v vs =>
      refine ⟨CSt.mk (Value.mk v.ty v.value (RulesF.trimSpaces ((bs.drop b).take (e + 1 - b))) :: vs)
        st.collect false, ?_, ?_, ?_⟩
      · simp only [List.foldlM_cons, List.foldlM_nil, hstep, hs, endOfComment, hc, hr, bind, Except.bind, pure,
          Except.pure]
        rfl
      · refine ⟨(by intro h; simp), ?_⟩
        intro x hx
        simp only [List.mem_cons] at hx
        have hw := hi.2
        rw [hr] at hw
        rcases hx with rfl | hx
        · exact hw v (by simp)
        · exact hw x (by simp [hx])
      · exact litVals_setComment v vs _

theorem Pres.nlEvs (bs : Bytes) (ws : List Cls) : ∀ o, Pres bs (EnumScan.nlEvs o ws) := by
  induction ws with
  | nil => intro o; exact Pres.nil bs
  | cons c cs ih =>
    intro o
    simp only [EnumScan.nlEvs]
    refine Pres.append ?_ (ih _)
    split
    · exact Pres.newLine bs o o
    · exact Pres.nil bs

theorem cons_eq_append {α : Type} (x : α) (l : List α) : x :: l = [x] ++ l := rfl

/-- a layout piece inside the text leaves the literal values alone -/
theorem Pres.piece (bs : Bytes) (p : Piece) (o : Nat) (hlen : o + p.render.length ≤ bs.length) : Pres bs (p.evs o) := by
  cases p with
  | blank c => exact Pres.nlEvs bs [c] o
  | inl sp txt =>
    rw [EnumScan.Piece.render_length_inl] at hlen
    -- the five events as singletons appended: the shape `Pres.append` takes
    show Pres bs ([_] ++ ([_] ++ ([_] ++ ([_] ++ ([_] ++ [])))))
    refine Pres.append (Pres.noop bs _ rfl) (Pres.append (Pres.noop bs _ rfl) (Pres.append ?_
      (Pres.append (Pres.noop bs _ rfl) (Pres.append (Pres.newLine bs _ _) (Pres.nil bs)))))
    exact Pres.txtE bs .inlTxtE (Or.inl rfl) _ _ (by omega) (by omega)
  | ml ws txt =>
    rw [EnumScan.Piece.render_length_ml] at hlen
    show Pres bs ([_] ++ (EnumScan.nlEvs _ ws ++ ([_] ++ ([_] ++ ([_] ++ [])))))
    refine Pres.append (Pres.noop bs _ rfl) (Pres.append (Pres.nlEvs bs ws _) ?_)
    refine Pres.append (Pres.mlTxtB bs _ _) (Pres.append ?_ (Pres.append (Pres.noop bs _ rfl) (Pres.nil bs)))
    exact Pres.txtE bs .mlTxtE (Or.inr rfl) _ _ (by omega) (by omega)

theorem Pres.lay (bs : Bytes) (L : Lay) : ∀ (o : Nat), o + (Lay.render L).length ≤ bs.length → Pres bs (layEvs o L) := by
  induction L with
  | nil => intro o _; exact Pres.nil bs
  | cons p L ih =>
    intro o hlen
    simp only [Lay.render, List.length_append] at hlen
    simp only [layEvs]
    exact Pres.append (Pres.piece bs p o (by omega)) (ih _ (by omega))

theorem Pres.layB (bs : Bytes) (L : LayB) (hv : L.Valid) (o : Nat) (hlen : o + (LayB.render L).length ≤ bs.length) :
    Pres bs (layEvsB o L) :=
  Pres.lay bs L.cls o (by rw [LayB.render_length L hv]; exact hlen)

theorem ne_of_ite {c : Prop} [Decidable c] {a t k : VType} {x : Option VType} (ha : a ≠ k) (hx : x = some t → t ≠ k)
    (h : (if c then some a else x) = some t) : t ≠ k := by
  split at h
  · cases h; exact ha
  · exact hx h

/-- a token that is a scalar is not a comment: none of the seven answers of `guessSchemaType` is -/
theorem guess_ne_comment {tok : Bytes} {t : VType} (h : guessSchemaType tok = some t) : t ≠ VType.comment := by
  unfold guessSchemaType at h
  exact ne_of_ite (by decide) (ne_of_ite (by decide) (ne_of_ite (by decide) (ne_of_ite (by decide)
    (ne_of_ite (by decide) (ne_of_ite (by decide) (ne_of_ite (by decide) (fun h' => by cases h'))))))) h

/-- the end of a literal adds its token -/
theorem Adds.litE (bs : Bytes) (tok : Bytes) (b e : Nat) (hs : sliceE bs b e = .ok tok)
    (hg : (guessSchemaType tok).isSome = true) : Adds bs [⟨.litE, b, e⟩] [tok] := by
  intro st hi
  obtain ⟨t, ht⟩ := Option.isSome_iff_exists.mp hg
  refine ⟨CSt.mk (Value.mk t (some tok) [] :: st.rvalues) true st.inAnn, ?_, ?_, ?_⟩
  · show (compileStep bs st ⟨.litE, b, e⟩ >>= pure) = _
    simp only [compileStep, hs, ht, bind, Except.bind, pure, Except.pure]
  · refine ⟨fun _ => List.cons_ne_nil _ _, ?_⟩
    intro v hv
    rcases List.mem_cons.mp hv with rfl | hv
    · exact Or.inr rfl
    · exact hi.2 v hv
  · simp [litVals, guess_ne_comment ht]

/-- the four events of an item add its token -/
theorem Adds.item (bs : Bytes) (tok : Bytes) (o : Nat) (hat : Lay.AtB bs.toArray o tok)
    (hne : 1 ≤ tok.length) (hle : o + tok.length ≤ bs.length) (hg : (guessSchemaType tok).isSome = true) :
    Adds bs (EnumScan.itemEvs o (o + tok.length)) [tok] := by
  have hs : sliceE bs o (o + tok.length - 1) = .ok tok := by
    unfold sliceE
    rw [if_pos ⟨by omega, by omega⟩, show o + tok.length - 1 + 1 - o = tok.length by omega]
    exact congrArg _ (Lay.take_of_AtB bs.toArray tok o hat)
  exact (Pres.noop bs _ rfl).adds.append ((Pres.noop bs _ rfl).adds.append
    ((Adds.litE bs tok _ _ hs hg).append (Pres.noop bs _ rfl).adds))

/-- the collector's literal values over the items of the text -/
theorem Adds.items (bs : Bytes) (a : Nat) (its : List ItemC) : ∀ (o : Nat),
    EnumScan.ValidItemsC its → (∀ it ∈ its, (guessSchemaType it.2.1).isSome = true) →
    Lay.AtB bs.toArray o (EnumScan.renderItemsC its) → o + (EnumScan.renderItemsC its).length ≤ bs.length →
    Adds bs (EnumScan.evsItemsC a o its) (its.map (·.2.1)) := by
  induction its with
  | nil =>
    intro o _ _ _ _
    exact (Pres.noop bs _ rfl).adds
  | cons it its ih =>
    intro o hv hg hat hlen
    obtain ⟨l1, t, l2⟩ := it
    obtain ⟨hl1, htk, hl2⟩ : LayB.Valid l1 ∧ EnumScan.IsTok (t.map classify) ∧ LayB.Valid l2 := hv (l1, t, l2) (by simp)
    have ht := htk.length_pos
    simp only [List.length_map] at ht
    simp only [EnumScan.renderItemsC, Lay.AtB_append] at hat
    simp only [EnumScan.renderItemsC, List.length_append] at hlen
    have h1 := Pres.layB bs l1 hl1 o (by omega)
    have h2 := Adds.item bs t (o + (LayB.render l1).length) hat.2.1 ht (by omega) (hg (l1, t, l2) (by simp))
    have h3 := Pres.layB bs l2 hl2 (o + (LayB.render l1).length + t.length) (by omega)
    have h4 := ih (o + (LayB.render l1).length + t.length + (LayB.render l2).length + (if its.isEmpty then 0 else 1))
      (fun x hx => hv x (by simp [hx])) (fun x hx => hg x (by simp [hx]))
      (by cases its <;> exact hat.2.2.2.2) (by cases its <;> simp at hlen ⊢ <;> omega)
    have := (h1.adds.append (h2.append (h3.adds.append h4)))
    simpa [EnumScan.evsItemsC] using this

theorem litVals_reverse (vs : List Value) : litVals vs.reverse = (litVals vs).reverse := by
  simp [litVals, List.filterMap_reverse]

/-- **`Values()` lists the literals in source order**: for the text grammar with comments, `Values()` succeeds and its
non-comment entries carry, in order, exactly the item tokens -/
theorem values_of_text (pre : Bytes) (ws0 post : LayB) (items : List ItemC)
    (hpre : EnumScan.IsWsB pre) (hws0 : ws0.Valid) (hpost : post.Valid) (hv : EnumScan.ValidItemsC items)
    (hnd : (items.map EnumScan.itemKeyC).Nodup) (hg : ∀ it ∈ items, (guessSchemaType it.2.1).isSome = true) :
    ∃ vs, ruleValues (EnumScan.renderEnumC pre ws0 items post) = .ok vs ∧ litVals vs = items.map (·.2.1) ∧ WFV vs := by
  have hout := EnumScan.enumC_out false pre ws0 post items hpre hws0 hpost hv hnd
  have hle := EnumScan.enumEvsC_length_le pre ws0 post items hws0 hpost hv
  rw [ruleValues_of_out _ _ hout (by omega)]
  have hlen := EnumScan.renderEnumC_length pre ws0 post items
  -- the fold
  have hA : Adds (EnumScan.renderEnumC pre ws0 items post) (EnumScan.enumEvsC pre ws0 items post) (items.map (·.2.1)) := by
    have h0 : Pres (EnumScan.renderEnumC pre ws0 items post) [⟨.arrB, pre.length, pre.length⟩] := Pres.noop _ _ rfl
    have h1 := Pres.layB (EnumScan.renderEnumC pre ws0 items post) ws0 hws0 (pre.length + 1) (by omega)
    have h2 := Adds.items (EnumScan.renderEnumC pre ws0 items post) pre.length items
      (pre.length + 1 + (LayB.render ws0).length) hv hg (EnumScan.atB_enum pre _ _ (LayB.render post) rfl).2.2.2.1
      (by omega)
    have h3 := Pres.layB (EnumScan.renderEnumC pre ws0 items post) post hpost
      (pre.length + 1 + (LayB.render ws0).length + (EnumScan.renderItemsC items).length) (by omega)
    have := h0.adds.append (h1.adds.append (h2.append h3.adds))
    simpa [EnumScan.enumEvsC] using this
  obtain ⟨st', h1, h2, h3⟩ := hA {} ⟨(by intro h; cases h), (by intro v hv; cases hv)⟩
  refine ⟨st'.rvalues.reverse, by rw [h1]; rfl, ?_, ?_⟩
  · rw [litVals_reverse, h3]
    simp [litVals]
  · intro v hv
    exact h2.2 v (by simpa using hv)

end EnumRoute
