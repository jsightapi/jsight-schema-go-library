import JSight.ValidateTProofs
/-!
C03 with key shortcuts: named user types, additionalProperties,
and key shortcuts with the one-slot, declaration-order matching of fix F-15.  A position's validators are built as the code does it
(`NodeValidatorList`): type names are expanded depth-first, each name once per position; a nullable reference adds a
literal validator.  The tree of validators shares parents as in `ValidateT`.  Spec: `ValidateKSpec`; `ValidateKProofs` proves the two equal.
-/
namespace VK
open VN (J Ev evs evsItems evsMembers)
variable {L D : Type}

/-- `additionalProperties` -/
inductive AddMode (L : Type)
  | none                       -- rule absent or `false`: unknown keys are errors
  | any                        -- `true` / "any"
  | obj | arr                  -- "object" / "array"
  | lit (l : L)                -- a scalar schema type
  | type (name : String)       -- "@T"

inductive S (L : Type)
  | lit (l : L)
  | any
  | arr (items : List (S L))
  | obj (props : List (String × Bool × S L)) (shorts : List (String × Bool × S L)) (add : AddMode L)
  | ref (names : List String) (nul : Option L)     -- `@A | @B`, optionally nullable

abbrev Env (L : Type) := List (String × S L)
def lookupT (env : Env L) (n : String) : Option (S L) := (env.find? (·.1 == n)).map (·.2)

/-- `validatorListConstructor.buildList`: the non-reference schemas a position is validated against -/
def build (env : Env L) : Nat → S L → List String × List (S L) → List String × List (S L)
  | 0, _, st => st
  | fuel + 1, .ref names nul, st =>
    let st' := names.foldl (fun st n =>
      if st.1.contains n then st
      else match lookupT env n with
        | some t => build env fuel t (n :: st.1, st.2)
        | none => (n :: st.1, st.2)) st
    match nul with
    | some l => (st'.1, st'.2 ++ [.lit l])
    | none => st'
  | _ + 1, s, st => (st.1, st.2 ++ [s])

def alts (env : Env L) (s : S L) : List (S L) := (build env (env.length + 1) s ([], [])).2

inductive Frame (L : Type)
  | lit (l : L)
  | any (depth : Nat)
  | arr (items : List (S L)) (count : Nat)
  | obj (props : List (String × Bool × S L)) (shorts : List (String × Bool × S L)) (add : AddMode L)
      (req : List String) (used : List String) (last : Option String)
  | addObj | addArr                                 -- additionalProperties: "object" / "array" before the first lexeme
  | dead                                            -- a reference is never a validator

def requiredKeys (props : List (String × Bool × S L)) : List String :=
  (props.filter (fun p => p.2.1)).map (·.1)

def frameOf : S L → Frame L
  | .lit l => .lit l
  | .any => .any 0
  | .arr items => .arr items 0
  | .obj props shorts add => .obj props shorts add (requiredKeys props ++ (requiredKeys shorts).map ("@" ++ ·)) [] none
  | .ref _ _ => .dead

def heads (env : Env L) (s : S L) : List (Frame L) := (alts env s).map frameOf

/-- `newAdditionalPropertiesValidator` -/
def addHeads (env : Env L) : AddMode L → List (Frame L)
  | .none => []
  | .any => [.any 0]
  | .obj => [.addObj]
  | .arr => [.addArr]
  | .lit l => [.lit l]
  | .type n => heads env (.ref [n] none)

def childAt (items : List (S L)) (i : Nat) : Option (S L) :=
  match items with
  | [] => none
  | _ => items[min i (items.length - 1)]?

def lookup (props : List (String × Bool × S L)) (k : String) : Option (S L) :=
  (props.find? (fun p => p.1 == k)).map (·.2.2)

inductive FeedRes (L : Type)
  | fail | done | stay (f : Frame L) | kids (f : Frame L) (hs : List (Frame L))

def feed1 (env : Env L) (litOK : L → D → Bool) (keyOK : String → String → Bool) : Frame L → Ev D → FeedRes L
  | .dead, _ => .fail
  | .addObj, e => match e with | .objB => .stay (.any 1) | _ => .fail
  | .addArr, e => match e with | .arrB => .stay (.any 1) | _ => .fail
  | .lit l, e =>
    match e with
    | .litB => .stay (.lit l)
    | .litE d => if litOK l d then .done else .fail
    | _ => .fail
  | .any d, e =>
    if (if e.isOpening then d + 1 else d - 1) == 0 then .done else .stay (.any (if e.isOpening then d + 1 else d - 1))
  | .arr items c, e =>
    match e with
    | .arrB | .itemE => .stay (.arr items c)
    | .itemB => match childAt items c with
      | some s => .kids (.arr items (c + 1)) (heads env s)
      | none => .fail
    | .arrE => .done
    | _ => .fail
  | .obj props shorts add req used last, e =>
    match e with
    | .objB | .keyB | .valE => .stay (.obj props shorts add req used last)
    | .keyE k => .stay (.obj props shorts add (req.filter (· != k)) used (some k))
    | .valB => match last with
      | some k => match lookup props k with
        | some s => .kids (.obj props shorts add req used last) (heads env s)
        | none =>
          -- key shortcuts in declaration order, each admits one document key (F-15)
          match shorts.find? (fun sc => !used.contains sc.1 && keyOK sc.1 k) with
          | some sc => .kids (.obj props shorts add (req.filter (· != "@" ++ sc.1)) (sc.1 :: used) last) (heads env sc.2.2)
          | none => .kids (.obj props shorts add req used last) (addHeads env add)
      | none => .fail
    | .objE => if req.isEmpty then .done else .fail
    | _ => .fail

inductive T (L : Type)
  | node (f : Frame L) (live : Bool) (kids : List (T L))

def leafT (f : Frame L) : T L := .node f true []

def own (env : Env L) (litOK : L → D → Bool) (keyOK : String → String → Bool) (f : Frame L) (live : Bool) (e : Ev D) :
    Frame L × Bool × List (Frame L) × Bool :=
  if live then
    match feed1 env litOK keyOK f e with
    | .fail => (f, false, [], false)
    | .done => (f, false, [], true)
    | .stay f' => (f', true, [], false)
    | .kids f' hs => (f', false, hs, false)
  else (f, false, [], false)

def assemble (o : Frame L × Bool × List (Frame L) × Bool) (k : List (T L) × Bool) : Option (T L) × Bool :=
  if o.2.2.2 then (none, true)
  else if !(o.2.1 || k.2) && (k.1 ++ o.2.2.1.map leafT).isEmpty then (none, false)
  else (some (.node o.1 (o.2.1 || k.2) (k.1 ++ o.2.2.1.map leafT)), false)

mutual
def stepT (env : Env L) (litOK : L → D → Bool) (keyOK : String → String → Bool) : T L → Ev D → Option (T L) × Bool
  | .node f live kids, e => assemble (own env litOK keyOK f live e) (stepG env litOK keyOK kids e)
def stepG (env : Env L) (litOK : L → D → Bool) (keyOK : String → String → Bool) : List (T L) → Ev D → List (T L) × Bool
  | [], _ => ([], false)
  | t :: ts, e =>
    ((match (stepT env litOK keyOK t e).1 with | some x => x :: (stepG env litOK keyOK ts e).1 | none => (stepG env litOK keyOK ts e).1),
      (stepT env litOK keyOK t e).2 || (stepG env litOK keyOK ts e).2)
end

def runQ (env : Env L) (litOK : L → D → Bool) (keyOK : String → String → Bool) : List (T L) → List (Ev D) → Option (List (T L) × Bool)
  | g, [] => some (g, false)
  | g, e :: es =>
    if es.isEmpty then some (stepG env litOK keyOK g e)
    else if (stepG env litOK keyOK g e).2 then none else runQ env litOK keyOK (stepG env litOK keyOK g e).1 es

def validateT (env : Env L) (litOK : L → D → Bool) (keyOK : String → String → Bool) (s : S L) (d : J D) : Bool :=
  match runQ env litOK keyOK ((heads env s).map leafT) (evs d) with
  | some (_, b) => b
  | none => false

end VK
