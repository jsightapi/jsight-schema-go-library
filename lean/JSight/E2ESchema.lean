import JSight.E2ESpec
import JSight.LayoutAbs
import JSight.E2ELoad
import JSight.CompileShortcut
import JSight.NodeTable
/-!
Schema half of `C01_text_level`: on the node table a plain-JSON value denotes (`Lay.tableOf`, what scanner model +
loader model build for its text: `C13_text_with_comments_loads_value`) the phases of `Compile` run without error and
yield the compiled tree `cnOf` of the value (`compileNode_sits`, on any table in which the nodes stand;
`compileItems_table` / `compileProps_table`: its list parts with the table written out as `pre ++ (nodes ++ post)`);
`check` accepts it; the guards of `validateText` about key shortcuts pass; its validator schema is `vkOf` in an empty
environment; `loadSchema_plain` is the stage as a whole.
-/
namespace E2E
open Rules (Kind)
open Lay (JV ANode tableOf tableItems tableMembers idxJ idxM keysM countJ countM)
open Compile
open NodeTable (Sits sits_mid)

/-- a rule-free resolved node -/
def ofA (a : ANode) : RNode :=
  { kind := a.kind, children := a.children, keys := a.keys, value := a.value, rules := [] }

mutual
/-- the compiled tree of a plain-JSON value; a property is (key, is-shortcut = `false`, required = `!opt`,
`optional: true` written = `false`, value), as `CN.obj` lists them -/
def cnOf (opt : Bool) : JV → CN
  | .lit tok => .lit { kind := kindOf tok, ex := tok, nul := false, rules := [] } false
  | .arr items => .arr (cnItems opt items) false false
  | .obj ms => .obj (cnMembers opt ms) .absent false false
def cnItems (opt : Bool) : List JV → List CN
  | [] => []
  | v :: vs => cnOf opt v :: cnItems opt vs
def cnMembers (opt : Bool) : List (List UInt8 × JV) → List (String × Bool × Bool × Bool × CN)
  | [] => []
  | (k, v) :: ms => (keyOf k, false, !opt, false, cnOf opt v) :: cnMembers opt ms
end

mutual
theorem tableOf_length : (v : JV) → (par : Option Nat) → (n : Nat) → (tableOf par n v).length = v.count
  | .lit _, _, _ => rfl
  | .arr items, par, n => by simp [tableOf, JV.count, tableItems_length items n (n + 1)]; omega
  | .obj ms, par, n => by simp [tableOf, JV.count, tableMembers_length ms n (n + 1)]; omega
theorem tableItems_length : (items : List JV) → (a n : Nat) → (tableItems a n items).length = countJ items
  | [], _, _ => rfl
  | v :: vs, a, n => by simp [tableItems, countJ, tableOf_length v, tableItems_length vs]
theorem tableMembers_length : (ms : List (List UInt8 × JV)) → (a n : Nat) → (tableMembers a n ms).length = countM ms
  | [], _, _ => rfl
  | (_, v) :: ms, a, n => by simp [tableMembers, countM, tableOf_length v, tableMembers_length ms]
end

theorem keysM_length : (ms : List (List UInt8 × JV)) → (keysM ms).length = ms.length
  | [] => rfl
  | (_, _) :: ms => by simp [keysM, keysM_length ms]

theorem idxM_length : (ms : List (List UInt8 × JV)) → (n : Nat) → (idxM n ms).length = ms.length
  | [], _ => rfl
  | (_, _) :: ms, n => by simp [idxM, idxM_length ms]

mutual
/-- `compileNode` on any table in which the nodes of `v` stand from `n` on -/
theorem compileNode_sits (opt : Bool) {tbl : Array RNode} : (v : JV) → guessable v = true → (par : Option Nat) →
    (n : Nat) → Sits tbl n ((tableOf par n v).map ofA) → (fuel : Nat) → (pobj : Bool) → v.count ≤ fuel →
    compileNode tbl opt fuel n pobj = .ok (cnOf opt v, none)
  | .lit tok, hg, par, n, hs, f + 1, pobj, _ => by
    obtain ⟨k, hk⟩ := Option.isSome_iff_exists.mp hg
    simpa [cnOf, kindOf, hk] using compileNode_lit hs.1 hk
  | .arr its, hg, par, n, hs, f + 1, pobj, hf =>
    compileNode_arr hs.1 (compileItems_sits opt its hg n (n + 1) hs.2 f (by simp only [JV.count] at hf; omega))
  | .obj ms, hg, par, n, hs, f + 1, pobj, hf =>
    compileNode_obj hs.1 (by simp [keysM_length, idxM_length])
      (compileProps_sits opt ms hg n (n + 1) hs.2 f (by simp only [JV.count] at hf; omega))
  | .arr _, _, _, _, _, 0, _, hf | .obj _, _, _, _, _, 0, _, hf => by simp only [JV.count] at hf; omega
theorem compileItems_sits (opt : Bool) {tbl : Array RNode} : (its : List JV) → guessableItems its = true → (a n : Nat) →
    Sits tbl n ((tableItems a n its).map ofA) → (fuel : Nat) → countJ its ≤ fuel →
    compileItems tbl opt fuel (idxJ n its) = .ok (cnItems opt its)
  | [], _, _, _, _, _, _ => by simp [idxJ, compileItems, cnItems]
  | v :: vs, hg, a, n, hs, fuel, hf => by
    obtain ⟨hg1, hg2⟩ : guessable v = true ∧ guessableItems vs = true := by simpa [guessableItems] using hg
    simp only [countJ] at hf
    obtain ⟨h1, h2⟩ := Sits.append (by simpa only [tableItems, List.map_append] using hs)
    rw [List.length_map, tableOf_length] at h2
    exact compileItems_cons (compileNode_sits opt v hg1 (some a) n h1 fuel false (by omega))
      (compileItems_sits opt vs hg2 a _ h2 fuel (by omega))
theorem compileProps_sits (opt : Bool) {tbl : Array RNode} : (ms : List (List UInt8 × JV)) → guessableMembers ms = true →
    (a n : Nat) → Sits tbl n ((tableMembers a n ms).map ofA) → (fuel : Nat) → countM ms ≤ fuel →
    compileProps tbl opt fuel (keysM ms) (idxM n ms) = .ok (cnMembers opt ms)
  | [], _, _, _, _, _, _ => by simp [keysM, idxM, compileProps, cnMembers]
  | (k, v) :: ms, hg, a, n, hs, fuel, hf => by
    obtain ⟨hg1, hg2⟩ : guessable v = true ∧ guessableMembers ms = true := by simpa [guessableMembers] using hg
    simp only [countM] at hf
    obtain ⟨h1, h2⟩ := Sits.append (by simpa only [tableMembers, List.map_append] using hs)
    rw [List.length_map, tableOf_length] at h2
    exact compileProps_cons (compileNode_sits opt v hg1 (some a) n h1 fuel true (by omega))
      (compileProps_sits opt ms hg2 a _ h2 fuel (by omega))
end

theorem compileItems_table (opt : Bool) : (items : List JV) → guessableItems items = true → (pre post : List RNode) → (a fuel : Nat) →
    countJ items ≤ fuel →
    compileItems (pre ++ ((tableItems a pre.length items).map ofA ++ post)).toArray opt fuel (idxJ pre.length items)
      = .ok (cnItems opt items) :=
  fun items hg pre post a fuel hf => compileItems_sits opt items hg a _ (sits_mid pre _ post) fuel hf
theorem compileProps_table (opt : Bool) : (ms : List (List UInt8 × JV)) → guessableMembers ms = true → (pre post : List RNode) →
    (a fuel : Nat) → countM ms ≤ fuel →
    compileProps (pre ++ ((tableMembers a pre.length ms).map ofA ++ post)).toArray opt fuel (keysM ms)
      (idxM pre.length ms) = .ok (cnMembers opt ms) :=
  fun ms hg pre post a fuel hf => compileProps_sits opt ms hg a _ (sits_mid pre _ post) fuel hf

/-! ### `check` accepts the compiled tree

Every literal passes its own validator (`litErr_plain`: the example token has the kind guessed from it), no property is a
key shortcut (`find_short_none`), and the type graph of a tree without references has nothing to visit
(`checkOuter_plain`). -/

/-- the literal validator of a rule-free scalar node is the kind matrix -/
theorem litOK_plain (k : Kind) (e tok : Bytes) :
    RulesF.litOKFull noOracles { kind := k, ex := e, nul := false, rules := [] } tok = kindOKTok k tok := by
  unfold RulesF.litOKFull RulesF.kindGate RulesF.hasEnum kindOKTok
  cases RulesF.kindOfTok tok <;> simp

theorem litErr_plain (tok : Bytes) (h : (RulesF.kindOfTok tok).isSome = true) :
    litErr { kind := kindOf tok, ex := tok, nul := false, rules := [] } tok = none := by
  obtain ⟨k, hk⟩ := Option.isSome_iff_exists.mp h
  unfold litErr
  rw [litOK_plain]
  simp [kindOKTok, kindOf, hk]

/-- no property of `cnMembers` is a key shortcut (the flag `p.2.1`), so `checkNode`'s searches for a shortcut property
with whatever further test `f` find nothing -/
theorem find_short_none (opt : Bool) (f : String × Bool × Bool × Bool × CN → Bool) :
    (ms : List (List UInt8 × JV)) → (cnMembers opt ms).find? (fun p => p.2.1 && f p) = none
  | [] => rfl
  | (k, v) :: ms => by simp [cnMembers, find_short_none opt f ms]

mutual
theorem checkNode_plain (opt : Bool) (fuel : Nat) : (v : JV) → guessable v = true →
    checkNode [] fuel (cnOf opt v) = .ok ()
  | .lit tok, hg => by
    simp only [guessable] at hg
    simp [cnOf, checkNode, litErr_plain tok hg]
  | .arr items, hg => by
    have hg' : guessableItems items = true := by simpa [guessable] using hg
    simp [cnOf, checkNode, checkItems_plain opt fuel items hg']
  | .obj ms, hg => by
    have hg' : guessableMembers ms = true := by simpa [guessable] using hg
    simp only [cnOf, checkNode, find_short_none, checkProps_plain opt fuel ms hg']
    simp
theorem checkItems_plain (opt : Bool) (fuel : Nat) : (items : List JV) → guessableItems items = true →
    checkItems [] fuel (cnItems opt items) = .ok ()
  | [], _ => rfl
  | v :: vs, hg => by
    obtain ⟨hg1, hg2⟩ : guessable v = true ∧ guessableItems vs = true := by simpa [guessableItems] using hg
    simp [cnItems, checkItems, checkNode_plain opt fuel v hg1, checkItems_plain opt fuel vs hg2]
theorem checkProps_plain (opt : Bool) (fuel : Nat) : (ms : List (List UInt8 × JV)) → guessableMembers ms = true →
    checkProps [] fuel (cnMembers opt ms) = .ok ()
  | [], _ => rfl
  | (k, v) :: ms, hg => by
    obtain ⟨hg1, hg2⟩ : guessable v = true ∧ guessableMembers ms = true := by simpa [guessableMembers] using hg
    simp [cnMembers, checkProps, checkNode_plain opt fuel v hg1, checkProps_plain opt fuel ms hg2]
end

mutual
theorem checkOuter_plain (opt : Bool) (g : TG.G) (vis : List String) : (v : JV) →
    TG.checkOuter g vis (toTG (cnOf opt v)).2 = true
  | .lit _ => by simp [cnOf, toTG, TG.checkOuter]
  | .arr _ => by simp [cnOf, toTG, TG.checkOuter]
  | .obj ms => by simp [cnOf, toTG, TG.checkOuter, checkOuterProps_plain opt g vis ms]
theorem checkOuterProps_plain (opt : Bool) (g : TG.G) (vis : List String) : (ms : List (List UInt8 × JV)) →
    TG.checkOuterProps g vis (toTGProps (cnMembers opt ms)) = true
  | [] => by simp [cnMembers, toTGProps, TG.checkOuterProps]
  | (k, v) :: ms => by
    simp [cnMembers, toTGProps, TG.checkOuterProps, checkOuter_plain opt g vis v, checkOuterProps_plain opt g vis ms]
end

/-- `Check` accepts the compiled tree of a plain-JSON value -/
theorem check_plain (opt : Bool) (v : JV) (hg : guessable v = true) : check (cnOf opt v) [] = .ok () := by
  simp [check, checkNode_plain opt _ v hg, sortNames, checkTypes, TG.check, tgOf, checkOuter_plain]

/-! ### the guards of `validateText` about key shortcuts: every key type is a string literal (`shortcutsOK`), no key type
is compared as a raw token (`rawKeyTypes`); a tree without key shortcuts passes both -/

mutual
theorem shortcutsOK_plain (opt : Bool) : (v : JV) → shortcutsOK [] (cnOf opt v) = true
  | .lit _ => rfl
  | .arr items => by simp [cnOf, shortcutsOK, shortcutsItems_plain opt items]
  | .obj ms => by simp [cnOf, shortcutsOK, shortcutsProps_plain opt ms]
theorem shortcutsItems_plain (opt : Bool) : (items : List JV) → shortcutsItems [] (cnItems opt items) = true
  | [] => rfl
  | v :: vs => by simp [cnItems, shortcutsItems, shortcutsOK_plain opt v, shortcutsItems_plain opt vs]
theorem shortcutsProps_plain (opt : Bool) : (ms : List (List UInt8 × JV)) → shortcutsProps [] (cnMembers opt ms) = true
  | [] => rfl
  | (k, v) :: ms => by simp [cnMembers, shortcutsProps, shortcutsOK_plain opt v, shortcutsProps_plain opt ms]
end

mutual
theorem rawKeyTypes_plain (opt : Bool) : (v : JV) → rawKeyTypes [] (cnOf opt v) = false
  | .lit _ => rfl
  | .arr items => by simp [cnOf, rawKeyTypes, rawKeyItems_plain opt items]
  | .obj ms => by simp [cnOf, rawKeyTypes, rawKeyProps_plain opt ms]
theorem rawKeyItems_plain (opt : Bool) : (items : List JV) → rawKeyItems [] (cnItems opt items) = false
  | [] => rfl
  | v :: vs => by simp [cnItems, rawKeyItems, rawKeyTypes_plain opt v, rawKeyItems_plain opt vs]
theorem rawKeyProps_plain (opt : Bool) : (ms : List (List UInt8 × JV)) → rawKeyProps [] (cnMembers opt ms) = false
  | [] => rfl
  | (k, v) :: ms => by simp [cnMembers, rawKeyProps, rawKeyTypes_plain opt v, rawKeyProps_plain opt ms]
end

/-! ### the validator schema of a plain-JSON value -/

mutual
def vkOf (opt : Bool) : JV → VK.S Lit
  | .lit tok => .lit (.node { kind := kindOf tok, ex := tok, nul := false, rules := [] })
  | .arr items => .arr (vkItems opt items)
  | .obj ms => .obj (vkMembers opt ms) [] .none
def vkItems (opt : Bool) : List JV → List (VK.S Lit)
  | [] => []
  | v :: vs => vkOf opt v :: vkItems opt vs
def vkMembers (opt : Bool) : List (List UInt8 × JV) → List (String × Bool × VK.S Lit)
  | [] => []
  | (k, v) :: ms => (keyOf k, !opt, vkOf opt v) :: vkMembers opt ms
end

mutual
theorem toVK_plain (opt : Bool) : (v : JV) → (path : String) → toVK path (cnOf opt v) = vkOf opt v
  | .lit _, _ => rfl
  | .arr items, path => by simp [cnOf, toVK, vkOf, toVKItems_plain opt items path 0]
  | .obj ms, path => by
    simp [cnOf, toVK, vkOf, toVKProps_plain opt ms path 0, toVKShorts_plain opt ms path 0, toAdd]
theorem toVKItems_plain (opt : Bool) : (items : List JV) → (path : String) → (i : Nat) →
    toVKItems path i (cnItems opt items) = vkItems opt items
  | [], _, _ => rfl
  | v :: vs, path, i => by simp [cnItems, toVKItems, vkItems, toVK_plain opt v, toVKItems_plain opt vs path (i + 1)]
theorem toVKProps_plain (opt : Bool) : (ms : List (List UInt8 × JV)) → (path : String) → (i : Nat) →
    toVKProps path i false (cnMembers opt ms) = vkMembers opt ms
  | [], _, _ => rfl
  | (k, v) :: ms, path, i => by
    simp [cnMembers, toVKProps, vkMembers, toVK_plain opt v, toVKProps_plain opt ms path (i + 1)]
theorem toVKShorts_plain (opt : Bool) : (ms : List (List UInt8 × JV)) → (path : String) → (i : Nat) →
    toVKProps path i true (cnMembers opt ms) = []
  | [], _, _ => rfl
  | (k, v) :: ms, path, i => by simp [cnMembers, toVKProps, toVKShorts_plain opt ms path (i + 1)]
end

-- no container of a plain value is nullable, so no type is synthesised and the validator's environment is empty
mutual
theorem synth_plain (opt : Bool) : (v : JV) → (path : String) → synth path (cnOf opt v) = []
  | .lit _, _ => rfl
  | .arr items, path => by simp [cnOf, synth, synthItems_plain opt items path 0]
  | .obj ms, path => by simp [cnOf, synth, synthProps_plain opt ms path 0]
theorem synthItems_plain (opt : Bool) : (items : List JV) → (path : String) → (i : Nat) →
    synthItems path i (cnItems opt items) = []
  | [], _, _ => rfl
  | v :: vs, path, i => by simp [cnItems, synthItems, synth_plain opt v, synthItems_plain opt vs path (i + 1)]
theorem synthProps_plain (opt : Bool) : (ms : List (List UInt8 × JV)) → (path : String) → (i : Nat) →
    synthProps path i (cnMembers opt ms) = []
  | [], _, _ => rfl
  | (k, v) :: ms, path, i => by simp [cnMembers, synthProps, synth_plain opt v, synthProps_plain opt ms path (i + 1)]
end

theorem envOf_plain (opt : Bool) (v : JV) : envOf (cnOf opt v) [] = [] := by
  simp [envOf, synth_plain]

/-! ### the load stage on the table of a plain value -/

open Lay (absNode absTable)
open NodeTable (sits_all)

mutual
theorem tableOf_rules : (v : JV) → (par : Option Nat) → (n : Nat) → ∀ a ∈ tableOf par n v, a.rules = []
  | .lit _, _, _, a, h => by simp [tableOf] at h; subst h; rfl
  | .arr items, par, n, a, h => by
    simp only [tableOf, List.mem_cons] at h
    rcases h with rfl | h
    · rfl
    · exact tableItems_rules items n (n + 1) a h
  | .obj ms, par, n, a, h => by
    simp only [tableOf, List.mem_cons] at h
    rcases h with rfl | h
    · rfl
    · exact tableMembers_rules ms n (n + 1) a h
theorem tableItems_rules : (items : List JV) → (p n : Nat) → ∀ a ∈ tableItems p n items, a.rules = []
  | [], _, _, a, h => by simp [tableItems] at h
  | v :: vs, p, n, a, h => by
    simp only [tableItems, List.mem_append] at h
    rcases h with h | h
    · exact tableOf_rules v (some p) n a h
    · exact tableItems_rules vs p (n + v.count) a h
theorem tableMembers_rules : (ms : List (List UInt8 × JV)) → (p n : Nat) → ∀ a ∈ tableMembers p n ms, a.rules = []
  | [], _, _, a, h => by simp [tableMembers] at h
  | (_, v) :: ms, p, n, a, h => by
    simp only [tableMembers, List.mem_append] at h
    rcases h with h | h
    · exact tableOf_rules v (some p) n a h
    · exact tableMembers_rules ms p (n + v.count) a h
end

theorem resolve_of_abs (src : Array UInt8) (n : Loader.Node) (h : (absNode src n).rules = []) :
    resolve src n = ofA (absNode src n) := by
  have hr : n.rules = [] := by simpa [absNode] using h
  simp [resolve, ofA, absNode, hr]

theorem creation_plain : (tbl : List RNode) → (∀ n ∈ tbl, n.rules = []) → creation tbl = .ok ()
  | [], _ => rfl
  | n :: tbl, h => by
    have hn : n.rules = [] := h n (by simp)
    have ih := creation_plain tbl (fun m hm => h m (by simp [hm]))
    unfold creation at ih ⊢
    simp only [List.foldl_cons, hn, createRules]
    exact ih

/-- **schema half**: scanner model + loader model + `Compile` on a text whose node table is the table of the
plain-JSON value `v` yield the compiled tree of `v` -/
theorem loadSchema_plain (bs : List UInt8) (opt : Bool) (st : Loader.St) (v : JV)
    (hl : Loader.loadText bs = .ok st) (hr : st.root = some 0)
    (ht : absTable bs.toArray st = tableOf none 0 v) (hg : guessable v = true) :
    loadSchema bs opt = .ok (some (cnOf opt v)) := by
  have htbl : st.nodes.toList.map (resolve bs.toArray) = (tableOf none 0 v).map ofA := by
    rw [← ht, absTable, List.map_map]
    apply List.map_congr_left
    intro n hn
    apply resolve_of_abs
    apply tableOf_rules v none 0
    rw [← ht, absTable]
    exact List.mem_map_of_mem hn
  have hcr : creation ((tableOf none 0 v).map ofA) = .ok () := by
    apply creation_plain
    intro n hn
    obtain ⟨a, _, rfl⟩ := List.mem_map.mp hn
    rfl
  refine loadSchema_loaded (o := none) hl hr (htbl ▸ hcr) ?_
  rw [htbl]
  exact compileNode_sits opt v hg none 0 (sits_all _) _ false (by simp [tableOf_length])

end E2E
