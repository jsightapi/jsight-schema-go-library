import JSight.AnnotQObj
import JSight.SchemaLenAnnLine
/-!
C13, inline versus multi-line annotations: the whole text `value blanks // blanks {rules} blanks <line break | end>`
and `value blanks /* blanks {rules} blanks */ blanks` for a top-level scalar value: its text and events (`annText`,
`annEvs`), the tail, and the run of the scanner model for ANY rule object between the braces (`ann_body_run_of`,
`annot_emits_of`); the rule objects of `AnnotObj`, `AnnotEnum`, `AnnotQObj` are instances (`annot_emits`, `enumAnn_emits`,
`annot_emitsQ`).
-/
namespace SchemaScan

variable {data : Array Cls}

def IsSpTabs (ws : List Cls) : Prop := ∀ c ∈ ws, c.isSpTab = true

/-- `Len.IsSpTabs` (`ShortcutRun`) is the same predicate under a second name; which of the two a bare `IsSpTabs` means
depends on the namespace and on the imports where a statement stands. This stops compiling the day the two differ. -/
theorem Len.isSpTabs_iff {w : List Cls} : Len.IsSpTabs w ↔ IsSpTabs w := Iff.rfl

theorem sptab_run (ws : List Cls) (hw : IsSpTabs ws) (st : St) (hl : wsLoop st = true) (K : List (LexT × Nat)) (i : Nat)
    (CS : List Ctx) (cx : Ctx) (al : Bool) (hat : At data i ws) :
    Len.Path data (cfg st [] K false i CS cx al) [] (cfg st [] K false (i + ws.length) CS cx al) :=
  Len.Path.loop (fun i => cfg st [] K false i CS cx al) (·.isSpTab = true)
    (fun i _ hc h => Len.S_sp (lc := false) hl hc K i CS cx al h) ws hw i hat

/-- the text behind the rule object: for the inline form the end of input or a line break and white space, for the
multi-line form `*/` and white space -/
inductive ATail : Ann → List Cls → Prop
  | eof : ATail .inline []
  | nl (w : List Cls) : IsWs w → ATail .inline (Cls.nl :: w)
  | close (w : List Cls) : IsWs w → ATail .multi (Cls.star :: Cls.slash :: w)

/-- the events of the tail that starts at offset `t` of an annotation opened at `y` -/
def tailEvs (y t : Nat) : Ann → List Cls → List Ev
  | .multi, tl => ⟨.mlAnnE, y, t + 1⟩ :: nlEvs (t + 2) (tl.drop 2)
  | _, [] => [⟨.inlAnnE, y, t - 1⟩]
  | _, _ :: w => ⟨.inlAnnE, y, t - 1⟩ :: ⟨.newLine, t, t⟩ :: nlEvs (t + 1) w

/-- the text of an annotated top-level scalar -/
def annText (a : Ann) (tok s1 s2 : List Cls) (ob : CObj) (s3 tl : List Cls) : List Cls :=
  tok ++ (s1 ++ (Cls.slash :: a.mark :: (s2 ++ (Cls.lbrace :: (ob.body ++ (Cls.rbrace :: (s3 ++ tl)))))))

/-- offset of the first `/` (`objOff`: of the `{`; `tailOff`: of the tail) -/
def annOff (tok s1 : List Cls) : Nat := tok.length + s1.length
def objOff (tok s1 s2 : List Cls) : Nat := tok.length + s1.length + 2 + s2.length
def tailOff (tok s1 s2 : List Cls) (ob : CObj) (s3 : List Cls) : Nat :=
  tok.length + s1.length + 2 + s2.length + 1 + ob.body.length + 1 + s3.length

/-- the events of `annText`: the scalar, the annotation with its rule object, then `tailEvs` for the end of the annotation and what follows it -/
def annEvs (a : Ann) (tok s1 s2 : List Cls) (ob : CObj) (s3 tl : List Cls) : List Ev :=
  ⟨.litB, 0, 0⟩ :: ⟨.litE, 0, tok.length - 1⟩ :: ⟨a.B, annOff tok s1, annOff tok s1 + 1⟩ ::
    (nlEvs (annOff tok s1 + 2) s2 ++ (⟨.objB, objOff tok s1 s2, objOff tok s1 s2⟩ ::
      (ob.evs (objOff tok s1 s2) ++ (nlEvs (objOff tok s1 s2 + 1 + ob.body.length + 1) s3 ++
        tailEvs (annOff tok s1) (tailOff tok s1 s2 ob s3) a tl))))

theorem ws_endQ (q : Bool) {CS : List Ctx} {cx : Ctx} {al : Bool} : ∀ (w : List Cls) (i : Nat), IsWs w → At data i w →
    data.size = i + w.length → Emits data (cfgQ .none q .endTop [] [] false i CS cx al) (nlEvs i w)
  | [], i, _, _, hn => Emits.done rfl (by simp only [cfgQ, List.length_nil] at hn ⊢; omega) rfl
  | c :: w, i, hw, hat, hn => by
    obtain ⟨hc, hat'⟩ := hat
    have ih := ws_endQ q (CS := CS) (cx := cx) (al := al) w (i + 1) hw.tail hat'
      (by simp only [List.length_cons] at hn; omega)
    rcases blank_cases hw.head with hs | rfl
    · have h1 : Len.Path data (cfgQ .none q .endTop [] [] false i CS cx al) []
          (cfgQ .none q .endTop [] [] false (i + 1) CS cx al) :=
        cfgG_byte hc (fun p1 p2 => top_spQ 7 q c hs [] (i + 1) CS cx al p1 p2) rfl rfl
      have := h1.emits ih
      simpa [nlEvs, sptab_ne_nl hs] using this
    · have h1 : Len.Path data (cfgQ .none q .endTop [] [] false i CS cx al) [⟨.newLine, i, i⟩]
          (cfgQ .none q .endTop [] [] false (i + 1) CS cx al) :=
        cfgG_byte hc (fun p1 p2 => top_nlQ 7 q [] (i + 1) CS cx al p1 p2) rfl rfl
      have := h1.emits ih
      simpa [nlEvs] using this

/-- end of input in an inline annotation behind its rule object -/
theorem Emits.eofInlQ {q : Bool} {r : List St} {y i : Nat} {CS : List Ctx} {cx : Ctx} {al : Bool} (hi : data.size ≤ i) :
    Emits data (cfgQ .inline q .inlTxtPrefix r [(.inlAnnB, y)] false i CS cx al) [⟨.inlAnnE, y, i - 1⟩] := by
  have hn : NextOk data (cfgQ .inline q .inlTxtPrefix r [(.inlAnnB, y)] false i CS cx al)
      (some ({ cfgQ .inline q .inlTxtPrefix r [] false (i + 1) CS cx al with stack := [] }, ⟨.inlAnnE, y, i - 1⟩)) := by
    refine ⟨1, by omega, ?_⟩
    rw [next_succ]
    unfold nextBody shiftFound eofStep
    simp only [cfgQ, show ¬ i < data.size by omega, if_false]
    rfl
  exact Emits.cons hn (Emits.done rfl (by simp only [cfgQ]; omega) rfl)

/-- the tail, from the state behind the rule object and its blanks -/
theorem atail_runQ (a : Ann) (q : Bool) (tl : List Cls) (ht : ATail a tl) (y t : Nat) (CS : List Ctx) (cx : Ctx)
    (al : Bool) (hat : At data t tl) (hn : data.size = t + tl.length) :
    Emits data (cfgQ a q a.prefixSt [.endTop] [(a.B, y)] false t CS cx al) (tailEvs y t a tl) := by
  cases ht with
  | eof => exact Emits.eofInlQ (by simp at hn; omega)
  | nl w hw =>
    obtain ⟨hc, hatw⟩ := hat
    exact (Len.inl_pre_end (lc := false) (qb := q) .endTop y t [] rfl CS cx al hc).emits
      (ws_endQ q w (t + 1) hw hatw (by simp only [List.length_cons] at hn; omega))
  | close w hw =>
    have e : Cls.star :: Cls.slash :: w = [Cls.star, Cls.slash] ++ w := rfl
    rw [e, At_append] at hat
    have := (ml_pre_end (lc := false) (q := q) .endTop y t [] CS cx al hat.1).emits
      (ws_endQ q (CS := CS) (cx := cx) (al := al) w (t + 1 + 1) hw hat.2 (by simp only [List.length_cons] at hn; omega))
    simp only [tailEvs, List.drop_succ_cons, List.drop_zero]
    exact this

/-- from the start of the text to behind `//` resp. `/*` -/
theorem ann_open_run (tok : List Cls) (htok : IsScalar tok) (s1 : List Cls)
    (hs1 : IsSpTabs s1) (hat : At data 0 (tok ++ (s1 ++ [Cls.slash]))) :
    Len.Path data {} [⟨.litB, 0, 0⟩, ⟨.litE, 0, tok.length - 1⟩]
      (cfg .anyAnnStart [.endTop] [] false (annOff tok s1 + 1) [] { ty := .initial } true) := by
  obtain ⟨c, tl, st0, unf0, stE, rfl, hs, hr, hp⟩ := htok
  rw [At_append, At_append] at hat
  obtain ⟨⟨hc, hattl⟩, hat1, hsl, _⟩ := hat
  have hinit : ({} : Sc) = cfg .foundRoot [] [] false 0 [] { ty := .initial } true := rfl
  rw [hinit]
  have t1 := (Len.S_start_scalar (lc := false) hs .root [] 0 [] { ty := .initial } true hc)
  have t2 := (Len.tok_run (lc := false) tl _ _ _ _ _ _ hr [(.litB, 0)] (0 + 1) [] { ty := .initial } true hattl)
  simp only [List.length_cons, Nat.zero_add] at hat1 hsl
  -- the literal is closed by the byte behind it; then `/`
  have t3 : Len.Path data (cfg stE [] [(.litB, 0)] false (0 + 1 + tl.length) [] { ty := .initial } true)
      [⟨.litE, 0, tl.length + 1 - 1⟩]
      (cfg .anyAnnStart [.endTop] [] false (tl.length + 1 + s1.length + 1) [] { ty := .initial } true) := by
    cases s1 with
    | nil =>
      have hsl' : data[0 + 1 + tl.length]? = some .slash := by
        rw [show 0 + 1 + tl.length = tl.length + 1 + 0 by omega]; exact hsl
      refine (Len.cfg_byte hsl' (fun p1 p2 => (Len.pv_dispatch_slash 7 stE hp _ p1 p2).trans
        ((Len.ev_root (lc := false) 7 stE true 0 (0 + 1 + tl.length + 1) [] { ty := .initial } true .slash p1 p2).trans
          (root_slash 6 _ _ [] _ _ p1 p2))) rfl rfl).cast ?_ (Len.cfg_congr rfl ?_)
      · show [(⟨LexT.litE, 0, 0 + 1 + tl.length + 1 - 1 - 1⟩ : Ev)] = _
        rw [show 0 + 1 + tl.length + 1 - 1 - 1 = tl.length + 1 - 1 by omega]
      · show 0 + 1 + tl.length + 1 = _
        simp only [List.length_nil]; omega
    | cons b w =>
      obtain ⟨hb, hatw⟩ := hat1
      have u1 := (Len.S_root_sp (lc := false) hp (hs1 b (by simp)) true 0 (0 + 1 + tl.length) [] { ty := .initial } true
        (by rw [show 0 + 1 + tl.length = tl.length + 1 by omega]; exact hb))
      have u2 := sptab_run w (fun x hx => hs1 x (by simp [hx])) .endTop rfl [] (0 + 1 + tl.length + 1) []
        { ty := .initial } true (by rw [show 0 + 1 + tl.length + 1 = tl.length + 1 + 1 by omega]; exact hatw)
      have hsl' : data[0 + 1 + tl.length + 1 + w.length]? = some .slash := by
        rw [show 0 + 1 + tl.length + 1 + w.length = tl.length + 1 + (w.length + 1) by omega]; exact hsl
      have u3 : Len.Path data (cfg .endTop [] [] false (0 + 1 + tl.length + 1 + w.length) [] { ty := .initial } true) []
          (cfg .anyAnnStart [.endTop] [] false (0 + 1 + tl.length + 1 + w.length + 1) [] { ty := .initial } true) :=
        Len.cfg_byte hsl' (fun p1 p2 => root_slash 7 [] _ [] _ [] p1 p2) rfl rfl
      refine (Len.Path.trans (Len.Path.trans u1 u2) u3).cast ?_ (Len.cfg_congr rfl ?_)
      · simp [rootClosers]
      · simp only [List.length_cons]; omega
  have t2' : Len.Path data (cfg st0 [] [(.litB, 0)] unf0 (0 + 1) [] { ty := .initial } true) []
      (cfg stE [] [(.litB, 0)] false (0 + 1 + tl.length) [] { ty := .initial } true) := t2
  refine (Len.Path.trans (Len.Path.trans t1 t2') t3).cast ?_ ?_
  · simp [VCtx.preEvs]
  · simp only [annOff, List.length_cons]

/-- from the start of the text to behind the blanks that follow the rule object, for any rule object: `body` is the
text between `{` and `}`, `bevs` the events of its run, `q` the `boundaryQuote` flag it ends with -/
theorem ann_body_run_of (a : Ann) (ha : a.isAnn = true) (tok : List Cls) (htok : IsScalar tok) (s1 : List Cls)
    (hs1 : IsSpTabs s1) (s2 : List Cls) (hs2 : ABlank a s2) (body : List Cls) (bevs : List Ev) (q : Bool)
    (hbody : At data (objOff tok s1 s2 + 1) (body ++ [Cls.rbrace]) →
      Len.Path data
        (cfgG false a false .objKeyOrEmpty [.endTop] [(.objB, objOff tok s1 s2), (a.B, annOff tok s1)] false (objOff tok s1 s2 + 1)
          [{ ty := .initial }] { ty := .object } true) bevs
        (cfgG false a q a.prefixSt [.endTop] [(a.B, annOff tok s1)] false (objOff tok s1 s2 + 1 + body.length + 1) []
          { ty := .initial } true))
    (s3 : List Cls) (hs3 : ABlank a s3)
    (hat : At data 0 (tok ++ (s1 ++ (Cls.slash :: a.mark :: (s2 ++ (Cls.lbrace :: (body ++ (Cls.rbrace :: s3)))))))) :
    Len.Path data {}
      (⟨.litB, 0, 0⟩ :: ⟨.litE, 0, tok.length - 1⟩ :: ⟨a.B, annOff tok s1, annOff tok s1 + 1⟩ ::
        (nlEvs (annOff tok s1 + 2) s2 ++ (⟨.objB, objOff tok s1 s2, objOff tok s1 s2⟩ ::
          (bevs ++ nlEvs (objOff tok s1 s2 + 1 + body.length + 1) s3))))
      (cfgQ a q a.prefixSt [.endTop] [(a.B, annOff tok s1)] false (objOff tok s1 s2 + 1 + body.length + 1 + s3.length) []
        { ty := .initial } true) := by
  have e : tok ++ (s1 ++ (Cls.slash :: a.mark :: (s2 ++ (Cls.lbrace :: (body ++ (Cls.rbrace :: s3))))))
      = (tok ++ (s1 ++ [Cls.slash])) ++ (a.mark :: (s2 ++ (Cls.lbrace :: (body ++ (Cls.rbrace :: s3))))) := by
    simp
  rw [e, At_append] at hat
  have hlen : 0 + (tok ++ (s1 ++ [Cls.slash])).length = annOff tok s1 + 1 := by
    simp only [annOff, List.length_append, List.length_cons, List.length_nil]; omega
  rw [hlen] at hat
  have r1 := ann_open_run tok htok s1 hs1 hat.1
  have r2 := (ann_pre_of (lc := false) a ha .endTop [] (annOff tok s1) [] { ty := .initial } true s2 hs2 body bevs q
    hbody s3 hs3 hat.2)
  exact (Len.Path.trans r1 r2).cast (by simp [objOff, annOff]) rfl

/-- the events of an annotated top-level scalar, for any rule object -/
theorem annot_emits_of (a : Ann) (ha : a.isAnn = true) (tok : List Cls) (htok : IsScalar tok) (s1 : List Cls)
    (hs1 : IsSpTabs s1) (s2 : List Cls) (hs2 : ABlank a s2) (body : List Cls) (bevs : List Ev) (q : Bool)
    (hbody : ∀ {data : Array Cls}, At data (objOff tok s1 s2 + 1) (body ++ [Cls.rbrace]) →
      Len.Path data
        (cfgG false a false .objKeyOrEmpty [.endTop] [(.objB, objOff tok s1 s2), (a.B, annOff tok s1)] false (objOff tok s1 s2 + 1)
          [{ ty := .initial }] { ty := .object } true) bevs
        (cfgG false a q a.prefixSt [.endTop] [(a.B, annOff tok s1)] false (objOff tok s1 s2 + 1 + body.length + 1) []
          { ty := .initial } true))
    (s3 : List Cls) (hs3 : ABlank a s3) (tl : List Cls) (htl : ATail a tl) :
    Emits (tok ++ (s1 ++ (Cls.slash :: a.mark :: (s2 ++ (Cls.lbrace :: (body ++ (Cls.rbrace :: (s3 ++ tl)))))))).toArray {}
      (⟨.litB, 0, 0⟩ :: ⟨.litE, 0, tok.length - 1⟩ :: ⟨a.B, annOff tok s1, annOff tok s1 + 1⟩ ::
        (nlEvs (annOff tok s1 + 2) s2 ++ (⟨.objB, objOff tok s1 s2, objOff tok s1 s2⟩ ::
          (bevs ++ (nlEvs (objOff tok s1 s2 + 1 + body.length + 1) s3 ++
            tailEvs (annOff tok s1) (objOff tok s1 s2 + 1 + body.length + 1 + s3.length) a tl))))) := by
  obtain ⟨D, hD⟩ : ∃ D, D = (tok ++ (s1 ++ (Cls.slash :: a.mark :: (s2 ++ (Cls.lbrace :: (body ++
    (Cls.rbrace :: (s3 ++ tl)))))))).toArray := ⟨_, rfl⟩
  rw [← hD]
  have hsize : D.size = (tok ++ (s1 ++ (Cls.slash :: a.mark :: (s2 ++ (Cls.lbrace :: (body ++
      (Cls.rbrace :: (s3 ++ tl)))))))).length := by rw [hD]; simp
  have hat : At D 0 (tok ++ (s1 ++ (Cls.slash :: a.mark :: (s2 ++ (Cls.lbrace :: (body ++
      (Cls.rbrace :: (s3 ++ tl)))))))) := hD ▸ At_toArray _ [] _ rfl
  have e : tok ++ (s1 ++ (Cls.slash :: a.mark :: (s2 ++ (Cls.lbrace :: (body ++ (Cls.rbrace :: (s3 ++ tl)))))))
      = (tok ++ (s1 ++ (Cls.slash :: a.mark :: (s2 ++ (Cls.lbrace :: (body ++ (Cls.rbrace :: s3))))))) ++ tl := by
    simp
  rw [e, At_append] at hat
  obtain ⟨hat1, hattl⟩ := hat
  have hlen : 0 + (tok ++ (s1 ++ (Cls.slash :: a.mark :: (s2 ++ (Cls.lbrace :: (body ++ (Cls.rbrace :: s3))))))).length
      = objOff tok s1 s2 + 1 + body.length + 1 + s3.length := by
    simp only [objOff, List.length_append, List.length_cons]; omega
  rw [hlen] at hattl
  have r1 := ann_body_run_of a ha tok htok s1 hs1 s2 hs2 body bevs q hbody s3 hs3 hat1
  have r2 := atail_runQ a q tl htl (annOff tok s1) (objOff tok s1 s2 + 1 + body.length + 1 + s3.length)
    [] { ty := .initial } true hattl
    (by
      rw [hsize]
      simp only [objOff, List.length_append, List.length_cons]
      omega)
  have := r1.emits r2
  simpa [List.append_assoc] using this

/-! ### the whole annotated scalar: the three rule objects

The `enum` object, then quoted names and list values (`QObj`), then bare names and literal values (`CObj`). -/

/-- the text of a top-level scalar annotated with `{enum: [ … ]}` -/
def enumAnnText (a : Ann) (tok s1 s2 : List Cls) (e : EObj) (s3 tl : List Cls) : List Cls :=
  tok ++ (s1 ++ (Cls.slash :: a.mark :: (s2 ++ (Cls.lbrace :: (e.body ++ (Cls.rbrace :: (s3 ++ tl)))))))

/-- its events -/
def enumAnnEvs (a : Ann) (tok s1 s2 : List Cls) (e : EObj) (s3 tl : List Cls) : List Ev :=
  ⟨.litB, 0, 0⟩ :: ⟨.litE, 0, tok.length - 1⟩ :: ⟨a.B, annOff tok s1, annOff tok s1 + 1⟩ ::
    (nlEvs (annOff tok s1 + 2) s2 ++ (⟨.objB, objOff tok s1 s2, objOff tok s1 s2⟩ ::
      (e.evs (objOff tok s1 s2) ++ (nlEvs (objOff tok s1 s2 + 1 + e.body.length + 1) s3 ++
        tailEvs (annOff tok s1) (objOff tok s1 s2 + 1 + e.body.length + 1 + s3.length) a tl))))

/-- **the events of a top-level scalar annotated with an inline enum list**, inline (`a = .inline`) or multi-line -/
theorem enumAnn_emits (a : Ann) (ha : a.isAnn = true) (tok : List Cls) (htok : IsScalar tok) (s1 : List Cls)
    (hs1 : IsSpTabs s1) (s2 : List Cls) (hs2 : ABlank a s2) (e : EObj) (he : e.Valid a) (s3 : List Cls)
    (hs3 : ABlank a s3) (tl : List Cls) (htl : ATail a tl) :
    Emits (enumAnnText a tok s1 s2 e s3 tl).toArray {} (enumAnnEvs a tok s1 s2 e s3 tl) :=
  annot_emits_of a ha tok htok s1 hs1 s2 hs2 e.body (e.evs (objOff tok s1 s2)) false
    (fun hat => (eobj_run (lc := false) a ha e he .endTop (objOff tok s1 s2) (annOff tok s1) [] { ty := .initial } []
      { ty := .object } true hat)) s3 hs3 tl htl

/-- its events: as `annEvs`, with the key-end spans of quoted names -/
def annEvsQ (a : Ann) (tok s1 s2 : List Cls) (ob : QObj) (s3 tl : List Cls) : List Ev :=
  ⟨.litB, 0, 0⟩ :: ⟨.litE, 0, tok.length - 1⟩ :: ⟨a.B, annOff tok s1, annOff tok s1 + 1⟩ ::
    (nlEvs (annOff tok s1 + 2) s2 ++ (⟨.objB, objOff tok s1 s2, objOff tok s1 s2⟩ ::
      (ob.evs (objOff tok s1 s2) ++ (nlEvs (objOff tok s1 s2 + 1 + ob.c.body.length + 1) s3 ++
        tailEvs (annOff tok s1) (tailOff tok s1 s2 ob.c s3) a tl))))

/-- **the events of an annotated top-level scalar whose rule names are bare or quoted** -/
theorem annot_emitsQ (a : Ann) (ha : a.isAnn = true) (tok : List Cls) (htok : IsScalar tok) (s1 : List Cls)
    (hs1 : IsSpTabs s1) (s2 : List Cls) (hs2 : ABlank a s2) (ob : QObj) (hob : ob.Valid a) (s3 : List Cls)
    (hs3 : ABlank a s3) (tl : List Cls) (htl : ATail a tl) :
    Emits (annText a tok s1 s2 ob.c s3 tl).toArray {} (annEvsQ a tok s1 s2 ob s3 tl) :=
  annot_emits_of a ha tok htok s1 hs1 s2 hs2 ob.c.body (ob.evs (objOff tok s1 s2)) ob.endQ
    (fun hat => (obj_runQ (lc := false) a ha ob hob .endTop (objOff tok s1 s2) (annOff tok s1) [] { ty := .initial } []
      { ty := .object } true hat)) s3 hs3 tl htl

/-- **the events of an annotated top-level scalar**, inline (`a = .inline`) or multi-line (`a = .multi`) -/
theorem annot_emits (a : Ann) (ha : a.isAnn = true) (tok : List Cls) (htok : IsScalar tok) (s1 : List Cls)
    (hs1 : IsSpTabs s1) (s2 : List Cls) (hs2 : ABlank a s2) (ob : CObj) (hob : ob.Valid a) (s3 : List Cls)
    (hs3 : ABlank a s3) (tl : List Cls) (htl : ATail a tl) :
    Emits (annText a tok s1 s2 ob s3 tl).toArray {} (annEvs a tok s1 s2 ob s3 tl) :=
  annot_emits_of a ha tok htok s1 hs1 s2 hs2 ob.body (ob.evs (objOff tok s1 s2)) false
    (fun hat => (obj_run (lc := false) a ha ob hob .endTop (objOff tok s1 s2) (annOff tok s1) [] { ty := .initial } []
      { ty := .object } true hat)) s3 hs3 tl htl

end SchemaScan
