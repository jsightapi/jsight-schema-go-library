import JSight.CheckerTraverse
import JSight.CheckerFuel
/-!
# C04 — what the own check of a node raises, and where it sits

Every part of a node's own check raises a bare code (`Raw`), which `CatchLexEventError` puts at the node's basis lexeme
(file, `Begin()`: the first byte of a literal, the `{` / `[` of a container) — with three exceptions: the verdict of the
literal check is built at that lexeme already; the two errors of `ensureShortcutKeysAreValid` (1302, 1304) sit at the
lexeme of the offending KEY (a key shortcut `@name`); `checkArrayItems`, which has no visited set, may overflow the stack
(`crash`), and does not when the arrays of the table name no arrays (`ArraysFlat`). One statement, `parts_raise`; where
the error of a node sits (`nodeErr_pos`) and that it is no crash (`nodeErr_no_crash`) are read off it.
-/
namespace CK
open RulesF (Oracles)

theorem literalVerdict_pos (o : Oracles) (lex : Lex) (l : List Chk) (p : Panic) (h : literalVerdict o lex l = some p) :
    ∃ c, p = .doc c lex.file lex.begin := by
  rw [literalVerdict_eq] at h
  split at h
  · exact ⟨_, (Option.some.inj h).symm⟩
  · cases h

theorem literalErr_pos (o : Oracles) (env : Env) (i : Info) (p : Panic) (h : literalErr o env i = some p) :
    Raw p ∨ ∃ c, p = .doc c i.lex.file i.lex.begin := by
  unfold literalErr at h
  split at h
  · rename_i e he
    cases h; exact .inl (checkerList_raw he)
  · exact .inr (literalVerdict_pos o _ _ p h)

theorem literalErr_no_crash (o : Oracles) (env : Env) (i : Info) (w : String) : literalErr o env i ≠ some (.crash w) :=
  fun h => (literalErr_pos o env i _ h).elim (fun r => r.no_crash w rfl) fun ⟨_, e⟩ => by cases e

theorem arrayItemsNames_raise (rec : Hd → Option Panic) (env : Env)
    (hrec : ∀ h p, rec h = some p → Raw p ∨ ∃ w, p = .crash w) :
    ∀ (ns : List Name) (p : Panic), arrayItemsNames rec env ns = some p → Raw p ∨ ∃ w, p = .crash w
  | [], p, h => by simp [arrayItemsNames] at h
  | n :: ns, p, h => by
    unfold arrayItemsNames at h
    split at h
    · cases h; exact .inl ⟨_, rfl⟩
    · split at h
      · split at h
        · rename_i q hq
          cases h; exact hrec _ _ hq
        · exact arrayItemsNames_raise rec env hrec ns p h
      · exact arrayItemsNames_raise rec env hrec ns p h

/-- the `crash` alternative is the descent out of fuel (`arrayItems env 0`) and nothing else -/
theorem arrayItems_raise (env : Env) :
    ∀ (fuel : Nat) (h : Hd) (p : Panic), arrayItems env fuel h = some p → Raw p ∨ ∃ w, p = .crash w
  | 0, _, p, h => by cases h; exact .inr ⟨_, rfl⟩
  | f + 1, hd, p, h => by
    unfold arrayItems at h
    split at h
    · simp at h
    · split at h
      · simp at h
      · split at h
        · simp at h
        · exact arrayItemsNames_raise _ env (arrayItems_raise env f) _ p h

/-- the errors of `ensureShortcutKeysAreValid` sit at the lexeme of a key shortcut; the descent to the root type of the
key's type never exhausts the model's fuel (`actualRoot_ok`) -/
theorem keysErr_pos (env : Env) : ∀ (ks : List Key) (p : Panic), keysErr env ks = some p →
    ∃ k ∈ ks, k.shortcut = true ∧ ∃ c, (c = 1302 ∨ c = 1304) ∧ p = .doc c k.lex.file k.lex.begin
  | [], p, h => by simp [keysErr] at h
  | k :: ks, p, h => by
    have tail := fun h => (keysErr_pos env ks p h).imp fun _ r => And.imp_left (List.mem_cons_of_mem k) r
    unfold keysErr at h
    split at h
    · exact tail h
    · rename_i hs
      have hs' : k.shortcut = true := by simpa using hs
      split at h
      · cases h; exact ⟨k, List.mem_cons_self, hs', 1302, .inl rfl, rfl⟩
      · split at h
        · rename_i ha
          exact absurd ha (actualRoot_ok env env.fuel [] _ (left_lt_fuel env []))
        · split at h
          · cases h; exact ⟨k, List.mem_cons_self, hs', 1304, .inr rfl, rfl⟩
          · exact tail h

/-- what a part raises: a bare code; or the verdict of the literal check at the node's lexeme; or 1302 / 1304 at the
lexeme of a key shortcut; or the stack overflow of `checkArrayItems` -/
theorem parts_raise (o : Oracles) (env : Env) (hd : Hd) : ∀ x ∈ parts o env hd, ∀ q, x = some q →
    Raw q ∨ (∃ c, q = .doc c hd.info.lex.file hd.info.lex.begin) ∨
    (hd.info.nk = .obj ∧ ∃ k ∈ hd.info.keys, k.shortcut = true ∧ ∃ c, (c = 1302 ∨ c = 1304) ∧ q = .doc c k.lex.file k.lex.begin) ∨
    (hd.info.nk = .arr ∧ arrayItems env env.fuel hd = some q ∧ ∃ w, q = .crash w) :=
  forall_parts.2 ⟨fun _ h => .inl (compatErr_raw _ _ h), fun _ h => .inl (linksErr_raw h),
    fun _ _ h => (literalErr_pos o env _ _ h).imp_right .inl,
    fun hk => ⟨fun _ h => (arrayItems_raise _ _ _ _ h).imp_right fun r => .inr (.inr ⟨hk, h, r⟩), fun _ h => .inl (arrayNodeErr_raw _ _ h)⟩,
    fun hk => ⟨fun _ h => .inr (.inr (.inl ⟨hk, keysErr_pos env _ _ h⟩)), fun _ h => .inl (addPropsErr_raw _ _ _ h)⟩⟩

/-- … and what leaves `checkNode` after `CatchLexEventError`: a bare code is put at the node's lexeme -/
theorem nodeErr_raise (o : Oracles) (env : Env) (hd : Hd) (p : Panic) (h : nodeErr o env hd = some p) :
    (∃ c, p = .doc c hd.info.lex.file hd.info.lex.begin) ∨
    (hd.info.nk = .obj ∧ ∃ k ∈ hd.info.keys, k.shortcut = true ∧ ∃ c, (c = 1302 ∨ c = 1304) ∧ p = .doc c k.lex.file k.lex.begin) ∨
    (hd.info.nk = .arr ∧ arrayItems env env.fuel hd = some p ∧ ∃ w, p = .crash w) := by
  obtain ⟨q, hq, rfl⟩ := nodeErr_some h
  rcases parts_raise o env hd _ hq q rfl with ⟨c, rfl⟩ | ⟨c, rfl⟩ | ⟨hk, k, hkm, hs, c, hc, rfl⟩ | ⟨hk, ha, w, rfl⟩
  · exact .inl ⟨c, rfl⟩
  · exact .inl ⟨c, rfl⟩
  · exact .inr (.inl ⟨hk, k, hkm, hs, c, hc, rfl⟩)
  · exact .inr (.inr ⟨hk, ha, w, rfl⟩)

/-- `nodeErr_raise` with the `crash` case not traced back to `arrayItems` -/
theorem nodeErr_pos (o : Oracles) (env : Env) (hd : Hd) (p : Panic) (h : nodeErr o env hd = some p) :
    (∃ c, p = .doc c hd.info.lex.file hd.info.lex.begin) ∨
    (hd.info.nk = .obj ∧ ∃ k ∈ hd.info.keys, k.shortcut = true ∧ ∃ c, (c = 1302 ∨ c = 1304) ∧ p = .doc c k.lex.file k.lex.begin) ∨
    (∃ w, p = .crash w) :=
  (nodeErr_raise o env hd p h).imp_right (.imp_right fun r => r.2.2)

/-- the node-local check never ends in the model's `crash` outcome (out of fuel / stack overflow) -/
theorem nodeErr_no_crash (o : Oracles) (env : Env) (hT : ArraysFlat env) (h : Hd) (w : String) :
    nodeErr o env h ≠ some (.crash w) := by
  intro hn
  rcases nodeErr_raise o env h _ hn with ⟨_, e⟩ | ⟨_, _, _, _, _, _, e⟩ | ⟨_, ha, _⟩
  · cases e
  · cases e
  · exact arrayItems_no_crash env hT h w ha

end CK
