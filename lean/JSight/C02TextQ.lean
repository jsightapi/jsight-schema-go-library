import JSight.AnnotQThm
/-!
C02 at TEXT level: the EXTENDED grammar (`Lay.GObj`: quoted rule names, list values) through the whole
pipeline: `loadSchema_gannot` (scanner model → loader model → creation → `compileNode` on `gannText` = the literal node
`compiledOf` of the pairs (decoded name, value text)), `text_is_closed_gannot`.
-/
namespace C02T
open Compile Lay SchemaScan

theorem others_erase (l : List Rule) (allowed : List String) : others (l.map erase) allowed = others l allowed := by
  simp only [others, List.filter_map, List.length_map]
  rfl

theorem okBasicRE_erase (rs : List Rule) (jt : JT) : okBasicRE (rs.map erase) jt = okBasicRE rs jt := by
  simp only [okBasicRE, filt_erase, hasRule_erase, findRule_erase, others_erase, minMaxOK_erase, lenOK_erase,
    List.any_map]
  cases findRule (filt rs) "type" <;> rfl

/-- **loading half, extended grammar** -/
theorem loadSchema_gannot (a : Ann) (ha : a.isAnn = true) (tok s1 s2 : List UInt8) (ob : GObj) (s3 tl : List UInt8)
    (hv : GAnnValid a tok s1 s2 ob s3 tl) (he : ob.listsEmb) (hok : okRulesE tok ob.pairs = true) :
    E2E.loadSchema (gannText a tok s1 s2 ob s3 tl) false
      = .ok (some (.lit (compiledOf tok (mk ob.pairs)) false)) := by
  simp only [okRulesE, Bool.and_eq_true, Bool.or_eq_true] at hok
  obtain ⟨⟨hk, hc⟩, hb⟩ := hok
  obtain ⟨k, hk⟩ := Option.isSome_iff_exists.mp hk
  have hko : kindOf tok = k := by simp [kindOf, hk]
  rw [hko] at hb
  obtain ⟨st, rs, hload, hr, htbl, hrules, _⟩ := load_gannot a ha tok s1 s2 ob s3 tl hv he
  refine loadSchema_of_node _ st tok rs ob.pairs k hload hr htbl hrules hk hc ?_
  rcases hb with hb | hb
  · exact basic_ok tok rs (JT.ofKind k) (by rw [← okBasicR_erase, hrules]; exact hb)
  · exact basic_ok_enum tok rs k (by rw [← okBasicRE_erase, hrules]; exact hb)

/-- **the text pipeline is the closed form, extended grammar** (list values under `or` / `enum` / `allOf`) -/
theorem text_is_closed_gannot (a : Ann) (ha : a.isAnn = true) (tok s1 s2 : List UInt8) (ob : GObj) (s3 tl : List UInt8)
    (hv : GAnnValid a tok s1 s2 ob s3 tl) (he : ob.listsEmb) (hok : okRulesE tok ob.pairs = true)
    (d ws0 ws1 : List UInt8) (hd : JsonScan.IsScalar (d.map JsonScan.classify))
    (hw0 : JsonScan.IsWs (ws0.map JsonScan.classify)) (hw1 : JsonScan.IsWs (ws1.map JsonScan.classify)) :
    E2E.validateText (gannText a tok s1 s2 ob s3 tl) [] (ws0 ++ (d ++ ws1)) = closed tok ob.pairs d := by
  have hE := hok
  simp only [okRulesE, Bool.and_eq_true, Bool.or_eq_true] at hE
  rw [closed_spec noOracles tok ob.pairs hok d,
    validateText_lit _ _ (loadSchema_gannot a ha tok s1 s2 ob s3 tl hv he hok), compiledOf_ex]
  cases hle : litErr (compiledOf tok (mk ob.pairs)) tok with
  | some c => rfl
  | none =>
    simp only []
    rw [afterCheck_scalar _ d ws0 ws1 hd hw0 hw1, spec_eq_compiled noOracles tok ob.pairs (facts_of_okCreate hE.1.2)]

end C02T
