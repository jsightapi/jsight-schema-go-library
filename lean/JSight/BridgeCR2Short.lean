import JSight.BridgeCR2Main
/-!
Bridge (A)∩(B): TYPE-SHORTCUT nodes (`@t`, `@a | @b`: (A)'s kind `mixed`, (B)'s `MixedValueNode`).
The synthesised rule of the shortcut is (B)'s initial constraint map (`CR.initMap`); the manual rules are read under
the same invariants (`fold_agree`, `foldB` from that start); the compile phase is that of a type reference
(`short_type`: `type_user_rows`) or of an `or` (`short_or`: `or_rest_agree`). Theorem `models_agree_short` (`node_core`
with the synthesised rule in front), and `models_agree_all` for every node of the common class.
-/
namespace BridgeCR
open Compile
open Loader (NK)

/-- what every shortcut node of the loader satisfies: the synthesised rule has a value, and the value of `@t` is a
type name (the scanner lets nothing else through) -/
def shortOK (n : RNode) : Bool :=
  match n.kind, n.rules with
  | .mixed, r :: _ => r.val.isSome && (!(r.name == sb "type") || isUserTypeName (unq (r.val.getD [])))
  | _, _ => true

theorem inv_typeRef (name : Bytes) : Inv [CR.n_type] (CR.initMap (.typeRef name)) := by
  intro k
  show (CR.CMap.empty.set .type (.type name true)).has k = _
  rw [has_set]
  cases k <;> decide +kernel

theorem inv_orShort (us : List Bool) : Inv [CR.n_or] (CR.initMap (.orShortcut us)) := by
  intro k
  show ((CR.CMap.empty.set .typesList (.types us)).set .or (.or true)).has k = _
  rw [has_set, has_set]
  cases k <;> decide +kernel

theorem mapOf_single (r0 : Rule) (k : CR.CT) :
    mapOf [r0] k = if ctName k == some r0.name then some (cvAt k r0) else none := by
  unfold mapOf
  simp only [List.find?_cons, List.find?_nil]
  cases (ctName k == some r0.name) <;> rfl

theorem sinv_typeRef (r0 : Rule) (hn : r0.name = sb "type") (hg : r0.gen = true) :
    SInv [r0] (CR.initMap (.typeRef (r0.val.getD []))) := by
  intro k
  rw [mapOf_single, hn, sb_type]
  show (CR.CMap.empty.set .type (.type (r0.val.getD []) true)) k =
    if (ctName k == some (rbytes .type)) = true then _ else _
  rw [ctName_single .type (by decide)]
  by_cases hk : k = .type
  · subst hk
    simp [cvAt, hg, CR.RName.ct]
  · rw [CR.set_other _ _ hk]
    simp [hk, CR.CMap.empty, CR.RName.ct]

theorem sinv_orShort (r0 : Rule) (hn : r0.name = sb "or") (hg : r0.gen = true) :
    SInv [r0] (CR.initMap (.orShortcut ((splitPipe (r0.val.getD [])).map fun b => b.head? == some 64))) := by
  intro k
  rw [mapOf_single, hn, sb_or, ctName_or]
  show ((CR.CMap.empty.set .typesList (.types _)).set .or (.or true)) k = _
  by_cases ho : k = .or
  · subst ho
    simp [cvAt, hg]
  · rw [CR.set_other _ _ ho]
    by_cases ht : k = .typesList
    · subst ht
      simp [cvAt, hg]
    · rw [CR.set_other _ _ ht]
      simp [ho, ht, CR.CMap.empty]

section
variable {frs : List Rule} {jt : JT} {nch : Nat} {isProp : Bool} {c : CR.Ctx}

theorem mv_branch (hcls : c.cls = .mixedValue) : c.isBranch = false := by
  unfold CR.Ctx.isBranch
  simp [hcls]

/-- `@t // {…}` -/
theorem short_type (G : Good frs) (hcls : c.cls = .mixedValue) (hprop : c.isProp = isProp)
    (r0 : Rule) (hft : findRule frs "type" = some r0) (hg : r0.gen = true)
    (hu : isUserTypeName (unq (r0.val.getD [])) = true) (hor : hasRule frs "or" = false) :
    Agree (outA (basicF .mixed frs jt isProp nch)) (CR.firstErr (CR.nodeRows c (mapOf frs)) ()) :=
  noOr_rows hor (enumPrec_agree G (by
    rw [bNames_noOr hor]
    exact type_user_rows G hprop (by rw [mv_branch hcls]; rfl) hor r0 hft hu (by simp [hg]) (by simp [hg])))

/-- `@a | @b // {…}` -/
theorem short_or (G : Good frs) (hcls : c.cls = .mixedValue) (hprop : c.isProp = isProp)
    (r0 : Rule) (hfo : findRule frs "or" = some r0) (hg : r0.gen = true) (hty : hasRule frs "type" = false) :
    Agree (outA (basicF .mixed frs jt isProp nch)) (CR.firstErr (CR.nodeRows c (mapOf frs)) ()) := by
  have hor : hasRule frs "or" = true := by rw [← findRule_isSome, hfo]; rfl
  have hft : findRule frs "type" = none := findRule_none frs "type" hty
  have hO : (mapOf frs).has .or = true := by rw [has_mapOf_named _ _ _ ct_or, hor]
  have hT : (mapOf frs).has .typesList = true := by rw [has_mapOf_named _ _ _ ct_typesList, hor]
  have hOv : (mapOf frs) .or = some (.or true) := by
    rw [mapOf_named frs .or "or" ct_or, hfo]
    simp [cvAt, hg]
  have hc := CR.count_or (mapOf frs) hO hT
  rw [hO, CR.bnat_true] at hc
  have hc := count_others frs G.known sl_or hc
  have hoeq : (others frs ["or", "optional", "nullable"] != 0) = (others frs ["or", "optional", "nullable", "type"] != 0) := by
    rw [Bool.eq_iff_iff, bne_iff_ne, bne_iff_ne]
    exact not_congr ⟨fun h => others_zero_of frs _ _ h (by simp), fun h => others_zero_of frs _ _ h (by simp [hty])⟩
  unfold basicF CR.nodeRows CR.orRows CR.orNext
  simp only [hor, hO, if_true, beq_self_eq_true, List.cons_append, List.nil_append, CR.bnat_true]
  refine agree_skipB (by rw [hT]; rfl) (agree_skipB (by rw [rawIs_mapOf G "\"mixed\"" CR.q_mixed q_mixed_eq, hft]; rfl) ?_)
  refine agreeA_guard (hoeq.trans hc) fun h2 => ?_
  -- no container, and the `or` is the node's own
  refine agree_skipB (by rw [mv_branch hcls]; rfl) (agree_skipB (by rw [mv_branch hcls]; rfl) (agree_skipB (by rw [hOv]; simp [CR.gd]) ?_))
  have hz : others frs ["or", "optional", "nullable", "type"] = 0 := by rw [hoeq] at h2; simpa using h2
  exact or_rest_agree G hprop hfo hz ((splitPipe (r0.val.getD [])).map keyStr) true (by unfold bNames; simp [hor, hfo, hg])
    fun t ht => by rw [hft] at ht; cases ht

end

/-! ### the whole shortcut node -/

theorem models_agree_short (n : RNode) (isProp : Bool) (h : common n = true) (hm : n.kind = NK.mixed)
    (hs : shortOK n = true) :
    isUnsupported (aNode n isProp) = false ∧ codeA (aNode n isProp) = codeB (CR.checkRules (crNodeOf n isProp)) := by
  simp only [common, Bool.and_eq_true] at h
  obtain ⟨⟨⟨hk, hshape⟩, hrc⟩, _⟩ := h
  obtain ⟨nk, hnk⟩ := Option.isSome_iff_exists.1 hk
  rw [hm] at hshape
  cases hr : n.rules with
  | nil => rw [hr] at hshape; simp at hshape
  | cons r0 rest =>
    rw [hr] at hshape
    simp only [Bool.and_eq_true, List.all_eq_true, Bool.not_eq_true', Bool.or_eq_false_iff, beq_eq_false_iff_ne] at hshape
    obtain ⟨hg0, hrestS⟩ := hshape
    have hman : manual n = rest := by
      unfold manual
      rw [hr, List.filter_cons]
      simp only [hg0, Bool.not_true, Bool.false_eq_true, if_false]
      exact List.filter_eq_self.2 (fun r hr => by simp [(hrestS r hr).1])
    have hrest : ∀ r ∈ rest, r.gen = false ∧ ruleCommon r = true ∧ r.name ≠ CR.n_type ∧ r.name ≠ CR.n_or := fun r hr' =>
      ⟨(hrestS r hr').1, List.all_eq_true.1 hrc r (by rw [hman]; exact hr'),
        by rw [← sb_type]; exact (hrestS r hr').2.1, by rw [← sb_or]; exact (hrestS r hr').2.2⟩
    have hA0 : createRules n.kind [] n.rules = createRules n.kind [r0.name] rest := by
      rw [hm, hr]
      simp [createRules, createRule, hg0]
    have hjt : jtOf n = .ok .mixed := by unfold jtOf; rw [hm]
    -- the node with its synthesised rule `r0` in front; `hcomp`: the compile phase, on (B)'s rows
    have core : ∀ nk, nkindOf n = some nk → (r0.name = sb "type" ∨ r0.name = sb "or") → (∃ v, r0.val = some v) →
        Inv [r0.name] (CR.initMap nk) → SInv [r0] (CR.initMap nk) →
        (Good (filt n.rules) → Agree (outA (basicF .mixed (filt n.rules) .mixed isProp n.children.length))
          (CR.firstErr (CR.nodeRows (nk.ctx isProp) (mapOf (filt n.rules))) ())) →
        isUnsupported (aNode n isProp) = false ∧ codeA (aNode n isProp) = codeB (CR.checkRules (crNodeOf n isProp)) :=
      fun nk hnk hn0 hv0 hInv hS hcomp =>
        node_core n isProp [r0] rest nk .mixed hr hman hnk hjt (fun _ => hm)
          (fun r hx => by rw [List.mem_singleton.1 hx]; exact ⟨hg0, hn0, hv0⟩)
          (fun r hx => ⟨(hrest r hx).1, (hrest r hx).2.1, fun _ => (hrest r hx).2.2⟩) hA0 hInv hS (by simp) fun G hnd => by
            rw [basic_eq, hm, CR.pipeline_rows, CR.pipelineRows_eq, fc_mapOf n.rules hnd]
            exact hcomp G
    unfold shortOK at hs
    rw [hm, hr] at hs
    simp only [Bool.and_eq_true, Bool.or_eq_true, Bool.not_eq_true', beq_eq_false_iff_ne] at hs
    obtain ⟨hv0, hut⟩ := hs
    have hv0' : ∃ v, r0.val = some v := Option.isSome_iff_exists.1 hv0
    have hkeep0 : ∀ (e : r0.name = sb "type" ∨ r0.name = sb "or"), filt n.rules = r0 :: filt rest := fun e => by
      unfold filt
      rw [hr, List.filter_cons]
      have : keep r0 = true := by
        unfold keep
        rcases e with e | e <;> rw [e] <;> simp [show (sb "type" == sb "nullable") = false by decide +kernel,
          show (sb "type" == sb "const") = false by decide +kernel, show (sb "or" == sb "nullable") = false by decide +kernel,
          show (sb "or" == sb "const") = false by decide +kernel]
      rw [this]; rfl
    have hnoname : ∀ (s : String), (∀ r ∈ rest, r.name ≠ sb s) → r0.name ≠ sb s →
        (e : r0.name = sb "type" ∨ r0.name = sb "or") → hasRule (filt n.rules) s = false := fun s h1 h2 e => by
      rw [hkeep0 e]
      unfold hasRule
      rw [List.any_cons, Bool.or_eq_false_iff]
      refine ⟨beq_eq_false_iff_ne.2 h2, ?_⟩
      rw [List.any_eq_false]
      intro r hr' hcon
      exact h1 r (filt_sub rest r hr') (by simpa using hcon)
    have hnk0 := hnk
    unfold nkindOf at hnk
    rw [hm, hr] at hnk
    simp only [hg0, Bool.true_and] at hnk
    by_cases ht : r0.name = sb "type"
    · simp only [ht, beq_self_eq_true, if_true, Option.some.injEq] at hnk
      subst hnk
      have hu : isUserTypeName (unq (r0.val.getD [])) = true := by
        rcases hut with h | h
        · exact absurd ht h
        · exact h
      refine core _ hnk0 (Or.inl ht) hv0' (by rw [ht, sb_type]; exact inv_typeRef _) (sinv_typeRef r0 ht hg0) (fun G => ?_)
      refine short_type G rfl rfl r0 ?_ hg0 hu ?_
      · rw [hkeep0 (Or.inl ht)]
        unfold findRule
        rw [List.find?_cons]
        simp [ht]
      · exact hnoname "or" (fun r hr' => by rw [sb_or]; exact (hrest r hr').2.2.2)
          (by rw [ht]; decide +kernel) (Or.inl ht)
    · have ht' : (r0.name == sb "type") = false := beq_eq_false_iff_ne.2 ht
      simp only [ht', Bool.false_eq_true, if_false] at hnk
      by_cases ho : r0.name = sb "or"
      · simp only [ho, beq_self_eq_true, if_true, Option.some.injEq] at hnk
        subst hnk
        refine core _ hnk0 (Or.inr ho) hv0' (by rw [ho, sb_or]; exact inv_orShort _) (sinv_orShort r0 ho hg0) (fun G => ?_)
        refine short_or G rfl rfl r0 ?_ hg0 ?_
        · rw [hkeep0 (Or.inr ho)]
          unfold findRule
          rw [List.find?_cons]
          simp [ho]
        · exact hnoname "type" (fun r hr' => by rw [sb_type]; exact (hrest r hr').2.2.1)
            (by rw [ho]; decide +kernel) (Or.inr ho)
      · have ho' : (r0.name == sb "or") = false := beq_eq_false_iff_ne.2 ho
        simp [ho'] at hnk

/-- **every node of the common class** (literal nodes without children, shortcut nodes as the loader makes them) -/
theorem models_agree_all (n : RNode) (isProp : Bool) (h : common n = true) (hw : leafOK n = true) (hs : shortOK n = true) :
    isUnsupported (aNode n isProp) = false ∧ codeA (aNode n isProp) = codeB (CR.checkRules (crNodeOf n isProp)) := by
  by_cases hm : n.kind = NK.mixed
  · exact models_agree_short n isProp h hm hs
  · exact models_agree_compile n isProp h (by simp [plainKind, hm]) hw

/-- a `@t` node whose synthesised token is `"enum"` (no loader makes it: the scanner lets only type names through):
(A) compares the JSON type `mixed` (1115), (B)'s `MixedValueNode` skips `SetRealType` — beside `wLeaf`
(`BridgeCR2Main`) the other family on which the unrestricted statement fails; `shortOK` is the decidable hypothesis -/
def wRef : RNode :=
  { kind := .mixed, children := [], keys := [], value := none,
    rules := [{ name := sb "type", gen := true, val := some (sb "\"enum\""), pos := 0, npos := 0 },
              { name := sb "enum", gen := false, val := some (sb "[1, 2]"), pos := 0, npos := 0 }] }

theorem wRef_facts : common wRef = true ∧ leafOK wRef = true ∧ shortOK wRef = false ∧
    codeA (aNode wRef false) = some 1115 ∧ codeB (CR.checkRules (crNodeOf wRef false)) = none := by decide +kernel

end BridgeCR
