import JSight.CheckerParts
import JSight.VisitMeasure
import JSight.ExceptWp
/-!
# C04 — the fuel of the node-local checks always suffices

`buildList` expands every type name at most once (`addedTypeNames` only grows), `collectAllowedJsonTypes` and
`actualRootTypeVisiting` never follow a name that is on their current path: every recursive call enters a type of the
table that was not entered before, so the number of entries still to enter (`left`, the measure `Visit.unvisited`) drops,
and the model's fuel `|table| + 2` is never exhausted — the `crash` outcome of these functions is unreachable, for every
table (cyclic ones included): what `buildList` and `collectAllowedJsonTypes` do raise is a bare code (`Raw`: `checkerList_raw`,
`linksErr_raw`). These three spend one unit on the node itself and one per entry entered: `|table| + 1`
would do (`left_lt_fuel` has a unit to spare). `checkArrayItems` has no visited set: it is total on tables whose arrays
name no arrays (`ArraysFlat`), where it spends two units, on the node and on the one array of the table it may enter
(`arrayItems_table`). Together, with where the errors sit: `nodeErr_raise` (`CheckerPos`).
-/
namespace CK

/-- the entries of the table whose name is not on the path: what a descent through the table can still enter
(`Visit.unvisited`) -/
def left (env : Env) (path : List Name) : Nat := Visit.unvisited Prod.fst env.types path

theorem left_enter {env : Env} {path : List Name} {n : Name} {t : Hd} (hc : path.contains n = false)
    (hl : env.lookup n = some t) : left env (n :: path) < left env path :=
  Visit.unvisited_enter env.types path n t hl (by simpa using hc)

theorem left_lt_fuel (env : Env) (path : List Name) : left env path < env.fuel := by
  have := Visit.unvisited_le Prod.fst env.types path
  unfold left Env.fuel
  omega

/-! ### `buildList` -/

/-- what the loop needs from the recursive call with `f` units of fuel: no crash while fewer than `f` entries are left to
enter, and the set of expanded names only grows -/
def BuildOK (env : Env) (f : Nat) (rec : Info → List Name × List Chk → Except Panic (List Name × List Chk)) : Prop :=
  ∀ (i : Info) (added : List Name) (l : List Chk), left env added < f →
    (rec i (added, l)).wp (fun r => ∀ x ∈ added, x ∈ r.1) Raw

theorem buildNames_ok (env : Env) (f : Nat) (rec : Info → List Name × List Chk → Except Panic (List Name × List Chk))
    (hrec : BuildOK env f rec) :
    ∀ (ns : List Name) (added : List Name) (l : List Chk), left env added < f + 1 →
      (buildNames rec env ns (added, l)).wp (fun r => ∀ x ∈ added, x ∈ r.1) Raw
  | [], added, l, _ => by rw [buildNames]; exact fun x hx => hx
  | n :: ns, added, l, hk => by
    unfold buildNames
    cases hc : added.contains n with
    | true => simpa using buildNames_ok env f rec hrec ns added l hk
    | false =>
      simp only [Bool.false_eq_true, if_false]
      cases hl : env.lookup n with
      | none => exact ⟨_, rfl⟩
      | some t =>
        dsimp only
        refine (hrec t.info (n :: added) l (by have := left_enter hc hl; omega)).elim (fun _ he => he)
          fun (added₂, l₂) h2 => ?_
        have hsub : ∀ x ∈ added, x ∈ added₂ := fun x hx => h2 x (List.mem_cons_of_mem _ hx)
        exact (buildNames_ok env f rec hrec ns added₂ l₂
          (Nat.lt_of_le_of_lt (Visit.unvisited_mono Prod.fst env.types added added₂ hsub) hk)).mono
          fun r h x hx => h x (hsub x hx)

/-- the recursion runs out of fuel only after entering more entries than the table has -/
theorem build_ok (env : Env) : ∀ fuel : Nat, BuildOK env fuel (build env fuel)
  | 0 => fun _ _ _ h => absurd h (Nat.not_lt_zero _)
  | f + 1 => by
    intro i added l hk
    unfold build
    cases typesList? i.cs with
    | none =>
      dsimp only
      cases newChecker i with
      | none => exact ⟨_, rfl⟩
      | some c => exact fun x hx => hx
    | some names => exact buildNames_ok env f (build env f) (build_ok env f) names added l hk

/-- `buildList` on a node raises bare codes only (1302, 1): it never exhausts the model's fuel -/
theorem checkerList_raw {env : Env} {i : Info} {e : Panic} (h : checkerList env i = .error e) : Raw e := by
  unfold checkerList at h
  cases hb : build env env.fuel i ([], []) with
  | error e' => rw [hb] at h; cases h; exact (build_ok env env.fuel i [] [] (left_lt_fuel env [])).error hb
  | ok st => rw [hb] at h; cases h

/-! ### `collectAllowedJsonTypes` -/

/-- a recursive call that, with fuel for what is left, raises nothing but a bare code -/
def CollectOK (env : Env) (f : Nat) (rec : List Name → Info → List JT → Except Panic (List JT)) : Prop :=
  ∀ (found : List Name) (i : Info) (acc : List JT), left env found < f → (rec found i acc).wp (fun _ => True) Raw

theorem collectNames_ok (env : Env) (f : Nat) (rec : List Name → Info → List JT → Except Panic (List JT))
    (hrec : CollectOK env f rec) (found : List Name) (hk : left env found < f + 1) :
    ∀ (ns : List Name) (acc : List JT), (collectNames rec env found ns acc).wp (fun _ => True) Raw
  | [], acc => by rw [collectNames]; trivial
  | n :: ns, acc => by
    unfold collectNames
    cases hc : found.contains n with
    | true => exact ⟨_, rfl⟩
    | false =>
      simp only [Bool.false_eq_true, if_false]
      cases hl : env.lookup n with
      | none => exact ⟨_, rfl⟩
      | some t =>
        dsimp only
        exact (hrec (n :: found) t.info acc (by have := left_enter hc hl; omega)).elim (fun _ he => he)
          fun acc' _ => collectNames_ok env f rec hrec found hk ns acc'

theorem collect_ok (env : Env) : ∀ fuel : Nat, CollectOK env fuel (collect env fuel)
  | 0 => fun _ _ _ h => absurd h (Nat.not_lt_zero _)
  | f + 1 => by
    intro found i acc hk
    unfold collect
    split
    · cases typesList? i.cs with
      | none => trivial
      | some names =>
        dsimp only
        split
        · exact ⟨_, rfl⟩
        · trivial
    · cases typesList? i.cs with
      | none => trivial
      | some names => exact collectNames_ok env f (collect env f) (collect_ok env f) found hk names acc

/-- `checkLinksOfNode` raises bare codes only (1301, 1302, 1303): it never exhausts the model's fuel -/
theorem linksErr_raw {env : Env} {i : Info} {p : Panic} (h : linksErr env i = some p) : Raw p := by
  unfold linksErr at h
  split at h
  · cases h
  · split at h
    · rename_i e he
      cases h; exact (collect_ok env env.fuel [] i [] (left_lt_fuel env [])).error he
    · split at h
      · cases h
      · split at h
        · cases h
        · cases h; exact ⟨_, rfl⟩

theorem linksErr_no_crash (env : Env) (i : Info) (w : String) : linksErr env i ≠ some (.crash w) :=
  fun h => (linksErr_raw h).no_crash w rfl

/-! ### `actualRootTypeVisiting` -/

/-- a recursive call that, with fuel for what is left, gives an answer (`none` is the model's out-of-fuel answer) -/
def ActualOK (env : Env) (f : Nat) (rec : List Name → Info → Option JT) : Prop :=
  ∀ (visiting : List Name) (i : Info), left env visiting < f → rec visiting i ≠ none

/-- The invariant `seen = [] ∨ last ≠ none` is "once a type has been seen, `last` is set": the end of the loop answers `last`
when the types seen are one and the same, and must not find `none` there. -/
theorem actualLoop_ok (env : Env) (f : Nat) (rec : List Name → Info → Option JT) (hrec : ActualOK env f rec)
    (visiting : List Name) (hk : left env visiting < f + 1) :
    ∀ (tns : List Name) (seen : List JT) (last : Option JT), (seen = [] ∨ last ≠ none) →
      actualLoop rec env visiting tns seen last ≠ none
  | [], seen, last, hs => by
    unfold actualLoop
    split
    · rename_i h1
      rcases hs with rfl | hs
      · simp at h1
      · exact hs
    · simp
  | tn :: tns, seen, last, hs => by
    unfold actualLoop
    cases hc : visiting.contains tn with
    | true => simp
    | false =>
      simp only [Bool.false_eq_true, if_false]
      cases hl : env.lookup tn with
      | none => simp
      | some t =>
        simp only []
        have h1 := hrec (tn :: visiting) t.info (by have := left_enter hc hl; omega)
        cases hr : rec (tn :: visiting) t.info with
        | none => exact absurd hr h1
        | some tt => exact actualLoop_ok env f rec hrec visiting hk tns (tt :: seen) (some tt) (.inr (by simp))

theorem actualRoot_ok (env : Env) : ∀ fuel : Nat, ActualOK env fuel (actualRoot env fuel)
  | 0 => fun _ _ h => absurd h (Nat.not_lt_zero _)
  | f + 1 => by
    intro visiting i hk
    unfold actualRoot
    split
    · simp
    · split
      · exact actualLoop_ok env f (actualRoot env f) (actualRoot_ok env f) visiting hk i.gtypes [] none (.inl rfl)
      · simp

/-! ### `checkArrayItems` and the whole node-local check -/

/-- the types list of an array among the type roots names no array (the compiler forbids `{type: "@t"}` and user types in an
`or` on arrays: a types list on an array names only or rule-set members, whose roots are mixed nodes). Not derived for
compiled schemas here: it is decided per table by `arraysFlatB` (`arraysFlatB_sound`, `CheckerHypProofs`), which the
driver evaluates on every dump. -/
def ArraysFlat (env : Env) : Prop :=
  ∀ (n : Name) (t : Hd), env.lookup n = some t → t.info.nk = .arr →
    ∀ names, typesList? t.info.cs = some names → ∀ m ∈ names, ∀ u, env.lookup m = some u → u.info.nk ≠ .arr

theorem arrayItemsNames_nonarr (rec : Hd → Option Panic) (env : Env) :
    ∀ (ns : List Name), (∀ m ∈ ns, ∀ u, env.lookup m = some u → u.info.nk ≠ .arr) → ∀ w : String,
      arrayItemsNames rec env ns ≠ some (.crash w)
  | [], _, w => by simp [arrayItemsNames]
  | n :: ns, h, w => by
    unfold arrayItemsNames
    cases hl : env.lookup n with
    | none => simp
    | some t =>
      simp only []
      have hna : (t.info.nk == NK.arr) = false := by simpa using h n (by simp) t hl
      simp only [hna, Bool.false_eq_true, if_false]
      exact arrayItemsNames_nonarr rec env ns (fun m hm => h m (List.mem_cons_of_mem _ hm)) w

/-- on an array of the table `checkArrayItems` does not recurse further -/
theorem arrayItems_table (env : Env) (hT : ArraysFlat env) (f : Nat) (n : Name) (t : Hd) (hl : env.lookup n = some t)
    (hk : t.info.nk = .arr) (w : String) : arrayItems env (f + 1) t ≠ some (.crash w) := by
  unfold arrayItems
  split
  · simp
  · split
    · simp
    · cases ht : typesList? t.info.cs with
      | none => simp
      | some names => exact arrayItemsNames_nonarr _ env names (hT n t hl hk names ht) w

theorem arrayItemsNames_flat (env : Env) (hT : ArraysFlat env) (f : Nat) :
    ∀ (ns : List Name) (w : String), arrayItemsNames (arrayItems env (f + 1)) env ns ≠ some (.crash w)
  | [], w => by simp [arrayItemsNames]
  | n :: ns, w => by
    unfold arrayItemsNames
    cases hl : env.lookup n with
    | none => simp
    | some t =>
      simp only []
      split
      · rename_i hk
        have hk' : t.info.nk = .arr := by simpa using hk
        cases hr : arrayItems env (f + 1) t with
        | some p => simpa [hr] using arrayItems_table env hT f n t hl hk' w
        | none => exact arrayItemsNames_flat env hT f ns w
      · exact arrayItemsNames_flat env hT f ns w

/-- `checkArrayItems` does not overflow the stack when the types lists of the table's arrays name no arrays -/
theorem arrayItems_no_crash (env : Env) (hT : ArraysFlat env) (h : Hd) (w : String) :
    arrayItems env env.fuel h ≠ some (.crash w) := by
  unfold Env.fuel arrayItems
  split
  · simp
  · split
    · simp
    · split
      · simp
      · exact arrayItemsNames_flat env hT _ _ w

end CK
