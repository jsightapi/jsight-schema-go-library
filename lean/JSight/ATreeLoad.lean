import JSight.ATreeTok
import JSight.ListFacts
/-!
C13 / C16, whole annotated trees: the statements of the induction, for a view of the node table (`AT.G`).
`G.ValueStmt v`: a value inside a container, from the place where it may start to the place behind its closing lexemes;
`G.EntStmt o`: the entries of a container of kind `o` (array / object), from behind its opening bracket (or a comma, or a
value: `Pos`) to before its closing bracket; `ItemsStmt` and `MembersStmt` are its readings for the two types of
entries. Each is a segment on one level (`Lvl`) that makes the container grow (`Cont.grow`).

`AT.ValueStmt v` is `G.ValueStmt v` at the table with decoded keys with `Lvl` and `Cont` written out: the scanner
state field by field, the node table as `L0 ++ xa :: M`, the segment an `AT.Seg`, the nodes `ATree.nodesA`;
`AT.value_all` (`ATreeThm`) reads `G.value_all` in that form.
-/
namespace AT
open SchemaScan (Cls classify Ev LexT St Ctx CK VCtx PV wsLoop cmtLoop nlSt nlAl keySt keyAl closersOf)
open SchemaScan.Len (ATok Tok TC arun astep aslot slotStep closePV noML isObjKey nlStep mlSlot pendOfK annLoop cxA
  endStOf)
open Loader (XNode xfresh Fold NK)

/-- the nodes of a value before its annotation behind the comma is read -/
def ATree.nodesA (par : Option Nat) (n : Nat) (v : ATree) : List XNode :=
  bif v.hasB then (match v with
    | .scalar tok _ => [{ xfresh .lit par with value := some tok }]
    | _ => v.nodes par n)
  else v.nodes par n

/-- the scanner state in which the entries of a container of kind `o` are met at position `p` -/
def posSt (o : Bool) : Pos → St | .first => cFirst o | .sep => cSep o | .aft => cAft o
/-- the position of the value of an entry met at position `p` -/
def entCtx (o : Bool) (p : Pos) : VCtx := bif o then .objv else (match p with | .first => .item0 | _ => .item1)

/-- a value in a container (`ctx`: first item, later item, member value) whose node is `xa`: `G.ValueStmt` with the node
table written out -/
def ValueStmt (v : ATree) : Prop :=
  ∀ (ctx : VCtx) (_ : ctx ≠ .root) (g : Bool) (K : List (LexT × Nat)) (i : Nat) (CS : List Ctx) (cx : Ctx) (al : Bool)
    (_ : noML K = true) (ak : Bool) (pl : Nat) (ak' : Bool) (pl' : Nat) (_ : v.chk ak pl = some (ak', pl'))
    (_ : ak = true → al = true) (_ : TokOK v.toks) (L0 : List XNode) (xa : XNode) (M : List XNode)
    (last root : Option Nat) (_ : xa.kind = ctxKind ctx) (_ : xa.waiting = false),
    ∃ c' last', Seg ⟨ctx.st, g, K, i, CS, cx, al⟩ v.toks c'
        ⟨L0 ++ xa :: M, some L0.length, last, pl, root⟩
        ⟨L0 ++ { xa with children := xa.children ++ [L0.length + 1 + M.length] } ::
            (M ++ v.nodesA (some L0.length) (L0.length + 1 + M.length)), some L0.length, last', pl', root⟩ ∧
      c'.st = (ctxCk ctx).aft ∧ c'.K = K ∧ c'.CS = CS ∧ (ak' = true → c'.al = true) ∧
      (v.hasB = true → last' = some (L0.length + 1 + M.length))

theorem annX_kind (a : Option Annot) (x : XNode) : (annX a x).kind = x.kind := by cases a <;> rfl
theorem annX_waiting (a : Option Annot) (x : XNode) : (annX a x).waiting = x.waiting := by cases a <;> rfl
theorem annX_children (a : Option Annot) (x : XNode) : (annX a x).children = x.children := by cases a <;> rfl
theorem annX_keys (a : Option Annot) (x : XNode) : (annX a x).keys = x.keys := by cases a <;> rfl
theorem annX_parent (a : Option Annot) (x : XNode) : (annX a x).parent = x.parent := by cases a <;> rfl

theorem children_eta (xa : XNode) : { xa with children := xa.children ++ [] } = xa := by cases xa; simp
theorem children_keys_eta (xa : XNode) : { xa with children := xa.children ++ [], keys := xa.keys ++ [] } = xa := by
  cases xa; simp

mutual
theorem nodes_length : (v : ATree) → (par : Option Nat) → (n : Nat) → (v.nodes par n).length = v.count
  | .scalar _ _, _, _ => rfl
  | .arr _ its, _, n => by simp [ATree.nodes, ATree.count, itemsNodes_length its]; omega
  | .obj _ ms, _, n => by simp [ATree.nodes, ATree.count, membersNodes_length ms]; omega
theorem itemsNodes_length : (its : AItems) → (a n : Nat) → (its.nodes a n).length = its.count
  | .nil _, _, _ => rfl
  | .cons _ v _ _ rest, a, n => by
    simp [AItems.nodes, AItems.count, nodes_length v, itemsNodes_length rest]
theorem membersNodes_length : (ms : AMembers) → (a n : Nat) → (ms.nodes a n).length = ms.count
  | .nil _, _, _ => rfl
  | .cons _ _ _ _ v _ _ rest, a, n => by
    simp [AMembers.nodes, AMembers.count, nodes_length v, membersNodes_length rest]
end

theorem nodesA_length (v : ATree) (par : Option Nat) (n : Nat) : (v.nodesA par n).length = v.count := by
  unfold ATree.nodesA
  cases h : v.hasB with
  | false => exact nodes_length v par n
  | true =>
    cases v with
    | scalar tok an => rfl
    | arr _ _ => exact nodes_length _ par n
    | obj _ _ => exact nodes_length _ par n

theorem tokOK_append {a b : List BTok} (h : TokOK (a ++ b)) : TokOK a ∧ TokOK b :=
  ⟨fun t ht => h t (by simp [ht]), fun t ht => h t (by simp [ht])⟩

theorem tokOK_cons {t : BTok} {b : List BTok} (h : TokOK (t :: b)) : t.WF ∧ TokOK b :=
  ⟨h t (by simp), fun x hx => h x (by simp [hx])⟩

theorem annChk_some {ak : Bool} {pl : Nat} {a : Annot} {ak' : Bool} {pl' : Nat} (h : annChk ak pl a = some (ak', pl')) :
    ak = true ∧ pl = 1 ∧ ak' = true ∧ pl' = (bif a.multi then 1 else 0) := by
  unfold annChk at h
  cases hak : ak with
  | false => simp [hak] at h
  | true =>
    cases hp : (pl == 1) with
    | false => simp [hak, hp] at h
    | true =>
      simp [hak, hp] at h
      exact ⟨rfl, by simpa using hp, h.1, h.2.symm⟩

end AT

/-! ### the statements of the induction, for a view of the node table -/

namespace AT.G
open SchemaScan (Cls classify Ev LexT St Ctx CK VCtx PV wsLoop cmtLoop nlSt nlAl keySt keyAl closersOf)
open SchemaScan.Len (ATok Tok TC arun astep aslot slotStep closePV noML isObjKey nlStep mlSlot pendOfK annLoop cxA
  endStOf)
open Loader (XNode xfresh Fold NK)

variable [V : View]

/-- the key entries of an object as the view shows them, in source order -/
def _root_.AT.AMembers.keysV (ms : AMembers) : List (Bytes × Bool) := ms.rkeys.map V.kview

theorem keysV_cons (g1 : Gap) (k : Bytes) (g2 g3 : Gap) (v : ATree) (g4 : Gap) (c : Bool) (rest : AMembers) :
    (AMembers.cons g1 k g2 g3 v g4 c rest).keysV = V.kview (k, false) :: rest.keysV := rfl

mutual
/-- `ATree.nodes` with the keys as the view shows them -/
def _root_.AT.ATree.nodesV (par : Option Nat) : Nat → ATree → List XNode
  | _, .scalar tok an => [annX (an.map (·.a)) { xfresh .lit par with value := some tok }]
  | n, .arr an items =>
    { annX (an.map (·.2)) (xfresh .arr par) with children := items.idx (n + 1) } :: items.nodesV n (n + 1)
  | n, .obj an ms =>
    { annX (an.map (·.2)) (xfresh .obj par) with children := ms.idx (n + 1), keys := ms.keysV } :: ms.nodesV n (n + 1)
def _root_.AT.AItems.nodesV (a : Nat) : Nat → AItems → List XNode
  | _, .nil _ => []
  | n, .cons _ v _ _ rest => v.nodesV (some a) n ++ rest.nodesV a (n + v.count)
def _root_.AT.AMembers.nodesV (a : Nat) : Nat → AMembers → List XNode
  | _, .nil _ => []
  | n, .cons _ _ _ _ v _ _ rest => v.nodesV (some a) n ++ rest.nodesV a (n + v.count)
end

/-- the nodes of a value before its annotation behind the comma is read -/
def _root_.AT.ATree.nodesVA (par : Option Nat) (n : Nat) (v : ATree) : List XNode :=
  bif v.hasB then (match v with
    | .scalar tok _ => [{ xfresh .lit par with value := some tok }]
    | _ => v.nodesV par n)
  else v.nodesV par n

/-- a value in a container `C` (`ctx`: first item, later item, member value): it adds one child and its nodes. `last'` is
the node created last behind the value; where an annotation behind the comma is still to come (`v.hasB`) it is the value's
own node `C.next`, which is what `toksB_seg` asks for to attach that annotation. -/
def ValueStmt (v : ATree) : Prop :=
  ∀ (ctx : VCtx) (c : TC) (ak : Bool) (C : Cont) (ak' : Bool) (pl' : Nat), ctx ≠ .root → c.st = ctx.st → OK c ak →
    C.Is (ctxKind ctx) → v.chk ak C.pl = some (ak', pl') → TokOK v.toks →
    ∃ c' last', Lvl ⟨c, C.as, ak⟩ v.toks ⟨c', (C.grow [C.next] [] (v.nodesVA (some C.n) C.next) last' pl').as, ak'⟩ ∧
      c'.st = (ctxCk ctx).aft ∧ (v.hasB = true → last' = some C.next)

/-- The entries of a container `C` of kind `o` (`toks`: their tokens up to the closing bracket), met at position `p`: they
add the children `idx`, the key entries `keys` and the nodes `nodes`; `chk` is their line discipline (`seen`: the decoded
keys the object has). The exit flag is `false`: behind a container the line discipline takes `allowAnnotation` as unknown
(`ATree.chk` answers `false` there), so nothing is claimed about it in front of the closing bracket. The exit state is one
of the two in which `step_close` reads the closing bracket. `ItemsStmt` and `MembersStmt` are its two readings. -/
def EntStmt (o : Bool) (toks : List BTok) (idx : Nat → List Nat) (keys : List (Bytes × Bool))
    (nodes : Nat → Nat → List XNode) (chk : Pos → List (Bytes × Bool) → Bool → Nat → Option Nat) : Prop :=
  ∀ (p : Pos) (c : TC) (ak : Bool) (C : Cont) (pl' : Nat), c.st = posSt o p → OK c ak → C.Is (cKind o) →
    chk p (C.xa.keys.map V.kdec) ak C.pl = some pl' → TokOK toks →
    ∃ c' last', Lvl ⟨c, C.as, ak⟩ toks ⟨c', (C.grow (idx C.next) keys (nodes C.n C.next) last' pl').as, false⟩ ∧
      (c'.st = cFirst o ∨ c'.st = cAft o)

def ItemsStmt (its : AItems) : Prop :=
  EntStmt false its.toks (fun n => its.idx n) [] (fun a n => its.nodesV a n) (fun p _ ak pl => its.chk p ak pl)

def MembersStmt (ms : AMembers) : Prop :=
  EntStmt true ms.toks (fun n => ms.idx n) ms.keysV (fun a n => ms.nodesV a n) (fun p seen ak pl => ms.chk p seen ak pl)

mutual
theorem nodesV_length : (v : ATree) → (par : Option Nat) → (n : Nat) → (v.nodesV par n).length = v.count
  | .scalar _ _, _, _ => rfl
  | .arr _ its, _, n => by simp [ATree.nodesV, ATree.count, itemsNodesV_length its]; omega
  | .obj _ ms, _, n => by simp [ATree.nodesV, ATree.count, membersNodesV_length ms]; omega
theorem itemsNodesV_length : (its : AItems) → (a n : Nat) → (its.nodesV a n).length = its.count
  | .nil _, _, _ => rfl
  | .cons _ v _ _ rest, a, n => by
    simp [AItems.nodesV, AItems.count, nodesV_length v, itemsNodesV_length rest]
theorem membersNodesV_length : (ms : AMembers) → (a n : Nat) → (ms.nodesV a n).length = ms.count
  | .nil _, _, _ => rfl
  | .cons _ _ _ _ v _ _ rest, a, n => by
    simp [AMembers.nodesV, AMembers.count, nodesV_length v, membersNodesV_length rest]
end

/-- blanks and an annotation behind the node `x` created last, which stands at the end of the table. The table is written
`L ++ [x]` with any leaf, not as a `Cont`: the annotated node is the last of `M` behind a scalar (`value_scalar`,
`toksB_seg`) but the `xa` of a fresh `Cont.sub` behind an opening bracket (`head_seg`). -/
theorem gap_ann_seg (c : TC) (g : Gap) (an : Annot) (hw : TokOK (gapToks g ++ [.ann an]))
    (hws : wsLoop c.st = true) (hcm : cmtLoop c.st = true) (hann : annLoop (bif Gap.hasNl g then nlSt c.st else c.st) = true)
    (hg : c.g = false) (sep : Bool) (hsep : sep = true → c.st = .objKey ∨ c.st = .arrItem) (ak : Bool) (hok : OK c ak)
    (pl : Nat) (ak' : Bool) (pl' : Nat) (hchk : annChk (gapAk sep ak g) (gapPl pl g) an = some (ak', pl'))
    (L : List XNode) (x : XNode) (leaf root : Option Nat) :
    ∃ c', Lvl ⟨c, ⟨L ++ [x], leaf, some L.length, pl, root⟩, ak⟩ (gapToks g ++ [.ann an])
        ⟨c', ⟨L ++ [annX (some an) x], leaf, some L.length, pl', root⟩, ak'⟩ ∧
      c'.st = (bif Gap.hasNl g then nlSt c.st else c.st) := by
  obtain ⟨h1, h2, h3, h4⟩ := annChk_some hchk
  have gf := gap_facts g c
  have L1 := Lvl.gap g c ⟨L ++ [x], leaf, some L.length, pl, root⟩ ak sep hws (fun _ => hcm) hsep
  have hal : (gapTC c g).al = true := L1.al hok.al h1
  have s2 := ann_seg (gapTC c g) an (show (BTok.ann an).WF from (tokOK_append hw).2 _ (by simp)) (by rw [gf.st]; exact hann)
    (gf.gf hg) hal (by rw [gf.K]; exact hok.noML) ⟨L ++ [x], leaf, some L.length, gapPl pl g, root⟩ L.length x rfl h2
    (List.getElem?_append_cons_length L x [])
  exact ⟨annTC (gapTC c g) an, L1.trans ⟨by simpa [List.set_append_cons_length, h4] using s2, rfl, rfl, fun _ _ => hal⟩,
    by simp [annTC, gf.st]⟩

end AT.G
