import JSight.EnumScan
/-!
The equations of `EnumScan.dispatch`, one per scanner state, with the early exits of the Go source written as
`if … else if …` chains; the two helpers of the number states, `state0` and `endValue`, likewise.
Every later fact about a single byte is derived from these.
-/
namespace EnumScan
open SchemaScan (Cls classify)

variable {content : Array UInt8} {f : Nat} {s : Sc} {c : Cls} {p1 : Option Cls}

theorem dispatch_zero : dispatch content 0 s c p1 = throw (.other "re-dispatch fuel exhausted") := by
  unfold dispatch; rfl

theorem dispatch_begin (h : s.step = .begin) : dispatch content (f + 1) s c p1 =
    if c.isBlank then pure s
    else if c != .lbrack then throw (.arrayExpected (s.index - 1))
    else pure { (found s .arrB) with step := .arrItemOrEmpty } := by
  unfold dispatch; simp only [h]

/-- `stateBeginValue` and what the two array-item states do with its answer -/
def beginItem (s : Sc) (c : Cls) : M Sc := do
  let (lit, s) ← beginValue s c
  pure (if lit then found (found s .itemB) .litB else s)

/-- first byte of a scalar token: the state it leads to, and whether the literal is unfinished behind it -/
def litStart : Cls → Option (St × Bool)
  | .quote => some (.inString, true)
  | .minus => some (.neg, true)
  | .zero => some (.d0, false)
  | .d19 => some (.d1, false)
  | .lt => some (.t, true)
  | .lf => some (.f, true)
  | .ln => some (.n, true)
  | _ => none

theorem beginItem_eq (s : Sc) (c : Cls) : beginItem s c =
    if c.isNewLine then (if s.ann then throw (errChar s "inside inline annotation") else pure (found s .newLine))
    else if c.isBlank then pure s
    else if c == .slash then switchToAnnotation s
    else match litStart c with
      | some (st, u) => pure (found (found { s with step := st, unf := u || s.unf } .itemB) .litB)
      | none => throw (errChar s "looking for beginning of value") := by
  unfold beginItem beginValue
  split
  · split <;> rfl
  split
  · rfl
  split
  · cases switchToAnnotation s <;> rfl
  cases c <;> rfl

theorem dispatch_arrItemOrEmpty (h : s.step = .arrItemOrEmpty) : dispatch content (f + 1) s c p1 =
    if c.isNewLine then (if s.ann then throw (errChar s "inside inline annotation") else pure (found s .newLine))
    else if c == .rbrack then pure (foundArrayEnd s)
    else beginItem s c := by
  unfold dispatch; simp only [h]; rfl

theorem dispatch_arrItem (h : s.step = .arrItem) : dispatch content (f + 1) s c p1 = beginItem s c := by
  unfold dispatch; simp only [h]; rfl

theorem dispatch_endValue (h : s.step = .endValue) :
    dispatch content (f + 1) s c p1 = endValue content f s c p1 := by
  unfold dispatch; simp only [h]

theorem dispatch_afterItem (h : s.step = .afterItem) : dispatch content (f + 1) s c p1 =
    if c.isNewLine then (if s.ann then throw (errChar s "inside inline annotation") else pure (found s .newLine))
    else if c.isBlank then pure s
    else if c == .slash then switchToAnnotation s
    else if c == .comma then pure { s with step := .arrItem }
    else if c == .rbrack then pure (foundArrayEnd s)
    else throw (errChar s "after array item") := by
  unfold dispatch; simp only [h]; rfl

theorem dispatch_endTop (h : s.step = .endTop) : dispatch content (f + 1) s c p1 =
    if c.isNewLine then (if s.ann then throw (errChar s "inside inline annotation") else pure (found s .newLine))
    else if c == .slash then switchToAnnotation s
    else if !c.isBlank then
      if s.lengthComputing then (if !s.stack.isEmpty then pure { s with hasTrailing := true } else throw .eos)
      else if !s.ann then throw (errChar s "non-space byte after top-level value")
      else if s.hasTrailing then throw .eos else pure s
    else if s.hasTrailing then throw .eos else pure s := by
  unfold dispatch; simp only [h]; rfl

theorem dispatch_inString (h : s.step = .inString) : dispatch content (f + 1) s c p1 =
    match c with
    | .quote => pure { s with step := .endValue, unf := false }
    | .bslash => pure { s with step := .esc }
    | _ => if c.isLow then throw (errChar s "in string literal") else pure s := by
  unfold dispatch; simp only [h]; rfl

theorem dispatch_esc (h : s.step = .esc) : dispatch content (f + 1) s c p1 =
    match c with
    | .lb | .lf | .ln | .lr | .lt | .bslash | .slash | .quote => pure { s with step := .inString }
    | .lu => pure { s with ret := .inString :: s.ret, step := .u0 }
    | _ => throw (errChar s "in string escape code") := by
  unfold dispatch; simp only [h]; rfl

theorem dispatch_u0 (h : s.step = .u0) : dispatch content (f + 1) s c p1 = hexStep s c .u1 := by
  unfold dispatch; simp only [h]

theorem dispatch_u1 (h : s.step = .u1) : dispatch content (f + 1) s c p1 = hexStep s c .u2 := by
  unfold dispatch; simp only [h]

theorem dispatch_u2 (h : s.step = .u2) : dispatch content (f + 1) s c p1 = hexStep s c .u3 := by
  unfold dispatch; simp only [h]

theorem dispatch_u3 (h : s.step = .u3) : dispatch content (f + 1) s c p1 =
    if c.isHex then (popRet s).map fun (r, s) => { s with step := r }
    else throw (errChar s "in \\u hexadecimal character escape") := by
  unfold dispatch; simp only [h]
  cases popRet s <;> rfl

theorem dispatch_neg (h : s.step = .neg) : dispatch content (f + 1) s c p1 =
    match c with
    | .zero => pure { s with step := .d0, unf := false }
    | .d19 => pure { s with step := .d1, unf := false }
    | _ => throw (errChar s "in numeric literal") := by
  unfold dispatch; simp only [h]; rfl

theorem dispatch_d1 (h : s.step = .d1) : dispatch content (f + 1) s c p1 =
    if c.isDigit then pure { s with step := .d1 } else state0 content f s c p1 := by
  unfold dispatch; simp only [h]

theorem dispatch_d0 (h : s.step = .d0) : dispatch content (f + 1) s c p1 = state0 content f s c p1 := by
  unfold dispatch; simp only [h]

theorem dispatch_dot (h : s.step = .dot) : dispatch content (f + 1) s c p1 =
    if c.isDigit then pure { s with unf := false, step := .dot0 }
    else throw (errChar s "after decimal point in numeric literal") := by
  unfold dispatch; simp only [h]

theorem dispatch_dot0 (h : s.step = .dot0) : dispatch content (f + 1) s c p1 =
    if c.isDigit then pure s
    else if c == .le || c == .uE then throw (errChar s "isn't allowed 'cause not obvious it's a float or an integer")
    else endValue content f s c p1 := by
  unfold dispatch; simp only [h]

theorem dispatch_t (h : s.step = .t) :
    dispatch content (f + 1) s c p1 = expect s c .lr .tr false "in literal true (expecting 'r')" := by
  unfold dispatch; simp only [h]

theorem dispatch_tr (h : s.step = .tr) :
    dispatch content (f + 1) s c p1 = expect s c .lu .tru false "in literal true (expecting 'u')" := by
  unfold dispatch; simp only [h]

theorem dispatch_tru (h : s.step = .tru) :
    dispatch content (f + 1) s c p1 = expect s c .le .endValue true "in literal true (expecting 'e')" := by
  unfold dispatch; simp only [h]

theorem dispatch_f (h : s.step = .f) :
    dispatch content (f + 1) s c p1 = expect s c .la .fa false "in literal false (expecting 'a')" := by
  unfold dispatch; simp only [h]

theorem dispatch_fa (h : s.step = .fa) :
    dispatch content (f + 1) s c p1 = expect s c .ll .fal false "in literal false (expecting 'l')" := by
  unfold dispatch; simp only [h]

theorem dispatch_fal (h : s.step = .fal) :
    dispatch content (f + 1) s c p1 = expect s c .ls .fals false "in literal false (expecting 's')" := by
  unfold dispatch; simp only [h]

theorem dispatch_fals (h : s.step = .fals) :
    dispatch content (f + 1) s c p1 = expect s c .le .endValue true "in literal false (expecting 'e')" := by
  unfold dispatch; simp only [h]

theorem dispatch_n (h : s.step = .n) :
    dispatch content (f + 1) s c p1 = expect s c .lu .nu false "in literal null (expecting 'u')" := by
  unfold dispatch; simp only [h]

theorem dispatch_nu (h : s.step = .nu) :
    dispatch content (f + 1) s c p1 = expect s c .ll .nul false "in literal null (expecting 'l')" := by
  unfold dispatch; simp only [h]

theorem dispatch_nul (h : s.step = .nul) :
    dispatch content (f + 1) s c p1 = expect s c .ll .endValue true "in literal null (expecting 'l')" := by
  unfold dispatch; simp only [h]

theorem dispatch_anyAnnStart (h : s.step = .anyAnnStart) : dispatch content (f + 1) s c p1 =
    match c with
    | .slash => pure { (found s .inlAnnB) with ann := true, step := .inlAnn }
    | .star => pure { (found s .mlAnnB) with ann := true, step := .mlAnn }
    | _ => throw (errChar s "after first slash") := by
  unfold dispatch; simp only [h]; rfl

theorem dispatch_inlAnn (h : s.step = .inlAnn) : dispatch content (f + 1) s c p1 =
    if c.isSpace then pure s
    else dispatch content f { (found s .inlTxtB) with step := .inlTxt } c p1 := by
  conv => lhs; unfold dispatch
  simp only [h]

theorem dispatch_mlAnn (h : s.step = .mlAnn) : dispatch content (f + 1) s c p1 =
    if c.isNewLine then pure (found s .newLine)
    else if c.isBlank then pure s
    else dispatch content f { (found s .mlTxtB) with step := .mlTxt } c p1 := by
  conv => lhs; unfold dispatch
  simp only [h]

theorem dispatch_mlTxt (h : s.step = .mlTxt) : dispatch content (f + 1) s c p1 =
    if c == .star && p1 == some .slash then pure { (found s .mlTxtE) with step := .mlAnnEnd }
    else pure s := by
  unfold dispatch; simp only [h]

theorem dispatch_mlAnnEnd (h : s.step = .mlAnnEnd) : dispatch content (f + 1) s c p1 =
    if c != .slash then throw (errChar s "in multi-line annotation after \"*\" character")
    else (popRet (found s .mlAnnE)).map fun (r, s) => { s with step := r, ann := false } := by
  unfold dispatch; simp only [h]
  cases c != Cls.slash <;> cases popRet (found s .mlAnnE) <;> rfl

theorem dispatch_inlTxt (h : s.step = .inlTxt) : dispatch content (f + 1) s c p1 =
    if c.isNewLine then
      (popRet (found (found (found s .inlTxtE) .inlAnnE) .newLine)).map fun (r, s) => { s with step := r, ann := false }
    else pure s := by
  unfold dispatch; simp only [h]
  cases c.isNewLine <;> cases popRet (found (found (found s .inlTxtE) .inlAnnE) .newLine) <;> rfl

theorem state0_eq : state0 content f s c p1 =
    if c == .dot then pure { s with unf := true, step := .dot }
    else if c == .le || c == .uE then throw (errChar s "isn't allowed 'cause not obvious it's a float or an integer")
    else endValue content f s c p1 := by
  unfold state0; rfl

/-- behind the closing bracket -/
theorem endValue_nil (h : s.stack = []) :
    endValue content f s c p1 = dispatch content f { s with step := .endTop } c p1 := by
  unfold endValue; simp only [h]; rfl

/-- the model's duplicate key of a token: blanks trimmed, (decoded text, is-string) -/
def keyOfTrim (tok : List UInt8) : List UInt8 × Bool :=
  let tok := ((tok.dropWhile Render.isBlank).reverse.dropWhile Render.isBlank).reverse
  (if Unquote.inQuotes tok then Unquote.unquote tok else tok, Unquote.inQuotes tok)

def keyAt (content : Array UInt8) (b len : Nat) : List UInt8 × Bool :=
  keyOfTrim ((content.toList.drop b).take len)

theorem validateValue_eq (s : Sc) (t : LexT) (b : Nat) (rest : List (LexT × Nat)) (h : s.stack = (t, b) :: rest) :
    validateValue content s =
      if s.unique.contains (keyAt content b (s.index - 1 - b)) then .error (.duplicate b)
      else .ok { s with unique := keyAt content b (s.index - 1 - b) :: s.unique } := by
  unfold validateValue
  rw [h]
  rfl

/-- behind a literal that is an array item: `litE`, the duplicate check, `itemE`, and the byte is read again -/
theorem endValue_item {b b' : Nat} {K : List (LexT × Nat)} (h : s.stack = (.litB, b) :: (.itemB, b') :: K) :
    endValue content f s c p1 =
      if s.unique.contains (keyAt content b (s.index - 1 - b)) then .error (.duplicate b)
      else dispatch content f { found (found s .litE) .itemE with
        unique := keyAt content b (s.index - 1 - b) :: s.unique, step := .afterItem } c p1 := by
  have h0 : (s.stack.length == 0) = false := by rw [h]; rfl
  have h1 : (s.stack.length == 1) = false := by rw [h]; rfl
  have ht : stackTy s 0 = some .litB := by unfold stackTy; rw [h]; rfl
  have hv := validateValue_eq (content := content) (found s .litE) .litB b _ h
  unfold endValue
  cases hcon : s.unique.contains (keyAt content b (s.index - 1 - b)) with
  | true =>
    have hv' : validateValue content (found s .litE) = .error (.duplicate b) := by rw [hv]; exact if_pos hcon
    simp only [h0, h1, ht, hv', Bool.false_eq_true, if_false, if_true, beq_self_eq_true]
    rfl
  | false =>
    have hv' : validateValue content (found s .litE)
        = .ok { found s .litE with unique := keyAt content b (s.index - 1 - b) :: s.unique } := by
      rw [hv]; exact if_neg fun h' => Bool.false_ne_true (hcon.symm.trans h')
    have ht' : stackTy { found s .litE with unique := keyAt content b (s.index - 1 - b) :: s.unique } 1
        = some .itemB := by
      unfold stackTy found; simp only [h]; rfl
    simp only [h0, h1, ht, hv', Bool.false_eq_true, if_false, if_true, beq_self_eq_true, bind, Except.bind, pure,
      Except.pure, ht']
    rfl

end EnumScan
