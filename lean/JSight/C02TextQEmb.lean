import JSight.C02TextQ
/-!
C02 at TEXT level, extended grammar: an admissible rule set (`okRulesE`) has LIST values only under `or` / `enum` / `allOf`:
every other constraint constructor refuses a value that begins with `[` (`createRule_list`), and a `type` rule with such
a value — which the constructor lets pass — is refused by `compileNode` (`typeOK` / the `enum` class's `type: "enum"`).
So `GObj.listsEmb`, the hypothesis of `load_gannot`, follows from `okRulesE` (`listsEmb_of_okRulesE`), which gives
`text_is_closed_extended`. The plain grammar (`Lay.BObj`: bare names, literal values) is a part of the extended one (the
embedding `Lay.BObj.toG` of `AnnotQThm`): `loadSchema_annot` and `text_eq_closed` are the extended theorems at `ob.toG`;
on top of `loadSchema_annot` stand the text-level theorems of the plain grammar: `text_level`, `text_check_rejects`,
`text_level_spec`, `text_rule_order_outcome`, `text_rule_order`. In the helper names `91` is the byte `[`.
-/
namespace C02T
open Compile Lay SchemaScan

theorem ne91 (t l : Bytes) (h : l.head? ≠ some 91) : ((91 :: t : Bytes) == l) = false := by
  cases l with
  | nil => rfl
  | cons b m =>
    rw [Bool.eq_false_iff]
    intro heq
    have := eq_of_beq heq
    injection this with h1 _
    exact h (by simp [← h1])

theorem parseUint91 (t : Bytes) : parseUint (91 :: t) = none := by simp [parseUint, isDigit]

theorem number91 (t : Bytes) : RulesF.number (91 :: t) = none := by
  simp [RulesF.number, RulesF.toCh, Num.scan, List.foldlM, Num.Sc.step]

theorem parseBool91 (t : Bytes) : parseBool (91 :: t) = none := by
  simp [parseBool, RulesF.sTrue, RulesF.sFalse]

theorem unq91 (t : Bytes) : unq (91 :: t) = 91 :: t := by
  simp [unq, Unquote.unquote, Unquote.inQuotes]

theorem parseAdd91 (t : Bytes) : parseAdd (91 :: t) = .error (.code 103 0) := by
  have hu : isUserTypeName (91 :: t) = false := by simp [isUserTypeName]
  simp only [parseAdd, unq91, hu,
    ne91 t (sb "any") (by decide +kernel), ne91 t (sb "true") (by decide +kernel), ne91 t (sb "false") (by decide +kernel),
    ne91 t (sb "object") (by decide +kernel), ne91 t (sb "array") (by decide +kernel),
    ne91 t (sb "string") (by decide +kernel), ne91 t (sb "email") (by decide +kernel), ne91 t (sb "uri") (by decide +kernel),
    ne91 t (sb "uuid") (by decide +kernel), ne91 t (sb "date") (by decide +kernel), ne91 t (sb "datetime") (by decide +kernel),
    ne91 t (sb "integer") (by decide +kernel), ne91 t (sb "float") (by decide +kernel),
    ne91 t (sb "decimal") (by decide +kernel), ne91 t (sb "boolean") (by decide +kernel),
    ne91 t (sb "null") (by decide +kernel), ne91 t (sb "enum") (by decide +kernel), ne91 t (sb "mixed") (by decide +kernel),
    ne91 t (sb "comment") (by decide +kernel), Bool.or_self, Bool.false_eq_true, if_false]

/-- **a value that begins with `[` passes only the constructors of `or`, `enum`, `allOf` — and of `type`** -/
theorem createRule_list (seen : List Bytes) (p : Pair) (t : Bytes) (hv : p.2 = 91 :: t)
    (h : createRule .lit seen (mkR p) = .ok ()) :
    tagOf p.1 = .or ∨ tagOf p.1 = .enum ∨ tagOf p.1 = .allOf ∨ tagOf p.1 = .type := by
  rw [createRule_tag, hv] at h
  generalize tagOf p.1 = tg at h ⊢
  cases tg <;> simp [crTag, parseUint91, number91, parseBool91, parseAdd91] at h ⊢

/-- a `type` rule whose value begins with `[` does not pass `compileNode` -/
theorem type_list_refused (ps : List Pair) (jt : JT) (hf : Facts ps) (p : Pair) (hp : p ∈ ps) (t : Bytes)
    (hv : p.2 = 91 :: t) (ht : tagOf p.1 = .type) (hb : okBasicR (mk ps) jt = true ∨ okBasicRE (mk ps) jt = true) :
    False := by
  have hn : p.1 = sb "type" := tag_type.1 ht
  have hkeep : keepP p = true := by simp [keepP, ht]
  have hmem : p ∈ ps.filter keepP := List.mem_filter.2 ⟨hp, hkeep⟩
  have hnd : ((ps.filter keepP).map (·.1)).Nodup :=
    hf.nodup.sublist (List.Sublist.map _ List.filter_sublist)
  have hfind := findRule_mk_of_mem (ps.filter keepP) hnd p hmem "type" hn
  rcases hb with hb | hb
  · obtain ⟨_, _, _, _, _, h6, _⟩ := okBasicR_parts hb
    rw [filt_mk] at h6
    have hu : isUserTypeName (91 :: t) = false := by simp [isUserTypeName]
    simp only [typeOK, typeVal, hfind, mkR, hv, Option.map_some, Option.getD_some, unq91, hu, fmtOfType, isPlainType,
      ne91 t (sb "mixed") (by decide +kernel), ne91 t (sb "enum") (by decide +kernel),
      ne91 t (sb "any") (by decide +kernel), ne91 t (sb "decimal") (by decide +kernel),
      ne91 t (sb "email") (by decide +kernel), ne91 t (sb "uri") (by decide +kernel),
      ne91 t (sb "uuid") (by decide +kernel), ne91 t (sb "date") (by decide +kernel),
      ne91 t (sb "datetime") (by decide +kernel), ne91 t (sb "object") (by decide +kernel),
      ne91 t (sb "array") (by decide +kernel), ne91 t (sb "string") (by decide +kernel),
      ne91 t (sb "integer") (by decide +kernel), ne91 t (sb "float") (by decide +kernel),
      ne91 t (sb "boolean") (by decide +kernel), ne91 t (sb "null") (by decide +kernel)] at h6
    simp at h6
  · simp only [okBasicRE, Bool.and_eq_true] at hb
    have hty := hb.1.1.1.1.1.1.1.1.1.2
    rw [filt_mk, hfind] at hty
    simp only [mkR, hv] at hty
    have : (some (91 :: t : Bytes) == some (sb "\"enum\"")) = false := by
      have := ne91 t (sb "\"enum\"") (by decide +kernel)
      simpa using this
    rw [this] at hty
    cases hty

/-- **list values sit under `or` / `enum` / `allOf`** in every admissible rule set -/
theorem pairs_listEmb (ex : Bytes) (ps : List Pair) (hok : okRulesE ex ps = true) (p : Pair) (hp : p ∈ ps) (t : Bytes)
    (hv : p.2 = 91 :: t) : embName p.1 = true := by
  simp only [okRulesE, Bool.and_eq_true, Bool.or_eq_true] at hok
  obtain ⟨⟨_, hc⟩, hb⟩ := hok
  have hf := facts_of_okCreate hc
  have h1 := ((okCreate_iff ps).1 hc).2 p hp
  rcases createRule_list [] p t hv h1 with h | h | h | h
  · have : p.1 = sb "or" := nameOf_tagOf h Tag.noConfusion
    simp [embName, this, sb]
  · have : p.1 = sb "enum" := nameOf_tagOf h Tag.noConfusion
    simp [embName, this, sb]
  · have : p.1 = sb "allOf" := nameOf_tagOf h Tag.noConfusion
    simp [embName, this, sb]
  · exact (type_list_refused ps _ hf p hp t hv h hb).elim

theorem listsEmb_of_okRulesE (ex : Bytes) (ob : GObj) (hok : okRulesE ex ob.pairs = true) : ob.listsEmb :=
  listsEmb_of_pairs ob (fun p hp t ht => pairs_listEmb ex ob.pairs hok p hp t ht)

/-- **the text pipeline is the closed form on the extended grammar** -/
theorem text_is_closed_extended (a : Ann) (ha : a.isAnn = true) (tok s1 s2 : List UInt8) (ob : GObj) (s3 tl : List UInt8)
    (hv : GAnnValid a tok s1 s2 ob s3 tl) (hok : okRulesE tok ob.pairs = true)
    (d ws0 ws1 : List UInt8) (hd : JsonScan.IsScalar (d.map JsonScan.classify))
    (hw0 : JsonScan.IsWs (ws0.map JsonScan.classify)) (hw1 : JsonScan.IsWs (ws1.map JsonScan.classify)) :
    E2E.validateText (gannText a tok s1 s2 ob s3 tl) [] (ws0 ++ (d ++ ws1)) = closed tok ob.pairs d :=
  text_is_closed_gannot a ha tok s1 s2 ob s3 tl hv (listsEmb_of_okRulesE tok ob hok) hok d ws0 ws1 hd hw0 hw1

/-- **loading half**: scanner model + loader model + constraint constructors + `compileNode` on `EX // {rules}` -/
theorem loadSchema_annot (a : Ann) (ha : a.isAnn = true) (tok s1 s2 : List UInt8) (ob : BObj) (s3 tl : List UInt8)
    (hv : AnnValid a tok s1 s2 ob s3 tl) (hok : okRules tok ob.pairs = true) :
    E2E.loadSchema (annTextB a tok s1 s2 ob s3 tl) false
      = .ok (some (.lit (compiledOf tok (mk ob.pairs)) false)) := by
  rw [← gannText_toG, ← pairs_toG]
  exact loadSchema_gannot a ha tok s1 s2 ob.toG s3 tl (valid_toG hv) (listsEmb_toG ob)
    (okRulesE_of_okRules (by rw [pairs_toG]; exact hok))

/-- **the text pipeline IS the closed form** on the texts of the plain grammar (bare names, literal values); the same
equality is what `vh c02-text` samples on the real library -/
theorem text_eq_closed (a : Ann) (ha : a.isAnn = true) (tok s1 s2 : List UInt8) (ob : BObj)
    (s3 tl : List UInt8) (hv : AnnValid a tok s1 s2 ob s3 tl) (hok : okRules tok ob.pairs = true)
    (d ws0 ws1 : List UInt8) (hd : JsonScan.IsScalar (d.map JsonScan.classify))
    (hw0 : JsonScan.IsWs (ws0.map JsonScan.classify)) (hw1 : JsonScan.IsWs (ws1.map JsonScan.classify)) :
    E2E.validateText (annTextB a tok s1 s2 ob s3 tl) [] (ws0 ++ (d ++ ws1)) = closed tok ob.pairs d := by
  rw [← gannText_toG, ← pairs_toG]
  exact text_is_closed_gannot a ha tok s1 s2 ob.toG s3 tl (valid_toG hv) (listsEmb_toG ob)
    (okRulesE_of_okRules (by rw [pairs_toG]; exact hok)) d ws0 ws1 hd hw0 hw1

/-- **C02 at text level, accepted schema**: the outcome is the verdict of the compiled node on the document token -/
theorem text_level (a : Ann) (ha : a.isAnn = true) (tok s1 s2 : List UInt8) (ob : BObj) (s3 tl : List UInt8)
    (hv : AnnValid a tok s1 s2 ob s3 tl) (hok : okRules tok ob.pairs = true)
    (hex : RulesF.litOKFull noOracles (compiledOf tok (mk ob.pairs)) tok = true)
    (d ws0 ws1 : List UInt8) (hd : JsonScan.IsScalar (d.map JsonScan.classify))
    (hw0 : JsonScan.IsWs (ws0.map JsonScan.classify)) (hw1 : JsonScan.IsWs (ws1.map JsonScan.classify)) :
    E2E.validateText (annTextB a tok s1 s2 ob s3 tl) [] (ws0 ++ (d ++ ws1))
      = if RulesF.litOKFull noOracles (compiledOf tok (mk ob.pairs)) d then .acc else .rej := by
  rw [validateText_lit _ _ (loadSchema_annot a ha tok s1 s2 ob s3 tl hv hok), compiledOf_ex,
    (litErr_none_iff _ _).2 hex]
  exact afterCheck_scalar _ d ws0 ws1 hd hw0 hw1

/-- **the example violates its own rules**: `Check` refuses the schema with the validator's code, at the offset of
the example (0) — whatever the document -/
theorem text_check_rejects (a : Ann) (ha : a.isAnn = true) (tok s1 s2 : List UInt8) (ob : BObj) (s3 tl : List UInt8)
    (hv : AnnValid a tok s1 s2 ob s3 tl) (hok : okRules tok ob.pairs = true)
    (hex : RulesF.litOKFull noOracles (compiledOf tok (mk ob.pairs)) tok = false) (doc : List UInt8) :
    E2E.validateText (annTextB a tok s1 s2 ob s3 tl) [] doc
      = .schemaErr ((litErr (compiledOf tok (mk ob.pairs)) tok).getD 0) 0 := by
  rw [validateText_lit _ _ (loadSchema_annot a ha tok s1 s2 ob s3 tl hv hok), compiledOf_ex]
  cases hc : litErr (compiledOf tok (mk ob.pairs)) tok with
  | some c => rfl
  | none => rw [(litErr_none_iff _ _).1 hc] at hex; cases hex

/-- **C02 at text level, SPEC form** -/
theorem text_level_spec (o : RulesF.Oracles) (a : Ann) (ha : a.isAnn = true) (tok s1 s2 : List UInt8) (ob : BObj)
    (s3 tl : List UInt8) (hv : AnnValid a tok s1 s2 ob s3 tl) (hok : okRules tok ob.pairs = true)
    (hex : RulesF.litOKFull o (specOfRules tok ob.pairs) tok = true)
    (d ws0 ws1 : List UInt8) (hd : JsonScan.IsScalar (d.map JsonScan.classify))
    (hw0 : JsonScan.IsWs (ws0.map JsonScan.classify)) (hw1 : JsonScan.IsWs (ws1.map JsonScan.classify)) :
    E2E.validateText (annTextB a tok s1 s2 ob s3 tl) [] (ws0 ++ (d ++ ws1))
      = if RulesF.litOKFull o (specOfRules tok ob.pairs) d then .acc else .rej := by
  rw [← compiled_eq_spec o tok ob.pairs hok] at hex ⊢
  exact text_level a ha tok s1 s2 ob s3 tl hv hok hex d ws0 ws1 hd hw0 hw1

/-! ### rule order -/

/-- **rule order, the example passes its own rules**: the two texts get the same outcome on EVERY document text -/
theorem text_rule_order_outcome (a a' : Ann) (ha : a.isAnn = true) (ha' : a'.isAnn = true)
    (EX s1 s2 s1' s2' : List UInt8) (ob ob' : BObj) (s3 tl s3' tl' : List UInt8)
    (hv : AnnValid a EX s1 s2 ob s3 tl) (hv' : AnnValid a' EX s1' s2' ob' s3' tl')
    (hp : ob.pairs.Perm ob'.pairs) (hok : okRules EX ob.pairs = true)
    (hex : RulesF.litOKFull noOracles (compiledOf EX (mk ob.pairs)) EX = true) (doc : List UInt8) :
    E2E.validateText (annTextB a EX s1 s2 ob s3 tl) [] doc
      = E2E.validateText (annTextB a' EX s1' s2' ob' s3' tl') [] doc := by
  have hok' := okRules_perm EX hp hok
  have hc := compiled_perm EX hp hok
  rw [validateText_lit _ _ (loadSchema_annot a ha EX s1 s2 ob s3 tl hv hok),
    validateText_lit _ _ (loadSchema_annot a' ha' EX s1' s2' ob' s3' tl' hv' hok')]
  have h1 : litErr (compiledOf EX (mk ob.pairs)) (compiledOf EX (mk ob.pairs)).ex = none :=
    (litErr_none_iff _ _).2 hex
  have h2 : litErr (compiledOf EX (mk ob'.pairs)) (compiledOf EX (mk ob'.pairs)).ex = none :=
    (litErr_none_iff _ _).2 (by rw [← hc]; exact hex)
  rw [h1, h2]
  exact afterCheck_lit_congr _ _ (fun d => hc d) doc

/-- **rule order**: permuting the rules inside the annotation (and re-spelling the layout, in either form) does not
change which documents are accepted — every document text, every admissible rule set -/
theorem text_rule_order (a a' : Ann) (ha : a.isAnn = true) (ha' : a'.isAnn = true)
    (EX s1 s2 s1' s2' : List UInt8) (ob ob' : BObj) (s3 tl s3' tl' : List UInt8)
    (hv : AnnValid a EX s1 s2 ob s3 tl) (hv' : AnnValid a' EX s1' s2' ob' s3' tl')
    (hp : ob.pairs.Perm ob'.pairs) (hok : okRules EX ob.pairs = true) (doc : List UInt8) :
    E2E.validateText (annTextB a EX s1 s2 ob s3 tl) [] doc = .acc ↔
      E2E.validateText (annTextB a' EX s1' s2' ob' s3' tl') [] doc = .acc := by
  cases hex : RulesF.litOKFull noOracles (compiledOf EX (mk ob.pairs)) EX with
  | true => rw [text_rule_order_outcome a a' ha ha' EX s1 s2 s1' s2' ob ob' s3 tl s3' tl' hv hv' hp hok hex doc]
  | false =>
    have hok' := okRules_perm EX hp hok
    have hex' : RulesF.litOKFull noOracles (compiledOf EX (mk ob'.pairs)) EX = false := by
      rw [← compiled_perm EX hp hok]; exact hex
    rw [text_check_rejects a ha EX s1 s2 ob s3 tl hv hok hex doc,
      text_check_rejects a' ha' EX s1' s2' ob' s3' tl' hv' hok' hex' doc]
    simp

end C02T
