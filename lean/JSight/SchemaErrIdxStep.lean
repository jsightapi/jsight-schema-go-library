import JSight.SchemaErrIdx
import JSight.SchemaViable
import JSight.SchemaStepEq
import JSight.SchemaWp
/-!
What one call of a step function does, whatever the state (`dispatch_post`): it leaves `lengthComputing` alone; it leaves
the index where it is, but for the two ends of a user comment (`IdxPost`); it queues at most `St.budget` lexemes; an error
it raises carries the offset of the byte just read, and the error "after first #" is raised only where the byte behind it
is not `#` (`ErrPost`).

The proof lists the paths through each step function with the rules of `SchemaWp`.  Each path ends in a record built from
`s`, whose fields are read off, or in a re-dispatch, to which the induction hypothesis applies: the statement is absolute
(`b`, `n`, `B` are parameters, not fields of `s`) so that the hypothesis fits the re-dispatch as it stands.  One path needs
the invariant: in length mode `endValue` returns to the step on top of `ret`, of which nothing is known here.  The count and
the comment flag are therefore claimed `Under H`, and what that path needs (`Side`, `RetOK`) is asked under `H` as well:
with `H := False` the theorem speaks of every call (`dispatch_E`, `dispatch_idx`, `dispatch_w` here, `dispatch_lc` in
`SchemaLcFrame`), with `H := True`
and the invariant it gives the frame property of `SchemaQ`.
-/
namespace SchemaScan
open Except (wp)

/-- an error raised on reading the byte in front of offset `n`, `p1` being the byte behind it -/
def ErrPost (n : Nat) (p1 : Option Cls) (e : Err) : Prop := EAt n e ∧ (e.window = 1 → p1 ≠ some Cls.hash)

theorem ErrPost_errChar (n p1 s m) :
    ErrPost n p1 (errChar s m) ↔ s.index - 1 = n - 1 ∧ ((m == "after first #") = true → p1 ≠ some Cls.hash) := by
  simp [ErrPost, errChar, EAt, Err.window]

theorem ErrPost_crash (n p1 m) : ErrPost n p1 (.crash m) ↔ True := by
  simp [ErrPost, EAt, Err.window]

theorem ErrPost_annotationNotAllowed (n p1 i) : ErrPost n p1 (.annotationNotAllowed i) ↔ i = n - 1 := by
  simp [ErrPost, EAt, Err.window]

theorem ErrPost_invalidKeyChar (n p1 i) : ErrPost n p1 (.invalidKeyChar i) ↔ i = n - 1 := by
  simp [ErrPost, EAt, Err.window]

attribute [schema_wp] ErrPost_errChar ErrPost_crash ErrPost_annotationNotAllowed ErrPost_invalidKeyChar

/-- `P`, claimed where `H` holds; `H` stands for "the consequences of the invariant are at hand" -/
def Under (H P : Prop) : Prop := H → P

theorem Under_true (H : Prop) : Under H True ↔ True := iff_true_intro fun _ => trivial

theorem Under.le {H : Prop} {a k B : Nat} (h : Under H (a + k ≤ B)) (j : Nat) (hj : j ≤ k) : Under H (a + j ≤ B) :=
  fun hH => Nat.le_trans (Nat.add_le_add_left hj a) (h hH)

/-- the states whose step function never passes the byte on and is not inside a user comment -/
def St.isLeaf : St → Bool
  | .foundRoot | .objKeyOrEmpty | .objKey | .objKeyAfterNL | .objValue | .arrItemOrEmpty | .arrItem | .afterKey | .afterValue | .afterItem | .endTop | .inString | .esc | .u0 | .u1 | .u2 | .u3 | .neg | .dot | .t | .tr | .tru | .f | .fa | .fal | .fals | .n | .nu | .nul | .tsBeginName | .tsAfterPipe | .anyAnnStart | .inlAnnStart | .inlTxtPrefix | .inlTxt | .inlTxtSkip | .mlTxtPrefix | .mlAnnEnd | .mlTxt | .annKeyFirst => true
  | _ => false

/-- how many lexemes a call of a step function queues at most: a line break; the lexemes that begin a value (item or
value, mixed value, type shortcut) or end one (`finishShortcut`, then a line break); five where the byte is passed on to
`endValue`, which closes a literal first -/
def St.budget : St → Nat
  | .guard _ => 5
  | .afterKey | .afterValue | .afterItem | .endTop | .anyCommentStart | .inlineComment | .multiLineComment => 1
  | .keyShortcut | .endValue | .d1 | .d0 | .dot0 | .tsName | .tsBeforePipe | .inlAnn | .inlTxtPrefix2 | .mlAnn
  | .mlTxtPrefix2 | .annKey | .annKeyAfter => 5
  | _ => 4

theorem St.budget_le (r : St) : r.budget ≤ 5 := by
  cases r <;> first | decide | exact Nat.le_refl _

theorem St.budget_pos (r : St) : 1 ≤ r.budget := by
  cases r <;> first | decide | exact Nat.le_add_left 1 4

theorem St.leaf_budget {r : St} (h : r.isLeaf = true) : r.budget ≤ 4 ∧ r.cflag = 0 := by
  cases r <;> first | exact ⟨by decide, rfl⟩ | cases h

/-- the eight step functions a call can pass the byte on to (a simp fact of the walk: the budget and the comment flag of
each, for the hypothesis of the re-dispatch) -/
theorem St.budget_targets :
    (St.budget .endTop = 1 ∧ St.budget .afterKey = 1 ∧ St.budget .afterValue = 1 ∧ St.budget .afterItem = 1 ∧
      St.budget .foundRoot = 4 ∧ St.budget .inlTxt = 4 ∧ St.budget .mlTxt = 4 ∧ St.budget .endValue = 5) ∧
    (St.cflag .endTop = 0 ∧ St.cflag .afterKey = 0 ∧ St.cflag .afterValue = 0 ∧ St.cflag .afterItem = 0 ∧
      St.cflag .foundRoot = 0 ∧ St.cflag .inlTxt = 0 ∧ St.cflag .mlTxt = 0 ∧ St.cflag .endValue = 0) :=
  ⟨⟨rfl, rfl, rfl, rfl, rfl, rfl, rfl, rfl⟩, ⟨rfl, rfl, rfl, rfl, rfl, rfl, rfl, rfl⟩⟩

/-- the step a length-mode `endValue` may return to is a leaf -/
def Side (ret : List St) : Prop := ∀ r rest, ret = r :: rest → r.isLeaf = true

/-- no step on the return stack is inside a user comment -/
def RetOK (ret : List St) : Prop := ∀ r ∈ ret, r.cflag = 0

/-- where the scanner stands after a call made at index `n` on the byte `c` with look-ahead `p1`, `p2`: at `n`; one back,
when a line break ends a user comment (the break is queued and read again, the step returned to is outside a comment);
two on, when `###` ends one. `cf` bounds the comment flag of the step function called. -/
def IdxPost (n cf : Nat) (H : Prop) (c : Cls) (p1 p2 : Option Cls) (s' : Sc) : Prop :=
  s'.index = n ∨
  (s'.index + 1 = n ∧ c.isNewLine = true ∧ Under H (cf = 1 ∧ s'.finds ≠ [] ∧ s'.step.cflag = 0)) ∨
  (s'.index = n + 2 ∧ c = .hash ∧ p1 = some .hash ∧ p2 = some .hash)

theorem IdxPost_self {n cf H c p1 p2} {s' : Sc} (h : s'.index = n) : IdxPost n cf H c p1 p2 s' ↔ True :=
  iff_true_intro (Or.inl h)

theorem IdxPost_ite {n cf H c p1 p2} (t : Prop) [Decidable t] (a b : Sc) :
    IdxPost n cf H c p1 p2 (if t then a else b) = if t then IdxPost n cf H c p1 p2 a else IdxPost n cf H c p1 p2 b :=
  apply_ite _ _ _ _

theorem IdxPost_pred {n cf H c p1 p2} {s' : Sc} (hi : s'.index = n - 1) (hc : c.isNewLine = true)
    (h : Under H (cf = 1 ∧ s'.finds ≠ [] ∧ s'.step.cflag = 0)) : IdxPost n cf H c p1 p2 s' := by
  cases n with
  | zero => exact Or.inl hi
  | succ n => exact Or.inr (Or.inl ⟨by rw [hi]; rfl, hc, h⟩)

attribute [local schema_wp] St.budget_targets Under_true List.length_append List.length_cons List.length_nil Nat.zero_add
  Nat.add_assoc Bool.true_eq_false Nat.zero_le and_true

/-- the outcome of a call made with `lengthComputing = b` at index `n`, `B` bounding the queue afterwards -/
abbrev Post (b : Bool) (n B cf : Nat) (H : Prop) (c : Cls) (p1 p2 : Option Cls) (x : M Sc) : Prop :=
  wp x (fun s' => s'.lengthComputing = b ∧ IdxPost n cf H c p1 p2 s' ∧ Under H (s'.finds.length ≤ B)) (ErrPost n p1)

/-- what the call of the step function `st` is made with.  (An `abbrev`: the simp walk has to see through it when it
discharges the hypothesis of a re-dispatch.) -/
abbrev Pre (b : Bool) (n B cf : Nat) (H : Prop) (st : St) (s : Sc) : Prop :=
  s.lengthComputing = b ∧ s.index = n ∧ Under H (s.finds.length + st.budget ≤ B) ∧
    Under H (st.budget = 5 → Side s.ret) ∧ Under H (st.cflag ≤ cf) ∧ Under H (RetOK s.ret)

theorem endValue_post {c p1 p2 b n B cf H f}
    (ihD : ∀ st s, Pre b n B cf H st s → Post b n B cf H c p1 p2 (dispatch f st s c p1 p2))
    (s : Sc) (hl : s.lengthComputing = b) (hi : s.index = n) (hB : Under H (s.finds.length + 5 ≤ B))
    (hside : Under H (Side s.ret)) (hret : Under H (RetOK s.ret)) : Post b n B cf H c p1 p2 (endValue f s c p1 p2) := by
  have h0 : Under H (s.finds.length ≤ B) := hB.le 0 (Nat.zero_le _)
  have h1 := hB.le 1 (by decide)
  have h2 := hB.le 2 (by decide)
  have h3 := hB.le 3 (by decide)
  have h4 := hB.le 4 (by decide)
  unfold endValue
  simp only [schema_wp, ihD, Pre, hl, hi, Nat.reduceAdd, Nat.reduceEqDiff, h1, h2, hret]
  repeat' split
  all_goals simp only [schema_wp, String.reduceBEq, ihD, Pre, hl, hi, Nat.reduceAdd, Nat.reduceEqDiff, h2, h3, h4, hB,
    hret]
  -- what is left is the return from an inline annotation in length mode, to a leaf by `hside`
  all_goals repeat' first | intro _ | apply And.intro
  all_goals
    have hr := fun hH => St.leaf_budget (hside hH _ _ ‹s.ret = _ :: _›)
    exact ihD _ _ ⟨rfl, rfl,
      fun hH => by
        have := (hr hH).1; have := hB hH
        simp only [List.length_append, List.length_cons, List.length_nil]; omega,
      fun hH h5 => by have := (hr hH).1; omega,
      fun hH => by rw [(hr hH).2]; exact Nat.zero_le _,
      fun hH r hm => hret hH r (by rw [‹s.ret = _ :: _›]; exact List.mem_cons_of_mem _ hm)⟩

theorem state0_post {c p1 p2 b n B cf H f}
    (ihE : ∀ s : Sc, s.lengthComputing = b → s.index = n → Under H (s.finds.length + 5 ≤ B) → Under H (Side s.ret) →
      Under H (RetOK s.ret) → Post b n B cf H c p1 p2 (endValue f s c p1 p2))
    (s : Sc) (hl : s.lengthComputing = b) (hi : s.index = n) (hB : Under H (s.finds.length + 5 ≤ B))
    (hside : Under H (Side s.ret)) (hret : Under H (RetOK s.ret)) : Post b n B cf H c p1 p2 (state0 f s c p1 p2) := by
  have h0 : Under H (s.finds.length ≤ B) := hB.le 0 (Nat.zero_le _)
  unfold state0
  simp only [schema_wp, String.reduceBEq, ihE, hl, hi, hB, hside, hret, h0, IdxPost_self]

/-- **what one call of a step function does** -/
theorem dispatch_post (c : Cls) (p1 p2 : Option Cls) (b : Bool) (n B cf : Nat) (H : Prop) (hcf : cf ≤ 1) :
    ∀ (f : Nat) (st : St) (s : Sc), Pre b n B cf H st s → Post b n B cf H c p1 p2 (dispatch f st s c p1 p2)
  | 0, st, s, _ => by rw [dispatch_zero]; exact (ErrPost_crash _ _ _).2 trivial
  | f + 1, st, s, hs => by
    have ihD := dispatch_post c p1 p2 b n B cf H hcf f
    have ihE := fun s hl hi hB hside hret => endValue_post ihD s hl hi hB hside hret
    have ihS := fun s hl hi hB hside hret => state0_post ihE s hl hi hB hside hret
    have hret := hs.2.2.2.2.2
    have h1 : Under H (s.finds.length + 1 ≤ B) := hs.2.2.1.le 1 st.budget_pos
    have h0 : Under H (s.finds.length ≤ B) := hs.2.2.1.le 0 (Nat.zero_le _)
    cases st with
    | guard x =>
      simp only [schema_wp, String.reduceBEq, hs.2.1]
      exact fun _ => ihD x s ⟨hs.1, hs.2.1, hs.2.2.1.le _ x.budget_le, fun hH _ => hs.2.2.2.1 hH rfl, hs.2.2.2.2.1, hret⟩
    -- the three states inside a user comment: after the listing, what is left is what each does to the index
    | anyCommentStart =>
      simp only [schema_wp, String.reduceBEq, hs.1, hs.2.1, IdxPost_self, h0, h1, true_and]
      exact fun _ h r rest hr => IdxPost_pred rfl h fun hH =>
        ⟨Nat.le_antisymm hcf (hs.2.2.2.2.1 hH), by simp, hret hH r (by rw [hr]; exact List.mem_cons_self ..)⟩
    | inlineComment =>
      simp only [schema_wp, hs.1, hs.2.1, IdxPost_self, h0, h1, true_and]
      exact fun h r rest hr => IdxPost_pred rfl h fun hH =>
        ⟨Nat.le_antisymm hcf (hs.2.2.2.2.1 hH), by simp, hret hH r (by rw [hr]; exact List.mem_cons_self ..)⟩
    | multiLineComment =>
      simp only [schema_wp, hs.1, hs.2.1, IdxPost_self, Bool.and_eq_true, h0, true_and]
      exact fun h _ _ _ => Or.inr (Or.inr ⟨rfl, h.1.1, h.1.2, h.2⟩)
    -- the other states, by budget: list the paths; `hs` and the bounds settle the ends, the induction hypotheses the
    -- re-dispatches; split on the `match`es that remain and list again.  The last arm holds the leaves that queue up to
    -- four lexemes (every state not named above): their paths end in records built from `s`, so the listing alone closes
    -- them; the `apply_ite` lemmas serve the states whose result is an `if` between two records
    | afterKey | afterValue | afterItem | endTop =>
      simp only [schema_wp, String.reduceBEq, apply_ite Sc.lengthComputing, apply_ite Sc.index, apply_ite Sc.finds, hs.1,
        hs.2.1, h0, h1, IdxPost_self]
    | keyShortcut | endValue | d1 | d0 | dot0 | tsName | tsBeforePipe | inlAnn | inlTxtPrefix2 | mlAnn | mlTxtPrefix2
    | annKey | annKeyAfter =>
      have hb : Under H (s.finds.length + 5 ≤ B) := hs.2.2.1
      have h2 := hb.le 2 (by decide); have h3 := hb.le 3 (by decide); have h4 := hb.le 4 (by decide)
      have hside : Under H (Side s.ret) := fun hH => hs.2.2.2.1 hH rfl
      simp only [schema_wp, String.reduceBEq, ihD, Pre, ihE, ihS, hs.1, hs.2.1, hside, hret, hb, h0, h1, h2, h3, h4,
        IdxPost_self, Nat.reduceAdd, Nat.reduceEqDiff]
      repeat' split
      all_goals simp only [schema_wp, ihD, Pre, hs.1, hs.2.1, hret, hb, h0, h4, IdxPost_self, Nat.reduceAdd,
        Nat.reduceEqDiff]
    | _ =>
      have hb : Under H (s.finds.length + 4 ≤ B) := hs.2.2.1
      have h2 := hb.le 2 (by decide); have h3 := hb.le 3 (by decide)
      simp only [schema_wp, String.reduceBEq, apply_ite Sc.lengthComputing, apply_ite Sc.index, IdxPost_ite,
        apply_ite Sc.finds, hs.1, hs.2.1, h0, h1, h2, h3, IdxPost_self, Nat.reduceAdd]
      repeat' split
      all_goals simp only [schema_wp, String.reduceBEq, hs.1, hs.2.1, h0, h1, IdxPost_self]

/-- `dispatch_post` for every call: the facts that need no invariant -/
theorem dispatch_post_any (c : Cls) (p1 p2 : Option Cls) (f : Nat) (st : St) (s : Sc) :
    Post s.lengthComputing s.index 0 1 False c p1 p2 (dispatch f st s c p1 p2) :=
  dispatch_post c p1 p2 _ _ 0 1 False (Nat.le_refl 1) f st s
    ⟨rfl, rfl, False.elim, False.elim, False.elim, False.elim⟩

/-- the error of one transition carries the offset of the byte just read -/
theorem dispatch_E {f st s c p1 p2 e} (h : dispatch f st s c p1 p2 = .error e) : EAt s.index e :=
  ((dispatch_post_any c p1 p2 f st s).error h).1

/-- the error "after first #" is raised only where the next byte is not `#` -/
theorem dispatch_w {f st s c p1 p2 e} (h : dispatch f st s c p1 p2 = .error e) : e.window = 1 → p1 ≠ some Cls.hash :=
  ((dispatch_post_any c p1 p2 f st s).error h).2

/-- the index after one transition -/
theorem dispatch_idx {f st s c p1 p2 s'} (h : dispatch f st s c p1 p2 = .ok s') :
    s'.index = s.index ∨ (s'.index + 1 = s.index ∧ c.isNewLine = true) ∨
      (s'.index = s.index + 2 ∧ c = .hash ∧ p1 = some .hash ∧ p2 = some .hash) := by
  rcases ((dispatch_post_any c p1 p2 f st s).ok h).2.1 with h1 | ⟨h1, h2, _⟩ | h1
  · exact Or.inl h1
  · exact Or.inr (Or.inl ⟨h1, h2⟩)
  · exact Or.inr (Or.inr h1)

end SchemaScan
