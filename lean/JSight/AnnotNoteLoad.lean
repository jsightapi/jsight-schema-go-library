import JSight.AnnotNote
import JSight.AnnotQLoad
/-!
C13, annotations with a note: the loader model on the events `annEvsN`: as without note, and the node's comment is
the span of the note text.
-/
namespace Loader
open SchemaScan (Ev LexT Ann Cls CRule CObj QObj nlEvs annEvsN noteTailEvs)

/-- the tail of an annotated scalar with a note: the two note lexemes, then a tail without note (`tailEvs`, at end of
input one byte later): the closing lexeme, then new-line events only -/
theorem noteTailEvs_split {a : Ann} (ha : a.isAnn = true) (y q t : Nat) (tl : List Cls) :
    ∃ x2 y2 rest, noteTailEvs y q t a tl = noteEvs a (some (q, t - 1)) ++ (⟨a.E, x2, y2⟩ :: rest) ∧
      ∀ e ∈ rest, e.ty = .newLine := by
  have e : ∃ t', noteTailEvs y q t a tl = noteEvs a (some (q, t - 1)) ++ SchemaScan.tailEvs y t' a tl := by
    cases a with
    | none => simp [Ann.isAnn] at ha
    | multi => exact ⟨t, rfl⟩
    | inline => cases tl with
      | nil => exact ⟨t + 1, rfl⟩
      | cons c w => exact ⟨t, rfl⟩
  obtain ⟨t', e⟩ := e
  obtain ⟨x2, y2, rest, h, hr⟩ := tailEvs_split ha y t' tl
  exact ⟨x2, y2, rest, by rw [e, h], hr⟩

/-- **the loader on the events of an annotated scalar with a note** -/
theorem annot_fold_note (src : Array UInt8) (a : Ann) (ha : a.isAnn = true) (tok s1 s2 : List Cls) (ob : QObj)
    (hv : ob.Valid a) (he : embOKObj src (SchemaScan.objOff tok s1 s2) ob) (s3 n1 note tl : List Cls) :
    ∃ st, Fold src (annEvsN a tok s1 s2 ob s3 n1 note tl) {} st ∧ st.root = some 0 ∧
      st.nodes = #[{ addSpans { kind := .lit, parent := none, value := some (0, tok.length - 1) }
          (ob.spans (SchemaScan.objOff tok s1 s2)) (ob.c.vspans (SchemaScan.objOff tok s1 s2)) with
        comment := some (SchemaScan.noteOff tok s1 s2 ob.c s3 n1, SchemaScan.noteOff tok s1 s2 ob.c s3 n1 + note.length - 1) }] := by
  obtain ⟨x2, y2, rest, hte, hrest⟩ := noteTailEvs_split ha (SchemaScan.annOff tok s1) (SchemaScan.noteOff tok s1 s2 ob.c s3 n1)
    (SchemaScan.noteOff tok s1 s2 ob.c s3 n1 + note.length) tl
  obtain ⟨st, f, hr, hn⟩ := scalar_ann_fold src a ha (tok.length - 1) _ _ (nlEvs_ty (SchemaScan.annOff tok s1 + 2) s2)
    (nlEvs_ty (SchemaScan.objOff tok s1 s2 + 1 + ob.c.body.length + 1) s3) (ob.evs (SchemaScan.objOff tok s1 s2)) _
    (obj_foldQ src _ (modeOf a) modeOf_ne 0 ob (listText_of_obj hv) (SchemaScan.objOff tok s1 s2) he _)
    (SchemaScan.objOff tok s1 s2) (SchemaScan.annOff tok s1) (SchemaScan.annOff tok s1 + 1) x2 y2
    (some (SchemaScan.noteOff tok s1 s2 ob.c s3 n1, SchemaScan.noteOff tok s1 s2 ob.c s3 n1 + note.length - 1)) rest hrest
  exact ⟨st, f.cast (by simp [annEvsN, hte]) rfl, hr, hn⟩

end Loader
