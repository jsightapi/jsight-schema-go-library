import JSight.AnnotQStep
/-!
The schema scanner model run over the parts of one rule of an annotation. A rule is
`blanks NAME spaces ":" blanks value blanks` with NAME bare (`IsName`) or quoted (`IsKey`: `"`, string characters with
escapes and `\uXXXX`, `"`); the key-end event of a bare name carries the span up to the byte before the colon (the
spaces included), the key-end event of a quoted name carries the span from quote to quote. The runs: the name of
either kind (`key_run_bare`, `key_run_quoted`), blanks and a literal where a rule value or a list item begins
(`open_litQ`), and what stands behind a value or an item: blanks, then `,`, `}` or `]` (`close_commaQ`, `close_rbraceQ`,
`close_rbrackQ`), stated like the plain scanner's closing lemmas for a rule value or a list item (`ck`) that is a
literal or a list (`lit`). "The flag" is the `boundaryQuote` field, the argument `q` of `cfgG`.

The numerals handed to the one-byte lemmas are fuel: `cfgG_byte` asks for `dispatch 8`, a lemma stated at
`dispatch (f + k)` is called with `f = 8 - k` (`qkey_colon`, `annKey_colon`: `k = 3`, the byte passes through two nested
calls), and inside `pv_byteQ` one call (`dispatch` to `endValue`) is already spent, hence `6` there and `7` outside.
-/
namespace SchemaScan

variable {data : Array Cls} {lc : Bool}

/-- spaces in the state `.afterKey`, i.e. between the closing quote of a rule name and the colon -/
theorem akspaces_run (a : Ann) (q : Bool) (n : Nat) (r : List St)
    (K : List (LexT × Nat)) (i : Nat) (CS : List Ctx) (cx : Ctx) (al : Bool) (hat : At data i (List.replicate n Cls.sp)) :
    Len.Path data (cfgG lc a q .afterKey r K false i CS cx al) [] (cfgG lc a q .afterKey r K false (i + n) CS cx al) := by
  have := Len.Path.loop (fun i => cfgG lc a q .afterKey r K false i CS cx al) (· = Cls.sp)
    (fun i c hc h => cfgG_byte (hc ▸ h) (fun p1 p2 => afterKey_spQ 7 q a r K (i + 1) CS cx al p1 p2) rfl rfl)
    (List.replicate n Cls.sp) (fun c hc => List.eq_of_mem_replicate hc) i hat
  rwa [List.length_replicate] at this

/-! ### the name of a rule, up to and including the colon -/

/-- a BARE name: the key-end span includes the spaces before the colon; the flag is `false` afterwards -/
theorem key_run_bare (a : Ann) (ha : a.isAnn = true) (q : Bool) (b1 name : List Cls) (n2 : Nat) (hb1 : ABlank a b1)
    (hname : IsName name) {st : St} (hst : keySt st = true)
    (x : St) (K : List (LexT × Nat)) (p : Nat) (CS : List Ctx) (cx : Ctx) (al : Bool)
    (hat : At data p (b1 ++ (name ++ (List.replicate n2 Cls.sp ++ [Cls.colon])))) :
    Len.Path data (cfgG lc a q st [x] K false p CS cx al)
      (nlEvs p b1 ++ [⟨.keyB, p + b1.length, p + b1.length⟩, ⟨.keyE, p + b1.length, p + b1.length + name.length + n2 - 1⟩])
      (cfgG lc a false .objValue [x] K false (p + b1.length + name.length + n2 + 1) CS cx al) := by
  obtain ⟨hne, hname⟩ := hname
  rw [At_append, At_append, At_append] at hat
  obtain ⟨hat1, hatn, hatsp, hcolon, _⟩ := hat
  simp only [List.length_replicate] at hcolon
  have s1 := ablank_runQ (lc := lc) a ha q b1 hb1 st (keySt_aLoop hst) [x] K p CS cx al hat1
  cases hn : name with
  | nil => exact absurd hn hne
  | cons n0 ns =>
    rw [hn] at hatn hname
    obtain ⟨hn0, hatns⟩ := hatn
    have s2 : Len.Path data (cfgG lc a q (wsSt st b1) [x] K false (p + b1.length) CS cx al)
        [⟨.keyB, p + b1.length, p + b1.length⟩]
        (cfgG lc a false .annKey [x] ((.keyB, p + b1.length) :: K) false (p + b1.length + 1) CS cx al) :=
      cfgG_byte hn0 (fun p1 p2 => akey_firstQ 7 q a ha _ (keySt_wsSt hst b1) n0 (hname n0 (by simp)) [x] K
        (p + b1.length + 1) CS cx al p1 p2) rfl rfl
    have s3 := name_run (lc := lc) a ns (fun c hc => hname c (by simp [hc])) [x] ((.keyB, p + b1.length) :: K)
      (p + b1.length + 1) CS cx al hatns
    have s4 : Len.Path data (cfgG lc a false .annKey [x] ((.keyB, p + b1.length) :: K) false (p + b1.length + 1 + ns.length) CS cx al)
        [⟨.keyE, p + b1.length, p + b1.length + (ns.length + 1) + n2 - 1⟩]
        (cfgG lc a false .objValue [x] K false (p + b1.length + (ns.length + 1) + n2 + 1) CS cx al) := by
      simp only [hn, List.length_cons] at hatsp hcolon
      cases h2 : n2 with
      | zero =>
        rw [h2] at hcolon
        have hc' : data[p + b1.length + 1 + ns.length]? = some .colon := by
          rw [show p + b1.length + 1 + ns.length = p + b1.length + (ns.length + 1) + 0 by omega]; exact hcolon
        refine (cfgG_byte hc' (fun p1 p2 => annKey_colon 5 a .annKey rfl [x] (p + b1.length) K _ CS cx al p1 p2)
          rfl rfl).cast ?_ (cfgG_congr rfl ?_)
        · show [(⟨LexT.keyE, p + b1.length, p + b1.length + 1 + ns.length + 1 - 1 - 1⟩ : Ev)] = _
          rw [show p + b1.length + 1 + ns.length + 1 - 1 - 1 = p + b1.length + (ns.length + 1) + 0 - 1 by omega]
        · show p + b1.length + 1 + ns.length + 1 = _
          omega
      | succ m =>
        rw [h2] at hatsp hcolon
        obtain ⟨hsp0, hsps⟩ := replicate_sp_at hatsp
        have hsp0' : data[p + b1.length + 1 + ns.length]? = some .sp := by
          rw [show p + b1.length + 1 + ns.length = p + b1.length + (ns.length + 1) by omega]; exact hsp0
        have t1 : Len.Path data (cfgG lc a false .annKey [x] ((.keyB, p + b1.length) :: K) false
            (p + b1.length + 1 + ns.length) CS cx al) []
            (cfgG lc a false .annKeyAfter [x] ((.keyB, p + b1.length) :: K) false (p + b1.length + 1 + ns.length + 1) CS cx al) :=
          cfgG_byte hsp0' (fun p1 p2 => annKey_sp 7 a [x] _ _ CS cx al p1 p2) rfl rfl
        have t2 := spaces_run (lc := lc) a m [x] ((.keyB, p + b1.length) :: K) (p + b1.length + 1 + ns.length + 1) CS cx al
          (by rw [show p + b1.length + 1 + ns.length + 1 = p + b1.length + (ns.length + 1) + 1 by omega]; exact hsps)
        have hc' : data[p + b1.length + 1 + ns.length + 1 + m]? = some .colon := by
          rw [show p + b1.length + 1 + ns.length + 1 + m = p + b1.length + (ns.length + 1) + (m + 1) by omega]
          exact hcolon
        have t3 := cfgG_byte (lc := lc) (q := false) (a := a) (st := .annKeyAfter) (r := [x]) (K := (.keyB, p + b1.length) :: K) (u := false)
          (CS := CS) (cx := cx) (al := al) hc'
          (fun p1 p2 => annKey_colon 5 a .annKeyAfter rfl [x] (p + b1.length) K _ CS cx al p1 p2) rfl rfl
        refine (Len.Path.trans (Len.Path.trans t1 t2) t3).cast ?_ (cfgG_congr rfl ?_)
        · show [(⟨LexT.keyE, p + b1.length, p + b1.length + 1 + ns.length + 1 + m + 1 - 1 - 1⟩ : Ev)] = _
          rw [show p + b1.length + 1 + ns.length + 1 + m + 1 - 1 - 1 = p + b1.length + (ns.length + 1) + (m + 1) - 1 by omega]
        · show p + b1.length + 1 + ns.length + 1 + m + 1 = _
          omega
    refine (Len.Path.trans (Len.Path.trans (Len.Path.trans s1 s2) s3) s4).cast ?_ ?_
    · simp
    · simp only [List.length_cons]

/-- a QUOTED name: the key-end span runs from quote to quote; the flag is `true` afterwards -/
theorem key_run_quoted (a : Ann) (ha : a.isAnn = true) (q : Bool) (b1 name : List Cls) (n2 : Nat) (hb1 : ABlank a b1)
    (hname : IsKey name) {st : St} (hst : keySt st = true)
    (x : St) (K : List (LexT × Nat)) (p : Nat) (CS : List Ctx) (cx : Ctx) (al : Bool)
    (hat : At data p (b1 ++ (name ++ (List.replicate n2 Cls.sp ++ [Cls.colon])))) :
    Len.Path data (cfgG lc a q st [x] K false p CS cx al)
      (nlEvs p b1 ++ [⟨.keyB, p + b1.length, p + b1.length⟩, ⟨.keyE, p + b1.length, p + b1.length + name.length - 1⟩])
      (cfgG lc a true .objValue [x] K false (p + b1.length + name.length + n2 + 1) CS cx al) := by
  obtain ⟨tl, rfl, hr⟩ := hname
  rw [At_append, At_append, At_append] at hat
  obtain ⟨hat1, ⟨hq, hattl⟩, hatsp, hcolon, _⟩ := hat
  simp only [List.length_replicate, List.length_cons] at hcolon hatsp
  have s1 := ablank_runQ (lc := lc) a ha q b1 hb1 st (keySt_aLoop hst) [x] K p CS cx al hat1
  have s2 : Len.Path data (cfgG lc a q (wsSt st b1) [x] K false (p + b1.length) CS cx al)
      [⟨.keyB, p + b1.length, p + b1.length⟩]
      (cfgG lc a true .inString [x] ((.keyB, p + b1.length) :: K) false (p + b1.length + 1) CS cx al) :=
    cfgG_byte hq (fun p1 p2 => akey_quoteQ 7 q a ha _ (keySt_wsSt hst b1) [x] K
      (p + b1.length + 1) CS cx al p1 p2) rfl rfl
  have hr' := silentRun_ret tl .inString [] false .endValue [] false x hr
  have s3 := tok_runQ (lc := lc) a true tl .inString [x] false .endValue [x] false hr' ((.keyB, p + b1.length) :: K)
    (p + b1.length + 1) CS cx al hattl
  have s4 : Len.Path data (cfgG lc a true .endValue [x] ((.keyB, p + b1.length) :: K) false (p + b1.length + 1 + tl.length) CS cx al)
      [⟨.keyE, p + b1.length, p + b1.length + (tl.length + 1) - 1⟩]
      (cfgG lc a true .objValue [x] K false (p + b1.length + (tl.length + 1) + n2 + 1) CS cx al) := by
    cases h2 : n2 with
    | zero =>
      rw [h2] at hcolon
      have hc' : data[p + b1.length + 1 + tl.length]? = some .colon := by
        rw [show p + b1.length + 1 + tl.length = p + b1.length + (tl.length + 1) + 0 by omega]; exact hcolon
      refine (cfgG_byte hc' (fun p1 p2 => qkey_colon 5 true a [x] (p + b1.length) K _ CS cx al p1 p2)
        rfl rfl).cast ?_ (cfgG_congr rfl ?_)
      · show [(⟨LexT.keyE, p + b1.length, p + b1.length + 1 + tl.length + 1 - 1 - 1⟩ : Ev)] = _
        rw [show p + b1.length + 1 + tl.length + 1 - 1 - 1 = p + b1.length + (tl.length + 1) - 1 by omega]
      · show p + b1.length + 1 + tl.length + 1 = _
        omega
    | succ m =>
      rw [h2] at hatsp hcolon
      obtain ⟨hsp0, hsps⟩ := replicate_sp_at hatsp
      have hsp0' : data[p + b1.length + 1 + tl.length]? = some .sp := by
        rw [show p + b1.length + 1 + tl.length = p + b1.length + (tl.length + 1) by omega]; exact hsp0
      have t1 : Len.Path data (cfgG lc a true .endValue [x] ((.keyB, p + b1.length) :: K) false
          (p + b1.length + 1 + tl.length) CS cx al)
          [⟨.keyE, p + b1.length, p + b1.length + (tl.length + 1) - 1⟩]
          (cfgG lc a true .afterKey [x] K false (p + b1.length + 1 + tl.length + 1) CS cx al) := by
        refine (cfgG_byte hsp0' (fun p1 p2 => qkey_sp 5 true a [x] (p + b1.length) K _ CS cx al p1 p2) rfl rfl).cast ?_ rfl
        show [(⟨LexT.keyE, p + b1.length, p + b1.length + 1 + tl.length + 1 - 1 - 1⟩ : Ev)] = _
        rw [show p + b1.length + 1 + tl.length + 1 - 1 - 1 = p + b1.length + (tl.length + 1) - 1 by omega]
      have t2 := akspaces_run (lc := lc) a true m [x] K (p + b1.length + 1 + tl.length + 1) CS cx al
        (by rw [show p + b1.length + 1 + tl.length + 1 = p + b1.length + (tl.length + 1) + 1 by omega]; exact hsps)
      have hc' : data[p + b1.length + 1 + tl.length + 1 + m]? = some .colon := by
        rw [show p + b1.length + 1 + tl.length + 1 + m = p + b1.length + (tl.length + 1) + (m + 1) by omega]
        exact hcolon
      have t3 : Len.Path data (cfgG lc a true .afterKey [x] K false (p + b1.length + 1 + tl.length + 1 + m) CS cx al) []
          (cfgG lc a true .objValue [x] K false (p + b1.length + 1 + tl.length + 1 + m + 1) CS cx al) :=
        cfgG_byte hc' (fun p1 p2 => afterKey_colonQ 7 true a [x] K _ CS cx al p1 p2) rfl rfl
      refine (Len.Path.trans (Len.Path.trans t1 t2) t3).cast (by simp) (cfgG_congr rfl ?_)
      omega
  refine (Len.Path.trans (Len.Path.trans (Len.Path.trans s1 s2) s3) s4).cast ?_ ?_
  · simp
  · simp only [List.length_cons]

/-! ### blanks and a literal where a rule value or a list item begins, up to the literal's last byte -/

/-- blanks `w` and a literal `tok` where an entry of kind `ck` begins (`hst`): up to the last byte of the literal,
whose lexemes (`pendOf true`, `ck.B`) are still open; `PV stE`: the next byte, a delimiter, will close them -/
theorem open_litQ (a : Ann) (ha : a.isAnn = true) (q : Bool) (ck : CK) (w tok : List Cls) (hw : ABlank a w)
    (htok : IsScalar tok) {st : St} (hst : ck.opens st = true) (x : St) (K : List (LexT × Nat)) (p : Nat) (CS : List Ctx)
    (cx : Ctx) (al : Bool) (hat : At data p (w ++ tok)) :
    ∃ stE, PV stE = true ∧
      Len.Path data (cfgG lc a q st [x] K false p CS cx al)
        (nlEvs p w ++ [⟨ck.B, p + w.length, p + w.length⟩, ⟨.litB, p + w.length, p + w.length⟩])
        (cfgG lc a q stE [x] (pendOf true (p + w.length) ++ (ck.B, p + w.length) :: K) false (p + w.length + tok.length)
          CS cx al) := by
  obtain ⟨c, tl, st0, unf0, stE, rfl, hs, hr, hp⟩ := htok
  obtain ⟨hck, hl, hne⟩ := CK.opens_facts hst a
  rw [At_append] at hat
  obtain ⟨hat1, hc0, hattl⟩ := hat
  have s1 := ablank_runQ (lc := lc) a ha q w hw st hl [x] K p CS cx al hat1
  rw [wsSt_eq hne] at s1
  have s2 : Len.Path data (cfgG lc a q st [x] K false (p + w.length) CS cx al)
      [⟨ck.B, p + w.length, p + w.length⟩, ⟨.litB, p + w.length, p + w.length⟩]
      (cfgG lc a q st0 [x] ((.litB, p + w.length) :: (ck.B, p + w.length) :: K) unf0 (p + w.length + 1) CS cx al) :=
    cfgG_byte hc0 (fun p1 p2 => start_litQ 7 q a ha ck st hst c st0 unf0 hs [x] K _ CS cx al p1 p2) rfl
      (by rcases CK.val_or_item hck with rfl | rfl <;> rfl)
  have s3 := tok_runQ (lc := lc) a q tl st0 [x] unf0 stE [x] false (silentRun_ret tl st0 [] unf0 stE [] false x hr)
    ((.litB, p + w.length) :: (ck.B, p + w.length) :: K) (p + w.length + 1) CS cx al hattl
  refine ⟨stE, hp, (Len.Path.trans (Len.Path.trans s1 s2) s3).cast (by simp) (cfgG_congr rfl ?_)⟩
  simp only [List.length_cons]; omega

/-! ### behind a rule value (`ck = .val`) or a list item (`ck = .item`), literal (`lit`) or list

The first byte behind it closes the open lexemes at `i - 1` and is read in the state `ck.aft`. -/

/-- `cfgG_byte` for the delimiter behind the entry: `dispatch` in a `PV` state hands it to `endValue` (`pv_dispatch`),
which queues the closing lexemes and hands it on (`ev_closeQ`); `ha` is what remains, the byte's `dispatch` in the state
`ck.aft` with those lexemes queued -/
theorem pv_byteQ {a : Ann} {q : Bool} {st : St} (hst : PV st = true) {c : Cls} (hd : c.isDelim = true) {x : St} (lit : Bool)
    (ck : CK) {b b2 : Nat} {K : List (LexT × Nat)} {i : Nat} {CS : List Ctx} {cx : Ctx} {al : Bool} {s1 s2 : Sc}
    {evs : List Ev} (hc : data[i]? = some c)
    (ha : ∀ p1 p2, dispatch 7 ck.aft { cfgG lc a q ck.aft [x] (pendOf lit b ++ (ck.B, b2) :: K) false (i + 1) CS cx al with
      finds := closeTys lit ck } c p1 p2 = .ok s1)
    (hi : s1.index = i + 1) (hdr : drainL data s1.finds s1 = .ok (s2, evs)) :
    Len.Path data (cfgG lc a q st [x] (pendOf lit b ++ (ck.B, b2) :: K) false i CS cx al) evs s2 :=
  cfgG_byte hc (fun p1 p2 => (pv_dispatch 7 st hst c hd _ p1 p2).trans
    ((ev_closeQ 7 q a st [x] lit ck b b2 K (i + 1) CS cx al c p1 p2).trans (ha p1 p2))) hi hdr

/-- one blank behind it -/
theorem close_blankQ (a : Ann) (q : Bool) {st : St} (hst : PV st = true) (lit : Bool) (ck : CK)
    (hck : ck ≠ .key) (c : Cls) (hc : a.okBlank c = true) (x : St) (b b2 : Nat) (K : List (LexT × Nat)) (i : Nat)
    (CS : List Ctx) (cx : Ctx) (al : Bool) (hcat : data[i]? = some c) :
    Len.Path data (cfgG lc a q st [x] (pendOf lit b ++ (ck.B, b2) :: K) false i CS cx al)
      (closersOf lit ck b b2 (i - 1) ++ nlEvs i [c]) (cfgG lc a q ck.aft [x] K false (i + 1) CS cx al) := by
  rcases okBlank_cases hc with hs | ⟨rfl, rfl⟩
  · rw [show nlEvs i [c] = [] by simp [nlEvs, sptab_ne_nl hs], List.append_nil]
    refine pv_byteQ hst (by cases c <;> cases hs <;> rfl) lit ck hcat
      (fun p1 p2 => aft_spQ 6 q a ck hck c hs [x] _ (i + 1) CS cx al _ p1 p2) rfl ?_
    rcases CK.val_or_item hck with rfl | rfl <;> cases lit <;> rfl
  · refine pv_byteQ hst rfl lit ck hcat (fun p1 p2 => aft_nlQ 6 q ck hck [x] _ (i + 1) CS cx al _ p1 p2) rfl ?_
    rcases CK.val_or_item hck with rfl | rfl <;> cases lit <;> rfl

/-- blanks `c :: w` behind it: up to the byte behind them, which is read in the state `ck.aft` -/
theorem close_wsQ (a : Ann) (ha : a.isAnn = true) (q : Bool) {st : St} (hst : PV st = true) (lit : Bool) (ck : CK)
    (hck : ck ≠ .key) (c : Cls) (w : List Cls) (hw : ABlank a (c :: w)) (x : St) (b b2 : Nat) (K : List (LexT × Nat))
    (i : Nat) (CS : List Ctx) (cx : Ctx) (al : Bool) (hat : At data i (c :: w)) :
    Len.Path data (cfgG lc a q st [x] (pendOf lit b ++ (ck.B, b2) :: K) false i CS cx al)
      (closersOf lit ck b b2 (i - 1) ++ nlEvs i (c :: w)) (cfgG lc a q ck.aft [x] K false (i + (c :: w).length) CS cx al) := by
  have s1 := close_blankQ (lc := lc) a q hst lit ck hck c hw.head x b b2 K i CS cx al hat.1
  have s2 := ablank_runQ (lc := lc) a ha q w hw.tail ck.aft (by rcases CK.val_or_item hck with rfl | rfl <;> rfl) [x] K
    (i + 1) CS cx al hat.2
  rw [wsSt_eq (by cases ck <;> simp [CK.aft])] at s2
  exact (s1.trans s2).cast (by simp [nlEvs]) (cfgG_congr rfl (by simp only [List.length_cons]; omega))

/-- blanks behind it, then `,` -/
theorem close_commaQ (a : Ann) (ha : a.isAnn = true) (q : Bool) {st : St} (hst : PV st = true) (lit : Bool) (ck : CK)
    (hck : ck ≠ .key) (w : List Cls) (hw : ABlank a w) (x : St) (b b2 : Nat) (K : List (LexT × Nat)) (i : Nat)
    (CS : List Ctx) (cx : Ctx) (al : Bool) (hat : At data i (w ++ [Cls.comma])) :
    Len.Path data (cfgG lc a q st [x] (pendOf lit b ++ (ck.B, b2) :: K) false i CS cx al)
      (closersOf lit ck b b2 (i - 1) ++ nlEvs i w) (cfgG lc a q ck.nxt [x] K false (i + w.length + 1) CS cx al) := by
  cases w with
  | nil =>
    refine pv_byteQ hst rfl lit ck hat.1 (fun p1 p2 => aft_commaQ 6 q a ck hck [x] _ (i + 1) CS cx al _ p1 p2) rfl ?_
    rcases CK.val_or_item hck with rfl | rfl <;> cases lit <;> rfl
  | cons c w =>
    rw [At_append] at hat
    refine ((close_wsQ a ha q hst lit ck hck c w hw x b b2 K i CS cx al hat.1).trans
      (cfgG_byte hat.2.1 (fun p1 p2 => aft_commaQ 7 q a ck hck [x] K _ CS cx al [] p1 p2) rfl rfl)).cast ?_ rfl
    rw [List.append_nil]

/-- blanks behind a rule value, then the `}` of the rule object -/
theorem close_rbraceQ (a : Ann) (ha : a.isAnn = true) (q : Bool) {st : St} (hst : PV st = true) (lit : Bool) (w : List Cls)
    (hw : ABlank a w) (x : St) (b b2 o y : Nat) (R : List (LexT × Nat)) (i : Nat) (c0 : Ctx) (CS : List Ctx)
    (cx : Ctx) (al : Bool) (hat : At data i (w ++ [Cls.rbrace])) :
    Len.Path data (cfgG lc a q st [x] (pendOf lit b ++ (.valB, b2) :: (.objB, o) :: (a.B, y) :: R) false i (c0 :: CS) cx al)
      (closersOf lit .val b b2 (i - 1) ++ (nlEvs i w ++ [⟨.objE, o, i + w.length⟩]))
      (cfgG lc a q a.prefixSt [x] ((a.B, y) :: R) false (i + w.length + 1) CS c0 al) := by
  cases w with
  | nil =>
    refine pv_byteQ hst rfl lit .val hat.1 (fun p1 p2 => aft_rbraceQ 6 q a ha [x] lit b b2 o y R (i + 1) c0 CS cx al p1 p2) rfl ?_
    cases lit <;> rfl
  | cons c w =>
    rw [At_append] at hat
    refine ((close_wsQ a ha q hst lit .val (by simp) c w hw x b b2 _ i (c0 :: CS) cx al hat.1).trans
      (cfgG_byte hat.2.1 (fun p1 p2 => aobj_rbraceQ 7 q a ha .afterValue (Or.inr rfl) [x] o y R _ c0 CS cx al p1 p2)
        rfl rfl)).cast ?_ rfl
    rw [List.append_assoc]; rfl

/-- blanks behind the last item, then the `]` of the list -/
theorem close_rbrackQ (a : Ann) (ha : a.isAnn = true) (q : Bool) {st : St} (hst : PV st = true) (lit : Bool) (w : List Cls)
    (hw : ABlank a w) (x : St) (b b2 v : Nat) (K : List (LexT × Nat)) (i : Nat) (c0 : Ctx) (CS : List Ctx) (cx : Ctx)
    (al : Bool) (hat : At data i (w ++ [Cls.rbrack])) :
    Len.Path data (cfgG lc a q st [x] (pendOf lit b ++ (.itemB, b2) :: (.arrB, v) :: K) false i (c0 :: CS) cx al)
      (closersOf lit .item b b2 (i - 1) ++ (nlEvs i w ++ [⟨.arrE, v, i + w.length⟩]))
      (cfgG lc a q .endValue [x] K false (i + w.length + 1) CS c0 al) := by
  cases w with
  | nil =>
    cases lit <;> exact pv_byteQ hst rfl _ .item hat.1
      (fun p1 p2 => aft_rbrackQ 6 q a ha [x] _ _ (i + 1) c0 CS cx al _ p1 p2) rfl rfl
  | cons c w =>
    rw [At_append] at hat
    refine ((close_wsQ a ha q hst lit .item (by simp) c w hw x b b2 _ i (c0 :: CS) cx al hat.1).trans
      (cfgG_byte hat.2.1 (fun p1 p2 => aft_rbrackQ 7 q a ha [x] (.arrB, v) K _ c0 CS cx al [] p1 p2) rfl rfl)).cast ?_ rfl
    rw [List.append_assoc]; rfl

end SchemaScan
