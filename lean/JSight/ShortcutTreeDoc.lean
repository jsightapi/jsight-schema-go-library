import JSight.ShortcutTreeRun
import JSight.SchemaRunLen
/-!
The whole document in ordinary mode: a schema text `ws0 ++ v.render ++ ws1` with `v` a tree whose leaves are scalars
or type shortcuts (`STree`) is scanned into exactly `sEvsAt` of the tree (plus one `newLine` per line break outside
tokens): `Emits`, `scanAll`; a shortcut at the root is the `.short` case of `Gram.emits_doc`, used at blank layouts.
`sitems_length` / `smembers_length`: the items of an array and the members of an object deliver at most three events per
byte of their text (read off `Gram.Entries.evs_facts`).
-/
namespace SchemaScan
namespace Len

/-- the event stream of a rendered tree (fuel-free form) -/
theorem emits_of_stree (v : STree) (hv : v.Valid) (ws0 ws1 : List Cls) (h0 : IsWs ws0) (h1 : IsWs ws1)
    (hf : Follow v ws1) :
    Emits (ws0 ++ (v.render ++ ws1)).toArray {}
      (nlEvs 0 ws0 ++ (sEvsAt ws0.length v ++ nlEvs (ws0.length + v.render.length) ws1)) := by
  obtain ⟨stE, hg⟩ := v.gram hv ws0.length
  have := Gram.emits_doc (Gram.Layout.of_ws h0 0) hg (Gram.Layout.of_ws h1 _) hf.lk (.inl rfl) (fun _ _ => rfl)
  rwa [List.append_nil] at this

theorem sitems_length : (its : List SItem) → SValidItems its → (a o : Nat) →
    (sEvsItems a o its).length ≤ 3 * (sRenderItems its).length :=
  fun its hv a o => (gram_sitems its hv its.isEmpty (by cases its <;> simp) a o).evs_facts.1

theorem smembers_length : (ms : List SMember) → SValidMembers ms →
    (a o : Nat) → (sEvsMembers a o ms).length ≤ 3 * (sRenderMembers ms).length :=
  fun ms hv a o => (gram_smembers ms hv ms.isEmpty (by cases ms <;> simp) a o).evs_facts.1

end Len

open Len in
/-- **C06 / C09 / C16 (schema scanner, ordinary mode), trees with type-shortcut leaves**: a schema text that is a JSON
tree whose leaves are scalars or type shortcuts `@name` / `@a | @b …` (root, member value or array item; spaces / tabs
around `|` and behind the last name; then a line break, `,`, `]`, `}` or the end of input) is scanned into exactly the
events of the tree: for a shortcut that starts at `o` and whose last byte — trailing blanks included — is at `e`:
`mixed-value-begin[o:o] types-shortcut-begin[o:o] types-shortcut-end[o:e] mixed-value-end[o:e']` with `e' = e - 1` when
the byte at `e` is a SPACE and `e' = e` otherwise (the one-blank strip), inside `item` / `value` events that end at
`e`; `scanAll`'s fuel suffices. -/
theorem C06_schema_events_of_shortcut_tree (v : STree) (hv : v.Valid) (ws0 ws1 : List Cls) (h0 : IsWs ws0)
    (h1 : IsWs ws1) (hf : Follow v ws1) (bs : List UInt8) (hbs : bs.map classify = ws0 ++ (v.render ++ ws1)) :
    scanAll bs
      = .ok (nlEvs 0 ws0 ++ (sEvsAt ws0.length v ++ nlEvs (ws0.length + v.render.length) ws1)) :=
  scanAll_of_emits hbs (emits_of_stree v hv ws0 ws1 h0 h1 hf)

#print axioms C06_schema_events_of_shortcut_tree

end SchemaScan
