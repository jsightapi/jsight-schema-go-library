import JSight.SchemaObjProofs
import JSight.VisitMeasure

/-!
# The hoisting loop of the Schema-object model (`SchemaObj.hoistLoop`, `loader.AddUnnamedTypes`)

* `fuelOf` suffices: the loop leaves through its `len(names) == 0` exit, never for lack of fuel (`hoistLoopO`: the same loop
  answering `none` when the fuel runs out; `hoistLoopO_fuelOf`, `hoistLoop_more_fuel`). No hypothesis on the ownership
  graph: cycles included. Measure: the entries of ALL tables of the pool whose name is not yet processed.
* what the loop computes: every entry of the hoisted table is a registration reachable from the receiver through a chain of
  table entries (`Reach`, `hoisted_spec`); the receiver's own names stay; for every name of the result some object that was
  registered under that name on a chain had its whole table copied (`Done`); if no two chains register different objects
  under one name (`Functional`), the hoisted table is exactly `Reach` (`hoisted_iff_of_functional`).
* the overwrite rule (`lookup_hoistName`): when the name `n`, standing for `j`, is processed, EVERY entry `(u, k)` of `j`'s
  table replaces whatever the root table held for `u` — the receiver's own `AddType(u, …)` included; names are processed in
  rounds, inside a round in sorted order, each name once, with the object the name stands for AT THAT MOMENT.
-/
namespace SchemaObj
namespace Hoist

variable {W : World}

abbrev names (t : Table) : List String := t.map (·.1)

def tysOf (p : Pool W) : Nat → Table := fun j => match p[j]? with | some o => o.types | none => []

theorem hoisted_eq (p : Pool W) (i : Nat) (root : Table) :
    hoisted p i root = hoistLoop (tysOf p) i (fuelOf p) [] root := rfl

/-! ## tables -/

theorem lookup_cons_ne (a : String) (b : Nat) (t : Table) (m : String) (h : m ≠ a) :
    List.lookup m ((a, b) :: t) = List.lookup m t := by
  rw [List.lookup_cons]
  split
  next heq => exact absurd (eq_of_beq heq) h
  next => rfl

theorem lookup_cons_self (a : String) (b : Nat) (t : Table) : List.lookup a ((a, b) :: t) = some b := by
  rw [List.lookup_cons]
  split
  next => rfl
  next heq => simp at heq

theorem lookup_isSome_iff (t : Table) (n : String) : (t.lookup n).isSome ↔ n ∈ names t := by
  induction t with
  | nil => simp [names]
  | cons e t ih =>
    obtain ⟨a, b⟩ := e
    by_cases h : n = a
    · subst h; rw [lookup_cons_self]; simp [names]
    · rw [lookup_cons_ne _ _ _ _ h]
      simp only [names, List.map_cons, List.mem_cons, h, false_or]
      exact ih

theorem hasName_iff (t : Table) (n : String) : hasName t n = true ↔ n ∈ names t := by
  simp only [hasName, names, List.any_eq_true, List.mem_map]
  constructor
  · rintro ⟨e, he, h⟩; exact ⟨e, he, by simpa using h⟩
  · rintro ⟨e, he, h⟩; exact ⟨e, he, by simp [h]⟩

theorem hasName_cons (a : String) (b : Nat) (t : Table) (n : String) :
    hasName ((a, b) :: t) n = (a == n || hasName t n) := rfl

theorem lookup_map_repl (t : Table) (n : String) (j : Nat) (m : String) :
    (t.map (fun e => if e.1 == n then (n, j) else e)).lookup m =
      if m = n then (if hasName t n then some j else none) else t.lookup m := by
  induction t with
  | nil => simp [hasName]
  | cons e t ih =>
    obtain ⟨a, b⟩ := e
    rw [List.map_cons, hasName_cons]
    by_cases han : a = n
    · subst han
      simp only [beq_self_eq_true, if_true, Bool.true_or]
      by_cases hm : m = a
      · subst hm; rw [lookup_cons_self]; simp
      · rw [lookup_cons_ne _ _ _ _ hm, lookup_cons_ne _ _ _ _ hm, ih]; simp [hm]
    · have h1 : (a == n) = false := by simpa using han
      simp only [h1, Bool.false_or, Bool.false_eq_true, if_false]
      by_cases hma : m = a
      · subst hma; rw [lookup_cons_self, lookup_cons_self]; simp [han]
      · rw [lookup_cons_ne _ _ _ _ hma, lookup_cons_ne _ _ _ _ hma, ih]

theorem lookup_append_single (t : Table) (n : String) (j : Nat) (m : String) :
    (t ++ [(n, j)]).lookup m = match t.lookup m with | some k => some k | none => if m = n then some j else none := by
  induction t with
  | nil =>
    by_cases h : m = n
    · subst h; simp
    · simp [lookup_cons_ne _ _ _ _ h, h]
  | cons e t ih =>
    obtain ⟨a, b⟩ := e
    by_cases hma : m = a
    · subst hma; simp
    · rw [List.cons_append, lookup_cons_ne _ _ _ _ hma, lookup_cons_ne _ _ _ _ hma]; exact ih

/-- `s.types[n] = j` read back -/
theorem lookup_insertT (t : Table) (n : String) (j : Nat) (m : String) :
    (insertT t n j).lookup m = if m = n then some j else t.lookup m := by
  unfold insertT
  by_cases h : hasName t n = true
  · simp only [h, if_true]; rw [lookup_map_repl]; simp [h]
  · have h' : hasName t n = false := by simpa using h
    simp only [h', Bool.false_eq_true, if_false]
    rw [lookup_append_single]
    by_cases hm : m = n
    · subst hm
      have : t.lookup m = none := by
        cases hl : t.lookup m with
        | none => rfl
        | some k =>
          have := (lookup_isSome_iff t m).1 (by simp [hl])
          rw [← hasName_iff] at this; simp [this] at h'
      simp [this]
    · simp only [hm, if_false]; cases t.lookup m <;> rfl

theorem names_insertT_sub (t : Table) (n : String) (j : Nat) (m : String) (h : m ∈ names (insertT t n j)) :
    m ∈ names t ∨ m = n := by
  rw [← lookup_isSome_iff, lookup_insertT] at h
  by_cases hm : m = n
  · exact .inr hm
  · simp only [hm, if_false] at h; exact .inl ((lookup_isSome_iff t m).1 h)

/-! ## sorting -/

theorem mem_insertName (n m : String) (l : List String) : m ∈ insertName n l ↔ m = n ∨ m ∈ l := by
  induction l with
  | nil => simp [insertName]
  | cons a l ih =>
    unfold insertName
    split
    · simp only [List.mem_cons, ih]; grind
    · simp only [List.mem_cons]

theorem mem_sortNames (m : String) (l : List String) : m ∈ sortNames l ↔ m ∈ l := by
  induction l with
  | nil => simp [sortNames]
  | cons a l ih =>
    have : sortNames (a :: l) = insertName a (sortNames l) := rfl
    rw [this, mem_insertName, ih]; simp

/-! ## one processed name -/

/-- the copy of one table into the root table (inner loop of `AddUnnamedTypes`) -/
def copyInto (inner : Table) (us : List String) (root : Table) : Table :=
  us.foldl (fun r u => match inner.lookup u with | some k => insertT r u k | none => r) root

theorem lookup_copyInto (inner : Table) (us : List String) (root : Table) (m : String) :
    (copyInto inner us root).lookup m =
      if m ∈ us then (match inner.lookup m with | some k => some k | none => root.lookup m) else root.lookup m := by
  induction us generalizing root with
  | nil => simp [copyInto]
  | cons u us ih =>
    have hstep : copyInto inner (u :: us) root =
        copyInto inner us (match inner.lookup u with | some k => insertT root u k | none => root) := rfl
    rw [hstep, ih]
    by_cases hmu : m = u
    · subst hmu
      cases hl : inner.lookup m with
      | none => simp
      | some k => simp [lookup_insertT]
    · have e1 : (match inner.lookup u with | some k => insertT root u k | none => root).lookup m = root.lookup m := by
        cases inner.lookup u with
        | none => rfl
        | some k => simp [lookup_insertT, hmu]
      rw [e1]; simp [hmu]

/-- the body of `for _, name := range names` for one name -/
def hoistName (tys : Nat → Table) (i : Nat) (root : Table) (n : String) : Table :=
  match root.lookup n with
  | none => root
  | some j =>
    let inner := if j == i then [] else tys j
    copyInto inner (sortNames (names inner)) root

theorem hoistRound_eq (tys : Nat → Table) (i : Nat) (ns : List String) (root : Table) :
    hoistRound tys i ns root = ns.foldl (hoistName tys i) root := by
  induction ns generalizing root with
  | nil => rfl
  | cons n ns ih =>
    simp only [List.foldl_cons]
    rw [← ih]
    show (match root.lookup n with
      | none => hoistRound tys i ns root
      | some j => hoistRound tys i ns _) = _
    unfold hoistName
    cases root.lookup n <;> rfl

/-- THE OVERWRITE RULE: processing the name `n` while it stands for `j` makes every name of `j`'s table stand for what it
stands for in `j`'s table (whatever the root table held for it before); all other names keep their object. The receiver
itself (`j = i`) contributes nothing. -/
theorem lookup_hoistName (tys : Nat → Table) (i : Nat) (root : Table) (n : String) (j : Nat)
    (h : root.lookup n = some j) (m : String) :
    (hoistName tys i root n).lookup m =
      match (if j == i then [] else tys j).lookup m with
      | some k => some k
      | none => root.lookup m := by
  have e : hoistName tys i root n = copyInto (if j == i then [] else tys j)
      (sortNames (names (if j == i then [] else tys j))) root := by
    unfold hoistName; rw [h]
  rw [e, lookup_copyInto]
  generalize (if j == i then [] else tys j) = inner
  cases hl : inner.lookup m with
  | some k =>
    have hmem : m ∈ sortNames (names inner) := (mem_sortNames _ _).2 ((lookup_isSome_iff _ _).1 (by simp [hl]))
    rw [if_pos hmem]
  | none => simp

theorem hoistName_none (tys : Nat → Table) (i : Nat) (root : Table) (n : String)
    (h : root.lookup n = none) : hoistName tys i root n = root := by
  unfold hoistName; simp [h]

/-! ## fuel -/

/-- the loop with an explicit out-of-fuel answer -/
def hoistLoopO (tys : Nat → Table) (i : Nat) : Nat → List String → Table → Option Table
  | 0, _, _ => none
  | f + 1, processed, root =>
    let names := sortNames ((root.map (·.1)).filter (fun n => !processed.contains n))
    if names.isEmpty then some root else hoistLoopO tys i f (processed ++ names) (hoistRound tys i names root)

def pending (pr : List String) (root : Table) : List String :=
  sortNames ((root.map (·.1)).filter (fun n => !pr.contains n))

theorem hoistLoopO_succ (tys : Nat → Table) (i f : Nat) (pr : List String) (root : Table) :
    hoistLoopO tys i (f + 1) pr root =
      if (pending pr root).isEmpty then some root
      else hoistLoopO tys i f (pr ++ pending pr root) (hoistRound tys i (pending pr root) root) := rfl

theorem hoistLoop_succ (tys : Nat → Table) (i f : Nat) (pr : List String) (root : Table) :
    hoistLoop tys i (f + 1) pr root =
      if (pending pr root).isEmpty then root
      else hoistLoop tys i f (pr ++ pending pr root) (hoistRound tys i (pending pr root) root) := rfl

theorem mem_pending (pr : List String) (root : Table) (n : String) :
    n ∈ pending pr root ↔ n ∈ names root ∧ n ∉ pr := by
  unfold pending
  rw [mem_sortNames, List.mem_filter]; simp [names]

theorem hoistLoop_of_O (tys : Nat → Table) (i : Nat) (f : Nat) (pr : List String) (root t : Table)
    (h : hoistLoopO tys i f pr root = some t) : hoistLoop tys i f pr root = t := by
  induction f generalizing pr root with
  | zero => simp [hoistLoopO] at h
  | succ f ih =>
    rw [hoistLoopO_succ] at h; rw [hoistLoop_succ]
    split at h
    · rename_i he; rw [if_pos he]; exact Option.some.inj h
    · rename_i he; rw [if_neg he]; exact ih _ _ h

theorem hoistLoopO_mono (tys : Nat → Table) (i : Nat) (f k : Nat) (pr : List String) (root t : Table)
    (h : hoistLoopO tys i f pr root = some t) : hoistLoopO tys i (f + k) pr root = some t := by
  induction f generalizing pr root with
  | zero => simp [hoistLoopO] at h
  | succ f ih =>
    have e : f + 1 + k = (f + k) + 1 := by omega
    rw [e]
    rw [hoistLoopO_succ] at h ⊢
    split at h
    · rename_i he; rw [if_pos he]; exact h
    · rename_i he; rw [if_neg he]; exact ih _ _ h

theorem inner_lookup (tys : Nat → Table) (i j : Nat) (m : String) (k : Nat)
    (h : (if j == i then [] else tys j).lookup m = some k) : j ≠ i ∧ (tys j).lookup m = some k := by
  by_cases hji : j = i
  · subst hji; simp at h
  · have : (j == i) = false := by simpa using hji
    rw [this] at h; exact ⟨hji, h⟩

theorem names_hoistName_sub (tys : Nat → Table) (i : Nat) (U : List String)
    (hT : ∀ j, ∀ m ∈ names (tys j), m ∈ U) (root : Table) (hr : ∀ m ∈ names root, m ∈ U) (n : String) :
    ∀ m ∈ names (hoistName tys i root n), m ∈ U := by
  intro m hm
  cases hl : root.lookup n with
  | none => rw [hoistName_none _ _ _ _ hl] at hm; exact hr m hm
  | some j =>
    rw [← lookup_isSome_iff, lookup_hoistName _ _ _ _ _ hl] at hm
    cases hi : (if j == i then [] else tys j).lookup m with
    | none => rw [hi] at hm; exact hr m ((lookup_isSome_iff _ _).1 hm)
    | some k =>
      obtain ⟨_, hk⟩ := inner_lookup tys i j m k hi
      exact hT j m ((lookup_isSome_iff _ _).1 (by simp [hk]))

theorem names_hoistRound_sub (tys : Nat → Table) (i : Nat) (U : List String)
    (hT : ∀ j, ∀ m ∈ names (tys j), m ∈ U) (ns : List String) (root : Table) (hr : ∀ m ∈ names root, m ∈ U) :
    ∀ m ∈ names (hoistRound tys i ns root), m ∈ U := by
  rw [hoistRound_eq]
  induction ns generalizing root with
  | nil => exact hr
  | cons n ns ih => exact ih _ (names_hoistName_sub tys i U hT root hr n)

/-- with more fuel than unprocessed names of the universe the loop leaves through its exit -/
theorem hoistLoopO_isSome (tys : Nat → Table) (i : Nat) (U : List String)
    (hT : ∀ j, ∀ m ∈ names (tys j), m ∈ U) (f : Nat) (pr : List String) (root : Table)
    (hr : ∀ m ∈ names root, m ∈ U) (hf : Visit.unvisited id U pr < f) : ∃ t, hoistLoopO tys i f pr root = some t := by
  induction f generalizing pr root with
  | zero => omega
  | succ f ih =>
    rw [hoistLoopO_succ]
    split
    · exact ⟨root, rfl⟩
    · rename_i he
      have hne : pending pr root ≠ [] := by
        intro h; rw [h] at he; exact he rfl
      obtain ⟨n, hn⟩ := List.exists_mem_of_ne_nil _ hne
      have hn' := (mem_pending _ _ _).1 hn
      have hnp : n ∉ pr := hn'.2
      have := Visit.unvisited_lt id U pr _ (fun x hx => List.mem_append_left _ hx) n (hr n hn'.1) hnp
        (List.mem_append_right _ hn)
      exact ih _ _ (names_hoistRound_sub tys i U hT _ root hr) (by omega)

def allNames (p : Pool W) : List String := p.flatMap (fun o => names o.types)

theorem allNames_length (p : Pool W) : (allNames p).length + 1 = fuelOf p := by
  unfold fuelOf allNames
  congr 1
  induction p with
  | nil => rfl
  | cons o p ih => simp [List.flatMap_cons, ih, names]

theorem tysOf_sub_allNames (p : Pool W) (j : Nat) : ∀ m ∈ names (tysOf p j), m ∈ allNames p := by
  intro m hm
  unfold tysOf at hm
  cases h : p[j]? with
  | none => rw [h] at hm; simp [names] at hm
  | some o =>
    rw [h] at hm
    exact List.mem_flatMap.2 ⟨o, List.mem_of_getElem? h, hm⟩

theorem hoistLoopO_fuelOf (p : Pool W) (i : Nat) (o : Obj W) (ho : p[i]? = some o) :
    hoistLoopO (tysOf p) i (fuelOf p) [] o.types = some (hoisted p i o.types) := by
  have hr : ∀ m ∈ names o.types, m ∈ allNames p := by
    have := tysOf_sub_allNames p i; unfold tysOf at this; rw [ho] at this; exact this
  have hf : Visit.unvisited id (allNames p) [] < fuelOf p := by
    have := Visit.unvisited_le id (allNames p) []
    rw [← allNames_length]; omega
  obtain ⟨t, ht⟩ := hoistLoopO_isSome (tysOf p) i (allNames p) (tysOf_sub_allNames p) (fuelOf p) [] o.types hr hf
  rw [ht, hoisted_eq, hoistLoop_of_O _ _ _ _ _ _ ht]

theorem hoistLoop_more_fuel (p : Pool W) (i : Nat) (o : Obj W) (ho : p[i]? = some o) (k : Nat) :
    hoistLoop (tysOf p) i (fuelOf p + k) [] o.types = hoisted p i o.types :=
  hoistLoop_of_O _ _ _ _ _ _ (hoistLoopO_mono _ _ _ k _ _ _ (hoistLoopO_fuelOf p i o ho))

/-! ## what the loop computes -/

/-- `Reach tys i root n j`: the object `j` is registered under the name `n` on a chain of table entries that starts in the
receiver's table `root` (a chain does not continue through the receiver `i` itself) -/
inductive Reach (tys : Nat → Table) (i : Nat) (root : Table) : String → Nat → Prop
  | base {n j} : root.lookup n = some j → Reach tys i root n j
  | step {n j u k} : Reach tys i root n j → j ≠ i → (tys j).lookup u = some k → Reach tys i root u k

/-- no name is registered for two different objects on chains from the receiver -/
def Functional (tys : Nat → Table) (i : Nat) (root : Table) : Prop :=
  ∀ n j j', Reach tys i root n j → Reach tys i root n j' → j = j'

def Sound (tys : Nat → Table) (i : Nat) (root r : Table) : Prop := ∀ n j, r.lookup n = some j → Reach tys i root n j
def Sub (r r' : Table) : Prop := ∀ n, (r.lookup n).isSome → (r'.lookup n).isSome
/-- the table of `j` was copied: all its names are in `r` -/
def Closed (tys : Nat → Table) (i : Nat) (j : Nat) (r : Table) : Prop :=
  j ≠ i → ∀ u, ((tys j).lookup u).isSome → (r.lookup u).isSome
/-- the name `n` was processed: an object registered under it on a chain had its table copied -/
def Done (tys : Nat → Table) (i : Nat) (root : Table) (n : String) (r : Table) : Prop :=
  ∃ j, Reach tys i root n j ∧ Closed tys i j r

theorem Sub.trans {a b c : Table} (h1 : Sub a b) (h2 : Sub b c) : Sub a c := fun n h => h2 n (h1 n h)

theorem Done.mono {tys : Nat → Table} {i : Nat} {root : Table} {n : String} {r r' : Table}
    (h : Done tys i root n r) (hs : Sub r r') : Done tys i root n r' := by
  obtain ⟨j, hj, hc⟩ := h
  exact ⟨j, hj, fun hji u hu => hs u (hc hji u hu)⟩

theorem hoistName_sub (tys : Nat → Table) (i : Nat) (r : Table) (n : String) : Sub r (hoistName tys i r n) := by
  intro m hm
  cases hl : r.lookup n with
  | none => rw [hoistName_none _ _ _ _ hl]; exact hm
  | some j =>
    rw [lookup_hoistName _ _ _ _ _ hl]
    cases (if j == i then [] else tys j).lookup m with
    | none => exact hm
    | some k => rfl

theorem hoistName_sound (tys : Nat → Table) (i : Nat) (root r : Table) (n : String) (hs : Sound tys i root r) :
    Sound tys i root (hoistName tys i r n) := by
  intro m k hm
  cases hl : r.lookup n with
  | none => rw [hoistName_none _ _ _ _ hl] at hm; exact hs m k hm
  | some j =>
    rw [lookup_hoistName _ _ _ _ _ hl] at hm
    cases hi : (if j == i then [] else tys j).lookup m with
    | none => rw [hi] at hm; exact hs m k hm
    | some k' =>
      rw [hi] at hm
      obtain ⟨hji, hk⟩ := inner_lookup tys i j m k' hi
      cases hm
      exact .step (hs n j hl) hji hk

theorem hoistName_done (tys : Nat → Table) (i : Nat) (root r : Table) (n : String) (hs : Sound tys i root r)
    (hn : (r.lookup n).isSome) : Done tys i root n (hoistName tys i r n) := by
  cases hl : r.lookup n with
  | none => rw [hl] at hn; cases hn
  | some j =>
    refine ⟨j, hs n j hl, fun hji u hu => ?_⟩
    rw [lookup_hoistName _ _ _ _ _ hl]
    have e : (if j == i then [] else tys j) = tys j := by simp [hji]
    rw [e]
    cases hk : (tys j).lookup u with
    | none => rw [hk] at hu; cases hu
    | some k => rfl

theorem foldl_hoistName (tys : Nat → Table) (i : Nat) (root : Table) (ns : List String) (r : Table)
    (hs : Sound tys i root r) (hn : ∀ n ∈ ns, (r.lookup n).isSome) :
    Sound tys i root (ns.foldl (hoistName tys i) r) ∧ Sub r (ns.foldl (hoistName tys i) r) ∧
    ∀ n ∈ ns, Done tys i root n (ns.foldl (hoistName tys i) r) := by
  induction ns generalizing r with
  | nil => exact ⟨hs, fun _ h => h, fun _ h => by cases h⟩
  | cons a ns ih =>
    simp only [List.foldl_cons]
    have hsub := hoistName_sub tys i r a
    obtain ⟨h1, h2, h3⟩ := ih (hoistName tys i r a) (hoistName_sound tys i root r a hs)
      (fun n h => hsub n (hn n (List.mem_cons_of_mem _ h)))
    refine ⟨h1, hsub.trans h2, fun n h => ?_⟩
    cases h with
    | head => exact (hoistName_done tys i root r a hs (hn a List.mem_cons_self)).mono h2
    | tail _ h => exact h3 n h

/-- the invariant of the loop, read at its exit -/
theorem hoistLoopO_inv (tys : Nat → Table) (i : Nat) (root : Table) (f : Nat) (pr : List String) (r t : Table)
    (hs : Sound tys i root r) (hsub : Sub root r) (hd : ∀ n ∈ pr, Done tys i root n r)
    (h : hoistLoopO tys i f pr r = some t) :
    Sound tys i root t ∧ Sub root t ∧ ∀ n, (t.lookup n).isSome → Done tys i root n t := by
  induction f generalizing pr r with
  | zero => simp [hoistLoopO] at h
  | succ f ih =>
    rw [hoistLoopO_succ] at h
    split at h
    · rename_i he
      cases h
      refine ⟨hs, hsub, fun n hn => hd n ?_⟩
      have hnil : pending pr t = [] := by simpa [List.isEmpty_iff] using he
      by_cases hnp : n ∈ pr
      · exact hnp
      · have : n ∈ pending pr t := (mem_pending _ _ _).2 ⟨(lookup_isSome_iff t n).1 hn, hnp⟩
        rw [hnil] at this; cases this
    · rw [hoistRound_eq] at h
      have hns : ∀ n ∈ pending pr r, (r.lookup n).isSome := by
        intro n hn
        exact (lookup_isSome_iff r n).2 ((mem_pending _ _ _).1 hn).1
      obtain ⟨h1, h2, h3⟩ := foldl_hoistName tys i root _ r hs hns
      refine ih _ _ h1 (hsub.trans h2) (fun n hn => ?_) h
      rcases List.mem_append.1 hn with hn | hn
      · exact (hd n hn).mono h2
      · exact h3 n hn

theorem hoisted_spec (p : Pool W) (i : Nat) (o : Obj W) (ho : p[i]? = some o) :
    Sound (tysOf p) i o.types (hoisted p i o.types) ∧ Sub o.types (hoisted p i o.types) ∧
    ∀ n, ((hoisted p i o.types).lookup n).isSome → Done (tysOf p) i o.types n (hoisted p i o.types) :=
  hoistLoopO_inv (tysOf p) i o.types (fuelOf p) [] o.types _ (fun _ _ h => .base h) (fun _ h => h)
    (fun _ h => by cases h) (hoistLoopO_fuelOf p i o ho)

/-- without collisions the hoisted table IS the reachability relation -/
theorem hoisted_iff_of_functional (p : Pool W) (i : Nat) (o : Obj W) (ho : p[i]? = some o)
    (hf : Functional (tysOf p) i o.types) (n : String) (j : Nat) :
    (hoisted p i o.types).lookup n = some j ↔ Reach (tysOf p) i o.types n j := by
  obtain ⟨hs, hsub, hd⟩ := hoisted_spec p i o ho
  refine ⟨hs n j, fun h => ?_⟩
  induction h with
  | base h =>
    rename_i n j
    have := hsub n (by simp [h])
    cases hl : (hoisted p i o.types).lookup n with
    | none => rw [hl] at this; cases this
    | some j' => rw [hf n j j' (.base h) (hs n j' hl)]
  | step hr hji hk ih =>
    rename_i n j u k
    obtain ⟨j', hj', hc⟩ := hd n (by simp [ih])
    have e : j' = j := hf n j' j hj' hr
    subst e
    have := hc hji u (by simp [hk])
    cases hl : (hoisted p i o.types).lookup u with
    | none => rw [hl] at this; cases this
    | some k' => rw [hf u k k' (.step hr hji hk) (hs u k' hl)]

end Hoist
end SchemaObj
