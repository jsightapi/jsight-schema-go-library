import JSight.EnumRoute
import JSight.AnnotEnum
import JSight.AnnotLoad
/-!
C18, route B (inline list): the loader with the enum value interpreted (`EnumRoute.stepB`) on the events of a
top-level scalar annotated with `{enum: [ literal, … ]}` (`SchemaScan.enumAnnEvs`): ONE enum constraint is created
and `Enum.Append` receives, in order, exactly the item tokens.
-/
namespace EnumRoute
open SchemaScan (Ev LexT Ann Cls nlEvs EObj citemsEvs enumAnnEvs tailEvs renderCItems)
open Loader (annSt modeOf Node Mode RS)
open RulesF (Bytes)

/-! ### the interleaved loop is a fold over the delivered events -/

theorem loadLoopB_of_emits (rules : Rules) (src : Bytes) {data : Array Cls} {sc : SchemaScan.Sc} {evs : List Ev}
    (h : SchemaScan.Emits data sc evs) :
    ∀ (fuel : Nat) (st st' : BSt), evs.length < fuel → evs.foldlM (stepB rules src) st = .ok st' →
      loadLoopB rules src data fuel sc st = .ok st' := by
  induction h with
  | nil hn =>
    intro fuel st st' hf hfold
    cases fuel with
    | zero => cases hf
    | succ f =>
      rw [loadLoopB]
      simp only [hn.next]
      simp only [List.foldlM_nil, pure, Except.pure] at hfold
      cases hfold; rfl
  | cons hn _ ih =>
    intro fuel st st' hf hfold
    cases fuel with
    | zero => cases hf
    | succ f =>
      rw [loadLoopB]
      simp only [hn.next]
      simp only [List.foldlM_cons, bind, Except.bind] at hfold
      split at hfold
      · cases hfold
      · rename_i st1 hs
        simp only [hs]
        exact ih f st1 st' (by simpa using hf) hfold

/-! ### folds -/

abbrev FoldB (rules : Rules) (src : Bytes) : List Ev → BSt → BSt → Prop := Except.Folds (stepB rules src)

/-- outside a rule loader `stepB` is `Loader.step` -/
theorem stepB_notRule (rules : Rules) (src : Bytes) (st : BSt) (e : Ev) (h : toRule st.base e = false)
    (b : Loader.St) (hb : Loader.step src.toArray st.base e = .ok b) :
    stepB rules src st e = .ok { st with base := b } := by
  unfold stepB
  simp only [h, Bool.false_eq_true, if_false, hb]
  rfl

/-- a fold of `Loader.step` outside annotations lifts to `stepB` -/
theorem foldB_default (rules : Rules) (src : Bytes) : ∀ (evs : List Ev) (s : BSt) (b' : Loader.St),
    (∀ e ∈ evs, e.ty = .newLine) → s.base.mode = .default → Loader.Fold src.toArray evs s.base b' →
    FoldB rules src evs s { s with base := b' }
  | [], s, b', _, _, hf => by
    simp only [Loader.Fold, List.foldlM_nil, pure, Except.pure, Except.ok.injEq] at hf
    subst hf
    exact Except.Folds.nil _ _
  | e :: evs, s, b', he, hm, hf => by
    simp only [Loader.Fold, List.foldlM_cons, bind, Except.bind] at hf
    have hstep := Loader.step_newLine_default src.toArray s.base e (he e (by simp)) hm
    rw [hstep] at hf
    have h1 : stepB rules src s e = .ok { s with base := { s.base with perLine := 0 } } :=
      stepB_notRule rules src s e (by simp [toRule, hm]) _ hstep
    have h2 := foldB_default rules src evs { s with base := { s.base with perLine := 0 } } b'
      (fun x hx => he x (by simp [hx])) hm hf
    exact Except.Folds.cons h1 h2

/-! ### single events inside the annotation, outside the enum value -/

/-- the state while the annotation of the (only) node is read: `Loader.annSt`, no sub-loader, constraints `cs` -/
def bst (m : Mode) (rs : RS) (nd : Node) (rn : Nat × Nat) (cs : List Cons) : BSt :=
  { base := annSt m rs nd rn 1, el := none, cons := cs }

theorem sb_open (rules : Rules) (src : Bytes) (a : Ann) (ha : a.isAnn = true) (e x y : Nat) :
    FoldB rules src [(⟨.litB, 0, 0⟩ : Ev), ⟨.litE, 0, e⟩, ⟨a.B, x, y⟩] {}
      (bst (modeOf a) .begin { kind := .lit, parent := none, value := some (0, e) } (0, 0) []) := by
  cases a <;> simp [Ann.isAnn] at ha <;> rfl

/-- inside an annotation `Loader.step` hands the event to `ruleLoad` exactly when `toRule` says so -/
theorem step_toRule (src : Array UInt8) (st : Loader.St) (e : Ev) (h : toRule st e = true) :
    Loader.step src st e = Loader.ruleLoad src st e := by
  simp only [toRule, Bool.and_eq_true, bne_iff_ne, ne_eq, Bool.not_eq_true', Bool.and_eq_false_iff, beq_eq_false_iff_ne] at h
  obtain ⟨⟨⟨hm, h1⟩, h2⟩, h3⟩ := h
  have hm' : (st.mode != .default) = true := bne_iff_ne.mpr hm
  have hd : (st.mode == .default) = false := beq_eq_false_iff_ne.mpr hm
  unfold Loader.step
  simp only [hm', if_true, hd, Bool.false_eq_true, if_false]
  split <;> first
    | rfl
    | (rename_i he; exact absurd he h1)
    | (rename_i he; exact absurd he h2)
    | (rename_i he
       rcases h3 with h3 | h3
       · exact absurd he h3
       · rw [if_neg (by simpa using h3)])

/-- outside an enum value (no sub-loader, and not at the value of a rule) `stepB` is `Loader.step` on the base state: the
single-event facts of the loader (`Loader.Moves.step`, `g_nl`, … at `annG (lit1 e) … 0`, which is `annSt … 1`) are
steps of route B, the constraints kept -/
theorem sb_base (rules : Rules) (src : Bytes) (m : Mode) (rs : RS) (nd : Node) (rn : Nat × Nat) (cs : List Cons) (ev : Ev)
    (b : Loader.St) (hv : (rs == .value) = false)
    (hb : Loader.step src.toArray (Loader.annG (Loader.lit1 0) m rs 0 nd rn) ev = .ok b) :
    stepB rules src (bst m rs nd rn cs) ev = .ok { bst m rs nd rn cs with base := b } := by
  have hb' : Loader.step src.toArray (bst m rs nd rn cs).base ev = .ok b := hb
  cases ht : toRule (bst m rs nd rn cs).base ev with
  | false => exact stepB_notRule rules src _ ev ht b hb'
  | true =>
    rw [step_toRule _ _ _ ht] at hb'
    have hv' : ((bst m rs nd rn cs).base.rs == .value && (bst m rs nd rn cs).base.rsCount == 1 &&
        Loader.nameOf src.toArray (bst m rs nd rn cs).base.ruleName == enumName) = false := by
      show ((rs == .value) && _ && _) = false
      rw [hv]; rfl
    unfold stepB
    simp only [ht, if_true, hv', Bool.false_eq_true, if_false, hb']
    rfl

theorem sb_nlEvs (rules : Rules) (src : Bytes) (m : Mode) (hm : m ≠ .default) (rs : RS) (hrs : Loader.nlOK rs = true)
    (nd : Node) (rn : Nat × Nat) (cs : List Cons) : ∀ (ws : List Cls) (o : Nat),
    FoldB rules src (nlEvs o ws) (bst m rs nd rn cs) (bst m rs nd rn cs)
  | [], _ => Except.Folds.nil _ _
  | c :: ws, o => by
    simp only [nlEvs]
    split
    · exact Except.Folds.trans (Except.Folds.one (sb_base rules src m rs nd rn cs _ _ (by cases rs <;> first | rfl | cases hrs)
        (Loader.g_nl src.toArray _ m hm rs hrs 0 nd rn ⟨.newLine, o, o⟩ rfl))) (sb_nlEvs rules src m hm rs hrs nd rn cs ws (o + 1))
    · exact Except.Folds.trans (Except.Folds.nil _ _) (sb_nlEvs rules src m hm rs hrs nd rn cs ws (o + 1))

/-! ### inside the enum value -/

/-- the state while the list is read: the sub-loader in state `el` with last index `last`, the constraint `c` -/
def est (m : Mode) (nd : Node) (rn : Nat × Nat) (last : Option Nat) (el : EL) (c : Cons) (cs : List Cons) : BSt :=
  { base := annSt m .value nd rn 1, el := some (last, el), cons := c :: cs }

/-- `[`: the rule is an `enum` rule — a constraint and a sub-loader are created -/
theorem sb_arrB (rules : Rules) (src : Bytes) (m : Mode) (hm : m ≠ .default) (nd : Node) (rn : Nat × Nat) (cs : List Cons)
    (x y : Nat) (hname : Loader.nameOf src.toArray rn = enumName) :
    stepB rules src (bst m .value nd rn cs) ⟨.arrB, x, y⟩
      = .ok (est m { nd with rules := nd.rules ++ [.inl rn], ruleVals := nd.ruleVals ++ [none] } rn none .itemOrEnd {} cs) := by
  have hn : (Loader.nameOf src.toArray rn == enumName) = true := by rw [hname]; simp
  cases m with
  | default => exact absurd rfl hm
  | inline =>
    simp only [stepB, bst, annSt, toRule, hn]
    rfl
  | multi =>
    simp only [stepB, bst, annSt, toRule, hn]
    rfl

/-! One lemma per lexeme the sub-loader meets inside the list; each is `stepB` unfolded at `est`, once for each of
the two annotation modes. -/

theorem sb_e_nl (rules : Rules) (src : Bytes) (m : Mode) (hm : m ≠ .default) (nd : Node) (rn : Nat × Nat)
    (last : Option Nat) (el : EL) (c : Cons) (cs : List Cons) (x y : Nat) :
    stepB rules src (est m nd rn last el c cs) ⟨.newLine, x, y⟩ = .ok (est m nd rn last el c cs) := by
  cases m with
  | default => exact absurd rfl hm
  | inline => rfl
  | multi => rfl

theorem sb_e_nlEvs (rules : Rules) (src : Bytes) (m : Mode) (hm : m ≠ .default) (nd : Node) (rn : Nat × Nat)
    (last : Option Nat) (el : EL) (c : Cons) (cs : List Cons) : ∀ (ws : List Cls) (o : Nat),
    FoldB rules src (nlEvs o ws) (est m nd rn last el c cs) (est m nd rn last el c cs)
  | [], _ => Except.Folds.nil _ _
  | k :: ws, o => by
    simp only [nlEvs]
    split
    · exact Except.Folds.trans (Except.Folds.one (sb_e_nl rules src m hm nd rn last el c cs o o))
        (sb_e_nlEvs rules src m hm nd rn last el c cs ws (o + 1))
    · exact Except.Folds.trans (Except.Folds.nil _ _) (sb_e_nlEvs rules src m hm nd rn last el c cs ws (o + 1))

theorem sb_e_itemB (rules : Rules) (src : Bytes) (m : Mode) (hm : m ≠ .default) (nd : Node) (rn : Nat × Nat)
    (last : Option Nat) (c : Cons) (cs : List Cons) (x y : Nat) :
    stepB rules src (est m nd rn last .itemOrEnd c cs) ⟨.itemB, x, y⟩ = .ok (est m nd rn last .literal c cs) := by
  cases m with
  | default => exact absurd rfl hm
  | inline => rfl
  | multi => rfl

theorem sb_e_litB (rules : Rules) (src : Bytes) (m : Mode) (hm : m ≠ .default) (nd : Node) (rn : Nat × Nat)
    (last : Option Nat) (c : Cons) (cs : List Cons) (x y : Nat) :
    stepB rules src (est m nd rn last .literal c cs) ⟨.litB, x, y⟩ = .ok (est m nd rn last .literal c cs) := by
  cases m with
  | default => exact absurd rfl hm
  | inline => rfl
  | multi => rfl

/-- the literal's end: `Append(NewEnumItem(token, ""))` -/
theorem sb_e_litE (rules : Rules) (src : Bytes) (m : Mode) (hm : m ≠ .default) (nd : Node) (rn : Nat × Nat)
    (last : Option Nat) (c c' : Cons) (cs : List Cons) (x y : Nat)
    (happ : append x c (Loader.slice src.toArray x y) [] = .ok c') :
    stepB rules src (est m nd rn last .literal c cs) ⟨.litE, x, y⟩
      = .ok (est m nd rn (some c.items.length) .itemEnd c' cs) := by
  cases m with
  | default => exact absurd rfl hm
  | inline =>
    simp only [stepB, est, annSt, toRule, embStep, elStep, happ, bind, Except.bind, pure, Except.pure]
    rfl
  | multi =>
    simp only [stepB, est, annSt, toRule, embStep, elStep, happ, bind, Except.bind, pure, Except.pure]
    rfl

theorem sb_e_itemE (rules : Rules) (src : Bytes) (m : Mode) (hm : m ≠ .default) (nd : Node) (rn : Nat × Nat)
    (last : Option Nat) (c : Cons) (cs : List Cons) (x y : Nat) :
    stepB rules src (est m nd rn last .itemEnd c cs) ⟨.itemE, x, y⟩ = .ok (est m nd rn last .itemOrEnd c cs) := by
  cases m with
  | default => exact absurd rfl hm
  | inline => rfl
  | multi => rfl

/-- `]`: the sub-loader is done, the rule loader waits for the end of the value -/
theorem sb_e_arrE (rules : Rules) (src : Bytes) (m : Mode) (hm : m ≠ .default) (nd : Node) (rn : Nat × Nat)
    (last : Option Nat) (c : Cons) (cs : List Cons) (x y : Nat) :
    stepB rules src (est m nd rn last .itemOrEnd c cs) ⟨.arrE, x, y⟩ = .ok (bst m .valueEnd nd rn (c :: cs)) := by
  cases m with
  | default => exact absurd rfl hm
  | inline => rfl
  | multi => rfl

/-! ### the items -/

/-- `Append` of a list of tokens, one after the other; the event position `append` takes plays no part in its result
(`append_of_toks` holds at every `pos`) -/
def appendToks : Cons → List Bytes → Option Cons
  | c, [] => some c
  | c, t :: ts =>
    match newEnumItem t [] with
    | none => none
    | some it => if c.items.any (fun x => x.key == it.key) then none else appendToks { c with items := c.items ++ [it] } ts

theorem append_of_toks (pos : Nat) (c : Cons) (t : Bytes) (ts : List Bytes) (c' : Cons)
    (h : appendToks c (t :: ts) = some c') :
    ∃ c1, append pos c t [] = .ok c1 ∧ appendToks c1 ts = some c' := by
  simp only [appendToks] at h
  cases hn : newEnumItem t [] with
  | none => rw [hn] at h; cases h
  | some it =>
    rw [hn] at h
    simp only [] at h
    split at h
    · cases h
    · rename_i hany
      refine ⟨{ c with items := c.items ++ [it] }, ?_, h⟩
      simp only [append, hn, hany, Bool.false_eq_true, if_false]
      rfl

/-- the tokens `toks` are the slices that the literal-end events of the items cut out of `src` (nothing is asked of
items beyond the end of `toks`: `items_foldB` takes the two lists of equal length) -/
def SlicesAt (src : Bytes) : Nat → List SchemaScan.CItem → List Bytes → Prop
  | _, [], _ => True
  | _, _ :: _, [] => True
  | o, (w1, t, w2) :: its, tk :: toks =>
    Loader.slice src.toArray (o + w1.length) (o + w1.length + t.length - 1) = tk ∧
      SlicesAt src (o + w1.length + t.length + w2.length + (if its.isEmpty then 0 else 1)) its toks

/-- the items of the list: every literal is appended -/
theorem items_foldB (rules : Rules) (src : Bytes) (m : Mode) (hm : m ≠ .default) (nd : Node) (rn : Nat × Nat)
    (cs : List Cons) (v : Nat) : ∀ (its : List SchemaScan.CItem) (toks : List Bytes) (o : Nat) (last : Option Nat) (c c' : Cons),
    toks.length = its.length → SlicesAt src o its toks → appendToks c toks = some c' →
    FoldB rules src (citemsEvs v o its) (est m nd rn last .itemOrEnd c cs) (bst m .valueEnd nd rn (c' :: cs))
  | [], [], o, last, c, c', _, _, happ => by
    simp only [appendToks, Option.some.injEq] at happ
    subst happ
    exact Except.Folds.one (sb_e_arrE rules src m hm nd rn last c cs v o)
  | [], _ :: _, _, _, _, _, hl, _, _ => by simp at hl
  | _ :: _, [], _, _, _, _, hl, _, _ => by simp at hl
  | (w1, t, w2) :: its, tk :: toks, o, last, c, c', hl, hsl, happ => by
    obtain ⟨hs1, hs2⟩ := hsl
    obtain ⟨c1, ha1, ha2⟩ := append_of_toks (o + w1.length) c tk toks c' happ
    have f1 := sb_e_nlEvs rules src m hm nd rn last .itemOrEnd c cs w1 o
    have f2 := Except.Folds.one (sb_e_itemB rules src m hm nd rn last c cs (o + w1.length) (o + w1.length))
    have f3 := Except.Folds.one (sb_e_litB rules src m hm nd rn last c cs (o + w1.length) (o + w1.length))
    have f4 := Except.Folds.one (sb_e_litE rules src m hm nd rn last c c1 cs (o + w1.length) (o + w1.length + t.length - 1)
      (by rw [hs1]; exact ha1))
    have f5 := Except.Folds.one (sb_e_itemE rules src m hm nd rn (some c.items.length) c1 cs (o + w1.length)
      (o + w1.length + t.length - 1))
    have f6 := sb_e_nlEvs rules src m hm nd rn (some c.items.length) .itemOrEnd c1 cs w2 (o + w1.length + t.length)
    have f7 := items_foldB rules src m hm nd rn cs v its toks
      (o + w1.length + t.length + w2.length + (if its.isEmpty then 0 else 1)) (some c.items.length) c1 c'
      (by simpa using hl) hs2 ha2
    have := Except.Folds.trans f1 (Except.Folds.trans f2 (Except.Folds.trans f3 (Except.Folds.trans f4 (Except.Folds.trans f5 (Except.Folds.trans f6 f7)))))
    refine this.cast ?_ rfl
    simp [citemsEvs]

end EnumRoute
