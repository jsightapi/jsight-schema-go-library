import JSight.LinksSound
/-!
C09 (a), the link check against the specification, as registered: a reported missing type is referenced and not in the
table, a passing check means every reference is resolved (`links_names_missing`, `links_ok_resolved`: `linkCheckF_spec`
at the fuel of `linkCheck`); when no other error comes first (`OnlyMissing`) these are equivalences (`links_iff`,
`links_fails_iff`), and without that proviso the equivalence is false (`witness703`: the allOf recursion error is met first).
`OrdOK`: the or-shortcut nodes handed to the check are nodes of the added types.
-/
namespace LK

instance : DecidableEq (Except Err Unit)
  | .ok _, .ok _ => isTrue rfl
  | .error a, .error b => if h : a = b then isTrue (by rw [h]) else isFalse (fun e => h (by cases e; rfl))
  | .ok _, .error _ => isFalse (fun e => by cases e)
  | .error _, .ok _ => isFalse (fun e => by cases e)

/-- the order parameter only ever holds or-shortcut nodes of the added types -/
def OrdOK (g : G) (ord : List (List String)) : Prop := ∀ l ∈ ord, l ∈ orNodes g

theorem orNodes_ordOK (g : G) : OrdOK g (orNodes g) := fun _ h => h
/-- the verdict is `OK` or `Type "n" not found`: no other error of the compile pipeline comes first -/
def OnlyMissing (g : G) (ord : List (List String)) : Prop :=
  ∀ e, linkCheck g ord = .error e → ∃ n, e = .missing n

instance (r : Except Err Unit) : Decidable (∀ e, r = .error e → ∃ n, e = Err.missing n) :=
  match r with
  | .ok _ => isTrue (fun e h => by cases h)
  | .error (.missing n) => isTrue (fun e h => by cases h; exact ⟨n, rfl⟩)
  | .error .allOfRecursion => isFalse (fun h => by obtain ⟨n, hn⟩ := h _ rfl; cases hn)
  | .error (.allOfNotObject _) => isFalse (fun h => by obtain ⟨n, hn⟩ := h _ rfl; cases hn)
  | .error .addpConflict => isFalse (fun h => by obtain ⟨n, hn⟩ := h _ rfl; cases hn)
  | .error (.dupKey _) => isFalse (fun h => by obtain ⟨n, hn⟩ := h _ rfl; cases hn)
  | .error .incorrectUserType => isFalse (fun h => by obtain ⟨n, hn⟩ := h _ rfl; cases hn)
  | .error (.jsonTypeRecursion _) => isFalse (fun h => by obtain ⟨n, hn⟩ := h _ rfl; cases hn)
  | .error (.keyNotString _) => isFalse (fun h => by obtain ⟨n, hn⟩ := h _ rfl; cases hn)
  | .error .fuel => isFalse (fun h => by obtain ⟨n, hn⟩ := h _ rfl; cases hn)

instance (g : G) (ord : List (List String)) : Decidable (OnlyMissing g ord) := by
  unfold OnlyMissing; infer_instance

theorem links_names_missing (g : G) (ord : List (List String)) (hord : OrdOK g ord) (n : String)
    (h : linkCheck g ord = .error (.missing n)) : Refs g n ∧ ¬ InTable g n :=
  linkCheckF_sound g (fuelOf g) ord hord n h

theorem links_ok_resolved (g : G) (ord : List (List String)) (h : linkCheck g ord = .ok ()) : Resolved g :=
  linkCheckF_complete g (fuelOf g) ord () h

theorem links_iff (g : G) (ord : List (List String)) (hord : OrdOK g ord) (hno : OnlyMissing g ord) :
    linkCheck g ord = .ok () ↔ Resolved g := by
  constructor
  · exact links_ok_resolved g ord
  · intro hres
    cases h : linkCheck g ord with
    | ok u => rfl
    | error e =>
      obtain ⟨n, rfl⟩ := hno e h
      obtain ⟨hr, hnt⟩ := links_names_missing g ord hord n h
      exact absurd (hres n hr) hnt

/-- with no other error in the way: Check fails naming a missing type iff some referenced type was not added -/
theorem links_fails_iff (g : G) (ord : List (List String)) (hord : OrdOK g ord) (hno : OnlyMissing g ord) :
    (∃ n, linkCheck g ord = .error (.missing n)) ↔ ¬ Resolved g := by
  constructor
  · rintro ⟨n, h⟩ hres
    obtain ⟨hr, hnt⟩ := links_names_missing g ord hord n h
    exact hnt (hres n hr)
  · intro hnr
    cases h : linkCheck g ord with
    | ok u => exact absurd (links_ok_resolved g ord h) hnr
    | error e =>
      obtain ⟨n, rfl⟩ := hno e h
      exact ⟨n, rfl⟩

/-- the statement at full strength (no hypothesis about other errors) -/
def links_full : Prop :=
  ∀ (g : G) (ord : List (List String)), OrdOK g ord → ((∃ n, linkCheck g ord = .error (.missing n)) ↔ ¬ Resolved g)

/-- `{ // {allOf: "@A"} "b": @M }` with `@A = {} // {allOf: "@A"}`: the `allOf` recursion (703) is met before `@M` -/
def witness703 : G :=
  { root := .obj ["@A"] none [("b", false, .ref ["@M"])], types := [("@A", .obj ["@A"] none [])] }

theorem witness703_verdict : linkCheck witness703 [] = .error .allOfRecursion := by decide

theorem links_full_false : ¬ links_full := by
  intro h
  have h1 := (h witness703 [] nofun).2 (by
    intro hres
    have : InTable witness703 "@M" := hres "@M" (Or.inl (.prop _ _ _ "b" false (.ref ["@M"]) "@M" (by simp) (.ref _ _ (by simp))))
    obtain ⟨b, hb⟩ := this
    have hnone : lookup witness703 "@M" = none := by decide
    rw [hnone] at hb
    cases hb)
  obtain ⟨n, hn⟩ := h1
  rw [witness703_verdict] at hn
  cases hn

end LK
