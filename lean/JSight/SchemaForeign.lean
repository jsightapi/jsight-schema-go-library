import JSight.SchemaEventsRun
/-!
`Length()` of the schema scanner model: foreign bytes — what may follow an embedded schema — and the single-byte
behaviour of the scanner on them behind a value and in `endTop`.
-/
namespace SchemaScan

/-! ### foreign bytes -/

/-- a byte after the schema that is neither layout nor the start of an annotation (`/`) or a comment (`#`) -/
def Cls.isForeign : Cls → Bool
  | .sp | .tab | .nl | .slash | .hash => false
  | _ => true

/-- bytes that, written directly after a value whose scanner state is `st`, do not continue (or spoil) the token:
after a number, not a digit (except after a leading `0`), `.` (except after a fraction), `e`, `E` -/
def adjOk : St → Cls → Bool
  | .d0, x => match x with | .dot | .le | .uE => false | _ => true
  | .d1, x => match x with | .zero | .d19 | .dot | .le | .uE => false | _ => true
  | .dot0, x => match x with | .zero | .d19 | .le | .uE => false | _ => true
  | _, _ => true

/-- bytes that may continue a number token -/
def Cls.isNumCont : Cls → Bool
  | .zero | .d19 | .dot | .le | .uE => true
  | _ => false

namespace Len

variable {data : Array Cls}

theorem adjOk_of_not_numCont (st : St) (x : Cls) (h : x.isNumCont = false) : adjOk st x = true := by
  unfold adjOk
  split <;> first | rfl | (cases x <;> first | rfl | cases h)

theorem PV_cases {st : St} (h : PV st = true) : st = .endValue ∨ st = .d0 ∨ st = .d1 ∨ st = .dot0 := by
  cases st <;> simp [PV] at h ⊢

/-- a post-value state hands every byte that does not continue its token to `stateEndValue` -/
theorem pv_foreign (f : Nat) (st : St) (h : PV st = true) (x : Cls) (hx : adjOk st x = true) (s : Sc)
    (p1 p2 : Option Cls) : dispatch (f + 1) st s x p1 p2 = endValue f s x p1 p2 := by
  rcases PV_cases h with rfl | rfl | rfl | rfl
  · exact dispatch_endValue f s x p1 p2
  · rw [dispatch_d0, state0_eq]
    cases x <;> first | rfl | cases hx
  · rw [dispatch_d1, state0_eq]
    cases x <;> first | rfl | cases hx
  · rw [dispatch_dot0]
    cases x <;> first | rfl | cases hx

theorem blank_of_not_foreign {x : Cls} (hx : x.isForeign = true) :
    x.isNewLine = false ∧ x.isBlank = false ∧ (x == .slash) = false ∧ (x == .hash) = false := by
  cases x <;> first | exact ⟨rfl, rfl, rfl, rfl⟩ | cases hx

/-- `end-top` state in length-computing mode on a foreign byte: `end-top` is queued when nothing is open, and deferred
(`hasTrailing`) while the top-level literal is still open -/
theorem endTop_foreign_eq (f : Nat) (x : Cls) (hx : x.isForeign = true) (s : Sc) (hl : s.lengthComputing = true)
    (ht : s.hasTrailing = false) (p1 p2 : Option Cls) :
    dispatch (f + 1) .endTop s x p1 p2
      = .ok (if s.stack.isEmpty then found s .endTop else { s with hasTrailing := true }) := by
  obtain ⟨h1, h2, h3, h4⟩ := blank_of_not_foreign hx
  rw [dispatch_endTop]
  simp only [ht, hl, isNewLineM, isCommentStart, h1, h2, h3, h4, Bool.and_false, Bool.not_false, Bool.false_eq_true,
    if_true, if_false, bind, Except.bind, pure, Except.pure]
  cases s.stack.isEmpty <;> rfl

/-- `end-top` state, nothing open, foreign byte: `end-top` is queued -/
theorem endTop_foreign (f : Nat) (x : Cls) (hx : x.isForeign = true)
    (i : Nat) (CS : List Ctx) (cx : Ctx) (al : Bool) (fs : List LexT) (p1 p2 : Option Cls) :
    dispatch (f + 1) .endTop { cfgL true .endTop [] [] false i CS cx al with finds := fs } x p1 p2
      = .ok { cfgL true .endTop [] [] false i CS cx al with finds := fs ++ [.endTop] } :=
  endTop_foreign_eq f x hx _ rfl rfl p1 p2

/-- `end-top` state, the top-level literal still open, foreign byte: `end-top` is deferred (`hasTrailing`) -/
theorem endTop_foreign_open (f : Nat) (x : Cls) (hx : x.isForeign = true) (y : LexT × Nat) (K : List (LexT × Nat))
    (i : Nat) (CS : List Ctx) (cx : Ctx) (al : Bool) (fs : List LexT) (p1 p2 : Option Cls) :
    dispatch (f + 1) .endTop { cfgL true .endTop [] (y :: K) false i CS cx al with finds := fs } x p1 p2
      = .ok { cfgL true .endTop [] (y :: K) false i CS cx al with finds := fs, hasTrailing := true } :=
  endTop_foreign_eq f x hx _ rfl rfl p1 p2

/-- the deferred `end-top` is delivered on the next byte, whatever it is -/
theorem endTop_trailing (f : Nat) (c : Cls)
    (i : Nat) (CS : List Ctx) (cx : Ctx) (al : Bool) (p1 p2 : Option Cls) :
    dispatch (f + 1) .endTop { cfgL true .endTop [] [] false i CS cx al with hasTrailing := true } c p1 p2
      = .ok { cfgL true .endTop [] [] false i CS cx al with hasTrailing := true, finds := [.endTop] } := by
  rw [dispatch_endTop]; rfl

end Len
end SchemaScan
