import JSight.SchemaInvLemmas
import JSight.SchemaStepEq
/-! What the invariant lemmas of the single states share: `StepOK` (the step function called is the one in `s.step`, or
the one under its guard), the helpers `popRet`, `switchToAnnotation`, `switchToComment`, `isNewLineM` under the
invariant, and the rules `OKRes.bind`, `OKRes.ite` by which a step function's body is walked. -/
namespace SchemaScan

/-- `dispatch which s c` is called with `s.step = which`, or through the guard closure -/
def StepOK (which : St) (s : Sc) (c : Cls) : Prop :=
  s.step = which ∨ (s.step = .guard which ∧ which.isGuard = false ∧ c ≠ .slash)

theorem Good.keep {which s c eff ret} (hs : StepOK which s c) (hG : Good which eff ret) :
    Good s.step eff ret := by
  rcases hs with h | ⟨h, hg, _⟩
  · rw [h]; exact hG
  · rw [h]; exact Good.guard hg hG

theorem StepOK.of_slash {which s} (hs : StepOK which s .slash) : s.step = which := by
  rcases hs with h | ⟨_, _, h⟩
  · exact h
  · exact absurd rfl h

theorem StepOK.comment {which s c} (hs : StepOK which s c) (hw : which.cflag = 0) :
    s.step.cflag = 0 := by
  rcases hs with h | ⟨h, _, _⟩
  · rw [h]; exact hw
  · rw [h]; exact hw

theorem errChar_ok {α} (P : α → Prop) (s : Sc) (m : String) : OKRes P (throw (errChar s m) : M α) := rfl

theorem popRet_eq {s : Sc} {r ret'} (h : s.ret = r :: ret') : popRet s = .ok (r, { s with ret := ret' }) := by
  unfold popRet; rw [h]; rfl

theorem popRet_spec {s : Sc} {r ret'} (h : s.ret = r :: ret') :
    OKRes (fun v => v = (r, { s with ret := ret' })) (popRet s) := by
  rw [popRet_eq h]; rfl

theorem switchToAnnotation_ok {s eff} (hE : Eff s eff) (hG : Good s.step eff s.ret)
    (hr : s.step.annRet = true) : OKRes Inv (switchToAnnotation s) := by
  unfold switchToAnnotation
  split
  · rfl
  · dsimp only
    split
    · exact ⟨eff, hE, Good.pend rfl hr hG⟩
    · exact ⟨eff, hE, Good.pend rfl hr hG⟩
    · rfl

theorem switchToComment_ok {s eff} (hE : Eff s eff) (hG : Good s.step eff s.ret)
    (hc : s.step.cflag = 0) : OKRes Inv (switchToComment s) := by
  unfold switchToComment
  split
  · rfl
  · exact ⟨eff, hE, Good.comment rfl hc hG⟩

theorem isNewLineM_cases (s : Sc) (c : Cls) :
    (isNewLineM s c = .ok c.isNewLine) ∨ (∃ e, isNewLineM s c = .error e ∧ e.isCrash = false) := by
  unfold isNewLineM
  cases h : c.isNewLine
  · left; rfl
  · simp only [Bool.not_true, Bool.false_eq_true, if_false]
    split
    · right; exact ⟨_, rfl, rfl⟩
    · left; rfl

theorem swAnn_ok {which s c eff} (hs : StepOK which s c) (hc : (c == Cls.slash) = true)
    (hE : Eff s eff) (hG : Good which eff s.ret) (hr : which.annRet = true) :
    OKRes Inv (switchToAnnotation s) := by
  have : c = .slash := eq_of_beq hc
  subst this
  have h := hs.of_slash
  exact switchToAnnotation_ok hE (h ▸ hG) (h ▸ hr)

theorem swCom_ok {which s c eff} (hs : StepOK which s c)
    (hE : Eff s eff) (hG : Good which eff s.ret) (hw : which.cflag = 0) :
    OKRes Inv (switchToComment s) :=
  switchToComment_ok hE (Good.keep hs hG) (hs.comment hw)

theorem OKRes.bind {α β} {P : α → Prop} {Q : β → Prop} {x : M α} {f : α → M β}
    (h : OKRes P x) (hf : ∀ a, P a → OKRes Q (f a)) : OKRes Q (Except.bind x f) := by
  cases x with
  | error e => exact h
  | ok a => exact hf a h

/-- the rule for `if`: one reason per branch -/
theorem OKRes.ite {α} {P : α → Prop} {c : Prop} [Decidable c] {a b : M α}
    (ha : c → OKRes P a) (hb : ¬ c → OKRes P b) : OKRes P (if c then a else b) := by
  split
  · exact ha ‹_›
  · exact hb ‹_›

theorem OKRes.bind_id {α} {P : α → Prop} {x : M α} (h : OKRes P x) :
    OKRes P (Except.bind x (fun v => Except.ok v)) := by
  cases x with
  | error e => exact h
  | ok a => exact h

end SchemaScan
