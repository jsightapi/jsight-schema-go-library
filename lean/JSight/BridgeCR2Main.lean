import JSight.BridgeCR2Thm
/-!
Bridge (A)∩(B): one node, both phases (`node_core`: the annotation-reading phases agree, and when they accept what is
left is the compile phase on `mapOf n.rules`), and **`models_agree_compile`** — on every scalar / object / array node of the common class
(a literal node has no children), (A)'s per-node compile (`BridgeCR.aNode`: creation, `Compile.basic` stage by stage,
the kind-compatibility stage of `Compile.check`) and (B)'s `CR.checkRules` on the translated node both accept, or both
reject with the same error code; (A) never answers `unsupported`.

Also the witness `wLeaf` against the FULL statement `C08_models_agree_full` (`Props/C08.lean`), an `RNode` no loader
produces: a literal node WITH a child and `type: "any"`. `wLeaf_facts` evaluates what is needed — the node is in the
common class, `leafOK` fails, (A) counts the child and answers 1106, (B)'s literal node has no children and accepts —;
the refutation itself is drawn from these four facts in `C08_models_agree_full_false`, there.
-/
namespace BridgeCR
open Compile
open Loader (NK)

/-- a literal node has no children (every node the loader produces) -/
def leafOK (n : RNode) : Bool := n.kind != NK.lit || n.children.isEmpty

theorem agree_out {a : Except Err Unit} {b : Except CR.Code Unit} (h : Agree a b) :
    isUnsupported a = false ∧ codeA a = codeB b := by
  cases a with
  | ok u => cases b with
    | ok v => exact ⟨rfl, rfl⟩
    | error e => exact absurd h (by simp [Agree])
  | error e => cases b with
    | ok v => cases e <;> exact absurd h (by simp [Agree])
    | error cb => cases e with
      | code ca p => have : ca = cb := h; subst this; exact ⟨rfl, rfl⟩
      | unsupported w => exact absurd h (by simp [Agree])

theorem aNode_eq (n : RNode) (isProp : Bool) (jt : JT) (hA : createRules n.kind [] n.rules = .ok ()) (hj : jtOf n = .ok jt) :
    aNode n isProp = outA (basic n jt isProp n.children.length) := by
  unfold aNode outA
  simp only [hA, hj]
  cases basic n jt isProp n.children.length <;> rfl

/-- the node description of (B) goes with (A)'s node -/
theorem ctx_facts (n : RNode) (isProp : Bool) (nk : CR.NKind) (hnk : nkindOf n = some nk) (hkm : n.kind ≠ NK.mixed)
    (hw : leafOK n = true) :
    ∃ jt, jtOf n = .ok jt ∧ CtxOK n.kind jt n.children.length isProp (nk.ctx isProp) ∧ CR.initMap nk = CR.CMap.empty := by
  unfold nkindOf at hnk
  unfold leafOK at hw
  cases hkind : n.kind <;> simp only [hkind] at hnk hkm hw
  iterate 2
    cases hnk
    refine ⟨_, by unfold jtOf; rw [hkind], ?_, rfl⟩
    constructor <;> simp [CR.NKind.ctx, CR.Ctx.isBranch, cjt]
  · cases hval : n.value with
    | none => simp [hval] at hnk
    | some tok =>
      cases hkd : RulesF.kindOfTok tok with
      | none => simp [hval, hkd] at hnk
      | some kd =>
        simp only [hval, Option.bind_some, hkd, Option.map_some, Option.some.injEq] at hnk
        subst hnk
        have hch : n.children.length = 0 := by
          have : n.children.isEmpty = true := by simpa using hw
          simpa using this
        refine ⟨JT.ofKind kd, by simp [jtOf, hkind, hval, hkd], ?_, by cases kd <;> rfl⟩
        cases kd <;> constructor <;> (try simp [kindOfLit, CR.NKind.ctx, CR.Ctx.isBranch, cjt, JT.ofKind, hch]) <;>
          first | rfl | decide
  · exact absurd rfl hkm

/-- from the annotation-reading phase to the whole node: a failure there is the node's failure on both sides, and
after success what is left is the compile phase on the map (B) has built -/
theorem fold_out {names : List Bytes} {a x : Except Err Unit} {b : Except CR.Code CR.CMap} (c : CR.Ctx)
    (hf : FoldOK names a b) (herr : ∀ e, a = .error e → x = .error e)
    (hok : a = .ok () → ∀ m', b = .ok m' → Agree x (CR.compile c m' >>= CR.allOfStep c >>= CR.checkCompat c)) :
    isUnsupported x = false ∧ codeA x = codeB (b >>= CR.compile c >>= CR.allOfStep c >>= CR.checkCompat c) := by
  cases a with
  | error e =>
    rw [herr e rfl]
    cases b with
    | ok m' => cases e <;> exact absurd hf (by simp [FoldOK])
    | error cb =>
      cases e with
      | code ca p =>
        have : ca = cb := hf
        subst this
        exact ⟨rfl, rfl⟩
      | unsupported w => exact absurd hf (by simp [FoldOK])
  | ok u =>
    cases b with
    | error cb => exact absurd hf (by simp [FoldOK])
    | ok m' => exact agree_out (hok rfl m' rfl)

/-- a synthesised rule (the `type` / `or` of a type shortcut) has nothing the compile phase reads again -/
theorem okVal_gen (r : Rule) (hg : r.gen = true) (hn : r.name = sb "type" ∨ r.name = sb "or") : okVal r := by
  rcases hn with e | e
  · refine ⟨fun h => ?_, fun h => ?_, ⟨.type, by rw [e, sb_type]; rfl, by decide, by decide, by decide, by decide⟩, fun h => ?_⟩ <;>
      (rw [e, sb_type] at h; exact absurd h (by decide))
  · refine ⟨fun h => ?_, fun h => ?_, ⟨.or, by rw [e, sb_or]; rfl, by decide, by decide, by decide, by decide⟩, fun _ h => ?_⟩
    · rw [e, sb_or] at h; exact absurd h (by decide)
    · rw [e, sb_or] at h; exact absurd h (by decide)
    · rw [hg] at h; cases h

/-- **one node**: the rules are the synthesised ones `pre` (none, or the one of a type shortcut: they are (B)'s initial
map) followed by the manual ones `rest`. The annotation-reading phases agree (`fold_agree`); when they accept, (B)'s map
is `mapOf n.rules` with pairwise different names and valid values (`foldB`), and what is left is the compile phase
(`hcomp`). `hA0`: creating the synthesised rules raises nothing and leaves their names as seen; `hInv` / `hS`: (B)'s
initial map holds exactly their constraints, with their values; `hcls`: (B) treats the node as a shortcut only if (A) does -/
theorem node_core (n : RNode) (isProp : Bool) (pre rest : List Rule) (nk : CR.NKind) (jt : JT)
    (hr : n.rules = pre ++ rest) (hman : manual n = rest) (hnk : nkindOf n = some nk) (hjt : jtOf n = .ok jt)
    (hcls : (nk.ctx isProp).cls = .mixedValue → n.kind = NK.mixed)
    (hpre : ∀ r ∈ pre, r.gen = true ∧ (r.name = sb "type" ∨ r.name = sb "or") ∧ ∃ v, r.val = some v)
    (hrest : ∀ r ∈ rest, r.gen = false ∧ ruleCommon r = true ∧ (n.kind = NK.mixed → r.name ≠ CR.n_type ∧ r.name ≠ CR.n_or))
    (hA0 : createRules n.kind [] n.rules = createRules n.kind (pre.map (·.name)) rest)
    (hInv : Inv (pre.map (·.name)) (CR.initMap nk)) (hS : SInv pre (CR.initMap nk)) (hpn : (pre.map (·.name)).Nodup)
    (hcomp : Good (filt n.rules) → (n.rules.map (·.name)).Nodup →
      Agree (outA (basic n jt isProp n.children.length))
        (CR.compile (nk.ctx isProp) (mapOf n.rules) >>= CR.allOfStep (nk.ctx isProp) >>= CR.checkCompat (nk.ctx isProp))) :
    isUnsupported (aNode n isProp) = false ∧ codeA (aNode n isProp) = codeB (CR.checkRules (crNodeOf n isProp)) := by
  have hnode : crNodeOf n isProp = { kind := nk, isProp := isProp, rules := rest.map ruleOf } := by
    unfold crNodeOf
    rw [hnk, hman]
    rfl
  have hfold := fold_agree n.kind (nk.ctx isProp) { okRegex := [], enumRules := [] } hcls rest (pre.map (·.name))
    (CR.initMap nk) hInv hrest
  rw [← hA0] at hfold
  have hrulesR : ∀ r ∈ rest, r.gen = false ∧ ruleCommon r = true ∧
      ((nk.ctx isProp).cls ≠ .mixedValue ∨ (r.name ≠ CR.n_type ∧ r.name ≠ CR.n_or)) := fun r hx => by
    refine ⟨(hrest r hx).1, (hrest r hx).2.1, ?_⟩
    by_cases hk : n.kind = NK.mixed
    · exact Or.inr ((hrest r hx).2.2 hk)
    · exact Or.inl fun e => hk (hcls e)
  rw [hnode]
  have hctx : ({ kind := nk, isProp := isProp, rules := rest.map ruleOf } : CR.Node).ctx = nk.ctx isProp := rfl
  unfold CR.checkRules
  simp only [hctx]
  refine fold_out (nk.ctx isProp) hfold (fun e hA => by unfold aNode; simp only [hA]) (fun hA m' hB => ?_)
  obtain ⟨hSI, hnd, hvalid⟩ := foldB _ (nk.ctx isProp) rest pre (CR.initMap nk) m' hS hpn hrulesR hB
  rw [← hr] at hSI hnd
  have hmm : m' = mapOf n.rules := funext hSI
  subst hmm
  have hmem : ∀ r ∈ filt n.rules, r ∈ pre ∨ r ∈ rest := fun r hx => by
    have := filt_sub n.rules r hx
    rw [hr] at this
    exact List.mem_append.1 this
  have G : Good (filt n.rules) :=
    { nodup := filt_nodup n.rules hnd
      valid := fun r hx => (hmem r hx).elim (fun h => okVal_gen r (hpre r h).1 (hpre r h).2.1) (hvalid r)
      common := fun r hx hg => (hmem r hx).elim (fun h => by rw [(hpre r h).1] at hg; cases hg) fun h => (hrest r h).2.1
      vals := fun r hx => (hmem r hx).elim (fun h => (hpre r h).2.2) fun h => common_val (hrest r h).2.1
      gens := fun r hx hg => (hmem r hx).elim (fun h => (hpre r h).2.1) fun h => by rw [(hrest r h).1] at hg; cases hg }
  rw [aNode_eq n isProp jt hA hjt]
  exact hcomp G hnd

theorem models_agree_compile (n : RNode) (isProp : Bool) (h : common n = true) (hp : plainKind n = true)
    (hw : leafOK n = true) :
    isUnsupported (aNode n isProp) = false ∧ codeA (aNode n isProp) = codeB (CR.checkRules (crNodeOf n isProp)) := by
  have hkm : n.kind ≠ NK.mixed := by simpa [plainKind] using hp
  obtain ⟨hgen, hman⟩ := plain_manual n h hkm
  simp only [common, Bool.and_eq_true] at h
  obtain ⟨⟨⟨hk, hshape⟩, hrc⟩, hfmt⟩ := h
  obtain ⟨nk, hnk⟩ := Option.isSome_iff_exists.1 hk
  obtain ⟨jt, hjt, C, hinit⟩ := ctx_facts n isProp nk hnk hkm hw
  have hrules : ∀ r ∈ n.rules, r.gen = false ∧ ruleCommon r = true ∧
      (n.kind = NK.mixed → r.name ≠ CR.n_type ∧ r.name ≠ CR.n_or) := fun r hr =>
    ⟨hgen r hr, List.all_eq_true.1 hrc r (by rw [hman]; exact hr), fun e => absurd e hkm⟩
  refine node_core n isProp [] n.rules nk jt rfl hman hnk hjt (fun e => absurd e C.notMV) (fun _ hx => by cases hx) hrules rfl
    (by rw [hinit]; exact inv_empty) (by rw [hinit]; exact sinv_empty) List.nodup_nil fun G hnd => ?_
  have hng : ∀ r ∈ filt n.rules, r.gen = false := fun r hr => (hrules r (filt_sub n.rules r hr)).1
  have hnf : NoFmt (filt n.rules) := by
    intro r hr hname
    have hr' := filt_sub n.rules r hr
    have := List.all_eq_true.1 hfmt r (by rw [hman]; exact hr')
    obtain ⟨v, hv⟩ := G.vals r hr
    simp only [hname, beq_self_eq_true, Bool.true_and, hv, Option.map_some, Bool.not_eq_true', Bool.or_eq_false_iff,
      beq_eq_false_iff_ne, ne_eq, Option.some.injEq] at this
    simp only [hv, Option.getD_some]
    exact ⟨this.1.1, this.1.2, this.2⟩
  exact basic_agree n G hng hnd C hnf

/-! ### a node no loader produces, on which the two models differ -/

/-- a LITERAL node with a child and `type: "any"` -/
def wLeaf : RNode :=
  { kind := .lit, children := [1], keys := [], value := some (sb "5"),
    rules := [{ name := sb "type", gen := false, val := some (sb "\"any\""), pos := 0, npos := 0 }] }

/-- evaluated: inside the common class, not `leafOK`, (A) rejects with 1106, (B) accepts -/
theorem wLeaf_facts : common wLeaf = true ∧ leafOK wLeaf = false ∧ codeA (aNode wLeaf false) = some 1106 ∧
    codeB (CR.checkRules (crNodeOf wLeaf false)) = none := by decide +kernel

end BridgeCR
