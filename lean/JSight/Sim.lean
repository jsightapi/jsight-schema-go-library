import JSight.JsonScan
import JSight.Rfc

/-!
# Simulation: the scanner model accepts exactly what the RFC recogniser accepts

`R r m` relates a configuration `r` of the recogniser `Rfc.step` to a configuration `m` of the scanner `JsonScan.feed`
that stand at the same point of a text; it has one constructor per kind of point (before an array item, inside a
literal, after a key, …).
`StepOK t r m c` says what one class `c` does to such a pair when `allowTrailing` is `t`: both move, to a pair in `R`
again, or the recogniser is stuck and the scanner reports the byte (or stops, if `t` and a complete value has been
read). The lemmas `s_*` prove `StepOK` for one constructor of `R` each, by computing both machines on every class;
`sim_step` is their collection (`R r m → StepOK t r m c`), `sim_eof` compares the two at the end of the text. `run_eq`
is the induction over the text for `t = false`, and `C05_check_iff_rfc` its instance at the initial pair `R.root`; the
induction for `t = true` (`run_eqT`) and the theorem for both settings (`C05_check`) are in `SimTrailing`.
-/
open JsonScan

namespace Sim
open Rfc (Ctx RSt RCfg Num)

/-- Markers on the model's stack for containers that enclose the current value. -/
def inside : List Ctx → List LexT
  | [] => []
  | .arr :: k => .itemB :: .arrB :: inside k
  | .obj :: k => .valB :: .objB :: inside k

@[simp] theorem inside_nil : inside [] = [] := rfl
@[simp] theorem inside_arr (k) : inside (.arr :: k) = .itemB :: .arrB :: inside k := rfl
@[simp] theorem inside_obj (k) : inside (.obj :: k) = .valB :: .objB :: inside k := rfl

theorem inside_inj : ∀ {k k' : List Ctx}, inside k = inside k' → k = k'
  | [], [], _ => rfl
  | [], x :: _, h => by cases x <;> cases h
  | x :: _, [], h => by cases x <;> cases h
  | x :: k, y :: k', h => by
    cases x <;> cases y <;> simp only [inside_arr, inside_obj, List.cons.injEq, reduceCtorEq, false_and, true_and] at h
    all_goals rw [inside_inj h]

def mk (st : St) (stack : List LexT) (unf : Bool) : Cfg := { st := st, stack := stack, unf := unf, seen := true }

/-- literal-state correspondence (model state inside a scalar value ↦ spec state, unfinished flag) -/
inductive LitSt : St → Bool → RSt → Prop
  | str : LitSt .inString true (.str false)
  | esc : LitSt .esc true (.esc false)
  | u0 : LitSt .u0 true (.hex false 4)
  | u1 : LitSt .u1 true (.hex false 3)
  | u2 : LitSt .u2 true (.hex false 2)
  | u3 : LitSt .u3 true (.hex false 1)
  | neg : LitSt .neg true (.num .minus)
  | d0 : LitSt .d0 false (.num .zero)
  | d1 : LitSt .d1 false (.num .int)
  | dot : LitSt .dot true (.num .dot)
  | dot0 : LitSt .dot0 false (.num .frac)
  | e : LitSt .e true (.num .e)
  | eSign : LitSt .eSign true (.num .esign)
  | e0 : LitSt .e0 false (.num .exp)
  | t : LitSt .t true (.word [.lr, .lu, .le])
  | tr : LitSt .tr true (.word [.lu, .le])
  | tru : LitSt .tru true (.word [.le])
  | f : LitSt .f true (.word [.la, .ll, .ls, .le])
  | fa : LitSt .fa true (.word [.ll, .ls, .le])
  | fal : LitSt .fal true (.word [.ls, .le])
  | fals : LitSt .fals true (.word [.le])
  | n : LitSt .n true (.word [.lu, .ll, .ll])
  | nu : LitSt .nu true (.word [.ll, .ll])
  | nul : LitSt .nul true (.word [.ll])

/-- key-string correspondence -/
inductive KeySt : St → RSt → Prop
  | str : KeySt .inString (.str true)
  | esc : KeySt .esc (.esc true)
  | u0 : KeySt .u0 (.hex true 4)
  | u1 : KeySt .u1 (.hex true 3)
  | u2 : KeySt .u2 (.hex true 2)
  | u3 : KeySt .u3 (.hex true 1)

/-- the simulation relation: the recogniser configuration (state, open containers `k`) and the scanner configuration
(state, lexeme stack, unfinished-literal flag) that stand at the same point of a text; `inside k` is what the scanner's
stack holds for the open containers `k` -/
inductive R : RCfg → Cfg → Prop
  | root : R ⟨.value, []⟩ Cfg.init
  | valArr (k) : R ⟨.value, .arr :: k⟩ (mk .arrItem (.arrB :: inside k) false)
  | valObj (k) : R ⟨.value, .obj :: k⟩ (mk .objValue (.objB :: inside k) false)
  | arrFirst (k) : R ⟨.arrFirst, .arr :: k⟩ (mk .arrItemOrEmpty (.arrB :: inside k) false)
  | objFirst (k) : R ⟨.objFirst, .obj :: k⟩ (mk .objKeyOrEmpty (.objB :: inside k) false)
  | key (k) : R ⟨.key, .obj :: k⟩ (mk .objKey (.objB :: inside k) false)
  | lit (k) {st unf rst} (h : LitSt st unf rst) : R ⟨rst, k⟩ (mk st (.litB :: inside k) unf)
  | keyStr (k) {st rst} (h : KeySt st rst) : R ⟨rst, .obj :: k⟩ (mk st (.keyB :: .objB :: inside k) false)
  | colonE (k) : R ⟨.colon, .obj :: k⟩ (mk .endValue (.keyB :: .objB :: inside k) false)
  | colonA (k) : R ⟨.colon, .obj :: k⟩ (mk .afterKey (.objB :: inside k) false)
  | afterLit (k) : R ⟨.after, k⟩ (mk .endValue (.litB :: inside k) false)
  | afterCont (k) : R ⟨.after, k⟩ (mk .endValue (inside k) false)
  | afterItem (k) : R ⟨.after, .arr :: k⟩ (mk .afterItem (.arrB :: inside k) false)
  | afterVal (k) : R ⟨.after, .obj :: k⟩ (mk .afterValue (.objB :: inside k) false)
  | afterTop : R ⟨.after, []⟩ (mk .endTop [] false)

/-- close a goal `R m r` with concrete `m`, `r`. -/
macro "close_R" : tactic => `(tactic| first
  | (apply R.lit; constructor)
  | (apply R.keyStr; constructor)
  | exact R.root
  | exact R.valArr _ | exact R.valObj _ | exact R.arrFirst _ | exact R.objFirst _ | exact R.key _
  | exact R.colonE _ | exact R.colonA _ | exact R.afterLit _
  | exact R.afterItem _ | exact R.afterVal _ | exact R.afterTop
  | exact R.afterCont _ | exact R.afterCont [] | exact R.afterCont (.arr :: _) | exact R.afterCont (.obj :: _))

/-- The simulation statement for one related pair, under either setting `t` of `allowTrailing`: the
recogniser moves iff the scanner continues, and then to related configurations; where the recogniser is
stuck the scanner reports an invalid character, unless trailing bytes are allowed and a complete top-level
value has been read, when it stops. -/
def StepOK (t : Bool) (r : RCfg) (m : Cfg) (c : Cls) : Prop :=
    (∃ r' m', Rfc.step r c = some r' ∧ feed t m c = .ok (.cont m') ∧ R r' m') ∨
    (Rfc.step r c = none ∧
      ((Rfc.accepting r && t) = true ∧ feed t m c = .ok .stop ∨
       (Rfc.accepting r && t) = false ∧ ∃ ctx, feed t m c = .error (.invalidChar ctx)))

/-- Settle `StepOK` for a concrete state and class by computing both machines. Each alternative begins with
the recogniser's answer, a goal of its own so that a wrong guess fails before the scanner is run. -/
macro "step_case" : tactic => `(tactic| first
  | (right; constructor; rfl
     first
     | (right; constructor; rfl; exact ⟨_, rfl⟩)
     | (left; exact ⟨rfl, rfl⟩))
  | (refine .inl ⟨_, _, rfl, rfl, ?_⟩; close_R))

macro "lit_case" k:ident : tactic => `(tactic| first
  | step_case
  | (cases $k:ident with
     | nil => step_case
     | cons x k' => cases x <;> step_case))

theorem s_root (t c) : StepOK t ⟨.value, []⟩ Cfg.init c := by cases c <;> step_case
theorem s_valArr (t k c) : StepOK t ⟨.value, .arr :: k⟩ (mk .arrItem (.arrB :: inside k) false) c := by
  cases c <;> step_case
theorem s_valObj (t k c) : StepOK t ⟨.value, .obj :: k⟩ (mk .objValue (.objB :: inside k) false) c := by
  cases c <;> step_case
theorem s_arrFirst (t k c) :
    StepOK t ⟨.arrFirst, .arr :: k⟩ (mk .arrItemOrEmpty (.arrB :: inside k) false) c := by
  cases c <;> step_case
theorem s_objFirst (t k c) :
    StepOK t ⟨.objFirst, .obj :: k⟩ (mk .objKeyOrEmpty (.objB :: inside k) false) c := by
  cases c <;> step_case
theorem s_key (t k c) : StepOK t ⟨.key, .obj :: k⟩ (mk .objKey (.objB :: inside k) false) c := by
  cases c <;> step_case
theorem s_keyStr (t k c) {st rst} (h : KeySt st rst) :
    StepOK t ⟨rst, .obj :: k⟩ (mk st (.keyB :: .objB :: inside k) false) c := by
  cases h <;> cases c <;> step_case
theorem s_colonE (t k c) :
    StepOK t ⟨.colon, .obj :: k⟩ (mk .endValue (.keyB :: .objB :: inside k) false) c := by
  cases c <;> step_case
theorem s_colonA (t k c) : StepOK t ⟨.colon, .obj :: k⟩ (mk .afterKey (.objB :: inside k) false) c := by
  cases c <;> step_case
theorem s_afterItem (t k c) : StepOK t ⟨.after, .arr :: k⟩ (mk .afterItem (.arrB :: inside k) false) c := by
  cases c <;> step_case
theorem s_afterVal (t k c) : StepOK t ⟨.after, .obj :: k⟩ (mk .afterValue (.objB :: inside k) false) c := by
  cases c <;> step_case

theorem s_afterTop (t c) : StepOK t ⟨.after, []⟩ (mk .endTop [] false) c := by
  cases t <;> cases c <;> step_case
-- `allowTrailing` is read only at the outermost level, once the top-level value is complete.
theorem s_afterLit (t k c) : StepOK t ⟨.after, k⟩ (mk .endValue (.litB :: inside k) false) c := by
  cases k with
  | nil => cases t <;> cases c <;> step_case
  | cons x k => cases x <;> cases c <;> step_case
theorem s_afterCont (t k c) : StepOK t ⟨.after, k⟩ (mk .endValue (inside k) false) c := by
  cases k with
  | nil => cases t <;> cases c <;> step_case
  | cons x k => cases x <;> cases c <;> step_case

/-- Inside a scalar value. A number that may end where it stands (`d0`, `d1`, `dot0`, `e0`) treats every
class that does not continue it as `endValue` does, and so does the recogniser: those cases are
`s_afterLit` up to computation. -/
theorem s_lit (t k c) {st unf rst} (h : LitSt st unf rst) : StepOK t ⟨rst, k⟩ (mk st (.litB :: inside k) unf) c := by
  cases h
  case d0 =>
    cases c
    case dot | le | uE => step_case
    all_goals exact s_afterLit t k _
  case d1 =>
    cases c
    case zero | d19 | dot | le | uE => step_case
    all_goals exact s_afterLit t k _
  case dot0 =>
    cases c
    case zero | d19 | le | uE => step_case
    all_goals exact s_afterLit t k _
  case e0 =>
    cases c
    case zero | d19 => step_case
    all_goals exact s_afterLit t k _
  all_goals cases c <;> step_case

theorem sim_step (t : Bool) {m : Cfg} {r : RCfg} (h : R r m) (c : Cls) : StepOK t r m c := by
  cases h with
  | root => exact s_root t c
  | valArr k => exact s_valArr t k c
  | valObj k => exact s_valObj t k c
  | arrFirst k => exact s_arrFirst t k c
  | objFirst k => exact s_objFirst t k c
  | key k => exact s_key t k c
  | lit k h => exact s_lit t k c h
  | keyStr k h => exact s_keyStr t k c h
  | colonE k => exact s_colonE t k c
  | colonA k => exact s_colonA t k c
  | afterLit k => exact s_afterLit t k c
  | afterCont k => exact s_afterCont t k c
  | afterItem k => exact s_afterItem t k c
  | afterVal k => exact s_afterVal t k c
  | afterTop => exact s_afterTop t c

/-- With trailing bytes not allowed the scanner never stops early: it goes on or reports the byte. -/
theorem sim_step_strict {m : Cfg} {r : RCfg} (h : R r m) (c : Cls) :
    (∃ r' m', Rfc.step r c = some r' ∧ feed false m c = .ok (.cont m') ∧ R r' m') ∨
    (Rfc.step r c = none ∧ ∃ ctx, feed false m c = .error (.invalidChar ctx)) := by
  rcases sim_step false h c with hc | ⟨hs, ⟨ha, _⟩ | ⟨_, he⟩⟩
  · exact .inl hc
  · simp at ha
  · exact .inr ⟨hs, he⟩

theorem sim_eof {m : Cfg} {r : RCfg} (h : R r m) : (atEof m).isOk = Rfc.accepting r := by
  cases h with
  | root => rfl
  | lit k h => cases h <;> (cases k with | nil => rfl | cons x k' => cases x <;> rfl)
  | keyStr k h => cases h <;> rfl
  | afterLit k => cases k with | nil => rfl | cons x k' => cases x <;> rfl
  | afterCont k => cases k with | nil => rfl | cons x k' => cases x <;> rfl
  | _ => rfl

def specResult (r : RCfg) (cs : List Cls) : Bool :=
  match Rfc.run r cs with
  | some r' => Rfc.accepting r'
  | none => false

theorem run_eq {m : Cfg} {r : RCfg} (h : R r m) (cs : List Cls) :
    (run false m cs).isOk = specResult r cs := by
  induction cs generalizing m r with
  | nil => simpa [run, specResult, Rfc.run] using sim_eof h
  | cons c cs ih =>
    rcases sim_step_strict h c with ⟨r', m', hs, hf, hR⟩ | ⟨hs, ctx, hf⟩
    · simp [run, hf, specResult, Rfc.run, hs, bind, Except.bind]
      simpa [specResult] using ih hR
    · simp [run, hf, specResult, Rfc.run, hs, bind, Except.bind, Except.isOk, Except.toBool]

/-- C05 (model level, class alphabet): the scanner model accepts exactly the RFC 8259 texts. -/
theorem check_iff_rfc (cs : List Cls) : checkC false cs = Rfc.acceptsC cs := by
  have := run_eq R.root cs
  unfold checkC Rfc.acceptsC
  rw [this]; rfl

theorem C05_check_iff_rfc (bs : List UInt8) : check false bs = Rfc.accepts bs :=
  check_iff_rfc _

end Sim

#print axioms Sim.C05_check_iff_rfc
