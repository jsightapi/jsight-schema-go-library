import JSight.SchemaShift
/-! Shape of the stack at end of input: how many closing events the EOF branch of `next` can emit. -/
namespace SchemaScan

/-- every `tsB` on the stack sits directly on a `mixB` -/
def TsOK : List LexT → Prop
  | [] => True
  | .tsB :: .mixB :: r => TsOK r
  | .tsB :: _ => False
  | _ :: r => TsOK r

/-- number of events the EOF branch of `next` emits for a stack with these lexeme types -/
def eofLen : List LexT → Nat
  | .litB :: r => 1 + eofLen r
  | .inlAnnB :: r => 1 + eofLen r
  | .inlTxtB :: r => 1 + eofLen r
  | .tsB :: .mixB :: r => 2 + eofLen r
  | _ => 0

mutual
theorem VH.tsOK : ∀ {V ret}, VH V ret → TsOK V
  | _, _, .root => trivial
  | _, _, .val h => by have := CH.tsOK h; exact this
  | _, _, .item h => by have := CH.tsOK h; exact this
theorem CH.tsOK : ∀ {V ret}, CH V ret → TsOK V
  | _, _, .vh h => VH.tsOK h
  | _, _, .marker (m := m) hm _ h => by
      have := Good.tsOK h
      cases m <;> simp [LexT.isMarker] at hm <;> exact this
theorem Good.tsOK : ∀ {st eff ret}, Good st eff ret → TsOK eff
  | _, _, _, .foundRoot => trivial
  | _, _, _, .endTop => trivial
  | _, _, _, .obj _ h => by have := CH.tsOK h; exact this
  | _, _, _, .arr _ h => by have := CH.tsOK h; exact this
  | _, _, _, .ks _ h => by have := CH.tsOK h; exact this
  | _, _, _, .key _ h => by have := CH.tsOK h; exact this
  | _, _, _, .lit _ h => by have := VH.tsOK h; exact this
  | _, _, _, .ts _ h => by have := VH.tsOK h; exact this
  | _, _, _, .done h => CH.tsOK h
  | _, _, _, .uesc _ h => Good.tsOK h
  | _, _, _, .comment _ _ h => Good.tsOK h
  | _, _, _, .pend _ _ h => Good.tsOK h
  | _, _, _, .inl _ _ h => by have := Good.tsOK h; exact this
  | _, _, _, .inlTxt _ h => by have := Good.tsOK h; exact this
  | _, _, _, .ml _ _ h => by have := Good.tsOK h; exact this
  | _, _, _, .mlTxt _ h => by have := Good.tsOK h; exact this
  | _, _, _, .guard _ h => Good.tsOK h
end

theorem VH.eofLen_eq {V ret} (h : VH V ret) : eofLen V = 0 := by
  rcases h.inv with ⟨rfl, _⟩ | ⟨V', rfl, _⟩ | ⟨V', rfl, _⟩ <;> rfl

/-- under an annotation marker lies the root or an open container: nothing the EOF branch would close -/
theorem annRet_eofLen {r σ ret} (hr : r.annRet = true) (h : Good r σ ret) : eofLen σ = 0 := by
  cases r <;> simp [St.annRet] at hr
  · rw [h.inv.1]; rfl
  · obtain ⟨V, rfl, _⟩ := h.inv; rfl
  · obtain ⟨V, rfl, _⟩ := h.inv; rfl
  · obtain ⟨V, rfl, _⟩ := h.inv; rfl
  · obtain ⟨V, rfl, _⟩ := h.inv; rfl
  · obtain ⟨V, rfl, _⟩ := h.inv; rfl
  · obtain ⟨V, rfl, _⟩ := h.inv; rfl
  · obtain ⟨V, rfl, _⟩ := h.inv; rfl
  · obtain ⟨V, rfl, _⟩ := h.inv; rfl
  · rw [h.inv.1]; rfl

theorem CH.eofLen_le {V ret} (h : CH V ret) : eofLen V ≤ 1 := by
  rcases h.inv with hV | ⟨m, σ, r, ret', rfl, _, hm, hr, hG⟩
  · rw [hV.eofLen_eq]; exact Nat.zero_le _
  · have h0 := annRet_eofLen hr hG
    cases m <;> simp [LexT.isMarker] at hm
    · show 1 + eofLen σ ≤ 1
      omega
    · exact Nat.zero_le _

theorem Good.eofLen_le : ∀ {st eff ret}, Good st eff ret → eofLen eff ≤ 2
  | _, _, _, .foundRoot => Nat.zero_le _
  | _, _, _, .endTop => Nat.zero_le _
  | _, _, _, .obj _ _ => Nat.zero_le _
  | _, _, _, .arr _ _ => Nat.zero_le _
  | _, _, _, .ks _ _ => Nat.zero_le _
  | _, _, _, .key _ _ => Nat.zero_le _
  | _, _, _, .lit (V := V) _ h => by
      have := h.eofLen_eq
      show 1 + eofLen V ≤ 2
      omega
  | _, _, _, .ts (V := V) _ h => by
      have := h.eofLen_eq
      show 2 + eofLen V ≤ 2
      omega
  | _, _, _, .done h => by have := h.eofLen_le; omega
  | _, _, _, .uesc _ h => Good.eofLen_le h
  | _, _, _, .comment _ _ h => Good.eofLen_le h
  | _, _, _, .pend _ _ h => Good.eofLen_le h
  | _, _, _, .inl (σ := σ) _ hr h => by
      have := annRet_eofLen hr h
      show 1 + eofLen σ ≤ 2
      omega
  | _, _, _, .inlTxt (σ := σ) hr h => by
      have := annRet_eofLen hr h
      show 1 + (1 + eofLen σ) ≤ 2
      omega
  | _, _, _, .ml _ _ _ => Nat.zero_le _
  | _, _, _, .mlTxt _ _ => Nat.zero_le _
  | _, _, _, .guard _ h => Good.eofLen_le h

end SchemaScan
