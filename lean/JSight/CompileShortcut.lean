import JSight.CompileNames
/-!
`compileNode` (with `basic`: the phase `Compile.lean` calls 2, Go's `CompileBasic`) on single nodes, as the walkers over a
loaded table use it.  C09 / C16: on the node of a TYPE SHORTCUT (kind `mixed`, the synthesised rule `type` or `or`) it
yields the reference node `CN.ref` with the names (`compileNode_short`); the rule constructors (`createRules`) accept
such a node (`createRules_short`).  On a node without rules, by kind of the node: `compileNode_lit`, `_arr`, `_obj`, and
one step of `compileItems` / `compileProps` (`compileItems_cons`, `compileProps_cons`).
-/
namespace Compile
namespace SB
/-! the bytes of three names of types, for the proofs that compare `Compile` with the rule constructors (`BridgeCR*`) -/
theorem sb_mixed : sb "mixed" = [109, 105, 120, 101, 100] := by decide +kernel
theorem sb_any : sb "any" = [97, 110, 121] := by decide +kernel
theorem sb_decimal : sb "decimal" = [100, 101, 99, 105, 109, 97, 108] := by decide +kernel
end SB

/-- the synthesised rule of a shortcut -/
def genRule (nm : String) (val : Bytes) (o : Nat) : Rule := { name := sb nm, gen := true, val := some val, pos := o, npos := o }

/-- the resolved node of a shortcut -/
def shortR (nm : String) (v val : Bytes) (o : Nat) : RNode :=
  { kind := .mixed, children := [], keys := [], value := some v, rules := [genRule nm val o] }

/- `basic` on a shortcut node, unfolded step by step: the node has the one generated rule, so every step that looks for
another rule finds none, and only `bNames` (the types list) has something to record. -/
theorem basic_short_type (v val : Bytes) (o : Nat) (p : Bool) (hv : isUserTypeName (unq val) = true) :
    basic (shortR "type" v val o) .mixed p 0
      = .ok { optional := none, nul := false, any := false, names := some [keyStr (unq val)], orShort := false,
              add := .absent, rules := [], bad := false } := by
  simp [basic, shortR, genRule, sb_beq, sb_inj, hasRule, findRule, others, bEnumPrec, bNames, bType, bAllowed, bPairs, bMinMax, bLens,
    bOptional, bFinish, bLits, boolRule, incompatible, hv]
  rfl

theorem basic_short_or (v val : Bytes) (o : Nat) (p : Bool) :
    basic (shortR "or" v val o) .mixed p 0
      = .ok { optional := none, nul := false, any := false, names := some ((splitPipe val).map keyStr), orShort := true,
              add := .absent, rules := [], bad := false } := by
  simp [basic, shortR, genRule, sb_beq, sb_inj, hasRule, findRule, others, bEnumPrec, bNames, bType, bAllowed, bPairs, bMinMax, bLens,
    bOptional, bFinish, bLits, boolRule, incompatible]
  rfl

/-- the names a shortcut node refers to: `@A` → `[A-with-@]`, `@A | @B` → the names in written order -/
def shortNames (isOr : Bool) (val : Bytes) : List String :=
  bif isOr then (splitPipe val).map keyStr else [keyStr (unq val)]

/-- `compileNode` on a shortcut node -/
theorem compileNode_short (tbl : Array RNode) (opt : Bool) (fuel i : Nat) (pobj : Bool) (isOr : Bool) (v val : Bytes)
    (o : Nat) (hi : tbl[i]? = some (shortR (bif isOr then "or" else "type") v val o))
    (hv : isOr = false → isUserTypeName (unq val) = true) :
    compileNode tbl opt (fuel + 1) i pobj = .ok (.ref (shortNames isOr val) false .mixed none isOr, none) := by
  cases isOr with
  | false =>
    simp only [compileNode, hi, cond_false]
    have hj : jtOf (shortR "type" v val o) = .ok .mixed := rfl
    rw [hj]
    simp only [show (shortR "type" v val o).children.length = 0 from rfl, basic_short_type v val o pobj (hv rfl)]
    rfl
  | true =>
    simp only [compileNode, hi, cond_true]
    have hj : jtOf (shortR "or" v val o) = .ok .mixed := rfl
    rw [hj]
    simp only [show (shortR "or" v val o).children.length = 0 from rfl, basic_short_or v val o pobj]
    rfl

/-- phase 1 accepts a shortcut node: its only rule is synthesised -/
theorem createRules_short (nm : String) (v val : Bytes) (o : Nat) :
    createRules (shortR nm v val o).kind [] (shortR nm v val o).rules = .ok () := by
  simp [shortR, genRule, createRules, createRule]

/-! ### nodes without rules -/

section plain
variable {tbl : Array RNode} {opt : Bool} {fuel i : Nat} {pobj : Bool}

/-- what `basic` finds on a node without rules -/
def plainBasic : Basic :=
  { optional := none, nul := false, any := false, names := none, orShort := false, add := .absent, rules := [],
    bad := false }

theorem basic_plain (k : Loader.NK) (cs : List Nat) (ks : List (Bytes × Bool)) (v : Option Bytes) (jt : JT)
    (p : Bool) (c : Nat) :
    basic { kind := k, children := cs, keys := ks, value := v, rules := [] } jt p c = .ok plainBasic := by
  rfl

theorem compileNode_lit {cs : List Nat} {ks : List (Bytes × Bool)} {tok : Bytes} {k : Rules.Kind}
    (h : tbl[i]? = some { kind := .lit, children := cs, keys := ks, value := some tok, rules := [] })
    (hk : RulesF.kindOfTok tok = some k) :
    compileNode tbl opt (fuel + 1) i pobj = .ok (.lit { kind := k, ex := tok, nul := false, rules := [] } false, none) := by
  simp only [compileNode, h, jtOf, hk, basic_plain, plainBasic, Option.getD_some]
  rfl

theorem compileNode_arr {cs : List Nat} {ks : List (Bytes × Bool)} {v : Option Bytes} {items : List CN}
    (h : tbl[i]? = some { kind := .arr, children := cs, keys := ks, value := v, rules := [] })
    (hc : compileItems tbl opt fuel cs = .ok items) :
    compileNode tbl opt (fuel + 1) i pobj = .ok (.arr items false false, none) := by
  simp only [compileNode, h, jtOf, basic_plain, plainBasic, hc]
  rfl

theorem compileNode_obj {cs : List Nat} {ks : List (Bytes × Bool)} {v : Option Bytes}
    {props : List (String × Bool × Bool × Bool × CN)}
    (h : tbl[i]? = some { kind := .obj, children := cs, keys := ks, value := v, rules := [] })
    (hl : ks.length = cs.length) (hc : compileProps tbl opt fuel ks cs = .ok props) :
    compileNode tbl opt (fuel + 1) i pobj = .ok (.obj props .absent false false, none) := by
  simp only [compileNode, h, jtOf, basic_plain, plainBasic, hc, hl]
  simp

theorem compileItems_cons {c : Nat} {cs : List Nat} {x : CN} {o : Option Bool} {xs : List CN}
    (h1 : compileNode tbl opt fuel c false = .ok (x, o)) (h2 : compileItems tbl opt fuel cs = .ok xs) :
    compileItems tbl opt fuel (c :: cs) = .ok (x :: xs) := by
  simp only [compileItems, h1, h2]

/-- a member with a plain key whose value carries no `optional` rule -/
theorem compileProps_cons {k : Bytes} {ks : List (Bytes × Bool)} {c : Nat} {cs : List Nat} {x : CN}
    {xs : List (String × Bool × Bool × Bool × CN)}
    (h1 : compileNode tbl opt fuel c true = .ok (x, none)) (h2 : compileProps tbl opt fuel ks cs = .ok xs) :
    compileProps tbl opt fuel ((k, false) :: ks) (c :: cs) = .ok ((keyStr k, false, !opt, false, x) :: xs) := by
  simp [compileProps, h1, h2]

end plain

end Compile
