import JSight.SchemaLeafD
/-! Object / array states that may end a container, and the end of a type shortcut. -/
namespace SchemaScan

theorem VH.inv {V ret} (h : VH V ret) :
    (V = [] ∧ ret = []) ∨ (∃ V', V = .valB :: .objB :: V' ∧ CH V' ret) ∨
    (∃ V', V = .itemB :: .arrB :: V' ∧ CH V' ret) := by
  cases h with
  | root => exact Or.inl ⟨rfl, rfl⟩
  | val h => exact Or.inr (Or.inl ⟨_, rfl, h⟩)
  | item h => exact Or.inr (Or.inr ⟨_, rfl, h⟩)

/-- what `finishShortcut` leaves behind from a state of the invariant with a type shortcut on a holder `V`: `ret` and
`stack` untouched, and by the holder the step function, the effective stack and the contexts of the enclosing member
value, array item or root -/
def FSPost (s : Sc) (V : List LexT) (s' : Sc) : Prop :=
  s'.ret = s.ret ∧ s'.stack = s.stack ∧
  ((∃ V', V = .valB :: .objB :: V' ∧ s'.step = .afterValue ∧ Eff s' (.objB :: V') ∧ CH V' s.ret) ∨
   (∃ V', V = .itemB :: .arrB :: V' ∧ s'.step = .afterItem ∧ Eff s' (.arrB :: V') ∧ CH V' s.ret) ∨
   (V = [] ∧ s.ret = [] ∧ s'.step = .endTop ∧ Eff s' []))

theorem finishShortcut_spec {s V} (hE : Eff s (.tsB :: .mixB :: V)) (hV : VH V s.ret) :
    OKRes (FSPost s V) (finishShortcut s) := by
  unfold finishShortcut
  simp only [bind, pure, Except.pure]
  rcases hV.inv with ⟨rfl, hret⟩ | ⟨V', rfl, hV'⟩ | ⟨V', rfl, hV'⟩
  · have hty : (found s .tsE).ctx.ty = .shortcut := (List.cons.inj hE.2).1
    have hc : ({ found (found s .tsE) .mixE with step := St.endTop } : Sc).ctx.ty ::
        ({ found (found s .tsE) .mixE with step := St.endTop } : Sc).ctxStack.map (·.ty)
        = .shortcut :: ctxsOf [] := hE.2
    obtain ⟨c, rest, heq, hcr⟩ := restoreContext_ok hc
    simp only [hty, heq]
    refine ⟨rfl, rfl, Or.inr (Or.inr ⟨rfl, hret, rfl, ?_, hcr⟩)⟩
    show applyFinds (s.finds ++ [.tsE] ++ [.mixE]) (s.stack.map (·.1)) = some []
    rw [applyFinds_append, applyFinds_append, hE.1]; rfl
  · have hty : (found s .tsE).ctx.ty = .object := (List.cons.inj hE.2).1
    simp only [hty]
    exact ⟨rfl, rfl, Or.inl ⟨_, rfl, rfl,
      Eff_found (Eff_found (Eff_found hE rfl rfl) rfl rfl) rfl rfl, hV'⟩⟩
  · have hty : (found s .tsE).ctx.ty = .array := (List.cons.inj hE.2).1
    simp only [hty]
    exact ⟨rfl, rfl, Or.inr (Or.inl ⟨_, rfl, rfl,
      Eff_found (Eff_found (Eff_found hE rfl rfl) rfl rfl) rfl rfl, hV'⟩)⟩


theorem afterValue_ok {f s c p1 p2 V} (hE : Eff s (.objB :: V)) (hV : CH V s.ret)
    (hp : PatOK (s.stack.map (·.1)) V) (hs : StepOK .afterValue s c) :
    OKRes Inv (dispatch (f+1) .afterValue s c p1 p2) := by
  have hG : Good .afterValue (.objB :: V) s.ret := Good.obj rfl hV
  have hK := Good.keep hs hG
  unfold dispatch; dsimp only
  simp only [bind, Except.bind, pure, Except.pure]
  rcases isNewLineM_cases s c with hn | ⟨e, hn, he⟩ <;> simp only [hn]
  · refine OKRes.ite (fun _ => ⟨_, Eff_found hE rfl rfl, hK⟩) fun _ => ?_
    refine OKRes.ite (fun _ => ⟨_, hE, hK⟩) fun _ => ?_
    refine OKRes.ite (fun h => swAnn_ok hs h hE hG rfl) fun _ => ?_
    refine OKRes.ite (fun _ => swCom_ok hs hE hG rfl) fun _ => ?_
    refine OKRes.ite (fun _ => ⟨_, hE, Good.obj rfl hV⟩) fun _ => ?_
    exact OKRes.ite (fun _ => foundObjectEnd_ok hE hV hp) fun _ => rfl
  · exact he

theorem afterItem_ok {f s c p1 p2 V} (hE : Eff s (.arrB :: V)) (hV : CH V s.ret)
    (hne : s.stack ≠ []) (hs : StepOK .afterItem s c) :
    OKRes Inv (dispatch (f+1) .afterItem s c p1 p2) := by
  have hG : Good .afterItem (.arrB :: V) s.ret := Good.arr rfl hV
  have hK := Good.keep hs hG
  unfold dispatch; dsimp only
  simp only [bind, Except.bind, pure, Except.pure]
  rcases isNewLineM_cases s c with hn | ⟨e, hn, he⟩ <;> simp only [hn]
  · refine OKRes.ite (fun _ => ⟨_, Eff_found hE rfl rfl, hK⟩) fun _ => ?_
    refine OKRes.ite (fun _ => ⟨_, hE, hK⟩) fun _ => ?_
    refine OKRes.ite (fun h => swAnn_ok hs h hE hG rfl) fun _ => ?_
    refine OKRes.ite (fun _ => swCom_ok hs hE hG rfl) fun _ => ?_
    refine OKRes.ite (fun _ => ⟨_, hE, Good.arr rfl hV⟩) fun _ => ?_
    exact OKRes.ite (fun _ => foundArrayEnd_ok hE hV hne) fun _ => rfl
  · exact he

theorem beginKeyShortcut_ok {s V} (hE : Eff s (.objB :: V)) (hV : CH V s.ret) :
    OKRes Inv (beginKeyShortcut s) := by
  unfold beginKeyShortcut
  exact OKRes.ite (fun _ => rfl) fun _ => ⟨_, Eff_found hE rfl rfl, Good.ks rfl hV⟩

theorem beginString_key_ok {s c V} (hE : Eff s (.objB :: V)) (hV : CH V s.ret) :
    OKRes Inv (beginString (found s .keyB) c) := by
  unfold beginString
  exact OKRes.ite (fun _ => rfl) fun _ => ⟨_, Eff_found hE rfl rfl, Good.key rfl hV⟩

/-- as `beginString_key_ok`, with `keyB` queued after `beginString` instead of before it -/
theorem beginString_key_ok' {s c V} (hE : Eff s (.objB :: V)) (hV : CH V s.ret) :
    OKRes Inv (Except.bind (beginString s c) (fun s => Except.ok (found s .keyB))) := by
  unfold beginString
  split
  · rfl
  · exact ⟨_, Eff_found (s := { s with step := .inString }) hE rfl rfl, Good.key rfl hV⟩

theorem beginAnnKeyOrEmpty_ok {s c V} (hE : Eff s (.objB :: V)) (hV : CH V s.ret)
    (hp : PatOK (s.stack.map (·.1)) V) : OKRes Inv (beginAnnKeyOrEmpty s c) := by
  unfold beginAnnKeyOrEmpty
  simp only [bind, Except.bind, pure, Except.pure]
  refine OKRes.ite (fun _ => foundObjectEnd_ok hE hV hp) fun _ => ?_
  refine OKRes.ite (fun _ => ⟨_, Eff_found hE rfl rfl, Good.key rfl hV⟩) fun _ => ?_
  exact OKRes.ite (fun _ => rfl) fun _ => ⟨_, Eff_found hE rfl rfl, Good.key rfl hV⟩

theorem objKeyOrEmpty_ok {f s c p1 p2} (h : InvAt .objKeyOrEmpty s) (hf : s.finds = [])
    (hs : StepOK .objKeyOrEmpty s c) :
    OKRes Inv (dispatch (f+1) .objKeyOrEmpty s c p1 p2) := by
  obtain ⟨eff, hE, hG⟩ := h
  have hK := Good.keep hs hG
  obtain ⟨V, rfl, hV⟩ := hG.inv
  have hp : PatOK (s.stack.map (·.1)) V := by rw [hE.stack_eq hf]; exact patOK0 V
  unfold dispatch; dsimp only
  simp only [bind, Except.bind, pure, Except.pure]
  rcases isNewLineM_cases s c with hn | ⟨e, hn, he⟩ <;> simp only [hn]
  · refine OKRes.ite (fun _ => ⟨_, Eff_found hE rfl rfl, hK⟩) fun _ => ?_
    refine OKRes.ite (fun _ => ⟨_, hE, hK⟩) fun _ => ?_
    refine OKRes.ite (fun h => swAnn_ok hs h hE hG rfl) fun _ => ?_
    refine OKRes.ite (fun _ => swCom_ok hs hE hG rfl) fun _ => ?_
    refine OKRes.ite (fun _ => beginKeyShortcut_ok hE hV) fun _ => ?_
    refine OKRes.ite (fun _ => ?_) fun _ => beginAnnKeyOrEmpty_ok hE hV hp
    exact OKRes.ite (fun _ => foundObjectEnd_ok (s := { s with allowAnnotation := true }) hE hV hp)
      fun _ => beginString_key_ok (s := { s with allowAnnotation := true }) hE hV
  · exact he

theorem objKey_ok {f s c p1 p2} (h : InvAt .objKey s) (hf : s.finds = [])
    (hs : StepOK .objKey s c) :
    OKRes Inv (dispatch (f+1) .objKey s c p1 p2) := by
  obtain ⟨eff, hE, hG⟩ := h
  have hK := Good.keep hs hG
  obtain ⟨V, rfl, hV⟩ := hG.inv
  have hp : PatOK (s.stack.map (·.1)) V := by rw [hE.stack_eq hf]; exact patOK0 V
  unfold dispatch; dsimp only
  simp only [bind, Except.bind, pure, Except.pure]
  rcases isNewLineM_cases s c with hn | ⟨e, hn, he⟩ <;> simp only [hn]
  · have hE' : Eff (found s .newLine) _ := Eff_found hE rfl rfl
    refine OKRes.ite (fun _ => ?_) fun _ => ?_
    · split
      · exact ⟨_, hE', Good.obj rfl hV⟩
      · exact ⟨_, hE', Good.obj rfl hV⟩
    refine OKRes.ite (fun _ => ⟨_, hE, hK⟩) fun _ => ?_
    refine OKRes.ite (fun h => swAnn_ok hs h hE hG rfl) fun _ => ?_
    refine OKRes.ite (fun _ => swCom_ok hs hE hG rfl) fun _ => ?_
    refine OKRes.ite (fun _ => beginKeyShortcut_ok hE hV) fun _ => ?_
    exact OKRes.ite (fun _ => beginString_key_ok' hE hV) fun _ => beginAnnKeyOrEmpty_ok hE hV hp
  · exact he

theorem objKeyAfterNL_ok {f s c p1 p2} (h : InvAt .objKeyAfterNL s) (hf : s.finds = [])
    (hs : StepOK .objKeyAfterNL s c) :
    OKRes Inv (dispatch (f+1) .objKeyAfterNL s c p1 p2) := by
  obtain ⟨eff, hE, hG⟩ := h
  have hK := Good.keep hs hG
  obtain ⟨V, rfl, hV⟩ := hG.inv
  have hp : PatOK (s.stack.map (·.1)) V := by rw [hE.stack_eq hf]; exact patOK0 V
  unfold dispatch; dsimp only
  simp only [bind, Except.bind, pure, Except.pure]
  rcases isNewLineM_cases s c with hn | ⟨e, hn, he⟩ <;> simp only [hn]
  · refine OKRes.ite (fun _ => ⟨_, Eff_found hE rfl rfl, hK⟩) fun _ => ?_
    refine OKRes.ite (fun _ => ⟨_, hE, hK⟩) fun _ => ?_
    refine OKRes.ite (fun _ => swCom_ok hs hE hG rfl) fun _ => ?_
    refine OKRes.ite (fun _ => beginKeyShortcut_ok hE hV) fun _ => ?_
    exact OKRes.ite (fun _ => beginString_key_ok' hE hV) fun _ => beginAnnKeyOrEmpty_ok hE hV hp
  · exact he

theorem arrItemOrEmpty_core {s c V} (hE : Eff s (.arrB :: V)) (hV : CH V s.ret)
    (hs : StepOK .arrItemOrEmpty s c) :
    OKRes Inv (Except.bind (beginValue s c) (fun v => arrItemFinds v.fst v.snd)) := by
  refine OKRes.bind (beginValue_spec hs hE (Good.arr rfl hV) rfl) ?_
  rintro ⟨r, s'⟩ hp
  exact arrItemFinds_ok hV hp

theorem arrItemOrEmpty_ok {f s c p1 p2} (h : InvAt .arrItemOrEmpty s) (hf : s.finds = [])
    (hs : StepOK .arrItemOrEmpty s c) :
    OKRes Inv (dispatch (f+1) .arrItemOrEmpty s c p1 p2) := by
  obtain ⟨eff, hE, hG⟩ := h
  have hK := Good.keep hs hG
  obtain ⟨V, rfl, hV⟩ := hG.inv
  have hne : s.stack ≠ [] := by
    intro h0
    have := hE.stack_eq hf
    rw [h0] at this
    cases this
  unfold dispatch; dsimp only
  simp only [bind, Except.bind, pure, Except.pure]
  rcases isNewLineM_cases s c with hn | ⟨e, hn, he⟩ <;> simp only [hn]
  · refine OKRes.ite (fun _ => ⟨_, Eff_found hE rfl rfl, hK⟩) fun _ => ?_
    refine OKRes.ite (fun _ => swCom_ok hs hE hG rfl) fun _ => ?_
    refine OKRes.ite (fun _ => foundArrayEnd_ok hE hV hne) fun _ => ?_
    by_cases hc : (s.ann == Ann.none && !c.isBlank) = true <;> simp only [hc, ↓reduceIte]
    · exact arrItemOrEmpty_core (s := { s with ctx := { s.ctx with arrayHasItem := true } }) hE hV hs
    · exact arrItemOrEmpty_core hE hV hs
  · exact he

end SchemaScan
