import JSight.Number
import JSight.NumberCompare
import Mathlib.Tactic.Ring
/-! `Number.Cmp` compares values. The digit-wise comparisons of the model are each `compare` on what the digit strings
denote (`natVal`): `cmpDigits_correct` for equal lengths, `cmpInt_correct` for integer parts without leading zero,
`cmpFra_correct` for fractional parts scaled to a common length, `cmpAbs_correct` for the two together. `cmp_correct` adds
the signs: on well-formed normal forms (`WFN`) `N.cmp` is `cmpVal`, the comparison of the cross-scaled mantissas. -/
namespace Num

theorem foldl_acc (ds : List Nat) (acc : Nat) :
    ds.foldl (fun a d => a * 10 + d) acc = acc * 10 ^ ds.length + natVal ds := by
  induction ds generalizing acc with
  | nil => simp [natVal]
  | cons d ds ih =>
    simp only [List.foldl_cons, List.length_cons, natVal]
    rw [ih, ih (0 * 10 + d)]
    simp [Nat.pow_succ, Nat.add_mul, Nat.mul_assoc, Nat.add_assoc, Nat.mul_comm 10]

theorem natVal_cons (d : Nat) (ds : List Nat) : natVal (d :: ds) = d * 10 ^ ds.length + natVal ds := by
  have := foldl_acc ds (0 * 10 + d)
  simpa [natVal] using this

theorem natVal_nil : natVal [] = 0 := rfl

theorem natVal_append (xs ys : List Nat) : natVal (xs ++ ys) = natVal xs * 10 ^ ys.length + natVal ys := by
  induction xs with
  | nil => simp [natVal_nil]
  | cons x xs ih =>
    simp only [List.cons_append, natVal_cons, ih, List.length_append, Nat.pow_add]
    simp [Nat.add_mul, Nat.mul_assoc, Nat.add_assoc]

def Digits (ds : List Nat) : Prop := ∀ d ∈ ds, d < 10

theorem natVal_lt (ds : List Nat) (h : Digits ds) : natVal ds < 10 ^ ds.length := by
  induction ds with
  | nil => simp [natVal_nil]
  | cons d ds ih =>
    have hd : d < 10 := h d (by simp)
    have ih' := ih (fun x hx => h x (by simp [hx]))
    rw [natVal_cons, List.length_cons, Nat.pow_succ]
    have : d * 10 ^ ds.length ≤ 9 * 10 ^ ds.length := Nat.mul_le_mul_right _ (by omega)
    omega

theorem cmpDigits_correct (xs ys : List Nat) (hl : xs.length = ys.length) (hx : Digits xs) (hy : Digits ys) :
    cmpDigits xs ys = compare (natVal xs) (natVal ys) := by
  induction xs generalizing ys with
  | nil => cases ys with
    | nil => simp [cmpDigits, natVal_nil]
    | cons y ys => simp at hl
  | cons x xs ih =>
    cases ys with
    | nil => simp at hl
    | cons y ys =>
      have hl' : xs.length = ys.length := by simpa using hl
      have hxs : Digits xs := fun d hd => hx d (by simp [hd])
      have hys : Digits ys := fun d hd => hy d (by simp [hd])
      rw [cmpDigits, ite_compare, ih ys hl' hxs hys, natVal_cons, natVal_cons, hl']
      exact (compare_lex (hl' ▸ natVal_lt xs hxs) (natVal_lt ys hys)).symm

def NoLeadingZero (ds : List Nat) : Prop := ∀ d, ds.head? = some d → d ≠ 0

theorem natVal_ge_of_noLeadingZero (ds : List Nat) (hne : ds ≠ []) (h : NoLeadingZero ds) :
    10 ^ (ds.length - 1) ≤ natVal ds := by
  cases ds with
  | nil => exact absurd rfl hne
  | cons d ds =>
    have hd : d ≠ 0 := h d rfl
    rw [natVal_cons]
    simp only [List.length_cons, Nat.add_sub_cancel]
    have : 1 * 10 ^ ds.length ≤ d * 10 ^ ds.length := Nat.mul_le_mul_right _ (by omega)
    omega

/-- a numeral without leading zero is larger than any shorter one -/
theorem natVal_lt_of_shorter (xs ys : List Nat) (hx : Digits xs) (zy : NoLeadingZero ys)
    (h : xs.length < ys.length) : natVal xs < natVal ys := by
  have b1 := natVal_lt xs hx
  have b2 := natVal_ge_of_noLeadingZero ys (by intro e; simp [e] at h) zy
  have : 10 ^ xs.length ≤ 10 ^ (ys.length - 1) := Nat.pow_le_pow_right (by omega) (by omega)
  omega

theorem cmpInt_correct (xs ys : List Nat) (hx : Digits xs) (hy : Digits ys)
    (zx : NoLeadingZero xs) (zy : NoLeadingZero ys) :
    cmpInt xs ys = compare (natVal xs) (natVal ys) := by
  unfold cmpInt
  by_cases h1 : xs.length < ys.length
  · rw [if_pos h1, Nat.compare_eq_lt.2 (natVal_lt_of_shorter xs ys hx zy h1)]
  · by_cases h2 : xs.length > ys.length
    · rw [if_neg h1, if_pos h2, Nat.compare_eq_gt.2 (natVal_lt_of_shorter ys xs hy zx h2)]
    · simp only [h1, if_false, h2]
      exact cmpDigits_correct xs ys (by omega) hx hy

theorem cmpFra_nil_left (ys : List Nat) : cmpFra [] ys = compare 0 (natVal ys) := by
  induction ys with
  | nil => simp [cmpFra, natVal_nil]
  | cons y ys ih =>
    have := pow10_pos ys.length
    rw [natVal_cons, cmpFra]
    split
    · rw [eq_comm, Nat.compare_eq_lt]; exact Nat.add_pos_left (Nat.mul_pos ‹_› this) _
    · rw [ih, show y = 0 by omega]; simp

theorem cmpFra_nil_right (xs : List Nat) : cmpFra xs [] = compare (natVal xs) 0 := by
  induction xs with
  | nil => simp [cmpFra, natVal_nil]
  | cons x xs ih =>
    have := pow10_pos xs.length
    rw [natVal_cons, cmpFra]
    split
    · rw [eq_comm, Nat.compare_eq_gt]; exact Nat.add_pos_left (Nat.mul_pos ‹_› this) _
    · rw [ih, show x = 0 by omega]; simp

theorem cmpFra_correct (xs ys : List Nat) (hx : Digits xs) (hy : Digits ys) :
    cmpFra xs ys = compare (natVal xs * 10 ^ ys.length) (natVal ys * 10 ^ xs.length) := by
  induction xs generalizing ys with
  | nil => simp [cmpFra_nil_left, natVal_nil]
  | cons x xs ih =>
    cases ys with
    | nil => simp [cmpFra_nil_right, natVal_nil]
    | cons y ys =>
      have hxs : Digits xs := fun d hd => hx d (by simp [hd])
      have hys : Digits ys := fun d hd => hy d (by simp [hd])
      have bx := Nat.mul_lt_mul_of_pos_right (natVal_lt xs hxs) (pow10_pos ys.length)
      have by' := Nat.mul_lt_mul_of_pos_left (natVal_lt ys hys) (pow10_pos xs.length)
      -- both tails scaled to the common length `xs.length + ys.length`, then one lexicographic step, times 10
      rw [cmpFra, ite_compare, ih ys hxs hys, ← compare_lex bx (Nat.mul_comm _ _ ▸ by'),
        ← compare_mul_right (show 0 < 10 by omega)]
      simp only [natVal_cons, List.length_cons, Nat.pow_succ]
      congr 1 <;> ring

/-- well-formed normal form, as produced by `scan` -/
structure WFN (n : N) : Prop where
  digits : Digits n.nat
  expLe : n.exp ≤ n.nat.length
  noLead : NoLeadingZero n.int
  negNonzero : n.neg = true → natVal n.nat ≠ 0

theorem digits_take (ds : List Nat) (k : Nat) (h : Digits ds) : Digits (ds.take k) :=
  fun d hd => h d (List.mem_of_mem_take hd)
theorem digits_drop (ds : List Nat) (k : Nat) (h : Digits ds) : Digits (ds.drop k) :=
  fun d hd => h d (List.mem_of_mem_drop hd)

theorem natVal_split (n : N) (h : n.exp ≤ n.nat.length) :
    natVal n.nat = natVal n.int * 10 ^ n.exp + natVal n.fra ∧ n.fra.length = n.exp := by
  have hl : n.fra.length = n.exp := by simp [N.fra]; omega
  refine ⟨?_, hl⟩
  have : n.nat = n.int ++ n.fra := by simp [N.int, N.fra]
  conv => lhs; rw [this]
  rw [natVal_append, hl]

theorem cmpAbs_correct (a b : N) (ha : WFN a) (hb : WFN b) :
    cmpAbs a b = compare (natVal a.nat * 10 ^ b.exp) (natVal b.nat * 10 ^ a.exp) := by
  obtain ⟨sa, la⟩ := natVal_split a ha.expLe
  obtain ⟨sb, lb⟩ := natVal_split b hb.expLe
  have dfa := digits_drop a.nat (a.nat.length - a.exp) ha.digits
  have dfb := digits_drop b.nat (b.nat.length - b.exp) hb.digits
  have bFa := Nat.mul_lt_mul_of_pos_right (la ▸ natVal_lt a.fra dfa) (pow10_pos b.exp)
  have bFb := Nat.mul_lt_mul_of_pos_left (lb ▸ natVal_lt b.fra dfb) (pow10_pos a.exp)
  have : cmpAbs a b = (cmpInt a.int b.int).then (cmpFra a.fra b.fra) := by
    unfold cmpAbs; cases cmpInt a.int b.int <;> rfl
  -- integer parts are the heads, fractional parts (scaled to `a.exp + b.exp` places) the low parts
  rw [this, cmpInt_correct a.int b.int (digits_take _ _ ha.digits) (digits_take _ _ hb.digits) ha.noLead hb.noLead,
    cmpFra_correct a.fra b.fra dfa dfb, la, lb, ← compare_lex bFa (Nat.mul_comm _ _ ▸ bFb), sa, sb]
  congr 1 <;> ring

/-- C10 (model level): `Number.Cmp` is the exact comparison of the decimal values. -/
theorem cmp_correct (a b : N) (ha : WFN a) (hb : WFN b) : a.cmp b = cmpVal a b := by
  unfold N.cmp cmpVal N.mant
  rw [Int.mul_assoc, Int.mul_assoc, cmpAbs_correct a b ha hb]
  exact_mod_cast (signed_compare a.neg b.neg _ _
    (fun h => Nat.mul_pos (Nat.pos_of_ne_zero (ha.negNonzero h)) (pow10_pos b.exp))
    (fun h => Nat.mul_pos (Nat.pos_of_ne_zero (hb.negNonzero h)) (pow10_pos a.exp))).symm

end Num

#print axioms Num.cmp_correct
