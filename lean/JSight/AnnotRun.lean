import JSight.AnnotStep
/-!
C13, inline versus multi-line annotations: runs of the scanner model inside an annotation as `Len.Path`s at
`cfgG lc a q` — blanks (in the multi-line form also line breaks), the bytes of a bare name, spaces, a token
(`tok_runQ`); and ONE annotation from any surrounding configuration: its front for any rule object (`ann_pre_of`), the
note (`ann_note_run`) and the closings of the multi-line form (`ml_pre_end`, `ml_txt_end`), which the annotated scalar
(`AnnotDoc`, `AnnotNote`) and the annotation tokens (`Len.ann_line`, `Len.ml_line`) share. The runs over a rule and
over a rule object are in `AnnotQRun` and `AnnotQObj`.
-/
namespace SchemaScan

variable {data : Array Cls} {lc : Bool}

/-- one byte of a run (`Len.Path.byte` at a configuration). `next` hands every byte to `dispatch` with fuel 8, a bound on
the calls nested for one byte; the single-byte facts are stated at fuel `f + 1`, so the runs here and in the modules
behind cite them with `f = 7`, and with 6 behind a fact that has gone one call down already (`pv_dispatch`, `ev_close…`) -/
theorem cfgG_byte {a : Ann} {q : Bool} {st : St} {r : List St} {K : List (LexT × Nat)} {u : Bool} {i : Nat}
    {CS : List Ctx} {cx : Ctx} {al : Bool} {c : Cls} {s1 s2 : Sc} {evs : List Ev} (hc : data[i]? = some c)
    (hd : ∀ p1 p2, dispatch 8 st (cfgG lc a q st r K u (i + 1) CS cx al) c p1 p2 = .ok s1)
    (hi : s1.index = i + 1) (hdr : drainL data s1.finds s1 = .ok (s2, evs)) :
    Len.Path data (cfgG lc a q st r K u i CS cx al) evs s2 :=
  Len.Path.byte (s := cfgG lc a q st r K u i CS cx al) rfl hc hd hi hdr

theorem cfgG_congr {a : Ann} {q : Bool} {st : St} {r : List St} {K K' : List (LexT × Nat)} {u : Bool} {i i' : Nat}
    {CS : List Ctx} {cx : Ctx} {al : Bool} (hK : K = K') (hi : i = i') :
    cfgG lc a q st r K u i CS cx al = cfgG lc a q st r K' u i' CS cx al := by
  subst hK hi; rfl

/-! ### blanks inside an annotation -/

theorem aLoop_nlSt {a : Ann} {st : St} (h : aLoop a st = true) : aLoop a (nlSt st) = true := by
  cases a <;> cases st <;> cases h <;> rfl

/-- blanks of an annotation of mode `a` -/
def ABlank (a : Ann) (ws : List Cls) : Prop := ∀ c ∈ ws, a.okBlank c = true

theorem ABlank.head {a : Ann} {c : Cls} {ws : List Cls} (h : ABlank a (c :: ws)) : a.okBlank c = true := h c (by simp)
theorem ABlank.tail {a : Ann} {c : Cls} {ws : List Cls} (h : ABlank a (c :: ws)) : ABlank a ws :=
  fun x hx => h x (by simp [hx])

theorem okBlank_cases {a : Ann} {c : Cls} (h : a.okBlank c = true) : c.isSpTab = true ∨ (a = .multi ∧ c = .nl) := by
  simp only [Ann.okBlank, Bool.or_eq_true, Bool.and_eq_true, beq_iff_eq] at h
  exact h

/-- blanks of an annotation, read in states `P` that a line break maps into themselves (`nlSt`): `s st i` is the
configuration in state `st` at position `i` -/
theorem Len.Path.blanks (a : Ann) (s : St → Nat → Sc) (P : St → Prop) (hP : ∀ st, P st → P (nlSt st))
    (hsp : ∀ (st : St) (i : Nat) (c : Cls), P st → c.isSpTab = true → data[i]? = some c →
      Len.Path data (s st i) [] (s st (i + 1)))
    (hnl : a = .multi → ∀ (st : St) (i : Nat), P st → data[i]? = some .nl →
      Len.Path data (s st i) [⟨.newLine, i, i⟩] (s (nlSt st) (i + 1))) :
    ∀ (ws : List Cls), ABlank a ws → ∀ (st : St), P st → ∀ (i : Nat), At data i ws →
    Len.Path data (s st i) (nlEvs i ws) (s (wsSt st ws) (i + ws.length))
  | [], _, _, _, _, _ => Len.Path.refl _
  | c :: ws, hw, st, hl, i, hat => by
    obtain ⟨hc, hat'⟩ := hat
    rcases okBlank_cases hw.head with hs | ⟨rfl, rfl⟩
    · have := Len.Path.trans (hsp st i c hl hs hc) (Len.Path.blanks a s P hP hsp hnl ws hw.tail st hl (i + 1) hat')
      simp only [nlEvs, wsSt, if_neg (sptab_ne_nl hs), List.nil_append, List.length_cons]
      rw [show i + (ws.length + 1) = i + 1 + ws.length by omega]
      exact this
    · have := Len.Path.trans (hnl rfl st i hl hc)
        (Len.Path.blanks .multi s P hP hsp hnl ws hw.tail (nlSt st) (hP st hl) (i + 1) hat')
      simp only [nlEvs, wsSt, if_true, List.length_cons]
      rw [show i + (ws.length + 1) = i + 1 + ws.length by omega]
      exact this

theorem ablank_runQ (a : Ann) (ha : a.isAnn = true) (q : Bool) (ws : List Cls) (hw : ABlank a ws) (st : St)
    (hl : aLoop a st = true)
    (r : List St) (K : List (LexT × Nat)) (i : Nat) (CS : List Ctx) (cx : Ctx) (al : Bool) (hat : At data i ws) :
    Len.Path data (cfgG lc a q st r K false i CS cx al) (nlEvs i ws) (cfgG lc a q (wsSt st ws) r K false (i + ws.length) CS cx al) :=
  Len.Path.blanks a (fun st i => cfgG lc a q st r K false i CS cx al) (aLoop a · = true) (fun _ h => aLoop_nlSt h)
    (fun st i c hl hs hc => cfgG_byte hc (fun p1 p2 => aloop_spQ 7 q a ha st hl c hs r K (i + 1) CS cx al p1 p2) rfl rfl)
    (fun ham st i hl hc => by
      subst ham
      exact cfgG_byte hc (fun p1 p2 => aloop_nlQ 7 q st hl r K (i + 1) CS cx al p1 p2) rfl rfl)
    ws hw st hl i hat

theorem ablank_run (a : Ann) (ha : a.isAnn = true) (ws : List Cls) (hw : ABlank a ws) (st : St) (hl : aLoop a st = true)
    (r : List St) (K : List (LexT × Nat)) (i : Nat) (CS : List Ctx) (cx : Ctx) (al : Bool) (hat : At data i ws) :
    Len.Path data (cfgG lc a false st r K false i CS cx al) (nlEvs i ws) (cfgG lc a false (wsSt st ws) r K false (i + ws.length) CS cx al) :=
  ablank_runQ a ha false ws hw st hl r K i CS cx al hat

/-! ### bytes that only move the index: a bare name, spaces, a token -/

def IsName (n : List Cls) : Prop := n ≠ [] ∧ ∀ c ∈ n, c.isName = true

/-- a run of bytes each of which is read without an event and changes nothing but the index -/
theorem Len.Path.loop (s : Nat → Sc) (P : Cls → Prop)
    (h1 : ∀ (i : Nat) (c : Cls), P c → data[i]? = some c → Len.Path data (s i) [] (s (i + 1))) :
    ∀ (cs : List Cls), (∀ c ∈ cs, P c) → ∀ (i : Nat), At data i cs → Len.Path data (s i) [] (s (i + cs.length))
  | [], _, _, _ => Len.Path.refl _
  | c :: cs, hP, i, hat => by
    have h2 := Len.Path.loop s P h1 cs (fun x hx => hP x (by simp [hx])) (i + 1) hat.2
    have := Len.Path.trans (h1 i c (hP c (by simp)) hat.1) h2
    simp only [List.length_cons]
    rw [show i + (cs.length + 1) = i + 1 + cs.length by omega]
    exact this

theorem name_run (a : Ann) (n : List Cls) (hn : ∀ c ∈ n, c.isName = true) (r : List St)
    (K : List (LexT × Nat)) (i : Nat) (CS : List Ctx) (cx : Ctx) (al : Bool) (hat : At data i n) :
    Len.Path data (cfgG lc a false .annKey r K false i CS cx al) [] (cfgG lc a false .annKey r K false (i + n.length) CS cx al) :=
  Len.Path.loop (fun i => cfgG lc a false .annKey r K false i CS cx al) (·.isName = true)
    (fun i c hc h => cfgG_byte h (fun p1 p2 => annKey_name 7 a c hc r K (i + 1) CS cx al p1 p2) rfl rfl) n hn i hat

theorem spaces_run (a : Ann) (n : Nat) (r : List St)
    (K : List (LexT × Nat)) (i : Nat) (CS : List Ctx) (cx : Ctx) (al : Bool) (hat : At data i (List.replicate n Cls.sp)) :
    Len.Path data (cfgG lc a false .annKeyAfter r K false i CS cx al) [] (cfgG lc a false .annKeyAfter r K false (i + n) CS cx al) := by
  have := Len.Path.loop (fun i => cfgG lc a false .annKeyAfter r K false i CS cx al) (· = Cls.sp)
    (fun i c hc h => cfgG_byte (hc ▸ h) (fun p1 p2 => annKeyAfter_sp 7 a r K (i + 1) CS cx al p1 p2) rfl rfl)
    (List.replicate n Cls.sp) (fun c hc => List.eq_of_mem_replicate hc) i hat
  rwa [List.length_replicate] at this

theorem tok_runQ (a : Ann) (q : Bool) : ∀ (tok : List Cls) (st : St) (r : List St) (u : Bool) (st' : St) (r' : List St)
    (u' : Bool), silentRun st r u tok = some (st', r', u') →
    ∀ (K : List (LexT × Nat)) (i : Nat) (CS : List Ctx) (cx : Ctx) (al : Bool), At data i tok →
    Len.Path data (cfgG lc a q st r K u i CS cx al) [] (cfgG lc a q st' r' K u' (i + tok.length) CS cx al)
  | [], st, r, u, st', r', u', h, K, i, CS, cx, al, _ => by
    simp only [silentRun, Option.some.injEq, Prod.mk.injEq] at h
    obtain ⟨rfl, rfl, rfl⟩ := h
    exact Len.Path.refl _
  | c :: cs, st, r, u, st', r', u', h, K, i, CS, cx, al, hat => by
    obtain ⟨hc, hat'⟩ := hat
    simp only [silentRun] at h
    cases hs : silent st r u c with
    | none => rw [hs] at h; cases h
    | some p =>
      obtain ⟨s1, r1, u1⟩ := p
      rw [hs] at h
      have h1 : Len.Path data (cfgG lc a q st r K u i CS cx al) [] (cfgG lc a q s1 r1 K u1 (i + 1) CS cx al) :=
        cfgG_byte hc (fun p1 p2 => silent_dispatch 7 (cfgG lc a q st r K u (i + 1) CS cx al) c s1 r1 u1 hs p1 p2) rfl rfl
      have h2 := tok_runQ a q cs s1 r1 u1 st' r' u' h K (i + 1) CS cx al hat'
      have := Len.Path.trans h1 h2
      simp only [List.length_cons]
      rw [show i + (cs.length + 1) = i + 1 + cs.length by omega]
      exact this

/-- token automaton inside an annotation: the return stack below the token's own pushes is kept -/
theorem silent_ret (st : St) (r : List St) (u : Bool) (c : Cls) (st' : St) (r' : List St) (u' : Bool) (x : St)
    (h : silent st r u c = some (st', r', u')) : silent st (r ++ [x]) u c = some (st', r' ++ [x], u') := by
  cases st
  case u3 =>
    cases r with
    | nil => cases h
    | cons r0 r => cases c <;> cases h <;> rfl
  case inString | esc | u0 | u1 | u2 => cases c <;> cases h <;> rfl
  case neg | d1 | d0 | dot | dot0 | t | tr | tru | f | fa | fal | fals | n | nu | nul =>
    simp only [silent] at h ⊢; split at h <;> cases h <;> rfl
  all_goals cases h

theorem silentRun_ret : ∀ (tok : List Cls) (st : St) (r : List St) (u : Bool) (st' : St) (r' : List St) (u' : Bool)
    (x : St), silentRun st r u tok = some (st', r', u') → silentRun st (r ++ [x]) u tok = some (st', r' ++ [x], u')
  | [], st, r, u, st', r', u', x, h => by
    simp only [silentRun, Option.some.injEq, Prod.mk.injEq] at h ⊢
    obtain ⟨rfl, rfl, rfl⟩ := h
    exact ⟨rfl, rfl, rfl⟩
  | c :: cs, st, r, u, st', r', u', x, h => by
    simp only [silentRun] at h ⊢
    cases hs : silent st r u c with
    | none => rw [hs] at h; cases h
    | some p =>
      obtain ⟨s1, r1, u1⟩ := p
      rw [hs] at h
      rw [silent_ret st r u c s1 r1 u1 x hs]
      exact silentRun_ret cs s1 r1 u1 st' r' u' x h

theorem replicate_sp_at {i n : Nat} (h : At data i (List.replicate (n + 1) Cls.sp)) :
    data[i]? = some .sp ∧ At data (i + 1) (List.replicate n Cls.sp) := by
  simp only [List.replicate_succ] at h
  exact h

/-! ### the frame of an annotation -/

/-- **the front of an annotation, from any surrounding configuration**: from the state behind its first `/` (the state `r0`
that read it is on the return stack; any lexeme stack `K`, any context, either mode of `lengthComputing`) through the mark,
blanks, `{`, ANY rule object (`body`, its events `bevs`, the flag `q` it leaves: hypothesis `hbody`), `}` and blanks -/
theorem ann_pre_of (a : Ann) (ha : a.isAnn = true) (r0 : St) (K : List (LexT × Nat)) (h : Nat) (CS : List Ctx) (cx : Ctx)
    (al : Bool) (s2 : List Cls) (hs2 : ABlank a s2) (body : List Cls) (bevs : List Ev) (q : Bool)
    (hbody : At data (h + 2 + s2.length + 1) (body ++ [Cls.rbrace]) →
      Len.Path data
        (cfgG lc a false .objKeyOrEmpty [r0] ((.objB, h + 2 + s2.length) :: (a.B, h) :: K) false (h + 2 + s2.length + 1)
          (cx :: CS) { ty := .object } al) bevs
        (cfgG lc a q a.prefixSt [r0] ((a.B, h) :: K) false (h + 2 + s2.length + 1 + body.length + 1) CS cx al))
    (s3 : List Cls) (hs3 : ABlank a s3)
    (hat : At data (h + 1) (a.mark :: (s2 ++ (Cls.lbrace :: (body ++ (Cls.rbrace :: s3)))))) :
    Len.Path data (cfgG lc .none false .anyAnnStart [r0] K false (h + 1) CS cx al)
      (⟨a.B, h, h + 1⟩ :: (nlEvs (h + 2) s2 ++ (⟨.objB, h + 2 + s2.length, h + 2 + s2.length⟩ ::
        (bevs ++ nlEvs (h + 2 + s2.length + 1 + body.length + 1) s3))))
      (cfgG lc a q a.prefixSt [r0] ((a.B, h) :: K) false (h + 2 + s2.length + 1 + body.length + 1 + s3.length) CS cx al) := by
  obtain ⟨hmk, hat⟩ := hat
  rw [show h + 1 + 1 = h + 2 by omega, At_append] at hat
  obtain ⟨hats2, hlb, hat⟩ := hat
  have e : body ++ (Cls.rbrace :: s3) = (body ++ [Cls.rbrace]) ++ s3 := by simp
  rw [e, At_append] at hat
  obtain ⟨hatob, hats3⟩ := hat
  have hst : aLoop a a.startSt = true := by cases a <;> cases ha <;> rfl
  have hpr : aLoop a a.prefixSt = true := by cases a <;> cases ha <;> rfl
  have r1 : Len.Path data (cfgG lc .none false .anyAnnStart [r0] K false (h + 1) CS cx al) [⟨a.B, h, h + 1⟩]
      (cfgG lc a false a.startSt [r0] ((a.B, h) :: K) false (h + 2) CS cx al) := by
    refine cfgG_byte hmk (fun p1 p2 => ann_mark 7 a ha [r0] K _ CS cx al p1 p2) rfl ?_
    cases a <;> cases ha <;> rfl
  have r2 := ablank_run (lc := lc) a ha s2 hs2 a.startSt hst [r0] ((a.B, h) :: K) (h + 2) CS cx al hats2
  rw [wsSt_eq (by cases a <;> simp [Ann.startSt])] at r2
  have r3 : Len.Path data (cfgG lc a false a.startSt [r0] ((a.B, h) :: K) false (h + 2 + s2.length) CS cx al)
      [⟨.objB, h + 2 + s2.length, h + 2 + s2.length⟩]
      (cfgG lc a false .objKeyOrEmpty [r0] ((.objB, h + 2 + s2.length) :: (a.B, h) :: K) false (h + 2 + s2.length + 1)
        (cx :: CS) { ty := .object } al) :=
    cfgG_byte hlb (fun p1 p2 => ann_lbrace 6 a ha [r0] _ _ CS cx al p1 p2) rfl rfl
  have r4 := hbody hatob
  have hl2 : h + 2 + s2.length + 1 + (body ++ [Cls.rbrace]).length = h + 2 + s2.length + 1 + body.length + 1 := by
    simp only [List.length_append, List.length_cons, List.length_nil]; omega
  rw [hl2] at hats3
  have r5 := ablank_runQ (lc := lc) a ha q s3 hs3 a.prefixSt hpr [r0] ((a.B, h) :: K) _ CS cx al hats3
  rw [wsSt_eq (by cases a <;> simp [Ann.prefixSt])] at r5
  exact (Len.Path.trans (Len.Path.trans (Len.Path.trans (Len.Path.trans r1 r2) r3) r4) r5).cast (by simp) rfl

/-- `- spaces note` behind the rule object and its blanks, up to behind the last byte of the note: a note starts with a
byte `c` that is neither space nor tab and holds no line break, `#` or `*` -/
theorem ann_note_run {q : Bool} (a : Ann) (ha : a.isAnn = true) (s4 : List Cls) (hs4 : ∀ x ∈ s4, x.isSpTab = true)
    (c : Cls) (cs : List Cls) (hc0 : c.isSpTab = false) (hall : ∀ x ∈ c :: cs, x.isNoteCh = true) (r : List St)
    (K : List (LexT × Nat)) (t : Nat) (CS : List Ctx) (cx : Ctx) (al : Bool)
    (hat : At data t (Cls.minus :: (s4 ++ (c :: cs)))) :
    Len.Path data (cfgG lc a q a.prefixSt r K false t CS cx al) [⟨a.TB, t + 1 + s4.length, t + 1 + s4.length⟩]
      (cfgG lc a q a.txtSt r ((a.TB, t + 1 + s4.length) :: K) false (t + 1 + s4.length + 1 + cs.length) CS cx al) := by
  obtain ⟨hm, hat⟩ := hat
  rw [At_append] at hat
  obtain ⟨hat4, hc, hatcs⟩ := hat
  have s1 : Len.Path data (cfgG lc a q a.prefixSt r K false t CS cx al) []
      (cfgG lc a q a.prefix2St r K false (t + 1) CS cx al) :=
    cfgG_byte hm (fun p1 p2 => pre_minus 7 a ha r K (t + 1) CS cx al p1 p2) rfl rfl
  have s2 := Len.Path.loop (fun i => cfgG lc a q a.prefix2St r K false i CS cx al) (·.isSpTab = true)
    (fun i x hx h => cfgG_byte h (fun p1 p2 => pre2_sp 7 a ha x hx r K (i + 1) CS cx al p1 p2) rfl rfl) s4 hs4 (t + 1) hat4
  have s3 : Len.Path data (cfgG lc a q a.prefix2St r K false (t + 1 + s4.length) CS cx al)
      [⟨a.TB, t + 1 + s4.length, t + 1 + s4.length⟩]
      (cfgG lc a q a.txtSt r ((a.TB, t + 1 + s4.length) :: K) false (t + 1 + s4.length + 1) CS cx al) := by
    refine cfgG_byte hc (fun p1 p2 => pre2_first 6 a ha c hc0 (hall c (by simp)) r K _ CS cx al p1 p2) rfl ?_
    cases a <;> cases ha <;> rfl
  have s4' := Len.Path.loop (fun i => cfgG lc a q a.txtSt r ((a.TB, t + 1 + s4.length) :: K) false i CS cx al)
    (·.isNoteCh = true)
    (fun i x hx h => cfgG_byte h (fun p1 p2 => txt_char 7 a ha x hx r _ (i + 1) CS cx al p1 p2) rfl rfl) cs
    (fun x hx => hall x (by simp [hx])) (t + 1 + s4.length + 1) hatcs
  exact (Len.Path.trans (Len.Path.trans (Len.Path.trans s1 s2) s3) s4').cast (by simp) rfl

/-- `*/` behind the rule object and its blanks: the state `r0` that read the annotation's first `/` returns -/
theorem ml_pre_end {q : Bool} (r0 : St) (y t : Nat) (K : List (LexT × Nat)) (CS : List Ctx) (cx : Ctx) (al : Bool)
    (hat : At data t [Cls.star, Cls.slash]) :
    Len.Path data (cfgG lc .multi q .mlTxtPrefix [r0] ((.mlAnnB, y) :: K) false t CS cx al) [⟨.mlAnnE, y, t + 1⟩]
      (cfgG lc .none q r0 [] K false (t + 1 + 1) CS cx al) := by
  obtain ⟨h1, h2, _⟩ := hat
  have s1 : Len.Path data (cfgG lc .multi q .mlTxtPrefix [r0] ((.mlAnnB, y) :: K) false t CS cx al) []
      (cfgG lc .multi q .mlAnnEnd [r0] ((.mlAnnB, y) :: K) false (t + 1) CS cx al) :=
    cfgG_byte h1 (fun p1 p2 => mlpre_starQ 7 q [r0] _ (t + 1) CS cx al p1 p2) rfl rfl
  have s2 : Len.Path data (cfgG lc .multi q .mlAnnEnd [r0] ((.mlAnnB, y) :: K) false (t + 1) CS cx al)
      [⟨.mlAnnE, y, t + 1⟩] (cfgG lc .none q r0 [] K false (t + 1 + 1) CS cx al) :=
    cfgG_byte h2 (fun p1 p2 => mlend_slashQ 7 q r0 [] _ (t + 1 + 1) CS cx al p1 p2) rfl rfl
  exact Len.Path.trans s1 s2

/-- `*/` behind the note: the `*` closes the note text (it is told from a `*` inside the note by the `/` behind it) -/
theorem ml_txt_end {q : Bool} (r0 : St) (p y t : Nat) (K : List (LexT × Nat)) (CS : List Ctx) (cx : Ctx) (al : Bool)
    (hat : At data t [Cls.star, Cls.slash]) :
    Len.Path data (cfgG lc .multi q .mlTxt [r0] ((.mlTxtB, p) :: (.mlAnnB, y) :: K) false t CS cx al)
      [⟨.mlTxtE, p, t - 1⟩, ⟨.mlAnnE, y, t + 1⟩] (cfgG lc .none q r0 [] K false (t + 1 + 1) CS cx al) := by
  obtain ⟨h1, h2, _⟩ := hat
  have s1 : Len.Path data (cfgG lc .multi q .mlTxt [r0] ((.mlTxtB, p) :: (.mlAnnB, y) :: K) false t CS cx al)
      [⟨.mlTxtE, p, t - 1⟩] (cfgG lc .multi q .mlAnnEnd [r0] ((.mlAnnB, y) :: K) false (t + 1) CS cx al) := by
    refine (Len.Path.emit1 (s := cfgG lc .multi q .mlTxt [r0] ((.mlTxtB, p) :: (.mlAnnB, y) :: K) false t CS cx al)
      (s1 := { cfgG lc .multi q .mlAnnEnd [r0] ((.mlTxtB, p) :: (.mlAnnB, y) :: K) false (t + 1) CS cx al with
                finds := [.mlTxtE] })
      (s2 := cfgG lc .multi q .mlAnnEnd [r0] ((.mlAnnB, y) :: K) false (t + 1) CS cx al) (e := ⟨.mlTxtE, p, t + 1 - 1 - 1⟩)
      (t := .mlTxtE) (rest := []) rfl h1 ?_ rfl rfl).cast ?_ rfl
    · show dispatch 8 .mlTxt (cfgG lc .multi q .mlTxt [r0] ((.mlTxtB, p) :: (.mlAnnB, y) :: K) false (t + 1) CS cx al) .star
        data[t + 1]? data[t + 1 + 1]? = _
      rw [h2]
      exact mltxt_end 7 [r0] _ (t + 1) CS cx al _
    · simp
  have s2 : Len.Path data (cfgG lc .multi q .mlAnnEnd [r0] ((.mlAnnB, y) :: K) false (t + 1) CS cx al)
      [⟨.mlAnnE, y, t + 1⟩] (cfgG lc .none q r0 [] K false (t + 1 + 1) CS cx al) :=
    cfgG_byte h2 (fun p1 p2 => mlend_slashQ 7 q r0 [] _ (t + 1 + 1) CS cx al p1 p2) rfl rfl
  exact Len.Path.trans s1 s2

end SchemaScan
