import JSight.ExampleTextRProofs
import JSight.ATreeThm
/-!
C15, text level for ANNOTATED trees: the round trip from the loading theorem. `AT.tree_loads` gives the loaded table of the
text of an annotated tree with DECODED keys; `KeysRaw` says what it does not expose, that the recorded key spans are the
tree's key tokens; `annotated_roundtrip_of_keys` composes the two with `exBuildX_sits`. `KeysRawProofs` proves `KeysRaw`
and concludes `annotated_roundtrip`.
-/
namespace AT
open Loader (exampleTextR exBuildR exBuildR_eq_X rawKeysN absX)
open NodeTable (sits_all)

/-- what `C13_annotated_tree_loads` does not expose (its table holds the DECODED keys): the key spans of the loaded
table are the key tokens of the tree -/
def KeysRaw (w0 : Gap) (t : ATree) (w1 : Gap) : Prop :=
  ∀ st, Loader.loadText (docText w0 t w1) = .ok st →
    st.nodes.toList.map (rawKeysN (docText w0 t w1).toArray) = t.rawKeys

theorem annotated_roundtrip_of_keys (w0 : Gap) (t : ATree) (w1 : Gap) (hc : t.isContainer = true)
    (hl : lineOK w0 t = true) (hw : TokOK (docToks w0 t w1)) (hx : t.exClass = true) (hk : KeysRaw w0 t w1) :
    exampleTextR (docText w0 t w1) = .ok t.compact := by
  obtain ⟨st, hload, hroot, habs⟩ := tree_loads w0 t w1 hc hl hw
  have hraw := hk st hload
  unfold abstractOf at habs
  have hT : st.nodes.map (absX (docText w0 t w1).toArray) = (t.nodes none 0).toArray := by
    apply Array.ext'
    simpa [ATree.table] using habs
  have hR : st.nodes.map (rawKeysN (docText w0 t w1).toArray) = t.rawKeys.toArray := by
    apply Array.ext'
    simpa using hraw
  have hsize : st.nodes.size = t.count := by
    have := congrArg List.length habs
    simpa [ATree.table, nodes_length] using this
  unfold exampleTextR
  simp only [hload, hroot, exBuildR_eq_X]
  rw [exBuildX_sits t none 0 (st.nodes.size + 1) (hT ▸ sits_all _) (hR ▸ sits_all _) (by omega) hx]

end AT
