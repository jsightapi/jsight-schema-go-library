import JSight.SchemaGramDoc
import JSight.LayoutAbs
import JSight.ByteLemmas
/-!
C13, user comments: bytes and byte classes; what a layout (`List Lay.LI`: blanks, line comments, block comments)
delivers (`layEvs`); a valid layout is layout in the sense of the grammar of scanned text (`ValidL.gram`), and so is the
end of a text that a last comment runs into (`IsFin.gram`).
-/
namespace Lay
open SchemaScan

/-! ### bytes and byte classes -/

/-- only the third comparison of `classify` answers `nl` -/
theorem cls_nl (c : UInt8) : (classify c == Cls.nl) = isNlB c := by
  unfold isNlB
  by_cases h : (c == 10 || c == 13) = true
  · rw [h]
    simp only [Bool.or_eq_true, beq_iff_eq] at h
    rcases h with rfl | rfl <;> rfl
  · rw [Bool.eq_false_iff.2 h]
    refine beq_eq_false_iff_ne.2 ?_
    unfold classify
    refine Bytes.ite_ne (by decide) (Bytes.ite_ne (by decide) ?_)
    rw [if_neg h]
    iterate 33 refine Bytes.ite_ne (by decide) ?_
    decide

/-- only the thirteenth comparison answers `hash` -/
theorem cls_hash (c : UInt8) : (classify c == Cls.hash) = (c == 35) := by
  by_cases h : (c == 35) = true
  · rw [h, eq_of_beq h]; rfl
  · rw [Bool.eq_false_iff.2 h]
    refine beq_eq_false_iff_ne.2 ?_
    unfold classify
    iterate 12 refine Bytes.ite_ne (by decide) ?_
    rw [if_neg h]
    iterate 23 refine Bytes.ite_ne (by decide) ?_
    decide

theorem cls_sptab (c : UInt8) (hb : isBlankB c = true) (hn : isNlB c = false) : (classify c).isSpTab = true := by
  simp only [isBlankB, Bool.or_eq_true, beq_iff_eq] at hb
  rcases hb with ((rfl | rfl) | rfl) | rfl
  · rfl
  · rfl
  · simp [isNlB] at hn
  · simp [isNlB] at hn

theorem cls_eq_nl {c : UInt8} (h : isNlB c = true) : classify c = .nl := by
  have := cls_nl c; rw [h] at this; simpa using this

theorem cls_ne_nl {c : UInt8} (h : isNlB c = false) : classify c ≠ .nl := by
  have := cls_nl c; rw [h] at this; simpa using this

theorem noTriple_cls : ∀ (l : List UInt8), noTripleC (l.map classify) = noTriple l
  | [] => by simp [noTripleC, noTriple]
  | [_] => by simp [noTripleC, noTriple]
  | [_, _] => by simp [noTripleC, noTriple]
  | a :: b :: c :: rest => by
    have ih := noTriple_cls (b :: c :: rest)
    simp only [List.map_cons] at ih
    simp only [List.map_cons, noTripleC, noTriple, cls_hash, ih]

/-! ### what a layout delivers -/

/-- the lexical events of a layout item at offset `o`: a line break gives one `newLine`; a line comment one for the
comment (at its last byte) and one for its line break; a block comment none -/
def LI.evs (o : Nat) : LI → List Ev
  | .blank b => if isNlB b then [⟨.newLine, o, o⟩] else []
  | .line text _ => [⟨.newLine, o + text.length, o + text.length⟩, ⟨.newLine, o + text.length + 1, o + text.length + 1⟩]
  | .block _ => []

def layEvs : Nat → List LI → List Ev
  | _, [] => []
  | o, it :: w => it.evs o ++ layEvs (o + it.render.length) w

theorem renderL_cons_length (it : LI) (w : List LI) : (renderL (it :: w)).length = it.render.length + (renderL w).length := by
  simp [renderL]

theorem clsL_cons (it : LI) (w : List LI) : clsL (it :: w) = it.render.map classify ++ clsL w := by
  simp [clsL, renderL]

/-- a layout without comments is white space, with the events of white space -/
theorem layEvs_plain : ∀ (w : List LI), PlainL w → ∀ (o : Nat), layEvs o w = nlEvs o (clsL w)
  | [], _, _ => rfl
  | it :: w, hp, o => by
    have ih := layEvs_plain w (fun x hx => hp x (by simp [hx])) (o + 1)
    have hpl := hp it (by simp)
    cases it with
    | blank b =>
      simp only [layEvs, LI.evs, LI.render, List.length_cons, List.length_nil, clsL_cons, List.map_cons, List.map_nil,
        List.cons_append, List.nil_append, nlEvs, ih]
      congr 1
      cases hb : isNlB b
      · simp [cls_ne_nl hb]
      · simp [cls_eq_nl hb]
    | line _ _ => simp [LI.isBlank] at hpl
    | block _ => simp [LI.isBlank] at hpl

/-! ### the end of the text -/

/-- what may stand at the very end: nothing, or a line comment that is not ended by a line break -/
def IsFin (fin : List UInt8) : Prop :=
  fin = [] ∨ ∃ text, fin = 35 :: text ∧ (∀ c ∈ text, isNlB c = false) ∧ text.head? ≠ some (35 : UInt8)

theorem fin_cls {text : List UInt8} (hne : ∀ c ∈ text, isNlB c = false) (hhd : text.head? ≠ some (35 : UInt8)) :
    (∀ c ∈ text.map classify, c ≠ Cls.nl) ∧ (text.map classify).head? ≠ some Cls.hash := by
  constructor
  · intro c hc; obtain ⟨b, hb, rfl⟩ := List.mem_map.1 hc; exact cls_ne_nl (hne b hb)
  · cases text with
    | nil => simp
    | cons b bs =>
      simp only [List.map_cons, List.head?_cons, ne_eq, Option.some.injEq] at hhd ⊢
      intro e
      have := cls_hash b
      rw [e] at this
      simp at this
      exact hhd this

/-! ### a valid layout is layout of the grammar of scanned text -/

open Gram in
theorem ValidL.gram : ∀ {w : List LI}, ValidL w → ∀ o, Layout o (clsL w) (layEvs o w)
  | [], _, o => .nil o
  | it :: w, h, o => by
    have ih := fun o => ValidL.gram (w := w) (fun x hx => h x (by simp [hx])) o
    have hv := h it (by simp)
    rw [clsL_cons]
    cases it with
    | blank b =>
      have hvb : isBlankB b = true := hv
      cases hn : isNlB b with
      | false => simpa [layEvs, LI.evs, LI.render, hn] using Layout.sp (cls_sptab b hvb hn) (ih (o + 1))
      | true => simpa [layEvs, LI.evs, LI.render, hn, cls_eq_nl hn] using Layout.nl (ih (o + 1))
    | line text nl =>
      obtain ⟨hne, hhd, hnl⟩ := hv
      obtain ⟨h1, h2⟩ := fin_cls hne hhd
      have := Layout.line (o := o) h1 h2 ((ih (o + (text.length + 2))).cast (by simp; omega) rfl)
      simpa [layEvs, LI.evs, LI.render, cls_eq_nl hnl, show classify 35 = Cls.hash from rfl, Nat.add_assoc,
        Nat.add_comm 1] using this
    | block body =>
      obtain ⟨hhd, hnt⟩ := hv
      have e35 : classify 35 = Cls.hash := rfl
      have a : (body.map classify ++ [Cls.hash]).head? = some Cls.hash := by
        cases body with
        | nil => rfl
        | cons b bs =>
          simp only [List.cons_append, List.head?_cons, Option.some.injEq] at hhd
          subst hhd; rfl
      have b : noTripleC (body.map classify ++ [.hash, .hash]) = true := by
        have := noTriple_cls (body ++ [35, 35])
        simp only [List.map_append, List.map_cons, List.map_nil, e35] at this
        rw [this]; exact hnt
      have := Layout.block (o := o) a b ((ih (o + (body.length + 5))).cast (by simp; omega) rfl)
      simpa [layEvs, LI.evs, LI.render, e35] using this

theorem IsFin.gram {fin : List UInt8} (hf : IsFin fin) : Gram.Ending (fin.map classify) := by
  rcases hf with rfl | ⟨text, rfl, hne, hhd⟩
  · exact Or.inl rfl
  · exact Or.inr ⟨text.map classify, rfl, fin_cls hne hhd⟩

end Lay
