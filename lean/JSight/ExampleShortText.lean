import JSight.ExampleShortClass
import JSight.RefE2EExamples
/-!
C15 at TEXT level, shortcut leaves: the text-level pipeline (`E2E.validateText`: scanner, loader, compile, check, JSON
scanner, validator machine) ACCEPTS every document text that denotes the example `RE.exampleOf` of its own schema; the
non-vacuity instance `SE.Ex.root` / `RE.Ex.tys`.
-/
namespace RE
open SE (BST BItem BMember TypeText namesOf TextOK TypesOK docText typeTexts typesOf cnOf)

theorem shortcut_text_roundtrip (w0 : SE.Bytes) (t : BST) (w1 : SE.Bytes) (ht : TextOK w0 t w1) (tys : List TypeText)
    (htys : TypesOK tys) (hn : CL.typeNamesOK (typeTexts tys) = true) (opt : Bool)
    (hc : Compile.check (cnOf opt t) (typesOf tys) = .ok ())
    (fuel : Nat) (e : Doc) (he : exampleOf tys fuel t = some e)
    (d : VPos.T UInt8) (hd : (VPos.toJA JsonScan.classify d).Valid) (hde : E2E.docOf d = e) (ws0 ws1 : List UInt8)
    (hw0 : JsonScan.IsWs (ws0.map JsonScan.classify)) (hw1 : JsonScan.IsWs (ws1.map JsonScan.classify)) :
    E2E.validateText (docText w0 t w1) (typeTexts tys) (ws0 ++ (d.render VPos.byteSym ++ ws1)) opt = .acc := by
  rw [text_level_refs w0 t w1 ht tys htys hn opt hc d hd ws0 ws1 hw0 hw1]
  have h : Admits tys opt t (E2E.docOf d) := by
    rw [hde]
    exact example_admitted_text w0 t w1 ht tys htys fuel opt e he
  rw [if_pos h]

namespace Ex
open SE.Ex (root root_ok)
open JsonScan (classify IsKey IsScalar IsWs JA.Valid ValidItems ValidMembers)

/-- the example of `{"a": @A | @B ,⏎ "b": [@C⏎], "c": 1}` with `@A` = `1`, `@B` = `"s"`, `@C` = `{"k": true}`:
`{"a":1,"b":[{"k":true}],"c":1}` — the FIRST name `@A` at the leaf `a` -/
def exDoc : Doc := .obj [("a", .lit [49]), ("b", .arr [.obj [("k", .lit tTrue)]]), ("c", .lit [49])]

theorem exDoc_eq : exampleOf tys 5 root = some exDoc := by rfl

/-- the fuel is the nesting depth of the unfolding (object, array, `@C`, object, leaf): 4 steps do not reach the leaf `true` of `@C` -/
example : exampleOf tys 4 root = none := by rfl

/-- the document text `{"a":1,"b":[{"k":true}],"c":1}` -/
def dEx : DT := .obj [] [m kA (.scalar [49]), m kB (.arr [] [it (.obj [] [m kK (.scalar tTrue)])]), m kC (.scalar [49])]

example : String.fromUTF8! (dEx.render VPos.byteSym).toByteArray = "{\"a\":1,\"b\":[{\"k\":true}],\"c\":1}" := by
  decide +kernel

theorem dEx_doc : E2E.docOf dEx = exDoc := by rfl

theorem dEx_valid : (VPos.toJA classify dEx).Valid :=
  obj_valid (m_valid kA_ok (scalar_valid n1_ok) (m_valid kB_ok
    (arr_valid (it_valid (obj_valid (m_valid kK_ok (scalar_valid true_ok) members_nil)) items_nil))
    (m_valid kC_ok (scalar_valid n1_ok) members_nil)))

end Ex
end RE
