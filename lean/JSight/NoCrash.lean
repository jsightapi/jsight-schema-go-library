import JSight.SimTrailing
/-! C07.2 / C06 for the JSON scanner model: no input makes it reach a Go runtime panic
("Reading from empty stack", "Incorrect ending of the lexical event"): every outcome is acceptance,
`Invalid character`, `Unexpected end of file` or `Empty JSON`. -/
open JsonScan
namespace Sim
open Rfc (Ctx RSt RCfg Num)

def Err.isCrash : Err → Bool
  | .crash _ => true
  | _ => false

theorem atEof_no_crash (m : Cfg) : ∀ e, atEof m = .error e → Err.isCrash e = false := by
  intro e h
  unfold atEof at h
  split at h
  · split at h <;> simp at h; subst h; rfl
  · split at h <;> simp at h; subst h; rfl
  · simp at h; subst h; rfl

theorem run_no_crash (allow : Bool) {m : Cfg} {r : RCfg} (hR : R r m) (cs : List Cls) :
    ∀ e, run allow m cs = .error e → Err.isCrash e = false := by
  induction cs generalizing m r with
  | nil => intro e h; exact atEof_no_crash m e (by simpa [run] using h)
  | cons c cs ih =>
    intro e h
    rcases sim_step allow hR c with ⟨r', m', _, hf, hR'⟩ | ⟨_, ⟨_, hf⟩ | ⟨_, ctx, hf⟩⟩
    · simp only [run, hf, bind, Except.bind] at h
      exact ih hR' e h
    · simp [run, hf, bind, Except.bind, pure, Except.pure] at h
    · simp only [run, hf, bind, Except.bind] at h
      cases h; rfl

/-- the JSON scanner model never panics with a non-library error, whatever the bytes -/
theorem C07_json_no_crash (allow : Bool) (bs : List UInt8) :
    ∀ e, run allow Cfg.init (bs.map classify) = .error e → Err.isCrash e = false :=
  run_no_crash allow R.root _

end Sim

#print axioms Sim.C07_json_no_crash
