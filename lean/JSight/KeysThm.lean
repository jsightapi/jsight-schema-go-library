import JSight.ATreeThm
/-!
C15 / C13, raw keys: `tree_loads_keys` — the text of a well-formed annotated tree loads into the table the tree denotes
WITH ITS KEY TOKENS (`ATree.tableK`): `G.tree_loads` (`ATreeThm`) at the view `AT.G.viewK`, whose nodes are `nodesK`
(`nodesV_viewK`). Before it, the statement of the induction at that view with the node table written out: `AT.K.Seg` and
`AT.K.ValueStmt` are `AT.Seg` and `AT.ValueStmt` over `Loader.K.LS` (the abstraction `absK`: key tokens as written in the
`keys` slot; scanner side unchanged) with the nodes `ATree.nodesKA`, and `AT.K.value_all` reads `G.value_all` in that form.
-/
namespace AT.K
open SchemaScan (Ev LexT Ctx VCtx PV)
open SchemaScan.Len (TC closePV noML)
open Loader (XNode xfresh Fold)
open Loader.K (LS)

def LSx (src : Array UInt8) (st : Loader.St) (a : AS) : Prop := LS src st a.AL a.leaf a.last a.pl a.root

def Loads (i : Nat) (bs : Bytes) (evs : List Ev) (a a' : AS) : Prop :=
  ∀ (src : Array UInt8) (st : Loader.St), Lay.AtB src i bs → LSx src st a →
    ∃ st', Fold src evs st st' ∧ LSx src st' a'

structure Seg (c : TC) (ts : List BTok) (c' : TC) (a a' : AS) : Prop where
  ex : ∃ evs, Scans c (ts.map BTok.cls) evs c' ∧ Loads c.i (bytesOf ts) evs a a'
  idx : c'.i = c.i + (bytesOf ts).length

/-- the closing lexemes of a value -/
theorem Seg.close {c c1 : TC} {e1 : List Ev} {a a1 : AS} (hpv : PV c.st = true) (hg : c.g = false)
    (hc : closePV c = some (c1, e1)) (h1 : PV c1.st = false) (hl : Loads c.i [] e1 a a1) : Seg c [] c1 a a1 :=
  ⟨⟨e1, Scans.close hpv hg hc h1, hl⟩, by
    have := SchemaScan.Len.closePV_index hc
    simp [bytesOf, this]⟩

/-- the nodes of a value before its annotation behind the comma is read -/
def _root_.AT.ATree.nodesKA (par : Option Nat) (n : Nat) (v : ATree) : List XNode :=
  bif v.hasB then (match v with
    | .scalar tok _ => [{ xfresh .lit par with value := some tok }]
    | _ => v.nodesK par n)
  else v.nodesK par n

/-- a value in a container (`ctx`: first item, later item, member value) whose node is `xa`: `G.ValueStmt` at `viewK` with
the node table written out -/
def ValueStmt (v : ATree) : Prop :=
  ∀ (ctx : VCtx) (_ : ctx ≠ .root) (g : Bool) (K : List (LexT × Nat)) (i : Nat) (CS : List Ctx) (cx : Ctx) (al : Bool)
    (_ : noML K = true) (ak : Bool) (pl : Nat) (ak' : Bool) (pl' : Nat) (_ : v.chk ak pl = some (ak', pl'))
    (_ : ak = true → al = true) (_ : TokOK v.toks) (L0 : List XNode) (xa : XNode) (M : List XNode)
    (last root : Option Nat) (_ : xa.kind = ctxKind ctx) (_ : xa.waiting = false),
    ∃ c' last', Seg ⟨ctx.st, g, K, i, CS, cx, al⟩ v.toks c'
        ⟨L0 ++ xa :: M, some L0.length, last, pl, root⟩
        ⟨L0 ++ { xa with children := xa.children ++ [L0.length + 1 + M.length] } ::
            (M ++ v.nodesKA (some L0.length) (L0.length + 1 + M.length)), some L0.length, last', pl', root⟩ ∧
      c'.st = (ctxCk ctx).aft ∧ c'.K = K ∧ c'.CS = CS ∧ (ak' = true → c'.al = true) ∧
      (v.hasB = true → last' = some (L0.length + 1 + M.length))

mutual
theorem nodesK_length : (v : ATree) → (par : Option Nat) → (n : Nat) → (v.nodesK par n).length = v.count
  | .scalar _ _, _, _ => rfl
  | .arr _ its, _, n => by simp [ATree.nodesK, ATree.count, itemsNodesK_length its]; omega
  | .obj _ ms, _, n => by simp [ATree.nodesK, ATree.count, membersNodesK_length ms]; omega
theorem itemsNodesK_length : (its : AItems) → (a n : Nat) → (its.nodesK a n).length = its.count
  | .nil _, _, _ => rfl
  | .cons _ v _ _ rest, a, n => by
    simp [AItems.nodesK, AItems.count, nodesK_length v, itemsNodesK_length rest]
theorem membersNodesK_length : (ms : AMembers) → (a n : Nat) → (ms.nodesK a n).length = ms.count
  | .nil _, _, _ => rfl
  | .cons _ _ _ _ v _ _ rest, a, n => by
    simp [AMembers.nodesK, AMembers.count, nodesK_length v, membersNodesK_length rest]
end

theorem nodesKA_length (v : ATree) (par : Option Nat) (n : Nat) : (v.nodesKA par n).length = v.count := by
  unfold ATree.nodesKA
  cases h : v.hasB with
  | false => exact nodesK_length v par n
  | true =>
    cases v with
    | scalar tok an => rfl
    | arr _ _ => exact nodesK_length _ par n
    | obj _ _ => exact nodesK_length _ par n

attribute [local instance] G.viewK

theorem keysV_viewK (ms : AMembers) : ms.keysV = ms.rkeys := List.map_id _

mutual
theorem nodesV_viewK : (v : ATree) → (par : Option Nat) → (n : Nat) → v.nodesV par n = v.nodesK par n
  | .scalar _ _, _, _ => rfl
  | .arr _ its, _, n => by simp only [ATree.nodesV, ATree.nodesK, itemsNodesV_viewK its]
  | .obj _ ms, _, n => by simp only [ATree.nodesV, ATree.nodesK, membersNodesV_viewK ms, keysV_viewK]
theorem itemsNodesV_viewK : (its : AItems) → (a n : Nat) → its.nodesV a n = its.nodesK a n
  | .nil _, _, _ => rfl
  | .cons _ v _ _ rest, a, n => by simp only [AItems.nodesV, AItems.nodesK, nodesV_viewK v, itemsNodesV_viewK rest]
theorem membersNodesV_viewK : (ms : AMembers) → (a n : Nat) → ms.nodesV a n = ms.nodesK a n
  | .nil _, _, _ => rfl
  | .cons _ _ _ _ v _ _ rest, a, n => by
    simp only [AMembers.nodesV, AMembers.nodesK, nodesV_viewK v, membersNodesV_viewK rest]
end

theorem nodesVA_viewK (v : ATree) (par : Option Nat) (n : Nat) : v.nodesVA par n = v.nodesKA par n := by
  unfold ATree.nodesVA ATree.nodesKA
  cases v <;> simp only [nodesV_viewK]

theorem ls_view {src : Array UInt8} {st : Loader.St} {AL : List XNode} {leaf last : Option Nat} {pl : Nat}
    {root : Option Nat} : G.View.LS src st AL leaf last pl root ↔ LS src st AL leaf last pl root :=
  Loader.K.LS.iffG.symm

theorem Seg.of_view {c c' : TC} {ts : List BTok} {a a' : AS} (h : G.Seg c ts c' a a') : Seg c ts c' a a' := by
  obtain ⟨evs, s, l⟩ := h.ex
  refine ⟨⟨evs, s, fun src st hat hl => ?_⟩, h.idx⟩
  obtain ⟨st', f, l'⟩ := l src st hat (ls_view.mpr hl)
  exact ⟨st', f, ls_view.mp l'⟩

theorem value_all : (v : ATree) → ValueStmt v := by
  intro v ctx hctx g K i CS cx al hK ak pl ak' pl' hchk hak hw L0 xa M last root hk hwt
  obtain ⟨c', last', L, hst, hl⟩ := G.value_all v ctx ⟨ctx.st, g, K, i, CS, cx, al⟩ ak ⟨L0, xa, M, last, pl, root⟩ ak' pl'
    hctx rfl ⟨hK, hak⟩ ⟨hk, hwt⟩ hchk hw
  have s := L.seg
  simp only [Cont.as, Cont.grow, Cont.next, Cont.n, List.append_nil, nodesVA_viewK] at s
  exact ⟨c', last', Seg.of_view s, hst, L.K, L.CS, L.al hak, hl⟩

/-- **the text of a well-formed annotated tree loads into the table the tree denotes, key TOKENS included**: the
key spans the loader records are the key tokens of the tree as written -/
theorem tree_loads_keys (w0 : Gap) (t : ATree) (w1 : Gap) (hc : t.isContainer = true) (hl : lineOK w0 t = true)
    (hw : TokOK (docToks w0 t w1)) :
    ∃ st, Loader.loadText (docText w0 t w1) = .ok st ∧ st.root = some 0 ∧
      st.nodes.toList.map (Loader.K.absK (docText w0 t w1).toArray) = t.tableK := by
  obtain ⟨st, leaf, last, pl, hload, hls⟩ := G.tree_loads w0 t w1 hc hl hw
  have hls' : LS (docText w0 t w1).toArray st t.tableV leaf last pl (some 0) := ls_view.mp hls
  exact ⟨st, hload, hls'.root, hls'.nodes.trans (nodesV_viewK t none 0)⟩

end AT.K
