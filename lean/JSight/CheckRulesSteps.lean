import JSight.CheckRulesBasics
/-!
Each step of `compileNode` (and the two steps after it) as "its complaints in code order and the next map":
`step c m = firstErr (stepRows c m) (stepNext m)`. `stepOK c m` is the condition "no complaint": where a step has
several rows it is DEFINED as `(stepRows c m).all (·.isNone)`, where it has one the row is `gd (stepOK c m) code`.
-/
namespace CR

/-! ### orConstraint -/

def orNext (m : CMap) : CMap := if m.has .or then m.del .or else m

def orRows (c : Ctx) (m : CMap) : List (Option Code) :=
  if m.has .or then
    [gd (m.has .typesList) 801, gd (rawIs m q_mixed) 1111,
     gd (decide (m.len - 1 - bnat (m.has .or) - bnat (m.has .optional) - bnat (m.has .nullable) - bnat (m.has .type) = 0)) 1103,
     gd (!(c.isBranch && decide (c.children ≠ 0))) 1108, gd (!(c.isBranch && usersAny m)) 1108,
     gd (!(decide (c.cls = .mixedValue) && decide (m .or = some (.or false)) && usersAny m)) 1108]
  else []

def orOK (c : Ctx) (m : CMap) : Bool := (orRows c m).all (·.isNone)

theorem or_rows (c : Ctx) (m : CMap) : orConstraint c m = firstErr (orRows c m) (orNext m) := by
  unfold orConstraint orRows orNext
  cases m.has .or
  · rfl
  cases m.has .typesList
  · rfl
  cases rawIs m q_mixed
  · rfl
  generalize m.len - 1 - bnat true - bnat (m.has .optional) - bnat (m.has .nullable) - bnat (m.has .type) = n
  by_cases hn : n = 0
  case neg => simp [hn, firstErr_gd]
  simp only [hn, ne_eq, not_true, if_false, decide_true, Bool.not_true, Bool.false_eq_true, if_true, firstErr_gd]
  generalize (c.isBranch && decide ¬c.children = 0) = b1
  generalize (c.isBranch && usersAny m) = b2
  generalize (decide (c.cls = .mixedValue) && decide (m .or = some (.or false)) && usersAny m) = b3
  cases b1 <;> cases b2 <;> cases b3 <;> rfl

/-! ### enumConstraint -/

def enumRows (m : CMap) : List (Option Code) :=
  if m.has .enum then
    [gd (rawIs m q_enum) 1111,
     gd (decide (m.len - 1 - bnat (m.has .optional) - bnat (m.has .const) - bnat (m.has .nullable) - bnat (m.has .type) = 0)) 1104]
  else []

def enumOK (m : CMap) : Bool := (enumRows m).all (·.isNone)

theorem enum_rows (m : CMap) : enumConstraint m = firstErr (enumRows m) m := by
  unfold enumConstraint enumRows
  generalize (m.len - 1 - bnat (m.has .optional) - bnat (m.has .const) - bnat (m.has .nullable) - bnat (m.has .type)) = N
  cases m.has .enum
  · rfl
  cases rawIs m q_enum
  · rfl
  by_cases hN : N = 0 <;> simp [hN, firstErr_gd, firstErr_nil]

/-! ### precisionConstraint -/

def precOK (m : CMap) : Bool :=
  !m.has .precision || (match typeTok m with | some (tok, _) => decide (tyOf tok = .decimal) | none => true)

theorem prec_rows (m : CMap) : precisionConstraint m = firstErr [gd (precOK m) 1117] m := by
  unfold precisionConstraint precOK
  cases m.has .precision
  · rfl
  cases typeTok m with
  | none => rfl
  | some p =>
    obtain ⟨tok, gen⟩ := p
    by_cases h : tyOf tok = .decimal <;> simp [h, firstErr_gd, firstErr_nil]

/-! ### typeConstraint -/

/-- the constraint a type name adds -/
def tyAdd : TyName → Option CT
  | .any => some .any
  | .email => some .email | .uri => some .uri | .uuid => some .uuid | .date => some .date | .datetime => some .datetime
  | .user => some .typesList
  | _ => none

def tyAddVal : TyName → CV
  | .user => .types [true]
  | _ => .unit

def typeNext (m : CMap) : CMap :=
  match typeTok m with
  | none => m
  | some (tok, _) =>
    match tyAdd (tyOf tok) with
    | some k => (m.set k (tyAddVal (tyOf tok))).del .type
    | none => m.del .type

theorem realTypeOK_json (t jt : JT) : realTypeOK (.json t) jt = decide (jt = t) := rfl

/-- does the named type fit the node's JSON type (`SetRealType`; not asked of a node without one) -/
def fits (c : Ctx) (ty : TyName) : Bool := decide (c.cls = .mixed) || decide (c.cls = .mixedValue) || realTypeOK ty c.jt

/-- the complaints of `typeConstraint` about the type name `ty` (written with source flag `gen`) -/
def tyRows (c : Ctx) (m : CMap) (ty : TyName) (gen : Bool) : List (Option Code) :=
  match ty with
  | .user => [gd (decide (m.len - bnat (m.has .optional) - bnat (m.has .nullable) = 1)) 1102, gd (!c.isBranch) 1107,
              gd (!(decide (c.cls = .mixedValue) && !gen)) 1107, gd (!m.has .typesList) 501]
  | .mixed => [gd (decide (2 ≤ typesLen m)) 1114]
  | .enum => [gd (m.has .enum) 1113, gd (fits c .enum) 1115]
  | .any => [gd (!m.has .any) 501]
  | .decimal => [gd (m.has .precision) 1112, gd (fits c .decimal) 1115]
  | .email => [gd (!m.has .email) 501, gd (fits c .email) 1115]
  | .uri => [gd (!m.has .uri) 501, gd (fits c .uri) 1115]
  | .uuid => [gd (!m.has .uuid) 501, gd (fits c .uuid) 1115]
  | .date => [gd (!m.has .date) 501, gd (fits c .date) 1115]
  | .datetime => [gd (!m.has .datetime) 501, gd (fits c .datetime) 1115]
  | .json t => [gd (decide (c.cls = .mixed) || decide (t = c.jt)) 1115, gd (fits c (.json t)) 1115]
  | .unknown => [some 102]

def typeRows (c : Ctx) (m : CMap) : List (Option Code) :=
  match typeTok m with
  | none => []
  | some (tok, gen) => tyRows c m (tyOf tok) gen

def typeOK (c : Ctx) (m : CMap) : Bool := (typeRows c m).all (·.isNone)

theorem toOpt_addBase (m : CMap) (k : CT) (v : CV) : toOpt (addBase m k v) = if m.has k then none else some (m.set k v) := by
  unfold addBase; cases m.has k <;> rfl

theorem addBase_rows (m : CMap) (k : CT) (v : CV) : addBase m k v = firstErr [gd (!m.has k) 501] (m.set k v) := by
  unfold addBase; cases m.has k <;> rfl

theorem type_rows (c : Ctx) (m : CMap) : typeConstraint c m = firstErr (typeRows c m) (typeNext m) := by
  unfold typeConstraint typeRows typeNext
  cases typeTok m with
  | none => rfl
  | some p =>
    obtain ⟨tok, gen⟩ := p
    simp only
    -- the last test of the branch for a named type, on whatever map the branch hands on
    have fit : ∀ (ty : TyName) (x : CMap), (if (c.cls = .mixed || c.cls = .mixedValue || realTypeOK ty c.jt) = true
        then Except.ok (x.del .type) else Except.error 1115) = firstErr [gd (fits c ty) 1115] (x.del .type) := by
      intro ty x; unfold fits; cases (decide (c.cls = .mixed) || decide (c.cls = .mixedValue) || realTypeOK ty c.jt) <;> rfl
    cases tyOf tok with
    | user =>
      simp only [tyRows, tyAdd, tyAddVal, if_true]
      by_cases hn : m.len - bnat (m.has CT.optional) - bnat (m.has CT.nullable) = 1
      case neg => simp [hn, firstErr_gd]
      simp only [hn, ne_eq, not_true, if_false, decide_true, firstErr_gd, if_true]
      cases c.isBranch
      case true => rfl
      cases hb : (decide (c.cls = Cls.mixedValue) && !gen)
      case true => simp
      simp only [Bool.false_eq_true, if_false, Bool.not_false, if_true, addBase_rows, firstErr_bind]
      cases m.has .typesList <;> rfl
    | email | uri | uuid | date | datetime =>
      simp only [tyRows, tyAdd, tyAddVal, reduceCtorEq, if_false, fit, addBase_rows, firstErr_append]; rfl
    | any =>
      simp only [tyRows, tyAdd, tyAddVal, reduceCtorEq, if_false, fit, addBase_rows, firstErr_append]
      simp [fits, realTypeOK, firstErr_gd]
    | mixed =>
      simp only [tyRows, tyAdd, reduceCtorEq, if_false, fit]
      by_cases hl : typesLen m < 2
      · have : ¬ 2 ≤ typesLen m := by omega
        simp [hl, this, firstErr_gd] <;> rfl
      · have : 2 ≤ typesLen m := by omega
        simp [hl, this, firstErr_gd, fits, realTypeOK] <;> rfl
    | enum =>
      simp only [tyRows, tyAdd, reduceCtorEq, if_false, fit]
      cases m.has .enum <;> rfl
    | decimal =>
      simp only [tyRows, tyAdd, reduceCtorEq, if_false, fit]
      cases m.has .precision <;> rfl
    | json t =>
      simp only [tyRows, tyAdd, reduceCtorEq, if_false, fit]
      by_cases hm : c.cls = .mixed
      · simp [hm, firstErr_gd] <;> rfl
      · by_cases ht : t = c.jt
        · simp [hm, ht, firstErr_gd] <;> rfl
        · simp [hm, ht, firstErr_gd] <;> rfl
    | unknown => simp [tyRows]; rfl

/-! ### allowedConstraintCheck, anyConstraint -/

def allowedRows (m : CMap) : List (Option Code) :=
  [gd (!(hasFormat m && (m.has .minLength || m.has .maxLength || m.has .regex))) 1117,
   gd (!(m.has .any && m.has .const)) 1117]

def allowedOK (m : CMap) : Bool := (allowedRows m).all (·.isNone)

theorem allowed_rows (m : CMap) : allowedConstraintCheck m = firstErr (allowedRows m) m := by
  unfold allowedConstraintCheck allowedRows
  generalize (hasFormat m && (m.has .minLength || m.has .maxLength || m.has .regex)) = a
  generalize (m.has .any && m.has .const) = b
  cases a <;> cases b <;> rfl

def anyRows (c : Ctx) (m : CMap) : List (Option Code) :=
  [gd (!m.has .any || decide (m.len - 1 - bnat (m.has .optional) - bnat (m.has .nullable) - bnat (m.has .const) = 0)) 1105,
   gd (!m.has .any || !(c.isBranch && decide (c.children ≠ 0))) 1106]

def anyOK (c : Ctx) (m : CMap) : Bool := (anyRows c m).all (·.isNone)

theorem any_rows (c : Ctx) (m : CMap) : anyConstraint c m = firstErr (anyRows c m) m := by
  unfold anyConstraint anyRows
  generalize m.has .any = A
  generalize (m.len - 1 - bnat (m.has .optional) - bnat (m.has .nullable) - bnat (m.has .const)) = N
  generalize (c.isBranch && decide (c.children ≠ 0)) = B
  cases A
  · rfl
  by_cases hN : N = 0
  · cases B <;> simp [hN, firstErr_gd, firstErr_nil]
  · simp [hN, firstErr_gd]

/-! ### the exclusive flags -/

/-- the two exclusive steps are one step, on the flag `f` and its bound `b` -/
theorem exStep_rows (f b : CT) (e : Code) (m : CMap) :
    (match m f with
      | none => .ok m
      | some v => if !m.has b then .error e else .ok ((if v = .flag true then setExclusive m b else m).del f))
    = firstErr [gd (!m.has f || m.has b) e]
        (match m f with | none => m | some v => (if v = .flag true then setExclusive m b else m).del f) := by
  unfold CMap.has
  cases m f with
  | none => rfl
  | some v => cases (m b).isSome <;> rfl

def exMinOK (m : CMap) : Bool := !m.has .exclusiveMinimum || m.has .min
def exMinNext (m : CMap) : CMap :=
  match m .exclusiveMinimum with
  | none => m
  | some v => (if v = .flag true then setExclusive m .min else m).del .exclusiveMinimum

theorem exMin_rows (m : CMap) : exclusiveMinimumConstraint m = firstErr [gd (exMinOK m) 1109] (exMinNext m) :=
  exStep_rows .exclusiveMinimum .min 1109 m

def exMaxOK (m : CMap) : Bool := !m.has .exclusiveMaximum || m.has .max
def exMaxNext (m : CMap) : CMap :=
  match m .exclusiveMaximum with
  | none => m
  | some v => (if v = .flag true then setExclusive m .max else m).del .exclusiveMaximum

theorem exMax_rows (m : CMap) : exclusiveMaximumConstraint m = firstErr [gd (exMaxOK m) 1110] (exMaxNext m) :=
  exStep_rows .exclusiveMaximum .max 1110 m

/-- the map after both exclusive steps -/
def exNext (m : CMap) : CMap := exMaxNext (exMinNext m)

/-! ### pairs, optional, empty array, allOf, compatibility -/

def pairNumRow (x y : Option CV) : Option Code :=
  match x, y with
  | some (.num a ea), some (.num b eb) =>
    if ea || eb then gd (decide (a.cmp b = .lt)) 618 else gd (decide (a.cmp b ≠ .gt)) 617
  | _, _ => none

def pairNatRow (x y : Option CV) : Option Code :=
  match x, y with
  | some (.nat a), some (.nat b) => gd (decide (a ≤ b)) 617
  | _, _ => none

theorem pairNum_row (x y : Option CV) : pairNum x y = firstErr [pairNumRow x y] () := by
  unfold pairNum pairNumRow
  split
  · rename_i a ea b eb
    dsimp only
    cases ea <;> cases eb <;> cases a.cmp b <;> rfl
  · split
    · rename_i h; exact (h _ _ _ _ rfl rfl).elim
    · rfl

theorem pairNat_row (x y : Option CV) : pairNat x y = firstErr [pairNatRow x y] () := by
  unfold pairNat pairNatRow
  split
  · rename_i a b
    by_cases h : a ≤ b
    · have : ¬ a > b := by omega
      simp [h, this, firstErr_gd, firstErr_nil]
    · have : a > b := by omega
      simp [h, this, firstErr_gd]
  · split
    · rename_i h; exact (h _ _ rfl rfl).elim
    · rfl

theorem pairNatRow_isNone (x y : Option CV) : (pairNatRow x y).isNone = natPairOK x y := by
  unfold pairNatRow natPairOK
  split
  · exact gd_isNone _ _
  · split
    · rename_i h; exact (h _ _ rfl rfl).elim
    · rfl

def pairRows (m : CMap) : List (Option Code) :=
  [pairNumRow (m .min) (m .max), pairNatRow (m .minLength) (m .maxLength), pairNatRow (m .minItems) (m .maxItems)]

def pairsOK (m : CMap) : Bool := (pairRows m).all (·.isNone)

theorem pairs_rows (m : CMap) : checkPairConstraints m = firstErr (pairRows m) m := by
  unfold checkPairConstraints pairRows
  rw [pairNum_row, pairNat_row, pairNat_row]
  cases pairNumRow (m .min) (m .max) <;> cases pairNatRow (m .minLength) (m .maxLength)
    <;> cases pairNatRow (m .minItems) (m .maxItems) <;> rfl

def optOK (c : Ctx) (m : CMap) : Bool := !(m.has .optional && !c.isProp)

theorem opt_rows (c : Ctx) (m : CMap) : optionalConstraints c m = firstErr [gd (optOK c m) 1101] m := by
  unfold optionalConstraints optOK
  cases (m.has .optional && !c.isProp) <;> rfl

def emptyRows (c : Ctx) (m : CMap) : List (Option Code) :=
  [gd (!(decide (c.cls = .array) && decide (c.children = 0)) || !countNonZero (m .minItems)) 1204,
   gd (!(decide (c.cls = .array) && decide (c.children = 0)) || !countNonZero (m .maxItems)) 1204]

def emptyOK (c : Ctx) (m : CMap) : Bool := (emptyRows c m).all (·.isNone)

theorem empty_rows (c : Ctx) (m : CMap) : emptyArray c m = firstErr (emptyRows c m) m := by
  unfold emptyArray emptyRows
  by_cases h1 : c.cls = .array <;> by_cases h2 : c.children = 0
    <;> cases countNonZero (m .minItems) <;> cases countNonZero (m .maxItems) <;> simp [h1, h2, firstErr_gd, firstErr_nil]

def allOfNext (m : CMap) : CMap :=
  match m .allOf with
  | some (.allOf _) => m.del .allOf
  | _ => m

def allOfRows (c : Ctx) (m : CMap) : List (Option Code) :=
  match m .allOf with
  | some (.allOf ns) => [gd (!ns.isEmpty) 809, gd (decide (c.cls = .object)) 1117]
  | _ => []

def allOfOK (c : Ctx) (m : CMap) : Bool := (allOfRows c m).all (·.isNone)

theorem allOf_rows (c : Ctx) (m : CMap) : allOfStep c m = firstErr (allOfRows c m) (allOfNext m) := by
  unfold allOfStep allOfRows allOfNext
  cases m .allOf with
  | none => rfl
  | some v => cases v with
    | allOf ns =>
      dsimp only
      cases ns.isEmpty
      · by_cases h : c.cls = .object <;> simp [h, firstErr_gd, firstErr_nil]
      · rfl
    | _ => rfl

def compatOK (c : Ctx) (m : CMap) : Bool :=
  decide (c.cls = .mixed) || decide (c.cls = .mixedValue) || CT.all.all (fun k => !m.has k || compat k c.jt)

theorem compat_rows (c : Ctx) (m : CMap) : checkCompat c m = firstErr [gd (compatOK c m) 1117] () := by
  unfold checkCompat compatOK
  generalize (decide (c.cls = .mixed) || decide (c.cls = .mixedValue)) = a
  generalize CT.all.all (fun k => !m.has k || compat k c.jt) = b
  cases a <;> cases b <;> rfl

end CR
