import JSight.CheckerPos
import JSight.CheckerViolates
import JSight.CheckerSound
import JSight.CheckerFuel
/-!
# C04 — a violated rule makes the checker fail, at the first offending value

`violates`: the node's own EXAMPLE value breaks one of the node's own rules — for a literal: no alternative of the
node admits its own token (a bound, a length, a pattern, enum membership, a format, const, the kind: whatever
`ValidateLiteralValue` tests); for an array: the number of items of the EXAMPLE is below `minItems` / above `maxItems`.
Then the node's own check fails (`nodeErr_of_violates`), so `CheckRootSchema` fails, and what it reports is the error
of the FIRST offending node in source order (`checker_first_root`), at that node's position (`nodeErr_pos`, `CheckerPos`).
`violates` is written with `literalAccepts` and read off the literal check by `literalErr_none_iff`, both of `CheckerSound`.
-/
namespace CK
open RulesF (Oracles)

theorem arrayNodeErr_none_iff (h : Hd) : arrayNodeErr h = none ↔ itemsViolate h = false := by
  unfold arrayNodeErr itemsViolate
  cases minItems? h.info.cs with
  | none =>
    cases maxItems? h.info.cs with
    | none => simp
    | some m => by_cases hm : h.len > m <;> simp [hm]
  | some n =>
    by_cases hn : h.len < n
    · simp [hn]
    · cases maxItems? h.info.cs with
      | none => simp [hn]
      | some m => by_cases hm : h.len > m <;> simp [hn, hm]

theorem orElse_ne_none_left (a : Option Panic) (b : Unit → Option Panic) (h : a ≠ none) : orElse a b ≠ none := by
  cases a with
  | none => exact absurd rfl h
  | some p => simp [orElse]

/-- a violated rule makes the node's own check fail. `hl`, here and below: the lexeme of a literal node is a `LiteralEnd`, which is what `literalErr_none_iff` needs to
read the EXAMPLE token -/
theorem nodeErr_of_violates (o : Oracles) (env : Env) (h : Hd) (hl : h.info.nk = .lit → h.info.lex.ty = .litEnd)
    (hv : violates o env h = true) : nodeErr o env h ≠ none := by
  intro hn
  have hp := forall_parts.1 (nodeErr_none_iff.1 hn)
  unfold violates at hv
  cases hk : h.info.nk with
  | lit =>
    rw [hk] at hv
    rw [(literalErr_none_iff o env h.info (hl hk)).1 (hp.2.2.1 hk)] at hv
    cases hv
  | arr =>
    rw [hk] at hv
    rw [(arrayNodeErr_none_iff h).1 (hp.2.2.2.1 hk).2] at hv
    cases hv
  | obj => simp [hk] at hv
  | mixed => simp [hk] at hv
  | mixedValue => simp [hk] at hv

/-- conversely, on a node whose structural checks pass (rule / kind compatibility, references) a failing own check of a
literal or an array IS a violated rule -/
theorem violates_of_nodeErr (o : Oracles) (env : Env) (h : Hd) (hl : h.info.nk = .lit → h.info.lex.ty = .litEnd)
    (hc : compatErr h.info = none) (hk : linksErr env h.info = none)
    (ha : h.info.nk = .arr → arrayItems env env.fuel h = none)
    (hnk : h.info.nk = .lit ∨ h.info.nk = .arr) (he : nodeErr o env h ≠ none) : violates o env h = true := by
  cases hv : violates o env h with
  | true => rfl
  | false =>
    unfold violates at hv
    refine absurd (nodeErr_none_iff.2 (forall_parts.2 ⟨hc, hk, fun hn => ?_, fun hn => ⟨ha hn, ?_⟩, fun hn => ?_⟩)) he
    · rw [hn] at hv
      exact (literalErr_none_iff o env h.info (hl hn)).2 (by simpa using hv)
    · rw [hn] at hv
      exact (arrayNodeErr_none_iff h).2 hv
    · rcases hnk with e | e <;> rw [hn] at e <;> cases e

theorem panicRes_doc (ut : Option Name) (shift c f q : Nat) : panicRes ut shift (.doc c f q) = .err c f (q + shift) ut := rfl

/-- when some node of the root offends, `CheckRootSchema` reports the own error of a node `h₀` of the
root such that every node before it in source order passes -/
theorem checker_first_root (o : Oracles) (s : Schema) (r : Node) (hr : s.root = some r)
    (hv : ∃ h ∈ preorder r, nodeErr o s.env h ≠ none) :
    ∃ pre h₀ post p, preorder r = pre ++ h₀ :: post ∧ (∀ h ∈ pre, nodeErr o s.env h = none) ∧
      nodeErr o s.env h₀ = some p ∧ checkSchema o s = panicRes none 0 p := by
  obtain ⟨h, hm, hne⟩ := hv
  have hsome : (preorder r).findSome? (nodeErr o s.env) ≠ none := by
    intro hn
    exact hne (List.findSome?_eq_none_iff.1 hn h hm)
  cases hf : (preorder r).findSome? (nodeErr o s.env) with
  | none => exact absurd hf hsome
  | some p =>
    obtain ⟨pre, h₀, post, hsplit, hp, hpre⟩ := List.findSome?_eq_some_iff.1 hf
    refine ⟨pre, h₀, post, p, hsplit, hpre, hp, ?_⟩
    unfold checkSchema
    rw [hr]
    simp only [checkNode_eq, hf]

/-- … and when the offsets of the root's nodes increase in source order (as they do in a text), that node is the offending
node with the SMALLEST offset -/
theorem checker_first_offset (o : Oracles) (s : Schema) (r : Node) (hr : s.root = some r)
    (hsorted : ((preorder r).map fun h => h.info.lex.begin).Pairwise (· < ·))
    (hv : ∃ h ∈ preorder r, nodeErr o s.env h ≠ none) :
    ∃ h₀ ∈ preorder r, ∃ p, nodeErr o s.env h₀ = some p ∧ checkSchema o s = panicRes none 0 p ∧
      ∀ h ∈ preorder r, nodeErr o s.env h ≠ none → h₀.info.lex.begin ≤ h.info.lex.begin := by
  obtain ⟨pre, h₀, post, p, hsplit, hpre, hp, hc⟩ := checker_first_root o s r hr hv
  refine ⟨h₀, by rw [hsplit]; simp, p, hp, hc, ?_⟩
  intro h hm hne
  rw [hsplit] at hm hsorted
  rw [List.pairwise_map, List.pairwise_append] at hsorted
  rcases List.mem_append.1 hm with h1 | h1
  · exact absurd (hpre h h1) hne
  · rcases List.mem_cons.1 h1 with rfl | h2
    · exact Nat.le_refl _
    · exact Nat.le_of_lt ((List.pairwise_cons.1 hsorted.2.1).1 h h2)

/-- a node of the root whose own EXAMPLE value violates one of its own rules makes `CheckRootSchema` fail with the
own error of an offending node of the root that is not after it in source order -/
theorem checker_complete_root (o : Oracles) (s : Schema) (r : Node) (hr : s.root = some r)
    (h : Hd) (hm : h ∈ preorder r) (hl : h.info.nk = .lit → h.info.lex.ty = .litEnd)
    (hv : violates o s.env h = true) :
    ∃ pre h₀ post p, preorder r = pre ++ h₀ :: post ∧ h ∉ pre ∧ nodeErr o s.env h₀ = some p ∧
      checkSchema o s = panicRes none 0 p := by
  have hne := nodeErr_of_violates o s.env h hl hv
  obtain ⟨pre, h₀, post, p, hsplit, hpre, hp, hc⟩ := checker_first_root o s r hr ⟨h, hm, hne⟩
  exact ⟨pre, h₀, post, p, hsplit, fun hin => hne (hpre h hin), hp, hc⟩

/-- the same for a node anywhere in the schema (root or a type): `Check` does not succeed -/
theorem checker_complete_any (o : Oracles) (s : Schema) (x : Occ) (hx : x ∈ s.occs)
    (hl : x.hd.info.nk = .lit → x.hd.info.lex.ty = .litEnd) (hv : violates o s.env x.hd = true) :
    checkSchema o s ≠ .ok :=
  fun h => nodeErr_of_violates o s.env x.hd hl hv ((checkSchema_ok_iff o s).1 h x hx)

/-! ### the statement in offsets, for schemas whose structural checks pass -/

/-- the checks of a node that do not look at the EXAMPLE value pass: rule / kind compatibility, references (types list,
key shortcuts, `additionalProperties`) -/
def structOK (env : Env) (h : Hd) : Bool :=
  (compatErr h.info).isNone && (linksErr env h.info).isNone &&
  (match h.info.nk with
   | .arr => (arrayItems env env.fuel h).isNone
   | .obj => (keysErr env h.info.keys).isNone && (addPropsErr env h.info).isNone
   | _ => true)

/-- on a node whose structural checks pass only a literal or an array can fail, at the node's own lexeme -/
theorem nodeErr_struct_doc (o : Oracles) (env : Env) (h : Hd) (hs : structOK env h = true) (p : Panic)
    (he : nodeErr o env h = some p) :
    (h.info.nk = .lit ∨ h.info.nk = .arr) ∧ ∃ c, p = .doc c h.info.lex.file h.info.lex.begin := by
  unfold structOK at hs
  simp only [Bool.and_eq_true, Option.isNone_iff_eq_none] at hs
  obtain ⟨⟨hc, hl⟩, hrest⟩ := hs
  -- an object or a mixed node has no part left that could fail
  have hnk : h.info.nk = .lit ∨ h.info.nk = .arr := by
    apply Decidable.byContradiction
    intro hn
    refine absurd (nodeErr_none_iff.2 (forall_parts.2 ⟨hc, hl, fun e => absurd (.inl e) hn, fun e => absurd (.inr e) hn,
      fun e => ?_⟩)) (by rw [he]; nofun)
    rw [e] at hrest
    simpa using hrest
  refine ⟨hnk, ?_⟩
  rcases nodeErr_raise o env h p he with r | ⟨hk, _⟩ | ⟨hk, ha, _⟩
  · exact r
  · rw [hk] at hnk; simp at hnk
  · rw [hk] at hrest
    rw [Option.isNone_iff_eq_none.1 hrest] at ha
    cases ha

/-- in offsets: when the structural checks of the root's nodes pass and the offsets of the nodes increase in
source order, a violated rule anywhere in the root makes `CheckRootSchema` fail with an error whose position is the start
offset of a value that violates one of its own rules — the FIRST such value in the text -/
theorem checker_complete_offset (o : Oracles) (s : Schema) (r : Node) (hr : s.root = some r)
    (hlit : ∀ h ∈ preorder r, h.info.nk = .lit → h.info.lex.ty = .litEnd)
    (hst : ∀ h ∈ preorder r, structOK s.env h = true)
    (hsorted : ((preorder r).map fun h => h.info.lex.begin).Pairwise (· < ·))
    (hv : ∃ h ∈ preorder r, violates o s.env h = true) :
    ∃ h₀ ∈ preorder r, violates o s.env h₀ = true ∧
      (∀ h ∈ preorder r, violates o s.env h = true → h₀.info.lex.begin ≤ h.info.lex.begin) ∧
      ∃ code, checkSchema o s = .err code h₀.info.lex.file h₀.info.lex.begin none := by
  obtain ⟨h, hm, hvh⟩ := hv
  have hne := nodeErr_of_violates o s.env h (hlit h hm) hvh
  obtain ⟨h₀, hm₀, p, hp, hc, hmin⟩ := checker_first_offset o s r hr hsorted ⟨h, hm, hne⟩
  obtain ⟨hnk, c, rfl⟩ := nodeErr_struct_doc o s.env h₀ (hst h₀ hm₀) p hp
  have hs₀ := hst h₀ hm₀
  unfold structOK at hs₀
  simp only [Bool.and_eq_true, Option.isNone_iff_eq_none] at hs₀
  have hv₀ : violates o s.env h₀ = true := by
    apply violates_of_nodeErr o s.env h₀ (hlit h₀ hm₀) hs₀.1.1 hs₀.1.2 _ hnk (by rw [hp]; simp)
    intro ha
    have := hs₀.2
    rw [ha] at this
    simpa using this
  refine ⟨h₀, hm₀, hv₀, ?_, c, hc⟩
  intro h' hm' hv'
  exact hmin h' hm' (nodeErr_of_violates o s.env h' (hlit h' hm') hv')

end CK
