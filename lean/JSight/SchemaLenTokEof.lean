import JSight.SchemaLenErr
/-!
C14: `Len` of a schema (token list) that fills the whole input: the text length without trailing blanks.
The raw length `lengthLoop` computes is the end of the last event; behind the complete top-level value only blanks
separate it from the index (`BlankRun`).
-/
namespace SchemaScan
namespace Len

variable {data : Array Cls}

theorem BlankRun.step {L i : Nat} {c : Cls} (h : BlankRun data L i) (hc : data[i]? = some c) (hb : c.isBlank = true) :
    BlankRun data L (i + 1) := by
  refine ⟨by have := h.1; omega, fun j h1 h2 => ?_⟩
  by_cases hj : j < i
  · exact h.2 j h1 hj
  · have : j = i := by omega
    subst this
    rw [hc]; simp [hb]

theorem sptab_blank {c : Cls} (h : c.isSpTab = true) : c.isBlank = true := by
  cases c <;> simp [Cls.isSpTab] at h <;> rfl

theorem lenAfter_snoc (es : List Ev) (e : Ev) (L : Nat) : lenAfter data (es ++ [e]) L = upd data e :=
  Gram.lenAfter_getLast (by simp) L

/-- the last event of an inline annotation is the `new-line` of the line break that ends it (the proof writes out the
events in front of it, with the offsets as `InlBody.evs` nests them) -/
theorem inlEvs_last (b : InlBody) (h : Nat) :
    ∃ es, b.evs h = es ++ [⟨.newLine, h + 2 + b.render.length, h + 2 + b.render.length⟩] := by
  cases b with
  | note s2 txt =>
    refine ⟨[⟨.inlAnnB, h, h + 1⟩, ⟨.inlTxtB, h + 2 + s2.length, h + 2 + s2.length⟩,
      ⟨.inlTxtE, h + 2 + s2.length, h + 2 + s2.length + txt.length - 1⟩,
      ⟨.inlAnnE, h, h + 2 + s2.length + txt.length - 1⟩], ?_⟩
    simp only [InlBody.evs, InlBody.render, List.length_append, List.cons_append, List.nil_append]
    rw [show h + 2 + (s2.length + txt.length) = h + 2 + s2.length + txt.length by omega]
  | obj s2 ob s3 nt =>
    cases nt with
    | none =>
      refine ⟨⟨.inlAnnB, h, h + 1⟩ :: ⟨.objB, h + 2 + s2.length, h + 2 + s2.length⟩ :: (ob.evs (h + 2 + s2.length) ++
        [⟨.inlAnnE, h, h + 2 + s2.length + 1 + ob.body.length + 1 + s3.length - 1⟩]), ?_⟩
      simp only [InlBody.evs, InlBody.render, noteTail, List.length_append, List.length_cons, List.length_nil,
        List.cons_append, List.append_assoc, List.nil_append]
      rw [show h + 2 + (s2.length + (ob.body.length + (s3.length + 0 + 1) + 1))
        = h + 2 + s2.length + 1 + ob.body.length + 1 + s3.length by omega]
    | some p =>
      obtain ⟨s4, txt⟩ := p
      refine ⟨⟨.inlAnnB, h, h + 1⟩ :: ⟨.objB, h + 2 + s2.length, h + 2 + s2.length⟩ :: (ob.evs (h + 2 + s2.length) ++
        [⟨.inlTxtB, h + 2 + s2.length + 1 + ob.body.length + 1 + s3.length + 1 + s4.length,
          h + 2 + s2.length + 1 + ob.body.length + 1 + s3.length + 1 + s4.length⟩,
        ⟨.inlTxtE, h + 2 + s2.length + 1 + ob.body.length + 1 + s3.length + 1 + s4.length,
          h + 2 + s2.length + 1 + ob.body.length + 1 + s3.length + 1 + s4.length + txt.length - 1⟩,
        ⟨.inlAnnE, h, h + 2 + s2.length + 1 + ob.body.length + 1 + s3.length + 1 + s4.length + txt.length - 1⟩]), ?_⟩
      simp only [InlBody.evs, InlBody.render, noteTail, List.length_append, List.length_cons, List.length_nil,
        List.cons_append, List.append_assoc, List.nil_append]
      rw [show h + 2 + (s2.length + (ob.body.length + (s3.length + (s4.length + txt.length + 1) + 1) + 1))
        = h + 2 + s2.length + 1 + ob.body.length + 1 + s3.length + 1 + s4.length + txt.length by omega]

/-- `endTop` is the only state between tokens from which a line break leads behind the complete top-level value -/
theorem nlSt_endTop {st : St} (hw : wsLoop st = true) (h : nlSt st = .endTop ∨ PV (nlSt st) = true) : st = .endTop := by
  cases st <;> simp [wsLoop] at hw <;> simp [nlSt, PV] at h <;> rfl

/-- a token that leaves the scanner behind the complete top-level value keeps (or restores) `BlankRun` -/
theorem slotStep_sync (c c' : TC) (t : Tok) (e2 : List Ev) (h : slotStep c t = some (c', e2)) (hw : t.WF)
    (hat : At data c.i t.render) (hK' : c'.K = []) (hst' : c'.st = .endTop ∨ PV c'.st = true) :
    ∀ L, (c.st = .endTop → c.K = [] → BlankRun data L c.i) → BlankRun data (lenAfter data e2 L) c'.i := by
  intro L hpre
  cases slotStep_slot h with
  | sp hl =>
    have hst : c.st = .endTop := by
      rcases hst' with h1 | h1
      · exact h1
      · rw [wsLoop_notPV hl] at h1; cases h1
    exact (hpre hst hK').step hat.1 (sptab_blank hw)
  | nl _ => simp only [lenAfter]; rw [upd_lt _ _ _ (lt_of_at hat.1)]; exact BlankRun.refl _
  | @cmt _ text _ =>
    simp only [Tok.render] at hat
    obtain ⟨_, hat'⟩ := hat
    rw [At_append] at hat'
    simp only [lenAfter]
    rw [upd_lt _ _ _ (lt_of_at hat'.2.1)]
    exact BlankRun.refl _
  | @ann _ b _ _ _ _ =>
    obtain ⟨es, he⟩ := inlEvs_last b c.i
    simp only [Tok.render] at hat
    obtain ⟨_, _, hat'⟩ := hat
    rw [At_append] at hat'
    have hnl : data[c.i + 2 + b.render.length]? = some Cls.nl := by
      rw [show c.i + 2 + b.render.length = c.i + 1 + 1 + b.render.length by omega]; exact hat'.2.1
    rw [he, lenAfter_snoc, upd_lt _ _ _ (lt_of_at hnl)]
    exact BlankRun.refl _
  | scalar _ | key _ | op _ _ => cases hK'
  | cl br _ _ _ _ =>
    have : data[c.i]? = some br.cl := by cases br <;> exact hat.1
    simp only [lenAfter]; rw [upd_lt _ _ _ (lt_of_at this)]; exact BlankRun.refl _
  | sep ck _ => cases ck <;> (rcases hst' with h1 | h1 <;> cases h1)

/-- the invariant of a run: behind the complete top-level value the raw length and the index form a `BlankRun`; the
second part is what places the `literal-end` of a root scalar, which ends at `c.i - 1` (`upd_pred`) -/
def SyncInv (data : Array Cls) (c : TC) (L : Nat) : Prop :=
  (c.K = [] → (c.st = .endTop ∨ PV c.st = true) → BlankRun data L c.i) ∧ (PV c.st = true → 1 ≤ c.i)

theorem tstep_sync (c c' : TC) (t : Tok) (evs : List Ev) (h : tstep c t = some (c', evs)) (hw : t.WF)
    (hat : At data c.i t.render) (L : Nat) (hinv : SyncInv data c L) : SyncInv data c' (lenAfter data evs L) := by
  have hidx := tstep_index h
  have hpos := render_pos hw
  refine ⟨?_, fun _ => by omega⟩
  intro hK' hst'
  have hfirst : c.i < data.size := by
    cases hr : t.render with
    | nil => rw [hr] at hpos; cases hpos
    | cons x xs => rw [hr] at hat; exact lt_of_at hat.1
  obtain ⟨c1, e1, e2, hc, hs, rfl⟩ := tstep_cases h
  rcases hc with ⟨hpv, rfl, rfl⟩ | ⟨hpv, -, hc⟩
  · exact slotStep_sync c1 c' t e2 hs hw hat hK' hst' L (fun hst hK => hinv.1 hK (Or.inl hst))
  · have hi1 := closePV_index hc
    rw [lenAfter_append]
    refine slotStep_sync c1 c' t e2 hs hw (by rw [hi1]; exact hat) hK' hst' _ ?_
    intro hst1 hK1
    rw [hi1]
    rcases closePV_cases hc with ⟨lit, b, hK, rfl, rfl⟩ | ⟨lit, b, ck, b2, R, -, rfl, -⟩
    · cases lit with
      | false => exact hinv.1 hK (Or.inr hpv)
      | true =>
        have h1 := hinv.2 hpv
        simp only [rootClosers, if_true, lenAfter]
        rw [upd_pred _ _ _ h1 (by omega)]
        exact BlankRun.refl _
    · cases ck <;> cases hst1

theorem trun_sync : ∀ (toks : List Tok) (c c' : TC) (evs : List Ev), trun c toks = some (c', evs) →
    (∀ t ∈ toks, t.WF) → At data c.i (renderToks toks) → ∀ L, SyncInv data c L → SyncInv data c' (lenAfter data evs L)
  | [], c, c', evs, h, _, _, L, hinv => by
    simp only [trun, Option.some.injEq, Prod.mk.injEq] at h
    obtain ⟨rfl, rfl⟩ := h
    exact hinv
  | t :: ts, c, c', evs, h, hw, hat, L, hinv => by
    obtain ⟨c1, e1, e2, ht, hr, rfl⟩ := trun_cons h
    simp only [renderToks] at hat
    rw [At_append] at hat
    have i1 := tstep_sync c c1 t e1 ht (hw t (by simp)) hat.1 L hinv
    rw [lenAfter_append]
    exact trun_sync ts c1 c' e2 hr (fun x hx => hw x (by simp [hx])) (by rw [tstep_index ht]; exact hat.2) _ i1

end Len

open Len in
/-- **C14 (schema scanner), schema with inline annotations and user comments that fills the input**: the input is the
text of a token list accepted from the initial state that ends behind the complete top-level value (`Complete`):
`Len` is the text length without trailing blanks. -/
theorem C14_schema_len_tokens_whole (toks : List Tok) (hw : ∀ t ∈ toks, t.WF) (c' : TC) (evs : List Ev)
    (h : trun TC.init toks = some (c', evs)) (hend : Complete c')
    (bs : List UInt8) (hbs : bs.map classify = renderToks toks) :
    length bs = .ok (rtrimLen (renderToks toks)) := by
  have hat : At (bs.map classify).toArray 0 (renderToks toks) := At_toArray _ [] _ (by rw [hbs]; simp)
  have hsize : (bs.map classify).toArray.size = (renderToks toks).length := by rw [hbs]; simp
  obtain ⟨P, hi', hnt⟩ := trun_doc (lc := true) toks hw c' evs h hat
  have hinit : SyncInv (bs.map classify).toArray TC.init 0 :=
    ⟨fun _ hst => (by rcases hst with h1 | h1 <;> cases h1), fun h1 => (by cases h1)⟩
  have hI := trun_sync toks TC.init c' evs h hw hat 0 hinit
  obtain ⟨st, g, K, i, CS, cx, al⟩ := c'
  simp only at hi' hend
  subst hi'
  have key : ∃ es f L, Drain (bs.map classify).toArray { lengthComputing := true } es f ∧
      f.len (bs.map classify).toArray es 0 = .ok L ∧
      trimBlank (bs.map classify).toArray L = trimBlank (bs.map classify).toArray (renderToks toks).length := by
    have done_case : K = [] → (st = .endTop ∨ PV st = true) → ∃ es f L,
        Drain (bs.map classify).toArray { lengthComputing := true } es f ∧
        f.len (bs.map classify).toArray es 0 = .ok L ∧
        trimBlank (bs.map classify).toArray L = trimBlank (bs.map classify).toArray (renderToks toks).length := by
      intro hK hst
      subst hK
      have hn : NextOk (bs.map classify).toArray (TC.sc true ⟨st, g, [], (renderToks toks).length, CS, cx, al⟩) none :=
        nextOk_done rfl (by simp only [TC.sc, cfgL]; omega) rfl
      exact ⟨_, _, _, Drain.after P hnt (.eof hn), rfl,
        by rw [List.append_nil]; exact (trimBlank_run (hI.1 rfl hst)).symm⟩
    rcases hend with ⟨rfl, rfl⟩ | ⟨hpv, rfl, hK⟩
    · exact done_case rfl (Or.inl rfl)
    · rcases hK with rfl | ⟨b, rfl⟩
      · exact done_case rfl (Or.inr hpv)
      · have h1 : 1 ≤ (renderToks toks).length := hI.2 hpv
        have he := Emits.eofLit (data := (bs.map classify).toArray)
          (s := TC.sc true ⟨st, false, [(.litB, b)], (renderToks toks).length, CS, cx, al⟩) (b := b) rfl
          (by simp only [TC.sc, cfgL]; omega) rfl rfl
        cases he with
        | cons hn1 he' =>
          cases he' with
          | nil hn2 =>
            have hu : upd (bs.map classify).toArray ⟨.litE, b, (renderToks toks).length - 1⟩ = (renderToks toks).length :=
              upd_pred _ _ _ h1 (by omega)
            exact ⟨_, _, _, Drain.after P hnt (.ev hn1 (by intro h; cases h) (.eof hn2)),
              by rw [Stop.len_append]; exact congrArg Except.ok hu, rfl⟩
  obtain ⟨es, f, L, hrun, hL, htrim⟩ := key
  rw [length_of_drain bs hrun hL, htrim, hbs]
  rfl  -- `rtrimLen r` is `trimBlank r.toArray r.length` by definition

#print axioms C14_schema_len_tokens_whole

end SchemaScan
