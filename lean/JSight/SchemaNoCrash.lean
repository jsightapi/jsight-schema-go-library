import JSight.SchemaRunOK
/-!
# The JSight schema scanner model never crashes

Model: `JSight/SchemaScan.lean` (`dispatch` = one call of the current step function) and
`JSight/SchemaRun.lean` (`processFound`, `shiftFound`, `next`, `events`, `scanAll`, `lengthLoop`, `length`).
Errors of kind `.crash _` stand for Go runtime panics ("Reading from empty stack (…)", "Incorrect ending
of the lexical event", "Unexpected context", "Incorrect annotation begin in stack") and for exhaustion of
the fuel parameters that make the definitions total.

Invariant (`Inv`, file `SchemaInv.lean`): let the *effective stack* be the lexeme types of `stack` after
all queued `finds` have been applied to it (each closing lexeme must match the opener on top).  Then
* the queued `finds` do apply cleanly, and `ctx :: ctxStack` lists exactly the open containers of the
  effective stack (object / array, plus `shortcut` for a type shortcut at the root) above `initial`;
* `Good step eff ret` holds, a grammar relating the step function, the effective stack and the return
  stack: object states sit on `objB`, array states on `arrB`, key states on `keyB :: objB`, token states
  on `litB` resp. `tsB :: mixB` over a *value holder* (root, `valB :: objB …`, `itemB :: arrB …`);
  containers may also sit directly on an annotation marker (`inlAnnB` / `mlAnnB`), and every marker is
  paired with one entry of `ret` - a step from which an annotation can start - that is itself `Good` for
  the stack below the marker; comment states, `\u` escape states and annotation-start states have their
  return step on top of `ret`, and that step is `Good` for the same stack; the guard closure wraps a
  non-guard `Good` step.

Proof structure: `dispatch_ok` (SchemaStep.lean; one byte: `Inv` and no queued finds ⟹ `Inv` or a
structured error, re-dispatch depth ≤ 4), `shiftFound_cons` (SchemaShift.lean), frame property `dispatchQ`
(SchemaQ.lean; index/finds bookkeeping of one byte), `next_A` / `next_B` / `eof_next` (progress measure
`Phi = 8·(size+1−index) + |finds| + 2·[inside comment]` before the end of input, number of closable openers
`eofLen ≤ 2` after it), `events_ok` / `lengthLoop_ok` (induction on fuel).
-/
namespace SchemaScan

/-- **C07, schema scanner.** For every byte string the model of the JSight schema scanner either
delivers its events or fails with one of the structured errors (`invalidChar`, `invalidKeyChar`,
`annotationNotAllowed`, `unexpectedEOF`): no stack underflow, no mismatched closing lexeme, and none of
the fuel bounds is ever reached. -/
theorem scanAll_no_crash (bs : List UInt8) : ∀ e, scanAll bs = .error e → e.isCrash = false := by
  intro e he
  unfold scanAll at he
  exact events_ok _ _ _ (RunInv_init _ false) e he

/-- The same for `Length()` (length-computing mode). -/
theorem length_no_crash (bs : List UInt8) : ∀ e, length bs = .error e → e.isCrash = false := by
  intro e he
  unfold length at he
  simp only [bind, Except.bind, pure, Except.pure] at he
  cases hl : lengthLoop (bs.map classify).toArray (8 * (bs.map classify).toArray.size + 16)
      { lengthComputing := true } 0 with
  | error e' =>
    have := lengthLoop_ok _ _ _ (RunInv_init _ true) e' hl
    rw [hl] at he
    cases he
    exact this
  | ok n => rw [hl] at he; cases he

end SchemaScan

#print axioms SchemaScan.dispatch_ok
#print axioms SchemaScan.dispatchQ
#print axioms SchemaScan.scanAll_no_crash
#print axioms SchemaScan.length_no_crash
