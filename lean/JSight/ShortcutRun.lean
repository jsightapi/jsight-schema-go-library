import JSight.SchemaForeign
/-!
C09 / C14 / C16, TYPE SHORTCUTS `@name`, `@a | @b | …`: the grammar of a shortcut (`Shortcut`), the scanner's token
automaton inside one (states `tsBeginName`, `tsName`, `tsBeforePipe`, `tsAfterPipe` of scanner.go) for an arbitrary
`lengthComputing` flag, as `Path`s, and the single-byte facts about the start and the ends of a ROOT shortcut.
-/
namespace SchemaScan
namespace Len

variable {lc : Bool} {data : Array Cls}

/-! ### the token automaton of a shortcut -/

/-- bytes inside a shortcut queue nothing: `(state, unfinished)` after one byte -/
def tsSilent : St → Bool → Cls → Option (St × Bool)
  | .tsBeginName, _, c => if c.isName then some (.tsName, false) else none
  | .tsName, u, c =>
    if c.isName then some (.tsName, u) else if c.isSpTab then some (.tsBeforePipe, u)
    else if c == .pipe then some (.tsAfterPipe, true) else none
  | .tsBeforePipe, u, c =>
    if c.isSpTab then some (.tsBeforePipe, u) else if c == .pipe then some (.tsAfterPipe, true) else none
  | .tsAfterPipe, u, c =>
    if c.isSpTab then some (.tsAfterPipe, u) else if c == .at then some (.tsBeginName, u) else none
  | _, _, _ => none

theorem ts_dispatch (f : Nat) (st : St) (u : Bool) (c : Cls) (st' : St) (u' : Bool)
    (h : tsSilent st u c = some (st', u'))
    (K : List (LexT × Nat)) (i : Nat) (CS : List Ctx) (cx : Ctx) (al : Bool) (p1 p2 : Option Cls) :
    dispatch (f + 1) st (cfgL lc st [] K u i CS cx al) c p1 p2 = .ok (cfgL lc st' [] K u' i CS cx al) := by
  cases st <;> try cases h
  · rw [dispatch_tsBeginName]; cases c <;> cases h <;> rfl
  · rw [dispatch_tsName]; cases c <;> cases h <;> rfl
  · rw [dispatch_tsBeforePipe]; cases c <;> cases h <;> rfl
  · rw [dispatch_tsAfterPipe]; cases c <;> cases h <;> rfl

def tsRun : St → Bool → List Cls → Option (St × Bool)
  | st, u, [] => some (st, u)
  | st, u, c :: cs => match tsSilent st u c with
    | some (st', u') => tsRun st' u' cs
    | none => none

theorem tsRun_append (st : St) (u : Bool) (xs ys : List Cls) (st' : St) (u' : Bool)
    (h : tsRun st u xs = some (st', u')) : tsRun st u (xs ++ ys) = tsRun st' u' ys := by
  induction xs generalizing st u with
  | nil => simp [tsRun] at h; obtain ⟨rfl, rfl⟩ := h; rfl
  | cons c cs ih =>
    simp only [tsRun, List.cons_append] at h ⊢
    cases hs : tsSilent st u c with
    | none => rw [hs] at h; simp at h
    | some p => obtain ⟨a, b⟩ := p; rw [hs] at h; simp only [] at h ⊢; exact ih a b h

theorem S_ts {st : St} {u : Bool} {c : Cls} {st' : St} {u' : Bool} (h : tsSilent st u c = some (st', u'))
    (K : List (LexT × Nat)) (i : Nat) (CS : List Ctx) (cx : Ctx) (al : Bool) (hc : data[i]? = some c) :
    Path data (cfgL lc st [] K u i CS cx al) [] (cfgL lc st' [] K u' (i + 1) CS cx al) :=
  cfg_byte hc (fun p1 p2 => ts_dispatch 7 st u c st' u' h K (i + 1) CS cx al p1 p2) rfl rfl

theorem ts_run : ∀ (tok : List Cls) (st : St) (u : Bool) (st' : St) (u' : Bool),
    tsRun st u tok = some (st', u') →
    ∀ (K : List (LexT × Nat)) (i : Nat) (CS : List Ctx) (cx : Ctx) (al : Bool), At data i tok →
    Path data (cfgL lc st [] K u i CS cx al) [] (cfgL lc st' [] K u' (i + tok.length) CS cx al)
  | [], st, u, st', u', h, K, i, CS, cx, al, _ => by
    simp only [tsRun, Option.some.injEq, Prod.mk.injEq] at h
    obtain ⟨rfl, rfl⟩ := h
    exact Path.refl _
  | c :: cs, st, u, st', u', h, K, i, CS, cx, al, hat => by
    obtain ⟨hc, hat'⟩ := hat
    simp only [tsRun] at h
    cases hs : tsSilent st u c with
    | none => rw [hs] at h; cases h
    | some p =>
      obtain ⟨s1, u1⟩ := p
      rw [hs] at h
      have h1 := S_ts (lc := lc) hs K i CS cx al hc
      have h2 := ts_run cs s1 u1 st' u' h K (i + 1) CS cx al hat'
      have := Path.trans h1 h2
      simp only [List.length_cons]
      rw [show i + (cs.length + 1) = i + 1 + cs.length by omega]
      exact this

/-! ### the grammar of a type shortcut -/

/-- a user type name behind its `@`: at least one byte, letters / digits / `-` / `_` -/
def IsTypeName (n : List Cls) : Prop := n ≠ [] ∧ ∀ c ∈ n, c.isName = true

def IsSpTabs (w : List Cls) : Prop := ∀ c ∈ w, c.isSpTab = true

/-- `@first` followed by alternatives `spaces | spaces @name` -/
structure Shortcut where
  first : List Cls
  alts : List (List Cls × List Cls × List Cls)

def renderAlts : List (List Cls × List Cls × List Cls) → List Cls
  | [] => []
  | (s1, s2, n) :: r => s1 ++ (Cls.pipe :: (s2 ++ (Cls.at :: (n ++ renderAlts r))))

def Shortcut.render (sc : Shortcut) : List Cls := Cls.at :: (sc.first ++ renderAlts sc.alts)

def ValidAlts : List (List Cls × List Cls × List Cls) → Prop
  | [] => True
  | (s1, s2, n) :: r => IsSpTabs s1 ∧ IsSpTabs s2 ∧ IsTypeName n ∧ ValidAlts r

def Shortcut.Valid (sc : Shortcut) : Prop := IsTypeName sc.first ∧ ValidAlts sc.alts

theorem name_tsRun (n : List Cls) (hn : IsTypeName n) (u : Bool) :
    tsRun .tsBeginName u n = some (.tsName, false) := by
  obtain ⟨hne, hall⟩ := hn
  cases n with
  | nil => exact absurd rfl hne
  | cons c cs =>
    have h0 : tsSilent .tsBeginName u c = some (.tsName, false) := by simp [tsSilent, hall c (by simp)]
    simp only [tsRun, h0]
    have : ∀ (l : List Cls), (∀ x ∈ l, x.isName = true) → tsRun .tsName false l = some (.tsName, false) := by
      intro l hl
      induction l with
      | nil => rfl
      | cons d ds ih =>
        have hd : tsSilent .tsName false d = some (.tsName, false) := by simp [tsSilent, hl d (by simp)]
        simp only [tsRun, hd]
        exact ih (fun x hx => hl x (by simp [hx]))
    exact this cs (fun x hx => hall x (by simp [hx]))

theorem sptab_not_name {c : Cls} (h : c.isSpTab = true) : c.isName = false := by
  cases c <;> simp [Cls.isSpTab] at h <;> rfl

theorem name_not_blank {d : Cls} (h : d.isName = true) : d.isBlank = false := by
  cases d <;> simp [Cls.isName] at h <;> rfl

theorem name_ne_sp {d : Cls} (h : d.isName = true) : d ≠ Cls.sp := by
  intro e; subst e; cases h

theorem isSpTabs_isWs {w : List Cls} (h : IsSpTabs w) : IsWs w := by
  intro c hc
  have := h c hc
  cases c <;> simp [Cls.isSpTab] at this <;> rfl

theorem sp_tsRun (st : St) (hst : st = .tsName ∨ st = .tsBeforePipe) (w : List Cls) (hw : IsSpTabs w) (u : Bool) :
    tsRun st u w = some (if w.isEmpty then st else .tsBeforePipe, u) := by
  induction w generalizing st with
  | nil => rfl
  | cons c cs ih =>
    have hc := hw c (by simp)
    have h0 : tsSilent st u c = some (.tsBeforePipe, u) := by
      rcases hst with rfl | rfl <;> simp [tsSilent, hc, sptab_not_name hc]
    simp only [tsRun, h0, List.isEmpty_cons]
    rw [ih .tsBeforePipe (Or.inr rfl) (fun x hx => hw x (by simp [hx]))]
    cases cs <;> rfl

theorem sp_afterPipe_tsRun (w : List Cls) (hw : IsSpTabs w) (u : Bool) :
    tsRun .tsAfterPipe u w = some (.tsAfterPipe, u) := by
  induction w with
  | nil => rfl
  | cons c cs ih =>
    have hc := hw c (by simp)
    have h0 : tsSilent .tsAfterPipe u c = some (.tsAfterPipe, u) := by simp [tsSilent, hc]
    simp only [tsRun, h0]
    exact ih (fun x hx => hw x (by simp [hx]))

theorem alts_tsRun : ∀ (alts : List (List Cls × List Cls × List Cls)), ValidAlts alts →
    tsRun .tsName false (renderAlts alts) = some (.tsName, false)
  | [], _ => rfl
  | (s1, s2, n) :: r, hv => by
    obtain ⟨h1, h2, hn, hr⟩ := hv
    simp only [renderAlts]
    rw [tsRun_append _ _ _ _ _ _ (sp_tsRun .tsName (Or.inl rfl) s1 h1 false)]
    have hp : ∀ st, st = .tsName ∨ st = .tsBeforePipe → tsSilent st false .pipe = some (.tsAfterPipe, true) := by
      intro st h; rcases h with rfl | rfl <;> rfl
    have hst : (if s1.isEmpty then St.tsName else St.tsBeforePipe) = .tsName ∨
        (if s1.isEmpty then St.tsName else St.tsBeforePipe) = .tsBeforePipe := by
      cases s1.isEmpty <;> simp
    simp only [tsRun, hp _ hst]
    rw [tsRun_append _ _ _ _ _ _ (sp_afterPipe_tsRun s2 h2 true)]
    have ha : tsSilent .tsAfterPipe true .at = some (.tsBeginName, true) := rfl
    simp only [tsRun, ha]
    rw [tsRun_append _ _ _ _ _ _ (name_tsRun n hn true)]
    exact alts_tsRun r hr

/-- the bytes behind the leading `@` drive the automaton from `tsBeginName` to `tsName` -/
theorem shortcut_tsRun (sc : Shortcut) (hv : sc.Valid) :
    tsRun .tsBeginName true (sc.first ++ renderAlts sc.alts) = some (.tsName, false) := by
  rw [tsRun_append _ _ _ _ _ _ (name_tsRun sc.first hv.1 true)]
  exact alts_tsRun sc.alts hv.2

theorem exists_snoc : ∀ (l : List Cls), l ≠ [] → ∃ pre d, l = pre ++ [d]
  | [], h => absurd rfl h
  | [c], _ => ⟨[], c, rfl⟩
  | c :: d :: l, _ => by
    obtain ⟨pre, e, he⟩ := exists_snoc (d :: l) (by simp)
    exact ⟨c :: pre, e, by rw [he]; rfl⟩

theorem renderAlts_last : ∀ (alts : List (List Cls × List Cls × List Cls)), ValidAlts alts → alts ≠ [] →
    ∃ pre d, renderAlts alts = pre ++ [d] ∧ d.isName = true
  | [], _, h => absurd rfl h
  | (s1, s2, n) :: r, hv, _ => by
    obtain ⟨_, _, hn, hr⟩ := hv
    cases r with
    | nil =>
      obtain ⟨hne, hall⟩ := hn
      obtain ⟨pre, d, hd⟩ := exists_snoc n hne
      refine ⟨s1 ++ (Cls.pipe :: (s2 ++ (Cls.at :: pre))), d, ?_, hall d (by rw [hd]; simp)⟩
      simp [renderAlts, hd]
    | cons a r' =>
      obtain ⟨pre, d, he, hd⟩ := renderAlts_last (a :: r') hr (by simp)
      refine ⟨s1 ++ (Cls.pipe :: (s2 ++ (Cls.at :: (n ++ pre)))), d, ?_, hd⟩
      simp only [renderAlts] at he ⊢
      rw [he]; simp

/-- the last byte of a shortcut is a name byte -/
theorem Shortcut.render_last (sc : Shortcut) (hv : sc.Valid) :
    ∃ pre d, sc.render = pre ++ [d] ∧ d.isName = true := by
  cases ha : sc.alts with
  | nil =>
    obtain ⟨hne, hall⟩ := hv.1
    obtain ⟨pre, d, hd⟩ := exists_snoc sc.first hne
    refine ⟨Cls.at :: pre, d, ?_, hall d (by rw [hd]; simp)⟩
    simp [Shortcut.render, ha, renderAlts, hd]
  | cons a r =>
    obtain ⟨pre, d, he, hd⟩ := renderAlts_last (a :: r) (ha ▸ hv.2) (by simp)
    refine ⟨Cls.at :: (sc.first ++ pre), d, ?_, hd⟩
    simp [Shortcut.render, ha, he]

/-! ### the start of a root shortcut and its ends at a line break and at a foreign byte (the end of input: `ShortcutStep`) -/

/-- the lexeme stack inside a root shortcut opened at `o` -/
def K2 (o : Nat) : List (LexT × Nat) := [(.tsB, o), (.mixB, o)]
def sctx : Ctx := { ty := .shortcut }

theorem root_at_d (f : Nat) (K : List (LexT × Nat)) (i : Nat) (CS : List Ctx) (cx : Ctx) (al : Bool) (p1 p2 : Option Cls) :
    dispatch (f + 1) .foundRoot (cfgL lc .foundRoot [] K false i CS cx al) .at p1 p2
      = .ok { cfgL lc .tsBeginName [] K true i (cx :: CS) sctx al with finds := [.mixB, .tsB] } := by
  unfold dispatch; rfl

theorem S_root_at (o : Nat) (CS : List Ctx) (cx : Ctx) (al : Bool) (hc : data[o]? = some .at) :
    Path data (cfgL lc .foundRoot [] [] false o CS cx al) [⟨.mixB, o, o⟩, ⟨.tsB, o, o⟩]
      (cfgL lc .tsBeginName [] (K2 o) true (o + 1) (cx :: CS) sctx al) :=
  cfg_byte hc (fun p1 p2 => root_at_d 7 [] (o + 1) CS cx al p1 p2) rfl rfl

/-- the states in which a shortcut may end: behind a name (`nm = true`), or behind spaces that follow a name -/
def tsSt : Bool → St | true => .tsName | false => .tsBeforePipe

def _root_.SchemaScan.Cls.isPipe : Cls → Bool | .pipe => true | _ => false

/-- foreign bytes that end a root shortcut: not layout, not `/`, not `#`, not `|`, and directly behind the name
(`nm = true`) not a name byte -/
def tsForeignOk (nm : Bool) (x : Cls) : Bool := x.isForeign && !x.isPipe && (!nm || !x.isName)

/-- bytes that end a root shortcut: a line break or a foreign byte -/
def tsDelim (nm : Bool) (x : Cls) : Bool := x.isNewLine || tsForeignOk nm x

/-! The byte that ends a root shortcut is handled in three steps: the shortcut state hands it to `stateEndValue`
(`tsName_delim`, `tsBeforePipe_delim`), which closes the shortcut and hands it to `stateEndTop` (`ev_ts`), which reads it.
Every hand-over costs one unit of `dispatch` fuel; behind blanks (`tsBeforePipe`) there is one hand-over more than behind a
name (`tsName`), hence `f + 2` against `f + 1`, and `f + 4` below is enough for either. -/

/-- step 1: directly behind a name, a delimiter is handed to `stateEndValue` -/
theorem tsName_delim (f : Nat) (x : Cls) (h : tsDelim true x = true)
    (K : List (LexT × Nat)) (i : Nat) (CS : List Ctx) (cx : Ctx) (al : Bool) (p1 p2 : Option Cls) :
    dispatch (f + 1) .tsName (cfgL lc .tsName [] K false i CS cx al) x p1 p2
      = endValue f (cfgL lc .tsName [] K false i CS cx al) x p1 p2 := by
  rw [dispatch_tsName]
  cases x <;> first | rfl | cases h

/-- step 1: behind spaces that follow a name, a delimiter is handed to `stateEndValue` -/
theorem tsBeforePipe_delim (f : Nat) (x : Cls) (h : tsDelim false x = true)
    (K : List (LexT × Nat)) (i : Nat) (CS : List Ctx) (cx : Ctx) (al : Bool) (p1 p2 : Option Cls) :
    dispatch (f + 2) .tsBeforePipe (cfgL lc .tsBeforePipe [] K false i CS cx al) x p1 p2
      = endValue f (cfgL lc .endValue [] K false i CS cx al) x p1 p2 := by
  rw [dispatch_tsBeforePipe, dispatch_endValue]
  cases x <;> first | rfl | cases h

/-- step 2: `stateEndValue` closes the root shortcut and hands the byte to `stateEndTop` -/
theorem ev_ts (g : Nat) (st : St) (o i : Nat) (c0 : Ctx) (al : Bool) (x : Cls) (p1 p2 : Option Cls) :
    endValue g (cfgL lc st [] (K2 o) false i [c0] sctx al) x p1 p2
      = dispatch g .endTop { cfgL lc .endTop [] (K2 o) false i [] c0 al with finds := [.tsE, .mixE] } x p1 p2 := by
  unfold endValue dispatch'; rfl

/-- a line break behind a root shortcut: the three steps together -/
theorem ts_end_nl_d (f : Nat) (nm : Bool) (o i : Nat) (c0 : Ctx) (al : Bool) (p1 p2 : Option Cls) :
    dispatch (f + 4) (tsSt nm) (cfgL lc (tsSt nm) [] (K2 o) false i [c0] sctx al) .nl p1 p2
      = .ok { cfgL lc .endTop [] (K2 o) false i [] c0 al with finds := [.tsE, .mixE, .newLine] } := by
  cases nm
  · exact (tsBeforePipe_delim (f + 2) .nl rfl _ i _ _ al p1 p2).trans
      ((ev_ts (f + 2) .endValue o i c0 al .nl p1 p2).trans (loop_nl (f + 1) .endTop rfl _ i [] c0 al _ p1 p2))
  · exact (tsName_delim (f + 3) .nl rfl _ i _ _ al p1 p2).trans
      ((ev_ts (f + 3) .tsName o i c0 al .nl p1 p2).trans (loop_nl (f + 2) .endTop rfl _ i [] c0 al _ p1 p2))

theorem foreign_of_ts {nm : Bool} {x : Cls} (h : tsForeignOk nm x = true) : x.isForeign = true := by
  unfold tsForeignOk at h
  simp only [Bool.and_eq_true] at h
  exact h.1.1

/-- a foreign byte behind a root shortcut, in length-computing mode: the three steps together -/
theorem ts_end_foreign_d (f : Nat) (nm : Bool) (x : Cls) (h : tsForeignOk nm x = true) (o i : Nat) (c0 : Ctx) (al : Bool)
    (p1 p2 : Option Cls) :
    dispatch (f + 4) (tsSt nm) (cfgL true (tsSt nm) [] (K2 o) false i [c0] sctx al) x p1 p2
      = .ok { cfgL true .endTop [] (K2 o) false i [] c0 al with finds := [.tsE, .mixE], hasTrailing := true } := by
  have hd : tsDelim nm x = true := by unfold tsDelim; rw [h]; simp
  have hx := foreign_of_ts h
  cases nm
  · exact (tsBeforePipe_delim (f + 2) x hd _ i _ _ al p1 p2).trans
      ((ev_ts (f + 2) .endValue o i c0 al x p1 p2).trans
        (endTop_foreign_open (f + 1) x hx (.tsB, o) [(.mixB, o)] i [] c0 al _ p1 p2))
  · exact (tsName_delim (f + 3) x hd _ i _ _ al p1 p2).trans
      ((ev_ts (f + 3) .tsName o i c0 al x p1 p2).trans
        (endTop_foreign_open (f + 2) x hx (.tsB, o) [(.mixB, o)] i [] c0 al _ p1 p2))

/-- the end of the `mixed-value-end` event delivered at index `P` (one space before it is not counted) -/
def mixEnd (data : Array Cls) (P : Nat) : Nat := (if data[P - 1]? == some Cls.sp then P - 1 else P) - 1

theorem mixEnd_le (P : Nat) : mixEnd data P ≤ P - 1 := by
  unfold mixEnd; split <;> omega

theorem mixEnd_ge (P : Nat) : P - 2 ≤ mixEnd data P := by
  unfold mixEnd; split <;> omega

theorem mixEnd_eq (P : Nat) (h : data[P - 1]? ≠ some Cls.sp) : mixEnd data P = P - 1 := by
  unfold mixEnd
  have : (data[P - 1]? == some Cls.sp) = false := by simpa using h
  simp [this]

theorem tsSt_of_isEmpty (sps : List Cls) :
    (if sps.isEmpty then St.tsName else St.tsBeforePipe) = tsSt sps.isEmpty := by
  cases sps <;> rfl

end Len
end SchemaScan
