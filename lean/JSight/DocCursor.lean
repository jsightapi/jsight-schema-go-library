import JSight.JsonRun
/-!
# The `Document` object of formats/json/json.go as a state machine (C11, "document rewinds around Check / Len")

Transliteration of `formats/json/json.go` as of commit 8464556 (`Document`, `NextLexeme`, `Len` / `computeLen`, `Check` /
`check`, `nextLexeme` with the sticky `lexErr`, `rewind`) over an INCREMENTAL version of the JSON scanner (`scanner.Next`
of `formats/json/scanner.go`): the control step is the existing `JsonScan.step`; around it this file spells out what `Next`
keeps between calls (`finds`, `index`, the lexeme stack, `step`, `unfinishedLiteral`, the option bit of the scanner).

* `Scn.next`  one `scanner.Next()` seen through `nextLexeme`: a lexeme, the `EndTop` lexeme together with `io.EOF`, plain
  `io.EOF`, a `DocumentError` (code, index) recovered from the panic, or a non-error panic (`crash`).  What a panicking
  state function leaves behind in the scanner is NOT modelled: a scanner that panicked with an error is never stepped
  again (`nextL`: `lexErr` is answered first; `check` / `Length()` stop at the first error and a rewind follows).
* `nextL`     `Document.nextLexeme()`: the sticky error first; an error recovered from the scanner is stored.
* `Doc`       text, option bit, scanner, `lexErr`, `checkOnce` cell, `lenOnce` cell.  `rewind` clears `lexErr`, makes a new
  scanner and copies the option bit into it.  `Doc.new` = `FromFile` (options applied, then `rewind`).
* `Doc.step`  `NextLexeme` / `Check` / `Len`.  First `Check`: rewind, read until the first non-nil error counting
  lexemes, `ErrEmptyJson` when EOF came with none, the deferred rewind, result cached in the once cell; later calls
  answer from the cell and do not touch the scanner.  `Len`: same shape around `scanner.Length()`.
  A non-error panic inside the first call leaves the cell DONE with the zero value (`sync.Once` marks done in a
  deferred call; `e.err` / `e.value` were never assigned): `CheckRes.cached` / `LenRes.cached`.
Core Lean only.
-/
namespace DocCursor
open JsonScan

/-- the scanner between two `Next` calls -/
structure Scn where
  st : St := .foundRoot
  stack : List (LexT × Nat) := []
  unf : Bool := false
  finds : List LexT := []
  index : Nat := 0
  allow : Bool := false
  deriving DecidableEq, Repr

/-- outcome of one `Document.nextLexeme()` -/
inductive NextRes
  | lex (e : Ev)                -- (lex, nil)
  | eofLex (e : Ev)             -- (EndTop lexeme, io.EOF)
  | eof                         -- (LexEvent{}, io.EOF)
  | err (code pos : Nat)        -- a DocumentError recovered from the panic
  | crash (why : String)        -- a non-error panic: re-raised to the caller
  deriving DecidableEq, Repr

/-- `processingFoundLexeme(lexType)`; `s.finds` is already shifted -/
def processFound (s : Scn) (f : LexT) : NextRes × Scn :=
  let i := s.index - 1
  if f == .endTop then (.eofLex ⟨.endTop, i, i⟩, s)
  else if f.isOpening then (.lex ⟨f, i, i⟩, { s with stack := (f, i) :: s.stack })
  else match s.stack with
    | [] => (.crash "Reading from empty stack", s)
    | (p, b) :: rest =>
      let s' := { s with stack := rest }
      if (p == .objB && f == .objE) || (p == .arrB && f == .arrE) then (.lex ⟨f, b, i⟩, s')
      else if pairs p f then (.lex ⟨f, b, i - 1⟩, s')
      else (.crash "Incorrect ending of the lexical event", s')

/-- the part of `Next` behind the byte loop -/
def atEnd (n : Nat) (s : Scn) : NextRes × Scn :=
  match s.stack with
  | [] => (.eof, s)
  | (p, _) :: _ =>
    let s1 := { s with index := s.index + 1 }
    if p == .litB && !s.unf then processFound s1 .litE
    else (.err 303 (n - 1), s1)

/-- the byte loop of `Next`; `fuel` = bytes left -/
def scanLoop (cls : List Cls) : Nat → Scn → NextRes × Scn
  | 0, s => atEnd cls.length s
  | fuel + 1, s =>
    match cls[s.index]? with
    | none => atEnd cls.length s
    | some c =>
      let s1 := { s with index := s.index + 1 }
      match step s.allow s.st (s.stack.map (·.1)) s.unf c with
      | .error _ => (.err 301 s.index, s1)    -- the scanner is never stepped again before a rewind (`lexErr`)
      | .ok (st', unf', fs) =>
        let s2 := { s1 with st := st', unf := unf' }
        match fs with
        | [] => scanLoop cls fuel s2
        | f :: rest => processFound { s2 with finds := rest } f

/-- `scanner.Next()` seen through `Document.nextLexeme()` -/
def Scn.next (cls : List Cls) (s : Scn) : NextRes × Scn :=
  match s.finds with
  | f :: rest => processFound { s with finds := rest } f
  | [] => scanLoop cls (cls.length - s.index) s

/-- scanner and `lexErr` -/
abbrev Rd := Scn × Option (Nat × Nat)

/-- `Document.nextLexeme()` -/
def nextL (cls : List Cls) (p : Rd) : NextRes × Rd :=
  match p.2 with
  | some (c, q) => (.err c q, p)
  | none =>
    let r := p.1.next cls
    match r.1 with
    | .err c q => (.err c q, (r.2, some (c, q)))
    | x => (x, (r.2, none))

/-- the pre-fix `nextLexeme` (regression witness): the error is not kept, and the scanner is stepped again from where the
panic left it - here the part of that state the old code had already written is given explicitly for the one text of the
witness (`found(ObjectKeyBegin)` of `stateBeginKeyOrEmpty`) -/
def nextNotSticky (cls : List Cls) (p : Rd) : NextRes × Rd :=
  let r := p.1.next cls
  match r.1 with
  | .err c q => (.err c q, ({ r.2 with finds := if p.1.st == .objKeyOrEmpty then [.keyB] else [] }, none))
  | x => (x, (r.2, none))

inductive CheckRes
  | ok
  | err (code pos : Nat)
  | crash (why : String)
  deriving DecidableEq, Repr

inductive LenRes
  | ok (n : Nat)
  | err (code pos : Nat)
  | crash (why : String)
  deriving DecidableEq, Repr

/-- what the once cell holds after the first call -/
def CheckRes.cached : CheckRes → CheckRes
  | .crash _ => .ok
  | r => r
def LenRes.cached : LenRes → LenRes
  | .crash _ => .ok 0
  | r => r

/-- the `for` of `Document.check`; `seen` = `jsonLexCounter > 0` -/
def checkLoop (cls : List Cls) : Nat → Scn → Bool → CheckRes
  | 0, _, _ => .crash "fuel"
  | fuel + 1, s, seen =>
    match s.next cls with
    | (.lex _, s') => checkLoop cls fuel s' true
    | (.eofLex _, _) | (.eof, _) => if seen then .ok else .err 203 0
    | (.err c p, _) => .err c p
    | (.crash w, _) => .crash w

/-- the first `for` of `scanner.Length()` -/
def lenLoop (cls : List Cls) : Nat → Scn → Nat → LenRes
  | 0, _, _ => .crash "fuel"
  | fuel + 1, s, len =>
    match s.next cls with
    | (.lex e, s') => lenLoop cls fuel s' (e.e + 1)
    | (.eofLex e, _) => .ok e.e
    | (.eof, _) => .ok len
    | (.err c p, _) => .err c p
    | (.crash w, _) => .crash w

def clsOf (t : List UInt8) : List Cls := t.map classify

/-- fuel of the two loops; `DocCursorFuel.lean`: `7 * (bytes left) + 2 * |finds| + |stack|` decreases with every lexeme -/
def fuelOf (t : List UInt8) : Nat := 7 * t.length + 8

inductive Op | next | check | len
  deriving DecidableEq, Repr

inductive Out
  | next (r : NextRes)
  | check (r : CheckRes)
  | len (r : LenRes)
  deriving DecidableEq, Repr

structure Doc where
  text : List UInt8
  opt : Bool
  sc : Scn
  lexErr : Option (Nat × Nat) := none
  checkCell : Option CheckRes := none
  lenCell : Option LenRes := none
  deriving DecidableEq, Repr

/-- json.go:142-145 -/
def Doc.rewind (d : Doc) : Doc := { d with sc := { allow := d.opt }, lexErr := none }

/-- `FromFile`: the options are applied to the document, then `rewind` -/
def Doc.new (t : List UInt8) (o : Bool) : Doc := Doc.rewind { text := t, opt := o, sc := {} }

def Doc.runCheck (d : Doc) : CheckRes := checkLoop (clsOf d.text) (fuelOf d.text) d.sc false

def Doc.runLen (d : Doc) : LenRes :=
  match lenLoop (clsOf d.text) (fuelOf d.text) d.sc 0 with
  | .ok n => .ok (trimBlank d.text.toArray n)
  | r => r

def Doc.step (d : Doc) : Op → Out × Doc
  | .next =>
    let r := nextL (clsOf d.text) (d.sc, d.lexErr)
    (.next r.1, { d with sc := r.2.1, lexErr := r.2.2 })
  | .check =>
    match d.checkCell with
    | some r => (.check r, d)
    | none =>
      let d1 := d.rewind
      let r := d1.runCheck
      (.check r, { d1.rewind with checkCell := some r.cached })
  | .len =>
    match d.lenCell with
    | some r => (.len r, d)
    | none =>
      let d1 := d.rewind
      let r := d1.runLen
      (.len r, { d1.rewind with lenCell := some r.cached })

def Doc.run : Doc → List Op → List Out × Doc
  | d, [] => ([], d)
  | d, op :: ops =>
    let r := d.step op
    let rs := Doc.run r.2 ops
    (r.1 :: rs.1, rs.2)

/-! ## the specification side: functions of text and option alone -/

/-- `Check` of a document to which nothing was done -/
def checkText (t : List UInt8) (o : Bool) : CheckRes := ((Doc.new t o).step .check).1 |> fun
  | .check r => r
  | _ => .ok

/-- `Len` of a document to which nothing was done -/
def lenText (t : List UInt8) (o : Bool) : LenRes := ((Doc.new t o).step .len).1 |> fun
  | .len r => r
  | _ => .ok 0

/-- scanner and `lexErr` of a fresh document after `k` `NextLexeme` calls -/
def scanAt (t : List UInt8) (o : Bool) : Nat → Rd
  | 0 => ({ allow := o }, none)
  | k + 1 => (nextL (clsOf t) (scanAt t o k)).2

/-- what the `k`-th (from 0) `NextLexeme` of a fresh document delivers -/
def lexAt (t : List UInt8) (o : Bool) (k : Nat) : NextRes := (nextL (clsOf t) (scanAt t o k)).1

/-- the first `n` deliveries of a fresh document -/
def scanAll (t : List UInt8) (o : Bool) (n : Nat) : List NextRes := (List.range n).map (lexAt t o)

/-- the cursor (counted in `NextLexeme` calls since the scanner was last new): `c` / `l` = the once cells are done -/
def cursorFrom : Bool → Bool → Nat → List Op → Nat
  | _, _, k, [] => k
  | c, l, k, .next :: r => cursorFrom c l (k + 1) r
  | c, l, k, .check :: r => cursorFrom true l (if c then k else 0) r
  | c, l, k, .len :: r => cursorFrom c true (if l then k else 0) r

def cursorOf (ops : List Op) : Nat := cursorFrom false false 0 ops

def hasCheck (ops : List Op) : Bool := ops.contains .check
def hasLen (ops : List Op) : Bool := ops.contains .len

/-- the outputs of a history in closed form -/
def outsFrom (t : List UInt8) (o : Bool) : Bool → Bool → Nat → List Op → List Out
  | _, _, _, [] => []
  | c, l, k, .next :: r => .next (lexAt t o k) :: outsFrom t o c l (k + 1) r
  | c, l, k, .check :: r =>
    .check (if c then (checkText t o).cached else checkText t o) :: outsFrom t o true l (if c then k else 0) r
  | c, l, k, .len :: r =>
    .len (if l then (lenText t o).cached else lenText t o) :: outsFrom t o c true (if l then k else 0) r

/-- the document in closed form -/
def stateOf (t : List UInt8) (o : Bool) (c l : Bool) (k : Nat) : Doc :=
  { text := t, opt := o, sc := (scanAt t o k).1, lexErr := (scanAt t o k).2,
    checkCell := if c then some (checkText t o).cached else none,
    lenCell := if l then some (lenText t o).cached else none }

/-! ## the mutant: a `rewind` that forgets the option (regression witness) -/

def Doc.rewindDropping (d : Doc) : Doc := { d with sc := {}, lexErr := none }

/-- `Check` with the option-dropping rewind -/
def Doc.checkDropping (d : Doc) : CheckRes × Doc :=
  match d.checkCell with
  | some r => (r, d)
  | none =>
    let d1 := d.rewindDropping
    let r := d1.runCheck
    (r, { d1.rewindDropping with checkCell := some r.cached })

end DocCursor
