/-! `compare` on numbers in positional notation and on signed magnitudes: what the correctness proofs of
`cmpDigits`, `cmpFra`, `cmpAbs`, `N.cmp` and `cmpDen` share. Nothing here mentions the model. -/
namespace Num

/-- `compare` is fixed by the two strict orders -/
theorem nat_compare_congr {a b c d : Nat} (h1 : a < b ↔ c < d) (h2 : b < a ↔ d < c) :
    compare a b = compare c d := by
  rcases Nat.lt_trichotomy a b with l | l | l
  · rw [Nat.compare_eq_lt.2 l, Nat.compare_eq_lt.2 (h1.1 l)]
  · rw [Nat.compare_eq_eq.2 l, Nat.compare_eq_eq.2 (by omega)]
  · rw [Nat.compare_eq_gt.2 l, Nat.compare_eq_gt.2 (h2.1 l)]

theorem int_compare_congr {a b c d : Int} (h1 : a < b ↔ c < d) (h2 : b < a ↔ d < c) :
    compare a b = compare c d := by
  rcases Int.lt_trichotomy a b with l | l | l
  · rw [Int.compare_eq_lt.2 l, Int.compare_eq_lt.2 (h1.1 l)]
  · rw [Int.compare_eq_eq.2 l, Int.compare_eq_eq.2 (by omega)]
  · rw [Int.compare_eq_gt.2 l, Int.compare_eq_gt.2 (h2.1 l)]

theorem compare_mul_right {a b c : Nat} (hc : 0 < c) : compare (a * c) (b * c) = compare a b :=
  nat_compare_congr (Nat.mul_lt_mul_right hc) (Nat.mul_lt_mul_right hc)

/-- positional notation: comparing `x·P + X` with `y·P + Y`, the low parts below `P`, is lexicographic -/
theorem compare_lex {x y X Y P : Nat} (hX : X < P) (hY : Y < P) :
    compare (x * P + X) (y * P + Y) = (compare x y).then (compare X Y) := by
  rcases Nat.lt_trichotomy x y with l | l | l
  · have : (x + 1) * P ≤ y * P := Nat.mul_le_mul_right _ l
    rw [Nat.add_mul] at this
    rw [Nat.compare_eq_lt.2 l, Nat.compare_eq_lt.2 (by omega)]; rfl
  · subst l
    rw [Nat.compare_eq_eq.2 rfl]
    exact nat_compare_congr (by omega) (by omega)
  · have : (y + 1) * P ≤ x * P := Nat.mul_le_mul_right _ l
    rw [Nat.add_mul] at this
    rw [Nat.compare_eq_gt.2 l, Nat.compare_eq_gt.2 (by omega)]; rfl

/-- the way the Go comparisons are written: decide on the heads, else go on -/
theorem ite_compare (x y : Nat) (o : Ordering) :
    (if x < y then .lt else if x > y then .gt else o) = (compare x y).then o := by
  rcases Nat.lt_trichotomy x y with l | l | l
  · rw [if_pos l, Nat.compare_eq_lt.2 l]; rfl
  · subst l; rw [if_neg (Nat.lt_irrefl _), if_neg (Nat.lt_irrefl _), Nat.compare_eq_eq.2 rfl]; rfl
  · rw [if_neg (by omega), if_pos l, Nat.compare_eq_gt.2 l]; rfl

theorem int_compare_cast (x y : Nat) : compare (x : Int) (y : Int) = compare x y := by
  rcases Nat.lt_trichotomy x y with l | l | l
  · rw [Nat.compare_eq_lt.2 l]; exact Int.compare_eq_lt.2 (by omega)
  · rw [l, Nat.compare_eq_eq.2 rfl]; exact Int.compare_eq_eq.2 rfl
  · rw [Nat.compare_eq_gt.2 l]; exact Int.compare_eq_gt.2 (by omega)

theorem int_compare_neg_cast (x y : Nat) : compare (-(x : Int)) (-(y : Int)) = (compare x y).swap := by
  rcases Nat.lt_trichotomy x y with l | l | l
  · rw [Nat.compare_eq_lt.2 l]; exact Int.compare_eq_gt.2 (by omega)
  · rw [l, Nat.compare_eq_eq.2 rfl]; exact Int.compare_eq_eq.2 rfl
  · rw [Nat.compare_eq_gt.2 l]; exact Int.compare_eq_lt.2 (by omega)

/-- comparing two signed magnitudes, a negative one being non-zero: the sign logic of `N.cmp` -/
theorem signed_compare (na nb : Bool) (x y : Nat) (hx : na = true → 0 < x) (hy : nb = true → 0 < y) :
    compare ((if na then -1 else 1) * (x : Int)) ((if nb then -1 else 1) * (y : Int)) =
      if na == nb then (if na then (compare x y).swap else compare x y) else if na then .lt else .gt := by
  cases na <;> cases nb <;> simp only [Bool.false_eq_true, Int.one_mul, beq_self_eq_true, ↓reduceIte]
  · exact int_compare_cast x y
  · have := hy rfl; exact Int.compare_eq_gt.2 (by omega)
  · have := hx rfl; exact Int.compare_eq_lt.2 (by omega)
  · rw [Int.neg_one_mul, Int.neg_one_mul]; exact int_compare_neg_cast x y

theorem pow10_pos (n : Nat) : 0 < 10 ^ n := Nat.pow_pos (by omega)

end Num
