import JSight.ValidateCommon
/-!
The stack machine and the spec of `Validate` with the literals left abstract: documents carry literals of a type `D`,
schemas of a type `L`, and the literal test `litOK : L → D → Bool` is an argument of `feed`, `run`, `validate` and
`shape`.  `C01_validate_iff_shape` holds for every `litOK`; `CheckExample` and `CheckerSound` use it through this model.
-/
namespace VP

variable {L D : Type}

/-- JSON documents; objects are member *lists* (duplicates and any order are inputs). -/
inductive J (D : Type)
  | lit (d : D)
  | arr (xs : List (J D))
  | obj (ms : List (String × J D))

/-- Schemas of the fragment (after `compile`: each property carries `required`). -/
inductive S (L : Type)
  | lit (l : L)
  | any
  | arr (items : List (S L))
  | obj (props : List (String × Bool × S L))

inductive Ev (D : Type)
  | litB | litE (d : D) | objB | objE | keyB | keyE (k : String) | valB | valE | arrB | arrE | itemB | itemE

def Ev.isOpening : Ev D → Bool
  | .litB | .objB | .keyB | .valB | .arrB | .itemB => true
  | _ => false

mutual
def evs : J D → List (Ev D)
  | .lit d => [.litB, .litE d]
  | .arr xs => .arrB :: (evsItems xs ++ [.arrE])
  | .obj ms => .objB :: (evsMembers ms ++ [.objE])
def evsItems : List (J D) → List (Ev D)
  | [] => []
  | x :: xs => .itemB :: (evs x ++ .itemE :: evsItems xs)
def evsMembers : List (String × J D) → List (Ev D)
  | [] => []
  | (k, v) :: ms => .keyB :: .keyE k :: .valB :: (evs v ++ .valE :: evsMembers ms)
end

/-! ### the machine (single chain of validators = stack of frames) -/

inductive Frame (L : Type)
  | lit (l : L)
  | any (depth : Nat)
  | arr (items : List (S L)) (count : Nat)
  | obj (props : List (String × Bool × S L)) (req : List String) (last : Option String)

def requiredKeys (props : List (String × Bool × S L)) : List String :=
  (props.filter (fun p => p.2.1)).map (·.1)

def newV : S L → Frame L
  | .lit l => .lit l
  | .any => .any 0
  | .arr items => .arr items 0
  | .obj props => .obj props (requiredKeys props) none

/-- `ArrayNode.Child`: clamp to the last example element; none when the example array is empty. -/
def childAt (items : List (S L)) (i : Nat) : Option (S L) :=
  match items with
  | [] => none
  | _ => items[min i (items.length - 1)]?

def lookup (props : List (String × Bool × S L)) (k : String) : Option (S L) :=
  (props.find? (fun p => p.1 == k)).map (·.2.2)

/-- Feed one event to the leaf (head of the stack). `none` = validation error. -/
def feed (litOK : L → D → Bool) : List (Frame L) → Ev D → Option (List (Frame L))
  | [], _ => none
  | .lit l :: K, e =>
    match e with
    | .litB => some (.lit l :: K)
    | .litE d => if litOK l d then some K else none
    | _ => none
  | .any d :: K, e =>
    let d' := if e.isOpening then d + 1 else d - 1
    if d' == 0 then some K else some (.any d' :: K)
  | .arr items c :: K, e =>
    match e with
    | .arrB | .itemE => some (.arr items c :: K)
    | .itemB => match childAt items c with
      | some s => some (newV s :: .arr items (c + 1) :: K)
      | none => none
    | .arrE => some K
    | _ => none
  | .obj props req last :: K, e =>
    match e with
    | .objB | .keyB | .valE => some (.obj props req last :: K)
    | .keyE k => some (.obj props (req.filter (· != k)) (some k) :: K)
    | .valB => match last with
      | some k => match lookup props k with
        | some s => some (newV s :: .obj props req last :: K)
        | none => none
      | none => none
    | .objE => if req.isEmpty then some K else none
    | _ => none

def run (litOK : L → D → Bool) : List (Frame L) → List (Ev D) → Option (List (Frame L))
  | K, [] => some K
  | K, e :: es => match feed litOK K e with
    | some K' => run litOK K' es
    | none => none

def validate (litOK : L → D → Bool) (s : S L) (d : J D) : Bool :=
  match run litOK [newV s] (evs d) with
  | some [] => true
  | _ => false

mutual
def shape (litOK : L → D → Bool) : S L → J D → Bool
  | .any, _ => true
  | .lit l, .lit d => litOK l d
  | .lit _, _ => false
  | .arr items, .arr xs => shapeItems litOK items 0 xs
  | .arr _, _ => false
  | .obj props, .obj ms => shapeMembers litOK props ms && (requiredKeys props).all (fun k => ms.any (fun m => m.1 == k))
  | .obj _, _ => false
def shapeItems (litOK : L → D → Bool) : List (S L) → Nat → List (J D) → Bool
  | _, _, [] => true
  | items, i, x :: xs => (match childAt items i with
      | some s => shape litOK s x
      | none => false) && shapeItems litOK items (i + 1) xs
def shapeMembers (litOK : L → D → Bool) : List (String × Bool × S L) → List (String × J D) → Bool
  | _, [] => true
  | props, (k, v) :: ms => (match lookup props k with
      | some s => shape litOK s v
      | none => false) && shapeMembers litOK props ms
end

variable (litOK : L → D → Bool)

theorem childAt_eq (items : List (S L)) (i : Nat) : childAt items i = Tbl.clampAt items i := by cases items <;> rfl

theorem run_append (K : List (Frame L)) (es fs : List (Ev D)) :
    run litOK K (es ++ fs) = match run litOK K es with | some K' => run litOK K' fs | none => none := by
  induction es generalizing K with
  | nil => simp [run]
  | cons e es ih =>
    simp only [List.cons_append, run]
    cases feed litOK K e with
    | none => simp
    | some K' => simpa using ih K'

variable {litOK} in
theorem run_some {K K' : List (Frame L)} {e : Ev D} (h : feed litOK K e = some K') (es : List (Ev D)) : run litOK K (e :: es) = run litOK K' es := by
  rw [run, h]

theorem feed_any (n : Nat) (K : List (Frame L)) (e : Ev D) :
    feed litOK (.any n :: K) e
      = if (if e.isOpening then n + 1 else n - 1) == 0 then some K else some (.any (if e.isOpening then n + 1 else n - 1) :: K) :=
  rfl

theorem any_open (K : List (Frame L)) (n : Nat) (e : Ev D) (es : List (Ev D)) (h : e.isOpening = true) :
    run litOK (.any n :: K) (e :: es) = run litOK (.any (n+1) :: K) es :=
  run_some (by rw [feed_any, h]; rfl) es

theorem any_close (K : List (Frame L)) (n : Nat) (e : Ev D) (es : List (Ev D)) (h : e.isOpening = false) :
    run litOK (.any (n+2) :: K) (e :: es) = run litOK (.any (n+1) :: K) es :=
  run_some (by rw [feed_any, h]; rfl) es

theorem any_last (K : List (Frame L)) (e : Ev D) (es : List (Ev D)) (h : e.isOpening = false) :
    run litOK (.any 1 :: K) (e :: es) = run litOK K es :=
  run_some (by rw [feed_any, h]; rfl) es

mutual
theorem any_keep (d : J D) (n : Nat) (K : List (Frame L)) (rest : List (Ev D)) :
    run litOK (.any (n+1) :: K) (evs d ++ rest) = run litOK (.any (n+1) :: K) rest := by
  cases d with
  | lit k =>
    simp only [evs, List.cons_append, List.nil_append]
    rw [any_open litOK K _ _ _ rfl, any_close litOK K _ _ _ rfl]
  | arr xs =>
    simp only [evs, List.cons_append, List.append_assoc, List.nil_append]
    rw [any_open litOK K _ _ _ rfl, any_keep_items xs (n+1) K, any_close litOK K _ _ _ rfl]
  | obj ms =>
    simp only [evs, List.cons_append, List.append_assoc, List.nil_append]
    rw [any_open litOK K _ _ _ rfl, any_keep_members ms (n+1) K, any_close litOK K _ _ _ rfl]
theorem any_keep_items (xs : List (J D)) (n : Nat) (K : List (Frame L)) (rest : List (Ev D)) :
    run litOK (.any (n+1) :: K) (evsItems xs ++ rest) = run litOK (.any (n+1) :: K) rest := by
  cases xs with
  | nil => simp only [evsItems, List.nil_append]
  | cons x xs =>
    simp only [evsItems, List.cons_append, List.append_assoc]
    rw [any_open litOK K _ _ _ rfl, any_keep x (n+1) K, any_close litOK K _ _ _ rfl, any_keep_items xs n K rest]
theorem any_keep_members (ms : List (String × J D)) (n : Nat) (K : List (Frame L)) (rest : List (Ev D)) :
    run litOK (.any (n+1) :: K) (evsMembers ms ++ rest) = run litOK (.any (n+1) :: K) rest := by
  cases ms with
  | nil => simp only [evsMembers, List.nil_append]
  | cons m ms =>
    obtain ⟨k, v⟩ := m
    simp only [evsMembers, List.cons_append, List.append_assoc]
    rw [any_open litOK K _ _ _ rfl, any_close litOK K _ _ _ rfl, any_open litOK K _ _ _ rfl, any_keep v (n+1) K, any_close litOK K _ _ _ rfl,
      any_keep_members ms n K rest]
end

theorem any_top (d : J D) (K : List (Frame L)) (rest : List (Ev D)) :
    run litOK (.any 0 :: K) (evs d ++ rest) = run litOK K rest := by
  cases d with
  | lit k =>
    simp only [evs, List.cons_append, List.nil_append]
    rw [any_open litOK K _ _ _ rfl, any_last litOK K _ _ rfl]
  | arr xs =>
    simp only [evs, List.cons_append, List.append_assoc, List.nil_append]
    rw [any_open litOK K _ _ _ rfl, any_keep_items litOK xs 0 K, any_last litOK K _ _ rfl]
  | obj ms =>
    simp only [evs, List.cons_append, List.append_assoc, List.nil_append]
    rw [any_open litOK K _ _ _ rfl, any_keep_members litOK ms 0 K, any_last litOK K _ _ rfl]

mutual
theorem run_value (s : S L) (d : J D) (K : List (Frame L)) (rest : List (Ev D)) :
    run litOK (newV s :: K) (evs d ++ rest) = bif shape litOK s d then run litOK K rest else none := by
  cases s with
  | any => simp [newV, shape, any_top]
  | lit l =>
    cases d with
    | lit dk => cases h : litOK l dk <;> simp [newV, evs, shape, run, feed, h]
    | arr xs => simp [newV, evs, shape, run, feed]
    | obj ms => simp [newV, evs, shape, run, feed]
  | arr items =>
    cases d with
    | lit dk => simp [newV, evs, shape, run, feed]
    | arr xs =>
      have := run_items items xs 0 K rest
      simp only [newV, evs, shape, run, feed, List.append_assoc, List.cons_append, List.nil_append] at this ⊢
      exact this
    | obj ms => simp [newV, evs, shape, run, feed]
  | obj props =>
    cases d with
    | lit dk => simp [newV, evs, shape, run, feed]
    | arr xs => simp [newV, evs, shape, run, feed]
    | obj ms =>
      have := run_members props ms (requiredKeys props) none K rest
      simp only [newV, evs, shape, run, feed, List.append_assoc, List.cons_append, List.nil_append] at this ⊢
      exact this
theorem run_items (items : List (S L)) (xs : List (J D)) (c : Nat) (K : List (Frame L)) (rest : List (Ev D)) :
    run litOK (.arr items c :: K) (evsItems xs ++ .arrE :: rest)
      = bif shapeItems litOK items c xs then run litOK K rest else none := by
  cases xs with
  | nil => simp [evsItems, shapeItems, run, feed]
  | cons x xs =>
    cases hc : childAt items c with
    | none => simp [evsItems, shapeItems, hc, run, feed]
    | some s =>
      have h1 := run_value s x (.arr items (c+1) :: K) (.itemE :: (evsItems xs ++ .arrE :: rest))
      have h2 := run_items items xs (c+1) K rest
      simp only [evsItems, shapeItems, hc, List.cons_append, List.append_assoc, run, feed, h1]
      cases hs : shape litOK s x
      · simp
      · simp [h2]
theorem run_members (props : List (String × Bool × S L)) (ms : List (String × J D)) (req : List String)
    (last : Option String) (K : List (Frame L)) (rest : List (Ev D)) :
    run litOK (.obj props req last :: K) (evsMembers ms ++ .objE :: rest)
      = bif shapeMembers litOK props ms && req.all (fun r => ms.any (fun m => m.1 == r)) then run litOK K rest else none := by
  cases ms with
  | nil =>
    simp only [evsMembers, shapeMembers, List.nil_append, run, feed, all_none_isEmpty, Bool.true_and]
    cases req <;> simp
  | cons m ms =>
    obtain ⟨k, v⟩ := m
    cases hl : lookup props k with
    | none => simp [evsMembers, shapeMembers, hl, run, feed]
    | some s =>
      have h1 := run_value s v (.obj props (req.filter (· != k)) (some k) :: K) (.valE :: (evsMembers ms ++ .objE :: rest))
      have h2 := run_members props ms (req.filter (· != k)) (some k) K rest
      simp only [evsMembers, shapeMembers, hl, List.cons_append, List.append_assoc, run, feed, h1]
      cases hs : shape litOK s v
      · simp
      · simp only [cond_true, h2, Bool.true_and]
        rw [req_step req k v ms]
end

/-- C01 (model level): the validator accepts exactly the documents shaped like the example. -/
theorem C01_validate_iff_shape (s : S L) (d : J D) : validate litOK s d = shape litOK s d := by
  have := run_value litOK s d [] []
  simp only [List.append_nil, run] at this
  unfold validate
  rw [this]
  cases shape litOK s d <;> rfl

end VP

#print axioms VP.C01_validate_iff_shape
