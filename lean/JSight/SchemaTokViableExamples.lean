import JSight.SchemaTokViable
import JSight.SchemaErrExamples
/-! Concrete instances for the token-level viability theorems (non-vacuity). -/
namespace SchemaScan
namespace ErrEx
open Len Len.Ex

/-- behind `[1, {"a":` the closing text is `1}]` -/
theorem ex_closers3 : closerBytes res3.1 = b "1}]" := by decide

/-- `[1, {"a":` is a viable prefix: `[1, {"a":1}]` is accepted -/
theorem ex_viable3 : ∃ evs', scanAll (b "[1, {\"a\":" ++ b "1}]") = .ok evs' := by
  rw [← ex_closers3]
  exact bytes_viable (toks3.map ATok.base)
    (by intro t ht; obtain ⟨x, hx, rfl⟩ := List.mem_map.mp ht; exact toks3_wf x hx) res3.1 res3.2
    (by rw [arun_base]; exact run3) (b "[1, {\"a\":") (by rw [renderAToks_base]; decide)

/-- `[x` : invalid character at offset 1, behind the accepted token `[` -/
theorem ex_brack_x : scanAll [91, 120] = .error (.invalidChar 1 "looking for beginning of value") := by
  apply fails_scanAll
  have hd : ([91, 120].map classify).toArray = #[Cls.lbrack, Cls.nameo] := by decide
  rw [hd]
  have h1 : readStep #[Cls.lbrack, Cls.nameo] {} =
      .ok { step := .arrItemOrEmpty, finds := [.arrB], ctxStack := [{ ty := .initial }], ctx := { ty := .array }, index := 1 } := by
    unfold readStep
    simp only [dispatch]
    rfl
  have h2 : shiftFound #[Cls.lbrack, Cls.nameo]
      { step := .arrItemOrEmpty, finds := [.arrB], ctxStack := [{ ty := .initial }], ctx := { ty := .array }, index := 1 } =
      .ok (some ({ step := .arrItemOrEmpty, stack := [(.arrB, 0)], ctxStack := [{ ty := .initial }],
                   ctx := { ty := .array }, index := 1 }, ⟨.arrB, 0, 0⟩)) := rfl
  refine Fails.read rfl (by decide) h1 (Fails.shift h2 ?_)
  refine Fails.readErr rfl (by decide) ?_
  unfold readStep
  simp only [dispatch]
  rfl

end ErrEx
end SchemaScan
