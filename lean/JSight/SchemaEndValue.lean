import JSight.SchemaLeafB
import JSight.SchemaLeafC
import JSight.SchemaLeafE
/-! `endValue` (stateEndValue): closes the finished token and re-dispatches the byte. -/
namespace SchemaScan

theorem stackTy_eq (s : Sc) (k : Nat) : stackTy s k = (s.stack.map (·.1))[k]? := by
  unfold stackTy; simp only [List.getElem?_map]

/-! `found` changes `finds` only (`found_index`, `found_finds_length` are in `SchemaFrame`) -/

@[simp] theorem found_stack (s : Sc) (t : LexT) : (found s t).stack = s.stack := rfl
@[simp] theorem found_ret (s : Sc) (t : LexT) : (found s t).ret = s.ret := rfl
@[simp] theorem found_step (s : Sc) (t : LexT) : (found s t).step = s.step := rfl

/-- the invariant across one byte for the steps from which an annotation can be started (`St.annRet`) -/
theorem annRet_ok {f s c p1 p2 r} (hr : r.annRet = true) (h : InvAt r s) (hf : s.finds = [])
    (hs : StepOK r s c) : OKRes Inv (dispatch (f+1) r s c p1 p2) := by
  cases r with
  | foundRoot => exact foundRoot_ok h hs
  | objKeyOrEmpty => exact objKeyOrEmpty_ok h hf hs
  | objKey => exact objKey_ok h hf hs
  | objValue => exact objValue_ok h hs
  | arrItemOrEmpty => exact arrItemOrEmpty_ok h hf hs
  | arrItem => exact arrItem_ok h hs
  | afterKey => exact afterKey_ok h hs
  | afterValue =>
    obtain ⟨eff, hE, hG⟩ := h
    obtain ⟨V, rfl, hV⟩ := hG.inv
    exact afterValue_ok hE hV (by rw [hE.stack_eq hf]; exact patOK0 V) hs
  | afterItem =>
    obtain ⟨eff, hE, hG⟩ := h
    obtain ⟨V, rfl, hV⟩ := hG.inv
    refine afterItem_ok hE hV ?_ hs
    intro h0
    have := hE.stack_eq hf
    rw [h0] at this
    cases this
  | endTop => exact endTop_ok h hs
  | _ => cases hr

theorem CH.inv {V ret} (h : CH V ret) :
    VH V ret ∨ (∃ m σ r ret', V = m :: σ ∧ ret = r :: ret' ∧ m.isMarker = true ∧ r.annRet = true ∧
      Good r σ ret') := by
  cases h with
  | vh h => exact Or.inl h
  | marker hm hr hg => exact Or.inr ⟨_, _, _, _, rfl, rfl, hm, hr, hg⟩

theorem endValue_ok {f s c p1 p2 eff} (hE : Eff s eff) (hf : s.finds = [])
    (hG : Good .endValue eff s.ret) : OKRes Inv (endValue (f+1) s c p1 p2) := by
  have hS := hE.stack_eq hf
  have hlen : s.stack.length = eff.length := by rw [← hS, List.length_map]
  unfold endValue
  simp only [bind, Except.bind, pure, Except.pure, dispatch']
  rcases hG.inv with ⟨V, rfl, hV⟩ | ⟨V, rfl, hV⟩ | ⟨V, rfl, hV⟩ | ⟨V, rfl, hV⟩ | hC
  · -- key shortcut
    simp [stackTy_eq, hS, hlen]
    exact afterKey_ok ⟨_, Eff_found hE rfl rfl, Good.obj rfl hV⟩ (Or.inl rfl)
  · -- key
    simp [stackTy_eq, hS, hlen]
    exact afterKey_ok ⟨_, Eff_found hE rfl rfl, Good.obj rfl hV⟩ (Or.inl rfl)
  · -- literal: at top level, in an object, in an array
    rcases hV.inv with ⟨rfl, hret⟩ | ⟨V', rfl, hV'⟩ | ⟨V', rfl, hV'⟩
    · simp [stackTy_eq, hS, hlen]
      refine endTop_ok ⟨_, Eff_found hE rfl rfl, ?_⟩ (Or.inl rfl)
      show Good .endTop [] s.ret
      rw [hret]; exact Good.endTop
    · simp [stackTy_eq, hS, hlen]
      refine afterValue_ok (Eff_found (Eff_found hE rfl rfl) rfl rfl) hV' ?_ (Or.inl rfl)
      show PatOK (s.stack.map (·.1)) V'
      rw [hS]; exact patOK2 V'
    · simp [stackTy_eq, hS, hlen]
      refine afterItem_ok (Eff_found (Eff_found hE rfl rfl) rfl rfl) hV' ?_ (Or.inl rfl)
      show s.stack ≠ []
      intro h0; rw [h0] at hS; cases hS
  · -- type shortcut
    simp [stackTy_eq, hS, hlen]
    refine OKRes.bind (finishShortcut_spec hE hV) ?_
    rintro v ⟨hvr, hvs, ⟨V', rfl, hst, hE', hV'⟩ | ⟨V', rfl, hst, hE', hV'⟩ | ⟨rfl, hret, hst, hE'⟩⟩
    · rw [hst]
      refine afterValue_ok hE' (hvr ▸ hV') ?_ (Or.inl hst)
      rw [hvs, hS]; exact patOK3 V'
    · rw [hst]
      refine afterItem_ok hE' (hvr ▸ hV') ?_ (Or.inl hst)
      rw [hvs]; intro h0; rw [h0] at hS; cases hS
    · rw [hst]
      refine endTop_ok ⟨_, hE', ?_⟩ (Or.inl hst)
      rw [hvr, hret]; exact Good.endTop
  · -- no open token: the effective stack is the host's (top level, object, array) or has an annotation marker on top
    rcases hC.inv with hV | ⟨m, σ, r, ret', rfl, hret, hm, hr, hGr⟩
    · rcases hV.inv with ⟨rfl, hret⟩ | ⟨V', rfl, hV'⟩ | ⟨V', rfl, hV'⟩
      · simp [hlen]
        refine endTop_ok ⟨_, hE, ?_⟩ (Or.inl rfl)
        show Good .endTop [] s.ret
        rw [hret]; exact Good.endTop
      · simp [stackTy_eq, hS, hlen]
        refine afterValue_ok (Eff_found hE rfl rfl) hV' ?_ (Or.inl rfl)
        show PatOK (s.stack.map (·.1)) V'
        rw [hS]; exact patOK1 V'
      · simp [stackTy_eq, hS, hlen]
        refine afterItem_ok (Eff_found hE rfl rfl) hV' ?_ (Or.inl rfl)
        show s.stack ≠ []
        intro h0; rw [h0] at hS; cases hS
    · obtain ⟨a, l, hst, ha, hl⟩ := List.map_eq_cons_iff.mp hS
      cases m <;> simp [LexT.isMarker] at hm
      · simp [stackTy_eq, hS, hlen]
        split
        · simp only [hst]
          refine OKRes.bind (popRet_spec (s := { s with ann := .none, stack := l }) hret) ?_
          rintro _ rfl
          refine annRet_ok hr ⟨σ, ⟨?_, ?_⟩, hGr⟩ hf (Or.inl rfl)
          · show applyFinds s.finds (l.map (·.1)) = some σ
            rw [hf, hl]; rfl
          · exact hE.2
        · rfl
      · simp [stackTy_eq, hS, hlen]
        rfl

end SchemaScan
