import JSight.CheckExample
/-!
C04, converse at the model level: with unique keys everywhere, `checked` holds *exactly* when the EXAMPLE
validates — the checker's conditions demand nothing beyond "the EXAMPLE obeys the rules".
-/
namespace VP
variable {L D : Type} (litOK : L → D → Bool) (ex : L → D)

mutual
/-- keys are unique in every object of the schema -/
def nodupAll : S L → Bool
  | .lit _ => true
  | .any => true
  | .arr items => nodupItems items
  | .obj props => keysNodup props && nodupProps props
def nodupItems : List (S L) → Bool
  | [] => true
  | s :: ss => nodupAll s && nodupItems ss
def nodupProps : List (String × Bool × S L) → Bool
  | [] => true
  | (_, _, s) :: ps => nodupAll s && nodupProps ps
end

mutual
theorem shape_checked (s : S L) (hn : nodupAll s = true) (h : shape litOK s (exampleOf ex s) = true) :
    checked litOK ex s = true := by
  cases s with
  | lit l => simpa [checked, exampleOf, shape] using h
  | any => simp [checked]
  | arr items =>
    simp only [nodupAll] at hn
    simp only [exampleOf, shape] at h
    simp only [checked]
    exact items_checked [] items hn (by simpa using h)
  | obj props =>
    simp only [nodupAll, Bool.and_eq_true] at hn
    simp only [exampleOf, shape, Bool.and_eq_true] at h
    simp only [checked, Bool.and_eq_true]
    exact ⟨props_checked props [] props rfl hn.1 hn.2 h.1, hn.1⟩
theorem items_checked (pre ss : List (S L)) (hn : nodupItems ss = true)
    (h : shapeItems litOK (pre ++ ss) pre.length (exampleItems ex ss) = true) : checkedItems litOK ex ss = true := by
  cases ss with
  | nil => simp [checkedItems]
  | cons s ss =>
    simp only [nodupItems, Bool.and_eq_true] at hn
    simp only [exampleItems, shapeItems, childAt_eq, Tbl.clampAt_append, Bool.and_eq_true] at h
    simp only [checkedItems, Bool.and_eq_true]
    refine ⟨shape_checked s hn.1 h.1, items_checked (pre ++ [s]) ss hn.2 ?_⟩
    simpa [List.append_assoc] using h.2
theorem props_checked (props pre ps : List (String × Bool × S L)) (hp : props = pre ++ ps)
    (hk : keysNodup props = true) (hn : nodupProps ps = true)
    (h : shapeMembers litOK props (exampleProps ex ps) = true) : checkedProps litOK ex ps = true := by
  cases ps with
  | nil => simp [checkedProps]
  | cons p ps =>
    obtain ⟨k, r, s⟩ := p
    simp only [nodupProps, Bool.and_eq_true] at hn
    have hmem : (k, r, s) ∈ props := by rw [hp]; simp
    have hl := lookup_of_nodup props hk k r s hmem
    simp only [exampleProps, shapeMembers, hl, Bool.and_eq_true] at h
    simp only [checkedProps, Bool.and_eq_true]
    exact ⟨shape_checked s hn.1 h.1, props_checked props (pre ++ [(k, r, s)]) ps (by rw [hp]; simp) hk hn.2 h.2⟩
end

/-- C04 as an equivalence on the model: with unique keys, the checker's conditions hold iff the EXAMPLE validates -/
theorem C04_checked_iff (s : S L) (hn : nodupAll s = true) :
    checked litOK ex s = true ↔ validate litOK s (exampleOf ex s) = true := by
  constructor
  · exact C04_example_valid litOK ex s
  · intro h
    rw [C01_validate_iff_shape] at h
    exact shape_checked litOK ex s hn h

end VP
