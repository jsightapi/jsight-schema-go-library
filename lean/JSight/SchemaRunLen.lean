import JSight.SchemaRunOK
import JSight.SchemaLenBase
/-!
How many events a run of the scanner can deliver: the run invariant `RunInv N s m` (`SchemaRunOK`) bounds the number of
calls of `next` that are still to come, so ANY stream of events (`Emits`) or drain (`Drain`) from a state with the invariant
is shorter than `m`; from the initial state that is the fuel `8 * size + 16` which `scanAll`, `length`, `lengthEvents` and
`loadText` give their loops, so the descriptions of a text (grammar, token lists, trees) say nothing of how many events it
has.  (The fuel of the loops is not the fuel `3 * size + 16` they pass to every single call of `next`: `NextOk.next`.)
-/
namespace SchemaScan

variable {data : Array Cls}

/-- one delivered event uses up one call of the bound -/
theorem NextOk.run {s s' : Sc} {e : Ev} {m : Nat} (hn : NextOk data s (some (s', e))) (h : RunInv data.size s (m + 1)) :
    RunInv data.size s' m := by
  have := next_run h
  rw [hn.next] at this
  exact this

theorem Emits.length_lt {s : Sc} {evs : List Ev} (h : Emits data s evs) : ∀ m, RunInv data.size s m → evs.length < m := by
  induction h with
  | nil _ =>
    intro m hm
    cases m with
    | zero => exact hm.pos.elim
    | succ m => exact Nat.succ_pos _
  | cons hn _ ih =>
    intro m hm
    cases m with
    | zero => exact hm.pos.elim
    | succ m => exact Nat.succ_lt_succ (ih m (hn.run hm))

/-- **every stream of events from the start of a text fits the fuel of the loops over `Next()`** -/
theorem Emits.length_init {lc : Bool} {evs : List Ev} (h : Emits data { lengthComputing := lc } evs) :
    evs.length < 8 * data.size + 16 :=
  h.length_lt _ (RunInv_init _ lc)

/-- `scanAll` on a text whose classes the scanner turns into `evs` -/
theorem scanAll_of_emits {bs : List UInt8} {cs : List Cls} {evs : List Ev} (hcls : bs.map classify = cs)
    (h : Emits cs.toArray {} evs) : scanAll bs = .ok evs := by
  unfold scanAll
  simp only [hcls]
  simpa using events_of_emits h _ [] h.length_init

/-- the induction of `Emits.length_lt` once more: neither form gives the other (a drain may stop at `end-top` or at an error,
and `Emits.drain` asks for `noTop`) -/
theorem Len.Drain.length_lt {s : Sc} {evs : List Ev} {f : Len.Stop} (h : Len.Drain data s evs f) :
    ∀ m, RunInv data.size s m → evs.length < m := by
  induction h with
  | eof _ | top _ _ | err _ =>
    intro m hm
    cases m with
    | zero => exact hm.pos.elim
    | succ m => exact Nat.succ_pos _
  | ev hn _ _ ih =>
    intro m hm
    cases m with
    | zero => exact hm.pos.elim
    | succ m => exact Nat.succ_lt_succ (ih m (hn.run hm))

/-- the same for a drain in either mode -/
theorem Len.Drain.length_init {lc : Bool} {evs : List Ev} {f : Len.Stop}
    (h : Len.Drain data { lengthComputing := lc } evs f) : evs.length < 8 * data.size + 16 :=
  h.length_lt _ (RunInv_init _ lc)

end SchemaScan
