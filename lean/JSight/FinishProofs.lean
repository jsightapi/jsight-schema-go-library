import JSight.NumberProofs
import JSight.NumberValue
/-! `Num.finish`, the end of `NewNumber`, keeps the value. `finish_eq` reads it as a shift of the decimal point by the
exponent (`shift`) followed by the two trims of zeros (`trims`); `shift_spec` and `trims_spec` say that each keeps the
value and what shape it leaves. `finish_spec` puts them together: from an accumulator `s` with `ScOK s` the result is a
well-formed normal form whose value is `s.mant · 10^(-s.t)` and whose fractional part does not end in zero. -/
namespace Num

theorem natVal_zeros (k : Nat) : natVal (zeros k) = 0 := by
  induction k with
  | zero => rfl
  | succ k ih =>
    have : zeros (k+1) = 0 :: zeros k := by simp [zeros, List.replicate_succ]
    rw [this, natVal_cons, ih]; simp

theorem digits_zeros (k : Nat) : Digits (zeros k) := by
  intro d hd; simp [zeros] at hd; omega

theorem digits_append {xs ys : List Nat} (hx : Digits xs) (hy : Digits ys) : Digits (xs ++ ys) := by
  intro d hd
  rcases List.mem_append.1 hd with h | h
  · exact hx d h
  · exact hy d h

/-- `trimLeadingZerosInTheIntegerPart` drops `j ≤ k` zeros; if it stops early the next digit is not zero -/
theorem trimLeading_spec (nat : List Nat) (k : Nat) (hk : k ≤ nat.length) :
    ∃ j, j ≤ k ∧ trimLeading nat k = nat.drop j ∧ natVal (nat.drop j) = natVal nat ∧
      (j < k → ∀ d, (nat.drop j).head? = some d → d ≠ 0) := by
  induction k generalizing nat with
  | zero => exact ⟨0, Nat.le_refl _, by simp [trimLeading], by simp, by omega⟩
  | succ k ih =>
    cases nat with
    | nil => simp at hk
    | cons d ds =>
      simp only [List.length_cons] at hk
      by_cases hd : d = 0
      · subst hd
        obtain ⟨j, hj, h1, h2, h3⟩ := ih ds (by omega)
        refine ⟨j + 1, by omega, ?_, ?_, ?_⟩
        · simp [trimLeading, h1]
        · simp only [List.drop_succ_cons, h2, natVal_cons]; simp
        · intro hlt; simpa using h3 (by omega)
      · refine ⟨0, by omega, ?_, by simp, ?_⟩
        · simp [trimLeading, hd]
        · intro _ x hx; simp at hx; subst hx; exact hd

theorem natVal_snoc (xs : List Nat) (d : Nat) : natVal (xs ++ [d]) = natVal xs * 10 + d := by
  rw [natVal_append]; simp [natVal_cons, natVal_nil]

/-- `trimTrailingZerosInTheFractionalPart` drops `j ≤ exp` trailing zeros; if a fractional part is left its last digit is not zero -/
theorem trimTrailing_spec (nat : List Nat) (exp : Nat) (h : exp ≤ nat.length) :
    ∃ j, (trimTrailing nat exp).2 + j = exp ∧ (trimTrailing nat exp).1 = nat.take (nat.length - j) ∧
      natVal nat = natVal (trimTrailing nat exp).1 * 10 ^ j ∧
      (0 < (trimTrailing nat exp).2 → ∀ d, (trimTrailing nat exp).1.getLast? = some d → d ≠ 0) := by
  induction exp generalizing nat with
  | zero => exact ⟨0, by simp [trimTrailing], by simp [trimTrailing], by simp [trimTrailing], by simp [trimTrailing]⟩
  | succ n ih =>
    rcases List.eq_nil_or_concat nat with rfl | ⟨xs, d, rfl⟩
    · simp at h
    · simp only [List.concat_eq_append] at h ⊢
      simp only [List.length_append, List.length_cons, List.length_nil] at h
      by_cases hd : d = 0
      · subst hd
        have e : trimTrailing (xs ++ [0]) (n+1) = trimTrailing xs n := by
          simp [trimTrailing]
        obtain ⟨j, h1, h2, h3, h4⟩ := ih xs (by omega)
        refine ⟨j + 1, ?_, ?_, ?_, ?_⟩
        · rw [e]; omega
        · rw [e, h2]
          simp only [List.length_append, List.length_cons, List.length_nil]
          rw [show xs.length + (0 + 1) - (j + 1) = xs.length - j by omega]
          rw [List.take_append_of_le_length (by omega)]
        · rw [e, natVal_snoc, h3, Nat.pow_succ]; simp [Nat.mul_assoc]
        · rw [e]; exact h4
      · have e : trimTrailing (xs ++ [d]) (n+1) = (xs ++ [d], n+1) := by
          cases d with
          | zero => exact absurd rfl hd
          | succ d => simp [trimTrailing]
        refine ⟨0, by rw [e], by rw [e]; exact (List.take_of_length_le (by simp)).symm, by rw [e]; simp, ?_⟩
        rw [e]; intro _ x hx; simp at hx; subst hx; exact hd

/-! ### `finish` = shift by the exponent, then the two trims -/

def shift (digits : List Nat) (il fl : Int) : List Nat × Nat :=
  if il < 0 then (zeros il.natAbs ++ digits, fl.toNat)
  else if fl < 0 then (digits ++ zeros fl.natAbs, 0)
  else (digits, fl.toNat)

def trims (p : List Nat × Nat) : List Nat × Nat :=
  trimTrailing (trimLeading p.1 (p.1.length - p.2)) p.2

def Sc.e (s : Sc) : Int := (if s.expNeg then -1 else 1) * (natVal s.expDigits : Int)

theorem finish_eq (s : Sc) : finish s =
    if !s.finished then none else
    if s.expNeg && s.expDigits.isEmpty then none else
    let r := trims (shift s.digits (s.intLen + s.e) (s.fraLen - s.e))
    some { neg := s.neg && !r.1.isEmpty, nat := r.1, exp := r.2 } := by
  rfl

theorem shift_spec (digits : List Nat) (il fl : Int) (hd : Digits digits)
    (hlen : il + fl = digits.length) :
    Digits (shift digits il fl).1 ∧ (shift digits il fl).2 ≤ (shift digits il fl).1.length ∧
    natVal (shift digits il fl).1 * 10 ^ fl.toNat
      = natVal digits * 10 ^ (-fl).toNat * 10 ^ (shift digits il fl).2 := by
  unfold shift
  by_cases h1 : il < 0
  · simp only [h1, if_true]
    refine ⟨digits_append (digits_zeros _) hd, ?_, ?_⟩
    · simp only [List.length_append, zeros, List.length_replicate]; omega
    · rw [natVal_append, natVal_zeros]
      have : (-fl).toNat = 0 := by omega
      simp [this]
  · by_cases h2 : fl < 0
    · simp only [h1, h2, if_true, if_false]
      refine ⟨digits_append hd (digits_zeros _), by simp, ?_⟩
      rw [natVal_append, natVal_zeros]
      have a : fl.toNat = 0 := by omega
      have b : (-fl).toNat = fl.natAbs := by omega
      simp [a, b, zeros]
    · simp only [h1, h2, if_false]
      refine ⟨hd, by omega, ?_⟩
      have : (-fl).toNat = 0 := by omega
      simp [this]

theorem trims_spec (nat : List Nat) (fra : Nat) (hd : Digits nat) (hle : fra ≤ nat.length) :
    WFN { neg := false, nat := (trims (nat, fra)).1, exp := (trims (nat, fra)).2 } ∧
    natVal nat * 10 ^ (trims (nat, fra)).2 = natVal (trims (nat, fra)).1 * 10 ^ fra ∧
    ((trims (nat, fra)).1 ≠ [] → natVal (trims (nat, fra)).1 ≠ 0) ∧
    (0 < (trims (nat, fra)).2 → ∀ d, (trims (nat, fra)).1.getLast? = some d → d ≠ 0) := by
  unfold trims
  simp only []
  obtain ⟨j, hj, e1, v1, z1⟩ := trimLeading_spec nat (nat.length - fra) (Nat.sub_le _ _)
  -- of the digits, `j` leading zeros go, `m` integer digits stay, and `i` of the `fra` fractional digits go
  obtain ⟨m, hm⟩ : ∃ m, nat.length = j + m + fra := ⟨nat.length - fra - j, by omega⟩
  have hjm : m ≠ 0 → j < nat.length - fra := by omega
  have l1 : (trimLeading nat (nat.length - fra)).length = m + fra := by rw [e1, List.length_drop]; omega
  obtain ⟨i, hi, e2, v2, z2⟩ := trimTrailing_spec (trimLeading nat (nat.length - fra)) fra (by omega)
  generalize hT : trimTrailing (trimLeading nat (nat.length - fra)) fra = T at hi e2 v2 z2
  obtain ⟨n2, f2⟩ := T
  simp only [] at hi e2 v2 z2 ⊢
  have dn1 : Digits (trimLeading nat (nat.length - fra)) := by rw [e1]; exact digits_drop _ _ hd
  have dn2 : Digits n2 := by rw [e2]; exact digits_take _ _ dn1
  have e2' : n2 = (nat.drop j).take (m + f2) := by rw [e2, l1, e1]; congr 1; omega
  have l2 : n2.length = m + f2 := by rw [e2', List.length_take, List.length_drop]; omega
  -- the integer part of the result is the integer part after the leading trim
  have hint : n2.take (n2.length - f2) = (nat.drop j).take m := by
    rw [l2, e2', List.take_take, Nat.add_sub_cancel, Nat.min_eq_left (Nat.le_add_right m f2)]
  have hnl : NoLeadingZero (n2.take (n2.length - f2)) := by
    rw [hint]
    intro d hd'
    rw [List.head?_take] at hd'
    split at hd'
    · cases hd'
    · exact z1 (hjm ‹_›) d hd'
  have hval : natVal nat * 10 ^ f2 = natVal n2 * 10 ^ fra := by
    rw [← v1, ← e1, v2, ← hi, Nat.pow_add]; ring
  refine ⟨⟨dn2, by simp only []; omega, hnl, by simp⟩, hval, ?_, z2⟩
  intro hne
  by_cases hf : 0 < f2
  · -- a fractional part is left: its last digit is not zero
    rcases List.eq_nil_or_concat n2 with h0 | ⟨xs, d, hx⟩
    · exact absurd h0 hne
    · rw [List.concat_eq_append] at hx
      have : d ≠ 0 := z2 hf d (by rw [hx]; simp)
      rw [hx, natVal_snoc]; omega
  · -- no fractional part: the whole result is the integer part, whose first digit is not zero
    have f0 : f2 = 0 := by omega
    subst f0
    have hge := natVal_ge_of_noLeadingZero n2 hne (by simpa using hnl)
    have : 0 < 10 ^ (n2.length - 1) := Nat.pow_pos (by omega)
    omega

/-- what the character loop guarantees about the accumulator (`scan_spec` in `NumberDen` establishes it for every run, from `rel_run`) -/
structure ScOK (s : Sc) : Prop where
  digs : Digits s.digits
  len : s.intLen + s.fraLen = s.digits.length

/-- signed mantissa of the accumulator: the scanned numeral denotes `mant · 10^(e - fraLen)` -/
def Sc.mant (s : Sc) : Int := (if s.neg then -1 else 1) * (natVal s.digits : Int)
/-- number of fractional digits of the denoted value (may be negative) -/
def Sc.t (s : Sc) : Int := s.fraLen - s.e

theorem finish_spec (s : Sc) (ok : ScOK s) (n : N) (h : finish s = some n) :
    WFN n ∧ n.mant * 10 ^ s.t.toNat = s.mant * 10 ^ (-s.t).toNat * 10 ^ n.exp ∧
    (0 < n.exp → ∀ d, n.nat.getLast? = some d → d ≠ 0) := by
  rw [finish_eq] at h
  split at h
  · exact absurd h (by simp)
  split at h
  · exact absurd h (by simp)
  simp only [Option.some.injEq] at h
  have hlen : (s.intLen + s.e) + (s.fraLen - s.e) = s.digits.length := by have := ok.len; omega
  obtain ⟨sd, sl, sv⟩ := shift_spec s.digits (s.intLen + s.e) (s.fraLen - s.e) ok.digs hlen
  generalize hS : shift s.digits (s.intLen + s.e) (s.fraLen - s.e) = S at h sd sl sv
  obtain ⟨nat, fra⟩ := S
  obtain ⟨wf, tv, nz, lz⟩ := trims_spec nat fra sd sl
  generalize hT : trims (nat, fra) = T at h wf tv nz lz
  obtain ⟨n2, f2⟩ := T
  simp only [] at h wf tv nz sv lz
  subst h
  refine ⟨⟨wf.digits, wf.expLe, wf.noLead, ?_⟩, ?_, lz⟩
  · simp only [Bool.and_eq_true, Bool.not_eq_true', List.isEmpty_eq_false_iff]
    intro ⟨_, hne⟩; exact nz hne
  · -- the sign is dropped only from zero; the digits keep their value through the shift and the trims
    have hm : N.mant ⟨s.neg && !n2.isEmpty, n2, f2⟩ = (if s.neg then -1 else 1) * (natVal n2 : Int) := by
      unfold N.mant; cases n2 <;> cases s.neg <;> simp [natVal_nil]
    have e1 : dval (natVal nat) fra = dval (natVal s.digits) s.t := (dval_eq_iff_spec _ _ _ _).2 (by exact_mod_cast sv)
    have e2 : dval (natVal nat) fra = dval (natVal n2) f2 := (dval_eq_iff_nat _ _ _ _).2 (by exact_mod_cast tv)
    rw [← dval_eq_iff_spec, hm, Sc.mant, dval_mul_left, dval_mul_left, ← e2, e1]

end Num
