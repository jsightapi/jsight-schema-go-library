import JSight.ValidatePos
import JSight.ValidateCommon
import JSight.NodeTable
/-!
Proofs for `ValidatePos.lean`: the position-carrying validator machine reports exactly `firstOffence`.
Key lemma `value_run`: feeding the events of a value to the fresh leaves of a schema position either rejects
with the spec's (code, offset) or hands control back to the parent chain — generalised over the parent chain
and the remaining events; mutual structural recursion over the nested document type.
The numbers are the codes of the Go validators as `ValidatePos.feed1` / `settle` give them: 204 `ErrOrRuleSetValidation`
(several readings failed), 205 `ErrRequiredKeyNotFound`, 207 `ErrUnexpectedLexInLiteralValidator`; likewise 208 / 209
`ErrUnexpectedLexInObjectValidator` / `…ArrayValidator` (an object / array reading met another kind of value), 206
`ErrSchemaDoesNotSupportKey` (at the key), 1203 `ErrElementNotFoundInArray` (an element where the example array is empty).
`VPos.Emb` (the tokens of a document tree are the slices of the source at the tree's offsets) is what `value_run` asks
of the source; `emb_at` gives it for a tree whose rendering stands in the source (`NodeTable.Sits`).
-/
namespace VPos
open JsonScan (Ev LexT)

variable {α L : Type} (p : P α L) (src : List α)

/-- what happens after the leaves of a position are done: the parent becomes the leaf again -/
def after (K : List (Frame L)) (rest : List Ev) : Res :=
  match K with
  | [] => .acc
  | f :: K' => run p src [f] K' rest

/-- reject with the offence `x` if there is one, else go on as `k` -/
def fin (x : Option (Code × Nat)) (k : Res) : Res :=
  match x with
  | none => k
  | some (c, q) => .rej c q

theorem after_cons (f : Frame L) (K : List (Frame L)) (rest : List Ev) :
    after p src (f :: K) rest = run p src [f] K rest := rfl

@[simp] theorem fin_none (k : Res) : fin none k = k := rfl
@[simp] theorem fin_some (c q : Nat) (k : Res) : fin (some (c, q)) k = .rej c q := rfl

theorem fin_map (x : Option Code) (o : Nat) (k : Res) :
    fin (x.map (·, o)) k = match x with | none => k | some c => .rej c o := by
  cases x <;> rfl

/-! ### `settle` on the result lists that occur -/

theorem settle_all_fail (rs : List (R L)) (K : List (Frame L)) (pos : Nat) (h : ∀ r ∈ rs, r.isFail = true) :
    settle rs K pos = allFailed rs pos := by
  have hf : rs.filter (fun r => !r.isFail) = [] := by
    rw [List.filter_eq_nil_iff]; intro r hr; simp [h r hr]
  unfold settle; rw [hf]

theorem settle_dones (rs : List (R L)) (K : List (Frame L)) (pos : Nat) (n : Nat)
    (h : rs.filter (fun r => !r.isFail) = List.replicate (n + 1) .done) :
    settle rs K pos = pop K := by
  unfold settle; rw [h]
  cases n with
  | zero => simp [List.replicate, R.isDone]
  | succ m => simp [List.replicate, R.isDone]

theorem stays_map (fs : List (Frame L)) : stays (fs.map R.stay) = some fs := by
  induction fs with
  | nil => rfl
  | cons f fs ih => simp [stays, ih]

theorem settle_stays (rs : List (R L)) (K : List (Frame L)) (pos : Nat) (f : Frame L) (fs : List (Frame L))
    (h : rs.filter (fun r => !r.isFail) = (f :: fs).map R.stay) :
    settle rs K pos = .cont (f :: fs) K := by
  unfold settle; rw [h]
  have := stays_map (f :: fs)
  simp only [List.map_cons] at this ⊢
  simp [R.isDone, this]

/-! ### one leaf, one lexeme -/

theorem run_stay (f f' : Frame L) (K : List (Frame L)) (e : Ev) (es : List Ev)
    (h : feed1 p src f e = .stay f') : run p src [f] K (e :: es) = run p src [f'] K es := by
  simp [run, step, settle, h, R.isFail, R.isDone, stays]

theorem run_pop (lv K : List (Frame L)) (e : Ev) (es : List Ev) (h : step p src lv K e = pop K) :
    run p src lv K (e :: es) = after p src K es := by
  cases K <;> simp only [run, h, pop, after]

theorem run_done (f : Frame L) (K : List (Frame L)) (e : Ev) (es : List Ev)
    (h : feed1 p src f e = .done) : run p src [f] K (e :: es) = after p src K es := by
  cases K <;> simp [run, step, settle, pop, h, R.isFail, R.isDone, after]

theorem run_fail (f : Frame L) (K : List (Frame L)) (e : Ev) (es : List Ev) (c q : Nat)
    (h : feed1 p src f e = .fail c q) : run p src [f] K (e :: es) = .rej c q := by
  simp [run, step, settle, allFailed, h, R.isFail]

theorem run_kids (f f' : Frame L) (s : S L) (K : List (Frame L)) (e : Ev) (es : List Ev)
    (h : feed1 p src f e = .kids f' s) : run p src [f] K (e :: es) = run p src (newLeaves s) (f' :: K) es := by
  simp [run, step, settle, h, R.isFail]

/-! ### the scalar alternatives of a position -/

theorem own1_one (c : Code) : own1 1 c = c := rfl

/-- a lexeme that is neither literal-begin nor literal-end: every literal validator fails (207) -/
theorem lits_fail (ls : List L) (e : Ev) (h1 : e.ty ≠ .litB) (h2 : e.ty ≠ .litE) :
    (ls.map Frame.lit).map (fun f => feed1 p src f e) = ls.map (fun _ => R.fail 207 e.b) := by
  rw [List.map_map]; apply List.map_congr_left; intro l _
  show feed1 p src (.lit l) e = _
  unfold feed1
  cases h : e.ty <;> simp_all

theorem lits_stay (ls : List L) (e : Ev) (h : e.ty = .litB) :
    (ls.map Frame.lit).map (fun f => feed1 p src f e) = (ls.map Frame.lit).map R.stay := by
  rw [List.map_map, List.map_map]; apply List.map_congr_left; intro l _
  simp [Function.comp, feed1, h]

theorem lits_end (ls : List L) (e : Ev) (h : e.ty = .litE) :
    (ls.map Frame.lit).map (fun f => feed1 p src f e) = ls.map (fun l => litRes p l (slice src e.b e.e) e.b) := by
  rw [List.map_map]; apply List.map_congr_left; intro l _
  simp only [Function.comp, feed1, h]

theorem filter_cons_stay (f : Frame L) (rs : List (R L)) :
    (R.stay f :: rs).filter (fun r => !r.isFail) = R.stay f :: rs.filter (fun r => !r.isFail) := rfl

theorem filter_cons_fail (c q : Nat) (rs : List (R L)) :
    (R.fail c q :: rs).filter (fun r => !r.isFail) = rs.filter (fun r => !r.isFail) := rfl

theorem run_nil (K : List (Frame L)) (e : Ev) (es : List Ev) : run p src [] K (e :: es) = .rej 204 e.b := rfl

theorem filter_fails {β : Type} (ls : List β) (g : β → R L) (h : ∀ l ∈ ls, (g l).isFail = true) :
    (ls.map g).filter (fun r => !r.isFail) = [] := by
  rw [List.filter_eq_nil_iff]; intro r hr
  obtain ⟨l, hl, rfl⟩ := List.mem_map.1 hr
  simp [h l hl]

theorem filter_litRes (ls : List L) (tok : List α) (b : Nat) :
    (ls.map (fun l => litRes p l tok b)).filter (fun r => !r.isFail)
      = List.replicate (ls.filter (fun l => (p.litErr l tok).isNone)).length .done := by
  induction ls with
  | nil => rfl
  | cons l ls ih =>
    simp only [List.map_cons, List.filter_cons, ih]
    cases h : p.litErr l tok <;> simp [litRes, h, R.isFail, List.replicate]

/-- literal-begin to the scalar alternatives: they all stay -/
theorem run_lits_begin (l : L) (ls : List L) (K : List (Frame L)) (e : Ev) (es : List Ev) (h : e.ty = .litB) :
    run p src ((l :: ls).map Frame.lit) K (e :: es) = run p src ((l :: ls).map Frame.lit) K es := by
  have hs : step p src ((l :: ls).map Frame.lit) K e = .cont ((l :: ls).map Frame.lit) K := by
    unfold step
    rw [lits_stay p src (l :: ls) e h]
    apply settle_stays
    rw [List.filter_eq_self.2]; · rfl
    intro r hr
    obtain ⟨f, _, rfl⟩ := List.mem_map.1 hr
    rfl
  simp only [run, hs]

/-- literal-end to the scalar alternatives: accepted when one accepts, else the own code / 204 -/
theorem run_lits_end (ls : List L) (K : List (Frame L)) (e : Ev) (es : List Ev) (h : e.ty = .litE) :
    run p src (ls.map Frame.lit) K (e :: es)
      = fin (litsOffence p ls (slice src e.b e.e) e.b) (after p src K es) := by
  have hrs := lits_end p src ls e h
  generalize slice src e.b e.e = tok at hrs ⊢
  by_cases hany : ls.any (fun l => (p.litErr l tok).isNone) = true
  · -- some alternative accepts: the survivors are all done
    have hlen : ∃ n, (ls.filter (fun l => (p.litErr l tok).isNone)).length = n + 1 := by
      obtain ⟨l, hl, hacc⟩ := List.any_eq_true.1 hany
      have : l ∈ ls.filter (fun l => (p.litErr l tok).isNone) := List.mem_filter.2 ⟨hl, hacc⟩
      exact ⟨_, (Nat.succ_pred_eq_of_pos (List.length_pos_of_mem this)).symm⟩
    obtain ⟨n, hn⟩ := hlen
    have hs : step p src (ls.map Frame.lit) K e = pop K := by
      unfold step; rw [hrs]
      exact settle_dones _ K e.b n (by rw [filter_litRes, hn])
    have hspec : litsOffence p ls tok e.b = none := by
      unfold litsOffence
      split
      · rename_i l
        simp only [List.any_cons, List.any_nil, Bool.or_false] at hany
        cases hl : p.litErr l tok with
        | none => rfl
        | some c => rw [hl] at hany; simp at hany
      · rw [hany]; rfl
    rw [hspec, fin_none]
    exact run_pop p src _ K e es hs
  · -- every alternative rejects the token
    have hnone : ls.any (fun l => (p.litErr l tok).isNone) = false := by simpa using hany
    have hall : ∀ r ∈ ls.map (fun l => litRes p l tok e.b), r.isFail = true := by
      intro r hr
      obtain ⟨l, hl, rfl⟩ := List.mem_map.1 hr
      have := List.any_eq_false.1 hnone l hl
      cases h' : p.litErr l tok with
      | none => rw [h'] at this; simp at this
      | some c => simp [litRes, h', R.isFail]
    have hs : step p src (ls.map Frame.lit) K e = allFailed (ls.map (fun l => litRes p l tok e.b)) e.b := by
      unfold step; rw [hrs]; exact settle_all_fail _ K e.b hall
    simp only [run, hs]
    unfold litsOffence
    match ls, hnone with
    | [], _ => rfl
    | [l], hn =>
      simp only [List.any_cons, List.any_nil, Bool.or_false] at hn
      cases h' : p.litErr l tok with
      | none => rw [h'] at hn; simp at hn
      | some c => simp [litRes, h', allFailed]
    | l1 :: l2 :: ls', hn =>
      rw [hn]
      simp only [List.any_cons, Bool.or_eq_false_iff] at hn
      cases h1 : p.litErr l1 tok with
      | none => rw [h1] at hn; simp at hn
      | some c1 => simp [List.map_cons, litRes, h1, allFailed]

/-- a lexeme that opens a container (or anything but a literal) to scalar alternatives only: they all fail -/
theorem run_lits_wrong (ls : List L) (K : List (Frame L)) (e : Ev) (es : List Ev) (h1 : e.ty ≠ .litB) (h2 : e.ty ≠ .litE) :
    run p src (ls.map Frame.lit) K (e :: es) = .rej (own1 ls.length 207) e.b := by
  have hs : step p src (ls.map Frame.lit) K e = .rej (own1 ls.length 207) e.b := by
    unfold step; rw [lits_fail p src ls e h1 h2, settle_all_fail _ K e.b (by intro r hr; obtain ⟨l, _, rfl⟩ := List.mem_map.1 hr; rfl)]
    match ls with
    | [] => rfl
    | [l] => rfl
    | l1 :: l2 :: ls' => rfl
  simp only [run, hs]

/-! ### a container next to scalar alternatives -/

/-- the container reads the lexeme, the scalar alternatives die on it -/
theorem run_cont_open (f f' : Frame L) (ls : List L) (K : List (Frame L)) (e : Ev) (es : List Ev)
    (h : feed1 p src f e = .stay f') (h1 : e.ty ≠ .litB) (h2 : e.ty ≠ .litE) :
    run p src (f :: ls.map Frame.lit) K (e :: es) = run p src [f'] K es := by
  have hs : step p src (f :: ls.map Frame.lit) K e = .cont [f'] K := by
    unfold step
    rw [List.map_cons, h, lits_fail p src ls e h1 h2]
    apply settle_stays
    rw [filter_cons_stay, filter_fails ls _ (fun _ _ => rfl)]; rfl
  simp only [run, hs]

/-- the container fails on a literal-begin: the scalar alternatives go on (its own error when there are none) -/
theorem run_cont_lit (f : Frame L) (ls : List L) (K : List (Frame L)) (e : Ev) (es : List Ev) (c : Nat)
    (h : feed1 p src f e = .fail c e.b) (h1 : e.ty = .litB) :
    run p src (f :: ls.map Frame.lit) K (e :: es)
      = match ls with | [] => .rej c e.b | _ => run p src (ls.map Frame.lit) K es := by
  match ls with
  | [] => simp [run, step, settle, allFailed, h, R.isFail]
  | l :: ls' =>
    have hs : step p src (f :: (l :: ls').map Frame.lit) K e = .cont ((l :: ls').map Frame.lit) K := by
      unfold step
      rw [List.map_cons, h, lits_stay p src (l :: ls') e h1]
      apply settle_stays
      rw [filter_cons_fail, List.filter_eq_self.2]; · rfl
      intro r hr
      obtain ⟨f, _, rfl⟩ := List.mem_map.1 hr
      rfl
    simp only [run, hs]

/-- nobody reads the lexeme -/
theorem run_cont_wrong (f : Frame L) (ls : List L) (K : List (Frame L)) (e : Ev) (es : List Ev) (c : Nat)
    (h : feed1 p src f e = .fail c e.b) (h1 : e.ty ≠ .litB) (h2 : e.ty ≠ .litE) :
    run p src (f :: ls.map Frame.lit) K (e :: es) = .rej (own1 (ls.length + 1) c) e.b := by
  have hs : step p src (f :: ls.map Frame.lit) K e = .rej (own1 (ls.length + 1) c) e.b := by
    unfold step
    rw [List.map_cons, h, lits_fail p src ls e h1 h2,
      settle_all_fail _ K e.b (by
        intro r hr
        rcases List.mem_cons.1 hr with rfl | hr
        · rfl
        · obtain ⟨l, _, rfl⟩ := List.mem_map.1 hr; rfl)]
    match ls with
    | [] => rfl
    | l :: ls' => rfl
  simp only [run, hs]

/-! ### `any`: the depth counter -/

/-- an `any` leaf at depth `n` after a closing lexeme: at depth 0 the value is over and the parent takes over -/
def anyDown (n : Nat) (K : List (Frame L)) (rest : List Ev) : Res :=
  match n with
  | 0 => after p src K rest
  | m + 1 => run p src [.any (m + 1)] K rest

theorem any_open (d : Nat) (K : List (Frame L)) (e : Ev) (es : List Ev) (h : e.ty.isOpening = true) :
    run p src [.any d] K (e :: es) = run p src [.any (d + 1)] K es :=
  run_stay p src _ _ K e es (by simp [feed1, h])

theorem any_close (d : Nat) (K : List (Frame L)) (e : Ev) (es : List Ev) (h : e.ty.isOpening = false) :
    run p src [.any (d + 1)] K (e :: es) = anyDown p src d K es := by
  cases d with
  | zero => exact run_done p src _ K e es (by simp [feed1, h])
  | succ m => exact run_stay p src _ _ K e es (by simp [feed1, h])

mutual
/-- the lexemes of a value leave the depth counter where it was; from depth 0 they end it -/
theorem any_skip (d : T α) (n o : Nat) (K : List (Frame L)) (rest : List Ev) :
    run p src [.any n] K (evsAt o d ++ rest) = anyDown p src n K rest := by
  cases d with
  | scalar tok =>
    simp only [evsAt, List.cons_append, List.nil_append]
    rw [any_open p src _ K _ _ rfl, any_close p src _ K _ _ rfl]
  | arr ws0 its =>
    simp only [evsAt, List.cons_append]
    rw [any_open p src _ K _ _ rfl, any_items its n o _ K rest]
  | obj ws0 ms =>
    simp only [evsAt, List.cons_append]
    rw [any_open p src _ K _ _ rfl, any_members ms n o _ K rest]
theorem any_items (its : List (List α × T α × List α)) (n a o : Nat) (K : List (Frame L)) (rest : List Ev) :
    run p src [.any (n + 1)] K (evsItems a o its ++ rest) = anyDown p src n K rest := by
  cases its with
  | nil =>
    simp only [evsItems, List.cons_append, List.nil_append]
    exact any_close p src _ K _ _ rfl
  | cons it its =>
    obtain ⟨w1, v, w2⟩ := it
    simp only [evsItems, List.cons_append, List.append_assoc]
    rw [any_open p src _ K _ _ rfl, any_skip v (n + 2) _ K _]
    show run p src [.any (n + 2)] K _ = _
    rw [any_close p src _ K _ _ rfl]
    exact any_items its n a _ K rest
theorem any_members (ms : List (List α × List α × List α × List α × T α × List α)) (n a o : Nat)
    (K : List (Frame L)) (rest : List Ev) :
    run p src [.any (n + 1)] K (evsMembers a o ms ++ rest) = anyDown p src n K rest := by
  cases ms with
  | nil =>
    simp only [evsMembers, List.cons_append, List.nil_append]
    exact any_close p src _ K _ _ rfl
  | cons m ms =>
    obtain ⟨w1, k, w2, w3, v, w4⟩ := m
    simp only [evsMembers, List.cons_append, List.append_assoc]
    rw [any_open p src _ K _ _ rfl, any_close p src _ K _ _ rfl]
    show run p src [.any (n + 1)] K _ = _
    rw [any_open p src _ K _ _ rfl, any_skip v (n + 2) _ K _]
    show run p src [.any (n + 2)] K _ = _
    rw [any_close p src _ K _ _ rfl]
    exact any_members ms n a _ K rest
end

theorem any_value (d : T α) (n o : Nat) (K : List (Frame L)) (rest : List Ev) :
    run p src [.any (n + 1)] K (evsAt o d ++ rest) = run p src [.any (n + 1)] K rest :=
  any_skip p src d (n + 1) o K rest

theorem any_top (d : T α) (o : Nat) (K : List (Frame L)) (rest : List Ev) :
    run p src [.any 0] K (evsAt o d ++ rest) = after p src K rest :=
  any_skip p src d 0 o K rest

/-! ### the tokens of a tree sit in the source at the tree's offsets -/

mutual
/-- `Emb src o d`: every scalar and key token of `d` is the slice of `src` at the offset it has when `d` starts at `o`
(the offsets of `evsAt o d`); nothing is asked of the layout -/
def Emb (src : List α) : Nat → T α → Prop
  | o, .scalar tok => slice src o (o + tok.length - 1) = tok
  | o, .arr ws0 its => EmbItems src (o + 1 + ws0.length) its
  | o, .obj ws0 ms => EmbMembers src (o + 1 + ws0.length) ms
def EmbItems (src : List α) : Nat → List (List α × T α × List α) → Prop
  | _, [] => True
  | o, (w1, v, w2) :: its =>
    Emb src (o + w1.length) v ∧ EmbItems src (o + w1.length + v.len + w2.length + (if its.isEmpty then 0 else 1)) its
def EmbMembers (src : List α) : Nat → List (List α × List α × List α × List α × T α × List α) → Prop
  | _, [] => True
  | o, (w1, k, w2, w3, v, w4) :: ms =>
    slice src (o + w1.length) (o + w1.length + k.length - 1) = k ∧
    Emb src (o + w1.length + k.length + w2.length + 1 + w3.length) v ∧
    EmbMembers src (o + w1.length + k.length + w2.length + 1 + w3.length + v.len + w4.length
      + (if ms.isEmpty then 0 else 1)) ms
end

/-! ### required keys -/

theorem all_hasKey_nil (unq : List α → String) (req : List String) :
    req.all (hasKey unq ([] : List (List α × List α × List α × List α × T α × List α))) = req.isEmpty := by
  cases req <;> simp [hasKey]

theorem req_step (unq : List α → String) (req : List String) (m : List α × List α × List α × List α × T α × List α)
    (ms : List (List α × List α × List α × List α × T α × List α)) :
    (req.filter (· != unq m.2.1)).all (hasKey unq ms) = req.all (hasKey unq (m :: ms)) := by
  have hk : ∀ ms', hasKey unq ms' = fun r => (ms'.map fun m => (unq m.2.1, m)).any (fun x => x.1 == r) := by
    intro ms'; funext r; simp [hasKey, List.any_map, Function.comp_def]
  rw [hk, hk]
  exact _root_.req_step req (unq m.2.1) m (ms.map fun m => (unq m.2.1, m))

/-! ### the key lemma -/

mutual
/-- the events of a value, fed to the fresh leaves of the schema position `s` under any parent chain `K`: the machine
rejects with the spec's first offence, or else goes on with `rest` at the parent (`after`) -/
theorem value_run (s : S L) (d : T α) (o : Nat) (hd : Emb src o d) (K : List (Frame L)) (rest : List Ev) :
    run p src (newLeaves s) K (evsAt o d ++ rest) = fin (firstOffence p s o d) (after p src K rest) := by
  cases s with
  | any => simp only [newLeaves, firstOffence, fin_none]; exact any_top p src d o K rest
  | lits ls =>
    cases d with
    | scalar tok =>
      simp only [Emb] at hd
      simp only [newLeaves, evsAt, firstOffence, List.cons_append, List.nil_append]
      match ls with
      | [] => rfl
      | l :: ls' =>
        rw [run_lits_begin p src l ls' K _ _ rfl, run_lits_end p src (l :: ls') K _ _ rfl]
        simp only [hd]
    | arr ws0 its =>
      simp only [newLeaves, evsAt, firstOffence, List.cons_append, fin_some]
      exact run_lits_wrong p src ls K _ _ (by simp) (by simp)
    | obj ws0 ms =>
      simp only [newLeaves, evsAt, firstOffence, List.cons_append, fin_some]
      exact run_lits_wrong p src ls K _ _ (by simp) (by simp)
  | arr ls items =>
    cases d with
    | scalar tok =>
      simp only [Emb] at hd
      simp only [newLeaves, evsAt, firstOffence, List.cons_append, List.nil_append]
      rw [run_cont_lit p src _ ls K _ _ 209 rfl rfl]
      match ls with
      | [] => rfl
      | l :: ls' =>
        rw [run_lits_end p src (l :: ls') K _ _ rfl]
        simp only [hd, List.isEmpty_cons, cond_false]
    | obj ws0 ms =>
      simp only [newLeaves, evsAt, firstOffence, List.cons_append, fin_some]
      exact run_cont_wrong p src _ ls K _ _ 209 rfl (by simp) (by simp)
    | arr ws0 its =>
      simp only [Emb] at hd
      have h := items_run items its 0 o (o + 1 + ws0.length) hd K rest
      simp only [newLeaves, evsAt, firstOffence, List.cons_append]
      rw [run_cont_open p src _ (.arr items 0) ls K _ _ rfl (by simp) (by simp)]; exact h
  | obj ls props =>
    cases d with
    | scalar tok =>
      simp only [Emb] at hd
      simp only [newLeaves, evsAt, firstOffence, List.cons_append, List.nil_append]
      rw [run_cont_lit p src _ ls K _ _ 208 rfl rfl]
      match ls with
      | [] => rfl
      | l :: ls' =>
        rw [run_lits_end p src (l :: ls') K _ _ rfl]
        simp only [hd, List.isEmpty_cons, cond_false]
    | arr ws0 its =>
      simp only [newLeaves, evsAt, firstOffence, List.cons_append, fin_some]
      exact run_cont_wrong p src _ ls K _ _ 208 rfl (by simp) (by simp)
    | obj ws0 ms =>
      simp only [Emb] at hd
      have h := members_run props ms (requiredKeys props) none o (o + 1 + ws0.length) hd K rest
      have hspec : fin (firstOffence p (.obj ls props) o (.obj ws0 ms)) (after p src K rest)
          = fin (offMembers p props (o + 1 + ws0.length) ms)
              (bif (requiredKeys props).all (hasKey p.unq ms) then after p src K rest else .rej 205 o) := by
        simp only [firstOffence]
        cases offMembers p props (o + 1 + ws0.length) ms with
        | some x => rfl
        | none => cases (requiredKeys props).all (hasKey p.unq ms) <;> rfl
      rw [hspec]
      simp only [newLeaves, evsAt, List.cons_append]
      rw [run_cont_open p src _ (.obj props (requiredKeys props) none) ls K _ _ rfl (by simp) (by simp)]; exact h
theorem items_run (items : List (S L)) (its : List (List α × T α × List α)) (c a o : Nat) (hd : EmbItems src o its)
    (K : List (Frame L)) (rest : List Ev) :
    run p src [.arr items c] K (evsItems a o its ++ rest) = fin (offItems p items c o its) (after p src K rest) := by
  cases its with
  | nil =>
    simp only [evsItems, offItems, List.cons_append, List.nil_append, fin_none]
    exact run_done p src _ K _ _ rfl
  | cons it its =>
    obtain ⟨w1, v, w2⟩ := it
    simp only [EmbItems] at hd
    simp only [evsItems, offItems, List.cons_append, List.append_assoc]
    cases hc : childAt items c with
    | none =>
      simp only [fin_some]
      exact run_fail p src _ K _ _ 1203 _ (by simp [feed1, hc])
    | some s =>
      dsimp only
      rw [run_kids p src _ (.arr items (c + 1)) s K _ _ (by simp [feed1, hc]),
        value_run s v (o + w1.length) hd.1 (.arr items (c + 1) :: K) _]
      cases hs : firstOffence p s (o + w1.length) v with
      | some x => obtain ⟨c', q'⟩ := x; rfl
      | none =>
        simp only [fin_none, after_cons]
        rw [run_stay p src _ (.arr items (c + 1)) K _ _ rfl]
        exact items_run items its (c + 1) a _ hd.2 K rest
theorem members_run (props : List (String × Bool × S L)) (ms : List (List α × List α × List α × List α × T α × List α))
    (req : List String) (last : Option (Nat × Nat)) (a o : Nat) (hd : EmbMembers src o ms)
    (K : List (Frame L)) (rest : List Ev) :
    run p src [.obj props req last] K (evsMembers a o ms ++ rest)
      = fin (offMembers p props o ms) (bif req.all (hasKey p.unq ms) then after p src K rest else .rej 205 a) := by
  cases ms with
  | nil =>
    simp only [evsMembers, offMembers, List.cons_append, List.nil_append, fin_none, all_hasKey_nil]
    cases req with
    | nil => exact run_done p src _ K _ _ rfl
    | cons r req => exact run_fail p src _ K _ _ 205 a rfl
  | cons m ms =>
    obtain ⟨w1, k, w2, w3, v, w4⟩ := m
    simp only [EmbMembers] at hd
    obtain ⟨hk, hv, hms⟩ := hd
    simp only [evsMembers, offMembers, List.cons_append, List.append_assoc]
    rw [run_stay p src _ (.obj props req last) K _ _ rfl,
      run_stay p src _ (.obj props (req.filter (· != p.unq k)) (some (o + w1.length, o + w1.length + k.length - 1))) K _ _
        (by simp [feed1, hk])]
    cases hl : lookup props (p.unq k) with
    | none =>
      simp only [fin_some]
      exact run_fail p src _ K _ _ 206 _ (by simp [feed1, hk, hl])
    | some s =>
      dsimp only
      rw [run_kids p src _ (.obj props (req.filter (· != p.unq k)) (some (o + w1.length, o + w1.length + k.length - 1))) s K _ _
          (by simp [feed1, hk, hl]),
        value_run s v _ hv (_ :: K) _]
      cases hs : firstOffence p s (o + w1.length + k.length + w2.length + 1 + w3.length) v with
      | some x => obtain ⟨c', q'⟩ := x; rfl
      | none =>
        simp only [fin_none, after_cons]
        rw [run_stay p src _ (.obj props (req.filter (· != p.unq k)) (some (o + w1.length, o + w1.length + k.length - 1))) K _ _ rfl]
        have h := members_run props ms (req.filter (· != p.unq k)) (some (o + w1.length, o + w1.length + k.length - 1)) a _ hms K rest
        rw [h, req_step p.unq req (w1, k, w2, w3, v, w4) ms]
end


/-- the machine on the events of a document whose tokens sit in `src` reports the first offence -/
theorem validatePos_emb (s : S L) (d : T α) (o : Nat) (hd : Emb src o d) :
    validatePos p s src (evsAt o d) = Res.ofSpec (firstOffence p s o d) := by
  have h := value_run p src s d o hd [] []
  rw [List.append_nil] at h
  unfold validatePos
  rw [h]
  cases firstOffence p s o d with
  | none => rfl
  | some x => obtain ⟨c, q⟩ := x; rfl

/-! ### rendering: lengths, and the tokens of a rendered tree are where the tree says -/

theorem comma_length (sy : Sym α) (last : Bool) :
    (if last then [] else [sy.comma]).length = if last then 0 else 1 := by
  cases last <;> rfl

mutual
theorem render_length (sy : Sym α) (d : T α) : (d.render sy).length = d.len := by
  cases d with
  | scalar tok => rfl
  | arr ws0 its =>
    simp only [T.render, T.len, List.length_cons, List.length_append, renderItems_length sy its]
    omega
  | obj ws0 ms =>
    simp only [T.render, T.len, List.length_cons, List.length_append, renderMembers_length sy ms]
    omega
theorem renderItems_length (sy : Sym α) (its : List (List α × T α × List α)) :
    (renderItems sy its).length = lenItems its := by
  cases its with
  | nil => rfl
  | cons it its =>
    obtain ⟨w1, v, w2⟩ := it
    simp only [renderItems, lenItems, List.length_append, comma_length, render_length sy v, renderItems_length sy its]
theorem renderMembers_length (sy : Sym α) (ms : List (List α × List α × List α × List α × T α × List α)) :
    (renderMembers sy ms).length = lenMembers ms := by
  cases ms with
  | nil => rfl
  | cons m ms =>
    obtain ⟨w1, k, w2, w3, v, w4⟩ := m
    simp only [renderMembers, lenMembers, List.length_append, List.length_cons, comma_length, render_length sy v,
      renderMembers_length sy ms]
    omega
end

/- `renderItems` of a cons is `w1 ++ (v ++ (w2 ++ (comma ++ rest)))`: `h.append.2.append.1` is the value, four `.append.2`
reach the rest; in `renderMembers` the key is `h.append.2.append.1` and the lone `.2` steps over the colon. -/
mutual
theorem emb_at (sy : Sym α) (d : T α) (hd : d.TokNE) (src : List α) (o : Nat) (h : NodeTable.Sits src.toArray o (d.render sy)) :
    Emb src o d := by
  cases d with
  | scalar tok => exact h.cut hd
  | arr ws0 its => exact embItems_at sy its hd src _ h.2.append.2
  | obj ws0 ms => exact embMembers_at sy ms hd src _ h.2.append.2
theorem embItems_at (sy : Sym α) (its : List (List α × T α × List α)) (hd : TokNEItems its) (src : List α) (o : Nat)
    (h : NodeTable.Sits src.toArray o (renderItems sy its)) : EmbItems src o its := by
  cases its with
  | nil => trivial
  | cons it its =>
    obtain ⟨w1, v, w2⟩ := it
    simp only [renderItems] at h
    have h2 := h.append.2.append.2.append.2.append.2
    rw [comma_length, render_length] at h2
    exact ⟨emb_at sy v hd.1 src _ h.append.2.append.1, embItems_at sy its hd.2 src _ h2⟩
theorem embMembers_at (sy : Sym α) (ms : List (List α × List α × List α × List α × T α × List α)) (hd : TokNEMembers ms)
    (src : List α) (o : Nat) (h : NodeTable.Sits src.toArray o (renderMembers sy ms)) : EmbMembers src o ms := by
  cases ms with
  | nil => trivial
  | cons m ms =>
    obtain ⟨w1, k, w2, w3, v, w4⟩ := m
    simp only [renderMembers] at h
    have hv := h.append.2.append.2.append.2.2.append.2
    have h2 := hv.append.2.append.2.append.2
    rw [comma_length, render_length] at h2
    exact ⟨h.append.2.append.1.cut hd.1, emb_at sy v hd.2.1 src _ hv.append.1, embMembers_at sy ms hd.2.2 src _ h2⟩
end

theorem emb_value (sy : Sym α) (d : T α) (hd : d.TokNE) (src pre post : List α) (o : Nat)
    (hsrc : src = pre ++ (d.render sy ++ post)) (ho : o = pre.length) : Emb src o d := by
  subst hsrc ho; exact emb_at sy d hd _ _ (NodeTable.sits_mid ..)
theorem emb_items (sy : Sym α) (its : List (List α × T α × List α)) (hd : TokNEItems its) (src pre post : List α) (o : Nat)
    (hsrc : src = pre ++ (renderItems sy its ++ post)) (ho : o = pre.length) : EmbItems src o its := by
  subst hsrc ho; exact embItems_at sy its hd _ _ (NodeTable.sits_mid ..)
theorem emb_members (sy : Sym α) (ms : List (List α × List α × List α × List α × T α × List α)) (hd : TokNEMembers ms)
    (src pre post : List α) (o : Nat)
    (hsrc : src = pre ++ (renderMembers sy ms ++ post)) (ho : o = pre.length) : EmbMembers src o ms := by
  subst hsrc ho; exact embMembers_at sy ms hd _ _ (NodeTable.sits_mid ..)

/-- **the position theorem on the model**: for every schema of the fragment, every document tree (any depth,
width and layout) embedded anywhere in a source text, the validator machine fed with the tree's events
reports exactly the spec's first offence -/
theorem validatePos_render (sy : Sym α) (s : S L) (d : T α) (hd : d.TokNE) (pre post : List α) :
    validatePos p s (pre ++ (d.render sy ++ post)) (evsAt pre.length d) = Res.ofSpec (firstOffence p s pre.length d) :=
  validatePos_emb p _ s d _ (emb_value sy d hd _ pre post _ rfl rfl)

/-! ### the reported offset is the start of a value or key token, inside the document -/

theorem litsOffence_pos (ls : List L) (tok : List α) (o c q : Nat) (h : litsOffence p ls tok o = some (c, q)) : q = o := by
  unfold litsOffence at h
  split at h
  · simp only [Option.map_eq_some_iff, Prod.mk.injEq] at h
    obtain ⟨_, _, _, rfl⟩ := h; rfl
  · cases hb : ls.any (fun l => (p.litErr l tok).isNone) <;> rw [hb] at h <;>
      simp only [cond_true, cond_false, Option.some.injEq, Prod.mk.injEq, reduceCtorEq] at h
    exact h.2.symm

mutual
theorem offence_starts (s : S L) (d : T α) (o : Nat) (c q : Nat) (h : firstOffence p s o d = some (c, q)) :
    q ∈ starts o d := by
  cases s with
  | any => simp [firstOffence] at h
  | lits ls =>
    cases d with
    | scalar tok => simp only [firstOffence] at h; simp [starts, litsOffence_pos p ls tok o c q h]
    | arr ws0 its => simp only [firstOffence, Option.some.injEq, Prod.mk.injEq] at h; simp [starts, h.2]
    | obj ws0 ms => simp only [firstOffence, Option.some.injEq, Prod.mk.injEq] at h; simp [starts, h.2]
  | arr ls items =>
    cases d with
    | scalar tok =>
      simp only [firstOffence] at h
      cases hb : ls.isEmpty <;> rw [hb] at h <;> simp only [cond_true, cond_false, Option.some.injEq, Prod.mk.injEq] at h
      · simp [starts, litsOffence_pos p ls tok o c q h]
      · simp [starts, h.2]
    | obj ws0 ms => simp only [firstOffence, Option.some.injEq, Prod.mk.injEq] at h; simp [starts, h.2]
    | arr ws0 its =>
      simp only [firstOffence] at h
      simp only [starts, List.mem_cons]
      exact Or.inr (offItems_starts items its 0 _ c q h)
  | obj ls props =>
    cases d with
    | scalar tok =>
      simp only [firstOffence] at h
      cases hb : ls.isEmpty <;> rw [hb] at h <;> simp only [cond_true, cond_false, Option.some.injEq, Prod.mk.injEq] at h
      · simp [starts, litsOffence_pos p ls tok o c q h]
      · simp [starts, h.2]
    | arr ws0 its => simp only [firstOffence, Option.some.injEq, Prod.mk.injEq] at h; simp [starts, h.2]
    | obj ws0 ms =>
      simp only [firstOffence] at h
      simp only [starts, List.mem_cons]
      cases hm : offMembers p props (o + 1 + ws0.length) ms with
      | some x =>
        rw [hm] at h
        simp only [Option.some.injEq] at h
        subst h
        exact Or.inr (offMembers_starts props ms _ c q hm)
      | none =>
        rw [hm] at h
        cases hr : (requiredKeys props).all (hasKey p.unq ms) <;> rw [hr] at h <;>
          simp only [cond_true, cond_false, Option.some.injEq, Prod.mk.injEq, reduceCtorEq] at h
        exact Or.inl h.2.symm
theorem offItems_starts (items : List (S L)) (its : List (List α × T α × List α)) (i o : Nat) (c q : Nat)
    (h : offItems p items i o its = some (c, q)) : q ∈ startsItems o its := by
  cases its with
  | nil => simp [offItems] at h
  | cons it its =>
    obtain ⟨w1, v, w2⟩ := it
    simp only [offItems] at h
    simp only [startsItems, List.mem_append]
    cases hc : childAt items i with
    | none =>
      rw [hc] at h
      simp only [Option.some.injEq, Prod.mk.injEq] at h
      left; rw [← h.2]
      cases v <;> simp [starts]
    | some s =>
      rw [hc] at h
      dsimp only at h
      cases hs : firstOffence p s (o + w1.length) v with
      | some x =>
        rw [hs] at h
        simp only [Option.some.injEq] at h
        subst h
        exact Or.inl (offence_starts s v _ c q hs)
      | none =>
        rw [hs] at h
        exact Or.inr (offItems_starts items its (i + 1) _ c q h)
theorem offMembers_starts (props : List (String × Bool × S L))
    (ms : List (List α × List α × List α × List α × T α × List α)) (o : Nat) (c q : Nat)
    (h : offMembers p props o ms = some (c, q)) : q ∈ startsMembers o ms := by
  cases ms with
  | nil => simp [offMembers] at h
  | cons m ms =>
    obtain ⟨w1, k, w2, w3, v, w4⟩ := m
    simp only [offMembers] at h
    simp only [startsMembers, List.mem_cons, List.mem_append]
    cases hl : lookup props (p.unq k) with
    | none =>
      rw [hl] at h
      simp only [Option.some.injEq, Prod.mk.injEq] at h
      exact Or.inl h.2.symm
    | some s =>
      rw [hl] at h
      dsimp only at h
      cases hs : firstOffence p s (o + w1.length + k.length + w2.length + 1 + w3.length) v with
      | some x =>
        rw [hs] at h
        simp only [Option.some.injEq] at h
        subst h
        exact Or.inr (Or.inl (offence_starts s v _ c q hs))
      | none =>
        rw [hs] at h
        exact Or.inr (Or.inr (offMembers_starts props ms _ c q h))
end

theorem len_pos (d : T α) (hd : d.TokNE) : 0 < d.len := by
  cases d with
  | scalar tok => exact List.length_pos_iff.2 hd
  | arr ws0 its => simp only [T.len]; omega
  | obj ws0 ms => simp only [T.len]; omega

mutual
theorem starts_inside (d : T α) (hd : d.TokNE) (o q : Nat) (h : q ∈ starts o d) : o ≤ q ∧ q < o + d.len := by
  cases d with
  | scalar tok =>
    have := len_pos (.scalar tok) hd
    simp only [starts, List.mem_singleton] at h
    subst h; omega
  | arr ws0 its =>
    simp only [starts, List.mem_cons] at h
    simp only [T.len]
    rcases h with rfl | h
    · omega
    · have := startsItems_inside its hd _ q h; omega
  | obj ws0 ms =>
    simp only [starts, List.mem_cons] at h
    simp only [T.len]
    rcases h with rfl | h
    · omega
    · have := startsMembers_inside ms hd _ q h; omega
theorem startsItems_inside (its : List (List α × T α × List α)) (hd : TokNEItems its) (o q : Nat)
    (h : q ∈ startsItems o its) : o ≤ q ∧ q < o + lenItems its := by
  cases its with
  | nil => simp [startsItems] at h
  | cons it its =>
    obtain ⟨w1, v, w2⟩ := it
    simp only [TokNEItems] at hd
    simp only [startsItems, List.mem_append] at h
    simp only [lenItems]
    rcases h with h | h
    · have := starts_inside v hd.1 _ q h; omega
    · have := startsItems_inside its hd.2 _ q h; omega
theorem startsMembers_inside (ms : List (List α × List α × List α × List α × T α × List α)) (hd : TokNEMembers ms)
    (o q : Nat) (h : q ∈ startsMembers o ms) : o ≤ q ∧ q < o + lenMembers ms := by
  cases ms with
  | nil => simp [startsMembers] at h
  | cons m ms =>
    obtain ⟨w1, k, w2, w3, v, w4⟩ := m
    simp only [TokNEMembers] at hd
    simp only [startsMembers, List.mem_cons, List.mem_append] at h
    simp only [lenMembers]
    have hk : 0 < k.length := List.length_pos_iff.2 hd.1
    rcases h with rfl | h | h
    · omega
    · have := starts_inside v hd.2.1 _ q h; omega
    · have := startsMembers_inside ms hd.2.2 _ q h; omega
end

/-! ### `starts` = begin offsets of the value-opening and key-opening lexemes, in document order -/

/-- begin offset of a lexeme that opens a value (literal, array, object) or a key -/
def tokStart (e : Ev) : Option Nat :=
  match e.ty with
  | .litB | .arrB | .objB | .keyB => some e.b
  | _ => none

mutual
theorem starts_eq (d : T α) (o : Nat) : starts o d = (evsAt o d).filterMap tokStart := by
  cases d with
  | scalar tok => simp [starts, evsAt, tokStart, List.filterMap_cons]
  | arr ws0 its =>
    simp only [starts, evsAt, tokStart, List.filterMap_cons]
    rw [startsItems_eq its o]
  | obj ws0 ms =>
    simp only [starts, evsAt, tokStart, List.filterMap_cons]
    rw [startsMembers_eq ms o]
theorem startsItems_eq (its : List (List α × T α × List α)) (a o : Nat) :
    startsItems o its = (evsItems a o its).filterMap tokStart := by
  cases its with
  | nil => simp [startsItems, evsItems, tokStart, List.filterMap_cons]
  | cons it its =>
    obtain ⟨w1, v, w2⟩ := it
    simp only [startsItems, evsItems, tokStart, List.filterMap_cons, List.filterMap_append]
    rw [starts_eq v, startsItems_eq its a]
theorem startsMembers_eq (ms : List (List α × List α × List α × List α × T α × List α)) (a o : Nat) :
    startsMembers o ms = (evsMembers a o ms).filterMap tokStart := by
  cases ms with
  | nil => simp [startsMembers, evsMembers, tokStart, List.filterMap_cons]
  | cons m ms =>
    obtain ⟨w1, k, w2, w3, v, w4⟩ := m
    simp only [startsMembers, evsMembers, tokStart, List.filterMap_cons, List.filterMap_append]
    rw [starts_eq v, startsMembers_eq ms a]
end

theorem ofSpec_rej (x : Option (Code × Nat)) (c q : Nat) : Res.ofSpec x = .rej c q ↔ x = some (c, q) := by
  cases x with
  | none => simp [Res.ofSpec]
  | some y => obtain ⟨c', q'⟩ := y; simp [Res.ofSpec]

theorem ofSpec_acc (x : Option (Code × Nat)) : Res.ofSpec x = .acc ↔ x = none := by
  cases x with
  | none => simp [Res.ofSpec]
  | some y => obtain ⟨c', q'⟩ := y; simp [Res.ofSpec]

theorem ofSpec_ne_stuck (x : Option (Code × Nat)) : Res.ofSpec x ≠ .stuck := by
  cases x with
  | none => simp [Res.ofSpec]
  | some y => obtain ⟨c', q'⟩ := y; simp [Res.ofSpec]

end VPos
