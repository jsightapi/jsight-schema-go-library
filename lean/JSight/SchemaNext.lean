import JSight.SchemaEof
/-! `next`: the EOF branch, and the phase after end of input. -/
namespace SchemaScan

/-- outcome predicate for `next` -/
def NPost (P : Sc → Prop) : M (Option (Sc × Ev)) → Prop
  | .error e => e.isCrash = false
  | .ok none => True
  | .ok (some (s', _)) => P s'

/-- shape of `finds`/`stack` once the end of input has been passed -/
def PBshape (F S : List LexT) : Prop :=
  (F = [] ∧ TsOK S) ∨ (F = [.mixE] ∧ ∃ R, S = .mixB :: R ∧ TsOK R)

/-- the measure of the phase after the end of input: the number of events still to come -/
def muB (F S : List LexT) : Nat :=
  match F with
  | [] => eofLen S
  | _ => 1 + eofLen S.tail

/-- the phase after the end of input (phase B, after phase A of `next_A`): the index is past the size `N` of the input and
`finds` / `stack` have the shape `PBshape` -/
def PB (N : Nat) (s : Sc) : Prop := N < s.index ∧ PBshape s.finds (s.stack.map (·.1))

theorem TsOK_ts_inv {L} (h : TsOK (.tsB :: L)) : ∃ R, L = .mixB :: R ∧ TsOK R := by
  cases L with
  | nil => exact absurd h (by simp [TsOK])
  | cons a R => cases a <;> first | exact ⟨R, rfl, h⟩ | exact absurd h (by simp [TsOK])

theorem TsOK_tail {a L} (h : TsOK (a :: L)) (ha : a ≠ .tsB) : TsOK L := by
  cases a <;> first | exact h | exact absurd rfl ha

theorem map_some_ok {α β} (f : α → β) (a : α) : (f <$> (Except.ok a : M α)) = Except.ok (f a) := rfl

/-- the EOF branch of `next` -/
theorem eof_next {data : Array Cls} {fuel : Nat} {s : Sc} (hf : s.finds = [])
    (hi : ¬ s.index < data.size) (hT : TsOK (s.stack.map (·.1))) :
    NPost (fun s' => PB data.size s' ∧
      muB s'.finds (s'.stack.map (·.1)) < eofLen (s.stack.map (·.1))) (next data (fuel+1) s) := by
  have hidx : data.size < s.index + 1 := by omega
  unfold next
  simp only [bind, Except.bind, pure, Except.pure, shiftFound_nil data hf, hi, ↓reduceIte, stackTy_eq]
  have hcases : s.stack = [] ∨ ∃ p b l, s.stack = (p, b) :: l := by
    cases s.stack with
    | nil => exact Or.inl rfl
    | cons a l => exact Or.inr ⟨a.1, a.2, l, rfl⟩
  rcases hcases with h0 | ⟨p, b, l, hst⟩
  · have : s.stack.isEmpty = true := by rw [h0]; rfl
    simp [this, NPost]
  · have hS : s.stack.map (·.1) = p :: l.map (·.1) := by rw [hst]; rfl
    have hne : s.stack.isEmpty = false := by rw [hst]; rfl
    rw [hS] at hT
    simp only [hne, Bool.not_false, ↓reduceIte]
    rw [show (List.map (fun x => x.fst) ({ s with index := s.index + 1 } : Sc).stack) = p :: l.map (·.1) from hS]
    simp only [List.getElem?_cons_zero]
    cases p <;> dsimp only <;> try (exact (rfl : Err.isCrash (Err.unexpectedEOF _) = false))
    · -- litB
      split
      · rfl
      · obtain ⟨stk, e, hp, hm⟩ := processFound_spec data
          { s with index := s.index + 1 } .litE (S' := l.map (·.1)) (by show applyFind _ (s.stack.map (·.1)) = _; rw [hS]; rfl)
        rw [hp, map_some_ok]
        refine ⟨⟨hidx, Or.inl ⟨hf, ?_⟩⟩, ?_⟩
        · show TsOK (stk.map (·.1))
          rw [hm]; exact hT
        · show muB s.finds (stk.map (·.1)) < _
          rw [hf, hm]; show eofLen _ < 1 + eofLen _; omega
    · -- inlAnnB
      obtain ⟨stk, e, hp, hm⟩ := processFound_spec data
        { s with index := s.index + 1 } .inlAnnE (S' := l.map (·.1)) (by show applyFind _ (s.stack.map (·.1)) = _; rw [hS]; rfl)
      rw [hp, map_some_ok]
      refine ⟨⟨hidx, Or.inl ⟨hf, ?_⟩⟩, ?_⟩
      · show TsOK (stk.map (·.1))
        rw [hm]; exact hT
      · show muB s.finds (stk.map (·.1)) < _
        rw [hf, hm]; show eofLen _ < 1 + eofLen _; omega
    · -- inlTxtB
      obtain ⟨stk, e, hp, hm⟩ := processFound_spec data
        { s with index := s.index + 1 } .inlTxtE (S' := l.map (·.1)) (by show applyFind _ (s.stack.map (·.1)) = _; rw [hS]; rfl)
      rw [hp, map_some_ok]
      refine ⟨⟨hidx, Or.inl ⟨hf, ?_⟩⟩, ?_⟩
      · show TsOK (stk.map (·.1))
        rw [hm]; exact hT
      · show muB s.finds (stk.map (·.1)) < _
        rw [hf, hm]; show eofLen _ < 1 + eofLen _; omega
    · -- tsB
      obtain ⟨R, hR, hTR⟩ := TsOK_ts_inv hT
      split
      · rfl
      · obtain ⟨stk, e, hp, hm⟩ := processFound_spec data
          (found { s with index := s.index + 1 } .mixE) .tsE (S' := l.map (·.1)) (by
            show applyFind .tsE (s.stack.map (·.1)) = _
            rw [hS]; rfl)
        rw [hp, map_some_ok]
        have hfs : (found { s with index := s.index + 1 } .mixE).finds = [.mixE] := by
          show s.finds ++ [.mixE] = _
          rw [hf]; rfl
        refine ⟨⟨hidx, Or.inr ⟨hfs, R, ?_, hTR⟩⟩, ?_⟩
        · show stk.map (·.1) = _
          rw [hm, hR]
        · show muB (found { s with index := s.index + 1 } .mixE).finds (stk.map (·.1)) < _
          rw [hfs, hm, hR]
          show 1 + eofLen R < 2 + eofLen R
          omega


theorem shiftFound_cons' (data : Array Cls) {s : Sc} {t rest S'} (hfs : s.finds = t :: rest)
    (h : applyFind t (s.stack.map (·.1)) = some S') :
    ∃ stk e, shiftFound data s = .ok (some ({ s with finds := rest, stack := stk }, e)) ∧
      stk.map (·.1) = S' := by
  obtain ⟨stk, e, hp, hm⟩ := processFound_spec data { s with finds := rest } t h
  refine ⟨stk, e, ?_, hm⟩
  unfold shiftFound
  rw [hfs]
  simp only [bind, Except.bind, pure, Except.pure, hp]

/-- `next` after the end of input: one more closing event, or the end, or `Unexpected end of file` -/
theorem next_B {data : Array Cls} {fuel : Nat} {s : Sc} (h : PB data.size s) :
    NPost (fun s' => PB data.size s' ∧
      muB s'.finds (s'.stack.map (·.1)) < muB s.finds (s.stack.map (·.1))) (next data (fuel+1) s) := by
  obtain ⟨hi, ⟨hf, hT⟩ | ⟨hf, R, hS, hT⟩⟩ := h
  · have hlt : ¬ s.index < data.size := by omega
    have := eof_next (fuel := fuel) hf hlt hT
    rw [hf]
    exact this
  · obtain ⟨stk, e, hp, hm⟩ := shiftFound_cons' data hf (S' := R) (by rw [hS]; rfl)
    unfold next
    simp only [bind, Except.bind, pure, Except.pure, hp]
    refine ⟨⟨hi, Or.inl ⟨rfl, ?_⟩⟩, ?_⟩
    · show TsOK (stk.map (·.1))
      rw [hm]; exact hT
    · show muB [] (stk.map (·.1)) < _
      rw [hm, hf, hS]
      show eofLen R < 1 + eofLen R
      omega

end SchemaScan
