import JSight.AllOfKProofs
import JSight.ValidateKSpec
import JSight.ValidateKProofs
import JSight.KeyOrderDeep
/-!
C03, allOf: what the validator accepts on an expanded object.

* `allOf_semantics`: the expanded object is validated as the object that declares its own entries followed
  by the entries of the (expanded) bases, under the merged additionalProperties (general: key shortcuts included;
  composition of the expansion theorem with `VK.C03_key_shortcuts`).
* `allOf_semantics_conj` (plain keys): the members of a document are accepted iff they meet the own property
  requirements AND the property requirements of every base, and additionalProperties accepts every member that
  none of them names.
-/
namespace AOK
open VN (J)
variable {L D : Type}

/-! ### `plainOf`, `shortsOf` over concatenation -/

theorem plainOf_append (a b : List (String × Bool × Bool × CS L)) : plainOf (a ++ b) = plainOf a ++ plainOf b := by
  induction a with
  | nil => rfl
  | cons e a ih =>
    obtain ⟨k, sh, r, v⟩ := e
    cases sh <;> simp [plainOf, ih]

theorem shortsOf_append (a b : List (String × Bool × Bool × CS L)) : shortsOf (a ++ b) = shortsOf a ++ shortsOf b := by
  induction a with
  | nil => rfl
  | cons e a ih =>
    obtain ⟨k, sh, r, v⟩ := e
    cases sh <;> simp [shortsOf, ih]

theorem plainOf_flatMap (bs : List (CS L)) :
    plainOf (bs.flatMap entsOf) = bs.flatMap (fun b => plainOf (entsOf b)) := by
  induction bs with
  | nil => rfl
  | cons b bs ih => simp [List.flatMap_cons, plainOf_append, ih]

theorem shortsOf_flatMap (bs : List (CS L)) :
    shortsOf (bs.flatMap entsOf) = bs.flatMap (fun b => shortsOf (entsOf b)) := by
  induction bs with
  | nil => rfl
  | cons b bs ih => simp [List.flatMap_cons, shortsOf_append, ih]

theorem mem_plainOf_keys (ents : List (String × Bool × Bool × CS L)) (k : String) :
    k ∈ (plainOf ents).map (·.1) ↔ (k, false) ∈ ents.map keyOf := by
  induction ents with
  | nil => simp [plainOf]
  | cons e es ih =>
    obtain ⟨k', sh, r, v⟩ := e
    cases sh
    · simp only [plainOf, Bool.false_eq_true, if_false, List.map_cons, List.mem_cons, ih, keyOf, Prod.mk.injEq, and_true]
    · simp only [plainOf, if_true, List.map_cons, List.mem_cons, ih, keyOf, Prod.mk.injEq, Bool.false_eq_true, and_false, false_or]

theorem nodup_plainOf_keys (ents : List (String × Bool × Bool × CS L)) (h : (ents.map keyOf).Nodup) :
    ((plainOf ents).map (·.1)).Nodup := by
  induction ents with
  | nil => simp [plainOf]
  | cons e es ih =>
    obtain ⟨k', sh, r, v⟩ := e
    simp only [List.map_cons, List.nodup_cons] at h
    cases sh
    · simp only [plainOf, Bool.false_eq_true, if_false, List.map_cons, List.nodup_cons]
      exact ⟨fun hm => h.1 ((mem_plainOf_keys es k').1 hm), ih h.2⟩
    · simpa [plainOf] using ih h.2

theorem shortsOf_nil_of_plain (ents : List (String × Bool × Bool × CS L)) (h : ∀ e ∈ ents, e.2.1 = false) :
    shortsOf ents = [] := by
  induction ents with
  | nil => rfl
  | cons e es ih =>
    obtain ⟨k', sh, r, v⟩ := e
    have : sh = false := h _ (List.mem_cons_self ..)
    subst this
    simpa [shortsOf] using ih (fun e he => h e (List.mem_cons_of_mem _ he))

/-! ### `VK.lookup` over concatenation -/

theorem lookup_append (A B : List (String × Bool × VK.S L)) (k : String) :
    VK.lookup (A ++ B) k = match VK.lookup A k with | some s => some s | none => VK.lookup B k := by
  unfold VK.lookup
  rw [List.find?_append]
  cases List.find? (fun p => p.1 == k) A <;> simp

theorem lookup_some_mem (A : List (String × Bool × VK.S L)) (k : String) (s : VK.S L) (h : VK.lookup A k = some s) :
    k ∈ A.map (·.1) :=
  mem_keys_of_find? h

theorem lookup_none_of_not_mem (A : List (String × Bool × VK.S L)) (k : String) (h : k ∉ A.map (·.1)) :
    VK.lookup A k = none := by
  cases hl : VK.lookup A k with
  | none => rfl
  | some s => exact absurd (lookup_some_mem A k s hl) h

theorem lookup_append_some_iff (A B : List (String × Bool × VK.S L)) (k : String) (s : VK.S L)
    (hd : ∀ x ∈ B.map (·.1), x ∉ A.map (·.1)) :
    VK.lookup (A ++ B) k = some s ↔ VK.lookup A k = some s ∨ VK.lookup B k = some s := by
  rw [lookup_append]
  cases hA : VK.lookup A k with
  | none => simp
  | some a =>
    simp only [Option.some.injEq]
    constructor
    · exact Or.inl
    · rintro (h | h)
      · exact h
      · exact absurd (lookup_some_mem A k a hA) (hd k (lookup_some_mem B k s h))

theorem lookup_append_none_iff (A B : List (String × Bool × VK.S L)) (k : String) :
    VK.lookup (A ++ B) k = none ↔ VK.lookup A k = none ∧ VK.lookup B k = none := by
  rw [lookup_append]
  cases VK.lookup A k <;> simp

theorem lookup_flatMap_some_iff {β : Type} (g : β → List (String × Bool × VK.S L)) (k : String) (s : VK.S L) :
    ∀ (bs : List β), ((bs.flatMap g).map (·.1)).Nodup →
      (VK.lookup (bs.flatMap g) k = some s ↔ ∃ b ∈ bs, VK.lookup (g b) k = some s) := by
  intro bs
  induction bs with
  | nil => intro _; simp [VK.lookup]
  | cons b bs ih =>
    intro hn
    simp only [List.flatMap_cons, List.map_append, List.nodup_append] at hn
    obtain ⟨_, h2, h3⟩ := hn
    simp only [List.flatMap_cons]
    rw [lookup_append_some_iff _ _ _ _ (fun x hx hx' => h3 x hx' x hx rfl), ih h2]
    simp

theorem lookup_flatMap_none_iff {β : Type} (g : β → List (String × Bool × VK.S L)) (k : String) :
    ∀ (bs : List β), VK.lookup (bs.flatMap g) k = none ↔ ∀ b ∈ bs, VK.lookup (g b) k = none := by
  intro bs
  induction bs with
  | nil => simp [VK.lookup]
  | cons b bs ih => simp only [List.flatMap_cons, lookup_append_none_iff, ih]; simp

theorem requiredKeys_append (A B : List (String × Bool × VK.S L)) :
    VK.requiredKeys (A ++ B) = VK.requiredKeys A ++ VK.requiredKeys B := by
  simp [VK.requiredKeys]

theorem mem_requiredKeys_flatMap {β : Type} (g : β → List (String × Bool × VK.S L)) (k : String) (bs : List β) :
    k ∈ VK.requiredKeys (bs.flatMap g) ↔ ∃ b ∈ bs, k ∈ VK.requiredKeys (g b) := by
  induction bs with
  | nil => simp [VK.requiredKeys]
  | cons b bs ih => simp only [List.flatMap_cons, requiredKeys_append, List.mem_append, ih]; simp

/-! ### the spec: property requirements as a conjunction -/

/-- the members `ms` of a document meet the property requirements `props` (plain keys): the value of every
member whose key `props` names is accepted by that property (`VK.shape`: the union over the alternatives of the
position), and every required key is present -/
def Meets (env : VK.Env L) (litOK : L → D → Bool) (keyOK : String → String → Bool)
    (props : List (String × Bool × VK.S L)) (ms : List (String × J D)) : Prop :=
  (∀ m ∈ ms, ∀ s, VK.lookup props m.1 = some s → VK.shape env litOK keyOK s m.2 = true) ∧
  (∀ k ∈ VK.requiredKeys props, ∃ m ∈ ms, m.1 = k)

/-- additionalProperties accepts the value `v` of a key nobody names: forbidden, anything, a JSON kind, or a
user type (`VK.shape` of the reference) -/
def AddAccepts (env : VK.Env L) (litOK : L → D → Bool) (keyOK : String → String → Bool) (add : VK.AddMode L) (v : J D) : Bool :=
  VK.addDecide litOK add v (fun n => VK.shape env litOK keyOK (.ref [n] none) v)

/-- an object whose keys are all plain, on an object document: every member is decided by its property or by
additionalProperties, and the required keys are present -/
theorem validate_plain_obj (envV : VK.Env L) (litOK : L → D → Bool) (keyOK : String → String → Bool)
    (ents : List (String × Bool × Bool × CS L)) (req : List String) (add : Option (AP L))
    (hplain : ∀ e ∈ ents, e.2.1 = false) (ms : List (String × J D)) :
    VK.validateT envV litOK keyOK (toVK (.obj ents req add)) (.obj ms) = true ↔
      (∀ m ∈ ms, match VK.lookup (plainOf ents) m.1 with
          | some s => VK.shape envV litOK keyOK s m.2 = true
          | none => AddAccepts envV litOK keyOK (modeOf add) m.2 = true) ∧
      (∀ k ∈ VK.requiredKeys (plainOf ents), ∃ m ∈ ms, m.1 = k) := by
  rw [VK.C03_key_shortcuts, toVK, shortsOf_nil_of_plain ents hplain, VK.shape, KeyOrder.alts_obj]
  simp only [List.any_cons, List.any_nil, Bool.or_false, VK.shapeA]
  rw [KeyOrder.shapeMembers_noShorts,
    show (VK.requiredKeys ([] : List (String × Bool × VK.S L))).map ("@" ++ ·) = [] from rfl, List.append_nil]
  -- `AddAccepts` is `VK.shapeAdd` with `VK.shape` of the reference written out
  exact Iff.rfl

section
variable [DecidableEq L]

/-- **general form** (key shortcuts included): the validator on the expanded object is the validator on the
object that declares the own entries followed by the entries of the expanded bases, in `allOf` order, under the
first additionalProperties constraint present -/
theorem allOf_semantics (envV : VK.Env L) (litOK : L → D → Bool) (keyOK : String → String → Bool)
    (pt : String → Except Err (CS L)) (ents : List (String × Bool × Bool × PS L)) (add : Option (AP L))
    (names : List String) (c : CS L) (bases : List (CS L)) (own : List (String × Bool × Bool × CS L))
    (hc : compileWith pt (.obj ents add (some names)) = .ok c)
    (hr : Resolves pt names bases) (ho : compileEnts pt ents = .ok own) (d : J D) :
    VK.validateT envV litOK keyOK (toVK c) d =
      VK.shape envV litOK keyOK
        (.obj (plainOf own ++ bases.flatMap (fun b => plainOf (entsOf b)))
              (shortsOf own ++ bases.flatMap (fun b => shortsOf (entsOf b)))
              (modeOf (firstAdd (add :: bases.map addOf)))) d := by
  obtain ⟨_, bases', own', hr', _, ho', _, _, rfl⟩ := (compileWith_obj_ok_iff pt ents add names c).1 hc
  have := resolves_unique pt names _ _ hr hr'; subst this
  rw [ho] at ho'; cases ho'
  rw [VK.C03_key_shortcuts]
  simp only [toVK, plainOf_append, shortsOf_append, plainOf_flatMap, shortsOf_flatMap]

/-- **conjunction form** (no key shortcut among the own and inherited entries): the expanded object accepts
an object document iff its members meet the own property requirements and the property requirements of every
base, and the merged additionalProperties accepts every member that neither the object nor a base names -/
theorem allOf_semantics_conj (envV : VK.Env L) (litOK : L → D → Bool) (keyOK : String → String → Bool)
    (pt : String → Except Err (CS L)) (ents : List (String × Bool × Bool × PS L)) (add : Option (AP L))
    (names : List String) (c : CS L) (bases : List (CS L)) (own : List (String × Bool × Bool × CS L))
    (hc : compileWith pt (.obj ents add (some names)) = .ok c)
    (hr : Resolves pt names bases) (ho : compileEnts pt ents = .ok own)
    (hplain : ∀ e ∈ entsOf c, e.2.1 = false) (ms : List (String × J D)) :
    VK.validateT envV litOK keyOK (toVK c) (.obj ms) = true ↔
      Meets envV litOK keyOK (plainOf own) ms ∧
      (∀ b ∈ bases, Meets envV litOK keyOK (plainOf (entsOf b)) ms) ∧
      (∀ m ∈ ms, VK.lookup (plainOf own) m.1 = none → (∀ b ∈ bases, VK.lookup (plainOf (entsOf b)) m.1 = none) →
        AddAccepts envV litOK keyOK (modeOf (firstAdd (add :: bases.map addOf))) m.2 = true) := by
  obtain ⟨_, bases', own', hr', _, ho', hfresh, _, rfl⟩ := (compileWith_obj_ok_iff pt ents add names c).1 hc
  have := resolves_unique pt names _ _ hr hr'; subst this
  rw [ho] at ho'; cases ho'
  obtain ⟨hkeys, _⟩ := compileEnts_shape pt ents own ho
  have hflat : (bases.flatMap entsOf).map keyOf = bases.flatMap keysOf := by
    simp only [List.map_flatMap]; rfl
  -- the plain keys of the bases are pairwise distinct, and none of them is an own key
  have hnd : ((bases.flatMap (fun b => plainOf (entsOf b))).map (·.1)).Nodup := by
    rw [← plainOf_flatMap]
    exact nodup_plainOf_keys _ (hflat ▸ hfresh.2)
  have hdisj : ∀ x ∈ (bases.flatMap (fun b => plainOf (entsOf b))).map (·.1), x ∉ (plainOf own).map (·.1) := by
    intro x hx hx'
    rw [← plainOf_flatMap, mem_plainOf_keys, hflat] at hx
    rw [mem_plainOf_keys, hkeys] at hx'
    exact hfresh.1 _ hx hx'
  rw [validate_plain_obj envV litOK keyOK (own ++ bases.flatMap entsOf) _ _ hplain, plainOf_append, plainOf_flatMap]
  simp only [Meets, requiredKeys_append, List.mem_append, mem_requiredKeys_flatMap]
  constructor
  · rintro ⟨h1, h2⟩
    refine ⟨⟨?_, fun k hk => h2 k (Or.inl hk)⟩, fun b hb => ⟨?_, fun k hk => h2 k (Or.inr ⟨b, hb, hk⟩)⟩, ?_⟩
    · intro m hm s hs
      have := h1 m hm
      rwa [(lookup_append_some_iff _ _ m.1 s hdisj).2 (Or.inl hs)] at this
    · intro m hm s hs
      have := h1 m hm
      rwa [(lookup_append_some_iff _ _ m.1 s hdisj).2
        (Or.inr ((lookup_flatMap_some_iff _ m.1 s bases hnd).2 ⟨b, hb, hs⟩))] at this
    · intro m hm hn1 hn2
      have := h1 m hm
      rwa [(lookup_append_none_iff _ _ m.1).2 ⟨hn1, (lookup_flatMap_none_iff _ m.1 bases).2 hn2⟩] at this
  · rintro ⟨⟨ho1, ho2⟩, hb, hadd⟩
    refine ⟨?_, ?_⟩
    · intro m hm
      cases hl : VK.lookup (plainOf own ++ bases.flatMap fun b => plainOf (entsOf b)) m.1 with
      | some s =>
        rcases (lookup_append_some_iff _ _ m.1 s hdisj).1 hl with h | h
        · exact ho1 m hm s h
        · obtain ⟨b, hbm, hs⟩ := (lookup_flatMap_some_iff _ m.1 s bases hnd).1 h
          exact (hb b hbm).1 m hm s hs
      | none =>
        obtain ⟨hn1, hn2⟩ := (lookup_append_none_iff _ _ m.1).1 hl
        exact hadd m hm hn1 ((lookup_flatMap_none_iff _ m.1 bases).1 hn2)
    · rintro k (h | ⟨b, hbm, hkb⟩)
      · exact ho2 k h
      · exact (hb b hbm).2 k hkb

end

end AOK
