import JSight.SchemaEventsTree
import JSight.SchemaEventsJson
/-!
# The JSight schema scanner reads plain JSON like a JSON scanner — events of a value tree

(C06 second sentence / C13 / C16.)  Model: `SchemaScan` (`JSight/SchemaScan.lean`, `JSight/SchemaRun.lean`).

Files
* `SchemaEventsBase.lean` — `Next()` is monotone in its fuel; fuel-free event stream `Emits`, partial runs `Steps`
  (continuation form), `events_of_emits` (any fuel > number of events), input segments `At`.
* `SchemaEventsStep.lean` — one `dispatch` at the concrete states met on plain JSON (post-value state →
  `stateEndValue` → after-state; white-space loops incl. line breaks; token automaton `silent`; value/key starts;
  container ends), for arbitrary bookkeeping (`ctx`, `ctxStack`, `allowAnnotation`) and either value of the
  `lengthComputing` flag (`Len.cfgL lc`; `cfg` is `cfgL false`).
* `SchemaLenBase.lean` — `Len.Path`: a run as a chain of `Next()` results that need not terminate (it is a `Steps`:
  `Path.steps`); single bytes as `Path`s.
* `SchemaEventsRun.lean` — runs over white space (`ws_run`, with the `objKey → objKeyAfterNL` move), tokens
  (`tok_run`), keys (`key_run`), the closing phase after a key (`close_sep`) as `Path`s
  for either flag (`namespace Len`); at `lc := false` they are runs of the ordinary scanner and, by `Path.steps`, `Steps`;
  `close_root` incl. the end-of-input rule.
* `SchemaGramLay.lean`, `SchemaGram.lean`, `SchemaGramDoc.lean` — the grammar of scanned text (`Gram.Layout`, `Gram.Val`,
  `Gram.Entries`: text, offset, events) and the one induction that drives the scanner through a derivation
  (`Val.run`, `Entries.run`, `emits_doc`); the event bound `Val.evs_facts` (at most 3 events per byte, no `end-top`).
* `SchemaEventsTree.lean` — `Tree` (value trees with layout), `Tree.render`, `schemaEvsAt`, `Tree.Valid`; a valid tree is a
  derivation (`Tree.gram`), hence `value_run` / `items_run` / `members_run` (in `namespace Len`, for either flag), `evs_length`,
  **`C06_schema_events_of_tree`** (`scanAll` on bytes), `events_of_tree`, `emits_of_tree`; the JSON token grammar
  (`StrBody`, `NumTok` without exponent, `true`/`false`/`null`) and `Tree.Json`, `C06_schema_events_of_json_text`;
  a sample instance.
* `SchemaEventsJson.lean` — the same text under the JSON scanner model (`JsonScan`, `TreeEvents.lean`):
  **`C13_schema_scan_is_json_scan_plus_newlines`**.
-/
namespace SchemaScan

/-- info: 'SchemaScan.C06_schema_events_of_tree' depends on axioms: [propext, Quot.sound] -/
#guard_msgs in
#print axioms C06_schema_events_of_tree

/-- info: 'SchemaScan.C06_schema_events_of_json_text' depends on axioms: [propext, Quot.sound] -/
#guard_msgs in
#print axioms C06_schema_events_of_json_text

/-- info: 'SchemaScan.C13_schema_scan_is_json_scan_plus_newlines' depends on axioms: [propext, Quot.sound] -/
#guard_msgs in
#print axioms C13_schema_scan_is_json_scan_plus_newlines

/-- info: 'SchemaScan.sample_events' depends on axioms: [propext, Quot.sound] -/
#guard_msgs in
#print axioms sample_events

end SchemaScan
