import JSight.LinksFuel2
/-!
C09 (a) with OWNERSHIP, the order of `Schema.compile()` at the PINNED commit — the Go tree under verification, before
commit 8f3890e — kept as the regression model `LK.pinnedLinkCheckO`: types added to other type objects (`A.AddType("@b", B)`) reached the root table by hoisting
(`AddUnnamedTypes`) only after `CompileAllOf` had run on the root's own table. For the order since that commit (`LK.linkCheckO`) see `LinksHoist`.

* all types added to the root itself: `pinnedLinkCheckO` is `linkCheck` (`pinnedLinkCheckO_flat`) and the theorems of `LinksMain` apply;
* in general: a reported missing type is referenced, and is either in no table at all or is an `allOf` parent that
  was not added to the root itself (`pinnedLinkCheckO_sound`); the check is complete as long as no type outside the root's
  own table uses `allOf` (`pinnedLinkCheckO_complete`);
* without that proviso completeness FAILS (`witnessNestedAllOf`: a missing `allOf` parent inside a nested type goes
  unnoticed), and a parent that WAS added — to another type — is reported as not found (`witnessNestedParent`).
  Both witnesses are replayed on the real library by `c09-links` (corpus).
-/
namespace LK
open Except (wp)

theorem lookup_directPart (g : G) (direct : List String) (t : String) :
    lookup (directPart g direct) t = if direct.contains t then lookup g t else none := by
  unfold lookup directPart
  simp only
  induction g.types with
  | nil => simp
  | cons p ps ih =>
    by_cases hp : (p.1 == t) = true
    · have e : p.1 = t := by simpa using hp
      by_cases hd : direct.contains p.1 = true
      · rw [List.filter_cons_of_pos (by simpa using hd)]
        rw [List.find?_cons_of_pos (by simpa using hp), List.find?_cons_of_pos (by simpa using hp)]
        rw [← e, if_pos hd]
      · rw [List.filter_cons_of_neg (by simpa using hd)]
        rw [ih, List.find?_cons_of_pos (by simpa using hp)]
        rw [← e, if_neg hd, if_neg hd]
    · by_cases hd : direct.contains p.1 = true
      · rw [List.filter_cons_of_pos (by simpa using hd)]
        rw [List.find?_cons_of_neg (by simpa using hp), List.find?_cons_of_neg (by simpa using hp)]
        exact ih
      · rw [List.filter_cons_of_neg (by simpa using hd)]
        rw [List.find?_cons_of_neg (by simpa using hp)]
        exact ih

theorem lookup_directPart_some (g : G) (direct : List String) (t : String) (body : N)
    (h : lookup (directPart g direct) t = some body) : lookup g t = some body ∧ direct.contains t = true := by
  rw [lookup_directPart] at h
  by_cases hd : direct.contains t = true
  · rw [if_pos hd] at h; exact ⟨h, hd⟩
  · rw [if_neg hd] at h; cases h

theorem refs_directPart (g : G) (direct : List String) (n : String) (h : Refs (directPart g direct) n) : Refs g n := by
  rcases h with h | ⟨t, body, hl, hr⟩
  · exact Or.inl h
  · exact Or.inr ⟨t, body, (lookup_directPart_some g direct t body hl).1, hr⟩

theorem inTable_directPart (g : G) (direct : List String) (n : String) (h : InTable (directPart g direct) n) :
    InTable g n := by
  obtain ⟨b, hb⟩ := h
  exact ⟨b, (lookup_directPart_some g direct n b hb).1⟩

theorem directPart_all (g : G) (direct : List String) (h : ∀ p ∈ g.types, direct.contains p.1 = true) :
    directPart g direct = g := by
  unfold directPart
  have : g.types.filter (fun p => direct.contains p.1) = g.types := List.filter_eq_self.2 h
  rw [this]

/-- every type added to the root itself: nothing new -/
theorem pinnedLinkCheckO_flat (g : G) (direct : List String) (h : ∀ p ∈ g.types, direct.contains p.1 = true)
    (ord : List (List String)) : pinnedLinkCheckO g direct ord = linkCheck g ord := by
  unfold pinnedLinkCheckO pinnedLinkCheckOF linkCheck linkCheckF
  rw [directPart_all g direct h]

theorem pinnedLinkCheckO_sound (g : G) (direct : List String) (ord : List (List String)) (hord : OrdOK g ord) (m : String)
    (h : pinnedLinkCheckO g direct ord = .error (.missing m)) :
    Refs g m ∧ (¬ InTable g m ∨ direct.contains m = false) := by
  have up : ∀ n, Refs (directPart g direct) n → Refs g n := refs_directPart g direct
  revert h
  unfold pinnedLinkCheckO pinnedLinkCheckOF
  refine (compileAllOf_spec (directPart g direct) (fuelOf g)).elim (fun e he h => ?_) fun (rootC, st) ⟨hst, hrc, _, _⟩ h => ?_
  · cases h
    obtain ⟨hr, hnt⟩ := he m rfl
    refine ⟨up m hr, ?_⟩
    by_cases hd : direct.contains m = true
    · exact Or.inl fun ⟨b, hb⟩ => hnt ⟨b, by rw [lookup_directPart, if_pos hd]; exact hb⟩
    · exact Or.inr (by simpa using hd)
  · have key := (checkRootSchema_spec g _ rootC st ord (fun ci hci n hn => up n (hrc ci hci n hn))
      (fun name c hl ci hci n hn => up n (hst.1 name c hl ci hci n hn))).error h hord m rfl
    exact ⟨key.1, Or.inl key.2⟩

/-- no type outside the root's own table uses `allOf` -/
def NestedPlain (g : G) (direct : List String) : Prop :=
  ∀ t body, lookup g t = some body → direct.contains t = false → ∀ it ∈ flat body, it.allOfNames = []

theorem naive_covers (items : List Item) : ∀ it ∈ items, ∀ n ∈ it.checkNames, ∃ ci ∈ naive items, n ∈ ci.names := by
  induction items with
  | nil => intro it h; simp at h
  | cons x rest ih =>
    intro it hit n hn
    rcases List.mem_cons.1 hit with rfl | hit
    · cases it with
      | lit jt ms => exact ⟨.lit jt ms, by simp [naive], hn⟩
      | ref ns => exact ⟨.ref ns, by simp [naive], hn⟩
      | arr => simp [Item.checkNames] at hn
      | obj keys addp ao => exact ⟨.obj keys addp, by simp [naive], hn⟩
      | inh ps => simp [Item.checkNames] at hn
    · obtain ⟨ci, hci, hm⟩ := ih it hit n hn
      refine ⟨ci, ?_, hm⟩
      cases x <;> simp [naive, hci]

/-- **completeness with ownership**, as long as the nested types do not use `allOf` -/
theorem pinnedLinkCheckO_complete (g : G) (direct : List String) (hplain : NestedPlain g direct) (ord : List (List String))
    (h : pinnedLinkCheckO g direct ord = .ok ()) : Resolved g := by
  revert h
  unfold pinnedLinkCheckO pinnedLinkCheckOF
  refine (compileAllOf_spec (directPart g direct) (fuelOf g)).elim (fun e _ h => nomatch h)
    fun (rootC, st) ⟨hst, hrc, hcov, hall⟩ h => ?_
  have up : ∀ n, Refs (directPart g direct) n → Refs g n := refs_directPart g direct
  obtain ⟨hroot, htypes⟩ := (checkRootSchema_spec g _ rootC st ord (fun ci hci n hn => up n (hrc ci hci n hn))
      (fun name c hl ci hci n hn => up n (hst.1 name c hl ci hci n hn))).ok h
  intro n hr
  rcases hr with hr | ⟨t, body, hl, hr⟩
  · obtain ⟨it, hit, hm⟩ := (refs_iff_flat g.root n).1 hr
    have hit' : it ∈ flat (directPart g direct).root := hit
    rcases hm with hm | hm
    · exact inTable_directPart g direct n (hcov.1 it hit' n hm)
    · obtain ⟨ci, hci, hn⟩ := hcov.2 it hit' n hm
      exact hroot ci hci n hn
  · obtain ⟨it, hit, hm⟩ := (refs_iff_flat body n).1 hr
    have hwalk := htypes t ⟨body, hl⟩
    by_cases hd : direct.contains t = true
    · have hlD : lookup (directPart g direct) t = some body := by rw [lookup_directPart, if_pos hd]; exact hl
      obtain ⟨c, hc⟩ := Option.isSome_iff_exists.1 (hall t ⟨body, hlD⟩)
      obtain ⟨body', hl', hcv⟩ := hst.2 t c hc
      cases hlD.symm.trans hl'
      simp only [compiledOf, hc] at hwalk
      rcases hm with hm | hm
      · exact inTable_directPart g direct n (hcv.1 it hit n hm)
      · obtain ⟨ci, hci, hn⟩ := hcv.2 it hit n hm
        exact hwalk ci hci n hn
    · have hd' : direct.contains t = false := by simpa using hd
      cases hc : st.compiled.lookup t with
      | some c =>
        obtain ⟨body', hl', _⟩ := hst.2 t c hc
        have := (lookup_directPart_some g direct t body' hl').2
        rw [hd'] at this; cases this
      | none =>
        rcases hm with hm | hm
        · rw [hplain t body hl hd' it hit] at hm; simp at hm
        · obtain ⟨ci, hci, hn⟩ := naive_covers (flat body) it hit n hm
          simp only [compiledOf, hc, hl] at hwalk
          exact hwalk ci hci n hn

/-! ### the two failures (replayed on the real library: `c09-links` corpus) -/

/-- `root = {"a": @a}`, `root.AddType("@a", {"b": @b})`, `A.AddType("@b", { // {allOf: "@m"} "x": 1 })`; `@m` was
never added anywhere -/
def witnessNestedAllOf : G :=
  { root := .obj [] none [("a", false, .ref ["@a"])],
    types := [("@a", .obj [] none [("b", false, .ref ["@b"])]),
              ("@b", .obj ["@m"] none [("x", false, .lit .int .none none)])] }

/-- Check passes although the referenced type `@m` was not added: the `allOf` rule of a type that is not in the
root's own table is never compiled and its parents are never looked up -/
theorem nested_allOf_unnoticed :
    pinnedLinkCheckO witnessNestedAllOf ["@a"] (orNodes witnessNestedAllOf) = .ok () ∧ ¬ Resolved witnessNestedAllOf := by
  refine ⟨by decide, ?_⟩
  intro hres
  have hl : lookup witnessNestedAllOf "@b" = some (.obj ["@m"] none [("x", false, .lit .int .none none)]) := by
    simp [lookup, witnessNestedAllOf, List.find?]
  obtain ⟨b, hb⟩ := hres "@m" (Or.inr ⟨"@b", _, hl, .allOf _ _ _ "@m" (by simp)⟩)
  have hnone : lookup witnessNestedAllOf "@m" = none := by decide
  rw [hnone] at hb
  cases hb

/-- `root = { // {allOf: "@b"} "a": @a }`, `root.AddType("@a", {"k": 1})`, `A.AddType("@b", {"x": 1})` -/
def witnessNestedParent : G :=
  { root := .obj ["@b"] none [("a", false, .ref ["@a"])],
    types := [("@a", .obj [] none [("k", false, .lit .int .none none)]),
              ("@b", .obj [] none [("x", false, .lit .int .none none)])] }

/-- the `allOf` parent `@b` WAS added (to the type `@a`; every other reference to it would be resolved after
hoisting), yet Check reports it as not found -/
theorem nested_parent_not_found :
    pinnedLinkCheckO witnessNestedParent ["@a"] (orNodes witnessNestedParent) = .error (.missing "@b") ∧
    InTable witnessNestedParent "@b" :=
  ⟨by decide, ⟨.obj [] none [("x", false, .lit .int .none none)], by simp [lookup, witnessNestedParent, List.find?]⟩⟩

end LK
