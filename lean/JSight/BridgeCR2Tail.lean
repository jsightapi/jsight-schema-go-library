import JSight.BridgeCR2Map
/-!
Bridge (A)∩(B), the compile phase: its vocabulary. How the two models may end on one node (`Agree`, `outA`), what is
known of an accepted, filtered rule list (`Good`) and of the node (`CtxOK`), the names of the constraint types, and the
dictionary for the END of `compileNode`: the map (B) has after `typeConstraint`, read off (A)'s rule list and the
flags (A)'s `typeConstraint` hands on — `any`, the format, the types list (`RelT`, `hasT_of`).
-/
namespace BridgeCR
open Compile
open Loader (NK)

/-- how the two models may end on one node: both accept, or both reject with one code ((A) never `unsupported`) -/
def Agree (a : Except Err Unit) (b : Except CR.Code Unit) : Prop :=
  match a, b with
  | .ok _, .ok _ => True
  | .error (.code ca _), .error cb => ca = cb
  | _, _ => False

/-- the end of `aNode`: the compatibility flag of the compiled node -/
def outA (x : Except Err Basic) : Except Err Unit :=
  match x with
  | .error e => .error e
  | .ok b => if b.names.isNone && !b.any && b.bad then .error (.code 1117 0) else .ok ()

/-- facts about an accepted, filtered rule list -/
structure Good (frs : List Rule) : Prop where
  nodup : (frs.map (·.name)).Nodup
  valid : ∀ r ∈ frs, okVal r
  common : ∀ r ∈ frs, r.gen = false → ruleCommon r = true
  vals : ∀ r ∈ frs, ∃ v, r.val = some v
  /-- a synthesised rule (type shortcut) is a `type` or an `or` -/
  gens : ∀ r ∈ frs, r.gen = true → r.name = sb "type" ∨ r.name = sb "or"

def cjt : JT → CR.JT
  | .obj => .object | .arr => .array | .str => .string | .int => .integer | .flt => .float | .bool => .boolean
  | .null => .null | .mixed => .mixed

/-- (B)'s node description goes with (A)'s parameters -/
structure CtxOK (kind : NK) (jt : JT) (nch : Nat) (isProp : Bool) (c : CR.Ctx) : Prop where
  notMixed : c.cls ≠ .mixed
  notMV : c.cls ≠ .mixedValue
  branch : c.isBranch = (kind == .obj || kind == .arr)
  jtc : c.jt = cjt jt
  jtb : (jt == .obj || jt == .arr) = (kind == .obj || kind == .arr)
  jtm : jt ≠ .mixed
  kindm : kind ≠ .mixed
  ch : c.children = nch
  leaf : (kind == .obj || kind == .arr) = false → nch = 0
  prop : c.isProp = isProp

/-! ### names of constraint types: `ctName`, row by row -/

theorem ct_minLength : ctName .minLength = some (sb "minLength") := by rw [sb_minLength]; rfl
theorem ct_maxLength : ctName .maxLength = some (sb "maxLength") := by rw [sb_maxLength]; rfl
theorem ct_min : ctName .min = some (sb "min") := by rw [sb_min]; rfl
theorem ct_max : ctName .max = some (sb "max") := by rw [sb_max]; rfl
theorem ct_exMin : ctName .exclusiveMinimum = some (sb "exclusiveMinimum") := by rw [sb_exclusiveMinimum]; rfl
theorem ct_exMax : ctName .exclusiveMaximum = some (sb "exclusiveMaximum") := by rw [sb_exclusiveMaximum]; rfl
theorem ct_type : ctName .type = some (sb "type") := by rw [sb_type]; rfl
theorem ct_precision : ctName .precision = some (sb "precision") := by rw [sb_precision]; rfl
theorem ct_optional : ctName .optional = some (sb "optional") := by rw [sb_optional]; rfl
theorem ct_minItems : ctName .minItems = some (sb "minItems") := by rw [sb_minItems]; rfl
theorem ct_maxItems : ctName .maxItems = some (sb "maxItems") := by rw [sb_maxItems]; rfl
theorem ct_addProps : ctName .additionalProperties = some (sb "additionalProperties") := by
  rw [sb_additionalProperties]; rfl
theorem ct_nullable : ctName .nullable = some (sb "nullable") := by rw [sb_nullable]; rfl
theorem ct_regex : ctName .regex = some (sb "regex") := by rw [sb_regex]; rfl
theorem ct_const : ctName .const = some (sb "const") := by rw [sb_const]; rfl
theorem ct_or : ctName .or = some (sb "or") := by rw [sb_or]; rfl
theorem ct_enum : ctName .enum = some (sb "enum") := by rw [sb_enum]; rfl
theorem ct_allOf : ctName .allOf = some (sb "allOf") := by rw [sb_allOf]; rfl
theorem ct_typesList : ctName .typesList = some (sb "or") := by rw [sb_or]; rfl

theorem absent_of_good (frs : List Rule) (hK : ∀ r ∈ frs, goodName r.name) (rn : CR.RName)
    (h : rn = .allOf ∨ rn = .regex ∨ rn = .minItems ∨ rn = .maxItems) : hasName frs (rbytes rn) = false := by
  unfold hasName
  rw [List.any_eq_false]
  intro r hr hcon
  have e : r.name = rbytes rn := by simpa using hcon
  obtain ⟨rn', e', g1, g2, g3, g4⟩ := hK r hr
  rw [e] at e'
  have := rbytes_inj rn rn' e'
  subst this
  rcases h with h | h | h | h
  · exact g1 h
  · exact g2 h
  · exact g3 h
  · exact g4 h

theorem Good.known {frs : List Rule} (G : Good frs) : ∀ r ∈ frs, goodName r.name := fun r hr => (G.valid r hr).2.2.1

/-! ### the map after `typeConstraint` -/

/-- presence in the map after `typeConstraint`: a plain rule is there when written; the `type` rule is gone and has left
`any`, a format constraint or a types list (`tl`: from a type reference or an `or` rule, which itself is gone) -/
def hasT (frs : List Rule) (any : Bool) (fmt : Option RulesF.Fmt) (tl : Bool) : CR.CT → Bool
  | .minLength => hasRule frs "minLength" | .maxLength => hasRule frs "maxLength"
  | .min => hasRule frs "min" | .max => hasRule frs "max"
  | .exclusiveMinimum => hasRule frs "exclusiveMinimum" | .exclusiveMaximum => hasRule frs "exclusiveMaximum"
  | .precision => hasRule frs "precision" | .optional => hasRule frs "optional"
  | .additionalProperties => hasRule frs "additionalProperties" | .nullable => hasRule frs "nullable"
  | .const => hasRule frs "const" | .enum => hasRule frs "enum"
  | .uuid => fmt == some .uuid | .date => fmt == some .date
  | .any => any | .typesList => tl
  | _ => false

/-- the map after `typeConstraint`, read off (A)'s rule list and the flags `typeConstraint` hands on -/
structure RelT (frs : List Rule) (any : Bool) (fmt : Option RulesF.Fmt) (tl : Bool) (m : CR.CMap) : Prop where
  plain : ∀ k, k ≠ .type → k ≠ .or → k ≠ .uuid → k ≠ .date → k ≠ .any → k ≠ .typesList → m k = mapOf frs k
  type : m .type = none
  or : m .or = none
  uuid : (m .uuid).isSome = (fmt == some .uuid)
  date : (m .date).isSome = (fmt == some .date)
  any : (m .any).isSome = any
  tl : (m .typesList).isSome = tl

section
variable {frs : List Rule} {any : Bool} {fmt : Option RulesF.Fmt} {tl : Bool} {m : CR.CMap}

theorem hasT_of (R : RelT frs any fmt tl m) (G : Good frs) (k : CR.CT) : m.has k = hasT frs any fmt tl k := by
  have hp : ∀ k, k ≠ .type → k ≠ .or → k ≠ .uuid → k ≠ .date → k ≠ .any → k ≠ .typesList → m.has k = (mapOf frs).has k :=
    fun k a b c d e f => by unfold CR.CMap.has; rw [R.plain k a b c d e f]
  have n1 : hasName frs CR.n_minItems = false := absent_of_good frs G.known .minItems (by simp)
  have n2 : hasName frs CR.n_maxItems = false := absent_of_good frs G.known .maxItems (by simp)
  have n3 : hasName frs CR.n_regex = false := absent_of_good frs G.known .regex (by simp)
  have n4 : hasName frs CR.n_allOf = false := absent_of_good frs G.known .allOf (by simp)
  cases k <;> first
    | (rw [hp _ (by decide) (by decide) (by decide) (by decide) (by decide) (by decide), has_mapOf]
       simp only [ctName, hasT, hasRule_hasName, n1, n2, n3, n4, sb_minLength, sb_maxLength, sb_min, sb_max,
         sb_exclusiveMinimum, sb_exclusiveMaximum, sb_precision, sb_optional, sb_additionalProperties, sb_nullable,
         sb_const, sb_enum])
    | simp [CR.CMap.has, R.type, R.or, R.uuid, R.date, R.any, R.tl, hasT]

/-- the values the pair checks and the exclusive steps read -/
theorem relT_val (R : RelT frs any fmt tl m) (k : CR.CT)
    (h : k = .min ∨ k = .max ∨ k = .minLength ∨ k = .maxLength ∨ k = .exclusiveMinimum ∨ k = .exclusiveMaximum) :
    m k = mapOf frs k := by
  rcases h with rfl | rfl | rfl | rfl | rfl | rfl <;>
    exact R.plain _ (by decide) (by decide) (by decide) (by decide) (by decide) (by decide)

end

/-! ### the values the pair checks read -/

theorem flag_true (frs : List Rule) (k : CR.CT) (s : String) (hk : ctName k = some (sb s))
    (hcv : ∀ r, cvAt k r = cvLit .optional (r.val.getD [])) :
    (mapOf frs k = some (.flag true)) ↔ (boolRule frs s == some true) = true := by
  rw [mapOf_named frs k s hk]
  unfold boolRule
  cases hf : findRule frs s with
  | none => simp
  | some r =>
    simp only [Option.map_some, Option.some.injEq, hcv, cvLit]
    rw [parseBool_val]
    cases CR.parseBool (r.val.getD []) with
    | none => simp
    | some b => cases b <;> simp

theorem cmpNum_eq (a b : Bytes) : cmpNum a b =
    (match RulesF.number a, RulesF.number b with | some x, some y => some (x.cmp y) | _, _ => none) := rfl

theorem bind_ok_u {β : Type} (a : Unit) (f : Unit → Except CR.Code β) : ((.ok a : Except CR.Code Unit) >>= f) = f a := rfl

section
variable {frs : List Rule} {any : Bool} {fmt : Option RulesF.Fmt} {tl : Bool} {m : CR.CMap}

/-- the bounds after the exclusive steps: (B) has folded the flag into the bound, (A) reads the flag again -/
theorem exNext_min (R : RelT frs any fmt tl m) : CR.exNext m .min =
    if (boolRule frs "exclusiveMinimum" == some true) then CR.setEx (mapOf frs .min) else mapOf frs .min := by
  rw [CR.exNext_apply]
  simp only [reduceCtorEq, false_or, if_false, false_and, true_and]
  rw [relT_val R .exclusiveMinimum (by simp), relT_val R .min (by simp)]
  by_cases h : mapOf frs .exclusiveMinimum = some (.flag true)
  · rw [if_pos h, if_pos ((flag_true frs _ _ ct_exMin (fun _ => rfl)).1 h)]
  · rw [if_neg h, if_neg (fun x => h ((flag_true frs _ _ ct_exMin (fun _ => rfl)).2 x))]

theorem exNext_max (R : RelT frs any fmt tl m) : CR.exNext m .max =
    if (boolRule frs "exclusiveMaximum" == some true) then CR.setEx (mapOf frs .max) else mapOf frs .max := by
  rw [CR.exNext_apply]
  simp only [reduceCtorEq, false_or, if_false, true_and, false_and]
  rw [relT_val R .exclusiveMaximum (by simp), relT_val R .max (by simp)]
  by_cases h : mapOf frs .exclusiveMaximum = some (.flag true)
  · rw [if_pos h, if_pos ((flag_true frs _ _ ct_exMax (fun _ => rfl)).1 h)]
  · rw [if_neg h, if_neg (fun x => h ((flag_true frs _ _ ct_exMax (fun _ => rfl)).2 x))]

end

end BridgeCR
