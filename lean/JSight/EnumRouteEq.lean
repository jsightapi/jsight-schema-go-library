import JSight.EnumRouteA
import JSight.SchemaRunLen
import JSight.EnumRouteB
import JSight.AnnotThm
/-!
C18, named enum rule = inline list. For every list of scalar tokens of the scanner automaton (`ValidItemsC`; in the
rule text any layout with comments, in the annotation any blanks the annotation form allows) whose tokens both type
guessers know (`Guessable`):

* route A — `Values()` of the rule text, then the loop of `enumValueLoader.ruleName` (`appendValues`) — and
* route B — the schema text `EX // {enum: [ … ]}` (or `/* … */`) through the schema scanner model, the loader model and
  the enum-value sub-loader (`routeInline`)

hand `constraint.Enum.Append` the same source tokens in the same order, hence the same (value, jsonType) items, hence
`Enum.Validate` gives the same verdict on every document token (`named_eq_inline`). That every token of the grammar is
`Guessable` is shown in `EnumGuess` (the quoted tokens here, `guessable_quoted`), which states the theorem without that
side condition (`named_eq_inline_grammar`).
-/
namespace EnumRoute
open SchemaScan (Ev LexT Ann Cls classify nlEvs EObj citemsEvs enumAnnEvs enumAnnText tailEvs renderCItems IsScalar
  IsSpTabs ABlank ATail IsName)
open Loader (annSt modeOf Node Mode RS)
open RulesF (Bytes)

/-! ### what `Append` receives, as a function of the tokens -/

/-- source token and (value, jsonType) of an item -/
def proj (c : Cons) : List (Bytes × (Bytes × _root_.Rules.Kind)) := c.items.map (fun i => (i.src, i.key))

/-- the same for a list of tokens, as `NewEnumItem` computes it -/
def projToks (toks : List Bytes) : List (Bytes × (Bytes × _root_.Rules.Kind)) :=
  toks.filterMap (fun t => (RulesF.enumItem t).map (fun k => (t, k)))

/-- the tokens can be appended one after the other: the type of each can be guessed, no (value, jsonType) repeats -/
def Appendable (c : Cons) (toks : List Bytes) : Prop :=
  (∀ t ∈ toks, (RulesF.enumItem t).isSome = true) ∧ (toks.map RulesF.enumItem).Nodup ∧
    ∀ t ∈ toks, ∀ i ∈ c.items, RulesF.enumItem t ≠ some i.key

theorem Appendable.tail {c : Cons} {t : Bytes} {ts : List Bytes} {k : Bytes × _root_.Rules.Kind} {cm : Bytes}
    (h : Appendable c (t :: ts)) (hk : RulesF.enumItem t = some k) :
    Appendable { c with items := c.items ++ [⟨t, cm, k⟩] } ts := by
  obtain ⟨h1, h2, h3⟩ := h
  simp only [List.map_cons, List.nodup_cons] at h2
  refine ⟨fun x hx => h1 x (by simp [hx]), h2.2, ?_⟩
  intro x hx i hi
  simp only [List.mem_append, List.mem_singleton] at hi
  rcases hi with hi | rfl
  · exact h3 x (by simp [hx]) i hi
  · intro he
    apply h2.1
    rw [hk, ← he]
    exact List.mem_map_of_mem hx

theorem Appendable.fresh {c : Cons} {t : Bytes} {ts : List Bytes} {k : Bytes × _root_.Rules.Kind}
    (h : Appendable c (t :: ts)) (hk : RulesF.enumItem t = some k) :
    c.items.any (fun x => x.key == k) = false := by
  rw [List.any_eq_false]
  intro i hi
  have := h.2.2 t (by simp) i hi
  rw [hk] at this
  simpa using fun e => this (by rw [e])

theorem appendToks_spec : ∀ (toks : List Bytes) (c : Cons), Appendable c toks →
    ∃ c', appendToks c toks = some c' ∧ proj c' = proj c ++ projToks toks ∧ c'.ruleName = c.ruleName
  | [], c, _ => ⟨c, rfl, by simp [projToks], rfl⟩
  | t :: ts, c, h => by
    obtain ⟨k, hk⟩ := Option.isSome_iff_exists.mp (h.1 t (by simp))
    obtain ⟨c', h1, h2, h3⟩ := appendToks_spec ts _ (h.tail (cm := []) hk)
    refine ⟨c', ?_, ?_, h3⟩
    · simp only [appendToks, newEnumItem, hk, Option.map_some, h.fresh hk, Bool.false_eq_true, if_false]
      exact h1
    · rw [h2]
      simp [proj, projToks, hk]

theorem appendValues_spec (pos : Nat) : ∀ (vs : List Value) (c : Cons), WFV vs → Appendable c (litVals vs) →
    ∃ c', appendValues pos c vs = .ok c' ∧ proj c' = proj c ++ projToks (litVals vs) ∧ c'.ruleName = c.ruleName
  | [], c, _, _ => ⟨c, rfl, by simp [projToks, litVals], rfl⟩
  | v :: vs, c, hw, h => by
    have hw' : WFV vs := fun x hx => hw x (by simp [hx])
    by_cases hc : v.ty = .comment
    · have hl : litVals (v :: vs) = litVals vs := by simp [litVals, hc]
      rw [hl] at h
      obtain ⟨c', h1, h2, h3⟩ := appendValues_spec pos vs c hw' h
      refine ⟨c', ?_, by rw [hl]; exact h2, h3⟩
      simp only [appendValues, hc, beq_self_eq_true, if_true]
      exact h1
    · have hv := (hw v (by simp)).resolve_left hc
      obtain ⟨src, hsrc⟩ := Option.isSome_iff_exists.mp hv
      have hl : litVals (v :: vs) = src :: litVals vs := by simp [litVals, hc, hsrc]
      rw [hl] at h
      obtain ⟨k, hk⟩ := Option.isSome_iff_exists.mp (h.1 src (by simp))
      obtain ⟨c', h1, h2, h3⟩ := appendValues_spec pos vs _ hw' (h.tail (cm := v.comment) hk)
      refine ⟨c', ?_, ?_, h3⟩
      · have hne : (v.ty == VType.comment) = false := by simpa using hc
        simp only [appendValues, hne, Bool.false_eq_true, if_false, hsrc, append, newEnumItem, hk, Option.map_some,
          h.fresh hk, bind, Except.bind]
        exact h1
      · rw [h2, hl]
        simp [proj, projToks, hk]

/-- `Enum.Validate` looks at the (value, jsonType) of the items only -/
theorem enumOK_of_proj (c1 c2 : Cons) (h : proj c1 = proj c2) (d : Bytes) : enumOK c1 d = enumOK c2 d := by
  have hk : c1.items.map (·.key) = c2.items.map (·.key) := by
    have := congrArg (List.map (fun p : Bytes × (Bytes × _root_.Rules.Kind) => p.2)) h
    simpa [proj, List.map_map, Function.comp_def] using this
  unfold enumOK
  cases RulesF.enumItem d with
  | none => rfl
  | some a =>
    simp only []
    have e : ∀ (l : List CItem), l.any (fun it => it.key == a) = (l.map (·.key)).any (· == a) := by
      intro l; simp [List.any_map, Function.comp_def]
    rw [e, e, hk]

/-! ### the scanner's duplicate key and the constraint's agree on tokens -/

theorem isBlank_eq : RulesF.isBlank = Render.isBlank := by
  funext c
  simp [RulesF.isBlank, Render.isBlank, Render.isNewLine, Bool.or_assoc]

/-- `TrimSpaces` does nothing on a token -/
theorem trim_tok (t : Bytes) (h : EnumScan.IsTok (t.map classify)) : RulesF.trimSpaces t = t := by
  unfold RulesF.trimSpaces
  rw [isBlank_eq]
  exact EnumScan.trim_tok t h

theorem kind_s_iff (t : Bytes) (k : _root_.Rules.Kind) (h : RulesF.kindOfTok t = some k) : k = .s ↔ Unquote.inQuotes t = true := by
  unfold RulesF.kindOfTok at h
  by_cases hq : Unquote.inQuotes t = true
  · simp only [hq, if_true, Option.some.injEq] at h
    exact ⟨fun _ => hq, fun _ => h.symm⟩
  · simp only [hq, Bool.false_eq_true, if_false] at h
    refine ⟨fun hk => ?_, fun hq' => absurd hq' hq⟩
    subst hk
    -- the branches of `kindOfTok` behind the quote test answer `b`, `n`, `f`, `i` or nothing: none of them is `s`
    repeat' split at h
    all_goals first | cases h | (simp at h)

/-- the scanner's duplicate key of a token is a function of the constraint's key (value, jsonType): the text is the
value, and the token is a string iff the type is `s` -/
theorem tokKey_eq (t : Bytes) (h : EnumScan.IsTok (t.map classify)) (k : Bytes × _root_.Rules.Kind)
    (e : RulesF.enumItem t = some k) : EnumScan.tokKey t = (k.1, k.2 == .s) := by
  unfold RulesF.enumItem at e
  rw [trim_tok t h] at e
  simp only [] at e
  cases hk : RulesF.kindOfTok t with
  | none => rw [hk] at e; cases e
  | some k1 =>
    rw [hk] at e
    cases e
    have q := kind_s_iff t k1 hk
    unfold EnumScan.tokKey
    by_cases hs : k1 = _root_.Rules.Kind.s
    · simp [hs, q.mp hs]
    · have i : Unquote.inQuotes t = false := by
        cases h' : Unquote.inQuotes t with
        | false => rfl
        | true => exact absurd (q.mpr h') hs
      simp [hs, i]

/-- `g` separates what `f` separates -/
theorem nodup_map_of {α β γ : Type} (f : α → β) (g : α → γ) : ∀ (l : List α),
    (∀ a ∈ l, ∀ b ∈ l, g a = g b → f a = f b) → (l.map f).Nodup → (l.map g).Nodup
  | [], _, _ => List.nodup_nil
  | a :: l, h, hn => by
    simp only [List.map_cons, List.nodup_cons, List.mem_map] at hn ⊢
    exact ⟨fun ⟨b, hb, e⟩ => hn.1 ⟨b, hb, (h a (by simp) b (by simp [hb]) e.symm).symm⟩,
      nodup_map_of f g l (fun x hx y hy => h x (by simp [hx]) y (by simp [hy])) hn.2⟩

/-- distinct scanner keys give distinct constraint keys -/
theorem appendable_of_nodup (items : List EnumScan.ItemC) (hv : EnumScan.ValidItemsC items)
    (hnd : (items.map EnumScan.itemKeyC).Nodup)
    (hk : ∀ it ∈ items, (RulesF.enumItem it.2.1).isSome = true) (rn : Bytes) :
    Appendable { ruleName := rn } (items.map (·.2.1)) := by
  refine ⟨?_, ?_, ?_⟩
  · intro t ht
    simp only [List.mem_map] at ht
    obtain ⟨it, hit, rfl⟩ := ht
    exact hk it hit
  · -- equal constraint keys give equal scanner keys (`tokKey_eq`)
    have key : ∀ a ∈ items, ∀ b ∈ items, RulesF.enumItem a.2.1 = RulesF.enumItem b.2.1 →
        EnumScan.tokKey a.2.1 = EnumScan.tokKey b.2.1 := by
      intro a ha b hb e
      obtain ⟨ka, hka⟩ := Option.isSome_iff_exists.mp (hk a ha)
      exact (tokKey_eq a.2.1 (hv a ha).2.1 ka hka).trans (tokKey_eq b.2.1 (hv b hb).2.1 ka (e ▸ hka)).symm
    have h := nodup_map_of EnumScan.itemKeyC (fun it : EnumScan.ItemC => RulesF.enumItem it.2.1) items key hnd
    rw [List.map_map]
    exact h
  · intro t _ i hi
    cases hi

/-! ### route B on bytes -/

/-- the rule object `{ b1 enum n2 : b3 [ w0 items ] b4 }` on bytes; `items` as in the rule grammar without comments:
(blanks, token, blanks) -/
structure BEObj where
  b1 : Bytes
  n2 : Nat
  b3 : Bytes
  w0 : Bytes
  items : List EnumScan.Item
  b4 : Bytes

def clsItem (it : EnumScan.Item) : SchemaScan.CItem := (it.1.map classify, it.2.1.map classify, it.2.2.map classify)

def BEObj.cls (e : BEObj) : EObj :=
  ⟨e.b1.map classify, enumName.map classify, e.n2, e.b3.map classify, e.w0.map classify, e.items.map clsItem,
    e.b4.map classify⟩

def BEObj.body (e : BEObj) : Bytes :=
  e.b1 ++ (enumName ++ (List.replicate e.n2 32 ++ (58 :: (e.b3 ++ (91 :: (e.w0 ++ (EnumScan.renderItems e.items ++ e.b4)))))))

/-- the schema text `EX blanks // blanks {enum: [ … ]} blanks tail` (`a = .inline`) or the `/* … */` form -/
def inlineText (a : Ann) (ex s1 s2 : Bytes) (e : BEObj) (s3 tl : Bytes) : Bytes :=
  ex ++ (s1 ++ (47 :: Lay.markB a :: (s2 ++ (123 :: (e.body ++ (125 :: (s3 ++ tl)))))))

theorem renderItems_cls (its : List EnumScan.Item) :
    (EnumScan.renderItems its).map classify = renderCItems (its.map clsItem) := by
  induction its with
  | nil => rfl
  | cons it its ih =>
    obtain ⟨w1, t, w2⟩ := it
    cases its with
    | nil => simp [EnumScan.renderItems, renderCItems, clsItem]; rfl
    | cons i2 r2 =>
      simp only [EnumScan.renderItems, renderCItems, clsItem, List.map_cons, List.map_append, List.isEmpty_cons,
        Bool.false_eq_true, if_false, List.map_nil] at ih ⊢
      rw [ih]
      rfl

theorem BEObj.body_cls (e : BEObj) : e.body.map classify = e.cls.body := by
  simp only [BEObj.body, EObj.body, BEObj.cls, List.map_append, List.map_cons, List.map_replicate, renderItems_cls]
  rfl

theorem inlineText_cls (a : Ann) (ha : a.isAnn = true) (ex s1 s2 : Bytes) (e : BEObj) (s3 tl : Bytes) :
    (inlineText a ex s1 s2 e s3 tl).map classify
      = enumAnnText a (ex.map classify) (s1.map classify) (s2.map classify) e.cls (s3.map classify) (tl.map classify) := by
  simp only [inlineText, enumAnnText, List.map_append, List.map_cons, BEObj.body_cls]
  cases a <;> simp [Ann.isAnn] at ha <;> rfl

/-- the parts are what the grammar says -/
structure InlineValid (a : Ann) (ex s1 s2 : Bytes) (e : BEObj) (s3 tl : Bytes) : Prop where
  ex : IsScalar (ex.map classify)
  s1 : IsSpTabs (s1.map classify)
  s2 : ABlank a (s2.map classify)
  ob : e.cls.Valid a
  s3 : ABlank a (s3.map classify)
  tl : ATail a (tl.map classify)

theorem enumName_isName : IsName (enumName.map classify) := by
  refine ⟨by decide, ?_⟩
  intro c hc
  have : enumName.map classify = [.le, .ln, .lu, .nameo] := by decide
  rw [this] at hc
  simp only [List.mem_cons, List.not_mem_nil, or_false] at hc
  rcases hc with rfl | rfl | rfl | rfl <;> rfl

/-! #### the fold -/

/-- the tokens of the list are the slices their literal-end events cut out of the text -/
theorem slicesAt_items (src : Bytes) : ∀ (its : List EnumScan.Item) (o : Nat),
    (∀ it ∈ its, it.2.1 ≠ []) → Lay.AtB src.toArray o (EnumScan.renderItems its) →
    SlicesAt src o (its.map clsItem) (its.map (·.2.1))
  | [], _, _, _ => trivial
  | (w1, t, w2) :: its, o, hne, hat => by
    simp only [EnumScan.renderItems, Lay.AtB_append] at hat
    simp only [List.map_cons, clsItem, SlicesAt, List.length_map, List.isEmpty_map]
    exact ⟨Lay.slice_tok src.toArray t (o + w1.length) hat.2.1 (hne (w1, t, w2) (by simp)),
      slicesAt_items src its _ (fun x hx => hne x (by simp [hx])) (by cases its <;> exact hat.2.2.2.2)⟩

/-- **route B**: the inline list through scanner, loader and sub-loader creates ONE constraint holding the tokens -/
theorem inline_route (a : Ann) (ha : a.isAnn = true) (ex s1 s2 : Bytes) (e : BEObj) (s3 tl : Bytes)
    (hv : InlineValid a ex s1 s2 e s3 tl) (c' : Cons) (happ : appendToks {} (e.items.map (·.2.1)) = some c') :
    routeInline (inlineText a ex s1 s2 e s3 tl) = .ok [c'] := by
  have hm := @Loader.modeOf_ne a
  generalize hsrc : inlineText a ex s1 s2 e s3 tl = src
  have hcls := inlineText_cls a ha ex s1 s2 e s3 tl
  rw [hsrc] at hcls
  -- offsets
  let tokC := ex.map classify
  let s1C := s1.map classify
  let s2C := s2.map classify
  let o := SchemaScan.objOff tokC s1C s2C
  have ho : o = ex.length + s1.length + 2 + s2.length := by simp [o, tokC, s1C, s2C, SchemaScan.objOff]
  -- the name of the rule
  have hname : Loader.nameOf src.toArray (o + 1 + e.cls.b1.length, o + 1 + e.cls.b1.length + e.cls.name.length + e.cls.n2 - 1)
      = enumName := by
    have hat : Lay.AtB src.toArray (o + 1) ((Lay.BRule.mk e.b1 enumName e.n2 [] [] []).render ++ []) := by
      have := Lay.AtB_toArray src (ex ++ (s1 ++ (47 :: Lay.markB a :: (s2 ++ [123]))))
        ((Lay.BRule.mk e.b1 enumName e.n2 [] [] []).render ++
          (e.b3 ++ (91 :: (e.w0 ++ (EnumScan.renderItems e.items ++ e.b4))) ++ (125 :: (s3 ++ tl))))
        (by rw [← hsrc]; simp [inlineText, BEObj.body, Lay.BRule.render, List.append_assoc])
      rw [Lay.AtB_append] at this
      have hl : (ex ++ (s1 ++ (47 :: Lay.markB a :: (s2 ++ [123])))).length = o + 1 := by
        rw [ho]; simp; omega
      rw [hl] at this
      simpa using this.1
    have := Lay.nameOf_rule src.toArray (Lay.BRule.mk e.b1 enumName e.n2 [] [] []) enumName_isName (o + 1) hat
    simpa [Lay.BRule.cls, SchemaScan.CRule.span, SchemaScan.CRule.nameOff, BEObj.cls, Nat.add_assoc] using this
  -- the slices
  have hsl : SlicesAt src (e.cls.arrOff o + 1 + e.cls.w0.length) e.cls.items (e.items.map (·.2.1)) := by
    have hne : ∀ it ∈ e.items, it.2.1 ≠ [] := by
      intro it hit hnil
      -- `hv.ob.2.2.2.2.1` is the `CItemsValid` conjunct of `EObj.Valid`; its middle part: the item's token is a scalar
      have := EnumScan.IsTok.length_pos (hv.ob.2.2.2.2.1 (clsItem it) (List.mem_map_of_mem hit)).2.1
      simp [clsItem, hnil] at this
    have := Lay.AtB_toArray src (ex ++ (s1 ++ (47 :: Lay.markB a :: (s2 ++ (123 :: (e.b1 ++ (enumName ++
        (List.replicate e.n2 32 ++ (58 :: (e.b3 ++ (91 :: e.w0)))))))))))
      (EnumScan.renderItems e.items ++ (e.b4 ++ (125 :: (s3 ++ tl))))
      (by rw [← hsrc]; simp [inlineText, BEObj.body, List.append_assoc])
    rw [Lay.AtB_append] at this
    have eo : e.cls.arrOff o + 1 + e.cls.w0.length = (ex ++ (s1 ++ (47 :: Lay.markB a :: (s2 ++ (123 :: (e.b1 ++
        (enumName ++ (List.replicate e.n2 32 ++ (58 :: (e.b3 ++ (91 :: e.w0))))))))))).length := by
      simp [EObj.arrOff, BEObj.cls, ho]
      omega
    rw [eo]
    exact slicesAt_items src e.items _ hne this.1
  -- the fold
  let nd0 : Node := { kind := .lit, parent := none, value := some (0, tokC.length - 1) }
  let rn : Nat × Nat := (o + 1 + e.cls.b1.length, o + 1 + e.cls.b1.length + e.cls.name.length + e.cls.n2 - 1)
  have f1 : FoldB [] src [⟨.litB, 0, 0⟩, ⟨.litE, 0, tokC.length - 1⟩,
      ⟨a.B, SchemaScan.annOff tokC s1C, SchemaScan.annOff tokC s1C + 1⟩] {} _ := sb_open [] src a ha _ _ _
  have f2 := sb_nlEvs [] src (modeOf a) hm .begin rfl nd0 (0, 0) [] s2C (SchemaScan.annOff tokC s1C + 2)
  have f3 := Except.Folds.one (sb_base [] src (modeOf a) .begin nd0 (0, 0) [] _ _ rfl (Loader.Moves.step src.toArray _ hm 0 nd0 (0, 0) (.objB o o)))
  have f4 := sb_nlEvs [] src (modeOf a) hm .keyOrObjectEnd rfl nd0 (0, 0) [] e.cls.b1 (o + 1)
  have f5 := Except.Folds.one (sb_base [] src (modeOf a) .keyOrObjectEnd nd0 (0, 0) [] _ _ rfl
    (Loader.Moves.step src.toArray _ hm 0 nd0 (0, 0) (.keyB (o + 1 + e.cls.b1.length) (o + 1 + e.cls.b1.length))))
  have f6 := Except.Folds.one (sb_base [] src (modeOf a) .keyOrObjectEnd nd0 (0, 0) [] _ _ rfl
    (Loader.Moves.step src.toArray _ hm 0 nd0 (0, 0) (.keyE rn.1 rn.2)))
  have f7 := sb_nlEvs [] src (modeOf a) hm .valueBegin rfl nd0 rn [] e.cls.b3
    (o + 1 + e.cls.b1.length + e.cls.name.length + e.cls.n2 + 1)
  have f8 := Except.Folds.one (sb_base [] src (modeOf a) .valueBegin nd0 rn [] _ _ rfl
    (Loader.Moves.step src.toArray _ hm 0 nd0 rn (.valB (e.cls.arrOff o) (e.cls.arrOff o))))
  have f9 := Except.Folds.one (sb_arrB [] src (modeOf a) hm nd0 rn [] (e.cls.arrOff o) (e.cls.arrOff o) hname)
  have f10 := sb_e_nlEvs [] src (modeOf a) hm { nd0 with rules := nd0.rules ++ [.inl rn], ruleVals := nd0.ruleVals ++ [none] } rn none .itemOrEnd {} []
    e.cls.w0 (e.cls.arrOff o + 1)
  have f11 := items_foldB [] src (modeOf a) hm { nd0 with rules := nd0.rules ++ [.inl rn], ruleVals := nd0.ruleVals ++ [none] } rn [] (e.cls.arrOff o)
    e.cls.items (e.items.map (·.2.1)) (e.cls.arrOff o + 1 + e.cls.w0.length) none {} c'
    (by simp [BEObj.cls]) hsl happ
  have f12 := Except.Folds.one (sb_base [] src (modeOf a) .valueEnd { nd0 with rules := nd0.rules ++ [.inl rn], ruleVals := nd0.ruleVals ++ [none] } rn [c'] _ _ rfl
    (Loader.Moves.step src.toArray _ hm 0 { nd0 with rules := nd0.rules ++ [.inl rn], ruleVals := nd0.ruleVals ++ [none] } rn
      (.valE (e.cls.arrOff o) (e.cls.arrOff o + 1 + e.cls.w0.length + (renderCItems e.cls.items).length - 1))))
  have f13 := sb_nlEvs [] src (modeOf a) hm .keyOrObjectEnd rfl { nd0 with rules := nd0.rules ++ [.inl rn], ruleVals := nd0.ruleVals ++ [none] } rn [c']
    e.cls.b4 (e.cls.arrOff o + 1 + e.cls.w0.length + (renderCItems e.cls.items).length)
  have f14 := Except.Folds.one (sb_base [] src (modeOf a) .keyOrObjectEnd { nd0 with rules := nd0.rules ++ [.inl rn], ruleVals := nd0.ruleVals ++ [none] } rn [c'] _ _ rfl
    (Loader.Moves.step src.toArray _ hm 0 { nd0 with rules := nd0.rules ++ [.inl rn], ruleVals := nd0.ruleVals ++ [none] } rn (.objE o (o + 1 + e.cls.body.length))))
  have f15 := sb_nlEvs [] src (modeOf a) hm .commentTextBegin rfl { nd0 with rules := nd0.rules ++ [.inl rn], ruleVals := nd0.ruleVals ++ [none] } rn [c']
    (s3.map classify) (o + 1 + e.cls.body.length + 1)
  -- the tail: the closing lexeme, then new-line events only
  obtain ⟨x, y, rest, hte, hrest⟩ := Loader.tailEvs_split ha (SchemaScan.annOff tokC s1C)
    (o + 1 + e.cls.body.length + 1 + (s3.map classify).length) (tl.map classify)
  have f16 := Except.Folds.one (sb_base [] src (modeOf a) .commentTextBegin { nd0 with rules := nd0.rules ++ [.inl rn], ruleVals := nd0.ruleVals ++ [none] } rn [c'] _ _ rfl
    (Loader.g_annE src.toArray _ a ha .commentTextBegin 0 { nd0 with rules := nd0.rules ++ [.inl rn], ruleVals := nd0.ruleVals ++ [none] } rn x y))
  obtain ⟨bfin, f17, _, _⟩ := Loader.nl_fold_default src.toArray rest
    { annSt (modeOf a) .commentTextBegin { nd0 with rules := nd0.rules ++ [.inl rn], ruleVals := nd0.ruleVals ++ [none] } rn 1 with mode := .default } hrest rfl
  have f17' := foldB_default [] src rest
    { bst (modeOf a) .commentTextBegin { nd0 with rules := nd0.rules ++ [.inl rn], ruleVals := nd0.ruleVals ++ [none] } rn [c'] with
      base := { annSt (modeOf a) .commentTextBegin { nd0 with rules := nd0.rules ++ [.inl rn], ruleVals := nd0.ruleVals ++ [none] } rn 1 with mode := .default } }
    bfin hrest rfl f17
  have hall := Except.Folds.trans f1 (Except.Folds.trans f2 (Except.Folds.trans f3 (Except.Folds.trans f4 (Except.Folds.trans f5 (Except.Folds.trans f6
    (Except.Folds.trans f7 (Except.Folds.trans f8 (Except.Folds.trans f9 (Except.Folds.trans f10 (Except.Folds.trans f11 (Except.Folds.trans f12
      (Except.Folds.trans f13 (Except.Folds.trans f14 (Except.Folds.trans f15 (Except.Folds.trans f16 f17')))))))))))))))
  have hevs : [⟨.litB, 0, 0⟩, ⟨.litE, 0, tokC.length - 1⟩, ⟨a.B, SchemaScan.annOff tokC s1C, SchemaScan.annOff tokC s1C + 1⟩] ++
      (nlEvs (SchemaScan.annOff tokC s1C + 2) s2C ++ ([⟨.objB, o, o⟩] ++ (nlEvs (o + 1) e.cls.b1 ++
        ([⟨.keyB, o + 1 + e.cls.b1.length, o + 1 + e.cls.b1.length⟩] ++ ([⟨.keyE, rn.1, rn.2⟩] ++
          (nlEvs (o + 1 + e.cls.b1.length + e.cls.name.length + e.cls.n2 + 1) e.cls.b3 ++
            ([⟨.valB, e.cls.arrOff o, e.cls.arrOff o⟩] ++ ([⟨.arrB, e.cls.arrOff o, e.cls.arrOff o⟩] ++
              (nlEvs (e.cls.arrOff o + 1) e.cls.w0 ++ (citemsEvs (e.cls.arrOff o) (e.cls.arrOff o + 1 + e.cls.w0.length) e.cls.items ++
                ([⟨.valE, e.cls.arrOff o, e.cls.arrOff o + 1 + e.cls.w0.length + (renderCItems e.cls.items).length - 1⟩] ++
                  (nlEvs (e.cls.arrOff o + 1 + e.cls.w0.length + (renderCItems e.cls.items).length) e.cls.b4 ++
                    ([⟨.objE, o, o + 1 + e.cls.body.length⟩] ++ (nlEvs (o + 1 + e.cls.body.length + 1) (s3.map classify) ++
                      ([⟨a.E, x, y⟩] ++ rest)))))))))))))))
      = enumAnnEvs a tokC s1C s2C e.cls (s3.map classify) (tl.map classify) := by
    simp only [enumAnnEvs, EObj.evs, hte, List.append_assoc, List.cons_append, List.nil_append, o, rn]
  rw [hevs] at hall
  -- the interleaved loop
  unfold routeInline constraintsOf
  simp only [hcls, bind, Except.bind]
  have hem := SchemaScan.enumAnn_emits a ha tokC hv.ex s1C hv.s1 s2C hv.s2 e.cls hv.ob (s3.map classify) hv.s3
    (tl.map classify) hv.tl
  rw [loadLoopB_of_emits [] src hem _ {} _ hem.length_init hall]
  rfl

/-! ### the theorem -/

/-- the two type guessers know the token (`GuessSchemaType` for `Values()`, `json.Guess` for `NewEnumItem`) -/
def Guessable (t : Bytes) : Prop := (guessSchemaType t).isSome = true ∧ (RulesF.enumItem t).isSome = true

theorem projToks_fst (toks : List Bytes) (h : ∀ t ∈ toks, (RulesF.enumItem t).isSome = true) :
    (projToks toks).map (·.1) = toks := by
  induction toks with
  | nil => rfl
  | cons t ts ih =>
    obtain ⟨k, hk⟩ := Option.isSome_iff_exists.mp (h t (by simp))
    simp only [projToks, List.filterMap_cons, hk, Option.map_some, List.map_cons]
    congr 1
    exact ih (fun x hx => h x (by simp [hx]))

/-- **named enum rule = inline list.** The rule text `pre [ lay item , … ] lay` (layout with comments anywhere) and the
schema text `EX // {enum: [ item, … ]}` (or the `/* */` form; its own blanks) with the SAME item tokens in the same order:
`Values()` succeeds; the loop of the sub-loader's `ruleName` appends its non-comment values to a constraint `cA`; the
inline text is scanned, loaded and gives exactly one constraint `cB`; both hold, in source order, the item tokens with
the (value, jsonType) `NewEnumItem` computes — so `Enum.Validate` answers alike on every document token. -/
theorem named_eq_inline (pre : Bytes) (ws0 post : EnumScan.LayB) (items : List EnumScan.ItemC)
    (a : Ann) (ha : a.isAnn = true) (ex s1 s2 : Bytes) (e : BEObj) (s3 tl : Bytes)
    (hpre : EnumScan.IsWsB pre) (hws0 : ws0.Valid) (hpost : post.Valid) (hv : EnumScan.ValidItemsC items)
    (hnd : (items.map EnumScan.itemKeyC).Nodup) (hiv : InlineValid a ex s1 s2 e s3 tl)
    (hsame : e.items.map (·.2.1) = items.map (·.2.1)) (hg : ∀ it ∈ items, Guessable it.2.1)
    (name : Bytes) (pos : Nat) :
    ∃ vs cA cB,
      ruleValues (EnumScan.renderEnumC pre ws0 items post) = .ok vs ∧
      appendValues pos { ruleName := name } vs = .ok cA ∧
      routeInline (inlineText a ex s1 s2 e s3 tl) = .ok [cB] ∧
      proj cA = projToks (items.map (·.2.1)) ∧ proj cB = projToks (items.map (·.2.1)) ∧
      cA.items.map (·.src) = items.map (·.2.1) ∧ cB.items.map (·.src) = items.map (·.2.1) ∧
      ∀ d, enumOK cA d = enumOK cB d := by
  obtain ⟨vs, hvals, hlits, hwf⟩ := values_of_text pre ws0 post items hpre hws0 hpost hv hnd (fun it hit => (hg it hit).1)
  have happA := appendable_of_nodup items hv hnd (fun it hit => (hg it hit).2) name
  have happB := appendable_of_nodup items hv hnd (fun it hit => (hg it hit).2) []
  obtain ⟨cA, hA1, hA2, _⟩ := appendValues_spec pos vs { ruleName := name } hwf (by rw [hlits]; exact happA)
  obtain ⟨cB, hB1, hB2, _⟩ := appendToks_spec (items.map (·.2.1)) {} happB
  have hAp : proj cA = projToks (items.map (·.2.1)) := by rw [hA2, hlits]; rfl
  have hBp : proj cB = projToks (items.map (·.2.1)) := by rw [hB2]; rfl
  have hfst : (projToks (items.map (·.2.1))).map (·.1) = items.map (·.2.1) :=
    projToks_fst _ (by
      intro t ht
      simp only [List.mem_map] at ht
      obtain ⟨it, hit, rfl⟩ := ht
      exact (hg it hit).2)
  refine ⟨vs, cA, cB, hvals, hA1, inline_route a ha ex s1 s2 e s3 tl hiv cB (by rw [hsame]; exact hB1), hAp, hBp, ?_, ?_,
    fun d => enumOK_of_proj cA cB (by rw [hAp, hBp]) d⟩
  · have := congrArg (List.map (fun p : Bytes × (Bytes × _root_.Rules.Kind) => p.1)) hAp
    rw [hfst] at this
    simpa [proj, List.map_map, Function.comp_def] using this
  · have := congrArg (List.map (fun p : Bytes × (Bytes × _root_.Rules.Kind) => p.1)) hBp
    rw [hfst] at this
    simpa [proj, List.map_map, Function.comp_def] using this

/-- a quoted token is guessable -/
theorem guessable_quoted (t : Bytes) (h : Unquote.inQuotes t = true) (ht : EnumScan.IsTok (t.map classify)) :
    Guessable t := by
  refine ⟨by simp [guessSchemaType, h], ?_⟩
  unfold RulesF.enumItem
  rw [trim_tok t ht]
  simp [RulesF.kindOfTok, h]

end EnumRoute

#print axioms EnumRoute.named_eq_inline
#print axioms EnumRoute.inline_route
#print axioms EnumRoute.values_of_text
