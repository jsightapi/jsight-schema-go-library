import JSight.SchemaHelpers
/-! Leaf transitions of the token states (strings, numbers, literals, type shortcuts, annotation keys). -/
namespace SchemaScan

theorem Good.str_to {st st' eff ret} (hst : st.kind = .str) (h : Good st eff ret)
    (h1 : st'.litState = true) (h2 : st'.keyState = true) : Good st' eff ret := by
  rcases h.inv_of hst with ⟨V, rfl, hV⟩ | ⟨V, rfl, hV⟩
  · exact Good.lit h1 hV
  · exact Good.key h2 hV

theorem inString_ok {f s c p1 p2} (h : InvAt .inString s) (hs : StepOK .inString s c) :
    OKRes Inv (dispatch (f+1) .inString s c p1 p2) := by
  obtain ⟨eff, hE, hG⟩ := h
  have hK := Good.keep hs hG
  have hS : Good .endValue eff s.ret := hG.str_to rfl rfl rfl
  have hS' : Good .esc eff s.ret := hG.str_to rfl rfl rfl
  unfold dispatch; dsimp only
  cases c <;> first | rfl | exact ⟨_, hE, hK⟩ | exact ⟨_, hE, hS⟩ | exact ⟨_, hE, hS'⟩

theorem esc_ok {f s c p1 p2} (h : InvAt .esc s) (hs : StepOK .esc s c) :
    OKRes Inv (dispatch (f+1) .esc s c p1 p2) := by
  obtain ⟨eff, hE, hG⟩ := h
  have hS : Good .inString eff s.ret := hG.str_to rfl rfl rfl
  unfold dispatch; dsimp only
  cases c <;> first | rfl | exact ⟨_, hE, hS⟩ | exact ⟨_, hE, Good.uesc rfl hS⟩

theorem hexStep_ok {s c st next eff} (hE : Eff s eff) (hG : Good st eff s.ret) (hst : st.kind = .u)
    (hn : next.uState = true) : OKRes Inv (hexStep s c next) := by
  obtain ⟨ret', hret, hS⟩ := hG.inv_of hst
  unfold hexStep
  split
  · refine ⟨_, hE, ?_⟩
    show Good next eff s.ret
    rw [hret]; exact Good.uesc hn hS
  · rfl

theorem u0_ok {f s c p1 p2} (h : InvAt .u0 s) : OKRes Inv (dispatch (f+1) .u0 s c p1 p2) := by
  obtain ⟨eff, hE, hG⟩ := h
  rw [dispatch_u0]; exact hexStep_ok hE hG rfl rfl

theorem u1_ok {f s c p1 p2} (h : InvAt .u1 s) : OKRes Inv (dispatch (f+1) .u1 s c p1 p2) := by
  obtain ⟨eff, hE, hG⟩ := h
  rw [dispatch_u1]; exact hexStep_ok hE hG rfl rfl

theorem u2_ok {f s c p1 p2} (h : InvAt .u2 s) : OKRes Inv (dispatch (f+1) .u2 s c p1 p2) := by
  obtain ⟨eff, hE, hG⟩ := h
  rw [dispatch_u2]; exact hexStep_ok hE hG rfl rfl

theorem u3_ok {f s c p1 p2} (h : InvAt .u3 s) : OKRes Inv (dispatch (f+1) .u3 s c p1 p2) := by
  obtain ⟨eff, hE, hG⟩ := h
  obtain ⟨ret', hret, hS⟩ := hG.inv
  rw [dispatch_u3]
  simp only [bind, Except.bind, pure, Except.pure, popRet_eq hret]
  split
  · exact ⟨_, hE, hS⟩
  · rfl

theorem neg_ok {f s c p1 p2} (h : InvAt .neg s) : OKRes Inv (dispatch (f+1) .neg s c p1 p2) := by
  obtain ⟨eff, hE, hG⟩ := h
  obtain ⟨V, rfl, hV⟩ := hG.inv
  unfold dispatch; dsimp only
  cases c <;> first | rfl | exact ⟨_, hE, Good.lit rfl hV⟩

theorem dot_ok {f s c p1 p2} (h : InvAt .dot s) : OKRes Inv (dispatch (f+1) .dot s c p1 p2) := by
  obtain ⟨eff, hE, hG⟩ := h
  obtain ⟨V, rfl, hV⟩ := hG.inv
  rw [dispatch_dot]
  split <;> first | rfl | exact ⟨_, hE, Good.lit rfl hV⟩

theorem expect_ok {s c want next clr msg eff} (hE : Eff s eff) (hG : Good next eff s.ret) :
    OKRes Inv (expect s c want next clr msg) := by
  unfold expect
  split
  · exact ⟨_, hE, hG⟩
  · rfl

theorem Good.lit_to {st st' eff ret} (hst : st.kind = .lit) (h : Good st eff ret)
    (h1 : st'.litState = true) : Good st' eff ret := by
  obtain ⟨V, rfl, hV⟩ := h.inv_of hst
  exact Good.lit h1 hV

theorem t_ok {f s c p1 p2} (h : InvAt .t s) : OKRes Inv (dispatch (f+1) .t s c p1 p2) := by
  obtain ⟨eff, hE, hG⟩ := h
  rw [dispatch_t]; exact expect_ok hE (hG.lit_to rfl rfl)
theorem tr_ok {f s c p1 p2} (h : InvAt .tr s) : OKRes Inv (dispatch (f+1) .tr s c p1 p2) := by
  obtain ⟨eff, hE, hG⟩ := h
  rw [dispatch_tr]; exact expect_ok hE (hG.lit_to rfl rfl)
theorem tru_ok {f s c p1 p2} (h : InvAt .tru s) : OKRes Inv (dispatch (f+1) .tru s c p1 p2) := by
  obtain ⟨eff, hE, hG⟩ := h
  rw [dispatch_tru]; exact expect_ok hE (hG.lit_to rfl rfl)
theorem f_ok {f s c p1 p2} (h : InvAt .f s) : OKRes Inv (dispatch (f+1) .f s c p1 p2) := by
  obtain ⟨eff, hE, hG⟩ := h
  rw [dispatch_f]; exact expect_ok hE (hG.lit_to rfl rfl)
theorem fa_ok {f s c p1 p2} (h : InvAt .fa s) : OKRes Inv (dispatch (f+1) .fa s c p1 p2) := by
  obtain ⟨eff, hE, hG⟩ := h
  rw [dispatch_fa]; exact expect_ok hE (hG.lit_to rfl rfl)
theorem fal_ok {f s c p1 p2} (h : InvAt .fal s) : OKRes Inv (dispatch (f+1) .fal s c p1 p2) := by
  obtain ⟨eff, hE, hG⟩ := h
  rw [dispatch_fal]; exact expect_ok hE (hG.lit_to rfl rfl)
theorem fals_ok {f s c p1 p2} (h : InvAt .fals s) : OKRes Inv (dispatch (f+1) .fals s c p1 p2) := by
  obtain ⟨eff, hE, hG⟩ := h
  rw [dispatch_fals]; exact expect_ok hE (hG.lit_to rfl rfl)
theorem n_ok {f s c p1 p2} (h : InvAt .n s) : OKRes Inv (dispatch (f+1) .n s c p1 p2) := by
  obtain ⟨eff, hE, hG⟩ := h
  rw [dispatch_n]; exact expect_ok hE (hG.lit_to rfl rfl)
theorem nu_ok {f s c p1 p2} (h : InvAt .nu s) : OKRes Inv (dispatch (f+1) .nu s c p1 p2) := by
  obtain ⟨eff, hE, hG⟩ := h
  rw [dispatch_nu]; exact expect_ok hE (hG.lit_to rfl rfl)
theorem nul_ok {f s c p1 p2} (h : InvAt .nul s) : OKRes Inv (dispatch (f+1) .nul s c p1 p2) := by
  obtain ⟨eff, hE, hG⟩ := h
  rw [dispatch_nul]; exact expect_ok hE (hG.lit_to rfl rfl)

theorem tsBeginName_ok {f s c p1 p2} (h : InvAt .tsBeginName s) :
    OKRes Inv (dispatch (f+1) .tsBeginName s c p1 p2) := by
  obtain ⟨eff, hE, hG⟩ := h
  obtain ⟨V, rfl, hV⟩ := hG.inv
  rw [dispatch_tsBeginName]
  split <;> first | rfl | exact ⟨_, hE, Good.ts rfl hV⟩

theorem tsAfterPipe_ok {f s c p1 p2} (h : InvAt .tsAfterPipe s) :
    OKRes Inv (dispatch (f+1) .tsAfterPipe s c p1 p2) := by
  obtain ⟨eff, hE, hG⟩ := h
  obtain ⟨V, rfl, hV⟩ := hG.inv
  unfold dispatch; dsimp only
  cases c <;> first | rfl | exact ⟨_, hE, Good.ts rfl hV⟩

theorem annKeyFirst_ok {f s c p1 p2} (h : InvAt .annKeyFirst s) :
    OKRes Inv (dispatch (f+1) .annKeyFirst s c p1 p2) := by
  obtain ⟨eff, hE, hG⟩ := h
  obtain ⟨V, rfl, hV⟩ := hG.inv
  unfold dispatch; dsimp only
  split <;> first | rfl | exact ⟨_, hE, Good.key rfl hV⟩

end SchemaScan
