import JSight.SchemaLenAnnLine
/-!
C14, schemas with annotations and user comments: the schema text as a list of TOKENS (blanks, line breaks, `#` line
comments, inline annotations, scalars, keys, brackets, separators) and a token-level description of the scanner:
`tstep` maps a state between two tokens (`TC`) and a token to the next state and the events delivered meanwhile.
`sim` (in `SchemaLenTokSim`): the byte-level scanner model does exactly that, for either value of `lengthComputing`.
What `tstep` can do is said by three inversions: `tstep_cases` (at a slot, or behind the closing lexemes of what is pending),
`closePV_cases` (what is pending) and `slotStep_slot` (the relation `Slot`: one constructor per kind of token); the facts
about one token (`sim_slot`, `slotStep_index`, `slotStep_evs`, …) are proved by cases on `Slot`.
-/
namespace SchemaScan
namespace Len

/-- the scanner between two tokens: step function `st` (behind `guard` when `g`), lexeme stack, index, contexts, and `al`, the
scanner's `allowAnnotation` flag (an annotation may start only where it is set: `slotStep` on `.ann`, `mlSlot`) -/
structure TC where
  st : St
  g : Bool
  K : List (LexT × Nat)
  i : Nat
  CS : List Ctx
  cx : Ctx
  al : Bool

def TC.sc (lc : Bool) (c : TC) : Sc := cfgL lc (gst c.g c.st) [] c.K false c.i c.CS c.cx c.al

inductive Tok
  | sp (c : Cls)                -- a space or a tab
  | nl                          -- a line break byte (LF or CR)
  | cmt (text : List Cls)       -- `#` text line-break
  | ann (b : InlBody)           -- `//` body line-break
  | scalar (tok : List Cls)
  | key (k : List Cls)
  | lbrace | rbrace | lbrack | rbrack | comma | colon

def Tok.render : Tok → List Cls
  | .sp c => [c]
  | .nl => [.nl]
  | .cmt text => Cls.hash :: (text ++ [.nl])
  | .ann b => Cls.slash :: Cls.slash :: (b.render ++ [.nl])
  | .scalar tok => tok
  | .key k => k
  | .lbrace => [.lbrace] | .rbrace => [.rbrace] | .lbrack => [.lbrack] | .rbrack => [.rbrack]
  | .comma => [.comma] | .colon => [.colon]

/-- well-formed tokens (state-independent part); the text of a line comment does not begin with `#`, since `##` opens a block
comment -/
def Tok.WF : Tok → Prop
  | .sp c => c.isSpTab = true
  | .cmt text => (∀ c ∈ text, c ≠ Cls.nl) ∧ text.head? ≠ some Cls.hash
  | .ann b => b.Valid
  | .scalar tok => IsScalar tok
  | .key k => IsKey k
  | _ => True

/-- a well-formed token has at least one byte -/
theorem render_pos {t : Tok} (hw : t.WF) : 1 ≤ t.render.length := by
  cases t with
  | scalar tok => obtain ⟨c0, tl, _, _, _, rfl, _⟩ := hw; simp [Tok.render]
  | key k => obtain ⟨tl, rfl, _⟩ := hw; simp [Tok.render]
  | _ => simp [Tok.render]

def renderToks : List Tok → List Cls
  | [] => []
  | t :: ts => t.render ++ renderToks ts

/-! ### what is pending behind a value -/

/-- what the byte behind a value closes: at the root a literal or nothing; inside a container also the entry `ck` (begun at
`b2`) above the rest `R` of the stack -/
inductive Pend
  | root (lit : Bool) (b : Nat)
  | ck (lit : Bool) (b : Nat) (ck : CK) (b2 : Nat) (R : List (LexT × Nat))

def ckOf : LexT → Option CK
  | .itemB => some .item | .valB => some .val | .keyB => some .key | _ => none

def isLitB : LexT → Bool | .litB => true | _ => false

/-- reads the lexeme stack behind a value back into what is pending: the inverse of `pendOf lit b` (root) and of
`pendOf lit b ++ (ck.B, b2) :: R` (`pendOfK_root`, `pendOfK_ck`).  Where no literal is pending the begin offset is reported
as `0`: `pendOf false b = []` whatever `b`, and statements about a value that is no literal say `false 0`. -/
def pendOfK : List (LexT × Nat) → Option Pend
  | [] => some (.root false 0)
  | (t, b) :: R =>
    if isLitB t then
      match R with
      | [] => some (.root true b)
      | (t2, b2) :: R2 => (ckOf t2).map (fun ck => .ck true b ck b2 R2)
    else (ckOf t).map (fun ck => .ck false 0 ck b R)

theorem ckOf_B {t : LexT} {ck : CK} (h : ckOf t = some ck) : t = ck.B := by
  cases t <;> simp [ckOf] at h <;> subst h <;> rfl

theorem isLitB_eq {t : LexT} (h : isLitB t = true) : t = .litB := by cases t <;> simp [isLitB] at h; rfl

theorem pendOfK_root {K : List (LexT × Nat)} {lit : Bool} {b : Nat} (h : pendOfK K = some (.root lit b)) :
    K = pendOf lit b := by
  cases K with
  | nil => simp [pendOfK] at h; obtain ⟨rfl, rfl⟩ := h; rfl
  | cons p R =>
    obtain ⟨t, b0⟩ := p
    simp only [pendOfK] at h
    split at h
    · rename_i hl
      cases R with
      | nil => simp at h; obtain ⟨rfl, rfl⟩ := h; rw [isLitB_eq hl]; rfl
      | cons q R2 => obtain ⟨t2, b2⟩ := q; cases hc : ckOf t2 <;> simp [hc] at h
    · cases hc : ckOf t <;> simp [hc] at h

theorem pendOfK_ck {K : List (LexT × Nat)} {lit : Bool} {b b2 : Nat} {ck : CK} {R : List (LexT × Nat)}
    (h : pendOfK K = some (.ck lit b ck b2 R)) : K = pendOf lit b ++ (ck.B, b2) :: R := by
  cases K with
  | nil => simp [pendOfK] at h
  | cons p R0 =>
    obtain ⟨t, b0⟩ := p
    simp only [pendOfK] at h
    split at h
    · rename_i hl
      cases R0 with
      | nil => simp at h
      | cons q R2 =>
        obtain ⟨t2, b2'⟩ := q
        cases hc : ckOf t2 with
        | none => simp [hc] at h
        | some ck' =>
          simp [hc] at h
          obtain ⟨rfl, rfl, rfl, rfl, rfl⟩ := h
          rw [isLitB_eq hl, ckOf_B hc]; rfl
    · cases hc : ckOf t with
      | none => simp [hc] at h
      | some ck' =>
        simp [hc] at h
        obtain ⟨rfl, rfl, rfl, rfl, rfl⟩ := h
        rw [ckOf_B hc]; rfl

/-! ### the token-level scanner -/

def vctxOf : St → Option VCtx
  | .foundRoot => some .root | .arrItemOrEmpty => some .item0 | .arrItem => some .item1 | .objValue => some .objv
  | _ => none

theorem vctxOf_st {st : St} {ctx : VCtx} (h : vctxOf st = some ctx) : st = ctx.st := by
  cases st <;> simp [vctxOf] at h <;> subst h <;> rfl

def isObjKey : St → Bool | .objKey => true | _ => false

/-- the state where the token automaton of a scalar stops -/
def endStOf : List Cls → St := fun tok => (Tree.scalar tok).endSt

/-- a line break at a place between tokens -/
def nlStep (c : TC) : Option (TC × List Ev) :=
  if wsLoop c.st then
    some ({ c with st := nlSt c.st, g := c.g && !isObjKey c.st, al := nlAl c.st c.al, i := c.i + 1 },
      [⟨.newLine, c.i, c.i⟩])
  else none

/-- a token read at a place between tokens (nothing pending) -/
def slotStep (c : TC) : Tok → Option (TC × List Ev)
  | .sp _ => if wsLoop c.st then some ({ c with i := c.i + 1 }, []) else none
  | .nl => nlStep c
  | .cmt text =>
    if cmtLoop c.st then
      (nlStep { c with i := c.i + 1 + text.length }).map
        (fun r => (r.1, ⟨.newLine, c.i + text.length, c.i + text.length⟩ :: r.2))
    else none
  | .ann b =>
    if annLoop c.st && c.al && !c.g && noML c.K then
      some ({ c with g := b.hasNote, cx := cxA c.st c.cx, i := c.i + 2 + b.render.length + 1 }, b.evs c.i)
    else none
  | .scalar tok =>
    (vctxOf c.st).map (fun ctx =>
      ({ c with st := endStOf tok, g := false, K := (.litB, c.i) :: (ctx.pre c.i ++ c.K), i := c.i + tok.length,
                cx := ctx.cx' c.cx }, ctx.preEvs c.i ++ [⟨.litB, c.i, c.i⟩]))
  | .key k =>
    if keySt c.st then
      some ({ c with st := .endValue, g := false, K := (.keyB, c.i) :: c.K, i := c.i + k.length, al := keyAl c.st c.al },
        [⟨.keyB, c.i, c.i⟩])
    else none
  | .lbrace =>
    (vctxOf c.st).map (fun ctx =>
      ({ c with st := .objKeyOrEmpty, g := false, K := (.objB, c.i) :: (ctx.pre c.i ++ c.K), i := c.i + 1,
                CS := ctx.cx' c.cx :: c.CS, cx := { ty := .object } }, ctx.preEvs c.i ++ [⟨.objB, c.i, c.i⟩]))
  | .lbrack =>
    (vctxOf c.st).map (fun ctx =>
      ({ c with st := .arrItemOrEmpty, g := false, K := (.arrB, c.i) :: (ctx.pre c.i ++ c.K), i := c.i + 1,
                CS := ctx.cx' c.cx :: c.CS, cx := { ty := .array } }, ctx.preEvs c.i ++ [⟨.arrB, c.i, c.i⟩]))
  | .rbrace =>
    match c.st, c.K, c.CS with
    | .objKeyOrEmpty, (.objB, a) :: K', c0 :: CS' =>
      some ({ c with st := .endValue, g := false, K := K', i := c.i + 1, CS := CS', cx := c0, al := true }, [⟨.objE, a, c.i⟩])
    | .afterValue, (.objB, a) :: K', c0 :: CS' =>
      some ({ c with st := .endValue, g := false, K := K', i := c.i + 1, CS := CS', cx := c0 }, [⟨.objE, a, c.i⟩])
    | _, _, _ => none
  | .rbrack =>
    match c.st, c.K, c.CS with
    | .arrItemOrEmpty, (.arrB, a) :: K', c0 :: CS' =>
      some ({ c with st := .endValue, g := false, K := K', i := c.i + 1, CS := CS', cx := c0, al := !c.cx.arrayHasItem },
        [⟨.arrE, a, c.i⟩])
    | .afterItem, (.arrB, a) :: K', c0 :: CS' =>
      some ({ c with st := .endValue, g := false, K := K', i := c.i + 1, CS := CS', cx := c0, al := !c.cx.arrayHasItem },
        [⟨.arrE, a, c.i⟩])
    | _, _, _ => none
  | .comma =>
    match c.st with
    | .afterItem => some ({ c with st := .arrItem, g := false, i := c.i + 1 }, [])
    | .afterValue => some ({ c with st := .objKey, g := false, i := c.i + 1 }, [])
    | _ => none
  | .colon =>
    match c.st with
    | .afterKey => some ({ c with st := .objValue, g := false, i := c.i + 1 }, [])
    | _ => none

/-- behind a value: the next byte closes what is pending (nothing is consumed) -/
def closePV (c : TC) : Option (TC × List Ev) :=
  match pendOfK c.K with
  | some (.root lit b) => some ({ c with st := .endTop, g := false, K := [] }, rootClosers lit b (c.i - 1))
  | some (.ck lit b ck b2 R) => some ({ c with st := ck.aft, g := false, K := R }, closersOf lit ck b b2 (c.i - 1))
  | none => none

/-- one token: at a place between tokens `slotStep`; behind a value (`PV`) the first byte of the token first closes what is
pending (`closePV`); a state behind a value with the guard flag `c.g` set does not occur (`Shape` in `SchemaTokViable`), and
`tstep` answers `none` there -/
def tstep (c : TC) (t : Tok) : Option (TC × List Ev) :=
  if PV c.st then
    if c.g then none
    else match closePV c with
    | some (c1, e1) => (slotStep c1 t).map (fun r => (r.1, e1 ++ r.2))
    | none => none
  else slotStep c t

/-- what `closePV` answers: behind the top-level value, or behind an item, a key or a member value -/
theorem closePV_cases {c c1 : TC} {e1 : List Ev} (h : closePV c = some (c1, e1)) :
    (∃ lit b, c.K = pendOf lit b ∧ c1 = { c with st := .endTop, g := false, K := [] } ∧
      e1 = rootClosers lit b (c.i - 1)) ∨
    (∃ lit b ck b2 R, c.K = pendOf lit b ++ (ck.B, b2) :: R ∧ c1 = { c with st := ck.aft, g := false, K := R } ∧
      e1 = closersOf lit ck b b2 (c.i - 1)) := by
  unfold closePV at h
  cases hp : pendOfK c.K with
  | none => rw [hp] at h; cases h
  | some pd =>
    rw [hp] at h
    cases pd with
    | root lit b => cases h; exact Or.inl ⟨lit, b, pendOfK_root hp, rfl, rfl⟩
    | ck lit b ck b2 R => cases h; exact Or.inr ⟨lit, b, ck, b2, R, pendOfK_ck hp, rfl, rfl⟩

/-- a token is read at a slot: where the scanner stands, or — right behind a value — behind the closing lexemes of what is
pending there. `slot` is the step at a slot (`slotStep`; with multi-line annotations `aslot`). -/
theorem pvStep_cases {τ : Type} {slot : TC → τ → Option (TC × List Ev)} {c c' : TC} {t : τ} {evs : List Ev}
    (h : (if PV c.st then
            if c.g then none
            else match closePV c with
            | some (c1, e1) => (slot c1 t).map (fun r => (r.1, e1 ++ r.2))
            | none => none
          else slot c t) = some (c', evs)) :
    ∃ c1 e1 e2, (PV c.st = false ∧ c1 = c ∧ e1 = [] ∨ PV c.st = true ∧ c.g = false ∧ closePV c = some (c1, e1)) ∧
      slot c1 t = some (c', e2) ∧ evs = e1 ++ e2 := by
  split at h
  · rename_i hpv
    split at h
    · cases h
    · rename_i hg
      cases hc : closePV c with
      | none => rw [hc] at h; cases h
      | some r =>
        rw [hc] at h
        cases hs : slot r.1 t with
        | none => simp only [hs] at h; cases h
        | some r2 =>
          simp only [hs, Option.map_some, Option.some.injEq, Prod.mk.injEq] at h
          exact ⟨r.1, r.2, r2.2, Or.inr ⟨hpv, by simpa using hg, rfl⟩, by rw [← h.1]; exact hs, h.2.symm⟩
  · rename_i hpv
    exact ⟨c, [], evs, Or.inl ⟨by simpa using hpv, rfl, rfl⟩, h, rfl⟩

theorem tstep_cases {c c' : TC} {t : Tok} {evs : List Ev} (h : tstep c t = some (c', evs)) :
    ∃ c1 e1 e2, (PV c.st = false ∧ c1 = c ∧ e1 = [] ∨ PV c.st = true ∧ c.g = false ∧ closePV c = some (c1, e1)) ∧
      slotStep c1 t = some (c', e2) ∧ evs = e1 ++ e2 :=
  pvStep_cases h

/-! ### what a token read at a place between tokens does -/

theorem wsLoop_notPV {st : St} (h : wsLoop st = true) : PV st = false := by
  cases st <;> simp [wsLoop] at h <;> rfl

def opTok : Gram.Br → Tok | .arr => .lbrack | .obj => .lbrace
def clTok : Gram.Br → Tok | .arr => .rbrack | .obj => .rbrace
/-- the separator token behind an entry of kind `ck` -/
def sepTok : CK → Tok | .key => .colon | _ => .comma
/-- the state in which the closing bracket is read: in the empty container, behind an entry -/
def clSt (br : Gram.Br) (empty : Bool) : St := if empty then br.slot true else br.ck.aft
/-- `allowAnnotation` behind the closing bracket: `}` of an empty object sets it, `]` sets it iff the array has no item -/
def clAl (br : Gram.Br) (empty : Bool) (c : TC) : Bool :=
  match br with | .arr => !c.cx.arrayHasItem | .obj => empty || c.al

/-- the place behind a line break -/
def TC.nl (c : TC) : TC := { c with st := nlSt c.st, g := c.g && !isObjKey c.st, al := nlAl c.st c.al, i := c.i + 1 }

/-- `Slot c t c' e`: the token `t` can be read at the place `c`, leads to `c'` and delivers `e` — `slotStep` as a relation,
one constructor per kind of token (the two brackets are `br`, the separators `,` / `:` are `ck`) -/
inductive Slot : TC → Tok → TC → List Ev → Prop
  | sp {c : TC} {ch : Cls} : wsLoop c.st = true → Slot c (.sp ch) { c with i := c.i + 1 } []
  | nl {c : TC} : wsLoop c.st = true → Slot c .nl c.nl [⟨.newLine, c.i, c.i⟩]
  | cmt {c : TC} {text : List Cls} : cmtLoop c.st = true →
      Slot c (.cmt text) (TC.nl { c with i := c.i + 1 + text.length })
        [⟨.newLine, c.i + text.length, c.i + text.length⟩, ⟨.newLine, c.i + 1 + text.length, c.i + 1 + text.length⟩]
  | ann {c : TC} {b : InlBody} : annLoop c.st = true → c.al = true → c.g = false → noML c.K = true →
      Slot c (.ann b) { c with g := b.hasNote, cx := cxA c.st c.cx, i := c.i + 2 + b.render.length + 1 } (b.evs c.i)
  | scalar {c : TC} {tok : List Cls} {ctx : VCtx} : vctxOf c.st = some ctx →
      Slot c (.scalar tok)
        { c with st := endStOf tok, g := false, K := (.litB, c.i) :: (ctx.pre c.i ++ c.K), i := c.i + tok.length,
                 cx := ctx.cx' c.cx } (ctx.preEvs c.i ++ [⟨.litB, c.i, c.i⟩])
  | key {c : TC} {k : List Cls} : keySt c.st = true →
      Slot c (.key k)
        { c with st := .endValue, g := false, K := (.keyB, c.i) :: c.K, i := c.i + k.length, al := keyAl c.st c.al }
        [⟨.keyB, c.i, c.i⟩]
  | op (br : Gram.Br) {c : TC} {ctx : VCtx} : vctxOf c.st = some ctx →
      Slot c (opTok br)
        { c with st := br.slot true, g := false, K := (br.opB, c.i) :: (ctx.pre c.i ++ c.K), i := c.i + 1,
                 CS := ctx.cx' c.cx :: c.CS, cx := { ty := br.ty } } (ctx.preEvs c.i ++ [⟨br.opB, c.i, c.i⟩])
  | cl (br : Gram.Br) (empty : Bool) {c : TC} {a : Nat} {K' : List (LexT × Nat)} {c0 : Ctx} {CS' : List Ctx} :
      c.st = clSt br empty → c.K = (br.opB, a) :: K' → c.CS = c0 :: CS' →
      Slot c (clTok br)
        { c with st := .endValue, g := false, K := K', i := c.i + 1, CS := CS', cx := c0, al := clAl br empty c }
        [⟨br.clE, a, c.i⟩]
  | sep (ck : CK) {c : TC} : c.st = ck.aft → Slot c (sepTok ck) { c with st := ck.nxt, g := false, i := c.i + 1 } []

/-- the one walk over `slotStep`; with `tstep_cases` and `closePV_cases` it says all that `tstep` can do -/
theorem slotStep_slot {c c' : TC} {t : Tok} {e : List Ev} (h : slotStep c t = some (c', e)) : Slot c t c' e := by
  obtain ⟨st, g, K, i, CS, cx, al⟩ := c
  cases t with
  | sp ch => simp only [slotStep] at h; split at h <;> cases h; exact .sp ‹_›
  | nl => simp only [slotStep, nlStep] at h; split at h <;> cases h; exact .nl ‹_›
  | cmt text =>
    simp only [slotStep, nlStep] at h
    split at h
    · split at h
      · cases h; exact .cmt ‹_›
      · rename_i hc hw; exact absurd (cmtLoop_wsLoop hc) hw
    · cases h
  | ann b =>
    simp only [slotStep] at h
    split at h <;> cases h
    rename_i hc
    simp only [Bool.and_eq_true, Bool.not_eq_true'] at hc
    exact .ann hc.1.1.1 hc.1.1.2 hc.1.2 hc.2
  | scalar tok => simp only [slotStep] at h; cases hv : vctxOf st <;> rw [hv] at h <;> cases h; exact .scalar hv
  | key k => simp only [slotStep] at h; split at h <;> cases h; exact .key ‹_›
  | lbrace => simp only [slotStep] at h; cases hv : vctxOf st <;> rw [hv] at h <;> cases h; exact .op .obj hv
  | lbrack => simp only [slotStep] at h; cases hv : vctxOf st <;> rw [hv] at h <;> cases h; exact .op .arr hv
  | rbrace =>
    simp only [slotStep] at h
    split at h <;> cases h
    · exact .cl .obj true rfl rfl rfl
    · exact .cl .obj false rfl rfl rfl
  | rbrack =>
    simp only [slotStep] at h
    split at h <;> cases h
    · exact .cl .arr true rfl rfl rfl
    · exact .cl .arr false rfl rfl rfl
  | comma =>
    simp only [slotStep] at h
    split at h <;> cases h
    · exact .sep .item rfl
    · exact .sep .val rfl
  | colon => simp only [slotStep] at h; split at h <;> cases h; exact .sep .key rfl

def trun : TC → List Tok → Option (TC × List Ev)
  | c, [] => some (c, [])
  | c, t :: ts =>
    match tstep c t with
    | some (c1, e1) => (trun c1 ts).map (fun r => (r.1, e1 ++ r.2))
    | none => none

/-- the start of the scan -/
def TC.init : TC := { st := .foundRoot, g := false, K := [], i := 0, CS := [], cx := { ty := .initial }, al := true }

theorem TC.init_sc (lc : Bool) : TC.init.sc lc = { lengthComputing := lc } := rfl

end Len
end SchemaScan
