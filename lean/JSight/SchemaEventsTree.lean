import JSight.SchemaGramDoc
/-!
C06 (second sentence) / C13 / C16: a schema whose text is plain JSON is scanned by the schema scanner into exactly
the events of the JSON value tree it denotes — begin/end pairs of objects, keys, values, arrays, items and
literals with the right spans — plus one `newLine` event per line break outside tokens.
Arbitrary nesting, width and layout (space, tab, line breaks at every place JSON allows white space).

The tokens of a `Tree` are those the scanner's token automaton reads (`IsKey`, `IsScalar`).  The second half of the file
shows that the tokens of the JSON grammar (strings, numbers without exponent, the three words) are such tokens, restates
the events theorem for trees with JSON tokens (`Tree.Json`), and closes with a sample text.
-/
namespace SchemaScan

/-! ### value trees with layout -/

/-- a JSON value with its layout: white space (space, tab, line breaks) at every place JSON allows it -/
inductive Tree
  | scalar (tok : List Cls)
  | arr (ws0 : List Cls) (items : List (List Cls × Tree × List Cls))                       -- ws value ws
  | obj (ws0 : List Cls) (members : List (List Cls × List Cls × List Cls × List Cls × Tree × List Cls))
                                                                                         -- ws key ws ":" ws value ws

mutual
def Tree.render : Tree → List Cls
  | .scalar tok => tok
  | .arr ws0 items => .lbrack :: (ws0 ++ renderItems items)
  | .obj ws0 members => .lbrace :: (ws0 ++ renderMembers members)
/-- the items and the closing bracket -/
def renderItems : List (List Cls × Tree × List Cls) → List Cls
  | [] => [.rbrack]
  | (w1, v, w2) :: its => w1 ++ (v.render ++ (w2 ++ ((if its.isEmpty then [] else [.comma]) ++ renderItems its)))
/-- the members and the closing brace -/
def renderMembers : List (List Cls × List Cls × List Cls × List Cls × Tree × List Cls) → List Cls
  | [] => [.rbrace]
  | (w1, k, w2, w3, v, w4) :: ms =>
    w1 ++ (k ++ (w2 ++ (.colon :: (w3 ++ (v.render ++ (w4 ++ ((if ms.isEmpty then [] else [.comma]) ++ renderMembers ms)))))))
end

mutual
/-- the events of a value that starts at offset `o` -/
def schemaEvsAt : Nat → Tree → List Ev
  | o, .scalar tok => [⟨.litB, o, o⟩, ⟨.litE, o, o + tok.length - 1⟩]
  | o, .arr ws0 items => ⟨.arrB, o, o⟩ :: (nlEvs (o + 1) ws0 ++ evsItems o (o + 1 + ws0.length) items)
  | o, .obj ws0 members => ⟨.objB, o, o⟩ :: (nlEvs (o + 1) ws0 ++ evsMembers o (o + 1 + ws0.length) members)
/-- events of the items starting at offset `o`, then the array end of the array opened at `a` -/
def evsItems (a : Nat) : Nat → List (List Cls × Tree × List Cls) → List Ev
  | o, [] => [⟨.arrE, a, o⟩]
  | o, (w1, v, w2) :: its =>
    nlEvs o w1 ++ (⟨.itemB, o + w1.length, o + w1.length⟩ ::
      (schemaEvsAt (o + w1.length) v ++ (⟨.itemE, o + w1.length, o + w1.length + v.render.length - 1⟩ ::
        (nlEvs (o + w1.length + v.render.length) w2 ++
          evsItems a (o + w1.length + v.render.length + w2.length + (if its.isEmpty then 0 else 1)) its))))
/-- events of the members starting at offset `o`, then the object end of the object opened at `a` -/
def evsMembers (a : Nat) : Nat → List (List Cls × List Cls × List Cls × List Cls × Tree × List Cls) → List Ev
  | o, [] => [⟨.objE, a, o⟩]
  | o, (w1, k, w2, w3, v, w4) :: ms =>
    nlEvs o w1 ++ (⟨.keyB, o + w1.length, o + w1.length⟩ :: ⟨.keyE, o + w1.length, o + w1.length + k.length - 1⟩ ::
      (nlEvs (o + w1.length + k.length) w2 ++ (nlEvs (o + w1.length + k.length + w2.length + 1) w3 ++
      (⟨.valB, o + w1.length + k.length + w2.length + 1 + w3.length, o + w1.length + k.length + w2.length + 1 + w3.length⟩ ::
      (schemaEvsAt (o + w1.length + k.length + w2.length + 1 + w3.length) v ++
        (⟨.valE, o + w1.length + k.length + w2.length + 1 + w3.length,
          o + w1.length + k.length + w2.length + 1 + w3.length + v.render.length - 1⟩ ::
        (nlEvs (o + w1.length + k.length + w2.length + 1 + w3.length + v.render.length) w4 ++
        evsMembers a (o + w1.length + k.length + w2.length + 1 + w3.length + v.render.length + w4.length
          + (if ms.isEmpty then 0 else 1)) ms)))))))
end

mutual
def Tree.Valid : Tree → Prop
  | .scalar tok => IsScalar tok
  | .arr ws0 items => IsWs ws0 ∧ ValidItems items
  | .obj ws0 members => IsWs ws0 ∧ ValidMembers members
def ValidItems : List (List Cls × Tree × List Cls) → Prop
  | [] => True
  | (w1, v, w2) :: its => IsWs w1 ∧ v.Valid ∧ IsWs w2 ∧ ValidItems its
def ValidMembers : List (List Cls × List Cls × List Cls × List Cls × Tree × List Cls) → Prop
  | [] => True
  | (w1, k, w2, w3, v, w4) :: ms => IsWs w1 ∧ IsKey k ∧ IsWs w2 ∧ IsWs w3 ∧ v.Valid ∧ IsWs w4 ∧ ValidMembers ms
end

def Tree.isLit : Tree → Bool | .scalar _ => true | _ => false
/-- the events of the value that have been delivered when the scanner stands behind its last byte: a scalar's `literal-end`
comes with the next byte -/
def evsOpen (o : Nat) : Tree → List Ev
  | .scalar _ => [⟨.litB, o, o⟩]
  | v => schemaEvsAt o v

/-- the scanner state right after the last byte of a value (containers: `endValue`; scalars: where the token
automaton stops — `d0`/`d1`/`dot0` for numbers, `endValue` for strings and `true`/`false`/`null`) -/
def Tree.endSt : Tree → St
  | .scalar (c :: tl) =>
    match litStart c with
    | some (st0, u0) =>
      match silentRun st0 [] u0 tl with
      | some (stE, _, _) => stE
      | none => .endValue
    | none => .endValue
  | _ => .endValue

/-! ### a valid tree is a derivation of the grammar of scanned text -/

open Gram in
mutual
theorem Tree.gram : (v : Tree) → v.Valid → ∀ o, Val false o v.render (schemaEvsAt o v) (.ofLit v.isLit) v.endSt
  | .scalar tok, hv, o => by
    obtain ⟨c, tl, st0, u0, stE, rfl, hs, hr, hp⟩ : IsScalar tok := by simpa [Tree.Valid] using hv
    have : (Tree.scalar (c :: tl)).endSt = stE := by simp [Tree.endSt, hs, hr]
    rw [this]
    exact Val.scalar hs hr hp
  | .arr ws0 items, hv, o => by
    obtain ⟨hw0, hi⟩ : IsWs ws0 ∧ ValidItems items := by simpa [Tree.Valid] using hv
    exact Val.cont (br := .arr) (Layout.of_ws hw0 _) (gram_items items hi true (fun _ => rfl) o _)
  | .obj ws0 ms, hv, o => by
    obtain ⟨hw0, hi⟩ : IsWs ws0 ∧ ValidMembers ms := by simpa [Tree.Valid] using hv
    exact Val.cont (br := .obj) (Layout.of_ws hw0 _) (gram_members ms hi true (fun _ => rfl) o _)
theorem gram_items : (its : List (List Cls × Tree × List Cls)) → ValidItems its → (first : Bool) → (its = [] → first = true) →
    ∀ a o, Entries false .arr a o first (renderItems its) (evsItems a o its)
  | [], _, first, hf, a, o => by rw [hf rfl]; exact .nil
  | (w1, v, w2) :: its, hv, first, _, a, o => by
    obtain ⟨hw1, hvv, hw2, hits⟩ : IsWs w1 ∧ v.Valid ∧ IsWs w2 ∧ ValidItems its := by simpa [ValidItems] using hv
    cases its with
    | nil =>
      simpa [renderItems, evsItems, CK.B, CK.E] using
        Entries.last (a := a) (first := first) (Layout.of_ws hw1 o) .item (Tree.gram v hvv _) (Layout.of_ws hw2 _)
          (absurd · (LK.ofLit_ne _))
    | cons it its' =>
      simpa [renderItems, evsItems, CK.B, CK.E] using
        Entries.cons (first := first) (Layout.of_ws hw1 o) .item (Tree.gram v hvv _) (Layout.of_ws hw2 _)
          (absurd · (LK.ofLit_ne _)) (gram_items (it :: its') hits false (by simp) a _)
theorem gram_members : (ms : List (List Cls × List Cls × List Cls × List Cls × Tree × List Cls)) → ValidMembers ms →
    (first : Bool) → (ms = [] → first = true) → ∀ a o, Entries false .obj a o first (renderMembers ms) (evsMembers a o ms)
  | [], _, first, hf, a, o => by rw [hf rfl]; exact .nil
  | (w1, k, w2, w3, v, w4) :: ms, hv, first, _, a, o => by
    obtain ⟨hw1, hk, hw2, hw3, hvv, hw4, hms⟩ :
        IsWs w1 ∧ IsKey k ∧ IsWs w2 ∧ IsWs w3 ∧ v.Valid ∧ IsWs w4 ∧ ValidMembers ms := by
      simpa [ValidMembers] using hv
    cases ms with
    | nil =>
      simpa [renderMembers, evsMembers, CK.B, CK.E] using
        Entries.last (a := a) (first := first) (Layout.of_ws hw1 o) (.key hk hw2 hw3) (Tree.gram v hvv _) (Layout.of_ws hw4 _)
          (absurd · (LK.ofLit_ne _))
    | cons m ms' =>
      simpa [renderMembers, evsMembers, CK.B, CK.E] using
        Entries.cons (first := first) (Layout.of_ws hw1 o) (.key hk hw2 hw3) (Tree.gram v hvv _) (Layout.of_ws hw4 _)
          (absurd · (LK.ofLit_ne _)) (gram_members (m :: ms') hms false (by simp) a _)
end

theorem Tree.gram_opn (o : Nat) (v : Tree) : (Gram.LK.ofLit v.isLit).opn o (schemaEvsAt o v) = evsOpen o v := by
  cases v <;> rfl

namespace Len

variable {lc : Bool} {data : Array Cls}

theorem value_run : (v : Tree) → v.Valid → (ctx : VCtx) → (K : List (LexT × Nat)) → (o : Nat) →
    At data o v.render → (CS : List Ctx) → (cx : Ctx) → (al : Bool) →
    ∃ st cx' al', PV st = true ∧ st = v.endSt ∧
      Path data (cfgL lc ctx.st [] K false o CS cx al) (ctx.preEvs o ++ evsOpen o v)
        (cfgL lc st [] (pendOf v.isLit o ++ (ctx.pre o ++ K)) false (o + v.render.length) CS cx' al') :=
  fun v hv ctx K o hat CS cx al =>
    let ⟨al', h⟩ := (v.gram hv o).run (lc := lc) ctx (absurd · (Gram.LK.ofLit_ne _)) K hat CS cx al
    ⟨_, _, al', (v.gram hv o).pv (Gram.LK.ofLit_ne _), rfl, Gram.LK.ofLit_pend v.isLit o ▸ v.gram_opn o ▸ h⟩

theorem items_run : (its : List (List Cls × Tree × List Cls)) → ValidItems its →
    (first : Bool) → (its = [] → first = true) → (a : Nat) → (K : List (LexT × Nat)) → (o : Nat) →
    At data o (renderItems its) → (c0 : Ctx) → (CS : List Ctx) → (cx : Ctx) → (al : Bool) →
    ∃ al', Path data (cfgL lc (itemCtx first).st [] ((.arrB, a) :: K) false o (c0 :: CS) cx al) (evsItems a o its)
      (cfgL lc .endValue [] K false (o + (renderItems its).length) CS c0 al') :=
  fun its hv first hf a K o hat c0 CS cx al =>
    (gram_items its hv first hf a o).run K hat c0 CS cx (fun h => by cases h) al

theorem members_run : (ms : List (List Cls × List Cls × List Cls × List Cls × Tree × List Cls)) → ValidMembers ms →
    (first : Bool) → (ms = [] → first = true) → (a : Nat) → (K : List (LexT × Nat)) → (o : Nat) →
    At data o (renderMembers ms) → (c0 : Ctx) → (CS : List Ctx) → (cx : Ctx) → (al : Bool) →
    ∃ al', Path data (cfgL lc (keyCtxSt first) [] ((.objB, a) :: K) false o (c0 :: CS) cx al) (evsMembers a o ms)
      (cfgL lc .endValue [] K false (o + (renderMembers ms).length) CS c0 al') :=
  fun ms hv first hf a K o hat c0 CS cx al =>
    (gram_members ms hv first hf a o).run K hat c0 CS cx (fun h => by cases h) al

end Len

variable {data : Array Cls}

theorem key_run {st : St} (hst : keySt st = true) (k : List Cls) (hk : IsKey k) (R : List (LexT × Nat))
    (w2 : List Cls) (hw : IsWs w2) (o : Nat) (CS : List Ctx) (cx : Ctx) (al : Bool)
    (hat : At data o (k ++ (w2 ++ [.colon]))) :
    ∃ al', Steps data (cfg st [] R false o CS cx al)
      ([⟨.keyB, o, o⟩, ⟨.keyE, o, o + k.length - 1⟩] ++ nlEvs (o + k.length) w2)
      (cfg .objValue [] R false (o + k.length + w2.length + 1) CS cx al') :=
  let ⟨al', h⟩ := Len.key_run (lc := false) hst k hk R w2 hw o CS cx al hat
  ⟨al', h.steps⟩

theorem value_run : (v : Tree) → v.Valid → (ctx : VCtx) → (K : List (LexT × Nat)) → (o : Nat) →
    At data o v.render → (CS : List Ctx) → (cx : Ctx) → (al : Bool) →
    ∃ st cx' al', PV st = true ∧
      Steps data (cfg ctx.st [] K false o CS cx al) (ctx.preEvs o ++ evsOpen o v)
        (cfg st [] (pendOf v.isLit o ++ (ctx.pre o ++ K)) false (o + v.render.length) CS cx' al') :=
  fun v hv ctx K o hat CS cx al =>
    let ⟨st, cx', al', hp, _, h⟩ := Len.value_run (lc := false) v hv ctx K o hat CS cx al
    ⟨st, cx', al', hp, h.steps⟩

theorem items_run : (its : List (List Cls × Tree × List Cls)) → ValidItems its →
    (first : Bool) → (its = [] → first = true) → (a : Nat) → (K : List (LexT × Nat)) → (o : Nat) →
    At data o (renderItems its) → (c0 : Ctx) → (CS : List Ctx) → (cx : Ctx) → (al : Bool) →
    ∃ al', Steps data (cfg (itemCtx first).st [] ((.arrB, a) :: K) false o (c0 :: CS) cx al) (evsItems a o its)
      (cfg .endValue [] K false (o + (renderItems its).length) CS c0 al') :=
  fun its hv first hf a K o hat c0 CS cx al =>
    let ⟨al', h⟩ := Len.items_run (lc := false) its hv first hf a K o hat c0 CS cx al
    ⟨al', h.steps⟩

theorem members_run : (ms : List (List Cls × List Cls × List Cls × List Cls × Tree × List Cls)) → ValidMembers ms →
    (first : Bool) → (ms = [] → first = true) → (a : Nat) → (K : List (LexT × Nat)) → (o : Nat) →
    At data o (renderMembers ms) → (c0 : Ctx) → (CS : List Ctx) → (cx : Ctx) → (al : Bool) →
    ∃ al', Steps data (cfg (keyCtxSt first) [] ((.objB, a) :: K) false o (c0 :: CS) cx al) (evsMembers a o ms)
      (cfg .endValue [] K false (o + (renderMembers ms).length) CS c0 al') :=
  fun ms hv first hf a K o hat c0 CS cx al =>
    let ⟨al', h⟩ := Len.members_run (lc := false) ms hv first hf a K o hat c0 CS cx al
    ⟨al', h.steps⟩

/-! ### the whole document -/

/-- the event stream of a rendered tree (fuel-free form) -/
theorem emits_of_tree (v : Tree) (hv : v.Valid) (ws0 ws1 : List Cls) (h0 : IsWs ws0) (h1 : IsWs ws1) :
    Emits (ws0 ++ (v.render ++ ws1)).toArray {}
      (nlEvs 0 ws0 ++ (schemaEvsAt ws0.length v ++ nlEvs (ws0.length + v.render.length) ws1)) := by
  have := Gram.emits_doc (Gram.Layout.of_ws h0 0) (v.gram hv _) (Gram.Layout.of_ws h1 _) (absurd · (Gram.LK.ofLit_ne _))
    (Or.inl rfl) (absurd · (Gram.LK.ofLit_ne _))
  rwa [List.append_nil] at this

/-! ### the fuel of `scanAll` suffices: at most three events per byte -/

theorem nlEvs_length : ∀ (o : Nat) (ws : List Cls), (nlEvs o ws).length ≤ ws.length
  | _, [] => Nat.le_refl _
  | o, c :: cs => by
    have := nlEvs_length (o + 1) cs
    simp only [nlEvs, List.length_append, List.length_cons]
    split <;> simp <;> omega

theorem evs_length : (v : Tree) → v.Valid → (o : Nat) → (schemaEvsAt o v).length ≤ 3 * v.render.length :=
  fun v hv o => (v.gram hv o).evs_facts.1

theorem items_length : (its : List (List Cls × Tree × List Cls)) → ValidItems its → (a o : Nat) →
    (evsItems a o its).length ≤ 3 * (renderItems its).length :=
  fun its hv a o => (gram_items its hv its.isEmpty (by cases its <;> simp) a o).evs_facts.1

theorem members_length : (ms : List (List Cls × List Cls × List Cls × List Cls × Tree × List Cls)) → ValidMembers ms →
    (a o : Nat) → (evsMembers a o ms).length ≤ 3 * (renderMembers ms).length :=
  fun ms hv a o => (gram_members ms hv ms.isEmpty (by cases ms <;> simp) a o).evs_facts.1

/-- `events` on the class array, for any sufficient fuel -/
theorem events_of_tree (v : Tree) (hv : v.Valid) (ws0 ws1 : List Cls) (h0 : IsWs ws0) (h1 : IsWs ws1)
    (fuel : Nat) (hf : 3 * (ws0 ++ (v.render ++ ws1)).length < fuel) :
    events (ws0 ++ (v.render ++ ws1)).toArray fuel {} []
      = .ok (nlEvs 0 ws0 ++ (schemaEvsAt ws0.length v ++ nlEvs (ws0.length + v.render.length) ws1)) := by
  have h := events_of_emits (emits_of_tree v hv ws0 ws1 h0 h1) fuel [] (by
    have a := nlEvs_length 0 ws0
    have b := nlEvs_length (ws0.length + v.render.length) ws1
    have c := evs_length v hv ws0.length
    simp only [List.length_append] at hf ⊢
    omega)
  simpa using h

/-- **C06 / C13 / C16 (schema scanner)**: a plain-JSON schema text — any value tree, any nesting and width, layout of
spaces, tabs and line breaks — is scanned into exactly the events of the tree (types, order, spans), plus one
`newLine` event per line break outside tokens; `scanAll`'s fuel suffices. -/
theorem C06_schema_events_of_tree (v : Tree) (hv : v.Valid) (ws0 ws1 : List Cls) (h0 : IsWs ws0) (h1 : IsWs ws1)
    (bs : List UInt8) (hbs : bs.map classify = ws0 ++ (v.render ++ ws1)) :
    scanAll bs
      = .ok (nlEvs 0 ws0 ++ (schemaEvsAt ws0.length v ++ nlEvs (ws0.length + v.render.length) ws1)) := by
  unfold scanAll
  simp only [hbs]
  exact events_of_tree v hv ws0 ws1 h0 h1 _ (by simp only [List.size_toArray]; omega)

#print axioms C06_schema_events_of_tree

/-! ### the JSON token grammar (numbers without exponent) produces tokens of the scanner's automaton -/

theorem silentRun_append (st : St) (r : List St) (unf : Bool) (xs ys : List Cls) (st' : St) (r' : List St) (unf' : Bool)
    (h : silentRun st r unf xs = some (st', r', unf')) :
    silentRun st r unf (xs ++ ys) = silentRun st' r' unf' ys := by
  induction xs generalizing st r unf with
  | nil => simp [silentRun] at h; obtain ⟨rfl, rfl, rfl⟩ := h; rfl
  | cons c cs ih =>
    simp only [silentRun, List.cons_append] at h ⊢
    cases hs : silent st r unf c with
    | none => rw [hs] at h; simp at h
    | some p => obtain ⟨a, b, d⟩ := p; rw [hs] at h; simp only [] at h ⊢; exact ih a b d h

/-- bytes that may stand unescaped in a string: everything but `"`, `\` and bytes below 0x20 -/
def Cls.isPlainStr : Cls → Bool
  | .quote | .bslash | .tab | .nl | .ctrl => false
  | _ => true
def Cls.isSimpleEsc : Cls → Bool
  | .lb | .lf | .ln | .lr | .lt | .bslash | .slash | .quote => true
  | _ => false

/-- the `*char` of the JSON string grammar, on byte classes -/
inductive StrBody : List Cls → Prop
  | nil : StrBody []
  | plain (c : Cls) (b : List Cls) : c.isPlainStr = true → StrBody b → StrBody (c :: b)
  | esc (c : Cls) (b : List Cls) : c.isSimpleEsc = true → StrBody b → StrBody (.bslash :: c :: b)
  | uni (h1 h2 h3 h4 : Cls) (b : List Cls) : h1.isHex = true → h2.isHex = true → h3.isHex = true → h4.isHex = true →
      StrBody b → StrBody (.bslash :: .lu :: h1 :: h2 :: h3 :: h4 :: b)

/-- string characters leave the string open -/
theorem strBody_open (b : List Cls) (hb : StrBody b) (u : Bool) : silentRun .inString [] u b = some (.inString, [], u) := by
  induction hb with
  | nil => rfl
  | plain c b hc _ ih =>
    have : silent .inString [] u c = some (.inString, [], u) := by cases c <;> simp [Cls.isPlainStr] at hc <;> rfl
    simp only [silentRun, this]; exact ih
  | esc c b hc _ ih =>
    have : silent .esc [] u c = some (.inString, [], u) := by cases c <;> simp [Cls.isSimpleEsc] at hc <;> rfl
    have e1 : silent .inString [] u .bslash = some (.esc, [], u) := rfl
    simp only [silentRun, e1, this]; exact ih
  | uni h1 h2 h3 h4 b e1 e2 e3 e4 _ ih =>
    have s0 : silent .inString [] u .bslash = some (.esc, [], u) := rfl
    have s1 : silent .esc [] u .lu = some (.u0, [.inString], u) := rfl
    have s2 : silent .u0 [.inString] u h1 = some (.u1, [.inString], u) := by simp [silent, e1]
    have s3 : silent .u1 [.inString] u h2 = some (.u2, [.inString], u) := by simp [silent, e2]
    have s4 : silent .u2 [.inString] u h3 = some (.u3, [.inString], u) := by simp [silent, e3]
    have s5 : silent .u3 [.inString] u h4 = some (.inString, [], u) := by simp [silent, e4]
    simp only [silentRun, s0, s1, s2, s3, s4, s5]; exact ih

theorem strBody_run (b : List Cls) (hb : StrBody b) (u : Bool) :
    silentRun .inString [] u (b ++ [.quote]) = some (.endValue, [], false) := by
  rw [silentRun_append _ _ _ _ _ _ _ _ (strBody_open b hb u)]; rfl

theorem string_isScalar (b : List Cls) (hb : StrBody b) : IsScalar (.quote :: (b ++ [.quote])) :=
  ⟨.quote, b ++ [.quote], .inString, true, .endValue, rfl, rfl, strBody_run b hb true, rfl⟩

theorem string_isKey (b : List Cls) (hb : StrBody b) : IsKey (.quote :: (b ++ [.quote])) :=
  ⟨b ++ [.quote], rfl, strBody_run b hb false⟩

theorem true_isScalar : IsScalar [.lt, .lr, .lu, .le] := ⟨.lt, _, .t, true, .endValue, rfl, rfl, rfl, rfl⟩
theorem false_isScalar : IsScalar [.lf, .la, .ll, .ls, .le] := ⟨.lf, _, .f, true, .endValue, rfl, rfl, rfl, rfl⟩
theorem null_isScalar : IsScalar [.ln, .lu, .ll, .ll] := ⟨.ln, _, .n, true, .endValue, rfl, rfl, rfl, rfl⟩

def IsDigits (ds : List Cls) : Prop := ∀ c ∈ ds, c.isDigit = true

theorem digits_run (st : St) (hst : st = .d1 ∨ st = .dot0) (ds : List Cls) (hd : IsDigits ds) :
    silentRun st [] false ds = some (st, [], false) := by
  induction ds with
  | nil => rfl
  | cons c cs ih =>
    have hc := hd c (by simp)
    have : silent st [] false c = some (st, [], false) := by
      rcases hst with rfl | rfl <;> cases c <;> simp [Cls.isDigit] at hc <;> rfl
    simp only [silentRun, this]; exact ih (fun x hx => hd x (by simp [hx]))

/-- JSON number without exponent (the schema scanner rejects exponents): `[-] int [frac]`, on byte classes -/
structure NumTok where
  neg : Bool
  int : List Cls                      -- `0` or a non-zero digit followed by digits
  frac : Option (Cls × List Cls)      -- first digit and the rest

def NumTok.tail (t : NumTok) : List Cls :=
  match t.frac with | none => [] | some (d, ds) => .dot :: d :: ds

def NumTok.render (t : NumTok) : List Cls :=
  (if t.neg then [.minus] else []) ++ t.int ++ t.tail

structure NumTok.WF (t : NumTok) : Prop where
  int : t.int = [.zero] ∨ ∃ ds, t.int = .d19 :: ds ∧ IsDigits ds
  frac : ∀ d ds, t.frac = some (d, ds) → d.isDigit = true ∧ IsDigits ds

theorem frac_run (s : St) (hs : s = .d0 ∨ s = .d1) (d : Cls) (ds : List Cls) (hd : d.isDigit = true)
    (hds : IsDigits ds) : silentRun s [] false (.dot :: d :: ds) = some (.dot0, [], false) := by
  have a : silent s [] false .dot = some (.dot, [], true) := by rcases hs with rfl | rfl <;> rfl
  have b : silent .dot [] true d = some (.dot0, [], false) := by cases d <;> simp [Cls.isDigit] at hd <;> rfl
  simp only [silentRun, a, b]
  exact digits_run .dot0 (Or.inr rfl) ds hds

theorem tail_run (t : NumTok) (wf : t.WF) (s : St) (hs : s = .d0 ∨ s = .d1) :
    ∃ sE, PV sE = true ∧ silentRun s [] false t.tail = some (sE, [], false) := by
  obtain ⟨neg, int, frac⟩ := t
  have hf := wf.frac
  simp only [NumTok.tail] at *
  cases frac with
  | none => exact ⟨s, by rcases hs with rfl | rfl <;> rfl, rfl⟩
  | some p =>
    obtain ⟨fd, fds⟩ := p
    obtain ⟨g1, g2⟩ := hf fd fds rfl
    exact ⟨.dot0, rfl, frac_run s hs fd fds g1 g2⟩

theorem number_isScalar (t : NumTok) (wf : t.WF) : IsScalar t.render := by
  unfold NumTok.render
  rcases wf.int with hz | ⟨ds, hi, hds⟩
  · obtain ⟨sE, hp, hrun⟩ := tail_run t wf .d0 (Or.inl rfl)
    rw [hz]
    cases t.neg
    · exact ⟨.zero, t.tail, .d0, false, sE, by simp, rfl, hrun, hp⟩
    · refine ⟨.minus, .zero :: t.tail, .neg, true, sE, by simp, rfl, ?_, hp⟩
      have a : silent .neg [] true .zero = some (.d0, [], false) := rfl
      simp only [silentRun, a]; exact hrun
  · obtain ⟨sE, hp, hrun⟩ := tail_run t wf .d1 (Or.inr rfl)
    have hdig := digits_run .d1 (Or.inl rfl) ds hds
    rw [hi]
    cases t.neg
    · refine ⟨.d19, ds ++ t.tail, .d1, false, sE, by simp, rfl, ?_, hp⟩
      rw [silentRun_append _ _ _ _ _ _ _ _ hdig]; exact hrun
    · refine ⟨.minus, .d19 :: (ds ++ t.tail), .neg, true, sE, by simp, rfl, ?_, hp⟩
      have a : silent .neg [] true .d19 = some (.d1, [], false) := rfl
      simp only [silentRun, a]
      rw [silentRun_append _ _ _ _ _ _ _ _ hdig]; exact hrun

#print axioms number_isScalar

/-! ### trees whose tokens are given by the JSON grammar -/

/-- scalar tokens of the JSON grammar, numbers without exponent -/
inductive ScalarTok : List Cls → Prop
  | str (b : List Cls) : StrBody b → ScalarTok (.quote :: (b ++ [.quote]))
  | num (t : NumTok) : t.WF → ScalarTok t.render
  | true_ : ScalarTok [.lt, .lr, .lu, .le]
  | false_ : ScalarTok [.lf, .la, .ll, .ls, .le]
  | null_ : ScalarTok [.ln, .lu, .ll, .ll]

def KeyTok (k : List Cls) : Prop := ∃ b, StrBody b ∧ k = .quote :: (b ++ [.quote])

theorem ScalarTok.isScalar {tok : List Cls} (h : ScalarTok tok) : IsScalar tok := by
  cases h with
  | str b hb => exact string_isScalar b hb
  | num t wf => exact number_isScalar t wf
  | true_ => exact true_isScalar
  | false_ => exact false_isScalar
  | null_ => exact null_isScalar

theorem KeyTok.isKey {k : List Cls} (h : KeyTok k) : IsKey k := by
  obtain ⟨b, hb, rfl⟩ := h
  exact string_isKey b hb

mutual
/-- plain JSON text (grammar level): tokens by the JSON grammar, layout of spaces, tabs and line breaks -/
def Tree.Json : Tree → Prop
  | .scalar tok => ScalarTok tok
  | .arr ws0 items => IsWs ws0 ∧ JsonItems items
  | .obj ws0 members => IsWs ws0 ∧ JsonMembers members
def JsonItems : List (List Cls × Tree × List Cls) → Prop
  | [] => True
  | (w1, v, w2) :: its => IsWs w1 ∧ v.Json ∧ IsWs w2 ∧ JsonItems its
def JsonMembers : List (List Cls × List Cls × List Cls × List Cls × Tree × List Cls) → Prop
  | [] => True
  | (w1, k, w2, w3, v, w4) :: ms => IsWs w1 ∧ KeyTok k ∧ IsWs w2 ∧ IsWs w3 ∧ v.Json ∧ IsWs w4 ∧ JsonMembers ms
end

mutual
theorem Tree.Json.valid : (v : Tree) → v.Json → v.Valid
  | .scalar tok, h => by
    have h' : ScalarTok tok := by simpa [Tree.Json] using h
    simpa [Tree.Valid] using h'.isScalar
  | .arr ws0 items, h => by
    obtain ⟨h0, hi⟩ : IsWs ws0 ∧ JsonItems items := by simpa [Tree.Json] using h
    simpa [Tree.Valid] using And.intro h0 (JsonItems.valid items hi)
  | .obj ws0 members, h => by
    obtain ⟨h0, hi⟩ : IsWs ws0 ∧ JsonMembers members := by simpa [Tree.Json] using h
    simpa [Tree.Valid] using And.intro h0 (JsonMembers.valid members hi)
theorem JsonItems.valid : (its : List (List Cls × Tree × List Cls)) → JsonItems its → ValidItems its
  | [], _ => by simp [ValidItems]
  | (w1, v, w2) :: its, h => by
    obtain ⟨h1, hv, h2, hr⟩ : IsWs w1 ∧ v.Json ∧ IsWs w2 ∧ JsonItems its := by simpa [JsonItems] using h
    simpa [ValidItems] using And.intro h1 (And.intro (Tree.Json.valid v hv) (And.intro h2 (JsonItems.valid its hr)))
theorem JsonMembers.valid : (ms : List (List Cls × List Cls × List Cls × List Cls × Tree × List Cls)) →
    JsonMembers ms → ValidMembers ms
  | [], _ => by simp [ValidMembers]
  | (w1, k, w2, w3, v, w4) :: ms, h => by
    obtain ⟨h1, hk, h2, h3, hv, h4, hr⟩ :
        IsWs w1 ∧ KeyTok k ∧ IsWs w2 ∧ IsWs w3 ∧ v.Json ∧ IsWs w4 ∧ JsonMembers ms := by simpa [JsonMembers] using h
    simpa [ValidMembers] using And.intro h1 (And.intro hk.isKey (And.intro h2 (And.intro h3
      (And.intro (Tree.Json.valid v hv) (And.intro h4 (JsonMembers.valid ms hr))))))
end

theorem C06_schema_events_of_json_text (v : Tree) (hv : v.Json) (ws0 ws1 : List Cls) (h0 : IsWs ws0) (h1 : IsWs ws1)
    (bs : List UInt8) (hbs : bs.map classify = ws0 ++ (v.render ++ ws1)) :
    scanAll bs
      = .ok (nlEvs 0 ws0 ++ (schemaEvsAt ws0.length v ++ nlEvs (ws0.length + v.render.length) ws1)) :=
  C06_schema_events_of_tree v (Tree.Json.valid v hv) ws0 ws1 h0 h1 bs hbs

/-! ### non-vacuity: a schema text with line breaks, tabs, nesting, escapes -/

/-- the bytes of ` {⏎"a\\n" :⏎ [1, true,␍⏎⇥-0.50 ] ,⏎⏎ "\\u00e9": { }⏎}⏎ ` -/
def sampleBytes : List UInt8 :=
  [32, 123, 10, 34, 97, 92, 110, 34, 32, 58, 10, 32, 91, 49, 44, 32, 116, 114, 117, 101, 44, 13, 10, 9, 45, 48, 46, 53, 48, 32, 93, 32, 44, 10, 10, 32, 34, 92, 117, 48, 48, 101, 57, 34, 58, 32, 123, 32, 125, 10, 125, 10, 32]

def sampleTree : Tree :=
  .obj [.nl] [
    ([], [.quote, .la, .bslash, .ln, .quote], [.sp], [.nl, .sp],
      .arr [] [([], .scalar [.d19], []), ([.sp], .scalar [.lt, .lr, .lu, .le], []),
               ([.nl, .nl, .tab], .scalar [.minus, .zero, .dot, .d19, .zero], [.sp])], [.sp]),
    ([.nl, .nl, .sp], [.quote, .bslash, .lu, .zero, .zero, .le, .d19, .quote], [], [.sp], .obj [.sp] [], [.nl])]

theorem sampleTree_valid : sampleTree.Valid := by
  have k1 : IsKey [.quote, .la, .bslash, .ln, .quote] :=
    string_isKey [.la, .bslash, .ln] (.plain _ _ rfl (.esc _ _ rfl .nil))
  have k2 : IsKey [.quote, .bslash, .lu, .zero, .zero, .le, .d19, .quote] :=
    string_isKey [.bslash, .lu, .zero, .zero, .le, .d19] (.uni _ _ _ _ _ rfl rfl rfl rfl .nil)
  have n1 : IsScalar [.d19] := ⟨.d19, [], .d1, false, .d1, rfl, rfl, rfl, rfl⟩
  have n2 : IsScalar [.minus, .zero, .dot, .d19, .zero] :=
    number_isScalar ⟨true, [.zero], some (.d19, [.zero])⟩
      ⟨Or.inl rfl, by intro d ds h; cases h; exact ⟨rfl, by simp [IsDigits, Cls.isDigit]⟩⟩
  simp [sampleTree, Tree.Valid, ValidMembers, ValidItems, IsWs, Cls.isBlank, Cls.isSpace, Cls.isNewLine,
    k1, k2, n1, n2, true_isScalar]

theorem sample_classes : sampleBytes.map classify = [.sp] ++ (sampleTree.render ++ [.nl, .sp]) := by
  decide

theorem sample_events : scanAll sampleBytes
    = .ok (nlEvs 0 [.sp] ++ (schemaEvsAt 1 sampleTree ++ nlEvs (1 + sampleTree.render.length) [.nl, .sp])) :=
  C06_schema_events_of_tree sampleTree sampleTree_valid [.sp] [.nl, .sp]
    (by simp [IsWs, Cls.isBlank, Cls.isSpace]) (by simp [IsWs, Cls.isBlank, Cls.isSpace, Cls.isNewLine]) _ sample_classes

#eval showEvents (scanAll sampleBytes)
#eval showEvents (.ok (nlEvs 0 [.sp] ++ (schemaEvsAt 1 sampleTree ++ nlEvs (1 + sampleTree.render.length) [.nl, .sp])))
end SchemaScan
