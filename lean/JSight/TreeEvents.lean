import JSight.JsonRun
/-!
C06: the events of a *rendered JSON tree* are the events the tree denotes
(types, order, spans), for arbitrary layout, nesting and width.

The file also holds what that statement is made of and what other modules take from here: the JSON scanner's token
automaton (`silent`, `silentRun`: the bytes inside a token, stack-free; `litStart`, `PV`; `IsScalar`, `IsKey`: tokens as
that automaton reads them; `string_isScalar`, `number_isScalar`: the RFC 8259 tokens are such tokens — `RfcGrammar` walks
tokens through these), the trees with layout (`JA`, `render`, `evsAt`, `Valid`), the kind of bracket `Br` and the value
position `VCtx` by which the array and the object lemmas are one, and the macros `pv_one` / `ev_one` (one byte from a
concrete state: control step and finds by `rfl`).
-/
namespace JsonScan

/-- non-accumulating form of `eventsLoop` -/
def evsFrom (allow : Bool) (n : Nat) : List Cls → Nat → CfgS → Except ErrS (List Ev)
  | [], _, cfg =>
    match cfg.stack with
    | [] => .ok []
    | [(.litB, b)] => if cfg.unf then .error (.unexpectedEOF (n - 1)) else .ok [⟨.litE, b, n - 1⟩]
    | _ => .error (.unexpectedEOF (n - 1))
  | c :: cs, i, cfg =>
    match step allow cfg.st (cfg.stack.map (·.1)) cfg.unf c with
    | .error _ => .error (.invalidChar i)
    | .ok (st', unf', finds) =>
      match applyFindsS i cfg.stack finds [] with
      | .error e => .error e
      | .ok (stack', evs, stop) =>
        if stop then .ok evs
        else (evsFrom allow n cs (i + 1) { st := st', stack := stack', unf := unf' }).map (evs ++ ·)

theorem map_append_nil {ε} (x : Except ε (List Ev)) : x.map (([] : List Ev) ++ ·) = x := by
  cases x <;> simp [Except.map]

theorem map_map_append {ε} (x : Except ε (List Ev)) (a b : List Ev) :
    (x.map (b ++ ·)).map (a ++ ·) = x.map ((a ++ b) ++ ·) := by
  cases x <;> simp [Except.map]

theorem map_comp {ε α β γ} (x : Except ε α) (g : α → β) (f : β → γ) :
    (x.map g).map f = x.map (fun y => f (g y)) := by
  cases x <;> rfl

/-- one byte whose step succeeds without stopping -/
theorem evsFrom_step (allow : Bool) (n : Nat) (c : Cls) (cs : List Cls) (i : Nat) (st : St) (stack : List (LexT × Nat))
    (unf : Bool) (st' : St) (unf' : Bool) (finds : List LexT) (stack' : List (LexT × Nat)) (evs : List Ev)
    (h1 : step allow st (stack.map (·.1)) unf c = .ok (st', unf', finds))
    (h2 : applyFindsS i stack finds [] = .ok (stack', evs, false)) :
    evsFrom allow n (c :: cs) i ⟨st, stack, unf⟩ =
      (evsFrom allow n cs (i + 1) ⟨st', stack', unf'⟩).map (evs ++ ·) := by
  simp only [evsFrom, h1, h2]
  simp

/-- a byte inside a token: no events, the stack is not looked at -/
def silent : St → Bool → Cls → Option (St × Bool)
  | .inString, unf, c => match c with
      | .quote => some (.endValue, false)
      | .bslash => some (.esc, unf)
      | .ctrl | .wsctl => none
      | _ => some (.inString, unf)
  | .esc, unf, c => match c with
      | .lb | .lf | .ln | .lr | .lt | .bslash | .slash | .quote => some (.inString, unf)
      | .lu => some (.u0, unf)
      | _ => none
  | .u0, unf, c => if c.isHex then some (.u1, unf) else none
  | .u1, unf, c => if c.isHex then some (.u2, unf) else none
  | .u2, unf, c => if c.isHex then some (.u3, unf) else none
  | .u3, unf, c => if c.isHex then some (.inString, unf) else none
  | .neg, _, c => match c with | .zero => some (.d0, false) | .d19 => some (.d1, false) | _ => none
  | .d1, unf, c => match c with
      | .zero | .d19 => some (.d1, unf) | .dot => some (.dot, true) | .le | .uE => some (.e, true) | _ => none
  | .d0, _, c => match c with | .dot => some (.dot, true) | .le | .uE => some (.e, true) | _ => none
  | .dot, _, c => match c with | .zero | .d19 => some (.dot0, false) | _ => none
  | .dot0, unf, c => match c with | .zero | .d19 => some (.dot0, unf) | .le | .uE => some (.e, true) | _ => none
  | .e, unf, c => match c with | .plus | .minus => some (.eSign, unf) | .zero | .d19 => some (.e0, false) | _ => none
  | .eSign, _, c => match c with | .zero | .d19 => some (.e0, false) | _ => none
  | .e0, unf, c => match c with | .zero | .d19 => some (.e0, unf) | _ => none
  | .t, unf, c => match c with | .lr => some (.tr, unf) | _ => none
  | .tr, unf, c => match c with | .lu => some (.tru, unf) | _ => none
  | .tru, _, c => match c with | .le => some (.endValue, false) | _ => none
  | .f, unf, c => match c with | .la => some (.fa, unf) | _ => none
  | .fa, unf, c => match c with | .ll => some (.fal, unf) | _ => none
  | .fal, unf, c => match c with | .ls => some (.fals, unf) | _ => none
  | .fals, _, c => match c with | .le => some (.endValue, false) | _ => none
  | .n, unf, c => match c with | .lu => some (.nu, unf) | _ => none
  | .nu, unf, c => match c with | .ll => some (.nul, unf) | _ => none
  | .nul, _, c => match c with | .ll => some (.endValue, false) | _ => none
  | _, _, _ => none

theorem silent_step (allow : Bool) (st : St) (unf : Bool) (c : Cls) (st' : St) (unf' : Bool)
    (h : silent st unf c = some (st', unf')) (stk : List LexT) :
    step allow st stk unf c = .ok (st', unf', []) := by
  -- by the branch of `silent` taken, not class by class: `step` has the same branches
  cases st <;> first
    | (cases h; done)
    | (dsimp only [silent] at h
       split at h <;> first
         | (cases h; done)
         | (cases h; first | rfl | exact if_pos ‹_› | (cases c <;> first | rfl | contradiction)))

def silentRun : St → Bool → List Cls → Option (St × Bool)
  | st, unf, [] => some (st, unf)
  | st, unf, c :: cs => match silent st unf c with
    | some (st', unf') => silentRun st' unf' cs
    | none => none

theorem evsFrom_silent (allow : Bool) (n : Nat) (tok rest : List Cls) (i : Nat) (st : St) (stack : List (LexT × Nat))
    (unf : Bool) (st' : St) (unf' : Bool) (h : silentRun st unf tok = some (st', unf')) :
    evsFrom allow n (tok ++ rest) i ⟨st, stack, unf⟩ = evsFrom allow n rest (i + tok.length) ⟨st', stack, unf'⟩ := by
  induction tok generalizing st unf i with
  | nil => simp [silentRun] at h; obtain ⟨rfl, rfl⟩ := h; rfl
  | cons c cs ih =>
    simp only [silentRun] at h
    cases hs : silent st unf c with
    | none => rw [hs] at h; simp at h
    | some p =>
      obtain ⟨s1, u1⟩ := p
      rw [hs] at h
      simp only [] at h
      rw [List.cons_append, evsFrom_step allow n c (cs ++ rest) i st stack unf s1 u1 [] stack []
        (silent_step allow st unf c s1 u1 hs _) rfl, map_append_nil, ih (i + 1) s1 u1 h]
      simp only [List.length_cons]
      congr 1; omega

/-! ### whitespace loops -/

def Cls.isWs : Cls → Bool | .sp | .wsctl => true | _ => false
def IsWs (ws : List Cls) : Prop := ∀ c ∈ ws, c.isWs = true

theorem isWs_nil : IsWs [] := fun _ h => nomatch h

theorem Cls.eq_of_isWs {c : Cls} (h : c.isWs = true) : c = .sp ∨ c = .wsctl := by
  cases c <;> first | exact .inl rfl | exact .inr rfl | cases h

def wsLoop : St → Bool
  | .foundRoot | .objKeyOrEmpty | .objKey | .objValue | .arrItemOrEmpty | .arrItem
  | .afterKey | .afterValue | .afterItem | .endTop => true
  | _ => false

theorem ws_step (allow : Bool) (st : St) (h : wsLoop st = true) (c : Cls) (hc : c.isWs = true)
    (stk : List LexT) (unf : Bool) : step allow st stk unf c = .ok (st, unf, []) := by
  rcases Cls.eq_of_isWs hc with rfl | rfl <;> cases st <;> cases h <;> rfl

theorem evsFrom_ws (allow : Bool) (n : Nat) (ws rest : List Cls) (hws : IsWs ws) (i : Nat) (st : St)
    (h : wsLoop st = true) (stack : List (LexT × Nat)) (unf : Bool) :
    evsFrom allow n (ws ++ rest) i ⟨st, stack, unf⟩ = evsFrom allow n rest (i + ws.length) ⟨st, stack, unf⟩ := by
  induction ws generalizing i with
  | nil => rfl
  | cons c cs ih =>
    rw [List.cons_append, evsFrom_step allow n c (cs ++ rest) i st stack unf st unf [] stack []
      (ws_step allow st h c (hws c (by simp)) _ unf) rfl, map_append_nil,
      ih (fun x hx => hws x (by simp [hx])) (i + 1)]
    simp only [List.length_cons]
    congr 1; omega

/-! ### states in which a value has just been read (its literal end may still be pending) -/

def PV : St → Bool
  | .endValue | .d0 | .d1 | .dot0 | .e0 => true
  | _ => false

def Cls.isDelim : Cls → Bool | .sp | .wsctl | .comma | .rbrack | .rbrace | .colon => true | _ => false

theorem pv_step (allow : Bool) (st : St) (h : PV st = true) (c : Cls) (hc : c.isDelim = true)
    (stk : List LexT) (unf : Bool) : step allow st stk unf c = endValueStep allow stk unf c := by
  cases st <;> simp [PV] at h <;> cases c <;> simp [Cls.isDelim] at hc <;> rfl

/-! ### closing phase of an array item -/

def pendOf (lit : Bool) (o : Nat) : List (LexT × Nat) := if lit then [(.litB, o)] else []
def closersOf (lit : Bool) (o e : Nat) : List Ev := if lit then [⟨.litE, o, e⟩] else []

/-- one byte from a post-value state on a delimiter: evaluate both the control step and the finds -/
macro "pv_one" h:ident : tactic => `(tactic|
  (refine (evsFrom_step _ _ _ _ _ _ _ _ ?_ ?_ ?_ ?_ ?_ ?_ ?_).trans ?_
   rotate_left 5
   · rw [pv_step _ _ $h _ rfl]; rfl
   · rfl))

/-- one byte from a concrete state: evaluate both the control step and the finds -/
macro "ev_one" : tactic => `(tactic|
  (refine (evsFrom_step _ _ _ _ _ _ _ _ ?_ ?_ ?_ ?_ ?_ ?_ ?_).trans ?_
   rotate_left 5
   · rfl
   · rfl))

/-- the two containers: the lexemes of an entry (array item / member value) and of the brackets, the states around an entry -/
inductive Br | arr | obj
abbrev Br.B : Br → LexT | .arr => .itemB | .obj => .valB
abbrev Br.E : Br → LexT | .arr => .itemE | .obj => .valE
abbrev Br.opB : Br → LexT | .arr => .arrB | .obj => .objB
abbrev Br.clE : Br → LexT | .arr => .arrE | .obj => .objE
abbrev Br.op : Br → Cls | .arr => .lbrack | .obj => .lbrace
abbrev Br.cl : Br → Cls | .arr => .rbrack | .obj => .rbrace
/-- the state behind an entry, before the first entry, before a further entry -/
abbrev Br.aft : Br → St | .arr => .afterItem | .obj => .afterValue
abbrev Br.emp : Br → St | .arr => .arrItemOrEmpty | .obj => .objKeyOrEmpty
abbrev Br.nxt : Br → St | .arr => .arrItem | .obj => .objKey

theorem after_comma (br : Br) (allow : Bool) (n : Nat) (rest : List Cls) (j a : Nat) (K : List (LexT × Nat)) :
    evsFrom allow n (.comma :: rest) j ⟨br.aft, (br.opB, a) :: K, false⟩
      = evsFrom allow n rest (j + 1) ⟨br.nxt, (br.opB, a) :: K, false⟩ := by
  cases br <;> (ev_one; exact map_append_nil _)

theorem after_end (br : Br) (allow : Bool) (n : Nat) (rest : List Cls) (j a : Nat) (K : List (LexT × Nat)) :
    evsFrom allow n (br.cl :: rest) j ⟨br.aft, (br.opB, a) :: K, false⟩
      = (evsFrom allow n rest (j + 1) ⟨.endValue, K, false⟩).map ([⟨br.clE, a, j⟩] ++ ·) := by
  cases br <;> (ev_one; rfl)

theorem Cls.isDelim_of_isWs {c : Cls} (h : c.isWs = true) : c.isDelim = true := by
  rcases Cls.eq_of_isWs h with rfl | rfl <;> rfl

/-- layout followed by a delimiter begins with a delimiter -/
theorem delim_head (w : List Cls) (hw : IsWs w) (x : Cls) (hx : x.isDelim = true) (rest : List Cls) :
    ∃ y tl, w ++ x :: rest = y :: tl ∧ y.isDelim = true := by
  cases w with
  | nil => exact ⟨x, rest, rfl, hx⟩
  | cons c w => exact ⟨c, w ++ x :: rest, rfl, Cls.isDelim_of_isWs (hw c (by simp))⟩

/-- A delimiter after an entry first closes it (and a pending literal), then is read as in the state behind an entry. -/
theorem entry_close (br : Br) (allow : Bool) (n : Nat) (st : St) (hst : PV st = true) (lit : Bool) (ov a : Nat)
    (K : List (LexT × Nat)) (x : Cls) (hx : x.isDelim = true) (rest : List Cls) (i : Nat) :
    evsFrom allow n (x :: rest) i ⟨st, pendOf lit ov ++ (br.B, ov) :: (br.opB, a) :: K, false⟩
      = (evsFrom allow n (x :: rest) i ⟨br.aft, (br.opB, a) :: K, false⟩).map
          ((closersOf lit ov (i - 1) ++ [⟨br.E, ov, i - 1⟩]) ++ ·) := by
  simp only [evsFrom, pv_step allow st hst x hx]
  cases br <;> cases x <;> cases hx <;> cases lit <;>
    first | rfl | (refine Eq.trans ?_ (map_map_append _ _ _).symm; rfl)

theorem close_entry_comma (br : Br) (allow : Bool) (n : Nat) (st : St) (hst : PV st = true) (lit : Bool) (ov a : Nat)
    (K : List (LexT × Nat)) (w2 : List Cls) (hw : IsWs w2) (rest : List Cls) (i : Nat) :
    evsFrom allow n (w2 ++ .comma :: rest) i ⟨st, pendOf lit ov ++ (br.B, ov) :: (br.opB, a) :: K, false⟩
      = (evsFrom allow n rest (i + w2.length + 1) ⟨br.nxt, (br.opB, a) :: K, false⟩).map
          ((closersOf lit ov (i - 1) ++ [⟨br.E, ov, i - 1⟩]) ++ ·) := by
  obtain ⟨y, tl, e, hy⟩ := delim_head w2 hw .comma rfl rest
  rw [e, entry_close br allow n st hst lit ov a K y hy, ← e, evsFrom_ws allow n w2 _ hw _ br.aft (by cases br <;> rfl),
    after_comma]

theorem close_entry_end (br : Br) (allow : Bool) (n : Nat) (st : St) (hst : PV st = true) (lit : Bool) (ov a : Nat)
    (K : List (LexT × Nat)) (w2 : List Cls) (hw : IsWs w2) (rest : List Cls) (i : Nat) :
    evsFrom allow n (w2 ++ br.cl :: rest) i ⟨st, pendOf lit ov ++ (br.B, ov) :: (br.opB, a) :: K, false⟩
      = (evsFrom allow n rest (i + w2.length + 1) ⟨.endValue, K, false⟩).map
          ((closersOf lit ov (i - 1) ++ [⟨br.E, ov, i - 1⟩, ⟨br.clE, a, i + w2.length⟩]) ++ ·) := by
  obtain ⟨y, tl, e, hy⟩ := delim_head w2 hw br.cl (by cases br <;> rfl) rest
  rw [e, entry_close br allow n st hst lit ov a K y hy, ← e, evsFrom_ws allow n w2 _ hw _ br.aft (by cases br <;> rfl),
    after_end, map_map_append]
  cases lit <;> rfl

theorem close_item_comma (allow : Bool) (n : Nat) (st : St) (hst : PV st = true) (lit : Bool) (ov a : Nat)
    (K : List (LexT × Nat)) (w2 : List Cls) (hw : IsWs w2) (rest : List Cls) (i : Nat) :
    evsFrom allow n (w2 ++ .comma :: rest) i ⟨st, pendOf lit ov ++ (.itemB, ov) :: (.arrB, a) :: K, false⟩
      = (evsFrom allow n rest (i + w2.length + 1) ⟨.arrItem, (.arrB, a) :: K, false⟩).map
          ((closersOf lit ov (i - 1) ++ [⟨.itemE, ov, i - 1⟩]) ++ ·) :=
  close_entry_comma .arr allow n st hst lit ov a K w2 hw rest i

theorem close_member_comma (allow : Bool) (n : Nat) (st : St) (hst : PV st = true) (lit : Bool) (ov a : Nat)
    (K : List (LexT × Nat)) (w2 : List Cls) (hw : IsWs w2) (rest : List Cls) (i : Nat) :
    evsFrom allow n (w2 ++ .comma :: rest) i ⟨st, pendOf lit ov ++ (.valB, ov) :: (.objB, a) :: K, false⟩
      = (evsFrom allow n rest (i + w2.length + 1) ⟨.objKey, (.objB, a) :: K, false⟩).map
          ((closersOf lit ov (i - 1) ++ [⟨.valE, ov, i - 1⟩]) ++ ·) :=
  close_entry_comma .obj allow n st hst lit ov a K w2 hw rest i

/-! ### value positions -/

inductive VCtx | root | item0 | item1 | objv

def VCtx.st : VCtx → St
  | .root => .foundRoot | .item0 => .arrItemOrEmpty | .item1 => .arrItem | .objv => .objValue
def VCtx.pre (o : Nat) : VCtx → List (LexT × Nat)
  | .root => [] | .objv => [(.valB, o)] | _ => [(.itemB, o)]
def VCtx.preEvs (o : Nat) : VCtx → List Ev
  | .root => [] | .objv => [⟨.valB, o, o⟩] | _ => [⟨.itemB, o, o⟩]

/-- first byte of a scalar token -/
def litStart : Cls → Option (St × Bool)
  | .quote => some (.inString, true)
  | .minus => some (.neg, true)
  | .zero => some (.d0, false)
  | .d19 => some (.d1, false)
  | .lt => some (.t, true)
  | .lf => some (.f, true)
  | .ln => some (.n, true)
  | _ => none

theorem start_scalar (allow : Bool) (n : Nat) (c : Cls) (st0 : St) (unf0 : Bool) (h : litStart c = some (st0, unf0))
    (ctx : VCtx) (K : List (LexT × Nat)) (o : Nat) (rest : List Cls) :
    evsFrom allow n (c :: rest) o ⟨ctx.st, K, false⟩
      = (evsFrom allow n rest (o + 1) ⟨st0, (.litB, o) :: (ctx.pre o ++ K), unf0⟩).map
          ((ctx.preEvs o ++ [⟨.litB, o, o⟩]) ++ ·) := by
  cases c <;> simp [litStart] at h <;> obtain ⟨rfl, rfl⟩ := h <;> cases ctx <;> (ev_one; rfl)

theorem start_cont (br : Br) (allow : Bool) (n : Nat) (ctx : VCtx) (K : List (LexT × Nat)) (o : Nat) (rest : List Cls) :
    evsFrom allow n (br.op :: rest) o ⟨ctx.st, K, false⟩
      = (evsFrom allow n rest (o + 1) ⟨br.emp, (br.opB, o) :: (ctx.pre o ++ K), false⟩).map
          ((ctx.preEvs o ++ [⟨br.opB, o, o⟩]) ++ ·) := by
  cases br <;> cases ctx <;> (ev_one; rfl)

theorem empty_end (br : Br) (allow : Bool) (n : Nat) (rest : List Cls) (j a : Nat) (K : List (LexT × Nat)) :
    evsFrom allow n (br.cl :: rest) j ⟨br.emp, (br.opB, a) :: K, false⟩
      = (evsFrom allow n rest (j + 1) ⟨.endValue, K, false⟩).map ([⟨br.clE, a, j⟩] ++ ·) := by
  cases br <;> (ev_one; rfl)

/-! ### object keys -/

/-- a key token: a string, as the scanner's token automaton reads it -/
def IsKey (k : List Cls) : Prop :=
  ∃ tl, k = .quote :: tl ∧ silentRun .inString false tl = some (.endValue, false)

def keyCtxSt (first : Bool) : St := if first then .objKeyOrEmpty else .objKey

theorem afterKey_colon (allow : Bool) (n : Nat) (rest : List Cls) (j a : Nat) (K : List (LexT × Nat)) :
    evsFrom allow n (.colon :: rest) j ⟨.afterKey, (.objB, a) :: K, false⟩
      = evsFrom allow n rest (j + 1) ⟨.objValue, (.objB, a) :: K, false⟩ := by
  ev_one; exact map_append_nil _

theorem key_run (allow : Bool) (n : Nat) (k : List Cls) (hk : IsKey k) (first : Bool) (a : Nat)
    (K : List (LexT × Nat)) (w2 : List Cls) (hw : IsWs w2) (rest : List Cls) (o : Nat) :
    evsFrom allow n (k ++ (w2 ++ .colon :: rest)) o ⟨keyCtxSt first, (.objB, a) :: K, false⟩
      = (evsFrom allow n rest (o + k.length + w2.length + 1) ⟨.objValue, (.objB, a) :: K, false⟩).map
          ([⟨.keyB, o, o⟩, ⟨.keyE, o, o + k.length - 1⟩] ++ ·) := by
  obtain ⟨tl, rfl, hr⟩ := hk
  have h1 : evsFrom allow n (.quote :: (tl ++ (w2 ++ .colon :: rest))) o ⟨keyCtxSt first, (.objB, a) :: K, false⟩
      = (evsFrom allow n (tl ++ (w2 ++ .colon :: rest)) (o + 1) ⟨.inString, (.keyB, o) :: (.objB, a) :: K, false⟩).map
          ([⟨.keyB, o, o⟩] ++ ·) := by
    cases first <;> (ev_one; rfl)
  rw [List.cons_append, h1, evsFrom_silent allow n tl _ _ _ _ _ _ _ hr]
  cases w2 with
  | nil =>
    rw [List.nil_append]
    have h2 : evsFrom allow n (.colon :: rest) (o + 1 + tl.length) ⟨.endValue, (.keyB, o) :: (.objB, a) :: K, false⟩
        = (evsFrom allow n rest (o + 1 + tl.length + 1) ⟨.objValue, (.objB, a) :: K, false⟩).map
            ([⟨.keyE, o, o + 1 + tl.length - 1⟩] ++ ·) := by
      ev_one; rfl
    rw [h2, map_comp]
    simp only [List.length_cons, List.length_nil]
    rw [show o + 1 + tl.length + 1 = o + (tl.length + 1) + 0 + 1 by omega,
        show o + 1 + tl.length - 1 = o + (tl.length + 1) - 1 by omega]
    rfl
  | cons c w2 =>
    have hc : c.isWs = true := hw c (by simp)
    have hw2 : IsWs w2 := fun x hx => hw x (by simp [hx])
    have h2 : evsFrom allow n (c :: (w2 ++ .colon :: rest)) (o + 1 + tl.length)
          ⟨.endValue, (.keyB, o) :: (.objB, a) :: K, false⟩
        = (evsFrom allow n (w2 ++ .colon :: rest) (o + 1 + tl.length + 1) ⟨.afterKey, (.objB, a) :: K, false⟩).map
            ([⟨.keyE, o, o + 1 + tl.length - 1⟩] ++ ·) := by
      rcases Cls.eq_of_isWs hc with rfl | rfl <;> (ev_one; rfl)
    rw [List.cons_append, h2, evsFrom_ws allow n w2 _ hw2 _ .afterKey rfl, afterKey_colon, map_comp]
    simp only [List.length_cons]
    rw [show o + 1 + tl.length + 1 + w2.length + 1 = o + (tl.length + 1) + (w2.length + 1) + 1 by omega,
        show o + 1 + tl.length - 1 = o + (tl.length + 1) - 1 by omega]
    rfl

/-- a scalar token, as the scanner's token automaton reads it (the RFC token grammar is related to this separately) -/
def IsScalar (tok : List Cls) : Prop :=
  ∃ c tl st0 unf0 stE, tok = c :: tl ∧ litStart c = some (st0, unf0) ∧
    silentRun st0 unf0 tl = some (stE, false) ∧ PV stE = true

/-! ### JSON trees with layout -/

inductive JA
  | scalar (tok : List Cls)
  | arr (ws0 : List Cls) (items : List (List Cls × JA × List Cls))                       -- ws value ws
  | obj (ws0 : List Cls) (members : List (List Cls × List Cls × List Cls × List Cls × JA × List Cls))
                                                                                         -- ws key ws ":" ws value ws

mutual
def JA.render : JA → List Cls
  | .scalar tok => tok
  | .arr ws0 items => .lbrack :: (ws0 ++ renderItems items)
  | .obj ws0 members => .lbrace :: (ws0 ++ renderMembers members)
/-- the items and the closing bracket -/
def renderItems : List (List Cls × JA × List Cls) → List Cls
  | [] => [.rbrack]
  | (w1, v, w2) :: its => w1 ++ (v.render ++ (w2 ++ ((if its.isEmpty then [] else [.comma]) ++ renderItems its)))
/-- the members and the closing brace -/
def renderMembers : List (List Cls × List Cls × List Cls × List Cls × JA × List Cls) → List Cls
  | [] => [.rbrace]
  | (w1, k, w2, w3, v, w4) :: ms =>
    w1 ++ (k ++ (w2 ++ (.colon :: (w3 ++ (v.render ++ (w4 ++ ((if ms.isEmpty then [] else [.comma]) ++ renderMembers ms)))))))
end

mutual
def evsAt : Nat → JA → List Ev
  | o, .scalar tok => [⟨.litB, o, o⟩, ⟨.litE, o, o + tok.length - 1⟩]
  | o, .arr ws0 items => ⟨.arrB, o, o⟩ :: evsItems o (o + 1 + ws0.length) items
  | o, .obj ws0 members => ⟨.objB, o, o⟩ :: evsMembers o (o + 1 + ws0.length) members
/-- events of the items starting at offset `o`, then the array end of the array opened at `a` -/
def evsItems (a : Nat) : Nat → List (List Cls × JA × List Cls) → List Ev
  | o, [] => [⟨.arrE, a, o⟩]
  | o, (w1, v, w2) :: its =>
    ⟨.itemB, o + w1.length, o + w1.length⟩ ::
      (evsAt (o + w1.length) v ++ ⟨.itemE, o + w1.length, o + w1.length + v.render.length - 1⟩ ::
        evsItems a (o + w1.length + v.render.length + w2.length + (if its.isEmpty then 0 else 1)) its)
/-- events of the members starting at offset `o`, then the object end of the object opened at `a` -/
def evsMembers (a : Nat) : Nat → List (List Cls × List Cls × List Cls × List Cls × JA × List Cls) → List Ev
  | o, [] => [⟨.objE, a, o⟩]
  | o, (w1, k, w2, w3, v, w4) :: ms =>
    ⟨.keyB, o + w1.length, o + w1.length⟩ :: ⟨.keyE, o + w1.length, o + w1.length + k.length - 1⟩ ::
    ⟨.valB, o + w1.length + k.length + w2.length + 1 + w3.length, o + w1.length + k.length + w2.length + 1 + w3.length⟩ ::
      (evsAt (o + w1.length + k.length + w2.length + 1 + w3.length) v ++
        ⟨.valE, o + w1.length + k.length + w2.length + 1 + w3.length,
          o + w1.length + k.length + w2.length + 1 + w3.length + v.render.length - 1⟩ ::
        evsMembers a (o + w1.length + k.length + w2.length + 1 + w3.length + v.render.length + w4.length
          + (if ms.isEmpty then 0 else 1)) ms)
end

mutual
def JA.Valid : JA → Prop
  | .scalar tok => IsScalar tok
  | .arr ws0 items => IsWs ws0 ∧ ValidItems items
  | .obj ws0 members => IsWs ws0 ∧ ValidMembers members
def ValidItems : List (List Cls × JA × List Cls) → Prop
  | [] => True
  | (w1, v, w2) :: its => IsWs w1 ∧ v.Valid ∧ IsWs w2 ∧ ValidItems its
def ValidMembers : List (List Cls × List Cls × List Cls × List Cls × JA × List Cls) → Prop
  | [] => True
  | (w1, k, w2, w3, v, w4) :: ms => IsWs w1 ∧ IsKey k ∧ IsWs w2 ∧ IsWs w3 ∧ v.Valid ∧ IsWs w4 ∧ ValidMembers ms
end

def JA.isLit : JA → Bool | .scalar _ => true | _ => false
def evsOpen (o : Nat) : JA → List Ev
  | .scalar _ => [⟨.litB, o, o⟩]
  | v => evsAt o v

def itemCtx (first : Bool) : VCtx := if first then .item0 else .item1

mutual
theorem value_run (allow : Bool) (n : Nat) : (v : JA) → v.Valid → (ctx : VCtx) → (K : List (LexT × Nat)) →
    (o : Nat) → (rest : List Cls) →
    ∃ st, PV st = true ∧ evsFrom allow n (v.render ++ rest) o ⟨ctx.st, K, false⟩
      = (evsFrom allow n rest (o + v.render.length) ⟨st, pendOf v.isLit o ++ (ctx.pre o ++ K), false⟩).map
          ((ctx.preEvs o ++ evsOpen o v) ++ ·)
  | .scalar tok, hv, ctx, K, o, rest => by
    obtain ⟨c, tl, st0, unf0, stE, rfl, hs, hr, hp⟩ : IsScalar tok := by simpa [JA.Valid] using hv
    refine ⟨stE, hp, ?_⟩
    simp only [JA.render, List.cons_append]
    rw [start_scalar allow n c st0 unf0 hs, evsFrom_silent allow n tl rest _ _ _ _ _ _ hr]
    simp only [List.length_cons, JA.isLit, pendOf, evsOpen, if_true, List.cons_append, List.nil_append]
    rw [show o + 1 + tl.length = o + (tl.length + 1) by omega]
  | .arr ws0 items, hv, ctx, K, o, rest => by
    obtain ⟨hw0, hi⟩ : IsWs ws0 ∧ ValidItems items := by simpa [JA.Valid] using hv
    refine ⟨.endValue, rfl, ?_⟩
    simp only [JA.render, List.cons_append, List.append_assoc]
    have hI := items_run allow n items hi true (fun _ => rfl) o (ctx.pre o ++ K) (o + 1 + ws0.length) rest
    rw [show (itemCtx true).st = St.arrItemOrEmpty from rfl] at hI
    rw [start_cont .arr, evsFrom_ws _ _ ws0 _ hw0 _ .arrItemOrEmpty rfl, hI, map_comp]
    congr 1
    · funext x; simp [evsOpen, evsAt]
    · simp only [List.length_cons, List.length_append, JA.isLit, pendOf, Bool.false_eq_true, if_false, List.nil_append]
      congr 1; omega
  | .obj ws0 members, hv, ctx, K, o, rest => by
    obtain ⟨hw0, hi⟩ : IsWs ws0 ∧ ValidMembers members := by simpa [JA.Valid] using hv
    refine ⟨.endValue, rfl, ?_⟩
    simp only [JA.render, List.cons_append, List.append_assoc]
    have hI := members_run allow n members hi true (fun _ => rfl) o (ctx.pre o ++ K) (o + 1 + ws0.length) rest
    rw [show keyCtxSt true = St.objKeyOrEmpty from rfl] at hI
    rw [start_cont .obj, evsFrom_ws _ _ ws0 _ hw0 _ .objKeyOrEmpty rfl, hI, map_comp]
    congr 1
    · funext x; simp [evsOpen, evsAt]
    · simp only [List.length_cons, List.length_append, JA.isLit, pendOf, Bool.false_eq_true, if_false, List.nil_append]
      congr 1; omega
theorem items_run (allow : Bool) (n : Nat) : (its : List (List Cls × JA × List Cls)) → ValidItems its →
    (first : Bool) → (its = [] → first = true) → (a : Nat) → (K : List (LexT × Nat)) → (o : Nat) → (rest : List Cls) →
    evsFrom allow n (renderItems its ++ rest) o ⟨(itemCtx first).st, (.arrB, a) :: K, false⟩
      = (evsFrom allow n rest (o + (renderItems its).length) ⟨.endValue, K, false⟩).map (evsItems a o its ++ ·)
  | [], _, first, hf, a, K, o, rest => by
    rw [hf rfl]
    simp only [renderItems, List.cons_append, List.nil_append, List.length_cons, List.length_nil, evsItems]
    exact empty_end .arr allow n rest o a K
  | (w1, v, w2) :: its, hv, first, _, a, K, o, rest => by
    obtain ⟨h1, hvv, h2, hits⟩ : IsWs w1 ∧ v.Valid ∧ IsWs w2 ∧ ValidItems its := by simpa [ValidItems] using hv
    have hloop : wsLoop (itemCtx first).st = true := by cases first <;> rfl
    simp only [renderItems, List.append_assoc]
    rw [evsFrom_ws _ _ w1 _ h1 _ _ hloop]
    obtain ⟨st, hp, e⟩ := value_run allow n v hvv (itemCtx first) ((.arrB, a) :: K) (o + w1.length)
      (w2 ++ ((if its.isEmpty then [] else [.comma]) ++ renderItems its ++ rest))
    have hpre : (itemCtx first).pre (o + w1.length) ++ (.arrB, a) :: K
        = (.itemB, o + w1.length) :: (.arrB, a) :: K := by cases first <;> rfl
    have hpe : (itemCtx first).preEvs (o + w1.length) = [⟨.itemB, o + w1.length, o + w1.length⟩] := by
      cases first <;> rfl
    simp only [List.append_assoc] at e
    rw [e, hpre, hpe]
    cases its with
    | nil =>
      simp only [List.isEmpty_nil, if_true, List.nil_append, renderItems, List.cons_append]
      rw [close_entry_end .arr allow n st hp v.isLit _ a K w2 h2 rest, map_comp]
      congr 1
      · funext x
        cases v <;> simp [evsItems, evsOpen, evsAt, closersOf, JA.isLit, JA.render]
      · simp only [List.length_append, List.length_cons, List.length_nil]
        congr 1; omega
    | cons it its' =>
      simp only [List.isEmpty_cons, Bool.false_eq_true, if_false, List.cons_append, List.nil_append]
      rw [close_item_comma allow n st hp v.isLit _ a K w2 h2 _]
      have hI := items_run allow n (it :: its') hits false (by simp) a K
        (o + w1.length + v.render.length + w2.length + 1) rest
      rw [show (itemCtx false).st = St.arrItem from rfl] at hI
      rw [hI, map_comp, map_comp]
      congr 1
      · funext x
        cases v <;> simp [evsItems, evsOpen, evsAt, closersOf, JA.isLit, JA.render]
      · simp only [List.length_append, List.length_cons]
        congr 1; omega
theorem members_run (allow : Bool) (n : Nat) :
    (ms : List (List Cls × List Cls × List Cls × List Cls × JA × List Cls)) → ValidMembers ms →
    (first : Bool) → (ms = [] → first = true) → (a : Nat) → (K : List (LexT × Nat)) → (o : Nat) → (rest : List Cls) →
    evsFrom allow n (renderMembers ms ++ rest) o ⟨keyCtxSt first, (.objB, a) :: K, false⟩
      = (evsFrom allow n rest (o + (renderMembers ms).length) ⟨.endValue, K, false⟩).map (evsMembers a o ms ++ ·)
  | [], _, first, hf, a, K, o, rest => by
    rw [hf rfl]
    simp only [renderMembers, List.cons_append, List.nil_append, List.length_cons, List.length_nil, evsMembers]
    exact empty_end .obj allow n rest o a K
  | (w1, k, w2, w3, v, w4) :: ms, hv, first, _, a, K, o, rest => by
    obtain ⟨h1, hk, h2, h3, hvv, h4, hms⟩ :
        IsWs w1 ∧ IsKey k ∧ IsWs w2 ∧ IsWs w3 ∧ v.Valid ∧ IsWs w4 ∧ ValidMembers ms := by
      simpa [ValidMembers] using hv
    have hloop : wsLoop (keyCtxSt first) = true := by cases first <;> rfl
    simp only [renderMembers, List.append_assoc, List.cons_append]
    rw [evsFrom_ws _ _ w1 _ h1 _ _ hloop, key_run allow n k hk first a K w2 h2,
      evsFrom_ws _ _ w3 _ h3 _ .objValue rfl]
    obtain ⟨st, hp, e⟩ := value_run allow n v hvv .objv ((.objB, a) :: K)
      (o + w1.length + k.length + w2.length + 1 + w3.length)
      (w4 ++ ((if ms.isEmpty then [] else [.comma]) ++ renderMembers ms ++ rest))
    simp only [List.append_assoc] at e
    rw [show VCtx.objv.st = St.objValue from rfl] at e
    rw [e]
    cases ms with
    | nil =>
      simp only [List.isEmpty_nil, if_true, List.nil_append, renderMembers, List.cons_append]
      rw [show VCtx.pre (o + w1.length + k.length + w2.length + 1 + w3.length) VCtx.objv ++ (LexT.objB, a) :: K
            = (.valB, o + w1.length + k.length + w2.length + 1 + w3.length) :: (.objB, a) :: K from rfl,
        close_entry_end .obj allow n st hp v.isLit _ a K w4 h4 rest, map_comp, map_comp]
      congr 1
      · funext x
        cases v <;> simp [evsMembers, evsOpen, evsAt, closersOf, JA.isLit, JA.render, VCtx.preEvs]
      · simp only [List.length_append, List.length_cons, List.length_nil]
        congr 1; omega
    | cons m ms' =>
      simp only [List.isEmpty_cons, Bool.false_eq_true, if_false, List.cons_append, List.nil_append]
      rw [show VCtx.pre (o + w1.length + k.length + w2.length + 1 + w3.length) VCtx.objv ++ (LexT.objB, a) :: K
            = (.valB, o + w1.length + k.length + w2.length + 1 + w3.length) :: (.objB, a) :: K from rfl,
        close_member_comma allow n st hp v.isLit _ a K w4 h4 _]
      have hI := members_run allow n (m :: ms') hms false (by simp) a K
        (o + w1.length + k.length + w2.length + 1 + w3.length + v.render.length + w4.length + 1) rest
      rw [show keyCtxSt false = St.objKey from rfl] at hI
      rw [hI, map_comp, map_comp, map_comp]
      congr 1
      · funext x
        cases v <;> simp [evsMembers, evsOpen, evsAt, closersOf, JA.isLit, JA.render, VCtx.preEvs]
      · simp only [List.length_append, List.length_cons]
        congr 1; omega
end

/-! ### the whole document -/

theorem close_root (allow : Bool) (n : Nat) (st : St) (hst : PV st = true) (lit : Bool) (ov : Nat)
    (w : List Cls) (hw : IsWs w) (i : Nat) (hn : n = i + w.length) :
    evsFrom allow n w i ⟨st, pendOf lit ov, false⟩ = .ok (closersOf lit ov (i - 1)) := by
  cases w with
  | nil =>
    cases lit
    · rfl
    · simp only [List.length_nil, Nat.add_zero] at hn; subst hn; rfl
  | cons c w =>
    have hc : c.isWs = true := hw c (by simp)
    have hw2 : IsWs w := fun x hx => hw x (by simp [hx])
    have hnil : evsFrom allow n ([] : List Cls) (i + 1 + w.length) ⟨.endTop, [], false⟩ = .ok [] := rfl
    have hws := evsFrom_ws allow n w [] hw2 (i + 1) .endTop rfl [] false
    rw [List.append_nil] at hws
    rcases Cls.eq_of_isWs hc with rfl | rfl <;> cases lit <;> simp only [pendOf, Bool.false_eq_true, ↓reduceIte] <;>
    · pv_one hst
      rw [hws, hnil]; rfl

/-- `eventsLoop` is `evsFrom` with an accumulator -/
theorem eventsLoop_eq (allow : Bool) (n : Nat) (cs : List Cls) (i : Nat) (cfg : CfgS) (acc : List Ev) :
    eventsLoop allow n cs i cfg acc = (evsFrom allow n cs i cfg).map (acc ++ ·) := by
  induction cs generalizing i cfg acc with
  | nil =>
    obtain ⟨st, stack, unf⟩ := cfg
    rcases stack with _ | ⟨⟨t, b⟩, _ | ⟨p, r⟩⟩
    · simp [eventsLoop, evsFrom, Except.map]
    · cases t <;> cases unf <;> simp [eventsLoop, evsFrom, Except.map]
    · cases t <;> simp [eventsLoop, evsFrom, Except.map]
  | cons c cs ih =>
    simp only [eventsLoop, evsFrom]
    cases step allow cfg.st (cfg.stack.map (·.1)) cfg.unf c with
    | error e => simp [Except.map]
    | ok r =>
      obtain ⟨st', unf', finds⟩ := r
      simp only []
      cases applyFindsS i cfg.stack finds [] with
      | error e => simp [Except.map]
      | ok r2 =>
        obtain ⟨stack', evs, stop⟩ := r2
        simp only []
        cases stop
        · simp only [Bool.false_eq_true, if_false]
          rw [ih, map_comp]
          congr 1; funext x; simp
        · simp [Except.map]

/-- **C06**: the events of a rendered tree, with arbitrary layout, are the events the tree
denotes: types, order and spans -/
theorem C06_events_of_tree (allow : Bool) (v : JA) (hv : v.Valid) (ws0 ws1 : List Cls) (h0 : IsWs ws0) (h1 : IsWs ws1) :
    eventsLoop allow (ws0 ++ (v.render ++ ws1)).length (ws0 ++ (v.render ++ ws1)) 0 {} []
      = .ok (evsAt ws0.length v) := by
  rw [eventsLoop_eq]
  have hcfg : ({} : CfgS) = ⟨.foundRoot, [], false⟩ := rfl
  rw [hcfg, evsFrom_ws _ _ ws0 _ h0 _ .foundRoot rfl]
  obtain ⟨st, hp, e⟩ := value_run allow (ws0 ++ (v.render ++ ws1)).length v hv .root [] (0 + ws0.length) ws1
  rw [show VCtx.root.st = St.foundRoot from rfl] at e
  rw [e, show VCtx.pre (0 + ws0.length) VCtx.root ++ ([] : List (LexT × Nat)) = [] from rfl, List.append_nil,
    close_root allow _ st hp v.isLit _ ws1 h1 _ (by simp only [List.length_append]; omega)]
  cases v <;> simp [Except.map, VCtx.preEvs, evsOpen, evsAt, closersOf, JA.isLit, JA.render]

#print axioms C06_events_of_tree

/-! ### RFC 8259 scalar tokens are tokens of the scanner's automaton -/

theorem silentRun_append (st : St) (unf : Bool) (xs ys : List Cls) (st' : St) (unf' : Bool)
    (h : silentRun st unf xs = some (st', unf')) : silentRun st unf (xs ++ ys) = silentRun st' unf' ys := by
  induction xs generalizing st unf with
  | nil => simp [silentRun] at h; obtain ⟨rfl, rfl⟩ := h; rfl
  | cons c cs ih =>
    simp only [silentRun, List.cons_append] at h ⊢
    cases hs : silent st unf c with
    | none => rw [hs] at h; simp at h
    | some p => obtain ⟨a, b⟩ := p; rw [hs] at h; simp only [] at h ⊢; exact ih a b h

def Cls.isPlainStr : Cls → Bool
  | .quote | .bslash | .ctrl | .wsctl => false
  | _ => true
def Cls.isSimpleEsc : Cls → Bool
  | .lb | .lf | .ln | .lr | .lt | .bslash | .slash | .quote => true
  | _ => false

/-- the `*char` of the RFC string grammar, on byte classes -/
inductive StrBody : List Cls → Prop
  | nil : StrBody []
  | plain (c : Cls) (b : List Cls) : c.isPlainStr = true → StrBody b → StrBody (c :: b)
  | esc (c : Cls) (b : List Cls) : c.isSimpleEsc = true → StrBody b → StrBody (.bslash :: c :: b)
  | uni (h1 h2 h3 h4 : Cls) (b : List Cls) : h1.isHex = true → h2.isHex = true → h3.isHex = true → h4.isHex = true →
      StrBody b → StrBody (.bslash :: .lu :: h1 :: h2 :: h3 :: h4 :: b)

theorem strBody_run (b : List Cls) (hb : StrBody b) (u : Bool) :
    silentRun .inString u (b ++ [.quote]) = some (.endValue, false) := by
  induction hb with
  | nil => rfl
  | plain c b hc _ ih =>
    have : silent .inString u c = some (.inString, u) := by cases c <;> simp [Cls.isPlainStr] at hc <;> rfl
    simp only [List.cons_append, silentRun, this]; exact ih
  | esc c b hc _ ih =>
    have : silent .esc u c = some (.inString, u) := by cases c <;> simp [Cls.isSimpleEsc] at hc <;> rfl
    have e1 : silent .inString u .bslash = some (.esc, u) := rfl
    simp only [List.cons_append, silentRun, e1, this]; exact ih
  | uni h1 h2 h3 h4 b e1 e2 e3 e4 _ ih =>
    have s0 : silent .inString u .bslash = some (.esc, u) := rfl
    have s1 : silent .esc u .lu = some (.u0, u) := rfl
    have s2 : silent .u0 u h1 = some (.u1, u) := by simp [silent, e1]
    have s3 : silent .u1 u h2 = some (.u2, u) := by simp [silent, e2]
    have s4 : silent .u2 u h3 = some (.u3, u) := by simp [silent, e3]
    have s5 : silent .u3 u h4 = some (.inString, u) := by simp [silent, e4]
    simp only [List.cons_append, silentRun, s0, s1, s2, s3, s4, s5]; exact ih

theorem string_isScalar (b : List Cls) (hb : StrBody b) : IsScalar (.quote :: (b ++ [.quote])) :=
  ⟨.quote, b ++ [.quote], .inString, true, .endValue, rfl, rfl, strBody_run b hb true, rfl⟩

theorem string_isKey (b : List Cls) (hb : StrBody b) : IsKey (.quote :: (b ++ [.quote])) :=
  ⟨b ++ [.quote], rfl, strBody_run b hb false⟩

theorem true_isScalar : IsScalar [.lt, .lr, .lu, .le] := ⟨.lt, _, .t, true, .endValue, rfl, rfl, rfl, rfl⟩
theorem false_isScalar : IsScalar [.lf, .la, .ll, .ls, .le] := ⟨.lf, _, .f, true, .endValue, rfl, rfl, rfl, rfl⟩
theorem null_isScalar : IsScalar [.ln, .lu, .ll, .ll] := ⟨.ln, _, .n, true, .endValue, rfl, rfl, rfl, rfl⟩

def IsDigits (ds : List Cls) : Prop := ∀ c ∈ ds, c.isDigit = true

theorem digits_run (st : St) (hst : st = .d1 ∨ st = .dot0 ∨ st = .e0) (ds : List Cls) (hd : IsDigits ds) :
    silentRun st false ds = some (st, false) := by
  induction ds with
  | nil => rfl
  | cons c cs ih =>
    have hc := hd c (by simp)
    have : silent st false c = some (st, false) := by
      rcases hst with rfl | rfl | rfl <;> cases c <;> simp [Cls.isDigit] at hc <;> rfl
    simp only [silentRun, this]; exact ih (fun x hx => hd x (by simp [hx]))

/-- RFC number: `[-] int [frac] [exp]`, on byte classes -/
structure NumTok where
  neg : Bool
  int : List Cls                      -- `0` or a non-zero digit followed by digits
  frac : Option (Cls × List Cls)      -- first digit and the rest
  exp : Option (Cls × Option Cls × Cls × List Cls)   -- e/E, optional sign, first digit, rest

def NumTok.render (t : NumTok) : List Cls :=
  (if t.neg then [.minus] else []) ++ t.int ++
  (match t.frac with | none => [] | some (d, ds) => .dot :: d :: ds) ++
  (match t.exp with | none => [] | some (e, none, d, ds) => e :: d :: ds | some (e, some s, d, ds) => e :: s :: d :: ds)

structure NumTok.WF (t : NumTok) : Prop where
  int : t.int = [.zero] ∨ ∃ ds, t.int = .d19 :: ds ∧ IsDigits ds
  frac : ∀ d ds, t.frac = some (d, ds) → d.isDigit = true ∧ IsDigits ds
  exp : ∀ e s d ds, t.exp = some (e, s, d, ds) → (e = .le ∨ e = .uE) ∧ (∀ x, s = some x → x = .plus ∨ x = .minus) ∧
      d.isDigit = true ∧ IsDigits ds

theorem frac_run (s : St) (hs : s = .d0 ∨ s = .d1) (d : Cls) (ds : List Cls) (hd : d.isDigit = true)
    (hds : IsDigits ds) : silentRun s false (.dot :: d :: ds) = some (.dot0, false) := by
  have a : silent s false .dot = some (.dot, true) := by rcases hs with rfl | rfl <;> rfl
  have b : silent .dot true d = some (.dot0, false) := by cases d <;> simp [Cls.isDigit] at hd <;> rfl
  simp only [silentRun, a, b]
  exact digits_run .dot0 (Or.inr (Or.inl rfl)) ds hds

theorem exp_run (s : St) (hs : s = .d0 ∨ s = .d1 ∨ s = .dot0) (e : Cls) (he : e = .le ∨ e = .uE)
    (sg : Option Cls) (hsg : ∀ x, sg = some x → x = .plus ∨ x = .minus) (d : Cls) (ds : List Cls)
    (hd : d.isDigit = true) (hds : IsDigits ds) :
    silentRun s false (match sg with | none => e :: d :: ds | some x => e :: x :: d :: ds) = some (.e0, false) := by
  have a : silent s false e = some (.e, true) := by
    rcases hs with rfl | rfl | rfl <;> rcases he with rfl | rfl <;> rfl
  have c : silent .eSign true d = some (.e0, false) := by cases d <;> simp [Cls.isDigit] at hd <;> rfl
  have c' : silent .e true d = some (.e0, false) := by cases d <;> simp [Cls.isDigit] at hd <;> rfl
  cases sg with
  | none =>
    simp only [silentRun, a, c']
    exact digits_run .e0 (Or.inr (Or.inr rfl)) ds hds
  | some x =>
    have b : silent .e true x = some (.eSign, true) := by rcases hsg x rfl with rfl | rfl <;> rfl
    simp only [silentRun, a, b, c]
    exact digits_run .e0 (Or.inr (Or.inr rfl)) ds hds

/-- the part of a number after its integer part -/
def NumTok.tail (t : NumTok) : List Cls :=
  (match t.frac with | none => [] | some (d, ds) => .dot :: d :: ds) ++
  (match t.exp with | none => [] | some (e, none, d, ds) => e :: d :: ds | some (e, some s, d, ds) => e :: s :: d :: ds)

theorem tail_run (t : NumTok) (wf : t.WF) (s : St) (hs : s = .d0 ∨ s = .d1) :
    ∃ sE, PV sE = true ∧ silentRun s false t.tail = some (sE, false) := by
  obtain ⟨neg, int, frac, exp⟩ := t
  have hf := wf.frac
  have he := wf.exp
  simp only [NumTok.tail] at *
  cases frac with
  | none =>
    cases exp with
    | none => exact ⟨s, by rcases hs with rfl | rfl <;> rfl, rfl⟩
    | some q =>
      obtain ⟨e, sg, d, ds⟩ := q
      obtain ⟨h1, h2, h3, h4⟩ := he e sg d ds rfl
      refine ⟨.e0, rfl, ?_⟩
      have := exp_run s (by rcases hs with rfl | rfl <;> simp) e h1 sg h2 d ds h3 h4
      cases sg <;> simpa using this
  | some p =>
    obtain ⟨fd, fds⟩ := p
    obtain ⟨g1, g2⟩ := hf fd fds rfl
    have hfr := frac_run s hs fd fds g1 g2
    cases exp with
    | none => exact ⟨.dot0, rfl, by simpa using hfr⟩
    | some q =>
      obtain ⟨e, sg, d, ds⟩ := q
      obtain ⟨h1, h2, h3, h4⟩ := he e sg d ds rfl
      refine ⟨.e0, rfl, ?_⟩
      have := exp_run .dot0 (Or.inr (Or.inr rfl)) e h1 sg h2 d ds h3 h4
      rw [silentRun_append _ _ _ _ _ _ hfr]
      cases sg <;> simpa using this

theorem number_isScalar (t : NumTok) (wf : t.WF) : IsScalar t.render := by
  have hr : t.render = (if t.neg then [.minus] else []) ++ t.int ++ t.tail := by
    simp [NumTok.render, NumTok.tail, List.append_assoc]
  rw [hr]
  rcases wf.int with hz | ⟨ds, hi, hds⟩
  · -- integer part `0`
    obtain ⟨sE, hp, hrun⟩ := tail_run t wf .d0 (Or.inl rfl)
    rw [hz]
    cases t.neg
    · exact ⟨.zero, t.tail, .d0, false, sE, by simp, rfl, hrun, hp⟩
    · refine ⟨.minus, .zero :: t.tail, .neg, true, sE, by simp, rfl, ?_, hp⟩
      have a : silent .neg true .zero = some (.d0, false) := rfl
      simp only [silentRun, a]; exact hrun
  · -- integer part without leading zero
    obtain ⟨sE, hp, hrun⟩ := tail_run t wf .d1 (Or.inr rfl)
    have hdig := digits_run .d1 (Or.inl rfl) ds hds
    rw [hi]
    cases t.neg
    · refine ⟨.d19, ds ++ t.tail, .d1, false, sE, by simp, rfl, ?_, hp⟩
      rw [silentRun_append _ _ _ _ _ _ hdig]; exact hrun
    · refine ⟨.minus, .d19 :: (ds ++ t.tail), .neg, true, sE, by simp, rfl, ?_, hp⟩
      have a : silent .neg true .d19 = some (.d1, false) := rfl
      simp only [silentRun, a]
      rw [silentRun_append _ _ _ _ _ _ hdig]; exact hrun

#print axioms number_isScalar

/-! non-vacuity: `{"a": [1, true], "b": -0.5e+1}` with some layout -/
def sampleTree : JA :=
  .obj [.sp] [([], [.quote, .la, .quote], [.sp], [.sp],
                .arr [] [([], .scalar [.d19], []), ([.sp], .scalar [.lt, .lr, .lu, .le], [.wsctl])], []),
              ([.wsctl], [.quote, .lb, .quote], [], [], .scalar [.minus, .zero, .dot, .d19, .le, .plus, .d19], [.sp])]

example : eventsLoop false sampleTree.render.length sampleTree.render 0 {} [] = .ok (evsAt 0 sampleTree) := by rfl

example : sampleTree.Valid := by
  have k1 : IsKey [.quote, .la, .quote] := string_isKey [.la] (.plain _ _ rfl .nil)
  have k2 : IsKey [.quote, .lb, .quote] := string_isKey [.lb] (.plain _ _ rfl .nil)
  have n1 : IsScalar [.d19] := ⟨.d19, [], .d1, false, .d1, rfl, rfl, rfl, rfl⟩
  have n2 : IsScalar [.minus, .zero, .dot, .d19, .le, .plus, .d19] :=
    ⟨.minus, _, .neg, true, .e0, rfl, rfl, rfl, rfl⟩
  simp [sampleTree, JA.Valid, ValidMembers, ValidItems, IsWs, Cls.isWs, k1, k2, n1, n2, true_isScalar]

#eval (evsAt 0 sampleTree).map fun e => (LexT.name e.ty, e.b, e.e)

end JsonScan
