import JSight.CheckRulesSpec
/-!
Basic lemmas for the C08 proofs: `Except` plumbing (`toOpt`), a step of the pipeline as a list of complaints the first of
which wins (`firstErr`), the constraint map as a function, and counting ("`NumberOfConstraints` minus the allowed ones is
0" = "no other rule").
-/
namespace CR

/-! ### Except -/

def toOpt {ε α : Type} : Except ε α → Option α
  | .ok a => some a
  | .error _ => none

@[simp] theorem toOpt_ok {ε α : Type} (a : α) : toOpt (Except.ok a : Except ε α) = some a := rfl
@[simp] theorem toOpt_error {ε α : Type} (e : ε) : toOpt (Except.error e : Except ε α) = none := rfl

theorem isOk_eq {ε α : Type} (x : Except ε α) : isOk x = (toOpt x).isSome := by cases x <;> rfl

@[simp] theorem toOpt_bind {ε α β : Type} (x : Except ε α) (f : α → Except ε β) :
    toOpt (x >>= f) = (toOpt x).bind fun a => toOpt (f a) := by
  cases x <;> rfl

theorem toOpt_ite_err {ε α : Type} (b : Prop) [Decidable b] (e : ε) (x : Except ε α) :
    toOpt (if b then .error e else x) = if b then none else toOpt x := by
  split <;> simp

theorem toOpt_eq_some {ε α : Type} {x : Except ε α} {a : α} : toOpt x = some a ↔ x = .ok a := by
  cases x <;> simp [toOpt]

theorem toOpt_eq_none {ε α : Type} {x : Except ε α} : toOpt x = none ↔ ∃ e, x = .error e := by
  cases x <;> simp [toOpt]

/-! ### complaints

A step of `compileNode` checks conditions one after the other, each with its own error code, and hands on a map:
`step c m = firstErr rows (next m)`. Steps compose by appending their lists (`firstErr_append`); the verdict forgets the
codes (`toOpt_firstErr`), a comparison of two models keeps them. -/

/-- a complaint with code `e` unless `b` -/
def gd (b : Bool) (e : Code) : Option Code := if b then none else some e

/-- the first complaint of the list wins; without one the result is `a` -/
def firstErr {α : Type} (rows : List (Option Code)) (a : α) : Except Code α :=
  match rows.findSome? id with
  | some e => .error e
  | none => .ok a

@[simp] theorem gd_isNone (b : Bool) (e : Code) : (gd b e).isNone = b := by cases b <;> rfl

theorem firstErr_nil {α : Type} (a : α) : firstErr [] a = .ok a := rfl
theorem firstErr_none {α : Type} (rows : List (Option Code)) (a : α) : firstErr (none :: rows) a = firstErr rows a := rfl
theorem firstErr_some {α : Type} (e : Code) (rows : List (Option Code)) (a : α) : firstErr (some e :: rows) a = .error e := rfl

theorem firstErr_gd {α : Type} (b : Bool) (e : Code) (rows : List (Option Code)) (a : α) :
    firstErr (gd b e :: rows) a = if b then firstErr rows a else .error e := by cases b <;> rfl

theorem firstErr_bind {α β : Type} (r : List (Option Code)) (a : α) (f : α → Except Code β) :
    firstErr r a >>= f = match r.findSome? id with | some e => .error e | none => f a := by
  unfold firstErr; cases r.findSome? id <;> rfl

/-- the complaints of the second step are read on what the first hands on -/
theorem firstErr_append {α β : Type} (r : List (Option Code)) (a : α) (s : α → List (Option Code)) (g : α → β) :
    (firstErr r a >>= fun x => firstErr (s x) (g x)) = firstErr (r ++ s a) (g a) := by
  rw [firstErr_bind]; unfold firstErr; rw [List.findSome?_append]
  cases r.findSome? id <;> rfl

theorem toOpt_firstErr {α : Type} (rows : List (Option Code)) (a : α) :
    toOpt (firstErr rows a) = if rows.all (·.isNone) then some a else none := by
  induction rows with
  | nil => rfl
  | cons r rows ih => cases r with
    | none => rw [firstErr_none, ih]; rfl
    | some e => rfl

/-! ### presence bits and counting -/

theorem bnat_eq_zero (b : Bool) : bnat b = 0 ↔ b = false := by cases b <;> simp [bnat]
@[simp] theorem bnat_true : bnat true = 1 := rfl
@[simp] theorem bnat_false : bnat false = 0 := rfl

/-- no constraint outside `A` -/
def onlyHas (m : CMap) (A : List CT) : Bool := CT.all.all fun k => !m.has k || A.contains k

/-- the number of constraints of `m` outside `A` -/
def extra (m : CMap) (A : List CT) : Nat :=
  ((CT.all.filter fun k => !A.contains k).map fun k => bnat (m.has k)).sum

theorem sum_filter_add {α : Type} (f : α → Nat) (p : α → Bool) (l : List α) :
    (l.map f).sum = ((l.filter p).map f).sum + ((l.filter fun a => !p a).map f).sum := by
  induction l with
  | nil => rfl
  | cons a l ih =>
    cases h : p a <;> simp only [List.filter_cons, h, List.map_cons, List.sum_cons, ih, Bool.not_true, Bool.not_false,
      if_true, if_false, Bool.false_eq_true] <;> omega

/-- `NumberOfConstraints` = the constraints among `A` (`B`: the keys of `A` in the order of `CT.all`) + the others:
what turns the code's "`Len` minus the allowed ones" into "no other rule" (`count_or` … in `CheckRulesCompile`, `len_zero`,
`len_one_type` in `CheckRulesLoad`) -/
theorem len_eq_extra (m : CMap) (A B : List CT) (hB : CT.all.filter A.contains = B) :
    m.len = (B.map fun k => bnat (m.has k)).sum + extra m A :=
  hB ▸ sum_filter_add _ _ _

theorem sum_bnat_eq_zero {α : Type} (q : α → Bool) (l : List α) :
    (l.map fun a => bnat (q a)).sum = 0 ↔ ∀ a ∈ l, q a = false := by
  induction l with
  | nil => simp
  | cons a l ih => simp only [List.map_cons, List.sum_cons, Nat.add_eq_zero_iff, bnat_eq_zero, ih, List.forall_mem_cons]

theorem extra_eq_zero (m : CMap) (A : List CT) : decide (extra m A = 0) = onlyHas m A := by
  rw [Bool.eq_iff_iff, decide_eq_true_iff, extra, sum_bnat_eq_zero, onlyHas, List.all_eq_true]
  simp only [List.mem_filter, Bool.not_eq_true', Bool.or_eq_true, and_imp]
  exact forall₂_congr fun k _ => by cases m.has k <;> cases A.contains k <;> simp

/-- a test of every constraint type as a conjunction over the 25 constructors, so that `simp` settles it key by key -/
theorem all_unfold (p : CT → Bool) : CT.all.all p =
  (p .minLength && p .maxLength && p .min && p .max && p .exclusiveMinimum && p .exclusiveMaximum && p .type && p .precision && p .optional
   && p .minItems && p .maxItems && p .additionalProperties && p .nullable && p .regex && p .const && p .or && p .enum && p .allOf
   && p .typesList && p .any && p .email && p .uri && p .uuid && p .date && p .datetime) := by
  simp only [CT.all, List.all_cons, List.all_nil, Bool.and_true, Bool.and_assoc]

theorem all_iff (p : CT → Bool) : CT.all.all p = true ↔ ∀ k, p k = true := by
  constructor
  · intro h k
    rw [all_unfold] at h
    simp only [Bool.and_eq_true] at h
    cases k <;> simp [h]
  · intro h
    rw [all_unfold]
    simp [h]

/-! ### the map as a function -/

@[simp] theorem has_set_same (m : CMap) (k : CT) (v : CV) : (m.set k v).has k = true := by simp [CMap.has, CMap.set]
@[simp] theorem set_same (m : CMap) (k : CT) (v : CV) : (m.set k v) k = some v := by simp [CMap.set]
theorem set_other (m : CMap) {k k' : CT} (v : CV) (h : k' ≠ k) : (m.set k v) k' = m k' := by simp [CMap.set, h]
theorem has_set_other (m : CMap) {k k' : CT} (v : CV) (h : k' ≠ k) : (m.set k v).has k' = m.has k' := by
  simp [CMap.has, CMap.set, h]
@[simp] theorem del_same (m : CMap) (k : CT) : (m.del k) k = none := by simp [CMap.del]
@[simp] theorem has_del_same (m : CMap) (k : CT) : (m.del k).has k = false := by simp [CMap.has, CMap.del]
theorem del_other (m : CMap) {k k' : CT} (h : k' ≠ k) : (m.del k) k' = m k' := by simp [CMap.del, h]
theorem has_del_other (m : CMap) {k k' : CT} (h : k' ≠ k) : (m.del k).has k' = m.has k' := by
  simp [CMap.has, CMap.del, h]

theorem has_iff (m : CMap) (k : CT) : m.has k = true ↔ ∃ v, m k = some v := by
  simp [CMap.has, Option.isSome_iff_exists]

theorem has_false_iff (m : CMap) (k : CT) : m.has k = false ↔ m k = none := by
  simp [CMap.has]

end CR
