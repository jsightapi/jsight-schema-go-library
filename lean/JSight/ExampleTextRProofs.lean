import JSight.ATreeExample
import JSight.ATreeLoad
import JSight.ExampleTextProofs
/-!
C15, text level for ANNOTATED trees (proofs).

* `exBuildR_extends` / `exampleTextR_extends`: the rule-aware builder extends the rule-free one.
* `exBuildX`: the builder on the ABSTRACT table (`XNode`: what `C13_annotated_tree_loads` speaks about) plus the table of
  raw key tokens; `exBuildR_eq_X`: on every loader table the rule-aware builder is the abstract builder of its
  abstraction.
* `exBuildX_sits`: on tables in which the nodes and the raw keys an annotated tree of the class DENOTES stand, the
  abstract builder emits the compact text of the tree's value.
* `annotated_result_is_json`: the compact text of an annotated tree's value scans as JSON.

None of this needs the loading theorem of annotated trees; `ExampleTextRKeys` composes `exBuildX_sits` with it.
-/
namespace Loader

/-! ### the rule-aware builder extends the rule-free one -/

theorem mapM_mono {α β : Type} (f g : α → Option β) (l : List α) (out : List β)
    (h : ∀ a b, f a = some b → g a = some b) (hm : l.mapM f = some out) : l.mapM g = some out := by
  induction l generalizing out with
  | nil => simpa using hm
  | cons a l ih =>
    simp only [List.mapM_cons, Option.bind_eq_bind, Option.pure_def] at hm ⊢
    cases ha : f a with
    | none => rw [ha] at hm; simp at hm
    | some b =>
      rw [ha] at hm
      simp only [Option.bind_some] at hm
      cases hl : l.mapM f with
      | none => rw [hl] at hm; simp at hm
      | some bs =>
        rw [hl] at hm
        rw [h a b ha, ih bs hl]
        simpa using hm

theorem exBuildR_extends (src : Array UInt8) (nodes : Array Node) : ∀ (fuel i : Nat) (out : List UInt8),
    exBuild src nodes fuel i = some out → exBuildR src nodes fuel i = some out
  | 0, _, _, h => by simp [exBuild] at h
  | fuel + 1, i, out, h => by
    unfold exBuild at h
    unfold exBuildR
    cases hn : nodes[i]? with
    | none => rw [hn] at h; simp at h
    | some nd =>
      rw [hn] at h
      simp only at h ⊢
      by_cases hr : nd.rules.isEmpty = true
      · rw [if_pos hr] at h
        have hnil : nd.rules = [] := List.isEmpty_iff.mp hr
        cases hk : nd.kind with
        | lit => simp only [hk] at h ⊢; exact h
        | mixed => simp [hk] at h
        | arr =>
          simp only [hk] at h ⊢
          simp only [hnil, List.any_nil, Bool.false_eq_true, if_false]
          simp only [Option.map_eq_some_iff] at h ⊢
          obtain ⟨parts, hp, rfl⟩ := h
          exact ⟨parts, mapM_mono _ _ _ _ (fun a b => exBuildR_extends src nodes fuel a b) hp, rfl⟩
        | obj =>
          simp only [hk] at h ⊢
          simp only [hnil, List.any_nil, Bool.false_eq_true, if_false]
          split at h
          · simp at h
          · rename_i hc
            rw [if_neg hc]
            simp only [Option.map_eq_some_iff] at h ⊢
            obtain ⟨parts, hp, rfl⟩ := h
            refine ⟨parts, mapM_mono _ _ _ _ (fun a b hab => ?_) hp, rfl⟩
            simp only [Option.map_eq_some_iff] at hab ⊢
            obtain ⟨ex, he, rfl⟩ := hab
            exact ⟨ex, exBuildR_extends src nodes fuel _ _ he, rfl⟩
      · rw [if_neg hr] at h; simp at h

theorem exampleTextR_extends (bs : List UInt8) (out : List UInt8) (h : exampleText bs = .ok out) :
    exampleTextR bs = .ok out := by
  unfold exampleText at h
  unfold exampleTextR
  cases hl : loadText bs with
  | error e => rw [hl] at h; simp at h
  | ok st =>
    rw [hl] at h
    simp only at h ⊢
    cases hr : st.root with
    | none => rw [hr] at h; simp at h
    | some r =>
      rw [hr] at h
      simp only at h ⊢
      cases hb : exBuild bs.toArray st.nodes (st.nodes.size + 1) r with
      | none => rw [hb] at h; simp at h
      | some o =>
        rw [hb] at h
        rw [exBuildR_extends _ _ _ _ _ hb]
        exact h

/-! ### the builder on the abstract table -/

/-- the raw key tokens of a node: `k.Lex.Value()` -/
def rawKeysN (src : Array UInt8) (n : Node) : List (List UInt8) := n.keys.map fun k => slice src k.1 k.2.1

/-- `exampleBuilder.Build` on the abstract table `T` (what `GetAST` shows: kinds, children, decoded keys, literal tokens,
rule names) and the raw key tokens `RK` of every node -/
def exBuildX (T : Array XNode) (RK : Array (List (List UInt8))) : Nat → Nat → Option (List UInt8)
  | 0, _ => none
  | fuel + 1, i =>
    match T[i]? with
    | none => none
    | some nd =>
      match nd.kind with
      | .lit => nd.value
      | .mixed => none
      | .arr =>
        if nd.rules.any changesContainer then none
        else (nd.children.mapM (exBuildX T RK fuel)).map fun parts => 91 :: (joinB parts ++ [93])
      | .obj =>
        if nd.rules.any changesContainer then none
        else if nd.keys.length != nd.children.length || nd.keys.any (·.2) then none
        else
          (((RK[i]?.getD []).zip nd.children).mapM fun kc =>
            (exBuildX T RK fuel kc.2).map fun ex => kc.1 ++ 58 :: ex).map
            fun parts => 123 :: (joinB parts ++ [125])

theorem ruleNameOf_eq (src : Array UInt8) (r : Sum (Nat × Nat) String) : ruleNameOf src r = Lay.ruleText src r := by
  cases r <;> rfl

theorem mapM_zip_map {α β γ δ : Type} (f : α → β) (g : β × γ → Option δ) : ∀ (l : List α) (c : List γ),
    ((l.map f).zip c).mapM g = (l.zip c).mapM (fun p => g (f p.1, p.2))
  | [], _ => by simp
  | _ :: _, [] => by simp
  | a :: l, x :: c => by
    simp only [List.map_cons, List.zip_cons_cons, List.mapM_cons, mapM_zip_map f g l c]

theorem mapM_congr' {α β : Type} (f g : α → Option β) (l : List α) (h : ∀ a, f a = g a) : l.mapM f = l.mapM g := by
  have : f = g := funext h
  rw [this]

theorem exBuildR_eq_X (src : Array UInt8) (nodes : Array Node) : ∀ (fuel i : Nat),
    exBuildR src nodes fuel i = exBuildX (nodes.map (absX src)) (nodes.map (rawKeysN src)) fuel i
  | 0, _ => rfl
  | fuel + 1, i => by
    unfold exBuildR exBuildX
    simp only [Array.getElem?_map]
    cases hn : nodes[i]? with
    | none => rfl
    | some nd =>
      have hrules : (absX src nd).rules.any changesContainer
          = nd.rules.any (fun r => changesContainer (ruleNameOf src r)) := by
        simp only [absX, List.any_map]
        congr 1
      simp only [Option.map_some, Option.getD_some]
      cases hk : nd.kind with
      | lit => simp [absX, hk]
      | mixed => simp [absX, hk]
      | arr =>
        have hk' : (absX src nd).kind = .arr := hk
        simp only [hk', hrules]
        have hc : (absX src nd).children = nd.children := rfl
        rw [hc, mapM_congr' _ _ _ (fun a => exBuildR_eq_X src nodes fuel a)]
      | obj =>
        have hk' : (absX src nd).kind = .obj := hk
        simp only [hk', hrules]
        have hc : (absX src nd).children = nd.children := rfl
        have hkl : (absX src nd).keys.length = nd.keys.length := by simp [absX]
        have hka : (absX src nd).keys.any (·.2) = nd.keys.any (·.2.2) := by
          simp only [absX, List.any_map]
          congr 1
        rw [hc, hkl, hka]
        simp only [rawKeysN, mapM_zip_map]
        rw [mapM_congr' _ _ _ (fun p => by rw [exBuildR_eq_X src nodes fuel p.2])]

end Loader

namespace AT
open Loader (XNode xfresh joinB changesContainer exBuildX)
open NodeTable (Sits sits_mid)

/-! ### the raw key tokens an annotated tree denotes, node by node -/

def AMembers.rawKeyList : AMembers → List Bytes
  | .nil _ => []
  | .cons _ k _ _ _ _ _ rest => k :: rest.rawKeyList

mutual
def ATree.rawKeys : ATree → List (List Bytes)
  | .scalar _ _ => [[]]
  | .arr _ items => [] :: items.rawKeys
  | .obj _ ms => ms.rawKeyList :: ms.rawKeys
def AItems.rawKeys : AItems → List (List Bytes)
  | .nil _ => []
  | .cons _ v _ _ rest => v.rawKeys ++ rest.rawKeys
def AMembers.rawKeys : AMembers → List (List Bytes)
  | .nil _ => []
  | .cons _ _ _ _ v _ _ rest => v.rawKeys ++ rest.rawKeys
end

mutual
theorem rawKeys_length : (v : ATree) → v.rawKeys.length = v.count
  | .scalar _ _ => rfl
  | .arr _ items => by simp [ATree.rawKeys, ATree.count, rawKeysI_length items]; omega
  | .obj _ ms => by simp [ATree.rawKeys, ATree.count, rawKeysM_length ms]; omega
theorem rawKeysI_length : (its : AItems) → its.rawKeys.length = its.count
  | .nil _ => rfl
  | .cons _ v _ _ rest => by simp [AItems.rawKeys, AItems.count, rawKeys_length v, rawKeysI_length rest]
theorem rawKeysM_length : (ms : AMembers) → ms.rawKeys.length = ms.count
  | .nil _ => rfl
  | .cons _ _ _ _ v _ _ rest => by simp [AMembers.rawKeys, AMembers.count, rawKeys_length v, rawKeysM_length rest]
end

theorem annX_value (a : Option Annot) (x : XNode) : (annX a x).value = x.value := by cases a <;> rfl
theorem annX_rules (a : Option Annot) (x : XNode) :
    (annX a x).rules = x.rules ++ (match a with | none => [] | some a => a.ob.names) := by
  cases a <;> simp [annX, Lay.addAnn]

theorem head_rules (an : Option (Gap × Annot)) (k : Loader.NK) (par : Option Nat) (h : headIgnored an = true) :
    (annX (an.map (·.2)) (xfresh k par)).rules.any changesContainer = false := by
  rw [annX_rules]
  cases an with
  | none => rfl
  | some ga =>
    obtain ⟨g, a⟩ := ga
    simp only [headIgnored, Bool.not_eq_true'] at h
    simpa [xfresh] using h

theorem keys_length_M : (ms : AMembers) → ms.keys.length = ms.rawKeyList.length
  | .nil _ => rfl
  | .cons _ _ _ _ _ _ _ rest => by simp [AMembers.keys, AMembers.rawKeyList, keys_length_M rest]
theorem idx_length_M : (ms : AMembers) → (n : Nat) → (ms.idx n).length = ms.rawKeyList.length
  | .nil _, _ => rfl
  | .cons _ _ _ _ _ _ _ rest, n => by simp [AMembers.idx, AMembers.rawKeyList, idx_length_M rest]
theorem keys_plain_M : (ms : AMembers) → ms.keys.any (·.2) = false
  | .nil _ => rfl
  | .cons _ _ _ _ _ _ _ rest => by simp [AMembers.keys, keys_plain_M rest]

mutual
/-- `exBuildX` on any two tables in which the nodes of `v` and their raw keys stand from `n` on -/
theorem exBuildX_sits {tbl : Array XNode} {tk : Array (List Bytes)} : (v : ATree) → (par : Option Nat) → (n fuel : Nat) →
    Sits tbl n (v.nodes par n) → Sits tk n v.rawKeys → v.count ≤ fuel → v.exClass = true →
    exBuildX tbl tk fuel n = some v.compact
  | .scalar tok an, par, n, f + 1, hs, _, _, _ => by
    simp only [exBuildX, hs.1, annX_kind, annX_value]
    simp [xfresh, ATree.compact]
  | .arr an its, par, n, f + 1, hs, hk, hf, hx => by
    simp only [ATree.exClass, Bool.and_eq_true] at hx
    have hr := head_rules an .arr par hx.1
    have h := exKids_sits its n (n + 1) f hs.2 hk.2 (by simp only [ATree.count] at hf; omega) hx.2
    have hxk : (annX (an.map (·.2)) (xfresh .arr par)).kind = .arr := by rw [annX_kind]; rfl
    have h1 := hs.1
    generalize annX (an.map (·.2)) (xfresh .arr par) = x at h1 hr hxk
    simp only [exBuildX, h1, hxk, hr, h]
    simp [ATree.compact]
  | .obj an ms, par, n, f + 1, hs, hk, hf, hx => by
    simp only [ATree.exClass, Bool.and_eq_true] at hx
    have hr := head_rules an .obj par hx.1
    have h := exProps_sits ms n (n + 1) f hs.2 hk.2 (by simp only [ATree.count] at hf; omega) hx.2
    have hxk : (annX (an.map (·.2)) (xfresh .obj par)).kind = .obj := by rw [annX_kind]; rfl
    have h1 := hs.1
    generalize annX (an.map (·.2)) (xfresh .obj par) = x at h1 hr hxk
    simp only [exBuildX, h1, hk.1, Option.getD_some, hxk, hr, h]
    simp [ATree.compact, keys_length_M, idx_length_M, keys_plain_M]
  | .arr _ _, _, _, 0, _, _, hf, _ | .obj _ _, _, _, 0, _, _, hf, _ => by simp only [ATree.count] at hf; omega
theorem exKids_sits {tbl : Array XNode} {tk : Array (List Bytes)} : (its : AItems) → (a n fuel : Nat) →
    Sits tbl n (its.nodes a n) → Sits tk n its.rawKeys → its.count ≤ fuel → its.exClass = true →
    (its.idx n).mapM (exBuildX tbl tk fuel) = some its.parts
  | .nil _, _, _, _, _, _, _, _ => by simp [AItems.idx, AItems.parts]
  | .cons _ v _ _ rest, a, n, fuel, hs, hk, hf, hx => by
    simp only [AItems.count] at hf
    simp only [AItems.exClass, Bool.and_eq_true] at hx
    obtain ⟨s1, s2⟩ := Sits.append (by simpa only [AItems.nodes] using hs)
    obtain ⟨k1, k2⟩ := Sits.append (by simpa only [AItems.rawKeys] using hk)
    rw [nodes_length] at s2
    rw [rawKeys_length] at k2
    simp only [AItems.idx, AItems.parts, List.mapM_cons, exBuildX_sits v (some a) n fuel s1 k1 (by omega) hx.1,
      exKids_sits rest a _ fuel s2 k2 (by omega) hx.2]
    rfl
theorem exProps_sits {tbl : Array XNode} {tk : Array (List Bytes)} : (ms : AMembers) → (a n fuel : Nat) →
    Sits tbl n (ms.nodes a n) → Sits tk n ms.rawKeys → ms.count ≤ fuel → ms.exClass = true →
    (ms.rawKeyList.zip (ms.idx n)).mapM (fun kc => (exBuildX tbl tk fuel kc.2).map fun ex => kc.1 ++ 58 :: ex)
      = some ms.parts
  | .nil _, _, _, _, _, _, _, _ => by simp [AMembers.idx, AMembers.rawKeyList, AMembers.parts]
  | .cons _ k _ _ v _ _ rest, a, n, fuel, hs, hk, hf, hx => by
    simp only [AMembers.count] at hf
    simp only [AMembers.exClass, Bool.and_eq_true] at hx
    obtain ⟨s1, s2⟩ := Sits.append (by simpa only [AMembers.nodes] using hs)
    obtain ⟨k1, k2⟩ := Sits.append (by simpa only [AMembers.rawKeys] using hk)
    rw [nodes_length] at s2
    rw [rawKeys_length] at k2
    simp only [AMembers.idx, AMembers.rawKeyList, AMembers.parts, List.zip_cons_cons, List.mapM_cons,
      exBuildX_sits v (some a) n fuel s1 k1 (by omega) hx.1, exProps_sits rest a _ fuel s2 k2 (by omega) hx.2]
    rfl
end

theorem exKids_nodes : (its : AItems) → (pre post : List XNode) → (preK postK : List (List Bytes)) → (a fuel : Nat) →
    preK.length = pre.length → its.count ≤ fuel → its.exClass = true →
    (its.idx pre.length).mapM
        (exBuildX (pre ++ (its.nodes a pre.length ++ post)).toArray (preK ++ (its.rawKeys ++ postK)).toArray fuel)
      = some its.parts :=
  fun its pre post preK postK a fuel hK hf hx =>
    exKids_sits its a _ fuel (sits_mid pre _ post) (hK ▸ sits_mid preK _ postK) hf hx
theorem exProps_nodes : (ms : AMembers) → (pre post : List XNode) → (preK postK : List (List Bytes)) → (a fuel : Nat) →
    preK.length = pre.length → ms.count ≤ fuel → ms.exClass = true →
    (ms.rawKeyList.zip (ms.idx pre.length)).mapM (fun kc =>
        (exBuildX (pre ++ (ms.nodes a pre.length ++ post)).toArray (preK ++ (ms.rawKeys ++ postK)).toArray fuel kc.2).map
          fun ex => kc.1 ++ 58 :: ex)
      = some ms.parts :=
  fun ms pre post preK postK a fuel hK hf hx =>
    exProps_sits ms a _ fuel (sits_mid pre _ post) (hK ▸ sits_mid preK _ postK) hf hx

end AT

namespace AT
open Loader (exampleTextR exBuildR exBuildR_eq_X rawKeysN absX)
open NodeTable (sits_all)

mutual
/-- every object of the tree is empty (arrays of any nesting, scalars, `{}`): no key token reaches the builder, so the
roundtrip needs nothing about the recorded key spans (`Props.C15.C15_annotated_text_roundtrip_partial`) -/
def ATree.keyless : ATree → Bool
  | .scalar _ _ => true
  | .arr _ items => items.keyless
  | .obj _ (.nil _) => true
  | .obj _ (.cons ..) => false
def AItems.keyless : AItems → Bool
  | .nil _ => true
  | .cons _ v _ _ rest => v.keyless && rest.keyless
end

mutual
theorem keyless_rawKeys : (v : ATree) → v.keyless = true → ∀ x ∈ v.rawKeys, x = []
  | .scalar _ _, _ => by simp [ATree.rawKeys]
  | .arr _ its, h => by
    intro x hx
    simp only [ATree.rawKeys, List.mem_cons] at hx
    rcases hx with rfl | hx
    · rfl
    · exact keyless_rawKeysI its (by simpa [ATree.keyless] using h) x hx
  | .obj _ (.nil _), _ => by simp [ATree.rawKeys, AMembers.rawKeyList, AMembers.rawKeys]
  | .obj _ (.cons ..), h => by simp [ATree.keyless] at h
theorem keyless_rawKeysI : (its : AItems) → its.keyless = true → ∀ x ∈ its.rawKeys, x = []
  | .nil _, _ => by simp [AItems.rawKeys]
  | .cons _ v _ _ rest, h => by
    simp only [AItems.keyless, Bool.and_eq_true] at h
    intro x hx
    simp only [AItems.rawKeys, List.mem_append] at hx
    rcases hx with hx | hx
    · exact keyless_rawKeys v h.1 x hx
    · exact keyless_rawKeysI rest h.2 x hx
end

/-! ### the value as a plain byte tree: the result is JSON -/

mutual
def ATree.value : ATree → Loader.BT
  | .scalar tok _ => .scalar tok
  | .arr _ items => .arr [] items.valueItems
  | .obj _ ms => .obj [] ms.valueMembers
def AItems.valueItems : AItems → List Loader.BItem
  | .nil _ => []
  | .cons _ v _ _ rest => ([], v.value, []) :: rest.valueItems
def AMembers.valueMembers : AMembers → List Loader.BMember
  | .nil _ => []
  | .cons _ k _ _ v _ _ rest => ([], k, [], [], v.value, []) :: rest.valueMembers
end

mutual
theorem compact_value : (v : ATree) → v.value.compact = v.compact
  | .scalar _ _ => rfl
  | .arr _ its => by simp [ATree.value, Loader.BT.compact, ATree.compact, compact_valueItems its]
  | .obj _ ms => by simp [ATree.value, Loader.BT.compact, ATree.compact, compact_valueMembers ms]
theorem compact_valueItems : (its : AItems) → Loader.compactItemsB its.valueItems = its.parts
  | .nil _ => rfl
  | .cons _ v _ _ rest => by
    simp [AItems.valueItems, Loader.compactItemsB, AItems.parts, compact_value v, compact_valueItems rest]
theorem compact_valueMembers : (ms : AMembers) → Loader.compactMembersB ms.valueMembers = ms.parts
  | .nil _ => rfl
  | .cons _ k _ _ v _ _ rest => by
    simp [AMembers.valueMembers, Loader.compactMembersB, AMembers.parts, compact_value v, compact_valueMembers rest]
end

theorem annotated_result_is_json (allow : Bool) (t : ATree) (hj : t.value.cls.Json) :
    JsonScan.events allow t.compact = .ok (JsonScan.evsAt 0 t.value.strip.cls.toJA) := by
  rw [← compact_value]
  exact Loader.plain_result_is_json allow t.value hj

end AT
