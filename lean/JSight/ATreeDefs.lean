import JSight.AnnTree
/-!
C13 / C16, WHOLE annotated trees: the type of annotated trees with layout (`AT.ATree`), its rendering as tokens
(`ATree.toks`, byte level: `BTok`, with the class-level token `BTok.cls : ATok` of `AnnTreeTok`), the SPEC of the loaded
node table (`ATree.table`), the decidable line discipline (`AT.lineOK`) and the erasure of everything that is
surface (`ATree.strip`).  Core Lean only (the driver imports this file).
-/
namespace AT
open SchemaScan (Cls classify)
open SchemaScan.Len (ATok Tok)
open Loader (XNode xfresh)

abbrev Bytes := List UInt8

/-- an annotation: `// s2 {ob} s3 [- s4 note] nlb` (inline; `nlb` its line break) or `/* s2 {ob} s3 [- s4 note] */` -/
structure Annot where
  multi : Bool
  s2 : Bytes
  ob : Lay.BObj
  s3 : Bytes
  nt : Option (Bytes × Bytes)
  nlb : UInt8

def Annot.bytes (a : Annot) : Bytes :=
  bif a.multi then 47 :: 42 :: (Lay.annBody a.s2 a.ob a.s3 a.nt ++ [42, 47])
  else 47 :: 47 :: (Lay.annBody a.s2 a.ob a.s3 a.nt ++ [a.nlb])

def Annot.cls (a : Annot) : ATok :=
  bif a.multi then .ml (Lay.mlOf a.s2 a.ob a.s3 a.nt) else .base (.ann (Lay.inlOf a.s2 a.ob a.s3 a.nt))

/-- what an annotation MEANS: the (name, value text) pairs in written order and the note -/
def Annot.pairs (a : Annot) : List (Bytes × Bytes) := a.ob.pairs
def Annot.note (a : Annot) : Option Bytes := a.nt.map (fun q => Loader.trimSpaces q.2)

/-- layout tokens: a space or tab, a line break byte (LF or CR), a `#` line comment with its line break -/
inductive LTok
  | sp (b : UInt8)
  | nl (b : UInt8)
  | cmt (text : Bytes) (nlb : UInt8)

def LTok.bytes : LTok → Bytes
  | .sp b => [b]
  | .nl b => [b]
  | .cmt t n => 35 :: (t ++ [n])

def LTok.cls : LTok → Tok
  | .sp b => .sp (classify b)
  | .nl _ => .nl
  | .cmt t _ => .cmt (t.map classify)

def LTok.isNl : LTok → Bool | .sp _ => false | _ => true
def LTok.isCmt : LTok → Bool | .cmt _ _ => true | _ => false

abbrev Gap := List LTok
def Gap.hasNl (g : Gap) : Bool := g.any LTok.isNl
def Gap.hasCmt (g : Gap) : Bool := g.any LTok.isCmt

inductive BTok
  | lay (l : LTok)
  | ann (a : Annot)
  | scalar (tok : Bytes)
  | key (k : Bytes)
  | lbrace | rbrace | lbrack | rbrack | comma | colon

def BTok.bytes : BTok → Bytes
  | .lay l => l.bytes
  | .ann a => a.bytes
  | .scalar tok => tok
  | .key k => k
  | .lbrace => [123] | .rbrace => [125] | .lbrack => [91] | .rbrack => [93] | .comma => [44] | .colon => [58]

def BTok.cls : BTok → ATok
  | .lay l => .base l.cls
  | .ann a => a.cls
  | .scalar tok => .base (.scalar (tok.map classify))
  | .key k => .base (.key (k.map classify))
  | .lbrace => .base .lbrace | .rbrace => .base .rbrace | .lbrack => .base .lbrack | .rbrack => .base .rbrack
  | .comma => .base .comma | .colon => .base .colon

def bytesOf : List BTok → Bytes
  | [] => []
  | t :: ts => t.bytes ++ bytesOf ts

def gapToks (g : Gap) : List BTok := g.map BTok.lay

/-- the annotation of a scalar: before (`behind = false`) or behind the comma that follows the value, `g` the blanks
between the previous token and the annotation -/
structure SAnn where
  behind : Bool
  g : Gap
  a : Annot

mutual
/-- annotated trees with layout. Scalars carry their annotation (position: before / behind the comma); containers
carry theirs behind the opening bracket (`an`: blanks, annotation). -/
inductive ATree
  | scalar (tok : Bytes) (an : Option SAnn)
  | arr (an : Option (Gap × Annot)) (items : AItems)
  | obj (an : Option (Gap × Annot)) (ms : AMembers)
/-- `nil g`: layout before the closing bracket; `cons g1 v g2 comma rest`: layout, item, layout, `,`? -/
inductive AItems
  | nil (g : Gap)
  | cons (g1 : Gap) (v : ATree) (g2 : Gap) (comma : Bool) (rest : AItems)
/-- `cons g1 key g2 g3 v g4 comma rest`: layout, key, layout, `:`, layout, value, layout, `,`? -/
inductive AMembers
  | nil (g : Gap)
  | cons (g1 : Gap) (k : Bytes) (g2 g3 : Gap) (v : ATree) (g4 : Gap) (comma : Bool) (rest : AMembers)
end

def headToks : Option (Gap × Annot) → List BTok
  | none => []
  | some (g, a) => gapToks g ++ [.ann a]

/-- the tokens of a scalar's annotation behind the comma -/
def ATree.toksB : ATree → List BTok
  | .scalar _ (some ⟨true, g, a⟩) => gapToks g ++ [.ann a]
  | _ => []

mutual
/-- the tokens of a value up to (not including) the separator that follows it -/
def ATree.toks : ATree → List BTok
  | .scalar tok (some ⟨false, g, a⟩) => .scalar tok :: (gapToks g ++ [.ann a])
  | .scalar tok _ => [.scalar tok]
  | .arr an items => .lbrack :: (headToks an ++ (items.toks ++ [.rbrack]))
  | .obj an ms => .lbrace :: (headToks an ++ (ms.toks ++ [.rbrace]))
def AItems.toks : AItems → List BTok
  | .nil g => gapToks g
  | .cons g1 v g2 comma rest =>
    gapToks g1 ++ (v.toks ++ (gapToks g2 ++ ((bif comma then .comma :: v.toksB else []) ++ rest.toks)))
def AMembers.toks : AMembers → List BTok
  | .nil g => gapToks g
  | .cons g1 k g2 g3 v g4 comma rest =>
    gapToks g1 ++ (.key k :: (gapToks g2 ++ (.colon :: (gapToks g3 ++ (v.toks ++ (gapToks g4 ++
      ((bif comma then .comma :: v.toksB else []) ++ rest.toks)))))))
end

/-- the schema text: layout, the tree, layout -/
def docToks (w0 : Gap) (t : ATree) (w1 : Gap) : List BTok := gapToks w0 ++ (t.toks ++ gapToks w1)
def docText (w0 : Gap) (t : ATree) (w1 : Gap) : Bytes := bytesOf (docToks w0 t w1)

/-! ### the SPEC: the node table -/

def annX (a : Option Annot) (xn : XNode) : XNode :=
  match a with
  | none => xn
  | some a => Lay.addAnn xn a.ob (a.nt.map (·.2))

mutual
def ATree.count : ATree → Nat
  | .scalar _ _ => 1
  | .arr _ items => 1 + items.count
  | .obj _ ms => 1 + ms.count
def AItems.count : AItems → Nat
  | .nil _ => 0
  | .cons _ v _ _ rest => v.count + rest.count
def AMembers.count : AMembers → Nat
  | .nil _ => 0
  | .cons _ _ _ _ v _ _ rest => v.count + rest.count
end

def AItems.idx : Nat → AItems → List Nat
  | _, .nil _ => []
  | n, .cons _ v _ _ rest => n :: rest.idx (n + v.count)
def AMembers.idx : Nat → AMembers → List Nat
  | _, .nil _ => []
  | n, .cons _ _ _ _ v _ _ rest => n :: rest.idx (n + v.count)
/-- decoded keys, in source order -/
def AMembers.keys : AMembers → List (Bytes × Bool)
  | .nil _ => []
  | .cons _ k _ _ _ _ _ rest => (Unquote.unquote k, false) :: rest.keys

mutual
/-- the nodes of a value in pre-order (= source order), its own node at index `n`, its parent `par`: kind, parent,
children, decoded keys (objects), literal token (scalars), and the annotation of THAT node: rule names, rule value
texts (written order), note -/
def ATree.nodes (par : Option Nat) : Nat → ATree → List XNode
  | _, .scalar tok an => [annX (an.map (·.a)) { xfresh .lit par with value := some tok }]
  | n, .arr an items =>
    { annX (an.map (·.2)) (xfresh .arr par) with children := items.idx (n + 1) } :: items.nodes n (n + 1)
  | n, .obj an ms =>
    { annX (an.map (·.2)) (xfresh .obj par) with children := ms.idx (n + 1), keys := ms.keys } :: ms.nodes n (n + 1)
def AItems.nodes (a : Nat) : Nat → AItems → List XNode
  | _, .nil _ => []
  | n, .cons _ v _ _ rest => v.nodes (some a) n ++ rest.nodes a (n + v.count)
def AMembers.nodes (a : Nat) : Nat → AMembers → List XNode
  | _, .nil _ => []
  | n, .cons _ _ _ _ v _ _ rest => v.nodes (some a) n ++ rest.nodes a (n + v.count)
end

/-- **the table an annotated tree denotes** -/
def ATree.table (t : ATree) : List XNode := t.nodes none 0

/-- the loader's table read against the text -/
def abstractOf (src : Array UInt8) (st : Loader.St) : List XNode := st.nodes.toList.map (Loader.absX src)

/-! ### the line discipline, decidable

`ak`: the scanner's `allowAnnotation` is known to be on; `pl`: the number of nodes created since the last line break.
An annotation is accepted when `ak` and `pl = 1` (then the node created last is the only one on the line, and the
tree puts the annotation right behind ITS node). A line break behind a comma switches `allowAnnotation` on; behind a
container it is treated as unknown (pessimistic). -/

def gapPl (pl : Nat) (g : Gap) : Nat := bif g.hasNl then 0 else pl
def gapAk (sep : Bool) (ak : Bool) (g : Gap) : Bool := ak || (sep && g.hasNl)

def annChk (ak : Bool) (pl : Nat) (a : Annot) : Option (Bool × Nat) :=
  bif ak && pl == 1 then some (ak, bif a.multi then 1 else 0) else none

def headChk (ak : Bool) (pl : Nat) : Option (Gap × Annot) → Option (Bool × Nat)
  | none => some (ak, pl)
  | some (g, a) => annChk ak (gapPl pl g) a

/-- the annotation behind the comma (state behind a separator: `sep = true`) -/
def ATree.chkB (ak : Bool) (pl : Nat) : ATree → Option (Bool × Nat)
  | .scalar _ (some ⟨true, g, a⟩) => annChk (gapAk true ak g) (gapPl pl g) a
  | _ => some (ak, pl)

def ATree.hasB : ATree → Bool
  | .scalar _ (some ⟨true, _, _⟩) => true
  | _ => false

/-- where a list of items / members stands: behind the opening bracket, behind a comma, behind a value -/
inductive Pos | first | sep | aft
  deriving DecidableEq

mutual
/-- `chk ak pl v`: the value `v` starts with `allowAnnotation` known (`ak`) and `pl` nodes on the line; the result is
the same information behind the value -/
def ATree.chk (ak : Bool) (pl : Nat) : ATree → Option (Bool × Nat)
  | .scalar _ (some ⟨false, g, a⟩) => annChk ak (gapPl (pl + 1) g) a
  | .scalar _ _ => some (ak, pl + 1)
  | .arr an items =>
    match headChk ak (pl + 1) an with
    | none => none
    | some (ak1, pl1) => (items.chk .first ak1 pl1).map (fun pl2 => (false, pl2))
  | .obj an ms =>
    match headChk ak (pl + 1) an with
    | none => none
    | some (ak1, pl1) => (ms.chk .first [] ak1 pl1).map (fun pl2 => (false, pl2))
def AItems.chk (p : Pos) (ak : Bool) (pl : Nat) : AItems → Option Nat
  | .nil g => bif p == .sep then none else some (gapPl pl g)
  | .cons g1 v g2 comma rest =>
    bif p == .aft then none else
    match v.chk (gapAk (p == .sep) ak g1) (gapPl pl g1) with
    | none => none
    | some (ak2, pl2) =>
      bif comma then
        match v.chkB ak2 (gapPl pl2 g2) with
        | none => none
        | some (ak3, pl3) => rest.chk .sep ak3 pl3
      else bif v.hasB then none else rest.chk .aft ak2 (gapPl pl2 g2)
def AMembers.chk (p : Pos) (seen : List (Bytes × Bool)) (ak : Bool) (pl : Nat) : AMembers → Option Nat
  | .nil g => bif p == .sep then none else some (gapPl pl g)
  | .cons g1 k g2 g3 v g4 comma rest =>
    bif p == .aft || g2.hasCmt || g3.hasCmt || seen.contains (Unquote.unquote k, false) then none else
    match v.chk (p == .first || gapAk (p == .sep) ak g1) (gapPl (gapPl (gapPl pl g1) g2) g3) with
    | none => none
    | some (ak2, pl2) =>
      bif comma then
        match v.chkB ak2 (gapPl pl2 g4) with
        | none => none
        | some (ak3, pl3) => rest.chk .sep (seen ++ [(Unquote.unquote k, false)]) ak3 pl3
      else bif v.hasB then none else rest.chk .aft (seen ++ [(Unquote.unquote k, false)]) ak2 (gapPl pl2 g4)
end

/-- **the line discipline of a whole text** `w0 t w1`: every annotation follows exactly one node creation on its line
(and the scanner allows it there); commas separate; keys of one object are distinct after decoding -/
def lineOK (w0 : Gap) (t : ATree) : Bool := (t.chk true (gapPl 0 w0)).isSome && !t.hasB

/-! ### the token grammar (Prop: the scanner's token automata) -/

def Annot.WF (a : Annot) : Prop :=
  a.cls.WF ∧ (∀ s4 txt, a.nt = some (s4, txt) → txt ≠ []) ∧ (a.multi = false → classify a.nlb = .nl)

def LTok.WF : LTok → Prop
  | .sp b => (classify b).isSpTab = true
  | .nl b => classify b = .nl
  | .cmt t n => (Tok.cmt (t.map classify)).WF ∧ classify n = .nl

def BTok.WF : BTok → Prop
  | .lay l => l.WF
  | .ann a => a.WF
  | .scalar tok => SchemaScan.IsScalar (tok.map classify)
  | .key k => SchemaScan.IsKey (k.map classify)
  | _ => True

def TokOK (ts : List BTok) : Prop := ∀ t ∈ ts, t.WF

/-! ### what is left when the surface is erased -/

/-- a tree without layout: kinds, keys (decoded), scalar tokens, and per node the annotation's pairs and note -/
inductive STree
  | scalar (tok : Bytes) (an : Option (List (Bytes × Bytes) × Option Bytes))
  | arr (an : Option (List (Bytes × Bytes) × Option Bytes)) (items : List STree)
  | obj (an : Option (List (Bytes × Bytes) × Option Bytes)) (ms : List (Bytes × STree))

def Annot.strip (a : Annot) : List (Bytes × Bytes) × Option Bytes := (a.pairs, a.note)

mutual
/-- erase the annotations' form (inline / multi-line, position, blanks, trailing comma), blanks, line ends, comments -/
def ATree.strip : ATree → STree
  | .scalar tok an => .scalar tok (an.map (·.a.strip))
  | .arr an items => .arr (an.map (·.2.strip)) items.strip
  | .obj an ms => .obj (an.map (·.2.strip)) ms.strip
def AItems.strip : AItems → List STree
  | .nil _ => []
  | .cons _ v _ _ rest => v.strip :: rest.strip
def AMembers.strip : AMembers → List (Bytes × STree)
  | .nil _ => []
  | .cons _ k _ _ v _ _ rest => (Unquote.unquote k, v.strip) :: rest.strip
end

end AT
