/-
Model of notations/jschema/internal/scanner/{scanner.go,scanner_annotations.go}
(transliteration, state passing; Go panics with DocumentError = `.err`, runtime panics = `.crash`).
The look-ahead fix F-7a, the shortcut EOF fix F-7d, F-12 and F-13 are applied, as are the delivery of a deferred
end-top and the empty user comment (each marked at its line), matching the post-fix tree; the Len fix F-4 is in `SchemaRun`.
-/
namespace SchemaScan

inductive Cls
  | sp | tab | nl
  | lbrace | rbrace | lbrack | rbrack | colon | comma | quote | bslash | slash | hash | at | star | pipe
  | minus | underscore | plus | zero | d19 | dot
  | le | uE | lt | lr | lu | lf | la | ll | ls | ln | lb
  | hexo      -- c d A B C D F
  | nameo     -- other ASCII letters
  | ctrl      -- < 0x20, not tab/LF/CR
  | other
  deriving DecidableEq, Repr, Inhabited

def classify (c : UInt8) : Cls :=
  if c == 32 then .sp else if c == 9 then .tab else if c == 10 || c == 13 then .nl
  else if c == 123 then .lbrace else if c == 125 then .rbrace
  else if c == 91 then .lbrack else if c == 93 then .rbrack
  else if c == 58 then .colon else if c == 44 then .comma
  else if c == 34 then .quote else if c == 92 then .bslash else if c == 47 then .slash
  else if c == 35 then .hash else if c == 64 then .at else if c == 42 then .star else if c == 124 then .pipe
  else if c == 45 then .minus else if c == 95 then .underscore else if c == 43 then .plus
  else if c == 48 then .zero else if 49 ≤ c && c ≤ 57 then .d19
  else if c == 46 then .dot
  else if c == 101 then .le else if c == 69 then .uE
  else if c == 116 then .lt else if c == 114 then .lr else if c == 117 then .lu
  else if c == 102 then .lf else if c == 97 then .la else if c == 108 then .ll
  else if c == 115 then .ls else if c == 110 then .ln else if c == 98 then .lb
  else if c == 99 || c == 100 || (65 ≤ c && c ≤ 68) || c == 70 then .hexo
  else if (97 ≤ c && c ≤ 122) || (65 ≤ c && c ≤ 90) then .nameo
  else if c < 32 then .ctrl
  else .other

def Cls.isNewLine : Cls → Bool | .nl => true | _ => false
def Cls.isSpace : Cls → Bool | .sp | .tab => true | _ => false
def Cls.isBlank (c : Cls) : Bool := c.isSpace || c.isNewLine
def Cls.isDigit : Cls → Bool | .zero | .d19 => true | _ => false
def Cls.isHex : Cls → Bool
  | .zero | .d19 | .le | .uE | .lf | .la | .lb | .hexo => true
  | _ => false
/-- bytes.IsValidUserTypeNameByte -/
def Cls.isName : Cls → Bool
  | .minus | .underscore | .zero | .d19 | .le | .uE | .lt | .lr | .lu | .lf | .la | .ll | .ls | .ln | .lb | .hexo | .nameo => true
  | _ => false
/-- c < 0x20 -/
def Cls.isLow : Cls → Bool | .tab | .nl | .ctrl => true | _ => false

inductive LexT
  | litB | litE | objB | objE | keyB | keyE | valB | valE | arrB | arrE | itemB | itemE
  | inlAnnB | inlAnnE | inlTxtB | inlTxtE | mlAnnB | mlAnnE | mlTxtB | mlTxtE
  | newLine | tsB | tsE | ksB | ksE | mixB | mixE | endTop
  deriving DecidableEq, Repr, Inhabited

def LexT.isOpening : LexT → Bool
  | .litB | .objB | .keyB | .valB | .arrB | .itemB | .mlAnnB | .inlAnnB | .inlTxtB | .mlTxtB | .tsB | .ksB | .mixB => true
  | _ => false

inductive St
  | foundRoot | objKeyOrEmpty | objKey | objKeyAfterNL | objValue | arrItemOrEmpty | arrItem
  | keyShortcut | endValue | afterKey | afterValue | afterItem | endTop
  | inString | esc | u0 | u1 | u2 | u3
  | neg | d1 | d0 | dot | dot0
  | t | tr | tru | f | fa | fal | fals | n | nu | nul
  | tsBeginName | tsName | tsBeforePipe | tsAfterPipe
  | anyCommentStart | inlineComment | multiLineComment
  | anyAnnStart | inlAnnStart | inlAnn | inlTxtPrefix | inlTxtPrefix2 | inlTxt | inlTxtSkip
  | mlAnn | mlTxtPrefix | mlTxtPrefix2 | mlAnnEnd | mlTxt
  | annKeyFirst | annKey | annKeyAfter
  | guard (inner : St)      -- closure installed after an inline annotation: '/' is an error, otherwise `inner`
  deriving DecidableEq, Repr, Inhabited

inductive Ann | none | inline | multi
  deriving DecidableEq, Repr, Inhabited

inductive CtxT | initial | object | array | shortcut
  deriving DecidableEq, Repr, Inhabited

structure Ctx where
  ty : CtxT
  arrayHasItem : Bool := false
  deriving DecidableEq, Repr, Inhabited

inductive Err
  | invalidChar (idx : Nat) (ctx : String)       -- ErrInvalidCharacter at idx
  | invalidKeyChar (idx : Nat)                   -- ErrInvalidCharacterInAnnotationObjectKey
  | annotationNotAllowed (idx : Nat)
  | unexpectedEOF (idx : Nat)
  | crash (why : String)
  deriving DecidableEq, Repr

structure Ev where
  ty : LexT
  b : Nat
  e : Nat
  deriving DecidableEq, Repr

structure Sc where
  step : St := .foundRoot
  ret : List St := []
  stack : List (LexT × Nat) := []
  ctxStack : List Ctx := []
  ctx : Ctx := { ty := .initial }
  finds : List LexT := []
  index : Nat := 0
  ann : Ann := .none
  unf : Bool := false
  lengthComputing : Bool := false
  boundaryQuote : Bool := false
  allowAnnotation : Bool := true
  hasTrailing : Bool := false
  deriving Repr

abbrev M := Except Err

def found (s : Sc) (t : LexT) : Sc := { s with finds := s.finds ++ [t] }
def errChar (s : Sc) (ctx : String) : Err := .invalidChar (s.index - 1) ctx

def stackTy (s : Sc) (fromTop : Nat) : Option LexT := (s.stack[fromTop]?).map (·.1)

def setContext (s : Sc) (c : Ctx) : Sc := { s with ctxStack := s.ctx :: s.ctxStack, ctx := c }
def restoreContext (s : Sc) : M Sc :=
  match s.ctxStack with
  | c :: rest => pure { s with ctx := c, ctxStack := rest }
  | [] => throw (.crash "Reading from empty stack (contexts)")

def popRet (s : Sc) : M (St × Sc) :=
  match s.ret with
  | r :: rest => pure (r, { s with ret := rest })
  | [] => throw (.crash "Reading from empty stack (returnToStep)")

def isInsideMultiLine (s : Sc) : Bool := s.stack.any (·.1 == .mlAnnB)

/-- isNewLine method: a new line inside an inline annotation is an error -/
def isNewLineM (s : Sc) (c : Cls) : M Bool :=
  if !c.isNewLine then pure false
  else if s.ann == .inline then throw (errChar s "inside inline annotation")
  else pure true

def isCommentStart (s : Sc) (c : Cls) : Bool := (s.ann == .none || s.ann == .inline) && c == .hash

def switchToComment (s : Sc) : M Sc :=
  if s.ann != .none && s.ann != .inline then throw (errChar s "inside user inline comment")
  else pure { s with ret := s.step :: s.ret, step := .anyCommentStart }

def switchToAnnotation (s : Sc) : M Sc :=
  if !s.allowAnnotation then throw (.annotationNotAllowed (s.index - 1))
  else
    let s := { s with ret := s.step :: s.ret }
    match s.ann with
    | .none => pure { s with step := .anyAnnStart }
    | .multi => pure { s with step := .inlAnnStart }
    | .inline => throw (errChar s "inside inline annotation")

inductive BV | cont | obj | arr | lit | ts
  deriving DecidableEq

/-- stateBeginValue -/
def beginValue (s : Sc) (c : Cls) : M (BV × Sc) := do
  if ← isNewLineM s c then return (.cont, found s .newLine)
  if c.isBlank then return (.cont, s)
  if c == .slash then return (.cont, ← switchToAnnotation s)
  match c with
  | .lbrace => pure (.obj, { s with step := .objKeyOrEmpty })
  | .lbrack => pure (.arr, { s with step := .arrItemOrEmpty })
  | .quote => pure (.lit, { s with step := .inString, unf := true })
  | .minus => pure (.lit, { s with step := .neg, unf := true })
  | .zero => pure (.lit, { s with step := .d0 })
  | .lt => pure (.lit, { s with step := .t, unf := true })
  | .lf => pure (.lit, { s with step := .f, unf := true })
  | .ln => pure (.lit, { s with step := .n, unf := true })
  | .at => pure (.ts, { s with step := .tsBeginName, unf := true })
  | .d19 => pure (.lit, { s with step := .d1 })
  | _ => throw (errChar s "looking for beginning of value")

def beginString (s : Sc) (c : Cls) : M Sc :=
  if c != .quote then throw (errChar s "looking for beginning of string")
  else pure { s with step := .inString }

def beginKeyShortcut (s : Sc) : M Sc :=
  if s.ann != .none then throw (errChar s "key shortcut not allowed in annotation")
  else pure { (found s .ksB) with step := .keyShortcut }

def isFoundLastObjectEndOnAnnotation (s : Sc) : Option LexT :=
  let isAnn (t : Option LexT) := t == some .inlAnnB || t == some .mlAnnB
  let t := stackTy s
  if t 0 == some .tsB && t 1 == some .mixB && t 2 == some .valB && t 3 == some .objB && isAnn (t 4) then t 4
  else if t 0 == some .litB && t 1 == some .valB && t 2 == some .objB && isAnn (t 3) then t 3
  else if t 0 == some .valB && t 1 == some .objB && isAnn (t 2) then t 2
  else if t 0 == some .objB && isAnn (t 1) then t 1
  else none

def foundObjectEnd (s : Sc) : M Sc := do
  let s := found s .objE
  let s ← restoreContext s
  let s := { s with step := .endValue }
  if s.ann == .none then return s
  match isFoundLastObjectEndOnAnnotation s with
  | some .inlAnnB => pure { s with step := .inlTxtPrefix }
  | some .mlAnnB => pure { s with step := .mlTxtPrefix }
  | some _ => throw (.crash "Incorrect annotation begin in stack")
  | none => pure s

def foundArrayEnd (s : Sc) : M Sc := do
  let s := if s.ann == .none then { s with allowAnnotation := !s.ctx.arrayHasItem } else s
  let s := found s .arrE
  let s ← restoreContext s
  pure { s with step := if s.stack.isEmpty then .endTop else .endValue }

def finishShortcut (s : Sc) : M Sc := do
  let s := found s .tsE
  match s.ctx.ty with
  | .object => pure { (found (found s .mixE) .valE) with step := .afterValue }
  | .array => pure { (found (found s .mixE) .itemE) with step := .afterItem }
  | .shortcut => restoreContext { (found s .mixE) with step := .endTop }
  | .initial => throw (.crash "Unexpected context")

/-- hex escape helper -/
def hexStep (s : Sc) (c : Cls) (next : St) : M Sc :=
  if c.isHex then pure { s with step := next } else throw (errChar s "in \\u hexadecimal character escape")

def expect (s : Sc) (c want : Cls) (next : St) (clearUnf : Bool) (msg : String) : M Sc :=
  if c == want then pure { s with step := next, unf := if clearUnf then false else s.unf } else throw (errChar s msg)

mutual
/-- One call `s.step(s, c)`. `p1`, `p2` are `s.data[s.index]`, `s.data[s.index+1]` when in range.
`fuel` bounds the re-dispatch depth (`return s.step(s, c)`), which is at most 4 in the code. -/
def dispatch (fuel : Nat) (which : St) (s : Sc) (c : Cls) (p1 p2 : Option Cls) : M Sc :=
  match fuel with
  | 0 => throw (.crash "re-dispatch fuel exhausted")
  | fuel + 1 =>
  -- `return s.step(s, c)` after the callee assigned `s.step`
  let redispatch (s : Sc) : M Sc := dispatch fuel s.step s c p1 p2
  match which with
  | .guard inner =>
      -- the closure stays in `s.step` unless `inner` assigns a new step function
      if c == .slash then throw (errChar s "after inline annotation")
      else dispatch fuel inner s c p1 p2
  | .foundRoot => do
      if c == .slash then return ← switchToAnnotation s
      if isCommentStart s c then return ← switchToComment s
      let (r, s) ← beginValue s c
      match r with
      | .obj => pure (setContext (found s .objB) { ty := .object })
      | .arr => pure (setContext (found s .arrB) { ty := .array })
      | .lit => pure (found s .litB)
      | .ts => pure (setContext (found (found s .mixB) .tsB) { ty := .shortcut })
      | .cont => pure s
  | .objKeyOrEmpty => do
      if ← isNewLineM s c then return found s .newLine
      if c.isBlank then return s
      if c == .slash then return ← switchToAnnotation s
      if isCommentStart s c then return ← switchToComment s
      if c == .at then return ← beginKeyShortcut s
      if s.ann == .none then
        -- stateBeginKeyOrEmpty
        let s := { s with allowAnnotation := true }
        if c == .rbrace then foundObjectEnd s
        else beginString (found s .keyB) c
      else beginAnnKeyOrEmpty s c
  | .objKey => do
      if ← isNewLineM s c then
        let s := found s .newLine
        let s := if s.ann == .none then { s with allowAnnotation := true } else s
        return { s with step := .objKeyAfterNL }
      if c.isBlank then return s
      if c == .slash then return ← switchToAnnotation s
      if isCommentStart s c then return ← switchToComment s
      if c == .at then return ← beginKeyShortcut s
      if s.ann == .none then
        let s ← beginString s c
        pure (found s .keyB)
      else beginAnnKeyOrEmpty s c
  | .objKeyAfterNL => do
      if ← isNewLineM s c then return found s .newLine
      if c.isBlank then return s
      if isCommentStart s c then return ← switchToComment s
      if c == .at then return ← beginKeyShortcut s
      if s.ann == .none then
        let s ← beginString s c
        pure (found s .keyB)
      else beginAnnKeyOrEmpty s c
  | .objValue => do
      let (r, s) ← beginValue s c
      match r with
      | .lit => pure (found (found s .valB) .litB)
      | .obj => pure (setContext (found (found s .valB) .objB) { ty := .object })
      | .arr => pure (setContext (found (found s .valB) .arrB) { ty := .array })
      | .ts => pure (found (found (found s .valB) .mixB) .tsB)
      | .cont => pure s
  | .arrItemOrEmpty => do
      if ← isNewLineM s c then return found s .newLine
      if isCommentStart s c then return ← switchToComment s
      -- stateBeginArrayItemOrEmpty
      if c == .rbrack then return ← foundArrayEnd s
      let s := if s.ann == .none && !c.isBlank then { s with ctx := { s.ctx with arrayHasItem := true } } else s   -- F-13
      let (r, s) ← beginValue s c
      arrItemFinds r s
  | .arrItem => do
      let s := if c.isNewLine && s.ann == .none then { s with allowAnnotation := true } else s   -- F-12
      if isCommentStart s c then return ← switchToComment s
      let (r, s) ← beginValue s c
      arrItemFinds r s
  | .keyShortcut =>
      if c.isName then pure s else endValue fuel s c p1 p2
  | .endValue => endValue fuel s c p1 p2
  | .afterKey => do
      let nl ← isNewLineM s c
      let s := if nl then found s .newLine else s
      if c.isBlank then return s
      if c == .slash then return ← switchToAnnotation s
      if c == .colon then return { s with step := .objValue }
      throw (errChar s "after object key")
  | .afterValue => do
      if ← isNewLineM s c then return found s .newLine
      if c.isBlank then return s
      if c == .slash then return ← switchToAnnotation s
      if isCommentStart s c then return ← switchToComment s
      if c == .comma then return { s with step := .objKey }
      if c == .rbrace then return ← foundObjectEnd s
      throw (errChar s "after object key:value pair")
  | .afterItem => do
      if ← isNewLineM s c then return found s .newLine
      if c.isBlank then return s
      if c == .slash then return ← switchToAnnotation s
      if isCommentStart s c then return ← switchToComment s
      if c == .comma then return { s with step := .arrItem }
      if c == .rbrack then return ← foundArrayEnd s
      throw (errChar s "after array item")
  | .endTop => do
      if s.hasTrailing then return found s .endTop      -- fix: the deferred end-top is delivered first
      if ← isNewLineM s c then return found s .newLine
      if c == .slash then return ← switchToAnnotation s
      if isCommentStart s c then return ← switchToComment s
      if !c.isBlank then
        if s.lengthComputing then
          if !s.stack.isEmpty then return { s with hasTrailing := true }
          return found s .endTop
        else if s.ann == .none then throw (errChar s "non-space byte after top-level value")
      pure s
  | .inString =>
      match c with
      | .quote => pure { s with step := .endValue, unf := false }
      | .bslash => pure { s with step := .esc }
      | _ => if c.isLow then throw (errChar s "in string literal") else pure s
  | .esc =>
      match c with
      | .lb | .lf | .ln | .lr | .lt | .bslash | .slash | .quote => pure { s with step := .inString }
      | .lu => pure { s with ret := .inString :: s.ret, step := .u0 }
      | _ => throw (errChar s "in string escape code")
  | .u0 => hexStep s c .u1
  | .u1 => hexStep s c .u2
  | .u2 => hexStep s c .u3
  | .u3 => do
      if c.isHex then
        let (r, s) ← popRet s
        pure { s with step := r }
      else throw (errChar s "in \\u hexadecimal character escape")
  | .neg =>
      match c with
      | .zero => pure { s with step := .d0, unf := false }
      | .d19 => pure { s with step := .d1, unf := false }
      | _ => throw (errChar s "in numeric literal")
  | .d1 => if c.isDigit then pure { s with step := .d1 } else state0 fuel s c p1 p2
  | .d0 => state0 fuel s c p1 p2
  | .dot => if c.isDigit then pure { s with unf := false, step := .dot0 }
            else throw (errChar s "after decimal point in numeric literal")
  | .dot0 =>
      if c.isDigit then pure s
      else if c == .le || c == .uE then throw (errChar s "isn't allowed 'cause not obvious it's a float or an integer")
      else endValue fuel s c p1 p2
  | .t => expect s c .lr .tr false "in literal true (expecting 'r')"
  | .tr => expect s c .lu .tru false "in literal true (expecting 'u')"
  | .tru => expect s c .le .endValue true "in literal true (expecting 'e')"
  | .f => expect s c .la .fa false "in literal false (expecting 'a')"
  | .fa => expect s c .ll .fal false "in literal false (expecting 'l')"
  | .fal => expect s c .ls .fals false "in literal false (expecting 's')"
  | .fals => expect s c .le .endValue true "in literal false (expecting 'e')"
  | .n => expect s c .lu .nu false "in literal null (expecting 'u')"
  | .nu => expect s c .ll .nul false "in literal null (expecting 'l')"
  | .nul => expect s c .ll .endValue true "in literal null (expecting 'l')"
  | .tsBeginName =>
      if c.isName then pure { s with unf := false, step := .tsName }      -- F-7d
      else throw (errChar s "in schema name")
  | .tsName => do
      if c == .slash then return ← switchToAnnotation (← finishShortcut s)
      if isCommentStart s c then return ← switchToComment (← finishShortcut s)
      if c.isName then pure { s with step := .tsName }
      else if c.isSpace then pure { s with step := .tsBeforePipe }
      else if c == .pipe then pure { s with unf := true, step := .tsAfterPipe }   -- F-7d
      else endValue fuel s c p1 p2
  | .tsBeforePipe => do
      if c == .slash then return ← switchToAnnotation (← finishShortcut s)
      if isCommentStart s c then return ← switchToComment (← finishShortcut s)
      if c.isSpace then pure { s with step := .tsBeforePipe }
      else if c == .pipe then pure { s with unf := true, step := .tsAfterPipe }   -- F-7d
      else redispatch { s with step := .endValue, unf := false }
  | .tsAfterPipe =>
      match c with
      | .sp | .tab => pure { s with step := .tsAfterPipe }
      | .at => pure { s with step := .tsBeginName }
      | _ => throw (errChar s "expects ' ', '\\t', or '@'")
  | .anyCommentStart =>
      if c != .hash then
        let s := { s with ann := .none, step := .inlineComment }
        if c.isNewLine then do      -- empty comment: the line break ends it (fix "empty user comment")
          let (r, s) ← popRet s
          pure { (found s .newLine) with step := r, index := s.index - 1 }
        else pure s
      else if p1 == some .hash then pure { s with ann := .none, step := .multiLineComment }   -- F-7a: bounds-checked
      else throw (errChar s "after first #")
  | .inlineComment => do
      if c.isNewLine then
        let (r, s) ← popRet s
        pure { (found s .newLine) with step := r, index := s.index - 1 }
      else pure s
  | .multiLineComment => do
      -- `(s.index + 1) < s.dataSize` holds iff both look-ahead bytes exist
      if c == .hash && p1 == some .hash && p2 == some .hash then
        let (r, s) ← popRet s
        pure { s with step := r, index := s.index + 2 }
      else pure s
  | .anyAnnStart =>
      match c with
      | .slash => pure { (found s .inlAnnB) with ann := .inline, step := .inlAnn }
      | .star => pure { (found s .mlAnnB) with ann := .multi, step := .mlAnn }
      | _ => throw (errChar s "after first slash")
  | .inlAnnStart =>
      if c != .slash then throw (errChar s "after first slash on start inline annotation")
      else pure { (found s .inlAnnB) with ann := .inline, step := .inlAnn }
  | .inlAnn =>
      match c with
      | .sp | .tab => pure s
      | .lbrace => dispatch fuel .foundRoot s c p1 p2     -- `return stateFoundRootValue(s, c)`
      | _ => redispatch { (found s .inlTxtB) with step := .inlTxt }
  | .inlTxtPrefix => do
      if c.isSpace then pure s
      else if c.isNewLine then
        let s := found (found s .inlAnnE) .newLine
        let (r, s) ← popRet s
        let s := { s with step := r, ann := .none }
        pure (if isInsideMultiLine s then { s with ann := .multi } else s)
      else if isCommentStart s c then switchToComment s
      else if c == .minus then pure { s with step := .inlTxtPrefix2 }
      else throw (errChar s "after object in inline annotation")
  | .inlTxtPrefix2 =>
      if c.isSpace then pure s
      else redispatch { (found s .inlTxtB) with step := .inlTxt }
  | .inlTxt => do
      if c.isNewLine then
        let s := found (found (found s .inlTxtE) .inlAnnE) .newLine
        let (fn, s) ← popRet s
        let s := { s with step := .guard fn, ann := .none }
        pure (if isInsideMultiLine s then { s with ann := .multi } else s)
      else if c == .hash then
        if !isInsideMultiLine s then pure { (found (found s .inlTxtE) .inlAnnE) with step := .inlTxtSkip }
        else pure s
      else pure s
  | .inlTxtSkip => do
      if !c.isNewLine then return s
      let s := found s .newLine
      let (fn, s) ← popRet s
      let s := { s with step := .guard fn, ann := .none }
      pure (if isInsideMultiLine s then { s with ann := .multi } else s)
  | .mlAnn => do
      if ← isNewLineM s c then return found s .newLine
      if c.isBlank then return s
      if c == .lbrace then return ← dispatch fuel .foundRoot s c p1 p2
      redispatch { (found s .mlTxtB) with step := .mlTxt }
  | .mlTxtPrefix => do
      if c.isNewLine then pure (found s .newLine)
      else if c.isSpace then pure s
      else if isCommentStart s c then switchToComment s
      else if c == .star then pure { s with step := .mlAnnEnd }
      else if c == .minus then pure { s with step := .mlTxtPrefix2 }
      else throw (errChar s "after object in multi-line annotation")
  | .mlTxtPrefix2 =>
      if c.isSpace then pure s
      else redispatch { (found s .mlTxtB) with step := .mlTxt }
  | .mlAnnEnd => do
      if c != .slash then throw (errChar s "in multi-line annotation after \"*\" character")
      let s := found { s with ann := .none } .mlAnnE
      let (r, s) ← popRet s
      pure { s with step := r }
  | .mlTxt =>
      if c == .star && p1 == some .slash then pure { (found s .mlTxtE) with step := .mlAnnEnd }   -- F-7a
      else pure s
  | .annKeyFirst =>
      if (!s.boundaryQuote && (c == .colon || c.isNewLine || c == .bslash)) || (s.boundaryQuote && c == .quote) || c.isLow then
        throw (.invalidKeyChar (s.index - 1))
      else pure { s with step := .annKey }
  | .annKey =>
      if !s.boundaryQuote && c == .colon then endValue fuel s c p1 p2
      else if s.boundaryQuote && c == .quote then pure { s with step := .endValue }
      else if c == .sp then pure { s with step := .annKeyAfter }
      else if c.isLow || c == .quote || c.isNewLine then throw (.invalidKeyChar (s.index - 1))
      else pure s
  | .annKeyAfter =>
      if !s.boundaryQuote && c == .colon then endValue fuel s c p1 p2
      else if c == .sp then pure s
      else throw (.invalidKeyChar (s.index - 1))

/-- `s.step(s, c)` -/
def dispatch' (fuel : Nat) (s : Sc) (c : Cls) (p1 p2 : Option Cls) : M Sc := dispatch fuel s.step s c p1 p2

/-- ArrayItemBegin + value begin finds -/
def arrItemFinds (r : BV) (s : Sc) : M Sc :=
  match r with
  | .lit => pure (found (found s .itemB) .litB)
  | .obj => pure (setContext (found (found s .itemB) .objB) { ty := .object })
  | .arr => pure (setContext (found (found s .itemB) .arrB) { ty := .array })
  | .ts => pure (found (found (found s .itemB) .mixB) .tsB)
  | .cont => pure s

/-- stateBeginAnnotationObjectKeyOrEmpty / stateBeginAnnotationObjectKey -/
def beginAnnKeyOrEmpty (s : Sc) (c : Cls) : M Sc := do
  if c == .rbrace then return ← foundObjectEnd s
  let s := found s .keyB
  if c == .quote then pure { s with boundaryQuote := true, step := .inString }
  else
    -- stateInAnnotationObjectKeyFirstLetter(s, c) with boundary = 0
    let s := { s with boundaryQuote := false, step := .annKeyFirst }
    if c == .colon || c.isNewLine || c == .bslash || c.isLow then throw (.invalidKeyChar (s.index - 1))
    else pure { s with step := .annKey }

/-- state0 -/
def state0 (fuel : Nat) (s : Sc) (c : Cls) (p1 p2 : Option Cls) : M Sc :=
  if c == .dot then pure { s with unf := true, step := .dot }
  else if c == .le || c == .uE then throw (errChar s "isn't allowed 'cause not obvious it's a float or an integer")
  else endValue fuel s c p1 p2

/-- stateEndValue -/
def endValue (fuel : Nat) (s : Sc) (c : Cls) (p1 p2 : Option Cls) : M Sc := do
  let len := s.stack.length
  if len == 0 then return ← dispatch' fuel { s with step := .endTop } c p1 p2
  let t0 := stackTy s 0
  let (s, t) ←
    if t0 == some .litB then
      let s := found s .litE
      if len == 1 then return ← dispatch' fuel { s with step := .endTop } c p1 p2
      pure (s, stackTy s 1)
    else pure (s, t0)
  match t with
  | some .keyB => dispatch' fuel { (found s .keyE) with step := .afterKey } c p1 p2
  | some .ksB => dispatch' fuel { (found s .ksE) with step := .afterKey } c p1 p2
  | some .valB => dispatch' fuel { (found s .valE) with step := .afterValue } c p1 p2
  | some .itemB => dispatch' fuel { (found s .itemE) with step := .afterItem } c p1 p2
  | some .tsB => do
      let s ← finishShortcut s
      dispatch' fuel s c p1 p2
  | _ =>
    if s.lengthComputing && t == some .inlAnnB then
      match s.stack with
      | _ :: rest => do
        let s := { s with ann := .none, stack := rest }
        let (r, s) ← popRet s
        dispatch' fuel { s with step := r } c p1 p2
      | [] => throw (.crash "Reading from empty stack")
    else throw (errChar s "at the end of value")
end

end SchemaScan
