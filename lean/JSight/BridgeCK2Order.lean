import JSight.BridgeCK
/-!
Bridge (A)∩(C): the ORDER in which the two checkers visit the named types.
(A) sorts the type names with Lean's `String <` (`Compile.sortNames`: `sort.Strings`), (C) sorts the entries with
`CK.typeGoesFirst` (on named types bytewise `<` on the names; the order of `check_schema.go` with fix F-34 of /repo, DESIGN.md §15). On names whose characters are single bytes (every type name
the scanner lets through is ASCII) the two comparisons are the same function (`strLt_bytesLt`), `name` is injective
(`name_inj`) and of two different names exactly one goes first (`bytesLt_total`): what `BridgeCK2Types` needs to show
that the two visits are the same list of entries (`sort_entries`).
-/
namespace BridgeCK
open Compile

/-- every character of the string is one byte (code point < 256; ASCII type names are) -/
def byteChars (s : String) : Prop := ∀ c ∈ s.toList, c.toNat < 256

instance (s : String) : Decidable (byteChars s) := by unfold byteChars; infer_instance

def toByte (c : Char) : UInt8 := UInt8.ofNat c.toNat

theorem strBytes_eq (s : String) : strBytes s = s.toList.map toByte := rfl

theorem toByte_toNat (c : Char) (h : c.toNat < 256) : (toByte c).toNat = c.toNat := by
  unfold toByte
  simp [Nat.mod_eq_of_lt h]

theorem char_lt_iff (a b : Char) (ha : a.toNat < 256) (hb : b.toNat < 256) : a < b ↔ toByte a < toByte b := by
  rw [Char.lt_def, UInt8.lt_iff_toNat_lt, toByte_toNat a ha, toByte_toNat b hb, UInt32.lt_iff_toNat_lt]
  rfl

theorem char_eq_iff (a b : Char) (ha : a.toNat < 256) (hb : b.toNat < 256) : a = b ↔ toByte a = toByte b := by
  constructor
  · intro h; rw [h]
  · intro h
    have : (toByte a).toNat = (toByte b).toNat := by rw [h]
    rw [toByte_toNat a ha, toByte_toNat b hb] at this
    exact Char.toNat_inj.1 this

theorem list_lt_iff : (l1 l2 : List Char) → (∀ c ∈ l1, c.toNat < 256) → (∀ c ∈ l2, c.toNat < 256) →
    (l1 < l2 ↔ CK.bytesLt (l1.map toByte) (l2.map toByte) = true)
  | [], [], _, _ => by simp [CK.bytesLt, List.not_lt_nil]
  | [], b :: bs, _, _ => by simp [CK.bytesLt, List.nil_lt_cons]
  | a :: as, [], _, _ => by simp [CK.bytesLt, List.not_lt_nil]
  | a :: as, b :: bs, h1, h2 => by
    have ha := h1 a List.mem_cons_self
    have hb := h2 b List.mem_cons_self
    have ih := list_lt_iff as bs (fun c hc => h1 c (List.mem_cons_of_mem _ hc)) (fun c hc => h2 c (List.mem_cons_of_mem _ hc))
    rw [List.cons_lt_cons_iff, char_lt_iff a b ha hb, char_eq_iff a b ha hb, ih]
    simp [CK.bytesLt]

/-- (A)'s comparison of two type names is (C)'s -/
theorem strLt_bytesLt (a b : String) (ha : byteChars a) (hb : byteChars b) :
    strLt a b = CK.bytesLt (name a) (name b) := by
  unfold strLt name
  rw [strBytes_eq, strBytes_eq, Bool.eq_iff_iff, decide_eq_true_iff]
  exact list_lt_iff a.toList b.toList ha hb

theorem list_map_inj : (l1 l2 : List Char) → (∀ c ∈ l1, c.toNat < 256) → (∀ c ∈ l2, c.toNat < 256) →
    l1.map toByte = l2.map toByte → l1 = l2
  | [], [], _, _, _ => rfl
  | [], _ :: _, _, _, h => by simp at h
  | _ :: _, [], _, _, h => by simp at h
  | a :: as, b :: bs, h1, h2, h => by
    simp only [List.map_cons, List.cons.injEq] at h
    have e := (char_eq_iff a b (h1 a List.mem_cons_self) (h2 b List.mem_cons_self)).2 h.1
    rw [e, list_map_inj as bs (fun c hc => h1 c (List.mem_cons_of_mem _ hc)) (fun c hc => h2 c (List.mem_cons_of_mem _ hc)) h.2]

theorem name_inj (a b : String) (ha : byteChars a) (hb : byteChars b) (h : name a = name b) : a = b := by
  unfold name at h
  rw [strBytes_eq, strBytes_eq] at h
  exact String.toList_inj.1 (list_map_inj a.toList b.toList ha hb h)

/-- bytewise `<` is a strict total order: of two different names exactly one goes first -/
theorem bytesLt_total : (a b : List UInt8) → a ≠ b → CK.bytesLt a b = !CK.bytesLt b a
  | [], [], h => absurd rfl h
  | [], _ :: _, _ => rfl
  | _ :: _, [], _ => rfl
  | a :: as, b :: bs, h => by
    simp only [CK.bytesLt]
    by_cases e : a = b
    · subst e
      have hne : as ≠ bs := fun x => h (by rw [x])
      have ih := bytesLt_total as bs hne
      have : ¬ a < a := by
        intro hlt
        exact absurd (UInt8.lt_iff_toNat_lt.1 hlt) (Nat.lt_irrefl _)
      simp [this, ih]
    · have e' : ¬ b = a := fun x => e x.symm
      have hab : (a == b) = false := by simpa using e
      have hba : (b == a) = false := by simpa using e'
      have : a < b ↔ ¬ b < a := by
        rw [UInt8.lt_iff_toNat_lt, UInt8.lt_iff_toNat_lt]
        have : a.toNat ≠ b.toNat := fun x => e (UInt8.toNat_inj.1 x)
        omega
      by_cases hlt : a < b
      · simp [hlt, this.1 hlt, hab, hba]
      · have : b < a := by
          rw [UInt8.lt_iff_toNat_lt] at hlt ⊢
          have : a.toNat ≠ b.toNat := fun x => e (UInt8.toNat_inj.1 x)
          omega
        simp [hlt, this, hab, hba]

end BridgeCK
