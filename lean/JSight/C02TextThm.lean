import JSight.C02TextLoad
/-!
C02 at TEXT level: the composition. `loadSchema_of_node` (loaded table → creation → `compileNode`), `check_lit` (`CheckRootSchema` on a scalar root = `ValidateLiteralValue` on its own
example).
-/
namespace C02T
open Compile Lay SchemaScan

theorem isOk_mk_nil : mk [] = [] := rfl

/-- the loader's node of an annotated scalar, resolved -/
theorem resolve_addSpans (src : Array UInt8) (e : Nat) (sps vsps : List (Nat × Nat)) :
    resolve src (Loader.addSpans { kind := .lit, parent := none, value := some (0, e) } sps vsps)
      = node (Loader.slice src 0 e) (loadedRules src sps vsps) := by
  simp [resolve, Loader.addSpans, node, loadedRules]

/-- `compileNode` on the one-node table of a scalar whose `basic` succeeds -/
theorem compileNode_single (tok : Bytes) (rs : List Rule) (k : Rules.Kind) (hk : RulesF.kindOfTok tok = some k)
    (hbas : basic (node tok rs) (JT.ofKind k) false 0
      = .ok (⟨none, hasRule (filt rs) "nullable", false, none, false, .absent, litsOf (filt rs), false⟩ : Basic)) :
    compileNode #[node tok rs] false 2 0 false = .ok (.lit (compiledOf tok rs) false, none) := by
  simp only [node] at hbas
  simp only [compileNode, node, List.getElem?_toArray, List.getElem?_cons_zero, jtOf, hk, List.length_nil, hbas,
    Option.getD_some, compiledOf, kindOf]
  rfl

/-- from the loaded table to the compiled schema: a text that loads into the single literal node `tok` with rules
`rs` — positions aside the pairs `ps`, accepted by the constraint constructors and by `basic` — compiles to
`compiledOf tok (mk ps)` -/
theorem loadSchema_of_node (txt : List UInt8) (st : Loader.St) (tok : Bytes) (rs : List Rule) (ps : List Pair)
    (k : Rules.Kind) (hload : Loader.loadText txt = .ok st) (hr : st.root = some 0)
    (htbl : st.nodes.toList.map (resolve txt.toArray) = [node tok rs]) (hrules : rs.map erase = mk ps)
    (hk : RulesF.kindOfTok tok = some k) (hc : okCreate ps = true)
    (hbas : basic (node tok rs) (JT.ofKind k) false 0
      = .ok (⟨none, hasRule (filt rs) "nullable", false, none, false, .absent, litsOf (filt rs), false⟩ : Basic)) :
    E2E.loadSchema txt false = .ok (some (.lit (compiledOf tok (mk ps)) false)) := by
  have hcr : creation [node tok rs] = .ok () := by
    simp only [creation, List.foldl_cons, List.foldl_nil, node]
    apply createRules_ok_of_erase
    rw [hrules]
    exact hc
  rw [← hrules, compiledOf_erase]
  exact E2E.loadSchema_loaded (o := none) hload hr (htbl ▸ hcr) (by rw [htbl]; exact compileNode_single tok rs k hk hbas)

/-- `CheckRootSchema` + `CheckRecursion` on a scalar root: the example against its own validators -/
theorem check_lit (spec : RulesF.LitSpecF) :
    check (.lit spec false) [] = match litErr spec spec.ex with
      | some c => .error (.code c 0)
      | none => .ok () := by
  cases h : litErr spec spec.ex with
  | some c => simp [check, checkNode, h]
  | none => simp [check, checkNode, h, sortNames, checkTypes, TG.check, tgOf, toTG, TG.checkOuter]

theorem compiledOf_ex (ex : Bytes) (rs : List Rule) : (compiledOf ex rs).ex = ex := rfl

end C02T
