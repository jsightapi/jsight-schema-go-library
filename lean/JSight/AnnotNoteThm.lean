import JSight.AnnotQThm
/-!
C13, inline versus multi-line annotations with a note, on schema texts (bytes):
`tok // {rules} - note` and `tok /* {rules} - note */` load into the same node: value, rules, and the note text
(`Loader.trimSpaces` of the note token, as `GetAST` shows it).
-/
namespace Lay
open SchemaScan

/-- the schema text with a note -/
def annTextNB (a : Ann) (tok s1 s2 : List UInt8) (ob : BObj) (s3 n1 note tl : List UInt8) : List UInt8 :=
  tok ++ (s1 ++ (47 :: markB a :: (s2 ++ (123 :: (ob.body ++ (125 :: (s3 ++ (45 :: (n1 ++ (note ++ tl))))))))))

structure AnnValidN (a : Ann) (tok s1 s2 : List UInt8) (ob : BObj) (s3 n1 note tl : List UInt8) : Prop where
  base : AnnValid a tok s1 s2 ob s3 tl
  n1 : IsSpTabs (n1.map classify)
  note : IsNote (note.map classify)

/-- the node with its note -/
def annNodeN (tok : List UInt8) (names : List (List UInt8)) (note : List UInt8) : ANode :=
  { annNode tok names with note := some (Loader.trimSpaces note) }

theorem note_ne {note : List UInt8} (h : IsNote (note.map classify)) : note ≠ [] := by
  obtain ⟨⟨c, cs, he, _⟩, _⟩ := h
  intro e
  subst e
  simp at he

/-- `annot_loaded` on the text with a note -/
theorem annot_note_loaded (a : Ann) (ha : a.isAnn = true) (tok s1 s2 : List UInt8) (ob : BObj) (s3 n1 note tl : List UInt8)
    (hv : AnnValidN a tok s1 s2 ob s3 n1 note tl) :
    ∃ st, Loader.loadText (annTextNB a tok s1 s2 ob s3 n1 note tl) = .ok st ∧
      ScalarLoaded (annTextNB a tok s1 s2 ob s3 n1 note tl).toArray st tok ob.pairs (some note) := by
  have e : annTextNB a tok s1 s2 ob s3 n1 note tl
      = tok ++ (s1 ++ (47 :: markB a :: (s2 ++ (123 :: (ob.body ++ (125 :: (s3 ++ (noteB (some (n1, note)) ++ tl)))))))) := by
    simp [annTextNB, noteB]
  rw [e]
  exact annot_loaded a ha tok s1 s2 ob s3 (some (n1, note)) tl hv.base (fun _ _ h => by cases h; exact ⟨hv.n1, hv.note⟩)

/-- **an annotated top-level scalar with a note, in either form, loads into one literal node**: value, rules in
written order, the note -/
theorem load_annot_note (a : Ann) (ha : a.isAnn = true) (tok s1 s2 : List UInt8) (ob : BObj) (s3 n1 note tl : List UInt8)
    (hv : AnnValidN a tok s1 s2 ob s3 n1 note tl) :
    ∃ st, Loader.loadText (annTextNB a tok s1 s2 ob s3 n1 note tl) = .ok st ∧ st.root = some 0 ∧
      absTable (annTextNB a tok s1 s2 ob s3 n1 note tl).toArray st = [annNodeN tok ob.names note] := by
  obtain ⟨st, h1, hs⟩ := annot_note_loaded a ha tok s1 s2 ob s3 n1 note tl hv
  exact ⟨st, h1, hs.root, by rw [names_of_pairs]; exact hs.absTable⟩

/-- **inline versus multi-line, with a note**: `tok // {rules} - note` and `tok /* {rules} - note */` with the same
rules and the same note text: the same node table -/
theorem inline_vs_multiline_note (tok s1 s2 : List UInt8) (ob : BObj) (s3 n1 note tl : List UInt8)
    (s1' s2' : List UInt8) (ob' : BObj) (s3' n1' tl' : List UInt8)
    (hv : AnnValidN .inline tok s1 s2 ob s3 n1 note tl) (hv' : AnnValidN .multi tok s1' s2' ob' s3' n1' note tl')
    (hsame : ob.pairs = ob'.pairs) :
    ∃ st st', Loader.loadText (annTextNB .inline tok s1 s2 ob s3 n1 note tl) = .ok st ∧
      Loader.loadText (annTextNB .multi tok s1' s2' ob' s3' n1' note tl') = .ok st' ∧ st.root = st'.root ∧
      absTable (annTextNB .inline tok s1 s2 ob s3 n1 note tl).toArray st
        = absTable (annTextNB .multi tok s1' s2' ob' s3' n1' note tl').toArray st' := by
  obtain ⟨st, h1, h2, h3⟩ := load_annot_note .inline rfl tok s1 s2 ob s3 n1 note tl hv
  obtain ⟨st', h1', h2', h3'⟩ := load_annot_note .multi rfl tok s1' s2' ob' s3' n1' note tl' hv'
  have hn : ob.names = ob'.names := by rw [names_of_pairs, names_of_pairs, hsame]
  exact ⟨st, st', h1, h1', by rw [h2, h2'], by rw [h3, h3', hn]⟩

end Lay
