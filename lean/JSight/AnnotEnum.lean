import JSight.AnnotObj
/-!
List values inside an annotation, scanner level (the `[ literal, … ]` of `enum: […]`, property C18, and of `or` /
`allOf`). The brackets of a list inside an annotation (`aval_arrQ`, `aarr_rbrack_emptyQ`), the run over the items
(`citems_runQ`) and over a whole list value from the blanks before `[` to `]` (`list_runQ`); names in `Q`: for any
value `q` of the `boundaryQuote` flag, since a list may stand under a quoted name, `"enum": […]`. What opens and closes
an item is in `AnnotQRun` (`open_litQ`, `close_commaQ`, `close_rbrackQ` at `ck = .item`). Last, the one-rule object
`{ name : [ items ] }` (`EObj`) and its events `EObj.evs`; its run `eobj_run` is the one-rule case of `obj_runQ`
(`AnnotQObj`), and the annotated scalar that carries it (`enumAnnEvs`, `enumAnn_emits`) is in `AnnotDoc`.

The numeral `7` handed to a one-byte lemma is its fuel `f`: `cfgG_byte` asks for `dispatch 8`, the lemmas are stated at
`dispatch (f + 1)`.
-/
namespace SchemaScan

variable {data : Array Cls} {lc : Bool}

/-! ### single bytes -/

/-- `[` where a rule value is expected -/
theorem aval_arrQ (f : Nat) (q : Bool) (a : Ann) (r : List St)
    (K : List (LexT × Nat)) (i : Nat) (CS : List Ctx) (cx : Ctx) (al : Bool) (p1 p2 : Option Cls) :
    dispatch (f + 1) .objValue (cfgG lc a q .objValue r K false i CS cx al) .lbrack p1 p2
      = .ok { cfgG lc a q .arrItemOrEmpty r K false i (cx :: CS) { ty := .array } al with finds := [.valB, .arrB] } := by
  cases a <;> (unfold dispatch; rfl)

/-- `]` of an empty list -/
theorem aarr_rbrack_emptyQ (f : Nat) (q : Bool) (a : Ann) (ha : a.isAnn = true) (r : List St) (x : LexT × Nat)
    (K : List (LexT × Nat)) (i : Nat) (c0 : Ctx) (CS : List Ctx) (cx : Ctx) (al : Bool) (p1 p2 : Option Cls) :
    dispatch (f + 1) .arrItemOrEmpty (cfgG lc a q .arrItemOrEmpty r (x :: K) false i (c0 :: CS) cx al) .rbrack p1 p2
      = .ok { cfgG lc a q .endValue r (x :: K) false i CS c0 al with finds := [.arrE] } := by
  cases a <;> cases ha <;> (unfold dispatch; rfl)

/-! ### blanks between the items -/

/-- `ablank_runQ` where an item is looked for: these states stay as they are (`wsSt_eq`) -/
theorem arr_blank_runQ (a : Ann) (ha : a.isAnn = true) (q : Bool) (ws : List Cls) (hw : ABlank a ws) (st : St)
    (hl : itemSt st = true)
    (r : List St) (K : List (LexT × Nat)) (i : Nat) (CS : List Ctx) (cx : Ctx) (al : Bool) (hat : At data i ws) :
    Len.Path data (cfgG lc a q st r K false i CS cx al) (nlEvs i ws) (cfgG lc a q st r K false (i + ws.length) CS cx al) := by
  have := ablank_runQ (lc := lc) a ha q ws hw st (by cases st <;> cases hl <;> rfl) r K i CS cx al hat
  rwa [wsSt_eq (by rintro rfl; cases hl)] at this

/-! ### the items of the list -/

/-- blanks, token, blanks -/
abbrev CItem := List Cls × List Cls × List Cls

/-- the items with their separating commas, and the closing bracket -/
def renderCItems : List CItem → List Cls
  | [] => [.rbrack]
  | (w1, t, w2) :: its => w1 ++ (t ++ (w2 ++ ((if its.isEmpty then [] else [Cls.comma]) ++ renderCItems its)))

def CItemsValid (a : Ann) (its : List CItem) : Prop :=
  ∀ it ∈ its, ABlank a it.1 ∧ IsScalar it.2.1 ∧ ABlank a it.2.2

/-- events of the items that start at `o`, then the end of the array opened at `v` -/
def citemsEvs (v : Nat) : Nat → List CItem → List Ev
  | o, [] => [⟨.arrE, v, o⟩]
  | o, (w1, t, w2) :: its =>
    nlEvs o w1 ++ (⟨.itemB, o + w1.length, o + w1.length⟩ :: ⟨.litB, o + w1.length, o + w1.length⟩ ::
      ⟨.litE, o + w1.length, o + w1.length + t.length - 1⟩ :: ⟨.itemE, o + w1.length, o + w1.length + t.length - 1⟩ ::
      (nlEvs (o + w1.length + t.length) w2 ++
        citemsEvs v (o + w1.length + t.length + w2.length + (if its.isEmpty then 0 else 1)) its))

/-- the items of a list and its `]`, from a state that looks for an item to `.endValue` behind the `]` (the list is a
value that has ended). Of the two states that look for an item only `.arrItemOrEmpty`, the one behind `[`, accepts
`]`; behind a comma (`.arrItem`) an item must follow, hence the hypothesis on `its = []`. -/
theorem citems_runQ (a : Ann) (ha : a.isAnn = true) (q : Bool) (x : St) (v : Nat) (K : List (LexT × Nat)) (c0 : Ctx)
    (CS : List Ctx) (cx : Ctx) (al : Bool) : ∀ (its : List CItem), CItemsValid a its → ∀ {st : St}, itemSt st = true →
    (its = [] → st = .arrItemOrEmpty) → ∀ (o : Nat), At data o (renderCItems its) →
    Len.Path data (cfgG lc a q st [x] ((.arrB, v) :: K) false o (c0 :: CS) cx al) (citemsEvs v o its)
      (cfgG lc a q .endValue [x] K false (o + (renderCItems its).length) CS c0 al)
  | [], _, st, _, hst, o, hat => by
    rw [hst rfl]
    exact cfgG_byte hat.1 (fun p1 p2 => aarr_rbrack_emptyQ 7 q a ha [x] (.arrB, v) K _ c0 CS cx al p1 p2) rfl rfl
  | (w1, t, w2) :: its, hv, st, hst, _, o, hat => by
    obtain ⟨hw1, htk, hw2⟩ : ABlank a w1 ∧ IsScalar t ∧ ABlank a w2 := hv (w1, t, w2) (by simp)
    have hv' : CItemsValid a its := fun z hz => hv z (by simp [hz])
    have e : renderCItems ((w1, t, w2) :: its)
        = (w1 ++ t) ++ ((w2 ++ [if its.isEmpty then Cls.rbrack else Cls.comma]) ++
            (if its.isEmpty then [] else renderCItems its)) := by
      cases its with
      | nil => simp [renderCItems]
      | cons i2 r2 => simp [renderCItems]
    rw [e, At_append] at hat
    obtain ⟨hat1, hat2⟩ := hat
    rw [At_append] at hat2
    obtain ⟨hat2, hat3⟩ := hat2
    obtain ⟨stE, hp, s1⟩ := open_litQ (lc := lc) a ha q .item w1 t hw1 htk hst x ((.arrB, v) :: K) o (c0 :: CS) cx al hat1
    have hl1 : o + (w1 ++ t).length = o + w1.length + t.length := by simp only [List.length_append]; omega
    rw [hl1] at hat2 hat3
    cases its with
    | nil =>
      simp only [List.isEmpty_nil, if_true] at hat2
      have s2 := close_rbrackQ (lc := lc) a ha q hp true w2 hw2 x (o + w1.length) (o + w1.length) v K (o + w1.length + t.length)
        c0 CS cx al hat2
      refine (Len.Path.trans s1 s2).cast ?_ (cfgG_congr rfl ?_)
      -- `closersOf true .item` are the item's `litE` and `itemE` of `citemsEvs`
      · simp [citemsEvs, closersOf, CK.B, CK.E]
      · simp [renderCItems]; omega
    | cons i2 r2 =>
      simp only [List.isEmpty_cons, Bool.false_eq_true, if_false] at hat2 hat3
      have s2 := close_commaQ (lc := lc) a ha q hp true .item (by simp) w2 hw2 x (o + w1.length) (o + w1.length) ((.arrB, v) :: K)
        (o + w1.length + t.length) (c0 :: CS) cx al hat2
      have hl2 : o + w1.length + t.length + (w2 ++ [Cls.comma]).length = o + w1.length + t.length + w2.length + 1 := by
        simp only [List.length_append, List.length_cons, List.length_nil]; omega
      rw [hl2] at hat3
      have s3 := citems_runQ a ha q x v K c0 CS cx al (i2 :: r2) hv' (st := .arrItem) rfl (by intro h; cases h)
        (o + w1.length + t.length + w2.length + 1) hat3
      refine (Len.Path.trans (Len.Path.trans s1 s2) s3).cast ?_ (cfgG_congr rfl ?_)
      · simp [citemsEvs, closersOf, CK.B, CK.E, List.append_assoc]
      · simp [renderCItems]; omega

/-- **a list value**: blanks, `[`, blanks, the items, `]` — up to the closing bracket; the value's end is pending -/
theorem list_runQ (a : Ann) (ha : a.isAnn = true) (q : Bool) (b3 w0 : List Cls) (items : List CItem) (hb3 : ABlank a b3)
    (hw0 : ABlank a w0) (hits : CItemsValid a items) (x : St) (K : List (LexT × Nat)) (p : Nat) (CS : List Ctx)
    (cx : Ctx) (al : Bool) (hat : At data p (b3 ++ (Cls.lbrack :: (w0 ++ renderCItems items)))) :
    Len.Path data (cfgG lc a q .objValue [x] K false p CS cx al)
      (nlEvs p b3 ++ (⟨.valB, p + b3.length, p + b3.length⟩ :: ⟨.arrB, p + b3.length, p + b3.length⟩ ::
        (nlEvs (p + b3.length + 1) w0 ++ citemsEvs (p + b3.length) (p + b3.length + 1 + w0.length) items)))
      (cfgG lc a q .endValue [x] ((.valB, p + b3.length) :: K) false
        (p + b3.length + 1 + w0.length + (renderCItems items).length) CS cx al) := by
  rw [At_append] at hat
  obtain ⟨hat3, hlb, hat2⟩ := hat
  rw [At_append] at hat2
  obtain ⟨hatw0, hatits⟩ := hat2
  have s1 := ablank_runQ (lc := lc) a ha q b3 hb3 .objValue rfl [x] K p CS cx al hat3
  rw [wsSt_eq (by simp)] at s1
  have s2 : Len.Path data (cfgG lc a q .objValue [x] K false (p + b3.length) CS cx al)
      [⟨.valB, p + b3.length, p + b3.length⟩, ⟨.arrB, p + b3.length, p + b3.length⟩]
      (cfgG lc a q .arrItemOrEmpty [x] ((.arrB, p + b3.length) :: (.valB, p + b3.length) :: K) false
        (p + b3.length + 1) (cx :: CS) { ty := .array } al) :=
    cfgG_byte hlb (fun p1 p2 => aval_arrQ 7 q a [x] _ (p + b3.length + 1) CS cx al p1 p2) rfl rfl
  have s3 := arr_blank_runQ (lc := lc) a ha q w0 hw0 .arrItemOrEmpty rfl [x]
    ((.arrB, p + b3.length) :: (.valB, p + b3.length) :: K) (p + b3.length + 1) (cx :: CS) { ty := .array } al hatw0
  have s4 := citems_runQ (lc := lc) a ha q x (p + b3.length) ((.valB, p + b3.length) :: K) cx CS
    { ty := .array } al items hits (st := .arrItemOrEmpty) rfl (fun _ => rfl) (p + b3.length + 1 + w0.length) hatits
  exact (Len.Path.trans (Len.Path.trans (Len.Path.trans s1 s2) s3) s4).cast (by simp) rfl

/-! ### the rule `enum: [ … ]` and its object -/

/-- the rule object `{ b1 name n2 : b3 [ w0 items ] b4 }` -/
structure EObj where
  b1 : List Cls
  name : List Cls
  n2 : Nat
  b3 : List Cls
  w0 : List Cls
  items : List CItem
  b4 : List Cls

def EObj.Valid (a : Ann) (e : EObj) : Prop :=
  ABlank a e.b1 ∧ IsName e.name ∧ ABlank a e.b3 ∧ ABlank a e.w0 ∧ CItemsValid a e.items ∧ ABlank a e.b4

/-- the text between `{` and `}` -/
def EObj.body (e : EObj) : List Cls :=
  e.b1 ++ (e.name ++ (List.replicate e.n2 Cls.sp ++ (Cls.colon :: (e.b3 ++ (Cls.lbrack :: (e.w0 ++
    (renderCItems e.items ++ e.b4)))))))

/-- offset of `[` for an object whose `{` stands at `o` -/
def EObj.arrOff (e : EObj) (o : Nat) : Nat := o + 1 + e.b1.length + e.name.length + e.n2 + 1 + e.b3.length

/-- the events of the object whose `{` stands at `o` (behind the object-begin event). The key-end event of the bare
name reaches to the byte before the colon, the `n2` spaces included: that is what the scanner delivers (`key_run_bare`) -/
def EObj.evs (e : EObj) (o : Nat) : List Ev :=
  nlEvs (o + 1) e.b1 ++ (⟨.keyB, o + 1 + e.b1.length, o + 1 + e.b1.length⟩ ::
    ⟨.keyE, o + 1 + e.b1.length, o + 1 + e.b1.length + e.name.length + e.n2 - 1⟩ ::
    (nlEvs (o + 1 + e.b1.length + e.name.length + e.n2 + 1) e.b3 ++
      (⟨.valB, e.arrOff o, e.arrOff o⟩ :: ⟨.arrB, e.arrOff o, e.arrOff o⟩ ::
        (nlEvs (e.arrOff o + 1) e.w0 ++ (citemsEvs (e.arrOff o) (e.arrOff o + 1 + e.w0.length) e.items ++
          (⟨.valE, e.arrOff o, e.arrOff o + 1 + e.w0.length + (renderCItems e.items).length - 1⟩ ::
            (nlEvs (e.arrOff o + 1 + e.w0.length + (renderCItems e.items).length) e.b4 ++
              [⟨.objE, o, o + 1 + e.body.length⟩])))))))

end SchemaScan
