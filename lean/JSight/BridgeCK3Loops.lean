import JSight.BridgeCK2Types
/-!
Bridge (A)∩(C): **the reference-following loops**. (A) `Compile.allowed` against (C) `CK.collect` /
`CK.collectNames` (`collectAllowedJsonTypes`), (A) `Compile.exampleAlts` against (C) `CK.build` / `CK.buildNames`
(`buildList`): for ANY amounts of fuel on the two sides the outcomes are related (`RelE`) — either one of the two ran out
of fuel, or both stop with the same error code, or both return and the results correspond (the same set of allowed JSON
types; the same list of alternatives, each with the same verdict on the EXAMPLE token). Induction on (A)'s fuel; (C)'s
fuel is consumed per type entered, (A)'s per name read — no fuel bookkeeping is needed for the relation.
-/
namespace BridgeCK
open Compile

/-- outcomes of a reference-following loop, related up to fuel -/
inductive RelE {α β : Type} (R : α → β → Prop) : Except Err α → Except CK.Panic β → Prop
  | fuelA (w : String) (b : Except CK.Panic β) : RelE R (.error (.unsupported w)) b
  | fuelC (a : Except Err α) (w : String) : RelE R a (.error (.crash w))
  | ok (a : α) (b : β) (h : R a b) : RelE R (.ok a) (.ok b)
  | err (c : Nat) : RelE R (.error (.code c 0)) (.error (.raw c))

/-- a type name as it occurs in a types list: single-byte characters, not the name of an unnamed type (`#…`) -/
def nameOK (n : String) : Prop := byteChars n ∧ CK.isUnnamed (name n) = false

instance (n : String) : Decidable (nameOK n) := by unfold nameOK; infer_instance

/-- the two type tables answer alike on type names (the unnamed types `#…` of (C)'s table have no counterpart) -/
def EnvRelN (ts : Types) (env : CK.Env) : Prop :=
  ∀ n, nameOK n → env.lookup (name n) = (lookupT ts n).map fun cn => (dumpNode cn).hd

theorem envRelN_none {ts : Types} {env : CK.Env} (hE : EnvRelN ts env) (n : String) (hn : nameOK n) :
    (env.lookup (name n)).isNone = (lookupT ts n).isNone := by
  rw [hE n hn]; cases lookupT ts n <;> rfl

/-- what the reference-following loops read of the root of a named type: a literal without the `email` validator, an
`any` node as `compileNode` builds it, an array, an object, or a node with a types list of single-byte names -/
def headOK : CN → Bool
  | .lit spec _ => noEmail spec
  | .any jt lit =>
    (match lit with
     | some l => jt == JT.ofKind l.kind && l.rules.isEmpty
     | none => jt == .obj || jt == .arr)
  | .arr _ _ _ => true
  | .obj _ _ _ _ => true
  | .ref names _ _ _ _ => names.all fun n => decide (nameOK n)

theorem contains_name : (l : List String) → (n : String) → (∀ x ∈ l, byteChars x) → byteChars n →
    (l.map name).contains (name n) = l.contains n
  | [], _, _, _ => rfl
  | x :: l, n, hl, hn => by
    have ih := contains_name l n (fun y hy => hl y (List.mem_cons_of_mem _ hy)) hn
    have hx : (name n == name x) = (n == x) := by
      by_cases e : n = x
      · subst e; rw [beq_self_eq_true, beq_self_eq_true]
      · have : name n ≠ name x := fun h => e (name_inj n x hn (hl x List.mem_cons_self) h)
        rw [beq_eq_false_iff_ne.2 this, beq_eq_false_iff_ne.2 e]
    simp only [List.map_cons, List.contains_cons, ih, hx]

theorem any_undefined {ts : Types} {env : CK.Env} (hE : EnvRelN ts env) : (names : List String) →
    (∀ n ∈ names, nameOK n) →
    ((names.map name).any fun n => (env.lookup n).isNone) = !(names.all fun n => (lookupT ts n).isSome)
  | [], _ => rfl
  | n :: ns, hb => by
    have := envRelN_none hE n (hb n List.mem_cons_self)
    have ih := any_undefined hE ns (fun x hx => hb x (List.mem_cons_of_mem _ hx))
    simp only [List.map_cons, List.any_cons, List.all_cons, this, ih]
    cases lookupT ts n <;> simp

/-! ### the dump of a type root, as the loops read it -/

theorem typesList_obj (nul : Bool) (add : Add) (m : List CK.Cn) (hm : CK.typesList? m = none) :
    CK.typesList? (nulCs nul ++ addCs add ++ m) = none := by
  rw [List.append_assoc, typesList_nul, typesList_add]
  exact hm

/-- a type root without a types list has a JSON type, and its dump carries that type, is no `mixedValue` node and has no
types list: what (C)'s loops test before they take the node as it is (`collect_plain`) -/
theorem head_plain : (t : CN) → headOK t = true → notRef t = true →
    ∃ j, t.jt = some j ∧ (dumpNode t).hd.info.jt = jtOf j ∧ ((dumpNode t).hd.info.nk == CK.NK.mixedValue) = false ∧
      CK.typesList? (dumpNode t).hd.info.cs = none
  | .lit spec bad, _, _ => ⟨JT.ofKind spec.kind, rfl, by simp only [dumpNode, CK.Node.hd], by simp only [dumpNode, CK.Node.hd]; rfl, by
      simp only [dumpNode, CK.Node.hd]
      rw [typesList_append_none _ _ (typesList_litCs spec)]
      cases bad <;> rfl⟩
  | .any jt lit, h, _ => by
    refine ⟨jt, rfl, by simp only [dumpNode, CK.Node.hd], ?_, ?_⟩
    · cases lit with
      | some l =>
        simp only [headOK, Bool.and_eq_true, beq_iff_eq] at h
        rw [h.1]
        simp only [dumpNode, CK.Node.hd]
        cases l.kind <;> rfl
      | none =>
        simp only [headOK, Bool.or_eq_true, beq_iff_eq] at h
        rcases h with h | h <;> subst h <;> rfl
    · simp only [dumpNode, CK.Node.hd]
      cases lit with
      | some l => simp only []; rw [typesList_nul]; rfl
      | none => rfl
  | .arr items nul bad, _, _ => ⟨.arr, rfl, by simp only [dumpNode, CK.Node.hd]; rfl, by simp only [dumpNode, CK.Node.hd]; rfl, by
      simp only [dumpNode, CK.Node.hd]
      rw [typesList_nul]
      cases bad <;> rfl⟩
  | .obj props add nul bad, _, _ => ⟨.obj, rfl, by simp only [dumpNode, CK.Node.hd]; rfl, by simp only [dumpNode, CK.Node.hd]; rfl, by
      simp only [dumpNode, CK.Node.hd]
      exact typesList_obj nul add _ (by cases bad <;> rfl)⟩
  | .ref _ _ _ _ _, _, h => by simp [notRef] at h

theorem collect_plain (env : CK.Env) (f : Nat) (fnd : List CK.Name) (i : CK.Info) (acc : List CK.JT)
    (hnk : (i.nk == CK.NK.mixedValue) = false) (htl : CK.typesList? i.cs = none) :
    CK.collect env (f + 1) fnd i acc = .ok (acc ++ [i.jt]) := by
  unfold CK.collect
  simp [hnk, htl]

/-! ### `collectAllowedJsonTypes` -/

/-- what `Compile.allowed` contributes for the one name in hand, whose entry is `t` -/
def hereA (ts : Types) (fA : Nat) (found : List String) (name : String) (t : CN) : Except Err (Option (List JT)) :=
  match t with
  | .ref names _ jt _ _ =>
    if jt == .mixed then
      if names.all fun n => (lookupT ts n).isSome then .ok none else .error (.code 1302 0)
    else allowed ts fA (name :: found) names
  | t => .ok (some (t.jt.toList))

/-- one step of `Compile.allowed`: the name in hand and the rest of the list, both run, the lists joined -/
def joinA (a b : Except Err (Option (List JT))) : Except Err (Option (List JT)) :=
  match a with
  | .error e => .error e
  | .ok a =>
    match b with
    | .error e => .error e
    | .ok b =>
      .ok (match a, b with
        | some x, some y => some (x ++ y)
        | _, _ => none)

theorem allowed_cons (ts : Types) (fA : Nat) (found : List String) (n : String) (rest : List String) :
    allowed ts (fA + 1) found (n :: rest) =
      if found.contains n then .error (.code 1303 0)
      else match lookupT ts n with
        | none => .error (.code 1302 0)
        | some t => joinA (hereA ts fA found n t) (allowed ts fA found rest) := by
  rfl

theorem collectNames_cons (rec : List CK.Name → CK.Info → List CK.JT → Except CK.Panic (List CK.JT)) (env : CK.Env)
    (found : List CK.Name) (n : CK.Name) (ns : List CK.Name) (acc : List CK.JT) :
    CK.collectNames rec env found (n :: ns) acc =
      if found.contains n then .error (.raw 1303)
      else match env.lookup n with
        | none => .error (.raw 1302)
        | some t =>
          rec (n :: found) t.info acc >>= fun acc' => CK.collectNames rec env found ns acc' := by
  rw [CK.collectNames]
  cases found.contains n
  · cases env.lookup n with
    | none => rfl
    | some t =>
      simp only [Bool.false_eq_true, if_false]
      cases rec (n :: found) t.info acc <;> rfl
  · rfl

/-- (A) returns the JSON types of this list (`none` = every type), (C) appends them to its accumulator -/
def RAllowed (acc : List CK.JT) : Option (List JT) → List CK.JT → Prop
  | some x, l => l = acc ++ x.map jtOf
  | none, l => ∃ l', l = acc ++ l' ∧ ∀ j ∈ CK.allTypes, j ∈ l'

theorem collect_step {acc : List CK.JT} {hA : Except Err (Option (List JT))} {hC : Except CK.Panic (List CK.JT)}
    (hrel : RelE (RAllowed acc) hA hC) {rA : Except Err (Option (List JT))}
    {rC : List CK.JT → Except CK.Panic (List CK.JT)} (hrest : ∀ acc', RelE (RAllowed acc') rA (rC acc')) :
    RelE (RAllowed acc) (joinA hA rA) (hC >>= rC) := by
  cases hrel with
  | fuelA w b => exact .fuelA _ _
  | fuelC a w => exact .fuelC _ _
  | err c => exact .err c
  | ok a l h =>
    have h2 := hrest l
    show RelE (RAllowed acc) (joinA (.ok a) rA) (rC l)
    generalize rC l = rc at h2
    cases h2 with
    | fuelA w b => exact .fuelA _ _
    | fuelC a' w => exact .fuelC _ _
    | err c => exact .err c
    | ok b l2 h2 =>
      refine .ok _ _ ?_
      cases a with
      | some x =>
        cases b with
        | some y =>
          simp only [RAllowed] at h h2 ⊢
          rw [h2, h]; simp
        | none =>
          simp only [RAllowed] at h h2 ⊢
          obtain ⟨l', e, hl'⟩ := h2
          exact ⟨x.map jtOf ++ l', by rw [e, h]; simp, fun j hj => List.mem_append_right _ (hl' j hj)⟩
      | none =>
        simp only [RAllowed] at h
        obtain ⟨l', e, hl'⟩ := h
        cases b with
        | some y =>
          simp only [RAllowed] at h2 ⊢
          exact ⟨l' ++ y.map jtOf, by rw [h2, e]; simp, fun j hj => List.mem_append_left _ (hl' j hj)⟩
        | none =>
          simp only [RAllowed] at h2 ⊢
          obtain ⟨l'', e2, _⟩ := h2
          exact ⟨l' ++ l'', by rw [e2, e]; simp, fun j hj => List.mem_append_left _ (hl' j hj)⟩

theorem hereA_plain (ts : Types) (fA : Nat) (found : List String) (n : String) (t : CN) (h : notRef t = true) :
    hereA ts fA found n t = .ok (some t.jt.toList) := by
  cases t <;> first | rfl | simp [notRef] at h

/-- **`Compile.allowed` and `CK.collectNames` are related, whatever the fuel** -/
theorem collect_rel (ts : Types) (env : CK.Env) (hE : EnvRelN ts env)
    (hT : ∀ n cn, lookupT ts n = some cn → headOK cn = true) :
    ∀ (fA fC : Nat) (found names : List String) (acc : List CK.JT), (∀ n ∈ names, nameOK n) →
      (∀ n ∈ found, nameOK n) →
      RelE (RAllowed acc) (allowed ts fA found names)
        (CK.collectNames (CK.collect env fC) env (found.map name) (names.map name) acc)
  | 0, _, _, _, _, _, _ => .fuelA _ _
  | fA + 1, _, found, [], acc, _, _ => .ok _ _ (by simp [RAllowed])
  | fA + 1, fC, found, n :: rest, acc, hn, hf => by
    have hnb : nameOK n := hn n List.mem_cons_self
    have hrestb : ∀ x ∈ rest, nameOK x := fun x hx => hn x (List.mem_cons_of_mem _ hx)
    rw [allowed_cons, List.map_cons, collectNames_cons, contains_name found n (fun x hx => (hf x hx).1) hnb.1, hE n hnb]
    cases hc : found.contains n
    · simp only [Bool.false_eq_true, if_false]
      cases hl : lookupT ts n with
      | none => exact .err 1302
      | some t =>
        have hh := hT n t hl
        simp only [Option.map_some]
        have hrest : ∀ acc', RelE (RAllowed acc') (allowed ts fA found rest)
            (CK.collectNames (CK.collect env fC) env (found.map name) (rest.map name) acc') :=
          fun acc' => collect_rel ts env hE hT fA fC found rest acc' hrestb hf
        cases fC with
        | zero => exact .fuelC _ _
        | succ fC' =>
          refine collect_step ?_ hrest
          by_cases hnr : notRef t = true
          · obtain ⟨j, hj, hjt, hnk, htl⟩ := head_plain t hh hnr
            rw [hereA_plain ts fA found n t hnr, collect_plain env fC' _ _ acc hnk htl, hj, hjt]
            exact .ok _ _ (by simp [RAllowed])
          · obtain ⟨names', nul, jt, ex, os, rfl⟩ := ref_of_not_notRef t hnr
            have hb' : ∀ x ∈ names', nameOK x := by
              simpa [headOK] using hh
            by_cases hm : jt = .mixed
            · subst hm
              have hC : CK.collect env (fC' + 1) (name n :: found.map name)
                  (dumpNode (.ref names' nul .mixed ex os)).hd.info acc =
                  if (names'.map name).any (fun x => (env.lookup x).isNone) then .error (.raw 1302)
                  else .ok (acc ++ CK.allTypes) := by
                unfold CK.collect
                simp only [dumpNode, CK.Node.hd, nkOfJT, beq_self_eq_true, if_true]
                rfl
              rw [hC, any_undefined hE names' hb']
              simp only [hereA, beq_self_eq_true, if_true]
              cases names'.all fun x => (lookupT ts x).isSome
              · exact .err 1302
              · exact .ok _ _ ⟨CK.allTypes, rfl, fun j hj => hj⟩
            · have hmb : (jt == JT.mixed) = false := by simpa using hm
              have hC : CK.collect env (fC' + 1) (name n :: found.map name)
                  (dumpNode (.ref names' nul jt ex os)).hd.info acc =
                  CK.collectNames (CK.collect env fC') env ((n :: found).map name) (names'.map name) acc := by
                unfold CK.collect
                have : (nkOfJT jt == CK.NK.mixedValue) = false := by cases jt <;> first | rfl | exact absurd rfl hm
                simp only [dumpNode, CK.Node.hd, this, Bool.false_eq_true, if_false]
                rfl
              rw [hC]
              simp only [hereA, hmb, Bool.false_eq_true, if_false]
              exact collect_rel ts env hE hT fA fC' (n :: found) names' acc hb'
                (fun x hx => by rcases List.mem_cons.1 hx with e | hx; exact e ▸ hnb; exact hf x hx)
    · simp only [if_true]
      exact .err 1303

/-! ### `buildList` -/

/-- what `Compile.exampleAlts` contributes for the one name in hand, whose entry is `t` -/
def hereB (ts : Types) (tok : Bytes) (fA : Nat) (added : List String) (name : String) (t : CN) :
    Except Err (List String × List (Option Nat)) :=
  match t with
  | .ref names _ _ _ _ => exampleAlts ts tok fA (name :: added) names
  | .lit spec _ => .ok (name :: added, [litErr spec tok])
  | .any _ (some spec) => .ok (name :: added, [litErr spec tok])
  | _ => .ok (name :: added, [some 1201])

/-- one step of `Compile.exampleAlts`: the name in hand, then the rest of the list from the set it has expanded -/
def joinB (a : Except Err (List String × List (Option Nat)))
    (rest : List String → Except Err (List String × List (Option Nat))) : Except Err (List String × List (Option Nat)) :=
  match a with
  | .error e => .error e
  | .ok (added', xs) =>
    match rest added' with
    | .error e => .error e
    | .ok (added'', ys) => .ok (added'', xs ++ ys)

theorem exampleAlts_cons (ts : Types) (tok : Bytes) (fA : Nat) (added : List String) (n : String) (rest : List String) :
    exampleAlts ts tok (fA + 1) added (n :: rest) =
      if added.contains n then exampleAlts ts tok fA added rest
      else match lookupT ts n with
        | none => .error (.code 1302 0)
        | some t => joinB (hereB ts tok fA added n t) (fun added' => exampleAlts ts tok fA added' rest) := by
  rfl

theorem buildNames_cons (rec : CK.Info → List CK.Name × List CK.Chk → Except CK.Panic (List CK.Name × List CK.Chk))
    (env : CK.Env) (n : CK.Name) (ns : List CK.Name) (added : List CK.Name) (l : List CK.Chk) :
    CK.buildNames rec env (n :: ns) (added, l) =
      if added.contains n then CK.buildNames rec env ns (added, l)
      else match env.lookup n with
        | none => .error (.raw 1302)
        | some t =>
          rec t.info (n :: added, l) >>= fun st' => CK.buildNames rec env ns st' := by
  rw [CK.buildNames]
  cases added.contains n
  · cases env.lookup n with
    | none => rfl
    | some t =>
      simp only [Bool.false_eq_true, if_false]
      cases rec t.info (n :: added, l) <;> rfl
  · rfl

/-- (A) returns the names expanded so far and one verdict per alternative, (C) the same names and one checker per
alternative: each checker gives (A)'s verdict on the EXAMPLE token -/
def RAlts (tok : Bytes) (l : List CK.Chk) (a : List String × List (Option Nat)) (c : List CK.Name × List CK.Chk) : Prop :=
  c.1 = a.1.map name ∧ (∀ n ∈ a.1, nameOK n) ∧
    ∃ chks, c.2 = l ++ chks ∧ chks.map (CK.Chk.check noOracles (lexLit tok)) = a.2

theorem build_step {tok : Bytes} {l : List CK.Chk} {hA : Except Err (List String × List (Option Nat))}
    {hC : Except CK.Panic (List CK.Name × List CK.Chk)} (hrel : RelE (RAlts tok l) hA hC)
    {rA : List String → Except Err (List String × List (Option Nat))}
    {rC : List CK.Name × List CK.Chk → Except CK.Panic (List CK.Name × List CK.Chk)}
    (hrest : ∀ added' l', (∀ n ∈ added', nameOK n) → RelE (RAlts tok l') (rA added') (rC (added'.map name, l'))) :
    RelE (RAlts tok l) (joinB hA rA) (hC >>= rC) := by
  cases hrel with
  | fuelA w b => exact .fuelA _ _
  | fuelC a w => exact .fuelC _ _
  | err c => exact .err c
  | ok a c h =>
    obtain ⟨added', xs⟩ := a
    obtain ⟨c1, c2⟩ := c
    obtain ⟨h1, h2, chks, h3, h4⟩ := h
    simp only at h1 h2 h3 h4
    subst h1 h3
    have h5 := hrest added' (l ++ chks) h2
    show RelE (RAlts tok l) (joinB (.ok (added', xs)) rA) (rC (added'.map name, l ++ chks))
    generalize rC (added'.map name, l ++ chks) = rc at h5
    have hj : joinB (.ok (added', xs)) rA =
        (match rA added' with
         | .error e => .error e
         | .ok (added'', ys) => .ok (added'', xs ++ ys)) := rfl
    rw [hj]
    generalize rA added' = ra at h5
    cases h5 with
    | fuelA w b => exact .fuelA _ _
    | fuelC a' w => exact .fuelC _ _
    | err c => exact .err c
    | ok a2 c2 h6 =>
      obtain ⟨added'', ys⟩ := a2
      obtain ⟨g1, g2, chks2, g3, g4⟩ := h6
      refine .ok _ _ ⟨g1, g2, chks ++ chks2, by rw [g3]; simp, ?_⟩
      simp only at g4
      rw [List.map_append, h4, g4]

theorem build_plain (env : CK.Env) (f : Nat) (i : CK.Info) (st : List CK.Name × List CK.Chk) (c : CK.Chk)
    (htl : CK.typesList? i.cs = none) (hc : CK.newChecker i = some c) :
    CK.build env (f + 1) i st = .ok (st.1, st.2 ++ [c]) := by
  obtain ⟨a, l⟩ := st
  unfold CK.build
  simp [htl, hc]

theorem chk_branch (tok : Bytes) : CK.Chk.check noOracles (lexLit tok) .obj = some 1201 ∧
    CK.Chk.check noOracles (lexLit tok) .arr = some 1201 := ⟨rfl, rfl⟩

/-- the alternative a type root that is not a types list contributes: (C)'s checker gives (A)'s verdict -/
theorem alt_plain (ts : Types) (tok : Bytes) (d : Rules.Kind) (hd : RulesF.kindOfTok tok = some d)
    (hen : (RulesF.enumItem tok).isSome = true) (fA : Nat) (added : List String) (n : String) :
    (t : CN) → headOK t = true → notRef t = true →
    ∃ c v, CK.newChecker (dumpNode t).hd.info = some c ∧
      hereB ts tok fA added n t = .ok (n :: added, [v]) ∧ CK.Chk.check noOracles (lexLit tok) c = v
  | .lit spec bad, h, _ => by
    refine ⟨.lit (jtOf (JT.ofKind spec.kind)) (litCs spec ++ (if bad then [.allOf] else [])), litErr spec tok, ?_, rfl, ?_⟩
    · simp only [dumpNode, CK.Node.hd]; rfl
    · rw [chk_lit]
      exact lit_tok spec tok d hd hen h _ (by cases bad <;> simp [Marker])
  | .any jt (some l), h, _ => by
    simp only [headOK, Bool.and_eq_true, beq_iff_eq, List.isEmpty_iff] at h
    obtain ⟨hj, hr⟩ := h
    subst hj
    have hcs : nulCs l.nul ++ [CK.Cn.any] = litCs l ++ [CK.Cn.any] := by simp [litCs, hr]
    have hnk : nkOfJT (JT.ofKind l.kind) = .lit := by cases l.kind <;> rfl
    refine ⟨.lit (jtOf (JT.ofKind l.kind)) (litCs l ++ [.any]), litErr l tok, ?_, rfl, ?_⟩
    · simp only [dumpNode, CK.Node.hd, hnk, hcs]; rfl
    · rw [chk_lit]
      exact lit_tok l tok d hd hen (by simp [noEmail, hr]) _ (by simp [Marker])
  | .any jt none, h, _ => by
    simp only [headOK, Bool.or_eq_true, beq_iff_eq] at h
    rcases h with h | h <;> subst h
    · exact ⟨.obj, some 1201, rfl, rfl, rfl⟩
    · exact ⟨.arr, some 1201, rfl, rfl, rfl⟩
  | .arr items nul bad, _, _ => ⟨.arr, some 1201, by simp only [dumpNode, CK.Node.hd]; rfl, rfl, rfl⟩
  | .obj props add nul bad, _, _ => ⟨.obj, some 1201, by simp only [dumpNode, CK.Node.hd]; rfl, rfl, rfl⟩
  | .ref _ _ _ _ _, _, h => by simp [notRef] at h

/-- **`Compile.exampleAlts` and `CK.buildNames` are related, whatever the fuel** -/
theorem build_rel (ts : Types) (env : CK.Env) (hE : EnvRelN ts env)
    (hT : ∀ n cn, lookupT ts n = some cn → headOK cn = true) (tok : Bytes) (d : Rules.Kind)
    (hd : RulesF.kindOfTok tok = some d) (hen : (RulesF.enumItem tok).isSome = true) :
    ∀ (fA fC : Nat) (added names : List String) (l : List CK.Chk), (∀ n ∈ names, nameOK n) →
      (∀ n ∈ added, nameOK n) →
      RelE (RAlts tok l) (exampleAlts ts tok fA added names)
        (CK.buildNames (CK.build env fC) env (names.map name) (added.map name, l))
  | 0, _, _, _, _, _, _ => .fuelA _ _
  | fA + 1, _, added, [], l, _, ha => .ok _ _ ⟨rfl, ha, [], by simp, rfl⟩
  | fA + 1, fC, added, n :: rest, l, hn, ha => by
    have hnb : nameOK n := hn n List.mem_cons_self
    have hrestb : ∀ x ∈ rest, nameOK x := fun x hx => hn x (List.mem_cons_of_mem _ hx)
    rw [exampleAlts_cons, List.map_cons, buildNames_cons, contains_name added n (fun x hx => (ha x hx).1) hnb.1, hE n hnb]
    cases hc : added.contains n
    · simp only [Bool.false_eq_true, if_false]
      cases hl : lookupT ts n with
      | none => exact .err 1302
      | some t =>
        have hh := hT n t hl
        simp only [Option.map_some]
        have hrest : ∀ added' l', (∀ x ∈ added', nameOK x) →
            RelE (RAlts tok l') (exampleAlts ts tok fA added' rest)
              (CK.buildNames (CK.build env fC) env (rest.map name) (added'.map name, l')) :=
          fun added' l' h' => build_rel ts env hE hT tok d hd hen fA fC added' rest l' hrestb h'
        have hab : ∀ x ∈ n :: added, nameOK x := fun x hx => by
          rcases List.mem_cons.1 hx with e | hx
          · exact e ▸ hnb
          · exact ha x hx
        cases fC with
        | zero => exact .fuelC _ _
        | succ fC' =>
          refine build_step ?_ hrest
          by_cases hnr : notRef t = true
          · obtain ⟨c, v, hc', hB, hv⟩ := alt_plain ts tok d hd hen fA added n t hh hnr
            obtain ⟨_, _, _, _, htl⟩ := head_plain t hh hnr
            rw [hB, build_plain env fC' _ _ c htl hc']
            exact .ok _ _ ⟨rfl, hab, [c], rfl, by simp [hv]⟩
          · obtain ⟨names', nul, jt, ex, os, rfl⟩ := ref_of_not_notRef t hnr
            have hb' : ∀ x ∈ names', nameOK x := by
              simpa [headOK] using hh
            have hC : CK.build env (fC' + 1) (dumpNode (.ref names' nul jt ex os)).hd.info (name n :: added.map name, l) =
                CK.buildNames (CK.build env fC') env (names'.map name) ((n :: added).map name, l) := by
              unfold CK.build
              simp only [dumpNode, CK.Node.hd]
              rfl
            rw [hC]
            exact build_rel ts env hE hT tok d hd hen fA fC' (n :: added) names' l hb' hab
    · simp only [if_true]
      exact build_rel ts env hE hT tok d hd hen fA fC added rest l hrestb ha

end BridgeCK
