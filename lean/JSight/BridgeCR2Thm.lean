import JSight.BridgeCR2Type
/-!
Bridge (A)∩(B): the whole of `compileNode`. The sections in front of `typeConstraint` — `enumConstraint` and
`precisionConstraint` (`enumPrec_agree`), `orConstraint` on a node with an `or` rule (`or_rows_agree`; what follows it:
`or_rest_agree`, which an `@a | @b` node needs as well) — each put their rows in front of the agreement of the rest;
`basic_agree`: `Compile.basic` + compatibility flag against `CR.compile` + `CompileAllOf` +
`checkCompatibilityOfConstraints` on the map `mapOf`.
-/
namespace BridgeCR
open Compile
open Loader (NK)

section
variable {frs : List Rule} {kind : NK} {jt : JT} {nch : Nat} {isProp : Bool} {c : CR.Ctx}
  {ra : List (Option Err)} {rb : List (Option CR.Code)}

theorem q_enum_eq : sb "\"enum\"" = CR.q_enum := by decide +kernel
theorem q_mixed_eq : sb "\"mixed\"" = CR.q_mixed := by decide +kernel

/-- the raw `type` token of the map against (A)'s test `t.val != some q` -/
theorem rawIs_mapOf (G : Good frs) (s : String) (q : Bytes) (hq : sb s = q) :
    CR.rawIs (mapOf frs) q = !(match findRule frs "type" with | some t => t.val != some (sb s) | none => false) := by
  unfold CR.rawIs
  rw [typeTok_mapOf]
  cases hft : findRule frs "type" with
  | none => rfl
  | some t =>
    obtain ⟨v, hv⟩ := G.vals t (findRule_name hft).2
    simp only [Option.map_some, hv, Option.getD_some, hq]
    by_cases h : v = q <;> simp [h]

/-- `enumConstraint`, `precisionConstraint` -/
theorem enumPrec_agree (G : Good frs) (h : Agree (outA (bNames kind frs jt isProp nch)) (CR.firstErr rb ())) :
    Agree (outA (bEnumPrec kind frs jt isProp nch))
      (CR.firstErr (CR.enumRows (mapOf frs) ++ (CR.gd (CR.precOK (mapOf frs)) 1117 :: rb)) ()) := by
  have hprec : Agree (outA (if hasRule frs "precision" then
        (match findRule frs "type" with
         | some t => if (t.val.map unq) != some (sb "decimal") then throw (.code 1117 0)
                     else bNames kind frs jt isProp nch
         | none => bNames kind frs jt isProp nch)
      else bNames kind frs jt isProp nch)) (CR.firstErr (CR.gd (CR.precOK (mapOf frs)) 1117 :: rb) ()) := by
    unfold CR.precOK
    rw [has_mapOf_named _ _ _ ct_precision, typeTok_mapOf]
    cases hasRule frs "precision"
    · exact agree_skipB rfl h
    cases hft : findRule frs "type" with
    | none => exact agree_skipB rfl h
    | some t =>
      obtain ⟨v, hv⟩ := G.vals t (findRule_name hft).2
      simp only [if_true, Option.map_some, hv, Option.getD_some, Bool.not_true, Bool.false_or]
      refine agreeA_guard ?_ fun _ => h
      by_cases hd : unq v = sb "decimal"
      · have : CR.tyOf v = .decimal := (ofBytes_decimal_iff (unq v)).2 hd
        simp [hd, this]
      · have : CR.tyOf v ≠ .decimal := fun e => hd ((ofBytes_decimal_iff (unq v)).1 e)
        simp [hd, this]
  unfold bEnumPrec CR.enumRows
  simp only []
  rw [has_mapOf_named _ _ _ ct_enum]
  cases he : hasRule frs "enum"
  · exact hprec
  · have hhe : (mapOf frs).has .enum = true := by rw [has_mapOf_named _ _ _ ct_enum, he]
    have hc := count_others frs G.known sl_enum (CR.count_enum (mapOf frs) hhe)
    have hr := rawIs_mapOf G "\"enum\"" CR.q_enum q_enum_eq
    simp only [if_true, List.cons_append, List.nil_append]
    cases hft : findRule frs "type" with
    | none =>
      rw [hft] at hprec hr
      exact agree_skipB (by rw [hr]; rfl) (agreeA_guard hc fun _ => hprec)
    | some t =>
      rw [hft] at hprec hr
      exact agreeA_guard (by rw [hr, Bool.not_not]) fun _ => agreeA_guard hc fun _ => hprec

theorem bNames_noOr (hor : hasRule frs "or" = false) :
    bNames kind frs jt isProp nch = bType kind frs jt isProp nch none false := by
  unfold bNames
  simp only [hor, Bool.false_eq_true, if_false]

/-- a node without `or`: `orConstraint` has no row on either side -/
theorem noOr_rows (hor : hasRule frs "or" = false)
    (h : Agree (outA (bEnumPrec kind frs jt isProp nch))
      (CR.firstErr (CR.enumRows (mapOf frs) ++ (CR.gd (CR.precOK (mapOf frs)) 1117 ::
        (CR.typeRows c (mapOf frs) ++ CR.tailRows c (CR.typeNext (mapOf frs))))) ())) :
    Agree (outA (basicF kind frs jt isProp nch)) (CR.firstErr (CR.nodeRows c (mapOf frs)) ()) := by
  have ho : (mapOf frs).has .or = false := by rw [has_mapOf_named _ _ _ ct_or, hor]
  unfold basicF CR.nodeRows CR.orRows CR.orNext
  simp only [hor, ho, Bool.false_eq_true, if_false, List.nil_append]
  exact h

/-! ### a node with an `or` rule -/

/-- beside `or`, `optional`, `nullable`, `type`: the map after `orConstraint`, and after `typeConstraint` on it -/
theorem relT_delOr {r0 : Rule} (hfo : findRule frs "or" = some r0) (m : CR.CMap)
    (hm : (m = (mapOf frs).del .or ∧ findRule frs "type" = none) ∨ m = ((mapOf frs).del .or).del .type) :
    RelT frs false none true m := by
  have hp : ∀ k, k ≠ .type → k ≠ .or → m k = mapOf frs k := fun k a b => by
    rcases hm with ⟨rfl, _⟩ | rfl
    · exact CR.del_other _ b
    · rw [CR.del_other _ a, CR.del_other _ b]
  refine ⟨fun k a b _ _ _ _ => hp k a b, ?_, ?_, ?_, ?_, ?_, ?_⟩
  · rcases hm with ⟨rfl, ht⟩ | rfl
    · rw [CR.del_other _ (by decide), mapOf_named frs .type "type" ct_type, ht]; rfl
    · exact CR.del_same _ _
  · rcases hm with ⟨rfl, _⟩ | rfl
    · exact CR.del_same _ _
    · rw [CR.del_other _ (by decide)]; exact CR.del_same _ _
  · rw [hp _ (by decide) (by decide), mapOf_unnamed frs .uuid rfl]; rfl
  · rw [hp _ (by decide) (by decide), mapOf_unnamed frs .date rfl]; rfl
  · rw [hp _ (by decide) (by decide), mapOf_unnamed frs .any rfl]; rfl
  · rw [hp _ (by decide) (by decide), mapOf_named frs .typesList "or" ct_typesList, hfo]; rfl

/-- after the checks of `orConstraint`: beside `or`, `optional`, `nullable`, `type` there is neither `enum` nor
`precision`, a `type` rule says `"mixed"`, and the end of `compileNode` has nothing left to object to but `optional` -/
theorem or_rest_agree (G : Good frs) (hprop : c.isProp = isProp) {r0 : Rule} (hfo : findRule frs "or" = some r0)
    (hres : others frs ["or", "optional", "nullable", "type"] = 0) (ns : List String) (orShort : Bool)
    (hbn : bNames kind frs jt isProp nch = bType kind frs jt isProp nch (some ns) orShort)
    (hmixed : ∀ t, findRule frs "type" = some t →
      t.val = some (sb "\"mixed\"") ∧ 2 ≤ ns.length ∧ 2 ≤ CR.typesLen (mapOf frs)) :
    Agree (outA (bEnumPrec kind frs jt isProp nch))
      (CR.firstErr (CR.enumRows ((mapOf frs).del .or) ++ (CR.gd (CR.precOK ((mapOf frs).del .or)) 1117 ::
        (CR.typeRows c ((mapOf frs).del .or) ++ CR.tailRows c (CR.typeNext ((mapOf frs).del .or))))) ()) := by
  have hen := absent_of_others frs _ hres "enum" (by decide +kernel)
  have hpr := absent_of_others frs _ hres "precision" (by decide +kernel)
  have e1 : CR.enumRows ((mapOf frs).del .or) = [] := by
    unfold CR.enumRows; rw [CR.has_del_other _ (by decide), has_mapOf_named _ _ _ ct_enum, hen]; rfl
  have e2 : CR.precOK ((mapOf frs).del .or) = true := by
    unfold CR.precOK; rw [CR.has_del_other _ (by decide), has_mapOf_named _ _ _ ct_precision, hpr]; rfl
  rw [e1, e2]
  refine agree_skipB rfl ?_
  unfold bEnumPrec
  simp only [hen, hpr, Bool.false_eq_true, if_false]
  rw [hbn]
  unfold bType CR.typeRows CR.typeNext
  rw [CR.typeTok_del _ _ (by decide), typeTok_mapOf]
  cases hft : findRule frs "type" with
  | none => exact tail_tl (relT_delOr hfo _ (Or.inl ⟨rfl, hft⟩)) G hprop hres ns
  | some t =>
    obtain ⟨hv, hl, hl'⟩ := hmixed t hft
    have hu1 : unq (sb "\"mixed\"") = sb "mixed" := by decide +kernel
    have hu2 : isUserTypeName (sb "mixed") = false := by decide +kernel
    have hu3 : CR.tyOf (sb "\"mixed\"") = .mixed := by decide +kernel
    have hl2 : ¬ ns.length < 2 := by omega
    have hl3 : 2 ≤ CR.typesLen ((mapOf frs).del .or) := by
      unfold CR.typesLen at hl' ⊢; rw [CR.typesUsers_del _ _ (by decide)]; exact hl'
    simp only [Option.map_some, hv, Option.getD_some, hu1, hu2, hu3, Bool.false_eq_true, if_false, beq_self_eq_true, if_true,
      CR.tyRows, CR.tyAdd, List.cons_append, List.nil_append, hl2, hl3, decide_true]
    exact agree_skipB rfl (tail_tl (relT_delOr hfo _ (Or.inr rfl)) G hprop hres ns)

/-- `orConstraint` on a node with a JSON kind, and what follows -/
theorem or_rows_agree (G : Good frs) (hng : ∀ r ∈ frs, r.gen = false) (C : CtxOK kind jt nch isProp c)
    (hor : hasRule frs "or" = true) :
    Agree (outA (basicF kind frs jt isProp nch)) (CR.firstErr (CR.nodeRows c (mapOf frs)) ()) := by
  obtain ⟨r0, hfo⟩ := findRule_some_of frs "or" hor
  obtain ⟨r0n, r0m⟩ := findRule_name hfo
  have r0g : r0.gen = false := hng r0 r0m
  have hlen : 2 ≤ ((r0.val.bind scalarItems).getD []).length := (G.valid r0 r0m).2.2.2 (by rw [r0n, sb_or]) r0g
  have hO : (mapOf frs).has .or = true := by rw [has_mapOf_named _ _ _ ct_or, hor]
  have hT : (mapOf frs).has .typesList = true := by rw [has_mapOf_named _ _ _ ct_typesList, hor]
  have hTU : CR.typesUsers (mapOf frs) = some (List.replicate ((r0.val.bind scalarItems).getD []).length true) := by
    unfold CR.typesUsers
    rw [mapOf_named frs .typesList "or" ct_typesList, hfo]
    simp [cvAt, r0g]
  have hUA : CR.usersAny (mapOf frs) = true := by
    unfold CR.usersAny
    rw [hTU]
    exact List.any_eq_true.2 ⟨true, List.mem_replicate.2 ⟨by omega, rfl⟩, rfl⟩
  have hTL : CR.typesLen (mapOf frs) = ((r0.val.bind scalarItems).getD []).length := by
    unfold CR.typesLen; rw [hTU]; simp
  have hns : (orNames r0).length = ((r0.val.bind scalarItems).getD []).length := by
    unfold orNames
    cases r0.val.bind scalarItems <;> simp
  have hc := CR.count_or (mapOf frs) hO hT
  rw [hO, CR.bnat_true] at hc
  have hc := count_others frs G.known sl_or hc
  have hr := rawIs_mapOf G "\"mixed\"" CR.q_mixed q_mixed_eq
  have hkm : (kind == NK.mixed) = false := by simpa using C.kindm
  -- after the `type` rule: the foreign rules; then (B) turns a container away in two steps (children, a user type
  -- among the members), (A) in one
  have rest : (∀ t, findRule frs "type" = some t → t.val = some (sb "\"mixed\"")) →
      Agree (outA (if others frs ["or", "optional", "nullable", "type"] != 0 then throw (.code 1103 0)
          else if kind == .obj || kind == .arr then throw (.code 1108 0) else bEnumPrec kind frs jt isProp nch))
        (CR.firstErr (CR.gd (decide ((mapOf frs).len - 1 - 1 - CR.bnat ((mapOf frs).has .optional)
            - CR.bnat ((mapOf frs).has .nullable) - CR.bnat ((mapOf frs).has .type) = 0)) 1103 ::
          CR.gd (!(c.isBranch && decide (c.children ≠ 0))) 1108 :: CR.gd (!(c.isBranch && CR.usersAny (mapOf frs))) 1108 ::
          CR.gd (!(decide (c.cls = .mixedValue) && decide ((mapOf frs) .or = some (.or false)) && CR.usersAny (mapOf frs))) 1108 ::
          (CR.enumRows ((mapOf frs).del .or) ++ (CR.gd (CR.precOK ((mapOf frs).del .or)) 1117 ::
            (CR.typeRows c ((mapOf frs).del .or) ++ CR.tailRows c (CR.typeNext ((mapOf frs).del .or)))))) ()) := fun hm => by
    refine agreeA_guard hc fun h2 => ?_
    refine agreeA_guard_and (by rw [hUA, C.branch]; cases (kind == .obj || kind == .arr) <;> simp) fun _ => ?_
    refine agree_skipB (by simp [C.notMV, CR.gd]) ?_
    have hz : others frs ["or", "optional", "nullable", "type"] = 0 := by simpa using h2
    exact or_rest_agree G C.prop hfo hz (orNames r0) false (by unfold bNames; simp [hor, hfo, r0g])
      fun t ht => ⟨hm t ht, by omega, by omega⟩
  unfold basicF CR.nodeRows CR.orRows CR.orNext
  simp only [hor, hO, if_true, hkm, Bool.false_eq_true, if_false, List.cons_append, List.nil_append, CR.bnat_true]
  refine agree_skipB (by rw [hT]; rfl) ?_
  cases hft : findRule frs "type" with
  | none =>
    rw [hft] at hr
    exact agree_skipB (by rw [hr]; rfl) (rest fun t ht => by rw [hft] at ht; cases ht)
  | some t =>
    rw [hft] at hr
    refine agreeA_guard (by rw [hr, Bool.not_not]) fun h1 => rest fun t' ht' => ?_
    rw [hft] at ht'; cases ht'
    obtain ⟨v, hv⟩ := G.vals t (findRule_name hft).2
    rw [hv] at h1 ⊢
    simpa using h1

/-- **`compileNode` + `CompileAllOf` + the compatibility check** on the map of an accepted annotation -/
theorem basic_agree (n : RNode) (G : Good (filt n.rules)) (hng : ∀ r ∈ filt n.rules, r.gen = false)
    (hn : (n.rules.map (·.name)).Nodup)
    (C : CtxOK n.kind jt nch isProp c) (hnf : NoFmt (filt n.rules)) :
    Agree (outA (basic n jt isProp nch)) (CR.compile c (mapOf n.rules) >>= CR.allOfStep c >>= CR.checkCompat c) := by
  rw [basic_eq, CR.pipeline_rows, CR.pipelineRows_eq, fc_mapOf n.rules hn]
  cases hor : hasRule (filt n.rules) "or"
  · exact noOr_rows hor (enumPrec_agree G (by rw [bNames_noOr hor]; exact type_rows_agree G hng C hor hnf))
  · exact or_rows_agree G hng C hor

end

end BridgeCR
