import JSight.EnumEventsItem
import JSight.ListFacts
/-!
The token grammar on byte classes (string = quote *char quote; number = [-] int [frac], no exponent; true / false /
null); its tokens are those of the schema scanner's grammar, hence tokens of the automaton (`IsTok`, which is
`SchemaScan.IsScalar`); first and last class of a token are not blank, hence
`validateValue`'s trimming leaves the token bytes unchanged.
-/
namespace EnumScan
open SchemaScan (Cls classify)

def isPlainStr : Cls → Bool
  | .quote | .bslash | .ctrl | .tab | .nl => false
  | _ => true
def isSimpleEsc : Cls → Bool
  | .lb | .lf | .ln | .lr | .lt | .bslash | .slash | .quote => true
  | _ => false

/-- the `*char` of the string grammar, on byte classes -/
inductive StrBody : List Cls → Prop
  | nil : StrBody []
  | plain (c : Cls) (b : List Cls) : isPlainStr c = true → StrBody b → StrBody (c :: b)
  | esc (c : Cls) (b : List Cls) : isSimpleEsc c = true → StrBody b → StrBody (.bslash :: c :: b)
  | uni (h1 h2 h3 h4 : Cls) (b : List Cls) : h1.isHex = true → h2.isHex = true → h3.isHex = true → h4.isHex = true →
      StrBody b → StrBody (.bslash :: .lu :: h1 :: h2 :: h3 :: h4 :: b)

def IsDigits (ds : List Cls) : Prop := ∀ c ∈ ds, c.isDigit = true

/-- number without exponent: `[-] int [frac]`, on byte classes -/
structure NumTok where
  neg : Bool
  int : List Cls                      -- `0` or a non-zero digit followed by digits
  frac : Option (Cls × List Cls)      -- first digit and the rest

def NumTok.tail (t : NumTok) : List Cls :=
  match t.frac with | none => [] | some (d, ds) => .dot :: d :: ds

def NumTok.render (t : NumTok) : List Cls :=
  (if t.neg then [.minus] else []) ++ t.int ++ t.tail

structure NumTok.WF (t : NumTok) : Prop where
  int : t.int = [.zero] ∨ ∃ ds, t.int = .d19 :: ds ∧ IsDigits ds
  frac : ∀ d ds, t.frac = some (d, ds) → d.isDigit = true ∧ IsDigits ds

/-- a scalar token of the grammar, on byte classes -/
inductive GTok : List Cls → Prop
  | str (b : List Cls) : StrBody b → GTok (.quote :: (b ++ [.quote]))
  | num (t : NumTok) : t.WF → GTok t.render
  | wtrue : GTok [.lt, .lr, .lu, .le]
  | wfalse : GTok [.lf, .la, .ll, .ls, .le]
  | wnull : GTok [.ln, .lu, .ll, .ll]

theorem strBody_conv {b : List Cls} (h : StrBody b) : SchemaScan.StrBody b := by
  induction h with
  | nil => exact .nil
  | plain c b hc _ ih => exact .plain c b (by cases c <;> first | rfl | cases hc) ih
  | esc c b hc _ ih => exact .esc c b (by cases c <;> first | rfl | cases hc) ih
  | uni h1 h2 h3 h4 b e1 e2 e3 e4 _ ih => exact .uni h1 h2 h3 h4 b e1 e2 e3 e4 ih

/-- a scalar token of the enum grammar is a scalar token for the schema scanner: the two grammars have the same rules,
and the schema scanner's are proved to be tokens of the automaton in `SchemaEventsTree` -/
theorem gtok_isScalar {tk : List Cls} (h : GTok tk) : SchemaScan.IsScalar tk := by
  cases h with
  | str b hb => exact SchemaScan.string_isScalar b (strBody_conv hb)
  | num t wf => exact SchemaScan.number_isScalar ⟨t.neg, t.int, t.frac⟩ ⟨wf.int, wf.frac⟩
  | wtrue => exact SchemaScan.true_isScalar
  | wfalse => exact SchemaScan.false_isScalar
  | wnull => exact SchemaScan.null_isScalar

/-- the states inside a number; the automaton does not leave them (`silentRun_numS`), so a number token, which is a
scalar token, cannot end in `endValue` -/
def numS : SchemaScan.St → Bool | .neg | .d0 | .d1 | .dot | .dot0 => true | _ => false

theorem silentRun_numS : ∀ (tl : List Cls) {st : SchemaScan.St} {r : List SchemaScan.St} {u : Bool} {st' : SchemaScan.St}
    {r' : List SchemaScan.St} {u' : Bool}, numS st = true → SchemaScan.silentRun st r u tl = some (st', r', u') →
    numS st' = true
  | [], _, _, _, _, _, _, hn, h => by cases h; exact hn
  | c :: cs, st, r, u, _, _, _, hn, h => by
    simp only [SchemaScan.silentRun] at h
    cases hs : SchemaScan.silent st r u c with
    | none => rw [hs] at h; cases h
    | some p =>
      rw [hs] at h
      refine silentRun_numS cs ?_ h
      cases st <;> cases hn <;> simp only [SchemaScan.silent] at hs <;> split at hs <;> cases hs <;> rfl

/-- a number of the grammar (`[-] int [frac]`, no exponent) ends in one of the three number states: it is a scalar
token, and from the state behind `-`, `0` or a digit the automaton stays in the states of a number -/
theorem number_isNumTok (t : NumTok) (wf : t.WF) : IsNumTok t.render := by
  obtain ⟨c, tl, st0, u0, stE, he, hl, hrun, hpv⟩ := gtok_isScalar (.num t wf)
  refine ⟨c, tl, st0, u0, stE, he, hl, hrun, ?_⟩
  have h0 : numS st0 = true := by
    have hc : c = .minus ∨ c = .zero ∨ c = .d19 := by
      have : t.render.head? = some c := by rw [he]; rfl
      unfold NumTok.render at this
      rcases wf.int with hz | ⟨ds, hi, _⟩
      · rw [hz] at this; cases hn : t.neg <;> rw [hn] at this <;> simp at this <;> simp [← this]
      · rw [hi] at this; cases hn : t.neg <;> rw [hn] at this <;> simp at this <;> simp [← this]
    rcases hc with rfl | rfl | rfl <;> cases hl <;> rfl
  have := silentRun_numS tl h0 hrun
  cases stE <;> first | rfl | (cases hpv; done) | (cases this; done)

theorem GTok.isTok {tk : List Cls} (h : GTok tk) : IsTok tk := gtok_isScalar h

/-- the first and the last class of a scalar token are not blank -/
theorem IsTok.ends {tk : List Cls} (h : IsTok tk) :
    ∃ c l, tk.head? = some c ∧ tk.getLast? = some l ∧ c.isBlank = false ∧ l.isBlank = false := by
  obtain ⟨pre, d, he, hd⟩ := SchemaScan.Len.scalar_last h
  obtain ⟨c, tl, st0, u0, _, rfl, hs, -, -⟩ := h
  exact ⟨c, d, rfl, by rw [he]; exact List.getLast?_concat, (by cases c <;> first | rfl | cases hs), hd⟩

theorem ite_nonblank (c : Prop) [Decidable c] (x y : Cls) (hx : x.isBlank = false) (hy : y.isBlank = false) :
    (if c then x else y).isBlank = false := by
  split <;> assumption

/-- the bytes `validateValue` trims (`Render.isBlank`) are the blank classes of `SchemaScan.classify`, the classifier of
the schema and the enum scanner (`Props.C14.isBlank_classify` says the same of the JSON scanner's classifier) -/
theorem isBlank_classify (b : UInt8) : Render.isBlank b = (classify b).isBlank := by
  unfold Render.isBlank Render.isNewLine
  by_cases h1 : b = 32
  · subst h1; rfl
  by_cases h2 : b = 9
  · subst h2; rfl
  by_cases h3 : b = 10
  · subst h3; rfl
  by_cases h4 : b = 13
  · subst h4; rfl
  have e1 : (b == 32) = false := by simp [h1]
  have e2 : (b == 9) = false := by simp [h2]
  have e3 : (b == 10) = false := by simp [h3]
  have e4 : (b == 13) = false := by simp [h4]
  unfold classify
  simp only [e1, e2, e3, e4, Bool.or_self, if_false, Bool.false_eq_true]
  symm
  -- behind the four blank bytes every answer of the chain of comparisons is a class that is not blank: one step of the
  -- chain per `ite_nonblank`
  repeat' (first | rfl | apply ite_nonblank)

/-- the model's duplicate key of a token: (decoded text, is-string) -/
def tokKey (tok : List UInt8) : List UInt8 × Bool :=
  (if Unquote.inQuotes tok then Unquote.unquote tok else tok, Unquote.inQuotes tok)

/-- trimming blanks at both ends does nothing on the bytes of a token -/
theorem trim_tok (tok : List UInt8) (h : IsTok (tok.map classify)) :
    ((tok.dropWhile Render.isBlank).reverse.dropWhile Render.isBlank).reverse = tok := by
  obtain ⟨c, l, h1, h2, h3, h4⟩ := h.ends
  rw [List.head?_map] at h1
  rw [List.getLast?_map] at h2
  cases hx : tok.head? with
  | none => rw [hx] at h1; cases h1
  | some x =>
    cases hy : tok.getLast? with
    | none => rw [hy] at h2; cases h2
    | some y =>
      rw [hx] at h1; rw [hy] at h2
      simp only [Option.map_some, Option.some.injEq] at h1 h2
      have bx : Render.isBlank x = false := by rw [isBlank_classify, h1]; exact h3
      have by' : Render.isBlank y = false := by rw [isBlank_classify, h2]; exact h4
      rw [List.dropWhile_eq_self_of_head? hx bx, List.dropWhile_eq_self_of_head? (by rw [List.head?_reverse]; exact hy) by',
        List.reverse_reverse]

theorem keyOfTrim_tok (tok : List UInt8) (h : IsTok (tok.map classify)) : keyOfTrim tok = tokKey tok := by
  unfold keyOfTrim
  rw [trim_tok tok h]
  rfl

end EnumScan
