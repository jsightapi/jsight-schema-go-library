import JSight.SchemaLenTokStep
/-!
C14, schemas with annotations: an INLINE annotation `// …` up to and including its line break, as a `Path`, for an
arbitrary `lengthComputing` flag, from any pushed state `r0` and over any lexeme stack without a multi-line
annotation. Grammar (`InlBody`): `// spaces note` or `// spaces {rules} spaces [- spaces note]`; the note of an
inline annotation may hold any byte but a line break and `#` (`Cls.isInlCh`; in the multi-line form also no `*`:
`Cls.isNoteCh`) and may be empty. The module stands behind the single-byte facts of the tokens (`SchemaLenTokStep`, which
brings `cfgAL`, `obj_run` and `ann_pre_of`) and before the token-level scanner, whose annotation token it serves.
-/
namespace SchemaScan
namespace Len

variable {lc : Bool} {data : Array Cls}

/-- no multi-line annotation is open -/
def noML (K : List (LexT × Nat)) : Bool := !(K.any (fun p => p.1 == LexT.mlAnnB))

theorem noML_any {K : List (LexT × Nat)} (h : noML K = true) : K.any (fun p => p.1 == LexT.mlAnnB) = false := by
  simpa [noML] using h

/-- bytes of an inline note: anything but a line break and `#` -/
def Cls.isInlCh : Cls → Bool | .nl | .hash => false | _ => true

/-! ### single bytes -/

theorem inlTxt_char (f : Nat) (c : Cls) (hn : Cls.isInlCh c = true) (s : Sc) (p1 p2 : Option Cls) :
    dispatch (f + 1) .inlTxt s c p1 p2 = .ok s := by
  rw [dispatch_inlTxt]
  cases c <;> first | rfl | cases hn

/-- the first byte of a note that directly follows `//` -/
theorem inlAnn_first (f : Nat) (c : Cls) (hn : Cls.isInlCh c = true) (hs : c.isSpTab = false) (hb : c ≠ .lbrace)
    (s : Sc) (p1 p2 : Option Cls) :
    dispatch (f + 2) .inlAnn s c p1 p2 = .ok { (found s .inlTxtB) with step := .inlTxt } := by
  rw [dispatch_inlAnn]
  cases c <;> first | exact inlTxt_char f _ hn _ p1 p2 | exact absurd rfl hb | cases hs

/-- the first byte of a note behind `{…} -` -/
theorem inlPre2_first (f : Nat) (c : Cls) (hn : Cls.isInlCh c = true) (hs : c.isSpTab = false)
    (s : Sc) (p1 p2 : Option Cls) :
    dispatch (f + 2) .inlTxtPrefix2 s c p1 p2 = .ok { (found s .inlTxtB) with step := .inlTxt } := by
  rw [dispatch_inlTxtPrefix2]
  cases c <;> first | exact inlTxt_char f _ hn _ p1 p2 | cases hs

/-- the line break that ends a note: the state that read the annotation's `/` returns, guarded -/
theorem inlTxt_nl (f : Nat) (s : Sc) (r0 : St) (rs : List St) (hr : s.ret = r0 :: rs)
    (hK : isInsideMultiLine s = false) (p1 p2 : Option Cls) :
    dispatch (f + 1) .inlTxt s .nl p1 p2
      = .ok { found (found (found s .inlTxtE) .inlAnnE) .newLine with ret := rs, step := .guard r0, ann := .none } := by
  rw [dispatch_inlTxt]
  simp only [Cls.isNewLine, if_true, found, popRet, hr, bind, Except.bind, pure, Except.pure, isInsideMultiLine] at hK ⊢
  simp only [hK, Bool.false_eq_true, if_false]

/-- the line break directly behind `//` or behind `{…} -`: an empty note -/
theorem inlEmpty_nl (f : Nat) (st : St) (hst : st = .inlAnn ∨ st = .inlTxtPrefix2) (s : Sc) (r0 : St) (rs : List St)
    (hr : s.ret = r0 :: rs) (hK : isInsideMultiLine s = false) (p1 p2 : Option Cls) :
    dispatch (f + 2) st s .nl p1 p2
      = .ok { found (found (found (found s .inlTxtB) .inlTxtE) .inlAnnE) .newLine with
                ret := rs, step := .guard r0, ann := .none } := by
  rcases hst with rfl | rfl
  · rw [dispatch_inlAnn]
    exact inlTxt_nl f { (found s .inlTxtB) with step := .inlTxt } r0 rs hr hK p1 p2
  · rw [dispatch_inlTxtPrefix2]
    exact inlTxt_nl f { (found s .inlTxtB) with step := .inlTxt } r0 rs hr hK p1 p2

/-- the line break that ends an inline annotation without note -/
theorem inlPre_nl (f : Nat) (s : Sc) (r0 : St) (rs : List St) (hr : s.ret = r0 :: rs)
    (hK : isInsideMultiLine s = false) (p1 p2 : Option Cls) :
    dispatch (f + 1) .inlTxtPrefix s .nl p1 p2
      = .ok { found (found s .inlAnnE) .newLine with ret := rs, step := r0, ann := .none } := by
  rw [dispatch_inlTxtPrefix]
  simp only [Cls.isSpace, Cls.isNewLine, if_true, found, popRet, hr, bind, Except.bind, pure, Except.pure,
    isInsideMultiLine, Bool.false_eq_true, if_false] at hK ⊢
  simp only [hK, Bool.false_eq_true, if_false]

/-! ### runs -/

/-- the line break behind a note: the note text and the annotation are closed, the state `r0` that read the
annotation's first `/` returns behind a guard -/
theorem inl_txt_end {qb : Bool} (r0 : St) (p y t : Nat) (K : List (LexT × Nat)) (hK : noML K = true) (CS : List Ctx)
    (cx : Ctx) (al : Bool) (hc : data[t]? = some Cls.nl) :
    Path data (cfgG lc .inline qb .inlTxt [r0] ((.inlTxtB, p) :: (.inlAnnB, y) :: K) false t CS cx al)
      [⟨.inlTxtE, p, t - 1⟩, ⟨.inlAnnE, y, t - 1⟩, ⟨.newLine, t, t⟩]
      (cfgG lc .none qb (.guard r0) [] K false (t + 1) CS cx al) :=
  cfgG_byte hc (fun p1 p2 => inlTxt_nl 7 _ r0 [] rfl (noML_any hK) p1 p2) rfl rfl

/-- the line break behind the rule object and its blanks: the annotation is closed, `r0` returns -/
theorem inl_pre_end {qb : Bool} (r0 : St) (y t : Nat) (K : List (LexT × Nat)) (hK : noML K = true) (CS : List Ctx)
    (cx : Ctx) (al : Bool) (hc : data[t]? = some Cls.nl) :
    Path data (cfgG lc .inline qb .inlTxtPrefix [r0] ((.inlAnnB, y) :: K) false t CS cx al)
      [⟨.inlAnnE, y, t - 1⟩, ⟨.newLine, t, t⟩] (cfgG lc .none qb r0 [] K false (t + 1) CS cx al) :=
  cfgG_byte hc (fun p1 p2 => inlPre_nl 7 _ r0 [] rfl (noML_any hK) p1 p2) rfl rfl

/-- a state that stays put on every byte of `w` -/
theorem stay_runA (a : Ann) (st : St) (r : List St) (K : List (LexT × Nat)) (CS : List Ctx) (cx : Ctx) (al : Bool) :
    ∀ (w : List Cls), (∀ c ∈ w, ∀ f i p1 p2, dispatch (f + 1) st (cfgAL lc a st r K false i CS cx al) c p1 p2
        = .ok (cfgAL lc a st r K false i CS cx al)) → ∀ (i : Nat), At data i w →
      Path data (cfgAL lc a st r K false i CS cx al) [] (cfgAL lc a st r K false (i + w.length) CS cx al) :=
  Path.loop (fun i => cfgAL lc a st r K false i CS cx al)
    (fun c => ∀ f i p1 p2, dispatch (f + 1) st (cfgAL lc a st r K false i CS cx al) c p1 p2
      = .ok (cfgAL lc a st r K false i CS cx al))
    (fun i _ hc h => cfgAL_byte h (fun p1 p2 => hc 7 (i + 1) p1 p2) rfl rfl)

/-- the text of a note: no line break, no `#`, does not start with a space or tab -/
def IsInlTxt (txt : List Cls) : Prop :=
  (∀ c ∈ txt, Cls.isInlCh c = true) ∧ (∀ c, txt.head? = some c → c.isSpTab = false)

/-- the note of an inline annotation and its line break, from the state that reads its first byte -/
theorem note_run (st : St) (hst : st = .inlAnn ∨ st = .inlTxtPrefix2) (txt : List Cls) (ht : IsInlTxt txt)
    (hb : st = .inlAnn → txt.head? ≠ some Cls.lbrace) (r0 : St) (y : Nat) (K : List (LexT × Nat)) (hK : noML K = true)
    (q : Nat) (CS : List Ctx) (cx : Ctx) (al : Bool) (hat : At data q (txt ++ [Cls.nl])) :
    Path data (cfgAL lc .inline st [r0] ((.inlAnnB, y) :: K) false q CS cx al)
      [⟨.inlTxtB, q, q⟩, ⟨.inlTxtE, q, q + txt.length - 1⟩, ⟨.inlAnnE, y, q + txt.length - 1⟩,
        ⟨.newLine, q + txt.length, q + txt.length⟩]
      (cfgL lc (.guard r0) [] K false (q + txt.length + 1) CS cx al) := by
  cases txt with
  | nil =>
    have hc : data[q]? = some Cls.nl := hat.1
    exact cfgAL_byte hc (fun p1 p2 => inlEmpty_nl 6 st hst _ r0 [] rfl (noML_any hK) p1 p2) rfl rfl
  | cons c cs =>
    rw [At_append] at hat
    obtain ⟨⟨hc, hatcs⟩, hnl0, _⟩ := hat
    have hnl : data[q + 1 + cs.length]? = some Cls.nl := by
      rw [show q + 1 + cs.length = q + (c :: cs).length by simp only [List.length_cons]; omega]; exact hnl0
    have hcn : Cls.isInlCh c = true := ht.1 c (by simp)
    have hcs : c.isSpTab = false := ht.2 c rfl
    have h1 : Path data (cfgAL lc .inline st [r0] ((.inlAnnB, y) :: K) false q CS cx al) [⟨.inlTxtB, q, q⟩]
        (cfgAL lc .inline .inlTxt [r0] ((.inlTxtB, q) :: (.inlAnnB, y) :: K) false (q + 1) CS cx al) := by
      rcases hst with rfl | rfl
      · exact cfgAL_byte hc (fun p1 p2 => inlAnn_first 6 c hcn hcs (by
          intro e; subst e; exact hb rfl rfl) _ p1 p2) rfl rfl
      · exact cfgAL_byte hc (fun p1 p2 => inlPre2_first 6 c hcn hcs _ p1 p2) rfl rfl
    have h2 := stay_runA (lc := lc) (data := data) .inline .inlTxt [r0] ((.inlTxtB, q) :: (.inlAnnB, y) :: K) CS cx al cs
      (fun x hx f i p1 p2 => inlTxt_char f x (ht.1 x (by simp [hx])) _ p1 p2) (q + 1) hatcs
    have h3 := inl_txt_end (lc := lc) (qb := false) r0 q y (q + 1 + cs.length) K hK CS cx al hnl
    have := Path.trans (Path.trans h1 h2) h3
    simp only [List.length_cons]
    rw [show q + (cs.length + 1) = q + 1 + cs.length by omega]
    exact this

/-- what stands between `//` and the line break -/
inductive InlBody
  | note (s2 txt : List Cls)
  | obj (s2 : List Cls) (ob : CObj) (s3 : List Cls) (nt : Option (List Cls × List Cls))

def noteTail : Option (List Cls × List Cls) → List Cls
  | none => []
  | some (s4, txt) => Cls.minus :: (s4 ++ txt)

def InlBody.render : InlBody → List Cls
  | .note s2 txt => s2 ++ txt
  | .obj s2 ob s3 nt => s2 ++ (Cls.lbrace :: (ob.body ++ (Cls.rbrace :: (s3 ++ noteTail nt))))

def InlBody.hasNote : InlBody → Bool
  | .note _ _ => true
  | .obj _ _ _ nt => nt.isSome

def InlBody.Valid : InlBody → Prop
  | .note s2 txt => IsSpTabs s2 ∧ IsInlTxt txt ∧ txt.head? ≠ some Cls.lbrace
  | .obj s2 ob s3 nt => IsSpTabs s2 ∧ ob.Valid .inline ∧ IsSpTabs s3 ∧
      ∀ s4 txt, nt = some (s4, txt) → IsSpTabs s4 ∧ IsInlTxt txt

/-- the events of the annotation whose first `/` stands at `h` (up to and including the `newLine` of its line break) -/
def InlBody.evs (h : Nat) : InlBody → List Ev
  | .note s2 txt =>
    [⟨.inlAnnB, h, h + 1⟩, ⟨.inlTxtB, h + 2 + s2.length, h + 2 + s2.length⟩,
      ⟨.inlTxtE, h + 2 + s2.length, h + 2 + s2.length + txt.length - 1⟩,
      ⟨.inlAnnE, h, h + 2 + s2.length + txt.length - 1⟩,
      ⟨.newLine, h + 2 + s2.length + txt.length, h + 2 + s2.length + txt.length⟩]
  | .obj s2 ob s3 none =>
    ⟨.inlAnnB, h, h + 1⟩ :: ⟨.objB, h + 2 + s2.length, h + 2 + s2.length⟩ :: (ob.evs (h + 2 + s2.length) ++
      [⟨.inlAnnE, h, h + 2 + s2.length + 1 + ob.body.length + 1 + s3.length - 1⟩,
        ⟨.newLine, h + 2 + s2.length + 1 + ob.body.length + 1 + s3.length,
          h + 2 + s2.length + 1 + ob.body.length + 1 + s3.length⟩])
  | .obj s2 ob s3 (some (s4, txt)) =>
    ⟨.inlAnnB, h, h + 1⟩ :: ⟨.objB, h + 2 + s2.length, h + 2 + s2.length⟩ :: (ob.evs (h + 2 + s2.length) ++
      [⟨.inlTxtB, h + 2 + s2.length + 1 + ob.body.length + 1 + s3.length + 1 + s4.length,
          h + 2 + s2.length + 1 + ob.body.length + 1 + s3.length + 1 + s4.length⟩,
        ⟨.inlTxtE, h + 2 + s2.length + 1 + ob.body.length + 1 + s3.length + 1 + s4.length,
          h + 2 + s2.length + 1 + ob.body.length + 1 + s3.length + 1 + s4.length + txt.length - 1⟩,
        ⟨.inlAnnE, h, h + 2 + s2.length + 1 + ob.body.length + 1 + s3.length + 1 + s4.length + txt.length - 1⟩,
        ⟨.newLine, h + 2 + s2.length + 1 + ob.body.length + 1 + s3.length + 1 + s4.length + txt.length,
          h + 2 + s2.length + 1 + ob.body.length + 1 + s3.length + 1 + s4.length + txt.length⟩])

theorem cfgL_congr {st : St} {r : List St} {K : List (LexT × Nat)} {u : Bool} {i i' : Nat} {CS : List Ctx} {cx : Ctx}
    {al : Bool} (hi : i = i') : cfgL lc st r K u i CS cx al = cfgL lc st r K u i' CS cx al := by
  subst hi; rfl

theorem ablank_of_sptabs {a : Ann} {w : List Cls} (h : IsSpTabs w) : ABlank a w := fun c hc => by
  simp only [Ann.okBlank, h c hc, Bool.true_or]

theorem nlEvs_sptabs {w : List Cls} (h : IsSpTabs w) : ∀ (o : Nat), nlEvs o w = [] := by
  induction w with
  | nil => intro o; rfl
  | cons c w ih =>
    intro o
    simp only [nlEvs, if_neg (sptab_ne_nl (h c (by simp))), List.nil_append]
    exact ih (fun x hx => h x (by simp [hx])) (o + 1)

/-- **an inline annotation as a `Path`**: from the state behind its first `/` (the state `r0` that read it is on the
return stack) to the state behind its line break: `r0` again, or `guard r0` when the annotation has a note -/
theorem ann_line (b : InlBody) (hv : b.Valid) (r0 : St) (K : List (LexT × Nat)) (hK : noML K = true) (h : Nat)
    (CS : List Ctx) (cx : Ctx) (al : Bool) (hat : At data (h + 1) (Cls.slash :: (b.render ++ [Cls.nl]))) :
    Path data (cfgL lc .anyAnnStart [r0] K false (h + 1) CS cx al) (b.evs h)
      (cfgL lc (gst b.hasNote r0) [] K false (h + 2 + b.render.length + 1) CS cx al) := by
  obtain ⟨hsl, hat⟩ := hat
  have s0 : Path data (cfgL lc .anyAnnStart [r0] K false (h + 1) CS cx al) [⟨.inlAnnB, h, h + 1⟩]
      (cfgAL lc .inline .inlAnn [r0] ((.inlAnnB, h) :: K) false (h + 1 + 1) CS cx al) :=
    cfg_byte hsl (fun p1 p2 => ann_mark 7 .inline rfl [r0] K (h + 1 + 1) CS cx al p1 p2) rfl rfl
  cases b with
  | note s2 txt =>
    obtain ⟨h2, ht, hb⟩ := hv
    simp only [InlBody.render, List.append_assoc] at hat
    rw [At_append] at hat
    obtain ⟨hat2, hatt⟩ := hat
    have s1 := stay_runA (lc := lc) (data := data) .inline .inlAnn [r0] ((.inlAnnB, h) :: K) CS cx al s2
      (fun c hc f i p1 p2 => aloop_spQ f false .inline rfl .inlAnn rfl c (h2 c hc) [r0] _ i CS cx al p1 p2) (h + 1 + 1) hat2
    have s2' := note_run (lc := lc) .inlAnn (Or.inl rfl) txt ht (fun _ => hb) r0 h K hK (h + 1 + 1 + s2.length) CS cx al hatt
    refine (Path.trans (Path.trans s0 s1) s2').cast ?_ (cfgL_congr ?_)
    · simp only [InlBody.evs, List.nil_append, List.cons_append, List.append_nil]
    · simp only [InlBody.render, List.length_append]; omega
  | obj s2 ob s3 nt =>
    obtain ⟨h2, hob, h3, hnt⟩ := hv
    have e : InlBody.render (.obj s2 ob s3 nt) ++ [Cls.nl]
        = (s2 ++ (Cls.lbrace :: (ob.body ++ (Cls.rbrace :: s3)))) ++ (noteTail nt ++ [Cls.nl]) := by
      simp [InlBody.render]
    rw [e] at hat
    have hat' : At data (h + 1) (Cls.slash :: (s2 ++ (Cls.lbrace :: (ob.body ++ (Cls.rbrace :: s3))))) ∧
        At data (h + 2 + s2.length + 1 + ob.body.length + 1 + s3.length) (noteTail nt ++ [Cls.nl]) := by
      rw [At_append] at hat
      refine ⟨⟨hsl, hat.1⟩, ?_⟩
      have := hat.2
      simp only [List.length_cons, List.length_append] at this
      rw [show h + 1 + 1 + (s2.length + (ob.body.length + (s3.length + 1) + 1)) 
        = h + 2 + s2.length + 1 + ob.body.length + 1 + s3.length by omega] at this
      exact this
    have p1 := ann_pre_of (lc := lc) .inline rfl r0 K h CS cx al s2 (ablank_of_sptabs h2) ob.body (ob.evs (h + 2 + s2.length))
      false (fun hb => obj_run .inline rfl ob hob r0 (h + 2 + s2.length) h K cx CS { ty := .object } al hb) s3
      (ablank_of_sptabs h3) hat'.1
    rw [nlEvs_sptabs h2, nlEvs_sptabs h3] at p1
    obtain ⟨_, hatn⟩ := hat'
    cases nt with
    | none =>
      simp only [noteTail, List.nil_append] at hatn
      have s5 := inl_pre_end (lc := lc) (qb := false) r0 h (h + 2 + s2.length + 1 + ob.body.length + 1 + s3.length) K hK CS cx al
        hatn.1
      refine (Path.trans p1 s5).cast ?_ (cfgL_congr ?_)
      · simp [InlBody.evs, Ann.B]
      · simp only [InlBody.render, noteTail, List.length_append, List.length_cons, List.length_nil]; omega
    | some p =>
      obtain ⟨s4', txt⟩ := p
      obtain ⟨h4, ht⟩ := hnt s4' txt rfl
      simp only [noteTail, List.cons_append, List.append_assoc] at hatn
      obtain ⟨hmin, hatn⟩ := hatn
      rw [At_append] at hatn
      obtain ⟨hat4, hatt⟩ := hatn
      have s5 : Path data (cfgAL lc .inline .inlTxtPrefix [r0] ((.inlAnnB, h) :: K) false
            (h + 2 + s2.length + 1 + ob.body.length + 1 + s3.length) CS cx al) []
          (cfgAL lc .inline .inlTxtPrefix2 [r0] ((.inlAnnB, h) :: K) false
            (h + 2 + s2.length + 1 + ob.body.length + 1 + s3.length + 1) CS cx al) :=
        cfgAL_byte hmin (fun p1 p2 => pre_minus 7 .inline rfl [r0] _ _ CS cx al p1 p2) rfl rfl
      have s6 := stay_runA (lc := lc) (data := data) .inline .inlTxtPrefix2 [r0] ((.inlAnnB, h) :: K) CS cx al s4'
        (fun c hc f i p1 p2 => pre2_sp f .inline rfl c (h4 c hc) [r0] _ i CS cx al p1 p2) _ hat4
      have s7 := note_run (lc := lc) .inlTxtPrefix2 (Or.inr rfl) txt ht (fun e => by cases e) r0 h K hK _ CS cx al hatt
      refine (Path.trans p1 (Path.trans (Path.trans s5 s6) s7)).cast ?_ (cfgL_congr ?_)
      · simp [InlBody.evs, Ann.B]
      · simp only [InlBody.render, noteTail, List.length_append, List.length_cons]; omega

theorem sptab_of {w : List Cls} (h : IsSpTabs w) : ∀ c ∈ w, c.isSpTab = true := h

end Len
end SchemaScan
