import JSight.SchemaLenTokLen
/-!
C14: a top-level scalar followed on its line by an inline annotation — an instance of the token-list theorem.
`blankToks w` are the tokens of a layout `w` (spaces, tabs, line breaks).  On the way, what the later token-list files use
as well: text and run of a concatenation (`renderToks_append`, `trun_append`), a run over blanks (`trun_blanks`), and
`rtrimLen_append_ws`.
-/
namespace SchemaScan
namespace Len

def blankTok (c : Cls) : Tok := if c = Cls.nl then .nl else .sp c

def blankToks (w : List Cls) : List Tok := w.map blankTok

theorem renderToks_append : ∀ (a b : List Tok), renderToks (a ++ b) = renderToks a ++ renderToks b
  | [], _ => rfl
  | t :: a, b => by simp only [List.cons_append, renderToks, renderToks_append a b, List.append_assoc]

theorem render_blankToks : ∀ (w : List Cls), renderToks (blankToks w) = w
  | [] => rfl
  | c :: w => by
    have := render_blankToks w
    simp only [blankToks, List.map_cons, renderToks] at this ⊢
    rw [this]
    unfold blankTok
    split
    · rename_i h; subst h; rfl
    · rfl

theorem wf_blankToks (w : List Cls) (hw : IsWs w) : ∀ t ∈ blankToks w, t.WF := by
  intro t ht
  simp only [blankToks, List.mem_map] at ht
  obtain ⟨c, hc, rfl⟩ := ht
  unfold blankTok
  split
  · trivial
  · rename_i hn
    rcases blank_cases (hw c hc) with h | h
    · exact h
    · exact absurd h hn

/-- states whose line-break handling changes nothing but the index -/
def stableSt : St → Bool
  | .foundRoot | .endTop => true
  | _ => false

theorem trun_append (a b : List Tok) (c c1 c2 : TC) (e1 e2 : List Ev) (h1 : trun c a = some (c1, e1))
    (h2 : trun c1 b = some (c2, e2)) : trun c (a ++ b) = some (c2, e1 ++ e2) := by
  rw [← arun_base] at h1 h2 ⊢
  rw [List.map_append]
  exact arun_append _ _ c c1 c2 e1 e2 h1 h2

/-- layout at the start of the text or behind the complete value -/
theorem trun_blanks (st : St) (hst : stableSt st = true) (g : Bool) (K : List (LexT × Nat)) (CS : List Ctx) (cx : Ctx)
    (al : Bool) : ∀ (w : List Cls) (i : Nat), IsWs w →
    trun ⟨st, g, K, i, CS, cx, al⟩ (blankToks w) = some (⟨st, g, K, i + w.length, CS, cx, al⟩, nlEvs i w)
  | [], i, _ => rfl
  | c :: w, i, hw => by
    have ih := trun_blanks st hst g K CS cx al w (i + 1) hw.tail
    have hnpv : PV st = false := by cases st <;> simp [stableSt] at hst <;> rfl
    have hws : wsLoop st = true := by cases st <;> simp [stableSt] at hst <;> rfl
    have hnl : nlSt st = st := by cases st <;> simp [stableSt] at hst <;> rfl
    have hal : nlAl st al = al := by cases st <;> simp [stableSt] at hst <;> rfl
    have hok : isObjKey st = false := by cases st <;> simp [stableSt] at hst <;> rfl
    simp only [blankToks, List.map_cons, trun] at ih ⊢
    by_cases hc : c = Cls.nl
    · subst hc
      have : tstep ⟨st, g, K, i, CS, cx, al⟩ (blankTok Cls.nl)
          = some (⟨st, g, K, i + 1, CS, cx, al⟩, [⟨.newLine, i, i⟩]) := by
        simp [tstep, hnpv, blankTok, slotStep, nlStep, hws, hnl, hal, hok]
      rw [this]
      simp only [ih, Option.map_some, nlEvs, if_true, List.length_cons]
      rw [show i + (w.length + 1) = i + 1 + w.length by omega]
    · have : tstep ⟨st, g, K, i, CS, cx, al⟩ (blankTok c) = some (⟨st, g, K, i + 1, CS, cx, al⟩, []) := by
        simp [tstep, hnpv, blankTok, hc, slotStep, hws]
      rw [this]
      simp only [ih, Option.map_some, nlEvs, if_neg hc, List.length_cons, List.nil_append]
      rw [show i + (w.length + 1) = i + 1 + w.length by omega]

theorem endStOf_scalar {tok : List Cls} (h : IsScalar tok) : PV (endStOf tok) = true := by
  obtain ⟨c0, tl, st0, u0, stE, rfl, hs, hr, hp⟩ := h
  simpa [endStOf, Tree.endSt, hs, hr] using hp

/-- the token list of `ws0 tok s1 // body ⏎ w` -/
def annScalarToks (ws0 tok s1 : List Cls) (b : InlBody) (w : List Cls) : List Tok :=
  blankToks ws0 ++ (Tok.scalar tok :: (blankToks s1 ++ (Tok.ann b :: blankToks w)))

theorem annScalar_render (ws0 tok s1 : List Cls) (b : InlBody) (w : List Cls) :
    renderToks (annScalarToks ws0 tok s1 b w)
      = ws0 ++ (tok ++ (s1 ++ (Cls.slash :: Cls.slash :: (b.render ++ (Cls.nl :: w))))) := by
  simp only [annScalarToks, renderToks_append, renderToks, render_blankToks, Tok.render, List.append_assoc,
    List.cons_append, List.nil_append]

theorem annScalar_trun (ws0 tok s1 : List Cls) (b : InlBody) (w : List Cls) (h0 : IsWs ws0) (hs : IsScalar tok)
    (h1 : IsSpTabs s1) (hw : IsWs w) :
    ∃ evs, trun TC.init (annScalarToks ws0 tok s1 b w)
      = some (⟨.endTop, b.hasNote, [], (renderToks (annScalarToks ws0 tok s1 b w)).length, [], { ty := .initial }, true⟩, evs) := by
  have hpv := endStOf_scalar hs
  have t1 := trun_blanks .foundRoot rfl false [] [] { ty := .initial } true ws0 0 h0
  -- the scalar
  have t2 : trun ⟨.foundRoot, false, [], 0 + ws0.length, [], { ty := .initial }, true⟩ [Tok.scalar tok]
      = some (⟨endStOf tok, false, [(.litB, 0 + ws0.length)], 0 + ws0.length + tok.length, [], { ty := .initial }, true⟩,
          [⟨.litB, 0 + ws0.length, 0 + ws0.length⟩]) := by
    simp [trun, tstep, PV, slotStep, vctxOf, VCtx.pre, VCtx.preEvs, VCtx.cx']
  -- spaces, then the annotation
  have t3 : ∃ e3, trun ⟨endStOf tok, false, [(.litB, 0 + ws0.length)], 0 + ws0.length + tok.length, [], { ty := .initial }, true⟩
        (blankToks s1 ++ [Tok.ann b])
      = some (⟨.endTop, b.hasNote, [], 0 + ws0.length + tok.length + s1.length + 2 + b.render.length + 1, [],
          { ty := .initial }, true⟩, e3) := by
    cases s1 with
    | nil =>
      refine ⟨[⟨.litE, 0 + ws0.length, 0 + ws0.length + tok.length - 1⟩] ++ (b.evs (0 + ws0.length + tok.length) ++ []), ?_⟩
      simp [blankToks, trun, tstep, hpv, closePV, pendOfK, isLitB, slotStep, annLoop, noML, cxA, rootClosers]
    | cons c s1' =>
      have hc : c.isSpTab = true := h1 c (by simp)
      have hcn : c ≠ Cls.nl := sptab_ne_nl hc
      have a1 : tstep ⟨endStOf tok, false, [(.litB, 0 + ws0.length)], 0 + ws0.length + tok.length, [], { ty := .initial }, true⟩
          (blankTok c) = some (⟨.endTop, false, [], 0 + ws0.length + tok.length + 1, [], { ty := .initial }, true⟩,
            [⟨.litE, 0 + ws0.length, 0 + ws0.length + tok.length - 1⟩]) := by
        simp [tstep, hpv, closePV, pendOfK, isLitB, blankTok, hcn, slotStep, wsLoop, rootClosers]
      have a2 := trun_blanks .endTop rfl false [] [] { ty := .initial } true s1' (0 + ws0.length + tok.length + 1)
        (isSpTabs_isWs (fun x hx => h1 x (by simp [hx])))
      have a3 : trun ⟨.endTop, false, [], 0 + ws0.length + tok.length + 1 + s1'.length, [], { ty := .initial }, true⟩
          [Tok.ann b] = some (⟨.endTop, b.hasNote, [], 0 + ws0.length + tok.length + 1 + s1'.length + 2 + b.render.length + 1,
            [], { ty := .initial }, true⟩, b.evs (0 + ws0.length + tok.length + 1 + s1'.length) ++ []) := by
        simp [trun, tstep, PV, slotStep, annLoop, noML, cxA]
      have a23 := trun_append _ _ _ _ _ _ _ a2 a3
      refine ⟨[⟨.litE, 0 + ws0.length, 0 + ws0.length + tok.length - 1⟩] ++
        (nlEvs (0 + ws0.length + tok.length + 1) s1' ++ (b.evs (0 + ws0.length + tok.length + 1 + s1'.length) ++ [])), ?_⟩
      simp only [blankToks, List.map_cons, List.cons_append, trun, a1]
      simp only [blankToks] at a23
      rw [a23]
      simp only [Option.map_some, List.length_cons]
      rw [show 0 + ws0.length + tok.length + 1 + s1'.length + 2 + b.render.length + 1
        = 0 + ws0.length + tok.length + (s1'.length + 1) + 2 + b.render.length + 1 by omega]
  obtain ⟨e3, t3⟩ := t3
  have t4 := trun_blanks .endTop rfl b.hasNote [] [] { ty := .initial } true w
    (0 + ws0.length + tok.length + s1.length + 2 + b.render.length + 1) hw
  have t34 := trun_append _ _ _ _ _ _ _ t3 t4
  have t234 := trun_append _ _ _ _ _ _ _ t2 t34
  have tall := trun_append _ _ _ _ _ _ _ t1 t234
  have hlen : (renderToks (annScalarToks ws0 tok s1 b w)).length
      = 0 + ws0.length + tok.length + s1.length + 2 + b.render.length + 1 + w.length := by
    rw [annScalar_render]; simp only [List.length_append, List.length_cons]; omega
  have heq : annScalarToks ws0 tok s1 b w
      = blankToks ws0 ++ ([Tok.scalar tok] ++ ((blankToks s1 ++ [Tok.ann b]) ++ blankToks w)) := by
    simp [annScalarToks]
  rw [hlen, heq]
  exact ⟨_, tall⟩

theorem rtrimLen_append_ws (l w : List Cls) (hw : IsWs w) : rtrimLen (l ++ w) = rtrimLen l := by
  unfold rtrimLen
  have hat : At (l ++ w).toArray 0 (l ++ w) := At_toArray _ [] _ rfl
  rw [At_append] at hat
  have := trimBlank_ws (data := (l ++ w).toArray) w hw (0 + l.length) hat.2 w.length (Nat.le_refl _)
  rw [List.length_append, show l.length + w.length = 0 + l.length + w.length by omega, this, Nat.zero_add]
  exact trimBlank_prefix l w l.length (Nat.le_refl _)

end Len

open Len in
/-- **C14 (schema scanner), annotated top-level scalar**: classes `ws0 tok s1 // body ⏎ w x rest` — layout, a scalar
token, spaces / tabs, an inline annotation (`// note` or `// {rules} [- note]`) up to its line break, layout `w`, a
foreign byte. `Len` counts the annotation: it is the length of `ws0 tok s1 // body` without trailing blanks. -/
theorem C14_schema_len_annotated_scalar (ws0 tok s1 : List Cls) (b : InlBody) (w : List Cls) (x : Cls) (rest : List Cls)
    (h0 : IsWs ws0) (hs : IsScalar tok) (h1 : IsSpTabs s1) (hb : b.Valid) (hw : IsWs w) (hx : x.isForeign = true)
    (bs : List UInt8)
    (hbs : bs.map classify
      = ws0 ++ (tok ++ (s1 ++ (Cls.slash :: Cls.slash :: (b.render ++ (Cls.nl :: (w ++ x :: rest))))))) :
    length bs = .ok (rtrimLen (ws0 ++ (tok ++ (s1 ++ (Cls.slash :: Cls.slash :: b.render))))) := by
  obtain ⟨evs, hrun⟩ := annScalar_trun ws0 tok s1 b w h0 hs h1 hw
  have hwf : ∀ t ∈ annScalarToks ws0 tok s1 b w, t.WF := by
    intro t ht
    simp only [annScalarToks, List.mem_append, List.mem_cons] at ht
    rcases ht with ht | rfl | ht | rfl | ht
    · exact wf_blankToks ws0 h0 t ht
    · exact hs
    · exact wf_blankToks s1 (isSpTabs_isWs h1) t ht
    · exact hb
    · exact wf_blankToks w hw t ht
  have hbs' : bs.map classify = renderToks (annScalarToks ws0 tok s1 b w) ++ x :: rest := by
    rw [hbs, annScalar_render]; simp
  rw [C14_schema_len_tokens _ hwf _ evs hrun x rest hx (Or.inl ⟨rfl, rfl⟩) bs hbs', annScalar_render]
  have e : ws0 ++ (tok ++ (s1 ++ (Cls.slash :: Cls.slash :: (b.render ++ (Cls.nl :: w)))))
      = (ws0 ++ (tok ++ (s1 ++ (Cls.slash :: Cls.slash :: b.render)))) ++ (Cls.nl :: w) := by simp
  rw [e, rtrimLen_append_ws _ _ (by
    intro c hc
    rcases List.mem_cons.mp hc with rfl | hc
    · rfl
    · exact hw c hc)]

#print axioms C14_schema_len_annotated_scalar

end SchemaScan
