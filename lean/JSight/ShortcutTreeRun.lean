import JSight.ShortcutTree
/-!
The run of the schema scanner model over the items / members of a tree whose leaves are scalars or type shortcuts
(`STree`), as a `Path` for either value of `lengthComputing`: instances of `Gram.Entries.run` at the derivation
`gram_sitems` / `gram_smembers`.
-/
namespace SchemaScan
namespace Len

variable {lc : Bool} {data : Array Cls}

theorem sitems_run : (its : List SItem) → SValidItems its →
    (first : Bool) → (its = [] → first = true) → (a : Nat) → (K : List (LexT × Nat)) → (o : Nat) →
    At data o (sRenderItems its) → (c0 : Ctx) → (CS : List Ctx) → (cx : Ctx) → cx.ty = .array → (al : Bool) →
    ∃ al', Path data (cfgL lc (itemCtx first).st [] ((.arrB, a) :: K) false o (c0 :: CS) cx al) (sEvsItems a o its)
      (cfgL lc .endValue [] K false (o + (sRenderItems its).length) CS c0 al') :=
  fun its hv first hf a K o hat c0 CS cx hcx al => (gram_sitems its hv first hf a o).run K hat c0 CS cx (fun _ => hcx) al

theorem smembers_run : (ms : List SMember) → SValidMembers ms →
    (first : Bool) → (ms = [] → first = true) → (a : Nat) → (K : List (LexT × Nat)) → (o : Nat) →
    At data o (sRenderMembers ms) → (c0 : Ctx) → (CS : List Ctx) → (cx : Ctx) → cx.ty = .object → (al : Bool) →
    ∃ al', Path data (cfgL lc (keyCtxSt first) [] ((.objB, a) :: K) false o (c0 :: CS) cx al) (sEvsMembers a o ms)
      (cfgL lc .endValue [] K false (o + (sRenderMembers ms).length) CS c0 al') :=
  fun ms hv first hf a K o hat c0 CS cx hcx al => (gram_smembers ms hv first hf a o).run K hat c0 CS cx (fun _ => hcx) al

end Len
end SchemaScan
