import JSight.SchemaLen
import JSight.ShortcutRun
/-!
C14 (schema scanner): `Len` of a schema whose root is a TYPE SHORTCUT `@name` or `@a | @b | …` (grammar and token
automaton: `ShortcutRun`): the input is a document of the grammar of scanned text whose value is the shortcut together with
the spaces / tabs behind it (`lenRun_shortcut`, an instance of `Gram.lenRun_whole` / `Gram.lenRun_embedded` at blank
layouts); `C14_schema_len_shortcut` then says what the model's `length` — the scanner's `Length()`, the property's `Len` —
returns.
-/
namespace SchemaScan
namespace Len

variable {data : Array Cls}

/-- layout splits into leading spaces / tabs and a rest that is empty or starts with a line break -/
theorem ws_split : ∀ (w : List Cls), IsWs w →
    ∃ sps rest, w = sps ++ rest ∧ IsSpTabs sps ∧ (rest = [] ∨ ∃ r', rest = Cls.nl :: r')
  | [], _ => ⟨[], [], rfl, (by intro c hc; cases hc), Or.inl rfl⟩
  | c :: w, hw => by
    rcases blank_cases hw.head with hs | rfl
    · obtain ⟨sps, rest, he, h1, h2⟩ := ws_split w hw.tail
      refine ⟨c :: sps, rest, by rw [he]; rfl, ?_, h2⟩
      intro x hx
      rcases List.mem_cons.mp hx with rfl | hx
      · exact hs
      · exact h1 x hx
    · exact ⟨[], Cls.nl :: w, rfl, (by intro c hc; cases hc), Or.inr ⟨w, rfl⟩⟩

/-- what may follow a root shortcut and its trailing layout `w`: nothing, or a foreign byte (not layout, `/`, `#`) that
— when only spaces / tabs separate it from the shortcut — is not `|`, and — when nothing separates it — is not a name
byte -/
def scTailOk (w tail : List Cls) : Bool :=
  match tail with
  | [] => true
  | x :: _ => x.isForeign && (!(w.all Cls.isSpTab) || tsForeignOk w.isEmpty x)

/-- **root shortcut, on byte classes**: the document whose value is the shortcut with the spaces / tabs behind it; the raw
length lies between the end of the shortcut and the end of the layout behind it -/
theorem lenRun_shortcut (sc : Shortcut) (hv : sc.Valid) (ws0 w tail : List Cls) (h0 : IsWs ws0) (hw : IsWs w)
    (ht : scTailOk w tail = true) (hat : At data 0 (ws0 ++ (sc.render ++ (w ++ tail))))
    (hsize : data.size = ws0.length + sc.render.length + w.length + tail.length) :
    ∃ evs f L, Drain data { lengthComputing := true } evs f ∧ f.len data evs 0 = .ok L ∧
      ws0.length + sc.render.length ≤ L ∧ L ≤ ws0.length + sc.render.length + w.length := by
  obtain ⟨sps, rest, rfl, hs, hrest⟩ := ws_split w hw
  have hwr : IsWs rest := fun c hc => hw c (by simp [hc])
  have hv' : Gram.Val true ws0.length (sc.render ++ sps) _ .short (tsSt sps.isEmpty) := .short rfl hv hs
  obtain ⟨pre, d, hr, hd⟩ := sc.render_last hv
  have hcl : rtrimLen (sc.render ++ sps) = sc.render.length := by
    rw [hr, rtrimLen_snoc pre d sps (name_not_blank hd) (isSpTabs_isWs hs)]; simp
  have hat' : At data 0 (ws0 ++ ((sc.render ++ sps) ++ (rest ++ tail))) := by simpa [List.append_assoc] using hat
  simp only [List.length_append] at hsize ⊢
  cases tail with
  | nil =>
    obtain ⟨evs, f, L, D, hL, lo, hi⟩ := Gram.lenRun_whole (Gram.Layout.of_ws h0 0) hv' (Gram.Layout.of_ws hwr _)
      (fun _ => hrest) (by simpa using hat') (by simp only [List.length_append, List.length_nil] at hsize ⊢; omega)
    exact ⟨evs, f, L, D, hL, hcl ▸ lo, by simp only [List.length_append] at hi; omega⟩
  | cons x rest2 =>
    simp only [scTailOk, Bool.and_eq_true, Bool.or_eq_true, Bool.not_eq_true'] at ht
    obtain ⟨evs, f, L, D, hL, lo, hi⟩ := Gram.lenRun_embedded (Gram.Layout.of_ws h0 0) hv' (Gram.Layout.of_ws hwr _)
      (fun _ => hrest) x rest2 ht.1 (fun _ h => absurd rfl h) (fun hr nm hnm => by
        subst hr
        have : nm = sps.isEmpty := by cases nm <;> cases h : sps.isEmpty <;> simp [h, tsSt] at hnm <;> rfl
        subst this
        rcases ht.2 with h | h
        · rw [List.append_nil, List.all_eq_true.mpr hs] at h; cases h
        · simpa using h) hat'
    exact ⟨evs, f, L, D, hL, hcl ▸ lo, by simp only [List.length_append] at hi; omega⟩

end Len

open Len in
/-- **C14 (schema scanner), root type shortcut**: the classes of the input are `ws0 ++ sc.render ++ w ++ tail` — leading
layout, a type shortcut `@name` or `@a | @b | …` (spaces / tabs around `|`), layout `w`, and then nothing or a foreign
byte (`scTailOk`) followed by anything. Then `Len` is the offset just after the last name byte of the shortcut. -/
theorem C14_schema_len_shortcut (sc : Shortcut) (hv : sc.Valid) (ws0 w tail : List Cls) (h0 : IsWs ws0) (hw : IsWs w)
    (ht : scTailOk w tail = true) (bs : List UInt8) (hbs : bs.map classify = ws0 ++ (sc.render ++ (w ++ tail))) :
    length bs = .ok (ws0.length + sc.render.length) := by
  have hat : At (bs.map classify).toArray 0 (ws0 ++ (sc.render ++ (w ++ tail))) := At_toArray _ [] _ hbs
  have hsize : (bs.map classify).toArray.size = ws0.length + sc.render.length + w.length + tail.length := by
    rw [hbs]; simp only [List.size_toArray, List.length_append]; omega
  obtain ⟨evs, f, L, hrun, hL, hlo, hhi⟩ := lenRun_shortcut sc hv ws0 w tail h0 hw ht hat hsize
  rw [length_of_drain bs hrun hL]
  obtain ⟨pre, d, hr, hd⟩ := sc.render_last hv
  rw [trim_text sc.render ⟨pre, d, hr, name_not_blank hd⟩ ws0 w tail hw hat L hlo hhi]

#print axioms C14_schema_len_shortcut

end SchemaScan
