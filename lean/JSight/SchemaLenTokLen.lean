import JSight.AnnTreeTok
import JSight.SchemaRunLen
/-!
C14: `Len` of a schema given as a token list (plain-JSON value with blanks, line breaks, `#` comments and inline
annotations wherever the token-level scanner `trun` accepts them) that is followed by a foreign byte.
-/
namespace SchemaScan
namespace Len

variable {data : Array Cls}

/-- a foreign byte at the place behind the complete schema, also behind an annotation with a note (`g`; at `g = false` this
is `foreign_after_ws`) -/
theorem foreign_at_top (g : Bool) {x : Cls} (hx : x.isForeign = true) (j : Nat) (CS : List Ctx) (cx : Ctx) (al : Bool)
    (hc : data[j]? = some x) : Drain data (cfgL true (gst g .endTop) [] [] false j CS cx al) [] (.top j false) :=
  (Drain.top (s' := cfgL true (gst g .endTop) [] [] false (j + 1) CS cx al) (e := ⟨.endTop, j, j⟩)
    (nextOk_shift rfl rfl) rfl).read (s := cfgL true (gst g .endTop) [] [] false j CS cx al) rfl hc
    (gdispatch g .endTop _ _ x (by rintro rfl; cases hx) _ _
      (fun f => endTop_foreign_eq f x hx _ rfl rfl _ _)) rfl

/-! ### trimming looks only below its start -/

theorem trimBlank_prefix (l tl : List Cls) (n : Nat) (h : n ≤ l.length) :
    trimBlank (l ++ tl).toArray n = trimBlank l.toArray n :=
  trimBlank_congr fun j hj => by
    simp only [List.getElem?_toArray]
    exact List.getElem?_append_left (by omega)

/-- when the scan may stop behind the last token, given the byte that follows: `Complete c` (`SchemaLenTokEv`) and, behind a
value, `adjOk` — the byte does not continue the value -/
def EndsAt (c : TC) (x : Cls) : Prop :=
  (c.st = .endTop ∧ c.K = []) ∨
  (PV c.st = true ∧ c.g = false ∧ (c.K = [] ∨ ∃ b, c.K = [(.litB, b)]) ∧ adjOk c.st x = true)

/-- the literal end of a top-level scalar that is still open behind the last token -/
def endClosers (c : TC) : List Ev :=
  match c.K with
  | [(.litB, b)] => [⟨.litE, b, c.i - 1⟩]
  | _ => []

/-- a token list that ends behind its top-level scalar has read something -/
theorem trun_pos (toks : List Tok) (hw : ∀ t ∈ toks, t.WF) (c' : TC) (evs : List Ev)
    (h : trun TC.init toks = some (c', evs)) (hK : ∃ b, c'.K = [(.litB, b)]) : 1 ≤ (renderToks toks).length := by
  cases toks with
  | nil => simp [trun, TC.init] at h; obtain ⟨rfl, -⟩ := h; simp at hK
  | cons t ts =>
    have := render_pos (hw t (by simp))
    simp only [renderToks, List.length_append]; omega

/-- **schema as a token list, embedded, on byte classes**: the drain delivers the events of the tokens and the end of an
open top-level scalar, and stops at the foreign byte -/
theorem drain_toks_embedded (toks : List Tok) (hw : ∀ t ∈ toks, t.WF) (c' : TC) (evs : List Ev)
    (h : trun TC.init toks = some (c', evs)) (x : Cls) (rest : List Cls) (hx : x.isForeign = true) (hend : EndsAt c' x)
    (hat : At data 0 (renderToks toks ++ x :: rest)) :
    ∃ f, Drain data { lengthComputing := true } (evs ++ endClosers c') f ∧ (∀ e, f ≠ .err e) ∧
      f.len data (evs ++ endClosers c') 0 = .ok (renderToks toks).length := by
  rw [At_append] at hat
  obtain ⟨hat0, hatx⟩ := hat
  simp only [Nat.zero_add] at hatx
  have hlt : (renderToks toks).length < data.size := lt_of_at hatx.1
  have hpos := trun_pos toks hw c' evs h
  obtain ⟨P, hi', hnt⟩ := trun_doc (lc := true) toks hw c' evs h hat0
  obtain ⟨st, g, K, i, CS, cx, al⟩ := c'
  simp only at hi' hend hpos
  subst hi'
  rcases hend with ⟨rfl, rfl⟩ | ⟨hpv, rfl, hK, hadj⟩
  · exact ⟨_, Drain.after P hnt (foreign_at_top g hx _ CS cx al hatx.1), (fun _ h => by cases h), rfl⟩
  · rcases hK with rfl | ⟨b, rfl⟩
    · exact ⟨_, Drain.after P hnt (foreign_glued_container hpv hx hadj _ CS cx al hatx.1), (fun _ h => by cases h), rfl⟩
    · obtain ⟨f, r, hf, hl⟩ := foreign_glued_scalar hpv hx hadj b _ CS cx al (hpos ⟨b, rfl⟩) hatx.1
      exact ⟨f, Drain.after P hnt r, (fun _ h => by rcases hf with rfl | rfl <;> cases h),
        (by rw [Stop.len_append]; exact hl _)⟩

end Len

open Len in
/-- **C14 (schema scanner), schema with inline annotations and user comments, embedded**: the input is the text of a
token list that the token-level scanner accepts from the initial state (`trun TC.init toks`), ending behind the
complete top-level value (`EndsAt`), followed by a foreign byte `x` and anything. `Len` is the length of the schema
text without its trailing blanks. -/
theorem C14_schema_len_tokens (toks : List Tok) (hw : ∀ t ∈ toks, t.WF) (c' : TC) (evs : List Ev)
    (h : trun TC.init toks = some (c', evs)) (x : Cls) (rest : List Cls) (hx : x.isForeign = true) (hend : EndsAt c' x)
    (bs : List UInt8) (hbs : bs.map classify = renderToks toks ++ x :: rest) :
    length bs = .ok (rtrimLen (renderToks toks)) := by
  have hat : At (bs.map classify).toArray 0 (renderToks toks ++ x :: rest) := At_toArray _ [] _ hbs
  obtain ⟨f, hrun, -, hL⟩ := drain_toks_embedded toks hw c' evs h x rest hx hend hat
  rw [length_of_drain bs hrun hL, hbs]
  unfold rtrimLen
  rw [trimBlank_prefix _ _ _ (Nat.le_refl _)]

#print axioms C14_schema_len_tokens

end SchemaScan
