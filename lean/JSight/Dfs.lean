import JSight.ValidateR
import JSight.RefSearch
/-!
C03 / C09 for the schemas of `ValidateR`: `alts` collects exactly the alternatives reachable through reference chains.
The search itself is `RefSearch`; here `VR.S` is presented as a node type of it (`sig`, `isBuild`) and the relations
over `VR.S` are shown to be those of `RefSearch` (`rnv_iff`, `reachS_iff`).
-/
namespace VR
variable {L : Type}

def isRef : S L → Bool | .ref _ _ => true | _ => false

/-- `a` is an alternative reachable from the type name `n` along a chain of names none of which is in `V` -/
inductive RNV (env : Env L) (V : List String) : String → S L → Prop
  | leaf (n : String) (t : S L) : n ∉ V → lookupT env n = some t → isRef t = false → RNV env V n t
  | null (n : String) (names : List String) (l : L) :
      n ∉ V → lookupT env n = some (.ref names (some l)) → RNV env V n (.lit l)
  | step (n : String) (names : List String) (nul : Option L) (m : String) (a : S L) :
      n ∉ V → lookupT env n = some (.ref names nul) → m ∈ names → RNV env V m a → RNV env V n a

/-- the `foldl` of `buildList` over the names of one reference -/
def expand (env : Env L) (fuel : Nat) (names : List String) (st : List String × List (S L)) :
    List String × List (S L) :=
  names.foldl (fun st n =>
    if st.1.contains n then st
    else match lookupT env n with
      | some t => build env fuel t (n :: st.1, st.2)
      | none => (n :: st.1, st.2)) st

theorem build_ref (env : Env L) (fuel : Nat) (names : List String) (nul : Option L) (st : List String × List (S L)) :
    build env (fuel + 1) (.ref names nul) st =
      match nul with
      | some l => ((expand env fuel names st).1, (expand env fuel names st).2 ++ [.lit l])
      | none => expand env fuel names st := by
  cases nul <;> rfl

theorem expand_nil (env : Env L) (fuel : Nat) (st : List String × List (S L)) : expand env fuel [] st = st := rfl

theorem expand_cons (env : Env L) (fuel : Nat) (n : String) (ns : List String) (st : List String × List (S L)) :
    expand env fuel (n :: ns) st =
      expand env fuel ns (if st.1.contains n then st
        else match lookupT env n with
          | some t => build env fuel t (n :: st.1, st.2)
          | none => (n :: st.1, st.2)) := rfl

/-- what one stretch of the search guarantees: nothing is forgotten, and every name marked during the stretch has
been explored completely relative to the visited set at its start ("white path") -/
structure Good (env : Env L) (V : List String) (acc : List (S L)) (V' : List String) (acc' : List (S L)) : Prop where
  monoV : ∀ x ∈ V, x ∈ V'
  monoA : ∀ a ∈ acc, a ∈ acc'
  white : ∀ m, m ∈ V' → m ∉ V → ∀ a, RNV env V m a → a ∈ acc'

/-- the alternatives of a schema, declaratively -/
def ReachS (env : Env L) (t : S L) (a : S L) : Prop :=
  (isRef t = false ∧ a = t) ∨
  ∃ names nul, t = .ref names nul ∧ ((∃ l, nul = some l ∧ a = .lit l) ∨ ∃ n ∈ names, RNV env [] n a)

/-! ### `VR.S` as a node type of `RefSearch` -/

abbrev sig (env : Env L) : RefSearch.Sig (S L) L := ⟨isRef, .ref, .lit, env⟩

theorem expand_eq (env : Env L) (fuel : Nat) (names : List String) (st : List String × List (S L)) :
    expand env fuel names st = RefSearch.expand (sig env) (build env) fuel names st := by
  unfold expand RefSearch.expand
  congr 1; funext st n
  -- the two `match`es on the entry of `n` are different constants: they agree on each value of the entry
  rw [show (sig env).look n = lookupT env n from rfl]
  cases lookupT env n <;> rfl

theorem isBuild (env : Env L) : RefSearch.IsBuild (sig env) (build env) where
  cases t := by cases t <;> first | exact .inl rfl | exact .inr ⟨_, _, rfl⟩
  isRef_ref _ _ := rfl
  inj := S.ref.inj
  zero _ _ := rfl
  nonref _ s _ h := by cases s <;> first | rfl | cases h
  ref fuel names nul st := by rw [build_ref, expand_eq]; cases nul <;> rfl

theorem rnv_iff {env : Env L} {V : List String} {n : String} {a : S L} :
    RNV env V n a ↔ RefSearch.RNV (sig env) V n a := by
  constructor <;> intro h
  · induction h with
    | leaf n t hn hl hr => exact .leaf n t hn hl hr
    | null n names l hn hl => exact .null n names l hn hl
    | step n names nul m a hn hl hm _ ih => exact .step n names nul m a hn hl hm ih
  · induction h with
    | leaf n t hn hl hr => exact .leaf n t hn hl hr
    | null n names l hn hl => exact .null n names l hn hl
    | step n names nul m a hn hl hm _ ih => exact .step n names nul m a hn hl hm ih

theorem reachS_iff {env : Env L} {t a : S L} : ReachS env t a ↔ RefSearch.ReachS (sig env) t a := by
  simp only [ReachS, RefSearch.ReachS, rnv_iff]

theorem build_nonref (env : Env L) (fuel : Nat) (s : S L) (h : isRef s = false) (st : List String × List (S L)) :
    build env (fuel + 1) s st = (st.1, st.2 ++ [s]) := (isBuild env).nonref fuel s st h

theorem reachS_of_name (env : Env L) (n : String) (t : S L) (hl : lookupT env n = some t) (a : S L)
    (h : ReachS env t a) : RNV env [] n a :=
  rnv_iff.2 (RefSearch.reachS_of_name (sig env) n t hl a (reachS_iff.1 h))

/-! ### the search on `VR.S` -/

/-- a path that avoids `V` either also avoids `V1`, or runs into a name of `V1 \\ V`, from which it continues -/
theorem split_path (env : Env L) (V V1 : List String) (m : String) (a : S L) (h : RNV env V m a) :
    RNV env V1 m a ∨ ∃ p, p ∈ V1 ∧ p ∉ V ∧ RNV env V p a := by
  simpa only [rnv_iff] using RefSearch.split_path (sig env) V V1 m a (rnv_iff.1 h)

/-- a path avoiding `V` either avoids `n` too or continues from `n`'s own type -/
theorem through_n (env : Env L) (V : List String) (n : String) (t : S L) (hl : lookupT env n = some t)
    (m : String) (a : S L) (h : RNV env V m a) :
    RNV env (n :: V) m a ∨ (isRef t = false ∧ a = t) ∨ (∃ names l, t = .ref names (some l) ∧ a = .lit l) ∨
      (∃ names nul m', t = .ref names nul ∧ m' ∈ names ∧ RNV env (n :: V) m' a) := by
  simpa only [rnv_iff] using RefSearch.through_n (sig env) V n t hl m a (rnv_iff.1 h)

theorem build_sound (env : Env L) : ∀ (fuel : Nat) (t : S L) (st : List String × List (S L)) (a : S L),
    a ∈ (build env fuel t st).2 → a ∈ st.2 ∨ ReachS env t a :=
  fun fuel t st a h => (RefSearch.build_sound (isBuild env) fuel t st a h).imp id reachS_iff.2

/-- **completeness of `NodeValidatorList`**: every alternative reachable from one of the names of a reference through
any chain of references is among the validators built for the position -/
theorem alts_complete (env : Env L) (names : List String) (nul : Option L) (n : String) (hn : n ∈ names)
    (a : S L) (h : RNV env [] n a) : a ∈ alts env (.ref names nul) :=
  RefSearch.alts_complete (isBuild env) names nul n hn a (rnv_iff.1 h)

/-- **C03 / C09**: the validators built for a position are exactly the alternatives reachable through reference
chains (every name, any depth, cycles included), plus `null` for a nullable reference -/
theorem alts_iff_reach (env : Env L) (s : S L) (a : S L) : a ∈ alts env s ↔ ReachS env s a :=
  (RefSearch.alts_iff_reach (isBuild env) s a).trans reachS_iff.symm

#print axioms alts_iff_reach

end VR
