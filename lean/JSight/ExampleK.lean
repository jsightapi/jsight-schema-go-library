import JSight.Example
import JSight.ValidateCommon
/-!
C15 model, extended as `notations/jschema/example.go` dictates (`EXK.build`, a superset of `EX.build`):

* object keys are either plain (`k.Lex.Value()`: the source token) or key shortcuts `@K`
  (`buildObjectKey`: `b.Build(types[K].Schema().RootNode())`, unknown `K` → error; the key is built AFTER the value and
  only when the value is not omitted; a key whose build returns nil writes nothing);
* an object / array node that carries a types-list constraint (an `or` rule, a `{type: "@t"}` rule) makes
  `Example()` return `ErrUserTypeFound` (`typed = true`; known finding K-C15-orcontainer);
* a literal node emits its own token whatever rules it carries (`or`, `enum`, `const`, `{type: "@t"}` …): that is
  `.lit` as in `EX.N`; a mixed-value node (`@a`, `@a | @b`, also nullable) follows its first name: `.ref` as in `EX.N`.
-/
namespace EXK
open JsonScan
open EX (joinC bump)

inductive Key
  | plain (tok : List Cls)        -- key source token (with quotes)
  | short (name : String)         -- `@K`

inductive N
  | lit (tok : List Cls)
  | arr (typed : Bool) (items : List N)
  | obj (typed : Bool) (props : List (Key × N))
  | ref (first : String)

abbrev Types := List (String × N)
def lookupT (ts : Types) (n : String) : Option N := (ts.find? (·.1 == n)).map (·.2)

-- `none` = error (unknown type / typed container / out of fuel); `some none` = omitted (recursion cut-off)
mutual
def build (ts : Types) : Nat → (String → Nat) → N → Option (Option (List Cls))
  | _, _, .lit tok => some (some tok)
  | fuel, proc, .arr typed items =>
    if typed then none
    else match buildKids ts fuel proc items with
      | some parts => some (some (.lbrack :: (joinC parts ++ [.rbrack])))
      | none => none
  | fuel, proc, .obj typed props =>
    if typed then none
    else match buildProps ts fuel proc props with
      | some parts => some (some (.lbrace :: (joinC parts ++ [.rbrace])))
      | none => none
  | 0, _, .ref _ => none
  | fuel + 1, proc, .ref n =>
    if proc n > 1 then some none
    else match lookupT ts n with
      | some t => build ts fuel (bump proc n) t
      | none => none
termination_by fuel _ n => (fuel, sizeOf n, 0)
def buildKids (ts : Types) : Nat → (String → Nat) → List N → Option (List (List Cls))
  | _, _, [] => some []
  | fuel, proc, c :: cs =>
    match build ts fuel proc c, buildKids ts fuel proc cs with
    | some (some ex), some rest => some (ex :: rest)
    | some none, some rest => some rest
    | _, _ => none
termination_by fuel _ cs => (fuel, sizeOf cs, 0)
def buildProps (ts : Types) : Nat → (String → Nat) → List (Key × N) → Option (List (List Cls))
  | _, _, [] => some []
  | fuel, proc, (k, c) :: ps =>
    match build ts fuel proc c, buildProps ts fuel proc ps with
    | some (some ex), some rest =>
      (match buildKey ts fuel proc k with
       | some kt => some ((kt ++ .colon :: ex) :: rest)
       | none => none)
    | some none, some rest => some rest
    | _, _ => none
termination_by fuel _ ps => (fuel, sizeOf ps, 0)
/-- `buildObjectKey` -/
def buildKey (ts : Types) : Nat → (String → Nat) → Key → Option (List Cls)
  | _, _, .plain tok => some tok
  | 0, _, .short _ => none
  | fuel + 1, proc, .short K =>
    match lookupT ts K with
    | some t =>
      (match build ts fuel proc t with
       | some (some kt) => some kt
       | some none => some []
       | none => none)
    | none => none
termination_by fuel _ _ => (fuel, 0, 1)
end

/-! ### `EX.build` is the restriction to plain keys and untyped containers -/

mutual
def embed : EX.N → N
  | .lit tok => .lit tok
  | .arr items => .arr false (embedKids items)
  | .obj props => .obj false (embedProps props)
  | .ref n => .ref n
def embedKids : List EX.N → List N
  | [] => []
  | c :: cs => embed c :: embedKids cs
def embedProps : List (List Cls × EX.N) → List (Key × N)
  | [] => []
  | (k, c) :: ps => (.plain k, embed c) :: embedProps ps
end

def embedTypes (ts : EX.Types) : Types := ts.map fun p => (p.1, embed p.2)

theorem lookup_embed (ts : EX.Types) (n : String) : lookupT (embedTypes ts) n = (EX.lookupT ts n).map embed :=
  Tbl.named_map embed ts n

theorem buildKids_embed_of (ts : EX.Types) {fuel : Nat} {proc : String → Nat} : (cs : List EX.N) →
    (∀ c ∈ cs, build (embedTypes ts) fuel proc (embed c) = EX.build ts fuel proc c) →
    buildKids (embedTypes ts) fuel proc (embedKids cs) = EX.buildKids ts fuel proc cs
  | [], _ => by simp [embedKids, buildKids, EX.buildKids]
  | c :: cs, h => by
    simp only [embedKids, buildKids, EX.buildKids, h c (by simp),
      buildKids_embed_of ts cs fun d hd => h d (by simp [hd])]
    cases EX.build ts fuel proc c with
    | none => rfl
    | some o => cases o <;> cases EX.buildKids ts fuel proc cs <;> rfl

theorem buildProps_embed_of (ts : EX.Types) {fuel : Nat} {proc : String → Nat} : (ps : List (List Cls × EX.N)) →
    (∀ p ∈ ps, build (embedTypes ts) fuel proc (embed p.2) = EX.build ts fuel proc p.2) →
    buildProps (embedTypes ts) fuel proc (embedProps ps) = EX.buildProps ts fuel proc ps
  | [], _ => by simp [embedProps, buildProps, EX.buildProps]
  | (k, c) :: ps, h => by
    simp only [embedProps, buildProps, EX.buildProps, h (k, c) (by simp),
      buildProps_embed_of ts ps fun p hp => h p (by simp [hp]), buildKey]
    cases EX.build ts fuel proc c with
    | none => rfl
    | some o => cases o <;> cases EX.buildProps ts fuel proc ps <;> rfl

theorem build_embed (ts : EX.Types) (fuel : Nat) : ∀ (proc : String → Nat) (n : EX.N),
    build (embedTypes ts) fuel proc (embed n) = EX.build ts fuel proc n := by
  induction fuel using Nat.strongRecOn with
  | _ fuel ihf =>
    intro proc n
    induction n using EX.N.mem_induct with
    | lit tok => simp [embed, build, EX.build]
    | arr items ih => simp only [embed, build, EX.build, buildKids_embed_of ts items ih]; rfl
    | obj props ih => simp only [embed, build, EX.build, buildProps_embed_of ts props ih]; rfl
    | ref n =>
      cases fuel with
      | zero => simp [embed, build, EX.build]
      | succ f =>
        simp only [embed, build, EX.build, lookup_embed]
        split
        · rfl
        · cases h : EX.lookupT ts n with
          | none => rfl
          | some t => exact ihf f (Nat.lt_succ_self f) (bump proc n) t

theorem buildKids_embed (ts : EX.Types) : (fuel : Nat) → (proc : String → Nat) → (cs : List EX.N) →
    buildKids (embedTypes ts) fuel proc (embedKids cs) = EX.buildKids ts fuel proc cs :=
  fun fuel proc cs => buildKids_embed_of ts cs fun c _ => build_embed ts fuel proc c

theorem buildProps_embed (ts : EX.Types) : (fuel : Nat) → (proc : String → Nat) → (ps : List (List Cls × EX.N)) →
    buildProps (embedTypes ts) fuel proc (embedProps ps) = EX.buildProps ts fuel proc ps :=
  fun fuel proc ps => buildProps_embed_of ts ps fun p _ => build_embed ts fuel proc p.2

end EXK
