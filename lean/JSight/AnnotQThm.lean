import JSight.AnnotNoteLoad
import JSight.QNameBytes
import JSight.C02TextGrammar2
/-!
The annotated top-level scalar on schema texts (bytes), in general and for bare names with literal values. The grammar
`Lay.GObj` (quoted or bare names, literal or list values; `C02TextGrammar2`) is read as the class-level grammar
`SchemaScan.QObj` (`.cls`: the image under `classify`); `gannot_loaded`: scanner model + loader model on the text of
an annotated top-level scalar, with or without a note, build ONE literal node which read against the text
(`ScalarLoaded`) has the scalar's token, the pairs (`GName.meaning`, `GVal.spell`) in written order — the loader binds
the UNQUOTED name (a quoted name's key-end span runs from quote to quote, `nameOf` decodes it) and records a list
value from bracket to bracket — and the note. The node table (`load_gannot`, `load_annot`; `load_annot_note` in
`AnnotNoteThm`), the resolved table and the AST (`AstTextAnnot`) are read off `ScalarLoaded`. Bare names with literal
values (`BObj` of `AnnotThm`) are the case `BObj.toG`: `annot_loaded`, `load_annot`, and the statements of property C13
on texts, `inline_vs_multiline` (the two forms with the same rules load into the same node table), `annot_events`
and `inline_vs_multiline_events` (the same event types, line breaks aside).
-/
namespace Lay
open SchemaScan

def GItem.cls (i : GItem) : CItem := (i.w1.map classify, i.tok.map classify, i.w2.map classify)

/-- the kind of the value at class level (`QV`: a literal, or a list with its items' classes). `b0` are the blanks of an EMPTY list `[ ]` (`GVal.spell` writes them in that case only); in a non-empty list the
blanks belong to the items -/
def GVal.qv : GVal → QV
  | .lit _ => .lit
  | .list b0 [] => .list (b0.map classify) []
  | .list _ (i :: is) => .list [] ((i :: is).map GItem.cls)

def GName.isQuoted : GName → Bool
  | .bare _ => false
  | .quoted _ => true

def GRule.cls (r : GRule) : QRule :=
  ⟨⟨r.b1.map classify, r.name.spell.map classify, r.n2, r.b3.map classify, r.val.spell.map classify, r.b4.map classify⟩,
    r.name.isQuoted, r.val.qv⟩

def GObj.cls : GObj → QObj
  | .empty b0 => .empty (b0.map classify)
  | .rules r rs tc => .rules r.cls (rs.map GRule.cls) (tc.map (·.map classify))

/-! ### rendering on bytes and on classes -/

theorem GRule.render_cls (r : GRule) : r.render.map classify = r.cls.c.render := by
  simp only [GRule.render, CRule.render, GRule.cls, List.map_append, List.map_cons, List.map_replicate]
  rfl

theorem renderGRules_cls : ∀ (rs : List GRule) (r : GRule),
    (renderGRules r rs).map classify = renderRules r.cls.c ((rs.map GRule.cls).map QRule.c)
  | [], r => by simp [renderGRules, renderRules, GRule.render_cls]
  | r' :: rs, r => by
    simp only [renderGRules, renderRules, List.map_append, List.map_cons, GRule.render_cls, renderGRules_cls rs r']
    rfl

theorem GObj.body_cls (ob : GObj) : ob.body.map classify = ob.cls.c.body := by
  cases ob with
  | empty b0 => rfl
  | rules r rs tc =>
    simp only [GObj.body, GObj.cls, QObj.c, CObj.body, List.map_append, renderGRules_cls]
    cases tc <;> rfl

theorem gannText_cls (a : Ann) (ha : a.isAnn = true) (tok s1 s2 : List UInt8) (ob : GObj) (s3 tl : List UInt8) :
    (gannText a tok s1 s2 ob s3 tl).map classify
      = annText a (tok.map classify) (s1.map classify) (s2.map classify) ob.cls.c (s3.map classify) (tl.map classify) := by
  simp only [gannText, annText, List.map_append, List.map_cons, GObj.body_cls]
  cases a <;> simp [Ann.isAnn] at ha <;> rfl

theorem renderGItems_cls : ∀ (is : List GItem) (i : GItem),
    (renderGItems (i :: is) ++ [93]).map classify = renderCItems ((i :: is).map GItem.cls)
  | [], i => by simp [renderGItems, renderCItems, GItem.cls, classify_rbrack]
  | i' :: is, i => by
    have ih := renderGItems_cls is i'
    have e : renderCItems ((i :: i' :: is).map GItem.cls)
        = i.w1.map classify ++ (i.tok.map classify ++ (i.w2.map classify ++
            ([Cls.comma] ++ renderCItems ((i' :: is).map GItem.cls)))) := rfl
    rw [e, ← ih]
    simp [renderGItems, classify_comma]

/-! ### validity -/

theorem GVal.valid_cls (a : Ann) (v : GVal) (h : v.Valid a) : v.qv.Valid a (v.spell.map classify) := by
  cases v with
  | lit t => exact h
  | list b0 items =>
    obtain ⟨hb0, hits⟩ := h
    cases items with
    | nil =>
      show (_ = _) ∧ ABlank a _ ∧ CItemsValid a _
      refine ⟨?_, hb0, fun it hit => absurd hit List.not_mem_nil⟩
      simp [GVal.spell, renderCItems, classify_lbrack, classify_rbrack]
    | cons i is =>
      show (_ = _) ∧ ABlank a _ ∧ CItemsValid a _
      refine ⟨?_, fun c hc => absurd hc List.not_mem_nil, ?_⟩
      · have := renderGItems_cls is i
        simp only [GVal.spell, List.map_cons, List.nil_append, classify_lbrack, this]
      · intro it hit
        obtain ⟨g, hg, rfl⟩ := List.mem_map.1 hit
        exact hits g hg

theorem GName.valid_cls (n : GName) (h : n.Valid) :
    (n.isQuoted = true → IsKey (n.spell.map classify)) ∧ (n.isQuoted = false → IsName (n.spell.map classify)) := by
  cases n with
  | bare b => exact ⟨fun hq => (by simp [GName.isQuoted] at hq), fun _ => h⟩
  | quoted cs => exact ⟨fun _ => isKey_of_str cs h, fun hq => (by simp [GName.isQuoted] at hq)⟩

theorem GRule.valid_cls (a : Ann) (r : GRule) (h : r.Valid a) : r.cls.Valid a :=
  ⟨h.1, GName.valid_cls r.name h.2.1, h.2.2.1, GVal.valid_cls a r.val h.2.2.2.1, h.2.2.2.2⟩

theorem GObj.valid_cls (a : Ann) (ob : GObj) (h : ob.Valid a) : ob.cls.Valid a := by
  cases ob with
  | empty b0 => exact h
  | rules r rs tc =>
    refine ⟨⟨GRule.valid_cls a r h.1.1, ?_⟩, ?_⟩
    · intro x hx
      obtain ⟨g, hg, rfl⟩ := List.mem_map.1 hx
      exact GRule.valid_cls a g (h.1.2 g hg)
    · intro b5 hb5
      cases tc with
      | none => cases hb5
      | some t =>
        simp only [Option.map_some, Option.some.injEq] at hb5
        subst hb5
        exact h.2 t rfl

/-! ### the name and the value of a rule, as the loader reads them off the text -/

theorem GRule.cls_render_length (r : GRule) : r.cls.c.render.length = r.render.length := by
  rw [← GRule.render_cls, List.length_map]

theorem nameOf_ruleQ (src : Array UInt8) (r : GRule) (hn : r.name.Valid) (p : Nat) (hat : AtB src p r.render) :
    Loader.nameOf src (r.cls.span p) = r.name.meaning := by
  cases hname : r.name with
  | bare n =>
    rw [hname] at hn
    have h := nameOf_rule src ⟨r.b1, n, r.n2, r.b3, r.val.spell, r.b4⟩ hn p (by
      simpa [BRule.render, GRule.render, hname, GName.spell] using hat)
    have e : r.cls.span p = (BRule.cls ⟨r.b1, n, r.n2, r.b3, r.val.spell, r.b4⟩).span p := by
      simp [QRule.span, QRule.keyEnd, CRule.span, GRule.cls, BRule.cls, hname, GName.isQuoted, GName.spell]
    rw [e, h]
    rfl
  | quoted cs =>
    -- the key-end span runs from quote to quote; `nameOf` slices it, trims nothing (`"`, byte 34, is no blank:
    -- `trimSpaces_token` with first and last byte 34) and unquotes it to `meaning` (`RulesF.unquote_str`)
    rw [hname] at hn
    have hok : ∀ c ∈ cs, c.ok := hn
    simp only [GRule.render, hname, GName.spell] at hat
    rw [AtB_append, AtB_append] at hat
    have hns : AtB src (p + r.b1.length) (34 :: (cs.flatMap RulesF.SCh.render ++ [34])) := hat.2.1
    have hs := slice_tok src _ _ hns (by simp)
    have hsp : r.cls.span p = (p + r.b1.length,
        p + r.b1.length + (34 :: (cs.flatMap RulesF.SCh.render ++ [34]) : List UInt8).length - 1) := by
      simp [QRule.span, QRule.keyEnd, CRule.nameOff, GRule.cls, hname, GName.isQuoted, GName.spell]
    rw [hsp]
    unfold Loader.nameOf
    simp only [hs]
    have hq : Loader.isBlank 34 = false := by decide
    have ht := Loader.trimSpaces_token [] [] (34 :: (cs.flatMap RulesF.SCh.render ++ [34])) (by simp) (by simp) 34
      (cs.flatMap RulesF.SCh.render ++ [34]) rfl hq 34 ((cs.flatMap RulesF.SCh.render).reverse ++ [34]) (by simp) hq
    simp only [List.nil_append, List.append_nil] at ht
    rw [ht]
    exact RulesF.unquote_str cs hok

theorem GVal.spell_ne (a : Ann) (v : GVal) (h : v.Valid a) : v.spell ≠ [] := by
  cases v with
  | lit t => exact scalar_ne h
  | list b0 items => cases items <;> simp [GVal.spell]

theorem valOf_ruleQ (src : Array UInt8) (a : Ann) (r : GRule) (hv : r.val.Valid a) (p : Nat)
    (hat : AtB src p r.render) :
    Loader.slice src (r.cls.c.vspan p).1 (r.cls.c.vspan p).2 = r.val.spell := by
  simp only [GRule.render] at hat
  have e : r.b1 ++ (r.name.spell ++ (List.replicate r.n2 32 ++ 58 :: (r.b3 ++ (r.val.spell ++ r.b4))))
      = (r.b1 ++ (r.name.spell ++ (List.replicate r.n2 32 ++ 58 :: r.b3))) ++ (r.val.spell ++ r.b4) := by simp
  rw [e, AtB_append] at hat
  have hat2 := (AtB_append src r.val.spell r.b4 _).1 hat.2
  have hs := slice_tok src r.val.spell _ hat2.1 (GVal.spell_ne a r.val hv)
  have hoff : (r.b1 ++ (r.name.spell ++ (List.replicate r.n2 32 ++ 58 :: r.b3))).length
      = r.b1.length + r.name.spell.length + r.n2 + 1 + r.b3.length := by
    simp only [List.length_append, List.length_cons, List.length_replicate]; omega
  simp only [CRule.vspan, CRule.valOff, GRule.cls, List.length_map]
  rw [hoff] at hs
  simpa [Nat.add_assoc] using hs

/-! ### list values sit under `or` / `enum` / `allOf` -/

/-- the names whose value the loader reads as an embedded value; `Loader.isEmbName` is this test on the name that
`nameOf` reads off a span (`isEmbName_eq`) -/
def embName (n : List UInt8) : Bool :=
  n == "or".toUTF8.toList || n == "enum".toUTF8.toList || n == "allOf".toUTF8.toList

theorem isEmbName_eq (src : Array UInt8) (rn : Nat × Nat) : Loader.isEmbName src rn = embName (Loader.nameOf src rn) := rfl

/-- a list value is the value of a rule the loader reads as `or` / `enum` / `allOf` (under any other name the loader
answers error 802: `Loader.st_value_list_plain`) -/
def GRule.listEmb (r : GRule) : Prop := ∀ b0 items, r.val = .list b0 items → embName r.name.meaning = true

def GObj.listsEmb (ob : GObj) : Prop := ∀ r ∈ ob.allRules, r.listEmb

theorem embOK_rule (src : Array UInt8) (r : GRule) (hn : r.name.Valid) (p : Nat) (hat : AtB src p r.render)
    (he : r.listEmb) : Loader.embOK src r.cls p := by
  intro w0 items hv
  have : ∃ b0 its, r.val = .list b0 its := by
    cases hval : r.val with
    | lit t => simp [GRule.cls, GVal.qv, hval] at hv
    | list b0 its => exact ⟨b0, its, rfl⟩
  obtain ⟨b0, its, hl⟩ := this
  rw [isEmbName_eq, nameOf_ruleQ src r hn p hat]
  exact he b0 its hl

theorem embOK_rules (src : Array UInt8) (a : Ann) : ∀ (rs : List GRule) (r : GRule), (r.Valid a ∧ ∀ x ∈ rs, x.Valid a) →
    (r.listEmb ∧ ∀ x ∈ rs, x.listEmb) → ∀ (p : Nat) (rest : List UInt8), AtB src p (renderGRules r rs ++ rest) →
    Loader.embOKRules src p r.cls (rs.map GRule.cls)
  | [], r, hv, he, p, rest, hat => by
    simp only [renderGRules] at hat
    rw [AtB_append] at hat
    exact embOK_rule src r hv.1.2.1 p hat.1 he.1
  | r' :: rs, r, hv, he, p, rest, hat => by
    simp only [renderGRules, List.append_assoc, List.cons_append] at hat
    rw [AtB_append] at hat
    obtain ⟨h1, _, h3⟩ := hat
    have ih := embOK_rules src a rs r' ⟨hv.2 r' (by simp), fun z hz => hv.2 z (by simp [hz])⟩
      ⟨he.2 r' (by simp), fun z hz => he.2 z (by simp [hz])⟩ (p + r.render.length + 1) rest h3
    simp only [List.map_cons, Loader.embOKRules, GRule.cls_render_length]
    exact ⟨embOK_rule src r hv.1.2.1 p h1 he.1, ih⟩

/-! ### what the spans of a rule object read in the text -/

theorem spans_rulesQ (src : Array UInt8) (a : Ann) : ∀ (rs : List GRule) (r : GRule), (r.Valid a ∧ ∀ x ∈ rs, x.Valid a) →
    ∀ (p : Nat) (rest : List UInt8), AtB src p (renderGRules r rs ++ rest) →
    (spansRulesQ p r.cls (rs.map GRule.cls)).map (Loader.nameOf src) = r.name.meaning :: rs.map (·.name.meaning) ∧
    (vspansRules p r.cls.c ((rs.map GRule.cls).map QRule.c)).map (fun q => Loader.slice src q.1 q.2)
      = r.val.spell :: rs.map (·.val.spell)
  | [], r, hv, p, rest, hat => by
    simp only [renderGRules] at hat
    rw [AtB_append] at hat
    simp [spansRulesQ, vspansRules, nameOf_ruleQ src r hv.1.2.1 p hat.1, valOf_ruleQ src a r hv.1.2.2.2.1 p hat.1]
  | r' :: rs, r, hv, p, rest, hat => by
    simp only [renderGRules, List.append_assoc, List.cons_append] at hat
    rw [AtB_append] at hat
    obtain ⟨h1, _, h3⟩ := hat
    obtain ⟨ih1, ih2⟩ := spans_rulesQ src a rs r' ⟨hv.2 r' (by simp), fun z hz => hv.2 z (by simp [hz])⟩
      (p + r.render.length + 1) rest h3
    simp only [List.map_cons, spansRulesQ, vspansRules, GRule.cls_render_length] at ih1 ih2 ⊢
    rw [ih1, ih2]
    simp [nameOf_ruleQ src r hv.1.2.1 p h1, valOf_ruleQ src a r hv.1.2.2.2.1 p h1]

theorem spansQ_length : ∀ (rs : List QRule) (r : QRule) (p : Nat),
    (spansRulesQ p r rs).length = (vspansRules p r.c (rs.map QRule.c)).length
  | [], r, p => rfl
  | r' :: rs, r, p => by simp [spansRulesQ, vspansRules, spansQ_length rs r' _]

/-- the rule object whose `{` stands at `o`: its list values sit under names the loader embeds, and its name and value
spans read the pairs as written -/
theorem GObj.spans_read (src : Array UInt8) (a : Ann) (ob : GObj) (hv : ob.Valid a) (he : ob.listsEmb) (o : Nat)
    (rest : List UInt8) (hat : AtB src (o + 1) (ob.body ++ rest)) :
    Loader.embOKObj src o ob.cls ∧ (ob.cls.spans o).length = (ob.cls.c.vspans o).length ∧
      (ob.cls.spans o).map (Loader.nameOf src) = ob.pairs.map (·.1) ∧
      (ob.cls.c.vspans o).map (fun q => Loader.slice src q.1 q.2) = ob.pairs.map (·.2) := by
  cases ob with
  | empty b0 => exact ⟨trivial, rfl, rfl, rfl⟩
  | rules r rs tc =>
    have hat' : AtB src (o + 1) (renderGRules r rs ++ (renderTcB tc ++ rest)) := by
      simpa [GObj.body, List.append_assoc] using hat
    obtain ⟨h1, h2⟩ := spans_rulesQ src a rs r hv.1 (o + 1) _ hat'
    exact ⟨embOK_rules src a rs r hv.1 ⟨he r (by simp [GObj.allRules]), fun x hx => he x (by simp [GObj.allRules, hx])⟩ _ _ hat',
      spansQ_length _ _ _, by simpa [GObj.cls, QObj.spans, GObj.pairs, Function.comp_def] using h1,
      by simpa [GObj.cls, QObj.c, CObj.vspans, GObj.pairs, Function.comp_def] using h2⟩

/-! ### the annotated scalar, with or without a note -/

/-- `- spaces note` behind the rule object, or nothing -/
def noteB : Option (List UInt8 × List UInt8) → List UInt8
  | none => []
  | some (n1, note) => 45 :: (n1 ++ note)

/-- the schema text with an optional note; `gannText` is the case `none` -/
def gannTextN (a : Ann) (tok s1 s2 : List UInt8) (ob : GObj) (s3 : List UInt8) (nt : Option (List UInt8 × List UInt8))
    (tl : List UInt8) : List UInt8 :=
  tok ++ (s1 ++ (47 :: markB a :: (s2 ++ (123 :: (ob.body ++ (125 :: (s3 ++ (noteB nt ++ tl))))))))

theorem gannTextN_cls (a : Ann) (ha : a.isAnn = true) (tok s1 s2 : List UInt8) (ob : GObj) (s3 n1 note tl : List UInt8) :
    (gannTextN a tok s1 s2 ob s3 (some (n1, note)) tl).map classify
      = annTextN a (tok.map classify) (s1.map classify) (s2.map classify) ob.cls.c (s3.map classify) (n1.map classify)
          (note.map classify) (tl.map classify) := by
  simp only [gannTextN, noteB, annTextN, List.map_append, List.map_cons, GObj.body_cls, List.cons_append, List.append_assoc]
  cases a <;> simp [Ann.isAnn] at ha <;> rfl

/-- the loader's table is ONE literal node which, read against the text `src`, has the token `tok`, the rules `pairs`
(name, value text; written order) and the note `note`. What the loading, the resolved-table and the AST theorems of an
annotated scalar say is read off this. -/
structure ScalarLoaded (src : Array UInt8) (st : Loader.St) (tok : List UInt8) (pairs : List (List UInt8 × List UInt8))
    (note : Option (List UInt8)) : Prop where
  root : st.root = some 0
  table : ∃ ve sps vsps cm,
    st.nodes = #[{ Loader.addSpans { kind := .lit, parent := none, value := some (0, ve) } sps vsps with comment := cm }] ∧
      sps.length = vsps.length ∧ Loader.slice src 0 ve = tok ∧
      sps.map (Loader.nameOf src) = pairs.map (·.1) ∧ vsps.map (fun q => Loader.slice src q.1 q.2) = pairs.map (·.2) ∧
      cm.map (fun q => Loader.slice src q.1 q.2) = note

theorem ScalarLoaded.absTable {src : Array UInt8} {st : Loader.St} {tok : List UInt8}
    {pairs : List (List UInt8 × List UInt8)} {note : Option (List UInt8)} (h : ScalarLoaded src st tok pairs note) :
    absTable src st = [{ annNode tok (pairs.map (·.1)) with note := note.map Loader.trimSpaces }] := by
  obtain ⟨ve, sps, vsps, cm, hn, _, hv, h1, _, hc⟩ := h.table
  have hrt : (ruleText src ∘ Sum.inl) = Loader.nameOf src := by funext sp; rfl
  simp only [Lay.absTable, hn, List.map_cons, List.map_nil, absNode, Loader.addSpans, List.nil_append, List.map_map,
    Option.map_some, hv, hrt, h1, annNode, ← hc, Option.map_map]
  rfl

/-- for `ScalarLoaded.resolve`: the rules the compiler resolves from spans that read as `pairs` are, positions
erased, the rules `C02T.mk pairs` -/
theorem C02T.loadedRules_erase (src : Array UInt8) : ∀ (sps vsps : List (Nat × Nat)) (pairs : List (List UInt8 × List UInt8)),
    sps.map (Loader.nameOf src) = pairs.map (·.1) → vsps.map (fun q => Loader.slice src q.1 q.2) = pairs.map (·.2) →
    (C02T.loadedRules src sps vsps).map C02T.erase = C02T.mk pairs
  | [], _, pairs, h1, _ => by
    cases pairs with
    | nil => simp [C02T.loadedRules, C02T.mk]
    | cons p ps => simp at h1
  | sp :: sps, [], pairs, h1, h2 => by
    cases pairs with
    | nil => simp at h1
    | cons p ps => simp at h2
  | sp :: sps, vsp :: vsps, pairs, h1, h2 => by
    cases pairs with
    | nil => simp at h1
    | cons p ps =>
      simp only [List.map_cons, List.cons.injEq] at h1 h2
      have ih := C02T.loadedRules_erase src sps vsps ps h1.2 h2.2
      simp only [C02T.loadedRules, C02T.mk, List.map_cons, List.zip_cons_cons, List.map_map] at ih ⊢
      rw [ih]
      simp [Compile.resolveRule, C02T.erase, h1.1, h2.1]

/-- the resolved table the compiler reads -/
theorem ScalarLoaded.resolve {src : Array UInt8} {st : Loader.St} {tok : List UInt8}
    {pairs : List (List UInt8 × List UInt8)} {note : Option (List UInt8)} (h : ScalarLoaded src st tok pairs note) :
    ∃ rs, st.nodes.toList.map (Compile.resolve src) = [C02T.node tok rs] ∧ rs.map C02T.erase = C02T.mk pairs := by
  obtain ⟨ve, sps, vsps, cm, hn, _, hv, h1, h2, _⟩ := h.table
  refine ⟨C02T.loadedRules src sps vsps, ?_, C02T.loadedRules_erase src sps vsps pairs h1 h2⟩
  rw [hn, ← hv, ← C02T.resolve_addSpans]
  rfl

/-- **an annotated top-level scalar with quoted / bare rule names, literal / list values and an optional note loads
into one literal node** that reads as the token, the pairs (decoded name, value text) in written order and the note -/
theorem gannot_loaded (a : Ann) (ha : a.isAnn = true) (tok s1 s2 : List UInt8) (ob : GObj) (s3 : List UInt8)
    (nt : Option (List UInt8 × List UInt8)) (tl : List UInt8) (hv : GAnnValid a tok s1 s2 ob s3 tl)
    (hnt : ∀ n1 note, nt = some (n1, note) → IsSpTabs (n1.map classify) ∧ IsNote (note.map classify)) (he : ob.listsEmb) :
    ∃ st, Loader.loadText (gannTextN a tok s1 s2 ob s3 nt tl) = .ok st ∧
      ScalarLoaded (gannTextN a tok s1 s2 ob s3 nt tl).toArray st tok ob.pairs (nt.map (·.2)) := by
  have hvo := GObj.valid_cls a ob hv.ob
  -- the text's array under a name, so that no `simp` / `rw` below opens it; `subst hsrc` puts it back
  obtain ⟨src, hsrc⟩ : ∃ src, src = (gannTextN a tok s1 s2 ob s3 nt tl).toArray := ⟨_, rfl⟩
  have ho : objOff (tok.map classify) (s1.map classify) (s2.map classify) = tok.length + s1.length + 2 + s2.length := by
    simp [objOff]
  have hval : Loader.slice src 0 ((tok.map classify).length - 1) = tok := by
    have hat : AtB src 0 (tok ++ _) := hsrc ▸ AtB_toArray (gannTextN a tok s1 s2 ob s3 nt tl) [] _ rfl
    rw [AtB_append] at hat
    simpa using slice_tok src tok 0 hat.1 (scalar_ne hv.tok)
  have hbody : AtB src (objOff (tok.map classify) (s1.map classify) (s2.map classify) + 1)
      (ob.body ++ (125 :: (s3 ++ (noteB nt ++ tl)))) := by
    have h := AtB_toArray (gannTextN a tok s1 s2 ob s3 nt tl) (tok ++ (s1 ++ (47 :: markB a :: (s2 ++ [123]))))
      (ob.body ++ (125 :: (s3 ++ (noteB nt ++ tl)))) (by simp [gannTextN])
    have hl : (tok ++ (s1 ++ (47 :: markB a :: (s2 ++ [123])))).length = tok.length + s1.length + 2 + s2.length + 1 := by
      simp only [List.length_append, List.length_cons, List.length_nil]; omega
    rwa [← hsrc, hl, ← ho] at h
  obtain ⟨hemb, hlen, hnames, hvals⟩ := GObj.spans_read src a ob hv.ob he _ _ hbody
  cases nt with
  | none =>
    obtain ⟨st, hfold, hr, hn⟩ := Loader.annot_foldQ src a ha (tok.map classify) (s1.map classify) (s2.map classify) ob.cls hvo
      hemb (s3.map classify) (tl.map classify)
    subst hsrc
    refine ⟨st, Loader.loadText_of_emits (gannText_cls a ha tok s1 s2 ob s3 tl)
      (annot_emitsQ a ha _ hv.tok _ hv.s1 _ hv.s2 _ hvo _ hv.s3 _ hv.tl) hfold,
      hr, _, _, _, none, hn, hlen, hval, hnames, hvals, rfl⟩
  | some p =>
    obtain ⟨n1, note⟩ := p
    obtain ⟨hn1, hnote⟩ := hnt n1 note rfl
    obtain ⟨st, hfold, hr, hn⟩ := Loader.annot_fold_note src a ha (tok.map classify) (s1.map classify) (s2.map classify)
      ob.cls hvo hemb (s3.map classify) (n1.map classify) (note.map classify) (tl.map classify)
    have hns : Loader.slice src
        (noteOff (tok.map classify) (s1.map classify) (s2.map classify) ob.cls.c (s3.map classify) (n1.map classify))
        (noteOff (tok.map classify) (s1.map classify) (s2.map classify) ob.cls.c (s3.map classify) (n1.map classify)
          + (note.map classify).length - 1) = note := by
      have h := AtB_toArray (gannTextN a tok s1 s2 ob s3 (some (n1, note)) tl)
        (tok ++ (s1 ++ (47 :: markB a :: (s2 ++ (123 :: (ob.body ++ (125 :: (s3 ++ (45 :: n1))))))))) (note ++ tl)
        (by simp [gannTextN, noteB])
      rw [← hsrc, AtB_append] at h
      have hoff : (tok ++ (s1 ++ (47 :: markB a :: (s2 ++ (123 :: (ob.body ++ (125 :: (s3 ++ (45 :: n1))))))))).length
          = noteOff (tok.map classify) (s1.map classify) (s2.map classify) ob.cls.c (s3.map classify) (n1.map classify) := by
        simp only [noteOff, tailOff, List.length_append, List.length_cons, List.length_map, ← GObj.body_cls]
        omega
      rw [hoff] at h
      simpa using slice_tok src note _ h.1 (by
        obtain ⟨⟨c, cs, hc, _⟩, _⟩ := hnote
        intro e; subst e; simp at hc)
    subst hsrc
    refine ⟨st, Loader.loadText_of_emits (gannTextN_cls a ha tok s1 s2 ob s3 n1 note tl)
      (annot_emits_note a ha _ hv.tok _ hv.s1 _ hv.s2 _ hvo _ hv.s3 _ hn1 _ hnote _ hv.tl) hfold,
      hr, _, _, _, _, hn, hlen, hval, hnames, hvals, congrArg some hns⟩

/-- **an annotated top-level scalar with quoted / bare rule names and literal / list values loads into one literal node**
whose resolved rules are, positions aside, the pairs (decoded name, value text) in written order -/
theorem load_gannot (a : Ann) (ha : a.isAnn = true) (tok s1 s2 : List UInt8) (ob : GObj) (s3 tl : List UInt8)
    (hv : GAnnValid a tok s1 s2 ob s3 tl) (he : ob.listsEmb) :
    ∃ st rs, Loader.loadText (gannText a tok s1 s2 ob s3 tl) = .ok st ∧ st.root = some 0 ∧
      st.nodes.toList.map (Compile.resolve (gannText a tok s1 s2 ob s3 tl).toArray) = [C02T.node tok rs] ∧
      rs.map C02T.erase = C02T.mk ob.pairs ∧
      absTable (gannText a tok s1 s2 ob s3 tl).toArray st = [annNode tok (ob.pairs.map Prod.fst)] := by
  obtain ⟨st, hload, hs⟩ := gannot_loaded a ha tok s1 s2 ob s3 none tl hv (fun _ _ h => nomatch h) he
  obtain ⟨rs, h1, h2⟩ := hs.resolve
  exact ⟨st, rs, hload, hs.root, h1, h2, hs.absTable⟩

theorem GObj.pairs_eq (ob : GObj) : ob.pairs = ob.allRules.map (fun x => (x.name.meaning, x.val.spell)) := by
  cases ob <;> rfl

/-- the condition on the loaded pairs: a value text that begins with `[` (byte 91) sits under `or` / `enum` / `allOf` -/
def pairsEmb (ps : List (List UInt8 × List UInt8)) : Prop := ∀ p ∈ ps, ∀ t, p.2 = 91 :: t → embName p.1 = true

theorem listsEmb_of_pairs (ob : GObj) (h : pairsEmb ob.pairs) : ob.listsEmb := by
  intro r hr b0 items hval
  have hp : (r.name.meaning, r.val.spell) ∈ ob.pairs := by
    rw [GObj.pairs_eq]; exact List.mem_map.2 ⟨r, hr, rfl⟩
  have hs : ∃ t, r.val.spell = 91 :: t := by
    rw [hval]; cases items <;> exact ⟨_, rfl⟩
  obtain ⟨t, ht⟩ := hs
  exact h _ hp t ht

/-- **the scanner model's events of an annotated scalar with quoted or bare names and literal or list values**, exactly: a quoted name's key-begin /
key-end span runs from its opening to its closing quote (a bare name's: from its first byte to the byte before the
colon), a list value's array-end / value-end span from bracket to bracket -/
theorem annot_eventsQ (a : Ann) (ha : a.isAnn = true) (tok s1 s2 : List UInt8) (ob : GObj) (s3 tl : List UInt8)
    (hv : GAnnValid a tok s1 s2 ob s3 tl) :
    scanAll (gannText a tok s1 s2 ob s3 tl)
      = .ok (annEvsQ a (tok.map classify) (s1.map classify) (s2.map classify) ob.cls (s3.map classify)
          (tl.map classify)) := by
  exact scanAll_of_emits (gannText_cls a ha tok s1 s2 ob s3 tl)
    (annot_emitsQ a ha _ hv.tok _ hv.s1 _ hv.s2 _ (GObj.valid_cls a ob hv.ob) _ hv.s3 _ hv.tl)

/-! ### bare names and literal values

A rule object with bare names and literal values (`Lay.BObj`) is the `Lay.GObj` (quoted or bare names, literal or list
values) with the same bytes, so its theorems are the `GObj` theorems read at `BObj.toG`. -/

def BRule.toG (r : BRule) : GRule := ⟨r.b1, .bare r.name, r.n2, r.b3, .lit r.val, r.b4⟩

def BObj.toG : BObj → GObj
  | .empty b0 => .empty b0
  | .rules r rs tc => .rules r.toG (rs.map BRule.toG) tc

theorem renderGRules_toG : ∀ (rs : List BRule) (r : BRule), renderGRules r.toG (rs.map BRule.toG) = renderRulesB r rs
  | [], _ => rfl
  | r' :: rs, r => by
    simp only [List.map_cons, renderGRules, renderRulesB, renderGRules_toG rs r']
    rfl

theorem gannText_toG (a : Ann) (tok s1 s2 : List UInt8) (ob : BObj) (s3 tl : List UInt8) :
    gannText a tok s1 s2 ob.toG s3 tl = annTextB a tok s1 s2 ob s3 tl := by
  cases ob with
  | empty b0 => rfl
  | rules r rs tc => simp only [gannText, annTextB, BObj.toG, GObj.body, BObj.body, renderGRules_toG]

theorem pairs_toG (ob : BObj) : ob.toG.pairs = ob.pairs := by
  cases ob with
  | empty b0 => rfl
  | rules r rs tc => simp only [BObj.toG, GObj.pairs, BObj.pairs, List.map_map]; rfl

theorem BObj.toG_valid {a : Ann} {ob : BObj} (h : ob.cls.Valid a) : ob.toG.Valid a := by
  cases ob with
  | empty b0 => exact h
  | rules r rs tc =>
    refine ⟨⟨h.1.1, fun x hx => ?_⟩, fun b5 h5 => h.2 _ (by rw [h5]; rfl)⟩
    obtain ⟨y, hy, rfl⟩ := List.mem_map.1 hx
    exact h.1.2 _ (List.mem_map_of_mem hy)

theorem valid_toG {a : Ann} {tok s1 s2 : List UInt8} {ob : BObj} {s3 tl : List UInt8}
    (h : AnnValid a tok s1 s2 ob s3 tl) : GAnnValid a tok s1 s2 ob.toG s3 tl :=
  ⟨h.tok, h.s1, h.s2, BObj.toG_valid h.ob, h.s3, h.tl⟩

theorem listsEmb_toG (ob : BObj) : ob.toG.listsEmb := by
  intro r hr b0 its hl
  cases ob with
  | empty b0 => cases hr
  | rules r0 rs tc =>
    simp only [BObj.toG, GObj.allRules, List.mem_cons, List.mem_map] at hr
    rcases hr with rfl | ⟨y, _, rfl⟩ <;> cases hl

/-- at class level the embedding is `CObj.toQ` -/
theorem toG_cls (ob : BObj) : ob.toG.cls = ob.cls.toQ := by
  cases ob with
  | empty b0 => rfl
  | rules r rs tc =>
    simp [BObj.toG, GObj.cls, BObj.cls, CObj.toQ, GRule.cls, BRule.toG, BRule.cls, CRule.toQ, GVal.qv, GName.isQuoted,
      GName.spell, GVal.spell, Function.comp_def]

theorem cls_toG (ob : BObj) : ob.toG.cls.c = ob.cls := by rw [toG_cls, CObj.toQ_c]

theorem rulesEvsQ_toG : ∀ (rs : List BRule) (r : BRule) (p : Nat),
    rulesEvsQ p r.toG.cls (rs.map (GRule.cls ∘ BRule.toG)) = rulesEvs p r.cls (rs.map BRule.cls)
  | [], _, _ => rfl
  | r' :: rs, r, p => by
    simp only [List.map_cons, rulesEvsQ, rulesEvs, Function.comp_apply, rulesEvsQ_toG rs r']
    rfl

theorem evs_toG (ob : BObj) (o : Nat) : ob.toG.cls.evs o = ob.cls.evs o := by
  have h := cls_toG ob
  cases ob with
  | empty b0 => rfl
  | rules r rs tc =>
    simp only [BObj.toG, GObj.cls, QObj.c, BObj.cls, List.map_map, CObj.rules.injEq] at h
    simp only [BObj.toG, GObj.cls, QObj.evs, BObj.cls, CObj.evs, List.map_map, rulesEvsQ_toG, h.1, h.2.1, h.2.2]

theorem annEvsQ_toG (a : Ann) (tok s1 s2 : List Cls) (ob : BObj) (s3 tl : List Cls) :
    annEvsQ a tok s1 s2 ob.toG.cls s3 tl = annEvs a tok s1 s2 ob.cls s3 tl := by
  simp only [annEvsQ, annEvs, evs_toG, cls_toG]

theorem body_toG (ob : BObj) : ob.toG.body = ob.body := by
  cases ob with
  | empty b0 => rfl
  | rules r rs tc => simp only [BObj.toG, GObj.body, BObj.body, renderGRules_toG]

/-- `gannot_loaded` for bare names and literal values -/
theorem annot_loaded (a : Ann) (ha : a.isAnn = true) (tok s1 s2 : List UInt8) (ob : BObj) (s3 : List UInt8)
    (nt : Option (List UInt8 × List UInt8)) (tl : List UInt8) (hv : AnnValid a tok s1 s2 ob s3 tl)
    (hnt : ∀ n1 note, nt = some (n1, note) → IsSpTabs (n1.map classify) ∧ IsNote (note.map classify)) :
    ∃ st, Loader.loadText (tok ++ (s1 ++ (47 :: markB a :: (s2 ++ (123 :: (ob.body ++ (125 :: (s3 ++ (noteB nt ++ tl)))))))))
        = .ok st ∧
      ScalarLoaded (tok ++ (s1 ++ (47 :: markB a :: (s2 ++ (123 :: (ob.body ++ (125 :: (s3 ++ (noteB nt ++ tl))))))))).toArray
        st tok ob.pairs (nt.map (·.2)) := by
  have h := gannot_loaded a ha tok s1 s2 ob.toG s3 nt tl (valid_toG hv) hnt (listsEmb_toG ob)
  rwa [gannTextN, body_toG, pairs_toG] at h

/-- `annot_loaded` without a note: the text is `annTextB` -/
theorem annotB_loaded (a : Ann) (ha : a.isAnn = true) (tok s1 s2 : List UInt8) (ob : BObj) (s3 tl : List UInt8)
    (hv : AnnValid a tok s1 s2 ob s3 tl) :
    ∃ st, Loader.loadText (annTextB a tok s1 s2 ob s3 tl) = .ok st ∧
      ScalarLoaded (annTextB a tok s1 s2 ob s3 tl).toArray st tok ob.pairs none :=
  annot_loaded a ha tok s1 s2 ob s3 none tl hv (fun _ _ h => nomatch h)

/-- **an annotated top-level scalar, in either form, loads into one literal node with the rules of the object** -/
theorem load_annot (a : Ann) (ha : a.isAnn = true) (tok s1 s2 : List UInt8) (ob : BObj) (s3 tl : List UInt8)
    (hv : AnnValid a tok s1 s2 ob s3 tl) :
    ∃ st, Loader.loadText (annTextB a tok s1 s2 ob s3 tl) = .ok st ∧ st.root = some 0 ∧
      absTable (annTextB a tok s1 s2 ob s3 tl).toArray st = [annNode tok ob.names] := by
  obtain ⟨st, h1, hs⟩ := annotB_loaded a ha tok s1 s2 ob s3 tl hv
  exact ⟨st, h1, hs.root, by rw [names_of_pairs]; exact hs.absTable⟩

/-- **inline versus multi-line**: `tok // {rules}` and `tok /* {rules} */` with the same rules (names and values,
in the same order), whatever blanks, line breaks and trailing comma each form uses: the same node table -/
theorem inline_vs_multiline (tok s1 s2 : List UInt8) (ob : BObj) (s3 tl : List UInt8)
    (s1' s2' : List UInt8) (ob' : BObj) (s3' tl' : List UInt8)
    (hv : AnnValid .inline tok s1 s2 ob s3 tl) (hv' : AnnValid .multi tok s1' s2' ob' s3' tl')
    (hsame : ob.pairs = ob'.pairs) :
    ∃ st st', Loader.loadText (annTextB .inline tok s1 s2 ob s3 tl) = .ok st ∧
      Loader.loadText (annTextB .multi tok s1' s2' ob' s3' tl') = .ok st' ∧ st.root = st'.root ∧
      absTable (annTextB .inline tok s1 s2 ob s3 tl).toArray st
        = absTable (annTextB .multi tok s1' s2' ob' s3' tl').toArray st' := by
  obtain ⟨st, h1, h2, h3⟩ := load_annot .inline rfl tok s1 s2 ob s3 tl hv
  obtain ⟨st', h1', h2', h3'⟩ := load_annot .multi rfl tok s1' s2' ob' s3' tl' hv'
  have hn : ob.names = ob'.names := by rw [names_of_pairs, names_of_pairs, hsame]
  exact ⟨st, st', h1, h1', by rw [h2, h2'], by rw [h3, h3', hn]⟩

/-- **the scanner model's events of an annotated scalar**, exactly -/
theorem annot_events (a : Ann) (ha : a.isAnn = true) (tok s1 s2 : List UInt8) (ob : BObj) (s3 tl : List UInt8)
    (hv : AnnValid a tok s1 s2 ob s3 tl) :
    scanAll (annTextB a tok s1 s2 ob s3 tl)
      = .ok (annEvs a (tok.map classify) (s1.map classify) (s2.map classify) ob.cls (s3.map classify)
          (tl.map classify)) := by
  have h := annot_eventsQ a ha tok s1 s2 ob.toG s3 tl (valid_toG hv)
  rwa [gannText_toG, annEvsQ_toG] at h

/-- **same rule events**: the two forms deliver the same event types, `newLine` events aside, once the
annotation-begin / -end kinds are identified -/
theorem inline_vs_multiline_events (tok s1 s2 : List UInt8) (ob : BObj) (s3 tl : List UInt8)
    (s1' s2' : List UInt8) (ob' : BObj) (s3' tl' : List UInt8)
    (hv : AnnValid .inline tok s1 s2 ob s3 tl) (hv' : AnnValid .multi tok s1' s2' ob' s3' tl')
    (hsame : ob.pairs = ob'.pairs) :
    ∃ evs evs', scanAll (annTextB .inline tok s1 s2 ob s3 tl) = .ok evs ∧
      scanAll (annTextB .multi tok s1' s2' ob' s3' tl') = .ok evs' ∧
      (strip evs).map inlKind = (strip evs').map inlKind := by
  refine ⟨_, _, annot_events .inline rfl tok s1 s2 ob s3 tl hv, annot_events .multi rfl tok s1' s2' ob' s3' tl' hv', ?_⟩
  rw [strip_annEvs _ rfl, strip_annEvs _ rfl, pairs_count ob ob' hsame]
  have hr : ∀ n, ((List.replicate n ruleTys).flatten).map inlKind = (List.replicate n ruleTys).flatten := by
    intro n
    induction n with
    | zero => rfl
    | succ n ih => rw [List.replicate_succ, List.flatten_cons, List.map_append, ih]; rfl
  simp only [List.map_append, hr]
  rfl

end Lay
