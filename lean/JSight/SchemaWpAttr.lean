import Lean.Meta.Tactic.Simp.RegisterCommand
/-! The simp set that lists the paths through a step function of the schema scanner (see `SchemaWp`). -/

/-- rules of `Except.wp`, the equations of the step functions of `SchemaScan.dispatch`, descriptions and unfoldings of
its helpers, and the propositional lemmas that tidy the resulting list of paths -/
register_simp_attr schema_wp
