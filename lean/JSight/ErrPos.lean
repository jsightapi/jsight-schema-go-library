import JSight.Sim
import JSight.Viable
/-!
C17 (positions, scanner side): the index at which the JSON scanner model reports "invalid character" is
the first byte after which no continuation is accepted, and the text before it can be continued to an accepted one.
-/
namespace Sim
open JsonScan Rfc

/-- index of the byte on which the scanner reports an error (strict mode) -/
def errPos : Cfg → List Cls → Nat → Option Nat
  | _, [], _ => none
  | m, c :: cs, i =>
    match feed false m c with
    | .ok (.cont m') => errPos m' cs (i + 1)
    | .ok .stop => none
    | .error _ => some i

theorem errPos_spec {m : Cfg} {r : RCfg} (h : R r m) (cs : List Cls) (i j : Nat) (he : errPos m cs i = some j) :
    ∃ pre c post r', cs = pre ++ c :: post ∧ j = i + pre.length ∧ Rfc.run r pre = some r' ∧ Rfc.step r' c = none := by
  induction cs generalizing m r i with
  | nil => simp [errPos] at he
  | cons c cs ih =>
    rcases sim_step_strict h c with ⟨r1, m', hs, hf, hR⟩ | ⟨hs, ctx, hf⟩
    · simp only [errPos, hf] at he
      obtain ⟨pre, c', post, r', e1, e2, e3, e4⟩ := ih hR (i + 1) he
      refine ⟨c :: pre, c', post, r', by rw [e1]; rfl, by simp only [List.length_cons]; omega, ?_, e4⟩
      simp [Rfc.run, hs, e3]
    · simp only [errPos, hf, Option.some.injEq] at he
      exact ⟨[], c, cs, r, rfl, by simp; omega, rfl, hs⟩

/-- **C17** (JSON, strict mode, byte classes): the reported index is the first dead byte -/
theorem C17_json_errpos (cs : List Cls) (j : Nat) (he : errPos Cfg.init cs 0 = some j) :
    (∃ suffix, checkC false (cs.take j ++ suffix) = true) ∧ (∀ suffix, checkC false (cs.take (j + 1) ++ suffix) = false) := by
  obtain ⟨pre, c, post, r', e1, e2, e3, e4⟩ := errPos_spec R.root cs 0 j he
  obtain ⟨hA, hB⟩ := first_dead_byte pre c r' e3 e4
  have hj : j = pre.length := by omega
  have t1 : cs.take j = pre := by rw [e1, hj]; simp
  have t2 : cs.take (j + 1) = pre ++ [c] := by
    rw [e1, hj, show pre ++ c :: post = (pre ++ [c]) ++ post by simp,
      List.take_left' (by simp)]
  constructor
  · obtain ⟨sfx, hs⟩ := hA
    exact ⟨sfx, by rw [t1, check_iff_rfc]; exact hs⟩
  · intro sfx
    rw [t2, check_iff_rfc, List.append_assoc]
    exact hB sfx

#print axioms C17_json_errpos

end Sim
