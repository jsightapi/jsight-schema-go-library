import JSight.LoaderTree
/-!
C16 (loader part), the duplicate-key case: the first member key (in source order, anywhere in the tree) whose
decoded text (`keyText`) repeats an earlier key of the same object makes the loader stop with error 402
(`LErr.duplicateKey`) at that key token's offset — and every tree is in exactly one of the two cases
(`keys_dichotomy`): all objects have distinct keys (`KeysDistinct`, then `C16_load_mirrors_tree`) or there is a
first duplicate (`DupAt`, then `C16_load_duplicate_key`).
-/
namespace Loader
open SchemaScan (Ev Cls Tree nlEvs schemaEvsAt evsItems evsMembers)

/-! ### the grammar of `LoaderValue` for a run that stops with an error -/

/-- from every loader state with the given core, folding `step` over `evs` ends in the error `err` -/
def Fail (src : Array UInt8) (evs : List Ev) (L : List Node) (leaf root : Option Nat) (err : LErr) : Prop :=
  ∀ st, Core st L leaf root → evs.foldlM (step src) st = .error err

theorem Fail.append {src : Array UInt8} {a : List Ev} {L : List Node} {l r : Option Nat} {err : LErr}
    (h : Fail src a L l r err) (b : List Ev) : Fail src (a ++ b) L l r err := by
  intro st hc
  rw [List.foldlM_append, h st hc]
  rfl

theorem Run.thenFail {src : Array UInt8} {a b : List Ev} {L L' : List Node} {l l' r r' : Option Nat} {err : LErr}
    (h1 : Run src a L l r L' l' r') (h2 : Fail src b L' l' r' err) : Fail src (a ++ b) L l r err := by
  intro st hc
  obtain ⟨st1, e1, c1⟩ := h1 st hc
  rw [List.foldlM_append, e1]
  exact h2 st1 c1

theorem Fail.cast {src : Array UInt8} {a a' : List Ev} {L : List Node} {l r : Option Nat} {err : LErr}
    (h : Fail src a L l r err) (ha : a = a') : Fail src a' L l r err := ha ▸ h

theorem F_keyE (src : Array UInt8) (x y i : Nat) (n : Node) (L : List Node) (r : Option Nat)
    (hn : L[i]? = some n) (hk : n.kind = .obj) (hw : n.waiting = false)
    (hd : n.keys.any (fun k' => keyText src k' == keyText src (x, y, false)) = true) :
    Fail src [⟨.keyE, x, y⟩] L (some i) r (.duplicateKey x) := by
  intro st hc
  simp only [List.foldlM_cons, step_keyE_dup src x y i n L r st hc hn hk hw hd, bind, Except.bind]

section
variable {src : Array UInt8}

/-- the events of a value on which the loader stops with `err` (whatever follows) -/
structure ValueFail (src : Array UInt8) (evs : List Ev) (err : LErr) : Prop where
  child : ∀ (a : Nat) (nw : Node) (L : List Node) (r : Option Nat), L[a]? = some nw →
    (nw.kind = .arr ∨ nw.kind = .obj) → nw.waiting = true → Fail src evs L (some a) r err
  root : Fail src evs [] none none err

def ItemsFail (src : Array UInt8) (evs : List Ev) (err : LErr) : Prop :=
  ∀ (a : Nat) (na : Node) (L : List Node) (r : Option Nat), L[a]? = some na → na.kind = .arr → na.waiting = false →
    Fail src evs L (some a) r err

/-- `ks`: the key entries the object has already -/
def MembersFail (src : Array UInt8) (evs : List Ev) (ks : List (Nat × Nat × Bool)) (err : LErr) : Prop :=
  ∀ (a : Nat) (na : Node) (L : List Node) (r : Option Nat), L[a]? = some na → na.kind = .obj → na.waiting = false →
    na.keys = ks → Fail src evs L (some a) r err

theorem ValueFail.of_body {k : NK} {e : Ev} {evs : List Ev} {err : LErr} (hp : plainTy e.ty = true)
    (hk : kindOfLex e.ty = some k)
    (h : ∀ (par : Option Nat) (L0 : List Node) (r : Option Nat), Fail src evs (L0 ++ [fresh k par]) (some L0.length) r err) :
    ValueFail src (e :: evs) err where
  child a nw L r hn hkd hw := by
    have h2 := h (some a) (L.set a { nw with waiting := false, children := nw.children ++ [L.length] }) r
    rw [List.length_set] at h2
    exact (R_create src e k a nw L r hp hk hn hkd hw).thenFail h2
  root := (R_root src e k hp hk [] none).thenFail (h none [] (some 0))

theorem ItemsFail.value {w evs : List Ev} {err : LErr} (b : Ev) (hb : b.ty = .arrB) (hw : NL w)
    (h : ItemsFail src evs err) : ValueFail src (b :: (w ++ evs)) err :=
  ValueFail.of_body (k := .arr) (by rw [hb]; rfl) (by rw [hb]; rfl) fun par L0 r =>
    (hw.run _ _ r).thenFail (h L0.length (fresh .arr par) (L0 ++ [fresh .arr par]) r List.getElem?_concat_length rfl rfl)

theorem MembersFail.value {w evs : List Ev} {err : LErr} (b : Ev) (hb : b.ty = .objB) (hw : NL w)
    (h : MembersFail src evs [] err) : ValueFail src (b :: (w ++ evs)) err :=
  ValueFail.of_body (k := .obj) (by rw [hb]; rfl) (by rw [hb]; rfl) fun par L0 r =>
    (hw.run _ _ r).thenFail (h L0.length (fresh .obj par) (L0 ++ [fresh .obj par]) r List.getElem?_concat_length rfl rfl rfl)

/-- the item's value fails -/
theorem ItemsFail.here {w1 cev : List Ev} {err : LErr} (x y : Nat) (h1 : NL w1) (hv : ValueFail src cev err)
    (tail : List Ev) : ItemsFail src (w1 ++ ⟨.itemB, x, y⟩ :: (cev ++ tail)) err := by
  intro a na L r hn hk hw
  obtain ⟨hlt, _⟩ := List.getElem?_eq_some_iff.mp hn
  exact (((item_pre h1 x y a na L r hn hk hw).thenFail
    (hv.child a { na with waiting := true } _ r (by simp [hlt]) (Or.inl hk) rfl)).append tail).cast (by simp)

/-- the item is loaded, a later one fails -/
theorem ItemsFail.later {w1 w2 cev rest : List Ev} {cn : Option Nat → Nat → List Node} {err : LErr} (x y x' y' : Nat)
    (h1 : NL w1) (hv : Value src cev cn) (h2 : NL w2) (hr : ItemsFail src rest err) :
    ItemsFail src (w1 ++ ⟨.itemB, x, y⟩ :: (cev ++ ⟨.itemE, x', y'⟩ :: (w2 ++ rest))) err := by
  intro a na L r hn hk hw
  obtain ⟨hlt, _⟩ := List.getElem?_eq_some_iff.mp hn
  exact ((item_run x y x' y' h1 hv h2 a na L r hn hk hw).thenFail
    (hr a _ _ r (getElem?_set_append L (cn (some a) L.length) a (addChild na L.length) hlt) hk hw)).cast (by simp)

/-- the key repeats an earlier key of the object: error 402 at the key -/
theorem MembersFail.dup {w1 : List Ev} {ks : List (Nat × Nat × Bool)} (x y kb ke : Nat) (h1 : NL w1)
    (hany : ks.any (fun k' => keyText src k' == keyText src (kb, ke, false)) = true) (tail : List Ev) :
    MembersFail src (w1 ++ ⟨.keyB, x, y⟩ :: ⟨.keyE, kb, ke⟩ :: tail) ks (.duplicateKey kb) := by
  intro a na L r hn hk hw hks
  exact (((h1.run L (some a) r).thenFail ((Grows.noop hn (.keyB x y hk hw) r).thenFail
    (F_keyE src kb ke a na L r hn hk hw (hks ▸ hany)))).append tail).cast (by simp)

/-- the member's value fails -/
theorem MembersFail.here {w1 w2 w3 cev : List Ev} {ks : List (Nat × Nat × Bool)} {err : LErr}
    (x y kb ke vx vy : Nat) (h1 : NL w1) (h2 : NL w2) (h3 : NL w3)
    (hany : ks.any (fun k' => keyText src k' == keyText src (kb, ke, false)) = false) (hv : ValueFail src cev err)
    (tail : List Ev) :
    MembersFail src (w1 ++ ⟨.keyB, x, y⟩ :: ⟨.keyE, kb, ke⟩ :: (w2 ++ (w3 ++ ⟨.valB, vx, vy⟩ :: (cev ++ tail)))) ks err := by
  intro a na L r hn hk hw hks
  obtain ⟨hlt, _⟩ := List.getElem?_eq_some_iff.mp hn
  exact (((member_pre h1 h2 h3 x y kb ke vx vy a na L r hn hk hw (hks ▸ hany)).thenFail
    (hv.child a _ _ r (List.getElem?_set_self (by simpa using hlt)) (Or.inr hk) rfl)).append tail).cast (by simp)

/-- the member is loaded, a later one fails -/
theorem MembersFail.later {w1 w2 w3 w4 cev rest : List Ev} {cn : Option Nat → Nat → List Node}
    {ks : List (Nat × Nat × Bool)} {err : LErr} (x y kb ke vx vy x' y' : Nat) (h1 : NL w1) (h2 : NL w2) (h3 : NL w3)
    (hany : ks.any (fun k' => keyText src k' == keyText src (kb, ke, false)) = false) (hv : Value src cev cn)
    (h4 : NL w4) (hr : MembersFail src rest (ks ++ [(kb, ke, false)]) err) :
    MembersFail src (w1 ++ ⟨.keyB, x, y⟩ :: ⟨.keyE, kb, ke⟩ :: (w2 ++ (w3 ++ ⟨.valB, vx, vy⟩ ::
        (cev ++ ⟨.valE, x', y'⟩ :: (w4 ++ rest))))) ks err := by
  intro a na L r hn hk hw hks
  obtain ⟨hlt, _⟩ := List.getElem?_eq_some_iff.mp hn
  exact ((member_run x y kb ke vx vy x' y' h1 h2 h3 hv h4 a na L r hn hk hw (hks ▸ hany)).thenFail
    (hr a _ _ r (getElem?_set_append L (cn (some a) L.length) a (addMember na L.length (kb, ke, false)) hlt) hk hw
      (by rw [← hks]))).cast (by simp)

end

mutual
/-- `p` is the offset of the first key token (in source order) that repeats, after decoding, an earlier key of
its object -/
def DupAt (src : Array UInt8) (p : Nat) : Nat → Tree → Prop
  | _, .scalar _ => False
  | o, .arr ws0 its => DupItems src p (o + 1 + ws0.length) its
  | o, .obj ws0 ms => DupMembers src p [] (o + 1 + ws0.length) ms
def DupItems (src : Array UInt8) (p : Nat) : Nat → List Item → Prop
  | _, [] => False
  | o, (w1, v, w2) :: its =>
    DupAt src p (o + w1.length) v ∨
      (KeysDistinct src (o + w1.length) v ∧ DupItems src p (nextItem o w1 v w2 its) its)
/-- `ks`: the key entries of the earlier members of the same object -/
def DupMembers (src : Array UInt8) (p : Nat) : List (Nat × Nat × Bool) → Nat → List Member → Prop
  | _, _, [] => False
  | ks, o, (w1, k, w2, w3, v, w4) :: ms =>
    (ks.any (fun k' => keyText src k' == keyText src (kspan o w1 k)) = true ∧ p = o + w1.length) ∨
    (ks.any (fun k' => keyText src k' == keyText src (kspan o w1 k)) = false ∧
      (DupAt src p (valOff o w1 k w2 w3) v ∨
        (KeysDistinct src (valOff o w1 k w2 w3) v ∧
          DupMembers src p (ks ++ [kspan o w1 k]) (nextMember o w1 k w2 w3 v w4 ms) ms)))
end

mutual
theorem value_fail (src : Array UInt8) (p : Nat) : (v : Tree) → (o : Nat) → DupAt src p o v →
    ValueFail src (schemaEvsAt o v) (.duplicateKey p)
  | .scalar _, _, hd => by simp [DupAt] at hd
  | .arr ws0 its, o, hd => by
    rw [schemaEvsAt]
    exact ItemsFail.value _ rfl (nl_nlEvs ws0 (o + 1)) (items_failS src p its o _ (by simpa [DupAt] using hd))
  | .obj ws0 ms, o, hd => by
    rw [schemaEvsAt]
    exact MembersFail.value _ rfl (nl_nlEvs ws0 (o + 1)) (members_failS src p ms [] o _ (by simpa [DupAt] using hd))
theorem items_failS (src : Array UInt8) (p : Nat) : (its : List Item) → (x o : Nat) → DupItems src p o its →
    ItemsFail src (evsItems x o its) (.duplicateKey p)
  | [], _, _, hd => by simp [DupItems] at hd
  | (w1, v, w2) :: its, x, o, hd => by
    have hd' : DupAt src p (o + w1.length) v ∨
        (KeysDistinct src (o + w1.length) v ∧ DupItems src p (nextItem o w1 v w2 its) its) := by
      simpa [DupItems] using hd
    rw [evsItems]
    rcases hd' with hdv | ⟨hdv, hdi⟩
    · exact ItemsFail.here _ _ (nl_nlEvs w1 o) (value_fail src p v _ hdv) _
    · exact ItemsFail.later _ _ _ _ (nl_nlEvs w1 o) (value_spec src v _ hdv) (nl_nlEvs w2 _)
        (items_failS src p its x (nextItem o w1 v w2 its) hdi)
theorem members_failS (src : Array UInt8) (p : Nat) : (ms : List Member) → (ks : List (Nat × Nat × Bool)) →
    (x o : Nat) → DupMembers src p ks o ms → MembersFail src (evsMembers x o ms) ks (.duplicateKey p)
  | [], _, _, _, hd => by simp [DupMembers] at hd
  | (w1, k, w2, w3, v, w4) :: ms, ks, x, o, hd => by
    have hd' : (ks.any (fun k' => keyText src k' == keyText src (kspan o w1 k)) = true ∧ p = o + w1.length) ∨
        (ks.any (fun k' => keyText src k' == keyText src (kspan o w1 k)) = false ∧
          (DupAt src p (valOff o w1 k w2 w3) v ∨
            (KeysDistinct src (valOff o w1 k w2 w3) v ∧
              DupMembers src p (ks ++ [kspan o w1 k]) (nextMember o w1 k w2 w3 v w4 ms) ms))) := by
      simpa only [DupMembers] using hd
    rw [evsMembers]
    rcases hd' with ⟨hany, rfl⟩ | ⟨hany, hdv | ⟨hdv, hdm⟩⟩
    · exact MembersFail.dup _ _ _ _ (nl_nlEvs w1 o) hany _
    · exact MembersFail.here _ _ _ _ _ _ (nl_nlEvs w1 o) (nl_nlEvs w2 _) (nl_nlEvs w3 _) hany
        (value_fail src p v (valOff o w1 k w2 w3) hdv) _
    · exact MembersFail.later _ _ _ _ _ _ _ _ (nl_nlEvs w1 o) (nl_nlEvs w2 _) (nl_nlEvs w3 _) hany
        (value_spec src v (valOff o w1 k w2 w3) hdv) (nl_nlEvs w4 _)
        (members_failS src p ms _ x (nextMember o w1 k w2 w3 v w4 ms) hdm)
end

theorem items_fail (src : Array UInt8) (p : Nat) : (its : List Item) → (x a : Nat) → (na : Node) → (L : List Node) →
    (o : Nat) → (r : Option Nat) → L[a]? = some na → na.kind = .arr → na.waiting = false → DupItems src p o its →
    Fail src (evsItems x o its) L (some a) r (.duplicateKey p) :=
  fun its x a na L o r hn hk hw hd => items_failS src p its x o hd a na L r hn hk hw

theorem members_fail (src : Array UInt8) (p : Nat) : (ms : List Member) → (x a : Nat) → (na : Node) →
    (L : List Node) → (o : Nat) → (r : Option Nat) → L[a]? = some na → na.kind = .obj → na.waiting = false →
    DupMembers src p na.keys o ms →
    Fail src (evsMembers x o ms) L (some a) r (.duplicateKey p) :=
  fun ms x a na L o r hn hk hw hd => members_failS src p ms na.keys x o hd a na L r hn hk hw rfl

/-- **C16 (loader), duplicate keys, event-list form.** If `p` is the offset of the first key token that repeats an
earlier key of its object (after decoding), `load` fails with error 402 at `p`. -/
theorem C16_load_duplicate_key (src : Array UInt8) (v : Tree) (ws0 ws1 : List Cls) (p : Nat)
    (hd : DupAt src p ws0.length v) :
    load src (nlEvs 0 ws0 ++ (schemaEvsAt ws0.length v ++ nlEvs (ws0.length + v.render.length) ws1))
      = .error (.duplicateKey p) := by
  exact ((nl_nlEvs ws0 0).run [] none none).thenFail ((value_fail src p v _ hd).root.append _) {} core_init

/-- **C16, duplicate keys, end to end (interleaved form).** `loadText` on the rendering of a valid plain-JSON tree
with a first duplicate key at `p` reports `ERR 402 p`. -/
theorem C16_loadText_duplicate_key (v : Tree) (hv : v.Valid) (ws0 ws1 : List Cls)
    (h0 : SchemaScan.IsWs ws0) (h1 : SchemaScan.IsWs ws1)
    (bs : List UInt8) (hbs : bs.map SchemaScan.classify = ws0 ++ (v.render ++ ws1)) (p : Nat)
    (hd : DupAt bs.toArray p ws0.length v) :
    loadText bs = .error (showLErr (.duplicateKey p)) := by
  have h := C16_load_duplicate_key bs.toArray v ws0 ws1 p hd
  rw [loadText_eq_fold hbs (SchemaScan.emits_of_tree v hv ws0 ws1 h0 h1)]
  exact congrArg (Except.mapError showLErr) h

#print axioms C16_load_duplicate_key
#print axioms C16_loadText_duplicate_key

/-! ### every tree is in exactly one of the two cases -/

theorem nodup_snoc (src : Array UInt8) (ks : List (Nat × Nat × Bool)) (kk : Nat × Nat × Bool)
    (h : (ks.map (keyText src)).Nodup) (hany : ks.any (fun k' => keyText src k' == keyText src kk) = false) :
    ((ks ++ [kk]).map (keyText src)).Nodup := by
  rw [List.any_eq_false] at hany
  rw [List.map_append, List.nodup_append]
  refine ⟨h, by simp, ?_⟩
  intro x hx y hy
  obtain ⟨k', hk', rfl⟩ := List.mem_map.mp hx
  simp only [List.map_cons, List.map_nil, List.mem_singleton] at hy
  subst hy
  intro heq
  exact hany k' hk' (by simpa using heq)

mutual
theorem keys_dichotomy (src : Array UInt8) : (v : Tree) → (o : Nat) → KeysDistinct src o v ∨ ∃ p, DupAt src p o v
  | .scalar _, _ => Or.inl (by simp [KeysDistinct])
  | .arr ws0 its, o => by
    rcases items_dichotomy src its (o + 1 + ws0.length) with h | ⟨p, h⟩
    · exact Or.inl (by simpa [KeysDistinct] using h)
    · exact Or.inr ⟨p, by simpa [DupAt] using h⟩
  | .obj ws0 ms, o => by
    rcases members_dichotomy src ms [] (o + 1 + ws0.length) (by simp) with h | ⟨p, h⟩
    · exact Or.inl (by simpa [KeysDistinct] using h)
    · exact Or.inr ⟨p, by simpa [DupAt] using h⟩
theorem items_dichotomy (src : Array UInt8) : (its : List Item) → (o : Nat) →
    DistinctItems src o its ∨ ∃ p, DupItems src p o its
  | [], _ => Or.inl (by simp [DistinctItems])
  | (w1, v, w2) :: its, o => by
    rcases keys_dichotomy src v (o + w1.length) with hv | ⟨p, hv⟩
    · rcases items_dichotomy src its (nextItem o w1 v w2 its) with hi | ⟨p, hi⟩
      · exact Or.inl (by simpa [DistinctItems] using ⟨hv, hi⟩)
      · exact Or.inr ⟨p, by simpa [DupItems] using Or.inr ⟨hv, hi⟩⟩
    · exact Or.inr ⟨p, by simpa [DupItems] using Or.inl hv⟩
theorem members_dichotomy (src : Array UInt8) : (ms : List Member) → (ks : List (Nat × Nat × Bool)) → (o : Nat) →
    (ks.map (keyText src)).Nodup →
    (((ks ++ keysMembers o ms).map (keyText src)).Nodup ∧ DistinctMembers src o ms) ∨ ∃ p, DupMembers src p ks o ms
  | [], ks, _, hks => Or.inl (by simpa [keysMembers, DistinctMembers] using hks)
  | (w1, k, w2, w3, v, w4) :: ms, ks, o, hks => by
    cases hany : ks.any (fun k' => keyText src k' == keyText src (kspan o w1 k)) with
    | true => exact Or.inr ⟨o + w1.length, by simp only [DupMembers]; exact Or.inl ⟨hany, trivial⟩⟩
    | false =>
      rcases keys_dichotomy src v (valOff o w1 k w2 w3) with hv | ⟨p, hv⟩
      · rcases members_dichotomy src ms (ks ++ [kspan o w1 k]) (nextMember o w1 k w2 w3 v w4 ms)
          (nodup_snoc src ks _ hks hany) with ⟨hn, hm⟩ | ⟨p, hm⟩
        · refine Or.inl ⟨?_, by simpa [DistinctMembers] using ⟨hv, hm⟩⟩
          simpa [keysMembers] using hn
        · exact Or.inr ⟨p, by simp only [DupMembers]; exact Or.inr ⟨hany, Or.inr ⟨hv, hm⟩⟩⟩
      · exact Or.inr ⟨p, by simp only [DupMembers]; exact Or.inr ⟨hany, Or.inl hv⟩⟩
end

/-- the two cases exclude each other, and the first duplicate is unique -/
theorem dup_excludes_distinct (src : Array UInt8) (v : Tree) (o p : Nat) (hd : KeysDistinct src o v) :
    ¬ DupAt src p o v := by
  intro hdup
  have hl : (List.replicate o Cls.sp).length = o := by simp
  obtain ⟨st, h, _⟩ := C16_load_mirrors_tree src v (List.replicate o Cls.sp) [] (by rw [hl]; exact hd)
  have h2 := C16_load_duplicate_key src v (List.replicate o Cls.sp) [] p (by rw [hl]; exact hdup)
  rw [h] at h2
  cases h2

theorem dup_unique (src : Array UInt8) (v : Tree) (o p q : Nat) (hp : DupAt src p o v) (hq : DupAt src q o v) :
    p = q := by
  have hl : (List.replicate o Cls.sp).length = o := by simp
  have h1 := C16_load_duplicate_key src v (List.replicate o Cls.sp) [] p (by rw [hl]; exact hp)
  have h2 := C16_load_duplicate_key src v (List.replicate o Cls.sp) [] q (by rw [hl]; exact hq)
  rw [h1] at h2
  injection h2 with h2
  injection h2

/-- **C16 (loader), both cases.** On the events of any plain-JSON value tree `load` either builds exactly the node
table `nodesOf` of the tree (all objects have pairwise distinct decoded keys), or stops with error 402 at the first
repeated key. -/
theorem C16_load_total (src : Array UInt8) (v : Tree) (ws0 ws1 : List Cls) :
    (∃ st, load src (nlEvs 0 ws0 ++ (schemaEvsAt ws0.length v ++ nlEvs (ws0.length + v.render.length) ws1)) = .ok st ∧
      st.root = some 0 ∧ st.nodes.toList = nodesOf none 0 ws0.length v) ∨
    (∃ p, DupAt src p ws0.length v ∧
      load src (nlEvs 0 ws0 ++ (schemaEvsAt ws0.length v ++ nlEvs (ws0.length + v.render.length) ws1))
        = .error (.duplicateKey p)) := by
  rcases keys_dichotomy src v ws0.length with h | ⟨p, h⟩
  · obtain ⟨st, h1, h2, h3, _⟩ := C16_load_mirrors_tree src v ws0 ws1 h
    exact Or.inl ⟨st, h1, h2, h3⟩
  · exact Or.inr ⟨p, h, C16_load_duplicate_key src v ws0 ws1 p h⟩

#print axioms C16_load_total

end Loader
