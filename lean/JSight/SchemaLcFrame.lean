import JSight.SchemaLookAhead
/-!
Frame property: no transition of the schema scanner model changes the `lengthComputing` flag.
-/
namespace SchemaScan

@[simp] theorem setContext_lc (s : Sc) (c : Ctx) : (setContext s c).lengthComputing = s.lengthComputing := rfl

theorem dispatch_lc (c : Cls) (p1 p2 : Option Cls) (f : Nat) (st : St) (s s' : Sc)
    (h : dispatch f st s c p1 p2 = .ok s') : s'.lengthComputing = s.lengthComputing :=
  ((dispatch_post_any c p1 p2 f st s).ok h).1

end SchemaScan
