import JSight.LinksBasics
/-!
C09 (b): `UsedUserTypes` as coded returns the mentions of the schema text, each once, in first-occurrence order.
-/
namespace LK

/-! ### `addType` / `addAll` -/

theorem mem_addType (acc : List String) (n x : String) : x ∈ addType acc n ↔ x ∈ acc ∨ x = n := by
  unfold addType
  by_cases h : acc.contains n = true
  · simp only [h, if_true]
    constructor
    · exact Or.inl
    · rintro (h1 | h1)
      · exact h1
      · subst h1; simpa using h
  · simp only [h, if_false, Bool.false_eq_true, List.mem_append, List.mem_singleton]

theorem addAll_nil (acc : List String) : addAll acc [] = acc := rfl
theorem addAll_cons (acc : List String) (x : String) (l : List String) :
    addAll acc (x :: l) = addAll (addType acc x) l := rfl
theorem addAll_append (acc l1 l2 : List String) : addAll acc (l1 ++ l2) = addAll (addAll acc l1) l2 := by
  unfold addAll; exact List.foldl_append

theorem mem_addAll (l : List String) : ∀ (acc : List String) (x : String), x ∈ addAll acc l ↔ x ∈ acc ∨ x ∈ l := by
  induction l with
  | nil => intro acc x; simp [addAll_nil]
  | cons y ys ih =>
    intro acc x
    rw [addAll_cons, ih, mem_addType, List.mem_cons, or_assoc]

theorem addAll_of_subset (l : List String) : ∀ (acc : List String), (∀ x ∈ l, x ∈ acc) → addAll acc l = acc := by
  induction l with
  | nil => intro acc _; rfl
  | cons y ys ih =>
    intro acc h
    have hm : y ∈ acc := h y (by simp)
    have hy : acc.contains y = true := by simpa using hm
    rw [addAll_cons]
    have : addType acc y = acc := by unfold addType; rw [if_pos hy]
    rw [this]
    exact ih acc (fun x hx => h x (by simp [hx]))

theorem addAll_twice (acc l : List String) : addAll (addAll acc l) l = addAll acc l :=
  addAll_of_subset l _ (fun x hx => (mem_addAll l acc x).2 (Or.inr hx))

/-! ### the traversal collects the mentions -/

mutual
theorem collect_eq : (t : N) → (acc : List String) → collect t acc = addAll acc (mentions t)
  | .lit _ tl _, acc => by simp [collect, mentions]
  | .ref names, acc => by simp [collect, mentions, addAll_twice]
  | .arr items, acc => by simp only [collect, mentions]; exact collectItems_eq items acc
  | .obj ao ap ps, acc => by
    simp only [collect, mentions]
    rw [collectProps_eq ps, addAll_append, addAll_append]
theorem collectItems_eq : (xs : List N) → (acc : List String) → collectItems xs acc = addAll acc (mentionsItems xs)
  | [], acc => by simp [collectItems, mentionsItems, addAll_nil]
  | x :: xs, acc => by
    simp only [collectItems, mentionsItems]
    rw [collectItems_eq xs, collect_eq x, addAll_append]
theorem collectProps_eq : (ps : List (String × Bool × N)) → (acc : List String) →
    collectProps ps acc = addAll acc (mentionsProps ps)
  | [], acc => by simp [collectProps, mentionsProps, addAll_nil]
  | (k, sc, v) :: ps, acc => by
    simp only [collectProps, mentionsProps]
    rw [collectProps_eq ps, collect_eq v, addAll_append, addAll_append]
    cases sc <;> simp [addAll_nil, addAll_cons]
end

/-! ### `addAll` is "keep the first occurrence" -/

theorem mem_dedupFirst (l : List String) : ∀ x, x ∈ dedupFirst l ↔ x ∈ l := by
  induction l with
  | nil => intro x; simp [dedupFirst]
  | cons y ys ih =>
    intro x
    simp only [dedupFirst, List.mem_cons, List.mem_filter, ih, bne_iff_ne, ne_eq]
    constructor
    · rintro (h | ⟨h, _⟩)
      · exact Or.inl h
      · exact Or.inr h
    · rintro (h | h)
      · exact Or.inl h
      · by_cases e : x = y
        · exact Or.inl e
        · exact Or.inr ⟨h, e⟩

theorem nodup_dedupFirst (l : List String) : (dedupFirst l).Nodup := by
  induction l with
  | nil => simp [dedupFirst]
  | cons y ys ih =>
    simp only [dedupFirst]
    refine List.nodup_cons.2 ⟨?_, ih.filter _⟩
    intro h
    have := (List.mem_filter.1 h).2
    simp at this

theorem addAll_eq (l : List String) : ∀ (acc : List String),
    addAll acc l = acc ++ (dedupFirst l).filter (fun x => !acc.contains x) := by
  induction l with
  | nil => intro acc; simp [addAll_nil, dedupFirst]
  | cons y ys ih =>
    intro acc
    rw [addAll_cons, ih]
    unfold addType
    by_cases h : acc.contains y = true
    · simp only [h, if_true, dedupFirst, List.filter_cons, Bool.not_true, Bool.false_eq_true, if_false]
      congr 1
      rw [List.filter_filter]
      apply List.filter_congr
      intro x _
      cases hx : acc.contains x with
      | true => rfl
      | false =>
        have : x ≠ y := by
          intro e; subst e; rw [h] at hx; exact absurd hx (by simp)
        simp [this]
    · have hf : acc.contains y = false := by simpa using h
      simp only [hf, if_false, Bool.false_eq_true, dedupFirst, List.filter_cons, Bool.not_false, if_true,
        List.append_assoc, List.singleton_append]
      congr 2
      rw [List.filter_filter]
      apply List.filter_congr
      intro x _
      by_cases e : x = y
      · subst e; simp
      · simp [e, Bool.and_comm]

theorem used_eq (t : N) : used t = dedupFirst (mentions t) := by
  unfold used
  rw [collect_eq, addAll_eq]
  simp

/-! ### the mentions are the references of the text -/

mutual
theorem mem_mentions : (t : N) → (n : String) → n ∈ mentions t ↔ RefsN t n
  | .lit jt tl e, n => by
    cases tl with
    | none =>
      simp only [mentions, TL.userNames, List.not_mem_nil, false_iff]
      intro h; cases h
    | typ x =>
      simp only [mentions, TL.userNames, List.mem_singleton]
      constructor
      · intro h; subst h; exact .litType jt n e
      · intro h; cases h; rfl
    | orr ms =>
      simp only [mentions, TL.userNames, mem_userNames]
      constructor
      · intro h; exact .litOr jt ms n e h
      · intro h; cases h; assumption
  | .ref names, n => by
    simp only [mentions]
    constructor
    · intro h; exact .ref names n h
    · intro h; cases h; assumption
  | .arr items, n => by
    simp only [mentions]
    rw [mem_mentionsItems items n]
    constructor
    · rintro ⟨x, hx, hr⟩; exact .item items x n hx hr
    · intro h; cases h with | item _ x _ hx hr => exact ⟨x, hx, hr⟩
  | .obj ao ap ps, n => by
    simp only [mentions, List.mem_append]
    rw [mem_mentionsProps ps n]
    constructor
    · rintro ((h | h) | h)
      · exact .allOf ao ap ps n h
      · cases ap with
        | none => simp at h
        | some a =>
          have : n = a := by simpa using h
          subst this; exact .addp ao ps n
      · rcases h with ⟨v, hv⟩ | ⟨k, sc, v, hm, hr⟩
        · exact .key ao ap ps n v hv
        · exact .prop ao ap ps k sc v n hm hr
    · intro h
      cases h with
      | allOf _ _ _ _ h => exact Or.inl (Or.inl h)
      | addp _ _ _ => exact Or.inl (Or.inr (by simp))
      | key _ _ _ _ v hv => exact Or.inr (Or.inl ⟨v, hv⟩)
      | prop _ _ _ k sc v _ hm hr => exact Or.inr (Or.inr ⟨k, sc, v, hm, hr⟩)
theorem mem_mentionsItems : (xs : List N) → (n : String) → n ∈ mentionsItems xs ↔ ∃ x ∈ xs, RefsN x n
  | [], n => by simp [mentionsItems]
  | x :: xs, n => by
    simp only [mentionsItems, List.mem_append, List.mem_cons, exists_eq_or_imp]
    rw [mem_mentions x n, mem_mentionsItems xs n]
theorem mem_mentionsProps : (ps : List (String × Bool × N)) → (n : String) →
    n ∈ mentionsProps ps ↔ (∃ v, (n, true, v) ∈ ps) ∨ ∃ k sc v, (k, sc, v) ∈ ps ∧ RefsN v n
  | [], n => by simp [mentionsProps]
  | (k, sc, v) :: ps, n => by
    simp only [mentionsProps, List.mem_append, List.mem_cons]
    rw [mem_mentions v n, mem_mentionsProps ps n]
    constructor
    · rintro ((h | h) | h)
      · cases sc with
        | false => simp at h
        | true =>
          have : n = k := by simpa using h
          subst this; exact Or.inl ⟨v, Or.inl rfl⟩
      · exact Or.inr ⟨k, sc, v, Or.inl rfl, h⟩
      · rcases h with ⟨w, hw⟩ | ⟨k', sc', w, hw, hr⟩
        · exact Or.inl ⟨w, Or.inr hw⟩
        · exact Or.inr ⟨k', sc', w, Or.inr hw, hr⟩
    · rintro (⟨w, hw⟩ | ⟨k', sc', w, hw, hr⟩)
      · rcases hw with hw | hw
        · have e1 : n = k := by injection hw
          have e2 : true = sc := by
            have := (Prod.mk.inj hw).2
            exact (Prod.mk.inj this).1
          subst e1; subst e2
          exact Or.inl (Or.inl (by simp))
        · exact Or.inr (Or.inl ⟨w, hw⟩)
      · rcases hw with hw | hw
        · have e3 : w = v := by
            have := (Prod.mk.inj hw).2
            exact (Prod.mk.inj this).2
          subst e3
          exact Or.inl (Or.inr hr)
        · exact Or.inr (Or.inr ⟨k', sc', w, hw, hr⟩)
end

/-! ### `used`: no name twice, exactly the referenced names (with `used_eq`: in the order of first mention) -/

theorem used_nodup (t : N) : (used t).Nodup := by
  rw [used_eq]; exact nodup_dedupFirst _

theorem used_mem_iff (t : N) (n : String) : n ∈ used t ↔ RefsN t n := by
  rw [used_eq, mem_dedupFirst, mem_mentions]

end LK
