import JSight.DocCursorRem
/-!
One statement for one `Next` call of the incremental `Document` scanner against the whole-text scanner model, whatever the
text: `Follows`. `rem cls s` and `remSeen cls s` (`DocCursorRem`) are the two halves of one total description of what is
still to come; a delivered lexeme is stripped from both, an error or the end of the stream is the model's answer
(`follows_next`, under the invariant `J`). `loops_follow` reads it for the loops of `Check` and `Length()`,
`stream_follow` for the successive deliveries; `checkText_eq_events`, `lenLoop_eq_events`, `scanAll_eq` are these at a fresh
document, for every text. What holds of accepted and of rejected texts (`DocCursorLink`) and that nothing panics
(`DocCursorSafe`) are readings of these.
-/
namespace DocCursor
open JsonScan

/-- the whole-text model has no crash ahead of `s` -/
def NC (cls : List Cls) (s : Scn) : Prop := ∀ w, rem cls s ≠ .error (.crash w)

/-- past the end of the text with nothing queued -/
def QQ (cls : List Cls) (s : Scn) : Prop := s.finds = [] ∧ cls.length ≤ s.index

/-- in `stateEndTop` with nothing queued -/
def RR (s : Scn) : Prop := s.st = .endTop ∧ s.finds = []

def IsErr (e : ErrS) (c q : Nat) : Prop := (e = .invalidChar q ∧ c = 301) ∨ (e = .unexpectedEOF q ∧ c = 303)

theorem isErr_unique {e : ErrS} {c q c' q' : Nat} (h : IsErr e c q) (h' : IsErr e c' q') : c = c' ∧ q = q' := by
  rcases h with ⟨rfl, rfl⟩ | ⟨rfl, rfl⟩ <;> rcases h' with ⟨h1, rfl⟩ | ⟨h1, rfl⟩ <;> cases h1 <;> exact ⟨rfl, rfl⟩

/-- inside the stream: a reachable shape behind the queued finds (or past the end with no literal to close), no panic
ahead in the model, a queued `EndTop` is last -/
def J (cls : List Cls) (s : Scn) : Prop :=
  (InvA cls s ∨ InvB cls s) ∧ NC cls s ∧ etOK s.st s.finds = true

/-- one `Next` against the model's answer `X` and its delivered events `L` -/
def Follows (cls : List Cls) (X : Except ErrS (List Ev)) (L : List Ev) (r : NextRes × Scn) : Prop :=
  match r.1 with
  | .lex ev => ev.ty ≠ .endTop ∧ X = (rem cls r.2).map (ev :: ·) ∧ L = ev :: remSeen cls r.2 ∧ J cls r.2
  | .eofLex ev => ev.ty = .endTop ∧ X = .ok [ev] ∧ RR r.2
  | .eof => X = .ok [] ∧ QQ cls r.2
  | .err c q => ∃ e, X = .error e ∧ IsErr e c q ∧ L = []
  | .crash _ => False

theorem follows_found (cls : List Cls) (s : Scn) (f : LexT) (rest : List LexT) (hf : s.finds = f :: rest)
    (hJ : J cls s) : Follows cls (rem cls s) (remSeen cls s) (processFound { s with finds := rest } f) := by
  obtain ⟨hI, hnc, he⟩ := hJ
  have hA : InvA cls s := by
    rcases hI with h | h
    · exact h
    · rw [h.1] at hf; cases hf
  rw [hf] at he
  have hrem : rem cls s = fin cls s.allow s.index s.st s.unf (applyFindsS (s.index - 1) s.stack (f :: rest) []) := by
    unfold rem; rw [hf]
  have hseen : remSeen cls s
      = finSeen cls s.allow s.index s.st s.unf (applyFindsS (s.index - 1) s.stack (f :: rest) []) := by
    unfold remSeen; rw [hf]
  rcases processFound_cases { s with finds := rest } f with ⟨rfl, e⟩ | ⟨h1, S, ev, e, hty, _, hap⟩ | ⟨_, S, w, e, _, hap⟩
  · obtain ⟨rfl, hs⟩ := etOK_top he
    rw [e]
    refine ⟨rfl, ?_, hs, rfl⟩
    rw [hrem]; rfl
  · rw [e]
    have hone := hap rest []
    simp only at hone
    rw [hone, applyFindsS_acc] at hrem hseen
    rw [fin_pre] at hrem
    -- the model does not panic on the rest of the finds
    cases hX : applyFindsS (s.index - 1) S rest [] with
    | error e' =>
      obtain ⟨w, rfl⟩ := (applyFinds_err _ _ _ _ _ hX).1
      rw [hX] at hrem
      exact absurd hrem (hnc w)
    | ok r =>
      refine ⟨by rw [hty]; exact h1, hrem, ?_, Or.inl ⟨hA.1, fun S' evs hS => hA.2 S' (ev :: evs) ?_⟩, ?_, etOK_tail h1 he⟩
      · rw [hseen, hX]
        show _ = ev :: finSeen cls s.allow s.index s.st s.unf (applyFindsS (s.index - 1) S rest [])
        rw [hX]
        exact finSeen_pre cls _ _ _ _ ev r
      · simp only at hS
        rw [hf, hone, applyFindsS_acc, hS]
        simp [Except.map, pre]
      · intro w hw
        have hw' : fin cls s.allow s.index s.st s.unf (applyFindsS (s.index - 1) S rest []) = .error (.crash w) := hw
        exact hnc w (by rw [hrem, hw']; rfl)
  · exact absurd (hrem.trans (congrArg _ (hap rest []))) (hnc w)

theorem follows_atEnd (cls : List Cls) (s : Scn) (hf : s.finds = []) (hd : cls.length ≤ s.index) (hJ : J cls s) :
    Follows cls (rem cls s) (remSeen cls s) (atEnd cls.length s) := by
  obtain ⟨hI, _, _⟩ := hJ
  rw [rem_nofinds cls s hf, remSeen_nofinds cls s hf, List.drop_eq_nil_of_le hd]
  have hnew : ∀ S, rem cls { s with index := s.index + 1, stack := S }
        = evsFrom s.allow cls.length [] (s.index + 1) ⟨s.st, S, s.unf⟩ ∧
      remSeen cls { s with index := s.index + 1, stack := S }
        = seenFrom s.allow cls.length [] (s.index + 1) ⟨s.st, S, s.unf⟩ := fun S => by
    rw [rem_nofinds cls { s with index := s.index + 1, stack := S } hf,
      remSeen_nofinds cls { s with index := s.index + 1, stack := S } hf,
      List.drop_eq_nil_of_le (by simp only; omega)]
    exact ⟨rfl, rfl⟩
  rcases atEnd_cases cls.length s with ⟨hs, e⟩ | ⟨b, rest, hs, hu, e⟩ | ⟨p, b, rest, hs, hc, e⟩
  · rw [e]
    refine ⟨?_, hf, hd⟩
    rw [hs]; rfl
  · -- a finished literal is closed; below it lies no literal-begin, so what follows is plain EOF or the error
    rw [e]
    rcases hI with hA | hB
    · have hidx : s.index = cls.length := by have := hA.1; omega
      obtain ⟨h1, h2⟩ := hnew rest
      have hq : ∀ q bq r, rest = (q, bq) :: r → (q == .litB && !s.unf) = false := by
        intro q bq r hr
        obtain ⟨r0, seen, hR⟩ := hA.2 s.stack [] (by rw [hf]; rfl)
        have : q ≠ .litB := R_top hR q (r.map (·.1)) (by rw [hs, hr]; rfl)
        rw [show (q == .litB) = false by simpa using this]
        rfl
      have hX : evsFrom s.allow cls.length [] s.index ⟨s.st, s.stack, s.unf⟩
          = (evsFrom s.allow cls.length [] (s.index + 1) ⟨s.st, rest, s.unf⟩).map
              ((⟨.litE, b, s.index - 1⟩ : Ev) :: ·) := by
        rw [hs, hidx]
        cases rest with
        | nil => rw [hu]; rfl
        | cons qb r =>
          rw [evsFrom_nil_err _ _ _ _ _ _ _ _ (Or.inr (List.cons_ne_nil _ _)),
            evsFrom_nil_err _ _ _ _ _ _ _ _ (Or.inl (hq _ _ _ rfl))]
          rfl
      have hL : seenFrom s.allow cls.length [] s.index ⟨s.st, s.stack, s.unf⟩
          = ⟨.litE, b, s.index - 1⟩ :: seenFrom s.allow cls.length [] (s.index + 1) ⟨s.st, rest, s.unf⟩ := by
        rw [hs, hidx]
        cases rest with
        | nil => rw [hu]; rfl
        | cons qb r => rw [seenFrom_nil_none _ _ _ _ _ _ _ _ (hq _ _ _ rfl), hu]; rfl
      refine ⟨(fun h => nomatch h), by rw [h1]; exact hX, by rw [h2]; exact hL,
        Or.inr ⟨hf, by simp only; omega, ?_⟩, ?_, by rw [hf]; rfl⟩
      · intro p' b' rest' h hp
        subst hp
        have := hq _ _ _ h
        rw [hu] at this
        cases this
      · intro w hw
        rw [h1] at hw
        cases rest with
        | nil => cases hw
        | cons qb r => rw [evsFrom_nil_err _ _ _ _ _ _ _ _ (Or.inl (hq _ _ _ rfl))] at hw; cases hw
    · exact absurd rfl (hB.2.2 _ _ _ hs)
  · rw [e, hs]
    exact ⟨_, evsFrom_nil_err _ _ _ _ _ _ _ _ (Or.inl hc), Or.inr ⟨rfl, rfl⟩, seenFrom_nil_none _ _ _ _ _ _ _ _ hc⟩

/-- `J` passes over a byte -/
theorem J_step (cls : List Cls) (s : Scn) (hf : s.finds = []) (hJ : J cls s) (c : Cls) (hc : cls[s.index]? = some c)
    (st' : St) (unf' : Bool) (fs : List LexT)
    (hst : step s.allow s.st (s.stack.map (·.1)) s.unf c = .ok (st', unf', fs)) :
    J cls { s with index := s.index + 1, st := st', unf := unf', finds := fs } := by
  have hlt : s.index < cls.length := (List.getElem?_eq_some_iff.mp hc).1
  have hA : InvA cls s := by
    rcases hJ.1 with h | h
    · exact h
    · have := h.2.1; omega
  exact ⟨Or.inl (invA_step cls s hf hA c hlt st' unf' fs hst),
    fun w hw => hJ.2.1 w (by rw [rem_step cls s hf c hc st' unf' fs hst]; exact hw), step_et hst⟩

theorem follows_scanLoop (cls : List Cls) (fuel : Nat) (s : Scn) (hf : s.finds = []) (hfu : cls.length - s.index ≤ fuel)
    (hJ : J cls s) : Follows cls (rem cls s) (remSeen cls s) (scanLoop cls fuel s) := by
  refine scanLoop_rule
    (I := fun s' => s'.finds = [] ∧ J cls s' ∧ rem cls s' = rem cls s ∧ remSeen cls s' = remSeen cls s)
    (Q := Follows cls (rem cls s) (remSeen cls s)) ?_ ?_ ?_ ?_ fuel s hfu ⟨hf, hJ, rfl, rfl⟩
  · intro s' ⟨hf, hJ, h1, h2⟩ hd
    rw [← h1, ← h2]
    exact follows_atEnd cls s' hf hd hJ
  · intro s' c e' ⟨hf, _, h1, h2⟩ hc hst
    refine ⟨_, by rw [← h1]; exact rem_step_err cls s' hf c hc e' hst, Or.inl ⟨rfl, rfl⟩, ?_⟩
    rw [← h2, remSeen_nofinds cls s' hf, drop_of_getElem? hc]
    unfold seenFrom
    rw [hst]
  · intro s' c st' unf' ⟨hf, hJ, h1, h2⟩ hc hst
    have hJ' := J_step cls s' hf hJ c hc st' unf' [] hst
    rw [rem_step cls s' hf c hc st' unf' [] hst] at h1
    rw [remSeen_step cls s' hf c hc st' unf' [] hst] at h2
    rw [← hf] at hJ' h1 h2
    exact ⟨hf, hJ', h1, h2⟩
  · intro s' c st' unf' f rest ⟨hf, hJ, h1, h2⟩ hc hst
    rw [← h1, ← h2, rem_step cls s' hf c hc st' unf' (f :: rest) hst,
      remSeen_step cls s' hf c hc st' unf' (f :: rest) hst]
    exact follows_found cls { s' with index := s'.index + 1, st := st', unf := unf', finds := f :: rest } f rest rfl
      (J_step cls s' hf hJ c hc st' unf' (f :: rest) hst)

/-- one `Next` inside the stream does what the whole-text model says -/
theorem follows_next (cls : List Cls) (s : Scn) (hJ : J cls s) :
    Follows cls (rem cls s) (remSeen cls s) (s.next cls) := by
  unfold Scn.next
  split
  · rename_i f rest hf
    exact follows_found cls s f rest hf hJ
  · rename_i hf
    exact follows_scanLoop cls _ s hf (Nat.le_refl _) hJ

theorem J_init (t : List UInt8) (o : Bool) : J (clsOf t) { allow := o } :=
  ⟨Or.inl (invA_init t o), fun w h => events_no_crash o t w (by rw [← rem_init]; exact h), rfl⟩

/-! ### `Check` and `Length()` read the model's answer -/

def lenStep (_ : Nat) (e : Ev) : Nat := if e.ty == .endTop then e.e else e.e + 1

/-- the answer of `Check` / `Length()` to the model's answer -/
def checkOf : Except ErrS (List Ev) → Bool → CheckRes
  | .ok L, seen => if seen || !(nonTop L).isEmpty then .ok else .err 203 0
  | .error (.invalidChar q), _ => .err 301 q
  | .error (.unexpectedEOF q), _ => .err 303 q
  | .error .emptyJson, _ => .err 203 0
  | .error (.crash w), _ => .crash w

def lenOf : Except ErrS (List Ev) → Nat → LenRes
  | .ok L, len => .ok (L.foldl lenStep len)
  | .error (.invalidChar q), _ => .err 301 q
  | .error (.unexpectedEOF q), _ => .err 303 q
  | .error .emptyJson, _ => .err 203 0
  | .error (.crash w), _ => .crash w

theorem checkOf_cons (X : Except ErrS (List Ev)) (ev : Ev) (h : ev.ty ≠ .endTop) (seen : Bool) :
    checkOf (X.map (ev :: ·)) seen = checkOf X true := by
  have hb : (ev.ty != .endTop) = true := by simpa using h
  rcases X with (_ | _ | _ | _) | L <;> simp [Except.map, checkOf, nonTop, hb]

theorem lenOf_cons (X : Except ErrS (List Ev)) (ev : Ev) (h : ev.ty ≠ .endTop) (len : Nat) :
    lenOf (X.map (ev :: ·)) len = lenOf X (ev.e + 1) := by
  have hb : (ev.ty == .endTop) = false := by simpa using h
  rcases X with (_ | _ | _ | _) | L <;> simp [Except.map, lenOf, lenStep, hb]

theorem loops_follow (cls : List Cls) (fuel : Nat) : ∀ s : Scn, mu cls.length s < fuel → J cls s →
    (∀ seen, checkLoop cls fuel s seen = checkOf (rem cls s) seen) ∧
    (∀ len, lenLoop cls fuel s len = lenOf (rem cls s) len) ∧
    ∀ e, rem cls s = .error e → ∃ c q, IsErr e c q := by
  induction fuel with
  | zero => intro s h; omega
  | succ f ih =>
    intro s hmu hJ
    have hsp := follows_next cls s hJ
    simp only [checkLoop, lenLoop]
    cases hn : s.next cls with
    | mk r s' =>
      rw [hn] at hsp
      cases r with
      | lex ev =>
        obtain ⟨hne, hX, _, hJ'⟩ := hsp
        obtain ⟨h3, h4, h5⟩ := ih s' (by have := next_lex hn; omega) hJ'
        simp only at hX
        exact ⟨fun seen => by rw [hX, checkOf_cons _ _ hne]; exact h3 true,
          fun len => by rw [hX, lenOf_cons _ _ hne]; exact h4 _,
          fun e he => h5 e (map_err (hX ▸ he))⟩
      | eofLex ev =>
        obtain ⟨ht, hX, _⟩ := hsp
        rw [hX]
        exact ⟨fun seen => by simp [checkOf, nonTop, ht], fun len => by simp [lenOf, lenStep, ht], fun _ h => nomatch h⟩
      | eof =>
        have hX : rem cls s = .ok [] := hsp.1
        rw [hX]
        exact ⟨fun seen => by simp [checkOf, nonTop], fun len => rfl, fun _ h => nomatch h⟩
      | err c p =>
        obtain ⟨e, hX, hc, _⟩ := hsp
        rw [hX]
        rcases hc with ⟨rfl, rfl⟩ | ⟨rfl, rfl⟩ <;>
          exact ⟨fun _ => rfl, fun _ => rfl, fun e' he => by cases he; exact ⟨_, _, by first | exact Or.inl ⟨rfl, rfl⟩ | exact Or.inr ⟨rfl, rfl⟩⟩⟩
      | crash w => exact absurd hsp id

/-- `Check` of a fresh document is the whole-text model's answer, for every text -/
theorem checkText_eq_events (t : List UInt8) (o : Bool) : checkText t o = checkOf (events o t) false := by
  rw [checkText_eq, ← rem_init]
  exact (loops_follow _ _ _ (by simp [mu, clsOf, fuelOf]) (J_init t o)).1 false

theorem lenLoop_eq_events (t : List UInt8) (o : Bool) :
    lenLoop (clsOf t) (fuelOf t) { allow := o } 0 = lenOf (events o t) 0 := by
  rw [← rem_init]
  exact (loops_follow _ _ _ (by simp [mu, clsOf, fuelOf]) (J_init t o)).2.1 0

/-- the whole-text model's errors are "invalid character" and "unexpected end" -/
theorem events_err (t : List UInt8) (o : Bool) (e : ErrS) (h : events o t = .error e) : ∃ c q, IsErr e c q :=
  (loops_follow _ (fuelOf t) _ (by simp [mu, clsOf, fuelOf]) (J_init t o)).2.2 e (by rw [rem_init]; exact h)

/-! ### the deliveries of a fresh document -/

def errRes : ErrS → NextRes
  | .invalidChar q => .err 301 q
  | .unexpectedEOF q => .err 303 q
  | .emptyJson => .err 203 0
  | .crash w => .crash w

/-- the deliveries the model's answer stands for, up to and including the one that ends the stream -/
def ans : Except ErrS (List Ev) → List Ev → List NextRes
  | .ok L', _ => conv L'
  | .error e, L => L.map .lex ++ [errRes e]

theorem ans_cons (X : Except ErrS (List Ev)) (L : List Ev) (ev : Ev) (h : ev.ty ≠ .endTop) :
    ans (X.map (ev :: ·)) (ev :: L) = .lex ev :: ans X L := by
  have hb : (ev.ty == .endTop) = false := by simpa using h
  cases X with
  | error e => rfl
  | ok L' => simp [Except.map, ans, conv, hb]

theorem stream_follow (t : List UInt8) (o : Bool) : ∀ (fuel k : Nat),
    mu (clsOf t).length (scanAt t o k).1 < fuel → J (clsOf t) (scanAt t o k).1 → (scanAt t o k).2 = none →
    (List.range' k (ans (rem (clsOf t) (scanAt t o k).1) (remSeen (clsOf t) (scanAt t o k).1)).length).map (lexAt t o)
      = ans (rem (clsOf t) (scanAt t o k).1) (remSeen (clsOf t) (scanAt t o k).1) := by
  intro fuel
  induction fuel with
  | zero => intro k h; omega
  | succ f ih =>
    intro k hmu hJ hnone
    have hsp := follows_next (clsOf t) (scanAt t o k).1 hJ
    cases hn : (scanAt t o k).1.next (clsOf t) with
    | mk r s' =>
      rw [hn] at hsp
      obtain ⟨hx, hs'⟩ := lexAt_step t o k hnone hn
      cases r with
      | lex ev =>
        obtain ⟨hne, hX, hL, hJ'⟩ := hsp
        have h2 := next_lex hn
        have := ih (k + 1) (by rw [hs']; simp only; omega) (by rw [hs']; exact hJ') (by rw [hs'])
        rw [hs'] at this
        simp only at this hX hL
        rw [hX, hL, ans_cons _ _ _ hne, List.length_cons, List.range'_succ, List.map_cons, this, hx]
      | eofLex ev =>
        obtain ⟨ht, hX, _⟩ := hsp
        rw [hX]
        simp [ans, conv, ht, hx]
      | eof =>
        have hX : rem (clsOf t) (scanAt t o k).1 = .ok [] := hsp.1
        rw [hX]
        simp [ans, conv, hx]
      | err c q =>
        obtain ⟨e, hX, hc, hL⟩ := hsp
        rw [hX, hL]
        rcases hc with ⟨rfl, rfl⟩ | ⟨rfl, rfl⟩ <;> simp [ans, errRes, hx]
      | crash w => exact absurd hsp id

/-- every text: the deliveries of a fresh document are the model's, up to and including the end of the stream -/
theorem scanAll_eq (t : List UInt8) (o : Bool) :
    scanAll t o (ans (events o t) (eventsSeen o t)).length = ans (events o t) (eventsSeen o t) := by
  have := stream_follow t o (fuelOf t) 0 (by simp [mu, clsOf, fuelOf, scanAt]) (J_init t o) rfl
  rw [show (scanAt t o 0).1 = ({ allow := o } : Scn) from rfl, remSeen_init, rem_init] at this
  unfold scanAll
  rw [List.range_eq_range']
  exact this

end DocCursor
