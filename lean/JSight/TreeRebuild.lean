import JSight.TreeStrip
import JSight.NodeTable
/-!
C06, "the JSON value can be rebuilt from the events alone": `rebV` reads a value back from the event list
and the token slices the spans cut out of the source — it never looks at the source for structure. For every
valid tree, whatever its layout, reading back the events the tree denotes gives the tree without layout.
-/
namespace JsonScan

/-- the bytes a span `[b, e]` cuts out of the source -/
def slice (src : List Cls) (b e : Nat) : List Cls := (src.drop b).take (e + 1 - b)

mutual
def rebV (src : List Cls) : Nat → List Ev → Option (JT × List Ev)
  | 0, _ => none
  | f + 1, evs =>
    match evs with
    | ⟨.litB, _, _⟩ :: ⟨.litE, b, e⟩ :: rest => some (.scalar (slice src b e), rest)
    | ⟨.arrB, _, _⟩ :: rest => (rebItems src f rest).map (fun r => (JT.arr r.1, r.2))
    | ⟨.objB, _, _⟩ :: rest => (rebMembers src f rest).map (fun r => (JT.obj r.1, r.2))
    | _ => none
def rebItems (src : List Cls) : Nat → List Ev → Option (List JT × List Ev)
  | 0, _ => none
  | f + 1, evs =>
    match evs with
    | ⟨.arrE, _, _⟩ :: rest => some ([], rest)
    | ⟨.itemB, _, _⟩ :: rest =>
      match rebV src f rest with
      | some (v, ⟨.itemE, _, _⟩ :: rest') => (rebItems src f rest').map (fun r => (v :: r.1, r.2))
      | _ => none
    | _ => none
def rebMembers (src : List Cls) : Nat → List Ev → Option (List (List Cls × JT) × List Ev)
  | 0, _ => none
  | f + 1, evs =>
    match evs with
    | ⟨.objE, _, _⟩ :: rest => some ([], rest)
    | ⟨.keyB, _, _⟩ :: ⟨.keyE, b, e⟩ :: ⟨.valB, _, _⟩ :: rest =>
      match rebV src f rest with
      | some (v, ⟨.valE, _, _⟩ :: rest') => (rebMembers src f rest').map (fun r => ((slice src b e, v) :: r.1, r.2))
      | _ => none
    | _ => none
end

theorem scalar_ne_nil {tok : List Cls} (h : IsScalar tok) : tok ≠ [] := by
  obtain ⟨c, tl, _, _, _, rfl, _⟩ := h; simp

theorem key_ne_nil {k : List Cls} (h : IsKey k) : k ≠ [] := by
  obtain ⟨tl, rfl, _⟩ := h; simp

open NodeTable (Sits sits_mid)

theorem slice_sits {src : List Cls} {o : Nat} {tok : List Cls} (h : Sits src.toArray o tok) (hne : tok ≠ []) :
    slice src o (o + tok.length - 1) = tok := h.cut hne

theorem comma_length (last : Bool) : (if last then ([] : List Cls) else [.comma]).length = if last then 0 else 1 := by
  cases last <;> rfl

/- In the list parts a run is taken apart by position: `renderItems` of a cons is `w1 ++ (v ++ (w2 ++ (comma ++ rest)))`,
so `h.append.2.append.1` is the value and four `.append.2` reach the rest; `renderMembers` of a cons is
`w1 ++ (k ++ (w2 ++ (colon :: (w3 ++ (v ++ (w4 ++ (comma ++ rest)))))))`, where the lone `.2` steps over the colon.
The first argument `a` of `evsItems` / `evsMembers` is the offset of the enclosing bracket (it stands in the closing
event only, which the rebuilder does not read); `rebV_at` passes its own `o`. -/
mutual
/-- reading back the events of a valid tree whose text stands at `o` in the source gives the tree without layout -/
theorem rebV_at : (v : JA) → v.Valid → ∀ (src : List Cls) (o : Nat), Sits src.toArray o v.render →
    ∃ f0, ∀ f, f0 ≤ f → ∀ rest, rebV src f (evsAt o v ++ rest) = some (strip v, rest)
  | .scalar tok, hv => by
    intro src o h
    refine ⟨1, fun f hf rest => ?_⟩
    obtain ⟨f', rfl⟩ : ∃ f', f = f' + 1 := ⟨f - 1, by omega⟩
    simp only [evsAt, List.cons_append, List.nil_append, rebV, strip]
    rw [slice_sits (tok := tok) h (scalar_ne_nil (by simpa [JA.Valid] using hv))]
  | .arr ws0 items, hv => by
    intro src o h
    have hvi : ValidItems items := (by simpa [JA.Valid] using hv : IsWs ws0 ∧ ValidItems items).2
    obtain ⟨f0, hf0⟩ := rebItems_at items hvi o src (o + 1 + ws0.length) h.2.append.2
    refine ⟨f0 + 1, fun f hf rest => ?_⟩
    obtain ⟨f', rfl⟩ : ∃ f', f = f' + 1 := ⟨f - 1, by omega⟩
    simp only [evsAt, List.cons_append, rebV, strip]
    rw [hf0 f' (by omega)]
    rfl
  | .obj ws0 members, hv => by
    intro src o h
    have hvm : ValidMembers members := (by simpa [JA.Valid] using hv : IsWs ws0 ∧ ValidMembers members).2
    obtain ⟨f0, hf0⟩ := rebMembers_at members hvm o src (o + 1 + ws0.length) h.2.append.2
    refine ⟨f0 + 1, fun f hf rest => ?_⟩
    obtain ⟨f', rfl⟩ : ∃ f', f = f' + 1 := ⟨f - 1, by omega⟩
    simp only [evsAt, List.cons_append, rebV, strip]
    rw [hf0 f' (by omega)]
    rfl
theorem rebItems_at : (its : List (List Cls × JA × List Cls)) → ValidItems its →
    ∀ (a : Nat) (src : List Cls) (o : Nat), Sits src.toArray o (renderItems its) →
    ∃ f0, ∀ f, f0 ≤ f → ∀ rest, rebItems src f (evsItems a o its ++ rest) = some (stripItems its, rest)
  | [], _ => by
    intro a src o _
    refine ⟨1, fun f hf rest => ?_⟩
    obtain ⟨f', rfl⟩ : ∃ f', f = f' + 1 := ⟨f - 1, by omega⟩
    simp [evsItems, rebItems, stripItems]
  | (w1, v, w2) :: its, hv => by
    intro a src o h
    obtain ⟨_, hvv, _, hvs⟩ : IsWs w1 ∧ v.Valid ∧ IsWs w2 ∧ ValidItems its := by simpa [ValidItems] using hv
    simp only [renderItems] at h
    have h2 := h.append.2.append.2.append.2.append.2
    rw [comma_length] at h2
    obtain ⟨f1, hf1⟩ := rebV_at v hvv src _ h.append.2.append.1
    obtain ⟨f2, hf2⟩ := rebItems_at its hvs a src _ h2
    refine ⟨f1 + f2 + 1, fun f hf rest => ?_⟩
    obtain ⟨f', rfl⟩ : ∃ f', f = f' + 1 := ⟨f - 1, by omega⟩
    simp only [evsItems, List.cons_append, List.append_assoc, rebItems, stripItems]
    rw [hf1 f' (by omega)]
    simp only  -- the `match` on the value read back
    rw [hf2 f' (by omega)]
    rfl
theorem rebMembers_at : (ms : List (List Cls × List Cls × List Cls × List Cls × JA × List Cls)) → ValidMembers ms →
    ∀ (a : Nat) (src : List Cls) (o : Nat), Sits src.toArray o (renderMembers ms) →
    ∃ f0, ∀ f, f0 ≤ f → ∀ rest, rebMembers src f (evsMembers a o ms ++ rest) = some (stripMembers ms, rest)
  | [], _ => by
    intro a src o _
    refine ⟨1, fun f hf rest => ?_⟩
    obtain ⟨f', rfl⟩ : ∃ f', f = f' + 1 := ⟨f - 1, by omega⟩
    simp [evsMembers, rebMembers, stripMembers]
  | (w1, k, w2, w3, v, w4) :: ms, hv => by
    intro a src o h
    obtain ⟨_, hk, _, _, hvv, _, hvs⟩ :
        IsWs w1 ∧ IsKey k ∧ IsWs w2 ∧ IsWs w3 ∧ v.Valid ∧ IsWs w4 ∧ ValidMembers ms := by simpa [ValidMembers] using hv
    simp only [renderMembers] at h
    have hv1 := h.append.2.append.2.append.2.2.append.2
    have h2 := hv1.append.2.append.2.append.2
    rw [comma_length] at h2
    obtain ⟨f1, hf1⟩ := rebV_at v hvv src _ hv1.append.1
    obtain ⟨f2, hf2⟩ := rebMembers_at ms hvs a src _ h2
    refine ⟨f1 + f2 + 1, fun f hf rest => ?_⟩
    obtain ⟨f', rfl⟩ : ∃ f', f = f' + 1 := ⟨f - 1, by omega⟩
    simp only [evsMembers, List.cons_append, List.append_assoc, rebMembers, stripMembers]
    rw [hf1 f' (by omega)]
    simp only
    rw [hf2 f' (by omega), slice_sits h.append.2.append.1 (key_ne_nil hk)]
    rfl
end

/-- `rebV_at`, `rebItems_at`, `rebMembers_at` with the source written out as `pre ++ (text ++ post)` -/
theorem rebV_spec (v : JA) (hv : v.Valid) (pre post : List Cls) (rest : List Ev) :
    ∃ f0, ∀ f, f0 ≤ f → rebV (pre ++ (v.render ++ post)) f (evsAt pre.length v ++ rest) = some (strip v, rest) :=
  (rebV_at v hv _ _ (sits_mid pre _ post)).imp fun _ h f hf => h f hf rest

theorem rebItems_spec : (its : List (List Cls × JA × List Cls)) → ValidItems its →
    ∀ (a : Nat) (pre post : List Cls) (rest : List Ev),
    ∃ f0, ∀ f, f0 ≤ f → rebItems (pre ++ (renderItems its ++ post)) f (evsItems a pre.length its ++ rest)
      = some (stripItems its, rest)
  | its, hv => fun a pre post rest =>
    (rebItems_at its hv a _ _ (sits_mid pre _ post)).imp fun _ h f hf => h f hf rest

theorem rebMembers_spec : (ms : List (List Cls × List Cls × List Cls × List Cls × JA × List Cls)) → ValidMembers ms →
    ∀ (a : Nat) (pre post : List Cls) (rest : List Ev),
    ∃ f0, ∀ f, f0 ≤ f → rebMembers (pre ++ (renderMembers ms ++ post)) f (evsMembers a pre.length ms ++ rest)
      = some (stripMembers ms, rest)
  | ms, hv => fun a pre post rest =>
    (rebMembers_at ms hv a _ _ (sits_mid pre _ post)).imp fun _ h f hf => h f hf rest

/-- **C06 (rebuild)**: from the events of a valid document and the token slices alone the JSON value is recovered -/
theorem rebuild_tree (v : JA) (hv : v.Valid) (ws0 ws1 : List Cls) :
    ∃ f, rebV (ws0 ++ (v.render ++ ws1)) f (evsAt ws0.length v) = some (strip v, []) := by
  obtain ⟨f0, h⟩ := rebV_spec v hv ws0 ws1 []
  exact ⟨f0, by simpa using h f0 (Nat.le_refl _)⟩

end JsonScan
