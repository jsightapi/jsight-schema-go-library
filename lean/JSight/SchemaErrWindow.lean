import JSight.SchemaLcFrame
import JSight.SchemaViable
import JSight.ByteLemmas
/-!
C17, schema scanner: the EXACT look-ahead window of an error.  An "invalid character"-class error at offset `i` is
determined by the bytes (and the end of input) at the offsets `≤ i`, plus — only for the error "after first #" — the fact
that the byte behind it is not `#`.  (`Fails.transferX`; on byte strings `scanAll_error_exact`.)
-/
namespace SchemaScan

/-! ### the three users of the look-ahead, through the guard closures -/

theorem popRet_err {s : Sc} {e : Err} (h : popRet s = .error e) : e.isCrash = true := by
  unfold popRet at h
  split at h <;> cases h
  rfl

/-- a property of the call of a step function on a byte other than `/`, as a function of the look-ahead: it holds through
the guard closures if it holds of the step function under them (and of the exhausted fuel) -/
theorem dispatch_core_ind {c : Cls} (hc : c ≠ .slash) (s : Sc) (P : (Option Cls → Option Cls → M Sc) → Prop)
    (h0 : P fun _ _ => .error (.crash "re-dispatch fuel exhausted")) (st : St)
    (h : ∀ f, P fun p1 p2 => dispatch (f + 1) st.core s c p1 p2) : ∀ f, P fun p1 p2 => dispatch f st s c p1 p2 := by
  induction st with
  | guard x ih =>
    intro f
    cases f with
    | zero => simp only [dispatch_zero]; exact h0
    | succ f =>
      have : (fun p1 p2 => dispatch (f + 1) (.guard x) s c p1 p2) = fun p1 p2 => dispatch f x s c p1 p2 := by
        funext p1 p2; exact dispatch_guard_pass f x s c hc p1 p2
      rw [this]; exact ih h f
  | _ =>
    intro f
    cases f with
    | zero => simp only [dispatch_zero]; exact h0
    | succ f => exact h f

theorem mlTxt_star_err {f s p1 p2 e} (h : dispatch (f + 1) .mlTxt s .star p1 p2 = .error e) : e.isCrash = true := by
  unfold dispatch at h; dsimp only at h
  split at h <;> cases h

/-- `*` where the look-ahead is consulted: never an error.  The three cases are the states of `St.starFree`: `mlTxt` itself,
and `mlAnn`, `mlTxtPrefix2`, which on `*` open the annotation text and pass the byte on to `mlTxt`. -/
theorem star_used_no_error (p1 p2 : Option Cls) (st : St) (f : Nat) (s : Sc) (e : Err) (hfree : st.starFree = false) :
    dispatch f st s .star p1 p2 = .error e → e.isCrash = true := by
  refine dispatch_core_ind (by simp) s (fun g => g p1 p2 = .error e → e.isCrash = true) (fun h => by cases h; rfl) st
    (fun f h => ?_) f
  unfold St.starFree at hfree
  split at hfree
  · rw [‹st.core = _›] at h; exact mlTxt_star_err h
  · rw [‹st.core = _›] at h
    unfold dispatch at h; dsimp only at h
    simp [isNewLineM, Cls.isNewLine, Cls.isBlank, Cls.isSpace, bind, Except.bind, pure, Except.pure] at h
    cases f with
    | zero => rw [dispatch_zero] at h; cases h; rfl
    | succ f => exact mlTxt_star_err h
  · rw [‹st.core = _›] at h
    unfold dispatch at h; dsimp only at h
    simp [Cls.isSpace] at h
    cases f with
    | zero => rw [dispatch_zero] at h; cases h; rfl
    | succ f => exact mlTxt_star_err h
  · cases hfree

/-- `#` in `anyCommentStart`: the only error is "after first #" — it says that the next byte is not `#`, and it is the
same for every look-ahead that does not start with `#` -/
theorem acs_hash_error (p1 p2 : Option Cls) (st : St) (f : Nat) (s : Sc) (e : Err) (hcore : st.core = .anyCommentStart) :
    dispatch f st s .hash p1 p2 = .error e → e.isCrash = false →
      e.window = 1 ∧ ∀ p1' p2', p1' ≠ some Cls.hash → dispatch f st s .hash p1' p2' = .error e := by
  refine dispatch_core_ind (by simp) s (fun g => g p1 p2 = .error e → e.isCrash = false →
    e.window = 1 ∧ ∀ p1' p2', p1' ≠ some Cls.hash → g p1' p2' = .error e) (fun h hc => by cases h; cases hc) st
    (fun f h _ => ?_) f
  rw [hcore] at h ⊢
  unfold dispatch at h; dsimp only at h
  simp only [bne_self_eq_false, Bool.false_eq_true, if_false] at h
  split at h
  · cases h
  · cases h
    refine ⟨rfl, fun p1' p2' hp => ?_⟩
    unfold dispatch; dsimp only
    have : (p1' == some Cls.hash) = false := by simpa using hp
    simp only [bne_self_eq_false, Bool.false_eq_true, if_false, this]
    rfl

theorem core_mlc_cflag : ∀ (st : St), st.core = .multiLineComment → st.cflag = 1 := by
  intro st
  induction st with
  | guard x ih => intro h; exact ih h
  | multiLineComment => intro _; rfl
  | _ => intro h; simp [St.core] at h

/-- `#` in `multiLineComment`, as a function `g` of the look-ahead: never an error; closes the comment (index + 2) iff both
look-ahead bytes are `#`, otherwise nothing changes -/
def MlcHash (s : Sc) (p1 p2 : Option Cls) (g : Option Cls → Option Cls → M Sc) : Prop :=
  (∀ e, g p1 p2 = .error e → e.isCrash = true) ∧
  (p1 = some Cls.hash ∧ p2 = some Cls.hash → ∀ s1, g p1 p2 = .ok s1 → s1.index = s.index + 2) ∧
  (¬ (p1 = some Cls.hash ∧ p2 = some Cls.hash) → ∀ p1' p2', ¬ (p1' = some Cls.hash ∧ p2' = some Cls.hash) →
    g p1' p2' = g p1 p2) ∧
  (¬ (p1 = some Cls.hash ∧ p2 = some Cls.hash) → ∀ s1, g p1 p2 = .ok s1 → s1 = s)

theorem mlc_hash (p1 p2 : Option Cls) (st : St) (f : Nat) (s : Sc) (hcore : st.core = .multiLineComment) :
    MlcHash s p1 p2 fun q1 q2 => dispatch f st s .hash q1 q2 := by
  refine dispatch_core_ind (by simp) s (MlcHash s p1 p2)
    ⟨fun e h => (by cases h; rfl), fun _ _ h => (by cases h), fun _ _ _ _ => rfl, fun _ _ h => (by cases h)⟩ st
    (fun f => ?_) f
  rw [hcore]; unfold MlcHash; dsimp only
  have key : ∀ q1 q2 : Option Cls, dispatch (f + 1) .multiLineComment s .hash q1 q2 =
      if q1 = some Cls.hash ∧ q2 = some Cls.hash then
        (match popRet s with
          | .error e => .error e
          | .ok (r, s') => .ok { s' with step := r, index := s'.index + 2 })
      else .ok s := by
    intro q1 q2
    unfold dispatch; dsimp only
    simp only [bind, Except.bind, pure, Except.pure, beq_self_eq_true, Bool.true_and, Bool.and_eq_true, beq_iff_eq]
    split
    · cases hq : popRet s with
      | error e => rfl
      | ok r => rfl
    · rfl
  refine ⟨?_, ?_, ?_, ?_⟩
  · intro e h
    rw [key] at h
    split at h
    · cases hq : popRet s with
      | error e' => rw [hq] at h; cases h; exact popRet_err hq
      | ok r => rw [hq] at h; cases h
    · cases h
  · intro hp s1 h
    rw [key, if_pos hp] at h
    cases hq : popRet s with
    | error e' => rw [hq] at h; cases h
    | ok r =>
      rw [hq] at h
      cases h
      have := (popRet_frame hq).2
      simp only [this]
  · intro hp p1' p2' hp'
    rw [key, key, if_neg hp, if_neg hp']
  · intro hp s1 h
    rw [key, if_neg hp] at h
    cases h; rfl

theorem hashFree1_false {st : St} (h : st.hashFree1 = false) :
    st.core = .anyCommentStart ∨ st.core = .multiLineComment := by
  unfold St.hashFree1 at h
  split at h
  · exact Or.inl ‹_›
  · exact Or.inr ‹_›
  · cases h

theorem hashFree2_false {st : St} (h : st.hashFree2 = false) : st.core = .multiLineComment := by
  unfold St.hashFree2 at h
  split at h
  · assumption
  · cases h

theorem readStep_lc {data : Array Cls} {s s1 : Sc} (hr : readStep data s = .ok s1) :
    s1.lengthComputing = s.lengthComputing :=
  dispatch_lc _ _ _ 8 s.step { s with index := s.index + 1 } s1 hr

/-- a read step on `#` or `*` moves forward: only a line break ends a comment in front of itself -/
theorem read_forward {data : Array Cls} {s s1 : Sc} (hr : readStep data s = .ok s1)
    (hc : data[s.index]! = Cls.hash ∨ data[s.index]! = Cls.star) : s.index + 1 ≤ s1.index := by
  rcases dispatch_idx hr with h | ⟨_, h⟩ | ⟨h, _⟩
  · exact Nat.le_of_eq h.symm
  · rcases hc with hc | hc <;> rw [hc] at h <;> cases h
  · exact Nat.le_trans (Nat.le_add_right _ 2) (Nat.le_of_eq h.symm)

theorem bang_of_get {data : Array Cls} {i : Nat} {c : Cls} (h : data[i]? = some c) : data[i]! = c := by
  obtain ⟨hlt, hget⟩ := Array.getElem?_eq_some_iff.mp h
  rw [getElem!_pos data i hlt]; exact hget

/-- a failing run that stands in a `###` comment in front of a `#` fails behind that `#` -/
theorem Fails.mlc_at_hash {data : Array Cls} {s : Sc} {e : Err} (h : Fails data s e) (hf : s.finds = [])
    (hcore : s.step.core = .multiLineComment) (hc : data[s.index]? = some Cls.hash)
    (hcr : e.isCrash = false) (heof : e.isEOF = false) : s.index < e.idx := by
  have hlt : s.index < data.size := (Array.getElem?_eq_some_iff.mp hc).1
  cases h with
  | err h1 =>
    rcases micro_err h1 with h1 | ⟨_, _, hr⟩ | ⟨_, hi, _⟩
    · rw [shiftFound_nil data hf] at h1; cases h1
    · unfold readStep at hr
      rw [bang_of_get hc] at hr
      have := (mlc_hash _ _ s.step 8 _ hcore).1 e hr
      rw [this] at hcr; cases hcr
    · exact absurd hlt hi
  | step h1 hf' =>
    rcases micro_ok h1 with ⟨ev, h1⟩ | ⟨_, _, hr⟩ | ⟨_, hi, _⟩
    · rw [shiftFound_nil data hf] at h1; cases h1
    · have hfw := read_forward hr (Or.inl (bang_of_get hc))
      have := (hf'.idx_range hcr heof).1
      omega
    · exact absurd hlt hi

/-- the error of a transition does not depend on the look-ahead, except that "after first #" says that the next byte
is not `#` -/
theorem err_step_indep {st : St} {s : Sc} {c : Cls} {p1 p2 p1' p2' : Option Cls} {e : Err}
    (hl : s.lengthComputing = false) (hr : dispatch 8 st s c p1 p2 = .error e) (hc : e.isCrash = false)
    (hW : e.window = 1 → p1' ≠ some Cls.hash) : dispatch 8 st s c p1' p2' = .error e := by
  by_cases hch : c = .hash
  · subst hch
    by_cases hf1 : st.hashFree1 = true
    · rw [← dispatch_la_hash1 p1 p2 p1' p2' 8 st s hf1 hl]; exact hr
    · rcases hashFree1_false (by simpa using hf1) with hcore | hcore
      · obtain ⟨hw, hall⟩ := acs_hash_error p1 p2 st 8 s e hcore hr hc
        exact hall p1' p2' (hW hw)
      · have := (mlc_hash p1 p2 st 8 s hcore).1 e hr
        rw [this] at hc; cases hc
  · by_cases hcs : c = .star
    · subst hcs
      by_cases hf1 : st.starFree = true
      · rw [← dispatch_la_star1 p1 p2 p1' p2' 8 st s hf1 hl]; exact hr
      · have := star_used_no_error p1 p2 st 8 s e (by simpa using hf1) hr
        rw [this] at hc; cases hc
    · rw [← dispatch_la_plain c hch hcs p1 p2 p1' p2' 8 st s]; exact hr

/-- **replay with the exact window** (the X of the name; the window rounded up to two bytes is `scanAll_error_prefix`): in
ordinary mode (`lengthComputing = false`: in length mode `endValue` may return to any step, and the look-ahead lemmas do
not apply) a run failing with a structured, non-EOF error at offset `i` fails in the same way on every input that agrees
with the given one on the offsets `≤ i` — provided, for the error "after first #", that the byte behind `i` is not `#`
there either -/
theorem Fails.transferX {data : Array Cls} {s : Sc} {e : Err} (h : Fails data s e) :
    s.lengthComputing = false → e.isCrash = false → e.isEOF = false →
    ∀ data', Agree (e.idx + 1) data data' → (e.window = 1 → data'[e.idx + 1]? ≠ some Cls.hash) → Fails data' s e := by
  induction h with
  | @err s e h1 =>
    intro hl hc he data' hA hW
    rcases micro_err h1 with h1 | ⟨h1, hi, hr⟩ | ⟨_, _, h2⟩
    · rw [shiftFound_err h1] at hc; cases hc
    · obtain ⟨hidx, _⟩ := readStep_err hr hc
      have hi' : s.index < data'.size := hA.lt_size (by omega) hi
      refine Fails.readErr (shiftFound_nil data' (shiftFound_none h1)) hi' ?_
      have hb : data'[s.index]! = data[s.index]! := (hA.bang (by omega)).symm
      unfold readStep at hr ⊢
      rw [hb]
      exact err_step_indep (s := { s with index := s.index + 1 }) hl hr hc (by rw [← hidx]; exact hW)
    · rcases eofStep_err h2 with h | h
      · rw [h] at he; cases he
      · rw [h] at hc; cases hc
  | @step s s1 e h1 hf1 ih =>
    intro hl hc he data' hA hW
    obtain ⟨hidx1, hlt1⟩ := hf1.idx_range hc he
    rcases micro_ok h1 with ⟨ev, h1⟩ | ⟨h1, hi, hr⟩ | ⟨_, hi, ev, h2⟩
    · obtain ⟨⟨t, rest, stk, _, rfl⟩, hany⟩ := shiftFound_some h1
      obtain ⟨ev', h1'⟩ := hany data'
      exact Fails.shift h1' (ih hl hc he data' hA hW)
    · have hf := shiftFound_none h1
      have hF' := ih (by rw [readStep_lc hr]; exact hl) hc he data' hA hW
      have hi' : s.index < data'.size := hA.lt_size (by have := (readStep_idx hi hr).1; omega) hi
      refine Fails.read (shiftFound_nil data' hf) hi' ?_ hF'
      have hb : data'[s.index]! = data[s.index]! := (hA.bang (by have := (readStep_idx hi hr).1; omega)).symm
      have hr' := hr
      unfold readStep at hr'
      rw [← hr]
      unfold readStep
      rw [hb]
      by_cases hch : data[s.index]! = Cls.hash
      · have hfw := read_forward hr (Or.inl hch)
        have hp1 : data'[s.index + 1]? = data[s.index + 1]? := (hA (s.index + 1) (by omega)).symm
        rw [hp1]
        by_cases h2 : s.index + 2 ≤ e.idx
        · rw [show data'[s.index + 1 + 1]? = data[s.index + 1 + 1]? from (hA (s.index + 1 + 1) (by omega)).symm]
        · rw [hch] at hr' ⊢
          by_cases hf2 : s.step.hashFree2 = true
          · exact dispatch_la_hash2 _ _ _ 8 s.step _ hf2 hl
          · have hcore := hashFree2_false (by simpa using hf2)
            obtain ⟨_, hclose, hsame, hstay⟩ :=
              mlc_hash data[s.index + 1]? data[s.index + 1 + 1]? s.step 8 { s with index := s.index + 1 } hcore
            have hnb : ¬ (data[s.index + 1]? = some Cls.hash ∧ data[s.index + 1 + 1]? = some Cls.hash) := by
              intro hb2
              have h3 : s1.index = s.index + 1 + 2 := hclose hb2 s1 hr'
              omega
            by_cases hp : data[s.index + 1]? = some Cls.hash
            · have hs1 : s1 = { s with index := s.index + 1 } := hstay hnb s1 hr'
              have := hf1.mlc_at_hash (by rw [hs1]; exact hf) (by rw [hs1]; exact hcore)
                (by rw [hs1]; exact hp) hc he
              rw [hs1] at this
              have h4 : s.index + 1 < e.idx := this
              omega
            · exact hsame hnb _ _ (fun h => hp h.1)
      · by_cases hcs : data[s.index]! = Cls.star
        · have hfw := read_forward hr (Or.inr hcs)
          have hp1 : data'[s.index + 1]? = data[s.index + 1]? := (hA (s.index + 1) (by omega)).symm
          rw [hp1, hcs]
          exact dispatch_la_star2 _ _ _ 8 _ _
        · exact dispatch_la_plain _ hch hcs _ _ _ _ 8 _ _
    · have := eofStep_index h2
      omega

/-- only the comparison with 35 in `classify` answers `hash` -/
theorem classify_hash {b : UInt8} (h : classify b = Cls.hash) : b = 35 := by
  by_cases hb : b = 35
  · exact hb
  · exfalso
    revert h
    unfold classify
    -- `== 35` is the thirteenth of the 36 tests of `classify`: twelve in front of it, twenty-three behind
    iterate 12 refine Bytes.ite_ne (by decide) ?_
    rw [if_neg (by simpa using hb)]
    iterate 23 refine Bytes.ite_ne (by decide) ?_
    decide

/-- **C17, schema scanner: the exact look-ahead window.** A structured error other than "unexpected end of file" at
offset `i` is determined by the bytes (and the end of input) at the offsets `0 … i`; only the error "after first #" also
needs to know that the byte behind `i` is not `#`. -/
theorem scanAll_error_exact (bs : List UInt8) (e : Err) (h : scanAll bs = .error e) (he : e.isEOF = false)
    (bs' : List UInt8) (hA : ∀ k, k ≤ e.idx → bs'[k]? = bs[k]?) (hW : e.window = 1 → bs'[e.idx + 1]? ≠ some 35) :
    scanAll bs' = .error e := by
  have hc := scanAll_no_crash bs e h
  refine fails_scanAll ((scanAll_fails h).transferX rfl hc he _ (agree_of_lists fun k hk => hA k (by omega)) ?_)
  intro hw hx
  apply hW hw
  simp only [List.getElem?_toArray, List.getElem?_map] at hx
  cases hb : bs'[e.idx + 1]? with
  | none => rw [hb] at hx; cases hx
  | some b =>
    rw [hb] at hx
    simp only [Option.map_some, Option.some.injEq] at hx
    rw [classify_hash hx]

#print axioms Fails.transferX
#print axioms scanAll_error_exact

end SchemaScan
