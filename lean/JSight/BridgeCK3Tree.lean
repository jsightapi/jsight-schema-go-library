import JSight.BridgeCK3Node
import JSight.CheckerTraverse
/-!
Bridge (A)∩(C): the TREE — `nr` plus nodes that carry an EXAMPLE together with a types list, named types whose
root is such a node or a type shortcut (chains of references of any length, cycles included: 1303). A class of such trees
inside `xrk` is a `TreeClass` (`TreeClass.of_xrk`), so `node_c` (`BridgeCK2NoRef`) applies: node by node in the same
traversal order, unless (A) runs out of its fuel ((C) never does: `C04_checker_no_crash`) — `xr` here (`xr_class`; `items_x`,
`props_x`), `xrk` in `BridgeCK4Tree`; the two differ in how the type of a key shortcut is resolved. The agreement theorem
for `xr` does not go through `xr_class`: it is `agree_typed_k` for `xrk` restricted by `xr_sub`; `xr_class` serves `items_x`
and `props_x`, the list forms of the induction (`items_c`, `props_c`) for the class `xr`. The rest of the file is what
`agree_typed_k` (`BridgeCK4Tree`) needs of the TYPE TABLE: or-shortcuts and their unnamed types, the visiting order.
-/
namespace BridgeCK
open Compile

theorem name_append (a b : String) : name (a ++ b) = name a ++ name b := by
  simp [name, strBytes, String.toList_append]

theorem named_at (k : String) : CK.isUnnamed (name ("@" ++ k)) = false := by
  rw [name_append]
  rfl

section
variable (ts : Types) (env : CK.Env) (fuel : Nat)

/-- a type shortcut / or-shortcut node: every name must be defined (1302) -/
theorem ref_mixed_agree (hE : EnvRelN ts env) (names : List String) (nul : Bool) (orShort : Bool)
    (hb : ∀ n ∈ names, nameOK n) :
    CK.checkNode noOracles env (dumpNode (.ref names nul .mixed none orShort)) =
      panicOf (Compile.checkNode ts fuel (.ref names nul .mixed none orShort)) ∧
    Pos (Compile.checkNode ts fuel (.ref names nul .mixed none orShort)) := by
  refine ⟨ref_mixed ts env fuel names nul orShort (any_undefined hE names hb), ?_⟩
  simp only [Compile.checkNode, beq_self_eq_true, if_true]
  split
  · exact pos_ok
  · exact pos_code 1302

theorem xrk_lit_nr (spec : RulesF.LitSpecF) (bad : Bool) (h : xrk ts (.lit spec bad) = true) : nr (.lit spec bad) = true := by
  simp only [xrk, Bool.and_eq_true] at h
  simp only [nr]
  exact h.1

theorem xrk_any_nr (jt : JT) (lit : Option RulesF.LitSpecF) (h : xrk ts (.any jt lit) = true) : nr (.any jt lit) = true := by
  cases lit with
  | some l =>
    simp only [xrk, Bool.and_eq_true] at h
    simp only [nr, Bool.and_eq_true]
    exact ⟨h.1.1, h.1.2⟩
  | none =>
    simp only [xrk, Bool.or_eq_true] at h
    simp only [nr, Bool.or_eq_true]
    exact Or.inl h

/-- a class of nodes inside `xrk` that arrays and objects hand down to their children and on whose objects the checks of
the key shortcuts agree -/
theorem TreeClass.of_xrk (hE : EnvRelN ts env) (hT : ∀ n cn, lookupT ts n = some cn → headOK cn = true)
    (hf : ∃ f, fuel = f + 1) (C : CN → Prop) (hsub : ∀ cn, C cn → xrk ts cn = true)
    (hitems : ∀ items nul bad, C (.arr items nul bad) → ∀ x ∈ items, C x)
    (hprops : ∀ props add nul bad, C (.obj props add nul bad) → (∀ p ∈ props, C p.2.2.2.2) ∧
      CK.keysErr env (dumpKeys props) =
        (props.find? (fun p => p.2.1 && ((lookupT ts ("@" ++ p.1)).isNone
            || Compile.actualRoot ts fuel [] ("@" ++ p.1) != some .str))).map
          (fun p => CK.Panic.doc (if (lookupT ts ("@" ++ p.1)).isNone then 1302 else 1304) 0 0)) :
    TreeClass ts env fuel C where
  lit spec bad h := xrk_lit_nr ts spec bad (hsub _ h)
  any jt lit h := xrk_any_nr ts jt lit (hsub _ h)
  items := hitems
  props props add nul bad h := by
    have hx := hsub _ h
    simp only [xrk, Bool.and_eq_true] at hx
    exact ⟨(hprops _ _ _ _ h).1, (hprops _ _ _ _ h).2, fun n e => envRelN_none hE n (by subst e; simpa using hx.2)⟩
  ref names nul jt ex orShort h hA := by
    have hx := hsub _ h
    simp only [xrk, Bool.and_eq_true, List.all_eq_true, decide_eq_true_eq] at hx
    obtain ⟨hb, hcase⟩ := hx
    by_cases hm : jt = .mixed
    · subst hm
      simp only [beq_self_eq_true, if_true, Option.isNone_iff_eq_none] at hcase
      subst hcase
      exact ref_mixed_agree ts env fuel hE names nul orShort hb
    · have hmb : (jt == JT.mixed) = false := by simpa using hm
      simp only [hmb, Bool.false_eq_true, if_false, Bool.and_eq_true] at hcase
      obtain ⟨_, hcase⟩ := hcase
      cases ex with
      | none => cases hcase
      | some tok => exact refex_agree ts env fuel hE hT hf names nul jt tok orShort hmb hcase hb hA

end

/-! ### the class `xr` -/

section
variable (ts : Types) (env : CK.Env) (fuel : Nat)

theorem xrItems_mem (items : List CN) (h : xrItems ts items = true) : ∀ x ∈ items, xr ts x = true :=
  mem_of_all (fun _ _ => rfl) items h

/-- the members of an object node of the class are of the class, and its key shortcuts name types that are not aliases -/
theorem xrProps_mem (props : List (String × Bool × Bool × Bool × CN)) (h : xrProps ts props = true) :
    ∀ p ∈ props, xr ts p.2.2.2.2 = true ∧ (p.2.1 = true → nameOK ("@" ++ p.1) ∧
      ∀ cn, lookupT ts ("@" ++ p.1) = some cn → keyHead cn = true) := fun p hp => by
  have := mem_of_all (P := fun p => (!p.2.1 || (decide (byteChars ("@" ++ p.1)) && keyDirect ts p.1)) && xr ts p.2.2.2.2)
    (fun ⟨_, _, _, _, _⟩ _ => rfl) props h p hp
  simp only [Bool.and_eq_true, Bool.or_eq_true, Bool.not_eq_true', decide_eq_true_eq] at this
  refine ⟨this.2, fun hs => ?_⟩
  obtain ⟨hb, hd⟩ := this.1.resolve_left (by simp [hs])
  exact ⟨⟨hb, named_at _⟩, fun cn hl => by simpa only [keyDirect, hl] using hd⟩

theorem xr_class (hE : EnvRelN ts env) (hT : ∀ n cn, lookupT ts n = some cn → xr ts cn = true) (hf : ∃ f, fuel = f + 1) :
    TreeClass ts env fuel fun cn => xr ts cn = true :=
  TreeClass.of_xrk ts env fuel hE (fun n cn hl => xr_head ts cn (hT n cn hl)) hf _ (xr_sub ts)
    (fun items _ _ h => xrItems_mem ts items (by simpa only [xr] using h))
    (fun props _ _ _ h => by
      simp only [xr, Bool.and_eq_true] at h
      have hm := xrProps_mem ts props h.1
      exact ⟨fun p hp => (hm p hp).1,
        keys_agree_direct ts env fuel hf props fun p hp hs => ⟨hE _ ((hm p hp).2 hs).1, ((hm p hp).2 hs).2⟩⟩)

theorem items_x (hE : EnvRelN ts env) (hT : ∀ n cn, lookupT ts n = some cn → xr ts cn = true) (hf : ∃ f, fuel = f + 1) :
    (items : List CN) → xrItems ts items = true → NoFuel (checkItems ts fuel items) →
    CK.checkNodes noOracles env (dumpItems items) = panicOf (checkItems ts fuel items) ∧ Pos (checkItems ts fuel items) :=
  fun items h => items_c ts env fuel _ (xr_class ts env fuel hE hT hf) items (xrItems_mem ts items h)

theorem props_x (hE : EnvRelN ts env) (hT : ∀ n cn, lookupT ts n = some cn → xr ts cn = true) (hf : ∃ f, fuel = f + 1) :
    (props : List (String × Bool × Bool × Bool × CN)) → xrProps ts props = true → NoFuel (checkProps ts fuel props) →
    CK.checkNodes noOracles env (dumpProps props) = panicOf (checkProps ts fuel props) ∧ Pos (checkProps ts fuel props) :=
  fun props h => props_c ts env fuel _ (xr_class ts env fuel hE hT hf) props fun p hp => (xrProps_mem ts props h p hp).1

end

/-! ### or-shortcuts `@a | @b` and their unnamed types -/

/-- the name of an unnamed type starts with `#` (byte 35; a named type starts with `@`, byte 64) -/
def Hash (p : String) : Prop := (name p).head? = some 35

theorem hash_append (p s : String) (h : Hash p) : Hash (p ++ s) := by
  unfold Hash at *
  rw [name_append]
  cases hn : name p with
  | nil => rw [hn] at h; cases h
  | cons a l => rw [hn] at h; simpa using h

/-- an or-shortcut node of the class with the name of its unnamed type -/
def ShapeOK (p : String × CN) : Prop :=
  Hash p.1 ∧ ∃ names nul, p.2 = .ref names nul .mixed none true ∧ ∀ n ∈ names, nameOK n

/-- the check of an unnamed type: its names must be defined (1302) -/
theorem unnamed_check (ts : Types) (env : CK.Env) (hE : EnvRelN ts env) (u : String × CN) (hs : ShapeOK u) :
    CK.checkType noOracles env (typeEntry u) =
      if okRef ts u then none else some (.err 1302 0 0 (some (name u.1))) := by
  obtain ⟨_, names, nul, hu, hb⟩ := hs
  obtain ⟨p, cn⟩ := u
  simp only at hu
  subst hu
  -- (A)'s check of a type shortcut does not read its fuel: any amount serves
  have h1 := (ref_mixed_agree ts env 1 hE names nul true hb).1
  unfold CK.checkType typeEntry
  simp only []
  rw [h1]
  simp only [Compile.checkNode, beq_self_eq_true, if_true, okRef]
  by_cases hx : (names.all fun n => (lookupT ts n).isSome) = true <;> simp [hx, panicOf, CK.panicRes]

theorem checkTypes_prefix_ok (env : CK.Env) : (L R : List CK.TypeEntry) →
    (∀ v ∈ L, CK.checkType noOracles env v = none) →
    CK.checkTypes noOracles env (L ++ R) = CK.checkTypes noOracles env R
  | [], _, _ => rfl
  | v :: L, R, h => by
    simp only [List.cons_append, CK.checkTypes, h v List.mem_cons_self]
    exact checkTypes_prefix_ok env L R (fun x hx => h x (List.mem_cons_of_mem _ hx))

theorem checkTypes_prefix_bad (env : CK.Env) : (L R : List CK.TypeEntry) →
    (∀ v ∈ L, CK.checkType noOracles env v = none ∨ ∃ ut, CK.checkType noOracles env v = some (.err 1302 0 0 ut)) →
    (∃ v ∈ L, CK.checkType noOracles env v ≠ none) →
    ∃ ut, CK.checkTypes noOracles env (L ++ R) = .err 1302 0 0 ut
  | [], _, _, h => by obtain ⟨v, hv, _⟩ := h; cases hv
  | v :: L, R, h, hex => by
    simp only [List.cons_append, CK.checkTypes]
    rcases h v List.mem_cons_self with h1 | ⟨ut, h1⟩
    · rw [h1]
      refine checkTypes_prefix_bad env L R (fun x hx => h x (List.mem_cons_of_mem _ hx)) ?_
      obtain ⟨w, hw, hne⟩ := hex
      rcases List.mem_cons.1 hw with e | hw
      · subst e; exact absurd h1 hne
      · exact ⟨w, hw, hne⟩
    · rw [h1]
      exact ⟨ut, rfl⟩

/-! ### the visiting order with unnamed types: all of them before the named ones -/

theorem mem_sortTypes (L : List CK.TypeEntry) (u : CK.TypeEntry) : u ∈ CK.sortTypes L ↔ u ∈ L :=
  (CK.sortTypes_perm L).mem_iff

theorem insert_after (a : CK.TypeEntry) : (V N : List CK.TypeEntry) → (∀ v ∈ V, CK.typeGoesFirst a v = false) →
    CK.insertType a (V ++ N) = V ++ CK.insertType a N
  | [], _, _ => rfl
  | v :: V, N, h => by
    simp only [List.cons_append, CK.insertType, h v List.mem_cons_self, Bool.false_eq_true, if_false]
    rw [insert_after a V N (fun x hx => h x (List.mem_cons_of_mem _ hx))]

theorem sort_append : (N V : List CK.TypeEntry) → (∀ a ∈ N, ∀ v ∈ V, CK.typeGoesFirst a v = false) →
    CK.sortTypes (N ++ V) = CK.sortTypes V ++ CK.sortTypes N
  | [], V, _ => by simp [CK.sortTypes]
  | a :: N, V, h => by
    simp only [List.cons_append, CK.sortTypes]
    rw [sort_append N V (fun x hx => h x (List.mem_cons_of_mem _ hx))]
    exact insert_after a _ _ (fun v hv => h a List.mem_cons_self v ((mem_sortTypes V v).1 hv))

theorem goesFirst_named_unnamed (a v : CK.TypeEntry) (ha : a.name.head? = some 64) (hv : v.name.head? = some 35) :
    CK.typeGoesFirst a v = false := by
  unfold CK.typeGoesFirst
  have h1 : CK.isUnnamed a.name = false := by unfold CK.isUnnamed; rw [ha]; rfl
  simp only [h1, Bool.not_false, Bool.true_or, if_true]
  cases hA : a.name with
  | nil => rw [hA] at ha; cases ha
  | cons x xs =>
    cases hV : v.name with
    | nil => rw [hV] at hv; cases hv
    | cons y ys =>
      rw [hA] at ha; rw [hV] at hv
      simp only [List.head?_cons, Option.some.injEq] at ha hv
      subst ha; subst hv
      rfl

theorem find_unnamed_none (n : String) (hn : nameOK n) : (U : List (String × CN)) → (∀ u ∈ U, Hash u.1) →
    ((U.map typeEntry).map fun t => (t.name, t.root.hd)).find? (·.1 == name n) = none
  | [], _ => rfl
  | u :: U, h => by
    have ih := find_unnamed_none n hn U (fun x hx => h x (List.mem_cons_of_mem _ hx))
    simp only [List.map_cons, List.find?_cons]
    have hne : ((typeEntry u).name == name n) = false := by
      rw [beq_eq_false_iff_ne]
      intro e
      have h1 := h u List.mem_cons_self
      have h2 := hn.2
      unfold Hash at h1
      unfold CK.isUnnamed at h2
      have e' : name u.1 = name n := e
      rw [← e', h1] at h2
      simp at h2
    simp only [hne]
    exact ih

/-- the two tables answer alike on type names, also when (C)'s table carries the unnamed types of the or-shortcuts -/
theorem envRelN_ext (ts : Types) (U : List (String × CN)) (hb : ∀ t ∈ ts, byteChars t.1) (hU : ∀ u ∈ U, Hash u.1) :
    EnvRelN ts ⟨(ts.map typeEntry ++ U.map typeEntry).map fun t => (t.name, t.root.hd)⟩ := by
  intro n hn
  unfold CK.Env.lookup lookupT
  simp only [List.map_append, List.find?_append, find_unnamed_none n hn U hU, Option.or_none]
  exact find_entries n hn.1 ts hb

theorem hash_start (s : String) : Hash ("#" ++ s) := by
  unfold Hash
  rw [name_append]
  rfl

end BridgeCK
