/-!
A run of consecutive entries of a node table: `Sits tbl n L` says that the entries `L` stand in `tbl` from index `n`
on. The loader lays the nodes of a value out in pre-order, so the nodes of a subtree are such a run, and a walker over
the table (compiler, AST builder, example builder) is followed down a tree with one `Sits` hypothesis per subtree.
A source text is a table of its bytes or byte classes: the rendering of a subtree is a run in it, and what reads the
text at token spans (the rebuilder `JsonScan.rebV`; the predicate `VPos.Emb`, "the tokens of the tree are the slices of
the source at its offsets") is followed down a document tree in the same way, with `Sits.cut` for what a span cuts out.
`Lay.AtB` (bytes) and `SchemaScan.At` (byte classes) are `Sits` under their own names (`AtB_iff_sits`,
`At_iff_sits`); their facts are taken from here.
-/
namespace NodeTable

def Sits {α : Type} (tbl : Array α) : Nat → List α → Prop
  | _, [] => True
  | n, x :: L => tbl[n]? = some x ∧ Sits tbl (n + 1) L

theorem Sits.append_iff {α : Type} {tbl : Array α} : ∀ {A B : List α} {n : Nat},
    Sits tbl n (A ++ B) ↔ Sits tbl n A ∧ Sits tbl (n + A.length) B
  | [], _, _ => by simp [Sits]
  | x :: A, B, n => by
    simp only [List.cons_append, Sits, List.length_cons, Sits.append_iff (A := A), and_assoc]
    rw [show n + 1 + A.length = n + (A.length + 1) by omega]

theorem Sits.append {α : Type} {tbl : Array α} {A B : List α} {n : Nat} (h : Sits tbl n (A ++ B)) :
    Sits tbl n A ∧ Sits tbl (n + A.length) B := Sits.append_iff.1 h

/-- a run between any two other runs stands at the length of the first -/
theorem sits_mid {α : Type} (pre : List α) : ∀ (L post : List α), Sits (pre ++ (L ++ post)).toArray pre.length L
  | [], _ => trivial
  | x :: L, post => ⟨by simp, by simpa using sits_mid (pre ++ [x]) L post⟩

/-- a run that ends the table -/
theorem sits_suffix {α : Type} (l pre seg : List α) (h : l = pre ++ seg) : Sits l.toArray pre.length seg := by
  subst h; simpa using sits_mid pre seg []

theorem Sits.take {α : Type} {tbl : Array α} : ∀ {L : List α} {n : Nat}, Sits tbl n L →
    (tbl.toList.drop n).take L.length = L
  | [], _, _ => by simp
  | x :: L, n, h => by
    obtain ⟨hlt, hx⟩ := List.getElem?_eq_some_iff.1 (show tbl.toList[n]? = some x by simpa using h.1)
    rw [List.drop_eq_getElem_cons hlt, hx, List.length_cons, List.take_succ_cons, Sits.take h.2]

/-- the inclusive span `[n, n + L.length - 1]` cuts a non-empty run out of the table -/
theorem Sits.cut {α : Type} {tbl : Array α} {L : List α} {n : Nat} (h : Sits tbl n L) (hne : L ≠ []) :
    (tbl.toList.drop n).take (n + L.length - 1 + 1 - n) = L := by
  have hl : 0 < L.length := List.length_pos_iff.2 hne
  rw [show n + L.length - 1 + 1 - n = L.length by omega]
  exact h.take

theorem Sits.getElem {α : Type} {tbl : Array α} : ∀ {L : List α} {n : Nat}, Sits tbl n L →
    ∀ k (h : k < L.length), tbl[n + k]? = some L[k]
  | [], _, _, k, h => by cases h
  | _ :: L, n, hs, 0, _ => hs.1
  | _ :: L, n, hs, k + 1, h => by
    have := Sits.getElem hs.2 k (by simpa using h)
    rw [show n + (k + 1) = n + 1 + k by omega]
    simpa using this

theorem sits_all {α : Type} (L : List α) : Sits L.toArray 0 L := by simpa using sits_mid [] L []

end NodeTable
