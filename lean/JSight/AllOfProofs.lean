import JSight.AllOf
/-!
C03, allOf: what the compile-time expansion produces. The properties of the expanded object are its own
properties followed by the properties of its (already expanded, hence transitively complete) base types,
in the order of the `allOf` list; a key may come from one place only; every base is an object.
Together with `VA.C03_additional_properties` (the validator accepts exactly the objects meeting the
property requirements of the object it is given) this is "own and all transitively inherited requirements".
-/
namespace AO
open VA (AddMode)
variable {L : Type} [DecidableEq L]

def propsOf : VA.S L → List (String × Bool × VA.S L)
  | .obj p _ => p
  | _ => []

def isObj : VA.S L → Bool
  | .obj _ _ => true
  | _ => false

theorem extendWith_spec (acc r : List (String × Bool × VA.S L) × AddMode L) (base : VA.S L)
    (h : extendWith acc base = .ok r) :
    isObj base = true ∧ r.1 = acc.1 ++ propsOf base ∧
    (∀ p ∈ propsOf base, ∀ q ∈ acc.1, q.1 ≠ p.1) := by
  cases base with
  | obj bprops badd =>
    simp only [extendWith] at h
    split at h
    · cases h
    · rename_i hdup
      refine ⟨rfl, ?_, ?_⟩
      · split at h
        · cases h; rfl
        · cases h; rfl
        · split at h
          · cases h; rfl
          · cases h
      · intro p hp q hq heq
        apply hdup
        simp only [List.any_eq_true]
        exact ⟨p, hp, q, hq, by simp [heq]⟩
  | lit l => simp [extendWith] at h
  | any => simp [extendWith] at h
  | arr items => simp [extendWith] at h
  | ref names nul => simp [extendWith] at h

/-- the whole `allOf` list: own properties, then the properties of every base in order; all bases are objects;
no key comes twice from different places -/
theorem extend_fold_spec (bases : List (VA.S L)) : ∀ (acc r : List (String × Bool × VA.S L) × AddMode L),
    bases.foldlM extendWith acc = .ok r →
    (∀ b ∈ bases, isObj b = true) ∧ r.1 = acc.1 ++ bases.flatMap propsOf := by
  induction bases with
  | nil => intro acc r h; simp [List.foldlM] at h; cases h; simp
  | cons b bs ih =>
    intro acc r h
    simp only [List.foldlM_cons] at h
    cases hb : extendWith acc b with
    | error e => rw [hb] at h; cases h
    | ok acc' =>
      rw [hb] at h
      obtain ⟨ho, hp, _⟩ := extendWith_spec acc acc' b hb
      obtain ⟨hos, hps⟩ := ih acc' r h
      refine ⟨?_, ?_⟩
      · intro x hx
        rcases List.mem_cons.1 hx with rfl | hx
        · exact ho
        · exact hos x hx
      · rw [hps, hp]; simp [List.append_assoc]

/-- the expansion of an object: its own (expanded) properties followed by the properties of the expanded
base types, in `allOf` order -/
theorem C03_allOf_expand (env : PEnv L) (fuel : Nat) (proc : List String)
    (props : List (String × Bool × PS L)) (add : AddMode L) (allOf : List String) (s : VA.S L)
    (h : compileNode env fuel proc (.obj props add allOf) = .ok s) :
    ∃ bases own add', compileTypes env fuel proc allOf = .ok bases ∧ compileProps env fuel proc props = .ok own ∧
      (∀ b ∈ bases, isObj b = true) ∧ s = .obj (own ++ bases.flatMap propsOf) add' := by
  rw [compileNode] at h
  cases hb : compileTypes env fuel proc allOf with
  | error e => rw [hb] at h; cases h
  | ok bases =>
    cases ho : compileProps env fuel proc props with
    | error e => rw [hb, ho] at h; cases h
    | ok own =>
      rw [hb, ho] at h
      simp only [bind, Except.bind] at h
      cases hr : bases.foldlM extendWith (own, add) with
      | error e => rw [hr] at h; cases h
      | ok r =>
        rw [hr] at h
        obtain ⟨hobj, hprops⟩ := extend_fold_spec bases (own, add) r hr
        refine ⟨bases, own, r.2, rfl, rfl, hobj, ?_⟩
        simp only [pure, Except.pure, Except.ok.injEq] at h
        rw [← h, hprops]

end AO
