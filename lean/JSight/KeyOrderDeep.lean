import JSight.KeyOrder
import JSight.ListFacts
/-!
C13, property order with key shortcuts, whole documents: `VN.J.PermEq` = "the same JSON value up to the order of the
properties, at every depth"; `unambDeep` = key-unambiguity (`KeyOrder.unamb`) at every object the validator visits
(every alternative of the schema position a value is assigned to — literal key, first admitting shortcut,
`additionalProperties: "@T"` — and every array element). Under it `PermEq` documents get the same verdict.
-/
namespace VN.J
variable {D : Type}

mutual
/-- the same JSON value up to property order at every depth: the members of an object are re-spelled one by one
(same keys, `PermEq` values) and then permuted -/
inductive PermEq : J D → J D → Prop
  | lit (d : D) : PermEq (.lit d) (.lit d)
  | arr {xs ys : List (J D)} : PermEqItems xs ys → PermEq (.arr xs) (.arr ys)
  | obj {ms ms'' ms' : List (String × J D)} : PermEqMembers ms ms'' → ms''.Perm ms' → PermEq (.obj ms) (.obj ms')
inductive PermEqItems : List (J D) → List (J D) → Prop
  | nil : PermEqItems [] []
  | cons {x y : J D} {xs ys : List (J D)} : PermEq x y → PermEqItems xs ys → PermEqItems (x :: xs) (y :: ys)
inductive PermEqMembers : List (String × J D) → List (String × J D) → Prop
  | nil : PermEqMembers [] []
  | cons (k : String) {v w : J D} {ms ns : List (String × J D)} :
      PermEq v w → PermEqMembers ms ns → PermEqMembers ((k, v) :: ms) ((k, w) :: ns)
end

mutual
theorem PermEq.refl : (d : J D) → PermEq d d
  | .lit d => .lit d
  | .arr xs => .arr (PermEqItems.refl xs)
  | .obj ms => .obj (PermEqMembers.refl ms) (List.Perm.refl _)
theorem PermEqItems.refl : (xs : List (J D)) → PermEqItems xs xs
  | [] => .nil
  | x :: xs => .cons (PermEq.refl x) (PermEqItems.refl xs)
theorem PermEqMembers.refl : (ms : List (String × J D)) → PermEqMembers ms ms
  | [] => .nil
  | (k, v) :: ms => .cons k (PermEq.refl v) (PermEqMembers.refl ms)
end

/-- induction over a document with the hypothesis for every member of a child list -/
theorem mem_induct {motive : J D → Prop} (lit : ∀ d, motive (.lit d))
    (arr : ∀ xs, (∀ x ∈ xs, motive x) → motive (.arr xs))
    (obj : ∀ ms, (∀ m ∈ ms, motive m.2) → motive (.obj ms)) (d : J D) : motive d :=
  J.rec (motive_1 := motive) (motive_2 := fun xs => ∀ x ∈ xs, motive x) (motive_3 := fun ms => ∀ m ∈ ms, motive m.2)
    (motive_4 := fun m => motive m.2) lit arr obj
    (fun _ h => nomatch h) (fun _ _ h hs => List.forall_mem_cons.2 ⟨h, hs⟩)
    (fun _ h => nomatch h) (fun _ _ h hs => List.forall_mem_cons.2 ⟨h, hs⟩)
    (fun _ _ h => h) d

/-- permuting the members of the top object -/
theorem PermEq.of_perm {ms ms' : List (String × J D)} (h : ms.Perm ms') : PermEq (.obj ms) (.obj ms') :=
  .obj (PermEqMembers.refl ms) h

end VN.J

namespace KeyOrder
open VK
open VN (J)
open VN.J (PermEq PermEqItems PermEqMembers)
variable {L D : Type}

section deep
variable (env : Env L) (litOK : L → D → Bool) (keyOK : String → String → Bool)

/-- the alternatives the value of key `k` is validated against when no shortcut has been consumed by another key
(the case under `unamb`: no two keys without a literal entry are admitted by one shortcut) -/
def slotAlts (props shorts : List (String × Bool × S L)) (add : AddMode L) (k : String) : List (S L) :=
  match lookup props k with
  | some s => alts env s
  | none =>
    match shorts.find? (fun sc => keyOK sc.1 k) with
    | some sc => alts env sc.2.2
    | none =>
      match add with
      | .type n => alts env (.ref [n] none)
      | _ => []

mutual
/-- key-unambiguity at every object the validator visits below alternative `a` on document `d`: decided from the
schema, `keyOK` and the KEYS of the document's objects only -/
def unambA : S L → J D → Bool
  | .arr items, .arr xs => unambItems items 0 xs
  | .obj props shorts add, .obj ms => unamb keyOK props shorts (ms.map (·.1)) && unambMembers props shorts add ms
  | _, _ => true
def unambItems : List (S L) → Nat → List (J D) → Bool
  | _, _, [] => true
  | items, i, x :: xs => (match childAt items i with
      | some s => (alts env s).all (fun a => unambA a x)
      | none => true) && unambItems items (i + 1) xs
def unambMembers : List (String × Bool × S L) → List (String × Bool × S L) → AddMode L → List (String × J D) → Bool
  | _, _, _, [] => true
  | props, shorts, add, (k, v) :: ms =>
    (slotAlts env keyOK props shorts add k).all (fun a => unambA a v) && unambMembers props shorts add ms
end

def unambDeep (s : S L) (d : J D) : Bool := (alts env s).all (fun a => unambA env keyOK a d)

/-- verdict of the specification on a property / shortcut value -/
abbrev pvS : S L → J D → Bool := fun s v => (alts env s).any (fun a => shapeA env litOK keyOK a v)
/-- verdict of the specification on an additional property -/
abbrev avS (add : AddMode L) : J D → Bool :=
  fun v => addDecide litOK add v (fun n => (alts env (.ref [n] none)).any (fun a => shapeA env litOK keyOK a v))

theorem addDecide_congr (add : AddMode L) (v w : J D) (h : PermEq v w) (f g : String → Bool)
    (hfg : ∀ n, add = .type n → f n = g n) : addDecide litOK add v f = addDecide litOK add w g := by
  cases add with
  | type n => simp only [addDecide]; exact hfg n rfl
  | none => cases h <;> rfl
  | any => cases h <;> rfl
  | obj => cases h <;> rfl
  | arr => cases h <;> rfl
  | lit l => cases h <;> rfl

theorem mverdict_congr (props shorts : List (String × Bool × S L)) (add : AddMode L) (k : String) (v w : J D)
    (hvw : PermEq v w)
    (ih : ∀ a ∈ slotAlts env keyOK props shorts add k, shapeA env litOK keyOK a v = shapeA env litOK keyOK a w) :
    mverdict keyOK (pvS env litOK keyOK) (avS env litOK keyOK add) props shorts (k, v)
      = mverdict keyOK (pvS env litOK keyOK) (avS env litOK keyOK add) props shorts (k, w) := by
  unfold mverdict slotAlts at *
  cases hl : lookup props k with
  | some s => rw [hl] at ih; exact List.any_congr_left _ ih
  | none =>
    rw [hl] at ih
    cases hf : shorts.find? (fun sc => keyOK sc.1 k) with
    | some sc => simp only [hf] at ih ⊢; exact List.any_congr_left _ ih
    | none =>
      simp only [hf] at ih ⊢
      apply addDecide_congr litOK add v w hvw
      intro n hn
      subst hn
      exact List.any_congr_left _ ih

/-! The items of an array and the members of an object are walked with the claim for each of them as a hypothesis;
`shapeA_permEq` supplies it by induction on the document. -/

theorem shapeItems_permEq_of : (xs : List (J D)) →
    (∀ x ∈ xs, ∀ a y, PermEq x y → unambA env keyOK a x = true →
      shapeA env litOK keyOK a x = shapeA env litOK keyOK a y) →
    ∀ items i ys, PermEqItems xs ys → unambItems env keyOK items i xs = true →
      shapeItems env litOK keyOK items i xs = shapeItems env litOK keyOK items i ys
  | [], _, _, _, _, h, _ => by cases h; rfl
  | x :: xs, hx, items, i, _, h, hu => by
    cases h with
    | @cons _ y _ ys hxy ht =>
      simp only [unambItems, Bool.and_eq_true] at hu
      simp only [shapeItems]
      rw [shapeItems_permEq_of xs (fun z hz => hx z (by simp [hz])) items (i + 1) ys ht hu.2]
      congr 1
      cases hc : childAt items i with
      | none => rfl
      | some s =>
        rw [hc] at hu
        exact List.any_congr_left _ (fun a ha => hx x (by simp) a y hxy (List.all_eq_true.1 hu.1 a ha))

theorem members_permEq_of (props shorts : List (String × Bool × S L)) (add : AddMode L) : (ms : List (String × J D)) →
    (∀ m ∈ ms, ∀ a w, PermEq m.2 w → unambA env keyOK a m.2 = true →
      shapeA env litOK keyOK a m.2 = shapeA env litOK keyOK a w) →
    ∀ ns, PermEqMembers ms ns → unambMembers env keyOK props shorts add ms = true →
    ms.map (·.1) = ns.map (·.1) ∧
    ∀ req, Closed keyOK (pvS env litOK keyOK) (avS env litOK keyOK add) props shorts req ms
      ↔ Closed keyOK (pvS env litOK keyOK) (avS env litOK keyOK add) props shorts req ns
  | [], _, _, h, _ => by cases h; exact ⟨rfl, fun _ => Iff.rfl⟩
  | m :: ms, hm, _, h, hu => by
    cases h with
    | @cons k v w _ ns hvw ht =>
      simp only [unambMembers, Bool.and_eq_true] at hu
      obtain ⟨hk, hc⟩ := members_permEq_of props shorts add ms (fun z hz => hm z (by simp [hz])) ns ht hu.2
      have hv := mverdict_congr env litOK keyOK props shorts add k v w hvw
        (fun a ha => hm (k, v) (by simp) a w hvw (List.all_eq_true.1 hu.1 a ha))
      refine ⟨by simp only [List.map_cons, hk], fun req => ?_⟩
      rw [closed_cons keyOK _ _ props shorts req (req.filter (fun r => !(mremoves keyOK props shorts k).contains r))
          (mremoves keyOK props shorts k) k v ms _ (fun r => by simp) rfl rfl,
        closed_cons keyOK _ _ props shorts req (req.filter (fun r => !(mremoves keyOK props shorts k).contains r))
          (mremoves keyOK props shorts k) k w ns _ (fun r => by simp) hv.symm rfl, hc]

theorem shapeA_permEq (a : S L) (d d' : J D) (h : PermEq d d') (hu : unambA env keyOK a d = true) :
    shapeA env litOK keyOK a d = shapeA env litOK keyOK a d' := by
  induction d using VN.J.mem_induct generalizing a d' with
  | lit x => cases h; rfl
  | arr xs ih =>
    cases h with
    | arr hi =>
      cases a with
      | arr items =>
        simp only [shapeA]
        exact shapeItems_permEq_of env litOK keyOK xs (fun x hx a y => ih x hx a y) items 0 _ hi
          (by simpa only [unambA] using hu)
      | _ => simp only [shapeA]
  | obj ms ih =>
    cases h with
    | @obj _ ms'' ms' hm hp =>
      cases a with
      | obj props shorts add =>
        simp only [unambA, Bool.and_eq_true] at hu
        obtain ⟨hk, hc⟩ := members_permEq_of env litOK keyOK props shorts add ms (fun m hm a w => ih m hm a w) ms'' hm hu.2
        have hU : unamb keyOK props shorts (ms.map (·.1)) = true := hu.1
        have hU' : unamb keyOK props shorts (ms'.map (·.1)) = true := by
          rw [← unamb_perm keyOK props shorts (hp.map _), ← hk]; exact hU
        simp only [shapeA, shapeMembers_eq_loop]
        rw [Bool.eq_iff_iff,
          loop_iff keyOK _ _ props shorts _ [] ms ((unamb_iff ..).1 hU) (fun _ _ _ _ _ _ => by simp),
          loop_iff keyOK _ _ props shorts _ [] ms' ((unamb_iff ..).1 hU') (fun _ _ _ _ _ _ => by simp),
          hc, closed_perm keyOK _ _ props shorts _ hp]
      | _ => simp only [shapeA]

theorem shapeItems_permEq (items : List (S L)) (i : Nat) (xs ys : List (J D)) (h : PermEqItems xs ys)
    (hu : unambItems env keyOK items i xs = true) :
    shapeItems env litOK keyOK items i xs = shapeItems env litOK keyOK items i ys :=
  shapeItems_permEq_of env litOK keyOK xs (fun x _ a y => shapeA_permEq env litOK keyOK a x y) items i ys h hu

theorem members_permEq (props shorts : List (String × Bool × S L)) (add : AddMode L) (ms ns : List (String × J D))
    (h : PermEqMembers ms ns) (hu : unambMembers env keyOK props shorts add ms = true) :
    ms.map (·.1) = ns.map (·.1) ∧
    ∀ req, Closed keyOK (pvS env litOK keyOK) (avS env litOK keyOK add) props shorts req ms
      ↔ Closed keyOK (pvS env litOK keyOK) (avS env litOK keyOK add) props shorts req ns :=
  members_permEq_of env litOK keyOK props shorts add ms (fun m _ a w => shapeA_permEq env litOK keyOK a m.2 w) ns h hu

theorem shape_permEq (s : S L) (d d' : J D) (h : PermEq d d') (hu : unambDeep env keyOK s d = true) :
    shape env litOK keyOK s d = shape env litOK keyOK s d' :=
  List.any_congr_left _ (fun a ha => shapeA_permEq env litOK keyOK a d d' h (List.all_eq_true.1 hu a ha))

theorem alts_obj (p s : List (String × Bool × S L)) (a : AddMode L) : alts env (.obj p s a) = [.obj p s a] := rfl

/-- one object level, the specification -/
theorem shape_obj_perm (props shorts : List (String × Bool × S L)) (add : AddMode L) {ms ms' : List (String × J D)}
    (h : ms.Perm ms') (hU : unamb keyOK props shorts (ms.map (·.1)) = true) :
    shape env litOK keyOK (.obj props shorts add) (.obj ms) = shape env litOK keyOK (.obj props shorts add) (.obj ms') := by
  simp only [shape, alts_obj, List.any_cons, List.any_nil, Bool.or_false]
  exact shapeA_obj_perm env litOK keyOK props shorts add h hU

/-- one object level, the validator model -/
theorem validateT_obj_perm (props shorts : List (String × Bool × S L)) (add : AddMode L) {ms ms' : List (String × J D)}
    (h : ms.Perm ms') (hU : unamb keyOK props shorts (ms.map (·.1)) = true) :
    validateT env litOK keyOK (.obj props shorts add) (.obj ms)
      = validateT env litOK keyOK (.obj props shorts add) (.obj ms') := by
  rw [C03_key_shortcuts, C03_key_shortcuts]
  exact shape_obj_perm env litOK keyOK props shorts add h hU

/-- whole documents, the validator model -/
theorem validateT_permEq (s : S L) (d d' : J D) (h : PermEq d d') (hu : unambDeep env keyOK s d = true) :
    validateT env litOK keyOK s d = validateT env litOK keyOK s d' := by
  rw [C03_key_shortcuts, C03_key_shortcuts]
  exact shape_permEq env litOK keyOK s d d' h hu

end deep
end KeyOrder
