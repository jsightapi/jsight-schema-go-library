import JSight.BridgeCK2
/-!
Bridge (A)∩(C): the statement over ALL trees `Compile.compileNode` builds is false — `compileNode` accepts
node tables no loader produces. A type-shortcut node (`kind = mixed`) that carries nothing but a hand-written
`type: "any"` compiles to `.any .mixed none`; together with `1 // {type: "@t"}` this is the witness of
`C04_models_agree_full_false_any` (1301 in (A), code 1 in (C)). The loader never emits such a node: a type shortcut always
carries its synthesised `type` / `or` rule, and the library rejects `@x // {type: "any"}` with 501 (duplicate "type" rule)
while the text is loaded.
-/
namespace BridgeCK
open Compile

def rAnyW : RNode := ⟨.mixed, [], [], none, [⟨sb "type", false, some (sb "\"any\""), 0, 0⟩]⟩
def tblAnyW : Array RNode := #[rAnyW]

def okBW : Except Err Basic → Bool
  | .ok b => b.any && b.names.isNone
  | _ => false

theorem wAny_type_compiled : ∃ o, compileNode tblAnyW false 1 0 false = .ok (.any .mixed none, o) := by
  have h : okBW (basic rAnyW .mixed false 0) = true := by decide +kernel
  cases hb : basic rAnyW .mixed false 0 with
  | error e => rw [hb] at h; cases h
  | ok b =>
    rw [hb] at h
    simp only [okBW, Bool.and_eq_true, Option.isNone_iff_eq_none] at h
    refine ⟨b.optional, ?_⟩
    have hget : tblAnyW[0]? = some rAnyW := rfl
    have hjt : Compile.jtOf rAnyW = .ok .mixed := rfl
    have hlen : rAnyW.children.length = 0 := rfl
    have hk : rAnyW.kind = .mixed := rfl
    simp only [compileNode, hget, hjt, hlen, hb, h.1, h.2, if_true, hk]

def rRefW : RNode := ⟨.lit, [], [], some (sb "1"), [⟨sb "type", false, some (sb "\"@t\""), 0, 0⟩]⟩

def tblRefW : Array RNode := #[rRefW]

def okBR : Except Err Basic → Bool
  | .ok b => b.names == some ["@t"] && !b.nul && !b.orShort
  | _ => false

def isInt : Except Err JT → Bool
  | .ok .int => true
  | _ => false

theorem wAny_root_compiled : ∃ o, compileNode tblRefW false 1 0 false = .ok (wAnyRoot, o) := by
  have hj : isInt (Compile.jtOf rRefW) = true := by decide +kernel
  have hjt : Compile.jtOf rRefW = .ok .int := by
    generalize Compile.jtOf rRefW = r at hj
    unfold isInt at hj
    split at hj
    · rfl
    · cases hj
  have h : okBR (basic rRefW .int false 0) = true := by decide +kernel
  cases hb : basic rRefW .int false 0 with
  | error e => rw [hb] at h; cases h
  | ok b =>
    rw [hb] at h
    simp only [okBR, Bool.and_eq_true, beq_iff_eq, Bool.not_eq_true'] at h
    refine ⟨b.optional, ?_⟩
    have hget : tblRefW[0]? = some rRefW := rfl
    have hlen : rRefW.children.length = 0 := rfl
    have hk : (rRefW.kind == Loader.NK.lit) = true := rfl
    have hv : rRefW.value = some (sb "1") := rfl
    simp only [compileNode, hget, hjt, hlen, hb, h.1.1, h.1.2, h.2, hk, if_true, hv, wAnyRoot]

end BridgeCK
