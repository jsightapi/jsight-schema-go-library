import JSight.EnumCStep
import JSight.EnumEventsItem
/-!
C18, comments in enum rules: LAYOUT WITH COMMENTS on byte classes — a list of pieces (one blank byte, an inline
comment `// sp* text line-break`, a multi-line comment `/* ws text */`), its events, the run of the scanner over a
layout in every state in which the enum scanner accepts comments, and one item `layout token layout (, | ])`.

Runs are stated with `Pre s evs s'` and `OutT s n r` of `EnumEventsRun` / `EnumEventsSem` (`.cast`, `.castS` rewrite
the event list and the end configuration); `PV st`: in state `st` a literal has been read completely. A configuration
`Sc` written out is `⟨step, ret, stack, finds, index, ann, unf, lengthComputing, hasTrailing, unique⟩`.
-/
namespace EnumScan
open SchemaScan (Cls classify)

variable {content : Array UInt8} {data : Array Cls}

inductive Piece
  | blank (c : Cls)
  | inl (sp txt : List Cls)        -- `//` sp txt NL
  | ml (ws txt : List Cls)         -- `/*` ws txt `*/`
  deriving Repr

def Piece.render : Piece → List Cls
  | .blank c => [c]
  | .inl sp txt => .slash :: .slash :: (sp ++ (txt ++ [.nl]))
  | .ml ws txt => .slash :: .star :: (ws ++ (txt ++ [.star, .slash]))

def Piece.Valid : Piece → Prop
  | .blank c => c.isBlank = true
  | .inl sp txt => IsSp sp ∧ InlTxt txt
  | .ml ws txt => IsWs ws ∧ MlTxt txt

/-- the events of a piece that starts at offset `o` -/
def Piece.evs (o : Nat) : Piece → List Ev
  | .blank c => nlEvs o [c]
  | .inl sp txt => inlEvs (o + 1) sp txt
  | .ml ws txt => mlEvs (o + 1) ws txt

abbrev Lay := List Piece

def Lay.render : Lay → List Cls
  | [] => []
  | p :: L => p.render ++ Lay.render L

def Lay.Valid (L : Lay) : Prop := ∀ p ∈ L, p.Valid

def layEvs : Nat → Lay → List Ev
  | _, [] => []
  | o, p :: L => p.evs o ++ layEvs (o + p.render.length) L

theorem Piece.render_length_inl (sp txt : List Cls) : (Piece.inl sp txt).render.length = 2 + sp.length + txt.length + 1 := by
  simp [Piece.render]; omega
theorem Piece.render_length_ml (ws txt : List Cls) : (Piece.ml ws txt).render.length = 2 + ws.length + txt.length + 2 := by
  simp [Piece.render]; omega

/-- a comment, from the state `st` it interrupts (behind its first `/`) back to `st` -/
theorem pre_comment_body (r0 : St) (K : List (LexT × Nat)) (lc ht : Bool) (uq : List (List UInt8 × Bool))
    (p : Piece) (hv : p.Valid) (hne : ∀ c, p ≠ .blank c) (o : Nat) (hseg : SegA data o p.render) :
    Pre content data ⟨.anyAnnStart, [r0], K, [], o + 1, false, false, lc, ht, uq⟩ (p.evs o)
      ⟨r0, [], K, [], o + p.render.length, false, false, lc, ht, uq⟩ := by
  cases p with
  | blank c => exact absurd rfl (hne c)
  | inl sp txt =>
    obtain ⟨_, hrest⟩ := hseg
    have h := pre_inl_body (content := content) r0 K lc ht uq sp txt hv.1 hv.2 (o + 1) hrest
    refine h.castS ?_
    rw [Piece.render_length_inl]
    congr 1
    omega
  | ml ws txt =>
    obtain ⟨_, hrest⟩ := hseg
    have h := pre_ml_body (content := content) r0 K lc ht uq ws txt hv.1 hv.2 (o + 1) hrest
    refine h.castS ?_
    rw [Piece.render_length_ml]
    congr 1
    omega

theorem Piece.head_slash (p : Piece) (hne : ∀ c, p ≠ .blank c) : ∃ tl, p.render = .slash :: tl := by
  cases p with
  | blank c => exact absurd rfl (hne c)
  | inl x y | ml x y => exact ⟨_, rfl⟩

/-- one piece from a configuration `s0` at offset `i`, given what a blank byte and what the `/` of a comment do there;
`st1` is the state between pieces that both lead to -/
theorem pre_piece {s0 : Sc} {E0 : List Ev} {st1 : St} {K : List (LexT × Nat)} {i : Nat} {lc ht : Bool}
    {uq : List (List UInt8 × Bool)}
    (hblank : ∀ c : Cls, c.isBlank = true → data[i]? = some c →
      Pre content data s0 (E0 ++ nlEvs i [c]) ⟨st1, [], K, [], i + 1, false, false, lc, ht, uq⟩)
    (hslash : data[i]? = some .slash →
      Pre content data s0 E0 ⟨.anyAnnStart, [st1], K, [], i + 1, false, false, lc, ht, uq⟩)
    (p : Piece) (hv : p.Valid) (hseg : SegA data i p.render) :
    Pre content data s0 (E0 ++ p.evs i) ⟨st1, [], K, [], i + p.render.length, false, false, lc, ht, uq⟩ := by
  cases p with
  | blank c => exact hblank c hv hseg.1
  | inl x y | ml x y =>
    exact (hslash hseg.1).trans (pre_comment_body st1 K lc ht uq _ hv (by intro c h; cases h) i hseg)

/-- a layout, in a state in which comments are accepted; `hblank` is the state's treatment of one blank byte -/
theorem pre_lay {st : St} (hst : CmtSt st) (K : List (LexT × Nat)) (lc ht : Bool) (uq : List (List UInt8 × Bool))
    (hblank : ∀ (c : Cls) (i : Nat), c.isBlank = true → data[i]? = some c →
      Pre content data ⟨st, [], K, [], i, false, false, lc, ht, uq⟩ (if c.isNewLine then [⟨.newLine, i, i⟩] else [])
        ⟨st, [], K, [], i + 1, false, false, lc, ht, uq⟩)
    (L : Lay) (hv : L.Valid) : ∀ i, SegA data i (Lay.render L) →
    Pre content data ⟨st, [], K, [], i, false, false, lc, ht, uq⟩ (layEvs i L)
      ⟨st, [], K, [], i + (Lay.render L).length, false, false, lc, ht, uq⟩ := by
  induction L with
  | nil => intro i _; exact Pre.refl _
  | cons p L ih =>
    intro i hseg
    obtain ⟨hp, hL⟩ := SegA_append (show SegA data i (p.render ++ Lay.render L) from hseg)
    have h2 := ih (fun x hx => hv x (by simp [hx])) (i + p.render.length) hL
    have hpv := hv p (by simp)
    have h1 := pre_piece (content := content) (E0 := [])
      (fun c hb hc => by simpa [nlEvs] using hblank c i hb hc) (pre_slash hst K i lc ht uq) p hpv hp
    have := h1.trans h2
    simp only [Lay.render, layEvs, List.length_append]
    rw [show i + (p.render.length + (Lay.render L).length) = i + p.render.length + (Lay.render L).length by omega]
    exact this

/-- between the items -/
theorem pre_lay_loop {st : St} (hst : LoopSt st) (a : Nat) (lc ht : Bool) (uq : List (List UInt8 × Bool))
    (L : Lay) (hv : L.Valid) (i : Nat) (hseg : SegA data i (Lay.render L)) :
    Pre content data ⟨st, [], [(.arrB, a)], [], i, false, false, lc, ht, uq⟩ (layEvs i L)
      ⟨st, [], [(.arrB, a)], [], i + (Lay.render L).length, false, false, lc, ht, uq⟩ :=
  pre_lay (by rcases hst with h | h | h <;> simp [CmtSt, h]) [(.arrB, a)] lc ht uq
    (fun c i hb hc => pre_blank_loop hst hb a i lc ht uq hc) L hv i hseg

/-- the state behind a layout that follows the closing bracket -/
def endSt : Lay → St | [] => .endValue | _ => .endTop

/-- the layout behind the closing bracket -/
theorem pre_lay_end (lc : Bool) (uq : List (List UInt8 × Bool)) (L : Lay) (hv : L.Valid) (i : Nat)
    (hseg : SegA data i (Lay.render L)) :
    Pre content data ⟨.endValue, [], [], [], i, false, false, lc, false, uq⟩ (layEvs i L)
      ⟨endSt L, [], [], [], i + (Lay.render L).length, false, false, lc, false, uq⟩ := by
  cases L with
  | nil => exact Pre.refl _
  | cons p L =>
    obtain ⟨hp, hL⟩ := SegA_append (show SegA data i (p.render ++ Lay.render L) from hseg)
    have hpv := hv p (by simp)
    have h2 := pre_lay (content := content) (st := .endTop) (by simp [CmtSt]) [] lc false uq
      (fun c i hb hc => pre_blank_end (Or.inr rfl) hb i lc uq hc) L (fun x hx => hv x (by simp [hx]))
      (i + p.render.length) hL
    have h1 := pre_piece (content := content) (E0 := [])
      (fun c hb hc => by simpa [nlEvs] using pre_blank_end (Or.inl rfl) hb i lc uq hc)
      (pre_slash_endValue i lc false uq) p hpv hp
    have := h1.trans h2
    simp only [Lay.render, layEvs, List.length_append, endSt]
    rw [show i + (p.render.length + (Lay.render L).length) = i + p.render.length + (Lay.render L).length by omega]
    exact this

/-! ### one item -/

/-- the closing phase: the literal is complete, a layout follows, then `,` or `]` -/
theorem pre_close_lay {st : St} (hp : PV st = true) {term : Cls} (ht : term = .comma ∨ term = .rbrack)
    (b b' a d : Nat) (lc : Bool) (uq : List (List UInt8 × Bool)) (L : Lay) (hv : L.Valid)
    (hseg : SegA data d (Lay.render L ++ [term])) (hfresh : uq.contains (keyAt content b (d - b)) = false) :
    Pre content data ⟨st, [], [(.litB, b), (.itemB, b'), (.arrB, a)], [], d, false, false, lc, false, uq⟩
      ([⟨.litE, b, d - 1⟩, ⟨.itemE, b', d - 1⟩] ++ (layEvs d L ++ delimEvs a (d + (Lay.render L).length) term))
      ⟨delimStC term, [], delimStack a term, [], d + (Lay.render L).length + 1, false, false, lc, false,
        keyAt content b (d - b) :: uq⟩ := by
  have htd : isDelimC term = true := by rcases ht with rfl | rfl <;> rfl
  have hts : delimRetC term = [] := by rcases ht with rfl | rfl <;> rfl
  cases L with
  | nil =>
    obtain ⟨hd, _⟩ := hseg
    have h := pre_close (content := content) hp htd b b' a d lc uq hd hfresh
    rw [hts] at h
    simpa [Lay.render, layEvs] using h
  | cons p L =>
    obtain ⟨hpl, hterm⟩ := SegA_append hseg
    obtain ⟨hterm, _⟩ := hterm
    obtain ⟨hps, hLs⟩ := SegA_append (show SegA data d (p.render ++ Lay.render L) from hpl)
    have hpv := hv p (by simp)
    have hLv : Lay.Valid L := fun x hx => hv x (by simp [hx])
    -- the first piece closes the literal
    have h1 := pre_piece (content := content) (E0 := [⟨.litE, b, d - 1⟩, ⟨.itemE, b', d - 1⟩])
      (fun c hb hc => by
        obtain ⟨hdc, e1, e2, e3, e4⟩ := blank_delim hb
        have h := pre_close (content := content) hp hdc b b' a d lc uq hc hfresh
        rwa [e1, e2, e3, e4] at h)
      (fun hc => (pre_close (content := content) (c := .slash) hp rfl b b' a d lc uq hc hfresh).cast (List.append_nil _))
      p hpv hps
    have h2 := pre_lay_loop (content := content) (st := .afterItem) (Or.inr (Or.inr rfl)) a lc false
      (keyAt content b (d - b) :: uq) L hLv (d + p.render.length) hLs
    have hterm' : data[d + p.render.length + (Lay.render L).length]? = some term := by
      have : d + (p.render ++ Lay.render L).length = d + p.render.length + (Lay.render L).length := by
        simp only [List.length_append]; omega
      rw [← this]; exact hterm
    have h3 := pre_term (content := content) ht a (d + p.render.length + (Lay.render L).length) lc false
      (keyAt content b (d - b) :: uq) hterm'
    refine ((h1.trans h2).trans h3).cast ?_ |>.castS ?_
    · simp only [Lay.render, layEvs, List.length_append, List.append_assoc]
      rw [show d + (p.render.length + (Lay.render L).length) = d + p.render.length + (Lay.render L).length by omega]
    · simp only [Lay.render, List.length_append]
      rw [show d + (p.render.length + (Lay.render L).length) + 1 = d + p.render.length + (Lay.render L).length + 1 by omega]

/-- layout and a token, read by the token automaton up to its last byte (in state `stE`) -/
theorem pre_lay_tok {st : St} (hst : st = .arrItemOrEmpty ∨ st = .arrItem) (L1 : Lay) (hL1 : L1.Valid) {c : Cls}
    {tl : List Cls} {st0 stE : SchemaScan.St} {unf0 : Bool} (hl : SchemaScan.litStart c = some (st0, unf0))
    (hrun : SchemaScan.silentRun st0 [] unf0 tl = some (stE, [], false)) (a o : Nat) (lc : Bool)
    (uq : List (List UInt8 × Bool))
    (hseg : SegA data o (Lay.render L1 ++ (c :: tl))) :
    Pre content data ⟨st, [], [(.arrB, a)], [], o, false, false, lc, false, uq⟩
      (layEvs o L1 ++ [⟨.itemB, o + (Lay.render L1).length, o + (Lay.render L1).length⟩,
        ⟨.litB, o + (Lay.render L1).length, o + (Lay.render L1).length⟩])
      ⟨ofS stE, [], [(.litB, o + (Lay.render L1).length), (.itemB, o + (Lay.render L1).length), (.arrB, a)], [],
        o + (Lay.render L1).length + (c :: tl).length, false, false, lc, false, uq⟩ := by
  obtain ⟨s1, hc, stl⟩ := SegA_append hseg
  have hloop : LoopSt st := by rcases hst with rfl | rfl <;> simp [LoopSt]
  have h1 := pre_lay_loop (content := content) hloop a lc false uq L1 hL1 o s1
  have h2 := pre_litStart (content := content) hst (litStart_ofS hl) a (o + (Lay.render L1).length) lc false uq hc
  have h3 := pre_silentRunS (content := content) tl
    [(.litB, o + (Lay.render L1).length), (.itemB, o + (Lay.render L1).length), (.arrB, a)]
    false lc false uq st0 [] unf0 (o + (Lay.render L1).length + 1) stE [] false stl hrun
  refine (((h1.trans h2).trans h3).cast (List.append_nil _)).castS ?_
  rw [show o + (Lay.render L1).length + 1 + tl.length = o + (Lay.render L1).length + (c :: tl).length by
    simp only [List.length_cons]; omega]
  rfl

/-- one item: layout, token, layout, `,` or `]` -/
theorem itemC_pre {st : St} (hst : st = .arrItemOrEmpty ∨ st = .arrItem) (L1 : Lay) (tk : List Cls) (L2 : Lay)
    (hL1 : L1.Valid) (htk : IsTok tk) (hL2 : L2.Valid) {term : Cls} (ht : term = .comma ∨ term = .rbrack) (a o : Nat)
    (lc : Bool) (uq : List (List UInt8 × Bool))
    (hseg : SegA data o (Lay.render L1 ++ (tk ++ (Lay.render L2 ++ [term]))))
    (hfresh : uq.contains (keyAt content (o + (Lay.render L1).length) tk.length) = false) :
    Pre content data ⟨st, [], [(.arrB, a)], [], o, false, false, lc, false, uq⟩
      (layEvs o L1 ++ (itemEvs (o + (Lay.render L1).length) (o + (Lay.render L1).length + tk.length) ++
        (layEvs (o + (Lay.render L1).length + tk.length) L2 ++
          delimEvs a (o + (Lay.render L1).length + tk.length + (Lay.render L2).length) term)))
      ⟨delimStC term, [], delimStack a term, [], o + (Lay.render L1).length + tk.length + (Lay.render L2).length + 1,
        false, false, lc, false, keyAt content (o + (Lay.render L1).length) tk.length :: uq⟩ := by
  obtain ⟨c, tl, st0, unf0, stE, rfl, hl, hrun, hpv⟩ := htk
  obtain ⟨s12, s3⟩ := SegA_append (show SegA data o ((Lay.render L1 ++ (c :: tl)) ++ (Lay.render L2 ++ [term])) by
    rw [List.append_assoc]; exact hseg)
  have h123 := pre_lay_tok (content := content) hst L1 hL1 hl hrun a o lc uq s12
  have e2 : o + (Lay.render L1).length + (c :: tl).length - (o + (Lay.render L1).length) = (c :: tl).length := by omega
  have h4 := pre_close_lay (content := content) (PV_ofS hpv) ht (o + (Lay.render L1).length) (o + (Lay.render L1).length) a
    (o + (Lay.render L1).length + (c :: tl).length) lc uq L2 hL2
    (by rw [show o + (Lay.render L1).length + (c :: tl).length = o + (Lay.render L1 ++ (c :: tl)).length by
      simp only [List.length_append]; omega]; exact s3) (by rw [e2]; exact hfresh)
  rw [e2] at h4
  refine (h123.trans h4).cast ?_
  simp [itemEvs, List.append_assoc]

/-- a layout has at most three events per byte (generous: the densest piece, `//` and a line break, has five on three
bytes) -/
theorem layEvs_length_le (L : Lay) : ∀ (o : Nat), (layEvs o L).length ≤ 3 * (Lay.render L).length := by
  induction L with
  | nil => intro o; simp [layEvs]
  | cons p L ih =>
    intro o
    have h2 := ih (o + p.render.length)
    have h1 : (p.evs o).length ≤ 3 * p.render.length := by
      cases p with
      | blank c =>
        have := nlEvs_length_le o [c]
        simp only [Piece.evs, Piece.render, List.length_cons, List.length_nil] at this ⊢
        omega
      | inl sp txt => simp [Piece.evs, inlEvs, Piece.render]; omega
      | ml ws txt =>
        have := nlEvs_length_le (o + 1 + 1) ws
        simp only [Piece.evs, mlEvs, Piece.render, List.length_cons, List.length_append, List.length_nil] at this ⊢
        omega
    simp only [layEvs, Lay.render, List.length_append]
    omega

/-- **duplicate at this item**: error 810 at the first byte of the token; the byte behind the token is a delimiter.
`n`: the events of `L1`, then `itemB` and `litB`. -/
theorem itemC_dup {st : St} (hst : st = .arrItemOrEmpty ∨ st = .arrItem) (L1 : Lay) (tk : List Cls) (hL1 : L1.Valid)
    (htk : IsTok tk) {c : Cls} (hc : isDelimC c = true) (a o : Nat) (lc : Bool)
    (uq : List (List UInt8 × Bool)) (hseg : SegA data o (Lay.render L1 ++ (tk ++ [c])))
    (hdup : uq.contains (keyAt content (o + (Lay.render L1).length) tk.length) = true) :
    ∃ n, n ≤ 3 * (Lay.render L1).length + 2 ∧
    OutT content data ⟨st, [], [(.arrB, a)], [], o, false, false, lc, false, uq⟩ n
      (.error (.duplicate (o + (Lay.render L1).length))) := by
  obtain ⟨c0, tl, st0, unf0, stE, rfl, hl, hrun, hpv⟩ := htk
  obtain ⟨s12, hd, _⟩ := SegA_append (show SegA data o ((Lay.render L1 ++ (c0 :: tl)) ++ [c]) by
    rw [List.append_assoc]; exact hseg)
  rw [show o + (Lay.render L1 ++ (c0 :: tl)).length = o + (Lay.render L1).length + (c0 :: tl).length by
    simp only [List.length_append]; omega] at hd
  have h123 := pre_lay_tok (content := content) hst L1 hL1 hl hrun a o lc uq s12
  have e2 : o + (Lay.render L1).length + (c0 :: tl).length - (o + (Lay.render L1).length) = (c0 :: tl).length := by omega
  have h4 := outT_dup (content := content) (PV_ofS hpv) hc (o + (Lay.render L1).length) (o + (Lay.render L1).length) a
    (o + (Lay.render L1).length + (c0 :: tl).length) lc uq hd (by rw [e2]; exact hdup)
  refine ⟨_, ?_, h123.outT h4⟩
  have := layEvs_length_le L1 o
  simp only [List.length_append, List.length_cons, List.length_nil]
  omega

/-- **exponent at this item**: `e` / `E` directly behind a number token is error 301 at that byte -/
theorem itemC_exp {st : St} (hst : st = .arrItemOrEmpty ∨ st = .arrItem) (L1 : Lay) (tk : List Cls) (hL1 : L1.Valid)
    (htk : IsNumTok tk) {c : Cls} (hc : c = .le ∨ c = .uE) (a o : Nat) (lc : Bool)
    (uq : List (List UInt8 × Bool)) (hseg : SegA data o (Lay.render L1 ++ (tk ++ [c]))) :
    ∃ n, n ≤ 3 * (Lay.render L1).length + 2 ∧
    OutT content data ⟨st, [], [(.arrB, a)], [], o, false, false, lc, false, uq⟩ n
      (.error (.invalidChar (o + (Lay.render L1).length + tk.length)
        "isn't allowed 'cause not obvious it's a float or an integer")) := by
  obtain ⟨c0, tl, st0, unf0, stE, rfl, hl, hrun, hpv⟩ := htk
  obtain ⟨s12, hd, _⟩ := SegA_append (show SegA data o ((Lay.render L1 ++ (c0 :: tl)) ++ [c]) by
    rw [List.append_assoc]; exact hseg)
  rw [show o + (Lay.render L1 ++ (c0 :: tl)).length = o + (Lay.render L1).length + (c0 :: tl).length by
    simp only [List.length_append]; omega] at hd
  have h123 := pre_lay_tok (content := content) hst L1 hL1 hl hrun a o lc uq s12
  have h4 := outT_exponent (content := content) hpv hc []
    [(.litB, o + (Lay.render L1).length), (.itemB, o + (Lay.render L1).length), (.arrB, a)]
    (o + (Lay.render L1).length + (c0 :: tl).length) false false lc false uq hd
  refine ⟨_, ?_, h123.outT h4⟩
  have := layEvs_length_le L1 o
  simp only [List.length_append, List.length_cons, List.length_nil]
  omega

end EnumScan
