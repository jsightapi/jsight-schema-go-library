import JSight.DocCursorOne
/-!
No `NextLexeme`, `Check` or `Len` ends in a non-error panic, for any text: inside the stream the incremental scanner follows
the whole-text model (`follows_next`), which never panics (`events_no_crash`, from `Sim.C07_json_no_crash`); behind an
`EndTop` every byte is a step of `stateEndTop`; after an error the scanner is not stepped again.
-/
namespace DocCursor
open JsonScan

/-- the three situations from which `Scn.next` cannot crash: inside the stream, past the end of the text with nothing
queued, in `stateEndTop` with nothing queued -/
def Safe (cls : List Cls) (s : Scn) : Prop := J cls s ∨ QQ cls s ∨ RR s

/-- a step result that is never a crash and, unless it is an error, leaves a `Safe` scanner -/
def Good (cls : List Cls) (r : NextRes × Scn) : Prop :=
  (∀ w, r.1 ≠ .crash w) ∧ ((∀ c q, r.1 ≠ .err c q) → Safe cls r.2)

theorem follows_good {cls : List Cls} {X : Except ErrS (List Ev)} {L : List Ev} {r : NextRes × Scn}
    (h : Follows cls X L r) : Good cls r := by
  obtain ⟨x, s'⟩ := r
  cases x with
  | lex ev => exact ⟨(fun w h' => nomatch h'), fun _ => Or.inl h.2.2.2⟩
  | eofLex ev => exact ⟨(fun w h' => nomatch h'), fun _ => Or.inr (Or.inr h.2.2)⟩
  | eof => exact ⟨(fun w h' => nomatch h'), fun _ => Or.inr (Or.inl h.2)⟩
  | err c q => exact ⟨(fun w h' => nomatch h'), fun h' => absurd rfl (h' c q)⟩
  | crash w => exact h.elim

theorem atEnd_shape (n : Nat) (s : Scn) :
    (∀ w, (atEnd n s).1 ≠ .crash w) ∧ (atEnd n s).2.finds = s.finds ∧ (atEnd n s).2.st = s.st ∧
      s.index ≤ (atEnd n s).2.index := by
  rcases atEnd_cases n s with ⟨_, e⟩ | ⟨b, rest, _, _, e⟩ | ⟨p, b, rest, _, _, e⟩
  · rw [e]; exact ⟨(fun w h => nomatch h), rfl, rfl, Nat.le_refl _⟩
  · rw [e]; exact ⟨(fun w h => nomatch h), rfl, rfl, Nat.le_succ _⟩
  · rw [e]; exact ⟨(fun w h => nomatch h), rfl, rfl, Nat.le_succ _⟩

theorem atEnd_good_Q (cls : List Cls) (s : Scn) (hq : QQ cls s) : Good cls (atEnd cls.length s) := by
  obtain ⟨h1, h2, _, h4⟩ := atEnd_shape cls.length s
  exact ⟨h1, fun _ => Or.inr (Or.inl ⟨by rw [h2]; exact hq.1, Nat.le_trans hq.2 h4⟩)⟩

theorem atEnd_good_R (cls : List Cls) (s : Scn) (hr : RR s) : Good cls (atEnd cls.length s) := by
  obtain ⟨h1, h2, h3, _⟩ := atEnd_shape cls.length s
  exact ⟨h1, fun _ => Or.inr (Or.inr ⟨by rw [h3]; exact hr.1, by rw [h2]; exact hr.2⟩)⟩

/-- behind `EndTop` every byte is a step of `stateEndTop`: nothing, or one more `EndTop` -/
theorem scanLoop_good_R (cls : List Cls) (fuel : Nat) (s : Scn) (hfu : cls.length - s.index ≤ fuel) (hr : RR s) :
    Good cls (scanLoop cls fuel s) := by
  have hstep : ∀ (s : Scn) (c : Cls) (r : St × Bool × List LexT), RR s →
      step s.allow s.st (s.stack.map (·.1)) s.unf c = .ok r → r = (.endTop, s.unf, []) ∨ r = (.endTop, s.unf, [.endTop]) := by
    intro s c r hr hst
    rw [hr.1] at hst
    exact endTopStep_ok hst
  refine scanLoop_rule (I := RR) (Q := Good cls) ?_ ?_ ?_ ?_ fuel s hfu hr
  · intro s hr _
    exact atEnd_good_R cls s hr
  · intro s c e _ _ _
    exact ⟨(fun w h => nomatch h), fun h => absurd rfl (h 301 s.index)⟩
  · intro s c st' unf' hr _ hst
    rcases hstep s c _ hr hst with e | e <;> cases e
    exact ⟨rfl, hr.2⟩
  · intro s c st' unf' f rest hr _ hst
    rcases hstep s c _ hr hst with e | e <;> cases e
    exact ⟨(fun w h => nomatch h), fun _ => Or.inr (Or.inr ⟨rfl, rfl⟩)⟩

theorem next_good (cls : List Cls) (s : Scn) (h : Safe cls s) : Good cls (s.next cls) := by
  rcases h with hJ | hq | hr
  · exact follows_good (follows_next cls s hJ)
  · unfold Scn.next
    split
    · rename_i f rest hf; rw [hq.1] at hf; cases hf
    · have : cls.length - s.index = 0 := by have := hq.2; omega
      rw [this]
      simp only [scanLoop]
      exact atEnd_good_Q cls s hq
  · unfold Scn.next
    split
    · rename_i f rest hf; rw [hr.2] at hf; cases hf
    · exact scanLoop_good_R cls _ s (Nat.le_refl _) hr

/-! ### no delivery is a panic -/

def Inv (cls : List Cls) (p : Rd) : Prop := (∃ cq, p.2 = some cq) ∨ Safe cls p.1

theorem nextL_good (cls : List Cls) (p : Rd) (h : Inv cls p) :
    (∀ w, (nextL cls p).1 ≠ .crash w) ∧ Inv cls (nextL cls p).2 := by
  obtain ⟨sc, le⟩ := p
  cases le with
  | some cq =>
    obtain ⟨c, q⟩ := cq
    simp only [nextL]
    exact ⟨(fun w h => nomatch h), Or.inl ⟨_, rfl⟩⟩
  | none =>
    have hs : Safe cls sc := by
      rcases h with ⟨cq, h⟩ | h
      · cases h
      · exact h
    have hg := next_good cls sc hs
    simp only [nextL]
    cases hr : (sc.next cls).1 with
    | err c q => exact ⟨(fun w h => nomatch h), Or.inl ⟨_, rfl⟩⟩
    | lex e => exact ⟨(fun w h => nomatch h), Or.inr (hg.2 (by rw [hr]; exact fun c q h => nomatch h))⟩
    | eofLex e => exact ⟨(fun w h => nomatch h), Or.inr (hg.2 (by rw [hr]; exact fun c q h => nomatch h))⟩
    | eof => exact ⟨(fun w h => nomatch h), Or.inr (hg.2 (by rw [hr]; exact fun c q h => nomatch h))⟩
    | crash w => exact absurd hr (hg.1 w)

theorem safe_init (t : List UInt8) (o : Bool) : Safe (clsOf t) { allow := o } := Or.inl (J_init t o)

theorem scanAt_inv (t : List UInt8) (o : Bool) : ∀ k, Inv (clsOf t) (scanAt t o k)
  | 0 => Or.inr (safe_init t o)
  | k + 1 => (nextL_good _ _ (scanAt_inv t o k)).2

/-- no `NextLexeme` delivery of any text is a non-error panic -/
theorem lexAt_never_crash (t : List UInt8) (o : Bool) (k : Nat) (w : String) : lexAt t o k ≠ .crash w :=
  (nextL_good _ _ (scanAt_inv t o k)).1 w

/-! ### `Check` / `Len` of a fresh document never end in a panic -/

theorem checkText_no_crash (t : List UInt8) (o : Bool) (w : String) : checkText t o ≠ .crash w := by
  rw [checkText_eq_events]
  cases h : events o t with
  | ok L => simp only [checkOf]; split <;> exact fun h => nomatch h
  | error e =>
    cases e with
    | crash w' => exact absurd h (events_no_crash o t w')
    | _ => exact fun h => nomatch h

theorem lenText_no_crash (t : List UInt8) (o : Bool) (w : String) : lenText t o ≠ .crash w := by
  rw [lenText_eq, lenLoop_eq_events]
  cases h : events o t with
  | ok L => exact fun h => nomatch h
  | error e =>
    cases e with
    | crash w' => exact absurd h (events_no_crash o t w')
    | _ => exact fun h => nomatch h

/-! ### accepted texts: no delivery up to the end of the stream, no `Check` and no `Len` is a panic -/

/-- accepted texts: no delivery up to and including the end of the stream is a panic -/
theorem lexAt_no_crash_of_events (t : List UInt8) (o : Bool) (evs : List Ev) (h : events o t = .ok evs)
    (k : Nat) (hk : k < (conv evs).length) (w : String) : lexAt t o k ≠ .crash w :=
  lexAt_never_crash t o k w

theorem checkText_no_crash_of_events (t : List UInt8) (o : Bool) (evs : List Ev) (h : events o t = .ok evs) :
    ∀ w, checkText t o ≠ .crash w :=
  checkText_no_crash t o

theorem lenText_no_crash_of_events (t : List UInt8) (o : Bool) (evs : List Ev) (h : events o t = .ok evs) :
    ∀ w, lenText t o ≠ .crash w :=
  lenText_no_crash t o

end DocCursor
