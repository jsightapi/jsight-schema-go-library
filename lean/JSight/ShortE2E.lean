import JSight.LoaderSTree
import JSight.CompileShortcut
import JSight.E2ESchema
/-!
C09 / C16, schema TEXTS whose values are type shortcuts — scanner + loader + compile:

byte-level trees with layout whose leaves are scalars or type shortcuts (`SE.BST`), their text (`BST.render`), the
class-level tree of the scanner / loader theorems (`BST.cls`), and the compiled tree `SE.cnOf`: a scalar leaf is the
literal node of `E2E.cnOf`, a shortcut leaf is the `mixed` REFERENCE node carrying the names of its synthesised rule.
`SE.loadSchema_stree` (in `ShortE2ELoad`): `E2E.loadSchema` (scanner model → loader model → constraint constructors →
`compileNode`, the phases 1 and 2 of `Compile.lean`; the second is Go's `CompileBasic`) on the text yields exactly `cnOf`.
`SE.Emb`: the tree stands in a text at an offset, as the walkers over
the loaded table read it.
-/
namespace SE
open SchemaScan (Cls classify STree)
open SchemaScan.Len (Shortcut)
open Loader (Node slice keyText shortNode valOff)
open LoaderS (nodesOf nodesItems nodesMembers idxItems idxMembers keysMembers nextItem nextMember nodeCount
  countItems countMembers ruleOf)
open Lay (AtB AtB_append slice_tok keyText_tok)
open Compile

abbrev Bytes := List UInt8
abbrev Alt := Bytes × Bytes × Bytes

/-- a JSON value with its layout (blank bytes) whose leaves are scalars or type shortcuts
`@first (s1 | s2 @name)* sps` -/
inductive BST
  | scalar (tok : Bytes)
  | short (first : Bytes) (alts : List Alt) (sps : Bytes)
  | arr (w0 : Bytes) (items : List (Bytes × BST × Bytes))
  | obj (w0 : Bytes) (members : List (Bytes × Bytes × Bytes × Bytes × BST × Bytes))

abbrev BItem := Bytes × BST × Bytes
abbrev BMember := Bytes × Bytes × Bytes × Bytes × BST × Bytes

/-- the alternatives as written: blanks, `|` (124), blanks, `@` (64), the name -/
def altBytes : List Alt → Bytes
  | [] => []
  | (s1, s2, n) :: r => s1 ++ (124 :: (s2 ++ (64 :: (n ++ altBytes r))))

/-- the text of a shortcut without the blanks behind it -/
def scBytes (first : Bytes) (alts : List Alt) : Bytes := 64 :: (first ++ altBytes alts)

mutual
def BST.render : BST → Bytes
  | .scalar tok => tok
  | .short f as sps => scBytes f as ++ sps
  | .arr w0 its => 91 :: (w0 ++ renderItems its)
  | .obj w0 ms => 123 :: (w0 ++ renderMembers ms)
def renderItems : List BItem → Bytes
  | [] => [93]
  | (w1, v, w2) :: its => w1 ++ (v.render ++ (w2 ++ ((if its.isEmpty then [] else [44]) ++ renderItems its)))
def renderMembers : List BMember → Bytes
  | [] => [125]
  | (w1, k, w2, w3, v, w4) :: ms =>
    w1 ++ (k ++ (w2 ++ (58 :: (w3 ++ (v.render ++ (w4 ++ ((if ms.isEmpty then [] else [44]) ++ renderMembers ms)))))))
end

def clsB (w : Bytes) : List Cls := w.map classify

def clsAlts : List Alt → List (List Cls × List Cls × List Cls)
  | [] => []
  | (s1, s2, n) :: r => (clsB s1, clsB s2, clsB n) :: clsAlts r

def clsSc (first : Bytes) (alts : List Alt) : Shortcut := ⟨clsB first, clsAlts alts⟩

mutual
/-- the class-level tree of the scanner / loader theorems -/
def BST.cls : BST → STree
  | .scalar tok => .scalar (clsB tok)
  | .short f as sps => .short (clsSc f as) (clsB sps)
  | .arr w0 its => .arr (clsB w0) (clsItems its)
  | .obj w0 ms => .obj (clsB w0) (clsMembers ms)
def clsItems : List BItem → List SchemaScan.SItem
  | [] => []
  | (w1, v, w2) :: its => (clsB w1, v.cls, clsB w2) :: clsItems its
def clsMembers : List BMember → List SchemaScan.SMember
  | [] => []
  | (w1, k, w2, w3, v, w4) :: ms => (clsB w1, clsB k, clsB w2, clsB w3, v.cls, clsB w4) :: clsMembers ms
end

/-! ### rendering on bytes and on classes -/

theorem clsItems_isEmpty : (its : List BItem) → (clsItems its).isEmpty = its.isEmpty
  | [] => rfl
  | (_, _, _) :: _ => rfl

theorem clsMembers_isEmpty : (ms : List BMember) → (clsMembers ms).isEmpty = ms.isEmpty
  | [] => rfl
  | (_, _, _, _, _, _) :: _ => rfl

theorem clsAlts_isEmpty : (as : List Alt) → (clsAlts as).isEmpty = as.isEmpty
  | [] => rfl
  | (_, _, _) :: _ => rfl

theorem altBytes_cls : (as : List Alt) → (altBytes as).map classify = SchemaScan.Len.renderAlts (clsAlts as)
  | [] => rfl
  | (s1, s2, n) :: r => by
    simp only [altBytes, clsAlts, SchemaScan.Len.renderAlts, List.map_append, List.map_cons, altBytes_cls r, clsB]
    rfl

theorem scBytes_cls (f : Bytes) (as : List Alt) : (scBytes f as).map classify = (clsSc f as).render := by
  simp only [scBytes, clsSc, Shortcut.render, List.map_cons, List.map_append, altBytes_cls, clsB]
  rfl

mutual
theorem render_cls : (t : BST) → t.render.map classify = t.cls.render
  | .scalar tok => by simp [BST.render, BST.cls, STree.render, clsB]
  | .short f as sps => by simp [BST.render, BST.cls, STree.render, scBytes_cls, clsB]
  | .arr w0 its => by
    simp only [BST.render, BST.cls, STree.render, List.map_cons, List.map_append, renderItems_cls its, clsB]
    rfl
  | .obj w0 ms => by
    simp only [BST.render, BST.cls, STree.render, List.map_cons, List.map_append, renderMembers_cls ms, clsB]
    rfl
theorem renderItems_cls : (its : List BItem) → (renderItems its).map classify = SchemaScan.sRenderItems (clsItems its)
  | [] => rfl
  | (w1, v, w2) :: its => by
    simp only [renderItems, clsItems, SchemaScan.sRenderItems, List.map_append, render_cls v, renderItems_cls its, clsB,
      clsItems_isEmpty]
    cases its <;> rfl
theorem renderMembers_cls : (ms : List BMember) →
    (renderMembers ms).map classify = SchemaScan.sRenderMembers (clsMembers ms)
  | [] => rfl
  | (w1, k, w2, w3, v, w4) :: ms => by
    simp only [renderMembers, clsMembers, SchemaScan.sRenderMembers, List.map_append, List.map_cons, render_cls v,
      renderMembers_cls ms, clsB, clsMembers_isEmpty]
    cases ms <;> rfl
end

theorem render_length (t : BST) : t.cls.render.length = t.render.length := by
  rw [← render_cls, List.length_map]

theorem clsB_length (w : Bytes) : (clsB w).length = w.length := by simp [clsB]

theorem nextItem_eq (o : Nat) (w1 : Bytes) (v : BST) (w2 : Bytes) (its : List BItem) :
    nextItem o (clsB w1) v.cls (clsB w2) (clsItems its)
      = o + w1.length + v.render.length + w2.length + (if its.isEmpty then 0 else 1) := by
  simp only [nextItem, clsB_length, render_length, clsItems_isEmpty]

theorem valOff_eq (o : Nat) (w1 k w2 w3 : Bytes) :
    valOff o (clsB w1) (clsB k) (clsB w2) (clsB w3) = o + w1.length + k.length + w2.length + 1 + w3.length := by
  simp only [valOff, clsB_length]

theorem nextMember_eq (o : Nat) (w1 k w2 w3 : Bytes) (v : BST) (w4 : Bytes) (ms : List BMember) :
    nextMember o (clsB w1) (clsB k) (clsB w2) (clsB w3) v.cls (clsB w4) (clsMembers ms)
      = o + w1.length + k.length + w2.length + 1 + w3.length + v.render.length + w4.length +
        (if ms.isEmpty then 0 else 1) := by
  simp only [nextMember, valOff_eq, clsB_length, render_length, clsMembers_isEmpty]

theorem AtB_items {src : Array UInt8} {o : Nat} {w1 : Bytes} {v : BST} {w2 : Bytes} {its : List BItem}
    (h : AtB src o (renderItems ((w1, v, w2) :: its))) :
    AtB src (o + w1.length) v.render ∧
      AtB src (o + w1.length + v.render.length + w2.length + (if its.isEmpty then 0 else 1)) (renderItems its) := by
  simp only [renderItems] at h
  rw [AtB_append, AtB_append, AtB_append, AtB_append] at h
  obtain ⟨_, hv, _, _, hr⟩ := h
  refine ⟨hv, ?_⟩
  cases its with
  | nil => simpa [Nat.add_assoc] using hr
  | cons it its' => simpa [Nat.add_assoc] using hr

theorem AtB_members {src : Array UInt8} {o : Nat} {w1 k w2 w3 : Bytes} {v : BST}
    {w4 : Bytes} {ms : List BMember} (h : AtB src o (renderMembers ((w1, k, w2, w3, v, w4) :: ms))) :
    AtB src (o + w1.length) k ∧
      AtB src (o + w1.length + k.length + w2.length + 1 + w3.length) v.render ∧
      AtB src (o + w1.length + k.length + w2.length + 1 + w3.length + v.render.length +
        w4.length + (if ms.isEmpty then 0 else 1)) (renderMembers ms) := by
  simp only [renderMembers] at h
  rw [AtB_append, AtB_append, AtB_append] at h
  obtain ⟨_, hk, _, h⟩ := h
  obtain ⟨_, h⟩ := h
  rw [AtB_append, AtB_append, AtB_append, AtB_append] at h
  obtain ⟨_, hv, _, _, hr⟩ := h
  refine ⟨hk, ?_, ?_⟩
  · simpa [Nat.add_assoc] using hv
  · cases ms with
    | nil => simpa [Nat.add_assoc] using hr
    | cons m ms' => simpa [Nat.add_assoc] using hr

/-! ### the tree stands in the text

`Emb src o t`: the tokens of `t` stand in `src` where the class-level tree `t.cls`, rendered at `o`, has them — node by
node what a walker over the loaded table reads from the text: the slice of a scalar token, a key as `keyText` decodes it,
the text of a shortcut. It is to schema trees what `VPos.Emb` is to document trees. `AtB src o t.render` (`NodeTable.Sits`
at `UInt8`) says that the rendering as a whole stands at `o`; `Emb` adds validity (the tokens are non-empty, a shortcut is
well formed) and says it span by span, at the offsets `LoaderS.nodesOf` gives the nodes (`nextItem`, `valOff`,
`nextMember` over `t.cls`), so a walker needs no offset arithmetic. `emb_of` is the one place where validity and the
rendering are taken apart; the walkers `distinct_emb`, `keys_text`, `compileNode_sits`, `AstText.S2.astOff_emb` take `Emb`. -/

mutual
def Emb (src : Array UInt8) : Nat → BST → Prop
  | o, .scalar tok => slice src o (o + (clsB tok).length - 1) = tok
  | o, .short f as sps => (clsSc f as).Valid ∧ SchemaScan.Len.IsSpTabs (clsB sps) ∧ AtB src o (scBytes f as ++ sps)
  | o, .arr w0 its => EmbItems src (o + 1 + (clsB w0).length) its
  | o, .obj w0 ms => EmbMembers src (o + 1 + (clsB w0).length) ms
def EmbItems (src : Array UInt8) : Nat → List BItem → Prop
  | _, [] => True
  | o, (w1, v, w2) :: its =>
    Emb src (o + (clsB w1).length) v ∧ EmbItems src (nextItem o (clsB w1) v.cls (clsB w2) (clsItems its)) its
def EmbMembers (src : Array UInt8) : Nat → List BMember → Prop
  | _, [] => True
  | o, (w1, k, w2, w3, v, w4) :: ms =>
    keyText src (o + (clsB w1).length, o + (clsB w1).length + (clsB k).length - 1, false) = (Unquote.unquote k, false) ∧
    Emb src (valOff o (clsB w1) (clsB k) (clsB w2) (clsB w3)) v ∧
    EmbMembers src (nextMember o (clsB w1) (clsB k) (clsB w2) (clsB w3) v.cls (clsB w4) (clsMembers ms)) ms
end

mutual
theorem emb_of (src : Array UInt8) : (t : BST) → t.cls.Valid → (o : Nat) → AtB src o t.render → Emb src o t
  | .scalar tok, hv, o, hat => by
    have hs : SchemaScan.IsScalar (tok.map classify) := by simpa [BST.cls, STree.Valid, clsB] using hv
    simpa only [Emb, clsB_length] using slice_tok src tok o hat (Lay.scalar_ne hs)
  | .short f as sps, hv, o, hat => by
    obtain ⟨h1, h2⟩ : (clsSc f as).Valid ∧ SchemaScan.Len.IsSpTabs (clsB sps) := by simpa [BST.cls, STree.Valid] using hv
    exact ⟨h1, h2, hat⟩
  | .arr w0 its, hv, o, hat => by
    obtain ⟨_, hi⟩ : SchemaScan.IsWs (clsB w0) ∧ SchemaScan.SValidItems (clsItems its) := by
      simpa [BST.cls, STree.Valid] using hv
    obtain ⟨_, hat⟩ := hat
    rw [AtB_append] at hat
    simpa only [Emb, clsB_length] using embItems_of src its hi _ hat.2
  | .obj w0 ms, hv, o, hat => by
    obtain ⟨_, hi⟩ : SchemaScan.IsWs (clsB w0) ∧ SchemaScan.SValidMembers (clsMembers ms) := by
      simpa [BST.cls, STree.Valid] using hv
    obtain ⟨_, hat⟩ := hat
    rw [AtB_append] at hat
    simpa only [Emb, clsB_length] using embMembers_of src ms hi _ hat.2
theorem embItems_of (src : Array UInt8) : (its : List BItem) → SchemaScan.SValidItems (clsItems its) → (o : Nat) →
    AtB src o (renderItems its) → EmbItems src o its
  | [], _, _, _ => trivial
  | (w1, v, w2) :: its, hv, o, hat => by
    obtain ⟨_, hvv, _, _, hits⟩ : SchemaScan.IsWs (clsB w1) ∧ v.cls.Valid ∧ SchemaScan.IsWs (clsB w2) ∧
        SchemaScan.Follow v.cls (clsB w2) ∧ SchemaScan.SValidItems (clsItems its) := by
      simpa [clsItems, SchemaScan.SValidItems] using hv
    obtain ⟨hatv, hatr⟩ := AtB_items hat
    simp only [EmbItems, nextItem_eq, clsB_length]
    exact ⟨emb_of src v hvv _ hatv, embItems_of src its hits _ hatr⟩
theorem embMembers_of (src : Array UInt8) : (ms : List BMember) → SchemaScan.SValidMembers (clsMembers ms) → (o : Nat) →
    AtB src o (renderMembers ms) → EmbMembers src o ms
  | [], _, _, _ => trivial
  | (w1, k, w2, w3, v, w4) :: ms, hv, o, hat => by
    obtain ⟨_, hk, _, _, hvv, _, _, hms⟩ :
        SchemaScan.IsWs (clsB w1) ∧ SchemaScan.IsKey (clsB k) ∧ SchemaScan.IsWs (clsB w2) ∧ SchemaScan.IsWs (clsB w3) ∧
          v.cls.Valid ∧ SchemaScan.IsWs (clsB w4) ∧ SchemaScan.Follow v.cls (clsB w4) ∧
          SchemaScan.SValidMembers (clsMembers ms) := by
      simpa [clsMembers, SchemaScan.SValidMembers] using hv
    obtain ⟨hatk, hatv, hatr⟩ := AtB_members hat
    simp only [EmbMembers, nextMember_eq, valOff_eq, clsB_length]
    exact ⟨keyText_tok src k _ hatk (Lay.key_ne hk), emb_of src v hvv _ hatv, embMembers_of src ms hms _ hatr⟩
end

/-! ### validity, the compiled tree -/

/-- the names of a shortcut as the compiler reads them from the synthesised rule -/
def namesOf (f : Bytes) (as : List Alt) (sps : Bytes) : List String :=
  shortNames (!as.isEmpty) (Loader.trimSpaces (scBytes f as ++ sps))

/-- the byte-level side of a shortcut: `|` occurs exactly when there are alternatives, a single name is a user type
name, and alternatives give at least two names (all decidable) -/
def shortOK (f : Bytes) (as : List Alt) (sps : Bytes) : Bool :=
  (Loader.hasPipe (scBytes f as ++ sps) == !as.isEmpty) &&
    ((!as.isEmpty || isUserTypeName (unq (Loader.trimSpaces (scBytes f as ++ sps)))) &&
      ((!as.isEmpty) == decide (2 ≤ (namesOf f as sps).length)))

mutual
/-- decidable byte-level conditions: scalars whose kind can be guessed, `shortOK` for the shortcuts -/
def BST.sideOK : BST → Bool
  | .scalar tok => (RulesF.kindOfTok tok).isSome
  | .short f as sps => shortOK f as sps
  | .arr _ its => sideItems its
  | .obj _ ms => sideMembers ms
def sideItems : List BItem → Bool
  | [] => true
  | (_, v, _) :: its => v.sideOK && sideItems its
def sideMembers : List BMember → Bool
  | [] => true
  | (_, _, _, _, v, _) :: ms => v.sideOK && sideMembers ms
end

def keysB : List BMember → List (Bytes × Bool)
  | [] => []
  | (_, k, _, _, _, _) :: ms => (Unquote.unquote k, false) :: keysB ms

mutual
/-- the keys of every object are pairwise distinct after decoding -/
def BST.KeysNodup : BST → Prop
  | .scalar _ => True
  | .short _ _ _ => True
  | .arr _ its => NodupItems its
  | .obj _ ms => (keysB ms).Nodup ∧ NodupMembers ms
def NodupItems : List BItem → Prop
  | [] => True
  | (_, v, _) :: its => v.KeysNodup ∧ NodupItems its
def NodupMembers : List BMember → Prop
  | [] => True
  | (_, _, _, _, v, _) :: ms => v.KeysNodup ∧ NodupMembers ms
end

mutual
/-- the compiled tree; the flags of a property as in `E2E.cnMembers` (is-shortcut, required, `optional: true` written) -/
def cnOf (opt : Bool) : BST → CN
  | .scalar tok => .lit { kind := E2E.kindOf tok, ex := tok, nul := false, rules := [] } false
  | .short f as sps => .ref (namesOf f as sps) false .mixed none (!as.isEmpty)
  | .arr _ its => .arr (cnItems opt its) false false
  | .obj _ ms => .obj (cnMembers opt ms) .absent false false
def cnItems (opt : Bool) : List BItem → List CN
  | [] => []
  | (_, v, _) :: its => cnOf opt v :: cnItems opt its
def cnMembers (opt : Bool) : List BMember → List (String × Bool × Bool × Bool × CN)
  | [] => []
  | (_, k, _, _, v, _) :: ms => (E2E.keyOf k, false, !opt, false, cnOf opt v) :: cnMembers opt ms
end

end SE
