import JSight.DocCursor
/-!
Why the fuel of `checkLoop` / `lenLoop` suffices: a control step finds at most three lexemes (`step_finds`), so
`7 * (bytes left) + 2 * |finds| + |stack|` decreases with every lexeme `Scn.next` delivers (`next_lex`).

Also here, because every later file walks through them: what `processFound` and `atEnd` do, case by case
(`processFound_cases`, `atEnd_cases`).
-/
namespace DocCursor
open JsonScan

/-! ### the finds of one control step -/

def etFree (acc : List LexT) : Bool := acc.all (· != .endTop)

/-- the finds are `acc` with at most one more behind them; an `EndTop` there comes with `stateEndTop` -/
def Ext (acc : List LexT) (r : St × Bool × List LexT) : Prop :=
  r.2.2 = acc ∨ ∃ x, r.2.2 = acc ++ [x] ∧ (x = .endTop → r.1 = .endTop)

theorem endTopStep_ok {a u : Bool} {acc : List LexT} {c : Cls} {r : St × Bool × List LexT}
    (h : endTopStep a u acc c = .ok r) : r = (.endTop, u, acc) ∨ r = (.endTop, u, acc ++ [.endTop]) := by
  unfold endTopStep at h
  split at h
  · cases h; exact Or.inl rfl
  · cases h; exact Or.inl rfl
  · split at h
    · cases h; exact Or.inr rfl
    · cases h

theorem endTopStep_ext {a u : Bool} {acc : List LexT} {c : Cls} {r : St × Bool × List LexT}
    (h : endTopStep a u acc c = .ok r) : Ext acc r := by
  rcases endTopStep_ok h with rfl | rfl
  · exact Or.inl rfl
  · exact Or.inr ⟨_, rfl, fun _ => rfl⟩

theorem afterKeyStep_ext {u : Bool} {acc : List LexT} {c : Cls} {r : St × Bool × List LexT}
    (h : afterKeyStep u acc c = .ok r) : Ext acc r := by
  unfold afterKeyStep at h
  split at h <;> cases h <;> exact Or.inl rfl

theorem afterValueStep_ext {u : Bool} {acc : List LexT} {c : Cls} {r : St × Bool × List LexT}
    (h : afterValueStep u acc c = .ok r) : Ext acc r := by
  unfold afterValueStep at h
  split at h <;> cases h
  · exact Or.inl rfl
  · exact Or.inl rfl
  · exact Or.inl rfl
  · exact Or.inr ⟨_, rfl, fun e => nomatch e⟩

theorem afterItemStep_ext {n : Nat} {u : Bool} {acc : List LexT} {c : Cls} {r : St × Bool × List LexT}
    (h : afterItemStep n u acc c = .ok r) : Ext acc r := by
  unfold afterItemStep at h
  split at h <;> cases h
  · exact Or.inl rfl
  · exact Or.inl rfl
  · exact Or.inl rfl
  · exact Or.inr ⟨_, rfl, fun e => nomatch e⟩


/-- what one control step finds: at most two finds that are not `EndTop`, then at most one more -/
def Finds (r : St × Bool × List LexT) : Prop := ∃ acc, acc.length ≤ 2 ∧ etFree acc = true ∧ Ext acc r

theorem Finds.lit {st : St} {u : Bool} {fs : List LexT} (h1 : fs.length ≤ 2) (h2 : etFree fs = true) :
    Finds (st, u, fs) := ⟨fs, h1, h2, Or.inl rfl⟩

theorem endValueStep_finds {a u : Bool} {stack : List LexT} {c : Cls} {r : St × Bool × List LexT}
    (h : endValueStep a stack u c = .ok r) : Finds r := by
  unfold endValueStep at h
  split at h
  · exact ⟨_, by decide, by decide, endTopStep_ext h⟩
  · split at h
    · exact ⟨_, by decide, by decide, endTopStep_ext h⟩
    · exact ⟨_, by decide, by decide, afterKeyStep_ext h⟩
    · exact ⟨_, by decide, by decide, afterValueStep_ext h⟩
    · exact ⟨_, by decide, by decide, afterItemStep_ext h⟩
    · cases h
  · exact ⟨_, by decide, by decide, afterKeyStep_ext h⟩
  · exact ⟨_, by decide, by decide, afterValueStep_ext h⟩
  · exact ⟨_, by decide, by decide, afterItemStep_ext h⟩
  · cases h

theorem withPrefix_small (p : LexT) (hp : (p != .endTop) = true) (b : BV) :
    (withPrefix p b).length ≤ 2 ∧ etFree (withPrefix p b) = true := by
  cases b <;> simp [withPrefix, etFree, hp]

theorem bind_ok {ε α β : Type} {x : Except ε α} {k : α → Except ε β} {r : β} (h : (x >>= k) = .ok r) :
    ∃ a, k a = .ok r := by
  cases x with
  | error e => cases h
  | ok a => exact ⟨a, h⟩

theorem step_finds {a u : Bool} {st : St} {stack : List LexT} {c : Cls} {r : St × Bool × List LexT}
    (h : step a st stack u c = .ok r) : Finds r := by
  cases st with
  | endValue => exact endValueStep_finds h
  | afterKey => exact ⟨_, by decide, by decide, afterKeyStep_ext h⟩
  | afterValue => exact ⟨_, by decide, by decide, afterValueStep_ext h⟩
  | afterItem => exact ⟨_, by decide, by decide, afterItemStep_ext h⟩
  | endTop => exact ⟨_, by decide, by decide, endTopStep_ext h⟩
  | foundRoot =>
    obtain ⟨⟨b, _, _⟩, hk⟩ := bind_ok h
    cases hk
    cases b <;> exact Finds.lit (by decide) (by decide)
  | objValue =>
    obtain ⟨x, hk⟩ := bind_ok h
    cases hk
    exact Finds.lit (withPrefix_small _ (by decide) _).1 (withPrefix_small _ (by decide) _).2
  | arrItem =>
    obtain ⟨x, hk⟩ := bind_ok h
    cases hk
    exact Finds.lit (withPrefix_small _ (by decide) _).1 (withPrefix_small _ (by decide) _).2
  | arrItemOrEmpty =>
    dsimp only [step] at h
    split at h
    · cases h; exact Finds.lit (by decide) (by decide)
    · obtain ⟨x, hk⟩ := bind_ok h
      cases hk
      exact Finds.lit (withPrefix_small _ (by decide) _).1 (withPrefix_small _ (by decide) _).2
  | d1 | d0 | dot0 | e0 =>
    -- a number ends at the first byte that cannot continue it: that byte is an end-of-value step
    dsimp only [step] at h
    split at h
    all_goals first
      | exact endValueStep_finds h
      | (cases h; exact Finds.lit (by decide) (by decide))
  | _ =>
    dsimp only [step] at h
    split at h <;> cases h <;> exact Finds.lit (by decide) (by decide)

theorem step_len {a u : Bool} {st : St} {stack : List LexT} {c : Cls} {r : St × Bool × List LexT}
    (h : step a st stack u c = .ok r) : r.2.2.length ≤ 3 := by
  obtain ⟨acc, h2, _, he | ⟨x, he, _⟩⟩ := step_finds h
  · rw [he]; omega
  · rw [he, List.length_append, List.length_singleton]; omega

/-! ### one found lexeme, the end of input -/

/-- `processingFoundLexeme` for the find `f`, here and in the whole-text model (`applyFindsS` at the same byte): `EndTop`
ends the stream; any other find is delivered with a new stack, or is a panic; the rest of the scanner is untouched -/
theorem processFound_cases (s : Scn) (f : LexT) :
    (f = .endTop ∧ processFound s f = (.eofLex ⟨.endTop, s.index - 1, s.index - 1⟩, s)) ∨
    (f ≠ .endTop ∧ ∃ S ev, processFound s f = (.lex ev, { s with stack := S }) ∧ ev.ty = f ∧ S.length ≤ s.stack.length + 1 ∧
      ∀ fs acc, applyFindsS (s.index - 1) s.stack (f :: fs) acc = applyFindsS (s.index - 1) S fs (ev :: acc)) ∨
    (f ≠ .endTop ∧ ∃ S w, processFound s f = (.crash w, { s with stack := S }) ∧ S.length ≤ s.stack.length ∧
      ∀ fs acc, applyFindsS (s.index - 1) s.stack (f :: fs) acc = .error (.crash w)) := by
  obtain ⟨st, stack, unf, finds, index, allow⟩ := s
  by_cases h1 : f = .endTop
  · subst h1; exact Or.inl ⟨rfl, rfl⟩
  refine Or.inr ?_
  have hb : (f == .endTop) = false := by simpa using h1
  by_cases h2 : f.isOpening = true
  · refine Or.inl ⟨h1, (f, index - 1) :: stack, ⟨f, index - 1, index - 1⟩, ?_, rfl, Nat.le_refl _, fun fs acc => ?_⟩
    · simp only [processFound, hb, h2, Bool.false_eq_true, ↓reduceIte]
    · simp only [applyFindsS, hb, h2, Bool.false_eq_true, ↓reduceIte]
  cases stack with
  | nil =>
    refine Or.inr ⟨h1, [], "Reading from empty stack", ?_, Nat.le_refl _, fun fs acc => ?_⟩
    · simp only [processFound, hb, h2, Bool.false_eq_true, ↓reduceIte]
    · simp only [applyFindsS, hb, h2, Bool.false_eq_true, ↓reduceIte]
  | cons pb rest =>
    obtain ⟨p, b⟩ := pb
    have hl : rest.length ≤ ((p, b) :: rest).length := Nat.le_succ _
    by_cases h3 : ((p == .objB && f == .objE) || (p == .arrB && f == .arrE)) = true
    · refine Or.inl ⟨h1, rest, ⟨f, b, index - 1⟩, ?_, rfl, Nat.le_succ_of_le hl, fun fs acc => ?_⟩
      · simp only [processFound, hb, h2, h3, Bool.false_eq_true, ↓reduceIte]
      · simp only [applyFindsS, hb, h2, h3, Bool.false_eq_true, ↓reduceIte]
    by_cases h4 : pairs p f = true
    · refine Or.inl ⟨h1, rest, ⟨f, b, index - 1 - 1⟩, ?_, rfl, Nat.le_succ_of_le hl, fun fs acc => ?_⟩
      · simp only [processFound, hb, h2, h3, h4, Bool.false_eq_true, ↓reduceIte]
      · simp only [applyFindsS, hb, h2, h3, h4, Bool.false_eq_true, ↓reduceIte]
    · refine Or.inr ⟨h1, rest, "Incorrect ending of the lexical event", ?_, hl, fun fs acc => ?_⟩
      · simp only [processFound, hb, h2, h3, h4, Bool.false_eq_true, ↓reduceIte]
      · simp only [applyFindsS, hb, h2, h3, h4, Bool.false_eq_true, ↓reduceIte]

/-- the same step read for the whole-text model alone -/
theorem applyFindsS_cons (i : Nat) (S : List (LexT × Nat)) {f : LexT} (hf : f ≠ .endTop) :
    (∃ S' ev, ∀ fs acc, applyFindsS i S (f :: fs) acc = applyFindsS i S' fs (ev :: acc)) ∨
    (∃ w, ∀ fs acc, applyFindsS i S (f :: fs) acc = .error (.crash w)) := by
  rcases processFound_cases { stack := S, index := i + 1 } f with ⟨h, _⟩ | ⟨_, S', ev, _, _, _, h⟩ | ⟨_, _, w, _, _, h⟩
  · exact absurd h hf
  · exact Or.inl ⟨S', ev, h⟩
  · exact Or.inr ⟨w, h⟩

/-- the part of `Next` behind the byte loop: nothing open is plain EOF; a finished literal on top is closed (its end is
the last byte); anything else open is "unexpected end" -/
theorem atEnd_cases (n : Nat) (s : Scn) :
    (s.stack = [] ∧ atEnd n s = (.eof, s)) ∨
    (∃ b rest, s.stack = (.litB, b) :: rest ∧ s.unf = false ∧
      atEnd n s = (.lex ⟨.litE, b, s.index - 1⟩, { s with index := s.index + 1, stack := rest })) ∨
    (∃ p b rest, s.stack = (p, b) :: rest ∧ (p == .litB && !s.unf) = false ∧
      atEnd n s = (.err 303 (n - 1), { s with index := s.index + 1 })) := by
  obtain ⟨st, stack, unf, finds, index, allow⟩ := s
  cases stack with
  | nil => exact Or.inl ⟨rfl, rfl⟩
  | cons pb rest =>
    obtain ⟨p, b⟩ := pb
    cases hc : (p == .litB && !unf) with
    | false => exact Or.inr (Or.inr ⟨p, b, rest, rfl, hc, by simp only [atEnd, hc, Bool.false_eq_true, ↓reduceIte]⟩)
    | true =>
      simp only [Bool.and_eq_true, beq_iff_eq, Bool.not_eq_true'] at hc
      obtain ⟨rfl, rfl⟩ := hc
      exact Or.inr (Or.inl ⟨b, rest, rfl, rfl, rfl⟩)

/-- what bounds the lexemes still to come: 7 per unread byte (a control step finds at most three lexemes), 2 per queued
lexeme, 1 per open container -/
def mu (n : Nat) (s : Scn) : Nat := 7 * (n - s.index) + 2 * s.finds.length + s.stack.length

theorem mu_processFound (n : Nat) (s : Scn) (f : LexT) :
    mu n (processFound s f).2 ≤ mu n s + 1 := by
  rcases processFound_cases s f with ⟨_, e⟩ | ⟨_, S, ev, e, _, hl, _⟩ | ⟨_, S, w, e, hl, _⟩
  · rw [e]; exact Nat.le_succ _
  · rw [e]; simp only [mu]; omega
  · rw [e]; simp only [mu]; omega

theorem atEnd_lex {n : Nat} {s : Scn} {e : Ev} (h : (atEnd n s).1 = .lex e) : mu n (atEnd n s).2 < mu n s := by
  rcases atEnd_cases n s with ⟨_, e1⟩ | ⟨b, rest, hs, _, e1⟩ | ⟨p, b, rest, _, _, e1⟩
  · rw [e1] at h; cases h
  · rw [e1]; simp only [mu, hs, List.length_cons]; omega
  · rw [e1] at h; cases h

/-- the byte loop of `Next` as a rule: `I` holds of the scanner as long as the bytes give no find, `Q` is shown of each
of its three ways out (end of input, a refused byte, the first find) -/
theorem scanLoop_rule {cls : List Cls} {I : Scn → Prop} {Q : NextRes × Scn → Prop}
    (hEnd : ∀ s, I s → cls.length ≤ s.index → Q (atEnd cls.length s))
    (hErr : ∀ s c e, I s → cls[s.index]? = some c → step s.allow s.st (s.stack.map (·.1)) s.unf c = .error e →
      Q (.err 301 s.index, { s with index := s.index + 1 }))
    (hNil : ∀ s c st' unf', I s → cls[s.index]? = some c →
      step s.allow s.st (s.stack.map (·.1)) s.unf c = .ok (st', unf', []) →
      I { s with index := s.index + 1, st := st', unf := unf' })
    (hFound : ∀ s c st' unf' f rest, I s → cls[s.index]? = some c →
      step s.allow s.st (s.stack.map (·.1)) s.unf c = .ok (st', unf', f :: rest) →
      Q (processFound { s with index := s.index + 1, st := st', unf := unf', finds := rest } f))
    (fuel : Nat) : ∀ s, cls.length - s.index ≤ fuel → I s → Q (scanLoop cls fuel s) := by
  induction fuel with
  | zero => intro s hfu hI; exact hEnd s hI (by omega)
  | succ fu ih =>
    intro s hfu hI
    simp only [scanLoop]
    cases hc : cls[s.index]? with
    | none => exact hEnd s hI (by simpa using hc)
    | some c =>
      have hlt : s.index < cls.length := (List.getElem?_eq_some_iff.mp hc).1
      simp only
      cases hst : step s.allow s.st (s.stack.map (·.1)) s.unf c with
      | error e => exact hErr s c e hI hc hst
      | ok r =>
        obtain ⟨st', unf', fs⟩ := r
        cases fs with
        | nil => exact ih _ (by simp only; omega) (hNil s c st' unf' hI hc hst)
        | cons f rest => exact hFound s c st' unf' f rest hI hc hst

theorem scanLoop_lex (cls : List Cls) {e : Ev} (fuel : Nat) (s0 : Scn) (hf : s0.finds = [])
    (hfu : cls.length - s0.index ≤ fuel) (h : (scanLoop cls fuel s0).1 = .lex e) :
    mu cls.length (scanLoop cls fuel s0).2 < mu cls.length s0 := by
  refine scanLoop_rule (I := fun s => s.finds = [] ∧ mu cls.length s ≤ mu cls.length s0)
    (Q := fun r => r.1 = .lex e → mu cls.length r.2 < mu cls.length s0) ?_ ?_ ?_ ?_ fuel s0 hfu ⟨hf, Nat.le_refl _⟩ h
  · intro s hI _ h
    exact Nat.lt_of_lt_of_le (atEnd_lex h) hI.2
  · intro s c e' _ _ _ h
    cases h
  · intro s c st' unf' hI _ _
    refine ⟨hI.1, Nat.le_trans ?_ hI.2⟩
    simp only [mu]
    omega
  · intro s c st' unf' f rest hI hc hst _
    have hlt : s.index < cls.length := (List.getElem?_eq_some_iff.mp hc).1
    have h3 : (f :: rest).length ≤ 3 := step_len hst
    have hm := mu_processFound cls.length { s with index := s.index + 1, st := st', unf := unf', finds := rest } f
    refine Nat.lt_of_lt_of_le (Nat.lt_of_le_of_lt hm ?_) hI.2
    simp only [mu, hI.1, List.length_nil, List.length_cons] at h3 ⊢
    omega

theorem next_lex {cls : List Cls} {s s' : Scn} {e : Ev} (h : s.next cls = (.lex e, s')) :
    mu cls.length s' < mu cls.length s := by
  have h1 : (s.next cls).1 = .lex e := by rw [h]
  have h2 : (s.next cls).2 = s' := by rw [h]
  rw [← h2]
  unfold Scn.next at h1 ⊢
  split at h1
  · rename_i f rest hf
    have hm := mu_processFound cls.length { s with finds := rest } f
    refine Nat.lt_of_le_of_lt hm ?_
    simp only [mu, hf, List.length_cons]
    omega
  · rename_i hf
    exact scanLoop_lex cls _ s hf (Nat.le_refl _) h1

end DocCursor
