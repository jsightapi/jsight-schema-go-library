import JSight.AnnotRun
/-!
Single-byte behaviour of the schema scanner model inside an annotation, at configurations `cfgG lc a q …` (`AnnotStep`)
where the flag `q` (`boundaryQuote`) matters or a value is involved: the first byte of a rule name, bare or quoted, and
what ends a quoted one; the first byte of a literal and the byte behind a value, stated once for a rule value and a
list item (`ck : CK`) under either kind of name. A quoted rule name `"name"` sets the flag and nothing clears it
before the next BARE name begins, so every state behind a quoted name (blanks, the value, the end of the object, the
tail of the annotation, the white space behind it) carries `q = true`. `dispatch` reads the flag in the three states
of a rule name only (`.annKeyFirst`, `.annKey`, `.annKeyAfter`).
-/
namespace SchemaScan

variable {lc : Bool}

theorem cfgQ_false (a : Ann) (st : St) (ret : List St) (K : List (LexT × Nat)) (u : Bool) (i : Nat) (CS : List Ctx)
    (cx : Ctx) (al : Bool) : cfgQ a false st ret K u i CS cx al = cfgA a st ret K u i CS cx al := rfl

/-! ### rule names -/

/-- first byte of a BARE rule name: the flag is cleared -/
theorem akey_firstQ (f : Nat) (q : Bool) (a : Ann) (ha : a.isAnn = true) (st : St) (h : keySt st = true) (c : Cls)
    (hc : c.isName = true) (r : List St)
    (K : List (LexT × Nat)) (i : Nat) (CS : List Ctx) (cx : Ctx) (al : Bool) (p1 p2 : Option Cls) :
    dispatch (f + 1) st (cfgG lc a q st r K false i CS cx al) c p1 p2
      = .ok { cfgG lc a false .annKey r K false i CS cx al with finds := [.keyB] } :=
  step_akey_first f a ha st h c hc (cfgG lc a q st r K false i CS cx al) rfl p1 p2

/-- the opening quote of a QUOTED rule name: the flag is set, the string automaton takes over -/
theorem akey_quoteQ (f : Nat) (q : Bool) (a : Ann) (ha : a.isAnn = true) (st : St) (h : keySt st = true) (r : List St)
    (K : List (LexT × Nat)) (i : Nat) (CS : List Ctx) (cx : Ctx) (al : Bool) (p1 p2 : Option Cls) :
    dispatch (f + 1) st (cfgG lc a q st r K false i CS cx al) .quote p1 p2
      = .ok { cfgG lc a true .inString r K false i CS cx al with finds := [.keyB] } := by
  cases a <;> cases ha <;> cases st <;> cases h <;>
    (unfold dispatch; unfold beginAnnKeyOrEmpty; rfl)

/-- `:` directly behind the closing quote of a rule name: the key ends at the quote. The fuel is `f + 3` in this and the
next lemma because the byte goes through two nested calls: `dispatch` at `.endValue` calls `endValue`, which closes the key
and calls `dispatch` again, on the same byte, in the state behind the key -/
theorem qkey_colon (f : Nat) (q : Bool) (a : Ann) (r : List St) (p : Nat)
    (K : List (LexT × Nat)) (i : Nat) (CS : List Ctx) (cx : Ctx) (al : Bool) (p1 p2 : Option Cls) :
    dispatch (f + 3) .endValue (cfgG lc a q .endValue r ((.keyB, p) :: K) false i CS cx al) .colon p1 p2
      = .ok { cfgG lc a q .objValue r ((.keyB, p) :: K) false i CS cx al with finds := [.keyE] } := by
  rw [dispatch_endValue]
  exact endValue_key_colon (f + 1) (cfgG lc a q .endValue r ((.keyB, p) :: K) false i CS cx al) p K rfl p1 p2

/-- a space behind the closing quote of a rule name: the key ends at the quote -/
theorem qkey_sp (f : Nat) (q : Bool) (a : Ann) (r : List St) (p : Nat)
    (K : List (LexT × Nat)) (i : Nat) (CS : List Ctx) (cx : Ctx) (al : Bool) (p1 p2 : Option Cls) :
    dispatch (f + 3) .endValue (cfgG lc a q .endValue r ((.keyB, p) :: K) false i CS cx al) .sp p1 p2
      = .ok { cfgG lc a q .afterKey r ((.keyB, p) :: K) false i CS cx al with finds := [.keyE] } := by
  rw [dispatch_endValue,
    endValue_close (f + 2) false .key 0 p K (cfgG lc a q .endValue r ((.keyB, p) :: K) false i CS cx al) rfl,
    show CK.key.aft = .afterKey from rfl, dispatch_afterKey]
  cases a <;> rfl

/-- spaces between a rule name and its `:` -/
theorem afterKey_spQ (f : Nat) (q : Bool) (a : Ann) (r : List St)
    (K : List (LexT × Nat)) (i : Nat) (CS : List Ctx) (cx : Ctx) (al : Bool) (p1 p2 : Option Cls) :
    dispatch (f + 1) .afterKey (cfgG lc a q .afterKey r K false i CS cx al) .sp p1 p2
      = .ok (cfgG lc a q .afterKey r K false i CS cx al) := by
  cases a <;> (unfold dispatch; rfl)

/-- the `:` behind those spaces -/
theorem afterKey_colonQ (f : Nat) (q : Bool) (a : Ann) (r : List St)
    (K : List (LexT × Nat)) (i : Nat) (CS : List Ctx) (cx : Ctx) (al : Bool) (p1 p2 : Option Cls) :
    dispatch (f + 1) .afterKey (cfgG lc a q .afterKey r K false i CS cx al) .colon p1 p2
      = .ok (cfgG lc a q .objValue r K false i CS cx al) := by
  cases a <;> (unfold dispatch; rfl)

/-! ### where a rule value (`ck = .val`) or a list item (`ck = .item`) begins -/

/-- the states of an array that look for the next item -/
def itemSt : St → Bool | .arrItemOrEmpty | .arrItem => true | _ => false

/-- the states in which an entry of kind `ck` begins -/
def CK.opens : CK → St → Bool
  | .val, st => st == .objValue
  | .item, st => itemSt st
  | .key, _ => false

/-- what the run lemmas need of such a state: blanks are skipped there (`aLoop`) and leave it as it is (`wsSt_eq`
asks `st ≠ .objKey`) -/
theorem CK.opens_facts {ck : CK} {st : St} (h : ck.opens st = true) (a : Ann) :
    ck ≠ .key ∧ aLoop a st = true ∧ st ≠ .objKey := by
  cases ck with
  | key => cases h
  | val => obtain rfl : st = .objValue := eq_of_beq h; exact ⟨by simp, rfl, by simp⟩
  | item => cases st <;> cases h <;> exact ⟨by simp, rfl, by simp⟩

theorem CK.val_or_item {ck : CK} (h : ck ≠ .key) : ck = .val ∨ ck = .item := by cases ck <;> simp at h ⊢

/-- first byte of a literal there (`litStart c`: the state it leads to, and whether the literal is unfinished behind it) -/
theorem start_litQ (f : Nat) (q : Bool) (a : Ann) (ha : a.isAnn = true) (ck : CK) (st : St) (h : ck.opens st = true)
    (c : Cls) (st0 : St) (u0 : Bool) (hl : litStart c = some (st0, u0)) (r : List St)
    (K : List (LexT × Nat)) (i : Nat) (CS : List Ctx) (cx : Ctx) (al : Bool) (p1 p2 : Option Cls) :
    dispatch (f + 1) st (cfgG lc a q st r K false i CS cx al) c p1 p2
      = .ok { cfgG lc a q st0 r K u0 i CS cx al with finds := [ck.B, .litB] } := by
  cases ck with
  | key => cases h
  | val => obtain rfl : st = .objValue := eq_of_beq h; cases c <;> cases hl <;> cases a <;> (unfold dispatch; rfl)
  | item => cases a <;> cases ha <;> cases st <;> cases h <;> cases c <;> cases hl <;> (unfold dispatch; rfl)

/-! ### behind a rule value (`ck = .val`) or a list item (`ck = .item`), literal (`lit`) or list -/

/-- the byte behind it: `endValue` queues the closing lexemes and hands the byte on to the state behind the entry -/
theorem ev_closeQ (f : Nat) (q : Bool) (a : Ann) (st : St) (r : List St) (lit : Bool) (ck : CK) (b b2 : Nat)
    (R : List (LexT × Nat)) (i : Nat) (CS : List Ctx) (cx : Ctx) (al : Bool) (c : Cls) (p1 p2 : Option Cls) :
    endValue f (cfgG lc a q st r (pendOf lit b ++ (ck.B, b2) :: R) false i CS cx al) c p1 p2
      = dispatch f ck.aft
          { cfgG lc a q ck.aft r (pendOf lit b ++ (ck.B, b2) :: R) false i CS cx al with finds := closeTys lit ck } c p1 p2 := by
  cases lit <;> cases ck <;> (unfold endValue dispatch'; rfl)

/-- a space or tab in the state behind the entry: nothing changes, the queued closing lexemes `fs` stay queued. At
`fs = []` this is `aloop_spQ` (and `aft_nlQ` is `aloop_nlQ`); the queue is why they are lemmas of their own. -/
theorem aft_spQ (f : Nat) (q : Bool) (a : Ann) (ck : CK) (hck : ck ≠ .key) (c : Cls) (hc : c.isSpTab = true) (r : List St)
    (K : List (LexT × Nat)) (i : Nat) (CS : List Ctx) (cx : Ctx) (al : Bool) (fs : List LexT) (p1 p2 : Option Cls) :
    dispatch (f + 1) ck.aft { cfgG lc a q ck.aft r K false i CS cx al with finds := fs } c p1 p2
      = .ok { cfgG lc a q ck.aft r K false i CS cx al with finds := fs } := by
  rcases CK.val_or_item hck with rfl | rfl <;> cases c <;> cases hc <;> cases a <;> (unfold dispatch; rfl)

/-- a line break there (multi-line form only): `.newLine` is queued behind `fs` -/
theorem aft_nlQ (f : Nat) (q : Bool) (ck : CK) (hck : ck ≠ .key) (r : List St)
    (K : List (LexT × Nat)) (i : Nat) (CS : List Ctx) (cx : Ctx) (al : Bool) (fs : List LexT) (p1 p2 : Option Cls) :
    dispatch (f + 1) ck.aft { cfgG lc .multi q ck.aft r K false i CS cx al with finds := fs } .nl p1 p2
      = .ok { cfgG lc .multi q ck.aft r K false i CS cx al with finds := fs ++ [.newLine] } := by
  rcases CK.val_or_item hck with rfl | rfl <;> (unfold dispatch; rfl)

/-- the comma there: the next rule name or item is awaited (`ck.nxt`), `fs` stays queued -/
theorem aft_commaQ (f : Nat) (q : Bool) (a : Ann) (ck : CK) (hck : ck ≠ .key) (r : List St)
    (K : List (LexT × Nat)) (i : Nat) (CS : List Ctx) (cx : Ctx) (al : Bool) (fs : List LexT) (p1 p2 : Option Cls) :
    dispatch (f + 1) ck.aft { cfgG lc a q ck.aft r K false i CS cx al with finds := fs } .comma p1 p2
      = .ok { cfgG lc a q ck.nxt r K false i CS cx al with finds := fs } := by
  rcases CK.val_or_item hck with rfl | rfl <;> cases a <;> (unfold dispatch; rfl)

/-- the `}` of the rule object behind a rule value: `.objE` is queued behind the closing lexemes of the value, the
context is popped -/
theorem aft_rbraceQ (f : Nat) (q : Bool) (a : Ann) (ha : a.isAnn = true) (r : List St) (lit : Bool) (b b2 o y : Nat)
    (R : List (LexT × Nat)) (i : Nat) (c0 : Ctx) (CS : List Ctx) (cx : Ctx) (al : Bool) (p1 p2 : Option Cls) :
    dispatch (f + 1) .afterValue
        { cfgG lc a q .afterValue r (pendOf lit b ++ (.valB, b2) :: (.objB, o) :: (a.B, y) :: R) false i (c0 :: CS) cx al with
          finds := closeTys lit .val } .rbrace p1 p2
      = .ok { cfgG lc a q a.prefixSt r (pendOf lit b ++ (.valB, b2) :: (.objB, o) :: (a.B, y) :: R) false i CS c0 al with
          finds := closeTys lit .val ++ [.objE] } := by
  cases lit <;> cases a <;> cases ha <;> (unfold dispatch; rfl)

/-- the `]` of the list behind an item: `.arrE` is queued behind `fs`, the context is popped, the list is a value
that has ended (`.endValue`) -/
theorem aft_rbrackQ (f : Nat) (q : Bool) (a : Ann) (ha : a.isAnn = true) (r : List St) (x : LexT × Nat)
    (K : List (LexT × Nat)) (i : Nat) (c0 : Ctx) (CS : List Ctx) (cx : Ctx) (al : Bool) (fs : List LexT) (p1 p2 : Option Cls) :
    dispatch (f + 1) .afterItem { cfgG lc a q .afterItem r (x :: K) false i (c0 :: CS) cx al with finds := fs } .rbrack p1 p2
      = .ok { cfgG lc a q .endValue r (x :: K) false i CS c0 al with finds := fs ++ [.arrE] } := by
  cases a <;> cases ha <;> (unfold dispatch; rfl)

/-! ### behind the annotation -/

/-- a space or tab behind the annotation (the annotation mode is `.none` again) -/
theorem top_spQ (f : Nat) (q : Bool) (c : Cls) (hc : c.isSpTab = true)
    (K : List (LexT × Nat)) (i : Nat) (CS : List Ctx) (cx : Ctx) (al : Bool) (p1 p2 : Option Cls) :
    dispatch (f + 1) .endTop (cfgG lc .none q .endTop [] K false i CS cx al) c p1 p2
      = .ok (cfgG lc .none q .endTop [] K false i CS cx al) := by
  cases c <;> cases hc <;> (unfold dispatch; rfl)

/-- a line break behind the annotation -/
theorem top_nlQ (f : Nat) (q : Bool)
    (K : List (LexT × Nat)) (i : Nat) (CS : List Ctx) (cx : Ctx) (al : Bool) (p1 p2 : Option Cls) :
    dispatch (f + 1) .endTop (cfgG lc .none q .endTop [] K false i CS cx al) .nl p1 p2
      = .ok { cfgG lc .none q .endTop [] K false i CS cx al with finds := [.newLine] } := by
  unfold dispatch; rfl

end SchemaScan
