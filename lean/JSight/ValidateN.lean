/-
C03: validation with alternatives (type lists, `or`, nullable) as a machine with
*independent* leaves, against the union semantics.  Literal validation is a parameter.
-/
namespace VN

variable {L D : Type}

inductive J (D : Type)
  | lit (d : D)
  | arr (xs : List (J D))
  | obj (ms : List (String × J D))

inductive S (L : Type)
  | lit (l : L)
  | any
  | arr (items : List (S L))
  | obj (props : List (String × Bool × S L))
  | alt (alts : List (S L))          -- union of alternatives (expanded type list, nullable, or)

inductive Ev (D : Type)
  | litB | litE (d : D) | objB | objE | keyB | keyE (k : String) | valB | valE | arrB | arrE | itemB | itemE

def Ev.isOpening : Ev D → Bool
  | .litB | .objB | .keyB | .valB | .arrB | .itemB => true
  | _ => false

mutual
def evs : J D → List (Ev D)
  | .lit d => [.litB, .litE d]
  | .arr xs => .arrB :: (evsItems xs ++ [.arrE])
  | .obj ms => .objB :: (evsMembers ms ++ [.objE])
def evsItems : List (J D) → List (Ev D)
  | [] => []
  | x :: xs => .itemB :: (evs x ++ .itemE :: evsItems xs)
def evsMembers : List (String × J D) → List (Ev D)
  | [] => []
  | (k, v) :: ms => .keyB :: .keyE k :: .valB :: (evs v ++ .valE :: evsMembers ms)
end

inductive Frame (L : Type)
  | lit (l : L)
  | any (depth : Nat)
  | arr (items : List (S L)) (count : Nat)
  | obj (props : List (String × Bool × S L)) (req : List String) (last : Option String)

def requiredKeys (props : List (String × Bool × S L)) : List String :=
  (props.filter (fun p => p.2.1)).map (·.1)

mutual
/-- `NodeValidatorList`: one validator per alternative -/
def heads : S L → List (Frame L)
  | .lit l => [.lit l]
  | .any => [.any 0]
  | .arr items => [.arr items 0]
  | .obj props => [.obj props (requiredKeys props) none]
  | .alt alts => headsList alts
def headsList : List (S L) → List (Frame L)
  | [] => []
  | a :: as => heads a ++ headsList as
end

def childAt (items : List (S L)) (i : Nat) : Option (S L) :=
  match items with
  | [] => none
  | _ => items[min i (items.length - 1)]?

def lookup (props : List (String × Bool × S L)) (k : String) : Option (S L) :=
  (props.find? (fun p => p.1 == k)).map (·.2.2)

/-- feed one event to one leaf; the result is the list of leaves that replace it ([] = this leaf failed) -/
def feed (litOK : L → D → Bool) : List (Frame L) → Ev D → List (List (Frame L))
  | [], _ => []
  | .lit l :: K, e =>
    match e with
    | .litB => [.lit l :: K]
    | .litE d => if litOK l d then [K] else []
    | _ => []
  | .any d :: K, e =>
    let d' := if e.isOpening then d + 1 else d - 1
    if d' == 0 then [K] else [.any d' :: K]
  | .arr items c :: K, e =>
    match e with
    | .arrB | .itemE => [.arr items c :: K]
    | .itemB => match childAt items c with
      | some s => (heads s).map (fun h => h :: .arr items (c + 1) :: K)
      | none => []
    | .arrE => [K]
    | _ => []
  | .obj props req last :: K, e =>
    match e with
    | .objB | .keyB | .valE => [.obj props req last :: K]
    | .keyE k => [.obj props (req.filter (· != k)) (some k) :: K]
    | .valB => match last with
      | some k => match lookup props k with
        | some s => (heads s).map (fun h => h :: .obj props req last :: K)
        | none => []
      | none => []
    | .objE => if req.isEmpty then [K] else []
    | _ => []

/-- all leaves reachable from one leaf -/
def run (litOK : L → D → Bool) : List (Frame L) → List (Ev D) → List (List (Frame L))
  | K, [] => [K]
  | K, e :: es => (feed litOK K e).flatMap (fun K' => run litOK K' es)

/-- `Validate`: some alternative consumes the whole document -/
def validate (litOK : L → D → Bool) (s : S L) (d : J D) : Bool :=
  ((heads s).flatMap (fun h => run litOK [h] (evs d))).any (·.isEmpty)

mutual
def shape (litOK : L → D → Bool) : S L → J D → Bool
  | .any, _ => true
  | .lit l, .lit d => litOK l d
  | .lit _, _ => false
  | .arr items, .arr xs => shapeItems litOK items 0 xs
  | .arr _, _ => false
  | .obj props, .obj ms => shapeMembers litOK props ms && (requiredKeys props).all (fun k => ms.any (fun m => m.1 == k))
  | .obj _, _ => false
  | .alt alts, d => shapeAlts litOK alts d
def shapeAlts (litOK : L → D → Bool) : List (S L) → J D → Bool
  | [], _ => false
  | a :: as, d => shape litOK a d || shapeAlts litOK as d
def shapeItems (litOK : L → D → Bool) : List (S L) → Nat → List (J D) → Bool
  | _, _, [] => true
  | items, i, x :: xs => (match childAt items i with
      | some s => shape litOK s x
      | none => false) && shapeItems litOK items (i + 1) xs
def shapeMembers (litOK : L → D → Bool) : List (String × Bool × S L) → List (String × J D) → Bool
  | _, [] => true
  | props, (k, v) :: ms => (match lookup props k with
      | some s => shape litOK s v
      | none => false) && shapeMembers litOK props ms
end

end VN
