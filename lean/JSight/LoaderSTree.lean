import JSight.LoaderTree
import JSight.ShortcutTreeDoc
/-!
C09 / C16 (loader part) for trees whose leaves are scalars or TYPE SHORTCUTS (`SchemaScan.STree`): the loader model
builds one node per value of the text in pre-order — `LoaderS.nodesOf` —: a shortcut leaf becomes a `mixed` node whose
value span is the `mixed-value-end` lexeme and whose only rule is the synthesised `type` (for `@A`) / `or` (for
`@A | @B`) with the shortcut's span as its value (`Loader.shortNode`). The file holds the expected table (`nodesOf` with
`nodeCount`, `idxItems`, `keysMembers` …, the definitions of `LoaderTree` on the other tree type), the hypothesis
`KeysDistinct` (distinct keys per object, and for a shortcut leaf that `|` occurs in its text exactly when it has
alternatives), that the events of a tree are the events of a value (`value_spec`: one more case than in `LoaderTree`,
`Value.short`), and `loadText_mirrors_stree`.
-/
namespace LoaderS
open Loader
open SchemaScan (Ev Cls STree nlEvs sEvsAt sEvsItems sEvsMembers)

/-- the rule a shortcut gets: `type` for `@A`, `or` for `@A | @B | …` -/
def ruleOf (sc : SchemaScan.Len.Shortcut) : String := if sc.alts.isEmpty then "type" else "or"

abbrev Item := List Cls × STree × List Cls
abbrev Member := List Cls × List Cls × List Cls × List Cls × STree × List Cls

/-! ### the expected node table -/

mutual
/-- number of values (= nodes) of a tree -/
def nodeCount : STree → Nat
  | .scalar _ => 1
  | .short _ _ => 1
  | .arr _ its => 1 + countItems its
  | .obj _ ms => 1 + countMembers ms
def countItems : List Item → Nat
  | [] => 0
  | (_, v, _) :: its => nodeCount v + countItems its
def countMembers : List Member → Nat
  | [] => 0
  | (_, _, _, _, v, _) :: ms => nodeCount v + countMembers ms
end

/-- node indices of the items when the first item gets index `n` -/
def idxItems : Nat → List Item → List Nat
  | _, [] => []
  | n, (_, v, _) :: its => n :: idxItems (n + nodeCount v) its

def idxMembers : Nat → List Member → List Nat
  | _, [] => []
  | n, (_, _, _, _, v, _) :: ms => n :: idxMembers (n + nodeCount v) ms

/-- offset of the next member / the closing brace -/
def nextMember (o : Nat) (w1 k w2 w3 : List Cls) (v : STree) (w4 : List Cls) (ms : List Member) : Nat :=
  valOff o w1 k w2 w3 + v.render.length + w4.length + (if ms.isEmpty then 0 else 1)

def nextItem (o : Nat) (w1 : List Cls) (v : STree) (w2 : List Cls) (its : List Item) : Nat :=
  o + w1.length + v.render.length + w2.length + (if its.isEmpty then 0 else 1)

/-- the key entries of an object whose first member (with its leading white space) starts at `o`:
span of each key token, not a shortcut -/
def keysMembers : Nat → List Member → List (Nat × Nat × Bool)
  | _, [] => []
  | o, (w1, k, w2, w3, v, w4) :: ms =>
    (o + w1.length, o + w1.length + k.length - 1, false) :: keysMembers (nextMember o w1 k w2 w3 v w4 ms) ms

mutual
/-- the node table of `v` rendered at offset `o`: pre-order, the root of `v` at index `n` with parent `parent` -/
def nodesOf (parent : Option Nat) : Nat → Nat → STree → List Node
  | _, o, .scalar tok => [{ kind := .lit, parent := parent, value := some (o, o + tok.length - 1) }]
  | _, o, .short sc sps =>
    [shortNode parent o (o + (sc.render ++ sps).length - 1)
      (SchemaScan.mixEndOf (o + (sc.render ++ sps).length - 1) (sc.render ++ sps)) (ruleOf sc)]
  | n, o, .arr ws0 its =>
    { kind := .arr, parent := parent, children := idxItems (n + 1) its } ::
      nodesItems n (n + 1) (o + 1 + ws0.length) its
  | n, o, .obj ws0 ms =>
    { kind := .obj, parent := parent, children := idxMembers (n + 1) ms,
      keys := keysMembers (o + 1 + ws0.length) ms } ::
      nodesMembers n (n + 1) (o + 1 + ws0.length) ms
/-- nodes of the items of the array node `a`; first free index `n`, items start at offset `o` -/
def nodesItems (a : Nat) : Nat → Nat → List Item → List Node
  | _, _, [] => []
  | n, o, (w1, v, w2) :: its =>
    nodesOf (some a) n (o + w1.length) v ++ nodesItems a (n + nodeCount v) (nextItem o w1 v w2 its) its
def nodesMembers (a : Nat) : Nat → Nat → List Member → List Node
  | _, _, [] => []
  | n, o, (w1, k, w2, w3, v, w4) :: ms =>
    nodesOf (some a) n (valOff o w1 k w2 w3) v ++
      nodesMembers a (n + nodeCount v) (nextMember o w1 k w2 w3 v w4 ms) ms
end

mutual
/-- the keys of every object are pairwise distinct after decoding, in the loader's own terms (`keyText`), and the text of
every shortcut leaf holds `|` exactly when the leaf has alternatives (`hasPipe`) -/
def KeysDistinct (src : Array UInt8) : Nat → STree → Prop
  | _, .scalar _ => True
  | o, .short sc sps => hasPipe (slice src o (o + (sc.render ++ sps).length - 1)) = !sc.alts.isEmpty
  | o, .arr ws0 its => DistinctItems src (o + 1 + ws0.length) its
  | o, .obj ws0 ms =>
    ((keysMembers (o + 1 + ws0.length) ms).map (keyText src)).Nodup ∧ DistinctMembers src (o + 1 + ws0.length) ms
def DistinctItems (src : Array UInt8) : Nat → List Item → Prop
  | _, [] => True
  | o, (w1, v, w2) :: its => KeysDistinct src (o + w1.length) v ∧ DistinctItems src (nextItem o w1 v w2 its) its
def DistinctMembers (src : Array UInt8) : Nat → List Member → Prop
  | _, [] => True
  | o, (w1, k, w2, w3, v, w4) :: ms =>
    KeysDistinct src (valOff o w1 k w2 w3) v ∧ DistinctMembers src (nextMember o w1 k w2 w3 v w4 ms) ms
end

mutual
theorem nodesOf_length (parent : Option Nat) : (v : STree) → (n o : Nat) → (nodesOf parent n o v).length = nodeCount v
  | .scalar _, _, _ => by simp [nodesOf, nodeCount]
  | .short _ _, _, _ => by simp [nodesOf, nodeCount]
  | .arr ws0 its, n, o => by
    simp only [nodesOf, nodeCount, List.length_cons, nodesItems_length n its]; omega
  | .obj ws0 ms, n, o => by
    simp only [nodesOf, nodeCount, List.length_cons, nodesMembers_length n ms]; omega
theorem nodesItems_length (a : Nat) : (its : List Item) → (n o : Nat) → (nodesItems a n o its).length = countItems its
  | [], _, _ => by simp [nodesItems, countItems]
  | (w1, v, w2) :: its, n, o => by
    simp only [nodesItems, countItems, List.length_append, nodesOf_length (some a) v, nodesItems_length a its]
theorem nodesMembers_length (a : Nat) : (ms : List Member) → (n o : Nat) →
    (nodesMembers a n o ms).length = countMembers ms
  | [], _, _ => by simp [nodesMembers, countMembers]
  | (w1, k, w2, w3, v, w4) :: ms, n, o => by
    simp only [nodesMembers, countMembers, List.length_append, nodesOf_length (some a) v, nodesMembers_length a ms]
end

/-! ### the events of a tree are the events of a value (`Loader.Value`) with table `nodesOf` -/

mutual
theorem value_spec (src : Array UInt8) : (v : STree) → (o : Nat) → KeysDistinct src o v →
    Value src (sEvsAt o v) (fun par n => nodesOf par n o v)
  | .scalar tok, o, _ => Value.lit o o o (o + tok.length - 1)
  | .short sc sps, o, hd => by
    have hd' : hasPipe (slice src o (o + (sc.render ++ sps).length - 1)) = !sc.alts.isEmpty := by
      simpa [KeysDistinct] using hd
    refine (Value.short o _ _).cast rfl fun par _ => ?_
    simp only [nodesOf, shortRule, ruleOf, hd']
    cases sc.alts.isEmpty <;> rfl
  | .arr ws0 its, o, hd => by
    simp only [sEvsAt, nodesOf]
    exact Items.value _ rfl (nl_nlEvs ws0 (o + 1)) (items_spec src its o (o + 1 + ws0.length) (by simpa [KeysDistinct] using hd))
  | .obj ws0 ms, o, hd => by
    obtain ⟨hk, hd'⟩ : ((keysMembers (o + 1 + ws0.length) ms).map (keyText src)).Nodup ∧
        DistinctMembers src (o + 1 + ws0.length) ms := by simpa [KeysDistinct] using hd
    simp only [sEvsAt, nodesOf]
    exact Members.value _ rfl (nl_nlEvs ws0 (o + 1)) (members_spec src ms o (o + 1 + ws0.length) hd') hk
theorem items_spec (src : Array UInt8) : (its : List Item) → (x o : Nat) → DistinctItems src o its →
    Items src (sEvsItems x o its) (fun n => idxItems n its) (fun a n => nodesItems a n o its)
  | [], x, o, _ => Items.nil x o
  | (w1, v, w2) :: its, x, o, hd => by
    obtain ⟨hdv, hdi⟩ : KeysDistinct src (o + w1.length) v ∧ DistinctItems src (nextItem o w1 v w2 its) its := by
      simpa [DistinctItems] using hd
    simp only [sEvsItems, idxItems, nodesItems]
    exact Items.cons (c := nodeCount v) (cn := fun par n => nodesOf par n _ v) (idx := fun n => idxItems n its) (nodes := fun a n => nodesItems a n _ its) _ _ _ _ (nl_nlEvs w1 o) (value_spec src v (o + w1.length) hdv)
      (fun par n => nodesOf_length par v n _) (nl_nlEvs w2 _) (items_spec src its x (nextItem o w1 v w2 its) hdi)
theorem members_spec (src : Array UInt8) : (ms : List Member) → (x o : Nat) → DistinctMembers src o ms →
    Members src (sEvsMembers x o ms) (fun n => idxMembers n ms) (keysMembers o ms) (fun a n => nodesMembers a n o ms)
  | [], x, o, _ => Members.nil x o
  | (w1, k, w2, w3, v, w4) :: ms, x, o, hd => by
    obtain ⟨hdv, hdi⟩ : KeysDistinct src (valOff o w1 k w2 w3) v ∧
        DistinctMembers src (nextMember o w1 k w2 w3 v w4 ms) ms := by
      simpa [DistinctMembers] using hd
    simp only [sEvsMembers, idxMembers, keysMembers, nodesMembers]
    exact Members.cons (c := nodeCount v) (cn := fun par n => nodesOf par n _ v) (idx := fun n => idxMembers n ms) (nodes := fun a n => nodesMembers a n _ ms) _ _ _ _ _ _ _ _ (nl_nlEvs w1 o) (nl_nlEvs w2 _) (nl_nlEvs w3 _)
      (value_spec src v (valOff o w1 k w2 w3) hdv) (fun par n => nodesOf_length par v n _) (nl_nlEvs w4 _)
      (members_spec src ms x (nextMember o w1 k w2 w3 v w4 ms) hdi)
end

/-- the events of a value, from the array / object `a` that waits for it -/
theorem child_run (src : Array UInt8) : (v : STree) → (a : Nat) → (nw : Node) → (L : List Node) → (o : Nat) →
    (r : Option Nat) → L[a]? = some nw → (nw.kind = .arr ∨ nw.kind = .obj) → nw.waiting = true →
    KeysDistinct src o v →
    Run src (sEvsAt o v) L (some a) r
      (L.set a { nw with waiting := false, children := nw.children ++ [L.length] } ++ nodesOf (some a) L.length o v)
      (some a) r :=
  fun v a nw L o r hn hk hw hd => (value_spec src v o hd).child a nw L r hn hk hw

theorem items_run (src : Array UInt8) : (its : List Item) → (x a : Nat) → (na : Node) → (L : List Node) → (o : Nat) →
    (r : Option Nat) → L[a]? = some na → na.kind = .arr → na.waiting = false → DistinctItems src o its →
    Run src (sEvsItems x o its) L (some a) r
      (L.set a { na with children := na.children ++ idxItems L.length its } ++ nodesItems a L.length o its)
      na.parent r :=
  fun its x a na L o r hn hk hw hd => items_spec src its x o hd a na L r hn hk hw

theorem members_run (src : Array UInt8) : (ms : List Member) → (x a : Nat) → (na : Node) → (L : List Node) →
    (o : Nat) → (r : Option Nat) → L[a]? = some na → na.kind = .obj → na.waiting = false →
    ((na.keys ++ keysMembers o ms).map (keyText src)).Nodup → DistinctMembers src o ms →
    Run src (sEvsMembers x o ms) L (some a) r
      (L.set a { na with children := na.children ++ idxMembers L.length ms, keys := na.keys ++ keysMembers o ms }
        ++ nodesMembers a L.length o ms)
      na.parent r :=
  fun ms x a na L o r hn hk hw hnd hd => members_spec src ms x o hd a na L r hn hk hw hnd

/-! ### the whole document -/

theorem doc_run (src : Array UInt8) (v : STree) (ws0 ws1 : List Cls) (hd : KeysDistinct src ws0.length v) :
    Run src (nlEvs 0 ws0 ++ (sEvsAt ws0.length v ++ nlEvs (ws0.length + v.render.length) ws1))
      [] none none (nodesOf none 0 ws0.length v) none (some 0) :=
  (value_spec src v ws0.length hd).doc (nl_nlEvs ws0 0) (nl_nlEvs ws1 _)

/-- **C16 (loader), trees with shortcut leaves, interleaved form**: `loadText` — `Scanner.Next()` and the loader step
by step — on the rendering of a valid tree whose leaves are scalars or type shortcuts builds exactly `nodesOf`. -/
theorem loadText_mirrors_stree (v : STree) (hv : v.Valid) (ws0 ws1 : List Cls)
    (h0 : SchemaScan.IsWs ws0) (h1 : SchemaScan.IsWs ws1) (hf : SchemaScan.Follow v ws1)
    (bs : List UInt8) (hbs : bs.map SchemaScan.classify = ws0 ++ (v.render ++ ws1))
    (hd : KeysDistinct bs.toArray ws0.length v) :
    ∃ st, loadText bs = .ok st ∧ st.root = some 0 ∧ st.nodes.toList = nodesOf none 0 ws0.length v := by
  obtain ⟨st, h, hn, hl, hr, _⟩ := doc_run bs.toArray v ws0 ws1 hd {} core_init
  exact ⟨st, loadText_of_emits hbs (SchemaScan.Len.emits_of_stree v hv ws0 ws1 h0 h1 hf) h, hr, hn⟩

#print axioms loadText_mirrors_stree

end LoaderS
