import JSight.SchemaLenTokEv
import JSight.AnnTreeLoad
import JSight.AnnotThm
/-!
C13, annotated trees: scanner model + loader model on the text of an accepted token list (inline and multi-line
annotations anywhere the token-level scanner takes them): `loadText` is the loader folded over the token-level events;
the definitions with which the effect of one annotation is stated (`addAnn`, `annBody`, `mlOf`, `inlOf`; the theorems are in
`AnnTreeEffect`).
-/
namespace Loader
open SchemaScan (Ev classify)
open SchemaScan.Len (ATok TC arun renderAToks Complete endClosers)

/-- **the text of any accepted token list loads as the fold of the loader over its token-level events** -/
theorem loadText_atoks (toks : List ATok) (hw : ∀ t ∈ toks, t.WF) (c' : TC) (evs : List Ev)
    (h : arun TC.init toks = some (c', evs)) (hend : Complete c')
    (bs : List UInt8) (hbs : bs.map classify = renderAToks toks) (st : St)
    (hl : load bs.toArray (evs ++ endClosers c') = .ok st) : loadText bs = .ok st := by
  exact loadText_of_emits rfl (SchemaScan.emits_atoks_whole toks hw c' evs h hend bs hbs) hl

#print axioms loadText_atoks

end Loader

/-! ### the effect of one annotation, in any tree context, read against the text -/
namespace Lay
open SchemaScan (Ev Ann Cls classify CRule nlEvs vspansRules IsScalar)
open SchemaScan.Len (InlBody MlBody noteTail)
open Loader (XNode LS LSG Fold addX X_ann X_nl slice nameOf)

def BObj.vals : BObj → List (List UInt8)
  | .empty _ => []
  | .rules r rs _ => r.val :: rs.map (·.val)

/-- what the annotation adds to its node -/
def addAnn (xn : XNode) (ob : BObj) (note : Option (List UInt8)) : XNode :=
  { xn with
    rules := xn.rules ++ ob.names
    ruleVals := xn.ruleVals ++ ob.vals.map some
    note := match note with
      | none => xn.note
      | some t => some (Loader.trimSpaces t) }

/-- the bytes between the annotation mark (`//` resp. `/*`) and the end mark (line break resp. `*/`) -/
def annBody (s2 : List UInt8) (ob : BObj) (s3 : List UInt8) (nt : Option (List UInt8 × List UInt8)) : List UInt8 :=
  s2 ++ (123 :: (ob.body ++ (125 :: (s3 ++ (match nt with | none => [] | some (s4, txt) => 45 :: (s4 ++ txt))))))

def clsNt (nt : Option (List UInt8 × List UInt8)) : Option (List Cls × List Cls) :=
  nt.map (fun q => (q.1.map classify, q.2.map classify))

/-- the class-level bodies of the two forms -/
def mlOf (s2 : List UInt8) (ob : BObj) (s3 : List UInt8) (nt : Option (List UInt8 × List UInt8)) : MlBody :=
  ⟨s2.map classify, ob.cls, s3.map classify, clsNt nt⟩
def inlOf (s2 : List UInt8) (ob : BObj) (s3 : List UInt8) (nt : Option (List UInt8 × List UInt8)) : InlBody :=
  .obj (s2.map classify) ob.cls (s3.map classify) (clsNt nt)

theorem body_len (ob : BObj) : ob.cls.body.length = ob.body.length := by
  rw [← BObj.body_cls, List.length_map]

/-- the first and last offset of the note text of an annotation whose first `/` stands at `p` -/
def noteOffs (p : Nat) (s2 : List UInt8) (ob : BObj) (s3 : List UInt8) : Option (List UInt8 × List UInt8) → Option (Nat × Nat)
  | none => none
  | some (s4, txt) =>
    some (p + 2 + s2.length + 1 + ob.body.length + 1 + s3.length + 1 + s4.length,
      p + 2 + s2.length + 1 + ob.body.length + 1 + s3.length + 1 + s4.length + txt.length - 1)

theorem clsNt_len (nt : Option (List UInt8 × List UInt8)) :
    (noteTail (clsNt nt)).length = (match nt with | none => 0 | some (s4, txt) => 1 + s4.length + txt.length) := by
  cases nt with
  | none => rfl
  | some q => obtain ⟨s4, txt⟩ := q; simp [clsNt, noteTail]; omega

end Lay
