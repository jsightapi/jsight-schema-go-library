import JSight.EnumCLay
import JSight.EnumEvents
/-!
C18, comments in enum rules, on BYTES: the text `pre [ lay item , item … ] lay` with `item = lay token lay`, where
`pre` is blanks (the scanner does not accept a comment before `[`) and every `lay` is a layout WITH comments: any
sequence of blank bytes, `// … line-break` comments and `/* … */` comments.

* `enumC_events`: pairwise distinct keys ⇒ `scanAll` delivers exactly `enumEvsC` (the comments' own events included).
* `enumC_filter`: without the comments' own events that list is, spans included, the event list `enumEvsOf` of the
  text in which every comment byte is overwritten by a blank (`blankOut`: same length, same offsets). That text is one
  of the grammar without comments (`blank_valid`) and as long as the commented one (`renderEnum_blank_length`), so by
  `enum_events` of `EnumPlain` the list is what `scanAll` delivers for it; `Props.C18` puts the three together.
* `enumC_values`; `enumC_duplicate`, `enumC_exponent`, `enumC_length` are in `EnumC2`.
-/
namespace EnumScan
open SchemaScan (Cls classify)

/-! ### layout with comments, on bytes -/

inductive PieceB
  | blank (c : UInt8)
  | inl (sp txt : List UInt8) (nl : UInt8)      -- `//` sp txt nl
  | ml (ws txt : List UInt8)                    -- `/*` ws txt `*/`
  deriving Repr

def PieceB.render : PieceB → List UInt8
  | .blank c => [c]
  | .inl sp txt nl => 47 :: 47 :: (sp ++ (txt ++ [nl]))
  | .ml ws txt => 47 :: 42 :: (ws ++ (txt ++ [42, 47]))

def PieceB.cls : PieceB → Piece
  | .blank c => .blank (classify c)
  | .inl sp txt _ => .inl (sp.map classify) (txt.map classify)
  | .ml ws txt => .ml (ws.map classify) (txt.map classify)

/-- a blank byte; `//`, spaces / tabs, a text without line break that does not begin with a space / tab, a line break
(LF or CR); `/*`, blanks, a text without `*/` that does not begin with a blank, `*/` -/
def PieceB.Valid (p : PieceB) : Prop :=
  p.cls.Valid ∧ (match p with | .inl _ _ nl => classify nl = .nl | _ => True)

/-- the piece with every comment byte overwritten by a space (the line break of `//` and the blanks in front of the
text of `/* */` stay) -/
def PieceB.blankOut : PieceB → List UInt8
  | .blank c => [c]
  | .inl sp txt nl => 32 :: 32 :: (sp ++ (List.replicate txt.length 32 ++ [nl]))
  | .ml ws txt => 32 :: 32 :: (ws ++ (List.replicate txt.length 32 ++ [32, 32]))

abbrev LayB := List PieceB

def LayB.render : LayB → List UInt8
  | [] => []
  | p :: L => p.render ++ LayB.render L

def LayB.blankOut : LayB → List UInt8
  | [] => []
  | p :: L => p.blankOut ++ LayB.blankOut L

def LayB.cls (L : LayB) : Lay := L.map PieceB.cls

def LayB.Valid (L : LayB) : Prop := ∀ p ∈ L, p.Valid

theorem classify_slash : classify 47 = .slash := by decide
theorem classify_star : classify 42 = .star := by decide
theorem classify_sp : classify 32 = .sp := by decide

theorem PieceB.render_map (p : PieceB) (hv : p.Valid) : p.render.map classify = p.cls.render := by
  cases p with
  | blank c => rfl
  | inl sp txt nl =>
    have : classify nl = .nl := hv.2
    simp [PieceB.render, PieceB.cls, Piece.render, classify_slash, this]
  | ml ws txt => simp [PieceB.render, PieceB.cls, Piece.render, classify_slash, classify_star]

theorem LayB.render_map (L : LayB) (hv : L.Valid) : (LayB.render L).map classify = Lay.render L.cls := by
  induction L with
  | nil => rfl
  | cons p L ih =>
    simp only [LayB.render, LayB.cls, List.map_cons, Lay.render, List.map_append]
    rw [p.render_map (hv p (by simp))]
    congr 1
    exact ih (fun x hx => hv x (by simp [hx]))

theorem LayB.render_length (L : LayB) (hv : L.Valid) : (Lay.render L.cls).length = (LayB.render L).length := by
  rw [← LayB.render_map L hv, List.length_map]

theorem LayB.cls_valid (L : LayB) (hv : L.Valid) : L.cls.Valid := by
  intro p hp
  simp only [LayB.cls, List.mem_map] at hp
  obtain ⟨q, hq, rfl⟩ := hp
  exact (hv q hq).1

theorem PieceB.blankOut_length (p : PieceB) : p.blankOut.length = p.render.length := by
  cases p <;> simp [PieceB.blankOut, PieceB.render]

theorem LayB.blankOut_length (L : LayB) : (LayB.blankOut L).length = (LayB.render L).length := by
  induction L with
  | nil => rfl
  | cons p L ih => simp [LayB.blankOut, LayB.render, ih, p.blankOut_length]

theorem isWs_replicate_sp (n : Nat) : IsWs ((List.replicate n (32 : UInt8)).map classify) := by
  intro c hc
  simp only [List.map_replicate, List.mem_replicate] at hc
  rw [hc.2, classify_sp]; rfl

theorem isWs_of_isSp {l : List Cls} (h : IsSp l) : IsWs l := by
  intro c hc
  have := h c hc
  simp [Cls.isBlank, this]

theorem IsWs.append {a b : List Cls} (ha : IsWs a) (hb : IsWs b) : IsWs (a ++ b) := by
  intro c hc
  rcases List.mem_append.mp hc with h | h
  · exact ha c h
  · exact hb c h

theorem PieceB.blankOut_ws (p : PieceB) (hv : p.Valid) : IsWsB p.blankOut := by
  cases p with
  | blank c => intro x hx; simp [PieceB.blankOut] at hx; subst hx; exact hv.1
  | inl sp txt nl =>
    have hnl : classify nl = .nl := hv.2
    have hsp : IsWs (sp.map classify) := isWs_of_isSp hv.1.1
    unfold IsWsB
    simp only [PieceB.blankOut, List.map_cons, List.map_append, List.map_nil, classify_sp, hnl]
    intro c hc
    simp only [List.mem_cons, List.mem_append, List.not_mem_nil, or_false] at hc
    rcases hc with rfl | rfl | h | h | rfl
    · rfl
    · rfl
    · exact hsp c h
    · exact isWs_replicate_sp _ c h
    · rfl
  | ml ws txt =>
    have hws : IsWs (ws.map classify) := hv.1.1
    unfold IsWsB
    simp only [PieceB.blankOut, List.map_cons, List.map_append, List.map_nil, classify_sp]
    intro c hc
    simp only [List.mem_cons, List.mem_append, List.not_mem_nil, or_false] at hc
    rcases hc with rfl | rfl | h | h | rfl | rfl
    · rfl
    · rfl
    · exact hws c h
    · exact isWs_replicate_sp _ c h
    · rfl
    · rfl

theorem LayB.blankOut_ws (L : LayB) (hv : L.Valid) : IsWsB (LayB.blankOut L) := by
  induction L with
  | nil => intro c hc; simp [LayB.blankOut] at hc
  | cons p L ih =>
    unfold IsWsB
    simp only [LayB.blankOut, List.map_append]
    exact IsWs.append (p.blankOut_ws (hv p (by simp))) (ih (fun x hx => hv x (by simp [hx])))

/-! ### the comments' own events, and what is left without them -/

def LexT.isComment : LexT → Bool
  | .inlAnnB | .inlAnnE | .inlTxtB | .inlTxtE | .mlAnnB | .mlAnnE | .mlTxtB | .mlTxtE => true
  | _ => false

/-- the events that are not a comment's own -/
def dropComments (evs : List Ev) : List Ev := evs.filter (fun e => !e.ty.isComment)

theorem dropComments_append (a b : List Ev) : dropComments (a ++ b) = dropComments a ++ dropComments b := by
  simp [dropComments]

theorem dropComments_nl (ws : List Cls) : ∀ o, dropComments (nlEvs o ws) = nlEvs o ws := by
  induction ws with
  | nil => intro o; rfl
  | cons c cs ih =>
    intro o
    simp only [nlEvs, dropComments_append, ih]
    split <;> rfl

theorem nlEvs_append (a b : List Cls) : ∀ o, nlEvs o (a ++ b) = nlEvs o a ++ nlEvs (o + a.length) b := by
  induction a with
  | nil => intro o; simp [nlEvs]
  | cons c cs ih =>
    intro o
    simp only [List.cons_append, nlEvs, ih, List.length_cons, List.append_assoc]
    rw [show o + 1 + cs.length = o + (cs.length + 1) by omega]

theorem nlEvs_noNl (l : List Cls) (h : ∀ c ∈ l, c.isNewLine = false) : ∀ o, nlEvs o l = [] := by
  induction l with
  | nil => intro o; rfl
  | cons c cs ih =>
    intro o
    simp only [nlEvs, h c (by simp), Bool.false_eq_true, if_false, List.nil_append]
    exact ih (fun x hx => h x (by simp [hx])) _

theorem nlEvs_replicate_sp (n : Nat) (o : Nat) : nlEvs o ((List.replicate n (32 : UInt8)).map classify) = [] := by
  apply nlEvs_noNl
  intro c hc
  simp only [List.map_replicate, List.mem_replicate] at hc
  rw [hc.2, classify_sp]; rfl

theorem nlEvs_sp (l : List Cls) (h : IsSp l) (o : Nat) : nlEvs o l = [] := by
  apply nlEvs_noNl
  intro c hc
  have := h c hc
  cases c <;> simp [Cls.isSpace] at this <;> rfl

/-- without the comment's own events a piece delivers what its blanked-out bytes deliver -/
theorem PieceB.dropComments_evs (p : PieceB) (hv : p.Valid) (o : Nat) :
    dropComments (p.cls.evs o) = nlEvsB o p.blankOut := by
  cases p with
  | blank c => simp only [PieceB.cls, Piece.evs, dropComments_nl]; rfl
  | inl sp txt nl =>
    have hnl : classify nl = .nl := hv.2
    have hsp : IsSp (sp.map classify) := hv.1.1
    simp only [PieceB.cls, Piece.evs, inlEvs, PieceB.blankOut, nlEvsB, List.map_cons, List.map_append, List.map_nil,
      classify_sp, hnl]
    rw [show ∀ (x y : Cls) (l : List Cls), x :: y :: l = [x, y] ++ l from fun _ _ _ => rfl]
    simp only [nlEvs_append, nlEvs_sp _ hsp, nlEvs_replicate_sp, List.nil_append, List.length_cons, List.length_nil,
      List.length_map, List.length_replicate]
    simp [dropComments, LexT.isComment, nlEvs, Cls.isNewLine]
  | ml ws txt =>
    simp only [PieceB.cls, Piece.evs, mlEvs, PieceB.blankOut, nlEvsB, List.map_cons, List.map_append, List.map_nil,
      classify_sp]
    rw [show ∀ (x y : Cls) (l : List Cls), x :: y :: l = [x, y] ++ l from fun _ _ _ => rfl]
    simp only [nlEvs_append, nlEvs_replicate_sp, List.nil_append, List.length_cons, List.length_nil,
      List.length_map, List.length_replicate]
    rw [← List.singleton_append (x := (_ : Ev))]
    simp only [dropComments_append, dropComments_nl]
    simp [dropComments, LexT.isComment, nlEvs, Cls.isNewLine]

def layEvsB (o : Nat) (L : LayB) : List Ev := layEvs o L.cls

theorem LayB.dropComments_evs (L : LayB) (hv : L.Valid) : ∀ o,
    dropComments (layEvsB o L) = nlEvsB o (LayB.blankOut L) := by
  induction L with
  | nil => intro o; rfl
  | cons p L ih =>
    intro o
    have hp := hv p (by simp)
    simp only [layEvsB, LayB.cls, List.map_cons, layEvs, dropComments_append, LayB.blankOut, nlEvsB, List.map_append,
      nlEvs_append]
    rw [p.dropComments_evs hp o]
    have := ih (fun x hx => hv x (by simp [hx])) (o + p.cls.render.length)
    simp only [layEvsB, LayB.cls, nlEvsB] at this
    rw [this]
    simp only [nlEvsB, List.length_map, p.blankOut_length]
    rw [← p.render_map hp, List.length_map]

/-! ### the text -/

/-- layout, token, layout -/
abbrev ItemC := LayB × List UInt8 × LayB

def renderItemsC : List ItemC → List UInt8
  | [] => [93]
  | (l1, t, l2) :: its =>
    LayB.render l1 ++ (t ++ (LayB.render l2 ++ ((if its.isEmpty then [] else [44]) ++ renderItemsC its)))

/-- `pre [ ws0 items ] post` -/
def renderEnumC (pre : List UInt8) (ws0 : LayB) (items : List ItemC) (post : LayB) : List UInt8 :=
  pre ++ (91 :: (LayB.render ws0 ++ (renderItemsC items ++ LayB.render post)))

/-- validity with the automaton's notion of token (`IsTok`: what the scanner's token automaton reads as one token) -/
def ValidItemsC (its : List ItemC) : Prop :=
  ∀ it ∈ its, LayB.Valid it.1 ∧ IsTok (it.2.1.map classify) ∧ LayB.Valid it.2.2

/-- validity with the token grammar (`GTok`: string, number without exponent, `true` / `false` / `null`); every token of
the grammar is one of the automaton (`GTok.isTok`), so a theorem proved for `ValidItemsC` (`enumC_filter`, `enumC_values`,
the primed names) holds of the grammar; the unprimed twin of a primed name states that -/
def GValidItemsC (its : List ItemC) : Prop :=
  ∀ it ∈ its, LayB.Valid it.1 ∧ GTok (it.2.1.map classify) ∧ LayB.Valid it.2.2

theorem GValidItemsC.valid {its : List ItemC} (h : GValidItemsC its) : ValidItemsC its :=
  fun it hit => ⟨(h it hit).1, (h it hit).2.1.isTok, (h it hit).2.2⟩

def evsItemsC (a : Nat) : Nat → List ItemC → List Ev
  | o, [] => [⟨.arrE, a, o⟩]
  | o, (l1, t, l2) :: its =>
    layEvsB o l1 ++ (itemEvs (o + (LayB.render l1).length) (o + (LayB.render l1).length + t.length) ++
      (layEvsB (o + (LayB.render l1).length + t.length) l2 ++
        evsItemsC a (o + (LayB.render l1).length + t.length + (LayB.render l2).length + (if its.isEmpty then 0 else 1)) its))

/-- the expected events of `renderEnumC pre ws0 items post` -/
def enumEvsC (pre : List UInt8) (ws0 : LayB) (items : List ItemC) (post : LayB) : List Ev :=
  ⟨.arrB, pre.length, pre.length⟩ ::
    (layEvsB (pre.length + 1) ws0 ++
      (evsItemsC pre.length (pre.length + 1 + (LayB.render ws0).length) items ++
        layEvsB (pre.length + 1 + (LayB.render ws0).length + (renderItemsC items).length) post))

def itemKeyC (it : ItemC) : List UInt8 × Bool := tokKey it.2.1

/-- the item with its comments blanked out -/
def blankItem (it : ItemC) : Item := (LayB.blankOut it.1, it.2.1, LayB.blankOut it.2.2)

theorem itemKey_blankItem (it : ItemC) : itemKey (blankItem it) = itemKeyC it := rfl

def FreshAllC : List (List UInt8 × Bool) → List ItemC → Prop
  | _, [] => True
  | uq, it :: its => itemKeyC it ∉ uq ∧ FreshAllC (itemKeyC it :: uq) its

theorem freshAllC_of_nodup (its : List ItemC) : ∀ (uq : List (List UInt8 × Bool)),
    (∀ it ∈ its, itemKeyC it ∉ uq) → (its.map itemKeyC).Nodup → FreshAllC uq its := by
  induction its with
  | nil => intro _ _ _; trivial
  | cons it its ih =>
    intro uq h1 h2
    simp only [List.map_cons, List.nodup_cons] at h2
    refine ⟨h1 it (by simp), ih _ ?_ h2.2⟩
    intro x hx hmem
    simp only [List.mem_cons] at hmem
    rcases hmem with h | h
    · exact h2.1 (by rw [← h]; exact List.mem_map_of_mem hx)
    · exact h1 x (by simp [hx]) h

theorem segA_lay {bs : List UInt8} {o : Nat} {L : LayB} (hv : L.Valid) (h : Lay.AtB bs.toArray o (LayB.render L)) :
    SegA (bs.map classify).toArray o (Lay.render L.cls) := by
  rw [← LayB.render_map L hv]; exact segA_of_atB h

/-- an item with the byte behind it, and what follows that byte -/
theorem atB_item {src : Array UInt8} {o : Nat} {l1 t l2 : List UInt8} {x : UInt8} {rest : List UInt8}
    (h : Lay.AtB src o (l1 ++ (t ++ (l2 ++ (x :: rest))))) :
    Lay.AtB src o (l1 ++ (t ++ (l2 ++ [x]))) ∧ Lay.AtB src (o + l1.length + t.length + l2.length + 1) rest := by
  rw [show l1 ++ (t ++ (l2 ++ (x :: rest))) = (l1 ++ (t ++ (l2 ++ [x]))) ++ rest by simp, Lay.AtB_append] at h
  refine ⟨h.1, ?_⟩
  have := h.2
  simp only [List.length_append, List.length_cons, List.length_nil] at this
  rw [show o + l1.length + t.length + l2.length + 1 = o + (l1.length + (t.length + (l2.length + (0 + 1)))) by omega]
  exact this

/-! ### the items -/

theorem item_seg_map (l1 : LayB) (t : List UInt8) (l2 : LayB) (x : UInt8) (h1 : l1.Valid) (h2 : l2.Valid) :
    (LayB.render l1 ++ (t ++ (LayB.render l2 ++ [x]))).map classify
      = Lay.render l1.cls ++ (t.map classify ++ (Lay.render l2.cls ++ [classify x])) := by
  simp only [List.map_append, List.map_cons, List.map_nil, LayB.render_map l1 h1, LayB.render_map l2 h2]

/-- one item on bytes: at `o` the text holds layout, token, layout and `x`, a `,` or the `]`; the key of the token is
new -/
theorem itemB_pre (bs : List UInt8) (a : Nat) (lc : Bool) {st : St} (hst : st = .arrItemOrEmpty ∨ st = .arrItem)
    (l1 : LayB) (t : List UInt8) (l2 : LayB) (hl1 : l1.Valid) (htk : IsTok (t.map classify)) (hl2 : l2.Valid)
    {x : UInt8} {term : Cls} (hx : classify x = term) (ht : term = .comma ∨ term = .rbrack)
    (uq : List (List UInt8 × Bool)) (o : Nat)
    (hat : Lay.AtB bs.toArray o (LayB.render l1 ++ (t ++ (LayB.render l2 ++ [x])))) (hk : tokKey t ∉ uq) :
    Pre bs.toArray (bs.map classify).toArray ⟨st, [], [(.arrB, a)], [], o, false, false, lc, false, uq⟩
      (layEvsB o l1 ++ (itemEvs (o + (LayB.render l1).length) (o + (LayB.render l1).length + t.length) ++
        (layEvsB (o + (LayB.render l1).length + t.length) l2 ++
          delimEvs a (o + (LayB.render l1).length + t.length + (LayB.render l2).length) term)))
      ⟨delimStC term, [], delimStack a term, [], o + (LayB.render l1).length + t.length + (LayB.render l2).length + 1,
        false, false, lc, false, tokKey t :: uq⟩ := by
  have len1 := LayB.render_length l1 hl1
  have len2 := LayB.render_length l2 hl2
  have hkey : keyAt bs.toArray (o + (LayB.render l1).length) t.length = tokKey t :=
    keyAt_of_atB ((Lay.AtB_append _ _ _ _).1 ((Lay.AtB_append _ _ _ _).1 hat).2).1 htk
  have hs := segA_of_atB hat
  rw [item_seg_map l1 t l2 x hl1 hl2, hx] at hs
  have h := itemC_pre (content := bs.toArray) hst l1.cls (t.map classify) l2.cls (LayB.cls_valid l1 hl1) htk
    (LayB.cls_valid l2 hl2) ht a o lc uq hs
    (by simp only [List.length_map, len1]; rw [hkey]; simpa using hk)
  simp only [List.length_map, len1, len2] at h
  rw [hkey] at h
  exact h

theorem itemsC_pre (bs : List UInt8) (a : Nat) (lc : Bool) : ∀ (its : List ItemC) (first : Bool)
    (uq : List (List UInt8 × Bool)) (o : Nat),
    ValidItemsC its → (its = [] → first = true) → Lay.AtB bs.toArray o (renderItemsC its) → FreshAllC uq its →
    ∃ uq', Pre bs.toArray (bs.map classify).toArray
      ⟨stFirst first, [], [(.arrB, a)], [], o, false, false, lc, false, uq⟩ (evsItemsC a o its)
      ⟨.endValue, [], [], [], o + (renderItemsC its).length, false, false, lc, false, uq'⟩ := by
  intro its
  induction its with
  | nil =>
    intro first uq o _ hf hat _
    rw [hf rfl]
    exact ⟨uq, pre_rbrack_empty a o lc false uq (by simpa [SchemaScan.classify_rbrack] using (segA_of_atB hat).1)⟩
  | cons it its ih =>
    intro first uq o hv _ hat hfr
    obtain ⟨l1, t, l2⟩ := it
    obtain ⟨hl1, htk, hl2⟩ : LayB.Valid l1 ∧ IsTok (t.map classify) ∧ LayB.Valid l2 := hv (l1, t, l2) (by simp)
    have hv' : ValidItemsC its := fun x hx => hv x (by simp [hx])
    obtain ⟨hk, hfr'⟩ := hfr
    have hst : stFirst first = .arrItemOrEmpty ∨ stFirst first = .arrItem := by cases first <;> simp [stFirst]
    cases its with
    | nil =>
      have h := itemB_pre bs a lc hst l1 t l2 hl1 htk hl2 SchemaScan.classify_rbrack (Or.inr rfl) uq o hat hk
      refine ⟨tokKey t :: uq, ?_⟩
      have e : o + (renderItemsC [(l1, t, l2)]).length
          = o + (LayB.render l1).length + t.length + (LayB.render l2).length + 1 := by
        simp [renderItemsC]; omega
      rw [e]
      exact h.cast (by simp [evsItemsC, delimEvs])
    | cons it2 its2 =>
      obtain ⟨hat1, hat2⟩ := atB_item (x := 44) hat
      have h := itemB_pre bs a lc hst l1 t l2 hl1 htk hl2 SchemaScan.classify_comma (Or.inl rfl) uq o hat1 hk
      obtain ⟨uq', h2⟩ := ih false (tokKey t :: uq)
        (o + (LayB.render l1).length + t.length + (LayB.render l2).length + 1) hv' (by simp) hat2 hfr'
      refine ⟨uq', ?_⟩
      have e : o + (renderItemsC ((l1, t, l2) :: it2 :: its2)).length
          = o + (LayB.render l1).length + t.length + (LayB.render l2).length + 1 + (renderItemsC (it2 :: its2)).length := by
        simp [renderItemsC]; omega
      rw [e]
      exact (h.trans h2).cast (by simp [evsItemsC, delimEvs, List.append_assoc])

/-- Bounds on the number of events, by which `scanAll`'s fuel `8 * size + 16` (one unit per event, `OutT_events`) is
enough: no more than three events per byte of a layout, no more than four per byte of the text (a token of one byte has
`itemB`, `litB`, `litE`, `itemE`). -/
theorem layEvsB_length_le (o : Nat) (L : LayB) (hv : L.Valid) : (layEvsB o L).length ≤ 3 * (LayB.render L).length := by
  have := layEvs_length_le L.cls o
  rw [LayB.render_length L hv] at this
  exact this

theorem evsItemsC_length_le (a : Nat) (its : List ItemC) : ∀ (o : Nat), ValidItemsC its →
    (evsItemsC a o its).length ≤ 4 * (renderItemsC its).length := by
  induction its with
  | nil => intro o _; simp [evsItemsC, renderItemsC]
  | cons it its ih =>
    intro o hv
    obtain ⟨l1, t, l2⟩ := it
    obtain ⟨hl1, htk, hl2⟩ : LayB.Valid l1 ∧ IsTok (t.map classify) ∧ LayB.Valid l2 := hv (l1, t, l2) (by simp)
    have ht := htk.length_pos
    simp only [List.length_map] at ht
    have h1 := layEvsB_length_le o l1 hl1
    have h2 := layEvsB_length_le (o + (LayB.render l1).length + t.length) l2 hl2
    have h3 := ih (o + (LayB.render l1).length + t.length + (LayB.render l2).length + (if its.isEmpty then 0 else 1))
      (fun x hx => hv x (by simp [hx]))
    simp only [evsItemsC, renderItemsC, itemEvs, List.length_append, List.length_cons, List.length_nil]
    omega

theorem renderEnumC_length (pre : List UInt8) (ws0 post : LayB) (items : List ItemC) :
    (renderEnumC pre ws0 items post).length
      = pre.length + 1 + (LayB.render ws0).length + (renderItemsC items).length + (LayB.render post).length := by
  simp [renderEnumC]; omega

theorem enumEvsC_length_le (pre : List UInt8) (ws0 post : LayB) (items : List ItemC) (hws0 : ws0.Valid)
    (hpost : post.Valid) (hv : ValidItemsC items) :
    (enumEvsC pre ws0 items post).length ≤ 4 * (renderEnumC pre ws0 items post).length := by
  have h1 := layEvsB_length_le (pre.length + 1) ws0 hws0
  have h2 := layEvsB_length_le (pre.length + 1 + (LayB.render ws0).length + (renderItemsC items).length) post hpost
  have h3 := evsItemsC_length_le pre.length items (pre.length + 1 + (LayB.render ws0).length) hv
  rw [renderEnumC_length]
  simp only [enumEvsC, List.length_cons, List.length_append]
  omega

/-- where the parts of `pre [ w0 r p` stand -/
theorem atB_enum {bs : List UInt8} (pre w0 r p : List UInt8) (h : bs = pre ++ (91 :: (w0 ++ (r ++ p)))) :
    Lay.AtB bs.toArray 0 pre ∧ Lay.AtB bs.toArray pre.length [91] ∧ Lay.AtB bs.toArray (pre.length + 1) w0 ∧
      Lay.AtB bs.toArray (pre.length + 1 + w0.length) r ∧ Lay.AtB bs.toArray (pre.length + 1 + w0.length + r.length) p := by
  subst h
  have : Lay.AtB (pre ++ (91 :: (w0 ++ (r ++ p)))).toArray 0 (pre ++ ([91] ++ (w0 ++ (r ++ p)))) :=
    Lay.AtB_toArray _ [] _ rfl
  simpa only [Lay.AtB_append, List.length_nil, List.length_singleton, Nat.zero_add, and_assoc] using this

/-- the whole text, for both modes of the scanner (`lc` = `lengthComputing`) -/
theorem enumC_out (lc : Bool) (pre : List UInt8) (ws0 post : LayB) (items : List ItemC)
    (hpre : IsWsB pre) (hws0 : ws0.Valid) (hpost : post.Valid) (hv : ValidItemsC items)
    (hnd : (items.map itemKeyC).Nodup) :
    OutT (renderEnumC pre ws0 items post).toArray ((renderEnumC pre ws0 items post).map classify).toArray
      ⟨.begin, [], [], [], 0, false, false, lc, false, []⟩
      (enumEvsC pre ws0 items post).length (.ok (enumEvsC pre ws0 items post)) := by
  have hlen := renderEnumC_length pre ws0 post items
  generalize hbs : renderEnumC pre ws0 items post = bs at hlen
  obtain ⟨a1, a2, a3, a4, a5⟩ := atB_enum pre (LayB.render ws0) (renderItemsC items) (LayB.render post) hbs.symm
  have h1 := pre_ws_begin (content := bs.toArray) lc false [] (pre.map classify) hpre 0 (segA_of_atB a1)
  have h2 := pre_lbrack (content := bs.toArray) pre.length lc false []
    (by have := (segA_of_atB a2).1; rw [SchemaScan.classify_lbrack] at this; exact this)
  have h3 := pre_lay_loop (content := bs.toArray) (st := .arrItemOrEmpty) (Or.inl rfl) pre.length lc false []
    ws0.cls (LayB.cls_valid ws0 hws0) (pre.length + 1) (segA_lay hws0 a3)
  obtain ⟨uq', h4⟩ := itemsC_pre bs pre.length lc items true [] (pre.length + 1 + (LayB.render ws0).length)
    hv (fun _ => rfl) a4 (freshAllC_of_nodup items [] (by simp) hnd)
  have h5 := pre_lay_end (content := bs.toArray) lc uq' post.cls (LayB.cls_valid post hpost)
    (pre.length + 1 + (LayB.render ws0).length + (renderItemsC items).length) (segA_lay hpost a5)
  have h6 : OutT bs.toArray (bs.map classify).toArray
      ⟨endSt post.cls, [], [], [],
        pre.length + 1 + (LayB.render ws0).length + (renderItemsC items).length + (Lay.render post.cls).length,
        false, false, lc, false, uq'⟩ 0 (.ok []) :=
    OutT.eof rfl (by simp only [List.size_toArray, List.length_map, hlen, LayB.render_length post hpost]; omega) rfl
  simp only [List.length_map, Nat.zero_add, LayB.render_length ws0 hws0] at h1 h3
  have h := ((((h1.trans h2).trans h3).trans h4).trans h5).outT h6
  refine h.cast ?_ ?_
  · simp [enumEvsC, layEvsB]
  · simp [enumEvsC, layEvsB, Except.map]

/-- **events**: a list of literals with pairwise distinct keys, comments anywhere in the layout, is scanned into
exactly the expected events -/
theorem enumC_events' (pre : List UInt8) (ws0 post : LayB) (items : List ItemC)
    (hpre : IsWsB pre) (hws0 : ws0.Valid) (hpost : post.Valid) (hv : ValidItemsC items)
    (hnd : (items.map itemKeyC).Nodup) :
    scanAll (renderEnumC pre ws0 items post) = .ok (enumEvsC pre ws0 items post) := by
  unfold scanAll
  have h := enumC_out false pre ws0 post items hpre hws0 hpost hv hnd
  refine OutT_events _ _ h _ ?_
  have := enumEvsC_length_le pre ws0 post items hws0 hpost hv
  simp only [List.size_toArray, List.length_map]
  omega

theorem enumC_events (pre : List UInt8) (ws0 post : LayB) (items : List ItemC)
    (hpre : IsWsB pre) (hws0 : ws0.Valid) (hpost : post.Valid) (hv : GValidItemsC items)
    (hnd : (items.map itemKeyC).Nodup) :
    scanAll (renderEnumC pre ws0 items post) = .ok (enumEvsC pre ws0 items post) :=
  enumC_events' pre ws0 post items hpre hws0 hpost hv.valid hnd

/-! ### comments ignored -/

theorem renderItems_blank_length (its : List ItemC) :
    (renderItems (its.map blankItem)).length = (renderItemsC its).length := by
  induction its with
  | nil => rfl
  | cons it its ih =>
    obtain ⟨l1, t, l2⟩ := it
    simp only [List.map_cons, blankItem, renderItems, renderItemsC, List.length_append, LayB.blankOut_length, ih,
      List.isEmpty_map]

theorem dropComments_itemEvs (o1 o2 : Nat) : dropComments (itemEvs o1 o2) = itemEvs o1 o2 := rfl

theorem dropComments_evsItemsC (a : Nat) (its : List ItemC) : ∀ (o : Nat), ValidItemsC its →
    dropComments (evsItemsC a o its) = evsItems a o (its.map blankItem) := by
  induction its with
  | nil => intro o _; rfl
  | cons it its ih =>
    intro o hv
    obtain ⟨l1, t, l2⟩ := it
    obtain ⟨hl1, _, hl2⟩ : LayB.Valid l1 ∧ IsTok (t.map classify) ∧ LayB.Valid l2 := hv (l1, t, l2) (by simp)
    simp only [evsItemsC, List.map_cons, blankItem, evsItems, dropComments_append, dropComments_itemEvs,
      LayB.dropComments_evs l1 hl1, LayB.dropComments_evs l2 hl2, LayB.blankOut_length, List.isEmpty_map]
    rw [ih _ (fun x hx => hv x (by simp [hx]))]

/-- **comments ignored**: without the comments' own events the expected events are, spans included, those of the text
whose comment bytes are overwritten by blanks -/
theorem enumC_filter (pre : List UInt8) (ws0 post : LayB) (items : List ItemC)
    (hws0 : ws0.Valid) (hpost : post.Valid) (hv : ValidItemsC items) :
    dropComments (enumEvsC pre ws0 items post)
      = enumEvsOf pre (LayB.blankOut ws0) (items.map blankItem) (LayB.blankOut post) := by
  simp only [enumEvsC, enumEvsOf]
  rw [← List.singleton_append (x := (_ : Ev))]
  simp only [dropComments_append, LayB.dropComments_evs ws0 hws0, LayB.dropComments_evs post hpost,
    dropComments_evsItemsC pre.length items _ hv, LayB.blankOut_length, renderItems_blank_length]
  rfl

theorem blank_valid (items : List ItemC) (hv : GValidItemsC items) : GValidItems (items.map blankItem) := by
  intro it hit
  simp only [List.mem_map] at hit
  obtain ⟨x, hx, rfl⟩ := hit
  obtain ⟨h1, h2, h3⟩ := hv x hx
  exact ⟨LayB.blankOut_ws _ h1, h2, LayB.blankOut_ws _ h3⟩

theorem renderEnum_blank_length (pre : List UInt8) (ws0 post : LayB) (items : List ItemC) :
    (renderEnum pre (LayB.blankOut ws0) (items.map blankItem) (LayB.blankOut post)).length
      = (renderEnumC pre ws0 items post).length := by
  rw [renderEnum_length, renderEnumC_length, LayB.blankOut_length, LayB.blankOut_length, renderItems_blank_length]

/-! ### `Values` -/

theorem valuesOf_noLit (bs : List UInt8) (evs : List Ev) (h : ∀ e ∈ evs, e.ty ≠ .litE) : valuesOf bs evs = [] := by
  unfold valuesOf
  rw [List.filter_eq_nil_iff.mpr]
  · rfl
  · intro e he
    have := h e he
    simp [this]

theorem layEvs_noLit (L : Lay) : ∀ (o : Nat), ∀ e ∈ layEvs o L, e.ty ≠ .litE := by
  induction L with
  | nil => intro o e he; simp [layEvs] at he
  | cons p L ih =>
    intro o e he
    simp only [layEvs, List.mem_append] at he
    rcases he with h | h
    · cases p with
      | blank c =>
        simp only [Piece.evs, nlEvs, List.append_nil] at h
        split at h
        · simp at h; subst h; simp
        · simp at h
      | inl sp txt =>
        simp only [Piece.evs, inlEvs, List.mem_cons, List.not_mem_nil, or_false] at h
        rcases h with rfl | rfl | rfl | rfl | rfl <;> simp
      | ml ws txt =>
        simp only [Piece.evs, mlEvs, List.mem_cons, List.mem_append, List.not_mem_nil, or_false] at h
        rcases h with rfl | h | rfl | rfl | rfl
        · simp
        · intro hty
          have : valuesOf [] (nlEvs (o + 1 + 1) ws) = [] := valuesOf_nl [] ws _
          unfold valuesOf at this
          have hm : e ∈ (nlEvs (o + 1 + 1) ws).filter (fun e => e.ty == .litE) := by
            simp [List.mem_filter, h, hty]
          rw [List.map_eq_nil_iff] at this
          rw [this] at hm
          cases hm
        · simp
        · simp
        · simp
    · exact ih _ e h

theorem valuesOf_layB (bs : List UInt8) (o : Nat) (L : LayB) : valuesOf bs (layEvsB o L) = [] :=
  valuesOf_noLit bs _ (layEvs_noLit L.cls o)

theorem valuesOf_itemsC (bs : List UInt8) (a : Nat) (its : List ItemC) : ∀ (o : Nat),
    ValidItemsC its → Lay.AtB bs.toArray o (renderItemsC its) →
    valuesOf bs (evsItemsC a o its) = its.map (·.2.1) := by
  induction its with
  | nil => intro o _ _; rfl
  | cons it its ih =>
    intro o hv hat
    obtain ⟨l1, t, l2⟩ := it
    obtain ⟨_, htk, _⟩ : LayB.Valid l1 ∧ IsTok (t.map classify) ∧ LayB.Valid l2 := hv (l1, t, l2) (by simp)
    have ht := htk.length_pos
    simp only [List.length_map] at ht
    simp only [renderItemsC, Lay.AtB_append] at hat
    have h2 := ih (o + (LayB.render l1).length + t.length + (LayB.render l2).length + (if its.isEmpty then 0 else 1))
      (fun x hx => hv x (by simp [hx])) (by cases its <;> exact hat.2.2.2.2)
    -- `valuesOf` takes `e.e + 1 - e.b` bytes, the span of `litE` being inclusive
    have hslice : (bs.drop (o + (LayB.render l1).length)).take
        (o + (LayB.render l1).length + t.length - 1 + 1 - (o + (LayB.render l1).length)) = t := by
      rw [show o + (LayB.render l1).length + t.length - 1 + 1 - (o + (LayB.render l1).length) = t.length by omega]
      exact Lay.take_of_AtB bs.toArray t _ hat.2.1
    simp only [evsItemsC, valuesOf_append, valuesOf_layB, h2, List.nil_append, List.map_cons]
    simp [valuesOf, itemEvs, hslice]

/-- **Values lists the literals in source order**, whatever comments stand between them -/
theorem enumC_values (pre : List UInt8) (ws0 post : LayB) (items : List ItemC) (hv : ValidItemsC items) :
    valuesOf (renderEnumC pre ws0 items post) (enumEvsC pre ws0 items post) = items.map (·.2.1) := by
  have h := valuesOf_itemsC (renderEnumC pre ws0 items post) pre.length items
    (pre.length + 1 + (LayB.render ws0).length) hv (atB_enum pre _ _ (LayB.render post) rfl).2.2.2.1
  simp only [enumEvsC]
  rw [← List.singleton_append (x := (_ : Ev))]
  simp only [valuesOf_append, valuesOf_layB, h, List.append_nil]
  rfl

end EnumScan
