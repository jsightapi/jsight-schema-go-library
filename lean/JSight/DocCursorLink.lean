import JSight.DocCursorSafe
/-!
The `Document` machine on accepted and on rejected texts, read off `DocCursorOne`. When `events o t = .ok evs`, the
deliveries of a fresh document are exactly `evs`, `checkText` is `OK` / `Empty JSON` and `lenText` is `lengthS`. When
`events o t = .error e`, a fresh document delivers the kept events `eventsSeen o t` and then the error `e` (same code, same
index) for ever; `Check` and `Len` answer that error. With C05: `Check` of a strict document answers OK iff the text is one
RFC 8259 JSON text.
-/
namespace DocCursor
open JsonScan

theorem checkText_of_events (t : List UInt8) (o : Bool) (evs : List Ev) (h : events o t = .ok evs) :
    checkText t o = if (nonTop evs).isEmpty then .err 203 0 else .ok := by
  rw [checkText_eq_events, h]
  simp only [checkOf, Bool.false_or]
  cases (nonTop evs).isEmpty <;> rfl

/-- accepted texts: `Len` of a fresh document is the whole-text model's `lengthS` -/
theorem lenText_of_lengthS (t : List UInt8) (o : Bool) (n : Nat) (h : lengthS o t = .ok n) :
    lenText t o = .ok n := by
  unfold lengthS at h
  rw [lenText_eq, lenLoop_eq_events]
  cases he : events o t with
  | error e => rw [he] at h; simp at h
  | ok evs => rw [he] at h; simp only at h; cases h; rfl

/-- accepted texts: the deliveries of a fresh document are the events, then the end of the stream -/
theorem scanAll_of_events (t : List UInt8) (o : Bool) (evs : List Ev) (h : events o t = .ok evs) :
    scanAll t o (conv evs).length = conv evs := by
  have := scanAll_eq t o
  rw [h] at this
  exact this

/-! ### rejected texts -/

/-- rejected texts: the document machine is the whole-text model -/
theorem rejected_main (t : List UInt8) (o : Bool) (e : ErrS) (h : events o t = .error e) :
    ∃ c q, IsErr e c q ∧ checkText t o = .err c q ∧ lenText t o = .err c q ∧
      scanAll t o ((eventsSeen o t).length + 1) = (eventsSeen o t).map .lex ++ [.err c q] := by
  obtain ⟨c, q, hc⟩ := events_err t o e h
  have h3 := scanAll_eq t o
  rw [h] at h3
  refine ⟨c, q, hc, ?_, ?_, ?_⟩
  · rw [checkText_eq_events, h]
    rcases hc with ⟨rfl, rfl⟩ | ⟨rfl, rfl⟩ <;> rfl
  · rw [lenText_eq, lenLoop_eq_events, h]
    rcases hc with ⟨rfl, rfl⟩ | ⟨rfl, rfl⟩ <;> rfl
  · rcases hc with ⟨rfl, rfl⟩ | ⟨rfl, rfl⟩ <;> simpa [ans, errRes] using h3

/-- rejected texts: EVERY delivery of a fresh document in closed form -/
theorem rejected_all (t : List UInt8) (o : Bool) (e : ErrS) (h : events o t = .error e) :
    ∃ c q, IsErr e c q ∧ ∀ k, lexAt t o k =
      match (eventsSeen o t)[k]? with
      | some ev => .lex ev
      | none => .err c q := by
  obtain ⟨c, q, hc, _, _, hs⟩ := rejected_main t o e h
  refine ⟨c, q, hc, ?_⟩
  have key : ∀ k, k ≤ (eventsSeen o t).length →
      some (lexAt t o k) = ((eventsSeen o t).map NextRes.lex ++ [.err c q])[k]? := by
    intro k hk
    rw [← hs]
    unfold scanAll
    rw [List.getElem?_map, List.getElem?_range (by omega)]
    rfl
  intro k
  by_cases hk : k < (eventsSeen o t).length
  · have h1 := key k (by omega)
    rw [List.getElem?_append_left (by simpa using hk), List.getElem?_map, List.getElem?_eq_getElem hk] at h1
    rw [List.getElem?_eq_getElem hk]
    simpa using h1
  · have hlen := key _ (Nat.le_refl _)
    rw [List.getElem?_append_right (by simp)] at hlen
    simp at hlen
    have h2 := (lexAt_sticky t o _ c q hlen (k - (eventsSeen o t).length)).1
    rw [show (eventsSeen o t).length + (k - (eventsSeen o t).length) = k by omega] at h2
    rw [List.getElem?_eq_none (by omega)]
    exact h2

/-! ### `Check` and RFC 8259 -/

/-- `Check` of a fresh strict document answers OK iff the text is one RFC 8259 JSON text -/
theorem checkText_ok_iff_rfc (t : List UInt8) : checkText t false = .ok ↔ Rfc.accepts t = true := by
  have hr : (checkS false t).isOk = Rfc.accepts t := by rw [checkS_iff_check, Sim.C05_check_iff_rfc]
  rw [← hr]
  unfold checkS
  cases he : events false t with
  | error e =>
    obtain ⟨c, q, _, hck, _⟩ := rejected_main t false e he
    rw [hck]
    simp [Except.isOk, Except.toBool]
  | ok evs =>
    rw [checkText_of_events t false evs he]
    show _ ↔ (if (nonTop evs).isEmpty then _ else _ : Except ErrS Unit).isOk = true
    cases (nonTop evs).isEmpty <;> simp [Except.isOk, Except.toBool]

/-- the empty-document answer: exactly when the whole-text model accepts without a lexeme (white space only) -/
theorem checkText_empty_iff (t : List UInt8) (o : Bool) :
    checkText t o = .err 203 0 ↔ ∃ evs, events o t = .ok evs ∧ nonTop evs = [] := by
  cases he : events o t with
  | error e =>
    obtain ⟨c, q, hc, hck, _⟩ := rejected_main t o e he
    rw [hck]
    constructor
    · intro h
      cases h
      rcases hc with ⟨_, h⟩ | ⟨_, h⟩ <;> cases h
    · rintro ⟨evs, h, _⟩; cases h
  | ok evs =>
    rw [checkText_of_events t o evs he]
    constructor
    · intro h
      refine ⟨evs, rfl, ?_⟩
      cases hn : nonTop evs with
      | nil => rfl
      | cons a b => rw [hn] at h; simp at h
    · rintro ⟨evs', h, hn⟩
      cases h
      simp [hn]

theorem check_after_ok_iff_rfc (t : List UInt8) (ops : List Op) :
    (((Doc.new t false).run ops).2.step .check).1 = .check .ok ↔ Rfc.accepts t = true := by
  rw [check_after, cached_of_not_crash (checkText_no_crash t false), ite_self, ← checkText_ok_iff_rfc]
  constructor
  · intro h; exact Out.check.inj h
  · intro h; rw [h]

end DocCursor
