import JSight.EnumEventsRun
/-!
C18, comments in enum rules: the two failing ends of an item (a repeated key, an exponent letter behind a number),
single-byte facts of `dispatch` around comments (`// … line break`, `/* … */`), and the derived rules of `Pre` that go
with them: entering a comment, and the two comment bodies. (`dispatch content 8`: 8 is the fuel `next` hands to
`dispatch`, see `Out` in `EnumEventsSem`.)
-/
namespace EnumScan
open SchemaScan (Cls classify)

variable {content : Array UInt8} {data : Array Cls}

/-- **duplicate**: the key of the literal just read is already in `unique` -/
theorem outT_dup {st : St} (hp : PV st = true) {c : Cls} (hc : isDelimC c = true) (b b' a d : Nat) (lc : Bool)
    (uq : List (List UInt8 × Bool)) (hd : data[d]? = some c)
    (hdup : uq.contains (keyAt content b (d - b)) = true) :
    OutT content data ⟨st, [], [(.litB, b), (.itemB, b'), (.arrB, a)], [], d, false, false, lc, false, uq⟩ 0
      (.error (.duplicate b)) :=
  OutT.fail' hd (fun p1 => by rw [close_dispatch st hp c hc b b' a d lc uq p1, hdup]; rfl) (by intro h; cases h)

theorem outT_exponent {st : St} (hp : NumEnd st = true) {c : Cls} (hc : c = .le ∨ c = .uE) (ret : List St)
    (K : List (LexT × Nat)) (d : Nat) (ann unf lc ht : Bool) (uq : List (List UInt8 × Bool)) (hd : data[d]? = some c) :
    OutT content data ⟨st, ret, K, [], d, ann, unf, lc, ht, uq⟩ 0
      (.error (.invalidChar d "isn't allowed 'cause not obvious it's a float or an integer")) := by
  refine OutT.fail' hd (fun p1 => ?_) (by intro h; cases h)
  cases st <;> cases hp
  · rw [dispatch_d1 rfl, state0_eq]; rcases hc with rfl | rfl <;> rfl
  · rw [dispatch_d0 rfl, state0_eq]; rcases hc with rfl | rfl <;> rfl
  · rw [dispatch_dot0 rfl]; rcases hc with rfl | rfl <;> rfl

/-! ### entering a comment -/

/-- the states in which a comment may start: between the items, and behind the list -/
def CmtSt (st : St) : Prop := st = .arrItemOrEmpty ∨ st = .arrItem ∨ st = .afterItem ∨ st = .endTop

theorem pre_slash {st : St} (hst : CmtSt st) (K : List (LexT × Nat)) (i : Nat) (lc ht : Bool)
    (uq : List (List UInt8 × Bool)) (hc : data[i]? = some .slash) :
    Pre content data ⟨st, [], K, [], i, false, false, lc, ht, uq⟩ []
      ⟨.anyAnnStart, [st], K, [], i + 1, false, false, lc, ht, uq⟩ := by
  rcases hst with rfl | rfl | rfl | rfl
  · exact Pre.byte hc (fun p1 => by rw [dispatch_arrItemOrEmpty rfl, beginItem_eq]; rfl) rfl
  · exact Pre.byte hc (fun p1 => by rw [dispatch_arrItem rfl, beginItem_eq]; rfl) rfl
  · exact Pre.byte hc (fun p1 => by rw [dispatch_afterItem rfl]; rfl) rfl
  · exact Pre.byte hc (fun p1 => by rw [dispatch_endTop rfl]; rfl) rfl

/-- `/` directly behind the closing bracket (state `endValue`, empty stack) -/
theorem pre_slash_endValue (i : Nat) (lc ht : Bool) (uq : List (List UInt8 × Bool)) (hc : data[i]? = some .slash) :
    Pre content data ⟨.endValue, [], [], [], i, false, false, lc, ht, uq⟩ []
      ⟨.anyAnnStart, [.endTop], [], [], i + 1, false, false, lc, ht, uq⟩ :=
  Pre.byte hc (fun p1 => by rw [dispatch_endValue rfl, endValue_nil rfl, dispatch_endTop rfl]; rfl) rfl

/-! ### `// sp* txt line-break` -/

def IsSp (l : List Cls) : Prop := ∀ c ∈ l, c.isSpace = true
def NoNl (l : List Cls) : Prop := ∀ c ∈ l, c.isNewLine = false

theorem pre_inl_sp (r : List St) (K : List (LexT × Nat)) (lc ht : Bool) (uq : List (List UInt8 × Bool))
    (sp : List Cls) (hsp : IsSp sp) : ∀ i, SegA data i sp →
    Pre content data ⟨.inlAnn, r, K, [], i, true, false, lc, ht, uq⟩ []
      ⟨.inlAnn, r, K, [], i + sp.length, true, false, lc, ht, uq⟩ :=
  Pre.loop (fun i => ⟨.inlAnn, r, K, [], i, true, false, lc, ht, uq⟩) (·.isSpace = true)
    (fun i c hb hc => Pre.byte hc (fun p1 => by rw [dispatch_inlAnn rfl]; exact if_pos hb) rfl) sp hsp

theorem pre_inlTxt (r : List St) (K : List (LexT × Nat)) (lc ht : Bool) (uq : List (List UInt8 × Bool))
    (txt : List Cls) (htx : NoNl txt) : ∀ i, SegA data i txt →
    Pre content data ⟨.inlTxt, r, K, [], i, true, false, lc, ht, uq⟩ []
      ⟨.inlTxt, r, K, [], i + txt.length, true, false, lc, ht, uq⟩ :=
  Pre.loop (fun i => ⟨.inlTxt, r, K, [], i, true, false, lc, ht, uq⟩) (·.isNewLine = false)
    (fun i c hb hc => Pre.byte hc
      (fun p1 => by rw [dispatch_inlTxt rfl]; exact if_neg (by rw [hb]; exact Bool.false_ne_true)) rfl) txt htx

/-- the events of `// sp txt NL` whose SECOND slash stands at `p` -/
def inlEvs (p : Nat) (sp txt : List Cls) : List Ev :=
  [⟨.inlAnnB, p, p⟩, ⟨.inlTxtB, p + 1 + sp.length, p + 1 + sp.length⟩,
   ⟨.inlTxtE, p + 1 + sp.length, p + 1 + sp.length + txt.length - 1⟩,
   ⟨.inlAnnE, p, p + 1 + sp.length + txt.length - 1⟩,
   ⟨.newLine, p + 1 + sp.length + txt.length, p + 1 + sp.length + txt.length⟩]

/-- the text of an inline comment: no line break inside, the first byte is neither a space nor a tab -/
def InlTxt (txt : List Cls) : Prop := NoNl txt ∧ ∀ c, txt.head? = some c → c.isSpace = false

/-- from behind the first `/`: `/ sp txt NL`, back to the state `r0` the comment interrupted -/
theorem pre_inl_body (r0 : St) (K : List (LexT × Nat)) (lc ht : Bool) (uq : List (List UInt8 × Bool))
    (sp txt : List Cls) (hsp : IsSp sp) (htx : InlTxt txt) (p : Nat)
    (hseg : SegA data p (.slash :: (sp ++ (txt ++ [.nl])))) :
    Pre content data ⟨.anyAnnStart, [r0], K, [], p, false, false, lc, ht, uq⟩ (inlEvs p sp txt)
      ⟨r0, [], K, [], p + 1 + sp.length + txt.length + 1, false, false, lc, ht, uq⟩ := by
  obtain ⟨hsl, hrest⟩ := hseg
  obtain ⟨hsps, hrest⟩ := SegA_append hrest
  obtain ⟨htxs, hnl⟩ := SegA_append hrest
  obtain ⟨hnl, _⟩ := hnl
  -- second slash
  have h1 : Pre content data ⟨.anyAnnStart, [r0], K, [], p, false, false, lc, ht, uq⟩ [⟨.inlAnnB, p, p⟩]
      ⟨.inlAnn, [r0], (.inlAnnB, p) :: K, [], p + 1, true, false, lc, ht, uq⟩ :=
    (Pre.byte hsl (fun p1 => by rw [dispatch_anyAnnStart rfl]; rfl) rfl).trans (Pre.shift rfl)
  have h2 := pre_inl_sp (content := content) [r0] ((.inlAnnB, p) :: K) lc ht uq sp hsp (p + 1) hsps
  cases txt with
  | nil =>
    -- the line break arrives in state `inlAnn`: an empty text
    simp only [List.length_nil, Nat.add_zero] at hnl ⊢
    have h3 : Pre content data ⟨.inlAnn, [r0], (.inlAnnB, p) :: K, [], p + 1 + sp.length, true, false, lc, ht, uq⟩
        [⟨.inlTxtB, p + 1 + sp.length, p + 1 + sp.length⟩, ⟨.inlTxtE, p + 1 + sp.length, p + 1 + sp.length - 1⟩,
         ⟨.inlAnnE, p, p + 1 + sp.length - 1⟩, ⟨.newLine, p + 1 + sp.length, p + 1 + sp.length⟩]
        ⟨r0, [], K, [], p + 1 + sp.length + 1, false, false, lc, ht, uq⟩ :=
      ((((Pre.byte hnl (fun p1 => by rw [dispatch_inlAnn rfl, dispatch_inlTxt rfl]; rfl) rfl).trans (Pre.shift rfl)).trans
        (Pre.shift rfl)).trans (Pre.shift rfl)).trans (Pre.shift rfl)
    exact ((h1.trans h2).trans h3).cast (by simp [inlEvs])
  | cons c cs =>
    obtain ⟨hc, hcs⟩ := htxs
    have hns : c.isSpace = false := htx.2 c rfl
    have hnn : c.isNewLine = false := htx.1 c (by simp)
    have h3 : Pre content data ⟨.inlAnn, [r0], (.inlAnnB, p) :: K, [], p + 1 + sp.length, true, false, lc, ht, uq⟩
        [⟨.inlTxtB, p + 1 + sp.length, p + 1 + sp.length⟩]
        ⟨.inlTxt, [r0], (.inlTxtB, p + 1 + sp.length) :: (.inlAnnB, p) :: K, [], p + 1 + sp.length + 1, true, false,
          lc, ht, uq⟩ :=
      (Pre.byte hc (fun p1 => by
        rw [dispatch_inlAnn rfl, if_neg (by rw [hns]; exact Bool.false_ne_true), dispatch_inlTxt rfl,
          if_neg (by rw [hnn]; exact Bool.false_ne_true)]
        rfl) rfl).trans (Pre.shift rfl)
    have h4 := pre_inlTxt (content := content) [r0] ((.inlTxtB, p + 1 + sp.length) :: (.inlAnnB, p) :: K) lc ht uq cs
      (fun x hx => htx.1 x (by simp [hx])) (p + 1 + sp.length + 1) hcs
    have hnl' : data[p + 1 + sp.length + 1 + cs.length]? = some .nl := by
      rw [show p + 1 + sp.length + 1 + cs.length = p + 1 + sp.length + (c :: cs).length by
        simp only [List.length_cons]; omega]
      exact hnl
    have h5 : Pre content data
        ⟨.inlTxt, [r0], (.inlTxtB, p + 1 + sp.length) :: (.inlAnnB, p) :: K, [], p + 1 + sp.length + 1 + cs.length, true,
          false, lc, ht, uq⟩
        [⟨.inlTxtE, p + 1 + sp.length, p + 1 + sp.length + 1 + cs.length - 1⟩,
         ⟨.inlAnnE, p, p + 1 + sp.length + 1 + cs.length - 1⟩,
         ⟨.newLine, p + 1 + sp.length + 1 + cs.length, p + 1 + sp.length + 1 + cs.length⟩]
        ⟨r0, [], K, [], p + 1 + sp.length + 1 + cs.length + 1, false, false, lc, ht, uq⟩ :=
      (((Pre.byte hnl' (fun p1 => by rw [dispatch_inlTxt rfl]; rfl) rfl).trans (Pre.shift rfl)).trans
        (Pre.shift rfl)).trans (Pre.shift rfl)
    refine ((((h1.trans h2).trans h3).trans h4).trans h5).cast ?_ |>.castS ?_
    · simp only [inlEvs, List.length_cons, List.cons_append, List.nil_append, List.append_nil, List.cons.injEq,
        and_true, true_and]
      refine ⟨?_, ?_, ?_⟩ <;> (congr 1 <;> omega)
    · simp only [List.length_cons]
      rw [show p + 1 + sp.length + 1 + cs.length + 1 = p + 1 + sp.length + (cs.length + 1) + 1 by omega]

/-! ### `/* ws txt */` -/

/-- no `*` is directly followed by `/` -/
def noClose : List Cls → Bool
  | [] => true
  | [_] => true
  | a :: b :: rest => !(a == .star && b == .slash) && noClose (b :: rest)

/-- the text of a multi-line comment: it does not contain `*/`, its first byte is not blank -/
def MlTxt (txt : List Cls) : Prop := noClose (txt ++ [.star]) = true ∧ ∀ c, txt.head? = some c → c.isBlank = false

theorem pre_ml_ws (r : List St) (K : List (LexT × Nat)) (lc ht : Bool) (uq : List (List UInt8 × Bool))
    (ws : List Cls) (hw : IsWs ws) : ∀ i, SegA data i ws →
    Pre content data ⟨.mlAnn, r, K, [], i, true, false, lc, ht, uq⟩ (nlEvs i ws)
      ⟨.mlAnn, r, K, [], i + ws.length, true, false, lc, ht, uq⟩ := by
  induction ws with
  | nil => intro i _; exact Pre.refl _
  | cons c cs ih =>
    intro i hseg
    obtain ⟨hc, hcs⟩ := hseg
    have hb := hw c (by simp)
    have h1 : Pre content data ⟨.mlAnn, r, K, [], i, true, false, lc, ht, uq⟩
        (if c.isNewLine then [⟨.newLine, i, i⟩] else [])
        ⟨.mlAnn, r, K, [], i + 1, true, false, lc, ht, uq⟩ := by
      rcases blank_cases hb with rfl | rfl | rfl
      · exact Pre.byte hc (fun p1 => by rw [dispatch_mlAnn rfl]; rfl) rfl
      · exact Pre.byte hc (fun p1 => by rw [dispatch_mlAnn rfl]; rfl) rfl
      · exact (Pre.byte hc (fun p1 => by rw [dispatch_mlAnn rfl]; rfl) rfl).trans (Pre.shift rfl)
    have h2 := ih (fun x hx => hw x (by simp [hx])) (i + 1) hcs
    simp only [List.length_cons, nlEvs]
    rw [show i + (cs.length + 1) = i + 1 + cs.length by omega]
    exact h1.trans h2

theorem mlTxt_stay (r : List St) (K : List (LexT × Nat)) (i : Nat) (lc ht : Bool) (uq : List (List UInt8 × Bool))
    (c : Cls) (p1 : Option Cls) (h : (c == .star && p1 == some .slash) = false) :
    dispatch content 8 ⟨.mlTxt, r, K, [], i, true, false, lc, ht, uq⟩ c p1
      = .ok ⟨.mlTxt, r, K, [], i, true, false, lc, ht, uq⟩ := by
  rw [dispatch_mlTxt rfl]
  exact if_neg (by rw [h]; exact Bool.false_ne_true)

theorem getElem?_head_of_seg {i : Nat} {c : Cls} {cs : List Cls} (h : SegA data i (c :: cs)) : data[i]? = some c := h.1

/-- the bytes of the text, each seen with the byte behind it -/
theorem pre_mlTxt (r : List St) (K : List (LexT × Nat)) (lc ht : Bool) (uq : List (List UInt8 × Bool))
    (txt : List Cls) : ∀ (z : Cls) (i : Nat), SegA data i (txt ++ [z]) → noClose (txt ++ [z]) = true →
    Pre content data ⟨.mlTxt, r, K, [], i, true, false, lc, ht, uq⟩ []
      ⟨.mlTxt, r, K, [], i + txt.length, true, false, lc, ht, uq⟩ := by
  induction txt with
  | nil => intro z i _ _; exact Pre.refl _
  | cons c cs ih =>
    intro z i hseg hno
    obtain ⟨hc, hcs⟩ := hseg
    have hcs : SegA data (i + 1) (cs ++ [z]) := hcs
    -- the byte behind `c`
    obtain ⟨n, tl, hn⟩ : ∃ n tl, cs ++ [z] = n :: tl := by
      cases cs with
      | nil => exact ⟨z, [], rfl⟩
      | cons x xs => exact ⟨x, xs ++ [z], rfl⟩
    have hnx : data[i + 1]? = some n := by rw [hn] at hcs; exact hcs.1
    have hno' : (c == .star && n == .slash) = false ∧ noClose (cs ++ [z]) = true := by
      have : noClose (c :: n :: tl) = true := by
        have e : (c :: cs) ++ [z] = c :: n :: tl := by simp [hn]
        rw [← e]; exact hno
      simp only [noClose, Bool.and_eq_true, Bool.not_eq_true'] at this
      rw [hn]
      exact this
    have h1 : Pre content data ⟨.mlTxt, r, K, [], i, true, false, lc, ht, uq⟩ []
        ⟨.mlTxt, r, K, [], i + 1, true, false, lc, ht, uq⟩ :=
      Pre.byteP hc (by
        rw [hnx]
        exact mlTxt_stay r K (i + 1) lc ht uq c (some n) (by
          cases hcs' : (c == Cls.star) <;> simp [hcs'] at hno' ⊢
          exact hno'.1)) rfl
    have h2 := ih z (i + 1) hcs hno'.2
    simp only [List.length_cons]
    rw [show i + (cs.length + 1) = i + 1 + cs.length by omega]
    exact h1.trans h2

/-- the events of `/* ws txt */` whose `*` stands at `p` -/
def mlEvs (p : Nat) (ws txt : List Cls) : List Ev :=
  ⟨.mlAnnB, p, p⟩ :: (nlEvs (p + 1) ws ++
    [⟨.mlTxtB, p + 1 + ws.length, p + 1 + ws.length⟩,
     ⟨.mlTxtE, p + 1 + ws.length, p + 1 + ws.length + txt.length - 1⟩,
     ⟨.mlAnnE, p, p + 1 + ws.length + txt.length + 1⟩])

/-- from behind the `/`: `* ws txt * /`, back to the state `r0` the comment interrupted -/
theorem pre_ml_body (r0 : St) (K : List (LexT × Nat)) (lc ht : Bool) (uq : List (List UInt8 × Bool))
    (ws txt : List Cls) (hw : IsWs ws) (htx : MlTxt txt) (p : Nat)
    (hseg : SegA data p (.star :: (ws ++ (txt ++ [.star, .slash])))) :
    Pre content data ⟨.anyAnnStart, [r0], K, [], p, false, false, lc, ht, uq⟩ (mlEvs p ws txt)
      ⟨r0, [], K, [], p + 1 + ws.length + txt.length + 2, false, false, lc, ht, uq⟩ := by
  obtain ⟨hst, hrest⟩ := hseg
  obtain ⟨hwss, hrest⟩ := SegA_append hrest
  have h1 : Pre content data ⟨.anyAnnStart, [r0], K, [], p, false, false, lc, ht, uq⟩ [⟨.mlAnnB, p, p⟩]
      ⟨.mlAnn, [r0], (.mlAnnB, p) :: K, [], p + 1, true, false, lc, ht, uq⟩ :=
    (Pre.byte hst (fun p1 => by rw [dispatch_anyAnnStart rfl]; rfl) rfl).trans (Pre.shift rfl)
  have h2 := pre_ml_ws (content := content) [r0] ((.mlAnnB, p) :: K) lc ht uq ws hw (p + 1) hwss
  -- the end: `*` seen with `/` behind it, then `/`
  have hend : ∀ (q tb : Nat), data[q]? = some .star → data[q + 1]? = some .slash →
      Pre content data ⟨.mlTxt, [r0], (.mlTxtB, tb) :: (.mlAnnB, p) :: K, [], q, true, false, lc, ht, uq⟩
        [⟨.mlTxtE, tb, q - 1⟩, ⟨.mlAnnE, p, q + 1⟩]
        ⟨r0, [], K, [], q + 2, false, false, lc, ht, uq⟩ := by
    intro q tb h1 h2
    have a1 : Pre content data ⟨.mlTxt, [r0], (.mlTxtB, tb) :: (.mlAnnB, p) :: K, [], q, true, false, lc, ht, uq⟩
        [⟨.mlTxtE, tb, q - 1⟩]
        ⟨.mlAnnEnd, [r0], (.mlAnnB, p) :: K, [], q + 1, true, false, lc, ht, uq⟩ :=
      (Pre.byteP h1 (by rw [h2, dispatch_mlTxt rfl]; rfl) rfl).trans (Pre.shift rfl)
    have a2 : Pre content data ⟨.mlAnnEnd, [r0], (.mlAnnB, p) :: K, [], q + 1, true, false, lc, ht, uq⟩
        [⟨.mlAnnE, p, q + 1⟩]
        ⟨r0, [], K, [], q + 1 + 1, false, false, lc, ht, uq⟩ :=
      (Pre.byte h2 (fun p1 => by rw [dispatch_mlAnnEnd rfl]; rfl) rfl).trans (Pre.shift rfl)
    exact (a1.trans a2).cast rfl
  cases txt with
  | nil =>
    simp only [List.nil_append] at hrest
    obtain ⟨hs1, hs2, _⟩ := hrest
    -- the closing `*` arrives in state `mlAnn`: an empty text
    have h3 : Pre content data ⟨.mlAnn, [r0], (.mlAnnB, p) :: K, [], p + 1 + ws.length, true, false, lc, ht, uq⟩
        [⟨.mlTxtB, p + 1 + ws.length, p + 1 + ws.length⟩, ⟨.mlTxtE, p + 1 + ws.length, p + 1 + ws.length - 1⟩]
        ⟨.mlAnnEnd, [r0], (.mlAnnB, p) :: K, [], p + 1 + ws.length + 1, true, false, lc, ht, uq⟩ :=
      ((Pre.byteP hs1 (by rw [hs2, dispatch_mlAnn rfl, dispatch_mlTxt rfl]; rfl) rfl).trans (Pre.shift rfl)).trans
        (Pre.shift rfl)
    have h4 : Pre content data ⟨.mlAnnEnd, [r0], (.mlAnnB, p) :: K, [], p + 1 + ws.length + 1, true, false, lc, ht, uq⟩
        [⟨.mlAnnE, p, p + 1 + ws.length + 1⟩]
        ⟨r0, [], K, [], p + 1 + ws.length + 1 + 1, false, false, lc, ht, uq⟩ :=
      (Pre.byte hs2 (fun p1 => by rw [dispatch_mlAnnEnd rfl]; rfl) rfl).trans (Pre.shift rfl)
    exact (((h1.trans h2).trans h3).trans h4).cast (by simp [mlEvs])
  | cons c cs =>
    have hrest' : SegA data (p + 1 + ws.length) ((c :: cs) ++ [.star] ++ [.slash]) := by
      simpa [List.append_assoc] using hrest
    obtain ⟨htxs, hsl⟩ := SegA_append hrest'
    obtain ⟨hsl, _⟩ := hsl
    have hc : data[p + 1 + ws.length]? = some c := htxs.1
    have hnb : c.isBlank = false := htx.2 c rfl
    -- the byte behind `c`
    obtain ⟨n, tl, hn⟩ : ∃ n tl, cs ++ [Cls.star] = n :: tl := by
      cases cs with
      | nil => exact ⟨.star, [], rfl⟩
      | cons x xs => exact ⟨x, xs ++ [.star], rfl⟩
    have hcs : SegA data (p + 1 + ws.length + 1) (cs ++ [.star]) := htxs.2
    have hnx : data[p + 1 + ws.length + 1]? = some n := by rw [hn] at hcs; exact hcs.1
    have hno : (c == .star && n == .slash) = false ∧ noClose (cs ++ [.star]) = true := by
      have : noClose (c :: n :: tl) = true := by
        have e : (c :: cs) ++ [Cls.star] = c :: n :: tl := by simp [hn]
        rw [← e]; exact htx.1
      simp only [noClose, Bool.and_eq_true, Bool.not_eq_true'] at this
      rw [hn]
      exact this
    have h3 : Pre content data ⟨.mlAnn, [r0], (.mlAnnB, p) :: K, [], p + 1 + ws.length, true, false, lc, ht, uq⟩
        [⟨.mlTxtB, p + 1 + ws.length, p + 1 + ws.length⟩]
        ⟨.mlTxt, [r0], (.mlTxtB, p + 1 + ws.length) :: (.mlAnnB, p) :: K, [], p + 1 + ws.length + 1, true, false,
          lc, ht, uq⟩ := by
      have b1 : Pre content data ⟨.mlAnn, [r0], (.mlAnnB, p) :: K, [], p + 1 + ws.length, true, false, lc, ht, uq⟩ []
          ⟨.mlTxt, [r0], (.mlAnnB, p) :: K, [.mlTxtB], p + 1 + ws.length + 1, true, false, lc, ht, uq⟩ := by
        refine Pre.byteP hc ?_ rfl
        rw [hnx]
        have hnn : c.isNewLine = false := (Bool.or_eq_false_iff.mp hnb).2
        have hq : (c == Cls.star && some n == some Cls.slash) = false := by simpa using hno.1
        rw [dispatch_mlAnn rfl, if_neg (by rw [hnn]; exact Bool.false_ne_true),
          if_neg (by rw [hnb]; exact Bool.false_ne_true), dispatch_mlTxt rfl,
          if_neg (by rw [hq]; exact Bool.false_ne_true)]
        rfl
      exact b1.trans (Pre.shift rfl)
    have h4 := pre_mlTxt (content := content) [r0] ((.mlTxtB, p + 1 + ws.length) :: (.mlAnnB, p) :: K) lc ht uq cs
      .star (p + 1 + ws.length + 1) hcs hno.2
    have hstar : data[p + 1 + ws.length + 1 + cs.length]? = some .star := by
      obtain ⟨_, h⟩ := SegA_append hcs
      exact h.1
    have hslash : data[p + 1 + ws.length + 1 + cs.length + 1]? = some .slash := by
      have : p + 1 + ws.length + ((c :: cs) ++ [Cls.star]).length = p + 1 + ws.length + 1 + cs.length + 1 := by
        simp only [List.length_append, List.length_cons, List.length_nil]; omega
      rw [← this]; exact hsl
    have h5 := hend (p + 1 + ws.length + 1 + cs.length) (p + 1 + ws.length) hstar hslash
    refine ((((h1.trans h2).trans h3).trans h4).trans h5).cast ?_ |>.castS ?_
    · simp only [mlEvs, List.length_cons, List.cons_append, List.nil_append, List.append_nil, List.append_assoc,
        List.cons.injEq, true_and]
      congr 1
      simp only [List.cons.injEq, true_and, and_true]
      refine ⟨?_, ?_⟩ <;> (congr 1 <;> omega)
    · simp only [List.length_cons]
      rw [show p + 1 + ws.length + 1 + cs.length + 2 = p + 1 + ws.length + (cs.length + 1) + 2 by omega]

end EnumScan
