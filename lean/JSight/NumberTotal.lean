import JSight.Number
/-!
C10: every RFC 8259 numeral is recognised by the number model — except an integer part `0` directly followed
by an exponent (`0e1`, known finding K-C10-zeroexp, which the code rejects). So the exactness theorems
(`C10_cmp_exact`, `C10_fracLen`) speak about every numeral the property quantifies over.
-/
namespace Num

/-- an RFC 8259 numeral by its parts -/
structure Numeral where
  neg : Bool
  intHead : Nat                 -- first digit of the integer part
  intTail : List Nat            -- further digits (empty when `intHead = 0`: no leading zeros)
  frac : Option (Nat × List Nat)                -- first digit after the point and the rest
  exp : Option (Option Bool × Nat × List Nat)   -- sign (`some true` = '-'), first digit, further digits

def Numeral.wf (t : Numeral) : Prop := t.intHead = 0 → t.intTail = []

/-- the integer part is `0` and an exponent follows it directly (K-C10-zeroexp) -/
def Numeral.zeroExp (t : Numeral) : Prop := t.intHead = 0 ∧ t.frac = none ∧ t.exp ≠ none

def expChars : Option (Option Bool × Nat × List Nat) → List Ch
  | none => []
  | some (none, d, ds) => .e :: .d d :: ds.map .d
  | some (some false, d, ds) => .e :: .plus :: .d d :: ds.map .d
  | some (some true, d, ds) => .e :: .minus :: .d d :: ds.map .d

def fracChars : Option (Nat × List Nat) → List Ch
  | none => []
  | some (f, fs) => .dot :: .d f :: fs.map .d

def Numeral.render (t : Numeral) : List Ch :=
  (if t.neg then [.minus] else []) ++ (.d t.intHead :: t.intTail.map .d) ++
  fracChars t.frac ++ expChars t.exp

theorem foldlM_append' (s : Sc) (a b : List Ch) :
    (a ++ b).foldlM Sc.step s = (a.foldlM Sc.step s).bind (fun s' => b.foldlM Sc.step s') := by
  induction a generalizing s with
  | nil => simp
  | cons x xs ih =>
    simp only [List.cons_append, List.foldlM_cons, Option.bind_eq_bind]
    cases h : Sc.step s x with
    | none => simp
    | some s' => simp only [Option.bind_some]; exact ih s'

theorem step_int_digit (s : Sc) (h : s.st = .intFound) (n : Nat) :
    Sc.step s (.d n) = some { s with finished := true, intLen := s.intLen + 1, digits := s.digits ++ [n] } := by
  unfold Sc.step; rw [h]
theorem step_frac_digit (s : Sc) (h : s.st = .fracFound) (n : Nat) :
    Sc.step s (.d n) = some { s with finished := true, fraLen := s.fraLen + 1, digits := s.digits ++ [n] } := by
  unfold Sc.step; rw [h]
theorem step_exp_digit (s : Sc) (h : s.st = .expNum) (n : Nat) :
    Sc.step s (.d n) = some { s with finished := true, expDigits := s.expDigits ++ [n] } := by
  unfold Sc.step; rw [h]

/-- mantissa digit loops: `intFound` and `fracFound` stay where they are on a digit -/
theorem digits_loop (p : St) (hp : p = .intFound ∨ p = .fracFound) (ds : List Nat) : ∀ s : Sc,
    s.st = p → s.finished = true → s.expDigits = [] → s.expNeg = false →
    ∃ s', (ds.map Ch.d).foldlM Sc.step s = some s' ∧ s'.st = p ∧ s'.finished = true ∧ s'.expDigits = [] ∧ s'.expNeg = false := by
  induction ds with
  | nil => intro s h1 h2 h3 h4; exact ⟨s, rfl, h1, h2, h3, h4⟩
  | cons d ds ih =>
    intro s h1 h2 h3 h4
    -- the digit is counted in `intLen` or in `fraLen`; nothing else tells the two loops apart
    obtain ⟨s1, hs1, a1, a2, a3, a4⟩ : ∃ s1, Sc.step s (.d d) = some s1 ∧ s1.st = p ∧ s1.finished = true ∧
        s1.expDigits = [] ∧ s1.expNeg = false := by
      rcases hp with rfl | rfl
      · exact ⟨_, step_int_digit s h1 d, h1, rfl, h3, h4⟩
      · exact ⟨_, step_frac_digit s h1 d, h1, rfl, h3, h4⟩
    obtain ⟨s', e, r⟩ := ih s1 a1 a2 a3 a4
    refine ⟨s', ?_, r⟩
    simp only [List.map_cons, List.foldlM_cons, hs1, Option.bind_eq_bind, Option.bind_some]
    exact e

/-- exponent digit loop -/
theorem exp_loop (ds : List Nat) : ∀ s : Sc, s.st = .expNum → s.finished = true → s.expDigits ≠ [] →
    ∃ s', (ds.map Ch.d).foldlM Sc.step s = some s' ∧ s'.finished = true ∧ s'.expDigits ≠ [] ∧ s'.expNeg = s.expNeg := by
  induction ds with
  | nil => intro s _ h2 h3; exact ⟨s, rfl, h2, h3, rfl⟩
  | cons d ds ih =>
    intro s h1 h2 h3
    obtain ⟨s', e, r⟩ := ih { s with finished := true, expDigits := s.expDigits ++ [d] } h1 rfl (by simp)
    refine ⟨s', ?_, r⟩
    simp only [List.map_cons, List.foldlM_cons, step_exp_digit s h1 d, Option.bind_eq_bind, Option.bind_some]
    exact e

theorem finish_some (s : Sc) (h1 : s.finished = true) (h2 : s.expNeg = true → s.expDigits ≠ []) : (finish s).isSome = true := by
  unfold finish
  have : (s.expNeg && s.expDigits.isEmpty) = false := by
    cases hn : s.expNeg with
    | false => simp
    | true => have := h2 hn; simp; exact this
  simp [h1, this]

theorem step_e (s : Sc) (h : s.st = .intFound ∨ s.st = .fracFound) :
    Sc.step s .e = some { s with finished := true, st := .expFound } := by
  unfold Sc.step; rcases h with h | h <;> rw [h]

/-- the exponent part, entered from a state that allows `e` -/
theorem exp_part (e : Option (Option Bool × Nat × List Nat)) (s : Sc) (hs : s.st = .intFound ∨ s.st = .fracFound)
    (hf : s.finished = true) (hn : s.expNeg = false) :
    ∃ s' : Sc, (expChars e).foldlM Sc.step s = some s' ∧ s'.finished = true ∧ (s'.expNeg = true → s'.expDigits ≠ []) := by
  match e with
  | none => exact ⟨s, rfl, hf, by simp [hn]⟩
  | some (sg, d, ds) =>
    -- whatever the sign, `e [sign] d` leads to `expNum` with one exponent digit; then the digit loop
    obtain ⟨s', e1, f1, f2, _⟩ := exp_loop ds
      { s with finished := true, expNeg := sg == some true, st := .expNum, expDigits := s.expDigits ++ [d] } rfl rfl (by simp)
    refine ⟨s', ?_, f1, fun _ => f2⟩
    rw [← e1]
    cases s; subst hn
    rcases sg with _ | _ | _ <;>
      simp only [expChars, List.foldlM_cons, step_e _ hs, Option.bind_eq_bind, Option.bind_some] <;> rfl

@[reducible] def headSt (s : Sc) (n : Nat) : Sc :=
  { s with finished := true, intLen := s.intLen + 1, digits := s.digits ++ [n], st := if n = 0 then .firstZero else .intFound }

def Good (s : Sc) : Prop := s.finished = true ∧ (s.expNeg = true → s.expDigits ≠ [])

/-- fraction digits then exponent, from `pointFound` -/
theorem frac_part (f : Nat) (fs : List Nat) (e : Option (Option Bool × Nat × List Nat)) (s : Sc)
    (hs : s.st = .pointFound) (h3 : s.expDigits = []) (h4 : s.expNeg = false) :
    ∃ s', ((Ch.d f :: fs.map Ch.d) ++ expChars e).foldlM Sc.step s = some s' ∧ Good s' := by
  have h1 : Sc.step s (.d f) = some { s with finished := true, fraLen := s.fraLen + 1, digits := s.digits ++ [f], st := .fracFound } := by
    unfold Sc.step; rw [hs]
  obtain ⟨s1, e1, a1, a2, a3, a4⟩ := digits_loop .fracFound (Or.inr rfl) fs
    { s with finished := true, fraLen := s.fraLen + 1, digits := s.digits ++ [f], st := .fracFound } rfl rfl h3 h4
  obtain ⟨s2, e2, g⟩ := exp_part e s1 (Or.inr a1) a2 a4
  refine ⟨s2, ?_, g⟩
  rw [List.cons_append, List.foldlM_cons, h1]
  simp only [Option.bind_eq_bind, Option.bind_some]
  rw [foldlM_append', e1]
  exact e2

/-- what follows a non-zero integer part -/
theorem after_int (fr : Option (Nat × List Nat)) (e : Option (Option Bool × Nat × List Nat)) (s : Sc)
    (hs : s.st = .intFound) (h2 : s.finished = true) (h3 : s.expDigits = []) (h4 : s.expNeg = false) :
    ∃ s', (fracChars fr ++ expChars e).foldlM Sc.step s = some s' ∧ Good s' := by
  match fr with
  | none => simpa [fracChars, Good] using exp_part e s (Or.inl hs) h2 h4
  | some (f, fs) =>
    have h1 : Sc.step s .dot = some { s with finished := true, st := .pointFound } := by unfold Sc.step; rw [hs]
    obtain ⟨s', e1, g⟩ := frac_part f fs e { s with finished := true, st := .pointFound } rfl h3 h4
    refine ⟨s', ?_, g⟩
    simp only [fracChars, List.cons_append, List.foldlM_cons, h1, Option.bind_eq_bind, Option.bind_some]
    simpa using e1

/-- what follows the integer part `0`: a fraction, or nothing at all -/
theorem after_zero (fr : Option (Nat × List Nat)) (e : Option (Option Bool × Nat × List Nat)) (s : Sc)
    (hs : s.st = .firstZero) (h2 : s.finished = true) (h3 : s.expDigits = []) (h4 : s.expNeg = false)
    (hz : fr = none → e = none) :
    ∃ s', (fracChars fr ++ expChars e).foldlM Sc.step s = some s' ∧ Good s' := by
  match fr with
  | none =>
    rw [hz rfl]
    exact ⟨s, rfl, h2, by simp [h4]⟩
  | some (f, fs) =>
    have h1 : Sc.step s .dot = some { s with finished := true, st := .pointFound } := by unfold Sc.step; rw [hs]
    obtain ⟨s', e1, g⟩ := frac_part f fs e { s with finished := true, st := .pointFound } rfl h3 h4
    refine ⟨s', ?_, g⟩
    simp only [fracChars, List.cons_append, List.foldlM_cons, h1, Option.bind_eq_bind, Option.bind_some]
    simpa using e1

/-- the integer part and everything after it, from `start` or `minusFound` -/
theorem body (t : Numeral) (hw : t.wf) (hz : ¬ t.zeroExp) (s : Sc) (hs : s.st = .start ∨ s.st = .minusFound)
    (h3 : s.expDigits = []) (h4 : s.expNeg = false) :
    ∃ s', ((Ch.d t.intHead :: t.intTail.map Ch.d) ++ (fracChars t.frac ++ expChars t.exp)).foldlM Sc.step s = some s' ∧ Good s' := by
  have h1 : Sc.step s (.d t.intHead) = some (headSt s t.intHead) := by
    unfold Sc.step headSt; rcases hs with h | h <;> rw [h]
  rw [List.cons_append, List.foldlM_cons, h1]
  simp only [Option.bind_eq_bind, Option.bind_some]
  by_cases h0 : t.intHead = 0
  · rw [hw h0]
    simp only [List.map_nil, List.nil_append]
    refine after_zero t.frac t.exp _ (by simp [headSt, h0]) rfl h3 h4 ?_
    intro hf
    by_cases he : t.exp = none
    · exact he
    · exact absurd ⟨h0, hf, he⟩ hz
  · obtain ⟨s1, e1, a1, a2, a3, a4⟩ := digits_loop .intFound (Or.inl rfl) t.intTail
      (headSt s t.intHead) (by simp [headSt, h0]) rfl h3 h4
    obtain ⟨s2, e2, g⟩ := after_int t.frac t.exp s1 a1 a2 a3 a4
    refine ⟨s2, ?_, g⟩
    rw [foldlM_append', e1]
    exact e2

/-- **every RFC 8259 numeral is recognised**, except integer part `0` directly followed by an exponent -/
theorem scan_total (t : Numeral) (hw : t.wf) (hz : ¬ t.zeroExp) : (scan t.render).isSome = true := by
  have key : ∃ s', t.render.foldlM Sc.step ({} : Sc) = some s' ∧ Good s' := by
    unfold Numeral.render
    rw [List.append_assoc, List.append_assoc]
    cases hn : t.neg with
    | false => simpa using body t hw hz {} (Or.inl rfl) rfl rfl
    | true =>
      have h1 : Sc.step ({} : Sc) .minus = some { neg := true, finished := false, st := .minusFound } := by unfold Sc.step; rfl
      obtain ⟨s', e, g⟩ := body t hw hz { neg := true, finished := false, st := .minusFound } (Or.inr rfl) rfl rfl
      refine ⟨s', ?_, g⟩
      simp only [if_true, List.cons_append, List.nil_append, List.foldlM_cons, h1, Option.bind_eq_bind, Option.bind_some]
      exact e
  obtain ⟨s', e, g1, g2⟩ := key
  unfold scan
  rw [e]
  exact finish_some s' g1 g2

/-- and the excluded shape really is rejected by the model (as by the code: K-C10-zeroexp) -/
theorem zeroExp_rejected : scan [.d 0, .e, .d 1] = none := by decide

/-- non-vacuity: `-12.50e-3` is such a numeral -/
example : (scan (Numeral.render ⟨true, 1, [2], some (5, [0]), some (some true, 3, [])⟩)).isSome = true :=
  scan_total _ (by simp [Numeral.wf]) (by simp [Numeral.zeroExp])

end Num
