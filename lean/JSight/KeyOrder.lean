import JSight.ValidateKProofs
import JSight.ListFacts
/-!
C13, property order, objects WITH key shortcuts (known finding K-C13-keyorder): one object level.

The members loop of `VK.shapeMembers` (= the validator, `VK.C03_key_shortcuts`) reads the members in document order
and hands every key that is no literal key of the schema object to the first UNUSED shortcut whose key type admits
it (`VK.pickShort`, fix F-15), or to `additionalProperties` when there is none left. When two of the document's
non-literal keys are admitted by the same shortcut, the one that comes first takes the shortcut, so the verdict may
depend on the order. `unamb` says that this does not happen: no two (positions of) non-literal document keys are
admitted by one shortcut. Under it the loop is a function of the member multiset (`loop_iff`).

`loop` is the members loop with the verdicts of the values abstracted (`pv` for a property / shortcut schema, `av`
for `additionalProperties`); `shapeMembers_eq_loop` instantiates it.
-/
namespace KeyOrder
open VK
open VN (J)
variable {L D : Type}

section level
variable (keyOK : String → String → Bool) (pv : S L → J D → Bool) (av : J D → Bool)
  (props shorts : List (String × Bool × S L))

/-- `VK.shapeMembers` with the verdicts of the member values abstracted -/
def loop : List String → List String → List (String × J D) → Bool
  | req, _, [] => req.isEmpty
  | req, used, (k, v) :: ms =>
    match lookup props k with
    | some s => pv s v && loop (req.filter (· != k)) used ms
    | none =>
      match pickShort keyOK shorts used k with
      | some sc => pv sc.2.2 v && loop ((req.filter (· != k)).filter (· != "@" ++ sc.1)) (sc.1 :: used) ms
      | none => av v && loop (req.filter (· != k)) used ms

/-- two document keys collide: neither is a literal key of the schema object and one shortcut's key type admits both -/
def collide (k k' : String) : Bool :=
  (lookup props k).isNone && (lookup props k').isNone && shorts.any (fun sc => keyOK sc.1 k && keyOK sc.1 k')

/-- **key-unambiguous** (schema object × key list of the document object): no two positions of the key list collide.
Mentions `props`, `shorts`, `keyOK` and the keys only. -/
def unamb : List String → Bool
  | [] => true
  | k :: ks => ks.all (fun k' => !collide keyOK props shorts k k') && unamb ks

/-- a weaker-looking candidate: every non-literal key is admitted by at most one shortcut. It is neither
necessary nor sufficient for order independence (`Props.C13.C13_property_order_keys_atmostone_false`). -/
def atMostOneShort (ks : List String) : Bool :=
  ks.all (fun k => (lookup props k).isSome || decide ((shorts.filter (fun sc => keyOK sc.1 k)).length ≤ 1))

theorem collide_symm (k k' : String) : collide keyOK props shorts k k' = collide keyOK props shorts k' k := by
  unfold collide
  rw [Bool.and_comm (lookup props k).isNone]
  congr 1
  congr 1
  funext sc
  rw [Bool.and_comm]

theorem unamb_iff (ks : List String) :
    unamb keyOK props shorts ks = true ↔ ks.Pairwise (fun k k' => collide keyOK props shorts k k' = false) := by
  induction ks with
  | nil => simp [unamb]
  | cons k ks ih => simp [unamb, ih, List.pairwise_cons]

theorem unamb_perm {ks ks' : List String} (h : ks.Perm ks') :
    unamb keyOK props shorts ks = unamb keyOK props shorts ks' := by
  rw [Bool.eq_iff_iff, unamb_iff, unamb_iff]
  exact h.pairwise_iff (fun {a b} hab => by rw [collide_symm]; exact hab)

/-- the verdict on a member when `used` is ignored: literal key, else the first shortcut admitting the key, else
`additionalProperties` -/
def mverdict (m : String × J D) : Bool :=
  match lookup props m.1 with
  | some s => pv s m.2
  | none =>
    match shorts.find? (fun sc => keyOK sc.1 m.1) with
    | some sc => pv sc.2.2 m.2
    | none => av m.2

/-- the requirements a key discharges, `used` ignored -/
def mremoves (k : String) : List String :=
  match lookup props k with
  | some _ => [k]
  | none =>
    match shorts.find? (fun sc => keyOK sc.1 k) with
    | some sc => [k, "@" ++ sc.1]
    | none => [k]

/-- order-free form of the members loop -/
def Closed (req : List String) (ms : List (String × J D)) : Prop :=
  (∀ m ∈ ms, mverdict keyOK pv av props shorts m = true) ∧
  (∀ r ∈ req, ∃ m ∈ ms, r ∈ mremoves keyOK props shorts m.1)

theorem closed_perm (req : List String) {ms ms' : List (String × J D)} (h : ms.Perm ms') :
    Closed keyOK pv av props shorts req ms ↔ Closed keyOK pv av props shorts req ms' := by
  unfold Closed
  constructor
  · rintro ⟨h1, h2⟩
    exact ⟨fun m hm => h1 m (h.mem_iff.2 hm), fun r hr => let ⟨m, hm, e⟩ := h2 r hr; ⟨m, h.mem_iff.1 hm, e⟩⟩
  · rintro ⟨h1, h2⟩
    exact ⟨fun m hm => h1 m (h.mem_iff.1 hm), fun r hr => let ⟨m, hm, e⟩ := h2 r hr; ⟨m, h.mem_iff.2 hm, e⟩⟩

theorem closed_cons (req req' rm : List String) (k : String) (v : J D) (ms : List (String × J D)) (bv : Bool)
    (hreq : ∀ r, r ∈ req' ↔ r ∈ req ∧ r ∉ rm) (hv : mverdict keyOK pv av props shorts (k, v) = bv)
    (hr : mremoves keyOK props shorts k = rm) :
    Closed keyOK pv av props shorts req ((k, v) :: ms) ↔ (bv = true ∧ Closed keyOK pv av props shorts req' ms) := by
  unfold Closed
  constructor
  · rintro ⟨h1, h2⟩
    refine ⟨hv ▸ h1 (k, v) List.mem_cons_self, fun m hm => h1 m (List.mem_cons_of_mem _ hm), fun r hr' => ?_⟩
    obtain ⟨hr1, hr2⟩ := (hreq r).1 hr'
    obtain ⟨m, hm, e⟩ := h2 r hr1
    rcases List.mem_cons.1 hm with rfl | hm
    · exact absurd (hr ▸ e) hr2
    · exact ⟨m, hm, e⟩
  · rintro ⟨hb, h1, h2⟩
    refine ⟨fun m hm => ?_, fun r hr' => ?_⟩
    · rcases List.mem_cons.1 hm with rfl | hm
      · exact hv ▸ hb
      · exact h1 m hm
    · by_cases e : r ∈ rm
      · exact ⟨(k, v), List.mem_cons_self, hr ▸ e⟩
      · obtain ⟨m, hm, e'⟩ := h2 r ((hreq r).2 ⟨hr', e⟩)
        exact ⟨m, List.mem_cons_of_mem _ hm, e'⟩

/-- the loop invariant: no shortcut that admits a non-literal key still to come has been consumed -/
def Inv (used : List String) (ms : List (String × J D)) : Prop :=
  ∀ m ∈ ms, lookup props m.1 = none → ∀ sc ∈ shorts, keyOK sc.1 m.1 = true → sc.1 ∉ used

theorem pickShort_of_inv (used : List String) (k : String) (v : J D) (ms : List (String × J D))
    (hl : lookup props k = none) (hI : Inv keyOK props shorts used ((k, v) :: ms)) :
    pickShort keyOK shorts used k = shorts.find? (fun sc => keyOK sc.1 k) := by
  unfold pickShort
  apply List.find?_congr_left
  intro sc hsc
  cases hk : keyOK sc.1 k with
  | false => simp
  | true =>
    have := hI (k, v) (List.mem_cons_self) hl sc hsc hk
    simp [this]

theorem loop_iff (req used : List String) (ms : List (String × J D))
    (hU : (ms.map (·.1)).Pairwise (fun k k' => collide keyOK props shorts k k' = false))
    (hI : Inv keyOK props shorts used ms) :
    loop keyOK pv av props shorts req used ms = true ↔ Closed keyOK pv av props shorts req ms := by
  induction ms generalizing req used with
  | nil =>
    simp only [loop, Closed, List.isEmpty_iff]
    constructor
    · rintro rfl; simp
    · intro h; exact List.eq_nil_iff_forall_not_mem.2 (fun r hr => by simpa using h.2 r hr)
  | cons m ms ih =>
    obtain ⟨k, v⟩ := m
    rw [List.map_cons, List.pairwise_cons] at hU
    obtain ⟨hU1, hU2⟩ := hU
    have hItail : Inv keyOK props shorts used ms := fun m hm => hI m (List.mem_cons_of_mem _ hm)
    cases hl : lookup props k with
    | some s =>
      have e1 : loop keyOK pv av props shorts req used ((k, v) :: ms)
          = (pv s v && loop keyOK pv av props shorts (req.filter (· != k)) used ms) := by
        simp only [loop]; rw [hl]
      have mv : mverdict keyOK pv av props shorts (k, v) = pv s v := by simp only [mverdict]; rw [hl]
      have mr : mremoves keyOK props shorts k = [k] := by simp only [mremoves]; rw [hl]
      rw [e1, Bool.and_eq_true, ih _ _ hU2 hItail,
        closed_cons keyOK pv av props shorts req (req.filter (· != k)) [k] k v ms _ (fun r => by simp) mv mr]
    | none =>
      have hp := pickShort_of_inv keyOK props shorts used k v ms hl hI
      cases hf : shorts.find? (fun sc => keyOK sc.1 k) with
      | some sc =>
        have e1 : loop keyOK pv av props shorts req used ((k, v) :: ms)
            = (pv sc.2.2 v && loop keyOK pv av props shorts ((req.filter (· != k)).filter (· != "@" ++ sc.1))
                (sc.1 :: used) ms) := by
          simp only [loop]; rw [hl]; simp only [hp, hf]
        have hsc : sc ∈ shorts := List.mem_of_find?_eq_some hf
        have hk : keyOK sc.1 k = true := by simpa using List.find?_some hf
        have hI' : Inv keyOK props shorts (sc.1 :: used) ms := by
          intro m hm hlm sc' hsc' hk'
          rw [List.mem_cons, not_or]
          refine ⟨?_, hItail m hm hlm sc' hsc' hk'⟩
          intro e
          have hc := hU1 m.1 (List.mem_map_of_mem hm)
          have : collide keyOK props shorts k m.1 = true := by
            simp only [collide, hl, hlm, Option.isNone_none, Bool.true_and, List.any_eq_true]
            exact ⟨sc, hsc, by rw [hk, ← e, hk']; rfl⟩
          rw [this] at hc
          exact Bool.noConfusion hc
        have mv : mverdict keyOK pv av props shorts (k, v) = pv sc.2.2 v := by
          simp only [mverdict]; rw [hl]; simp only [hf]
        have mr : mremoves keyOK props shorts k = [k, "@" ++ sc.1] := by
          simp only [mremoves]; rw [hl]; simp only [hf]
        rw [e1, Bool.and_eq_true, ih _ _ hU2 hI',
          closed_cons keyOK pv av props shorts req ((req.filter (· != k)).filter (· != "@" ++ sc.1)) [k, "@" ++ sc.1] k v ms _
            (fun r => by simp; intro _; exact And.comm) mv mr]
      | none =>
        have e1 : loop keyOK pv av props shorts req used ((k, v) :: ms)
            = (av v && loop keyOK pv av props shorts (req.filter (· != k)) used ms) := by
          simp only [loop]; rw [hl]; simp only [hp, hf]
        have mv : mverdict keyOK pv av props shorts (k, v) = av v := by
          simp only [mverdict]; rw [hl]; simp only [hf]
        have mr : mremoves keyOK props shorts k = [k] := by simp only [mremoves]; rw [hl]; simp only [hf]
        rw [e1, Bool.and_eq_true, ih _ _ hU2 hItail,
          closed_cons keyOK pv av props shorts req (req.filter (· != k)) [k] k v ms _ (fun r => by simp) mv mr]

/-- **one object level**: under key-unambiguity the members loop (started with no shortcut consumed) gives the same
verdict on every permutation of the members -/
theorem loop_perm (req : List String) {ms ms' : List (String × J D)} (h : ms.Perm ms')
    (hU : unamb keyOK props shorts (ms.map (·.1)) = true) :
    loop keyOK pv av props shorts req [] ms = loop keyOK pv av props shorts req [] ms' := by
  have hU' : unamb keyOK props shorts (ms'.map (·.1)) = true := by rw [← unamb_perm keyOK props shorts (h.map _)]; exact hU
  rw [Bool.eq_iff_iff, loop_iff keyOK pv av props shorts req [] ms ((unamb_iff ..).1 hU) (fun _ _ _ _ _ _ => by simp),
    loop_iff keyOK pv av props shorts req [] ms' ((unamb_iff ..).1 hU') (fun _ _ _ _ _ _ => by simp)]
  exact closed_perm keyOK pv av props shorts req h

end level

/-- the members loop of the specification is `loop` at the verdicts of the specification -/
theorem shapeMembers_eq_loop (env : Env L) (litOK : L → D → Bool) (keyOK : String → String → Bool)
    (props shorts : List (String × Bool × S L)) (add : AddMode L) (req used : List String) (ms : List (String × J D)) :
    shapeMembers env litOK keyOK props shorts add req used ms
      = loop keyOK (fun s v => (alts env s).any (fun a => shapeA env litOK keyOK a v))
          (fun v => addDecide litOK add v (fun n => (alts env (.ref [n] none)).any (fun a => shapeA env litOK keyOK a v)))
          props shorts req used ms := by
  induction ms generalizing req used with
  | nil => simp only [shapeMembers, loop]
  | cons m ms ih =>
    obtain ⟨k, v⟩ := m
    simp only [shapeMembers, loop]
    cases lookup props k with
    | some s => simp only [ih]
    | none =>
      cases pickShort keyOK shorts used k with
      | some sc => simp only [ih]
      | none => simp only [ih]

/-- an object without key shortcuts: nothing collides and nothing is ever used, so in any order every member is decided
by its property or by `additionalProperties`, and the required keys are present -/
theorem shapeMembers_noShorts (env : Env L) (litOK : L → D → Bool) (keyOK : String → String → Bool)
    (props : List (String × Bool × S L)) (add : AddMode L) (req used : List String) (ms : List (String × J D)) :
    shapeMembers env litOK keyOK props [] add req used ms = true ↔
      (∀ m ∈ ms, match lookup props m.1 with
          | some s => shape env litOK keyOK s m.2 = true
          | none => shapeAdd env litOK keyOK add m.2 = true) ∧
      (∀ k ∈ req, ∃ m ∈ ms, m.1 = k) := by
  rw [shapeMembers_eq_loop, loop_iff _ _ _ _ _ req used ms (List.pairwise_of_forall fun _ _ => by simp [collide])
    (fun _ _ _ _ h => absurd h List.not_mem_nil)]
  refine and_congr (forall₂_congr fun m _ => ?_) (forall₂_congr fun k _ => ?_)
  · simp only [mverdict, List.find?_nil]
    cases lookup props m.1 <;> rfl
  · simp only [mremoves, List.find?_nil]
    refine exists_congr fun m => and_congr_right fun _ => ?_
    cases lookup props m.1 <;> simp [eq_comm]

/-- the verdict of the specification on an object against one object alternative does not depend on the order of the
members, when the schema object is key-unambiguous for the document's keys -/
theorem shapeA_obj_perm (env : Env L) (litOK : L → D → Bool) (keyOK : String → String → Bool)
    (props shorts : List (String × Bool × S L)) (add : AddMode L) {ms ms' : List (String × J D)} (h : ms.Perm ms')
    (hU : unamb keyOK props shorts (ms.map (·.1)) = true) :
    shapeA env litOK keyOK (.obj props shorts add) (.obj ms) = shapeA env litOK keyOK (.obj props shorts add) (.obj ms') := by
  simp only [shapeA, shapeMembers_eq_loop]
  exact loop_perm keyOK _ _ props shorts _ h hU

end KeyOrder
