import JSight.AllOfKErrors
/-!
C03, allOf: required-key bookkeeping and transitivity.

* `reqOK_processType` / `reqOK_compileAll`: after the expansion the RequiredKeys list of EVERY object of the
  table is exactly the list of the keys of its non-optional children, own and inherited, in order (the
  optional flags travel with the children); `mem_req_iff_vk` relates that list to the one the validator model
  `VK.frameOf` derives from the flags.
* `allOf_transitive`: the children of an expanded type are its own children and the own children of every type
  it inherits from through any number of allOf steps.
-/
namespace AOK
variable {L : Type}

/-! ### required keys -/

mutual
/-- in every object of the schema the RequiredKeys list is the list of the keys of the non-optional children -/
def ReqOK : CS L → Prop
  | .lit _ => True
  | .any => True
  | .ref _ _ => True
  | .arr items => ReqOKList items
  | .obj ents req _ => req = reqOf ents ∧ ReqOKEnts ents
def ReqOKList : List (CS L) → Prop
  | [] => True
  | x :: xs => ReqOK x ∧ ReqOKList xs
def ReqOKEnts : List (String × Bool × Bool × CS L) → Prop
  | [] => True
  | (_, _, _, v) :: es => ReqOK v ∧ ReqOKEnts es
end

theorem reqOKEnts_append (a b : List (String × Bool × Bool × CS L)) :
    ReqOKEnts (a ++ b) ↔ ReqOKEnts a ∧ ReqOKEnts b := by
  induction a with
  | nil => simp [ReqOKEnts]
  | cons e a ih =>
    obtain ⟨k, sh, r, v⟩ := e
    simp only [List.cons_append, ReqOKEnts, ih, and_assoc]

theorem reqOKEnts_flatMap (bs : List (CS L)) (h : ∀ b ∈ bs, ReqOKEnts (entsOf b)) : ReqOKEnts (bs.flatMap entsOf) := by
  induction bs with
  | nil => simp [ReqOKEnts]
  | cons b bs ih =>
    simp only [List.flatMap_cons, reqOKEnts_append]
    exact ⟨h b (List.mem_cons_self ..), ih (fun x hx => h x (List.mem_cons_of_mem _ hx))⟩

theorem reqOf_append {X : Type} (a b : List (String × Bool × Bool × X)) : reqOf (a ++ b) = reqOf a ++ reqOf b := by
  simp [reqOf]

theorem reqOf_flatMap (bs : List (CS L)) (h : ∀ b ∈ bs, reqsOf b = reqOf (entsOf b)) :
    reqOf (bs.flatMap entsOf) = bs.flatMap reqsOf := by
  induction bs with
  | nil => rfl
  | cons b bs ih =>
    simp only [List.flatMap_cons, reqOf_append]
    rw [h b (List.mem_cons_self ..), ih (fun x hx => h x (List.mem_cons_of_mem _ hx))]

theorem reqOK_obj_parts (b : CS L) (hb : ReqOK b) : reqsOf b = reqOf (entsOf b) ∧ ReqOKEnts (entsOf b) := by
  cases b with
  | obj e r a => simpa [ReqOK, reqsOf, entsOf] using hb
  | lit l | any | arr items | ref names nul => simp [reqsOf, entsOf, reqOf, ReqOKEnts]

section
variable [DecidableEq L]

mutual
theorem reqOK_compileWith (pt : String → Except Err (CS L)) (hpt : ∀ n c, pt n = .ok c → ReqOK c) :
    ∀ (t : PS L) (c : CS L), compileWith pt t = .ok c → ReqOK c
  | .lit l, c, h => by simp only [compileWith, Except.ok.injEq] at h; subst h; trivial
  | .any, c, h => by simp only [compileWith, Except.ok.injEq] at h; subst h; trivial
  | .ref names nul, c, h => by simp only [compileWith, Except.ok.injEq] at h; subst h; trivial
  | .bad names, c, h => by simp [compileWith] at h
  | .arr items, c, h => by
    obtain ⟨items', hl, rfl⟩ := compileWith_arr_ok.1 h
    exact reqOK_compileList pt hpt items items' hl
  | .obj ents add none, c, h => by
    obtain ⟨own, ho, rfl⟩ := (compileWith_obj_none_iff pt ents add c).1 h
    exact ⟨(compileEnts_shape pt ents own ho).2.symm, reqOK_compileEnts pt hpt ents own ho⟩
  | .obj ents add (some names), c, h => by
    obtain ⟨_, bases, own, hr, _, ho, _, _, rfl⟩ := (compileWith_obj_ok_iff pt ents add names c).1 h
    have hb : ∀ b ∈ bases, ReqOK b := by
      intro b hbm
      obtain ⟨n, _, hn⟩ := resolves_mem_right pt names bases hr b hbm
      exact hpt n b hn
    refine ⟨?_, ?_⟩
    · rw [reqOf_append, (compileEnts_shape pt ents own ho).2,
        reqOf_flatMap bases (fun b hbm => (reqOK_obj_parts b (hb b hbm)).1)]
    · rw [reqOKEnts_append]
      exact ⟨reqOK_compileEnts pt hpt ents own ho,
        reqOKEnts_flatMap bases (fun b hbm => (reqOK_obj_parts b (hb b hbm)).2)⟩
theorem reqOK_compileList (pt : String → Except Err (CS L)) (hpt : ∀ n c, pt n = .ok c → ReqOK c) :
    ∀ (xs : List (PS L)) (cs : List (CS L)), compileList pt xs = .ok cs → ReqOKList cs
  | [], cs, h => by simp only [compileList, Except.ok.injEq] at h; subst h; trivial
  | x :: xs, cs, h => by
    obtain ⟨x', xs', h1, h2, rfl⟩ := compileList_cons_ok.1 h
    exact ⟨reqOK_compileWith pt hpt x x' h1, reqOK_compileList pt hpt xs xs' h2⟩
theorem reqOK_compileEnts (pt : String → Except Err (CS L)) (hpt : ∀ n c, pt n = .ok c → ReqOK c) :
    ∀ (es : List (String × Bool × Bool × PS L)) (cs : List (String × Bool × Bool × CS L)),
      compileEnts pt es = .ok cs → ReqOKEnts cs
  | [], cs, h => by simp only [compileEnts, Except.ok.injEq] at h; subst h; trivial
  | (k, sh, r, v) :: es, cs, h => by
    obtain ⟨v', es', h1, h2, rfl⟩ := compileEnts_cons_ok.1 h
    exact ⟨reqOK_compileWith pt hpt v v' h1, reqOK_compileEnts pt hpt es es' h2⟩
end

/-- **required-key bookkeeping**: in an expanded type every object's RequiredKeys list is exactly the keys of
its non-optional children (own, then inherited, in order) -/
theorem reqOK_processType (env : PEnv L) : ∀ (f : Nat) (P : List String) (n : String) (c : CS L),
    processType env f P n = .ok c → ReqOK c := by
  intro f
  induction f with
  | zero => intro P n c h; simp [processType] at h
  | succ f ih =>
    intro P n c h
    obtain ⟨_, t, _, h⟩ := (processType_succ_ok_iff env f P n c).1 h
    exact reqOK_compileWith _ (fun m cm hm => ih (n :: P) m cm hm) t c h

theorem reqOK_compileAll (env : PEnv L) (root : PS L) (env' : List (String × CS L)) (root' : CS L)
    (h : compileAll env root = .ok (env', root')) : ReqOK root' ∧ ∀ p ∈ env', ReqOK p.2 := by
  obtain ⟨h1, _, h3⟩ := (compileAll_spec env root).ok h
  exact ⟨reqOK_compileWith _ (fun m cm hm => reqOK_processType env _ [] m cm hm) root root' h1,
    fun p hp => reqOK_processType env _ [] p.1 p.2 ((compileTypes_spec env _ _).ok h3 p hp)⟩

end

/-- the list the validator model derives from the flags (`VK.frameOf`: required plain keys, then required
shortcuts with their `@`) has the same members as the RequiredKeys list of the code -/
theorem mem_req_iff_vk (ents : List (String × Bool × Bool × CS L)) (k : String) :
    k ∈ reqOf ents ↔
      k ∈ VK.requiredKeys (plainOf ents) ++ (VK.requiredKeys (shortsOf ents)).map ("@" ++ ·) := by
  induction ents with
  | nil => exact Iff.rfl
  | cons e es ih =>
    obtain ⟨k', sh, r, v⟩ := e
    cases sh <;> cases r <;>
      simp only [reqOf_cons, plainOf, shortsOf, requiredKeys_cons, goKey, if_true, Bool.false_eq_true, if_false,
        List.cons_append, List.map_cons, List.mem_cons, List.mem_append, ih, or_left_comm]

/-! ### transitivity -/

/-- the allOf list of the root object of a type -/
def directBases (env : PEnv L) (n : String) : List String :=
  match lookupP env n with
  | some (.obj _ _ (some ns)) => ns
  | _ => []

/-- the number of own children of the root object of a type -/
def srcOwnLen (env : PEnv L) (n : String) : Nat :=
  match lookupP env n with
  | some (.obj ents _ _) => ents.length
  | _ => 0

/-- `m` is inherited by `n` through one or more allOf steps (root objects of types) -/
inductive Anc (env : PEnv L) : String → String → Prop
  | base {n m : String} : m ∈ directBases env n → Anc env n m
  | step {n k m : String} : k ∈ directBases env n → Anc env k m → Anc env n m

section
variable [DecidableEq L]

/-- the type `n` expands to `c` (in some context; the result does not depend on it) -/
def Expands (env : PEnv L) (n : String) (c : CS L) : Prop := ∃ f P, processType env f P n = .ok c

/-- the own children of the expanded type: the first children, as many as the source declares.
The expansion lists the own children first and the children of the bases after them
(`compileWith_obj_ok_iff`: `own ++ bases.flatMap entsOf`), so `take` cuts at the right place. -/
def ownPart (env : PEnv L) (n : String) (c : CS L) : List (String × Bool × Bool × CS L) :=
  (entsOf c).take (srcOwnLen env n)

theorem expands_unique (env : PEnv L) (n : String) (c c' : CS L) (h : Expands env n c) (h' : Expands env n c') : c = c' := by
  obtain ⟨f, P, hp⟩ := h
  obtain ⟨f', P', hp'⟩ := h'
  exact processType_proc_irrelevant env f f' P P' n c c' hp hp'

theorem compileEnts_length (pt : String → Except Err (CS L)) (ents : List (String × Bool × Bool × PS L))
    (own : List (String × Bool × Bool × CS L)) (h : compileEnts pt ents = .ok own) : own.length = ents.length := by
  have := congrArg List.length (compileEnts_shape pt ents own h).1
  simpa using this

omit [DecidableEq L] in
theorem anc_directBases_ne (env : PEnv L) (n m : String) (h : Anc env n m) : directBases env n ≠ [] := by
  cases h with
  | base hm => intro he; rw [he] at hm; cases hm
  | step hk _ => intro he; rw [he] at hk; cases hk

/-- **transitive inheritance**: the children of an expanded type are its own children and the own children of
every type it inherits from, through any number of steps -/
theorem allOf_transitive (env : PEnv L) : ∀ (f : Nat) (P : List String) (n : String) (c : CS L),
    processType env f P n = .ok c →
    ∀ e, e ∈ entsOf c ↔
      e ∈ ownPart env n c ∨ ∃ m cm, Anc env n m ∧ Expands env m cm ∧ e ∈ ownPart env m cm := by
  intro f
  induction f with
  | zero => intro P n c h; simp [processType] at h
  | succ f ih =>
    intro P n c h e
    obtain ⟨_, t, hl, h⟩ := (processType_succ_ok_iff env f P n c).1 h
    -- a type whose body is not an object, or has no allOf list, has no children beyond its own
    have hflat : directBases env n = [] → srcOwnLen env n = (entsOf c).length →
        (e ∈ entsOf c ↔ e ∈ ownPart env n c ∨ ∃ m cm, Anc env n m ∧ Expands env m cm ∧ e ∈ ownPart env m cm) := by
      intro hd hlen
      rw [ownPart, hlen, List.take_length]
      exact ⟨Or.inl, fun h => h.elim id fun ⟨m, _, ha, _⟩ => absurd hd (anc_directBases_ne env n m ha)⟩
    cases t with
    | obj ents add allOf =>
      cases allOf with
      | none =>
        obtain ⟨own, ho, rfl⟩ := (compileWith_obj_none_iff _ ents add c).1 h
        exact hflat (by simp [directBases, hl]) (by simp [srcOwnLen, hl, entsOf, compileEnts_length _ ents own ho])
      | some names =>
        obtain ⟨_, bases, own, hr, _, ho, _, _, rfl⟩ := (compileWith_obj_ok_iff _ ents add names c).1 h
        have hd : directBases env n = names := by simp [directBases, hl]
        have hown : ownPart env n (.obj (own ++ bases.flatMap entsOf) (reqOf ents ++ bases.flatMap reqsOf)
            (firstAdd (add :: bases.map addOf))) = own := by
          simp [ownPart, entsOf, srcOwnLen, hl, ← compileEnts_length _ ents own ho]
        rw [hown]
        simp only [entsOf, List.mem_append, List.mem_flatMap]
        constructor
        · rintro (h1 | ⟨b, hb, heb⟩)
          · exact Or.inl h1
          · obtain ⟨k, hk, hpk⟩ := resolves_mem_right _ names bases hr b hb
            rcases (ih (n :: P) k b hpk e).1 heb with h2 | ⟨m, cm, ha, hx, hm⟩
            · exact Or.inr ⟨k, b, .base (by rw [hd]; exact hk), ⟨f, n :: P, hpk⟩, h2⟩
            · exact Or.inr ⟨m, cm, .step (by rw [hd]; exact hk) ha, hx, hm⟩
        · rintro (h1 | ⟨m, cm, ha, hx, hm⟩)
          · exact Or.inl h1
          · right
            cases ha with
            | base hmem =>
              rw [hd] at hmem
              obtain ⟨b, hb, hpb⟩ := resolves_mem_left _ names bases hr m hmem
              have : cm = b := expands_unique env m cm b hx ⟨f, n :: P, hpb⟩
              subst this
              exact ⟨cm, hb, (ih (n :: P) m cm hpb e).2 (Or.inl hm)⟩
            | step hmem ha' =>
              rename_i k
              rw [hd] at hmem
              obtain ⟨b, hb, hpb⟩ := resolves_mem_left _ names bases hr k hmem
              exact ⟨b, hb, (ih (n :: P) k b hpb e).2 (Or.inr ⟨m, cm, ha', hx, hm⟩)⟩
    | lit l | any | ref names nul =>
      simp only [compileWith, Except.ok.injEq] at h; subst h
      exact hflat (by simp [directBases, hl]) (by simp [srcOwnLen, hl, entsOf])
    | bad names => simp [compileWith] at h
    | arr items =>
      obtain ⟨items', _, rfl⟩ := compileWith_arr_ok.1 h
      exact hflat (by simp [directBases, hl]) (by simp [srcOwnLen, hl, entsOf])

end

end AOK
