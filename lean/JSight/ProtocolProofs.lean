import JSight.Protocol
/-!
The three small machines of `Protocol`, each with the invariant that carries its property. C11: a `Once` cell answers
its first result forever; a value `Example()` has handed out is never written again, because handed-out copies and
pooled buffers stay disjoint. C12: under every schedule of goroutines racing to one `Once` cell the function is started
at most once and all results are the cell's.
-/
namespace Protocol

/-! ### Once: the first result forever -/
theorem once_after_first {α : Type} (v : α) (fs : List (Unit → α)) :
    (Once.runAll ({ cell := some v } : Once α) fs).2 = fs.map (fun _ => v) ∧
    (Once.runAll ({ cell := some v } : Once α) fs).1.cell = some v := by
  induction fs with
  | nil => exact ⟨rfl, rfl⟩
  | cons f fs ih => simp [Once.runAll, Once.run, ih]

theorem once_stable {α : Type} (f : Unit → α) (fs : List (Unit → α)) :
    (Once.runAll ({} : Once α) (f :: fs)).2 = (f :: fs).map (fun _ => f ()) := by
  simp [Once.runAll, Once.run, (once_after_first (f ()) fs).1]

/-! ### pool: handed-out copies are never written again -/
/-- invariant: pooled and handed-out ids are valid and disjoint -/
structure Heap.Inv (h : Heap) : Prop where
  pool_lt : ∀ id ∈ h.pool, id < h.bufs.length
  handed_lt : ∀ id ∈ h.handed, id < h.bufs.length
  disj : ∀ id ∈ h.handed, id ∉ h.pool

theorem inv_init : Heap.init.Inv := ⟨by simp [Heap.init], by simp [Heap.init], by simp [Heap.init]⟩

/-- one `Example()` keeps the invariant, its result reads `c`, and every value handed out before reads as it did: the
buffer written is pooled or fresh, hence not a handed-out one (`disj`; a fresh id is `bufs.length`) -/
theorem example_spec (h : Heap) (hi : h.Inv) (c : List Nat) :
    (h.example c).1.Inv ∧ (h.example c).1.read (h.example c).2 = some c ∧
    (∀ id ∈ h.handed, (h.example c).1.read id = h.read id) := by
  unfold Heap.example Heap.getAndWrite
  cases hp : h.pool with
  | nil =>
    simp only
    refine ⟨⟨?_, ?_, ?_⟩, ?_, ?_⟩
    · intro id hid; simp at hid; subst hid; simp
    · intro id hid
      simp only [List.mem_cons] at hid
      rcases hid with rfl | hid
      · simp
      · have := hi.handed_lt id hid; simp; omega
    · intro id hid
      simp only [List.mem_cons] at hid
      rcases hid with rfl | hid
      · simp
      · have := hi.handed_lt id hid; simp; omega
    · simp [Heap.read]
    · intro id hid
      have := hi.handed_lt id hid
      simp [Heap.read, List.getElem?_append_left, this, show id < h.bufs.length + 1 by omega]
  | cons p rest =>
    have hpl : p < h.bufs.length := hi.pool_lt p (by simp [hp])
    simp only
    refine ⟨⟨?_, ?_, ?_⟩, ?_, ?_⟩
    · intro id hid
      simp only [List.mem_cons] at hid
      rcases hid with rfl | hid
      · simp; omega
      · have := hi.pool_lt id (by simp [hp, hid]); simp; omega
    · intro id hid
      simp only [List.mem_cons] at hid
      rcases hid with rfl | hid
      · simp
      · have := hi.handed_lt id hid; simp; omega
    · intro id hid
      simp only [List.mem_cons] at hid
      rcases hid with rfl | hid
      · simp only [List.length_set, List.mem_cons, not_or]
        refine ⟨by omega, ?_⟩
        intro hr
        have := hi.pool_lt h.bufs.length (by rw [hp]; exact List.mem_cons_of_mem _ hr)
        omega
      · have hd := hi.disj id hid
        rw [hp] at hd
        simpa using hd
    · simp [Heap.read]
    · intro id hid
      have hlt := hi.handed_lt id hid
      have hne : p ≠ id := by
        intro e; subst e
        exact hi.disj p hid (by simp [hp])
      simp [Heap.read, List.getElem?_append_left, hlt, List.getElem_set_ne hne]

/-- whatever `Example()` calls follow, a value handed to the caller keeps its content -/
theorem examples_preserve (cs : List (List Nat)) : ∀ (h : Heap), h.Inv → ∀ id ∈ h.handed,
    (h.examples cs).read id = h.read id := by
  induction cs with
  | nil => intro h _ id _; rfl
  | cons c cs ih =>
    intro h hi id hid
    obtain ⟨hi', _, hkeep⟩ := example_spec h hi c
    simp only [Heap.examples]
    rw [ih _ hi' id (by simp [Heap.example, Heap.getAndWrite]; split <;> simp [hid]), hkeep id hid]

/-- `examplePinned`, the Go tree at the commit under verification (before fix F-5a it returned the pooled buffer
itself), violates it on two calls -/
theorem pinned_overwrites :
    let h1 := (Heap.init.examplePinned [1]);
    let h2 := (h1.1.examplePinned [2]);
    h1.1.read h1.2 = some [1] ∧ h2.1.read h1.2 = some [2] := by decide

/-! ### first use compiles at most once, under every schedule -/
/-- the phase of the cell is read off `cell` and `running`: `f` was started iff one of them says so, a goroutine is inside
`f` only while `running` (and then the cell is still empty) and it is the only one, and results come from the cell -/
structure Race.Inv (s : Race) : Prop where
  count : s.count = if s.running || s.cell.isSome then 1 else 0
  excl : s.running = true → s.cell = none
  inF : ∀ g : Nat, s.pcs[g]? = some PC.inF → s.running = true
  uniq : ∀ g g' : Nat, s.pcs[g]? = some PC.inF → s.pcs[g']? = some PC.inF → g = g'
  res : ∀ p ∈ s.res, s.cell = some p.2

theorem race_inv_init (n : Nat) : (Race.init n).Inv :=
  ⟨rfl, nofun, fun g h => by simp [Race.init, List.getElem?_replicate] at h,
   fun g _ h => by simp [Race.init, List.getElem?_replicate] at h, nofun⟩

/-- a goroutine still inside `f` after `g` left for `done` is another one, and was inside before -/
theorem inF_of_set {pcs : List PC} {g g' : Nat} (h : (pcs.set g PC.done)[g']? = some PC.inF) :
    g ≠ g' ∧ pcs[g']? = some PC.inF := by
  by_cases e : g = g'
  · subst e; simp [List.getElem?_set] at h
  · exact ⟨e, by rwa [List.getElem?_set_ne e] at h⟩

theorem race_step_inv (f : Nat → Nat) (s : Race) (hi : s.Inv) (g : Nat) : (s.step f g).Inv := by
  unfold Race.step
  split
  · split
    · -- the cell is filled: `g` returns the cached value
      rename_i v hv
      exact ⟨hi.count, hi.excl, fun g' h => hi.inF g' (inF_of_set h).2,
        fun a b ha hb => hi.uniq a b (inF_of_set ha).2 (inF_of_set hb).2,
        fun p hp => (List.mem_cons.1 hp).elim (fun e => by rw [e]; exact hv) (hi.res p)⟩
    · rename_i hc
      split
      · exact hi
      · -- `g` enters `f`: nobody was inside
        rename_i hr
        have hno : ∀ g', s.pcs[g']? ≠ some PC.inF := fun g' h => hr (hi.inF g' h)
        have hin : ∀ g', (s.pcs.set g PC.inF)[g']? = some PC.inF → g' = g := fun g' h => by
          by_cases e : g = g'
          · exact e.symm
          · rw [List.getElem?_set_ne e] at h; exact absurd h (hno g')
        have h0 := hi.count
        simp only [hr, hc, Option.isSome_none, Bool.or_false, Bool.false_eq_true, if_false] at h0
        exact ⟨by simp [h0], fun _ => hc, fun _ _ => rfl, fun a b ha hb => (hin a ha).trans (hin b hb).symm, hi.res⟩
  · -- `g` leaves `f`: it was the only one inside, the cell was empty and so was `res`
    rename_i hg
    have hr := hi.inF g hg
    have hout : ∀ g', (s.pcs.set g PC.done)[g']? ≠ some PC.inF := fun g' h =>
      (inF_of_set h).1 (hi.uniq g g' hg (inF_of_set h).2)
    have h1 := hi.count
    simp only [hr, Bool.true_or, if_true] at h1
    exact ⟨by simp [h1], nofun, fun g' h => absurd h (hout g'), fun a _ h => absurd h (hout a),
      fun p hp => by
        rcases List.mem_cons.1 hp with rfl | hp
        · rfl
        · have := hi.res p hp; rw [hi.excl hr] at this; cases this⟩
  · exact hi

theorem race_run_inv (f : Nat → Nat) (sched : List Nat) : ∀ s : Race, s.Inv → (s.run f sched).Inv := by
  induction sched with
  | nil => intro s h; exact h
  | cons g gs ih => intro s h; exact ih _ (race_step_inv f s h g)

/-- under every schedule: `f` starts at most once and all goroutines that returned got the same value (the cell's) -/
theorem race_once (f : Nat → Nat) (n : Nat) (sched : List Nat) :
    ((Race.init n).run f sched).count ≤ 1 ∧
    ∀ p ∈ ((Race.init n).run f sched).res, ∀ q ∈ ((Race.init n).run f sched).res, p.2 = q.2 := by
  have h := race_run_inv f sched _ (race_inv_init n)
  exact ⟨by rw [h.count]; split <;> omega, fun p hp q hq => Option.some.inj ((h.res p hp).symm.trans (h.res q hq))⟩

end Protocol
