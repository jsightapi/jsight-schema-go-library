import JSight.AnnotLoad
import JSight.CommentErase
import JSight.ClassifyInv
/-!
The byte-level grammar of an annotated top-level scalar with bare rule names and literal values (property C13: inline
versus multi-line annotations, trailing comma).

`annTextB a tok s1 s2 ob s3 tl`: a top-level scalar `tok`, blanks, `//` (`a = .inline`) or `/*` (`a = .multi`), blanks,
the rule object `{ob}` (`BRule`, `BObj`; `.cls` is the class-level object of `AnnotObj`), blanks, and the tail (end of
input or a line break for the inline form, `*/` for the multi-line form, then white space), with `AnnValid` and the node
`annNode` the text is loaded into. Proved here: the name the loader reads off a rule's key-end span is the rule's name
(`nameOf_rule`), and the event types of the text with the line breaks dropped (`strip_annEvs`). The theorems on the
text — `load_annot` (scanner model + loader model build one literal node with value `tok` and the rules named
`ob.names`, in written order, for both forms, with or without a trailing comma), `inline_vs_multiline`,
`annot_events` — are in `AnnotQThm`, as the case of bare names and literal values of `load_gannot`.
-/
namespace Lay
open SchemaScan

structure BRule where
  b1 : List UInt8      -- blanks before the name
  name : List UInt8    -- bare rule name
  n2 : Nat             -- spaces between the name and the colon
  b3 : List UInt8      -- blanks between the colon and the value
  val : List UInt8     -- literal value
  b4 : List UInt8      -- blanks behind the value

def BRule.cls (r : BRule) : CRule :=
  ⟨r.b1.map classify, r.name.map classify, r.n2, r.b3.map classify, r.val.map classify, r.b4.map classify⟩

def BRule.render (r : BRule) : List UInt8 :=
  r.b1 ++ (r.name ++ (List.replicate r.n2 32 ++ (58 :: (r.b3 ++ (r.val ++ r.b4)))))

theorem BRule.render_cls (r : BRule) : r.render.map classify = r.cls.render := by
  simp only [BRule.render, CRule.render, BRule.cls, List.map_append, List.map_cons, List.map_replicate]
  rfl

/-- the rule object behind its `{` -/
inductive BObj
  | empty (b0 : List UInt8)
  | rules (r : BRule) (rs : List BRule) (tc : Option (List UInt8))

def BObj.cls : BObj → CObj
  | .empty b0 => .empty (b0.map classify)
  | .rules r rs tc => .rules r.cls (rs.map BRule.cls) (tc.map (·.map classify))

def renderRulesB : BRule → List BRule → List UInt8
  | r, [] => r.render
  | r, r' :: rs => r.render ++ (44 :: renderRulesB r' rs)

def renderTcB : Option (List UInt8) → List UInt8
  | none => []
  | some b5 => 44 :: b5

def BObj.body : BObj → List UInt8
  | .empty b0 => b0
  | .rules r rs tc => renderRulesB r rs ++ renderTcB tc

/-- rule names / (name, value) pairs in written order -/
def BObj.names : BObj → List (List UInt8)
  | .empty _ => []
  | .rules r rs _ => r.name :: rs.map (·.name)
def BObj.pairs : BObj → List (List UInt8 × List UInt8)
  | .empty _ => []
  | .rules r rs _ => (r.name, r.val) :: rs.map (fun x => (x.name, x.val))

theorem renderRulesB_cls : ∀ (rs : List BRule) (r : BRule),
    (renderRulesB r rs).map classify = renderRules r.cls (rs.map BRule.cls)
  | [], r => by simp [renderRulesB, renderRules, BRule.render_cls]
  | r' :: rs, r => by
    simp only [renderRulesB, renderRules, List.map_append, List.map_cons, BRule.render_cls, renderRulesB_cls rs r']
    rfl

theorem BObj.body_cls (ob : BObj) : ob.body.map classify = ob.cls.body := by
  cases ob with
  | empty b0 => rfl
  | rules r rs tc =>
    simp only [BObj.body, BObj.cls, CObj.body, List.map_append, renderRulesB_cls]
    cases tc <;> rfl

/-- the second byte of the annotation's opening mark: `*` of `/*`, `/` of `//` -/
def markB : Ann → UInt8 | .multi => 42 | _ => 47

/-- the schema text -/
def annTextB (a : Ann) (tok s1 s2 : List UInt8) (ob : BObj) (s3 tl : List UInt8) : List UInt8 :=
  tok ++ (s1 ++ (47 :: markB a :: (s2 ++ (123 :: (ob.body ++ (125 :: (s3 ++ tl)))))))

structure AnnValid (a : Ann) (tok s1 s2 : List UInt8) (ob : BObj) (s3 tl : List UInt8) : Prop where
  tok : IsScalar (tok.map classify)
  s1 : IsSpTabs (s1.map classify)
  s2 : ABlank a (s2.map classify)
  ob : ob.cls.Valid a
  s3 : ABlank a (s3.map classify)
  tl : ATail a (tl.map classify)

/-! ### rule names as the loader reads them -/

/-- a byte of a name class is a digit, a letter, `-` or `_` (`isName_bytes`): printable, and none of `"` `\` space -/
theorem isName_plain (c : UInt8) (h : (classify c).isName = true) :
    GoQuote.printable c = true ∧ c ≠ 34 ∧ c ≠ 92 ∧ c ≠ 32 := by
  have hr := SchemaScan.isName_bytes c h
  refine ⟨?_, ?_, ?_, ?_⟩
  · simp only [GoQuote.printable, Bool.and_eq_true, decide_eq_true_eq, UInt8.le_iff_toNat_le, UInt8.lt_iff_toNat_lt]
    simp
    omega
  all_goals (intro e; subst e; simp at hr)

theorem plainName_of_isName {n : List UInt8} (h : IsName (n.map classify)) : Loader.plainName n := by
  obtain ⟨hne, hall⟩ := h
  refine ⟨by intro e; subst e; exact hne rfl, fun c hc => isName_plain c (hall _ (List.mem_map_of_mem hc))⟩

theorem nameOf_rule (src : Array UInt8) (r : BRule) (hn : IsName (r.name.map classify)) (p : Nat)
    (hat : AtB src p (r.render ++ [])) : Loader.nameOf src (r.cls.span p) = r.name := by
  have hp := plainName_of_isName hn
  simp only [List.append_nil, BRule.render] at hat
  rw [AtB_append, ← List.append_assoc, AtB_append] at hat
  have hns : AtB src (p + r.b1.length) (r.name ++ List.replicate r.n2 32) := hat.2.1
  have hne : r.name ++ List.replicate r.n2 32 ≠ [] := by
    intro e
    have := hp.1
    simp only [List.append_eq_nil_iff] at e
    exact this e.1
  have hs := slice_tok src _ _ hns hne
  simp only [List.length_append, List.length_replicate] at hs
  have hsp : r.cls.span p = (p + r.b1.length, p + r.b1.length + (r.name.length + r.n2) - 1) := by
    simp only [CRule.span, CRule.nameOff, BRule.cls, List.length_map, Nat.add_assoc]
  rw [hsp]
  unfold Loader.nameOf
  simp only [hs]
  -- the key-end span of a bare name includes the spaces before the colon; the loader trims them
  have := (Loader.C13_rule_name_spelling r.name [] (List.replicate r.n2 32) hp (by simp)
    (by intro c hc; rw [List.mem_replicate] at hc; rw [hc.2]; rfl)).1
  simpa using this

/-- the node the annotated scalar is loaded into -/
def annNode (tok : List UInt8) (names : List (List UInt8)) : ANode :=
  { kind := .lit, parent := none, children := [], keys := [], value := some tok, rules := names, note := none }

theorem names_of_pairs (ob : BObj) : ob.names = ob.pairs.map Prod.fst := by
  cases ob <;> simp [BObj.names, BObj.pairs, Function.comp_def]

/-! ### the event types of the two forms -/

/-- the event types of one rule with a literal value -/
def ruleTys : List LexT := [.keyB, .keyE, .valB, .litB, .litE, .valE]

/-- the number of rules of the object -/
def objCount : CObj → Nat
  | .empty _ => 0
  | .rules _ rs _ => rs.length + 1

theorem strip_nlEvs : ∀ (o : Nat) (ws : List Cls), strip (nlEvs o ws) = []
  | _, [] => rfl
  | o, c :: ws => by
    simp only [nlEvs, strip_append, strip_nlEvs (o + 1) ws, List.append_nil]
    split <;> simp [strip_cons, strip_nil]

theorem strip_rule (r : CRule) (p : Nat) : strip (r.evs p) = ruleTys := by
  simp [CRule.evs, CRule.openEvs, CRule.closeEvs, strip_append, strip_cons, strip_nlEvs, strip_nil, ruleTys]

theorem strip_rules : ∀ (rs : List CRule) (r : CRule) (p : Nat),
    strip (rulesEvs p r rs) = (List.replicate (rs.length + 1) ruleTys).flatten
  | [], r, p => by simp [rulesEvs, strip_rule]
  | r' :: rs, r, p => by
    simp only [rulesEvs, strip_append, strip_rule, strip_rules rs r', List.length_cons]
    rw [List.replicate_succ (n := rs.length + 1), List.flatten_cons]

theorem strip_obj (ob : CObj) (o : Nat) :
    strip (ob.evs o) = (List.replicate (objCount ob) ruleTys).flatten ++ [.objE] := by
  cases ob with
  | empty b0 => simp [CObj.evs, objCount, strip_append, strip_nlEvs, strip_cons, strip_nil]
  | rules r rs tc =>
    cases tc <;>
      simp [CObj.evs, objCount, tcEvs, strip_append, strip_rules, strip_nlEvs, strip_cons, strip_nil]

theorem strip_tail (y t : Nat) (a : Ann) (ha : a.isAnn = true) (tl : List Cls) : strip (tailEvs y t a tl) = [a.E] := by
  cases a with
  | none => simp [Ann.isAnn] at ha
  | multi => simp [tailEvs, strip_cons, strip_nlEvs, Ann.E]
  | inline => cases tl <;> simp [tailEvs, strip_cons, strip_nlEvs, strip_nil, Ann.E]

/-- the event types of an annotated scalar, `newLine` events dropped: they depend on the form only through the
kind of the annotation-begin / annotation-end lexeme -/
theorem strip_annEvs (a : Ann) (ha : a.isAnn = true) (tok s1 s2 : List Cls) (ob : CObj) (s3 tl : List Cls) :
    strip (annEvs a tok s1 s2 ob s3 tl)
      = [.litB, .litE, a.B, .objB] ++ ((List.replicate (objCount ob) ruleTys).flatten ++ [.objE, a.E]) := by
  cases a with
  | none => simp [Ann.isAnn] at ha
  | multi =>
    simp [annEvs, strip_cons, strip_append, strip_nlEvs, strip_obj, strip_tail _ _ .multi rfl, Ann.B, Ann.E]
  | inline =>
    simp [annEvs, strip_cons, strip_append, strip_nlEvs, strip_obj, strip_tail _ _ .inline rfl, Ann.B, Ann.E]

/-- annotation-begin / -end of the multi-line form renamed to those of the inline form -/
def inlKind : LexT → LexT
  | .mlAnnB => .inlAnnB
  | .mlAnnE => .inlAnnE
  | t => t

theorem pairs_count (ob ob' : BObj) (h : ob.pairs = ob'.pairs) : objCount ob.cls = objCount ob'.cls := by
  have hl := congrArg List.length h
  cases ob <;> cases ob' <;> simp [BObj.pairs] at hl <;> simp [BObj.cls, objCount, hl]

end Lay
