import JSight.OrRuleSet
import JSight.ListFacts
import JSight.DfsK
import JSight.ValidateKSpec
import JSight.ValidateKProofs
/-!
C03, `or` rule-sets: the position accepts exactly the union over its members.

* `shape_ref_union`: a reference position accepts the union over its names (plus its literal alternative);
  `shape_ref_single`: a name accepts what its type accepts — both from `VK.alts_iff_reach` (the depth-first
  expansion of the validator list is reachability).
* `loadMembers_union`: for the names the loader appends for the members of an `or` list, in any table in which
  the created types are found under their names.
* `loadAll_lookup_anon`: in the table `loadAll` builds every created type is found under its name (the names
  are unique and never a user type name), the user types keep their names.
* `or_ruleset_union`: the closed statement for a root `or` node.
-/
namespace ORS
open VN (J)
variable {L R D : Type}

/-! ### references -/

/-- `RNV env [] a x` (of `RefSearch`: `x` is an alternative reached from the name `a` along names outside the set, here
the empty one) is reachability from the type `a` names -/
theorem rnv_iff_reach (env : VK.Env L) (a : String) (t x : VK.S L) (hl : VK.lookupT env a = some t) :
    VK.RNV env [] a x ↔ VK.ReachS env t x := by
  constructor
  · intro h
    cases h with
    | leaf _ t' _ hl' hr =>
      rw [hl] at hl'; cases hl'
      exact Or.inl ⟨hr, rfl⟩
    | null _ names l _ hl' =>
      rw [hl] at hl'; cases hl'
      exact Or.inr ⟨names, some l, rfl, Or.inl ⟨l, rfl, rfl⟩⟩
    | step _ names nul m _ _ hl' hm hp =>
      rw [hl] at hl'; cases hl'
      exact Or.inr ⟨names, nul, rfl, Or.inr ⟨m, hm, hp⟩⟩
  · exact VK.reachS_of_name env a t hl x

/-- the alternatives of a reference position: its literal alternative and what its names reach -/
theorem mem_alts_ref (env : VK.Env L) (names : List String) (nul : Option L) (x : VK.S L) :
    x ∈ VK.alts env (.ref names nul) ↔ (∃ l, nul = some l ∧ x = .lit l) ∨ ∃ n ∈ names, VK.RNV env [] n x := by
  rw [VK.alts_iff_reach]
  constructor
  · rintro (⟨hr, _⟩ | ⟨names', nul', he, h⟩)
    · cases hr
    · cases he; exact h
  · exact fun h => Or.inr ⟨names, nul, rfl, h⟩

theorem mem_alts_name (env : VK.Env L) (a : String) (x : VK.S L) :
    x ∈ VK.alts env (.ref [a] none) ↔ VK.RNV env [] a x := by
  rw [mem_alts_ref]
  constructor
  · rintro (⟨l, hn, _⟩ | ⟨n, hn, hp⟩)
    · cases hn
    · rw [List.mem_singleton] at hn; subst hn; exact hp
  · exact fun hp => Or.inr ⟨a, List.mem_singleton.2 rfl, hp⟩

/-- a name accepts what its type accepts -/
theorem shape_ref_single (env : VK.Env L) (litOK : L → D → Bool) (keyOK : String → String → Bool)
    (a : String) (t : VK.S L) (hl : VK.lookupT env a = some t) (d : J D) :
    VK.shape env litOK keyOK (.ref [a] none) d = VK.shape env litOK keyOK t d := by
  unfold VK.shape
  apply List.any_congr_mem
  intro x
  rw [mem_alts_name, VK.alts_iff_reach, rnv_iff_reach env a t x hl]

/-- a name that is not in the table accepts nothing -/
theorem shape_ref_unknown (env : VK.Env L) (litOK : L → D → Bool) (keyOK : String → String → Bool)
    (a : String) (hl : VK.lookupT env a = none) (d : J D) :
    VK.shape env litOK keyOK (.ref [a] none) d = false := by
  unfold VK.shape
  rw [List.any_eq_false]
  intro x hx
  rw [mem_alts_name] at hx
  cases hx with
  | leaf _ _ _ hl' _ => rw [hl] at hl'; cases hl'
  | null _ _ _ _ hl' => rw [hl] at hl'; cases hl'
  | step _ _ _ _ _ _ hl' _ _ => rw [hl] at hl'; cases hl'

/-- the literal alternative `nullable: true` adds to a reference position -/
def nulAccepts (litOK : L → D → Bool) : Option L → J D → Bool
  | some l, .lit d => litOK l d
  | _, _ => false

/-- **a reference position accepts the union over its names**, plus its literal alternative -/
theorem shape_ref_union (env : VK.Env L) (litOK : L → D → Bool) (keyOK : String → String → Bool)
    (names : List String) (nul : Option L) (d : J D) :
    VK.shape env litOK keyOK (.ref names nul) d =
      (names.any (fun n => VK.shape env litOK keyOK (.ref [n] none) d) || nulAccepts litOK nul d) := by
  rw [Bool.eq_iff_iff]
  simp only [VK.shape, Bool.or_eq_true, List.any_eq_true, mem_alts_name]
  simp only [mem_alts_ref]
  constructor
  · rintro ⟨x, ⟨l, rfl, rfl⟩ | ⟨n, hn, hrn⟩, hp⟩
    · right
      cases d <;> simp_all [VK.shapeA, nulAccepts]
    · exact Or.inl ⟨n, hn, x, hrn, hp⟩
  · rintro (⟨n, hn, x, hrn, hp⟩ | hnul)
    · exact ⟨x, Or.inr ⟨n, hn, hrn⟩, hp⟩
    · cases nul with
      | none => simp [nulAccepts] at hnul
      | some l =>
        refine ⟨.lit l, Or.inl ⟨l, rfl, rfl⟩, ?_⟩
        cases d <;> simp_all [VK.shapeA, nulAccepts]

/-! ### the members of an `or` list -/

/-- what a member accepts, as written: a named type (by either spelling) accepts what the reference to it accepts,
a type string or a rule-set accepts what the compiled rule-set accepts -/
def memberAccepts (env : VK.Env L) (litOK : L → D → Bool) (keyOK : String → String → Bool) (mk : R → VK.S L)
    (d : J D) : Member R → Bool
  | .named n => VK.shape env litOK keyOK (.ref [n] none) d
  | .typeRef n => VK.shape env litOK keyOK (.ref [n] none) d
  | .typeStr r => VK.shape env litOK keyOK (mk r) d
  | .ruleSet r => VK.shape env litOK keyOK (mk r) d

theorem loadMember_anon_mono (fresh : Nat → String) (mk : R → VK.S L) (st : St L) (m : Member R) :
    ∀ p ∈ st.anon, p ∈ (loadMember fresh mk st m).2.anon := by
  intro p hp
  cases m <;> simp [loadMember, hp]

theorem loadMembers_anon_mono (fresh : Nat → String) (mk : R → VK.S L) (ms : List (Member R)) :
    ∀ (st : St L), ∀ p ∈ st.anon, p ∈ (loadMembers fresh mk ms st).2.anon := by
  induction ms with
  | nil => intro st p hp; exact hp
  | cons m ms ih =>
    intro st p hp
    simp only [loadMembers]
    exact ih _ p (loadMember_anon_mono fresh mk st m p hp)

/-- the names the loader appends for the members accept, together, exactly what the members accept — in every
table in which the types created so far are found under their names -/
theorem loadMembers_union (env : VK.Env L) (litOK : L → D → Bool) (keyOK : String → String → Bool)
    (fresh : Nat → String) (mk : R → VK.S L) (d : J D) (ms : List (Member R)) :
    ∀ (st : St L), (∀ p ∈ (loadMembers fresh mk ms st).2.anon, VK.lookupT env p.1 = some p.2) →
      (loadMembers fresh mk ms st).1.any (fun n => VK.shape env litOK keyOK (.ref [n] none) d) =
        ms.any (memberAccepts env litOK keyOK mk d) := by
  induction ms with
  | nil => intro st _; rfl
  | cons m ms ih =>
    intro st hl
    simp only [loadMembers, List.any_cons] at hl ⊢
    rw [ih _ hl]
    congr 1
    cases m with
    | named n => rfl
    | typeRef n => rfl
    | typeStr r =>
      simp only [loadMember, memberAccepts]
      apply shape_ref_single
      exact hl (fresh st.next, mk r) (loadMembers_anon_mono fresh mk ms _ _ (by simp [loadMember]))
    | ruleSet r =>
      simp only [loadMember, memberAccepts]
      apply shape_ref_single
      exact hl (fresh st.next, mk r) (loadMembers_anon_mono fresh mk ms _ _ (by simp [loadMember]))

/-! ### the table built by the loader -/

/-- the created types carry the names `fresh 0`, `fresh 1`, … in order -/
def Inv (fresh : Nat → String) (st : St L) : Prop := st.anon.map (·.1) = (List.range st.next).map fresh

theorem inv_loadMember (fresh : Nat → String) (mk : R → VK.S L) (st : St L) (m : Member R) (h : Inv fresh st) :
    Inv fresh (loadMember fresh mk st m).2 := by
  cases m <;> simp only [loadMember, Inv] at h ⊢ <;> try exact h
  all_goals simp [List.range_succ, h]

theorem inv_loadMembers (fresh : Nat → String) (mk : R → VK.S L) (ms : List (Member R)) :
    ∀ (st : St L), Inv fresh st → Inv fresh (loadMembers fresh mk ms st).2 := by
  induction ms with
  | nil => intro st h; exact h
  | cons m ms ih => intro st h; simp only [loadMembers]; exact ih _ (inv_loadMember fresh mk st m h)

mutual
theorem inv_loadNode (fresh : Nat → String) (mk : R → VK.S L) :
    ∀ (t : OS L R) (st : St L), Inv fresh st → Inv fresh (loadNode fresh mk t st).2
  | .lit _, st, h => by simpa [loadNode] using h
  | .any, st, h => by simpa [loadNode] using h
  | .ref _ _, st, h => by simpa [loadNode] using h
  | .or members _, st, h => by simp only [loadNode]; exact inv_loadMembers fresh mk members st h
  | .arr items, st, h => by simp only [loadNode]; exact inv_loadList fresh mk items st h
  | .obj props shorts _, st, h => by
    simp only [loadNode]
    exact inv_loadProps fresh mk shorts _ (inv_loadProps fresh mk props st h)
theorem inv_loadList (fresh : Nat → String) (mk : R → VK.S L) :
    ∀ (xs : List (OS L R)) (st : St L), Inv fresh st → Inv fresh (loadList fresh mk xs st).2
  | [], st, h => by simpa [loadList] using h
  | x :: xs, st, h => by
    simp only [loadList]
    exact inv_loadList fresh mk xs _ (inv_loadNode fresh mk x st h)
theorem inv_loadProps (fresh : Nat → String) (mk : R → VK.S L) :
    ∀ (ps : List (String × Bool × OS L R)) (st : St L), Inv fresh st → Inv fresh (loadProps fresh mk ps st).2
  | [], st, h => by simpa [loadProps] using h
  | (k, r, v) :: ps, st, h => by
    simp only [loadProps]
    exact inv_loadProps fresh mk ps _ (inv_loadNode fresh mk v st h)
end

theorem inv_loadEnv (fresh : Nat → String) (mk : R → VK.S L) :
    ∀ (ts : List (String × OS L R)) (st : St L), Inv fresh st → Inv fresh (loadEnv fresh mk ts st).2 := by
  intro ts
  induction ts with
  | nil => intro st h; simpa [loadEnv] using h
  | cons t ts ih =>
    intro st h
    obtain ⟨n, t⟩ := t
    simp only [loadEnv]
    exact ih _ (inv_loadNode fresh mk t st h)

theorem loadEnv_names (fresh : Nat → String) (mk : R → VK.S L) :
    ∀ (ts : List (String × OS L R)) (st : St L), (loadEnv fresh mk ts st).1.map (·.1) = ts.map (·.1) := by
  intro ts
  induction ts with
  | nil => intro st; rfl
  | cons t ts ih =>
    intro st
    obtain ⟨n, t⟩ := t
    simp only [loadEnv, List.map_cons, ih]

theorem lookupT_append_right (A B : List (String × VK.S L)) (n : String) (h : n ∉ A.map (·.1)) :
    VK.lookupT (A ++ B) n = VK.lookupT B n := by
  unfold VK.lookupT
  rw [List.find?_append]
  have : List.find? (fun p => p.1 == n) A = none := by
    rw [List.find?_eq_none]
    intro x hx hxe
    simp only [beq_iff_eq] at hxe
    exact h (List.mem_map.2 ⟨x, hx, hxe⟩)
  rw [this]; rfl

theorem lookupT_append_left (A B : List (String × VK.S L)) (n : String) (h : n ∈ A.map (·.1)) :
    VK.lookupT (A ++ B) n = VK.lookupT A n := by
  unfold VK.lookupT
  rw [List.find?_append]
  obtain ⟨x, hx, hxe⟩ := List.mem_map.1 h
  cases hf : List.find? (fun p => p.1 == n) A with
  | some y => rfl
  | none =>
    rw [List.find?_eq_none] at hf
    exact absurd (by simpa using hxe) (hf x hx)

/-- **the created types are found under their names**: with unique names that are never user type names, every
type the loader created (for the added types and for the root) is what its name denotes in the final table -/
theorem loadAll_lookup_anon (fresh : Nat → String) (mk : R → VK.S L) (env : List (String × OS L R)) (root : OS L R)
    (hinj : ∀ i j, fresh i = fresh j → i = j) (hdisj : ∀ k, fresh k ∉ env.map (·.1)) :
    ∀ p ∈ (loadNode fresh mk root (loadEnv fresh mk env ⟨0, []⟩).2).2.anon,
      VK.lookupT (loadAll fresh mk env root).1 p.1 = some p.2 := by
  intro p hp
  have hinv : Inv fresh (loadNode fresh mk root (loadEnv fresh mk env ⟨0, []⟩).2).2 :=
    inv_loadNode fresh mk root _ (inv_loadEnv fresh mk env ⟨0, []⟩ (by simp [Inv]))
  have hnd : ((loadNode fresh mk root (loadEnv fresh mk env ⟨0, []⟩).2).2.anon.map (·.1)).Nodup := by
    rw [hinv]
    exact List.Pairwise.map fresh (fun a b hab he => hab (hinj a b he)) List.nodup_range
  have hp1 : p.1 ∉ (loadEnv fresh mk env ⟨0, []⟩).1.map (·.1) := by
    rw [loadEnv_names]
    have : p.1 ∈ (loadNode fresh mk root (loadEnv fresh mk env ⟨0, []⟩).2).2.anon.map (·.1) :=
      List.mem_map.2 ⟨p, hp, rfl⟩
    rw [hinv] at this
    obtain ⟨k, _, hk⟩ := List.mem_map.1 this
    rw [← hk]; exact hdisj k
  simp only [loadAll]
  rw [lookupT_append_right _ _ _ hp1]
  exact Tbl.firstBy_of_nodup_keys Prod.fst Prod.snd _ hnd p hp

/-- the user types keep their names -/
theorem loadAll_lookup_user (fresh : Nat → String) (mk : R → VK.S L) (env : List (String × OS L R)) (root : OS L R)
    (n : String) (hn : n ∈ env.map (·.1)) :
    VK.lookupT (loadAll fresh mk env root).1 n = VK.lookupT (loadEnv fresh mk env ⟨0, []⟩).1 n := by
  simp only [loadAll]
  exact lookupT_append_left _ _ _ (by rw [loadEnv_names]; exact hn)

/-- **C03, `or` rule-sets** (closed statement for a root `or` node over any table of added types, themselves
with `or` nodes anywhere): the validator accepts exactly the union over the members as written — a named type by
either spelling, a type string, a rule-set — plus the literal alternative of `nullable: true` -/
theorem or_ruleset_union (fresh : Nat → String) (mk : R → VK.S L) (litOK : L → D → Bool) (keyOK : String → String → Bool)
    (env : List (String × OS L R)) (members : List (Member R)) (nul : Option L)
    (hinj : ∀ i j, fresh i = fresh j → i = j) (hdisj : ∀ k, fresh k ∉ env.map (·.1)) (d : J D) :
    VK.validateT (loadAll fresh mk env (.or members nul)).1 litOK keyOK (loadAll fresh mk env (.or members nul)).2 d =
      (members.any (memberAccepts (loadAll fresh mk env (.or members nul)).1 litOK keyOK mk d) || nulAccepts litOK nul d) := by
  rw [VK.C03_key_shortcuts]
  have hl := loadAll_lookup_anon fresh mk env (.or members nul) hinj hdisj
  simp only [loadAll, loadNode] at hl ⊢
  rw [shape_ref_union, loadMembers_union _ litOK keyOK fresh mk d members _ hl]

end ORS
