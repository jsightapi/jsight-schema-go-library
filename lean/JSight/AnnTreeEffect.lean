import JSight.AnnTree
import JSight.AnnotQThm
/-!
C13, annotated trees: the effect of ONE annotation in any tree context, read against the text. What the spans of its rule
object read (`obj_names_vals`) is `GObj.spans_read` at `BObj.toG`; `addX_eq` turns the loader's update of the node
(`Loader.X_ann`) into `addAnn`: the rule names, rule value texts and the note as written (`ml_effectG`, `inl_effectG`).
The two forms of one annotation therefore turn a table into the same table (`node_inline_vs_multiline`).
-/
namespace Lay
open SchemaScan (Ev Ann Cls classify CRule nlEvs vspansRules IsScalar)
open SchemaScan.Len (InlBody MlBody noteTail)
open Loader (XNode LS LSG Fold addX X_ann X_nl slice nameOf)

/-- the value texts are the second components of the pairs -/
theorem vals_of_pairs (ob : BObj) : ob.vals = ob.pairs.map Prod.snd := by
  cases ob <;> simp [BObj.vals, BObj.pairs, Function.comp_def]

/-- read from a text that holds the object's bytes behind its `{` (at `o`), the name spans give the names and the value
spans the value texts, as written -/
theorem obj_names_vals (src : Array UInt8) (a : Ann) (ob : BObj) (hob : ob.cls.Valid a) (o : Nat) (rest : List UInt8)
    (hat : AtB src (o + 1) (ob.body ++ rest)) :
    (ob.cls.spans o).map (nameOf src) = ob.names ∧
      (ob.cls.vspans o).map (fun sp => slice src sp.1 sp.2) = ob.vals := by
  obtain ⟨_, _, h1, h2⟩ := GObj.spans_read src a ob.toG (BObj.toG_valid hob) (listsEmb_toG ob) o rest (by rwa [body_toG])
  rw [toG_cls, Loader.spans_toQ, pairs_toG] at h1
  rw [cls_toG, pairs_toG] at h2
  exact ⟨by rw [names_of_pairs]; exact h1, by rw [vals_of_pairs]; exact h2⟩

/-- the key step: the loader's update `addX` with the spans and the note offsets of an annotation whose first `/` stands
at `p`, on a text that holds the annotation's bytes there, is `addAnn` with the object and the note text (a note, when
there is one, is not empty: `hnt`) -/
theorem addX_eq (src : Array UInt8) (a : Ann) (xn : XNode) (s2 : List UInt8) (ob : BObj) (s3 : List UInt8)
    (nt : Option (List UInt8 × List UInt8)) (p : Nat) (hob : ob.cls.Valid a)
    (hnt : ∀ s4 txt, nt = some (s4, txt) → txt ≠ []) (rest : List UInt8)
    (hat : AtB src (p + 2) (annBody s2 ob s3 nt ++ rest)) :
    addX src xn (ob.cls.spans (p + 2 + s2.length)) (ob.cls.vspans (p + 2 + s2.length)) (noteOffs p s2 ob s3 nt)
      = addAnn xn ob (nt.map (·.2)) := by
  simp only [annBody, List.append_assoc, List.cons_append] at hat
  rw [AtB_append] at hat
  obtain ⟨_, _, hat⟩ := hat
  obtain ⟨hn, hv⟩ := obj_names_vals src a ob hob (p + 2 + s2.length) _ hat
  rw [AtB_append] at hat
  obtain ⟨_, _, hat⟩ := hat
  rw [AtB_append] at hat
  obtain ⟨_, hat⟩ := hat
  cases nt with
  | none =>
    simp only [addX, addAnn, noteOffs, hn, Option.map_none]
    congr 1
    rw [← hv, List.map_map]; rfl
  | some q =>
    obtain ⟨s4, txt⟩ := q
    simp only [List.cons_append, List.append_assoc] at hat
    obtain ⟨_, hat⟩ := hat
    rw [AtB_append, AtB_append] at hat
    have htxt : AtB src (p + 2 + s2.length + 1 + ob.body.length + 1 + s3.length + 1 + s4.length) txt := by
      have := hat.2.1
      simpa [Nat.add_assoc] using this
    have hs := slice_tok src txt _ htxt (hnt s4 txt rfl)
    simp only [addX, addAnn, noteOffs, hn, Option.map_some, hs]
    congr 1
    rw [← hv, List.map_map]; rfl

/-- **a multi-line annotation, in any tree context**: whatever the node table, if the loader is in default mode, node
`i` is the node created last and the only one created on the current line, the events of `/* {rules} [- note] */`
(`MlBody.evs`, as the scanner delivers them: `SchemaScan.Len.asim`) add the rule names and rule values of the object,
in written order, and the note to node `i`; nothing else the node loader reads changes (whichever way the keys are
read: `LSG kv`) -/
theorem ml_effectG {kv : Array UInt8 → Nat × Nat × Bool → List UInt8 × Bool} (src : Array UInt8) {st : Loader.St} {AL : List XNode} {leaf : Option Nat} {i : Nat} {root : Option Nat}
    (h : LSG kv src st AL leaf (some i) 1 root) (xn : XNode) (hn : AL[i]? = some xn)
    (s2 : List UInt8) (ob : BObj) (s3 : List UInt8) (nt : Option (List UInt8 × List UInt8)) (p : Nat)
    (hob : ob.cls.Valid .multi) (hnt : ∀ s4 txt, nt = some (s4, txt) → txt ≠ []) (rest : List UInt8)
    (hat : AtB src (p + 2) (annBody s2 ob s3 nt ++ rest)) :
    ∃ st', Fold src ((mlOf s2 ob s3 nt).evs p) st st' ∧
      LSG kv src st' (AL.set i (addAnn xn ob (nt.map (·.2)))) leaf (some i) 1 root := by
  have hx := addX_eq src .multi xn s2 ob s3 nt p hob hnt rest hat
  cases nt with
  | none =>
    obtain ⟨st', hf, hl⟩ := X_ann src .multi rfl h xn hn (nlEvs (p + 2) (s2.map classify))
      (nlEvs (p + 2 + s2.length + 1 + ob.body.length + 1) (s3.map classify)) (Loader.nlEvs_ty _ _) (Loader.nlEvs_ty _ _)
      ob.cls (p + 2 + s2.length) p (p + 1) p (p + 2 + s2.length + 1 + ob.body.length + 1 + s3.length + 1) none
    refine ⟨st', hf.cast ?_ rfl, by rw [← hx]; exact hl⟩
    simp [MlBody.evs, MlBody.o, MlBody.e1, MlBody.t, SchemaScan.Len.mlTail, mlOf, clsNt, Loader.noteEvs, body_len, Ann.B, Ann.E]
  | some q =>
    obtain ⟨s4, txt⟩ := q
    obtain ⟨st', hf, hl⟩ := X_ann src .multi rfl h xn hn (nlEvs (p + 2) (s2.map classify))
      (nlEvs (p + 2 + s2.length + 1 + ob.body.length + 1) (s3.map classify)) (Loader.nlEvs_ty _ _) (Loader.nlEvs_ty _ _)
      ob.cls (p + 2 + s2.length) p (p + 1) p
      (p + 2 + s2.length + 1 + ob.body.length + 1 + s3.length + 1 + s4.length + txt.length + 1)
      (noteOffs p s2 ob s3 (some (s4, txt)))
    refine ⟨st', hf.cast ?_ rfl, by rw [← hx]; exact hl⟩
    simp [MlBody.evs, MlBody.o, MlBody.e1, MlBody.t, SchemaScan.Len.mlTail, mlOf, clsNt, Loader.noteEvs, body_len, Ann.B, Ann.E,
      Ann.TB, Ann.TE, noteOffs]

/-- **an inline annotation, in any tree context** (the same, for `// {rules} [- note]` and its line break: the
`newLine` event behind the annotation resets the per-line counter) -/
theorem inl_effectG {kv : Array UInt8 → Nat × Nat × Bool → List UInt8 × Bool} (src : Array UInt8) {st : Loader.St} {AL : List XNode} {leaf : Option Nat} {i : Nat} {root : Option Nat}
    (h : LSG kv src st AL leaf (some i) 1 root) (xn : XNode) (hn : AL[i]? = some xn)
    (s2 : List UInt8) (ob : BObj) (s3 : List UInt8) (nt : Option (List UInt8 × List UInt8)) (p : Nat)
    (hob : ob.cls.Valid .inline) (hnt : ∀ s4 txt, nt = some (s4, txt) → txt ≠ []) (rest : List UInt8)
    (hat : AtB src (p + 2) (annBody s2 ob s3 nt ++ rest)) :
    ∃ st', Fold src ((inlOf s2 ob s3 nt).evs p) st st' ∧
      LSG kv src st' (AL.set i (addAnn xn ob (nt.map (·.2)))) leaf (some i) 0 root := by
  have hx := addX_eq src .inline xn s2 ob s3 nt p hob hnt rest hat
  cases nt with
  | none =>
    obtain ⟨st1, hf, hl⟩ := X_ann src .inline rfl h xn hn [] [] (by simp) (by simp)
      ob.cls (p + 2 + s2.length) p (p + 1) p (p + 2 + s2.length + 1 + ob.body.length + 1 + s3.length - 1) none
    obtain ⟨st', hs, hl'⟩ := X_nl src hl ⟨.newLine, p + 2 + s2.length + 1 + ob.body.length + 1 + s3.length,
      p + 2 + s2.length + 1 + ob.body.length + 1 + s3.length⟩ rfl
    refine ⟨st', (Loader.Fold.trans hf (Loader.Fold.one hs)).cast ?_ rfl, by rw [← hx]; exact hl'⟩
    simp [InlBody.evs, inlOf, clsNt, Loader.noteEvs, body_len, Ann.B, Ann.E]
  | some q =>
    obtain ⟨s4, txt⟩ := q
    obtain ⟨st1, hf, hl⟩ := X_ann src .inline rfl h xn hn [] [] (by simp) (by simp)
      ob.cls (p + 2 + s2.length) p (p + 1) p
      (p + 2 + s2.length + 1 + ob.body.length + 1 + s3.length + 1 + s4.length + txt.length - 1)
      (noteOffs p s2 ob s3 (some (s4, txt)))
    obtain ⟨st', hs, hl'⟩ := X_nl src hl ⟨.newLine, p + 2 + s2.length + 1 + ob.body.length + 1 + s3.length + 1 + s4.length + txt.length,
      p + 2 + s2.length + 1 + ob.body.length + 1 + s3.length + 1 + s4.length + txt.length⟩ rfl
    refine ⟨st', (Loader.Fold.trans hf (Loader.Fold.one hs)).cast ?_ rfl, by rw [← hx]; exact hl'⟩
    simp [InlBody.evs, inlOf, clsNt, Loader.noteEvs, body_len, Ann.B, Ann.E, Ann.TB, Ann.TE, noteOffs]

/-- `ml_effectG` for the table with decoded keys -/
theorem ml_effect (src : Array UInt8) {st : Loader.St} {AL : List XNode} {leaf : Option Nat} {i : Nat} {root : Option Nat}
    (h : LS src st AL leaf (some i) 1 root) (xn : XNode) (hn : AL[i]? = some xn)
    (s2 : List UInt8) (ob : BObj) (s3 : List UInt8) (nt : Option (List UInt8 × List UInt8)) (p : Nat)
    (hob : ob.cls.Valid .multi) (hnt : ∀ s4 txt, nt = some (s4, txt) → txt ≠ []) (rest : List UInt8)
    (hat : AtB src (p + 2) (annBody s2 ob s3 nt ++ rest)) :
    ∃ st', Fold src ((mlOf s2 ob s3 nt).evs p) st st' ∧
      LS src st' (AL.set i (addAnn xn ob (nt.map (·.2)))) leaf (some i) 1 root := by
  obtain ⟨st', f, l⟩ := ml_effectG src (LS.iffG.mp h) xn hn s2 ob s3 nt p hob hnt rest hat
  exact ⟨st', f, LS.iffG.mpr l⟩

/-- `inl_effectG` for the table with decoded keys -/
theorem inl_effect (src : Array UInt8) {st : Loader.St} {AL : List XNode} {leaf : Option Nat} {i : Nat} {root : Option Nat}
    (h : LS src st AL leaf (some i) 1 root) (xn : XNode) (hn : AL[i]? = some xn)
    (s2 : List UInt8) (ob : BObj) (s3 : List UInt8) (nt : Option (List UInt8 × List UInt8)) (p : Nat)
    (hob : ob.cls.Valid .inline) (hnt : ∀ s4 txt, nt = some (s4, txt) → txt ≠ []) (rest : List UInt8)
    (hat : AtB src (p + 2) (annBody s2 ob s3 nt ++ rest)) :
    ∃ st', Fold src ((inlOf s2 ob s3 nt).evs p) st st' ∧
      LS src st' (AL.set i (addAnn xn ob (nt.map (·.2)))) leaf (some i) 0 root := by
  obtain ⟨st', f, l⟩ := inl_effectG src (LS.iffG.mp h) xn hn s2 ob s3 nt p hob hnt rest hat
  exact ⟨st', f, LS.iffG.mpr l⟩

/-- **inline versus multi-line, one annotation in any tree context**: the two forms of an annotation with the same rules
and the same note, read from two texts, turn the same table into the same table -/
theorem node_inline_vs_multiline (src src' : Array UInt8) {st st2 : Loader.St} {AL : List XNode}
    {leaf : Option Nat} {i : Nat} {root : Option Nat} (h : LS src st AL leaf (some i) 1 root)
    (h' : LS src' st2 AL leaf (some i) 1 root) (xn : XNode) (hn : AL[i]? = some xn)
    (s2 s2' : List UInt8) (ob ob' : BObj) (s3 s3' : List UInt8) (s4 s4' : List UInt8) (note : Option (List UInt8))
    (p p' : Nat) (hob : ob.cls.Valid .inline) (hob' : ob'.cls.Valid .multi) (hsame : ob.pairs = ob'.pairs)
    (hnt : ∀ t, note = some t → t ≠ []) (rest rest' : List UInt8)
    (hat : AtB src (p + 2) (annBody s2 ob s3 (note.map (fun t => (s4, t))) ++ rest))
    (hat' : AtB src' (p' + 2) (annBody s2' ob' s3' (note.map (fun t => (s4', t))) ++ rest')) :
    ∃ st1 st1' T, Fold src ((inlOf s2 ob s3 (note.map (fun t => (s4, t)))).evs p) st st1 ∧
      Fold src' ((mlOf s2' ob' s3' (note.map (fun t => (s4', t)))).evs p') st2 st1' ∧
      LS src st1 T leaf (some i) 0 root ∧ LS src' st1' T leaf (some i) 1 root := by
  have hq : ∀ (z : List UInt8) (a b : List UInt8), note.map (fun t => (z, t)) = some (a, b) → b ≠ [] := by
    intro z a b e
    cases note with
    | none => cases e
    | some t => simp only [Option.map_some, Option.some.injEq, Prod.mk.injEq] at e; rw [← e.2]; exact hnt t rfl
  obtain ⟨st1, f1, l1⟩ := inl_effect src h xn hn s2 ob s3 _ p hob (hq s4) rest hat
  obtain ⟨st1', f2, l2⟩ := ml_effect src' h' xn hn s2' ob' s3' _ p' hob' (hq s4') rest' hat'
  have e : addAnn xn ob ((note.map (fun t => (s4, t))).map (·.2)) = addAnn xn ob' ((note.map (fun t => (s4', t))).map (·.2)) := by
    have hn' : ob.names = ob'.names := by rw [names_of_pairs, names_of_pairs, hsame]
    have hv' : ob.vals = ob'.vals := by rw [vals_of_pairs, vals_of_pairs, hsame]
    cases note <;> simp [addAnn, hn', hv']
  rw [e] at l1
  exact ⟨st1, st1', _, f1, f2, l1, l2⟩

/-! the audit: the build prints the axioms these three rest on -/

#print axioms node_inline_vs_multiline
#print axioms ml_effect
#print axioms inl_effect

end Lay
