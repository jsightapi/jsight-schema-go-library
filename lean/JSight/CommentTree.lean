import JSight.CommentLayout
/-!
C13, user comments: the events theorem for trees whose layouts contain user comments.
A schema text that is plain JSON with `#` line comments and `## … ###` block comments wherever the scanner accepts
them (before / after values, keys, separators, brackets and at both ends of the text — not between a key and its
colon nor between the colon and the value) is scanned into exactly the events of the tree, every comment delivering
what `Lay.LI.evs` says: nothing for a block comment, two `newLine` events for a line comment with its line break.
-/
namespace Lay
open SchemaScan

variable {data : Array Cls}

/-- the number of bytes of a layout -/
abbrev L (w : List LI) : Nat := (renderL w).length

mutual
/-- the events of a value that starts at offset `o` -/
def cEvsAt : Nat → BTree → List Ev
  | o, .scalar tok => [⟨.litB, o, o⟩, ⟨.litE, o, o + tok.length - 1⟩]
  | o, .arr w0 items => ⟨.arrB, o, o⟩ :: (layEvs (o + 1) w0 ++ cEvsItems o (o + 1 + L w0) items)
  | o, .obj w0 ms => ⟨.objB, o, o⟩ :: (layEvs (o + 1) w0 ++ cEvsMembers o (o + 1 + L w0) ms)
def cEvsItems (a : Nat) : Nat → List BItem → List Ev
  | o, [] => [⟨.arrE, a, o⟩]
  | o, (w1, v, w2) :: its =>
    layEvs o w1 ++ (⟨.itemB, o + L w1, o + L w1⟩ ::
      (cEvsAt (o + L w1) v ++ (⟨.itemE, o + L w1, o + L w1 + v.render.length - 1⟩ ::
        (layEvs (o + L w1 + v.render.length) w2 ++
          cEvsItems a (o + L w1 + v.render.length + L w2 + (if its.isEmpty then 0 else 1)) its))))
def cEvsMembers (a : Nat) : Nat → List BMember → List Ev
  | o, [] => [⟨.objE, a, o⟩]
  | o, (w1, k, w2, w3, v, w4) :: ms =>
    layEvs o w1 ++ (⟨.keyB, o + L w1, o + L w1⟩ :: ⟨.keyE, o + L w1, o + L w1 + k.length - 1⟩ ::
      (layEvs (o + L w1 + k.length) w2 ++ (layEvs (o + L w1 + k.length + L w2 + 1) w3 ++
      (⟨.valB, o + L w1 + k.length + L w2 + 1 + L w3, o + L w1 + k.length + L w2 + 1 + L w3⟩ ::
      (cEvsAt (o + L w1 + k.length + L w2 + 1 + L w3) v ++
        (⟨.valE, o + L w1 + k.length + L w2 + 1 + L w3,
          o + L w1 + k.length + L w2 + 1 + L w3 + v.render.length - 1⟩ ::
        (layEvs (o + L w1 + k.length + L w2 + 1 + L w3 + v.render.length) w4 ++
        cEvsMembers a (o + L w1 + k.length + L w2 + 1 + L w3 + v.render.length + L w4
          + (if ms.isEmpty then 0 else 1)) ms)))))))
end

def BTree.isLit : BTree → Bool | .scalar _ => true | _ => false

/-! ### a valid tree is a derivation of the grammar of scanned text -/

open Gram in
mutual
theorem BTree.gram : (v : BTree) → v.Valid → ∀ o, Val false o v.toTree.render (cEvsAt o v) (.ofLit v.isLit) v.toTree.endSt
  | .scalar tok, hv, o => by
    obtain ⟨c, tl, st0, u0, stE, he, hs, hr, hp⟩ : IsScalar (tok.map classify) := by simpa [BTree.Valid] using hv
    have hl : tok.length = (c :: tl).length := by simpa using congrArg List.length he
    have : (BTree.scalar tok).toTree.endSt = stE := by simp [BTree.toTree, Tree.endSt, he, hs, hr]
    rw [this]
    simp only [BTree.toTree, Tree.render, cEvsAt, he, hl]
    exact Val.scalar hs hr hp
  | .arr w0 items, hv, o => by
    obtain ⟨hw0, hi⟩ : ValidL w0 ∧ ValidItems items := by simpa [BTree.Valid] using hv
    have := Val.cont (br := .arr) (hw0.gram (o + 1)) (gram_citems items hi true (fun _ => rfl) o (o + 1 + (clsL w0).length))
    simpa only [clsL_length, BTree.toTree, Tree.render, cEvsAt, BTree.isLit, Tree.endSt, L, LK.ofLit, Br.op, Br.opB] using this
  | .obj w0 ms, hv, o => by
    obtain ⟨hw0, hi⟩ : ValidL w0 ∧ ValidMembers ms := by simpa [BTree.Valid] using hv
    have := Val.cont (br := .obj) (hw0.gram (o + 1)) (gram_cmembers ms hi true (fun _ => rfl) o (o + 1 + (clsL w0).length))
    simpa only [clsL_length, BTree.toTree, Tree.render, cEvsAt, BTree.isLit, Tree.endSt, L, LK.ofLit, Br.op, Br.opB] using this
theorem gram_citems : (its : List BItem) → ValidItems its → (first : Bool) → (its = [] → first = true) →
    ∀ a o, Entries false .arr a o first (SchemaScan.renderItems (toItems its)) (cEvsItems a o its)
  | [], _, first, hf, a, o => by rw [hf rfl]; exact .nil
  | (w1, v, w2) :: its, hv, first, _, a, o => by
    obtain ⟨hw1, hvv, hw2, hits⟩ : ValidL w1 ∧ v.Valid ∧ ValidL w2 ∧ ValidItems its := by simpa [ValidItems] using hv
    cases its with
    | nil =>
      have := Entries.last (a := a) (first := first) (hw1.gram o) .item (v.gram hvv _) (hw2.gram _) (absurd · (LK.ofLit_ne _))
      simpa [toItems, SchemaScan.renderItems, cEvsItems, clsL_length, render_length, CK.B, CK.E] using this
    | cons it its' =>
      have := Entries.cons (first := first) (hw1.gram o) .item (v.gram hvv _) (hw2.gram _) (absurd · (LK.ofLit_ne _))
        (gram_citems (it :: its') hits false (by simp) a _)
      simpa [toItems, SchemaScan.renderItems, cEvsItems, clsL_length, render_length, CK.B, CK.E] using this
theorem gram_cmembers : (ms : List BMember) → ValidMembers ms → (first : Bool) → (ms = [] → first = true) →
    ∀ a o, Entries false .obj a o first (SchemaScan.renderMembers (toMembers ms)) (cEvsMembers a o ms)
  | [], _, first, hf, a, o => by rw [hf rfl]; exact .nil
  | (w1, k, w2, w3, v, w4) :: ms, hv, first, _, a, o => by
    obtain ⟨hw1, hk, ⟨hw2, pw2⟩, ⟨hw3, pw3⟩, hvv, hw4, hms⟩ :
        ValidL w1 ∧ IsKey (k.map classify) ∧ (ValidL w2 ∧ PlainL w2) ∧ (ValidL w3 ∧ PlainL w3) ∧ v.Valid ∧
          ValidL w4 ∧ ValidMembers ms := by
      simpa [ValidMembers] using hv
    cases ms with
    | nil =>
      have := Entries.last (a := a) (first := first) (hw1.gram o) (.key hk (isWs_clsL hw2 pw2) (isWs_clsL hw3 pw3))
        (v.gram hvv _) (hw4.gram _) (absurd · (LK.ofLit_ne _))
      simpa [toMembers, SchemaScan.renderMembers, cEvsMembers, clsL_length, render_length, layEvs_plain w2 pw2,
        layEvs_plain w3 pw3, CK.B, CK.E] using this
    | cons m ms' =>
      have := Entries.cons (first := first) (hw1.gram o) (.key hk (isWs_clsL hw2 pw2) (isWs_clsL hw3 pw3))
        (v.gram hvv _) (hw4.gram _) (absurd · (LK.ofLit_ne _)) (gram_cmembers (m :: ms') hms false (by simp) a _)
      simpa [toMembers, SchemaScan.renderMembers, cEvsMembers, clsL_length, render_length, layEvs_plain w2 pw2,
        layEvs_plain w3 pw3, CK.B, CK.E] using this
end

theorem citems_run : (its : List BItem) → ValidItems its →
    (first : Bool) → (its = [] → first = true) → (a : Nat) → (K : List (LexT × Nat)) → (o : Nat) →
    At data o (SchemaScan.renderItems (toItems its)) → (c0 : Ctx) → (CS : List Ctx) → (cx : Ctx) → (al : Bool) →
    ∃ al', Steps data (cfg (itemCtx first).st [] ((.arrB, a) :: K) false o (c0 :: CS) cx al) (cEvsItems a o its)
      (cfg .endValue [] K false (o + (renderItems its).length) CS c0 al') :=
  fun its hv first hf a K o hat c0 CS cx al =>
    let ⟨al', h⟩ := (gram_citems its hv first hf a o).run (lc := false) K hat c0 CS cx (fun h => by cases h) al
    have e : (SchemaScan.renderItems (toItems its)).length = (renderItems its).length := by
      rw [← renderItems_cls, List.length_map]
    ⟨al', e ▸ h.steps⟩

theorem cmembers_run : (ms : List BMember) → ValidMembers ms →
    (first : Bool) → (ms = [] → first = true) → (a : Nat) → (K : List (LexT × Nat)) → (o : Nat) →
    At data o (SchemaScan.renderMembers (toMembers ms)) → (c0 : Ctx) → (CS : List Ctx) → (cx : Ctx) → (al : Bool) →
    ∃ al', Steps data (cfg (keyCtxSt first) [] ((.objB, a) :: K) false o (c0 :: CS) cx al) (cEvsMembers a o ms)
      (cfg .endValue [] K false (o + (renderMembers ms).length) CS c0 al') :=
  fun ms hv first hf a K o hat c0 CS cx al =>
    let ⟨al', h⟩ := (gram_cmembers ms hv first hf a o).run (lc := false) K hat c0 CS cx (fun h => by cases h) al
    have e : (SchemaScan.renderMembers (toMembers ms)).length = (renderMembers ms).length := by
      rw [← renderMembers_cls, List.length_map]
    ⟨al', e ▸ h.steps⟩

end Lay
