import JSight.LoaderTreeBase
import JSight.ListFacts
/-!
C09 / C16 (loader part): what the loader model does on the four events of a TYPE SHORTCUT in value position
(`mixed-value-begin`, `types-shortcut-begin`, `types-shortcut-end`, `mixed-value-end`): the mixed node is created (as the
root, or as the child of the array / object that waits for a value), `types-shortcut-end` adds the synthesised rule
(`type` for `@A`, `or` for `@A | @B`) with the shortcut's span as its value to the node created last, and
`mixed-value-end` records the value span.
-/
namespace Loader
open SchemaScan (Ev LexT)

/-- the rule the loader synthesises for the shortcut whose `types-shortcut-end` lexeme is `[b:e]` -/
def shortRule (src : Array UInt8) (b e : Nat) : String := if hasPipe (slice src b e) then "or" else "type"

/-- the node of a shortcut: `[o:e]` the `types-shortcut-end` lexeme, `[o:e']` the `mixed-value-end` lexeme -/
def shortNode (par : Option Nat) (o e e' : Nat) (nm : String) : Node :=
  { kind := .mixed, parent := par, value := some (o, e'), rules := [.inr nm], ruleVals := [some (o, e)] }

/-- the node after `types-shortcut-end` -/
def withShortRule (m : Node) (nm : String) (v : Nat × Nat) : Node :=
  { m with rules := m.rules ++ [.inr nm], ruleVals := m.ruleVals ++ [some v] }

/-- `mixed-value-begin` while the array / object `i` waits for a value: the mixed node is created -/
theorem short_create (src : Array UInt8) (x y i : Nat) (n : Node) (L : List Node) (r : Option Nat) (st : St)
    (hc : Core st L (some i) r) (hn : L[i]? = some n) (hk : n.kind = .arr ∨ n.kind = .obj) (hw : n.waiting = true) :
    ∃ st', step src st ⟨.mixB, x, y⟩ = .ok st' ∧
      Core st' (L.set i { n with waiting := false, children := n.children ++ [L.length] } ++ [fresh .mixed (some i)])
        (some L.length) r ∧ st'.last = some L.length := by
  obtain ⟨st', s, c, l, _⟩ := create_step src ⟨.mixB, x, y⟩ .mixed i n L r (.mix src _ (Or.inl rfl) x y) rfl hn hk hw st hc
  exact ⟨st', s, c, l⟩

/-- `mixed-value-begin` at the top level: the mixed node is the root (`step_root` is about plain events, which `mixB` is
not; with mode and leaf put into the state, `step` computes `rootSt st .mixed` by `rfl`) -/
theorem short_create_root (src : Array UInt8) (x y : Nat) (L : List Node) (r : Option Nat) (st : St)
    (hc : Core st L none r) :
    ∃ st', step src st ⟨.mixB, x, y⟩ = .ok st' ∧
      Core st' (L ++ [fresh .mixed none]) (some L.length) (some L.length) ∧ st'.last = some L.length := by
  obtain ⟨h1, h2, h3, h4⟩ := hc
  have hsz : st.nodes.size = L.length := by rw [← h1]; simp
  refine ⟨rootSt st .mixed, ?_, ⟨by simp [rootSt, h1, fresh], by simp [rootSt, hsz], by simp [rootSt, hsz], h4⟩,
    by simp [rootSt, hsz]⟩
  cases st
  simp only at h2 h4
  subst h2 h4
  rfl

/-- types-shortcut-begin does nothing in default mode -/
theorem step_tsB (src : Array UInt8) (st : St) (x y : Nat) (hm : st.mode = .default) :
    step src st ⟨.tsB, x, y⟩ = .ok st := by
  simp [step, hm]
  rfl

/-- `types-shortcut-end`: the node created last gets the synthesised rule -/
theorem short_tsE (src : Array UInt8) (x y c : Nat) (m : Node) (L : List Node) (l r : Option Nat) (st : St)
    (hc : Core st L l r) (hl : st.last = some c) (hn : L[c]? = some m) :
    ∃ st', step src st ⟨.tsE, x, y⟩ = .ok st' ∧ Core st' (L.set c (withShortRule m (shortRule src x y) (x, y))) l r := by
  obtain ⟨h1, h2, h3, h4⟩ := hc
  refine ⟨updNode st c (fun n => withShortRule n (shortRule src x y) (x, y)), ?_, ⟨?_, h2, h3, h4⟩⟩
  · simp [step, h4, hl]
    rfl
  · have := toList_updNode st c (fun n => withShortRule n (shortRule src x y) (x, y)) m (by rw [h1]; exact hn)
    rw [h1] at this
    exact this

/-- the three events behind `mixed-value-begin`, on the node it created (which is the node created last) -/
theorem short_rest (src : Array UInt8) (o e e' : Nat) (A : List Node) (par : Option Nat) (k : Nat) (hk : k = A.length)
    (r : Option Nat) (st : St) (hc : Core st (A ++ [fresh .mixed par]) (some k) r) (hl : st.last = some k) :
    ∃ st', [⟨.tsB, o, o⟩, ⟨.tsE, o, e⟩, (⟨.mixE, o, e'⟩ : Ev)].foldlM (step src) st = .ok st' ∧
      Core st' (A ++ [shortNode par o e e' (shortRule src o e)]) par r := by
  subst hk
  have e2 := step_tsB src st o o hc.2.2.2
  obtain ⟨st3, e3, c3⟩ := short_tsE src o e _ (fresh .mixed par) _ (some _) r st hc hl List.getElem?_concat_length
  rw [List.set_append_cons_length] at c3
  obtain ⟨st4, e4, c4⟩ := Grows.upd List.getElem?_concat_length (.mixE o e' rfl) r st3 c3
  rw [List.set_append_cons_length] at c4
  refine ⟨st4, ?_, c4⟩
  simp only [List.foldlM_cons, List.foldlM_nil, bind, Except.bind, pure, Except.pure, e2, e3] at e4 ⊢
  exact e4

/-- **a shortcut as an item / a member value**: the four events, from the array / object `i` that waits for a value -/
theorem short_nested_run (src : Array UInt8) (o e e' i : Nat) (n : Node) (L : List Node) (r : Option Nat)
    (hn : L[i]? = some n) (hk : n.kind = .arr ∨ n.kind = .obj) (hw : n.waiting = true) :
    Run src [⟨.mixB, o, o⟩, ⟨.tsB, o, o⟩, ⟨.tsE, o, e⟩, ⟨.mixE, o, e'⟩] L (some i) r
      (L.set i { n with waiting := false, children := n.children ++ [L.length] } ++
        [shortNode (some i) o e e' (shortRule src o e)]) (some i) r := by
  intro st hc
  obtain ⟨st1, e1, c1, l1⟩ := short_create src o o i n L r st hc hn hk hw
  obtain ⟨st4, e4, c4⟩ := short_rest src o e e' _ (some i) L.length (by simp) r st1 c1 l1
  refine ⟨st4, ?_, c4⟩
  simp only [List.foldlM_cons, bind, Except.bind, e1]
  exact e4

/-- **a shortcut as the root** -/
theorem short_root_run (src : Array UInt8) (o e e' : Nat) :
    Run src [⟨.mixB, o, o⟩, ⟨.tsB, o, o⟩, ⟨.tsE, o, e⟩, ⟨.mixE, o, e'⟩] [] none none
      [shortNode none o e e' (shortRule src o e)] none (some 0) := by
  intro st hc
  obtain ⟨st1, e1, c1, l1⟩ := short_create_root src o o [] none st hc
  obtain ⟨st4, e4, c4⟩ := short_rest src o e e' [] none 0 rfl (some 0) st1 c1 l1
  refine ⟨st4, ?_, c4⟩
  simp only [List.foldlM_cons, bind, Except.bind, e1]
  exact e4

end Loader
