import JSight.ATreeLoad4
/-!
C13 / C16, whole annotated trees: `tree_loads` — the text of a well-formed annotated tree whose root is a container
(`t.isContainer = true`; a scalar root with its annotation is the subject of the `Annot*` modules) loads into the table the
tree denotes (`ATree.table`), by induction on the tree. The induction (`G.value_all` / `items_all` / `members_all`) and the
root case (`root_cont`: a container as the whole text, delivering `RootStmt`) are done once for a view of the node table
(`AT.G`); `tree_loads` is the instance for the table with decoded keys, and `AT.value_all` reads `G.value_all` there with
the node table written out (`AT.ValueStmt`, over `AT.Seg`). Inline versus multi-line and layout invariance follow in
`ATreeStrip`.
-/
namespace AT
open SchemaScan (Cls classify Ev LexT St Ctx CK VCtx PV wsLoop cmtLoop nlSt nlAl keySt keyAl closersOf)
open SchemaScan.Len (ATok Tok TC arun astep aslot slotStep closePV noML isObjKey nlStep mlSlot pendOfK annLoop cxA
  endStOf renderAToks Complete endClosers)
open Loader (XNode xfresh LS Fold NK)

/-! ### bytes and classes -/

theorem LTok.bytes_cls {l : LTok} (hw : l.WF) : l.bytes.map classify = (ATok.base l.cls).render := by
  cases l with
  | sp b => rfl
  | nl b => simp only [LTok.WF] at hw; simp [LTok.bytes, LTok.cls, ATok.render, Tok.render, hw]
  | cmt t n =>
    simp only [LTok.WF] at hw
    simp [LTok.bytes, LTok.cls, ATok.render, Tok.render, hw.2]
    decide -- `classify 35 = .hash`

theorem Annot.bytes_cls {a : Annot} (hw : a.WF) : a.bytes.map classify = a.cls.render := by
  obtain ⟨multi, s2, ob, s3, nt, nlb⟩ := a
  cases multi with
  | true =>
    simp only [Annot.bytes, Annot.cls, cond_true, ATok.render, List.map_cons, List.map_append, annBody_cls, List.map_nil]
    rfl
  | false =>
    have hn : classify nlb = .nl := hw.2.2 rfl
    simp only [Annot.bytes, Annot.cls, cond_false, ATok.render, Tok.render, List.map_cons, List.map_append, annBody_cls,
      List.map_nil, hn, ml_inl_render]
    rfl

theorem BTok.bytes_cls {t : BTok} (hw : t.WF) : t.bytes.map classify = t.cls.render := by
  cases t with
  | lay l => exact LTok.bytes_cls hw
  | ann a => exact Annot.bytes_cls hw
  | scalar tok => rfl
  | key k => rfl
  | lbrace => rfl
  | rbrace => rfl
  | lbrack => rfl
  | rbrack => rfl
  | comma => rfl
  | colon => rfl

theorem bytesOf_cls : ∀ (ts : List BTok), TokOK ts → (bytesOf ts).map classify = renderAToks (ts.map BTok.cls)
  | [], _ => rfl
  | t :: ts, hw => by
    simp only [bytesOf, List.map_append, List.map_cons, renderAToks, BTok.bytes_cls (tokOK_cons hw).1,
      bytesOf_cls ts (tokOK_cons hw).2]

theorem BTok.cls_wf {t : BTok} (hw : t.WF) : t.cls.WF := by
  cases t with
  | lay l =>
    cases l with
    | sp b => exact hw
    | nl b => trivial
    | cmt t n => exact hw.1
  | ann a =>
    obtain ⟨multi, s2, ob, s3, nt, nlb⟩ := a
    exact hw.1
  | scalar tok => exact hw
  | key k => exact hw
  | lbrace => trivial
  | rbrace => trivial
  | lbrack => trivial
  | rbrack => trivial
  | comma => trivial
  | colon => trivial

/-! ### the layout behind the tree -/

theorem gap_run : ∀ (g : Gap) (c : TC), wsLoop c.st = true → cmtLoop c.st = true →
    ∃ evs, ScansA c ((gapToks g).map BTok.cls) evs (gapTC c g) ∧ ∀ e ∈ evs, e.ty = .newLine
  | [], c, _, _ => ⟨[], ScansA.nil c, by simp⟩
  | l :: g, c, hw, hc => by
    obtain ⟨evs, s, h1⟩ := gap_run g (LTok.fx c l) (wsLoop_fx hw) (cmtLoop_fx hc)
    obtain ⟨st, gg, K, i, CS, cx, al⟩ := c
    cases l with
    | sp b => exact ⟨[] ++ evs, (ScansA.one (step_sp st hw gg K i CS cx al _)).trans s, by simpa using h1⟩
    | nl b => exact ⟨_, (ScansA.one (step_nl st hw gg K i CS cx al)).trans s, by simpa using h1⟩
    | cmt t n =>
      have hh := step_cmt st hc gg K i CS cx al (t.map classify)
      rw [List.length_map] at hh
      exact ⟨_, (ScansA.one hh).trans s, by simpa using h1⟩

theorem tail_run (c4 : TC) (h4 : c4.st = .endValue) (h4g : c4.g = false) (h4K : c4.K = []) (w1 : Gap) :
    ∃ c' evs, arun c4 ((gapToks w1).map BTok.cls) = some (c', evs) ∧ Complete c' ∧ endClosers c' = [] ∧
      (∀ e ∈ evs, e.ty = .newLine) := by
  obtain ⟨st4, g4, K4, i4, CS4, cx4, al4⟩ := c4
  simp only at h4 h4g h4K
  subst h4 h4g h4K
  cases w1 with
  | nil => exact ⟨_, [], rfl, Or.inr ⟨rfl, rfl, Or.inl rfl⟩, rfl, by simp⟩
  | cons l w =>
    have hcl : Scans ⟨.endValue, false, [], i4, CS4, cx4, al4⟩ [] [] ⟨.endTop, false, [], i4, CS4, cx4, al4⟩ :=
      Scans.close rfl rfl rfl rfl
    obtain ⟨evs, s, h1⟩ := gap_run (l :: w) ⟨.endTop, false, [], i4, CS4, cx4, al4⟩ rfl rfl
    have gf := gap_facts (l :: w) ⟨.endTop, false, [], i4, CS4, cx4, al4⟩
    have e1 := hcl ((gapToks (l :: w)).map BTok.cls) (by simp [gapToks])
    have e2 := s []
    simp only [List.nil_append, List.append_nil] at e1 e2
    rw [e2] at e1
    refine ⟨gapTC ⟨.endTop, false, [], i4, CS4, cx4, al4⟩ (l :: w), [] ++ (evs ++ []), by simpa [arun, pre] using e1,
      Or.inl ⟨?_, gf.K⟩, ?_, by simpa using h1⟩
    · rw [gf.st]; cases Gap.hasNl (l :: w) <;> rfl
    · unfold endClosers; rw [gf.K]

def ATree.isContainer : ATree → Bool | .scalar _ _ => false | _ => true

end AT

/-! ### the induction and the whole text, for a view of the node table -/

namespace AT.G
open SchemaScan (Cls classify Ev LexT St Ctx CK VCtx PV wsLoop cmtLoop nlSt nlAl keySt keyAl closersOf)
open SchemaScan.Len (ATok Tok TC arun astep aslot slotStep closePV noML isObjKey nlStep mlSlot pendOfK annLoop cxA
  endStOf renderAToks Complete endClosers)
open Loader (XNode xfresh Fold NK)

variable [V : View]

/-- the table an annotated tree denotes, keys as the view shows them -/
def _root_.AT.ATree.tableV (t : ATree) : List XNode := t.nodesV none 0

mutual
theorem value_all : (v : ATree) → ValueStmt v
  | .scalar tok an => value_scalar tok an
  | .arr an its => value_arr an its (items_all its)
  | .obj an ms => value_obj an ms (members_all ms)
theorem items_all : (its : AItems) → ItemsStmt its
  | .nil g => items_nil g
  | .cons g1 v g2 c rest => items_cons g1 v g2 c rest (value_all v) (items_all rest)
theorem members_all : (ms : AMembers) → MembersStmt ms
  | .nil g => members_nil g
  | .cons g1 k g2 g3 v g4 c rest => members_cons g1 k g2 g3 v g4 c rest (value_all v) (members_all rest)
end

theorem loads_root (i : Nat) (e : Ev) (k : NK) (hp : Loader.plainTy e.ty = true) (he : Loader.kindOfLex e.ty = some k)
    (last : Option Nat) (pl : Nat) (root : Option Nat) :
    Loads i [] [e] ⟨[], none, last, pl, root⟩ ⟨[xfresh k none], some 0, some 0, pl + 1, some 0⟩ := by
  intro src st _ hl
  obtain ⟨st', s, l⟩ := Loader.X_root src hl e k hp he
  exact ⟨st', Fold.one s, l⟩

/-- what the root theorems deliver: the token-level scan of the whole text and the loader's run over its events -/
def RootStmt (w0 : Gap) (t : ATree) (w1 : Gap) : Prop :=
  ∃ c' evs a', arun TC.init ((docToks w0 t w1).map BTok.cls) = some (c', evs) ∧ Complete c' ∧ endClosers c' = [] ∧
    Loads 0 (docText w0 t w1) evs ⟨[], none, none, 0, none⟩ a' ∧ a'.AL = t.tableV ∧ a'.root = some 0

/-- A container of kind `o` as the whole text: layout, the opening bracket, the annotation behind it, the entries (`hb`,
met first in the container at index 0 of an otherwise empty table), the closing bracket, layout. `hchk` is `ATree.chk` at
the root, unfolded; it says that the line discipline passes, its result `r` is not read. `root_arr` and `root_obj` are its
two readings. -/
theorem root_cont (o : Bool) (w0 : Gap) (an : Option (Gap × Annot)) {toks : List BTok} {idx : Nat → List Nat}
    {keys : List (Bytes × Bool)} {nodes : Nat → Nat → List XNode}
    {chk : Pos → List (Bytes × Bool) → Bool → Nat → Option Nat} (hb : EntStmt o toks idx keys nodes chk) (w1 : Gap)
    (r : Bool × Nat)
    (hchk : (match headChk true (gapPl 0 w0 + 1) an with
      | none => none
      | some (ak1, pl1) => (chk .first [] ak1 pl1).map (fun pl2 => (false, pl2))) = some r)
    (hw : TokOK (gapToks w0 ++ ((openTok o :: (headToks an ++ (toks ++ [closeTok o]))) ++ gapToks w1))) :
    ∃ c' evs a', arun TC.init ((gapToks w0 ++ ((openTok o :: (headToks an ++ (toks ++ [closeTok o]))) ++ gapToks w1)).map
          BTok.cls) = some (c', evs) ∧ Complete c' ∧ endClosers c' = [] ∧
      Loads 0 (bytesOf (gapToks w0 ++ ((openTok o :: (headToks an ++ (toks ++ [closeTok o]))) ++ gapToks w1))) evs
        ⟨[], none, none, 0, none⟩ a' ∧
      a'.AL = ({ contNode o an none with
          children := (contNode o an none).children ++ idx 1,
          keys := (contNode o an none).keys ++ keys } : XNode) :: nodes 0 1 ∧
      a'.root = some 0 := by
  cases hh : headChk true (gapPl 0 w0 + 1) an with
  | none => rw [hh] at hchk; simp at hchk
  | some r1 =>
  obtain ⟨ak1, pl1⟩ := r1
  rw [hh] at hchk
  simp only at hchk
  cases hci : chk .first [] ak1 pl1 with
  | none => rw [hci] at hchk; simp at hchk
  | some pl2 =>
  obtain ⟨hw0, hw⟩ := tokOK_append hw
  obtain ⟨hwt, hw1⟩ := tokOK_append hw
  obtain ⟨_, hwt⟩ := tokOK_cons hwt
  obtain ⟨hwh, hwt⟩ := tokOK_append hwt
  obtain ⟨hwi, _⟩ := tokOK_append hwt
  -- the layout before the tree
  have s0 := gap_seg w0 TC.init ⟨[], none, none, 0, none⟩ rfl (fun _ => rfl)
  have gf0 := gap_facts w0 TC.init
  generalize gapTC TC.init w0 = c0 at s0 gf0
  obtain ⟨st0, g0, K0, i0, CS0, cx0, al0⟩ := c0
  have h0st : st0 = .foundRoot := by have := gf0.st; simp only at this; rw [this]; cases Gap.hasNl w0 <;> rfl
  have h0K : K0 = [] := gf0.K
  have h0CS : CS0 = [] := gf0.CS
  have h0al : al0 = true := gf0.al rfl
  subst h0st h0K h0CS h0al
  -- the opening bracket: the container `D` at index 0
  let D : Cont := ⟨[], xfresh (cKind o) none, [], some 0, gapPl 0 w0 + 1, some 0⟩
  have s1 : Seg ⟨.foundRoot, g0, [], i0, [], cx0, true⟩ [openTok o]
      ⟨cFirst o, false, [(cB o, i0)], i0 + 1, [cx0], cCtx o, true⟩ ⟨[], none, none, gapPl 0 w0, none⟩ D.as :=
    Seg.tok (t := openTok o) (step_open o .root g0 [] i0 [] cx0 true)
      ((loads_root i0 ⟨cB o, i0, i0⟩ (cKind o) (by cases o <;> rfl) (by cases o <;> rfl) none _ none).mono _)
      (by cases o <;> rfl)
  have hok1 : OK ⟨cFirst o, false, [(cB o, i0)], i0 + 1, [cx0], cCtx o, true⟩ true := ⟨by cases o <;> rfl, fun _ => rfl⟩
  obtain ⟨c2, L2, h2st⟩ := head_seg an _ (by cases o <;> simp [cFirst]) rfl true hok1 D rfl rfl ak1 pl1 hh hwh
  obtain ⟨c3, last3, L3, h3st⟩ := hb .first c2 ak1 (D.ann (contNode o an none) pl1) pl2 h2st (L2.ok hok1)
    ⟨(contNode_is o an _).1, (contNode_is o an _).2.1⟩ (by simpa [contNode, annX_keys, xfresh] using hci) hwi
  have L23 := L2.trans L3
  obtain ⟨⟨evsA, scA, ldA⟩, idxA⟩ := s0.trans (s1.trans L23.seg)
  obtain ⟨st3, g3, K3, i3, CS3, cx3, al3⟩ := c3
  obtain rfl : K3 = _ := L23.K
  obtain rfl : CS3 = _ := L23.CS
  obtain ⟨al4, hstep⟩ := step_close o st3 h3st g3 i0 [] i3 cx0 [] cx3 al3
  obtain ⟨c', evsT, hrun, hcomp, hend, hnl⟩ := tail_run ⟨.endValue, false, [], i3 + 1, [], cx0, al4⟩ rfl rfl rfl w1
  have htot := scA (BTok.cls (closeTok o) :: (gapToks w1).map BTok.cls) (by simp)
  rw [show arun ⟨st3, g3, [(cB o, i0)], i3, [cx0], cx3, al3⟩ (BTok.cls (closeTok o) :: (gapToks w1).map BTok.cls)
      = some (c', [⟨cE o, i0, i3⟩] ++ evsT) by
    simp only [arun]; rw [hstep]; simp only [hrun]; rfl] at htot
  refine ⟨c', evsA ++ ([⟨cE o, i0, i3⟩] ++ evsT), ⟨_, none, last3, (if evsT = [] then pl2 else 0), some 0⟩, ?_, hcomp, hend,
    ?_, rfl, rfl⟩
  · simpa [pre, List.append_assoc] using htot
  · have l1 := loads_end o (TC.init.i + (bytesOf (gapToks w0 ++ ([openTok o] ++ (headToks an ++ toks)))).length) i0 i3
      ((D.ann (contNode o an none) pl1).grow (idx 1) keys (nodes 0 1) last3 pl2)
      ⟨(contNode_is o an _).1, (contNode_is o an _).2.1⟩ none (contNode_is o an _).2.2
    have l2 : ∀ o AL, Loads o [] evsT ⟨AL, none, last3, pl2, some 0⟩
        ⟨AL, none, last3, (if evsT = [] then pl2 else 0), some 0⟩ := by
      intro o AL src st _ hls
      exact Loader.X_nls src evsT hls hnl
    have l12 := (l1.seq (l2 _ _)).mono (bytesOf (closeTok o :: gapToks w1))
    have := ldA.trans (l12 : Loads _ _ _ _ _)
    simpa [bytesOf_append, bytesOf, TC.init, List.append_assoc, Cont.as, Cont.grow, Cont.ann, D] using this

theorem root_arr (w0 : Gap) (an : Option (Gap × Annot)) (its : AItems) (w1 : Gap)
    (hl : lineOK w0 (.arr an its) = true) (hw : TokOK (docToks w0 (.arr an its) w1)) : RootStmt w0 (.arr an its) w1 := by
  unfold lineOK at hl
  simp only [Bool.and_eq_true, Option.isSome_iff_exists] at hl
  obtain ⟨⟨r, hchk⟩, _⟩ := hl
  obtain ⟨c', evs, a', h1, h2, h3, h4, h5, h6⟩ := root_cont false w0 an (items_all its) w1 r
    (by simp only [ATree.chk] at hchk; exact hchk) (by simpa [docToks, ATree.toks, openTok, closeTok] using hw)
  refine ⟨c', evs, a', ?_, h2, h3, ?_, ?_, h6⟩
  · simpa [docToks, ATree.toks, openTok, closeTok] using h1
  · simpa [docText, docToks, ATree.toks, openTok, closeTok] using h4
  · simpa [ATree.tableV, ATree.nodesV, contNode, annX_children, annX_keys, xfresh, cKind] using h5

theorem root_obj (w0 : Gap) (an : Option (Gap × Annot)) (ms : AMembers) (w1 : Gap)
    (hl : lineOK w0 (.obj an ms) = true) (hw : TokOK (docToks w0 (.obj an ms) w1)) : RootStmt w0 (.obj an ms) w1 := by
  unfold lineOK at hl
  simp only [Bool.and_eq_true, Option.isSome_iff_exists] at hl
  obtain ⟨⟨r, hchk⟩, _⟩ := hl
  obtain ⟨c', evs, a', h1, h2, h3, h4, h5, h6⟩ := root_cont true w0 an (members_all ms) w1 r
    (by simp only [ATree.chk] at hchk; exact hchk) (by simpa [docToks, ATree.toks, openTok, closeTok] using hw)
  refine ⟨c', evs, a', ?_, h2, h3, ?_, ?_, h6⟩
  · simpa [docToks, ATree.toks, openTok, closeTok] using h1
  · simpa [docText, docToks, ATree.toks, openTok, closeTok] using h4
  · simpa [ATree.tableV, ATree.nodesV, contNode, annX_children, annX_keys, xfresh, cKind] using h5

/-- the text of a well-formed annotated tree with a container at the root loads, and the final state shows the table the
tree denotes -/
theorem tree_loads (w0 : Gap) (t : ATree) (w1 : Gap) (hc : t.isContainer = true) (hl : lineOK w0 t = true)
    (hw : TokOK (docToks w0 t w1)) :
    ∃ st leaf last pl, Loader.loadText (docText w0 t w1) = .ok st ∧
      V.LS (docText w0 t w1).toArray st t.tableV leaf last pl (some 0) := by
  have hinit : V.LS (docText w0 t w1).toArray {} [] none none 0 none := ⟨rfl, rfl, rfl, rfl, rfl, rfl⟩
  have hR : RootStmt w0 t w1 := by
    cases t with
    | scalar tok an => simp [ATree.isContainer] at hc
    | arr an its => exact root_arr w0 an its w1 hl hw
    | obj an ms => exact root_obj w0 an ms w1 hl hw
  obtain ⟨c', evs, a', hrun, hcomp, hend, hld, hAL, hroot⟩ := hR
  have hat : Lay.AtB (docText w0 t w1).toArray 0 (docText w0 t w1) := Lay.AtB_toArray _ [] _ rfl
  obtain ⟨st, hf, hls⟩ := hld _ {} hat hinit
  refine ⟨st, a'.leaf, a'.last, a'.pl, ?_, ?_⟩
  · refine Loader.loadText_atoks ((docToks w0 t w1).map BTok.cls) ?_ c' evs hrun hcomp (docText w0 t w1)
      (bytesOf_cls _ hw) st ?_
    · intro x hx
      obtain ⟨b, hb, rfl⟩ := List.mem_map.mp hx
      exact BTok.cls_wf (hw b hb)
    · rw [hend, List.append_nil]; exact hf
  · rw [← hAL, ← hroot]; exact hls

end AT.G

/-! ### the table with decoded keys -/

namespace AT
open SchemaScan (Cls classify Ev LexT St Ctx CK VCtx PV)
open SchemaScan.Len (TC noML)
open Loader (XNode xfresh LS Fold NK)

attribute [local instance] G.viewX

theorem keysV_viewX (ms : AMembers) : ms.keysV = ms.keys := AMembers.rkeys_dec ms

mutual
theorem nodesV_viewX : (v : ATree) → (par : Option Nat) → (n : Nat) → v.nodesV par n = v.nodes par n
  | .scalar _ _, _, _ => rfl
  | .arr _ its, _, n => by simp only [ATree.nodesV, ATree.nodes, itemsNodesV_viewX its]
  | .obj _ ms, _, n => by simp only [ATree.nodesV, ATree.nodes, membersNodesV_viewX ms, keysV_viewX]
theorem itemsNodesV_viewX : (its : AItems) → (a n : Nat) → its.nodesV a n = its.nodes a n
  | .nil _, _, _ => rfl
  | .cons _ v _ _ rest, a, n => by simp only [AItems.nodesV, AItems.nodes, nodesV_viewX v, itemsNodesV_viewX rest]
theorem membersNodesV_viewX : (ms : AMembers) → (a n : Nat) → ms.nodesV a n = ms.nodes a n
  | .nil _, _, _ => rfl
  | .cons _ _ _ _ v _ _ rest, a, n => by
    simp only [AMembers.nodesV, AMembers.nodes, nodesV_viewX v, membersNodesV_viewX rest]
end

theorem nodesVA_viewX (v : ATree) (par : Option Nat) (n : Nat) : v.nodesVA par n = v.nodesA par n := by
  unfold ATree.nodesVA ATree.nodesA
  cases v <;> simp only [nodesV_viewX]

theorem ls_view {src : Array UInt8} {st : Loader.St} {AL : List XNode} {leaf last : Option Nat} {pl : Nat}
    {root : Option Nat} : G.View.LS src st AL leaf last pl root ↔ LS src st AL leaf last pl root :=
  Loader.LS.iffG.symm

theorem Seg.of_view {c c' : TC} {ts : List BTok} {a a' : AS} (h : G.Seg c ts c' a a') : Seg c ts c' a a' := by
  obtain ⟨evs, s, l⟩ := h.ex
  refine ⟨⟨evs, s, fun src st hat hl => ?_⟩, h.idx⟩
  obtain ⟨st', f, l'⟩ := l src st hat (ls_view.mpr hl)
  exact ⟨st', f, ls_view.mp l'⟩

theorem value_all : (v : ATree) → ValueStmt v := by
  intro v ctx hctx g K i CS cx al hK ak pl ak' pl' hchk hak hw L0 xa M last root hk hwt
  obtain ⟨c', last', L, hst, hl⟩ := G.value_all v ctx ⟨ctx.st, g, K, i, CS, cx, al⟩ ak ⟨L0, xa, M, last, pl, root⟩ ak' pl'
    hctx rfl ⟨hK, hak⟩ ⟨hk, hwt⟩ hchk hw
  have s := L.seg
  simp only [Cont.as, Cont.grow, Cont.next, Cont.n, List.append_nil, nodesVA_viewX] at s
  exact ⟨c', last', Seg.of_view s, hst, L.K, L.CS, L.al hak, hl⟩

/-- **the text of a well-formed annotated tree (a container at the root) loads into the table the tree denotes** -/
theorem tree_loads (w0 : Gap) (t : ATree) (w1 : Gap) (hc : t.isContainer = true) (hl : lineOK w0 t = true)
    (hw : TokOK (docToks w0 t w1)) :
    ∃ st, Loader.loadText (docText w0 t w1) = .ok st ∧ st.root = some 0 ∧
      abstractOf (docText w0 t w1).toArray st = t.table := by
  obtain ⟨st, leaf, last, pl, hload, hls⟩ := G.tree_loads w0 t w1 hc hl hw
  have hls' : LS (docText w0 t w1).toArray st t.tableV leaf last pl (some 0) := ls_view.mp hls
  refine ⟨st, hload, hls'.root, ?_⟩
  unfold abstractOf
  rw [hls'.nodes]
  exact nodesV_viewX t none 0

#print axioms tree_loads

end AT
