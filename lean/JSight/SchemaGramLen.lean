import JSight.SchemaLenEnd
import JSight.SchemaRunLen
/-!
`Length()` of the schema scanner model on a document of the grammar of scanned text — leading layout, a value of any kind
(a type shortcut included), trailing layout — for every tree type at once: embedded in foreign text (`Gram.lenRun_embedded`:
the loop stops at the foreign byte) and filling the input (`Gram.lenRun_whole`: the event stream of `Gram.emits_doc_at` in
length mode, as a drain); the end of the run on a foreign byte; the pure facts that place the result: the last byte of a
value that is no shortcut is not blank and its last event ends there (`Val.ends`), and after the events of any value the
length stands between the end of its last non-blank byte and the end of its text (`Val.core`).  Two lemmas lead from a drain
to the model function: `length_of_drain` (`length` is the drain's `Stop.len` from 0, cut by `trimBlank`) and `trim_text`
(what `trimBlank` leaves of a length that lies in the blanks behind a text).  `S` is the flag of `Gram.Val`: type shortcuts
may occur.
-/
namespace SchemaScan
namespace Len

variable {data : Array Cls}

/-- an event that ends inside the input moves the length to just behind it -/
theorem upd_lt (t : LexT) (b e : Nat) (h : e < data.size) : upd data ⟨t, b, e⟩ = e + 1 := by
  unfold upd
  have : (e == data.size) = false := by simp; omega
  simp [this]

theorem upd_pred (t : LexT) (b E : Nat) (h1 : 1 ≤ E) (h2 : E ≤ data.size) : upd data ⟨t, b, E - 1⟩ = E := by
  rw [upd_lt t b (E - 1) (by omega)]; omega

theorem lt_of_at {i : Nat} {c : Cls} (h : data[i]? = some c) : i < data.size :=
  (Array.getElem?_eq_some_iff.mp h).1

/-! ### the end of the run -/

/-- a queued `end-top` (not deferred) stops the drain at its offset -/
theorem top_queued (j : Nat) (CS : List Ctx) (cx : Ctx) (al : Bool) :
    Drain data { cfgL true .endTop [] [] false (j + 1) CS cx al with finds := [.endTop] } [] (.top j false) :=
  Drain.top (s' := cfgL true .endTop [] [] false (j + 1) CS cx al) (e := ⟨.endTop, j, j⟩) (nextOk_shift rfl rfl) rfl

/-- a foreign byte after layout that followed the value -/
theorem foreign_after_ws {x : Cls} (hx : x.isForeign = true) (j : Nat) (CS : List Ctx) (cx : Ctx) (al : Bool)
    (hc : data[j]? = some x) : Drain data (cfgL true .endTop [] [] false j CS cx al) [] (.top j false) :=
  -- `7`: `next` calls `dispatch` with fuel 8 (`nextBody`) and `endTop_foreign f` speaks of `dispatch (f + 1)`; a state that hands
  -- the byte on calls with one less, hence `6` for the second state a byte goes through (`ts_end_foreign_d f`: `f + 4`)
  (top_queued j CS cx al).read (s := cfgL true .endTop [] [] false j CS cx al) rfl hc
    (endTop_foreign 7 x hx (j + 1) CS cx al [] _ _) rfl

/-- a foreign byte glued to a top-level container (`ev_root … false 0`: no literal is pending, and `pendOf false b = []` whatever
`b`, so the offset argument is a dummy) -/
theorem foreign_glued_container {st : St} (hst : PV st = true) {x : Cls} (hx : x.isForeign = true)
    (hadj : adjOk st x = true) (i : Nat) (CS : List Ctx) (cx : Ctx) (al : Bool) (hc : data[i]? = some x) :
    Drain data (cfgL true st [] [] false i CS cx al) [] (.top i false) :=
  (top_queued i CS cx al).read (s := cfgL true st [] [] false i CS cx al) rfl hc
    ((pv_foreign 7 st hst x hadj _ _ _).trans
      ((ev_root (lc := true) 7 st false 0 (i + 1) CS cx al x _ _).trans
        (endTop_foreign 6 x hx (i + 1) CS cx al [] _ _))) rfl

/-- `end-top` deferred behind trailing text: it comes with the next byte, or the input ends -/
theorem drain_trailing (i : Nat) (CS : List Ctx) (cx : Ctx) (al : Bool) :
    ∃ f, Drain data { cfgL true .endTop [] [] false (i + 1) CS cx al with hasTrailing := true } [] f ∧
      (f = .top (i + 1) true ∨ f = .eof) := by
  by_cases h2 : i + 1 < data.size
  · obtain ⟨c2, hc2⟩ : ∃ c2, data[i + 1]? = some c2 := ⟨data[i + 1], by simp [h2]⟩
    exact ⟨_, (Drain.top (s' := { cfgL true .endTop [] [] false (i + 1 + 1) CS cx al with hasTrailing := true })
        (e := ⟨.endTop, i + 1, i + 1⟩) (nextOk_shift rfl rfl) rfl).read
      (s := { cfgL true .endTop [] [] false (i + 1) CS cx al with hasTrailing := true }) rfl hc2
      (endTop_trailing 7 c2 (i + 1 + 1) CS cx al _ _) rfl, .inl rfl⟩
  · exact ⟨_, .eof (nextOk_done rfl (by simp only [cfgL]; omega) rfl), .inr rfl⟩

/-- a foreign byte glued to a top-level scalar: the literal is closed, `end-top` is deferred to the next byte (or the
end of input); either way the length is the offset of the foreign byte -/
theorem foreign_glued_scalar {st : St} (hst : PV st = true) {x : Cls} (hx : x.isForeign = true)
    (hadj : adjOk st x = true) (b i : Nat) (CS : List Ctx) (cx : Ctx) (al : Bool) (hi : 1 ≤ i)
    (hc : data[i]? = some x) :
    ∃ f, Drain data (cfgL true st [] [(.litB, b)] false i CS cx al) [⟨.litE, b, i - 1⟩] f ∧
      (f = .top (i + 1) true ∨ f = .eof) ∧ ∀ len, f.len data [⟨.litE, b, i - 1⟩] len = .ok i := by
  have hlt : i < data.size := lt_of_at hc
  have hn1 : NextOk data
      { cfgL true .endTop [] [(.litB, b)] false (i + 1) CS cx al with finds := [.litE], hasTrailing := true }
      (some ({ cfgL true .endTop [] [] false (i + 1) CS cx al with hasTrailing := true }, ⟨.litE, b, i - 1⟩)) :=
    nextOk_shift rfl rfl
  obtain ⟨f, r, hf⟩ := drain_trailing (data := data) i CS cx al
  refine ⟨f, (Drain.ev hn1 (by intro h; cases h) r).read (s := cfgL true st [] [(.litB, b)] false i CS cx al) rfl hc
    ((pv_foreign 7 st hst x hadj _ _ _).trans
      ((ev_root (lc := true) 7 st true b (i + 1) CS cx al x _ _).trans
        (endTop_foreign_open 6 x hx (.litB, b) [] (i + 1) CS cx al [.litE] _ _))) rfl, hf, fun len => ?_⟩
  rcases hf with rfl | rfl
  · simp [Stop.len]
  · simp only [Stop.len, lenAfter, upd_pred _ _ _ hi (by omega : i ≤ data.size)]

/-- a foreign byte glued to a top-level shortcut (or the blanks it owns): both closing lexemes are delivered, `end-top` is
deferred to the next byte (or the end of input) -/
theorem foreign_after_ts {nm : Bool} {x : Cls} (h : tsForeignOk nm x = true) (o i : Nat) (c0 : Ctx) (al : Bool)
    (hc : data[i]? = some x) :
    ∃ f, Drain data (cfgL true (tsSt nm) [] (K2 o) false i [c0] sctx al) [⟨.tsE, o, i - 1⟩, ⟨.mixE, o, mixEnd data i⟩] f ∧
      (f = .top (i + 1) true ∨ f = .eof) := by
  have hn1 : NextOk data
      { cfgL true .endTop [] (K2 o) false (i + 1) [] c0 al with finds := [.tsE, .mixE], hasTrailing := true }
      (some ({ cfgL true .endTop [] [(.mixB, o)] false (i + 1) [] c0 al with finds := [.mixE], hasTrailing := true },
        ⟨.tsE, o, i - 1⟩)) := nextOk_shift rfl rfl
  have hn2 : NextOk data
      { cfgL true .endTop [] [(.mixB, o)] false (i + 1) [] c0 al with finds := [.mixE], hasTrailing := true }
      (some ({ cfgL true .endTop [] [] false (i + 1) [] c0 al with hasTrailing := true }, ⟨.mixE, o, mixEnd data i⟩)) :=
    nextOk_shift rfl rfl
  obtain ⟨f, r, hf⟩ := drain_trailing (data := data) i [] c0 al
  exact ⟨f, (Drain.ev hn1 (by intro h; cases h) (Drain.ev hn2 (by intro h; cases h) r)).read
    (s := cfgL true (tsSt nm) [] (K2 o) false i [c0] sctx al) rfl hc (ts_end_foreign_d 4 nm x h o (i + 1) c0 al _ _) rfl, hf⟩

/-! ### `length` -/

/-- `length` runs the drain, takes its `Stop.len` from 0 and cuts the trailing blanks (`trimBlank`); the fuel of its loop
suffices by `Drain.length_init` -/
theorem length_of_drain (bs : List UInt8) {evs : List Ev} {f : Stop} {L : Nat}
    (h : Drain (bs.map classify).toArray { lengthComputing := true } evs f)
    (hL : f.len (bs.map classify).toArray evs 0 = .ok L) :
    length bs = .ok (trimBlank (bs.map classify).toArray L) := by
  unfold length
  simp only [bind, Except.bind, lengthLoop_of_drain h _ _ h.length_init, hL]
  rfl

/-! ### the document inside the input: splitting, trimming -/

/-- splitting the input: layout and value, then what follows -/
theorem at_split (ws0 r tl : List Cls) (hat : At data 0 (ws0 ++ (r ++ tl))) :
    At data 0 (ws0 ++ r) ∧ At data ws0.length r ∧ At data (ws0.length + r.length) tl := by
  rw [At_append, At_append] at hat
  simp only [Nat.zero_add] at hat
  refine ⟨?_, hat.2.1, hat.2.2⟩
  rw [At_append]
  simp only [Nat.zero_add]
  exact ⟨hat.1, hat.2.1⟩

/-- trimming: any length between the end of a text whose last byte is not blank and the end of the blanks behind it is cut
back to the end of the text -/
theorem trim_text (r : List Cls) (hlast : ∃ pre d, r = pre ++ [d] ∧ d.isBlank = false) (ws0 w tl : List Cls)
    (hw : IsWs w) (hat : At data 0 (ws0 ++ (r ++ (w ++ tl)))) (L : Nat) (h1 : ws0.length + r.length ≤ L)
    (h2 : L ≤ ws0.length + r.length + w.length) : trimBlank data L = ws0.length + r.length := by
  obtain ⟨_, hatv, hatT⟩ := at_split ws0 r (w ++ tl) hat
  rw [At_append] at hatT
  obtain ⟨pre, d, hr, hd⟩ := hlast
  have hl : r.length = pre.length + 1 := by rw [hr]; simp
  rw [hl] at h1 h2 hatT ⊢
  rw [hr] at hatv
  refine trimBlank_after w hw pre d hd ws0.length ?_ L h1 h2
  rw [At_append]
  refine ⟨hatv, ?_⟩
  simp only [List.length_append, List.length_cons, List.length_nil, Nat.zero_add]
  exact hatT.1

end Len

namespace Gram
open Len

variable {data : Array Cls} {S : Bool}

/-! ### the last byte and the last event of a value -/

theorem Head.len {br : Br} {o o' : Nat} {h : List Cls} {eh : List Ev} (hh : Head br o h eh o') : o' = o + h.length := by
  cases hh <;> simp only [List.length_append, List.length_cons, List.length_nil] <;> omega

/-- the entries end with the closing bracket, and their last event ends there -/
theorem Entries.ends : ∀ {br : Br} {a o : Nat} {first : Bool} {t : List Cls} {e : List Ev}, Entries S br a o first t e →
    t.getLast? = some br.cl ∧ e.getLast? = some ⟨br.clE, a, o + t.length - 1⟩
  | _, _, _, _, _, _, .nil => ⟨rfl, rfl⟩
  | _, _, _, _, _, _, .last _ hh _ _ _ => by
    rw [hh.len]
    refine ⟨by simp [List.getLast?_append], ?_⟩
    simp only [List.getLast?_append, List.getLast?_cons, List.length_append, List.length_cons, List.length_nil]
    simp; omega
  | _, _, _, _, _, _, .cons (w1 := w1) (h := h) (v := v) (w2 := w2) _ hh _ _ _ hr => by
    obtain ⟨ht, he⟩ := Entries.ends hr
    rw [hh.len] at he ⊢
    obtain ⟨pre, hp⟩ := List.getLast?_eq_some_iff.mp ht
    refine ⟨List.getLast?_eq_some_iff.mpr ⟨w1 ++ (h ++ (v ++ (w2 ++ (.comma :: pre)))), by simp [hp]⟩, ?_⟩
    simp only [List.getLast?_append, List.getLast?_cons, he, Option.some_or, List.length_append,
      List.length_cons]
    simp; omega

/-- the last byte of a value that is no shortcut is not blank, and its last event ends there -/
theorem Val.ends {o : Nat} {t : List Cls} {ev : List Ev} {lit : Bool} {stE : St} (h : Val S o t ev (.ofLit lit) stE) :
    (∃ pre d, t = pre ++ [d] ∧ d.isBlank = false) ∧ ∃ ty b, ev.getLast? = some ⟨ty, b, o + t.length - 1⟩ := by
  cases lit
  · cases h with
    | @cont br _ w0 t e0 ei hl hi =>
      obtain ⟨ht, he⟩ := hi.ends
      obtain ⟨pre, hp⟩ := List.getLast?_eq_some_iff.mp ht
      refine ⟨⟨br.op :: (w0 ++ pre), br.cl, by simp [hp], by cases br <;> rfl⟩, br.clE, o, ?_⟩
      simp only [List.getLast?_cons, List.getLast?_append, he, Option.some_or, List.length_append,
        List.length_cons]
      simp; omega
  · cases h with
    | scalar hs hr hp => exact ⟨scalar_last ⟨_, _, _, _, _, rfl, hs, hr, hp⟩, .litE, o, rfl⟩

theorem lenAfter_getLast {es : List Ev} {e : Ev} (h : es.getLast? = some e) (len : Nat) : lenAfter data es len = upd data e := by
  obtain ⟨pre, rfl⟩ := List.getLast?_eq_some_iff.mp h
  rw [lenAfter_append]; rfl

/-- after the events of a value the length is the offset behind its last byte -/
theorem Val.lenAfter {o : Nat} {t : List Cls} {ev : List Ev} {lit : Bool} {stE : St} (h : Val S o t ev (.ofLit lit) stE)
    (hs : o + t.length ≤ data.size) (len : Nat) : Len.lenAfter data ev len = o + t.length := by
  obtain ⟨⟨pre, d, hp, -⟩, ty, b, he⟩ := h.ends
  rw [lenAfter_getLast he]
  exact upd_pred _ _ _ (by rw [hp]; simp; omega) hs

/-- the events of a layout move the length within the layout; `lo`, any lower bound of the length before (in `lenRun_whole`
the end of the value's last non-blank byte), stays one, since every event of the layout ends at or behind `o` -/
theorem Layout.lenAfter : ∀ {o : Nat} {w : List Cls} {e : List Ev}, Layout o w e → ∀ (len lo : Nat), lo ≤ len → len ≤ o →
    o + w.length ≤ data.size → lo ≤ lenAfter data e len ∧ lenAfter data e len ≤ o + w.length
  | _, _, _, .nil _, len, lo, h1, h2, _ => by simp only [Len.lenAfter, List.length_nil]; omega
  | o, _, _, .sp _ h, len, lo, h1, h2, h3 => by
    simp only [List.length_cons] at h3 ⊢
    have := Layout.lenAfter h len lo h1 (by omega) (by omega)
    omega
  | o, _, _, .nl h, len, lo, h1, h2, h3 => by
    simp only [List.length_cons] at h3 ⊢
    have hu : upd data ⟨.newLine, o, o⟩ = o + 1 := by
      have := upd_pred (data := data) .newLine o (o + 1) (by omega) (by omega)
      simpa using this
    simp only [Len.lenAfter, hu]
    have := Layout.lenAfter h (o + 1) lo (by omega) (by omega) (by omega)
    omega
  | o, _, _, .line (text := text) _ _ h, len, lo, h1, h2, h3 => by
    simp only [List.length_cons, List.length_append] at h3 ⊢
    have hu : upd data ⟨.newLine, o + 1 + text.length, o + 1 + text.length⟩ = o + 1 + text.length + 1 := by
      have := upd_pred (data := data) .newLine (o + 1 + text.length) (o + 1 + text.length + 1) (by omega) (by omega)
      simpa using this
    simp only [Len.lenAfter, hu]
    have := Layout.lenAfter h (o + 1 + text.length + 1) lo (by omega) (by omega) (by omega)
    omega
  | o, _, _, .block (body := body) _ _ h, len, lo, h1, h2, h3 => by
    simp only [List.length_cons, List.length_append] at h3 ⊢
    have := Layout.lenAfter h len lo h1 (by omega) (by omega)
    omega

/-- the text of a value that is no shortcut has no trailing blank -/
theorem Val.rtrimLen_lit {o : Nat} {t : List Cls} {ev : List Ev} {lit : Bool} {stE : St} (h : Val S o t ev (.ofLit lit) stE) :
    rtrimLen t = t.length := by
  obtain ⟨⟨pre, d, hp, hd⟩, -⟩ := h.ends
  have := rtrimLen_snoc pre d [] hd (by intro c hc; cases hc)
  rw [List.append_nil] at this
  rw [hp, this]; simp

/-- after the events of a value the length lies between the end of its last non-blank byte and the end of its text (a
shortcut leaf owns the spaces behind it, and `mixed-value-end` leaves one space out) -/
theorem Val.core {o : Nat} {t : List Cls} {ev : List Ev} {lk : LK} {stE : St} (h : Val S o t ev lk stE)
    (hs : o + t.length ≤ data.size) (len : Nat) :
    o + rtrimLen t ≤ Len.lenAfter data ev len ∧ Len.lenAfter data ev len ≤ o + t.length := by
  by_cases hk : lk = .short
  · subst hk
    cases h with
    | @short _ sc sps _ hsc hsp =>
      obtain ⟨pre, d, hr, hd⟩ := sc.render_last hsc
      have hcl : rtrimLen (sc.render ++ sps) = pre.length + 1 := by
        rw [hr]; exact rtrimLen_snoc pre d sps (name_not_blank hd) (isSpTabs_isWs hsp)
      have hlen : (sc.render ++ sps).length = pre.length + 1 + sps.length := by rw [hr]; simp; omega
      rw [hcl]
      simp only [Len.lenAfter, mixEndOf]
      cases sps with
      | nil =>
        -- no blank behind the last name byte: it is no space, and `mixed-value-end` ends on it
        have hne : ((sc.render ++ ([] : List Cls)).getLast? == some Cls.sp) = false := by
          rw [hr]; simpa using name_ne_sp hd
        simp only [hne, Bool.false_eq_true, if_false]
        simp only [List.length_append, List.length_nil] at hlen hs ⊢
        rw [upd_lt _ _ _ (by omega)]; omega
      | cons c cs =>
        simp only [List.length_append, List.length_cons] at hlen hs ⊢
        split <;> rw [upd_lt _ _ _ (by omega)] <;> omega
  · obtain ⟨lit, rfl⟩ := LK.eq_ofLit hk
    rw [h.lenAfter hs, h.rtrimLen_lit]
    exact ⟨Nat.le_refl _, Nat.le_refl _⟩

/-! ### the length loop on a document -/

/-- **embedded schema**: leading layout, a value, trailing layout, a foreign byte: the drain stops there.  Glued to the value
(`w = []`) the foreign byte must not continue it: `adjOk` behind a scalar or a container, `tsForeignOk` behind a shortcut.
`hfo`: spaces and tabs right behind a shortcut are part of its text (`Val.short`), so layout behind it is empty or begins
with a line break (`NlFirst`). -/
theorem lenRun_embedded {w0 t w : List Cls} {e0 ev e1 : List Ev} {lk : LK} {stE : St} (h0 : Layout 0 w0 e0)
    (hv : Val S w0.length t ev lk stE) (h1 : Layout (w0.length + t.length) w e1) (hfo : lk = .short → NlFirst w)
    (x : Cls) (rest : List Cls) (hx : x.isForeign = true)
    (hadj : w = [] → lk ≠ .short → adjOk stE x = true) (hts : w = [] → ∀ nm, stE = tsSt nm → tsForeignOk nm x = true)
    (hat : At data 0 (w0 ++ (t ++ (w ++ x :: rest)))) :
    ∃ evs f L, Drain data { lengthComputing := true } evs f ∧ f.len data evs 0 = .ok L ∧
      w0.length + rtrimLen t ≤ L ∧ L ≤ w0.length + t.length + w.length := by
  obtain ⟨hat0, hatv, hatT⟩ := at_split w0 t (w ++ x :: rest) hat
  rw [At_append] at hatT
  obtain ⟨hatw, hatx⟩ := hatT
  have hsz : w0.length + t.length + w.length < data.size := lt_of_at hatx.1
  obtain ⟨al, P⟩ := root_path (lc := true) h0 hv hat0
  obtain ⟨c1, c2⟩ := hv.core (data := data) (by omega) (lenAfter data e0 0)
  have hoo := hv.opn_own []
  simp only [List.append_nil] at hoo
  have nv := hv.evs_facts.2
  rw [← hoo, noTop_append, Bool.and_eq_true] at nv
  have hnt : noTop (e0 ++ lk.opn w0.length ev) = true := by rw [noTop_append, h0.evs_facts.2, nv.1]; rfl
  cases w with
  | cons c w' =>
    obtain ⟨al', P2⟩ := hv.close_root (lc := true) hatv al h1 hfo hatw
    simp only [List.length_cons] at hsz hatx ⊢
    exact ⟨_, _, w0.length + t.length + (w'.length + 1), Drain.after (Path.trans P P2)
        (by simp only [noTop_append, hnt, nv.2, h1.evs_facts.2]; rfl) (foreign_after_ws hx _ [] _ al' hatx.1),
      rfl, by omega, Nat.le_refl _⟩
  | nil =>
    simp only [List.length_nil, Nat.add_zero] at hatx hsz ⊢
    by_cases hk : lk = .short
    · subst hk
      cases hv with
      | @short _ sc sps _ hsc hsp =>
        obtain ⟨f, r, hf⟩ := foreign_after_ts (data := data) (hts rfl _ rfl) w0.length _ { ty := .initial } al hatx.1
        rw [mixEnd_at _ _ hatv (short_ne _ _)] at r
        have D := Drain.after P hnt r
        rcases hf with rfl | rfl
        · exact ⟨_, _, w0.length + (sc.render ++ sps).length, D, by simp [Stop.len], by omega, Nat.le_refl _⟩
        · -- the input ends behind the foreign byte: the length is what the events of the shortcut leave
          refine ⟨_, _, _, D, rfl, ?_, ?_⟩ <;> rw [lenAfter_append, lenAfter_append]
          · exact c1
          · exact c2
    · have hp := hv.pv hk
      obtain ⟨lit, rfl⟩ := LK.eq_ofLit hk
      rw [hv.rtrimLen_lit]
      rw [(LK.root_of_ne hk).1, (LK.root_of_ne hk).2, LK.ofLit_pend] at P
      cases lit with
      | false =>
        exact ⟨_, _, w0.length + t.length, Drain.after P hnt (foreign_glued_container hp hx (hadj rfl hk) _ [] _ al hatx.1),
          rfl, Nat.le_refl _, Nat.le_refl _⟩
      | true =>
        obtain ⟨f, r, -, hl⟩ := foreign_glued_scalar hp hx (hadj rfl hk) w0.length _ [] _ al
          (by obtain ⟨⟨pre, d, hp, -⟩, -⟩ := hv.ends; rw [hp, List.length_append]; exact Nat.le_add_left _ _) hatx.1
        exact ⟨_, f, _, Drain.after P hnt r, by rw [Stop.len_append, hl], Nat.le_refl _, Nat.le_refl _⟩

/-- **the document fills the input**: the event stream of the document (`emits_doc_at`, read in length mode) is a drain to
the end of input; the length lies between the end of the value's last non-blank byte and the end of the trailing layout -/
theorem lenRun_whole {w0 t w1 : List Cls} {e0 ev e1 : List Ev} {lk : LK} {stE : St} (h0 : Layout 0 w0 e0)
    (hv : Val S w0.length t ev lk stE) (h1 : Layout (w0.length + t.length) w1 e1) (hfo : lk = .short → NlFirst w1)
    (hat : At data 0 (w0 ++ (t ++ w1))) (hsize : data.size = w0.length + t.length + w1.length) :
    ∃ evs f L, Drain data { lengthComputing := true } evs f ∧ f.len data evs 0 = .ok L ∧
      w0.length + rtrimLen t ≤ L ∧ L ≤ w0.length + t.length + w1.length := by
  have E := emits_doc_at (lc := true) (fin := []) h0 hv h1 hfo (.inl rfl) (fun _ _ => rfl) (by rwa [List.append_nil])
    (by simpa using hsize)
  obtain ⟨c1, c2⟩ := hv.core (data := data) (by omega) (lenAfter data e0 0)
  have hb := h1.lenAfter (data := data) _ (w0.length + rtrimLen t) c1 c2 (by omega)
  refine ⟨_, _, _, E.drain (by simp only [noTop_append, h0.evs_facts.2, hv.evs_facts.2, h1.evs_facts.2]; rfl), rfl, ?_⟩
  rw [lenAfter_append, lenAfter_append]; exact hb

end Gram
end SchemaScan
