import JSight.TypeGraphProofs
import JSight.Dfs
import JSight.LinksHoist
import JSight.LinksOwnPinned
import JSight.UsedProofs
import JSight.FuelVR
import JSight.FuelEX
import JSight.CompileLinksText
import JSight.E2EThm
import JSight.CommentExamples
import JSight.ShortE2EExamples
import JSight.ShortE2ESide
/-!
# C09 — User-type references are resolved completely and recursion is decided correctly

Model `TG.check`: the recursion DFS of `check_recusrion.go` as coded — references met at the root level
are expanded through the type table; inside a type body only the path test remains (the callee's own
table holds no named types). Spec `TG.Inhabited`: least fixpoint — a position is inhabited iff it has a
finite inhabitant (literal ✓, array ✓ (empty), object iff all required properties, reference / or-list
iff some member).
* `C09_never_rejects_legal`: every graph whose root is inhabited passes the check (all graphs, any
  number of types) — "accepts every graph in which each cycle passes through an optional property, an
  array or a terminating or-alternative".
* `C09_full_false`: the converse is false of the code (known finding K-C09-cycle): the required 2-cycle
  `@r = {"s": @s}`, `@s = {"r": @r}` passes the check and is uninhabited.
* `C09_resolved_completely`: the type expansion used by the validator reaches exactly the alternatives
  reachable through chains of references (`VR.alts_iff_reach`).
Missing-type errors, UsedUserTypes and termination are checked against the code (harness
`c09-typegraph`) — and, below `C09_resolved_completely`, PROVED about models tied to the code by `c09-links`:

**Links.** Model `LK.linkCheck` / `LK.linkCheckO` (`JSight/Links.lean`): the reference-resolving part of
`Schema.compile()` as coded — `CompileAllOf` (allOf parents are looked up first; in-progress set 703, memo,
copy-down of keys / children / additionalProperties with 704, 705, 402) and `CheckRootSchema` (root first, then the
hoisted unnamed types of or-shortcuts in heap-address order = parameter `ord`, then EVERY added type in
`sort.Strings` order, referenced or not; per node `collectAllowedJsonTypes` with its path set 1303 and the 1301 test,
`buildList` of `checkLiteralNode`, key shortcuts 1302 / 1304, additionalProperties). Spec `LK.Refs` / `LK.Resolved`
(`JSight/LinksSpec.lean`): an inductive "the text references `n`" over the eight reference forms, and "every name
referenced by the root or by a type of the table is in the table".
* `C09_links_names_missing`: a reported `Type "n" not found` names a type that IS referenced and IS NOT in the table.
* `C09_links_ok_resolved`: if the check passes, every referenced type was added.
* `C09_links_iff_partial`: with no other error of the pipeline in the way (decidable hypothesis `LK.OnlyMissing`), the
  check passes iff every referenced type was added, and fails naming a missing type iff some was not
  (`C09_links_fails_iff_partial`). `C09_links_iff_full` is the statement without the hypothesis; it is false of the
  code for an innocuous reason — another error may come first — `C09_links_iff_full_false` (witness: an allOf
  recursion 703 in front of a missing `@M`; replayed by `c09-links`).
* Ownership (`A.AddType("@b", B)`: type objects added to other type objects). Model `LK.linkCheckO` on `LK.OG`
  (every type object with its owner): `LK.flatten` = `loader.AddUnnamedTypes` as coded (rounds of copying the tables
  of the types that are in the root table), then the same pipeline — since commit 8f3890e the hoisting runs BEFORE
  `CompileAllOf`. `C09_links_own_eq_flat` (the check with ownership IS the flat check of the hoisted table, every
  ownership structure), `C09_links_own_hoisted_iff` (the hoisted table holds exactly the objects that reach the root
  through an `AddType` chain of any length; `|types|` rounds suffice), hence `C09_links_own_sound`,
  `C09_links_own_complete`, `C09_links_own_iff_partial`. Regression witnesses about the order BEFORE the fix (model
  `LK.pinnedLinkCheckO`, `JSight/LinksOwnPinned.lean`): `C09_links_own_pinned_unnoticed` (a missing allOf parent
  inside a nested type passed Check) and `C09_links_own_pinned_parent_not_found` (an allOf parent added to another
  type was reported as not found); `C09_links_own_fixed` shows both witnesses on the current order. All replayed on
  the real library by the corpus of `c09-links`.
* Not proved: that the named type is the FIRST unresolved one in traversal order (the tie compares the exact name).

**UsedUserTypes.** Model `LK.used` = `userTypesCollector.collect` on the root schema as loaded. `C09_used_nodup`,
`C09_used_mem_iff` (exactly the names the text references, `LK.RefsN`), `C09_used_order` (first-occurrence order of
`LK.mentions`: pre-order; at an object allOf parents, then additionalProperties, then each property's key shortcut and
value in source order — the code's order is deterministic, no map is ranged over; it is source order except that the
rules of one annotation are visited allOf-first whatever order they are written in).

**Termination.** Lean functions are total, so the content is in the recursion structure:
* `TG.check` (recursion DFS) is structural recursion on the schema tree — as coded, a reference met inside a type
  body is not expanded at all (callee's own table), so there is nothing to bound; its acceptance by Lean is the proof.
* `LK.linkCheck` has four descents through the type table, each with a fuel argument and the code's own set of
  names (in-progress / path / added set): `C09_links_never_out_of_fuel`, `C09_links_fuel_stable`: `|types| + 1` units
  suffice on EVERY graph and more fuel never changes the verdict.
* the validator's type expansion `VR.build` (one `addedTypeNames` set): `C09_validate_fuel_stable`, every type table.
* the example builder `EX.build` cuts every type at its third nested expansion (`proc n > 1`), as the code does:
  `C09_example_fuel_stable`, `2·|types| + 1` units suffice on every type table.
**Bridge to the text level.** `Compile.check` (`JSight/Compile.lean`) is the check stage of the text-level pipeline
`E2E.validateText` (schema TEXTS → scanner model → loader model → compiled tree `Compile.CN`); its errors carry a code
only. `CL.checkN` (`JSight/CompileLinks.lean`) is the same traversal with the names kept, `CL.lkOf` the abstraction
from the compiled tree to the IR of `LK`, `CL.ordOf` the order of the unnamed types since fix F-34.
* `C09_compile_check_names`: forgetting the names in `CL.checkN` gives `Compile.check` (every tree, every table).
* `C09_models_agree_links`: on the class both models express without another error in the way (`CL.clsAll`: plain
  objects / arrays / scalars whose EXAMPLE obeys its rules, `any`, type shortcuts `@A`, or-shortcuts `@A | @B`, key
  shortcuts whose type is not itself a shortcut, `additionalProperties: "@T"`) the link verdict of `Compile.check`
  and `LK.linkCheck` on the abstraction are THE SAME: both pass, both `Type "n" not found` with the same `n`, both
  1304 with the same key. (`{type: "@A"}` / `{or: […]}` on a literal EXAMPLE are compared at run time only:
  `c09-bridge`, 0 disagreements.) `C09_ord_ok`: `CL.ordOf` meets the hypothesis `LK.OrdOK` of the `C09_links_*`.
* `C09_first_missing`: with every key type a string (`CL.clsSAll`) the link check IS "look up every name of
  `CL.visitAll` in order" — it names the FIRST missing reference in the code's visiting order (root pre-order: at an
  object the key shortcuts, then additionalProperties, then the values; then the or-shortcuts of the added types by
  type name; then the added types by name). This was the open item "not proved: that the named type is the first
  unresolved one" above, now proved for the text-level model.
* `C09_text_level_links_partial`: `C09_links_iff_partial` as a statement about TEXTS. For any schema texts that the
  model's load stage turns into compiled trees of the class, the check stage of `E2E` succeeds iff every referenced
  name (`LK.Refs`, the spec) is among the added types and the recursion check passes; when one is missing the whole
  pipeline answers `schemaErr 1302`, whatever the document, and the name is the first missing one of `CL.visitAll`,
  referenced and not in the table. The step text → compiled tree is a HYPOTHESIS here (`E2E.loadSchema … = .ok …`):
  proved for plain-JSON texts (`C01_text_schema_half`), tied for texts with shortcuts (`e2e-text`, `c09-bridge`); the
  scanner-level theorem for trees whose leaves are shortcuts is NOT proved (`Lay.load_comments` covers scalar leaves).
  `C09_text_level_1302_iff`: the same as one equivalence on the outcome of the whole pipeline.
  The byte offset of the 1302 error (first byte of the node / key holding the reference, in the file of its schema)
  is modelled in the driver (`Drv` `c09b`, part `P`) and tied by `c09-bridge:position`, not proved.
* `C09_text_level_links` / `C09_text_level_1302`: the two statements above with the load hypotheses
  DISCHARGED for schema texts whose values are scalars or type shortcuts `@A` / `@A | @B` (root, member values, array
  items, any nesting and blank layout; added types given as texts of the same class): `C09_text_loads` /
  `C09_types_load` prove text → compiled tree through the scanner model (`C16_shortcut_events_of_tree`: the exact
  events of a shortcut in every value position), the loader model (`C16_shortcut_tree_loads`) and `Compile`
  (`SE.compileNode_sits` at the whole node table, inside `SE.loadSchema_stree`); the class hypothesis `clsSAll` is proved
  for these trees; the byte-level side conditions of
  a shortcut are derived from its grammar (`C09_text_ok`). Still hypotheses there: `CL.typeNamesOK` (distinct user
  type names, decidable) — and texts with annotations / comments / key shortcuts are outside this class.

None of these needs the graph to be ACCEPTED by the recursion check: the code carries a visited set / counter in
every descent, so termination holds for rejected graphs too (`c09-typegraph` runs Check / Validate / Example under a
deadline on them; the one historical exception, the key-shortcut type resolution, was fix F-7g).
-/
namespace Props.C09

theorem C09_never_rejects_legal (g : TG.G) (hroot : TG.lookup g g.rootName = none)
    (h : TG.Inhabited g g.root) : TG.check g = true := TG.C09_never_rejects_legal g hroot h

theorem C09_full_false : TG.check TG.cycle2 = true ∧ ¬ TG.Inhabited TG.cycle2 TG.cycle2.root := TG.C09_full_false

theorem C09_resolved_completely {L : Type} (env : VR.Env L) (s a : VR.S L) :
    a ∈ VR.alts env s ↔ VR.ReachS env s a := VR.alts_iff_reach env s a

/-! ### links -/

theorem C09_links_names_missing (g : LK.G) (ord : List (List String)) (hord : LK.OrdOK g ord) (n : String)
    (h : LK.linkCheck g ord = .error (.missing n)) : LK.Refs g n ∧ ¬ LK.InTable g n :=
  LK.links_names_missing g ord hord n h

theorem C09_links_ok_resolved (g : LK.G) (ord : List (List String)) (h : LK.linkCheck g ord = .ok ()) :
    LK.Resolved g := LK.links_ok_resolved g ord h

def C09_links_iff_full : Prop :=
  ∀ (g : LK.G) (ord : List (List String)), LK.OrdOK g ord →
    ((∃ n, LK.linkCheck g ord = .error (.missing n)) ↔ ¬ LK.Resolved g)

theorem C09_links_iff_partial (g : LK.G) (ord : List (List String)) (hord : LK.OrdOK g ord)
    (hno : LK.OnlyMissing g ord) : LK.linkCheck g ord = .ok () ↔ LK.Resolved g := LK.links_iff g ord hord hno

theorem C09_links_fails_iff_partial (g : LK.G) (ord : List (List String)) (hord : LK.OrdOK g ord)
    (hno : LK.OnlyMissing g ord) : (∃ n, LK.linkCheck g ord = .error (.missing n)) ↔ ¬ LK.Resolved g :=
  LK.links_fails_iff g ord hord hno

theorem C09_links_iff_full_false : ¬ C09_links_iff_full := LK.links_full_false

/-- every reference form, resolved: `{ // {allOf: "@P", additionalProperties: "@I"} "a": @A, @S: 1 // {type: "@I"},
"c": [@A | @B] }`, `@P = {"p": 1 // {or: ["@I", "integer"]}}`, `@A = {"x": @B}`, `@B = {}`, `@I = 1`, `@S = "s"` -/
def demo : LK.G :=
  { root := .obj ["@P"] (some "@I") [("a", false, .ref ["@A"]), ("@S", true, .lit .int (.typ "@I") none),
      ("c", false, .arr [.ref ["@A", "@B"]])],
    types := [("@P", .obj [] none [("p", false, .lit .int (.orr [.user "@I", .builtin .int]) none)]),
      ("@A", .obj [] none [("x", false, .ref ["@B"])]), ("@B", .obj [] none []),
      ("@I", .lit .int .none none), ("@S", .lit .str .none none)] }

/-- the same without `@B`, which only `@A` (and an or-shortcut) reference -/
def demoMissing : LK.G := { demo with types := demo.types.filter (fun p => p.1 != "@B") }

example : LK.linkCheck demo (LK.orNodes demo) = .ok () := by decide +kernel
example : LK.OnlyMissing demo (LK.orNodes demo) := by decide +kernel
example : LK.linkCheck demoMissing (LK.orNodes demoMissing) = .error (.missing "@B") := by decide +kernel
example : LK.OnlyMissing demoMissing (LK.orNodes demoMissing) := by decide +kernel
example : LK.Refs demoMissing "@B" ∧ ¬ LK.InTable demoMissing "@B" :=
  C09_links_names_missing demoMissing _ (LK.orNodes_ordOK _) "@B" (by decide +kernel)
example : LK.Resolved demo := C09_links_ok_resolved demo (LK.orNodes demo) (by decide +kernel)

/-! ### links with ownership (`A.AddType("@b", B)`) -/

theorem C09_links_own_eq_flat (og : LK.OG) (ord : List (List String)) :
    LK.linkCheckO og ord = LK.linkCheck (LK.flatten og) ord := LK.linkCheckO_eq_flat og ord

theorem C09_links_own_hoisted_iff (og : LK.OG) (n : String) :
    LK.InTable (LK.flatten og) n ↔ LK.Reach og.types n := LK.inTable_flatten_iff og n

theorem C09_links_own_sound (og : LK.OG) (ord : List (List String)) (hord : LK.OrdOK (LK.flatten og) ord) (n : String)
    (h : LK.linkCheckO og ord = .error (.missing n)) : LK.Refs (LK.flatten og) n ∧ ¬ LK.Reach og.types n :=
  LK.linkCheckO_sound og ord hord n h

theorem C09_links_own_complete (og : LK.OG) (ord : List (List String)) (h : LK.linkCheckO og ord = .ok ()) :
    ∀ n, LK.Refs (LK.flatten og) n → LK.Reach og.types n := LK.linkCheckO_complete og ord h

theorem C09_links_own_iff_partial (og : LK.OG) (ord : List (List String)) (hord : LK.OrdOK (LK.flatten og) ord)
    (hno : LK.OnlyMissing (LK.flatten og) ord) :
    LK.linkCheckO og ord = .ok () ↔ ∀ n, LK.Refs (LK.flatten og) n → LK.Reach og.types n :=
  LK.linkCheckO_iff og ord hord hno

/-- the order of `Schema.compile()` before commit 8f3890e: Check passed although `@m` was never added -/
theorem C09_links_own_pinned_unnoticed :
    LK.pinnedLinkCheckO LK.witnessNestedAllOf ["@a"] (LK.orNodes LK.witnessNestedAllOf) = .ok () ∧
    ¬ LK.Resolved LK.witnessNestedAllOf := LK.nested_allOf_unnoticed

/-- … and an allOf parent that was added to another type was reported as not found -/
theorem C09_links_own_pinned_parent_not_found :
    LK.pinnedLinkCheckO LK.witnessNestedParent ["@a"] (LK.orNodes LK.witnessNestedParent) = .error (.missing "@b") ∧
    LK.InTable LK.witnessNestedParent "@b" := LK.nested_parent_not_found

/-- the same two inputs on the current order -/
theorem C09_links_own_fixed :
    LK.linkCheckO LK.ownedNestedAllOf [] = .error (.missing "@m") ∧ LK.linkCheckO LK.ownedNestedParent [] = .ok () :=
  ⟨LK.ownedNestedAllOf_now, LK.ownedNestedParent_now⟩

/-- `demo` as the chain `root ← @P, @A`; `@B`, `@I` added to `@A`, `@S` to `@B`; `@Z` added to nothing and `@Y` to `@Z` -/
def demoOwned : LK.OG :=
  { root := demo.root,
    types := [⟨"@P", .root, .obj [] none [("p", false, .lit .int (.orr [.user "@I", .builtin .int]) none)]⟩,
      ⟨"@A", .root, .obj [] none [("x", false, .ref ["@B"])]⟩, ⟨"@B", .type "@A", .obj [] none []⟩,
      ⟨"@I", .type "@A", .lit .int .none none⟩, ⟨"@S", .type "@B", .lit .str .none none⟩,
      ⟨"@Z", .nobody, .obj [] none []⟩, ⟨"@Y", .type "@Z", .ref ["@nowhere"]⟩] }

example : LK.hoisted demoOwned = ["@P", "@A", "@B", "@I", "@S"] := by decide +kernel
example : LK.linkCheckO demoOwned [] = .ok () := by decide +kernel
example : LK.OnlyMissing (LK.flatten demoOwned) [] := by decide +kernel
example : LK.Reach demoOwned.types "@S" := (LK.mem_hoisted_iff demoOwned "@S").1 (by decide +kernel)
example : ¬ LK.Reach demoOwned.types "@Y" := fun h =>
  absurd ((LK.mem_hoisted_iff demoOwned "@Y").2 h) (by decide +kernel)

/-! ### UsedUserTypes -/

theorem C09_used_nodup (s : LK.N) : (LK.used s).Nodup := LK.used_nodup s

theorem C09_used_mem_iff (s : LK.N) (n : String) : n ∈ LK.used s ↔ LK.RefsN s n := LK.used_mem_iff s n

theorem C09_used_order (s : LK.N) : LK.used s = LK.dedupFirst (LK.mentions s) := LK.used_eq s

example : LK.used demo.root = ["@P", "@I", "@A", "@S", "@B"] := by decide +kernel
example : LK.mentions demo.root = ["@P", "@I", "@A", "@S", "@I", "@A", "@B"] := by decide +kernel

/-! ### termination (fuel sufficiency) -/

theorem C09_links_never_out_of_fuel (g : LK.G) (fuel : Nat) (h : g.types.length + 1 ≤ fuel) (ord : List (List String)) :
    LK.linkCheckF g fuel ord ≠ .error .fuel := LK.linkCheckF_noFuel g fuel h ord

theorem C09_links_fuel_stable (g : LK.G) (fuel : Nat) (h : g.types.length + 1 ≤ fuel) (ord : List (List String)) :
    LK.linkCheckF g fuel ord = LK.linkCheck g ord := LK.linkCheckF_stable g fuel h ord

theorem C09_validate_fuel_stable {L : Type} (env : VR.Env L) (s : VR.S L) (fuel : Nat) (h : env.length + 1 ≤ fuel) :
    (VR.build env fuel s ([], [])).2 = VR.alts env s := VR.alts_fuel_stable env s fuel h

theorem C09_example_fuel_stable (ts : EX.Types) (n : EX.N) (fuel : Nat) (h : 2 * ts.length + 1 ≤ fuel) :
    EX.build ts fuel (fun _ => 0) n = EX.build ts (2 * ts.length + 1) (fun _ => 0) n :=
  EX.build_fuel_stable ts n fuel h

/-- `@t = {"k": @t}` (a required self-reference: the recursion check rejects it; the builder still stops) -/
example : EX.build [("@t", .obj [([.quote, .lf, .quote], .ref "@t")])] 64 (fun _ => 0) (.ref "@t") =
    EX.build [("@t", .obj [([.quote, .lf, .quote], .ref "@t")])] 3 (fun _ => 0) (.ref "@t") :=
  C09_example_fuel_stable _ _ 64 (by decide +kernel)

example : VR.alts (L := Nat) [("@t", .ref ["@t", "@u"] none), ("@u", .lit 0)] (.ref ["@t"] none) =
    (VR.build [("@t", .ref ["@t", "@u"] none), ("@u", .lit 0)] 1000 (.ref ["@t"] none) ([], [])).2 :=
  (C09_validate_fuel_stable _ _ 1000 (by decide +kernel)).symm

/-- an alias cycle with a self-referential or-rule: rejected (1303), never out of fuel, with 3 units or with 1000 -/
def demoCyclic : LK.G :=
  { root := .lit .int (.typ "@A") none,
    types := [("@A", .lit .int (.orr [.user "@B", .builtin .int]) none), ("@B", .lit .int (.typ "@A") none)] }

example : LK.linkCheck demoCyclic [] = .error (.jsonTypeRecursion "@A") := by decide +kernel
example : LK.linkCheckF demoCyclic 1000 [] = .error (.jsonTypeRecursion "@A") := by
  rw [C09_links_fuel_stable demoCyclic 1000 (by decide +kernel) []]; decide
example : LK.linkCheckF demoCyclic 1 [] = .error .fuel := by decide +kernel

/-! ### the two models of the link check agree; C09 at text level -/

theorem C09_compile_check_names (root : Compile.CN) (ts : Compile.Types) (hn : (ts.map (·.1)).Nodup) :
    CL.eraseR (CL.checkN root ts) = Compile.check root ts := CL.checkN_erase root ts hn

theorem C09_models_agree_links (root : Compile.CN) (ts : Compile.Types) (hn : (ts.map (·.1)).Nodup)
    (hc : CL.clsAll root ts = true) :
    CL.vA (CL.checkRootN root ts) = CL.vL (LK.linkCheck (CL.lkOf root ts) (CL.ordOf ts)) :=
  CL.models_agree root ts hn hc

theorem C09_ord_ok (root : Compile.CN) (ts : Compile.Types) (hc : CL.clsAll root ts = true) :
    LK.OrdOK (CL.lkOf root ts) (CL.ordOf ts) :=
  CL.ordOf_ordOK root ts (by
    simp only [CL.clsAll, Bool.and_eq_true, List.all_eq_true] at hc
    exact fun n t h => hc.2 (n, t) (CL.lookupT_mem ts n t h))

theorem C09_first_missing (root : Compile.CN) (ts : Compile.Types) (hc : CL.clsSAll root ts = true) :
    CL.checkRootN root ts =
      (match CL.firstMissing ts (CL.visitAll root ts) with
       | some n => .error (.missing n)
       | none => .ok ()) := by
  rw [CL.checkRootN_first root ts hc]; exact CL.mustAllN_eq_firstMissing ts _

theorem C09_text_level_links_partial (root : List UInt8) (types : List (String × List UInt8)) (doc : List UInt8)
    (opt : Bool) (cn : Compile.CN) (ts : Compile.Types) (hroot : E2E.loadSchema root opt = .ok (some cn))
    (hn : CL.typeNamesOK types = true) (htypes : E2E.loadTypes types = .ok ts) (hc : CL.clsSAll cn ts = true) :
    (Compile.check cn ts = .ok () ↔ LK.Resolved (CL.lkOf cn ts) ∧ TG.check (Compile.tgOf cn ts) = true) ∧
    (¬ LK.Resolved (CL.lkOf cn ts) →
      ∃ n, CL.firstMissing ts (CL.visitAll cn ts) = some n ∧ LK.Refs (CL.lkOf cn ts) n ∧
        ¬ LK.InTable (CL.lkOf cn ts) n ∧ CL.checkN cn ts = .error (.missing n) ∧
        E2E.validateText root types doc opt = .schemaErr 1302 0) :=
  CL.text_level_links root types doc opt cn ts hroot hn htypes hc

/-- the same as one equivalence about the outcome of the WHOLE pipeline: `schemaErr 1302` iff some referenced name is
not among the added types (no later stage reports 1302; a failing recursion check is 104) -/
theorem C09_text_level_1302_iff (root : List UInt8) (types : List (String × List UInt8)) (doc : List UInt8)
    (opt : Bool) (cn : Compile.CN) (ts : Compile.Types) (hroot : E2E.loadSchema root opt = .ok (some cn))
    (hn : CL.typeNamesOK types = true) (htypes : E2E.loadTypes types = .ok ts) (hc : CL.clsSAll cn ts = true) :
    E2E.validateText root types doc opt = .schemaErr 1302 0 ↔ ¬ LK.Resolved (CL.lkOf cn ts) :=
  CL.text_level_1302_iff root types doc opt cn ts hroot hn htypes hc

/-- `{ // {additionalProperties: "@S"} "a": @A, @K: 1, "c": [@A | @B] }` with `@S = "s"`, `@A = {"x": @B | @C}`,
`@K = "k"`: `@B` and `@C` were never added -/
def bridgeRoot : Compile.CN :=
  .obj [("a", false, true, false, .ref ["@A"] false .mixed none false),
        ("K", true, true, false, .lit { kind := .i, ex := [49], nul := false, rules := [] } false),
        ("c", false, true, false, .arr [.ref ["@A", "@B"] false .mixed none true] false false)] (.type "@S") false false

def bridgeTypes : Compile.Types :=
  [("@S", .lit { kind := .s, ex := [34, 115, 34], nul := false, rules := [] } false),
   ("@A", .obj [("x", false, true, false, .ref ["@B", "@C"] false .mixed none true)] .absent false false),
   ("@K", .lit { kind := .s, ex := [34, 107, 34], nul := false, rules := [] } false)]

example : CL.clsSAll bridgeRoot bridgeTypes = true := by decide +kernel
example : CL.clsAll bridgeRoot bridgeTypes = true := CL.clsSAll_clsAll _ _ (by decide +kernel)
example : CL.visitAll bridgeRoot bridgeTypes = ["@K", "@S", "@A", "@A", "@B", "@B", "@C", "@B", "@C"] := by
  decide +kernel
example : CL.vA (CL.checkRootN bridgeRoot bridgeTypes) = .missing "@B" := by decide +kernel
example : CL.vL (LK.linkCheck (CL.lkOf bridgeRoot bridgeTypes) (CL.ordOf bridgeTypes)) = .missing "@B" := by
  rw [← C09_models_agree_links bridgeRoot bridgeTypes (by decide +kernel) (CL.clsSAll_clsAll _ _ (by decide +kernel))]
  decide +kernel
/-- a key type that is not a string: both models answer 1304 with the same key (`clsAll`, not `clsSAll`) -/
example : CL.clsAll bridgeRoot (("@K", .arr [] false false) :: bridgeTypes.dropLast) = true ∧
    CL.vA (CL.checkRootN bridgeRoot (("@K", .arr [] false false) :: bridgeTypes.dropLast)) = .e1304 "@K" := by
  decide +kernel

/-- the text-level statement on a real TEXT (`Lay.Ex.tC`: a plain-JSON object with comments; no references, so
every name is resolved): the hypotheses are jointly satisfiable through the PROVED load stage -/
example (doc : List UInt8) :
    Compile.check (E2E.cnOf false Lay.Ex.tC.value) [] = .ok () ↔
      LK.Resolved (CL.lkOf (E2E.cnOf false Lay.Ex.tC.value) []) ∧
        TG.check (Compile.tgOf (E2E.cnOf false Lay.Ex.tC.value) []) = true :=
  (C09_text_level_links_partial (Lay.docTextF [] Lay.Ex.tC [.blank 10] Lay.Ex.cFin) [] doc false
    (E2E.cnOf false Lay.Ex.tC.value) []
    (by
      obtain ⟨st, hl, hr, ht⟩ := Lay.load_comments Lay.Ex.tC Lay.Ex.tC_valid (Lay.Ex.tC_value ▸ Lay.Ex.keys_ok) []
        [.blank 10] (by simp [Lay.ValidL]) (by simp [Lay.ValidL, Lay.LI.Valid, Lay.isBlankB]) Lay.Ex.cFin Lay.Ex.cFin_ok
      exact E2E.loadSchema_plain _ false st Lay.Ex.tC.value hl hr ht (by decide +kernel))
    (by decide +kernel) rfl (by decide +kernel)).1

/-! ### C09 at text level, the load hypothesis discharged (schema texts whose values are type shortcuts)

`SE.BST`: byte-level JSON trees with layout (blank bytes wherever JSON allows them) whose LEAVES are scalars or type
shortcuts `@name` / `@a | @b …` (root, member value or array item, any nesting); `SE.docText w0 t w1` the text; `SE.cnOf`
the compiled tree (a shortcut leaf = the `mixed` reference node with the names of its synthesised `type` / `or` rule).
`SE.TextOK`: blanks around a tree that is valid on byte classes (`SchemaScan.STree.Valid`: scalar / key tokens of the
scanner's automaton, the shortcut grammar, behind a shortcut leaf a line break, `,`, `]`, `}` or the end of input),
pairwise distinct keys per object, and the byte-level side conditions `BST.sideOK`: the kind of every scalar can be guessed
(`BST.guessable`, the decidable hypothesis of `C01_text_level` too) and, for a shortcut, `|` occurs exactly when it has
alternatives, a single name is a user type name, alternatives give ≥ 2 names — these three FOLLOW from the shortcut
grammar (`C09_text_ok`). The added types are texts of the same class (plain JSON, shortcuts, or both). -/

/-- a text is of the class as soon as: blanks around, a tree valid on byte classes, behind a root shortcut a line break
or nothing, every scalar's kind can be guessed, distinct keys -/
theorem C09_text_ok (w0 : SE.Bytes) (t : SE.BST) (w1 : SE.Bytes) (h0 : SchemaScan.IsWs (SE.clsB w0))
    (h1 : SchemaScan.IsWs (SE.clsB w1)) (hv : t.cls.Valid) (hf : SchemaScan.Follow t.cls (SE.clsB w1))
    (hg : t.guessable = true) (hk : t.KeysNodup) : SE.TextOK w0 t w1 :=
  SE.TextOK.of_guessable w0 t w1 h0 h1 hv hf hg hk

/-- the names a shortcut leaf of `SE.cnOf` refers to are read from the shortcut AS WRITTEN: `[@A]` for `@A`, the names in
written order for `@A | @B …` (`Compile.shortNames`) -/
theorem C09_shortcut_names (f : SE.Bytes) (as : List SE.Alt) (sps : SE.Bytes) (hv : (SE.clsSc f as).Valid)
    (hs : SchemaScan.Len.IsSpTabs (SE.clsB sps)) :
    SE.namesOf f as sps = Compile.shortNames (!as.isEmpty) (SE.scBytes f as) :=
  SE.namesOf_eq f as sps hv hs

/-- **text → compiled tree** (scanner model → loader model → constraint constructors → `CompileBasic`) for texts of the
class: this is the hypothesis `hroot` / `htypes` of `C09_text_level_links_partial`, now a theorem -/
theorem C09_text_loads (w0 : SE.Bytes) (t : SE.BST) (w1 : SE.Bytes) (h : SE.TextOK w0 t w1) (opt : Bool) :
    E2E.loadSchema (SE.docText w0 t w1) opt = .ok (some (SE.cnOf opt t)) :=
  SE.loadSchema_stree w0 t w1 h opt

theorem C09_types_load (tys : List SE.TypeText) (h : SE.TypesOK tys) :
    E2E.loadTypes (SE.typeTexts tys) = .ok (SE.typesOf tys) :=
  SE.loadTypes_stree tys h

/-- **C09 at text level**: `C09_text_level_links_partial` with the load hypotheses and the class hypothesis discharged
for schema TEXTS whose values are scalars or type shortcuts (root and added types): the check stage of the text-level
pipeline passes iff every referenced name was added and the recursion check passes; otherwise — when a name is
missing — the WHOLE pipeline answers 1302 whatever the document, and the name `checkN` reports is the first missing
one in the code's visiting order, referenced and not in the table -/
theorem C09_text_level_links (w0 : SE.Bytes) (t : SE.BST) (w1 : SE.Bytes) (ht : SE.TextOK w0 t w1)
    (tys : List SE.TypeText) (htys : SE.TypesOK tys) (hn : CL.typeNamesOK (SE.typeTexts tys) = true)
    (doc : List UInt8) (opt : Bool) :
    (Compile.check (SE.cnOf opt t) (SE.typesOf tys) = .ok () ↔
      LK.Resolved (CL.lkOf (SE.cnOf opt t) (SE.typesOf tys)) ∧
        TG.check (Compile.tgOf (SE.cnOf opt t) (SE.typesOf tys)) = true) ∧
    (¬ LK.Resolved (CL.lkOf (SE.cnOf opt t) (SE.typesOf tys)) →
      ∃ n, CL.firstMissing (SE.typesOf tys) (CL.visitAll (SE.cnOf opt t) (SE.typesOf tys)) = some n ∧
        LK.Refs (CL.lkOf (SE.cnOf opt t) (SE.typesOf tys)) n ∧ ¬ LK.InTable (CL.lkOf (SE.cnOf opt t) (SE.typesOf tys)) n ∧
        CL.checkN (SE.cnOf opt t) (SE.typesOf tys) = .error (.missing n) ∧
        E2E.validateText (SE.docText w0 t w1) (SE.typeTexts tys) doc opt = .schemaErr 1302 0) :=
  SE.text_level_links_stree w0 t w1 ht tys htys hn doc opt

/-- the same as one equivalence about the outcome of the whole pipeline on TEXTS -/
theorem C09_text_level_1302 (w0 : SE.Bytes) (t : SE.BST) (w1 : SE.Bytes) (ht : SE.TextOK w0 t w1)
    (tys : List SE.TypeText) (htys : SE.TypesOK tys) (hn : CL.typeNamesOK (SE.typeTexts tys) = true)
    (doc : List UInt8) (opt : Bool) :
    E2E.validateText (SE.docText w0 t w1) (SE.typeTexts tys) doc opt = .schemaErr 1302 0 ↔
      ¬ LK.Resolved (CL.lkOf (SE.cnOf opt t) (SE.typesOf tys)) :=
  SE.text_level_1302_iff_stree w0 t w1 ht tys htys hn doc opt

/-! Non-vacuity: root `{"a": @A | @B ,⏎ "b": [@C⏎], "c": 1}`, types `@A` = `1⏎`, `@B` = ` @C` (`SE.Ex`): the compiled
root is the expected tree (`rfl`), and `@C` is the first missing name. -/
example (doc : List UInt8) :=
  C09_text_level_links [] SE.Ex.root [] SE.Ex.root_ok SE.Ex.tys SE.Ex.tys_ok SE.Ex.names_ok doc false
example (doc : List UInt8) :=
  C09_text_level_1302 [] SE.Ex.root [] SE.Ex.root_ok SE.Ex.tys SE.Ex.tys_ok SE.Ex.names_ok doc false
example := C09_text_loads [] SE.Ex.root [] SE.Ex.root_ok false
example := C09_text_ok [] SE.Ex.root [] (SE.Ex.ws_ok [] rfl) (SE.Ex.ws_ok [] rfl) SE.Ex.root_valid
  (by intro h; cases h) (by decide +kernel) SE.Ex.root_ok.keys
example : SE.namesOf [65] [([32], [32], [66])] [32] = ["@A", "@B"] := by
  have h : (SE.clsSc [65] [([32], [32], [66])]).Valid ∧ SchemaScan.Len.IsSpTabs (SE.clsB [32]) := by
    simpa [SE.Ex.sAB, SE.BST.cls, SchemaScan.STree.Valid] using SE.Ex.sAB_valid
  rw [C09_shortcut_names _ _ _ h.1 h.2]
  rfl
example := C09_types_load SE.Ex.tys SE.Ex.tys_ok
example : CL.firstMissing (SE.typesOf SE.Ex.tys) (CL.visitAll (SE.cnOf false SE.Ex.root) (SE.typesOf SE.Ex.tys))
    = some "@C" := by decide +kernel

end Props.C09
