import JSight.OMapOpsProofs
import JSight.PinnedOMap
/-!
# C19 — Ordered maps behave as insertion-ordered maps under any operation sequence

Model `OMap.M`: the generated container as coded (a Go map = finite partial function + its
cardinality, the `order` slice as a list; `delete`, `Filter` with the fix F-1; `Update`, `Map`, `Find`,
`Each`, `Get`, `Has`, `Len`). Spec `OMap.Ref`: an insertion-ordered association list.
The theorems quantify over *all* operation sequences of any length, arbitrary key and value types and
arbitrary predicates / update / map functions.
-/
namespace Props.C19
open OMap
variable {κ ν : Type} [DecidableEq κ]

/-- refinement: after any operation sequence from the empty map the invariant holds, the iteration
state equals the reference list, and every observation (Filter / Map / Each visit traces, Find, Get,
Has, Len) equals the reference's -/
theorem C19_refines (ops : List (Op κ ν)) :
    WF ((M.empty : M κ ν).run ops).1 ∧
    ((M.empty : M κ ν).run ops).1.entries = (Ref.run ([] : Ref κ ν) ops).1 ∧
    ((M.empty : M κ ν).run ops).2 = (Ref.run ([] : Ref κ ν) ops).2 := by
  have := run_refines ops (M.empty : M κ ν) wf_empty
  simpa [M.entries, M.empty] using this

/-- `Len` equals the number of iterated keys -/
theorem C19_len (m : M κ ν) (h : WF m) : m.len = m.entries.length := len_eq m h

/-- deleting an absent key changes nothing -/
theorem C19_delete_absent (m : M κ ν) (h : WF m) (k : κ) (hk : m.has k = false) :
    (m.delete k).entries = m.entries ∧ (m.delete k).len = m.len := delete_absent m h k hk

/-- `Filter` visits every entry exactly once, in order, and keeps exactly the entries satisfying the predicate -/
theorem C19_filter (m : M κ ν) (h : WF m) (p : κ → ν → Bool) :
    WF (m.filter p).1 ∧ (m.filter p).1.entries = Ref.filter m.entries p ∧ (m.filter p).2 = m.order :=
  filter_refines m h p

/-- on the pinned (pre-fix) `delete` the property is false: `Set a; Set b; Set c; Delete z` -/
theorem C19_pinned_false : PinnedOMap.witness_len ≠ PinnedOMap.witness_iterated := by decide +kernel

/-! Non-vacuity: a concrete history -/
example : ((M.empty : M Nat Nat).run [.set 0 5, .set 1 6, .set 0 7, .delete 2, .delete 0, .set 0 1, .len]).1.entries
    = [(1, 6), (0, 1)] := by decide +kernel

end Props.C19
