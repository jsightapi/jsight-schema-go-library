import JSight.ProtocolProofs
import JSight.ValidateNProofs
import JSight.ValidateTProofs
import JSight.DocCursorThm
import JSight.DocCursorFuel
import JSight.DocCursorLink
import JSight.DocCursorSafe
import JSight.SchemaObjProofs
import JSight.SchemaObjHoist
/-!
# C11 — Results are deterministic, history-independent and stable: what a theorem can carry

* `C11_once_stable`: a `sync.Once`-wrapped computation returns its first result forever, whatever is
  asked later (load / compile / len / enum compile / regex compile all lean on this contract).
* `C11_handed_out_stable`: with the copy-out of fix F-5a a byte slice returned by `Example()` keeps its
  content under every later sequence of `Example()` calls; `C11_pinned_overwrites` is the two-call
  witness against the pinned variant (the Go tree at the commit under verification), which returned the pooled buffer.
* `C11_leaf_order_free`: the order in which the validator visits the alternatives of a position (Go map
  iteration over `Tree.leaves`) does not change the verdict: the verdict of the tree machine equals the
  union semantics, which is invariant under permutation of the alternatives.
Go's runtime map order, GC and the real API histories are exercised by the harness (`c11-history`), not
modelled.
* `C11_doc_*`: the json `Document` object as a state machine (`JSight/DocCursor.lean`: text, option
  bit, incremental scanner, `checkOnce` / `lenOnce` cells; `NextLexeme` / `Check` / `Len` with the rewinds of
  json.go:64-113,142-145): after EVERY history `Check` and `Len` answer what they answer on a fresh document, the cursor
  is a closed form of the history, the option bit survives; on accepted AND on rejected texts the machine is the
  whole-text scanner model (`C11_doc_accepted_…`, `C11_doc_rejected_…`). Tie: driver `doccur` / harness `c11-doc`.
* `C11_schema_*`: the public `jschema.Schema` object (`JSight/SchemaObj.lean`): every stage runs at most once in every
  history, what the once cells cache, which table a compile sees; and its hoisting loop (`C11_schema_hoist_*`: fuel,
  reachability, the overwrite rule). Tie: `vh c11-schema`.
-/
namespace Props.C11

section stable
open Protocol

theorem C11_once_stable {α : Type} (f : Unit → α) (fs : List (Unit → α)) :
    (Once.runAll ({} : Once α) (f :: fs)).2 = (f :: fs).map (fun _ => f ()) := once_stable f fs

theorem C11_handed_out_stable (cs : List (List Nat)) (h : Heap) (hi : h.Inv) (id : Nat) (hid : id ∈ h.handed) :
    (h.examples cs).read id = h.read id := examples_preserve cs h hi id hid

theorem C11_pinned_overwrites :
    let h1 := (Heap.init.examplePinned [1]);
    let h2 := (h1.1.examplePinned [2]);
    h1.1.read h1.2 = some [1] ∧ h2.1.read h1.2 = some [2] := pinned_overwrites

section order
variable {L D : Type} (litOK : L → D → Bool)

theorem shapeAlts_eq_any (alts : List (VN.S L)) (d : VN.J D) :
    VN.shapeAlts litOK alts d = alts.any (fun a => VN.shape litOK a d) := by
  induction alts with
  | nil => simp [VN.shapeAlts]
  | cons a as ih => simp [VN.shapeAlts, ih]

/-- the verdict of the validator tree does not depend on the order of the alternatives -/
theorem C11_leaf_order_free (alts alts' : List (VN.S L)) (h : alts.Perm alts') (d : VN.J D) :
    VN.validateT litOK (.alt alts) d = VN.validateT litOK (.alt alts') d := by
  rw [VN.C03_shared_tree, VN.C03_shared_tree]
  simp only [VN.shape, shapeAlts_eq_any]
  exact h.any_eq
end order

/-! Non-vacuity: a heap with a handed-out value -/
example : (Heap.init.example [7]).1.Inv ∧ (Heap.init.example [7]).2 ∈ (Heap.init.example [7]).1.handed := by
  refine ⟨(example_spec Heap.init inv_init [7]).1, ?_⟩
  decide

/-! ## The json `Document`: rewinds around `Check` / `Len` (formats/json/json.go:64-113,142-145)

`DocCursor.Doc` is the object (text, option bit, scanner between two `Next` calls, the two once cells), `Doc.run` applies
a history of `NextLexeme` / `Check` / `Len` calls to it and collects what each call hands to the caller.
`checkText t o` / `lenText t o` / `lexAt t o k` are functions of text and option alone: `Check` and `Len` of a document
to which nothing was done, and the delivery of the `k`-th `NextLexeme` of a document on which only `NextLexeme` was
called.  `CheckRes.cached` is what the once cell keeps: the answer itself, except that a non-error panic inside the first
call (passed on to the caller) leaves the cell done with `nil`. -/
section doc
open DocCursor

/-- `Check` after ANY history, exactly: the answer of a fresh document; if the history already contains a `Check`, what the
once cell kept of it. -/
theorem C11_doc_check_history_exact (t : List UInt8) (o : Bool) (ops : List Op) :
    (((Doc.new t o).run ops).2.step .check).1 =
      .check (if hasCheck ops then (checkText t o).cached else checkText t o) := check_after t o ops

/-- `Check` is history-free: whatever was done to the document before, `Check` answers what it answers on a fresh
document (`checkText_no_crash`: that answer is never a panic, so the once cell keeps it as it is). -/
theorem C11_doc_check_history_free (t : List UInt8) (o : Bool) (ops : List Op) :
    (((Doc.new t o).run ops).2.step .check).1 = .check (checkText t o) := by
  rw [check_after, cached_of_not_crash (fun w => checkText_no_crash t o w)]; simp

theorem C11_doc_len_history_exact (t : List UInt8) (o : Bool) (ops : List Op) :
    (((Doc.new t o).run ops).2.step .len).1 =
      .len (if hasLen ops then (lenText t o).cached else lenText t o) := len_after t o ops

theorem C11_doc_len_history_free (t : List UInt8) (o : Bool) (ops : List Op) :
    (((Doc.new t o).run ops).2.step .len).1 = .len (lenText t o) := by
  rw [len_after, lcached_of_not_crash (fun w => lenText_no_crash t o w)]; simp

/-- `Check` / `Len` of a fresh document never end in a non-error panic -/
theorem C11_doc_check_len_never_panic (t : List UInt8) (o : Bool) (w : String) :
    checkText t o ≠ .crash w ∧ lenText t o ≠ .crash w := ⟨checkText_no_crash t o w, lenText_no_crash t o w⟩

/-- the loops of `check` / `Length()` end by themselves: the fuel of the model is never used up
(`C11_doc_check_len_never_panic` at `w := "fuel"`) -/
theorem C11_doc_fuel_suffices (t : List UInt8) (o : Bool) :
    checkText t o ≠ .crash "fuel" ∧ lenText t o ≠ .crash "fuel" := C11_doc_check_len_never_panic t o "fuel"

/-- the whole document after a history in closed form: scanner and `lexErr` are the ones of a fresh document after
`cursorOf ops` `NextLexeme` calls, and `cursorOf` is: 0 at the start, +1 by `NextLexeme`, back to 0 by the FIRST `Check` and by the FIRST
`Len`, untouched by later ones. -/
theorem C11_doc_cursor_after (t : List UInt8) (o : Bool) (ops : List Op) :
    ((Doc.new t o).run ops).2 = stateOf t o (hasCheck ops) (hasLen ops) (cursorOf ops) ∧
    (((Doc.new t o).run ops).2.sc, ((Doc.new t o).run ops).2.lexErr) = scanAt t o (cursorOf ops) ∧
    cursorOf [] = 0 ∧
    cursorOf (ops ++ [.next]) = cursorOf ops + 1 ∧
    cursorOf (ops ++ [.check]) = (if hasCheck ops then cursorOf ops else 0) ∧
    cursorOf (ops ++ [.len]) = (if hasLen ops then cursorOf ops else 0) := by
  refine ⟨by rw [run_new], by rw [run_new]; rfl, rfl, ?_, ?_, ?_⟩ <;> rw [cursorOf_snoc] <;> rfl

/-- what the calls of a history hand out, in closed form (`outsFrom`); in particular a `NextLexeme` issued after the
history `ops` delivers lexeme number `cursorOf ops` of the text: consecutive lexemes, starting again from 0 after each
first `Check` / first `Len`; and the lexeme sequence of a text ENDS with its first error: `lexAt` after an error is that
error forever (the document keeps its first error: `lexErr`). -/
theorem C11_doc_next_spec (t : List UInt8) (o : Bool) (ops : List Op) :
    ((Doc.new t o).run ops).1 = outsFrom t o false false 0 ops ∧
    (((Doc.new t o).run ops).2.step .next).1 = .next (lexAt t o (cursorOf ops)) ∧
    (∀ k c q, lexAt t o k = .err c q → ∀ j, lexAt t o (k + j) = .err c q) := by
  rw [run_new]; exact ⟨rfl, rfl, fun k c q h j => (lexAt_sticky t o k c q h j).1⟩

/-- once a `NextLexeme` answered the error `c` at `q`, every later `NextLexeme` answers the same error, whatever is called
in between, as long as that is not the first `Check` or the first `Len` of the document (the two calls that rewind) -/
theorem C11_doc_error_sticky (t : List UInt8) (o : Bool) (pre mid : List Op) (c q : Nat)
    (h : (((Doc.new t o).run pre).2.step .next).1 = .next (.err c q))
    (hm : noRewind (hasCheck pre) (hasLen pre) mid = true) :
    (((Doc.new t o).run (pre ++ .next :: mid)).2.step .next).1 = .next (.err c q) :=
  error_sticky t o pre mid c q h hm

/-- no `NextLexeme` of any history on any text ends in a non-error panic (C07 for the document cursor): the scanner
follows the whole-text model (`JsonScan.events`, which never crashes: `Sim.C07_json_no_crash`) until its first error, and
after an error it is not stepped again before a rewind. -/
theorem C11_doc_next_never_panics (t : List UInt8) (o : Bool) (ops : List Op) (w : String) :
    (((Doc.new t o).run ops).2.step .next).1 ≠ .next (.crash w) := by
  rw [next_after]
  intro e
  injection e with e
  exact lexAt_never_crash t o _ w e

/-- the outputs of a history are a function of text and option alone: two documents that are both `Doc.new t o` answer
alike (the model has no other input; Go's map order, GC and goroutines are exercised by `c11-history`, not modelled) -/
theorem C11_doc_equal_inputs (t : List UInt8) (o : Bool) (d₁ d₂ : Doc) (h₁ : d₁ = Doc.new t o) (h₂ : d₂ = Doc.new t o)
    (ops : List Op) : (d₁.run ops).1 = (d₂.run ops).1 := by rw [h₁, h₂]

/-- the option bit survives every operation: in the document and in the scanner it currently works with -/
theorem C11_doc_rewind_keeps_option (t : List UInt8) (o : Bool) (ops : List Op) :
    ((Doc.new t o).run ops).2.opt = o ∧ ((Doc.new t o).run ops).2.sc.allow = o := option_after t o ops

/-! Non-vacuity and witnesses.  `1 x` = `[49, 32, 120]`. -/

/-- trailing non-space bytes, option given: three deliveries, `Check`, the cursor is back at 0, `Len`, cached `Check` -/
example : ((Doc.new [49, 32, 120] true).run [.next, .next, .next, .check, .next, .len, .check]).1 =
    [.next (.lex ⟨.litB, 0, 0⟩), .next (.lex ⟨.litE, 0, 0⟩), .next (.eofLex ⟨.endTop, 2, 2⟩), .check .ok,
     .next (.lex ⟨.litB, 0, 0⟩), .len (.ok 1), .check .ok] := by decide +kernel
/-- the same text without the option: the error appears at the THIRD lexeme; `Check` and `Len` report it from any cursor -/
example : ((Doc.new [49, 32, 120] false).run [.next, .next, .next, .check, .next, .len]).1 =
    [.next (.lex ⟨.litB, 0, 0⟩), .next (.lex ⟨.litE, 0, 0⟩), .next (.err 301 2), .check (.err 301 2),
     .next (.lex ⟨.litB, 0, 0⟩), .len (.err 301 2)] := by decide +kernel
/-- the empty text -/
example : ((Doc.new [] false).run [.next, .check, .len, .next]).1 =
    [.next .eof, .check (.err 203 0), .len (.ok 0), .next .eof] := by decide +kernel
/-- cursor values: the first history ends with the cursor at 0 (first `Len`); later `Check` / `Len` calls leave the cursor
where the `NextLexeme` calls put it -/
example : cursorOf [.next, .next, .next, .check, .next, .len, .check] = 0 ∧
    cursorOf [.next, .check, .next, .len, .next, .next, .check, .len] = 2 := by decide +kernel
/-- `{x}` = `[123, 120, 125]`: the error of the second call is kept until the rewind of the first `Check`; after it the
cursor is at 0 and the error is gone -/
example : ((Doc.new [123, 120, 125] false).run [.next, .next, .next, .len, .next, .check, .next]).1 =
    [.next (.lex ⟨.objB, 0, 0⟩), .next (.err 301 1), .next (.err 301 1), .len (.err 301 1), .next (.lex ⟨.objB, 0, 0⟩),
     .check (.err 301 1), .next (.lex ⟨.objB, 0, 0⟩)] := by decide +kernel
/-- hypotheses of `C11_doc_error_sticky` on that text: `Len` then `Check` in between, both cells done before -/
example : (((Doc.new [123, 120, 125] false).run [.check, .len, .next]).2.step .next).1 = .next (.err 301 1) ∧
    noRewind (hasCheck [.check, .len, .next]) (hasLen [.check, .len, .next]) [.len, .check, .next] = true := by decide +kernel
/-- regression witness for `{x}`: a `nextLexeme` that does not keep the error (`nextNotSticky`)
goes on from what the panic left behind - `found(ObjectKeyBegin)` was already called - and its fourth call ends in the
string panic; the sticky one answers the error again -/
example :
    let cls := clsOf [123, 120, 125]
    let r1 := nextNotSticky cls ({}, none)
    let r2 := nextNotSticky cls r1.2
    let r3 := nextNotSticky cls r2.2
    let r4 := nextNotSticky cls r3.2
    [r1.1, r2.1, r3.1, r4.1] =
      [.lex ⟨.objB, 0, 0⟩, .err 301 1, .lex ⟨.keyB, 1, 1⟩, .crash "Incorrect ending of the lexical event"] ∧
    (List.range 4).map (lexAt [123, 120, 125] false) =
      [.lex ⟨.objB, 0, 0⟩, .err 301 1, .err 301 1, .err 301 1] := by decide +kernel
/-- regression witness: with a `rewind` that forgets the option (`Doc.checkDropping`), `Check` after one `NextLexeme`
answers "invalid character at 2" where `Check` of a fresh document answers OK -/
example : (((Doc.new [49, 32, 120] true).step .next).2.checkDropping).1 = .err 301 2 ∧
    checkText [49, 32, 120] true = .ok ∧
    (((Doc.new [49, 32, 120] true).step .next).2.step .check).1 = .check .ok := by decide +kernel

/-- On every text the whole-text JSON scanner model (`JsonScan.events`, the model of the C05 / C06 / C07 / C14 / C17
theorems) ACCEPTS, the `Document` machine is that model: `Check` of a fresh document is `OK` / `Empty JSON` as `checkS`
says, `Len` is `lengthS`, and the `NextLexeme` deliveries are exactly its events (the `EndTop` one together with EOF,
plain EOF behind the last one otherwise). -/
theorem C11_doc_accepted_is_whole_text_model (t : List UInt8) (o : Bool) (evs : List JsonScan.Ev)
    (h : JsonScan.events o t = .ok evs) :
    checkText t o = (if (JsonScan.nonTop evs).isEmpty then .err 203 0 else .ok) ∧
    (∀ n, JsonScan.lengthS o t = .ok n → lenText t o = .ok n) ∧
    scanAll t o (conv evs).length = conv evs :=
  ⟨checkText_of_events t o evs h, fun n hn => lenText_of_lengthS t o n hn, scanAll_of_events t o evs h⟩

/-- non-vacuity: `1 x` with the option is accepted with three events, the last one `EndTop` -/
example : JsonScan.events true [49, 32, 120] = .ok [⟨.litB, 0, 0⟩, ⟨.litE, 0, 0⟩, ⟨.endTop, 2, 2⟩] ∧
    conv [⟨.litB, 0, 0⟩, ⟨.litE, 0, 0⟩, ⟨.endTop, 2, 2⟩] =
      [.lex ⟨.litB, 0, 0⟩, .lex ⟨.litE, 0, 0⟩, .eofLex ⟨.endTop, 2, 2⟩] := ⟨by rfl, by decide +kernel⟩

end doc

end stable

#print axioms Props.C11.C11_doc_check_history_exact
#print axioms Props.C11.C11_doc_check_history_free
#print axioms Props.C11.C11_doc_len_history_exact
#print axioms Props.C11.C11_doc_len_history_free
#print axioms Props.C11.C11_doc_fuel_suffices
#print axioms Props.C11.C11_doc_cursor_after
#print axioms Props.C11.C11_doc_next_spec
#print axioms Props.C11.C11_doc_error_sticky
#print axioms Props.C11.C11_doc_next_never_panics
#print axioms Props.C11.C11_doc_check_len_never_panic
#print axioms Props.C11.C11_doc_equal_inputs
#print axioms Props.C11.C11_doc_rewind_keeps_option
#print axioms Props.C11.C11_doc_accepted_is_whole_text_model
/-! ## C11 at orchestration level: the public `jschema.Schema` object (model `JSight/SchemaObj.lean`)

The glue of notations/jschema/jschema.go over abstract stage functions (`SchemaObj.World`): which public method runs which
stage on which object, what the once cells cache (internal/sync/erronce.go), what `AddType` / `AddRule` do before and after
the first load / compile, which table a compile sees. Tie: `vh c11-schema` (driver `sobj`). -/
section schemaObj
open SchemaObj
variable {W : World}

/-- in every history from every pool each stage (load / compile body / len of an object) runs at most once; no filled cell,
text or option ever changes (`PoolLe`); and — for pools in which no compile cell is filled before the load cell, e.g. fresh
ones — `Len` / `UsedUserTypes` / `Check` / `Build` / `GetAST` asked again after ANY further history answer what they
answered the first time -/
theorem C11_schema_stage_once (p : Pool W) (h : List (Op W)) :
    (∀ e : Ev, (run p h).2.1.count e ≤ 1) ∧ PoolLe p (run p h).1 ∧
    (WF p → ∀ (h2 : List (Op W)) (q : Op W) (i : Nat) (o : Obj W), cellRecv q = some i → p[i]? = some o →
      answer p (h ++ q :: h2) q = answer p h q) :=
  ⟨stage_at_most_once p h, cells_stable p h, fun hw h2 q i o hr ho => repeat_same p hw h h2 q i o hr ho⟩

/-- load-stage methods, history-free: on a pool of fresh objects `Len` after ANY history answers the len stage of the
object's own text; `UsedUserTypes` answers the load stage of the object's own text, options and a rule list `rs` = the
rules the object holds (those accepted by `AddRule` before its load; `[]` if it holds none) — unless that load failed
before `inner` was set, when later `AddRule`s are still accepted without effect. (`GetAST` is NOT a load-stage method as
coded: it runs `compile()`, see `C11_schema_result_fixed_at_first_compile`.) -/
theorem C11_schema_result_function_of_inputs (specs : List (W.Text × Bool)) (h : List (Op W)) (i : Nat)
    (s : W.Text × Bool) (hs : specs[i]? = some s) :
    answer (mkPool specs) h (.len i) = outOfVal (W.len s.1) ∧
    ∃ (o' : Obj W) (rs : List (String × W.Rule)),
      answer (mkPool specs) h (.used i) = usedOut (W.load s.1 s.2 rs) ∧
      ((∀ e, W.load s.1 s.2 rs ≠ .failEarly e) → rs = o'.rules) ∧ (o'.rules = [] → rs = []) ∧
      (step (run (mkPool specs) h).1 (.used i)).1[i]? = some o' :=
  ⟨len_history_free specs h i s hs, used_function_of_inputs specs h i s hs⟩

/-- compile-stage methods: once ANY compiling method (`Check`, `Build`, `GetAST`, `Example`, `Validate`) ran on `i` after
`h1`, `Check` / `Build` on `i` answer after every further history what they would have answered right after `h1` — and
that value is `compileValue`: the compile stage on the view of the pool as it was then (every table as it was then, the
receiver's one hoisted), or the cached load error -/
theorem C11_schema_result_fixed_at_first_compile (p : Pool W) (h1 h2 : List (Op W)) (c q : Op W) (i : Nat) (o : Obj W)
    (hc : compRecv c = some i) (hq : q = .check i ∨ q = .build i) (ho : p[i]? = some o) :
    answer p (h1 ++ c :: h2) q = answer p h1 q ∧
    (∀ o1 : Obj W, (run p h1).1[i]? = some o1 → o1.compC = none →
      (ensureCompile (run p h1).1 i).2.2 = compileValue (run p h1).1 i) :=
  ⟨compile_fixes p h1 h2 c q i o hc hq ho, fun o1 g1 hn => ensureCompile_value _ i o1 g1 hn⟩

/-- which `AddType` calls are in the table of the first compile, as a closed form over the history and its answers
(`tableAt`): as long as `i`'s compile body has not run, `i`'s table is its initial table followed by exactly the
`AddType(name, j)` calls on receiver `i` that answered nil, in call order (refused ones — load error of either object,
empty root, invalid or duplicate name — are not in it). The compile then sees this table hoisted over the tables of
the `j`s as they are at that moment (`compileValue`). -/
theorem C11_schema_table_at_first_compile (p : Pool W) (h : List (Op W)) (i : Nat)
    (hc : (run p h).2.1.count (.compile i) = 0) :
    typesOf (run p h).1 i = typesOf p i ++ tableAt i h (run p h).2.2 := table_closed_form p h i hc

/-- the clean order-freedom statement (same set-up calls per receiver in the same relative order, all before the
receiver's first compiling call; same query; any interleaving) — FALSE for the code as it is -/
def C11_schema_order_free_full : Prop := ∀ W : World, OrderFree W

/-- refuted: root.AddType(@t, T); T.AddType(@u, U); root.Check()  vs  root.AddType(@t, T); root.Check(); T.AddType(@u, U) —
the root's compile hoists the tables of its types as they are at that moment (replayed on the real library) -/
theorem C11_schema_order_free_refuted : ¬ C11_schema_order_free_full := fun h => not_orderFree (h W2)

/-- what holds instead: `Len` does not depend on the history at all, and the compile verdict does not depend on anything
that comes after the receiver's first compiling call -/
theorem C11_schema_order_free_partial (specs : List (W.Text × Bool)) (h1 h2 h3 : List (Op W)) (c q : Op W) (i : Nat)
    (s : W.Text × Bool) (hs : specs[i]? = some s) (hc : compRecv c = some i) (hq : q = .check i ∨ q = .build i) :
    answer (mkPool specs) h1 (.len i) = answer (mkPool specs) h2 (.len i) ∧
    answer (mkPool specs) (h1 ++ c :: h2) q = answer (mkPool specs) (h1 ++ c :: h3) q := by
  refine ⟨by rw [len_history_free specs h1 i s hs, len_history_free specs h2 i s hs], ?_⟩
  rw [compile_fixes _ h1 h2 c q i _ hc hq (mkPool_get specs i s hs),
    compile_fixes _ h1 h3 c q i _ hc hq (mkPool_get specs i s hs)]

/-! Non-vacuity: four objects — roots 0 and 1, the type 2 shared by both roots, the type 3 added to the type 2 -/
def specs4 : List (W2.Text × Bool) := [((), false), ((), false), ((), false), ((), false)]
def hist4 : List (Op W2) :=
  [.addType 2 "@u" 3, .addType 0 "@t" 2, .addType 1 "@t" 2, .check 0, .getAST 1, .addType 2 "@v" 3, .check 0,
   .addType 0 "@u" 3, .addType 0 "@w" 3, .used 2, .len 3, .len 3]

/-- every stage once: the loads of 2, 3 (first `AddType`), 0, 1, the two compile bodies, one len; the late `AddType` on
the shared type is accepted and changes nothing for the compiled roots; `@u` was hoisted into root 0 (duplicate), `@w` is
accepted after the compile -/
example : (run (mkPool specs4) hist4).2.1 = [.load 2, .load 3, .load 0, .load 1, .compile 0, .compile 1, .len 3] ∧
    (run (mkPool specs4) hist4).2.2 =
      [.ok, .ok, .ok, .ok, .val 1, .ok, .ok, .dup "@u", .ok, .val 2, .val 0, .val 0] := ⟨by rfl, by rfl⟩

example : answer (mkPool specs4) (hist4 ++ [.check 0]) (.check 0) = answer (mkPool specs4) (hist4.take 3) (.check 0) :=
  by rfl

/-- the table of root 0 before its compile: the one accepted `AddType`; after the compile it also holds the hoisted `@u` -/
example : (run (mkPool specs4) (hist4.take 3)).2.1.count (.compile 0) = 0 ∧
    tableAt 0 (hist4.take 3) (run (mkPool specs4) (hist4.take 3)).2.2 = [("@t", 2)] ∧
    typesOf (run (mkPool specs4) (hist4.take 4)).1 0 = [("@t", 2), ("@u", 3)] := ⟨by rfl, by rfl, by rfl⟩

example : WF (mkPool specs4) := mkPool_wf specs4
example : specs4[2]? = some ((), false) := rfl
/-- the two histories of the refutation meet the hypotheses of the clean statement and answer differently -/
example : setupFirst hA [] = true ∧ setupFirst hB [] = true ∧
    answer (mkPool specs3) hA (.check 0) = .ok ∧ answer (mkPool specs3) hB (.check 0) = .err 1 :=
  ⟨by rfl, by rfl, hA_answer, hB_answer⟩

end schemaObj

/-! ## The json `Document` on REJECTED texts: the incremental machine is the whole-text scanner model there too

`C11_doc_accepted_is_whole_text_model` covers the texts `JsonScan.events` accepts. Here: the texts it rejects. The
whole-text model drops its accumulated events when it answers an error; `DocCursor.eventsSeen` is that model with the
events KEPT (`seenFrom`: the accumulator of `eventsLoop` at the failing byte; at the end of input additionally the
literal-end of a FINISHED literal, which `Next` delivers before it reports "unexpected end" for the container around it,
e.g. `[1`). Proofs: `JSight/DocCursorRem.lean` (stack-shape invariant `InvA` / `InvB`, `R_top`: no literal-begin below
the top), `JSight/DocCursorOne.lean`, `JSight/DocCursorLink.lean`. -/
section docRejected
open DocCursor

/-- On every text the whole-text JSON scanner model REJECTS (`events o t = .error e`; `e` is never a crash:
`events_no_crash`), the `Document` machine answers the same error: `e` is "invalid character" (301) or "unexpected end"
(303) at an index `p`; `Check` of a fresh document is that error as `checkS` says, `Len` is that error as `lengthS` says,
and the `NextLexeme` deliveries are exactly the events the whole-text model had delivered (`eventsSeen`), each as a
lexeme without error, followed by that error (which then stays: `C11_doc_error_sticky`). -/
theorem C11_doc_rejected_is_whole_text_model (t : List UInt8) (o : Bool) (e : JsonScan.ErrS)
    (h : JsonScan.events o t = .error e) :
    ∃ c p, ((e = .invalidChar p ∧ c = 301) ∨ (e = .unexpectedEOF p ∧ c = 303)) ∧
      JsonScan.checkS o t = .error e ∧ checkText t o = .err c p ∧
      JsonScan.lengthS o t = .error e ∧ lenText t o = .err c p ∧
      scanAll t o ((eventsSeen o t).length + 1) = (eventsSeen o t).map .lex ++ [.err c p] := by
  obtain ⟨c, p, hc, h1, h2, h3⟩ := rejected_main t o e h
  exact ⟨c, p, hc, by unfold JsonScan.checkS; rw [h], h1, by unfold JsonScan.lengthS; rw [h], h2, h3⟩

/-- the same as a closed form for EVERY `NextLexeme` of a fresh document on a rejected text: the `k`-th delivery is the
`k`-th event the whole-text model had delivered, as a lexeme without error; from the first index behind them on, the
error of the whole-text model, for ever -/
theorem C11_doc_rejected_all_deliveries (t : List UInt8) (o : Bool) (e : JsonScan.ErrS)
    (h : JsonScan.events o t = .error e) :
    ∃ c p, ((e = .invalidChar p ∧ c = 301) ∨ (e = .unexpectedEOF p ∧ c = 303)) ∧
      ∀ k, lexAt t o k = match (eventsSeen o t)[k]? with
        | some ev => .lex ev
        | none => .err c p := rejected_all t o e h

/-- `eventsSeen` loses nothing: on an accepted text it is the list of events -/
theorem C11_doc_seen_is_events_on_accepted (t : List UInt8) (o : Bool) (evs : List JsonScan.Ev)
    (h : JsonScan.events o t = .ok evs) : eventsSeen o t = evs := eventsSeen_of_ok o t evs h

/-- `Check` of a fresh strict document (no `AllowTrailingNonSpaceCharacters`) answers OK iff the text is one RFC 8259
JSON text (through `C05_check_iff_rfc` and `C05_machines_agree`; the empty-document rule is part of both sides: a text
without a lexeme is not a JSON text); and, in both modes, the answer is `ErrEmptyJson` exactly when the whole-text model
accepts without delivering a lexeme. -/
theorem C11_doc_check_is_rfc (t : List UInt8) :
    (checkText t false = .ok ↔ Rfc.accepts t = true) ∧
    (∀ o, checkText t o = .err 203 0 ↔ ∃ evs, JsonScan.events o t = .ok evs ∧ JsonScan.nonTop evs = []) :=
  ⟨checkText_ok_iff_rfc t, fun o => checkText_empty_iff t o⟩

/-- after ANY history of `NextLexeme` / `Check` / `Len` calls, `Check()` of a strict document answers OK iff its text is
one RFC 8259 JSON text -/
theorem C11_doc_check_history_free_rfc (t : List UInt8) (ops : List Op) :
    (((Doc.new t false).run ops).2.step .check).1 = .check .ok ↔ Rfc.accepts t = true :=
  check_after_ok_iff_rfc t ops

/-! Non-vacuity: four rejected texts, and `[1` where `Next` closes the finished number before the error -/

/-- `{x}`: invalid character at 1 after the object-begin -/
example : JsonScan.events false [123, 120, 125] = .error (.invalidChar 1) ∧
    eventsSeen false [123, 120, 125] = [⟨.objB, 0, 0⟩] ∧
    scanAll [123, 120, 125] false 2 = [.lex ⟨.objB, 0, 0⟩, .err 301 1] ∧
    checkText [123, 120, 125] false = .err 301 1 ∧ lenText [123, 120, 125] false = .err 301 1 :=
  ⟨by rfl, by decide +kernel, by decide +kernel, by decide +kernel, by decide +kernel⟩
/-- `[1,]` = `[91, 49, 44, 93]`: five lexemes, then invalid character at 3 -/
example : JsonScan.events false [91, 49, 44, 93] = .error (.invalidChar 3) ∧
    eventsSeen false [91, 49, 44, 93] = [⟨.arrB, 0, 0⟩, ⟨.itemB, 1, 1⟩, ⟨.litB, 1, 1⟩, ⟨.litE, 1, 1⟩, ⟨.itemE, 1, 1⟩] ∧
    scanAll [91, 49, 44, 93] false 6 =
      [.lex ⟨.arrB, 0, 0⟩, .lex ⟨.itemB, 1, 1⟩, .lex ⟨.litB, 1, 1⟩, .lex ⟨.litE, 1, 1⟩, .lex ⟨.itemE, 1, 1⟩, .err 301 3] ∧
    checkText [91, 49, 44, 93] false = .err 301 3 :=
  ⟨by rfl, by decide +kernel, by decide +kernel, by decide +kernel⟩
/-- `"a` = `[34, 97]`: unexpected end inside the string -/
example : JsonScan.events false [34, 97] = .error (.unexpectedEOF 1) ∧
    eventsSeen false [34, 97] = [⟨.litB, 0, 0⟩] ∧
    scanAll [34, 97] false 2 = [.lex ⟨.litB, 0, 0⟩, .err 303 1] ∧
    checkText [34, 97] false = .err 303 1 ∧ lenText [34, 97] false = .err 303 1 :=
  ⟨by rfl, by decide +kernel, by decide +kernel, by decide +kernel, by decide +kernel⟩
/-- `1 x` without the option: the literal, then invalid character at 2 -/
example : JsonScan.events false [49, 32, 120] = .error (.invalidChar 2) ∧
    eventsSeen false [49, 32, 120] = [⟨.litB, 0, 0⟩, ⟨.litE, 0, 0⟩] ∧
    scanAll [49, 32, 120] false 3 = [.lex ⟨.litB, 0, 0⟩, .lex ⟨.litE, 0, 0⟩, .err 301 2] ∧
    checkText [49, 32, 120] false = .err 301 2 :=
  ⟨by rfl, by decide +kernel, by decide +kernel, by decide +kernel⟩
/-- `[1` = `[91, 49]`: the finished number is closed (literal-end) before "unexpected end" is reported for the array -/
example : JsonScan.events false [91, 49] = .error (.unexpectedEOF 1) ∧
    eventsSeen false [91, 49] = [⟨.arrB, 0, 0⟩, ⟨.itemB, 1, 1⟩, ⟨.litB, 1, 1⟩, ⟨.litE, 1, 1⟩] ∧
    scanAll [91, 49] false 5 =
      [.lex ⟨.arrB, 0, 0⟩, .lex ⟨.itemB, 1, 1⟩, .lex ⟨.litB, 1, 1⟩, .lex ⟨.litE, 1, 1⟩, .err 303 1] :=
  ⟨by rfl, by decide +kernel, by decide +kernel⟩
/-- closed form on `{x}`: delivery 0 is the object-begin, deliveries 1, 2, 7 are the error -/
example : [0, 1, 2, 7].map (lexAt [123, 120, 125] false) = [.lex ⟨.objB, 0, 0⟩, .err 301 1, .err 301 1, .err 301 1] := by
  decide
/-- RFC side: `1` is a JSON text and `Check` answers OK after a history; `{x}` is not; the blank text is "empty" -/
example : Rfc.accepts [49] = true ∧ checkText [49] false = .ok ∧
    (((Doc.new [49] false).run [.next, .len, .next]).2.step .check).1 = .check .ok ∧
    Rfc.accepts [123, 120, 125] = false ∧ checkText [32] false = .err 203 0 ∧
    JsonScan.events false [32] = .ok [] := ⟨by decide +kernel, by decide +kernel, by decide +kernel, by decide +kernel, by decide +kernel, by rfl⟩

end docRejected

#print axioms Props.C11.C11_doc_rejected_is_whole_text_model
#print axioms Props.C11.C11_doc_rejected_all_deliveries
#print axioms Props.C11.C11_doc_seen_is_events_on_accepted
#print axioms Props.C11.C11_doc_check_is_rfc
#print axioms Props.C11.C11_doc_check_history_free_rfc

/-! ## The hoisting loop of the Schema-object model: fuel, reachability, the overwrite rule

`SchemaObj.hoistLoop` / `hoistRound` = `loader.AddUnnamedTypes` as run by the receiver's first `compile()`. Proofs:
`JSight/SchemaObjHoist.lean`. "Name `n` stands for object `j` in table `t`" is `t.lookup n = some j` (a Go map read). -/
section schemaObjHoist
open SchemaObj SchemaObj.Hoist
variable {W : World}

/-- for every pool and every receiver of the pool — no hypothesis on the ownership graph, so `a.AddType("@t", a)` and two
objects adding each other are included — the hoisting loop on the fuel `fuelOf` leaves through its `len(names) == 0`
exit (`hoistLoopO` is the loop that answers `none` when the fuel runs out), and any larger fuel computes the same table -/
theorem C11_schema_hoist_fuel_suffices (p : Pool W) (i : Nat) (o : Obj W) (ho : p[i]? = some o) :
    hoistLoopO (tysOf p) i (fuelOf p) [] o.types = some (hoisted p i o.types) ∧
    ∀ k, hoistLoop (tysOf p) i (fuelOf p + k) [] o.types = hoisted p i o.types :=
  ⟨hoistLoopO_fuelOf p i o ho, hoistLoop_more_fuel p i o ho⟩

/-- THE OVERWRITE RULE of the code. A round processes its names one after the other (`hoistName`, names sorted); processing
`n` while it stands for `j ≠ i` makes every name `u` of `j`'s table stand for what it stands for in `j`'s table —
whatever the root table held for `u`, the receiver's own `AddType(u, …)` included — and leaves all other names alone; the
receiver itself (`j = i`) contributes nothing. So of two objects registered under one name on different chains the one
copied LAST wins, and a name is expanded once, with the object it stands for at the moment it is processed. -/
theorem C11_schema_hoist_overwrite_rule (tys : Nat → Table) (i : Nat) (ns : List String) (root : Table) :
    hoistRound tys i ns root = ns.foldl (hoistName tys i) root ∧
    ∀ (n : String) (j : Nat), root.lookup n = some j → ∀ m,
      (hoistName tys i root n).lookup m =
        match (if j == i then [] else tys j).lookup m with
        | some k => some k
        | none => root.lookup m :=
  ⟨hoistRound_eq tys i ns root, fun n j h m => lookup_hoistName tys i root n j h m⟩

/-- the clean reading: the names of the hoisted table are exactly the names registered on some `AddType` chain from the
receiver — FALSE for the code as it is -/
def C11_schema_hoist_reachable_full : Prop :=
  ∀ (W : World) (p : Pool W) (i : Nat) (o : Obj W), p[i]? = some o → ∀ n,
    ((hoisted p i o.types).lookup n).isSome ↔ ∃ j, Reach (tysOf p) i o.types n j

def mkObj (t : Table) : Obj W2 := ⟨(), false, [], none, none, none, t⟩
/-- root 0 = {@a: 1, @b: 2}; 1 = {@b: 3} (a private `@b`); 2 = {@x: 4}; 3 = {@y: 5} -/
def poolA : Pool W2 :=
  [mkObj [("@a", 1), ("@b", 2)], mkObj [("@b", 3)], mkObj [("@x", 4)], mkObj [("@y", 5)], mkObj [], mkObj []]
/-- the same with the parent called `@c` -/
def poolC : Pool W2 :=
  [mkObj [("@c", 1), ("@b", 2)], mkObj [("@b", 3)], mkObj [("@x", 4)], mkObj [("@y", 5)], mkObj [], mkObj []]

/-- refuted on `poolA`: `@x` is registered on the chain root -@b-> 2 -@x-> 4, but `@a` is processed before `@b` and
replaces the root's `@b` by object 3, so object 2 is never expanded (replayed on the real library) -/
theorem C11_schema_hoist_reachable_refuted : ¬ C11_schema_hoist_reachable_full := by
  intro h
  have h1 := (h W2 poolA 0 (mkObj [("@a", 1), ("@b", 2)]) rfl "@x").2
    ⟨4, .step (j := 2) (n := "@b") (.base (by rfl)) (by decide +kernel) (by rfl)⟩
  have h2 : (hoisted poolA 0 (mkObj [("@a", 1), ("@b", 2)]).types).lookup "@x" = none := by rfl
  rw [h2] at h1; cases h1

/-- what holds for every pool and receiver: (1) every entry of the hoisted table is a registration on a chain from the
receiver; (2) every name of the receiver's table is still a name of the hoisted table; (3) for every name `n` of the
hoisted table some object `j` registered under `n` on a chain had its whole table copied (all its names are names of the
hoisted table) — `j` is the object `n` stood for when it was processed, not necessarily the final one; (4) if no name is
registered for two different objects on chains from the receiver (`Functional`), the hoisted table IS the reachability
relation: `n` stands for `j` iff `j` is registered under `n` on a chain. -/
theorem C11_schema_hoist_reachable_partial (p : Pool W) (i : Nat) (o : Obj W) (ho : p[i]? = some o) :
    (∀ n j, (hoisted p i o.types).lookup n = some j → Reach (tysOf p) i o.types n j) ∧
    (∀ n, (o.types.lookup n).isSome → ((hoisted p i o.types).lookup n).isSome) ∧
    (∀ n, ((hoisted p i o.types).lookup n).isSome →
      ∃ j, Reach (tysOf p) i o.types n j ∧
        (j ≠ i → ∀ u, (((tysOf p) j).lookup u).isSome → ((hoisted p i o.types).lookup u).isSome)) ∧
    (Functional (tysOf p) i o.types →
      ∀ n j, (hoisted p i o.types).lookup n = some j ↔ Reach (tysOf p) i o.types n j) :=
  ⟨(hoisted_spec p i o ho).1, (hoisted_spec p i o ho).2.1, (hoisted_spec p i o ho).2.2,
    fun hf n j => hoisted_iff_of_functional p i o ho hf n j⟩

/-! Non-vacuity. -/

/-- cycles: 0 adds itself; 1 and 2 add each other. The loop ends (2 rounds for receiver 1) and the receiver's own name
comes back through the cycle -/
def poolCyc : Pool W2 := [mkObj [("@t", 0)], mkObj [("@f", 2)], mkObj [("@e", 1)]]
example : fuelOf poolCyc = 4 ∧ hoisted poolCyc 0 [("@t", 0)] = [("@t", 0)] ∧
    hoisted poolCyc 1 [("@f", 2)] = [("@f", 2), ("@e", 1)] ∧
    hoistLoopO (tysOf poolCyc) 1 3 [] [("@f", 2)] = some [("@f", 2), ("@e", 1)] ∧
    hoistLoopO (tysOf poolCyc) 1 2 [] [("@f", 2)] = none := ⟨by rfl, by rfl, by rfl, by rfl, by rfl⟩
example : hoistLoopO (tysOf poolCyc) 1 (fuelOf poolCyc) [] [("@f", 2)] = some (hoisted poolCyc 1 [("@f", 2)]) :=
  (C11_schema_hoist_fuel_suffices poolCyc 1 (mkObj [("@f", 2)]) rfl).1

/-- a collision-free pool (a diamond: 3 is registered as `@u` by both 1 and 2): the hypothesis of (4) holds -/
def poolD : Pool W2 := [mkObj [("@s", 1), ("@t", 2)], mkObj [("@u", 3)], mkObj [("@u", 3)], mkObj []]
theorem poolD_functional : Functional (tysOf poolD) 0 [("@s", 1), ("@t", 2)] := by
  have key : ∀ n j, Reach (tysOf poolD) 0 [("@s", 1), ("@t", 2)] n j →
      (n = "@s" ∧ j = 1) ∨ (n = "@t" ∧ j = 2) ∨ (n = "@u" ∧ j = 3) := by
    intro n j h
    induction h with
    | @base n j h =>
      by_cases h1 : n = "@s"
      · subst h1; exact .inl ⟨rfl, (Option.some.inj h).symm⟩
      · by_cases h2 : n = "@t"
        · subst h2; exact .inr (.inl ⟨rfl, (Option.some.inj h).symm⟩)
        · rw [lookup_cons_ne _ _ _ _ h1, lookup_cons_ne _ _ _ _ h2] at h; cases h
    | @step n j u k _ hji hk ih =>
      have hu : ∀ (t : Table), t = [("@u", 3)] → t.lookup u = some k → u = "@u" ∧ k = 3 := by
        intro t ht h
        subst ht
        by_cases h1 : u = "@u"
        · subst h1; exact ⟨rfl, (Option.some.inj h).symm⟩
        · rw [lookup_cons_ne _ _ _ _ h1] at h; cases h
      rcases ih with ⟨_, rfl⟩ | ⟨_, rfl⟩ | ⟨_, rfl⟩
      · exact .inr (.inr (hu _ rfl hk))
      · exact .inr (.inr (hu _ rfl hk))
      · cases hk
  intro n j j' h h'
  rcases key n j h with ⟨rfl, rfl⟩ | ⟨rfl, rfl⟩ | ⟨rfl, rfl⟩ <;>
    rcases key _ j' h' with ⟨e, rfl⟩ | ⟨e, rfl⟩ | ⟨e, rfl⟩ <;> first | rfl | (exact absurd e (by decide +kernel))
example : hoisted poolD 0 [("@s", 1), ("@t", 2)] = [("@s", 1), ("@t", 2), ("@u", 3)] := by rfl
example : Reach (tysOf poolD) 0 [("@s", 1), ("@t", 2)] "@u" 3 :=
  ((C11_schema_hoist_reachable_partial poolD 0 (mkObj [("@s", 1), ("@t", 2)]) rfl).2.2.2 poolD_functional "@u" 3).1
    (by rfl)

/-- name collision, and the ORDER of the names decides (observation; both replayed on the real library): the root's own
`@b` (object 2) loses against the private `@b` (object 3) of the object added as `@a` / `@c` in both pools. With the parent
called `@a` the replacement happens BEFORE `@b` is processed: object 3 is expanded (`@y`), object 2 never (`@x` is not in
the table). With the parent called `@c` it happens AFTER: object 2 was expanded (`@x`), `@b` now stands for object 3 whose
`@y` is never hoisted (the library then answers `Type "@y" not found`). -/
example : hoisted poolA 0 [("@a", 1), ("@b", 2)] = [("@a", 1), ("@b", 3), ("@y", 5)] ∧
    hoisted poolC 0 [("@c", 1), ("@b", 2)] = [("@c", 1), ("@b", 3), ("@x", 4)] := ⟨by rfl, by rfl⟩
/-- the rule on one step: processing `@a` (object 1) replaces the root's `@b` -/
example : (hoistName (tysOf poolA) 0 [("@a", 1), ("@b", 2)] "@a").lookup "@b" = some 3 := by
  rw [(C11_schema_hoist_overwrite_rule (tysOf poolA) 0 [] _).2 "@a" 1 (by rfl)]; rfl

end schemaObjHoist
end Props.C11

#print axioms Props.C11.C11_schema_hoist_fuel_suffices
#print axioms Props.C11.C11_schema_hoist_overwrite_rule
#print axioms Props.C11.C11_schema_hoist_reachable_refuted
#print axioms Props.C11.C11_schema_hoist_reachable_partial
