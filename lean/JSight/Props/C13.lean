import JSight.Props.C06
import JSight.TreeStrip
import JSight.LoaderProofs
import JSight.RuleNameSpelling
import JSight.LayoutExamples
import JSight.CommentExamples
import JSight.AnnotExamples
import JSight.AnnTreeExamples
import JSight.ATreeStrip
import JSight.ATreeExamples
import JSight.AnnotQExamples
import JSight.KeyOrderExamples
/-!
# C13 — Meaning is invariant under surface syntax: the part that is a theorem

Document side, whitespace: the JSON value of a text is its tree without layout (`strip`). The event
sequence the scanner delivers for a valid text — which is all the validator ever sees, together with
the token slices — depends on the stripped tree only: two texts that differ in inter-token blanks
yield the same sequence of event types (spans move with the tokens). Property order is `C01_order_indep`
/ the union semantics of C03 (the spec is a function of the member *set* per key); rule order is C08.
Schema side, line ends: in the loader model (`Loader`, compared with the real `GetAST()` by `loader-diff`)
a new-line event directly after another one changes nothing, so LF / CR / CRLF line ends and blank lines
load identically (`C13_newline_idempotent`, `C13_newline_run_absorbed`).
Quoted versus bare rule names: the name the loader dispatches on (`Loader.nameOf` = `TrimSpaces().Unquote()` of
the name token) is the same for `name` and `"name"` with any blanks around (`C13_rule_name_spelling`).
Schema side, on the scanner model + loader model (`Loader.loadText`), for schemas that are plain JSON with layout
(`Lay.BTree`, any nesting / width): line-end style (`C13_line_end_style`), indentation and blanks (`C13_indentation`),
user comments `#` / `###` wherever the scanner accepts them (`C13_events_with_comments`: the exact event stream;
`C13_user_comments_invisible`, `C13_comments_any_spelling`: same events up to new-line events and spans, same node
table) — the loaded table, read against the text, is a function of the VALUE only (`C13_text_with_comments_loads_value`).
For a top-level scalar with a rule object of bare names and literal values: inline `// {…}` versus multi-line
`/* {…} */` annotation (`C13_inline_vs_multiline`, `C13_inline_vs_multiline_events`) and the trailing comma
(`C13_trailing_comma`). All of these are tied to the real scanner / `GetAST` by the harness command `c13-layout`.
Annotations inside trees: one annotation in any node table (`C13_annotation_binds_in_any_tree_*`,
`C13_annotated_node_inline_vs_multiline`) and whole annotated trees `AT.ATree` (`C13_annotated_tree_loads`,
`…_layout_invariant`, `…_inline_vs_multiline`). Quoted rule names and list values in the annotation of a top-level scalar
(`C13_annotated_scalar_loads_extended`, `C13_quoted_vs_bare_rule_names`, `C13_annotation_events_extended`). Property order
at one object level with key shortcuts (`C13_property_order_keys_level`, `C13_members_loop`). String escapes and what is
outside these grammars are validated against the code (harness `c13-metamorphic`, `schema-diff`, `unquote-diff`,
`loader-diff`).
-/
namespace Props.C13

section scalarTop
open JsonScan

/-- re-spelling a document's whitespace does not change the event sequence the validator is fed -/
theorem C13_whitespace_invariant (allow : Bool) (v v' : JA) (hv : v.Valid) (hv' : v'.Valid) (hs : strip v = strip v')
    (ws0 ws1 ws0' ws1' : List Cls) (h0 : IsWs ws0) (h1 : IsWs ws1) (h0' : IsWs ws0') (h1' : IsWs ws1')
    (bs bs' : List UInt8) (hbs : bs.map classify = ws0 ++ (v.render ++ ws1))
    (hbs' : bs'.map classify = ws0' ++ (v'.render ++ ws1')) :
    ∃ evs evs', events allow bs = .ok evs ∧ events allow bs' = .ok evs' ∧ evs.map (·.ty) = evs'.map (·.ty) := by
  refine ⟨_, _, Props.C06.C06_events_of_tree allow v hv ws0 ws1 h0 h1 bs hbs,
    Props.C06.C06_events_of_tree allow v' hv' ws0' ws1' h0' h1' bs' hbs', ?_⟩
  rw [evs_types, evs_types, hs]

/-- schema side: a second new-line event directly after a first one does not change the loader's state
(CRLF = two new-line events; blank lines = more) -/
theorem C13_newline_idempotent (src : Array UInt8) (st st' : Loader.St) (e1 e2 : SchemaScan.Ev)
    (h1 : e1.ty = .newLine) (h2 : e2.ty = .newLine) (h : Loader.step src st e1 = .ok st') :
    Loader.step src st' e2 = .ok st' := Loader.C13_newline_idempotent src st st' e1 e2 h1 h2 h

/-- quoted versus bare rule names: both spellings, with any surrounding blanks, give the loader the same name -/
theorem C13_rule_name_spelling (n w1 w2 : List UInt8) (hn : Loader.plainName n)
    (h1 : ∀ c ∈ w1, Loader.isBlank c = true) (h2 : ∀ c ∈ w2, Loader.isBlank c = true) :
    Unquote.unquote (Loader.trimSpaces (w1 ++ n ++ w2)) = n ∧
    Unquote.unquote (Loader.trimSpaces (w1 ++ (34 :: (n ++ [34])) ++ w2)) = n :=
  Loader.C13_rule_name_spelling n w1 w2 hn h1 h2

theorem C13_newline_run_absorbed (src : Array UInt8) (st st' : Loader.St) (e1 : SchemaScan.Ev) (es : List SchemaScan.Ev)
    (h1 : e1.ty = .newLine) (hes : ∀ e ∈ es, e.ty = .newLine) (h : Loader.step src st e1 = .ok st') :
    es.foldlM (Loader.step src) st' = .ok st' := Loader.C13_newline_run_absorbed src st st' e1 es h1 hes h

/-! ## Schema side: line ends and indentation (theorems on the scanner model + loader model)

`Lay.BTree` is a JSON value with its layout, byte by byte (`render` = the schema text); `value` removes the layout.
`Loader.loadText` is the scanner model and the loader model interleaved as `doLoad` runs them (tied to the real
`GetAST` by `loader-diff` / `c13-layout`); `Lay.absTable` reads its node table against the text: every span replaced
by the bytes it denotes — kinds, parents, children in order, decoded keys, literal tokens, rule names, note.
The scanner maps LF and CR to one new-line event each, so CR LF is two events: -/

example : SchemaScan.scanAll [49, 13, 10] = .ok [⟨.litB, 0, 0⟩, ⟨.litE, 0, 0⟩, ⟨.newLine, 1, 1⟩, ⟨.newLine, 2, 2⟩] :=
  SchemaScan.C06_schema_events_of_tree (.scalar [.d19]) ⟨.d19, [], .d1, false, .d1, rfl, rfl, rfl, rfl⟩ [] [.nl, .nl]
    (by simp [SchemaScan.IsWs]) (by simp [SchemaScan.IsWs, SchemaScan.Cls.isBlank, SchemaScan.Cls.isNewLine])
    [49, 13, 10] (by decide +kernel)

open Lay in
/-- the text of a plain-JSON tree (distinct keys per object), whatever its blanks and line ends, loads into the
table of its VALUE: nothing of the layout is left in the result -/
theorem C13_plain_text_loads_value (t : BTree) (hv : t.Valid) (hp : t.Plain) (hk : t.value.KeysNodup)
    (w0 w1 : List LI) (b0 : BlankL w0) (b1 : BlankL w1) :
    ∃ st, Loader.loadText (docText w0 t w1) = .ok st ∧ st.root = some 0 ∧
      absTable (docText w0 t w1).toArray st = tableOf none 0 t.value :=
  Lay.load_plain t hv hk w0 w1 b0.1 b1.1

open Lay in
/-- **line ends**: `t'` is `t` with every line break of the layout (LF, CR or CR LF) re-spelled as LF, CR or CR LF,
independently per position (`LEVar`), nothing else changed: both texts load, into the same node table -/
theorem C13_line_end_style (t t' : BTree) (hv : t.Valid) (hp : t.Plain) (hr : t.Rel LEVar t')
    (hk : t.value.KeysNodup) (w0 w1 w0' w1' : List LI) (b0 : BlankL w0) (b1 : BlankL w1)
    (r0 : LEVar w0 w0') (r1 : LEVar w1 w1') :
    ∃ st st', Loader.loadText (docText w0 t w1) = .ok st ∧ Loader.loadText (docText w0' t' w1') = .ok st' ∧
      st.root = st'.root ∧
      absTable (docText w0 t w1).toArray st = absTable (docText w0' t' w1').toArray st' :=
  Lay.line_end_style t t' hv hp hr hk w0 w1 w0' w1' b0 b1 r0 r1

/-- non-vacuity: `{⏎  "a": [1, true]⏎}⏎` in LF and in CR LF spelling -/
example := C13_line_end_style Lay.Ex.tLF Lay.Ex.tLF' Lay.Ex.tLF_valid Lay.Ex.tLF_plain Lay.Ex.tLF_rel Lay.Ex.keys_ok
  [] [.blank 10] [] [.blank 13, .blank 10] ⟨by simp [Lay.ValidL], by simp [Lay.PlainL]⟩
  ⟨by simp [Lay.ValidL, Lay.LI.Valid, Lay.isBlankB], by simp [Lay.PlainL, Lay.LI.isBlank]⟩ .nil Lay.Ex.lf_crlf

open Lay in
/-- **indentation / blanks**: two layouts (any spaces, tabs, line breaks wherever JSON allows white space) of one
value: both texts load, into the same node table -/
theorem C13_indentation (t t' : BTree) (hv : t.Valid) (hv' : t'.Valid) (hp : t.Plain) (hp' : t'.Plain)
    (hs : t.value = t'.value) (hk : t.value.KeysNodup) (w0 w1 w0' w1' : List LI)
    (b0 : BlankL w0) (b1 : BlankL w1) (b0' : BlankL w0') (b1' : BlankL w1') :
    ∃ st st', Loader.loadText (docText w0 t w1) = .ok st ∧ Loader.loadText (docText w0' t' w1') = .ok st' ∧
      st.root = st'.root ∧
      absTable (docText w0 t w1).toArray st = absTable (docText w0' t' w1').toArray st' :=
  Lay.indentation t t' hv hv' hp hp' hs hk w0 w1 w0' w1' b0.1 b0.2 b1.1 b1.2 b0'.1 b0'.2 b1'.1 b1'.2

/-- non-vacuity: two-space indentation with LF against tabs, CR LF and blanks around `:` and `,` -/
example := C13_indentation Lay.Ex.tLF Lay.Ex.tCRLF Lay.Ex.tLF_valid Lay.Ex.tCRLF_valid Lay.Ex.tLF_plain
  Lay.Ex.tCRLF_plain Lay.Ex.same_value Lay.Ex.keys_ok [] [.blank 10] [] []
  ⟨by simp [Lay.ValidL], by simp [Lay.PlainL]⟩
  ⟨by simp [Lay.ValidL, Lay.LI.Valid, Lay.isBlankB], by simp [Lay.PlainL, Lay.LI.isBlank]⟩
  ⟨by simp [Lay.ValidL], by simp [Lay.PlainL]⟩ ⟨by simp [Lay.ValidL], by simp [Lay.PlainL]⟩

/-! ## Schema side: user comments

A layout (`List Lay.LI`) may hold, besides blanks, `#` line comments (`LI.line text nl`: `#`, a text without line
break that does not start with `#`, the line break) and block comments (`LI.block body`: `##`, a body, `###`, where
the byte behind `##` is `#` and the first `###` behind `##` is the closing one; `### text ###` is `body = # text`) —
wherever the scanner looks for a value, a key, a separator or the end of the text (`SchemaScan.cmtLoop`), i.e. not
between a key and its colon nor between the colon and the value (`BTree.Valid` wants those two layouts blank).
`docTextF w0 t w1 fin` is the whole text, `fin` an optional last line comment that no line break ends. -/

open Lay in
/-- the scanner model's event stream for a text with user comments, exactly (`docEvs`: the events of the tree with
`LI.evs` for each layout item — nothing for a block comment whatever line breaks it holds, two `newLine` events for a
line comment: its own, at its last byte, and the one of the line break, which is read again; F-18's empty comment
`#⏎` is the case `text = []`) -/
theorem C13_events_with_comments (t : BTree) (hv : t.Valid) (w0 w1 : List LI) (h0 : ValidL w0) (h1 : ValidL w1)
    (fin : List UInt8) (hf : IsFin fin) :
    SchemaScan.scanAll (docTextF w0 t w1 fin) = .ok (docEvs w0 t w1) :=
  Lay.C13_events_with_comments t hv w0 w1 h0 h1 fin hf

open Lay in
/-- a text with user comments (distinct keys per object) loads into the table of its VALUE -/
theorem C13_text_with_comments_loads_value (t : BTree) (hv : t.Valid) (hk : t.value.KeysNodup) (w0 w1 : List LI)
    (h0 : ValidL w0) (h1 : ValidL w1) (fin : List UInt8) (hf : IsFin fin) :
    ∃ st, Loader.loadText (docTextF w0 t w1 fin) = .ok st ∧ st.root = some 0 ∧
      absTable (docTextF w0 t w1 fin).toArray st = tableOf none 0 t.value :=
  Lay.load_comments t hv hk w0 w1 h0 h1 fin hf

open Lay in
/-- **user comments are invisible**: against the text in which every comment is replaced by what remains of it
(`erase`: the terminating line break of a `#` comment, nothing for a block comment, nothing for an unterminated last
comment), the scanner model delivers the same events once `newLine` events are dropped and spans forgotten
(`strip`), and scanner + loader build the same node table -/
theorem C13_user_comments_invisible (t : BTree) (hv : t.Valid) (hk : t.value.KeysNodup) (w0 w1 : List LI)
    (h0 : ValidL w0) (h1 : ValidL w1) (fin : List UInt8) (hf : IsFin fin) :
    ∃ evs evs' st st',
      SchemaScan.scanAll (docTextF w0 t w1 fin) = .ok evs ∧
      SchemaScan.scanAll (docText (eraseL w0) t.erase (eraseL w1)) = .ok evs' ∧ strip evs = strip evs' ∧
      Loader.loadText (docTextF w0 t w1 fin) = .ok st ∧
      Loader.loadText (docText (eraseL w0) t.erase (eraseL w1)) = .ok st' ∧ st.root = st'.root ∧
      absTable (docTextF w0 t w1 fin).toArray st = absTable (docText (eraseL w0) t.erase (eraseL w1)).toArray st' :=
  let ⟨evs, evs', a, b, c⟩ := Lay.comments_events t hv w0 w1 h0 h1 fin hf
  let ⟨st, st', d, e, f, g⟩ := Lay.comments_erased t hv hk w0 w1 h0 h1 fin hf
  ⟨evs, evs', st, st', a, b, c, d, e, f, g⟩

/-- non-vacuity: `{ # first⏎#####"a": [1,#␍⏎true ### x⏎ y ###⏎]#c⏎}⏎# end` — an empty comment, a comment directly
before a closing brace, a block comment with a line break inside, `#####`, a last comment without line break -/
example := C13_user_comments_invisible Lay.Ex.tC Lay.Ex.tC_valid (Lay.Ex.tC_value ▸ Lay.Ex.keys_ok) [] [.blank 10]
  (by simp [Lay.ValidL]) (by simp [Lay.ValidL, Lay.LI.Valid, Lay.isBlankB]) Lay.Ex.cFin Lay.Ex.cFin_ok

open Lay in
/-- the symmetric form: two spellings of one value, any valid layouts with or without comments: the same table -/
theorem C13_comments_any_spelling (t t' : BTree) (hv : t.Valid) (hv' : t'.Valid) (hs : t.value = t'.value)
    (hk : t.value.KeysNodup) (w0 w1 w0' w1' : List LI) (h0 : ValidL w0) (h1 : ValidL w1)
    (h0' : ValidL w0') (h1' : ValidL w1') (fin fin' : List UInt8) (hf : IsFin fin) (hf' : IsFin fin') :
    ∃ st st', Loader.loadText (docTextF w0 t w1 fin) = .ok st ∧ Loader.loadText (docTextF w0' t' w1' fin') = .ok st' ∧
      st.root = st'.root ∧
      absTable (docTextF w0 t w1 fin).toArray st = absTable (docTextF w0' t' w1' fin').toArray st' :=
  Lay.comments_invisible t t' hv hv' hs hk w0 w1 w0' w1' h0 h1 h0' h1' fin fin' hf hf'

/-- non-vacuity: the commented text against the CR LF / tab spelling without comments -/
example := C13_comments_any_spelling Lay.Ex.tC Lay.Ex.tCRLF Lay.Ex.tC_valid Lay.Ex.tCRLF_valid
  (Lay.Ex.tC_value.trans Lay.Ex.same_value) (Lay.Ex.tC_value ▸ Lay.Ex.keys_ok) [] [.blank 10] [] []
  (by simp [Lay.ValidL]) (by simp [Lay.ValidL, Lay.LI.Valid, Lay.isBlankB]) (by simp [Lay.ValidL]) (by simp [Lay.ValidL])
  Lay.Ex.cFin [] Lay.Ex.cFin_ok (Or.inl rfl)

/-! ## Schema side: inline versus multi-line annotation, trailing comma

`annTextB a tok s1 s2 ob s3 tl` is the text of a top-level scalar `tok` annotated with a rule object:
`tok s1 // s2 {ob} s3 tl` for `a = .inline` and `tok s1 /* s2 {ob} s3 tl` for `a = .multi` (`tl` = end of input or a line
break and white space, resp. `*/` and white space). `AnnValid` is the grammar: `tok` a scalar token, `s1` spaces / tabs,
the other blanks spaces / tabs and — in the multi-line form only — line breaks, the object (`BObj`) a list of rules
`blanks name spaces : blanks value blanks` with bare names (letters, digits, `-`, `_`) and literal values, separated
by commas, optionally a trailing comma with blanks behind it, or empty. (Quoted names and list values: `C13_annotated_scalar_loads_extended` below; annotations on values inside containers:
`C13_annotated_tree_loads` below.) With a note: `annTextNB`, `AnnValidN`
(`… } blanks - spaces note tail`, the note a text without line break, `#` and `*` that starts with a non-blank byte). The scanner model's events for either form are `SchemaScan.annEvs` (`SchemaScan.annot_emits`). -/

open Lay SchemaScan in
/-- an annotated top-level scalar, in either form, with or without a trailing comma, loads into ONE literal node:
the scalar's token as value, one rule per rule of the object, named by the rule names in written order -/
theorem C13_annotated_scalar_loads (a : Ann) (ha : a.isAnn = true) (tok s1 s2 : List UInt8) (ob : BObj)
    (s3 tl : List UInt8) (hv : AnnValid a tok s1 s2 ob s3 tl) :
    ∃ st, Loader.loadText (annTextB a tok s1 s2 ob s3 tl) = .ok st ∧ st.root = some 0 ∧
      absTable (annTextB a tok s1 s2 ob s3 tl).toArray st = [annNode tok ob.names] :=
  Lay.load_annot a ha tok s1 s2 ob s3 tl hv

open Lay SchemaScan in
/-- **inline versus multi-line**: `tok // {rules}` and `tok /* {rules} */` with the same rules (names and values in
the same order), whatever blanks, line breaks and trailing comma each spelling uses: both load, into the same table -/
theorem C13_inline_vs_multiline (tok s1 s2 : List UInt8) (ob : BObj) (s3 tl : List UInt8)
    (s1' s2' : List UInt8) (ob' : BObj) (s3' tl' : List UInt8)
    (hv : AnnValid .inline tok s1 s2 ob s3 tl) (hv' : AnnValid .multi tok s1' s2' ob' s3' tl')
    (hsame : ob.pairs = ob'.pairs) :
    ∃ st st', Loader.loadText (annTextB .inline tok s1 s2 ob s3 tl) = .ok st ∧
      Loader.loadText (annTextB .multi tok s1' s2' ob' s3' tl') = .ok st' ∧ st.root = st'.root ∧
      absTable (annTextB .inline tok s1 s2 ob s3 tl).toArray st
        = absTable (annTextB .multi tok s1' s2' ob' s3' tl').toArray st' :=
  Lay.inline_vs_multiline tok s1 s2 ob s3 tl s1' s2' ob' s3' tl' hv hv' hsame

/-- non-vacuity: `1 // {min: 0, max :5, }` against `1 /*⏎ {min: 0,⏎ max: 5⏎}⏎*/⏎` -/
example := C13_inline_vs_multiline Lay.Ex.one [32] [32] Lay.Ex.obInl [] [] [32] [10, 32] Lay.Ex.obMl [10] [42, 47, 10]
  Lay.Ex.annInl_valid Lay.Ex.annMl_valid Lay.Ex.same_pairs

open Lay SchemaScan in
/-- the scanner model's event stream of an annotated scalar in either form, exactly -/
theorem C13_annotation_events (a : Ann) (ha : a.isAnn = true) (tok s1 s2 : List UInt8) (ob : BObj)
    (s3 tl : List UInt8) (hv : AnnValid a tok s1 s2 ob s3 tl) :
    scanAll (annTextB a tok s1 s2 ob s3 tl)
      = .ok (annEvs a (tok.map classify) (s1.map classify) (s2.map classify) ob.cls (s3.map classify)
          (tl.map classify)) :=
  Lay.annot_events a ha tok s1 s2 ob s3 tl hv

open Lay SchemaScan in
/-- **same rule events**: the inline and the multi-line form deliver the same event types (`newLine` events aside)
once multi-line-annotation-begin / -end are read as inline-annotation-begin / -end (`inlKind`) -/
theorem C13_inline_vs_multiline_events (tok s1 s2 : List UInt8) (ob : BObj) (s3 tl : List UInt8)
    (s1' s2' : List UInt8) (ob' : BObj) (s3' tl' : List UInt8)
    (hv : AnnValid .inline tok s1 s2 ob s3 tl) (hv' : AnnValid .multi tok s1' s2' ob' s3' tl')
    (hsame : ob.pairs = ob'.pairs) :
    ∃ evs evs', scanAll (annTextB .inline tok s1 s2 ob s3 tl) = .ok evs ∧
      scanAll (annTextB .multi tok s1' s2' ob' s3' tl') = .ok evs' ∧
      (strip evs).map inlKind = (strip evs').map inlKind :=
  Lay.inline_vs_multiline_events tok s1 s2 ob s3 tl s1' s2' ob' s3' tl' hv hv' hsame

example := C13_inline_vs_multiline_events Lay.Ex.one [32] [32] Lay.Ex.obInl [] [] [32] [10, 32] Lay.Ex.obMl [10]
  [42, 47, 10] Lay.Ex.annInl_valid Lay.Ex.annMl_valid Lay.Ex.same_pairs

open Lay SchemaScan in
/-- **trailing comma**: a comma (and blanks) between the last rule and `}` changes nothing -/
theorem C13_trailing_comma (a : Ann) (ha : a.isAnn = true) (tok s1 s2 : List UInt8) (r : BRule) (rs : List BRule)
    (b5 : List UInt8) (s3 tl : List UInt8)
    (hv : AnnValid a tok s1 s2 (.rules r rs none) s3 tl) (hv' : AnnValid a tok s1 s2 (.rules r rs (some b5)) s3 tl) :
    ∃ st st', Loader.loadText (annTextB a tok s1 s2 (.rules r rs none) s3 tl) = .ok st ∧
      Loader.loadText (annTextB a tok s1 s2 (.rules r rs (some b5)) s3 tl) = .ok st' ∧ st.root = st'.root ∧
      absTable (annTextB a tok s1 s2 (.rules r rs none) s3 tl).toArray st
        = absTable (annTextB a tok s1 s2 (.rules r rs (some b5)) s3 tl).toArray st' :=
  let ⟨st, h1, h2, h3⟩ := Lay.load_annot a ha tok s1 s2 (.rules r rs none) s3 tl hv
  let ⟨st', h1', h2', h3'⟩ := Lay.load_annot a ha tok s1 s2 (.rules r rs (some b5)) s3 tl hv'
  ⟨st, st', h1, h1', by rw [h2, h2'], by rw [h3, h3']; rfl⟩

/-- non-vacuity: `1 // {min: 0, max :5}` against `1 // {min: 0, max :5, }` -/
example := C13_trailing_comma .inline rfl Lay.Ex.one [32] [32] ⟨[], Lay.Ex.nMin, 0, [32], Lay.Ex.v0, []⟩
  [⟨[32], Lay.Ex.nMax, 1, [], Lay.Ex.v5, []⟩] [32] [] [] Lay.Ex.annInl0_valid Lay.Ex.annInl_valid
example := C13_annotated_scalar_loads .multi rfl Lay.Ex.one [32] [10, 32] Lay.Ex.obMl [10] [42, 47, 10] Lay.Ex.annMl_valid

open Lay SchemaScan in
/-- with a note: value, rules in written order, the note text (trimmed, as `GetAST` shows it) -/
theorem C13_annotated_scalar_note_loads (a : Ann) (ha : a.isAnn = true) (tok s1 s2 : List UInt8) (ob : BObj)
    (s3 n1 note tl : List UInt8) (hv : AnnValidN a tok s1 s2 ob s3 n1 note tl) :
    ∃ st, Loader.loadText (annTextNB a tok s1 s2 ob s3 n1 note tl) = .ok st ∧ st.root = some 0 ∧
      absTable (annTextNB a tok s1 s2 ob s3 n1 note tl).toArray st = [annNodeN tok ob.names note] :=
  Lay.load_annot_note a ha tok s1 s2 ob s3 n1 note tl hv

open Lay SchemaScan in
/-- **inline versus multi-line, with a note**: `tok // {rules} - note` and `tok /* {rules} - note */` with the same
rules and the same note text: both load, into the same table -/
theorem C13_inline_vs_multiline_note (tok s1 s2 : List UInt8) (ob : BObj) (s3 n1 note tl : List UInt8)
    (s1' s2' : List UInt8) (ob' : BObj) (s3' n1' tl' : List UInt8)
    (hv : AnnValidN .inline tok s1 s2 ob s3 n1 note tl) (hv' : AnnValidN .multi tok s1' s2' ob' s3' n1' note tl')
    (hsame : ob.pairs = ob'.pairs) :
    ∃ st st', Loader.loadText (annTextNB .inline tok s1 s2 ob s3 n1 note tl) = .ok st ∧
      Loader.loadText (annTextNB .multi tok s1' s2' ob' s3' n1' note tl') = .ok st' ∧ st.root = st'.root ∧
      absTable (annTextNB .inline tok s1 s2 ob s3 n1 note tl).toArray st
        = absTable (annTextNB .multi tok s1' s2' ob' s3' n1' note tl').toArray st' :=
  Lay.inline_vs_multiline_note tok s1 s2 ob s3 n1 note tl s1' s2' ob' s3' n1' tl' hv hv' hsame

/-- non-vacuity: `1 // {min: 0, max :5, } - first id` against `1 /*⏎ {min: 0,⏎ max: 5⏎}⏎-  first id*/⏎` -/
example := C13_inline_vs_multiline_note Lay.Ex.one [32] [32] Lay.Ex.obInl [32] [32] Lay.Ex.noteTxt [] [32] [10, 32]
  Lay.Ex.obMl [10] [32, 32] [42, 47, 10] Lay.Ex.annInlN_valid Lay.Ex.annMlN_valid Lay.Ex.same_pairs

end scalarTop

/-! ## Schema side: annotations INSIDE trees (modules `AnnTreeTok`, `AnnTreeLoad`, `AnnTree`)

What is proved for all inputs: (a) the token grammar of C14 (`SchemaScan.Len.Tok`: blanks, line breaks, `#` comments, inline
annotations, scalars, keys, brackets, separators, anywhere in a tree) extended with the MULTI-LINE annotation token
`/* blanks {rules} blanks [- note] */` (`ATok.ml`, blanks with line breaks): the byte-level scanner model follows the
token-level scanner (`SchemaScan.Len.asim`), hence `C13_multiline_annotation_scanned`: the exact event stream of any accepted
token text; (b) `C13_annotated_text_loads_as_token_events`: scanner model + loader model interleaved (`loadText`) on such a
text is the loader folded over the token-level events; (c) `C13_annotation_binds_in_any_tree_multiline / _inline`:
`C16_annotation_binds_last_node` lifted from a one-node table to ARBITRARY node tables and read against the text: wherever
in a tree the annotation stands, if node `i` is the node created last and the only one created on the line, its events add
the rule NAMES and rule VALUE texts (written order) and the note to node `i` and change nothing else the node loader reads
(`Loader.LS`: every node read against the text, leaf, last node, per-line counter, root, mode); (d)
`C13_annotated_node_inline_vs_multiline`: the two forms with the same rules and note have the same effect, in any context.
The induction over whole annotated trees that composes (c) with the node events of the tree is the next section
(`C13_annotated_tree_loads`, `…_inline_vs_multiline`, `…_layout_invariant`; also validated by the tie `c13-tree`). -/

open SchemaScan SchemaScan.Len in
/-- the scanner model's event stream for the text of ANY token list the token-level scanner accepts (`arun`; tokens as in
C14 plus the multi-line annotation) and that ends behind its top-level value: the token-level events, and the end of a
top-level scalar -/
theorem C13_multiline_annotation_scanned (toks : List ATok) (hw : ∀ t ∈ toks, t.WF) (c' : TC) (evs : List Ev)
    (h : arun TC.init toks = some (c', evs)) (hend : Complete c') (bs : List UInt8)
    (hbs : bs.map classify = renderAToks toks) : scanAll bs = .ok (evs ++ endClosers c') :=
  SchemaScan.scan_atoks_whole toks hw c' evs h hend bs hbs

/-- non-vacuity: `{⏎"a": 1 /* {min: 0} */,⏎"aa": [ // {min: 0} - note⏎1⏎]⏎}` -/
example := C13_multiline_annotation_scanned SchemaScan.Len.Ex.toksA SchemaScan.Len.Ex.toksA_wf SchemaScan.Len.Ex.resA.1
  SchemaScan.Len.Ex.resA.2 SchemaScan.Len.Ex.runA SchemaScan.Len.Ex.completeA SchemaScan.Len.Ex.bsA SchemaScan.Len.Ex.bsA_cls

open SchemaScan SchemaScan.Len in
/-- scanner model + loader model on such a text = the loader model folded over the token-level events -/
theorem C13_annotated_text_loads_as_token_events (toks : List ATok) (hw : ∀ t ∈ toks, t.WF) (c' : TC) (evs : List Ev)
    (h : arun TC.init toks = some (c', evs)) (hend : Complete c') (bs : List UInt8)
    (hbs : bs.map classify = renderAToks toks) (st : Loader.St)
    (hl : Loader.load bs.toArray (evs ++ endClosers c') = .ok st) : Loader.loadText bs = .ok st :=
  Loader.loadText_atoks toks hw c' evs h hend bs hbs st hl

open Lay Loader in
/-- **a multi-line annotation binds to its node in any tree context** (`p`: offset of its first `/`; `annBody`: the bytes
between `/*` and `*/`: blanks, `{`, the rule object, `}`, blanks, optionally `-`, blanks, the note) -/
theorem C13_annotation_binds_in_any_tree_multiline (src : Array UInt8) {st : Loader.St} {AL : List XNode}
    {leaf : Option Nat} {i : Nat} {root : Option Nat} (h : LS src st AL leaf (some i) 1 root) (xn : XNode)
    (hn : AL[i]? = some xn) (s2 : List UInt8) (ob : BObj) (s3 : List UInt8) (nt : Option (List UInt8 × List UInt8))
    (p : Nat) (hob : ob.cls.Valid .multi) (hnt : ∀ s4 txt, nt = some (s4, txt) → txt ≠ []) (rest : List UInt8)
    (hat : AtB src (p + 2) (annBody s2 ob s3 nt ++ rest)) :
    ∃ st', Fold src ((mlOf s2 ob s3 nt).evs p) st st' ∧
      LS src st' (AL.set i (addAnn xn ob (nt.map (·.2)))) leaf (some i) 1 root :=
  Lay.ml_effect src h xn hn s2 ob s3 nt p hob hnt rest hat

/-- non-vacuity: `1 /* {min: 0} */`, from the empty loader state -/
example := SchemaScan.Len.Ex.effectB

open Lay Loader in
/-- **an inline annotation binds to its node in any tree context**; its line break resets the per-line counter -/
theorem C13_annotation_binds_in_any_tree_inline (src : Array UInt8) {st : Loader.St} {AL : List XNode}
    {leaf : Option Nat} {i : Nat} {root : Option Nat} (h : LS src st AL leaf (some i) 1 root) (xn : XNode)
    (hn : AL[i]? = some xn) (s2 : List UInt8) (ob : BObj) (s3 : List UInt8) (nt : Option (List UInt8 × List UInt8))
    (p : Nat) (hob : ob.cls.Valid .inline) (hnt : ∀ s4 txt, nt = some (s4, txt) → txt ≠ []) (rest : List UInt8)
    (hat : AtB src (p + 2) (annBody s2 ob s3 nt ++ rest)) :
    ∃ st', Fold src ((inlOf s2 ob s3 nt).evs p) st st' ∧
      LS src st' (AL.set i (addAnn xn ob (nt.map (·.2)))) leaf (some i) 0 root :=
  Lay.inl_effect src h xn hn s2 ob s3 nt p hob hnt rest hat

open Lay Loader in
/-- **inline versus multi-line, one annotation in any tree context**: `// {R} [- note]` at offset `p` of one text and
`/* {R'} [- note] */` at offset `p'` of another, same rules (names and values in the same order) and the same note, whatever
blanks, line breaks and trailing commas: from loader states with the same table (read against the respective text) both
add the same names, values and note to the same node -/
theorem C13_annotated_node_inline_vs_multiline (src src' : Array UInt8) {st st2 : Loader.St} {AL : List XNode}
    {leaf : Option Nat} {i : Nat} {root : Option Nat} (h : LS src st AL leaf (some i) 1 root)
    (h' : LS src' st2 AL leaf (some i) 1 root) (xn : XNode) (hn : AL[i]? = some xn)
    (s2 s2' : List UInt8) (ob ob' : BObj) (s3 s3' : List UInt8) (s4 s4' : List UInt8) (note : Option (List UInt8))
    (p p' : Nat) (hob : ob.cls.Valid .inline) (hob' : ob'.cls.Valid .multi) (hsame : ob.pairs = ob'.pairs)
    (hnt : ∀ t, note = some t → t ≠ []) (rest rest' : List UInt8)
    (hat : AtB src (p + 2) (annBody s2 ob s3 (note.map (fun t => (s4, t))) ++ rest))
    (hat' : AtB src' (p' + 2) (annBody s2' ob' s3' (note.map (fun t => (s4', t))) ++ rest')) :
    ∃ st1 st1' T, Fold src ((inlOf s2 ob s3 (note.map (fun t => (s4, t)))).evs p) st st1 ∧
      Fold src' ((mlOf s2' ob' s3' (note.map (fun t => (s4', t)))).evs p') st2 st1' ∧
      LS src st1 T leaf (some i) 0 root ∧ LS src' st1' T leaf (some i) 1 root :=
  Lay.node_inline_vs_multiline src src' h h' xn hn s2 s2' ob ob' s3 s3' s4 s4' note p p' hob hob' hsame hnt rest rest' hat hat'

/-- non-vacuity: `1 // {min: 0} ⏎` against `1 /* {min: 0} */`, each from the empty loader state (also an instance of
`C13_annotation_binds_in_any_tree_inline`) -/
example := SchemaScan.Len.Ex.effectBC

/-! ## Schema side: WHOLE annotated trees (modules `ATreeDefs`, `ATreeSeg`, `ATreeTok`, `ATreeLoad*`,
`ATreeThm`, `ATreeStrip`, `ATreeExamples`)

`AT.ATree`: annotated trees with layout — scalars / arrays / objects of any nesting and width; every item and member value may
carry ONE annotation `{rules} [- note]` (rule objects of `Lay.BObj`: bare names, literal values, optional trailing comma):
scalars before or behind the comma that follows them, containers behind their opening bracket, each in the inline form
(`// … ⏎`) or the multi-line form (`/* … */`, line breaks inside); blanks, line breaks (LF / CR) and `#` line comments
(`AT.Gap`) wherever the token grammar of C14 takes them. `ATree.toks` is the rendering as tokens (`AT.BTok`, byte level, with the
class-level token `BTok.cls` of `AnnTreeTok`), `AT.docText w0 t w1` the schema text (layout, tree, layout).
`ATree.table` is the SPEC: one node per value in source order (pre-order) with kind, parent, children, the decoded keys of an
object, the literal token of a scalar, and the annotation of THAT node: rule names and rule value texts in written order, the
note. `AT.lineOK w0 t` is the decidable line discipline: walking the tree with the number of nodes created on the current line
(`pl`) and whether the scanner's `allowAnnotation` is known to be on (`ak`: on at the start, after a key that follows `{`, after a
line break behind a comma; treated as unknown behind a closing bracket), every annotation is met with `ak` and `pl = 1` — i.e.
it follows exactly ONE node creation on its line, which is then the node the tree attaches it to; also: commas separate, keys of
one object are distinct after decoding, no comment around a colon. `AT.TokOK` is the token grammar (the scanner's token automata
for scalars and keys, `InlBody.Valid` / `MlBody.Valid` for annotations, non-empty notes). The proof is an induction on the tree
(`AT.G.value_all` / `items_all` / `members_all`, for a view of the keys in the node table; `AT.value_all` reads
`G.value_all` at the table with decoded keys with the node table written out, `L0 ++ xa :: M`) that composes, per token, the
token-level scanner step (`astep`), the loader lemmas `X_*` and the two `C13_annotation_binds_in_any_tree_*` theorems as
segments (`AT.G.Seg`; `AT.Seg` at that table).
Restriction of the statement: the top-level value is a container (a top-level annotated scalar is `C13_annotated_scalar_loads`).
Not in the class: `###` block comments, quoted rule names and non-literal rule values inside trees, the note-only annotation. -/

open AT in
/-- **the text of a well-formed annotated tree loads into the table the tree denotes**: scanner model + loader model
(`Loader.loadText`) accept the text, the root is node 0, and the loader's table read against the text
(`AT.abstractOf`: every span replaced by the bytes it denotes) is `t.table` — every annotation bound to ITS node -/
theorem C13_annotated_tree_loads (w0 : Gap) (t : ATree) (w1 : Gap) (hc : t.isContainer = true)
    (hl : lineOK w0 t = true) (hw : TokOK (docToks w0 t w1)) :
    ∃ st, Loader.loadText (docText w0 t w1) = .ok st ∧ st.root = some 0 ∧
      abstractOf (docText w0 t w1).toArray st = t.table :=
  AT.tree_loads w0 t w1 hc hl hw

/-- non-vacuity: an ordinary pretty-printed schema meets the hypotheses:
`{ // {min: 0} - note⏎"a": 1 /* {min: 0} */,⏎"aa": [⏎1, // {min: 0} - note⏎2⏎]⏎}` (`lineOK` by `decide`) -/
example := C13_annotated_tree_loads [] AT.Ex.t1 [] rfl AT.Ex.t1_line AT.Ex.t1_tok
/-- its table: the object (rule `min`, note), `1` (rule `min`), the array, `1` (rule `min`, note), `2` -/
example : AT.Ex.t1.table.map (fun x => (x.kind, x.parent, x.children, x.rules.length, x.note.isSome)) =
    [(.obj, none, [1, 2], 1, true), (.lit, some 0, [], 1, false), (.arr, some 0, [3, 4], 0, false),
      (.lit, some 2, [], 1, true), (.lit, some 2, [], 0, false)] := by decide +kernel

open AT in
/-- **layout invariance / inline versus multi-line, whole trees**: two annotated trees with the same `strip` — the
annotations' form (inline / multi-line, before / behind the comma, blanks, line breaks inside, trailing comma), blanks, line
ends and `#` comments erased; what is left: kinds, decoded keys, scalar tokens, per node the (name, value text) pairs in
written order and the trimmed note — have the same table -/
theorem C13_annotated_tree_table_of_strip (t t' : ATree) (hs : t.strip = t'.strip) : t.table = t'.table :=
  AT.table_of_strip t t' hs

open AT in
/-- **… and their texts load into the same table**: whatever surface form each uses (both well formed) -/
theorem C13_annotated_tree_layout_invariant (w0 w0' : Gap) (t t' : ATree) (w1 w1' : Gap) (hs : t.strip = t'.strip)
    (hc : t.isContainer = true) (hl : lineOK w0 t = true) (hl' : lineOK w0' t' = true)
    (hw : TokOK (docToks w0 t w1)) (hw' : TokOK (docToks w0' t' w1')) :
    ∃ st st', Loader.loadText (docText w0 t w1) = .ok st ∧ Loader.loadText (docText w0' t' w1') = .ok st' ∧
      st.root = st'.root ∧
      abstractOf (docText w0 t w1).toArray st = abstractOf (docText w0' t' w1').toArray st' :=
  AT.layout_invariant w0 w0' t t' w1 w1' hs hc hl hl' hw hw'

open AT in
/-- **inline versus multi-line, whole trees**: the instance of the previous theorem the property text names — `t'` is `t`
with any of its annotations re-spelled in the other form (same pairs, same note: same `strip`) -/
theorem C13_annotated_tree_inline_vs_multiline (w0 w0' : Gap) (t t' : ATree) (w1 w1' : Gap) (hs : t.strip = t'.strip)
    (hc : t.isContainer = true) (hl : lineOK w0 t = true) (hl' : lineOK w0' t' = true)
    (hw : TokOK (docToks w0 t w1)) (hw' : TokOK (docToks w0' t' w1')) :
    ∃ st st', Loader.loadText (docText w0 t w1) = .ok st ∧ Loader.loadText (docText w0' t' w1') = .ok st' ∧
      abstractOf (docText w0 t w1).toArray st = abstractOf (docText w0' t' w1').toArray st' :=
  let ⟨st, st', h1, h2, _, h4⟩ := AT.layout_invariant w0 w0' t t' w1 w1' hs hc hl hl' hw hw'
  ⟨st, st', h1, h2, h4⟩

/-- non-vacuity: the schema above against its re-spelling with CR LF line ends, a `#` comment, tabs and more blanks, the
annotation of the first array item in the MULTI-LINE form (line break inside) BEFORE the comma instead of the inline form
behind it -/
example := C13_annotated_tree_layout_invariant [] [.nl 10] AT.Ex.t1 AT.Ex.t2 [] [.nl 10] AT.Ex.same_strip rfl AT.Ex.t1_line
  AT.Ex.t2_line AT.Ex.t1_tok AT.Ex.t2_tok
example := C13_annotated_tree_inline_vs_multiline [] [.nl 10] AT.Ex.t1 AT.Ex.t2 [] [.nl 10] AT.Ex.same_strip rfl AT.Ex.t1_line
  AT.Ex.t2_line AT.Ex.t1_tok AT.Ex.t2_tok

section
open Lay SchemaScan

/-! ## Schema side: QUOTED rule names and LIST values in an annotation, on texts (modules `AnnotQStep`,
`AnnotQRun`, `AnnotEnum`, `AnnotQObj`, `AnnotQLoad`, `QNameBytes`, `AnnotQThm`, `AnnotQExamples`)

The grammar `Lay.GObj` (`C02TextGrammar2`): a rule is `blanks NAME spaces ":" blanks VALUE blanks`, NAME bare or QUOTED — `"` + any
characters of the JSON string grammar (`RulesF.SCh`: raw UTF-8, two-character escapes, `\uXXXX`) + `"` —, VALUE a literal token or a
LIST `[ item, … ]` of literal tokens with blanks (line breaks in the multi-line form) around the items.
What the scanner model does with a quoted name (`annot_eventsQ`, proved from `dispatch` at configurations that carry the scanner's
`boundaryQuote` flag as a parameter — a quoted name sets it and only the next BARE name clears it, so everything behind a quoted
name, the tail of the annotation and the white space behind it included, runs with the flag set): key-begin at the OPENING quote,
key-end with the span from the opening to the CLOSING quote — the quotes are INSIDE the span, the spaces before the colon are not
(a bare name's key-end span runs to the byte before the colon, spaces included). The loader (`Loader.step`) binds
`TrimSpaces().Unquote()` of that span: the DECODED name (`RulesF.text`, by `C02_unquote_is_decode`). A list value is passed
through the rule loader's `embContainer` state — when the decoded name is `or` / `enum` / `allOf`; under any other name the loader
answers error 802 at the bracket (`Loader.st_value_list_plain`) — and recorded as the span from `[` to `]`. -/

/-- the resolved node table with the source positions of the rules erased -/
def noPos (n : Compile.RNode) : Compile.RNode := { n with rules := n.rules.map C02T.erase }

/-- **an annotated scalar of the extended grammar loads into one literal node** whose rules are the pairs (decoded name, value
text) in written order; `pairsEmb`: list values sit under `or` / `enum` / `allOf` -/
theorem C13_annotated_scalar_loads_extended (a : Ann) (ha : a.isAnn = true) (tok s1 s2 : List UInt8) (ob : GObj)
    (s3 tl : List UInt8) (hv : GAnnValid a tok s1 s2 ob s3 tl) (he : pairsEmb ob.pairs) :
    ∃ st, Loader.loadText (gannText a tok s1 s2 ob s3 tl) = .ok st ∧ st.root = some 0 ∧
      absTable (gannText a tok s1 s2 ob s3 tl).toArray st = [annNode tok (ob.pairs.map Prod.fst)] ∧
      (st.nodes.toList.map (Compile.resolve (gannText a tok s1 s2 ob s3 tl).toArray)).map noPos
        = [C02T.node tok (C02T.mk ob.pairs)] := by
  obtain ⟨st, rs, h1, h2, h3, h4, h5⟩ := load_gannot a ha tok s1 s2 ob s3 tl hv (listsEmb_of_pairs ob he)
  exact ⟨st, h1, h2, h5, by rw [h3]; simp [noPos, C02T.node, h4]⟩

/-- **quoted versus bare rule names, on texts**: two annotations on the same EXAMPLE whose rule objects have the same pairs
(DECODED name, value text) — i.e. that differ only in quoting / escaping their rule names (`"min"`, `"m\u0069n"`, `min`), in the
form of the annotation (inline / multi-line), in layout and trailing comma — are both accepted by scanner model + loader model
and load into the same table: same root, same node table read against the text (`absTable`: kinds, values, rule names), same
resolved rules (names AND value texts, in written order) up to source positions -/
theorem C13_quoted_vs_bare_rule_names (a a' : Ann) (ha : a.isAnn = true) (ha' : a'.isAnn = true)
    (tok s1 s2 s1' s2' : List UInt8) (ob ob' : GObj) (s3 tl s3' tl' : List UInt8)
    (hv : GAnnValid a tok s1 s2 ob s3 tl) (hv' : GAnnValid a' tok s1' s2' ob' s3' tl')
    (hsame : ob.pairs = ob'.pairs) (he : pairsEmb ob.pairs) :
    ∃ st st', Loader.loadText (gannText a tok s1 s2 ob s3 tl) = .ok st ∧
      Loader.loadText (gannText a' tok s1' s2' ob' s3' tl') = .ok st' ∧ st.root = st'.root ∧
      absTable (gannText a tok s1 s2 ob s3 tl).toArray st = absTable (gannText a' tok s1' s2' ob' s3' tl').toArray st' ∧
      (st.nodes.toList.map (Compile.resolve (gannText a tok s1 s2 ob s3 tl).toArray)).map noPos
        = (st'.nodes.toList.map (Compile.resolve (gannText a' tok s1' s2' ob' s3' tl').toArray)).map noPos := by
  obtain ⟨st, h1, h2, h3, h4⟩ := C13_annotated_scalar_loads_extended a ha tok s1 s2 ob s3 tl hv he
  obtain ⟨st', h1', h2', h3', h4'⟩ := C13_annotated_scalar_loads_extended a' ha' tok s1' s2' ob' s3' tl' hv' (hsame ▸ he)
  exact ⟨st, st', h1, h1', by rw [h2, h2'], by rw [h3, h3', hsame], by rw [h4, h4', hsame]⟩

/-- **the events of the extended grammar**, exactly (`annEvsQ`): quoted names with the span from quote to quote, list values with
their item events between array-begin and array-end -/
theorem C13_annotation_events_extended (a : Ann) (ha : a.isAnn = true) (tok s1 s2 : List UInt8) (ob : GObj)
    (s3 tl : List UInt8) (hv : GAnnValid a tok s1 s2 ob s3 tl) :
    scanAll (gannText a tok s1 s2 ob s3 tl)
      = .ok (annEvsQ a (tok.map classify) (s1.map classify) (s2.map classify) ob.cls (s3.map classify) (tl.map classify)) :=
  annot_eventsQ a ha tok s1 s2 ob s3 tl hv

/-- every JSON string token can be a rule name: the scanner's key automaton accepts it -/
theorem C13_any_json_string_is_a_rule_name (cs : List RulesF.SCh) (hok : ∀ c ∈ cs, c.ok) :
    IsKey ((34 :: (cs.flatMap RulesF.SCh.render ++ [34])).map classify) := isKey_of_str cs hok

/-! Non-vacuity: `1 // {"min": 0, "max" :5, }` (inline, quoted, one name escaped, trailing comma) and
`1 /*⏎ {min: 0,⏎ max: 5⏎}⏎*/⏎` (multi-line, bare): same table. The events of the first text: the key spans [6:10] and [16:25]
include the quotes. -/
example := C13_quoted_vs_bare_rule_names .inline .multi rfl rfl Lay.Ex.one [32] [32] [32] [10, 32] Lay.Ex.gobQ Lay.Ex.gobB
  [] [] [10] [42, 47, 10] Lay.Ex.gannQ_valid Lay.Ex.gannB_valid Lay.Ex.gsame_pairs Lay.Ex.gobQ_emb

example : annEvsQ .inline (Lay.Ex.one.map classify) [.sp] [.sp] Lay.Ex.gobQ.cls [] [] =
    [⟨.litB, 0, 0⟩, ⟨.litE, 0, 0⟩, ⟨.inlAnnB, 2, 3⟩, ⟨.objB, 5, 5⟩,
      ⟨.keyB, 6, 6⟩, ⟨.keyE, 6, 10⟩, ⟨.valB, 13, 13⟩, ⟨.litB, 13, 13⟩, ⟨.litE, 13, 13⟩, ⟨.valE, 13, 13⟩,
      ⟨.keyB, 16, 16⟩, ⟨.keyE, 16, 25⟩, ⟨.valB, 28, 28⟩, ⟨.litB, 28, 28⟩, ⟨.litE, 28, 28⟩, ⟨.valE, 28, 28⟩,
      ⟨.objE, 5, 31⟩, ⟨.inlAnnE, 2, 31⟩] := by decide +kernel

/-- `"b" // {"enum": ["a", "b"], const: false}`: the list is recorded from bracket to bracket ([21:30]) -/
example : annEvsQ .inline (Lay.Ex.sB.map classify) [.sp] [.sp] Lay.Ex.gobE.cls [] [] =
    [⟨.litB, 0, 0⟩, ⟨.litE, 0, 2⟩, ⟨.inlAnnB, 4, 5⟩, ⟨.objB, 7, 7⟩,
      ⟨.keyB, 8, 8⟩, ⟨.keyE, 8, 18⟩, ⟨.valB, 21, 21⟩, ⟨.arrB, 21, 21⟩,
      ⟨.itemB, 22, 22⟩, ⟨.litB, 22, 22⟩, ⟨.litE, 22, 24⟩, ⟨.itemE, 22, 24⟩,
      ⟨.itemB, 27, 27⟩, ⟨.litB, 27, 27⟩, ⟨.litE, 27, 29⟩, ⟨.itemE, 27, 29⟩, ⟨.arrE, 21, 30⟩, ⟨.valE, 21, 30⟩,
      ⟨.keyB, 33, 33⟩, ⟨.keyE, 33, 37⟩, ⟨.valB, 40, 40⟩, ⟨.litB, 40, 40⟩, ⟨.litE, 40, 44⟩, ⟨.valE, 40, 44⟩,
      ⟨.objE, 7, 45⟩, ⟨.inlAnnE, 4, 45⟩] := by decide +kernel

/-! ## Property order in objects WITH key shortcuts (known finding K-C13-keyorder)

The validator (`VK.validateT` = its specification `VK.shape`, `VK.C03_key_shortcuts`) gives a document key that is no
literal key of the schema object to the first UNUSED shortcut whose key type admits it, in declaration order, and to
`additionalProperties` when none is left (fix F-15, no backtracking). So when two of the document's non-literal keys
are admitted by one shortcut, the one that comes first in the text takes it and the verdict may depend on the order of
the properties: the clause "property order leaves the verdict unchanged" is FALSE for such documents
(`C13_property_order_keys_full_false`). It holds for *key-unambiguous* pairs (schema object, key list):
`KeyOrder.unamb keyOK props shorts keys` — no two positions of `keys` hold keys that are both absent from `props` and
both admitted (`keyOK`) by one shortcut of `shorts`. The predicate reads `props`, `shorts`, `keyOK` and the keys only.
"Every non-literal key is admitted by at most one shortcut" (`KeyOrder.atMostOneShort`) is NOT enough
(`C13_property_order_keys_atmostone_false`: one shortcut, two keys it admits, `additionalProperties: "string"`), and
not needed either (a key admitted by two shortcuts always takes the first, when no other key competes).
The hypothesis "keys pairwise distinct" is not needed: a repeated non-literal key that a shortcut admits collides with
itself, and for a repeated literal key the verdicts of the members do not depend on the position. -/
section keyorder
open VN (J)
variable {L D : Type}

/-- **one object level, arbitrary fixed verdicts** (`pv s v`: value `v` under the schema `s` of a literal key or a
shortcut, `av v`: under `additionalProperties`; neither depends on the position of the member): the members loop gives
the same verdict on every permutation of the members of a key-unambiguous object; `KeyOrder.loop` is the loop of the
specification (`C13_members_loop`) -/
theorem C13_property_order_keys_level (keyOK : String → String → Bool) (pv : VK.S L → J D → Bool) (av : J D → Bool)
    (props shorts : List (String × Bool × VK.S L)) (req : List String) (ms ms' : List (String × J D)) (h : ms.Perm ms')
    (hU : KeyOrder.unamb keyOK props shorts (ms.map (·.1)) = true) :
    KeyOrder.loop keyOK pv av props shorts req [] ms = KeyOrder.loop keyOK pv av props shorts req [] ms' :=
  KeyOrder.loop_perm keyOK pv av props shorts req h hU

theorem C13_members_loop (env : VK.Env L) (litOK : L → D → Bool) (keyOK : String → String → Bool)
    (props shorts : List (String × Bool × VK.S L)) (add : VK.AddMode L) (req used : List String) (ms : List (String × J D)) :
    VK.shapeMembers env litOK keyOK props shorts add req used ms
      = KeyOrder.loop keyOK (fun s v => (VK.alts env s).any (fun a => VK.shapeA env litOK keyOK a v))
          (fun v => VK.addDecide litOK add v (fun n => (VK.alts env (.ref [n] none)).any (fun a => VK.shapeA env litOK keyOK a v)))
          props shorts req used ms :=
  KeyOrder.shapeMembers_eq_loop env litOK keyOK props shorts add req used ms

/-- **C13, property order, objects with key shortcuts** (one object level; the member values are whole documents
validated as the validator does): permuting the members of a document object does not change the verdict — of the
specification and of the validator model — when the schema object is key-unambiguous for the document's keys -/
theorem C13_property_order_keys_partial (env : VK.Env L) (litOK : L → D → Bool) (keyOK : String → String → Bool)
    (props shorts : List (String × Bool × VK.S L)) (add : VK.AddMode L) (ms ms' : List (String × J D)) (h : ms.Perm ms')
    (hU : KeyOrder.unamb keyOK props shorts (ms.map (·.1)) = true) :
    VK.shape env litOK keyOK (.obj props shorts add) (.obj ms) = VK.shape env litOK keyOK (.obj props shorts add) (.obj ms') ∧
    VK.validateT env litOK keyOK (.obj props shorts add) (.obj ms)
      = VK.validateT env litOK keyOK (.obj props shorts add) (.obj ms') :=
  ⟨KeyOrder.shape_obj_perm env litOK keyOK props shorts add h hU, KeyOrder.validateT_obj_perm env litOK keyOK props shorts add h hU⟩

/-- **whole documents**: two documents that are the same JSON value up to the order of the properties at every depth
(`VN.J.PermEq`) get the same verdict from any schema (named types, or-lists, arrays, `additionalProperties` included)
that is key-unambiguous at every object the validator visits on the first one (`KeyOrder.unambDeep`: decided from
the schema, `keyOK` and the keys of the document's objects) -/
theorem C13_property_order_keys_deep (env : VK.Env L) (litOK : L → D → Bool) (keyOK : String → String → Bool)
    (s : VK.S L) (d d' : J D) (h : d.PermEq d') (hu : KeyOrder.unambDeep env keyOK s d = true) :
    VK.shape env litOK keyOK s d = VK.shape env litOK keyOK s d' ∧
    VK.validateT env litOK keyOK s d = VK.validateT env litOK keyOK s d' :=
  ⟨KeyOrder.shape_permEq env litOK keyOK s d d' h hu, KeyOrder.validateT_permEq env litOK keyOK s d d' h hu⟩

/-- the predicate is itself invariant under the permutation (so it may be checked on either spelling) -/
theorem C13_unamb_perm (keyOK : String → String → Bool) (props shorts : List (String × Bool × VK.S L))
    (ks ks' : List String) (h : ks.Perm ks') : KeyOrder.unamb keyOK props shorts ks = KeyOrder.unamb keyOK props shorts ks' :=
  KeyOrder.unamb_perm keyOK props shorts h

/-- the clause as its text reads, for objects with key shortcuts: no unambiguity hypothesis, distinct keys -/
def C13_property_order_keys_full : Prop :=
  ∀ (L D : Type) (env : VK.Env L) (litOK : L → D → Bool) (keyOK : String → String → Bool)
    (props shorts : List (String × Bool × VK.S L)) (add : VK.AddMode L) (ms ms' : List (String × J D)),
    ms.Perm ms' → (ms.map (·.1)).Nodup →
    VK.validateT env litOK keyOK (.obj props shorts add) (.obj ms)
      = VK.validateT env litOK keyOK (.obj props shorts add) (.obj ms')

/-- … with the hypothesis "every non-literal key is admitted by at most one shortcut" -/
def C13_property_order_keys_atmostone : Prop :=
  ∀ (L D : Type) (env : VK.Env L) (litOK : L → D → Bool) (keyOK : String → String → Bool)
    (props shorts : List (String × Bool × VK.S L)) (add : VK.AddMode L) (ms ms' : List (String × J D)),
    ms.Perm ms' → (ms.map (·.1)).Nodup → KeyOrder.atMostOneShort keyOK props shorts (ms.map (·.1)) = true →
    VK.validateT env litOK keyOK (.obj props shorts add) (.obj ms)
      = VK.validateT env litOK keyOK (.obj props shorts add) (.obj ms')

open KeyOrder.Ex in
/-- K-C13-keyorder in the model: `{@k1: 1, @k2: "s"}`, `@k1` = keys `^a`, `@k2` = keys `b$`:
`{"a": 1, "ab": "s"}` is accepted, `{"ab": "s", "a": 1}` is rejected -/
theorem C13_property_order_keys_full_false : ¬ C13_property_order_keys_full := by
  intro h
  have e := h Nat Nat [] litOK wKey [] wShorts .none wMs wMs' (List.Perm.swap _ _ _) (by decide +kernel)
  have h1 : VK.validateT [] litOK wKey (.obj [] wShorts .none) (.obj wMs) = true := by decide +kernel
  have h2 : VK.validateT [] litOK wKey (.obj [] wShorts .none) (.obj wMs') = false := by decide +kernel
  rw [h1, h2] at e
  exact Bool.noConfusion e

open KeyOrder.Ex in
/-- `{@k: 1} // {additionalProperties: "string"}`, `@k` = keys `^a`: `{"a": 1, "ab": "s"}` is accepted (`a` takes `@k`,
`ab` is an additional property), `{"ab": "s", "a": 1}` is rejected (`ab` takes `@k`) -/
theorem C13_property_order_keys_atmostone_false : ¬ C13_property_order_keys_atmostone := by
  intro h
  have e := h Nat Nat [] litOK uKey [] uShorts (.lit 1) wMs wMs' (List.Perm.swap _ _ _) (by decide +kernel) (by decide +kernel)
  have h1 : VK.validateT [] litOK uKey (.obj [] uShorts (.lit 1)) (.obj wMs) = true := by decide +kernel
  have h2 : VK.validateT [] litOK uKey (.obj [] uShorts (.lit 1)) (.obj wMs') = false := by decide +kernel
  rw [h1, h2] at e
  exact Bool.noConfusion e

section examples
open KeyOrder.Ex

/-- the witness violates exactly the unambiguity predicate: the keys are distinct, the lists are permutations of each
other, and `a`, `ab` are both admitted by `@k1` -/
example : KeyOrder.unamb wKey [] wShorts (wMs.map (·.1)) = false ∧ (wMs.map (·.1)).Nodup ∧ wMs.Perm wMs' ∧
    KeyOrder.collide wKey [] wShorts "a" "ab" = true :=
  ⟨by decide +kernel, by decide +kernel, List.Perm.swap _ _ _, by decide +kernel⟩
/-- it also violates the at-most-one predicate (`ab` is admitted by both); the second witness does not -/
example : KeyOrder.atMostOneShort wKey [] wShorts (wMs.map (·.1)) = false := by decide +kernel
example : KeyOrder.atMostOneShort uKey [] uShorts (wMs.map (·.1)) = true ∧
    KeyOrder.unamb uKey [] uShorts (wMs.map (·.1)) = false := ⟨by decide +kernel, by decide +kernel⟩
/-- a key admitted by two shortcuts with no competitor is unambiguous: `{"ab": "s"}` alone takes `@k1` in every order -/
example : KeyOrder.unamb wKey [] wShorts ["ab", "zz"] = true ∧ KeyOrder.atMostOneShort wKey [] wShorts ["ab", "zz"] = false :=
  ⟨by decide +kernel, by decide +kernel⟩

/-! Non-vacuity: `{"id": 1, @ka: 2, @kb: "x"} // {additionalProperties: "string"}` (`@kb` optional; `@ka` = keys `^a`,
`@kb` = keys `^b`, disjoint). `{"id": 7, "a1": 8, "zz": "s"}` — literal key, shortcut, additional property — meets the
hypothesis and is accepted in all 6 orders; with `"a1": "no"` it is rejected in all 6 orders. -/
example : KeyOrder.unamb nKey nProps nShorts (nMs3.map (·.1)) = true := by decide +kernel
example : KeyOrder.unamb nKey nProps nShorts (nBad3.map (·.1)) = true := by decide +kernel
example : [[("id", J.lit 0), ("a1", .lit 0), ("zz", .lit 1)], [("id", .lit 0), ("zz", .lit 1), ("a1", .lit 0)],
      [("a1", .lit 0), ("id", .lit 0), ("zz", .lit 1)], [("a1", .lit 0), ("zz", .lit 1), ("id", .lit 0)],
      [("zz", .lit 1), ("id", .lit 0), ("a1", .lit 0)], [("zz", .lit 1), ("a1", .lit 0), ("id", .lit 0)]].all
    (fun ms => VK.validateT [] litOK nKey nSchema (.obj ms)) = true := by decide +kernel
example : [[("id", J.lit 0), ("a1", .lit 1), ("zz", .lit 1)], [("id", .lit 0), ("zz", .lit 1), ("a1", .lit 1)],
      [("a1", .lit 1), ("id", .lit 0), ("zz", .lit 1)], [("a1", .lit 1), ("zz", .lit 1), ("id", .lit 0)],
      [("zz", .lit 1), ("id", .lit 0), ("a1", .lit 1)], [("zz", .lit 1), ("a1", .lit 1), ("id", .lit 0)]].all
    (fun ms => !VK.validateT [] litOK nKey nSchema (.obj ms)) = true := by decide +kernel
/-- through the theorem: EVERY reordering of the four-member document (both shortcuts used) is accepted, every
reordering of the bad one rejected -/
example (ms' : List (String × J Nat)) (h : nMs4.Perm ms') : VK.validateT [] litOK nKey nSchema (.obj ms') = true := by
  unfold nSchema
  rw [← (C13_property_order_keys_partial [] litOK nKey nProps nShorts (.lit 1) nMs4 ms' h (by decide +kernel)).2]
  decide +kernel
example (ms' : List (String × J Nat)) (h : nBad3.Perm ms') : VK.validateT [] litOK nKey nSchema (.obj ms') = false := by
  unfold nSchema
  rw [← (C13_property_order_keys_partial [] litOK nKey nProps nShorts (.lit 1) nBad3 ms' h (by decide +kernel)).2]
  decide +kernel
/-- whole documents: `{"o": {@ka: 2, @kb: "x"}, "l": [{@ka: 2} // {additionalProperties: true}]}`, the document reordered
at both depths (inside `o`, inside the array element, at the top) -/
example : KeyOrder.unambDeep [] nKey dSchema dDoc = true := by decide +kernel
example : VK.validateT [] litOK nKey dSchema dDoc' = true := by
  rw [← (C13_property_order_keys_deep [] litOK nKey dSchema dDoc dDoc' dDoc_permEq (by decide +kernel)).2]
  decide +kernel

end examples
end keyorder

end

end Props.C13

#print axioms Props.C13.C13_property_order_keys_level
#print axioms Props.C13.C13_members_loop
#print axioms Props.C13.C13_property_order_keys_partial
#print axioms Props.C13.C13_property_order_keys_deep
#print axioms Props.C13.C13_unamb_perm
#print axioms Props.C13.C13_property_order_keys_full_false
#print axioms Props.C13.C13_property_order_keys_atmostone_false
