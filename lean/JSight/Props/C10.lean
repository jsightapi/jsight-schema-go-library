import JSight.NumberDen
import JSight.NumberTotal
import JSight.RulesFullProofs
/-!
# C10 — Numeric rules use exact decimal arithmetic on every JSON numeral

Model: `Num.scan` (`internal/json/scanner.go` + `NewNumber`: numeral → sign, digit string, fractional
length, exponent folded in, zeros trimmed; F-3: zero has no sign), `N.cmp` (`Number.Cmp`, digit-wise).
Spec: `Num.den` — the *positional denotation* of the numeral text (sign, mantissa digits, how many
follow the point, signed exponent digits; it validates nothing, so it shares no logic with the
scanner); the denoted value is `mant · 10^(-t)`; `cmpDen` compares two denotations by integer
cross-scaling. Unbounded digits and exponents, every sign, every spelling of zero.
-/
namespace Props.C10
open Num

def s' (x : String) : List UInt8 := x.toList.map (fun c => UInt8.ofNat c.toNat)

/-- bytes → the scanner's character classes -/
def ofBytes (bs : List UInt8) : List Ch := bs.map fun c =>
  if c == 45 then .minus else if c == 43 then .plus else if c == 46 then .dot
  else if c == 101 || c == 69 then .e
  else if 48 ≤ c && c ≤ 57 then .d (c.toNat - 48) else .other

/-- every class that `ofBytes` gives is a valid one. `ofBytes` has the text of `RulesF.toCh`, the classification the rule
validators use, so the two unfold to the same term; that is why `RulesF.toCh_valid`, a theorem about `toCh`, is a proof
of this statement as it stands. -/
theorem ofBytes_valid (bs : List UInt8) : ∀ c ∈ ofBytes bs, ValidCh c := RulesF.toCh_valid bs

/-- the normal form denotes the value of the text -/
theorem C10_scan_spec (bs : List UInt8) (n : N) (h : scan (ofBytes bs) = some n) :
    WFN n ∧ n.mant * 10 ^ (den (ofBytes bs)).t.toNat
              = (den (ofBytes bs)).mant * 10 ^ (-(den (ofBytes bs)).t).toNat * 10 ^ n.exp ∧
    (0 < n.exp → ∀ d, n.nat.getLast? = some d → d ≠ 0) :=
  scan_spec _ (ofBytes_valid bs) n h

/-- `Cmp` is the exact comparison of the two denoted values: min / max / exclusive bounds depend on
the mathematical value only -/
theorem C10_cmp_exact (a b : List UInt8) (na nb : N)
    (sa : scan (ofBytes a) = some na) (sb : scan (ofBytes b) = some nb) :
    na.cmp nb = cmpDen (den (ofBytes a)) (den (ofBytes b)) :=
  Num.C10_cmp_exact _ _ (ofBytes_valid a) (ofBytes_valid b) na nb sa sb

/-- for the normal form `n` of a recognised numeral: `LengthOfFractionalPart` (= `n.exp`) `≤ p` iff `n.mant · 10^p` is a
multiple of `10^n.exp`, that is, iff the value of THE NORMAL FORM times `10^p` is an integer (the `precision` rule; also
"counts as integer" for p = 0). That this value is the value of the text is the second clause of `C10_scan_spec`. -/
theorem C10_fracLen (bs : List UInt8) (n : N) (h : scan (ofBytes bs) = some n) (p : Nat) :
    n.exp ≤ p ↔ ∃ z : Int, n.mant * 10 ^ p = z * 10 ^ n.exp :=
  Num.C10_fracLen _ (ofBytes_valid bs) n h p

/-- comparison of normal forms is comparison of values -/
theorem C10_cmp_normal_forms (a b : N) (ha : WFN a) (hb : WFN b) : a.cmp b = cmpVal a b := cmp_correct a b ha hb

/-! ### every RFC 8259 numeral is in the domain of these theorems -/

/-- the text of a numeral character (`e` in lower case; `ofBytes` maps 'E' to the same class) -/
def chByte : Ch → UInt8
  | .minus => 45 | .plus => 43 | .dot => 46 | .e => 101 | .d n => UInt8.ofNat (48 + n) | .other => 0

theorem ofBytes_chByte (cs : List Ch) (h : ∀ c ∈ cs, ValidCh c ∧ c ≠ .other) : ofBytes (cs.map chByte) = cs := by
  induction cs with
  | nil => rfl
  | cons c cs ih =>
    have hc := h c (by simp)
    have := ih (fun c' hc' => h c' (by simp [hc']))
    simp only [ofBytes, List.map_cons, List.map_map] at this ⊢
    rw [this]
    congr 1
    cases c with
    | minus => rfl
    | plus => rfl
    | dot => rfl
    | e => rfl
    | other => exact absurd rfl hc.2
    | d n =>
      have hn : n < 10 := hc.1
      have : ∀ n < 10, (fun c : UInt8 => if c == 45 then Ch.minus else if c == 43 then .plus else if c == 46 then .dot
          else if c == 101 || c == 69 then .e else if 48 ≤ c && c ≤ 57 then .d (c.toNat - 48) else .other)
          (chByte (.d n)) = .d n := by decide +kernel
      exact this n hn

/-- all digits of the numeral are decimal digits -/
def digitsOK (t : Numeral) : Prop := ∀ c ∈ t.render, ValidCh c ∧ c ≠ .other

/-- **totality**: the bytes of every RFC 8259 numeral — optional minus, integer part without leading zeros,
optional fraction, optional exponent with optional sign, any number of digits anywhere — are recognised,
except integer part `0` directly followed by an exponent (K-C10-zeroexp). So `C10_scan_spec`,
`C10_cmp_exact` and `C10_fracLen` apply to every numeral the property quantifies over. -/
theorem C10_total (t : Numeral) (hd : digitsOK t) (hw : t.wf) (hz : ¬ t.zeroExp) :
    (scan (ofBytes (t.render.map chByte))).isSome = true := by
  rw [ofBytes_chByte _ hd]
  exact scan_total t hw hz

/-! Non-vacuity / the cases the property names -/
example : (Numeral.render ⟨true, 1, [2], some (5, [0]), some (some true, 3, [])⟩).map chByte = s' "-12.50e-3" := by decide +kernel
-- the bytes of a string, as `s'` above
def s (x : String) : List UInt8 := x.toList.map (fun c => UInt8.ofNat c.toNat)
def nf (x : String) : Option N := scan (ofBytes (s x))
-- equal values have equal normal forms, whatever the spelling
example : nf "-0" = some ⟨false, [], 0⟩ ∧ nf "0" = some ⟨false, [], 0⟩ ∧ nf "-0.0" = some ⟨false, [], 0⟩ := by decide +kernel
example : nf "1.50" = some ⟨false, [1, 5], 1⟩ ∧ nf "15e-1" = some ⟨false, [1, 5], 1⟩ ∧ nf "0.15E1" = some ⟨false, [1, 5], 1⟩ := by
  decide +kernel
example : nf "2.3e+1" = some ⟨false, [2, 3], 0⟩ ∧ nf "1e3" = some ⟨false, [1, 0, 0, 0], 0⟩ := by decide +kernel
example : nf "-1.5" = some ⟨true, [1, 5], 1⟩ ∧ nf "-1.50001" = some ⟨true, [1, 5, 0, 0, 0, 1], 5⟩ := by decide +kernel
example : (⟨true, [1, 5], 1⟩ : N).cmp ⟨true, [1, 5, 0, 0, 0, 1], 5⟩ = .gt := by
  simp [N.cmp, cmpAbs, cmpInt, cmpDigits, cmpFra, N.int, N.fra, Ordering.swap]
example : (⟨false, [], 0⟩ : N).cmp ⟨false, [], 0⟩ = .eq := by
  simp [N.cmp, cmpAbs, cmpInt, cmpDigits, cmpFra, N.int, N.fra]
/-- the known finding K-C10-zeroexp: the code (and hence the model) does not recognise `0e1` -/
theorem C10_zeroexp_not_recognised : scan (ofBytes (s "0e1")) = none := by decide +kernel

end Props.C10
