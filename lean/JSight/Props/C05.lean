import JSight.Sim
import JSight.SimTrailing
import JSight.RfcGrammar
import JSight.RfcGrammarConv
import JSight.JsonBridge
/-!
# C05 — A document is accepted iff it is one RFC 8259 JSON text

Model: `JsonScan.check` (`formats/json/scanner.go` + `Document.Check`), on bytes.
Spec: `Rfc.accepts` — an independently structured recogniser for the RFC 8259 grammar
(lexical state + stack of open containers), and `Sim.runP` — "run the recogniser until it
cannot continue, accept iff a complete top-level value has been read" for the trailing mode.
Both theorems hold for every byte string, of any length and nesting depth.
`C05_grammar_accepted`: the recogniser (hence the scanner model) accepts every text the RFC 8259 grammar
generates — value trees of grammar tokens with layout wherever the grammar allows `ws` (`RfcG.GValid`).
`C05_check_iff_grammar`: and conversely every accepted text is such a text — `Document.Check() == nil` iff the
bytes are `ws value ws` of the RFC 8259 grammar (`RfcG.accepts_iff_grammar`), so the recogniser is no longer a
trusted reading of the RFC: the grammar (`RfcG.GTok`, `RfcG.GValid`, `TreeEvents.StrBody`, `NumTok.WF`) is.
`Rfc.accepts` is in addition validated against `encoding/json.Valid` bounded-exhaustively (`json-exh`).
-/
namespace Props.C05
open JsonScan

/-- strict mode: `Document.Check() == nil` iff the bytes are exactly one JSON text -/
theorem C05_check_iff_rfc (bs : List UInt8) : check false bs = Rfc.accepts bs :=
  Sim.C05_check_iff_rfc bs

/-- `AllowTrailingNonSpaceCharacters`: accepted iff the text begins with one complete JSON value,
numbers taken maximally, whatever follows -/
theorem C05_trailing (bs : List UInt8) : check true bs = Sim.runP Rfc.RCfg.init (bs.map classify) :=
  Sim.C05_trailing bs

/-- every RFC 8259 text is accepted: bytes whose classes are the rendering of a grammar tree, with optional
leading and trailing white space -/
theorem C05_grammar_accepted (bs : List UInt8) (v : JA) (hv : RfcG.GValid v) (ws0 ws1 : List Cls)
    (h0 : IsWs ws0) (h1 : IsWs ws1) (hbs : bs.map classify = ws0 ++ (v.render ++ ws1)) : check false bs = true := by
  rw [C05_check_iff_rfc]
  unfold Rfc.accepts
  rw [hbs]
  exact RfcG.grammar_accepted v hv ws0 ws1 h0 h1

/-- **C05 against the grammar itself**: strict `Check` accepts exactly the byte strings whose classes are
`ws value ws` for a value tree of the RFC 8259 grammar — both directions, any length and depth -/
theorem C05_check_iff_grammar (bs : List UInt8) :
    check false bs = true ↔
      ∃ (v : JA) (ws0 ws1 : List Cls), RfcG.GValid v ∧ IsWs ws0 ∧ IsWs ws1 ∧ bs.map classify = ws0 ++ (v.render ++ ws1) := by
  rw [C05_check_iff_rfc]
  exact RfcG.accepts_bytes_iff_grammar bs

/-- the span-carrying machine (`Next()` with positions, `Document.Check` as "some lexeme was delivered", used for
C06 / C14 / C17) accepts exactly what the span-free machine accepts, in both modes: the two models of the one Go
scanner cannot drift apart -/
theorem C05_machines_agree (allow : Bool) (bs : List UInt8) : (checkS allow bs).isOk = check allow bs :=
  checkS_iff_check allow bs

/-- hence `Document.Check` as modelled with positions is the RFC recogniser too -/
theorem C05_checkS_iff_rfc (bs : List UInt8) : (checkS false bs).isOk = Rfc.accepts bs := by
  rw [C05_machines_agree, C05_check_iff_rfc]

/-! Non-vacuity / sanity: the spec accepts and rejects what the property names. -/
def s (x : String) : List UInt8 := x.toList.map (fun c => UInt8.ofNat c.toNat)   -- ASCII literals

-- ` [true ]` is the rendering of a grammar tree
example : check false (s " [true ]") = true :=
  C05_grammar_accepted _ (.arr [] [([], .scalar [.lt, .lr, .lu, .le], [.sp])])
    (by simp [RfcG.GValid, RfcG.GItems, IsWs, Cls.isWs]; exact RfcG.GTok.wtrue) [.sp] [] (by simp [IsWs, Cls.isWs]) (by simp [IsWs]) (by decide +kernel)

example : Rfc.accepts (s " {\"a\": [1, 2.5e-3, \"x\\n\"], \"b\": null}\n") = true := by decide +kernel
example : Rfc.accepts (s "1.") = false := by decide +kernel
example : Rfc.accepts (s "1e") = false := by decide +kernel
example : Rfc.accepts (s "01") = false := by decide +kernel
example : Rfc.accepts (s "") = false := by decide +kernel
example : Rfc.accepts (s "{} x") = false := by decide +kernel
example : Rfc.accepts (s "\"\\x\"") = false := by decide +kernel
example : Sim.runP Rfc.RCfg.init ((s "{} x").map classify) = true := by decide +kernel
example : Sim.runP Rfc.RCfg.init ((s "1.x").map classify) = false := by decide +kernel
example : Sim.runP Rfc.RCfg.init ((s "12 3").map classify) = true := by decide +kernel
example : check false (s "[1.]") = false := by decide +kernel

end Props.C05
