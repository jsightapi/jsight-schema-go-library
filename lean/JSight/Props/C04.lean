import JSight.CheckExample
import JSight.CheckExampleConv
import JSight.CheckerComplete
import JSight.CheckerLayout
import JSight.CheckerLit
import JSight.BridgeCK
import JSight.BridgeCK2Types
import JSight.BridgeCK2
import JSight.BridgeCK3Fuel
import JSight.BridgeCK3False
import JSight.BridgeCK4Tree
/-!
# C04 — Check accepts a schema only if its own EXAMPLE obeys its rules

Parametric in the literal validation function `litOK` (the same `ValidateLiteralValue` is used by the
checker on the example token and by the validator on document tokens) and in `ex : L → D` (the example
token of a literal node). `checked` = what the checker establishes on a plain-JSON schema: every
literal passes `litOK` on its own example, object keys are unique. Then validating the example document
succeeds — for every nesting, any literal rule semantics.
`C04_checked_iff`: with unique keys the checker's conditions hold *exactly* when the EXAMPLE validates, so
on the model a violated rule anywhere in the EXAMPLE makes `checked` false. That the real `Check` reports it
at the position of the value is checked against the code (harness `c04-check-example`), see DESIGN.md §4 C04.
-/
namespace Props.C04

theorem C04_example_valid {L D : Type} (litOK : L → D → Bool) (ex : L → D) (s : VP.S L)
    (h : VP.checked litOK ex s = true) : VP.validate litOK s (VP.exampleOf ex s) = true :=
  VP.C04_example_valid litOK ex s h

/-- the checker's conditions demand nothing beyond "the EXAMPLE obeys its rules" (keys unique in every object) -/
theorem C04_checked_iff {L D : Type} (litOK : L → D → Bool) (ex : L → D) (s : VP.S L) (hn : VP.nodupAll s = true) :
    VP.checked litOK ex s = true ↔ VP.validate litOK s (VP.exampleOf ex s) = true :=
  VP.C04_checked_iff litOK ex s hn

/-- a violated rule in the EXAMPLE (here: the nested literal 3 against the rule "= 4") makes the conditions fail -/
example : VP.checked (fun (l : Nat) (d : Nat) => l == d) (fun l => if l == 4 then 3 else l)
    (.obj [("a", true, .lit 1), ("b", false, .arr [.lit 2, .obj [("c", true, .lit 4)]])]) = false := by decide +kernel

/-! Non-vacuity: a schema that satisfies the hypothesis -/
example : VP.checked (fun (l : Nat) (d : Nat) => l == d) id
    (.obj [("a", true, .lit 1), ("b", false, .arr [.lit 2, .obj [("c", true, .lit 3)]])]) = true := by decide +kernel

/-! ## The checker itself (`CK.checkSchema`, `JSight/Checker.lean`): traversal, first error, positions, item counts

`CK.checkSchema` transliterates `checker.CheckRootSchema` over the compiled schema (every node with its basis lexeme: file
and byte offset) and returns `ok` or `err code file pos type`. It is tied to the real checker by `vh c04-model` (the hook
prints what the real checker reads and runs it; 0 differences in code, file, offset and named type, also with several
simultaneous corruptions). `o : RulesF.Oracles` are Go's `regexp`, `net/mail`, `net/url`, `time` (parameters). -/

open CK in
/-- SOUND: whenever the checker accepts a schema whose EXAMPLE is plain JSON (no type shortcut in value or key position, no
allOf; keys unique), the validator model accepts the EXAMPLE — literal nodes with ALL their rules, `{type: "@t"}` and `or`
sets included: a token is admitted when `ValidateLiteralValue` of one alternative of the node returns -/
theorem C04_checker_sound (o : RulesF.Oracles) (s : Schema) (r : Node) (hr : s.root = some r) (hp : plain r = true)
    (hn : VP.nodupAll (toVP r) = true) (h : checkSchema o s = .ok) :
    VP.validate (literalAccepts o s.env) (toVP r) (VP.exampleOf (fun i => i.lex.value) (toVP r)) = true :=
  CK.checker_sound o s r hr hp hn h

open CK in
/-- FIRST (traversal order): `CheckRootSchema` reports the own error of the first offending node in the order "nodes of the
root in source (pre-)order, then the nodes of every type in table order, each in source order" (`firstErr`: a
`findSome?` over that list); `ok` when no node offends. Source order and traversal order differ only in that: the root
comes before the types whatever was added first, and the types come in the order of `typeGoesFirst` (`Schema.visit`): by
name, the unnamed ones (or-shortcut nodes, or rule-set members) first and among themselves by file name and position. -/
theorem C04_checker_first (o : RulesF.Oracles) (s : Schema) : checkSchema o s = firstErr o s :=
  CK.checkSchema_eq_firstErr o s

open CK in
/-- POSITION: the own error of a node is a DocumentError at the node's basis lexeme — file and `Begin()`: the first byte of a
literal, the `[` / `{` of a container — except the two key-shortcut errors of an object (1302 / 1304), which sit at the
key's lexeme; (`crash` = the model ran out of fuel, excluded by `C04_checker_no_crash`) -/
theorem C04_checker_position (o : RulesF.Oracles) (env : Env) (hd : Hd) (p : Panic) (h : nodeErr o env hd = some p) :
    (∃ c, p = .doc c hd.info.lex.file hd.info.lex.begin) ∨
    (hd.info.nk = .obj ∧ ∃ k ∈ hd.info.keys, k.shortcut = true ∧ ∃ c, (c = 1302 ∨ c = 1304) ∧ p = .doc c k.lex.file k.lex.begin) ∨
    (∃ w, p = .crash w) :=
  CK.nodeErr_pos o env hd p h

open CK in
/-- a violated rule — no alternative of a literal admits its own token; the EXAMPLE's item count below `minItems` / above
`maxItems` — makes the node's own check fail; and when the node's structural checks pass, a failing own check of a literal
or an array IS a violated rule -/
theorem C04_violation_iff_own_check (o : RulesF.Oracles) (env : Env) (h : Hd)
    (hl : h.info.nk = .lit → h.info.lex.ty = .litEnd) (hs : structOK env h = true)
    (hnk : h.info.nk = .lit ∨ h.info.nk = .arr) :
    violates o env h = true ↔ nodeErr o env h ≠ none := by
  constructor
  · exact CK.nodeErr_of_violates o env h hl
  · intro he
    unfold structOK at hs
    simp only [Bool.and_eq_true, Option.isNone_iff_eq_none] at hs
    refine CK.violates_of_nodeErr o env h hl hs.1.1 hs.1.2 ?_ hnk he
    intro ha
    have := hs.2
    rw [ha] at this
    simpa using this

open CK in
/-- COMPLETE (anywhere): a value of the root or of a type that violates one of its own rules makes `Check` fail -/
theorem C04_checker_complete_any (o : RulesF.Oracles) (s : Schema) (x : Occ) (hx : x ∈ s.occs)
    (hl : x.hd.info.nk = .lit → x.hd.info.lex.ty = .litEnd) (hv : violates o s.env x.hd = true) :
    checkSchema o s ≠ .ok :=
  CK.checker_complete_any o s x hx hl hv

open CK in
/-- … in particular inside ANY type of the table, wherever the visiting order (`Schema.visit`) puts it -/
theorem C04_checker_complete_type (o : RulesF.Oracles) (s : Schema) (t : TypeEntry) (ht : t ∈ s.types) (h : Hd)
    (hh : h ∈ preorder t.root) (hl : h.info.nk = .lit → h.info.lex.ty = .litEnd) (hv : violates o s.env h = true) :
    checkSchema o s ≠ .ok :=
  CK.checker_complete_any o s ⟨h, t.begin, some t.name⟩ (CK.mem_occs_of_type s t ht h hh) hl hv

open CK in
/-- COMPLETE + FIRST, with the reported position: when the structural checks of the root's nodes pass (rule / kind
compatibility, references) and the offsets of the nodes increase in source order (they do in every text:
`C04_offsets_increase`), a value of the root that violates one of its own rules — a bound, a length, a pattern, enum
membership, a format, const, the kind, an item count — makes the checker return `err code file pos` where `pos` is the start
offset of a value that violates one of its own rules, namely the FIRST such value in the text -/
theorem C04_checker_complete (o : RulesF.Oracles) (s : Schema) (r : Node) (hr : s.root = some r)
    (hlit : ∀ h ∈ preorder r, h.info.nk = .lit → h.info.lex.ty = .litEnd)
    (hst : ∀ h ∈ preorder r, structOK s.env h = true)
    (hsorted : ((preorder r).map fun h => h.info.lex.begin).Pairwise (· < ·))
    (hv : ∃ h ∈ preorder r, violates o s.env h = true) :
    ∃ h₀ ∈ preorder r, violates o s.env h₀ = true ∧
      (∀ h ∈ preorder r, violates o s.env h = true → h₀.info.lex.begin ≤ h.info.lex.begin) ∧
      ∃ code, checkSchema o s = .err code h₀.info.lex.file h₀.info.lex.begin none :=
  CK.checker_complete_offset o s r hr hlit hst hsorted hv

open CK in
/-- without the structural hypothesis: some node of the root offends ⇒ the reported error is the own error of the offending
node with the smallest offset -/
theorem C04_checker_first_offset (o : RulesF.Oracles) (s : Schema) (r : Node) (hr : s.root = some r)
    (hsorted : ((preorder r).map fun h => h.info.lex.begin).Pairwise (· < ·))
    (hv : ∃ h ∈ preorder r, nodeErr o s.env h ≠ none) :
    ∃ h₀ ∈ preorder r, ∃ p, nodeErr o s.env h₀ = some p ∧ checkSchema o s = panicRes none 0 p ∧
      ∀ h ∈ preorder r, nodeErr o s.env h ≠ none → h₀.info.lex.begin ≤ h.info.lex.begin :=
  CK.checker_first_offset o s r hr hsorted hv

open CK in
/-- in a text — whatever the gaps (blanks, line breaks, commas, keys, annotations) between the values — the offsets of the
nodes strictly increase in pre-order: the hypothesis `hsorted` above -/
theorem C04_offsets_increase (t : LT) (o : Nat) :
    ((preorder (t.place o)).map fun h => h.info.lex.begin).Pairwise (· < ·) :=
  CK.place_sorted t o

open CK in
/-- NO CRASH: the recursions of the node-local checks through the type table (`buildList`, `collectAllowedJsonTypes`,
`actualRootTypeVisiting`) never exhaust the model's fuel `|table| + 2`, for every table, cyclic ones included;
`checkArrayItems` has no visited set in the code: it is total when the arrays of the table carry no types list -/
theorem C04_checker_no_crash (o : RulesF.Oracles) (env : Env) (hT : ArraysFlat env) (h : Hd) (w : String) :
    nodeErr o env h ≠ some (.crash w) :=
  CK.nodeErr_no_crash o env hT h w

open CK in
/-- LITERAL = C02: `ValidateLiteralValue` as the checker runs it (with the error it raises) accepts exactly when the C02
model `RulesF.litOKFull` accepts the token on the rule list read off the constraint map: "violates one of its rules" is
the C02 meaning of the rules (`C02_accept_iff_full`) -/
theorem C04_literal_is_C02 (o : RulesF.Oracles) (k : Rules.Kind) (cs : List Cn) (tok : RulesF.Bytes)
    (hn : NullableTrue cs) (hc : ConstUnique cs) :
    validateLiteralValue o (jtOfKind k) cs tok = none ↔ RulesF.litOKFull o (specOf k cs) tok = true :=
  CK.validate_iff_litOKFull o k cs tok hn hc

open CK in
/-- … and for a literal node without a types list "some alternative admits the token" (the `litOK` of `C04_checker_sound`, the
negation of `violates`) IS that C02 predicate on the node's own rule list -/
theorem C04_literal_accepts_is_C02 (o : RulesF.Oracles) (env : Env) (i : Info) (k : Rules.Kind) (tok : RulesF.Bytes)
    (ht : typesList? i.cs = none) (hk : i.nk = .lit) (hj : i.jt = jtOfKind k)
    (hn : NullableTrue i.cs) (hc : ConstUnique i.cs) :
    literalAccepts o env i tok = RulesF.litOKFull o (specOf k i.cs) tok :=
  CK.literalAccepts_plain o env i k tok ht hk hj hn hc

/-! ### non-vacuity: one schema through all the statements

`[ 5, // {min: 1, max: 3}` / `"ab", // {maxLength: 1}` / `[] // {minItems: 0}` / `7 // {type: "@t"}` `]` with
`@t = 9 // {min: 8}`; offsets 0, 2, 24, 50, 70. -/
namespace Ex
open CK

def o0 : RulesF.Oracles := ⟨fun _ _ => true, fun _ => true, fun _ => true, fun _ => true⟩

def lit (jt : JT) (off : Nat) (tok : RulesF.Bytes) (cs : List Cn) : Node :=
  .mk { nk := .lit, jt := jt, lex := ⟨.litEnd, 0, off, tok⟩, cs := cs } []

def tT : TypeEntry := ⟨[64, 116], 1, 0, [102, 49], .mk { nk := .lit, jt := .integer, lex := ⟨.litEnd, 1, 0, [57]⟩, cs := [.min [56] false] } [], []⟩

/-- two violated rules (`5` against `max: 3` at offset 2, `"ab"` against `maxLength: 1` at offset 24) and a reference that
fails (`7` against `min: 8` of `@t` at offset 70) -/
def bad : Schema :=
  ⟨some (.mk { nk := .arr, jt := .array, lex := ⟨.other, 0, 0, []⟩, cs := [] }
    [lit .integer 2 [53] [.min [49] false, .max [51] false],
     lit .string 24 [34, 97, 98, 34] [.maxLength 1],
     .mk { nk := .arr, jt := .array, lex := ⟨.other, 0, 50, []⟩, cs := [.minItems 0] } [],
     lit .integer 70 [55] [.typesList [[64, 116]]]]), [tT]⟩

/-- the same with the rules obeyed -/
def good : Schema :=
  ⟨some (.mk { nk := .arr, jt := .array, lex := ⟨.other, 0, 0, []⟩, cs := [] }
    [lit .integer 2 [53] [.min [49] false, .max [55] false],
     lit .string 24 [34, 97, 98, 34] [.maxLength 2],
     .mk { nk := .arr, jt := .array, lex := ⟨.other, 0, 50, []⟩, cs := [.minItems 0] } [],
     lit .integer 70 [57] [.typesList [[64, 116]]]]), [tT]⟩

/-- the first of the three violations is reported, at its offset -/
example : checkSchema o0 bad = .err 602 0 2 none := by decide +kernel
example : checkSchema o0 good = .ok := by decide +kernel
/-- hypotheses of `C04_checker_sound` on `good` -/
example : good.root.isSome = true ∧ (good.root.map plain) = some true ∧ (good.root.map fun r => VP.nodupAll (toVP r)) = some true := by
  decide +kernel
/-- hypotheses of `C04_checker_complete` on `bad`: literals are literal-end lexemes, structural checks pass, offsets increase,
three nodes violate -/
example : (bad.root.map fun r => (preorder r).all fun h => structOK bad.env h && (h.info.nk != .lit || h.info.lex.ty == .litEnd)) = some true
    ∧ (bad.root.map fun r => ((preorder r).filter (violates o0 bad.env)).map fun h => h.info.lex.begin) = some [2, 24, 70] := by
  decide +kernel
/-- an item-count violation is reported at the `[` : `[1, 2] // {maxItems: 1}` -/
example : checkSchema o0 ⟨some (.mk { nk := .arr, jt := .array, lex := ⟨.other, 0, 4, []⟩, cs := [.maxItems 1] }
    [lit .integer 5 [49] [], lit .integer 8 [50] []]), []⟩ = .err 609 0 4 none := by decide +kernel
/-- two offending unnamed types (or-shortcut nodes of the files "f2" and "f1", both naming an undefined type): the one of "f1"
is reported, whatever their order in the table and whatever their names (addresses) -/
example : checkSchema o0 ⟨none,
    [⟨[35, 49], 2, 0, [102, 50], .mk { nk := .mixedValue, jt := .mixed, lex := ⟨.other, 2, 5, []⟩, cs := [.typesList [[64, 120]]] } [], []⟩,
     ⟨[35, 50], 1, 0, [102, 49], .mk { nk := .mixedValue, jt := .mixed, lex := ⟨.other, 1, 9, []⟩, cs := [.typesList [[64, 121]]] } [], []⟩]⟩
    = .err 1302 1 9 (some [35, 50]) := by decide +kernel
/-- an error inside a type names the type and its file: `@t = 9 // {min: 10}` -/
example : checkSchema o0 ⟨some (lit .integer 0 [55] []),
    [⟨[64, 116], 1, 0, [102, 49], .mk { nk := .lit, jt := .integer, lex := ⟨.litEnd, 1, 3, [57]⟩, cs := [.min [49, 48] false] } [], []⟩]⟩
    = .err 602 1 3 (some [64, 116]) := by decide +kernel
/-- fix F-38: two or-shortcuts at the same offset of two objects created with the SAME file name (`f`) and different
texts (`@m1 | @n`, `@m2 | @n`): the text of the file decides which is visited (and reported) first, whatever their names
(addresses) are -/
example :
    let a : TypeEntry := ⟨[35, 57], 1, 0, [102], .mk { nk := .mixedValue, jt := .mixed, lex := ⟨.other, 1, 0, []⟩, cs := [.typesList [[64, 109, 49]]] } [], [64, 109, 49]⟩
    let b : TypeEntry := ⟨[35, 49], 2, 0, [102], .mk { nk := .mixedValue, jt := .mixed, lex := ⟨.other, 2, 0, []⟩, cs := [.typesList [[64, 109, 50]]] } [], [64, 109, 50]⟩
    typeGoesFirst a b = true ∧ typeGoesFirst b a = false ∧
    (checkSchema o0 ⟨none, [a, b]⟩ = checkSchema o0 ⟨none, [b, a]⟩) := by decide +kernel
/-- `ArraysFlat` holds for the table of `bad` (hypothesis of `C04_checker_no_crash`) -/
example : ArraysFlat bad.env := by
  intro n t hl hk
  have : bad.env.types = [([64, 116], tT.root.hd)] := rfl
  unfold Env.lookup at hl
  rw [this] at hl
  simp only [List.find?] at hl
  split at hl
  · simp only [Option.map_some, Option.some.injEq] at hl
    subst hl
    simp [tT, Node.hd] at hk
  · simp at hl
/-- `C04_literal_is_C02`: the hypotheses hold for `[min 1, max 3]` and the two sides reject `5` -/
example : NullableTrue [Cn.min [49] false, .max [51] false] ∧ ConstUnique [Cn.min [49] false, .max [51] false]
    ∧ validateLiteralValue o0 (jtOfKind .i) [Cn.min [49] false, .max [51] false] [53] = some (.raw 602)
    ∧ RulesF.litOKFull o0 (specOf .i [Cn.min [49] false, .max [51] false]) [53] = false := by
  refine ⟨?_, ?_, by decide +kernel, by decide +kernel⟩
  · intro b hb; simp at hb
  · intro v hv; simp at hv
/-- a layout: `[ 5 , "ab" ]` with gaps 1 and 2 -/
example : ((preorder ((LT.branch { nk := .arr, jt := .array, lex := ⟨.other, 0, 0, []⟩, cs := [] }
    (.cons 1 (.leaf { nk := .lit, jt := .integer, lex := ⟨.litEnd, 0, 0, [53]⟩, cs := [] } 0)
      (.cons 2 (.leaf { nk := .lit, jt := .string, lex := ⟨.litEnd, 0, 0, [34, 97, 98, 34]⟩, cs := [] } 3) .nil)) 2).place 10)).map
      fun h => h.info.lex.begin) = [10, 12, 15] := by decide +kernel
end Ex

/-! ### Bridge (A)∩(C): `Compile.check` (text-level pipeline of C01) and `CK.checkSchema` model ONE piece of code

`BridgeCK.dumpOf` is the dump of the compiled tree `Compile.CN` (+ type table) that the hook `VerifCheckerDump` would
print, as far as `CN` keeps it (positions 0, a marker constraint for `bad`, one unnamed type per or-shortcut inside a
named type); `BridgeCK.checkA` is `Compile.check` without `CheckRecursion`; `BridgeCK.checkC` is `CK.checkSchema` on
the dump with the oracles (A) uses. -/

open BridgeCK in
/-- the FULL statement: whenever neither side runs out of fuel ((C): `crash`, (A): `unsupported`), the two checkers
give the same verdict and the same error code. NOT PROVED in this session (the (A)∩(B) bridge came first); validated at
run time by `vh bridge-models` on every schema that reaches the checker (component `C`: no disagreement after the repair
of (A)'s key-shortcut order). -/
def C04_models_agree_full : Prop :=
  ∀ (root : Option Compile.CN) (ts : Compile.Types),
    match resOf (checkC root ts) with
    | none => True
    | some c => isUnsupported (checkA root ts) = false → codeOfA (checkA root ts) = codeOfA c

open BridgeCK in
/-- `Compile.check` = `checkA` (CheckRootSchema, what (C) models), then `CheckRecursion` -/
theorem C04_check_splits (root : Compile.CN) (ts : Compile.Types) :
    Compile.check root ts =
      (match checkA (some root) ts with
       | .error e => .error e
       | .ok () => if TG.check (Compile.tgOf root ts) then .ok () else .error (.code 104 0)) :=
  E2E.check_splits root ts

namespace BridgeEx
open BridgeCK Compile
def litI (tok : String) (rules : List RulesF.Rule) : CN := .lit { kind := .i, ex := sb tok, nul := false, rules := rules } false
/-- `{ @k: 1, @z: 2 }` with `@k = 5`: the first shortcut key names a non-string type (1304), the second an undefined
one (1302) — the order the bridge repaired in (A): both models answer 1304 -/
def keysRoot : CN := .obj [("k", true, true, false, litI "1" []), ("z", true, true, false, litI "2" [])] .absent false false
def keysTypes : Types := [("@k", litI "5" [])]
example : codeOfA (checkA (some keysRoot) keysTypes) = some 1304 ∧ checkC (some keysRoot) keysTypes = .err 1304 0 0 none := by
  decide +kernel
/-- `[ 5 // {min: 7} ]`: the EXAMPLE violates its own rule, 602 in both -/
def badEx : CN := .arr [litI "5" [.min (sb "7") false]] false false
example : codeOfA (checkA (some badEx) []) = some 602 ∧ checkC (some badEx) [] = .err 602 0 0 none := by decide +kernel
/-- `1 // {type: "@a"}` with `@a = "s"`: 1301 in both; with `@a = 2 // {min: 3}`: the EXAMPLE 1 fails the type's rule, 602 in both -/
def refRoot : CN := .ref ["@a"] false .int (some (sb "1")) false
example : codeOfA (checkA (some refRoot) [("@a", .lit { kind := .s, ex := sb "\"s\"", nul := false, rules := [] } false)]) = some 1301
    ∧ checkC (some refRoot) [("@a", .lit { kind := .s, ex := sb "\"s\"", nul := false, rules := [] } false)] = .err 1301 0 0 none := by
  decide +kernel
example : codeOfA (checkA (some refRoot) [("@a", litI "2" [.min (sb "3") false])]) = some 602
    ∧ checkC (some refRoot) [("@a", litI "2" [.min (sb "3") false])] = .err 602 0 0 none := by decide +kernel
/-- an accepted schema: `[ 5 // {min: 1} ]` -/
def goodEx : CN := .arr [litI "5" [.min (sb "1") false]] false false
example : codeOfA (checkA (some goodEx) []) = none ∧ isUnsupported (checkA (some goodEx) []) = false
    ∧ checkC (some goodEx) [] = .ok := by decide +kernel
end BridgeEx


/-! ### Bridge (A)∩(C), second part

`BridgeCK2Order.lean` (the visiting order), `BridgeCK2NoRef.lean` / `BridgeCK2Types.lean` (the reference-free,
validator-free class, any type table), `BridgeCK2.lean` (the class of `C01_text_level`; the text-level pipeline with
(C)'s checker). -/

open BridgeCK in
/-- a second family outside which the unrestricted statement fails (also never built by `compileNode`): a named type
whose root is an `any` node of JSON type `mixed`, referenced by a node with an EXAMPLE — 1301 in (A), code 1 in (C) -/
theorem C04_models_agree_full_false_any :
    checkC (some wAnyRoot) wAnyTs = .err 1 0 0 none ∧ codeOfA (checkA (some wAnyRoot) wAnyTs) = some 1301 ∧
      isUnsupported (checkA (some wAnyRoot) wAnyTs) = false := wAny_facts

open BridgeCK in
/-- what remains to be proved — exactly what `vh bridge-models` (component `C`) samples: the agreement on every tree
that `Compile.compileNode` BUILDS (root and every named type the compiled tree of some node table), whenever neither
side runs out of fuel. PROVED for the class of `C04_models_agree` (which is stated on trees, compiled or not); open for
nodes with an EXAMPLE and a types list, or-shortcuts and type aliases (the reference-following loops).
Third part: as stated (over every node TABLE, loader-produced or not) it is FALSE — `C04_models_agree_compiled_full_false`;
on the decidable class `xr` (EXAMPLE + types list, aliases, or-shortcuts) it is proved: `C04_models_agree_compiled`,
`C04_models_agree_compiled_partial`. -/
def C04_models_agree_compiled_full : Prop :=
  ∀ (root : Option Compile.CN) (ts : Compile.Types),
    (∀ r, root = some r → ∃ tbl opt fuel i p o, Compile.compileNode tbl opt fuel i p = .ok (r, o)) →
    (∀ t ∈ ts, ∃ tbl opt fuel i p o, Compile.compileNode tbl opt fuel i p = .ok (t.2, o)) →
    match resOf (checkC root ts) with
    | none => True
    | some c => isUnsupported (checkA root ts) = false → codeOfA (checkA root ts) = codeOfA c

open BridgeCK in
/-- **C04_sort_names_is_typeGoesFirst**: (A) visits the named types in the order of Lean's `String <`
(`Compile.sortNames` = `sort.Strings`), (C) in the order of `CK.typeGoesFirst` (bytewise `<`, fix F-34). On type names
that occur — pairwise different, named (`@…`), every character one byte (ASCII type names are) — the comparison is
the same function and the two visits are the same list of entries. -/
theorem C04_sort_names_is_typeGoesFirst :
    (∀ a b : String, byteChars a → byteChars b → Compile.strLt a b = CK.bytesLt (name a) (name b)) ∧
    (∀ ts : Compile.Types, (ts.map (·.1)).Nodup → (∀ t ∈ ts, byteChars t.1 ∧ CK.isUnnamed (name t.1) = false) →
      CK.sortTypes (ts.map typeEntry) = (sortTs ts).map typeEntry ∧
      (sortTs ts).map (·.1) = Compile.sortNames (ts.map (·.1)) ∧
      (CK.sortTypes (ts.map typeEntry)).map (·.name) = (Compile.sortNames (ts.map (·.1))).map name) :=
  ⟨strLt_bytesLt, fun ts hn hb => ⟨sort_entries ts hn hb, sortTs_names ts, sort_agree ts hn hb⟩⟩

open BridgeCK in
/-- **C04_models_agree** (the reference-free class: literal nodes WITH their validators — the EXAMPLE against its own
rules: min / max / exclusive, precision, minLength / maxLength, enum, regex, const, the formats but `email`; of a
guessable kind, flag exact — or flagged incompatible; `any` nodes; TYPE SHORTCUTS `@t` (a node whose types list is its
whole content: every name defined, else 1302); arrays; objects with KEY SHORTCUTS (`@k : …`: the key
type defined — 1302 — and a string — 1304 —, key by key) and every `additionalProperties` mode incl. `"@T"`; nullable;
the compatibility flags; ANY type table of such trees under pairwise different, named,
single-byte names; with or without root): `checkA root ts` (`Compile`'s CheckRootSchema) = `CK.checkSchema noOracles
(dumpOf root ts)` read back by `resOf` — the same verdict and the same first error CODE (1117, 1302, 1304, and the validator
codes 602, 603, 610 … 616, 0: (A) keeps the failing validator of least `constraint.Type`, (C) sorts by it and stops at the
first), found at the same node of the same tree in the same visiting order; on this class neither side runs out of
fuel (the equation excludes `crash` and `unsupported`); the root of a named type is not itself a type shortcut
(`notRef`). Outside: a node WITH an example and a types list (`1 // {type: "@t"}`, `or` rules), or-shortcuts `@a | @b`
(their unnamed types), a type that is an alias of another — the reference-following loops `collectAllowedJsonTypes` /
`buildList` / `actualRootType` —, see `C04_models_agree_compiled_full`. -/
theorem C04_models_agree (root : Option Compile.CN) (ts : Compile.Types) (hroot : ∀ r, root = some r → nr r = true)
    (hts : ∀ t ∈ ts, nr t.2 = true ∧ byteChars t.1 ∧ CK.isUnnamed (name t.1) = false ∧ notRef t.2 = true)
    (hnd : (ts.map (·.1)).Nodup) :
    resOf (checkC root ts) = some (checkA root ts) :=
  agree_noref root ts hroot hts hnd

open BridgeCK in
/-- one node, any (C)-table whose entries are the dumps of (A)'s (`EnvRel`), any fuel ≥ 1: (C)'s `checkNode` on the dump
of the tree is (A)'s `checkNode` (first error in the same traversal order) -/
theorem C04_models_agree_node (ts : Compile.Types) (env : CK.Env) (fuel : Nat) (hE : EnvRel ts env)
    (hT : ∀ n cn, Compile.lookupT ts n = some cn → nr cn = true ∧ notRef cn = true) (hf : ∃ f, fuel = f + 1) (cn : Compile.CN)
    (h : nr cn = true) :
    CK.checkNode Compile.noOracles env (dumpNode cn) = panicOf (Compile.checkNode ts fuel cn) :=
  node_agree ts env fuel hE hT hf cn h

open BridgeCK in
/-- the class of `C01_text_level` (the compiled tree of a plain-JSON value, no types): both checkers accept -/
theorem C04_models_agree_plain (opt : Bool) (v : Lay.JV) (hg : E2E.guessable v = true) :
    resOf (checkC (some (E2E.cnOf opt v)) []) = some (checkA (some (E2E.cnOf opt v)) []) :=
  agree_plain opt v hg

/-- **the pipeline may use (C)'s checker**: `E2E.validateTextCK` is `E2E.validateText` with `Compile.check` replaced by
`CK.checkSchema ∘ dumpOf` (then `CheckRecursion`); wherever the two checkers agree on the compiled schema (the
hypothesis is `C04_models_agree` / `C04_models_agree_plain` on their classes) the two pipelines give the same outcome,
so `C04_checker_sound / _complete` speak about the checker stage of the text-level pipeline -/
theorem C04_pipeline_with_checker_model (root : List UInt8) (types : List (String × List UInt8)) (doc : List UInt8)
    (opt : Bool)
    (hagree : ∀ r ts, E2E.loadSchema root opt = .ok r → E2E.loadTypes types = .ok ts →
      E2E.checkCK r ts = some (BridgeCK.checkA r ts)) :
    E2E.validateTextCK root types doc opt = E2E.validateText root types doc opt :=
  E2E.validateTextCK_eq root types doc opt hagree

/-- **C01_text_level_with_checker_model**: the text-level theorem of C01, word for word, for the pipeline whose checker
stage is the checker model of C04 -/
theorem C01_text_level_with_checker_model (opt : Bool) (t : Lay.BTree) (hv : t.Valid) (hk : t.value.KeysNodup)
    (hg : E2E.guessable t.value = true) (w0 w1 : List Lay.LI) (h0 : Lay.ValidL w0) (h1 : Lay.ValidL w1)
    (fin : List UInt8) (hf : Lay.IsFin fin)
    (d : VPos.T UInt8) (hd : (VPos.toJA JsonScan.classify d).Valid) (ws0 ws1 : List UInt8)
    (hw0 : JsonScan.IsWs (ws0.map JsonScan.classify)) (hw1 : JsonScan.IsWs (ws1.map JsonScan.classify)) :
    E2E.validateTextCK (Lay.docTextF w0 t w1 fin) [] (ws0 ++ (d.render VPos.byteSym ++ ws1)) opt
      = if VN.shape E2E.kindOKTok (E2E.schemaOf opt t.value) (E2E.docOf d) then .acc else .rej :=
  E2E.text_level_ck opt t hv hk hg w0 w1 h0 h1 fin hf d hd ws0 ws1 hw0 hw1

namespace BridgeEx2
open BridgeCK Compile
def litS (tok : String) (k : Rules.Kind) : CN := .lit { kind := k, ex := sb tok, nul := false, rules := [] } false
/-- root `{ "a": 1, "b": [true] } // {additionalProperties: "@zz"}` with the types `@b = {} (flagged incompatible)`,
`@a = "x"`: (A) and (C) both stop at the root (1302: `@zz` is not defined); without the rule both visit `@a` first and
then stop at `@b` (1117) -/
def tsEx : Types := [("@b", .obj [] .absent false true), ("@a", litS "\"x\"" .s)]
def rootEx (add : Add) : CN :=
  .obj [("a", false, true, false, litS "1" .i), ("b", false, true, false, .arr [litS "true" .b] true false)] add false false
/-- non-vacuity of `C04_models_agree` / `C04_sort_names_is_typeGoesFirst`: the hypotheses hold, errors on both sides -/
example : nr (rootEx (.type "@zz")) = true ∧
    (∀ t ∈ tsEx, nr t.2 = true ∧ byteChars t.1 ∧ CK.isUnnamed (name t.1) = false ∧ notRef t.2 = true) ∧
    (tsEx.map (·.1)).Nodup := by decide +kernel
example : checkC (some (rootEx (.type "@zz"))) tsEx = .err 1302 0 0 none ∧
    codeOfA (checkA (some (rootEx (.type "@zz"))) tsEx) = some 1302 := by decide +kernel
example : checkC (some (rootEx .absent)) tsEx = .err 1117 0 0 (some (name "@b")) ∧
    codeOfA (checkA (some (rootEx .absent)) tsEx) = some 1117 ∧ (sortTs tsEx).map (·.1) = ["@a", "@b"] := by decide +kernel
example : checkC (some (rootEx (.type "@a"))) [("@a", litS "\"x\"" .s)] = .ok ∧
    codeOfA (checkA (some (rootEx (.type "@a"))) [("@a", litS "\"x\"" .s)]) = none ∧
    isUnsupported (checkA (some (rootEx (.type "@a"))) [("@a", litS "\"x\"" .s)]) = false := by decide +kernel
/-- the instance of the theorem -/
example : resOf (checkC (some (rootEx .absent)) tsEx) = some (checkA (some (rootEx .absent)) tsEx) :=
  C04_models_agree _ _ (fun r h => by cases h; decide +kernel) (by decide +kernel) (by decide +kernel)
/-- `[ 5 // {min: 7, max: 3} ]` and `"ab" // {minLength: 3, enum: ["x"]}`: the EXAMPLE fails its validators — the one of
least constraint type wins on both sides (602 before 602; 603 before 610) -/
def badMin : CN := .arr [.lit { kind := .i, ex := sb "5", nul := false, rules := [.max (sb "3") false, .min (sb "7") false] } false] false false
def badLen : CN := .lit { kind := .s, ex := sb "\"ab\"", nul := true, rules := [.enum [sb "\"x\""], .minLength 3] } false
example : nr badMin = true ∧ nr badLen = true := by decide +kernel
example : checkC (some badMin) [] = .err 602 0 0 none ∧ codeOfA (checkA (some badMin) []) = some 602 ∧
    checkC (some badLen) [] = .err 603 0 0 none ∧ codeOfA (checkA (some badLen) []) = some 603 := by decide +kernel
example : resOf (checkC (some badLen) tsEx) = some (checkA (some badLen) tsEx) :=
  C04_models_agree _ _ (fun r h => by cases h; decide +kernel) (by decide +kernel) (by decide +kernel)
/-- `{ @a: 1, @b: 2 }` with `@a = "x"`, `@b = {}`: the second key type is not a string — 1304 on both sides; with an
undefined `@zz` first: 1302 -/
def keysObj (k1 k2 : String) : CN := .obj [(k1, true, true, false, litS "1" .i), (k2, true, true, false, litS "2" .i)] .absent false false
example : nr (keysObj "a" "b") = true ∧ nr (keysObj "zz" "b") = true := by decide +kernel
example : checkC (some (keysObj "a" "b")) tsEx = .err 1304 0 0 none ∧ codeOfA (checkA (some (keysObj "a" "b")) tsEx) = some 1304 ∧
    checkC (some (keysObj "zz" "b")) tsEx = .err 1302 0 0 none ∧ codeOfA (checkA (some (keysObj "zz" "b")) tsEx) = some 1302 := by
  decide +kernel
/-- `[ @a, @nope ]`: the second item names an undefined type — 1302 on both sides; `[ @a, @b ]` is accepted -/
def refsArr (n : String) : CN := .arr [.ref ["@a"] false .mixed none false, .ref [n] true .mixed none false] false false
example : nr (refsArr "@nope") = true ∧ checkC (some (refsArr "@nope")) tsEx = .err 1302 0 0 none ∧
    codeOfA (checkA (some (refsArr "@nope")) tsEx) = some 1302 := by decide +kernel
example : nr (refsArr "@a") = true ∧ checkC (some (refsArr "@a")) [("@a", litS "\"x\"" .s)] = .ok ∧
    codeOfA (checkA (some (refsArr "@a")) [("@a", litS "\"x\"" .s)]) = none := by decide +kernel
/-- non-vacuity of `C04_models_agree_plain`: `[1, "a"]` -/
example : E2E.guessable (.arr [.lit (sb "1"), .lit (sb "\"a\"")]) = true := by decide +kernel
end BridgeEx2

/-! ### Bridge (A)∩(C), third part: nodes that carry an EXAMPLE together with a types list

`BridgeCK3Lit.lean` (a token against the validator of ANOTHER node), `BridgeCK3Loops.lean` (the reference-following
loops `collectAllowedJsonTypes` / `buildList` of the two models, related for any amounts of fuel), `BridgeCK3Node.lean`
(the node), `BridgeCK3Tree.lean` (tree and type table on the class `xr`), `BridgeCK3Fuel.lean` ((A) never runs out of
`Compile.checkFuel` — after its repair, see there). -/

open BridgeCK in
/-- **C04_text_checker_never_out_of_fuel**: the checker of the text-level pipeline never answers "out of fuel" — on
every compiled tree and every type table (cyclic ones included) `Compile.checkFuel` units are enough for the
reference-following loops `allowed` (collectAllowedJsonTypes) and `exampleAlts` (buildList): the counterpart of
`C04_checker_no_crash` for model (A). (The proof attempt exposed that the previous amount `|types| + 2 + names` was NOT
enough — `@T = 1 // {or: ["@x" × 7, "@a"]}`, `@a = 2 // {type: "@T"}`: the library answers 1303, (A) answered
`unsupported "fuel"`; `checkFuel` now counts the names twice.) -/
theorem C04_text_checker_never_out_of_fuel :
    (∀ (root : Option Compile.CN) (ts : Compile.Types) (w : String), checkA root ts ≠ .error (.unsupported w)) ∧
    (∀ (root : Compile.CN) (ts : Compile.Types) (w : String), Compile.check root ts ≠ .error (.unsupported w)) :=
  ⟨checkA_no_fuel, check_no_fuel⟩

open BridgeCK in
/-- **C04_allowed_json_types_agree** (`collectAllowedJsonTypes`): for ANY amounts of fuel on the two sides, any path set
and any list of names, (A)'s `Compile.allowed` and (C)'s `CK.collectNames ∘ CK.collect` either stop with the same error
code (1302 undefined, 1303 recursion) or return the same set of allowed JSON types ((A): the list, `none` = every type;
(C): appended to its accumulator) — unless one of them ran out of fuel (`RelE.fuelA` / `fuelC`). Chains of references of
any length, type shortcuts and cycles included; the table: any types whose roots are literals without `email`, `any`
nodes, arrays, objects or nodes with a types list of type names (`headOK`; `nameOK`: single-byte characters, not a `#…` name; (C)'s table the
dump of (A)'s on such names: `EnvRelN`). -/
theorem C04_allowed_json_types_agree (ts : Compile.Types) (env : CK.Env) (hE : EnvRelN ts env)
    (hT : ∀ n cn, Compile.lookupT ts n = some cn → headOK cn = true)
    (fA fC : Nat) (found names : List String) (acc : List CK.JT) (hn : ∀ n ∈ names, nameOK n)
    (hf : ∀ n ∈ found, nameOK n) :
    RelE (RAllowed acc) (Compile.allowed ts fA found names)
      (CK.collectNames (CK.collect env fC) env (found.map name) (names.map name) acc) :=
  collect_rel ts env hE hT fA fC found names acc hn hf

open BridgeCK in
/-- **C04_example_alternatives_agree** (`buildList`): for ANY amounts of fuel, (A)'s `Compile.exampleAlts` and (C)'s
`CK.buildNames ∘ CK.build` either stop with the same error code or expand the same names in the same order and produce
one alternative per type root reached, each with the same verdict on the EXAMPLE token (`RAlts`: (C)'s checker applied
to the token's lexeme = (A)'s `litErr` / 1201) — unless one of them ran out of fuel. -/
theorem C04_example_alternatives_agree (ts : Compile.Types) (env : CK.Env) (hE : EnvRelN ts env)
    (hT : ∀ n cn, Compile.lookupT ts n = some cn → headOK cn = true) (tok : List UInt8) (d : Rules.Kind)
    (hd : RulesF.kindOfTok tok = some d) (hen : (RulesF.enumItem tok).isSome = true)
    (fA fC : Nat) (added names : List String) (l : List CK.Chk) (hn : ∀ n ∈ names, nameOK n)
    (ha : ∀ n ∈ added, nameOK n) :
    RelE (RAlts tok l) (Compile.exampleAlts ts tok fA added names)
      (CK.buildNames (CK.build env fC) env (names.map name) (added.map name, l)) :=
  build_rel ts env hE hT tok d hd hen fA fC added names l hn ha

open BridgeCK in
/-- **C04_models_agree_or_list** — step (2), which contains step (1): a literal node with an EXAMPLE `tok` and a types
list `names` (`{type: "@t"}`: one name; `{or: ["@a", "@b", …]}`: several, repetitions allowed), against ANY type table whose
roots the loops can read (`headOK`; (C)'s table the dump of (A)'s: `EnvRelN`), with any fuel that covers the list in hand
and the root lists of the table (`budget`; `Compile.checkFuel` does): (C)'s `checkNode` on the dump of the node is (A)'s
`checkNode` — `checkLinksOfNode` (1302 / 1303 / 1301: the same set of allowed JSON types) and `checkLiteralNode` (one
alternative: its first failing validator's code, 210 for a wrong kind; several alternatives all failing: 204; an
undefined name met by `buildList`: 1302), through chains of references of any length. (A)'s error carries position 0
(`Pos`). -/
theorem C04_models_agree_or_list (ts : Compile.Types) (env : CK.Env) (fuel : Nat) (hE : EnvRelN ts env)
    (hT : ∀ n cn, Compile.lookupT ts n = some cn → headOK cn = true)
    (names : List String) (nul : Bool) (jt : Compile.JT) (tok : List UInt8) (os : Bool)
    (hj : (jt == Compile.JT.mixed) = false) (htok : tokOK jt tok = true) (hb : ∀ n ∈ names, nameOK n)
    (hfuel : names.length + 1 + budget [] ts ≤ fuel) :
    CK.checkNode Compile.noOracles env (dumpNode (.ref names nul jt (some tok) os)) =
        panicOf (Compile.checkNode ts fuel (.ref names nul jt (some tok) os)) ∧
      Pos (Compile.checkNode ts fuel (.ref names nul jt (some tok) os)) :=
  refex_agree ts env fuel hE hT ⟨fuel - 1, by omega⟩ names nul jt tok os hj htok hb
    (node_fuel ts fuel _ (by simp only [Compile.namesCount]; omega))

open BridgeCK in
/-- **C04_models_agree_typed_literal** — step (1): `tok // {type: "@t"}`, where `@t` resolves through a chain of
`{type}` references of any length (or does not: 1302, 1303) -/
theorem C04_models_agree_typed_literal (ts : Compile.Types) (env : CK.Env) (fuel : Nat) (hE : EnvRelN ts env)
    (hT : ∀ n cn, Compile.lookupT ts n = some cn → headOK cn = true)
    (t : String) (nul : Bool) (jt : Compile.JT) (tok : List UInt8)
    (hj : (jt == Compile.JT.mixed) = false) (htok : tokOK jt tok = true) (hb : nameOK t)
    (hfuel : 2 + budget [] ts ≤ fuel) :
    CK.checkNode Compile.noOracles env (dumpNode (.ref [t] nul jt (some tok) false)) =
        panicOf (Compile.checkNode ts fuel (.ref [t] nul jt (some tok) false)) ∧
      Pos (Compile.checkNode ts fuel (.ref [t] nul jt (some tok) false)) :=
  C04_models_agree_or_list ts env fuel hE hT [t] nul jt tok false hj htok
    (fun n hn => by simp only [List.mem_singleton] at hn; exact hn ▸ hb) (by simpa using hfuel)

open BridgeCK in
/-- **C04_models_agree_compiled** — the largest class reached (`xr`): everything of `C04_models_agree` (literal nodes
with validators, `any` nodes, type shortcuts, arrays, objects with key shortcuts and every additionalProperties mode)
PLUS (1, 2) nodes that carry an EXAMPLE together with a types list (`type`, `or`; the token guessable and an enum item),
PLUS named types whose root is such a node or a type shortcut (aliases: chains and cycles of any length) — the hypothesis
`notRef` of `C04_models_agree` is gone; only the type a KEY shortcut names must not be a type shortcut / or-shortcut
(`keyDirect`: a literal, also a typed one `"ab" // {type: "@s"}`, an object, an array) —, PLUS (3) OR-SHORTCUTS
`@a | @b` anywhere, with the unnamed types `#…` they own inside named types: (C) visits them before every named type
(`typeGoesFirst`: `#` < `@`), each fails with 1302 or not at all, which is (A)'s `orShortsOK` stage. Type names start with
`@`, single-byte, pairwise different. On this class `checkA root ts` = `CK.checkSchema noOracles (dumpOf root ts)` read
back: the same verdict, the same first error code; the equation excludes "out of fuel" on both sides. Outside: key
shortcuts whose type is an alias `@k = @s` / `@k = @a | @b` (`actualRootType` through references), the `email` validator,
`any` on a type shortcut. -/
theorem C04_models_agree_compiled (root : Option Compile.CN) (ts : Compile.Types)
    (hroot : ∀ r, root = some r → xr ts r = true)
    (hts : ∀ t ∈ ts, xr ts t.2 = true ∧ byteChars t.1 ∧ (name t.1).head? = some 64)
    (hnd : (ts.map (·.1)).Nodup) :
    resOf (checkC root ts) = some (checkA root ts) :=
  -- `xr ⊆ xrk` (`C04_xrk_contains_xr`): the statement of `C04_models_agree_compiled_keys` on the smaller class
  agree_typed_k root ts (fun r h => xr_sub ts r (hroot r h)) (fun t ht => ⟨xr_sub ts t.2 (hts t ht).1, (hts t ht).2⟩) hnd

open BridgeCK in
/-- the statement `C04_models_agree_compiled_full` restricted to the decidable class `xr` -/
theorem C04_models_agree_compiled_partial (root : Option Compile.CN) (ts : Compile.Types)
    (hroot : ∀ r, root = some r → xr ts r = true)
    (hts : ∀ t ∈ ts, xr ts t.2 = true ∧ byteChars t.1 ∧ (name t.1).head? = some 64)
    (hnd : (ts.map (·.1)).Nodup) :
    match resOf (checkC root ts) with
    | none => True
    | some c => isUnsupported (checkA root ts) = false → codeOfA (checkA root ts) = codeOfA c := by
  rw [C04_models_agree_compiled root ts hroot hts hnd]
  exact fun _ => rfl

open BridgeCK in
/-- **the statement over ALL trees `compileNode` builds is false too** — `Compile.compileNode` accepts node tables no
loader produces: a type-shortcut node carrying nothing but a hand-written `type: "any"` compiles to `.any .mixed none`
(`wAny_type_compiled`), `1 // {type: "@t"}` to `wAnyRoot` (`wAny_root_compiled`), and on that pair the models disagree
(`C04_models_agree_full_false_any`: 1301 in (A), code 1 in (C)). The real library cannot reach it: `@x // {type: "any"}`
is refused with 501 (duplicate "type" rule) while the text is loaded — a shortcut always carries its synthesised rule.
The statement has to be about a decidable CLASS of trees: `C04_models_agree_compiled` (`xr`, which excludes `any` on a
type shortcut). -/
theorem C04_models_agree_compiled_full_false : ¬ C04_models_agree_compiled_full := by
  intro hfull
  have h := hfull (some wAnyRoot) wAnyTs
    (fun r hr => by
      cases hr
      obtain ⟨o, ho⟩ := wAny_root_compiled
      exact ⟨_, _, _, _, _, o, ho⟩)
    (fun t ht => by
      simp only [wAnyTs, List.mem_singleton] at ht
      subst ht
      obtain ⟨o, ho⟩ := wAny_type_compiled
      exact ⟨_, _, _, _, _, o, ho⟩)
  rw [wAny_facts.1] at h
  have h2 := h wAny_facts.2.2
  rw [wAny_facts.2.1] at h2
  exact absurd h2 (by decide +kernel)

open BridgeCK in
/-- **the unrestricted statement of the first part is false**: it contains the statement over the compiled trees. A
witness of its own, on a `CN` tree that `compileNode` never builds (`wBad_facts`): a literal node `5` with a `minLength`
validator whose compatibility flag says "compatible" — (A) trusts the flag and reports the validator (603), (C) recomputes
the compatibility from the dumped constraints (1117); `compileNode` computes the flag from the constraints (`bFinish`). -/
theorem C04_models_agree_full_false : ¬ C04_models_agree_full :=
  fun hfull => C04_models_agree_compiled_full_false fun root ts _ _ => hfull root ts

open BridgeCK in
/-- **C04_pipeline_with_checker_model_compiled** (`C04_pipeline_with_checker_model` / `C01_text_level_with_checker_model`
instantiated for the class): for schema and type TEXTS whose loaded form lies in `xr`, the text-level pipeline with the
checker MODEL of C04 inside (`E2E.validateTextCK`) gives the outcome of `E2E.validateText` on every document text — every
text-level theorem about `validateText` speaks about the pipeline whose checker stage `C04_checker_sound / _complete`
describe. -/
theorem C04_pipeline_with_checker_model_compiled (root : List UInt8) (types : List (String × List UInt8))
    (doc : List UInt8) (opt : Bool)
    (hcls : ∀ r ts, E2E.loadSchema root opt = .ok r → E2E.loadTypes types = .ok ts →
      (∀ x, r = some x → xr ts x = true) ∧
      (∀ t ∈ ts, xr ts t.2 = true ∧ byteChars t.1 ∧ (name t.1).head? = some 64) ∧ (ts.map (·.1)).Nodup) :
    E2E.validateTextCK root types doc opt = E2E.validateText root types doc opt :=
  C04_pipeline_with_checker_model root types doc opt fun r ts h1 h2 =>
    C04_models_agree_compiled r ts (hcls r ts h1 h2).1 (hcls r ts h1 h2).2.1 (hcls r ts h1 h2).2.2

namespace BridgeEx3
open BridgeCK Compile
def litI (tok : String) (rules : List RulesF.Rule) : CN := .lit { kind := .i, ex := sb tok, nul := false, rules := rules } false
def litS (tok : String) : CN := .lit { kind := .s, ex := sb tok, nul := false, rules := [] } false
def refI (names : List String) (tok : String) : CN := .ref names false .int (some (sb tok)) false
/-- `1 // {type: "@a"}`, `@a = 2 // {type: "@b"}`, `@b = 4 // {min: 3}`: the EXAMPLE 1 fails the rule two references
away (602 on both sides), and so does the EXAMPLE 2 of `@a` -/
def chainTs : Types := [("@a", refI ["@b"] "2"), ("@b", litI "4" [.min (sb "3") false])]
example : xr chainTs (refI ["@a"] "1") = true ∧
    (∀ t ∈ chainTs, xr chainTs t.2 = true ∧ byteChars t.1 ∧ (name t.1).head? = some 64) ∧
    (chainTs.map (·.1)).Nodup := by decide +kernel
example : checkC (some (refI ["@a"] "1")) chainTs = .err 602 0 0 none ∧
    codeOfA (checkA (some (refI ["@a"] "1")) chainTs) = some 602 := by decide +kernel
example : resOf (checkC (some (refI ["@a"] "1")) chainTs) = some (checkA (some (refI ["@a"] "1")) chainTs) :=
  C04_models_agree_compiled _ _ (fun r h => by cases h; decide +kernel) (by decide +kernel) (by decide +kernel)
/-- `5 // {type: "@a"}` passes the chain (accepted); `"x" // {type: "@a"}` has the wrong JSON type (1301) -/
example : checkC (some (refI ["@a"] "5")) [("@a", refI ["@b"] "4"), ("@b", litI "4" [.min (sb "3") false])] = .ok ∧
    (codeOfA (checkA (some (refI ["@a"] "5")) [("@a", refI ["@b"] "4"), ("@b", litI "4" [.min (sb "3") false])]) = none ∧ isUnsupported (checkA (some (refI ["@a"] "5")) [("@a", refI ["@b"] "4"), ("@b", litI "4" [.min (sb "3") false])]) = false) := by
  decide +kernel
example : checkC (some (.ref ["@a"] false .str (some (sb "\"x\"")) false)) chainTs = .err 1301 0 0 none ∧
    codeOfA (checkA (some (.ref ["@a"] false .str (some (sb "\"x\"")) false)) chainTs) = some 1301 := by decide +kernel
/-- `1 // {or: ["@s", "@b"]}` with `@s = "x"`, `@b = 4 // {min: 3}`: both alternatives fail — 204; with `@b` alone: 602;
with an undefined name: 1302 -/
def orTs : Types := [("@s", litS "\"x\""), ("@b", litI "4" [.min (sb "3") false])]
example : xr orTs (refI ["@s", "@b"] "1") = true := by decide +kernel
example : checkC (some (refI ["@s", "@b"] "1")) orTs = .err 204 0 0 none ∧
    codeOfA (checkA (some (refI ["@s", "@b"] "1")) orTs) = some 204 ∧
    checkC (some (refI ["@s", "@nope"] "1")) orTs = .err 1302 0 0 none ∧
    codeOfA (checkA (some (refI ["@s", "@nope"] "1")) orTs) = some 1302 ∧
    checkC (some (refI ["@s", "@b"] "7")) orTs = .ok ∧ (codeOfA (checkA (some (refI ["@s", "@b"] "7")) orTs) = none ∧ isUnsupported (checkA (some (refI ["@s", "@b"] "7")) orTs) = false) := by
  decide +kernel
/-- the witness that exposed the fuel slip: `@T = 1 // {or: ["@x" × 9, "@a"]}`, `@a = 2 // {type: "@T"}`, `@x = 3`: the
chain comes back to `@a` — 1303 on both sides (before the repair of `checkFuel`: `unsupported "fuel"` in (A)) -/
def cycTs : Types := [("@T", refI (List.replicate 9 "@x" ++ ["@a"]) "1"), ("@a", refI ["@T"] "2"), ("@x", litI "3" [])]
example : (∀ t ∈ cycTs, xr cycTs t.2 = true ∧ byteChars t.1 ∧ (name t.1).head? = some 64) ∧
    checkC none cycTs = .err 1303 0 0 (some (name "@T")) ∧ codeOfA (checkA none cycTs) = some 1303 := by decide +kernel
/-- a named type that is an alias of a type shortcut: `@m = @s`, used by `"y" // {type: "@m"}` (accepted: every JSON
type is allowed, the alternative `@s` admits the token) -/
def aliasTs : Types := [("@m", .ref ["@s"] false .mixed none false), ("@s", litS "\"x\"")]
example : (∀ t ∈ aliasTs, xr aliasTs t.2 = true) ∧ xr aliasTs (.ref ["@m"] false .str (some (sb "\"y\"")) false) = true ∧
    checkC (some (.ref ["@m"] false .str (some (sb "\"y\"")) false)) aliasTs = .ok ∧
    (codeOfA (checkA (some (.ref ["@m"] false .str (some (sb "\"y\"")) false)) aliasTs) = none ∧ isUnsupported (checkA (some (.ref ["@m"] false .str (some (sb "\"y\"")) false)) aliasTs) = false) := by decide +kernel
/-- OR-SHORTCUTS. `@o = @s | @nope` (a named type that IS an or-shortcut: its unnamed type `#@o` is checked before every
named type — 1302 in (C), `orShortsOK` in (A)); `@t = { "k": @s | @b }` (an or-shortcut inside a named type: accepted);
`[ @s | @b ]` at the root -/
def orShort (names : List String) : CN := .ref names false .mixed none true
def osBad : Types := [("@o", orShort ["@s", "@nope"]), ("@s", litS "\"x\"")]
def osGood : Types := [("@t", .obj [("k", false, true, false, orShort ["@s", "@b"])] .absent false false),
  ("@s", litS "\"x\""), ("@b", litI "4" [.min (sb "3") false])]
example : (∀ t ∈ osBad, xr osBad t.2 = true ∧ byteChars t.1 ∧ (name t.1).head? = some 64) ∧ (osBad.map (·.1)).Nodup ∧
    (∀ t ∈ osGood, xr osGood t.2 = true ∧ byteChars t.1 ∧ (name t.1).head? = some 64) ∧ (osGood.map (·.1)).Nodup ∧
    xr osGood (.arr [orShort ["@s", "@b"]] false false) = true := by decide +kernel
example : checkC none osBad = .err 1302 0 0 (some (name "#@o")) ∧ codeOfA (checkA none osBad) = some 1302 ∧
    (dumpOf none osGood).types.length = 4 ∧
    checkC (some (.arr [orShort ["@s", "@b"]] false false)) osGood = .ok ∧
    codeOfA (checkA (some (.arr [orShort ["@s", "@b"]] false false)) osGood) = none ∧
    isUnsupported (checkA (some (.arr [orShort ["@s", "@b"]] false false)) osGood) = false := by decide +kernel
example : resOf (checkC none osBad) = some (checkA none osBad) :=
  C04_models_agree_compiled _ _ (fun r h => by cases h) (by decide +kernel) (by decide +kernel)
/-- a key shortcut whose type is a typed literal: `{ @k: 1 }` with `@k = "ab" // {type: "@s"}` (accepted), and with
`@k = 5 // {type: "@n"}` (not a string: 1304 on both sides) -/
def keyTs (k : CN) : Types := [("@k", k), ("@s", litS "\"x\""), ("@n", litI "4" [])]
def keyRoot : CN := .obj [("k", true, true, false, litI "1" [])] .absent false false
example : xr (keyTs (.ref ["@s"] false .str (some (sb "\"ab\"")) false)) keyRoot = true ∧
    xr (keyTs (refI ["@n"] "5")) keyRoot = true ∧
    checkC (some keyRoot) (keyTs (.ref ["@s"] false .str (some (sb "\"ab\"")) false)) = .ok ∧
    codeOfA (checkA (some keyRoot) (keyTs (.ref ["@s"] false .str (some (sb "\"ab\"")) false))) = none ∧
    checkC (some keyRoot) (keyTs (refI ["@n"] "5")) = .err 1304 0 0 none ∧
    codeOfA (checkA (some keyRoot) (keyTs (refI ["@n"] "5"))) = some 1304 := by decide +kernel
/-- non-vacuity of the node-level statements: table, environment and fuel as in `chainTs` -/
example : tokOK .int (sb "1") = true ∧ (∀ n cn, lookupT chainTs n = some cn → headOK cn = true) ∧
    2 + budget [] chainTs ≤ checkFuel none chainTs := by
  refine ⟨by decide +kernel, ?_, by decide +kernel⟩
  exact lookup_class chainTs (fun cn => headOK cn = true) (by decide +kernel)
end BridgeEx3

/-! ### Bridge (A)∩(C), fourth part: KEY SHORTCUTS whose type is an alias

`BridgeCK4Keys.lean` (`actualRootType` of the two models: (A)'s `Compile.actualRoot`, (C)'s `CK.actualRoot` / `CK.actualLoop`;
(A)'s fuel is enough), `BridgeCK4Tree.lean` (tree and type table on the class `xrk` ⊇ `xr`). -/

open BridgeCK in
/-- **C04_key_root_type_agrees** (`actualRootTypeVisiting`): on tables in relation `EnvRelN` whose roots the loops can
read (`headOK`), for any path `vis` of pairwise different defined names walked so far and any amounts of fuel that leave
`|table| + 2` units minus that path on each side, (C)'s `CK.actualRoot` on the dump of the type `n` ANSWERS (`some`: not
out of fuel) and its answer is (A)'s `Compile.actualRoot`, `none` read as `mixed` (`normJ`) — alias chains `@k = @s` of any
length, or-shortcuts `@k = @a | @b` (the same root type on every branch, else mixed; (C) compares by `eraseDups`, (A) by
`all (· == r)`), cycles (`mixed` on both sides) and undefined names (`mixed`) included. -/
theorem C04_key_root_type_agrees (ts : Compile.Types) (env : CK.Env) (hE : EnvRelN ts env)
    (hT : ∀ n cn, Compile.lookupT ts n = some cn → headOK cn = true)
    (fA fC : Nat) (vis : List String) (n : String) (cn : Compile.CN) (hl : Compile.lookupT ts n = some cn)
    (hnd : vis.Nodup) (hv : ∀ v ∈ vis, nameOK v ∧ (Compile.lookupT ts v).isSome = true)
    (hA : ts.length + 2 ≤ fA + vis.length) (hC : ts.length + 2 ≤ fC + vis.length) :
    CK.actualRoot env fC (vis.map name) (dumpNode cn).hd.info = some (normJ (Compile.actualRoot ts fA vis n)) :=
  have := Visit.unvisited_path ts vis hnd fun v h => (hv v h).2
  actual_agree ts env hE hT fA fC vis n cn hl (fun v h => (hv v h).1) (by omega) (by omega)

open BridgeCK in
/-- **C04_key_root_type_fuel_enough**: `Compile.checkFuel` IS enough for (A)'s `actualRoot` — with `checkFuel` units
(≥ `|table| + 2`) the key-shortcut test `actualRoot … != some .str` of `Compile.checkNode` gives what it gives with ANY
larger amount: the silent branch `| 0, _, _ => none` ("out of fuel = mixed") never decides, on any table whose type
names are single-byte and whose roots are `headOK`. No repair of `Compile.lean` was needed here. -/
theorem C04_key_root_type_fuel_enough (ts : Compile.Types) (hb : ∀ t ∈ ts, byteChars t.1)
    (hT : ∀ t ∈ ts, headOK t.2 = true) (r : Option Compile.CN) (f : Nat) (hf : Compile.checkFuel r ts ≤ f)
    (n : String) :
    (Compile.actualRoot ts (Compile.checkFuel r ts) [] n != some .str) = (Compile.actualRoot ts f [] n != some .str) := by
  have h0 : ts.length + 2 ≤ Compile.checkFuel r ts := by unfold Compile.checkFuel; omega
  have hE := envRelN_ext ts [] hb (fun u hu => by cases hu)
  have := actualA_fuel_enough ts _ hE (lookup_class ts (fun cn => headOK cn = true) hT)
    (Compile.checkFuel r ts) f h0 (by omega) n
  rw [← normJ_str, ← normJ_str, this]

open BridgeCK in
/-- `xrk ⊇ xr`: the class of `C04_models_agree_compiled_keys` contains the class of `C04_models_agree_compiled` -/
theorem C04_xrk_contains_xr (ts : Compile.Types) (cn : Compile.CN) (h : xr ts cn = true) : xrk ts cn = true :=
  xr_sub ts cn h

open BridgeCK in
/-- **C04_models_agree_compiled_keys** — `C04_models_agree_compiled` with the hypothesis `keyDirect` gone: the class
`xrk` is `xr` where the type a KEY shortcut names may be ANY named type of the table — a type shortcut `@k = @s`, an
or-shortcut `@k = @a | @b`, chains and cycles of them of any length (`actualRootType` follows the references: the key type
must resolve to a string root, else 1304; undefined: 1302). On this class `checkA root ts` =
`CK.checkSchema noOracles (dumpOf root ts)` read back: the same verdict, the same first error code; the equation
excludes "out of fuel" on both sides ((C)'s `crash "actualRootType"`, (A)'s `unsupported "fuel"`), and (A)'s silent
"out of fuel = mixed" inside `actualRoot` is not reached (`C04_key_root_type_fuel_enough`). Still outside: the `email`
validator, `any` on a type shortcut. -/
theorem C04_models_agree_compiled_keys (root : Option Compile.CN) (ts : Compile.Types)
    (hroot : ∀ r, root = some r → xrk ts r = true)
    (hts : ∀ t ∈ ts, xrk ts t.2 = true ∧ byteChars t.1 ∧ (name t.1).head? = some 64)
    (hnd : (ts.map (·.1)).Nodup) :
    resOf (checkC root ts) = some (checkA root ts) :=
  agree_typed_k root ts hroot hts hnd

namespace BridgeEx4
open BridgeCK Compile BridgeEx3
def aliasOf (n : String) : CN := .ref [n] false .mixed none false
/-- `{@k: 1}` -/
def kRoot : CN := keyRoot
/-- `@k = @s`, `@s = "x"`: accepted; the class `xrk` holds, `xr` does not (`keyDirect` fails) -/
def tsAlias : Types := [("@k", aliasOf "@s"), ("@s", litS "\"x\"")]
/-- `@k = @n`, `@n = 4`: 1304 -/
def tsNum : Types := [("@k", aliasOf "@n"), ("@n", litI "4" [])]
/-- `@k = @k2`, `@k2 = @k`: a cycle — mixed, 1304 -/
def tsCyc : Types := [("@k", aliasOf "@k2"), ("@k2", aliasOf "@k")]
/-- `@k = @s | @n`: two different roots — mixed, 1304; `@k = @s | @s2`: both strings — accepted -/
def tsOr : Types := [("@k", orShort ["@s", "@n"]), ("@s", litS "\"x\""), ("@n", litI "4" [])]
def tsOrS : Types := [("@k", orShort ["@s", "@s2"]), ("@s", litS "\"x\""), ("@s2", aliasOf "@s")]
/-- a chain of three aliases and an undefined key type -/
def tsChain : Types := [("@k", aliasOf "@a"), ("@a", aliasOf "@b"), ("@b", aliasOf "@s"), ("@s", litS "\"x\"")]

def cls (ts : Types) : Bool :=
  xrk ts kRoot && ts.all (fun t => xrk ts t.2 && decide (byteChars t.1) && ((name t.1).head? == some 64)) &&
    decide ((ts.map (·.1)).Nodup)

example : cls tsAlias = true ∧ cls tsNum = true ∧ cls tsCyc = true ∧ cls tsOr = true ∧ cls tsOrS = true ∧
    cls tsChain = true ∧ xr tsAlias kRoot = false ∧ xr tsOr kRoot = false := by decide +kernel
example : checkC (some kRoot) tsAlias = .ok ∧ (codeOfA (checkA (some kRoot) tsAlias) = none ∧ isUnsupported (checkA (some kRoot) tsAlias) = false) ∧
    checkC (some kRoot) tsNum = .err 1304 0 0 none ∧ codeOfA (checkA (some kRoot) tsNum) = some 1304 ∧
    checkC (some kRoot) tsCyc = .err 1304 0 0 none ∧ codeOfA (checkA (some kRoot) tsCyc) = some 1304 ∧
    checkC (some kRoot) tsOr = .err 1304 0 0 none ∧ codeOfA (checkA (some kRoot) tsOr) = some 1304 ∧
    checkC (some kRoot) tsOrS = .ok ∧ (codeOfA (checkA (some kRoot) tsOrS) = none ∧ isUnsupported (checkA (some kRoot) tsOrS) = false) ∧
    checkC (some kRoot) tsChain = .ok ∧ (codeOfA (checkA (some kRoot) tsChain) = none ∧ isUnsupported (checkA (some kRoot) tsChain) = false) ∧
    checkC (some kRoot) [("@s", litS "\"x\"")] = .err 1302 0 0 none ∧
    codeOfA (checkA (some kRoot) [("@s", litS "\"x\"")]) = some 1302 := by decide +kernel
/-- the theorem instantiated on the aliasOf, the cycle and the or-shortcut -/
example : resOf (checkC (some kRoot) tsAlias) = some (checkA (some kRoot) tsAlias) :=
  C04_models_agree_compiled_keys _ _ (fun r h => by cases h; decide +kernel) (by decide +kernel) (by decide +kernel)
example : resOf (checkC (some kRoot) tsCyc) = some (checkA (some kRoot) tsCyc) :=
  C04_models_agree_compiled_keys _ _ (fun r h => by cases h; decide +kernel) (by decide +kernel) (by decide +kernel)
example : resOf (checkC (some kRoot) tsOr) = some (checkA (some kRoot) tsOr) :=
  C04_models_agree_compiled_keys _ _ (fun r h => by cases h; decide +kernel) (by decide +kernel) (by decide +kernel)
/-- non-vacuity of `C04_key_root_type_agrees` / `_fuel_enough`: the chain table, the empty path, `checkFuel` units -/
example : (∀ t ∈ tsChain, byteChars t.1) ∧ (∀ t ∈ tsChain, headOK t.2 = true) ∧
    tsChain.length + 2 ≤ checkFuel (some kRoot) tsChain + ([] : List String).length ∧
    Compile.actualRoot tsChain (checkFuel (some kRoot) tsChain) [] "@k" = some .str ∧
    Compile.actualRoot tsChain 3 [] "@k" = none := by decide +kernel
end BridgeEx4

end Props.C04
