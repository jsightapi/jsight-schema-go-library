import JSight.TreeEvents
import JSight.TreeSpans
import JSight.TreeNested
import JSight.TreeRebuild
import JSight.SchemaEvents
import JSight.EnumPlain
import JSight.DocCorollaries
/-!
# C06 — Lexical events faithfully describe the scanned text

Spec: JSON trees *with layout* (`JA`: every inter-token blank run explicit), `JA.render` (the text the
RFC grammar generates for the tree) and `evsAt o v` (the events the tree denotes at offset `o`, spans
computed from rendered lengths only). Model: `JsonScan.events` (`NextLexeme` of `formats/json`).
The theorems hold for every valid tree — no bound on depth, width or token length — every layout and
both scanner modes.
Second sentence of the property (the clones): `C06_schema_events_of_tree` — the schema scanner model
(`SchemaScan`, tied by `schema-diff`) scans every plain-JSON value tree (numbers without exponent, any layout
incl. LF / CR line breaks) into exactly the events the tree denotes plus one `newLine` per line break;
`C06_schema_is_json_plus_newlines` — on the same bytes the JSON scanner model delivers exactly the schema
scanner's stream without the `newLine` events; `C06_enum_events` (= `C18_enum_events`) — the enum-rule scanner on
`ws [ items ] ws`.
-/
namespace Props.C06
open JsonScan

/-- the events delivered for a valid JSON text are exactly the events its tree denotes
(begin/end pairs, literal and key spans = the source tokens, containers from bracket to bracket) -/
theorem C06_events_of_tree (allow : Bool) (v : JA) (hv : v.Valid) (ws0 ws1 : List Cls) (h0 : IsWs ws0) (h1 : IsWs ws1)
    (bs : List UInt8) (hbs : bs.map classify = ws0 ++ (v.render ++ ws1)) :
    events allow bs = .ok (evsAt ws0.length v) := by
  have hl : bs.length = (ws0 ++ (v.render ++ ws1)).length := by rw [← hbs, List.length_map]
  unfold events
  rw [hbs, hl]
  exact JsonScan.C06_events_of_tree allow v hv ws0 ws1 h0 h1

/-- every span lies inside the input and is well ordered -/
theorem C06_spans (allow : Bool) (v : JA) (hv : v.Valid) (ws0 ws1 : List Cls) (h0 : IsWs ws0) (h1 : IsWs ws1)
    (bs : List UInt8) (hbs : bs.map classify = ws0 ++ (v.render ++ ws1)) :
    ∃ evs, events allow bs = .ok evs ∧ ∀ e ∈ evs, e.b ≤ e.e ∧ e.e < bs.length := by
  have hl : bs.length = (ws0 ++ (v.render ++ ws1)).length := by rw [← hbs, List.length_map]
  obtain ⟨evs, he, hs⟩ := JsonScan.C06_spans allow v hv ws0 ws1 h0 h1
  refine ⟨evs, ?_, fun e h => by rw [hl]; exact hs e h⟩
  unfold events
  rw [hbs, hl]
  exact he

/-- the delivered events form a properly nested begin/end sequence; every closing event pairs with the
innermost open one and carries its begin offset -/
theorem C06_nested (allow : Bool) (v : JA) (hv : v.Valid) (ws0 ws1 : List Cls) (h0 : IsWs ws0) (h1 : IsWs ws1)
    (bs : List UInt8) (hbs : bs.map classify = ws0 ++ (v.render ++ ws1)) :
    ∃ evs, events allow bs = .ok evs ∧ wn evs [] = true :=
  ⟨_, C06_events_of_tree allow v hv ws0 ws1 h0 h1 bs hbs, evsAt_wellNested _ v⟩

/-- the JSON value (the tree without layout) can be rebuilt from the delivered events and the token slices
their spans cut out of the input, without looking at the input for structure -/
theorem C06_rebuild (allow : Bool) (v : JA) (hv : v.Valid) (ws0 ws1 : List Cls) (h0 : IsWs ws0) (h1 : IsWs ws1)
    (bs : List UInt8) (hbs : bs.map classify = ws0 ++ (v.render ++ ws1)) :
    ∃ evs f, events allow bs = .ok evs ∧ rebV (bs.map classify) f evs = some (strip v, []) := by
  obtain ⟨f, hf⟩ := rebuild_tree v hv ws0 ws1
  exact ⟨_, f, C06_events_of_tree allow v hv ws0 ws1 h0 h1 bs hbs, by rw [hbs]; exact hf⟩

/-- RFC 8259 scalar tokens are what the tree's leaves may be: strings, numbers, the three words -/
theorem C06_string_token (b : List Cls) (hb : StrBody b) : IsScalar (.quote :: (b ++ [.quote])) := string_isScalar b hb
theorem C06_number_token (t : NumTok) (wf : t.WF) : IsScalar t.render := number_isScalar t wf
theorem C06_key_token (b : List Cls) (hb : StrBody b) : IsKey (.quote :: (b ++ [.quote])) := string_isKey b hb

/-! ### the clones -/

/-- the schema scanner on plain JSON: exactly the tree's events, plus one `newLine` per line break -/
theorem C06_schema_events_of_tree (v : SchemaScan.Tree) (hv : v.Json) (ws0 ws1 : List SchemaScan.Cls)
    (h0 : SchemaScan.IsWs ws0) (h1 : SchemaScan.IsWs ws1)
    (bs : List UInt8) (hbs : bs.map SchemaScan.classify = ws0 ++ (v.render ++ ws1)) :
    SchemaScan.scanAll bs
      = .ok (SchemaScan.nlEvs 0 ws0 ++ (SchemaScan.schemaEvsAt ws0.length v ++
          SchemaScan.nlEvs (ws0.length + v.render.length) ws1)) :=
  SchemaScan.C06_schema_events_of_json_text v hv ws0 ws1 h0 h1 bs hbs

/-- clone agreement: on the bytes of a plain-JSON text the JSON scanner delivers the schema scanner's stream
with the `newLine` events removed, and the schema scanner adds nothing but `newLine` events -/
theorem C06_schema_is_json_plus_newlines (allow : Bool) (v : SchemaScan.Tree) (hv : v.Json)
    (ws0 ws1 : List SchemaScan.Cls) (h0 : SchemaScan.IsWs ws0) (h1 : SchemaScan.IsWs ws1)
    (bs : List UInt8) (hbs : bs.map SchemaScan.classify = ws0 ++ (v.render ++ ws1)) :
    ∃ sevs, SchemaScan.scanAll bs = .ok sevs ∧ JsonScan.events allow bs = .ok (SchemaScan.jsonPart sevs) ∧
      sevs.all SchemaScan.jsonOrNl = true :=
  let ⟨sevs, a, b, c, _⟩ := SchemaScan.C13_schema_scan_is_json_scan_plus_newlines allow v hv ws0 ws1 h0 h1 bs hbs
  ⟨sevs, a, b, c⟩

open EnumScan in
/-- the enum-rule scanner on a list of scalar literals -/
theorem C06_enum_events (pre ws0 post : List UInt8) (items : List Item)
    (hpre : IsWsB pre) (hws0 : IsWsB ws0) (hpost : IsWsB post) (hv : GValidItems items)
    (hnd : (items.map itemKey).Nodup) :
    scanAll (renderEnum pre ws0 items post) = .ok (enumEvsOf pre ws0 items post) :=
  enum_events pre ws0 post items hpre hws0 hpost hv hnd

end Props.C06

/-! ## The lexemes of the json `Document` OBJECT (carry-over of `C06_events_of_tree` through the C11 bridge) -/
namespace Props.C06
section document
open JsonScan DocCursor

/-- for a valid JSON tree with layout (the hypotheses of `C06_events_of_tree`), both modes: the deliveries of `NextLexeme`
on a fresh document are exactly the events the tree denotes, in order, each without error, then EOF; and after ANY history
of `NextLexeme` / `Check` / `Len` calls a `NextLexeme` delivers the element of that sequence the cursor stands at -
`cursorOf ops` (`C11_doc_cursor_after`: 0 at the start and after the first `Check` / first `Len`, +1 per `NextLexeme`) -/
theorem C06_document_lexemes (allow : Bool) (v : JA) (hv : v.Valid) (ws0 ws1 : List Cls) (h0 : IsWs ws0) (h1 : IsWs ws1)
    (bs : List UInt8) (hbs : bs.map classify = ws0 ++ (v.render ++ ws1)) :
    scanAll bs allow ((evsAt ws0.length v).length + 1) = (evsAt ws0.length v).map .lex ++ [.eof] ∧
    ∀ ops : List Op, cursorOf ops ≤ (evsAt ws0.length v).length →
      (((Doc.new bs allow).run ops).2.step .next).1 =
        .next (((evsAt ws0.length v).map NextRes.lex ++ [.eof])[cursorOf ops]?.getD .eof) :=
  DocCorollaries.doc_lexemes bs allow _ (C06_events_of_tree allow v hv ws0 ws1 h0 h1 bs hbs)
    (DocCorollaries.wn_noTop _ [] (evsAt_wellNested _ v))

/-- non-vacuity: ` [1]` = `[32, 91, 49, 93]`: six events then EOF; after `NextLexeme, Check, NextLexeme` the cursor is 1 -/
example :
    scanAll [32, 91, 49, 93] false 7 =
      [.lex ⟨.arrB, 1, 1⟩, .lex ⟨.itemB, 2, 2⟩, .lex ⟨.litB, 2, 2⟩, .lex ⟨.litE, 2, 2⟩, .lex ⟨.itemE, 2, 2⟩,
       .lex ⟨.arrE, 1, 3⟩, .eof] ∧
    (((Doc.new [32, 91, 49, 93] false).run [.next, .check, .next]).2.step .next).1 = .next (.lex ⟨.itemB, 2, 2⟩) := by
  have hv : (JA.arr [] [([], .scalar [.d19], [])]).Valid := by
    have n1 : IsScalar [.d19] := ⟨.d19, [], .d1, false, .d1, rfl, rfl, rfl, rfl⟩
    simp [JA.Valid, ValidItems, IsWs, n1]
  obtain ⟨a, b⟩ := C06_document_lexemes false (.arr [] [([], .scalar [.d19], [])]) hv [.sp] [] (by simp [IsWs, Cls.isWs])
    (by simp [IsWs]) [32, 91, 49, 93] (by decide +kernel)
  exact ⟨a, b [.next, .check, .next] (by decide +kernel)⟩

end document
end Props.C06

#print axioms Props.C06.C06_document_lexemes
