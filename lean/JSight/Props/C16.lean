import JSight.Ast
import JSight.LoaderProofs
import JSight.LoaderTreeMirrors
import JSight.LoaderTreeDup
import JSight.AstTextThm
import JSight.AstTextTree
import JSight.AnnotExamples
import JSight.ATreeStrip
import JSight.ATreeExamples
import JSight.AstTextQ
import JSight.AnnotQExamples
import JSight.AstTextShort
import JSight.ShortE2EExamples
import JSight.AstTextShort2Tree
/-!
# C16 — GetAST mirrors the schema text: the decision logic that is a theorem

* `C16_enum_first`, `C16_or_second`, `C16_type_third`, `C16_precision_fourth`, `C16_kind_last`: the schema type shown for a node is decided by `enum`, then `or`, then an
  explicit `type` rule, then `precision` (decimal), then the JSON kind of the example.
* `C16_rules_order`: the AST lists the rules in the order of the constraint map (insertion order = the
  order written, C19), with `or` in place and the synthetic `types` entry hidden.
* `C16_text_mirrors_tree`: text → node tree for schemas that are plain JSON (no annotations): scanner model +
  loader model (`loadText`, tied by `loader-diff` against the real `GetAST`) build exactly one node per value
  of the text, numbered in source order (`nodesOf`): kind of the value, parent, children in source order,
  object keys in source order with the key tokens' spans, literal values with the literal tokens' spans, no
  rules, no comment — for every value tree, any depth / width / layout incl. line breaks, provided the keys of
  each object are pairwise distinct after decoding. `C16_text_duplicate_key`: otherwise error 402 at the first
  key (in source order) that repeats an earlier key of its object. `C16_text_total`: one of the two.
With annotations, the whole `GetAST()` output is compared with the AST computed from the generator's abstract
schema (harness `c16-ast`) and with the loader model (`loader-diff`).
-/
namespace Props.C16
open Ast OMap

theorem C16_enum_first (cs : List CK) (k : String) (h : .enum ∈ cs) : schemaType cs k = "enum" := by
  simp [schemaType, h]

theorem C16_or_second (cs : List CK) (k : String) (h1 : .enum ∉ cs) (h2 : .or ∈ cs) : schemaType cs k = "mixed" := by
  simp [schemaType, h1, h2]

theorem C16_type_third (cs : List CK) (k n : String) (h1 : .enum ∉ cs) (h2 : .or ∉ cs)
    (h3 : cs.find? CK.isType = some (.type n)) : schemaType cs k = n := by
  simp [schemaType, h1, h2, h3]

theorem C16_precision_fourth (cs : List CK) (k : String) (h1 : .enum ∉ cs) (h2 : .or ∉ cs)
    (h3 : cs.find? CK.isType = none) (h4 : .precision ∈ cs) :
    schemaType cs k = "decimal" := by
  simp [schemaType, h1, h2, h3, h4]

theorem C16_kind_last (cs : List CK) (k : String) (h1 : .enum ∉ cs) (h2 : .or ∉ cs)
    (h3 : cs.find? CK.isType = none) (h4 : .precision ∉ cs) :
    schemaType cs k = k := by
  simp [schemaType, h1, h2, h3, h4]

/-- names of the collected rules: the constraint names in map order, `types` hidden -/
theorem collect_names_aux (cs : List CK) (acc : Ref String CK)
    (hn : ((acc.map (·.1)) ++ ((cs.filter (· ≠ .typesList)).map CK.name)).Nodup) :
    (cs.foldl addRule acc).map (·.1) = acc.map (·.1) ++ (cs.filter (· ≠ .typesList)).map CK.name := by
  induction cs generalizing acc with
  | nil => simp
  | cons c cs ih =>
    have key : ∀ (nm : String) (v : CK), nm ∉ acc.map (·.1) → (Ref.set acc nm v).map (·.1) = acc.map (·.1) ++ [nm] := by
      intro nm v hnm
      have : Ref.has acc nm = false := by
        simp only [Ref.has, Bool.eq_false_iff, ne_eq, List.any_eq_true, not_exists, not_and]
        intro e he heq
        exact hnm (List.mem_map.2 ⟨e, he, by simpa using heq⟩)
      simp [Ref.set, this]
    by_cases hc : c = .typesList
    · subst hc
      simp only [List.foldl_cons]
      have : (CK.typesList :: cs).filter (· ≠ .typesList) = cs.filter (· ≠ .typesList) := by simp
      rw [this] at hn ⊢
      exact ih acc hn
    · have hf : (c :: cs).filter (· ≠ .typesList) = c :: cs.filter (· ≠ .typesList) := by simp [hc]
      rw [hf] at hn ⊢
      simp only [List.map_cons] at hn ⊢
      have hnm : c.name ∉ acc.map (·.1) := by
        intro hmem
        have := List.nodup_append.1 hn
        exact this.2.2 _ hmem _ (List.mem_cons_self) rfl
      have step : (addRule acc c).map (·.1) = acc.map (·.1) ++ [c.name] := by
        cases c with
        | typesList => exact absurd rfl hc
        | or => exact key "or" _ hnm
        | enum => exact key _ _ hnm
        | type n => exact key _ _ hnm
        | precision => exact key _ _ hnm
        | other n => exact key _ _ hnm
      simp only [List.foldl_cons]
      rw [ih _ (by rw [step]; simpa [List.append_assoc] using hn), step]
      simp [List.append_assoc]

theorem C16_rules_order (cs : List CK) (hn : ((cs.filter (· ≠ .typesList)).map CK.name).Nodup) :
    (collectRules cs).map (·.1) = (cs.filter (· ≠ .typesList)).map CK.name := by
  have := collect_names_aux cs [] (by simpa using hn)
  simpa [collectRules] using this

/-- loader model (text → node tree, compared with the real `GetAST()` by `loader-diff`): an annotation is bound
to the node created last, together with the number of nodes created on its line -/
theorem C16_annotation_binds_last_node (src : Array UInt8) (st : Loader.St) (e : SchemaScan.Ev) (hm : st.mode = .default)
    (he : e.ty = .inlAnnB ∨ e.ty = .mlAnnB) :
    ∃ st', Loader.step src st e = .ok st' ∧ st'.rsNode = st.last ∧ st'.rsCount = st.perLine ∧ st'.nodes = st.nodes :=
  Loader.annotation_binds_last_node src st e hm he

/-- and its rules are accepted only when exactly one node was created on that line (errors 803 / 804) -/
theorem C16_rule_needs_exactly_one_node (src : Array UInt8) (st : Loader.St) (e : SchemaScan.Ev) (hrs : st.rs = .value) :
    (st.rsCount = 0 → Loader.ruleLoad src st e = .error (.ruleWithoutExample e.b)) ∧
    (st.rsCount ≥ 2 → Loader.ruleLoad src st e = .error (.ruleForSeveralNode e.b)) :=
  Loader.rule_needs_exactly_one_node src st e hrs

/-! Non-vacuity -/
example : schemaType [.other "min", .type "decimal", .precision] "float" = "decimal" := by decide +kernel
example : schemaType [.other "min", .or, .typesList, .type "mixed"] "integer" = "mixed" := by decide +kernel
example : (collectRules [.other "min", .or, .typesList, .other "nullable"]).map (·.1) = ["min", "or", "nullable"] := by decide +kernel

/-! ### text → node tree for plain-JSON schemas -/
open SchemaScan in
theorem C16_text_mirrors_tree (v : Tree) (hv : v.Valid) (ws0 ws1 : List Cls)
    (h0 : SchemaScan.IsWs ws0) (h1 : SchemaScan.IsWs ws1)
    (bs : List UInt8) (hbs : bs.map SchemaScan.classify = ws0 ++ (v.render ++ ws1))
    (hd : Loader.KeysDistinct bs.toArray ws0.length v) :
    ∃ st, Loader.loadText bs = .ok st ∧ st.root = some 0 ∧ st.nodes.toList = Loader.nodesOf none 0 ws0.length v :=
  Loader.C16_loadText_mirrors_tree v hv ws0 ws1 h0 h1 bs hbs hd

open SchemaScan in
theorem C16_text_duplicate_key (v : Tree) (hv : v.Valid) (ws0 ws1 : List Cls)
    (h0 : SchemaScan.IsWs ws0) (h1 : SchemaScan.IsWs ws1)
    (bs : List UInt8) (hbs : bs.map SchemaScan.classify = ws0 ++ (v.render ++ ws1)) (p : Nat)
    (hd : Loader.DupAt bs.toArray p ws0.length v) :
    Loader.loadText bs = .error (Loader.showLErr (.duplicateKey p)) :=
  Loader.C16_loadText_duplicate_key v hv ws0 ws1 h0 h1 bs hbs p hd

/-- every plain-JSON text either loads into the mirror of its tree or has a duplicate key -/
theorem C16_text_total (src : Array UInt8) (v : SchemaScan.Tree) (o : Nat) :
    Loader.KeysDistinct src o v ∨ ∃ p, Loader.DupAt src p o v := Loader.keys_dichotomy src v o

/-! ### text → AST with rules, values, sources and notes (`AstText.astOfText`, tied by `c16-text`)

`astOfText` = scanner model → loader model → the AST builders of the library (`ASTNode()` of the nodes and of the
constraints, with what the constraint constructors keep of a rule value). `astOfScalar tok pairs note` is the spec on
the TREE of an annotated scalar: one literal node, token kind and (unquoted) literal value of the example, schema type
by `Ast.schemaType`, one rule node per (name, value) pair as written, in written order, the note trimmed. -/

open Lay SchemaScan in
/-- **annotated scalar, text → AST** (partial: top-level scalar; rule objects with bare names and scalar values; the
class excluded is explicit and decidable: no rule is named `enum` / `allOf` / `or`, whose values are lists). For
every layout the grammar allows — `//` or `/* */` form, blanks, line breaks inside `/* */`, trailing comma, blanks
around the note — the model's AST of the TEXT is the AST of the TREE (value token, (name, value) pairs in written
order, note). -/
theorem C16_ast_of_annotated_tree_partial (a : Ann) (ha : a.isAnn = true) (tok s1 s2 : List UInt8) (ob : BObj)
    (s3 n1 note tl : List UInt8) (hv : AnnValidN a tok s1 s2 ob s3 n1 note tl)
    (he : ∀ p ∈ ob.pairs, p.1 ∉ AstText.embNames) :
    AstText.astOfText (annTextNB a tok s1 s2 ob s3 n1 note tl) = AstText.astOfScalar tok ob.pairs note :=
  AstText.ast_annot_note a ha tok s1 s2 ob s3 n1 note tl hv he

open Lay SchemaScan in
/-- the same without a note: `tok // {rules}` / `tok /* {rules} */` -/
theorem C16_ast_of_annotated_tree_partial_no_note (a : Ann) (ha : a.isAnn = true) (tok s1 s2 : List UInt8) (ob : BObj)
    (s3 tl : List UInt8) (hv : AnnValid a tok s1 s2 ob s3 tl) (he : ∀ p ∈ ob.pairs, p.1 ∉ AstText.embNames) :
    AstText.astOfText (annTextB a tok s1 s2 ob s3 tl) = AstText.astOfScalar tok ob.pairs [] :=
  AstText.ast_annot a ha tok s1 s2 ob s3 tl hv he

/-- the value of every scalar rule node is the value text as written (quotes and escapes of a string resolved);
no comment, no properties, no items; source manual -/
theorem C16_rule_value_as_written (name v : AstText.Bytes) (t : String) (val c : AstText.Bytes) (s : AstText.Src)
    (p : List (AstText.Bytes × AstText.RNode)) (i : List AstText.RNode)
    (h : AstText.scalarRule name v = .ok (.mk t val c s p i)) :
    (val = v ∨ val = Unquote.unquote v) ∧ c = [] ∧ s = .manual ∧ p = [] ∧ i = [] :=
  AstText.scalarRule_as_written name v t val c s p i h

/-- **`@A`** gives a reference node carrying the name, the synthesised `type` rule marked generated (the loader
model adds that rule when the shortcut ends: `AstText.shortcut_step`) -/
theorem C16_shortcut_reference_nodes (src : Array UInt8) (evs : List SchemaScan.Ev) (n : Loader.Node) (vb ve b e : Nat)
    (hk : n.kind = .mixed) (hv : n.value = some (vb, ve)) (hr : n.rules = [.inr "type"])
    (hrv : n.ruleVals = [some (b, e)]) (hp : AstText.hasPipe (Loader.trimSpaces (Loader.slice src vb ve)) = false) :
    AstText.ownOf src evs n = .ok ⟨"reference", Loader.trimSpaces (Loader.slice src vb ve),
      Loader.trimSpaces (Loader.slice src vb ve), AstText.noteOf src n,
      [(AstText.sb "type", AstText.leaf
        (if AstText.isUserTypeName (AstText.unq (Loader.trimSpaces (Loader.slice src b e))) then "reference" else "string")
        (AstText.unq (Loader.trimSpaces (Loader.slice src b e))) .generated)]⟩ :=
  AstText.ownOf_shortcut_type src evs n vb ve b e hk hv hr hrv hp

/-- **`@A | @B`** gives a reference node carrying the names as written, SchemaType `mixed`, and the synthesised `or`
rule — one item per name in written order — marked generated throughout -/
theorem C16_shortcut_reference_nodes_or (src : Array UInt8) (evs : List SchemaScan.Ev) (n : Loader.Node)
    (vb ve b e : Nat) (hk : n.kind = .mixed) (hv : n.value = some (vb, ve)) (hr : n.rules = [.inr "or"])
    (hrv : n.ruleVals = [some (b, e)]) (hp : AstText.hasPipe (Loader.trimSpaces (Loader.slice src vb ve)) = true) :
    AstText.ownOf src evs n = .ok ⟨"reference", AstText.sb "mixed", Loader.trimSpaces (Loader.slice src vb ve),
      AstText.noteOf src n,
      [(AstText.sb "or", .mk "array" [] [] .generated []
        ((AstText.splitPipe (Loader.slice src b e)).map fun nm => AstText.leaf "string" nm .generated))]⟩ :=
  AstText.ownOf_shortcut_or src evs n vb ve b e hk hv hr hrv hp

/-- the loader model's step that synthesises the rule of a shortcut -/
theorem C16_shortcut_rule_synthesised (src : Array UInt8) (st : Loader.St) (i b e : Nat) (hm : st.mode = .default)
    (hl : st.last = some i) :
    Loader.step src st ⟨.tsE, b, e⟩ = .ok (Loader.updNode st i (fun n =>
      { n with rules := n.rules ++ [.inr (if Loader.hasPipe (Loader.slice src b e) then "or" else "type")],
               ruleVals := n.ruleVals ++ [some (b, e)] })) :=
  AstText.shortcut_step src st i b e hm hl

open Lay SchemaScan in
/-- **two layouts of one annotated tree give the same AST**: same value token, same (name, value) pairs in the same
order, same note text — whatever form (`//` or `/* */`), blanks, line breaks and trailing comma each layout uses -/
theorem C16_ast_ignores_layout (a a' : Ann) (ha : a.isAnn = true) (ha' : a'.isAnn = true) (tok : List UInt8)
    (s1 s2 : List UInt8) (ob : BObj) (s3 n1 note tl : List UInt8)
    (s1' s2' : List UInt8) (ob' : BObj) (s3' n1' tl' : List UInt8)
    (hv : AnnValidN a tok s1 s2 ob s3 n1 note tl) (hv' : AnnValidN a' tok s1' s2' ob' s3' n1' note tl')
    (hsame : ob.pairs = ob'.pairs) (he : ∀ p ∈ ob.pairs, p.1 ∉ AstText.embNames) :
    AstText.astOfText (annTextNB a tok s1 s2 ob s3 n1 note tl)
      = AstText.astOfText (annTextNB a' tok s1' s2' ob' s3' n1' note tl') :=
  AstText.ast_layout_note a a' ha ha' tok s1 s2 ob s3 n1 note tl s1' s2' ob' s3' n1' tl' hv hv' hsame he

/-! Non-vacuity: `1 // {min: 0, max :5, } - first id` and `1 /*⏎ {min: 0,⏎ max: 5⏎}⏎-  first id*/⏎` -/
theorem exPairs_not_emb : ∀ p ∈ Lay.Ex.obInl.pairs, p.1 ∉ AstText.embNames := by decide +kernel

example := C16_ast_of_annotated_tree_partial .inline rfl Lay.Ex.one [32] [32] Lay.Ex.obInl [32] [32] Lay.Ex.noteTxt []
  Lay.Ex.annInlN_valid exPairs_not_emb
example := C16_ast_of_annotated_tree_partial_no_note .multi rfl Lay.Ex.one [32] [10, 32] Lay.Ex.obMl [10] [42, 47, 10]
  Lay.Ex.annMl_valid (Lay.Ex.same_pairs ▸ exPairs_not_emb)
example := C16_ast_ignores_layout .inline .multi rfl rfl Lay.Ex.one [32] [32] Lay.Ex.obInl [32] [32] Lay.Ex.noteTxt []
  [32] [10, 32] Lay.Ex.obMl [10] [32, 32] [42, 47, 10] Lay.Ex.annInlN_valid Lay.Ex.annMlN_valid Lay.Ex.same_pairs
  exPairs_not_emb
/-- and the AST of that tree is not an error: a `number` node with value `1`, the note and the two rules in order -/
example : (match AstText.astOfScalar Lay.Ex.one Lay.Ex.obInl.pairs Lay.Ex.noteTxt with
    | .ok (.mk _ _ tok _ v c rules _) =>
      tok == "number" && v == [49] && c == Lay.Ex.noteTxt && rules.map (·.1) == [Lay.Ex.nMin, Lay.Ex.nMax]
    | .error _ => false) = true := by decide +kernel
/-- the shortcut step on a fresh mixed node -/
example := C16_shortcut_rule_synthesised #[64, 65] { nodes := #[{ kind := .mixed, parent := none }], last := some 0 } 0 0 1 rfl rfl

/-! ### plain-JSON schema texts of any depth: text → AST -/

open Loader in
/-- **one node per example value in source order, any depth** (no annotations): for every byte-level value tree with
any white-space layout (blanks, tabs, LF / CR / CRLF wherever JSON allows white space) and pairwise distinct keys
per object, the model's AST of the TEXT is the AST of the TREE (`AstText.astB`): token kind and unquoted literal
value per scalar, `array` / `object` nodes with their children in source order, the decoded key of each member,
schema type = JSON kind, no rules, no note. -/
theorem C16_ast_of_plain_tree (t : BT) (hv : t.cls.Valid) (ws0 ws1 : List UInt8)
    (h0 : SchemaScan.IsWs (ws0.map SchemaScan.classify)) (h1 : SchemaScan.IsWs (ws1.map SchemaScan.classify))
    (hd : t.KeysDistinct) :
    AstText.astOfText (ws0 ++ (t.render ++ ws1)) = AstText.astB t ([], false) :=
  AstText.ast_plain_tree t hv ws0 ws1 h0 h1 hd

open Loader in
/-- the texts of two plain trees with equal tree ASTs (`hs`; `astB` reads the tokens and the structure of a tree and
none of its layout fields) give the same AST, whatever their layouts -/
theorem C16_ast_ignores_layout_plain (t t' : BT) (hv : t.cls.Valid) (hv' : t'.cls.Valid)
    (ws0 ws1 ws0' ws1' : List UInt8)
    (h0 : SchemaScan.IsWs (ws0.map SchemaScan.classify)) (h1 : SchemaScan.IsWs (ws1.map SchemaScan.classify))
    (h0' : SchemaScan.IsWs (ws0'.map SchemaScan.classify)) (h1' : SchemaScan.IsWs (ws1'.map SchemaScan.classify))
    (hd : t.KeysDistinct) (hd' : t'.KeysDistinct) (hs : AstText.astB t ([], false) = AstText.astB t' ([], false)) :
    AstText.astOfText (ws0 ++ (t.render ++ ws1)) = AstText.astOfText (ws0' ++ (t'.render ++ ws1')) := by
  rw [C16_ast_of_plain_tree t hv ws0 ws1 h0 h1 hd, C16_ast_of_plain_tree t' hv' ws0' ws1' h0' h1' hd', hs]

/-- non-vacuity: ` {⏎"a\n" :⏎ [1, true,␍⏎⇥-0.50 ] ,⏎⏎ "\u00e9": { }⏎}⏎ ` -/
example := C16_ast_of_plain_tree Loader.sampleBT (by rw [Loader.sampleBT_cls]; exact SchemaScan.sampleTree_valid) [32] [10, 32]
  (by intro c h; simp at h; subst h; decide) (by intro c h; simp at h; rcases h with h | h <;> subst h <;> decide)
  Loader.sampleBT_distinct
/-- its tree AST: an object with the members `a⏎` (an array of three scalars) and `é` (an empty object) -/
example : (match AstText.astB Loader.sampleBT ([], false) with
    | .ok (.mk _ _ tok _ _ _ _ [.mk k1 _ t1 _ _ _ _ [_, _, .mk _ _ t13 _ v13 _ _ _], .mk k2 _ t2 _ _ _ _ []]) =>
      tok == "object" && k1 == [97, 10] && t1 == "array" && t13 == "number" && v13 == [45, 48, 46, 53, 48]
        && k2 == [195, 169] && t2 == "object"
    | _ => false) = true := by decide +kernel

end Props.C16

namespace Props.C16

/-! ## the AST of an annotated tree (work package c13tree)

`AstText.astOfText` builds the AST from the loader's state: the node table AND, for rule values, the source spans the table
points to and the event list (`astOfTable src (eventsOf bs) st`). The full statement — the AST is a function of `t.strip` — is
`C16_ast_of_annotated_tree_full`; what is proved: the AST of the text of a well-formed annotated tree is `astOfTable` of a
loader state whose table, read against the text, is `t.table` (the annotation of every node bound to that node). -/

open AT in
/-- the full statement (NOT proved): two surface forms of one annotated tree have the same AST -/
def C16_ast_of_annotated_tree_full : Prop :=
  ∀ (w0 w0' : Gap) (t t' : ATree) (w1 w1' : Gap), t.strip = t'.strip → t.isContainer = true → lineOK w0 t = true →
    lineOK w0' t' = true → TokOK (docToks w0 t w1) → TokOK (docToks w0' t' w1') →
    AstText.astOfText (docText w0 t w1) = AstText.astOfText (docText w0' t' w1')

open AT in
/-- as far as it goes: the AST of an annotated tree's text is built from a loader state with the tree's table -/
theorem C16_ast_of_annotated_tree (w0 : Gap) (t : ATree) (w1 : Gap) (hc : t.isContainer = true)
    (hl : lineOK w0 t = true) (hw : TokOK (docToks w0 t w1)) :
    ∃ st, AstText.astOfText (docText w0 t w1)
        = AstText.astOfTable (docText w0 t w1).toArray (AstText.eventsOf (docText w0 t w1)) st ∧
      st.root = some 0 ∧ abstractOf (docText w0 t w1).toArray st = t.table := by
  obtain ⟨st, h1, h2, h3⟩ := AT.tree_loads w0 t w1 hc hl hw
  exact ⟨st, by simp only [AstText.astOfText, h1], h2, h3⟩

example := C16_ast_of_annotated_tree [] AT.Ex.t1 [] rfl AT.Ex.t1_line AT.Ex.t1_tok

end Props.C16

namespace Props.C16
open Lay SchemaScan

/-! ## annotated scalar with QUOTED rule names, text → AST (work package c02text3; module `AstTextQ`)

The bare-name restriction of `C16_ast_of_annotated_tree_partial` is gone: the rule object is of the extended grammar
`Lay.GObj` — names bare or quoted (any JSON string, `\uXXXX` included), here with literal values —, and the AST shows the
DECODED names. Still excluded (explicit, decidable): rules named `enum` / `allOf` / `or` (their list values go through the
AST builder's item reader, which is tied by `c16-text`, not proved), and the note together with quoted names. -/

/-- **annotated scalar with quoted / bare rule names, text → AST**: the model's AST of the TEXT is the AST of the TREE
(value token, (decoded name, value) pairs in written order) -/
theorem C16_ast_of_annotated_tree_quoted_partial (a : Ann) (ha : a.isAnn = true) (tok s1 s2 : List UInt8) (ob : GObj)
    (s3 tl : List UInt8) (hv : GAnnValid a tok s1 s2 ob s3 tl) (hl : ob.literalValues)
    (he : ∀ p ∈ ob.pairs, p.1 ∉ AstText.embNames) :
    AstText.astOfText (gannText a tok s1 s2 ob s3 tl) = AstText.astOfScalar tok ob.pairs [] :=
  AstText.ast_gannot a ha tok s1 s2 ob s3 tl hv hl he

/-- **GetAST does not show how a rule name was spelled**: quoted, escaped or bare, in either annotation form and any
layout — the same AST -/
theorem C16_ast_ignores_name_quoting (a a' : Ann) (ha : a.isAnn = true) (ha' : a'.isAnn = true) (tok : List UInt8)
    (s1 s2 : List UInt8) (ob : GObj) (s3 tl : List UInt8) (s1' s2' : List UInt8) (ob' : GObj) (s3' tl' : List UInt8)
    (hv : GAnnValid a tok s1 s2 ob s3 tl) (hv' : GAnnValid a' tok s1' s2' ob' s3' tl')
    (hl : ob.literalValues) (hl' : ob'.literalValues)
    (hsame : ob.pairs = ob'.pairs) (he : ∀ p ∈ ob.pairs, p.1 ∉ AstText.embNames) :
    AstText.astOfText (gannText a tok s1 s2 ob s3 tl) = AstText.astOfText (gannText a' tok s1' s2' ob' s3' tl') :=
  AstText.ast_quoting a a' ha ha' tok s1 s2 ob s3 tl s1' s2' ob' s3' tl' hv hv' hl hl' hsame he

/-! Non-vacuity: `1 // {"min": 0, "max" :5, }` and `1 /*⏎ {min: 0,⏎ max: 5⏎}⏎*/⏎` -/
theorem exQPairs_not_emb : ∀ p ∈ Lay.Ex.gobQ.pairs, p.1 ∉ AstText.embNames := by
  rw [Lay.Ex.gsame_pairs]; decide +kernel

theorem gobB_lits : Lay.Ex.gobB.literalValues := by
  intro r hr
  simp only [Lay.Ex.gobB, GObj.allRules, List.mem_cons, List.not_mem_nil, or_false] at hr
  rcases hr with rfl | rfl <;> exact ⟨_, rfl⟩

example := C16_ast_of_annotated_tree_quoted_partial .inline rfl Lay.Ex.one [32] [32] Lay.Ex.gobQ [] [] Lay.Ex.gannQ_valid
  Lay.Ex.gobQ_lits exQPairs_not_emb
example := C16_ast_ignores_name_quoting .inline .multi rfl rfl Lay.Ex.one [32] [32] Lay.Ex.gobQ [] [] [32] [10, 32]
  Lay.Ex.gobB [10] [42, 47, 10] Lay.Ex.gannQ_valid Lay.Ex.gannB_valid Lay.Ex.gobQ_lits gobB_lits Lay.Ex.gsame_pairs
  exQPairs_not_emb

/-! ### schema texts whose values are TYPE SHORTCUTS: events, node table, AST

`SE.BST` / `SchemaScan.STree`: JSON trees with layout whose leaves are scalars or type shortcuts `@name` / `@a | @b …`
(root, member value, array item; any nesting; see `Props.C09` for `SE.TextOK`). -/

/-- **the events of a type shortcut in ordinary mode, in every value position** (class level): the text of a tree whose
leaves are scalars or shortcuts is scanned into exactly `sEvsAt` of the tree; for a shortcut that starts at `o` and
whose last byte — the blanks behind the last name included — is at `e`:
`mixed-value-begin[o:o] types-shortcut-begin[o:o] types-shortcut-end[o:e] mixed-value-end[o:e']`, `e' = e - 1` when the
byte at `e` is a SPACE and `e' = e` otherwise, inside `item` / `value` events ending at `e`; behind it a line break, `,`,
`]`, `}` or the end of input -/
theorem C16_shortcut_events_of_tree (v : SchemaScan.STree) (hv : v.Valid) (ws0 ws1 : List SchemaScan.Cls)
    (h0 : SchemaScan.IsWs ws0) (h1 : SchemaScan.IsWs ws1) (hf : SchemaScan.Follow v ws1) (bs : List UInt8)
    (hbs : bs.map SchemaScan.classify = ws0 ++ (v.render ++ ws1)) :
    SchemaScan.scanAll bs
      = .ok (SchemaScan.nlEvs 0 ws0 ++ (SchemaScan.sEvsAt ws0.length v ++
          SchemaScan.nlEvs (ws0.length + v.render.length) ws1)) :=
  SchemaScan.C06_schema_events_of_shortcut_tree v hv ws0 ws1 h0 h1 hf bs hbs

/-- **the node table of such a text** (scanner model and loader model interleaved as in `doLoad`): one node per value in
pre-order; a shortcut leaf is a `mixed` node whose value span is the `mixed-value-end` lexeme and whose only rule is the
synthesised `type` (`@A`) / `or` (`@A | @B`) with the shortcut's span as its value (`Loader.shortNode`) -/
theorem C16_shortcut_tree_loads (v : SchemaScan.STree) (hv : v.Valid) (ws0 ws1 : List SchemaScan.Cls)
    (h0 : SchemaScan.IsWs ws0) (h1 : SchemaScan.IsWs ws1) (hf : SchemaScan.Follow v ws1)
    (bs : List UInt8) (hbs : bs.map SchemaScan.classify = ws0 ++ (v.render ++ ws1))
    (hd : LoaderS.KeysDistinct bs.toArray ws0.length v) :
    ∃ st, Loader.loadText bs = .ok st ∧ st.root = some 0 ∧ st.nodes.toList = LoaderS.nodesOf none 0 ws0.length v :=
  LoaderS.loadText_mirrors_stree v hv ws0 ws1 h0 h1 hf bs hbs hd

/-- **C16 at text level for shortcut values**: `astOfText` of the text of a tree whose leaves are scalars or type
shortcuts (any depth and layout) is the AST of the TREE, by offsets into the text (`AstText.S.astOff`): one node per
value in source order; a shortcut leaf is what `ownOf` makes of the loader's shortcut node — a REFERENCE node
(`C16_shortcut_leaf_type` / `_or`) -/
theorem C16_shortcut_reference_nodes_text (w0 : SE.Bytes) (t : SE.BST) (w1 : SE.Bytes) (h : SE.TextOK w0 t w1) :
    AstText.astOfText (SE.docText w0 t w1)
      = AstText.S.astOff (SE.docText w0 t w1).toArray (AstText.eventsOf (SE.docText w0 t w1)) w0.length t.cls
          ([], false) :=
  AstText.S.ast_of_stree_text w0 t w1 h

/-- a leaf **`@A`** of that AST: TokenType `reference`, Value and SchemaType the name, the rule `type` marked generated -/
theorem C16_shortcut_leaf_type (src : Array UInt8) (evs : List SchemaScan.Ev) (o : Nat)
    (sc : SchemaScan.Len.Shortcut) (sps : List SchemaScan.Cls) (key : AstText.Bytes × Bool) (ha : sc.alts = [])
    (hp : AstText.hasPipe (Loader.trimSpaces (Loader.slice src o (AstText.S.mixEnd o sc sps))) = false) :
    AstText.S.astOff src evs o (.short sc sps) key
      = .ok (.mk key.1 key.2 "reference" (Loader.trimSpaces (Loader.slice src o (AstText.S.mixEnd o sc sps)))
          (Loader.trimSpaces (Loader.slice src o (AstText.S.mixEnd o sc sps))) []
          [(AstText.sb "type", AstText.leaf
            (if AstText.isUserTypeName (AstText.unq (Loader.trimSpaces (Loader.slice src o (AstText.S.tsEnd o sc sps))))
              then "reference" else "string")
            (AstText.unq (Loader.trimSpaces (Loader.slice src o (AstText.S.tsEnd o sc sps)))) .generated)] []) :=
  AstText.S.astOff_short_type src evs o sc sps key ha hp

/-- a leaf **`@A | @B`**: TokenType `reference`, SchemaType `mixed`, Value the names as written, the rule `or` — one item
per name in written order — marked generated throughout -/
theorem C16_shortcut_leaf_or (src : Array UInt8) (evs : List SchemaScan.Ev) (o : Nat)
    (sc : SchemaScan.Len.Shortcut) (sps : List SchemaScan.Cls) (key : AstText.Bytes × Bool) (ha : sc.alts ≠ [])
    (hp : AstText.hasPipe (Loader.trimSpaces (Loader.slice src o (AstText.S.mixEnd o sc sps))) = true) :
    AstText.S.astOff src evs o (.short sc sps) key
      = .ok (.mk key.1 key.2 "reference" (AstText.sb "mixed")
          (Loader.trimSpaces (Loader.slice src o (AstText.S.mixEnd o sc sps))) []
          [(AstText.sb "or", .mk "array" [] [] .generated []
            ((AstText.splitPipe (Loader.slice src o (AstText.S.tsEnd o sc sps))).map
              fun nm => AstText.leaf "string" nm .generated))] []) :=
  AstText.S.astOff_short_or src evs o sc sps key ha hp

/-! Non-vacuity: root `{"a": @A | @B ,⏎ "b": [@C⏎], "c": 1}` (`SE.Ex.root`); the leaf `@A | @B ` at offset 6 of that
text; the leaf `@C` of the text ` @C`. -/
example := C16_shortcut_reference_nodes_text [] SE.Ex.root [] SE.Ex.root_ok
example := C16_shortcut_events_of_tree SE.Ex.root.cls SE.Ex.root_valid [] [] (SE.Ex.ws_ok [] rfl) (SE.Ex.ws_ok [] rfl)
  (by intro h; cases h) (SE.docText [] SE.Ex.root []) (by simp only [SE.docText, List.map_append, SE.render_cls]; rfl)
example (evs : List SchemaScan.Ev) (key : AstText.Bytes × Bool) :=
  C16_shortcut_leaf_or (SE.docText [] SE.Ex.root []).toArray evs 6 (SE.clsSc [65] [([32], [32], [66])]) (SE.clsB [32]) key
    (by simp [SE.clsSc, SE.clsAlts]) (by decide +kernel)
example (evs : List SchemaScan.Ev) (key : AstText.Bytes × Bool) :=
  C16_shortcut_leaf_type #[32, 64, 67] evs 1 (SE.clsSc [67] []) (SE.clsB []) key rfl (by decide +kernel)

end Props.C16

namespace Props.C16

/-! ### shortcut leaves without the hypothesis `hp`; the AST of the class on TOKENS (work package c16hp)

`C16_shortcut_leaf_type` / `_or` describe the node of a shortcut leaf by slices of the text and keep a hypothesis `hp`
about `|` in the trimmed value slice.  For a shortcut `@first (s1 | s2 @name)* sps` of the grammar that stands in the text at
offset `o` (`Lay.AtB`), `hp` is a theorem (`C16_shortcut_leaf_slices`): both trimmed slices are the shortcut as written.
Stage 2 (`C16_shortcut_tree_ast`): the AST of a text of the class is `AstText.S2.astS` of its TREE — a structural function on
tokens (names as byte lists, no offsets). -/

/-- **the two lexemes of a shortcut leaf, trimmed**: `TrimSpaces` of the `mixed-value-end` slice (one trailing space less)
equals `TrimSpaces` of the `types-shortcut-end` slice; both are the shortcut as written without the blanks behind it; and
the `|` test on it (the hypothesis `hp` of `C16_shortcut_leaf_type` / `_or`) says whether there are alternatives -/
theorem C16_shortcut_leaf_slices (src : Array UInt8) (o : Nat) (f : SE.Bytes) (as : List SE.Alt) (sps : SE.Bytes)
    (hv : (SE.clsSc f as).Valid) (hs : SchemaScan.Len.IsSpTabs (SE.clsB sps))
    (hat : Lay.AtB src o (SE.scBytes f as ++ sps)) :
    Loader.trimSpaces (Loader.slice src o (AstText.S.mixEnd o (SE.clsSc f as) (SE.clsB sps)))
        = Loader.trimSpaces (Loader.slice src o (AstText.S.tsEnd o (SE.clsSc f as) (SE.clsB sps))) ∧
      Loader.trimSpaces (Loader.slice src o (AstText.S.mixEnd o (SE.clsSc f as) (SE.clsB sps))) = SE.scBytes f as ∧
      AstText.hasPipe (Loader.trimSpaces (Loader.slice src o (AstText.S.mixEnd o (SE.clsSc f as) (SE.clsB sps))))
        = !as.isEmpty :=
  ⟨AstText.S2.trim_mix_eq_trim_ts src o f as sps hv hs hat, AstText.S2.trim_mix src o f as sps hv hs hat,
    AstText.S2.hasPipe_mix src o f as sps hv hs hat⟩

/-- the items of the synthesised `or` rule are the names as written (`@first`, then each `@name`), in written order -/
theorem C16_shortcut_or_items (f : SE.Bytes) (as : List SE.Alt) (sps : SE.Bytes) (hv : (SE.clsSc f as).Valid)
    (hs : SchemaScan.Len.IsSpTabs (SE.clsB sps)) :
    AstText.splitPipe (SE.scBytes f as ++ sps) = (64 :: f) :: AstText.S2.altNames as :=
  AstText.S2.splitPipe_sc f as sps hv hs

/-- a shortcut leaf of the text by offsets, no hypothesis about `|`: the node on tokens (`AstText.S2.shortLeaf`) -/
theorem C16_shortcut_leaf_at_offset (src : Array UInt8) (evs : List SchemaScan.Ev) (o : Nat) (f : SE.Bytes)
    (as : List SE.Alt) (sps : SE.Bytes) (key : AstText.Bytes × Bool) (hv : (SE.clsSc f as).Valid)
    (hs : SchemaScan.Len.IsSpTabs (SE.clsB sps)) (hat : Lay.AtB src o (SE.scBytes f as ++ sps)) :
    AstText.S.astOff src evs o (.short (SE.clsSc f as) (SE.clsB sps)) key = .ok (AstText.S2.shortLeaf key f as) :=
  AstText.S2.astOff_short_leaf src evs o f as sps key hv hs hat

/-- **a leaf `@A` at ANY position of a text of the class**: `p` is the path of the leaf (child indices from the root),
`key` the key of that position (`AstText.S2.valueAt`: the decoded member key; none for the root and for items).  The AST
of the text has at `p` the node: TokenType `reference`, SchemaType and Value the name `@A`, the only rule `type` with the
name, marked generated.  No hypothesis about `|`. -/
theorem C16_shortcut_leaf_type_text (w0 : SE.Bytes) (t : SE.BST) (w1 : SE.Bytes) (h : SE.TextOK w0 t w1)
    (p : List Nat) (key : AstText.Bytes × Bool) (f sps : SE.Bytes)
    (hl : AstText.S2.valueAt (([], false), t) p = some (key, .short f [] sps)) :
    ∃ root, AstText.astOfText (SE.docText w0 t w1) = .ok root ∧
      AstText.S2.nodeAt root p = some (.mk key.1 key.2 "reference" (64 :: f) (64 :: f) []
        [(AstText.sb "type", AstText.leaf "reference" (64 :: f) .generated)] []) :=
  AstText.S2.leaf_at w0 t w1 h p key f [] sps hl

/-- **a leaf `@A | @B …` at ANY position of a text of the class**: TokenType `reference`, SchemaType `mixed`, Value the
shortcut as written (without the blanks behind it), the only rule `or` — one `string` item per name, in written order —
marked generated throughout.  No hypothesis about `|`. -/
theorem C16_shortcut_leaf_or_text (w0 : SE.Bytes) (t : SE.BST) (w1 : SE.Bytes) (h : SE.TextOK w0 t w1)
    (p : List Nat) (key : AstText.Bytes × Bool) (f : SE.Bytes) (a : SE.Alt) (r : List SE.Alt) (sps : SE.Bytes)
    (hl : AstText.S2.valueAt (([], false), t) p = some (key, .short f (a :: r) sps)) :
    ∃ root, AstText.astOfText (SE.docText w0 t w1) = .ok root ∧
      AstText.S2.nodeAt root p = some (.mk key.1 key.2 "reference" (AstText.sb "mixed") (SE.scBytes f (a :: r)) []
        [(AstText.sb "or", .mk "array" [] [] .generated []
          (((64 :: f) :: AstText.S2.altNames (a :: r)).map fun nm => AstText.leaf "string" nm .generated))] []) :=
  AstText.S2.leaf_at w0 t w1 h p key f (a :: r) sps hl

/-- **C16 at text level for shortcut values, stage 2 (on tokens)**: `astOfText` of every text of the class is
`AstText.S2.astS` of the TREE alone — `object` / `array` nodes with their children in written order and the decoded keys,
scalar leaves (token kind, unquoted value, schema type = JSON kind), shortcut leaves `AstText.S2.shortLeaf` (names as byte
lists in written order, rules `type` / `or` marked generated) -/
theorem C16_shortcut_tree_ast (w0 : SE.Bytes) (t : SE.BST) (w1 : SE.Bytes) (h : SE.TextOK w0 t w1) :
    AstText.astOfText (SE.docText w0 t w1) = AstText.S2.astS t ([], false) :=
  AstText.S2.ast_of_stree w0 t w1 h

/-- and that AST is not an error -/
theorem C16_shortcut_tree_ast_ok (w0 : SE.Bytes) (t : SE.BST) (w1 : SE.Bytes) (h : SE.TextOK w0 t w1) :
    ∃ root, AstText.astOfText (SE.docText w0 t w1) = .ok root := by
  obtain ⟨root, hr⟩ := AstText.S2.astS_ok t h.side ([], false)
  exact ⟨root, by rw [AstText.S2.ast_of_stree w0 t w1 h, hr]⟩

/-- two layouts (blanks, line breaks, blanks inside and behind the shortcuts that leave the tree AST unchanged) of one
tree give the same AST -/
theorem C16_shortcut_ast_ignores_layout (w0 w0' : SE.Bytes) (t t' : SE.BST) (w1 w1' : SE.Bytes)
    (h : SE.TextOK w0 t w1) (h' : SE.TextOK w0' t' w1')
    (hs : AstText.S2.astS t ([], false) = AstText.S2.astS t' ([], false)) :
    AstText.astOfText (SE.docText w0 t w1) = AstText.astOfText (SE.docText w0' t' w1') := by
  rw [AstText.S2.ast_of_stree w0 t w1 h, AstText.S2.ast_of_stree w0' t' w1' h', hs]

/-! Non-vacuity: root `{"a": @A | @B ,⏎ "b": [@C⏎], "c": 1}` (`SE.Ex.root`, `SE.Ex.root_ok`) -/
example := C16_shortcut_tree_ast [] SE.Ex.root [] SE.Ex.root_ok
/-- the leaf `@A | @B ` is the member `a` (path `[0]`), the leaf `@C` the only item of the member `b` (path `[1, 0]`) -/
example := C16_shortcut_leaf_or_text [] SE.Ex.root [] SE.Ex.root_ok [0] ([97], false) [65] ([32], [32], [66]) [] [32]
  (by rfl)
example := C16_shortcut_leaf_type_text [] SE.Ex.root [] SE.Ex.root_ok [1, 0] ([], false) [67] [] (by rfl)
/-- the shortcut `@A | @B ` at offset 6 of the root text: both trimmed lexemes are `@A | @B` -/
example := C16_shortcut_leaf_slices (SE.docText [] SE.Ex.root []).toArray 6 [65] [([32], [32], [66])] [32]
  (by simpa [SE.Ex.sAB, SE.BST.cls, SchemaScan.STree.Valid] using SE.Ex.sAB_valid.1)
  (by simpa [SE.Ex.sAB, SE.BST.cls, SchemaScan.STree.Valid] using SE.Ex.sAB_valid.2)
  (by refine ⟨?_, ?_, ?_, ?_, ?_, ?_, ?_, ?_, trivial⟩ <;> decide +kernel)
/-- the tree AST of the root, spelled out: an object; `a` — reference / mixed / `@A | @B` with the generated `or` rule whose
generated string items are `@A`, `@B`; `b` — an array with the reference `@C` (generated `type` rule `@C`); `c` — the number
`1` of schema type `integer` -/
example : (match AstText.S2.astS SE.Ex.root ([], false) with
    | .ok (.mk _ _ tok _ _ _ _
        [.mk ka _ ta sa va _ [(ra, .mk rt _ _ rs _ [.mk i1t i1 _ i1s _ _, .mk _ i2 _ i2s _ _])] [],
         .mk kb _ tb _ _ _ _ [.mk _ _ tc sc vc _ [(rc, .mk rct rcv _ rcs _ _)] []],
         .mk kc _ t1 s1 v1 _ [] []]) =>
      tok == "object" && ka == [97] && ta == "reference" && sa == AstText.sb "mixed"
        && va == [64, 65, 32, 124, 32, 64, 66] && ra == AstText.sb "or" && rt == "array" && rs == .generated
        && i1t == "string" && i1 == [64, 65] && i1s == .generated && i2 == [64, 66] && i2s == .generated
        && kb == [98] && tb == "array" && tc == "reference" && sc == [64, 67] && vc == [64, 67]
        && rc == AstText.sb "type" && rct == "reference" && rcv == [64, 67] && rcs == .generated
        && kc == [99] && t1 == "number" && s1 == AstText.sb "integer" && v1 == [49]
    | _ => false) = true := by decide +kernel

/-- the names of `@A | @B ` -/
example : AstText.splitPipe (SE.scBytes [65] [([32], [32], [66])] ++ [32]) = [[64, 65], [64, 66]] :=
  C16_shortcut_or_items [65] [([32], [32], [66])] [32]
    (by simpa [SE.Ex.sAB, SE.BST.cls, SchemaScan.STree.Valid] using SE.Ex.sAB_valid.1)
    (by simpa [SE.Ex.sAB, SE.BST.cls, SchemaScan.STree.Valid] using SE.Ex.sAB_valid.2)
/-- the leaf `@A | @B ` at offset 6 of the root text, by offsets, without `hp` -/
example (evs : List SchemaScan.Ev) (key : AstText.Bytes × Bool) :=
  C16_shortcut_leaf_at_offset (SE.docText [] SE.Ex.root []).toArray evs 6 [65] [([32], [32], [66])] [32] key
    (by simpa [SE.Ex.sAB, SE.BST.cls, SchemaScan.STree.Valid] using SE.Ex.sAB_valid.1)
    (by simpa [SE.Ex.sAB, SE.BST.cls, SchemaScan.STree.Valid] using SE.Ex.sAB_valid.2)
    (by refine ⟨?_, ?_, ?_, ?_, ?_, ?_, ?_, ?_, trivial⟩ <;> decide +kernel)
example := C16_shortcut_tree_ast_ok [] SE.Ex.root [] SE.Ex.root_ok

/-- a second layout of the root text `@C`: ` @C ⇥⏎` (a space in front, a space and a TAB behind the name, a line break) -/
theorem sC'_ok : SE.TextOK [32] (.short [67] [] [32, 9]) [10] :=
  SE.TextOK.of_guessable _ _ _ (SE.Ex.ws_ok _ rfl) (SE.Ex.ws_ok _ rfl)
    (by
      simp only [SE.BST.cls, SchemaScan.STree.Valid, SE.clsSc, SE.clsAlts, SE.clsB, SchemaScan.Len.Shortcut.Valid,
        SchemaScan.Len.ValidAlts, SchemaScan.Len.IsTypeName, SchemaScan.Len.IsSpTabs]
      decide)
    (fun _ => Or.inr ⟨[], rfl⟩) rfl trivial

theorem sC_ok : SE.TextOK [] SE.Ex.sC [] :=
  SE.TextOK.of_guessable _ _ _ (SE.Ex.ws_ok _ rfl) (SE.Ex.ws_ok _ rfl) SE.Ex.sC_valid (fun _ => Or.inl rfl) rfl trivial

example : AstText.astOfText (SE.docText [] SE.Ex.sC []) = AstText.astOfText (SE.docText [32] (.short [67] [] [32, 9]) [10]) :=
  C16_shortcut_ast_ignores_layout [] [32] SE.Ex.sC (.short [67] [] [32, 9]) [] [10] sC_ok sC'_ok rfl
/-- a ROOT shortcut is the path `[]` -/
example := C16_shortcut_leaf_type_text [32] (.short [67] [] [32, 9]) [10] sC'_ok [] ([], false) [67] [32, 9] rfl

end Props.C16
