import JSight.ErrPos
import JSight.RenderProofs
import JSight.ByteLemmas
import JSight.RenderLine
import JSight.ValidatePosBytes
import JSight.ValidatePosShape
import JSight.SchemaErrExamples
import JSight.SchemaViableFalse
import JSight.SchemaTokViableExamples
import JSight.SchemaErrWindowNext
import JSight.SchemaViable
import JSight.DocCorollaries
/-!
# C17 — Errors point at the offending byte and render correctly

* `C17_json_errpos`: the index at which the JSON scanner reports "invalid character" is the first byte
  after which no continuation can be a JSON text, and the text before it can still be completed to one
  (viable-prefix property of the RFC recogniser, transported through the C05 simulation) — for every
  byte string.
* `C17_render_total`: for every file content and every position inside it the renderer
  (`errors/document.go`: line number, line text, caret) produces a result — no index out of range,
  no negative repeat count.
* `C17_line_number`, `C17_line_lf / _cr / _crlf`: the line number shown is 1 + the number of new-line
  symbols before the position; the symbol is LF for LF and CRLF files and CR for CR files.
* `C17_validation_errpos` (and `_bytes`, `_pos_inside`, `_pos_is_token_start`, `_accepts_iff_shape`, at the end of
  the file): the VALIDATION error of the rule-free fragment — code and byte position as the validator computes
  them — is the first offending value or key of the document in document order, positioned at its first byte.
The exact line/caret text and the positions of the rest of the schema language are checked against the code
(harness `c17-positions`, `c17-valpos`, `render-diff`), see DESIGN.md §4 C17.
-/
namespace Props.C17
open JsonScan

/-- a byte for every class -/
def repr : Cls → UInt8
  | .sp => 32 | .wsctl => 10 | .lbrace => 123 | .rbrace => 125 | .lbrack => 91 | .rbrack => 93 | .colon => 58
  | .comma => 44 | .quote => 34 | .bslash => 92 | .slash => 47 | .minus => 45 | .plus => 43 | .zero => 48 | .d19 => 49
  | .dot => 46 | .le => 101 | .uE => 69 | .lt => 116 | .lr => 114 | .lu => 117 | .lf => 102 | .la => 97 | .ll => 108
  | .ls => 115 | .ln => 110 | .lb => 98 | .hexo => 99 | .ctrl => 1 | .other => 120

theorem classify_repr (c : Cls) : classify (repr c) = c := by cases c <;> decide +kernel

theorem map_classify_repr (cs : List Cls) : (cs.map repr).map classify = cs := by
  induction cs with
  | nil => rfl
  | cons c cs ih => simp [classify_repr, ih]

/-- error position = first dead byte, on bytes -/
theorem C17_json_errpos (bs : List UInt8) (j : Nat) (he : Sim.errPos Cfg.init (bs.map classify) 0 = some j) :
    (∃ suffix : List UInt8, check false (bs.take j ++ suffix) = true) ∧
    (∀ suffix : List UInt8, check false (bs.take (j + 1) ++ suffix) = false) := by
  obtain ⟨⟨sfx, h1⟩, h2⟩ := Sim.C17_json_errpos (bs.map classify) j he
  constructor
  · refine ⟨sfx.map repr, ?_⟩
    unfold check
    rw [List.map_append, map_classify_repr, List.map_take]
    exact h1
  · intro suffix
    unfold check
    rw [List.map_append, List.map_take]
    exact h2 _

/-- the renderer is total inside the content -/
theorem C17_render_total (content : Array UInt8) (idx : Nat) (h : idx < content.size) :
    (Render.render content idx).isSome = true :=
  Render.render_total content idx h

/-- the rendered line number is 1 + the number of new-line symbols strictly before the position -/
theorem C17_line_number (content : Array UInt8) (idx : Nat) (h : idx < content.size) :
    Render.line content idx = some (1 + Render.countNl content (Render.detectNl content.toList) idx) :=
  Render.line_eq content idx h

/-- LF files (no CR anywhere): lines are counted by LF -/
theorem C17_line_lf (content : Array UInt8) (idx : Nat) (h : idx < content.size) (hlf : ∀ c ∈ content.toList, c ≠ 13) :
    Render.line content idx = some (1 + Render.countNl content 10 idx) := by
  rw [C17_line_number content idx h, Render.detectNl_lf _ hlf]

/-- CR files (no LF, at least one CR): lines are counted by CR -/
theorem C17_line_cr (content : Array UInt8) (idx : Nat) (h : idx < content.size) (hcr : ∀ c ∈ content.toList, c ≠ 10)
    (hex : ∃ c ∈ content.toList, c = 13) : Render.line content idx = some (1 + Render.countNl content 13 idx) := by
  rw [C17_line_number content idx h, Render.detectNl_cr _ hcr hex]

/-- CRLF files (every CR immediately followed by LF): lines are counted by LF, one per CRLF pair -/
theorem C17_line_crlf (content : Array UInt8) (idx : Nat) (h : idx < content.size) (hw : Render.CRLF content.toList) :
    Render.line content idx = some (1 + Render.countNl content 10 idx) := by
  rw [C17_line_number content idx h, Render.detectNl_crlf _ hw]

/-! Non-vacuity -/
def s (x : String) : List UInt8 := x.toList.map (fun c => UInt8.ofNat c.toNat)
example : Sim.errPos Cfg.init ((s "[1, x]").map classify) 0 = some 4 := by decide +kernel
example : Sim.errPos Cfg.init ((s "{\"a\" 1}").map classify) 0 = some 5 := by decide +kernel
example : (Render.render (s "ab\n  cd").toArray 5).isSome = true := by decide +kernel

/-! ## Validation errors: the reported position is the start of the offending value or key

Model `VPos.validatePos` (`JSight/ValidatePos.lean`): the validator tree of the rule-free fragment (scalars with an
arbitrary literal validator, `any`, arrays with the last-element rule, objects with optional keys) WITH
alternatives per position — any number of scalar alternatives next to at most one container: nullable containers,
`or` / type lists of scalars, `@obj | @str` — fed with the scanner's lexical events and their spans; every error
carries the code and the index the Go code gives it (`lex.Begin()` of the lexeme being fed, the remembered key
lexeme for an unknown key). As coded in `Tree.FeedLeaves`, a failing alternative is dropped silently while another
one survives; when all live alternatives fail on one lexeme the error is the alternative's own if exactly one was
alive and `ErrOrRuleSetValidation` (204) at that lexeme otherwise — so the alternative that got furthest is reported.
Spec `VPos.firstOffence`: a function of schema × document TREE (with layout) — the first value or key, in document
order, that has no counterpart / the wrong kind / is rejected by every literal validator of its position, and the
byte offset of its first byte. A missing required key has no offending token: the spec (as the code) reports it when
the object closes, at the first byte of the object that lacks the key; the property text does not define that case. -/
section validation
open VPos

/-- **C17, validation error position (any alphabet).** For every schema of the fragment, every document tree —
any depth, width and layout — embedded anywhere in a source text, and any literal-validator semantics, the validator
fed with the tree's lexical events returns exactly the spec's first offence: same code, and the offset of the first
byte of the offending value or key (or acceptance when there is none; never `stuck`). -/
theorem C17_validation_errpos {α L : Type} (p : P α L) (sy : Sym α) (s : S L) (d : T α) (hd : d.TokNE)
    (pre post : List α) :
    validatePos p s (pre ++ (d.render sy ++ post)) (evsAt pre.length d)
      = Res.ofSpec (firstOffence p s pre.length d) :=
  VPos.validatePos_render p sy s d hd pre post

/-- **C17, validation error position on bytes, scanner included.** For every JSON document — a tree of scanner
tokens rendered with arbitrary blanks, blanks before and after — the scanner model followed by the validator
(`Schema.validate`) returns the spec's first offence at its byte offset in the document. -/
theorem C17_validation_errpos_bytes {L : Type} (p : P UInt8 L) (s : S L) (d : T UInt8)
    (hv : (toJA classify d).Valid) (ws0 ws1 : List UInt8) (h0 : IsWs (ws0.map classify)) (h1 : IsWs (ws1.map classify)) :
    validateBytes p s (ws0 ++ (d.render byteSym ++ ws1)) = .ok (Res.ofSpec (firstOffence p s ws0.length d)) :=
  VPos.validateBytes_tree p s d hv ws0 ws1 h0 h1

/-- the reported position lies inside the document -/
theorem C17_validation_pos_inside {α L : Type} (p : P α L) (sy : Sym α) (s : S L) (d : T α) (hd : d.TokNE)
    (pre post : List α) (c q : Nat)
    (h : validatePos p s (pre ++ (d.render sy ++ post)) (evsAt pre.length d) = .rej c q) :
    pre.length ≤ q ∧ q < pre.length + (d.render sy).length := by
  rw [C17_validation_errpos p sy s d hd, VPos.ofSpec_rej] at h
  rw [VPos.render_length]
  exact VPos.starts_inside d hd _ q (VPos.offence_starts p s d _ c q h)

/-- the reported position is the begin offset of a lexeme that opens a value (literal, array, object) or a key
of the document: it is one of the tree's token starts, and these are exactly the begin offsets of the
literal-begin / array-begin / object-begin / key-begin events -/
theorem C17_validation_pos_is_token_start {α L : Type} (p : P α L) (sy : Sym α) (s : S L) (d : T α) (hd : d.TokNE)
    (pre post : List α) (c q : Nat)
    (h : validatePos p s (pre ++ (d.render sy ++ post)) (evsAt pre.length d) = .rej c q) :
    q ∈ starts pre.length d ∧ starts pre.length d = (evsAt pre.length d).filterMap tokStart := by
  rw [C17_validation_errpos p sy s d hd, VPos.ofSpec_rej] at h
  exact ⟨VPos.offence_starts p s d _ c q h, VPos.starts_eq d _⟩

/-- consistency with C01: the position-carrying validator accepts exactly the documents that have the schema's
shape (`VN.shape`, the spec of `C01_with_alternatives`; layout stripped, keys decoded) -/
theorem C17_validation_accepts_iff_shape {α L : Type} (p : P α L) (sy : Sym α) (s : S L) (d : T α) (hd : d.TokNE)
    (pre post : List α) :
    validatePos p s (pre ++ (d.render sy ++ post)) (evsAt pre.length d) = .acc
      ↔ VN.shape (litOKof p) (toVN s) (strip p.unq d) = true := by
  rw [C17_validation_errpos p sy s d hd, VPos.ofSpec_acc, ← VPos.shape_value p s d pre.length]
  cases firstOffence p s pre.length d <;> simp

/-! Non-vacuity: schema `{"a": @one | @str, "b": [true]}` with `b` optional and nullable; literal validator =
"same first byte" (code 210 otherwise; `110` = `n` stands for the null literal of the nullable array). Document ` {"a": 1, "b" : [true, "x"]}`: the second element `"x"` (offset 23) is the
first offence. -/
def exP : P UInt8 UInt8 :=
  { litErr := fun l tok => if tok.head? == some l then none else some 210
    unq := fun k => String.ofList ((k.drop 1).dropLast.map fun b => Char.ofNat b.toNat) }
def exS : S UInt8 := .obj [] [("a", true, .lits [49, 34]), ("b", false, .arr [110] [.lits [116]])]
def exD : T UInt8 :=
  .obj [] [([], [34, 97, 34], [], [32], .scalar [49], []),
           ([32], [34, 98, 34], [32], [32], .arr [] [([], .scalar [116, 114, 117, 101], []), ([32], .scalar [34, 120, 34], [])], [])]

example : exD.render byteSym = s "{\"a\": 1, \"b\" : [true, \"x\"]}" := by decide +kernel
def okIs (x : Except ErrS Res) (r : Res) : Bool := match x with | .ok r' => r' == r | .error _ => false
example : okIs (validateBytes exP exS (s " {\"a\": 1, \"b\" : [true, \"x\"]}")) (.rej 210 23) = true := by decide +kernel
example : firstOffence exP exS 1 exD = some (210, 23) := by decide +kernel
example : okIs (validateBytes exP exS (s "{\"b\":null}")) (.rej 205 0) = true := by decide +kernel
example : okIs (validateBytes exP exS (s "{\"a\":1,\"b\":{}}")) (.rej 204 11) = true := by decide +kernel
example : okIs (validateBytes exP exS (s "{\"a\":1,\"c\":{}}")) (.rej 206 7) = true := by decide +kernel
example : okIs (validateBytes exP exS (s "{\"a\":1,\"b\":[ true,true ]}")) .acc = true := by decide +kernel
example : okIs (validateBytes exP exS (s "{\"a\":\"s\",\"b\":null}")) .acc = true := by decide +kernel
example : okIs (validateBytes exP exS (s "{\"a\":true}")) (.rej 204 5) = true := by decide +kernel
example : okIs (validateBytes exP exS (s "{\"a\":[]}")) (.rej 204 5) = true := by decide +kernel
example : okIs (validateBytes exP exS (s "{\"a\":1,\"b\":7}")) (.rej 210 11) = true := by decide +kernel

/-- the hypotheses of `C17_validation_errpos_bytes` are met by a concrete document -/
example : (toJA classify exD).Valid := by
  have e : toJA classify exD = .obj [] [([], [.quote, .la, .quote], [], [.sp], .scalar [.d19], []),
      ([.sp], [.quote, .lb, .quote], [.sp], [.sp],
        .arr [] [([], .scalar [.lt, .lr, .lu, .le], []), ([.sp], .scalar [.quote, .other, .quote], [])], [])] := by
    simp [exD, toJA, toJAItems, toJAMembers]; decide
  rw [e]
  have k1 : IsKey [.quote, .la, .quote] := string_isKey [.la] (.plain _ _ rfl .nil)
  have k2 : IsKey [.quote, .lb, .quote] := string_isKey [.lb] (.plain _ _ rfl .nil)
  have n1 : IsScalar [.d19] := ⟨.d19, [], .d1, false, .d1, rfl, rfl, rfl, rfl⟩
  have s1 : IsScalar [.quote, .other, .quote] := string_isScalar [.other] (.plain _ _ rfl .nil)
  simp [JA.Valid, ValidMembers, ValidItems, IsWs, Cls.isWs, k1, k2, n1, s1, true_isScalar]

end validation

/-! ## Schema scanner: a parsing error points at the first byte that cannot continue the text

Model `SchemaScan.scanAll` (the JSight SCHEMA scanner as `Next()` drains it; tied to the real scanner's `ERR code idx` by
`schema-diff` / `schema-tprod`, and to the statements below by `c17-schema-viable`). `SchemaScan.Err.idx` is the offset an
error carries, `Err.isEOF` singles out "unexpected end of file" (303); the other structured errors are 301 / 302 / 304. -/
section schema

/-- **C17 (1), schema scanner: the error is determined by the prefix up to the offending byte and a bounded look-ahead
window.** If the scanner rejects `bs` with error `e` at offset `i = e.idx`, then `i` is an offset of the text; and if `e` is
not "unexpected end of file", every byte string that has the same bytes and the same end of input at the offsets
`0 … i + 2` (the scanner looks at most two bytes ahead: one for `*/` and `##`, two for the closing `###`) is rejected
with exactly the same error (same code, same offset, same message): nothing behind the window can repair the text. -/
theorem C17_schema_error_is_prefix_determined (bs : List UInt8) (e : SchemaScan.Err)
    (h : SchemaScan.scanAll bs = .error e) :
    e.idx < max 1 bs.length ∧
    (e.isEOF = false →
      e.idx < bs.length ∧
      ∀ bs' : List UInt8, (∀ k, k < e.idx + 3 → bs'[k]? = bs[k]?) → SchemaScan.scanAll bs' = .error e) :=
  ⟨SchemaScan.scanAll_error_idx_lt bs e h, fun he => SchemaScan.scanAll_error_prefix bs e h he⟩

/-- the same in the form "cut the text behind the window and continue it by anything" (window `w = 2`) -/
theorem C17_schema_error_window (bs : List UInt8) (e : SchemaScan.Err) (h : SchemaScan.scanAll bs = .error e)
    (he : e.isEOF = false) (hw : e.idx + 1 + 2 ≤ bs.length) (ext : List UInt8) :
    SchemaScan.scanAll (bs.take (e.idx + 1 + 2) ++ ext) = .error e :=
  SchemaScan.scanAll_error_window bs e h he hw ext

/-- The EXACT window (PROVED at the end of this file: `C17_schema_error_exact_window`; also checked operationally by
`c17-schema-viable`): `w = 1` for the error "after first #"
(`##` must be followed by a third `#`), `w = 0` for every other error — the bytes up to the offending one decide, plus,
for `##`, the fact that the next byte is not `#`. -/
def C17_schema_error_exact_window_full : Prop :=
  ∀ (bs : List UInt8) (e : SchemaScan.Err), SchemaScan.scanAll bs = .error e → e.isEOF = false →
    ∀ bs' : List UInt8, (∀ k, k ≤ e.idx → bs'[k]? = bs[k]?) → (e.window = 1 → bs'[e.idx + 1]? ≠ some 35) →
      SchemaScan.scanAll bs' = .error e

/-- non-vacuity: `x` (offset 0) and `##xy` (offset 1, the error that needs the look-ahead byte) -/
example : SchemaScan.scanAll [120] = .error (.invalidChar 0 "looking for beginning of value") := SchemaScan.ErrEx.ex_x
example : SchemaScan.scanAll [35, 35, 120, 121] = .error (.invalidChar 1 "after first #") := SchemaScan.ErrEx.ex_hash
example (ext : List UInt8) : SchemaScan.scanAll ([35, 35, 120, 121] ++ ext) = .error (.invalidChar 1 "after first #") :=
  C17_schema_error_window [35, 35, 120, 121] _ SchemaScan.ErrEx.ex_hash rfl (by decide +kernel) ext

/-- **C17 (2), full statement (NOT a theorem).** The prefix before the offending byte can be completed to an accepted text.
It is false as it stands: after a user comment inside the object of an INLINE annotation the scanner forgets the
annotation (`[1 //{#c\n}` followed by any byte is rejected at that byte, although no byte could be accepted from the
`#` on; real library: 301 at offset 10 for `[1 //{#c\\n}]`, 303 for the bare prefix, while at root level `1 //{#c\\n}` IS
accepted) — known-finding class `K-C17-comment-in-inline-annotation` of `c17-schema-viable`. The Lean refutation on the
witness (`C17_schema_error_prefix_viable_full_false`) and the proved part (`C17_schema_error_prefix_viable_partial`,
`C17_token_level_viable`: errors at token boundaries) are at the end of this file; the witness is also replayed on the
model (driver `sviable`) and on the real scanner. Outside that class the
completion `SchemaScan.completion` (close the open token, then the lexeme stack from the top, following the return
stack through annotations and comments) is accepted by the model and by the real scanner on every generated case. -/
def C17_schema_error_prefix_viable_full : Prop :=
  ∀ (bs : List UInt8) (e : SchemaScan.Err), SchemaScan.scanAll bs = .error e → e.isEOF = false →
    ∃ ext : List UInt8, ∃ evs, SchemaScan.scanAll (bs.take e.idx ++ ext) = .ok evs

/-- **C17 (3), the end-of-file error is reported at the last byte** — for every input on which the scanner reports it. -/
theorem C17_schema_eof_error_position (bs : List UInt8) (e : SchemaScan.Err) (h : SchemaScan.scanAll bs = .error e)
    (he : e.isEOF = true) : e = .unexpectedEOF (bs.length - 1) :=
  SchemaScan.scanAll_eof_idx bs e h he

/-- **C17 (3), input ends early at a token boundary** (ordinary mode; `C14_schema_len_error` is the length-mode twin):
the input is the text of a token list accepted from the initial state that leaves an object, an array, a key, a member
value or an array item open: "unexpected end of file" (303) at the last byte. -/
theorem C17_schema_eof_error_tokens (toks : List SchemaScan.Len.Tok) (hw : ∀ t ∈ toks, t.WF) (c' : SchemaScan.Len.TC)
    (evs : List SchemaScan.Ev) (h : SchemaScan.Len.trun SchemaScan.Len.TC.init toks = some (c', evs))
    (hopen : SchemaScan.Len.eofErrK c'.K = true) (bs : List UInt8)
    (hbs : bs.map SchemaScan.classify = SchemaScan.Len.renderToks toks) :
    SchemaScan.scanAll bs = .error (.unexpectedEOF (bs.length - 1)) :=
  SchemaScan.scanAll_eof_tokens toks hw c' evs h hopen bs hbs

/-- … and inside a string (a cut inside a token): where a value may start, `"` and string characters up to the end -/
theorem C17_schema_eof_error_string (toks : List SchemaScan.Len.Tok) (hw : ∀ t ∈ toks, t.WF) (c' : SchemaScan.Len.TC)
    (evs : List SchemaScan.Ev) (h : SchemaScan.Len.trun SchemaScan.Len.TC.init toks = some (c', evs))
    (ctx : SchemaScan.VCtx) (hctx : SchemaScan.Len.vctxOf c'.st = some ctx) (body : List SchemaScan.Cls)
    (hb : SchemaScan.StrBody body) (bs : List UInt8)
    (hbs : bs.map SchemaScan.classify = SchemaScan.Len.renderToks toks ++ (.quote :: body)) :
    SchemaScan.scanAll bs = .error (.unexpectedEOF (bs.length - 1)) :=
  SchemaScan.scanAll_eof_string toks hw c' evs h ctx hctx body hb bs hbs

/-- **C17 (3), any cut of an accepted text** (cuts inside tokens, annotations, comments included): a prefix of an accepted
text is accepted, or rejected with "unexpected end of file" at its last byte, or rejected with an invalid-character
error whose look-ahead window reaches the end of the prefix (one of its last two bytes; with the exact window: the last
byte, and only for a prefix ending in `##`). -/
theorem C17_schema_prefix_of_accepted_partial (t : List UInt8) (evs : List SchemaScan.Ev)
    (ht : SchemaScan.scanAll t = .ok evs) (n : Nat) (e : SchemaScan.Err)
    (h : SchemaScan.scanAll (t.take n) = .error e) :
    e = .unexpectedEOF ((t.take n).length - 1) ∨
    (e.isEOF = false ∧ (t.take n).length < e.idx + 3 ∧ e.idx < (t.take n).length) :=
  SchemaScan.scanAll_prefix_of_accepted t evs ht n e h

/-- full statement of (3) for any cut (follows from the exact window; PROVED at the end of this file:
`C17_schema_prefix_of_accepted`): the position is the last byte -/
def C17_schema_prefix_of_accepted_full : Prop :=
  ∀ (t : List UInt8) (evs : List SchemaScan.Ev), SchemaScan.scanAll t = .ok evs → ∀ (n : Nat) (e : SchemaScan.Err),
    SchemaScan.scanAll (t.take n) = .error e → e.idx = (t.take n).length - 1

/-- non-vacuity: `[1, {"a":` and `[1, {"a":"x\n` -/
example := SchemaScan.ErrEx.ex_eof
example := SchemaScan.ErrEx.ex_eof_str

end schema

end Props.C17

#print axioms Props.C17.C17_schema_error_is_prefix_determined
#print axioms Props.C17.C17_schema_error_window
#print axioms Props.C17.C17_schema_eof_error_position
#print axioms Props.C17.C17_schema_eof_error_tokens
#print axioms Props.C17.C17_schema_eof_error_string
#print axioms Props.C17.C17_schema_prefix_of_accepted_partial

/-! ## Schema scanner, second part: the refuted viability statement, viability on the token level, the exact window -/
namespace Props.C17
section schema2

/-- **C17 (2) is FALSE as it stands** (known-finding class K-C17-comment-in-inline-annotation; regression witness
`[1 //{#c\n}]`, replayed on the real library by `c17-schema-viable`): the model reports the witness at offset 10 ("at the
end of value"), but no continuation of the ten bytes before it is accepted — a user comment inside the object of an
INLINE annotation resets the annotation mode, the object is closed as an ordinary value and the scanner is left in
`stateEndValue` over the inline-annotation marker, where every byte is rejected and the end of input is "unexpected". -/
theorem C17_schema_error_prefix_viable_full_false : ¬ C17_schema_error_prefix_viable_full := fun h =>
  let ⟨ext, evs, hok⟩ := h SchemaScan.ViableFalse.witness _ SchemaScan.ViableFalse.witness_error rfl
  SchemaScan.ViableFalse.prefix_dead ext evs hok

/-- the two halves of the refutation: the witness is reported at offset 10, and `[1 //{#c\n}` ++ anything is rejected -/
theorem C17_schema_witness_reported_at_10 :
    SchemaScan.scanAll [91, 49, 32, 47, 47, 123, 35, 99, 10, 125, 93] = .error (.invalidChar 10 "at the end of value") :=
  SchemaScan.ViableFalse.witness_error
theorem C17_schema_witness_prefix_dead (ext : List UInt8) (evs : List SchemaScan.Ev) :
    SchemaScan.scanAll ([91, 49, 32, 47, 47, 123, 35, 99, 10, 125] ++ ext) ≠ .ok evs :=
  SchemaScan.ViableFalse.prefix_dead ext evs

/-- **C17 (2) on the token level — "whatever has been accepted so far can be completed".** Token grammar of the schema
text (`ATok`: blanks, line breaks, `#` comments, inline `// {…} - note` and multi-line `/* {…} - note */` annotations,
scalars, keys, brackets, separators) and its scanner `arun` (which the byte-level model follows: `asim_run`): for every
token list accepted from the initial state, the closing tokens `closers c'` of the state reached — `1` / `"a":1` / `:1` for
what the step function waits for, then `}` / `]` (and `:1` behind an open key) for what is on the lexeme stack, from the
top — are well-formed, are accepted behind it, and leave the scanner in a complete state. -/
theorem C17_token_level_viable (toks : List SchemaScan.Len.ATok) (hw : ∀ t ∈ toks, t.WF) (c' : SchemaScan.Len.TC)
    (evs : List SchemaScan.Ev) (h : SchemaScan.Len.arun SchemaScan.Len.TC.init toks = some (c', evs)) :
    (∀ t ∈ SchemaScan.Len.closers c', t.WF) ∧
    ∃ c'' evs', SchemaScan.Len.arun SchemaScan.Len.TC.init (toks ++ (SchemaScan.Len.closers c').map .base)
        = some (c'', evs ++ evs') ∧ SchemaScan.Len.Complete c'' :=
  SchemaScan.Len.arun_viable toks hw c' evs h

/-- the same for the token grammar without multi-line annotations (`trun`) -/
theorem C17_token_level_viable_trun (toks : List SchemaScan.Len.Tok) (hw : ∀ t ∈ toks, t.WF) (c' : SchemaScan.Len.TC)
    (evs : List SchemaScan.Ev) (h : SchemaScan.Len.trun SchemaScan.Len.TC.init toks = some (c', evs)) :
    (∀ t ∈ SchemaScan.Len.closers c', t.WF) ∧
    ∃ c'' evs', SchemaScan.Len.trun SchemaScan.Len.TC.init (toks ++ SchemaScan.Len.closers c') = some (c'', evs ++ evs') ∧
      SchemaScan.Len.Complete c'' :=
  SchemaScan.Len.trun_viable toks hw c' evs h

/-- **lifted through the simulation: the byte text of an accepted token list is a viable prefix** — the scanner model
accepts it followed by the closing text `closerBytes c'` (`1`, `"a":1`, `:1`, `}`, `]`) -/
theorem C17_schema_token_prefix_viable (toks : List SchemaScan.Len.ATok) (hw : ∀ t ∈ toks, t.WF) (c' : SchemaScan.Len.TC)
    (evs : List SchemaScan.Ev) (h : SchemaScan.Len.arun SchemaScan.Len.TC.init toks = some (c', evs))
    (bs : List UInt8) (hbs : bs.map SchemaScan.classify = SchemaScan.Len.renderAToks toks) :
    ∃ evs', SchemaScan.scanAll (bs ++ SchemaScan.Len.closerBytes c') = .ok evs' :=
  SchemaScan.bytes_viable toks hw c' evs h bs hbs

/-- **C17 (2), proved part**: an error whose offending byte stands at a TOKEN BOUNDARY — the text before it is the text of
a token list accepted by the token-level scanner (this excludes the class K-C17-comment-in-inline-annotation, whose
texts are not token lists: a comment inside an annotation object is not a token) — has a completable prefix. The
general statement `C17_schema_error_prefix_viable_full` is false (`C17_schema_error_prefix_viable_full_false`). -/
theorem C17_schema_error_prefix_viable_partial (bs : List UInt8) (e : SchemaScan.Err)
    (_h : SchemaScan.scanAll bs = .error e) (toks : List SchemaScan.Len.ATok) (hw : ∀ t ∈ toks, t.WF)
    (c' : SchemaScan.Len.TC) (evs : List SchemaScan.Ev)
    (hrun : SchemaScan.Len.arun SchemaScan.Len.TC.init toks = some (c', evs))
    (hbs : (bs.take e.idx).map SchemaScan.classify = SchemaScan.Len.renderAToks toks) :
    ∃ ext : List UInt8, ∃ evs', SchemaScan.scanAll (bs.take e.idx ++ ext) = .ok evs' :=
  ⟨SchemaScan.Len.closerBytes c', SchemaScan.bytes_viable toks hw c' evs hrun _ hbs⟩

/-- non-vacuity: behind `[1, {"a":` the closing text is `1}]` and `[1, {"a":1}]` is accepted; `[x` is rejected at offset 1
behind the accepted token `[`, and `[` ++ `]` is accepted -/
example := SchemaScan.ErrEx.ex_closers3
example := SchemaScan.ErrEx.ex_viable3
example : ∃ ext : List UInt8, ∃ evs', SchemaScan.scanAll (([91, 120] : List UInt8).take 1 ++ ext) = .ok evs' :=
  -- the error is written out: left open, it is found only after `scanAll` has been unfolded against it
  C17_schema_error_prefix_viable_partial [91, 120] (.invalidChar 1 "looking for beginning of value")
    SchemaScan.ErrEx.ex_brack_x [.base .lbrack] (by simp [SchemaScan.Len.ATok.WF, SchemaScan.Len.Tok.WF]) _ _ rfl rfl

/-- **C17 (1), the EXACT look-ahead window** (the statement `C17_schema_error_exact_window_full` of the first part, now a
theorem): a structured error other than "unexpected end of file" at offset `i` is reproduced on every input that has
the same bytes (and the same end of input) at the offsets `0 … i` — window 0 — except that the error "after first #"
(`##` not followed by a third `#`) also needs the byte behind `i` not to be `#` — window 1. Behind it stands the
per-state look-ahead lemma (`SchemaLookAhead`: only `anyCommentStart` on `#`, `multiLineComment` on `#` and `mlTxt` on `*`
consult `data[index]` / `data[index+1]`; `dispatch_la_plain / _star1 / _star2 / _hash1 / _hash2`). -/
theorem C17_schema_error_exact_window : C17_schema_error_exact_window_full :=
  fun bs e h he bs' hA hW => SchemaScan.scanAll_error_exact bs e h he bs' hA hW

/-- the same in the form "cut the text behind the exact window and continue it by anything" -/
theorem C17_schema_error_window_exact (bs : List UInt8) (e : SchemaScan.Err) (h : SchemaScan.scanAll bs = .error e)
    (he : e.isEOF = false) (hw : e.idx + 1 + e.window ≤ bs.length) (ext : List UInt8) :
    SchemaScan.scanAll (bs.take (e.idx + 1 + e.window) ++ ext) = .error e :=
  SchemaScan.scanAll_error_window_exact bs e h he hw ext

/-- non-vacuity: `x` (window 0: `x` ++ anything) and `##xy` (window 1: `##x` ++ anything) -/
example (ext : List UInt8) : SchemaScan.scanAll ([120] ++ ext) = .error (.invalidChar 0 "looking for beginning of value") :=
  C17_schema_error_window_exact [120] _ SchemaScan.ErrEx.ex_x rfl (by decide +kernel) ext
example (ext : List UInt8) : SchemaScan.scanAll ([35, 35, 120] ++ ext) = .error (.invalidChar 1 "after first #") :=
  C17_schema_error_window_exact [35, 35, 120, 121] _ SchemaScan.ErrEx.ex_hash rfl (by decide +kernel) ext

/-- the error with window 1 ("after first #") stands in front of a byte other than `#`, or of the end of input -/
theorem C17_schema_window_next (bs : List UInt8) (e : SchemaScan.Err) (h : SchemaScan.scanAll bs = .error e)
    (hw : e.window = 1) : bs[e.idx + 1]? ≠ some 35 :=
  SchemaScan.scanAll_window_next bs e h hw

/-- **C17 (3), any cut of an accepted text, exactly** (the statement `C17_schema_prefix_of_accepted_full` of the first part,
now a theorem; corollary of the exact window): a prefix of an accepted text is accepted, or rejected AT ITS LAST BYTE —
"unexpected end of file", or an invalid-character error there (a prefix ending in `##`). -/
theorem C17_schema_prefix_of_accepted : C17_schema_prefix_of_accepted_full :=
  fun t evs ht n e h => SchemaScan.scanAll_prefix_of_accepted_exact t evs ht n e h

/-- non-vacuity: `[1, {"a":1}]` is accepted (`ex_viable3`), its cut `[1, {"a":` of length 9 is rejected (`ex_eof`) — at
offset 8; and the window-1 error at the last byte of a text: `##` -/
example : ∀ e, SchemaScan.scanAll ((SchemaScan.Len.Ex.b "[1, {\"a\":" ++ SchemaScan.Len.Ex.b "1}]").take 9) = .error e →
    e.idx = 8 := by
  obtain ⟨evs, h⟩ := SchemaScan.ErrEx.ex_viable3
  intro e he
  exact C17_schema_prefix_of_accepted _ evs h 9 e he
example : (SchemaScan.Len.Ex.b "[1, {\"a\":" ++ SchemaScan.Len.Ex.b "1}]").take 9 = SchemaScan.Len.Ex.b "[1, {\"a\":" := by
  decide
example : SchemaScan.scanAll [35, 35] = .error (.invalidChar 1 "after first #") :=
  C17_schema_error_exact_window [35, 35, 120, 121] _ SchemaScan.ErrEx.ex_hash rfl [35, 35]
    (fun k hk => by
      have : k = 0 ∨ k = 1 := by simp [SchemaScan.Err.idx] at hk; omega
      rcases this with rfl | rfl <;> rfl)
    (fun _ => by simp [SchemaScan.Err.idx])

end schema2
end Props.C17

#print axioms Props.C17.C17_schema_error_prefix_viable_full_false
#print axioms Props.C17.C17_schema_witness_prefix_dead
#print axioms Props.C17.C17_token_level_viable
#print axioms Props.C17.C17_token_level_viable_trun
#print axioms Props.C17.C17_schema_token_prefix_viable
#print axioms Props.C17.C17_schema_error_prefix_viable_partial
#print axioms Props.C17.C17_schema_error_exact_window
#print axioms Props.C17.C17_schema_error_window_exact
#print axioms Props.C17.C17_schema_window_next
#print axioms Props.C17.C17_schema_prefix_of_accepted

/-! ## Error positions of the json `Document` OBJECT after any history (carry-over of `C17_json_errpos` through the C11
bridge `C11_doc_rejected_is_whole_text_model` / `C11_doc_rejected_all_deliveries`)

`Sim.errPos Cfg.init (t.map classify) 0` is the index `C17_json_errpos` speaks about (the first byte the strict scanner
rejects). `DocCorollaries.events_errPos`: the span-carrying whole-text model `JsonScan.events false` reports "invalid
character" exactly there, and "unexpected end" exactly when no byte is rejected, at the last byte. -/
namespace Props.C17
section document
open JsonScan DocCursor

/-- `Check()` after ANY history answers what the whole-text model `checkS` answers on the text (both modes):
OK, or the error with code 301 / 303 / 203 and the same index -/
theorem C17_document_check_is_whole_text_model (t : List UInt8) (o : Bool) (ops : List Op) :
    (((Doc.new t o).run ops).2.step .check).1 = .check (DocCorollaries.checkOfS (checkS o t)) :=
  DocCorollaries.check_after_checkS t o ops

/-- strict document, ANY history: if `Check()` reports the error `c` at index `p`, then either
* `c = 301` "invalid character": `p` is an index of the text, it is the byte of `C17_json_errpos` - the text before it can
  be continued to a JSON text and no text that has the bytes up to and including `p` is a JSON text; or
* `c = 303` "unexpected end": `p` is the last byte, the text is not a JSON text, no byte of it is rejected and it can be
  continued to a JSON text (the input ended early); or
* `c = 203` "empty JSON" at 0: the whole-text model accepts the text without delivering a lexeme;
and for 301 / 303 the same error is the one the `NextLexeme` sequence of the document ENDS with: every delivery before
index `|eventsSeen|` is a lexeme without error, the delivery at that index is the error `c` at `p` (and stays:
`C11_doc_next_spec`, `C11_doc_error_sticky`) -/
theorem C17_document_error_position (t : List UInt8) (ops : List Op) (c p : Nat)
    (h : (((Doc.new t false).run ops).2.step .check).1 = .check (.err c p)) :
    ((c = 301 ∧ p < t.length ∧ (∃ suffix : List UInt8, check false (t.take p ++ suffix) = true) ∧
        (∀ suffix : List UInt8, check false (t.take (p + 1) ++ suffix) = false)) ∨
     (c = 303 ∧ p = t.length - 1 ∧ check false t = false ∧ Sim.errPos Cfg.init (t.map classify) 0 = none ∧
        (∃ suffix : List UInt8, check false (t ++ suffix) = true)) ∨
     (c = 203 ∧ p = 0 ∧ ∃ evs, events false t = .ok evs ∧ nonTop evs = [])) ∧
    (c ≠ 203 → lexAt t false (eventsSeen false t).length = .err c p ∧
      ∀ k, k < (eventsSeen false t).length → ∃ ev, lexAt t false k = .lex ev) := by
  obtain ⟨h1, h2⟩ := DocCorollaries.doc_error_position t ops c p h
  refine ⟨?_, h2⟩
  rcases h1 with ⟨hc, he, hp⟩ | ⟨hc, he, hp, hf⟩ | h3
  · exact Or.inl ⟨hc, hp, C17_json_errpos t p he⟩
  · obtain ⟨sfx, hs⟩ := DocCorollaries.eof_viable _ he
    refine Or.inr (Or.inl ⟨hc, hp, hf, he, sfx.map repr, ?_⟩)
    unfold check
    rw [List.map_append, map_classify_repr]
    exact hs
  · exact Or.inr (Or.inr h3)

/-- the other direction for "invalid character": if the strict scanner rejects byte `j` (hypothesis of `C17_json_errpos`),
`Check()` after ANY history reports 301 at `j` -/
theorem C17_document_reports_first_dead_byte (t : List UInt8) (ops : List Op) (j : Nat)
    (he : Sim.errPos Cfg.init (t.map classify) 0 = some j) :
    (((Doc.new t false).run ops).2.step .check).1 = .check (.err 301 j) :=
  DocCorollaries.doc_check_of_errPos t ops j he

/-! Non-vacuity: `[1, x]` (invalid character at 4) and `[1,` (input ends early) with histories -/
example : (((Doc.new (s "[1, x]") false).run [.next, .len, .next, .next]).2.step .check).1 = .check (.err 301 4) ∧
    eventsSeen false (s "[1, x]") = [⟨.arrB, 0, 0⟩, ⟨.itemB, 1, 1⟩, ⟨.litB, 1, 1⟩, ⟨.litE, 1, 1⟩, ⟨.itemE, 1, 1⟩] ∧
    lexAt (s "[1, x]") false 5 = .err 301 4 := ⟨by decide +kernel, by decide +kernel, by decide +kernel⟩
example : (((Doc.new (s "[1,") false).run [.check, .next, .len]).2.step .check).1 = .check (.err 303 2) ∧
    Sim.errPos Cfg.init ((s "[1,").map classify) 0 = none ∧ check false (s "[1," ++ s "0]") = true :=
  ⟨by decide +kernel, by decide +kernel, by decide +kernel⟩
example : (((Doc.new (s "[1, x]") false).run [.next, .len, .next, .next]).2.step .check).1 = .check (.err 301 4) :=
  C17_document_reports_first_dead_byte _ _ 4 (by decide +kernel)
example : (((Doc.new (s "  ") false).run [.next]).2.step .check).1 = .check (.err 203 0) := by decide +kernel

end document
end Props.C17

#print axioms Props.C17.C17_document_check_is_whole_text_model
#print axioms Props.C17.C17_document_error_position
#print axioms Props.C17.C17_document_reports_first_dead_byte
