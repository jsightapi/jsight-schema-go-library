import JSight.RuleOrder
import JSight.Tie.CMap
import JSight.CheckRulesThm
import JSight.CheckRulesTie
import JSight.BridgeCRThm
import JSight.BridgeCR2Short
/-!
# C08 — Check's verdict does not depend on the order of the rules (the part that is a theorem)

`RuleOrder.Prog` is the language of pipelines that look at a node's constraint map only through
`Has`, `Get`, `Len`, `Set`, `Delete`, a key-wise `Filter` and an "every constraint passes" iteration.
`C08_verdict_perm`: the verdict of *every* such pipeline is the same for every ordering of a
duplicate-free rule set (the map is built by `AddConstraint` = `Has` + `Set` in written order, C19
gives the map semantics, `Filter` is the fixed one of F-1).
`Gen.C08_cmap_uses_reviewed` (table regenerated from /repo on every run) shows that the Go
compile / check pipeline stays inside this language.
Exception recorded as known finding K-C08-ref-type-or: `MixedValueNode.AddConstraint` special-cases
`type` and `or` *at insertion time* (its result depends on what is already in the map), so for a
type-reference example node the hypothesis "the map is built by Set" does not hold.
The rule checker itself is inside the model since the extension phase: `CR.checkRules` (`CheckRules.lean`,
tied to the real `Check` by `vh c08-model`) against the statement `CR.specOK` (`CheckRulesSpec.lean`):
`C08_check_iff_partial`, `C08_check_perm` at the end of this file.
-/
namespace Props.C08
open RuleOrder OMap

theorem C08_verdict_perm {κ ν : Type} [DecidableEq κ] (prog : Prog κ ν) (rs rs' : List (κ × ν))
    (hn : (rs.map (·.1)).Nodup) (hp : rs.Perm rs') :
    eval prog (build rs) = eval prog (build rs') := verdict_perm prog rs rs' hn hp

/-- the map's lookup function does not depend on the insertion order -/
theorem C08_lookup_perm {κ ν : Type} [DecidableEq κ] (rs rs' : List (κ × ν)) (hn : (rs.map (·.1)).Nodup) (hp : rs.Perm rs') :
    ∀ k, (build rs).data k = (build rs').data k := (build_lookup_perm rs rs' hn hp).2.2

/-! ### an instance: `falseConstraints` + the counting of `orConstraint` -/
inductive RK | nullable | const | or | typesList | optional | type | min | max
  deriving DecidableEq, Repr

/-- value of a rule as far as these steps look at it: Boolean value / is the type "mixed" -/
structure RV where
  flag : Bool := true
  deriving DecidableEq, Repr

/-- `compile.falseConstraints; compile.orConstraint` (verdict: no "other rules with or" error) -/
def orStep : Prog RK RV :=
  .filter (fun k v => !((k == .nullable || k == .const) && !v.flag)) <|
  .has .or fun hasOr => if !hasOr then .ret true else
  .has .typesList fun hasTypes => if !hasTypes then .ret false else
  .len fun n =>
  .has .optional fun o => .has .nullable fun nl => .get .type fun t =>
    let n := n - 2 - (if o then 1 else 0) - (if nl then 1 else 0) - (if t.isSome then 1 else 0)
    .ret (n == 0 && (match t with | some v => v.flag | none => true))

/-- the pinned-tree witness of F-1, both orders: accepted either way -/
example : eval orStep (build [(.nullable, ⟨false⟩), (.const, ⟨false⟩), (.or, ⟨true⟩), (.typesList, ⟨true⟩)]) = true := by decide +kernel
example : eval orStep (build [(.or, ⟨true⟩), (.typesList, ⟨true⟩), (.nullable, ⟨false⟩), (.const, ⟨false⟩)]) = true := by decide +kernel
example : eval orStep (build [(.or, ⟨true⟩), (.typesList, ⟨true⟩), (.min, ⟨true⟩)]) = false := by decide +kernel

/-! ## The rule checker itself: `Check` on the rules of one annotated node = the statement

`CR.checkRules n` transliterates what `Check` does with the rules of one annotated node `n` (kind of the EXAMPLE,
object property or not, ORDERED list of (rule name, value tree)): rule creation and insertion in the order of the
annotation — `or` members loaded and compiled on the spot —, `compileNode` step by step, `CompileAllOf`, the
compatibility check; it returns the FIRST error code in code order (tie: `vh c08-model`, every ordering of every
generated rule set). `CR.specOK n` is the property text: `Known`, `Once`, `ValuesOK` rule by rule and, on the rule
SET read as a partial function, `Applies`, `PairsOrdered`, `ExclusiveHasBound`, `PrecisionOnlyDecimal`,
`FormatExcludesLengthRegex`, `CombinatorsAlone`, `TypeFits`, `EmptyArrayCounts`, `AllOfNamesSomething`. -/
open CR

/-- Full statement: for every node and every rule list, of any length, values of any size, `or` members included. -/
def C08_check_iff_full : Prop := ∀ n : Node, n.kind.wf = true → isOk (checkRules n) = specOK n

/-- **C08_check_iff** outside the class around known finding K-C08-ref-type-or (`type` rules on a shortcut node:
any on a `@t` node, two or more on an `@a | @b` node — `MixedValueNode.AddConstraint` replaces the type constraint
there instead of rejecting the duplicate): the checker accepts the rules of a node iff they are known, appear
once, have well-formed values, apply to the node's kind and are mutually consistent. -/
theorem C08_check_iff_partial (n : Node) (hwf : n.kind.wf = true) (hK : refTypeClass n = false) :
    isOk (checkRules n) = specOK n := CR.check_iff_partial n hwf hK

/-- scalar, object and array nodes alone: the last case of `C08_check_iff_partial`, where neither well-formedness nor
the class hypothesis is needed -/
theorem C08_check_iff_kinded (n : Node) (hk : n.kind.isShortcut = false) : isOk (checkRules n) = specOK n :=
  CR.check_iff_base n hk

/-- **C08_check_perm**: the VERDICT is the same for every ordering of the rules inside the annotation (outside the
same class; the class is closed under reordering). The error CODE may depend on the order: `C08_code_depends_on_order`. -/
theorem C08_check_perm (n : Node) (rs' : List Rule) (hp : n.rules.Perm rs') (hwf : n.kind.wf = true)
    (hK : refTypeClass n = false) :
    isOk (checkRules n) = isOk (checkRules { n with rules := rs' }) :=
  CR.check_perm n rs' hp hwf hK

/-- the specification itself does not see the order (no hypothesis) -/
theorem C08_spec_perm (n : Node) (rs' : List Rule) (hp : n.rules.Perm rs') :
    specOK n = specOK { n with rules := rs' } := CR.specOK_perm n rs' hp

/-- the model's applicability table is the code's (`IsJsonTypeCompatible` executed through the hook, every run) -/
theorem C08_model_compat_is_code : (Gen.compatTable.all fun row =>
    match ctOfString row.1, jtOfString row.2.1 with
    | some k, some t => compat k t == row.2.2
    | _, _ => true) = true := CR.compat_is_table

/-! ### witnesses -/

def bInteger : Bytes := [34, 105, 110, 116, 101, 103, 101, 114, 34]   -- "integer"
def bString : Bytes := [34, 115, 116, 114, 105, 110, 103, 34]         -- "string"
def bRefT : Bytes := [34, 64, 116, 34]                                -- "@t"
def orIntStr : Val := .arr [.lit bInteger, .lit bString]

/-- K-C08-ref-type-or: `@t // {type: "@t", or: ["integer", "string"]}` … -/
def wTypeOr : Node := { kind := NKind.typeRef [64, 116], isProp := false, rules := [(n_type, Val.lit bRefT), (n_or, orIntStr)] }
/-- … and the same rules in the other order -/
def wOrType : Node := { kind := NKind.typeRef [64, 116], isProp := false, rules := [(n_or, orIntStr), (n_type, Val.lit bRefT)] }

def codeOf : Except Code Unit → Option Code
  | .ok _ => none
  | .error c => some c

/-- the model reproduces the known finding: accepted in one order, 501 in the other (replayed on the real library
by `vh c08-model` / `vh c08-rules`, stream `known`) -/
theorem C08_ref_type_or_order : isOk (checkRules wTypeOr) = true ∧ codeOf (checkRules wOrType) = some 501 := by
  decide +kernel

/-- the unrestricted statement is false (on the recorded witness the checker accepts a rule set whose `type` rule
repeats the node's own type reference) -/
theorem C08_check_iff_full_false : ¬ C08_check_iff_full := by
  intro h
  have := h wTypeOr (by decide +kernel)
  revert this
  decide +kernel

/-- a second witness in the same class, on an or-shortcut node: `@a | @b // {type: "mixed", type: "mixed"}` is accepted
although the rule appears twice -/
def wTwiceRules : List Rule := [(n_type, Val.lit q_mixed), (n_type, Val.lit q_mixed)]
def wTwice : Node := { kind := NKind.orShortcut [true, true], isProp := false, rules := wTwiceRules }
theorem C08_once_false_on_orShortcut : isOk (checkRules wTwice) = true ∧ Once wTwice = false := by decide +kernel

/-- the error CODE depends on the order: `5 // {min: "a", foo: 1}` fails with code 0 ("Incorrect number value"),
`5 // {foo: 1, min: "a"}` with 601 (unknown rule) — the verdict is the same -/
def wCodeA : Node := { kind := NKind.integer, isProp := false, rules := [(n_min, Val.lit [34, 97, 34]), ([102, 111, 111], Val.lit [49])] }
def wCodeB : Node := { kind := NKind.integer, isProp := false, rules := [([102, 111, 111], Val.lit [49]), (n_min, Val.lit [34, 97, 34])] }
theorem C08_code_depends_on_order : codeOf (checkRules wCodeA) = some 0 ∧ codeOf (checkRules wCodeB) = some 601 := by
  decide +kernel

/-! ### non-vacuity: concrete nodes that meet the hypotheses, on both sides of the verdict -/

/-- `2.5 // {min: 1, max: 3, exclusiveMaximum: true, precision: 1, type: "decimal", nullable: false}` as an object
property: accepted by the checker and by the statement -/
def wAcceptRules : List Rule :=
  [(n_min, Val.lit [49]), (n_max, Val.lit [51]), (n_exclusiveMaximum, Val.lit t_true), (n_precision, Val.lit [49]),
   (n_type, Val.lit [34, 100, 101, 99, 105, 109, 97, 108, 34]), (n_nullable, Val.lit t_false), (n_optional, Val.lit t_true)]
def wAccept : Node := { kind := NKind.float, isProp := true, rules := wAcceptRules }
example : wAccept.kind.wf = true ∧ refTypeClass wAccept = false ∧ isOk (checkRules wAccept) = true ∧ specOK wAccept = true := by
  decide +kernel

/-- `"a" // {or: [{type: "integer", min: 2, max: 1, exclusiveMinimum: true}, "string"]}` (the shape of the witness of
fix F-25): rejected (618) by the checker and by the statement — through the member rule-set, which the example does
not match -/
def wF25Rules : List Rule :=
  [(n_or, Val.arr [Val.obj [(n_type, Val.lit bInteger), (n_min, Val.lit [50]), (n_max, Val.lit [49]),
                            (n_exclusiveMinimum, Val.lit t_true)], Val.lit bString])]
def wF25 : Node := { kind := NKind.string, isProp := false, rules := wF25Rules }
example : refTypeClass wF25 = false ∧ codeOf (checkRules wF25) = some 618 ∧ specOK wF25 = false := by decide +kernel

/-- `@t // {or: ["integer", "string"], nullable: true}` on a type shortcut: inside the theorem's domain, accepted -/
def wRefOr : Node := { kind := NKind.typeRef [64, 116], isProp := false, rules := [(n_or, orIntStr), (n_nullable, Val.lit t_true)] }
example : refTypeClass wRefOr = false ∧ isOk (checkRules wRefOr) = true ∧ specOK wRefOr = true := by decide +kernel

/-- a permutation instance of `C08_check_perm` -/
example : isOk (checkRules wAccept) = isOk (checkRules { wAccept with rules := wAccept.rules.reverse }) :=
  C08_check_perm wAccept _ (List.reverse_perm _).symm (by decide +kernel) (by decide +kernel)

/-! ### Bridge (A)∩(B): `Compile` (text-level pipeline of C01) and `CR.checkRules` model ONE piece of code

`BridgeCR.crNodeOf` translates (A)'s loaded node (kind, EXAMPLE token, rules with their value TEXT) into (B)'s `CR.Node`;
`BridgeCR.common` is the (decidable, syntactic) class both express; `BridgeCR.aNode` is (A) on one node: constraint
creation (`Compile.createRules`), `Compile.basic` (`compileNode`'s own steps), the kind-compatibility stage of
`Compile.checkNode`. The run-time bridge `vh bridge-models` evaluates `C08_models_agree_full` on every annotated node of
its inputs (no disagreement after three model repairs). -/

open BridgeCR in
/-- the FULL statement (both phases): on every node of the common class (A) never answers `unsupported`, and the two
models give the same verdict and the same first error code.
PROVED below for the annotation-reading phase (`C08_models_agree_creation`) and — second part — for BOTH phases on
every node of the class under two decidable hypotheses that every loader-produced node meets
(`C08_models_agree_partial`); AS STATED it is false on two families of `RNode`s no loader produces
(`C08_models_agree_full_false`, `C08_models_agree_full_false_ref`). Run time: `vh bridge-models`. -/
def C08_models_agree_full : Prop :=
  ∀ (n : Compile.RNode) (isProp : Bool), common n = true →
    isUnsupported (aNode n isProp) = false ∧ codeA (aNode n isProp) = codeB (CR.checkRules (crNodeOf n isProp))

open BridgeCR in
/-- **C08_models_agree_creation** (the annotation-reading phase, every scalar / object / array node of the common
class, any number of rules in any order): `Compile.createRules` (constraint constructors + `AddConstraint`: 601, 604,
605, 103, 0, 501, 810, 902, 903, 904) and (B)'s fold of `CR.loadRule` over the translated rules both accept, or both
reject with the SAME error code; (A) never answers `unsupported`; and when they accept, (B)'s constraint map has a
constraint exactly for the rule names (A) recorded (`Inv`: the common starting point of the two `compileNode` models). -/
theorem C08_models_agree_creation (n : Compile.RNode) (isProp : Bool) (h : common n = true) (hp : plainKind n = true) :
    FoldOK ((n.rules.map (·.name)).reverse) (Compile.createRules n.kind [] n.rules)
      ((crNodeOf n isProp).rules.foldlM
        (CR.loadRule { okRegex := [], enumRules := [] } (crNodeOf n isProp).ctx) (CR.initMap (crNodeOf n isProp).kind)) :=
  creation_agree n isProp h hp

open BridgeCR in
/-- one rule at a time, also on a type-shortcut node (`k = mixed`: the rule is not `type` / `or`): the constructor +
insertion of (A) against `CR.loadRule` of (B) under the invariant -/
theorem C08_models_agree_rule (k : Loader.NK) (c : CR.Ctx) (env : CR.Env) (seen : List (List UInt8)) (m : CR.CMap)
    (r : Compile.Rule) (hI : Inv seen m) (hg : r.gen = false) (hc : ruleCommon r = true)
    (hk : k = Loader.NK.mixed → r.name ≠ CR.n_type ∧ r.name ≠ CR.n_or)
    (hcls : c.cls = .mixedValue → k = Loader.NK.mixed) :
    StepOK seen r.name (Compile.createRule k seen r) (CR.loadRule env c m (ruleOf r)) :=
  step_agree k c env seen m r hI hg hc hk hcls

open BridgeCR in
/-- payoff, conditional on the full statement: on kinded nodes (B)'s SPECIFICATION characterises when (A)'s
creation + compile + compatibility stage succeeds (through `C08_check_iff_kinded`) -/
theorem C08_spec_characterises_compile (hfull : C08_models_agree_full) (n : Compile.RNode) (isProp : Bool)
    (h : common n = true) (hk : (crNodeOf n isProp).kind.isShortcut = false) :
    (codeA (aNode n isProp)).isNone = specOK (crNodeOf n isProp) := by
  rw [← C08_check_iff_kinded _ hk, (hfull n isProp h).2]
  cases checkRules (crNodeOf n isProp) <;> rfl

namespace BridgeEx
open BridgeCR Compile
def r (name : String) (v : String) : Compile.Rule := { name := sb name, gen := false, val := some (sb v), pos := 0, npos := 0 }
/-- `5 // {min: 1, max: 3}` -/
def nOK : RNode := { kind := .lit, children := [], keys := [], value := some (sb "5"), rules := [r "min" "1", r "max" "3"] }
/-- `5 // {max: 5, min: 7}`: 617 in both -/
def n617 : RNode := { nOK with rules := [r "max" "5", r "min" "7"] }
/-- `5 // {minLength: 1}`: 1117 in both (the kind-compatibility stage) -/
def n1117 : RNode := { nOK with rules := [r "minLength" "1"] }
/-- `5 // {min: 1, foo: 2, min: 3}`: 601 in both (before the duplicate) -/
def n601 : RNode := { nOK with rules := [r "min" "1", r "foo" "2", r "min" "3"] }
/-- `{} // {additionalProperties: "comment", nullable: true}` as an object property (the value the bridge repaired (B) for) -/
def nObj : RNode := { kind := .obj, children := [], keys := [], value := none,
                      rules := [r "additionalProperties" "\"comment\"", r "nullable" "true"] }
/-- non-vacuity of `C08_models_agree_full` / `C08_models_agree_creation`: nodes inside the class, on both sides of the verdict -/
example : common nOK = true ∧ plainKind nOK = true ∧ codeA (aNode nOK false) = none ∧ codeB (CR.checkRules (crNodeOf nOK false)) = none := by
  decide +kernel
example : common n617 = true ∧ codeA (aNode n617 false) = some 617 ∧ codeB (CR.checkRules (crNodeOf n617 false)) = some 617 := by
  decide +kernel
example : common n1117 = true ∧ codeA (aNode n1117 false) = some 1117 ∧ codeB (CR.checkRules (crNodeOf n1117 false)) = some 1117 := by
  decide +kernel
example : common n601 = true ∧ plainKind n601 = true ∧ codeA (aNode n601 false) = some 601 ∧ codeB (CR.checkRules (crNodeOf n601 false)) = some 601 := by
  decide +kernel
example : common nObj = true ∧ isUnsupported (aNode nObj true) = false ∧ codeA (aNode nObj true) = none ∧
    codeB (CR.checkRules (crNodeOf nObj true)) = none := by decide +kernel
end BridgeEx


/-! ### Bridge (A)∩(B), second part: the COMPILE phase (`compileNode` + `CompileAllOf` + the checker's kind compatibility)

`BridgeCR2*.lean`: (B)'s constraint map after the annotation is the explicit function `BridgeCR.mapOf` of (A)'s rule
list (`foldB`: values, not only presence); `falseConstraints` is (A)'s filter (`fc_mapOf`); then the stages of
`Compile.basic` (`bEnumPrec`, `bNames`, `bType`, `bAllowed`, `bPairs`, `bMinMax`, `bLens`, `bOptional`, `bFinish`) are
walked against the steps of `CR.compile` one by one (`or_agree`, `enum_agree`, `prec_agree`, `type_agree`, `tail_plain`,
`tail_names`, `tail_any`, `pairNum_agree`, `pairNat_agree`, `compat_agree`), with the same error code at every exit. -/

open BridgeCR in
/-- **C08_models_agree_compile** (both phases, every scalar / object / array node of the common class whose literal
nodes have no children — `leafOK`, true of every node the loader produces): (A)'s per-node compile — constraint
creation, then `Compile.basic` stage by stage, then the kind-compatibility part of `Compile.check` — succeeds iff
`CR.checkRules` succeeds on the translated node, when both fail they fail with the SAME error code (601, 604, 605,
103, 0, 501, 810, 902–904; 1111, 1103, 1108, 1104, 1117, 1102, 1107, 1114, 1113, 1115, 1112, 102, 1105, 1106, 1109,
1110, 618, 617, 1101), and (A) never answers `unsupported`. -/
theorem C08_models_agree_compile (n : Compile.RNode) (isProp : Bool) (h : common n = true) (hp : plainKind n = true)
    (hw : leafOK n = true) :
    isUnsupported (aNode n isProp) = false ∧ codeA (aNode n isProp) = codeB (CR.checkRules (crNodeOf n isProp)) :=
  models_agree_compile n isProp h hp hw

open BridgeCR in
/-- the same with (B)'s side spelled as verdicts: (A) accepts iff (B) accepts -/
theorem C08_models_agree_verdict (n : Compile.RNode) (isProp : Bool) (h : common n = true) (hp : plainKind n = true)
    (hw : leafOK n = true) :
    (codeA (aNode n isProp)).isNone = isOk (CR.checkRules (crNodeOf n isProp)) := by
  rw [(models_agree_compile n isProp h hp hw).2]
  cases CR.checkRules (crNodeOf n isProp) <;> rfl

open BridgeCR in
/-- **the FULL statement of the first part is false** — on an `RNode` no loader produces: a LITERAL node that has a
child, with `type: "any"`. (A) counts `n.children` whatever the kind (1106), (B)'s literal node has no children
(accepted). The node is inside `common` (which does not speak about children); `leafOK` is the missing, decidable,
hypothesis. Not replayable on the library: the loader never gives a literal node children. -/
theorem C08_models_agree_full_false : ¬ C08_models_agree_full := by
  intro hfull
  have h := (hfull wLeaf false wLeaf_facts.1).2
  rw [wLeaf_facts.2.2.1, wLeaf_facts.2.2.2] at h
  exact absurd h (by decide +kernel)

open BridgeCR in
/-- **C08_models_agree_partial** = `C08_models_agree_full` with its two explicit decidable hypotheses, EVERY node of
the common class (scalar / object / array nodes AND the type shortcuts `@t`, `@a | @b`): `leafOK` (a literal node has no
children) and `shortOK` (the synthesised rule of a shortcut node has a value, the value of `@t` is a type name) — both
true of every node the loader produces, both needed (`C08_models_agree_full_false`, `C08_models_agree_full_false_ref`). -/
theorem C08_models_agree_partial :
    ∀ (n : Compile.RNode) (isProp : Bool), common n = true → leafOK n = true → shortOK n = true →
      isUnsupported (aNode n isProp) = false ∧ codeA (aNode n isProp) = codeB (CR.checkRules (crNodeOf n isProp)) :=
  fun n isProp h hw hs => models_agree_all n isProp h hw hs

open BridgeCR in
/-- the type-shortcut nodes alone (`@t // {…}`, `@a | @b // {…}`: (B)'s `MixedValueNode`, whose synthesised rule is
(B)'s initial constraint map) -/
theorem C08_models_agree_shortcut (n : Compile.RNode) (isProp : Bool) (h : common n = true)
    (hm : n.kind = Loader.NK.mixed) (hs : shortOK n = true) :
    isUnsupported (aNode n isProp) = false ∧ codeA (aNode n isProp) = codeB (CR.checkRules (crNodeOf n isProp)) :=
  models_agree_short n isProp h hm hs

open BridgeCR in
/-- the second witness against the unrestricted statement: a `@t` node whose synthesised token is `"enum"` -/
theorem C08_models_agree_full_false_ref :
    common wRef = true ∧ leafOK wRef = true ∧ shortOK wRef = false ∧
      codeA (aNode wRef false) ≠ codeB (CR.checkRules (crNodeOf wRef false)) := by
  refine ⟨wRef_facts.1, wRef_facts.2.1, wRef_facts.2.2.1, ?_⟩
  rw [wRef_facts.2.2.2.1, wRef_facts.2.2.2.2]
  decide

open BridgeCR in
/-- a kinded node of the common class is a scalar / object / array node -/
theorem plainKind_of_kinded (n : Compile.RNode) (isProp : Bool) (h : common n = true)
    (hk : (crNodeOf n isProp).kind.isShortcut = false) : plainKind n = true := by
  unfold plainKind
  cases hkind : n.kind <;> try rfl
  -- a node of kind `mixed` inside the class is translated to a shortcut kind
  simp only [common, Bool.and_eq_true] at h
  have hs := h.1.1.1
  clear h
  unfold crNodeOf nkindOf at hk
  unfold nkindOf at hs
  rw [hkind] at hk hs
  cases hr : n.rules with
  | nil => simp [hr] at hs
  | cons r rest =>
    simp only [hr] at hk hs
    split at hk
    · cases hk
    · split at hk
      · cases hk
      · simp_all

open BridgeCR in
/-- **C08_spec_characterises_compile, unconditional**: on kinded nodes of the common class (B)'s SPECIFICATION
characterises when (A)'s creation + compile + compatibility stage succeeds — `C08_models_agree_compile` through
`C08_check_iff_kinded`; no hypothesis about the other model is left (only `leafOK`, see `C08_models_agree_full_false`) -/
theorem C08_spec_characterises_compile_proved (n : Compile.RNode) (isProp : Bool)
    (h : common n = true) (hw : leafOK n = true) (hk : (crNodeOf n isProp).kind.isShortcut = false) :
    (codeA (aNode n isProp)).isNone = specOK (crNodeOf n isProp) := by
  rw [← C08_check_iff_kinded _ hk, (models_agree_compile n isProp h (plainKind_of_kinded n isProp h hk) hw).2]
  cases checkRules (crNodeOf n isProp) <;> rfl

namespace BridgeEx
open BridgeCR Compile
/-- `"a" // {or: ["@x", "@y"], optional: true}` outside an object: 1101 in both (through the `or` branch) -/
def nOr : RNode := { kind := .lit, children := [], keys := [], value := some (sb "\"a\""),
                     rules := [r "or" "[\"@x\", \"@y\"]", r "optional" "true"] }
/-- `5 // {type: "integer", min: 2, max: 1, exclusiveMaximum: true}`: 618 in both -/
def n618 : RNode := { kind := .lit, children := [], keys := [], value := some (sb "5"),
                      rules := [r "type" "\"integer\"", r "min" "2", r "max" "1", r "exclusiveMaximum" "true"] }
/-- `"x" // {type: "uuid", nullable: false, const: true}`: accepted by both -/
def nUuid : RNode := { kind := .lit, children := [], keys := [], value := some (sb "\"x\""),
                       rules := [r "type" "\"uuid\"", r "nullable" "false", r "const" "true"] }
/-- non-vacuity of `C08_models_agree_compile` / `_partial` / `C08_spec_characterises_compile_proved`: nodes meeting
all hypotheses, on both sides of the verdict, through the `or`, the pair and the format branches -/
example : common nOK = true ∧ plainKind nOK = true ∧ leafOK nOK = true ∧ (crNodeOf nOK false).kind.isShortcut = false := by
  decide +kernel
example : common nOr = true ∧ plainKind nOr = true ∧ leafOK nOr = true ∧ codeA (aNode nOr false) = some 1101 ∧
    codeB (CR.checkRules (crNodeOf nOr false)) = some 1101 ∧ codeA (aNode nOr true) = none := by decide +kernel
example : common n618 = true ∧ plainKind n618 = true ∧ leafOK n618 = true ∧ codeA (aNode n618 false) = some 618 ∧
    codeB (CR.checkRules (crNodeOf n618 false)) = some 618 := by decide +kernel
example : common nUuid = true ∧ plainKind nUuid = true ∧ leafOK nUuid = true ∧ codeA (aNode nUuid false) = none ∧
    codeB (CR.checkRules (crNodeOf nUuid false)) = none := by decide +kernel
example : common nObj = true ∧ plainKind nObj = true ∧ leafOK nObj = true := by decide +kernel
/-- `@t // {optional: true, min: 1}`: 1102 in both; `@a | @b // {nullable: true}` as a property: accepted by both -/
def nRef : RNode := { kind := .mixed, children := [], keys := [], value := none,
                      rules := [{ name := sb "type", gen := true, val := some (sb "@t"), pos := 0, npos := 0 },
                                r "optional" "true", r "min" "1"] }
def nOrS : RNode := { kind := .mixed, children := [], keys := [], value := none,
                      rules := [{ name := sb "or", gen := true, val := some (sb "@a | @b"), pos := 0, npos := 0 },
                                r "nullable" "true"] }
example : common nRef = true ∧ leafOK nRef = true ∧ shortOK nRef = true ∧ nRef.kind = Loader.NK.mixed ∧
    codeA (aNode nRef true) = some 1102 ∧ codeB (CR.checkRules (crNodeOf nRef true)) = some 1102 := by decide +kernel
example : common nOrS = true ∧ leafOK nOrS = true ∧ shortOK nOrS = true ∧ nOrS.kind = Loader.NK.mixed ∧
    codeA (aNode nOrS true) = none ∧ codeB (CR.checkRules (crNodeOf nOrS true)) = none := by decide +kernel
example : shortOK nOK = true ∧ shortOK n618 = true ∧ shortOK nOr = true := by decide +kernel
/-- the instance of the theorem on one of them -/
example : codeA (aNode n618 false) = codeB (CR.checkRules (crNodeOf n618 false)) :=
  (C08_models_agree_compile n618 false (by decide +kernel) (by decide +kernel) (by decide +kernel)).2
end BridgeEx

end Props.C08
