import JSight.ValidateNProofs
import JSight.ValidateTProofs
import JSight.ValidateRProofs
import JSight.ValidateAProofs
import JSight.ValidateKProofs
import JSight.AllOfProofs
import JSight.AllOfKSem
import JSight.AllOfKTrans
import JSight.AllOfKFull
import JSight.OrRuleSetProofs
import JSight.KeyTypeProofs
import JSight.Dfs
import JSight.PinnedTree
import JSight.RefE2EExamples
/-!
# C03 — Type references, or, allOf and additionalProperties compose as set operations

Models (all executable, the last one is what the driver runs against the real `Validate`):
* `VN.validate` — independent leaves: every alternative of a position is its own stack of frames;
* `VN.validateT` — the validator tree as the code keeps it (`Tree.leaves`, children share their parent
  object, a finishing child steps back to the parent, fix F-11: the parent becomes a leaf once);
* `VR.validateT` — + named, possibly recursive user types: `NodeValidatorList` expands type names
  depth-first, every name once per position, a nullable reference adds a literal validator;
* `VA.validateT` — + `additionalProperties` in all modes (absent/false, any, object, array, scalar type,
  user type).
Spec: `shape` by recursion on the *document* — a position accepts the union of its alternatives
(`(alts env s).any …`), an object decides every key the example does not name by `additionalProperties`.
* `VK.validateT` — + key shortcuts `@K: v` (declaration-order matching, one document key per shortcut,
  fix F-15): the richest model, the one the driver's `semk` command runs.
`or` rules are the same union through anonymous types; `allOf` is a compile-time expansion
(`AO.compileAll`, compared with the code by `sem-allof`; `C03_allOf_expand` says what it produces).
No bound on depth, width, number of types or cycle structure.
-/
namespace Props.C03

theorem C03_union {L D : Type} (litOK : L → D → Bool) (s : VN.S L) (d : VN.J D) :
    VN.validate litOK s d = VN.shape litOK s d := VN.C03_validate_iff_union litOK s d

/-- the tree with shared parent validators (as in `tree.go`, F-11) accepts the union too -/
theorem C03_shared_tree {L D : Type} (litOK : L → D → Bool) (s : VN.S L) (d : VN.J D) :
    VN.validateT litOK s d = VN.shape litOK s d := VN.C03_shared_tree litOK s d

theorem C03_shared_eq_independent {L D : Type} (litOK : L → D → Bool) (s : VN.S L) (d : VN.J D) :
    VN.validateT litOK s d = VN.validate litOK s d := VN.shared_eq_independent litOK s d

/-- named, possibly recursive types and nullable references -/
theorem C03_named_types {L D : Type} (env : VR.Env L) (litOK : L → D → Bool) (s : VR.S L) (d : VN.J D) :
    VR.validateT env litOK s d = VR.shape env litOK s d := VR.C03_named_types env litOK s d

/-- the depth-first type expansion is exactly reachability through chains of references (cycles
included): "resolved completely" -/
theorem C03_alts_iff_reach {L : Type} (env : VR.Env L) (s a : VR.S L) : a ∈ VR.alts env s ↔ VR.ReachS env s a :=
  VR.alts_iff_reach env s a

/-- + additionalProperties: decides every key the example does not name -/
theorem C03_additional_properties {L D : Type} (env : VA.Env L) (litOK : L → D → Bool) (s : VA.S L) (d : VN.J D) :
    VA.validateT env litOK s d = VA.shape env litOK s d := VA.C03_additional_properties env litOK s d

/-- + key shortcuts: an unknown key takes the first unused shortcut whose key type accepts it, then
additionalProperties; required shortcuts must be met -/
theorem C03_key_shortcuts {L D : Type} (env : VK.Env L) (litOK : L → D → Bool) (keyOK : String → String → Bool)
    (s : VK.S L) (d : VN.J D) : VK.validateT env litOK keyOK s d = VK.shape env litOK keyOK s d :=
  VK.C03_key_shortcuts env litOK keyOK s d

/-- allOf is a compile-time expansion: the expanded object has its own properties followed by the properties
of the (already expanded, hence transitively complete) base types in `allOf` order; every base is an object.
With the validator theorems above: an object with allOf accepts exactly the objects meeting its own and all
transitively inherited property requirements -/
theorem C03_allOf_expand {L : Type} [DecidableEq L] (env : AO.PEnv L) (fuel : Nat) (proc : List String)
    (props : List (String × Bool × AO.PS L)) (add : VA.AddMode L) (allOf : List String) (s : VA.S L)
    (h : AO.compileNode env fuel proc (.obj props add allOf) = .ok s) :
    ∃ bases own add', AO.compileTypes env fuel proc allOf = .ok bases ∧ AO.compileProps env fuel proc props = .ok own ∧
      (∀ b ∈ bases, AO.isObj b = true) ∧ s = .obj (own ++ bases.flatMap AO.propsOf) add' :=
  AO.C03_allOf_expand env fuel proc props add allOf s h

/-- the pre-fix tree (parent entered into `leaves` once per finishing child) violates the property:
`[@A | @B, "s", 1]`, `@A = 1.5`, `@B = 2.5` accepts `[1, 1]` (fixed by F-11; kept as regression witness) -/
theorem C03_pinned_tree_false : VN.validateTP VN.okK VN.wS VN.wD = true ∧ VN.shape VN.okK VN.wS VN.wD = false :=
  VN.C03_full_false

/-! ## allOf as coded, and `or` rule-sets (extension)

Models: `AOK.compileAll` (`compiler_all_of.go` transliterated: root first, then the types in sorted name order;
`extend` before the children; per base: `processType` with its in-progress set, object test, additionalProperties
merge by `IsEqual`, children appended with their (key, isShortcut) keys, required keys appended) producing `AOK.CS`
objects with explicit children / RequiredKeys / additionalProperties, read by the validator through `AOK.toVK`;
`ORS.loadAll` (the `or` value loaders + `AddUnnamedType` + `AddUnnamedTypes`). Driver words `semao`, `semor`; ties
`sem-allof-full`, `sem-or-rs`. -/

section AllOfK
open AOK
variable {L D : Type} [DecidableEq L]

/-- **C03_allOf_expand for the model that follows the code.** An object with a non-empty allOf list expands iff every
name resolves (`pt` = `processType` under the current in-progress set) to an object, the own children expand, no
(key, isShortcut) pair occurs twice among own and inherited children, and the additionalProperties constraints that are
present agree in the sense of the code's `IsEqual`; the result then has the own children followed by the children of the
bases in list order, the own required keys followed by the bases', and the first additionalProperties constraint
present (the object's own first). -/
theorem C03_allOf_expand_coded (pt : String → Except Err (CS L)) (ents : List (String × Bool × Bool × PS L))
    (add : Option (AP L)) (names : List String) (c : CS L) :
    compileWith pt (.obj ents add (some names)) = .ok c ↔
      names ≠ [] ∧ ∃ bases own, Resolves pt names bases ∧ (∀ b ∈ bases, isObj b = true) ∧
        compileEnts pt ents = .ok own ∧
        Fresh (ents.map keyOf) (bases.flatMap keysOf) ∧ Compatible (add :: bases.map addOf) ∧
        c = .obj (own ++ bases.flatMap entsOf) (reqOf ents ++ bases.flatMap reqsOf) (firstAdd (add :: bases.map addOf)) :=
  AOK.compileWith_obj_ok_iff pt ents add names c

/-- **C03_allOf_semantics** (general form, key shortcuts included): the validator on the expanded object is the
validator on the object that declares the own entries followed by the entries of the expanded — hence transitively
complete — bases, in allOf order, under the merged additionalProperties; by `C03_key_shortcuts` it accepts exactly
what that object's specification `VK.shape` admits. -/
theorem C03_allOf_semantics (envV : VK.Env L) (litOK : L → D → Bool) (keyOK : String → String → Bool)
    (pt : String → Except Err (CS L)) (ents : List (String × Bool × Bool × PS L)) (add : Option (AP L))
    (names : List String) (c : CS L) (bases : List (CS L)) (own : List (String × Bool × Bool × CS L))
    (hc : compileWith pt (.obj ents add (some names)) = .ok c)
    (hr : Resolves pt names bases) (ho : compileEnts pt ents = .ok own) (d : VN.J D) :
    VK.validateT envV litOK keyOK (toVK c) d =
      VK.shape envV litOK keyOK
        (.obj (plainOf own ++ bases.flatMap (fun b => plainOf (entsOf b)))
              (shortsOf own ++ bases.flatMap (fun b => shortsOf (entsOf b)))
              (modeOf (firstAdd (add :: bases.map addOf)))) d :=
  AOK.allOf_semantics envV litOK keyOK pt ents add names c bases own hc hr ho d

/-- **C03_allOf_semantics, conjunction form** (no key shortcut among own and inherited entries — with shortcuts the
one-slot greedy matching makes "meets the requirements of each part" meaningless): the expanded object accepts an
object document iff its members meet the object's own property requirements AND the property requirements of every
base (each base is itself expanded: `C03_allOf_transitive`), and the merged additionalProperties accepts every member
that neither the object nor a base names. -/
theorem C03_allOf_semantics_conj (envV : VK.Env L) (litOK : L → D → Bool) (keyOK : String → String → Bool)
    (pt : String → Except Err (CS L)) (ents : List (String × Bool × Bool × PS L)) (add : Option (AP L))
    (names : List String) (c : CS L) (bases : List (CS L)) (own : List (String × Bool × Bool × CS L))
    (hc : compileWith pt (.obj ents add (some names)) = .ok c)
    (hr : Resolves pt names bases) (ho : compileEnts pt ents = .ok own)
    (hplain : ∀ e ∈ entsOf c, e.2.1 = false) (ms : List (String × VN.J D)) :
    VK.validateT envV litOK keyOK (toVK c) (.obj ms) = true ↔
      Meets envV litOK keyOK (plainOf own) ms ∧
      (∀ b ∈ bases, Meets envV litOK keyOK (plainOf (entsOf b)) ms) ∧
      (∀ m ∈ ms, VK.lookup (plainOf own) m.1 = none → (∀ b ∈ bases, VK.lookup (plainOf (entsOf b)) m.1 = none) →
        AddAccepts envV litOK keyOK (modeOf (firstAdd (add :: bases.map addOf))) m.2 = true) :=
  AOK.allOf_semantics_conj envV litOK keyOK pt ents add names c bases own hc hr ho hplain ms

/-- **transitive inheritance**: the children of an expanded type are its own children and the own children of every
type it inherits from through any number of allOf steps (`Anc`). -/
theorem C03_allOf_transitive (env : PEnv L) (f : Nat) (P : List String) (n : String) (c : CS L)
    (h : processType env f P n = .ok c) (e : String × Bool × Bool × CS L) :
    e ∈ entsOf c ↔ e ∈ ownPart env n c ∨ ∃ m cm, Anc env n m ∧ Expands env m cm ∧ e ∈ ownPart env m cm :=
  AOK.allOf_transitive env f P n c h e

/-- **C03_allOf_semantics, as the property reads** (plain, pairwise distinct keys — distinctness between own and
inherited keys and among the inherited ones is what a successful expansion guarantees, within the own ones the loader):
a type `n` that expands to the object `c` accepts an object document iff its members meet the requirement of every own
property of `n` AND of every own property of every type `n` inherits from through any number of allOf steps, and
additionalProperties (the first constraint present) accepts every member whose key none of these properties names. -/
theorem C03_allOf_semantics_transitive (env : PEnv L) (envV : VK.Env L) (litOK : L → D → Bool) (keyOK : String → String → Bool)
    (f : Nat) (P : List String) (n : String) (c : CS L) (h : processType env f P n = .ok c)
    (hplain : ∀ e ∈ entsOf c, e.2.1 = false) (hnd : ((entsOf c).map keyOf).Nodup) (hobj : isObj c = true)
    (ms : List (String × VN.J D)) :
    VK.validateT envV litOK keyOK (toVK c) (.obj ms) = true ↔
      (∀ e ∈ ownPart env n c, EntryMet envV litOK keyOK e ms) ∧
      (∀ m cm, Anc env n m → Expands env m cm → ∀ e ∈ ownPart env m cm, EntryMet envV litOK keyOK e ms) ∧
      (∀ m ∈ ms, (∀ e ∈ entsOf c, e.1 ≠ m.1) → AddAccepts envV litOK keyOK (modeOf (addOf c)) m.2 = true) :=
  AOK.allOf_semantics_transitive env envV litOK keyOK f P n c h hplain hnd hobj ms

/-- **required-key bookkeeping**: after `CompileAllOf` the RequiredKeys list of every object of the root and of every
type is exactly the list of the keys of its non-optional children, own then inherited (the optional flags are
inherited with the children). -/
theorem C03_allOf_required_keys (env : PEnv L) (root : PS L) (env' : List (String × CS L)) (root' : CS L)
    (h : compileAll env root = .ok (env', root')) : ReqOK root' ∧ ∀ p ∈ env', ReqOK p.2 :=
  AOK.reqOK_compileAll env root env' root' h

/-- **C03_allOf_errors**, one object: the expansion fails iff the allOf list is empty, or a base does not expand
(`C03_allOf_errors_type`: cycle, unknown type, or a failure inside it), or a base is not an object, or — all bases
resolving — a key collides or two additionalProperties constraints conflict, or an own child fails. Independent of the
order in which the code meets the defects (which only selects the reported code; compared by `sem-allof-full`). -/
theorem C03_allOf_errors (pt : String → Except Err (CS L)) (ents : List (String × Bool × Bool × PS L))
    (add : Option (AP L)) (names : List String) :
    (∃ e, compileWith pt (.obj ents add (some names)) = .error e) ↔
        names = []
      ∨ (∃ n ∈ names, ∃ e, pt n = .error e)
      ∨ (∃ n ∈ names, ∃ b, pt n = .ok b ∧ isObj b = false)
      ∨ (∃ bases, Resolves pt names bases ∧
          (¬ Fresh (ents.map keyOf) (bases.flatMap keysOf) ∨ ¬ Compatible (add :: bases.map addOf)))
      ∨ (∃ e, compileEnts pt ents = .error e) :=
  AOK.compileWith_obj_fails_iff pt ents add names

/-- a type does not expand iff it is in progress (a cycle), unknown, or its body does not expand -/
theorem C03_allOf_errors_type (env : PEnv L) (f : Nat) (P : List String) (n : String) :
    (∃ e, processType env (f + 1) P n = .error e) ↔
      n ∈ P ∨ lookupP env n = none ∨
      ∃ t, lookupP env n = some t ∧ ∃ e, compileWith (fun m => processType env f (n :: P) m) t = .error e :=
  AOK.processType_fails_iff env f P n

/-- the in-progress set finds exactly the cycles: every table in which a type inherits from itself (through any
number of steps, from any depth of its body, used by the root or not) is refused … -/
theorem C03_allOf_cycle_refused (env : PEnv L) (root : PS L) (a : String) (hc : DepPlus env a a) :
    ∃ e, compileAll env root = .error e := AOK.compileAll_cycle_fails env root a hc

/-- … and the recursion error (703) is only reported when some type inherits from itself -/
theorem C03_allOf_recursion_error_cycle (env : PEnv L) (root : PS L) (h : compileAll env root = .error .recursion) :
    ∃ a, DepPlus env a a := AOK.compileAll_recursion_cycle env root h

/-- the fuel of the model never runs out: the model's recursion terminates on every table -/
theorem C03_allOf_total (env : PEnv L) (root : PS L) : compileAll env root ≠ .error .fuel :=
  AOK.compileAll_never_out_of_fuel env root

/-- the compiled type does not depend on the context in which it is expanded (re-expansion in the model = the memo
`compiledTypes` of the code) -/
theorem C03_allOf_context_free (env : PEnv L) (f f' : Nat) (P P' : List String) (n : String) (c c' : CS L)
    (h : processType env f P n = .ok c) (h' : processType env f' P' n = .ok c') : c = c' :=
  AOK.processType_proc_irrelevant env f f' P P' n c c' h h'

end AllOfK

/-! ### non-vacuity: a three-level chain `@C allOf @B allOf @A` with an optional key and additionalProperties at both
ends, and every error case -/
section AllOfKExamples
open AOK

private def exEnv : PEnv Nat :=
  [("A", .obj [("a", false, true, .lit 1), ("o", false, false, .lit 2)] (some .any) none),
   ("B", .obj [("b", false, true, .lit 3)] none (some ["A"])),
   ("C", .obj [("c", false, true, .lit 4)] (some .no) (some ["B"]))]
private def exLit (l : Nat) (d : Nat) : Bool := l == d
private def exKey (_ _ : String) : Bool := false
private def exPt : String → Except Err (CS Nat) := fun m => processType exEnv 4 [] m
private def exB : CS Nat :=
  .obj [("b", false, true, .lit 3), ("a", false, true, .lit 1), ("o", false, false, .lit 2)] ["b", "a"] (some .any)
private def exC : CS Nat :=
  .obj [("c", false, true, .lit 4), ("b", false, true, .lit 3), ("a", false, true, .lit 1), ("o", false, false, .lit 2)]
    ["c", "b", "a"] (some .no)

/-- `@B` expands to its own child, then `@A`'s (the optional flag of `o` kept); it copies `@A`'s "any" -/
example : exPt "B" = .ok exB := rfl
/-- `@C`: own, then everything `@B` has (two levels); explicit `false` and the inherited "any" are `IsEqual`, the
object's own `false` stays; required keys of three levels -/
example : compileWith exPt (.obj [("c", false, true, .lit 4)] (some .no) (some ["B"])) = .ok exC := rfl
example : Resolves exPt ["B"] [exB] := .cons rfl .nil
example : compileEnts exPt [("c", false, true, (.lit 4 : PS Nat))] = .ok [("c", false, true, .lit 4)] := rfl
example : ∀ e ∈ entsOf exC, e.2.1 = false := by decide +kernel
example : (compileAll exEnv (.ref ["C"] none)).toOption.map (·.2) = some (.ref ["C"] none) := rfl
/-- the expanded `@C` wants `a`, `b`, `c`, allows `o`, forbids anything else; `@B` allows anything else -/
example : VK.validateT (L := Nat) (D := Nat) [] exLit exKey (toVK exC) (.obj [("a", .lit 1), ("c", .lit 4), ("b", .lit 3)]) = true := by
  decide +kernel
example : VK.validateT (L := Nat) (D := Nat) [] exLit exKey (toVK exC) (.obj [("a", .lit 1), ("c", .lit 4)]) = false := by
  decide +kernel
example : VK.validateT (L := Nat) (D := Nat) [] exLit exKey (toVK exC) (.obj [("a", .lit 1), ("c", .lit 4), ("b", .lit 3), ("z", .lit 3)]) = false := by
  decide +kernel
example : VK.validateT (L := Nat) (D := Nat) [] exLit exKey (toVK exB) (.obj [("a", .lit 1), ("b", .lit 3), ("z", .lit 3)]) = true := by
  decide +kernel
example : processType exEnv 4 [] "C" = .ok exC := rfl
example : ((entsOf exC).map keyOf).Nodup := by decide +kernel
example : isObj exC = true := rfl
example : ownPart exEnv "C" exC = [("c", false, true, .lit 4)] := rfl
example : Anc exEnv "C" "A" := .step (k := "B") (by decide +kernel) (.base (by decide +kernel))
/-- every way to fail, with the error the code reports -/
example : compileAll (L := Nat) [("A", .obj [] none (some ["B"])), ("B", .obj [("k", false, true, .obj [] none (some ["A"]))] none none)] .any
    = .error .recursion := rfl
example : DepPlus (L := Nat) [("A", .obj [] none (some ["B"])), ("B", .obj [("k", false, true, .obj [] none (some ["A"]))] none none)] "A" "A" :=
  .step (b := "B") ⟨.obj [] none (some ["B"]), rfl, by decide +kernel⟩
    (.one ⟨.obj [("k", false, true, .obj [] none (some ["A"]))] none none, rfl, by decide +kernel⟩)
example : compileAll (L := Nat) [("A", .obj [] none (some ["Z"]))] .any = .error .unknownType := rfl
example : compileAll (L := Nat) [("A", .lit 1)] (.obj [] none (some ["A"])) = .error .notObject := rfl
example : compileAll (L := Nat) [("A", .obj [("k", false, true, .lit 1)] none none)]
    (.obj [("k", false, false, .lit 2)] none (some ["A"])) = .error .duplicateKey := rfl
example : compileAll (L := Nat) [("A", .obj [] (some (.lit 1)) none)] (.obj [] (some .any) (some ["A"])) = .error .conflictAdd := rfl
example : compileAll (L := Nat) [] (.obj [] none (some [])) = .error .emptyAllOf := rfl
example : compileAll (L := Nat) [("A", .obj [] none none)] (.bad ["A"]) = .error .unexpectedConstraint := rfl
/-- a plain key `"@k"` and the key shortcut `@k` are different keys: no collision -/
example : (compileAll (L := Nat) [("A", .obj [("k", true, true, .lit 1)] none none)]
    (.obj [("@k", false, true, .lit 2)] none (some ["A"]))).toOption.map (·.2) =
    some (.obj [("@k", false, true, .lit 2), ("k", true, true, .lit 1)] ["@k", "@k"] none) := rfl

end AllOfKExamples

/-! ## `or` rule-sets -/
section OrRuleSets
open ORS
variable {L R D : Type}

/-- a reference position accepts the union over its names, plus the literal alternative of `nullable: true` -/
theorem C03_ref_union (env : VK.Env L) (litOK : L → D → Bool) (keyOK : String → String → Bool)
    (names : List String) (nul : Option L) (d : VN.J D) :
    VK.shape env litOK keyOK (.ref names nul) d =
      (names.any (fun n => VK.shape env litOK keyOK (.ref [n] none) d) || nulAccepts litOK nul d) :=
  ORS.shape_ref_union env litOK keyOK names nul d

/-- a type name accepts what its type accepts -/
theorem C03_ref_single (env : VK.Env L) (litOK : L → D → Bool) (keyOK : String → String → Bool)
    (a : String) (t : VK.S L) (hl : VK.lookupT env a = some t) (d : VN.J D) :
    VK.shape env litOK keyOK (.ref [a] none) d = VK.shape env litOK keyOK t d :=
  ORS.shape_ref_single env litOK keyOK a t hl d

/-- **C03_or_ruleset_union, any position**: the names the loader appends for the members of an `or` list accept,
together, exactly what the members accept as written (`memberAccepts`: a named type by either spelling; a type string
or a rule-set = its compiled root), in every table in which the types created so far are found under their names -/
theorem C03_or_members_union (env : VK.Env L) (litOK : L → D → Bool) (keyOK : String → String → Bool)
    (fresh : Nat → String) (mk : R → VK.S L) (d : VN.J D) (ms : List (Member R)) (st : St L)
    (hl : ∀ p ∈ (loadMembers fresh mk ms st).2.anon, VK.lookupT env p.1 = some p.2) :
    (loadMembers fresh mk ms st).1.any (fun n => VK.shape env litOK keyOK (.ref [n] none) d) =
      ms.any (memberAccepts env litOK keyOK mk d) :=
  ORS.loadMembers_union env litOK keyOK fresh mk d ms st hl

/-- in the table the loader builds every created type is found under its name (unique names that are never user
type names: what `#%p` of a fresh object guarantees) -/
theorem C03_or_created_types_found (fresh : Nat → String) (mk : R → VK.S L) (env : List (String × OS L R)) (root : OS L R)
    (hinj : ∀ i j, fresh i = fresh j → i = j) (hdisj : ∀ k, fresh k ∉ env.map (·.1)) :
    ∀ p ∈ (loadNode fresh mk root (loadEnv fresh mk env ⟨0, []⟩).2).2.anon,
      VK.lookupT (loadAll fresh mk env root).1 p.1 = some p.2 :=
  ORS.loadAll_lookup_anon fresh mk env root hinj hdisj

/-- **C03_or_ruleset_union** (closed statement for a root `or` node over any table of added types, themselves with
`or` nodes anywhere): the validator accepts exactly the union over the members as written — named type, `{type: "@T"}`,
type string, rule-set — plus the literal alternative of `nullable: true` (null only: `nulAccepts` with the null
literal) -/
theorem C03_or_ruleset_union (fresh : Nat → String) (mk : R → VK.S L) (litOK : L → D → Bool) (keyOK : String → String → Bool)
    (env : List (String × OS L R)) (members : List (Member R)) (nul : Option L)
    (hinj : ∀ i j, fresh i = fresh j → i = j) (hdisj : ∀ k, fresh k ∉ env.map (·.1)) (d : VN.J D) :
    VK.validateT (loadAll fresh mk env (.or members nul)).1 litOK keyOK (loadAll fresh mk env (.or members nul)).2 d =
      (members.any (memberAccepts (loadAll fresh mk env (.or members nul)).1 litOK keyOK mk d) || nulAccepts litOK nul d) :=
  ORS.or_ruleset_union fresh mk litOK keyOK env members nul hinj hdisj d

/-! non-vacuity: `v // {or: [{type: "integer", min: 0}, "string", "@A", {type: "@B"}], nullable: true}` with literals as
(kind, lower bound) pairs; `@A` itself carries an `or`, so the table holds three created types -/
private inductive K | int | str | bool | null deriving DecidableEq
private def oLit (l : K × Nat) (d : K × Nat) : Bool := (l.1 == d.1 && decide (l.2 ≤ d.2))
private def oFresh (k : Nat) : String := String.ofList (List.replicate (k + 1) '#')
private def oEnv : List (String × OS (K × Nat) (K × Nat)) :=
  [("A", .or [.typeStr (.bool, 0), .ruleSet (.int, 100)] none), ("B", .lit (.bool, 5))]
private def oMembers : List (Member (K × Nat)) := [.ruleSet (.int, 3), .typeStr (.str, 0), .named "A", .typeRef "B"]
private def oMk (r : K × Nat) : VK.S (K × Nat) := .lit r

example : (loadAll oFresh oMk oEnv (.or oMembers (some (.null, 0)))).2 = .ref ["###", "####", "A", "B"] (some (.null, 0)) := rfl
example : (loadAll oFresh oMk oEnv (.or oMembers (some (.null, 0)))).1.map (·.1) = ["A", "B", "#", "##", "###", "####"] := rfl
example : ∀ k, oFresh k ∉ oEnv.map (·.1) := by
  intro k h
  simp only [oEnv, List.map_cons, List.map_nil, List.mem_cons, List.not_mem_nil, or_false] at h
  rcases h with h | h <;>
  · have := congrArg (fun s => s.toList.head?) h
    simp [oFresh, List.replicate] at this
example : ∀ i j, oFresh i = oFresh j → i = j := by
  intro i j h
  have := congrArg (fun s => s.toList.length) h
  simp [oFresh] at this
  exact this
/-- accepted through the rule-set, the type string, the created types of `@A`, `{type: "@B"}`, nullable; rejected
outside the union -/
example : VK.validateT (loadAll oFresh oMk oEnv (.or oMembers (some (.null, 0)))).1 oLit (fun _ _ => false)
    (loadAll oFresh oMk oEnv (.or oMembers (some (.null, 0)))).2 (.lit (.int, 7)) = true := by decide +kernel
example : VK.validateT (loadAll oFresh oMk oEnv (.or oMembers (some (.null, 0)))).1 oLit (fun _ _ => false)
    (loadAll oFresh oMk oEnv (.or oMembers (some (.null, 0)))).2 (.lit (.int, 2)) = false := by decide +kernel
example : VK.validateT (loadAll oFresh oMk oEnv (.or oMembers (some (.null, 0)))).1 oLit (fun _ _ => false)
    (loadAll oFresh oMk oEnv (.or oMembers (some (.null, 0)))).2 (.lit (.bool, 1)) = true := by decide +kernel
example : VK.validateT (loadAll oFresh oMk oEnv (.or oMembers (some (.null, 0)))).1 oLit (fun _ _ => false)
    (loadAll oFresh oMk oEnv (.or oMembers (some (.null, 0)))).2 (.lit (.null, 0)) = true := by decide +kernel
example : VK.validateT (loadAll oFresh oMk oEnv (.or oMembers none)).1 oLit (fun _ _ => false)
    (loadAll oFresh oMk oEnv (.or oMembers none)).2 (.lit (.null, 0)) = false := by decide +kernel

/-- regression witness of fix F-33 (a94aab7): before it the extra alternative of a nullable node with a types list
was the literal validator of the node ITSELF — the kind of its example, not null only — so `5 // {or: [{type:
"integer", min: 3}, "string"], nullable: true}` accepted `1`, which is in no member and not null. The theorem above
holds for any literal alternative; the property needs the null-only one. -/
example : VK.validateT (loadAll oFresh oMk [] (.or [.ruleSet (.int, 3), .typeStr (.str, 0)] (some (.int, 0)))).1 oLit (fun _ _ => false)
    (loadAll oFresh oMk [] (.or [.ruleSet (.int, 3), .typeStr (.str, 0)] (some (.int, 0)))).2 (.lit (.int, 1)) = true := by decide +kernel
example : VK.validateT (loadAll oFresh oMk [] (.or [.ruleSet (.int, 3), .typeStr (.str, 0)] (some (.null, 0)))).1 oLit (fun _ _ => false)
    (loadAll oFresh oMk [] (.or [.ruleSet (.int, 3), .typeStr (.str, 0)] (some (.null, 0)))).2 (.lit (.int, 1)) = false := by decide +kernel

end OrRuleSets


/-! ## The key test of key shortcuts inside the model (work package c03keytype)

`C03_key_shortcuts` takes the key test as a parameter (`keyOK`). `KeyType.keyOKc` is that test as
`validateTypeRules` / `checkConstraint` of `v_object.go` code it (after F-35, F-37), over the C02 rule model:
the key token of the document, the compiled root node of the key type (JSON type, EXAMPLE, constraint map). -/
namespace KeyTypes
open RulesF KeyType

/-- **C03_key_admitted_iff_value_accepted**: for every string type that keeps at least one constraint after
compilation (`nullable: true` or any literal validator: length, regex, enum, `const: true`, a format type) and every
key token of a document, the shortcut admits the key iff the C02 validator (`RulesF.litOKFull`: the function
`C02_accept_iff_full` is about) accepts the key token as a VALUE of that type -/
theorem C03_key_admitted_iff_value_accepted (o : Oracles) (l : LitSpecF) (k : KeyBytes)
    (hs : l.kind = .s) (hk : Unquote.inQuotes k = true) (hr : l.nul = true ∨ l.rules ≠ []) :
    keyOKc o (ofSpec l) k = litOKFull o l k :=
  KeyType.key_admitted_iff_value_accepted o l k hs hk hr

/-- the same in the words of the property text (C02's specification `Accepts`): the key `cs` (any spelling) is
admitted iff the decoded string satisfies every rule of the type -/
theorem C03_key_admitted_iff_accepts (o : Oracles) (S : SSpec) (hS : S.WF) (hA : S.applicable = true)
    (hs : S.kind = .s) (hr : S.nul = true ∨ S.rules ≠ []) (cs : List SCh) (hc : (STok.str cs).WF) :
    keyOKc o (ofSpec S.toModel) (STok.str cs).bytes = true ↔ Accepts EnumEq o S (.str cs) :=
  KeyType.key_admitted_iff_accepts o S hS hA hs hr cs hc

/-- **C03_key_type_without_rules**: an annotation made of `type: "string"` (any `type` that is no format),
`const: false`, `nullable: false` only — or no annotation — leaves no constraint, and the type then admits exactly
its EXAMPLE as key, compared after decoding … -/
theorem C03_key_type_without_rules (o : Oracles) (ex : Bytes) (raws : List RawRule) (k : KeyBytes)
    (h : raws.all KeyType.RawRule.inert = true) :
    keyOKc o (ofRaw ex raws) k = (Unquote.unquote ex == Unquote.unquote k) :=
  KeyType.key_type_without_rules_raw o ex raws k h

/-- … although as a value such a type accepts every string -/
theorem C03_value_type_without_rules (o : Oracles) (ex : Bytes) (raws : List RawRule) (k : Bytes)
    (h : raws.all KeyType.RawRule.inert = true) (hk : Unquote.inQuotes k = true) :
    litOKFull o (compile .s ex raws) k = true :=
  KeyType.value_type_without_rules o _ k rfl (KeyType.compile_inert ex raws h).2 hk

/-- the difference as a statement: "key admitted iff value accepted" for EVERY string type -/
def C03_key_vs_value_full : Prop := KeyType.key_vs_value_full

/-- it fails on `@K = "zz"` and the key `"a"` (long-standing documented reading: a type without rules stands for
its example; replayed on the real library by `vh c03-keytype`, stat `witness_ruleless_type_key_vs_value`) -/
theorem C03_key_vs_value_full_false : ¬ C03_key_vs_value_full := KeyType.key_vs_value_full_false

/-- **C03_key_spelling_invariant** (F-35 as a theorem): two key tokens with the same decoded bytes get the same
answer from every key type, whatever its root node and constraints (panic included) -/
theorem C03_key_spelling_invariant (o : Oracles) (T : KeyTypeNode) (k₁ k₂ : KeyBytes)
    (h₁ : Unquote.inQuotes k₁ = true) (h₂ : Unquote.inQuotes k₂ = true)
    (hu : Unquote.unquote k₁ = Unquote.unquote k₂) :
    keyStep o T k₁ = keyStep o T k₂ ∧ keyOKc o T k₁ = keyOKc o T k₂ :=
  KeyType.key_spelling_invariant o T k₁ k₂ h₁ h₂ hu

/-- … for RFC 8259 string tokens: equal text, equal answer -/
theorem C03_key_spelling_invariant_tokens (o : Oracles) (T : KeyTypeNode) (cs₁ cs₂ : List SCh)
    (h₁ : (STok.str cs₁).WF) (h₂ : (STok.str cs₂).WF) (ht : text cs₁ = text cs₂) :
    keyOKc o T (STok.str cs₁).bytes = keyOKc o T (STok.str cs₂).bytes :=
  KeyType.key_spelling_invariant_tokens o T cs₁ cs₂ h₁ h₂ ht

/-- a root node that is no string: `ErrInvalidKeyType`, no key admitted -/
theorem C03_key_type_not_string (o : Oracles) (T : KeyTypeNode) (k : KeyBytes) (hs : T.kind ≠ .s) :
    keyStep o T k = none ∧ keyOKc o T k = false := KeyType.keyOKc_not_string o T k hs

/-! non-vacuity -/
private def b (s : List Nat) : Bytes := s.map UInt8.ofNat
private def kAB : Bytes := b [34, 97, 98, 34]                      -- "ab"
private def kABu : Bytes := b [34, 92, 117, 48, 48, 54, 49, 98, 34]  -- "\u0061b"
private def kX : Bytes := b [34, 120, 34]                          -- "x"
/-- oracles of the examples: regex `^a` as "starts with a", mail as "contains @" -/
private def oEx : Oracles :=
  { re := fun _ s => s.head? == some 97, mail := fun s => s.contains 64, uri := fun _ => false, rfc3339 := fun _ => false }
private def kMail : Bytes := b [34, 97, 64, 98, 34]                -- "a@b"

-- hypotheses of `C03_key_admitted_iff_value_accepted` met non-trivially, both verdicts
example : Unquote.inQuotes kABu = true ∧ Unquote.unquote kABu = Unquote.unquote kAB := by decide +kernel
-- `"ab" // {regex: "^a", maxLength: 2}`
private def tRe : LitSpecF := compile .s kAB [.regex (b [94, 97]), .maxLength 2]
example : tRe.rules ≠ [] ∧ keyOKc oEx (ofSpec tRe) kABu = true ∧ keyOKc oEx (ofSpec tRe) kX = false := by decide +kernel
-- a format key type: `"a@b" // {type: "email"}`
private def tMail : LitSpecF := compile .s kMail [.typeFmt .email]
example : keyOKc oEx (ofSpec tMail) kMail = true ∧ keyOKc oEx (ofSpec tMail) kAB = false ∧
    litOKFull oEx tMail kMail = true ∧ litOKFull oEx tMail kAB = false := by decide +kernel
-- `"ab" // {const: true}`: the example only, in any spelling
private def tConst : LitSpecF := compile .s kAB [.const true]
example : keyOKc oEx (ofSpec tConst) kAB = true ∧ keyOKc oEx (ofSpec tConst) kABu = true ∧
    keyOKc oEx (ofSpec tConst) kX = false := by decide +kernel
-- `"ab" // {enum: ["ab", "x"]}`
private def tEnum : LitSpecF := compile .s kAB [.enum [kAB, kX]]
example : keyOKc oEx (ofSpec tEnum) kABu = true ∧ keyOKc oEx (ofSpec tEnum) kX = true ∧
    keyOKc oEx (ofSpec tEnum) kMail = false := by decide +kernel
-- `"ab" // {nullable: true}`: one constraint, no validator — every key, as every string value
private def tNul : LitSpecF := compile .s kAB [.nullable true]
example : tNul.nul = true ∧ tNul.rules = [] ∧ keyOKc oEx (ofSpec tNul) kX = true ∧ litOKFull oEx tNul kX = true := by decide +kernel
-- a type without effective rules: `"ab" // {type: "string", const: false, nullable: false}`
example : keyOKc oEx (ofRaw kAB [.typeOther, .const false, .nullable false]) kABu = true ∧
    keyOKc oEx (ofRaw kAB [.typeOther, .const false, .nullable false]) kX = false ∧
    litOKFull oEx (compile .s kAB [.typeOther, .const false, .nullable false]) kX = true := by decide +kernel
-- constraints that are no validators (`type: "any"`, a types list): every key
example : keyOKc oEx { kind := .s, ex := kAB, cons := [.any] } kX = true ∧
    keyOKc oEx { kind := .s, ex := kAB, cons := [.typesList, .nullable] } kX = true := by decide +kernel
-- a root that is no string
example : keyStep oEx { kind := .i, ex := b [49], cons := [] } kX = none := by decide +kernel
/-- regression witness of fix F-35 (e1d8e9e): before it a type without rules compared its example with the key AS
SPELLED — `"\u0061b"` was refused where `"ab"` was admitted -/
example : keyOKraw oEx (ofRaw kAB []) kAB = true ∧ keyOKraw oEx (ofRaw kAB []) kABu = false ∧
    keyOKc oEx (ofRaw kAB []) kAB = true ∧ keyOKc oEx (ofRaw kAB []) kABu = true := by decide +kernel

end KeyTypes

/-! ## C03 at TEXT level: type references and or-shortcuts compose as union, from schema TEXTS (work package c03text)

The whole pipeline `E2E.validateText` (schema scanner model → loader model → `Compile` creation / `CompileBasic` /
`Check` → JSON scanner model → validator machine) on a root text and added type texts whose values are scalars or type
shortcuts `@A`, `@A | @B | …` in any nesting and blank layout (`SE.BST`, `SE.TextOK`, `SE.TypesOK`: the class of
`C09_text_loads` / `C09_types_load`), against the specification `RE.Admits` (`JSight/RefE2ESpec.lean`): one step
`RE.stepA` by cases on (tree, document) — scalar: the kind matrix of `C01_text_level`; shortcut: the UNION over its
names of what the tree added under the name admits; array / object: as `VN.shape` — iterated by fuel; "admitted" =
with some fuel (least fixed point: `@A = @A` admits nothing). `C03_text_admits_*` read it as a recursive predicate.
Added types may themselves contain shortcuts (any depth of references, recursive types such as `@L = [@L]`). -/
section TextLevelRefs
open SE (BST BItem BMember TypeText TextOK TypesOK docText typeTexts typesOf cnOf namesOf)
open RE (Admits Doc lookupB childAtB lookupM keysM)

open Classical in
/-- **C03_text_level_refs**: root text and added type texts of the class, distinct user type names, the check stage
passes (`C09_text_level_links`: every referenced name was added and the recursion check passes); then for every
document text that is one JSON value in any white space the pipeline answers `acc` iff the document is admitted by the
root tree with every shortcut leaf read as the union of the trees of its names — and `rej` otherwise, never an error -/
theorem C03_text_level_refs (w0 : SE.Bytes) (t : BST) (w1 : SE.Bytes) (ht : TextOK w0 t w1) (tys : List TypeText)
    (htys : TypesOK tys) (hn : CL.typeNamesOK (typeTexts tys) = true) (opt : Bool)
    (hc : Compile.check (cnOf opt t) (typesOf tys) = .ok ())
    (d : VPos.T UInt8) (hd : (VPos.toJA JsonScan.classify d).Valid) (ws0 ws1 : List UInt8)
    (hw0 : JsonScan.IsWs (ws0.map JsonScan.classify)) (hw1 : JsonScan.IsWs (ws1.map JsonScan.classify)) :
    E2E.validateText (docText w0 t w1) (typeTexts tys) (ws0 ++ (d.render VPos.byteSym ++ ws1)) opt
      = if Admits tys opt t (E2E.docOf d) then .acc else .rej :=
  RE.text_level_refs w0 t w1 ht tys htys hn opt hc d hd ws0 ws1 hw0 hw1

/-- the same as two equivalences on the outcome -/
theorem C03_text_level_refs_iff (w0 : SE.Bytes) (t : BST) (w1 : SE.Bytes) (ht : TextOK w0 t w1) (tys : List TypeText)
    (htys : TypesOK tys) (hn : CL.typeNamesOK (typeTexts tys) = true) (opt : Bool)
    (hc : Compile.check (cnOf opt t) (typesOf tys) = .ok ())
    (d : VPos.T UInt8) (hd : (VPos.toJA JsonScan.classify d).Valid) (ws0 ws1 : List UInt8)
    (hw0 : JsonScan.IsWs (ws0.map JsonScan.classify)) (hw1 : JsonScan.IsWs (ws1.map JsonScan.classify)) :
    (E2E.validateText (docText w0 t w1) (typeTexts tys) (ws0 ++ (d.render VPos.byteSym ++ ws1)) opt = .acc
        ↔ Admits tys opt t (E2E.docOf d)) ∧
    (E2E.validateText (docText w0 t w1) (typeTexts tys) (ws0 ++ (d.render VPos.byteSym ++ ws1)) opt = .rej
        ↔ ¬ Admits tys opt t (E2E.docOf d)) := by
  rw [C03_text_level_refs w0 t w1 ht tys htys hn opt hc d hd ws0 ws1 hw0 hw1]
  by_cases h : Admits tys opt t (E2E.docOf d) <;> simp [h]

/-- the validator half alone: the specification of the validator machine (`C03_key_shortcuts`) on the validator schema
of the compiled root and the table of the compiled types is the union specification -/
theorem C03_text_validator_refs (tys : List TypeText) (kOK : String → String → Bool) (opt : Bool) (t : BST) (d : Doc) :
    VK.validateT (RE.envB tys) Compile.litOK kOK (RE.vkOf opt t) d = true ↔ Admits tys opt t d := by
  rw [VK.C03_key_shortcuts]
  exact RE.shape_iff_admits tys kOK opt t d

/-- the specification as a recursive predicate. **Union**: a shortcut leaf `@A | @B | …` admits exactly what the tree
added under one of its names admits (added types are read with required keys) -/
theorem C03_text_admits_union (tys : List TypeText) (o : Bool) (fi : List UInt8) (as : List SE.Alt) (sps : List UInt8)
    (d : Doc) :
    Admits tys o (.short fi as sps) d ↔
      ∃ n ∈ namesOf fi as sps, ∃ t, lookupB tys n = some t ∧ Admits tys false t d :=
  RE.admits_short tys o fi as sps d

/-- a scalar leaf: the literal-kind rule of `C01_text_level` -/
theorem C03_text_admits_scalar (tys : List TypeText) (o : Bool) (tok : List UInt8) (d : Doc) :
    Admits tys o (.scalar tok) d ↔ ∃ x, d = .lit x ∧ E2E.kindOKTok (E2E.kindOf tok) x = true :=
  RE.admits_scalar tys o tok d

/-- an array: every element is admitted by the item of its index, the last item repeating -/
theorem C03_text_admits_arr (tys : List TypeText) (o : Bool) (w : List UInt8) (its : List BItem) (d : Doc) :
    Admits tys o (.arr w its) d ↔
      ∃ xs, d = .arr xs ∧ ∀ p ∈ xs.zipIdx, ∃ t, childAtB its p.2 = some t ∧ Admits tys o t p.1 :=
  RE.admits_arr tys o w its d

/-- an object: every member's key is a key of the tree whose value tree admits the member's value; every key of the
tree is present unless keys are optional by default -/
theorem C03_text_admits_obj (tys : List TypeText) (o : Bool) (w : List UInt8) (ms : List BMember) (d : Doc) :
    Admits tys o (.obj w ms) d ↔
      ∃ dms, d = .obj dms ∧ (∀ m ∈ dms, ∃ t, lookupM ms m.1 = some t ∧ Admits tys o t m.2) ∧
        (o = true ∨ ∀ k ∈ keysM ms, ∃ m ∈ dms, m.1 = k) :=
  RE.admits_obj tys o w ms d

/-- a decidable criterion for "not admitted": the optimistic `k`-step unfolding already refuses -/
theorem C03_text_not_admitted (tys : List TypeText) (k : Nat) (o : Bool) (t : BST) (d : Doc)
    (h : RE.admitsTop tys k o t d = false) : ¬ Admits tys o t d := RE.not_admits_of_top tys k o t d h

/-! non-vacuity: root `{"a": @A | @B ,⏎ "b": [@C⏎], "c": 1}`, types `@A` = `1⏎`, `@B` = `"s"`, `@C` = `{"k": true}`
(`RE.Ex`); documents written ` …⏎`. Accepted: `{"a":1,"b":[{"k":true}],"c":2}`, `{"a":"x","b":[],"c":2}`,
`{"c":2,"b":[{"k":false},{"k":true}],"a":1}`; rejected: `{"a":true,"b":[],"c":2}` (in neither `@A` nor `@B`),
`{"a":1,"b":[1],"c":2}` (not in `@C`), `{"a":1,"b":[{"k":true,"z":2}],"c":2}` (`@C` has no `z`). The same six verdicts
by evaluation: `RE.Ex` (`#guard` on the closed pipeline; kernel `decide` on scanner + validator machine). -/
section nonvacuity
open RE.Ex

private theorem exRun (d : DT) (hd : (VPos.toJA JsonScan.classify d).Valid) :
    (run d = .acc ↔ Admits RE.Ex.tys false SE.Ex.root (E2E.docOf d)) ∧
    (run d = .rej ↔ ¬ Admits RE.Ex.tys false SE.Ex.root (E2E.docOf d)) :=
  C03_text_level_refs_iff [] SE.Ex.root [] SE.Ex.root_ok RE.Ex.tys RE.Ex.tys_ok RE.Ex.names_ok false RE.Ex.check_ok d hd
    [32] [10] sp_ws lf_ws

example : run dAcc1 = .acc := (exRun dAcc1 dAcc1_valid).1.2 acc1
example : run dAcc2 = .acc := (exRun dAcc2 dAcc2_valid).1.2 acc2
example : run dAcc3 = .acc := (exRun dAcc3 dAcc3_valid).1.2 acc3
example : run dRej1 = .rej := (exRun dRej1 dRej1_valid).2.2 rej1
example : run dRej2 = .rej := (exRun dRej2 dRej2_valid).2.2 rej2
example : run dRej3 = .rej := (exRun dRej3 dRej3_valid).2.2 rej3

/-- the union at the leaf `a`: `1` through `@A`, `"x"` through `@B` -/
example : Admits RE.Ex.tys false SE.Ex.sAB (.lit [49]) ∧ Admits RE.Ex.tys false SE.Ex.sAB (.lit [34, 120, 34]) ∧
    ¬ Admits RE.Ex.tys false SE.Ex.sAB (.lit [116, 114, 117, 101]) :=
  ⟨⟨2, by decide +kernel⟩, ⟨2, by decide +kernel⟩, C03_text_not_admitted _ 2 _ _ _ (by decide +kernel)⟩

/-- references through references and a recursive type: `@L` = `[@L]`, `@M` = `@L | @A`, `@A` = `1`; the leaf `@M`
admits `[[], [[]]]` and `1`, not `[1]`; the cycle `@X` = `@X` admits nothing -/
private def tysRec : List TypeText :=
  [("@L", [], .arr [] [([], .short [76] [] [], [])], []),
   ("@M", [], .short [76] [([32], [32], [65])] [], []),
   ("@A", [], .scalar [49], []),
   ("@X", [], .short [88] [] [], [])]
example : namesOf [76] [([32], [32], [65])] [] = ["@L", "@A"] := by decide +kernel
example : Admits tysRec false (.short [77] [] []) (.arr [.arr [], .arr [.arr []]]) := ⟨8, by decide +kernel⟩
example : Admits tysRec false (.short [77] [] []) (.lit [49]) := ⟨3, by decide +kernel⟩
example : ¬ Admits tysRec false (.short [77] [] []) (.arr [.lit [49]]) :=
  C03_text_not_admitted _ 6 _ _ _ (by decide +kernel)
example : ¬ Admits tysRec false (.short [88] [] []) (.lit [49]) := by
  rw [C03_text_admits_union]
  rintro ⟨n, hn, t, hl, f, hf⟩
  have hn' : n = "@X" := by
    have e : namesOf [88] [] [] = ["@X"] := by decide +kernel
    rw [e] at hn; simpa using hn
  subst hn'
  have ht : t = .short [88] [] [] := by
    have e : lookupB tysRec "@X" = some (.short [88] [] []) := by simp [lookupB, tysRec]
    rw [e] at hl; cases hl; rfl
  subst ht
  induction f with
  | zero => simp [RE.admits] at hf
  | succ f ih =>
    apply ih
    have e : namesOf [88] [] [] = ["@X"] := by decide +kernel
    have e2 : lookupB tysRec "@X" = some (.short [88] [] []) := by simp [lookupB, tysRec]
    simpa [RE.admits, RE.stepA, e, e2] using hf

end nonvacuity
end TextLevelRefs

end Props.C03
