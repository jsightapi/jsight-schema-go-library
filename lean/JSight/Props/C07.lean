import JSight.NoCrash
import JSight.RenderProofs
import JSight.EnumNoCrash
import JSight.SchemaNoCrash
import JSight.DocCorollaries
/-!
# C07 — no panics: the parts that are theorems

* `C07_json_no_crash`: in the JSON scanner model every Go runtime-panic site is an explicit `.crash`
  outcome ("Reading from empty stack", "Incorrect ending of the lexical event", index out of range);
  for every byte string and both modes the model never reaches one: every error is the structured
  "invalid character" / "unexpected end of file" / "empty JSON" error.
* `C07_enum_no_crash`, `C07_enum_len_no_crash`: the same for the enum-rule scanner model (`rules/enum/scanner.go`:
  `Next` over the whole text, and `Length`): for every byte string no "Reading from empty stack", no "incorrect
  ending of the lexical event", and the fuel parameters that make the model total never run out — every error
  is one of the structured ones (array expected, invalid character, duplicate value, unexpected end of file).
  Invariant: the queued finds replay against the lexeme stack and what is left has the shape fixed by the step
  function and the return stack.
* `C07_schema_no_crash`, `C07_schema_len_no_crash`: the same for the JSight schema scanner model
  (`notations/jschema/internal/scanner`, ≈60 states, three stacks: return steps, lexeme stack, contexts): for
  every byte string no "Reading from empty stack (…)", no "Incorrect ending of the lexical event", no
  "Unexpected context" / "Incorrect annotation begin in stack", and no fuel exhaustion. The invariant is a
  recursive grammar of (step, effective lexeme stack, return stack) — annotations nest to any depth because a
  `#` comment inside an inline annotation resets the annotation flag.
* `C07_render_total`: producing the `Error()` text never indexes outside the content.
* template / argument agreement at every error construction site: `JSight.Tie.Errors` over the table
  regenerated from /repo's source on every run.
* the panic / recover discipline above the scanners (static half of part 4): `JSight.Tie.Panics` over
  `JSight.Generated.PanicFacts`, regenerated from /repo's source on every run by `vh tgen-panics` - every public
  entry is guarded or reviewed, every panic value is an error or a reviewed invariant, no handler swallows, the
  boundary handlers return errors and re-panic non-errors, every non-error panic site is unreachable unconverted
  or reviewed with dynamic evidence.
The behaviour of the API surface above the scanners is explored, not proved (harness `api-fuzz`, `c07-entries`).
-/
namespace Props.C07
open JsonScan

theorem C07_json_no_crash (allow : Bool) (bs : List UInt8) :
    ∀ e, run allow Cfg.init (bs.map classify) = .error e → Sim.Err.isCrash e = false :=
  Sim.C07_json_no_crash allow bs

theorem C07_enum_no_crash (bs : List UInt8) : ∀ e, EnumScan.scanAll bs = .error e → EnumScan.Err.isCrash e = false :=
  EnumScan.scanAll_no_crash bs

theorem C07_enum_len_no_crash (bs : List UInt8) : ∀ e, EnumScan.length bs = .error e → EnumScan.Err.isCrash e = false :=
  EnumScan.length_no_crash bs

theorem C07_schema_no_crash (bs : List UInt8) :
    ∀ e, SchemaScan.scanAll bs = .error e → SchemaScan.Err.isCrash e = false := SchemaScan.scanAll_no_crash bs

theorem C07_schema_len_no_crash (bs : List UInt8) :
    ∀ e, SchemaScan.length bs = .error e → SchemaScan.Err.isCrash e = false := SchemaScan.length_no_crash bs

theorem C07_render_total (content : Array UInt8) (idx : Nat) (h : idx < content.size) :
    (Render.render content idx).isSome = true := Render.render_total content idx h

end Props.C07

/-! ## The json `Document` object never panics (carry-over of `C07_json_no_crash` through the C11 bridge) -/
namespace Props.C07
section document
open DocCursor

/-- for every byte string, both values of the option and EVERY history over {`NextLexeme`, `Check`, `Len`}, no call of the
`Document` model ends in a non-error panic: no output of the history is `.next (.crash w)`, `.check (.crash w)` or
`.len (.crash w)` (the fuel of the model's loops included: `"fuel"` is one of the `w`). From
`C11_doc_next_never_panics` (`lexAt_never_crash`) and `C11_doc_check_len_never_panic`; what the once cells keep is never a
panic either. -/
theorem C07_document_never_panics (t : List UInt8) (o : Bool) (ops : List Op) :
    ∀ out ∈ ((Doc.new t o).run ops).1, ∀ w : String,
      out ≠ .next (.crash w) ∧ out ≠ .check (.crash w) ∧ out ≠ .len (.crash w) :=
  DocCorollaries.outs_never_panic t o ops

/-- non-vacuity: `{x}` (error inside), a history with every call kind, seven outputs, none a panic -/
example : ((Doc.new [123, 120, 125] false).run [.next, .next, .next, .len, .next, .check, .next]).1.length = 7 ∧
    (((Doc.new [123, 120, 125] false).run [.next, .next, .next, .len, .next, .check, .next]).1.map
      DocCorollaries.outIsCrash).all (· == false) = true := by decide +kernel

end document
end Props.C07

#print axioms Props.C07.C07_document_never_panics
