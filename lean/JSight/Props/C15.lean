import JSight.Example
import JSight.ExampleSelf
import JSight.ExampleRefs
import JSight.ExampleTextProofs
import JSight.ExampleKProofs
import JSight.ExampleKWitness
import JSight.ExampleAllOf
import JSight.ExampleTextRProofs
import JSight.KeysRawProofs
import JSight.E2E
import JSight.ExampleShortCut
import JSight.ExampleShortAgree
import JSight.ExampleShortBytes
/-!
# C15 — Example() emits well-formed JSON

Model `EX.build`: `exampleBuilder.Build` with fix F-5 (literal ↦ its token; array / object ↦ brackets
around the emitted children joined by commas; reference ↦ the root of the first named type, omitted when
that type is already being built twice). `EX.tree` is the same recursion producing a JSON tree in compact
layout. Whatever `Example()` emits is the rendering of a valid JSON tree, and the JSON scanner reads
back exactly that tree (with C06). Self-validation (`Validate(Example()) == nil`) is proved for
reference-free schemas (`C15_self_valid`: what is emitted is the whole EXAMPLE document and `Validate`
accepts it, by C04/C01) and, with user-type references over arbitrary (also recursive) type tables, for every
run of the builder in which no recursion cut-off happens (`C15_self_valid_refs`, through C03's
`alts_iff_reach`). The cut-off cases (K-C15-reqcut, K-C15-arraycut), `or` inside containers (K-C15-or,
K-C15-orcontainer) and key shortcuts (K-C15-keyalias) are outside THESE theorems and checked against the code
outside the known-finding classes (harness `c15-example`).

Added at the end of the file: the text-level theorem for the second sentence of the property
(`C15_plain_text_roundtrip`, `C15_plain_result_is_json`, glue `C15_text_builder_is_model`; tie `c15-text`), the
extended builder model `EXK.build` (key shortcuts, typed containers; `C15_build_extends`), self-validation with key
shortcuts and with cut-offs at optional properties / array suffixes (`C15_self_valid_ext_partial`,
`C15_self_valid_optional_cut`, `C15_self_valid_allOf`), and the negation of the full statement on the recorded
witnesses of K-C15-reqcut, K-C15-arraycut and K-C15-keyclash (`C15_self_valid_full_false*`); ties `c15-exk`
(builder text; inside the proved class the real `Validate` must accept the real `Example()`).
-/
namespace Props.C15
open JsonScan

theorem C15_wellformed (ts : EX.Types) (hts : EX.WFTypes ts) (fuel : Nat) (n : EX.N) (hn : EX.WFN n) (bs : List Cls)
    (h : EX.build ts fuel (fun _ => 0) n = some (some bs)) :
    ∃ v : JA, v.Valid ∧ bs = v.render ∧ eventsLoop false bs.length bs 0 {} [] = .ok (evsAt 0 v) :=
  EX.C15_wellformed ts hts fuel n hn bs h

theorem C15_build_is_render (ts : EX.Types) (fuel : Nat) (proc : String → Nat) (n : EX.N) :
    EX.build ts fuel proc n = (EX.tree ts fuel proc n).map (Option.map JA.render) := EX.build_eq ts fuel proc n

/-- reference-free schemas that `Check` accepts: the emitted bytes are the compact text of the EXAMPLE document
(no child is omitted), and `Validate` accepts that document — for any literal rule semantics `litOK` -/
theorem C15_self_valid {L D : Type} (tok : D → List Cls) (keyTok : String → List Cls) (ex : L → D)
    (litOK : L → D → Bool) (ts : EX.Types) (fuel : Nat) (proc : String → Nat) (s : VP.S L)
    (h : VP.checked litOK ex s = true) :
    EX.build ts fuel proc (EX.ofS tok keyTok ex s) = some (some (EX.jaOf tok keyTok (VP.exampleOf ex s)).render) ∧
    VP.validate litOK s (VP.exampleOf ex s) = true :=
  EX.C15_self_valid tok keyTok ex litOK ts fuel proc s h

/-- with user-type references (any type table, recursive or not): if the builder completes without a recursion
cut-off (`exDoc … = some d`: no child omitted anywhere), the emitted bytes are the compact text of `d` and
`Validate` accepts `d` — the reference is followed through its first name, the validator accepts through any
alternative -/
theorem C15_self_valid_refs {L D : Type} (env : VR.Env L) (litOK : L → D → Bool) (ex : L → D)
    (henv : VR.CheckedEnv env litOK ex) (tok : D → List Cls) (keyTok : String → List Cls)
    (fuel : Nat) (proc : String → Nat) (s : VR.S L) (hc : VR.checkedS litOK ex s = true)
    (d : VN.J D) (h : VR.exDoc env ex fuel proc s = some d) :
    EX.build (VR.tsOf tok keyTok ex env) fuel proc (VR.ofR tok keyTok ex s) = some (some (VR.jaOfN tok keyTok d).render) ∧
    VR.validateT env litOK s d = true :=
  ⟨VR.build_ofR tok keyTok env ex fuel proc s d h, VR.C15_self_valid_refs env litOK ex henv fuel proc s hc d h⟩

/-- non-vacuity: a schema with a reference for which the builder completes -/
example : VR.exDoc (L := Nat) (D := Nat) [("a", .lit 1)] id 5 (fun _ => 0) (.obj [("x", true, .ref ["a"] none)])
    = some (.obj [("x", .lit 1)]) := by
  simp [VR.exDoc, VR.exProps, VR.lookupT]

/-- non-vacuity: a nested schema satisfying the hypothesis, and what is emitted for it -/
example : VP.checked (fun (l : Nat) (d : Nat) => l == d) id
    (.obj [("a", true, .lit 1), ("b", false, .arr [.lit 2, .obj [("c", true, .lit 3)]])]) = true := by decide +kernel

/-! ## Second sentence of the property, end to end on TEXT

"For a schema whose example is plain JSON the result is that example with annotations and insignificant whitespace
removed." `Loader.exampleText` is the composition schema scanner model (`SchemaScan`, tied by `schema-diff`) → loader
model (`Loader.loadText`, tied by `loader-diff`) → `exampleBuilder.Build` on the loader's node table
(`Loader.exBuild`; the whole composition is tied to the real `Example()` byte for byte by `c15-text`).
`Example()` RE-EMITS the source tokens (literal: `BasisLexEventOfSchemaForNode().Value()`, key: `k.Lex.Value()`),
it never re-encodes them; the theorem says so: `BT.compact` keeps every scalar and key token byte for byte.
Layout = white space only (blank, tab, LF / CR in any mix, wherever the grammar allows it and around the value): the
events-of-a-tree theorems (`SchemaEvents*`, `LoaderTree*`) do not cover user comments `# …` and annotations; those
layouts are exercised by `c15-text` (streams B, D) on the same model function. Keys of one object pairwise
distinct after decoding (otherwise error 402 in model and code: `C16_text_duplicate_key`, `c15-text` stream C). -/

open Loader in
theorem C15_plain_text_roundtrip (t : BT) (hv : t.cls.Valid) (ws0 ws1 : List UInt8)
    (h0 : SchemaScan.IsWs (ws0.map SchemaScan.classify)) (h1 : SchemaScan.IsWs (ws1.map SchemaScan.classify))
    (hd : t.KeysDistinct) :
    exampleText (ws0 ++ (t.render ++ ws1)) = .ok t.compact :=
  Loader.plain_text_roundtrip t hv ws0 ws1 h0 h1 hd

/-- with C05 / C06: the JSON scanner model reads the result as exactly the events of the value without layout —
in particular it is accepted (`t.cls.Json`: tokens by the JSON grammar, which implies `t.cls.Valid`) -/
theorem C15_plain_result_is_json (allow : Bool) (t : Loader.BT) (hj : t.cls.Json) :
    JsonScan.events allow t.compact = .ok (JsonScan.evsAt 0 t.strip.cls.toJA) :=
  Loader.plain_result_is_json allow t hj

/-- the glue to the abstract builder model: `Loader.toEX` reads the loader's node table as a schema of `EX`, and on it
`EX.build` (the model of `C15_wellformed` / `C15_build_is_render`) emits the byte classes of what the text-level
builder emits — for every node table, not only those of plain JSON -/
theorem C15_text_builder_is_model (src : Array UInt8) (nodes : Array Loader.Node) (ts : EX.Types) (f : Nat)
    (proc : String → Nat) (fuel i : Nat) (out : List UInt8) (h : Loader.exBuild src nodes fuel i = some out) :
    ∃ n, Loader.toEX src nodes fuel i = some n ∧ EX.build ts f proc n = some (some (out.map JsonScan.classify)) :=
  Loader.exBuild_glue src nodes ts f proc fuel i out h

/-- non-vacuity: ` {⏎"a\n" :⏎ [1, true,␍⏎⇥-0.50 ] ,⏎⏎ "\u00e9": { }⏎}⏎ ` ↦ `{"a\n":[1,true,-0.50],"\u00e9":{}}` -/
example : Loader.exampleText SchemaScan.sampleBytes
    = .ok [123, 34, 97, 92, 110, 34, 58, 91, 49, 44, 116, 114, 117, 101, 44, 45, 48, 46, 53, 48, 93, 44,
           34, 92, 117, 48, 48, 101, 57, 34, 58, 123, 125, 125] := Loader.sample_roundtrip

/-! ## Self-validation beyond references

`EXK.build` extends the builder model as `example.go` dictates: key shortcuts (`buildObjectKey`), the error for an
object / array node that carries a types list (K-C15-orcontainer); `EX.build` is its restriction
(`C15_build_extends`). Scalar positions need no extension: a literal node emits its own token whatever rules it carries
(`or` rule-sets, `enum`, `const`, `{type: "@t"}`), and `Check` has validated that token against those rules — in the
theorems this is `litOK l (ex l)` for an ARBITRARY literal-rule semantics `litOK`; an or-shortcut `@a | @b` and a
nullable reference are `.ref names nul`: the builder follows the first name.

`VK.exDoc strict …` replays the builder and answers `none` as soon as the run leaves the class the theorem covers:
a cut-off at a REQUIRED property (K-C15-reqcut, K-C15-or), at an array element that is followed by an emitted one
(K-C15-arraycut; with `strict` at any array element), at a key-shortcut property; a key shortcut whose type is not
directly a literal (K-C15-keyalias) or whose example key is also a literal key of the object (K-C15-keyclash, found
while this theorem was being stated; `C15_self_valid_full_false_keyclash`). K-C15-uninhabited lies in the first three classes (nothing is emitted below an
uninhabited type without a cut-off). -/

theorem C15_build_extends (ts : EX.Types) (fuel : Nat) (proc : String → Nat) (n : EX.N) :
    EXK.build (EXK.embedTypes ts) fuel proc (EXK.embed n) = EX.build ts fuel proc n := EXK.build_embed ts fuel proc n

/-- **extended self-validation** (`strict = false`): scalars with any rules, or-shortcuts, nullable, key shortcuts on
directly-literal string types, additionalProperties, any type table; cut-offs tolerated at optional properties and at a
suffix of an array's elements. The emitted bytes are the compact text of `d`, and `Validate` accepts `d`. -/
theorem C15_self_valid_ext_partial {L D : Type} (env : VK.Env L) (litOK : L → D → Bool) (keyOK : String → String → Bool)
    (ex : L → D) (keyStr : D → String) (tok : D → List Cls) (keyTok : String → List Cls)
    (henv : VK.CheckedEnv env litOK ex) (hkey : VK.KeyLink env litOK keyOK ex keyStr)
    (hkt : VK.KeyTokLink tok keyTok env ex keyStr)
    (fuel : Nat) (proc : String → Nat) (s : VK.S L) (hc : VK.checkedS litOK ex s = true)
    (d : VN.J D) (h : VK.exDoc env ex keyStr false fuel proc s = some (some d)) :
    EXK.build (VK.tsOfK tok keyTok ex env) fuel proc (VK.ofK tok keyTok ex s) = some (some (VR.jaOfN tok keyTok d).render) ∧
    VK.validateT env litOK keyOK s d = true :=
  ⟨VK.build_ofK tok keyTok env ex keyStr false hkt fuel proc s _ h,
   VK.self_valid_ext env litOK keyOK ex keyStr false henv hkey fuel proc s hc d h⟩

/-- **optional recursion** (`strict = true`): if every child the recursion cut-off omits is the value of an OPTIONAL
object property, what `Example()` emits is accepted by `Validate` -/
theorem C15_self_valid_optional_cut {L D : Type} (env : VK.Env L) (litOK : L → D → Bool) (keyOK : String → String → Bool)
    (ex : L → D) (keyStr : D → String) (tok : D → List Cls) (keyTok : String → List Cls)
    (henv : VK.CheckedEnv env litOK ex) (hkey : VK.KeyLink env litOK keyOK ex keyStr)
    (hkt : VK.KeyTokLink tok keyTok env ex keyStr)
    (fuel : Nat) (proc : String → Nat) (s : VK.S L) (hc : VK.checkedS litOK ex s = true)
    (d : VN.J D) (h : VK.exDoc env ex keyStr true fuel proc s = some (some d)) :
    EXK.build (VK.tsOfK tok keyTok ex env) fuel proc (VK.ofK tok keyTok ex s) = some (some (VR.jaOfN tok keyTok d).render) ∧
    VK.validateT env litOK keyOK s d = true :=
  ⟨VK.build_ofK tok keyTok env ex keyStr true hkt fuel proc s _ h,
   VK.self_valid_ext env litOK keyOK ex keyStr true henv hkey fuel proc s hc d h⟩

/-- allOf: `CompileAllOf` (`AO.compileAll`, characterised by `C03_allOf_expand`) expands the schema before `Example()`
and `Validate` see it; on the expansion (read as a `ValidateK` schema without key shortcuts, `VK.embA`) the extended
theorem applies -/
theorem C15_self_valid_allOf {L D : Type} [DecidableEq L] (penv : AO.PEnv L) (root : AO.PS L)
    (env' : VA.Env L) (s : VA.S L) (_ : AO.compileAll penv root = .ok (env', s))
    (litOK : L → D → Bool) (keyOK : String → String → Bool)
    (ex : L → D) (keyStr : D → String) (tok : D → List Cls) (keyTok : String → List Cls)
    (henv : VK.CheckedEnv (VK.embAEnv env') litOK ex) (hkey : VK.KeyLink (VK.embAEnv env') litOK keyOK ex keyStr)
    (hkt : VK.KeyTokLink tok keyTok (VK.embAEnv env') ex keyStr)
    (fuel : Nat) (proc : String → Nat) (hc : VK.checkedS litOK ex (VK.embA s) = true)
    (d : VN.J D) (h : VK.exDoc (VK.embAEnv env') ex keyStr false fuel proc (VK.embA s) = some (some d)) :
    EXK.build (VK.tsOfK tok keyTok ex (VK.embAEnv env')) fuel proc (VK.ofK tok keyTok ex (VK.embA s))
      = some (some (VR.jaOfN tok keyTok d).render) ∧
    VK.validateT (VK.embAEnv env') litOK keyOK (VK.embA s) d = true :=
  C15_self_valid_ext_partial (VK.embAEnv env') litOK keyOK ex keyStr tok keyTok henv hkey hkt fuel proc (VK.embA s) hc d h

/-- the statement at full strength: whatever the builder emits for a checked schema, its validator accepts -/
def C15_self_valid_full : Prop := VK.Witness.SelfValidFull

/-- K-C15-reqcut, on the model as on the library: `@t = {"a": @u // {optional: true}}`, `@u = {"b": @t}`, root `@t`:
the builder emits `{"a":{"b":{"a":{}}}}`, the validator rejects it -/
theorem C15_self_valid_full_false : ¬ C15_self_valid_full := VK.Witness.selfValidFull_false_reqcut

/-- K-C15-arraycut: `@t = [@t // {nullable: true}, 1]`, root `[@t]`: `[[[1],1]]` is emitted and rejected -/
theorem C15_self_valid_full_false_arraycut : ¬ C15_self_valid_full := VK.Witness.selfValidFull_false_arraycut

/-- K-C15-keyclash: `{"a": 1, @K: null}` with `@K = "a"`: `{"a":1,"a":null}` is emitted and rejected -/
theorem C15_self_valid_full_false_keyclash : ¬ C15_self_valid_full := VK.Witness.selfValidFull_false_keyclash

/-- non-vacuity (optional recursion): `@t = {"a": 1, "t": @t // {optional: true}}`, root `@t`, the cut-off falls on the
optional property; the hypotheses of `C15_self_valid_optional_cut` hold -/
example : VK.exDoc VK.Witness.envOpt id id true 8 (fun _ => 0) (.ref ["t"] none)
      = some (some (.obj [("a", .lit "1"), ("t", .obj [("a", .lit "1")])])) ∧
    VK.CheckedEnv VK.Witness.envOpt VK.Witness.litOK id :=
  ⟨VK.Witness.optcut_inside, VK.Witness.envOpt_checked⟩

/-- non-vacuity (key shortcut + omitted array suffix): `{"b": 1, @K: [@t]}`, `@K = "a"`, `@t = [@t]` -/
example : VK.exDoc VK.Witness.envMix id id false 8 (fun _ => 0) VK.Witness.schemaMix
      = some (some (.obj [("b", .lit "1"), ("a", .arr [.arr [.arr []]])])) ∧
    VK.CheckedEnv VK.Witness.envMix VK.Witness.litOK id ∧
    VK.KeyLink VK.Witness.envMix VK.Witness.litOK (fun _ _ => true) id id :=
  ⟨VK.Witness.mix_inside, VK.Witness.envMix_checked, VK.Witness.keyLink _⟩

/-- and the replay puts the K-C15-reqcut witness outside the class -/
example : VK.exDoc VK.Witness.envReq id id false 8 (fun _ => 0) (.ref ["t"] none) = none :=
  VK.Witness.reqcut_outside false

/-! ## Text level for ANNOTATED trees (work package c15text; modules `ExampleTextR`, `ATreeExample`, `ExampleTextRProofs`)

`Loader.exampleTextR` is `Loader.exampleText` with the rules inside the fragment, as `example.go` reads them: a literal
node emits its token WHATEVER rules it carries (`min`, `max`, `minLength`, `maxLength`, `regex`, `const`, `nullable`,
`optional`, `type` — also `"any"` and `"@t"` —, `precision`, `exclusiveMinimum`, `enum`, `or`: none is consulted); an
array / object node emits brackets around its children unless it carries `or` (→ `TypesListConstraint` →
`ErrUserTypeFound`) or `allOf` (`CompileAllOf` adds properties) — every other container rule (`minItems`, `maxItems`,
`additionalProperties`, `nullable`, `optional`, `type`) is not consulted. Type shortcuts and key shortcuts stay outside
(answer `UNSUPPORTED`; modelled on the abstract schema by `EXK.build`). `Example()` first compiles and checks the
schema: the text-level model has the scanner's and the loader's errors, not the checker's, so its answer reads "the
bytes `Example()` returns whenever `Check` accepts the text" (tie `c15-text`, stream T).

`AT.ATree.compact` is the compact JSON text of the VALUE of an annotated tree (scalar and key tokens byte for byte: the
builder re-emits source tokens; `AT.compact_value`: it is `BT.compact` of the plain byte tree `ATree.value`),
`AT.ATree.exClass` the decidable class "no container carries `or` / `allOf`" (the rule-object grammar of `AT.ATree` has
bare names and literal values, so these are the only rules of the grammar the builder reacts to).

`C13_annotated_tree_loads` speaks about the ABSTRACT table (`XNode`: DECODED keys); `Example()` emits the key TOKENS
(`k.Lex.Value()`). `AT.KeysRaw w0 t w1` is exactly the missing link (the key spans of the loaded table are the key tokens
of the tree): `C15_annotated_text_roundtrip_of_keys` proves the roundtrip for every annotated tree from it;
`C15_annotated_text_roundtrip_partial` is the case of the trees whose objects are all empty (`ATree.keyless`:
arrays of any nesting, annotated scalars, `{}`), where the link is vacuous. For trees with keys the link is checked on the code
and on the model by `c15-text` (stream T: `ATree.compact` = model = real `Example()`); the statement at full strength is
`C15_annotated_text_roundtrip_full` — PROVED further down (`C15_annotated_keys_raw`,
`C15_annotated_text_roundtrip_full_holds`; work package c15keys). -/

open AT in
theorem C15_text_builder_extends (bs out : List UInt8) (h : Loader.exampleText bs = .ok out) :
    Loader.exampleTextR bs = .ok out := Loader.exampleTextR_extends bs out h

/-- on EVERY loader table the rule-aware text-level builder is the builder on the abstract table (kinds, children,
decoded keys, literal tokens, rule NAMES — what `GetAST` shows) plus the raw key tokens: nothing else of a node is read -/
theorem C15_text_builder_reads (src : Array UInt8) (nodes : Array Loader.Node) (fuel i : Nat) :
    Loader.exBuildR src nodes fuel i
      = Loader.exBuildX (nodes.map (Loader.absX src)) (nodes.map (Loader.rawKeysN src)) fuel i :=
  Loader.exBuildR_eq_X src nodes fuel i

/-- the statement at full strength -/
def C15_annotated_text_roundtrip_full : Prop :=
  ∀ (w0 : AT.Gap) (t : AT.ATree) (w1 : AT.Gap), t.isContainer = true → AT.lineOK w0 t = true →
    AT.TokOK (AT.docToks w0 t w1) → t.exClass = true →
    Loader.exampleTextR (AT.docText w0 t w1) = .ok t.compact

/-- every annotated tree of the class, any layout, comments, annotations (inline / multi-line, before / behind the
comma, notes): IF the loaded table's key spans are the tree's key tokens, the example is the compact text of the VALUE -/
theorem C15_annotated_text_roundtrip_of_keys (w0 : AT.Gap) (t : AT.ATree) (w1 : AT.Gap) (hc : t.isContainer = true)
    (hl : AT.lineOK w0 t = true) (hw : AT.TokOK (AT.docToks w0 t w1)) (hx : t.exClass = true)
    (hk : AT.KeysRaw w0 t w1) :
    Loader.exampleTextR (AT.docText w0 t w1) = .ok t.compact :=
  AT.annotated_roundtrip_of_keys w0 t w1 hc hl hw hx hk

/-- **annotated trees without object members** (arrays of any nesting, annotated scalars, empty objects): whatever
annotations, layout and comments the schema text carries, `Example` is the compact JSON text of the tree's value -/
theorem C15_annotated_text_roundtrip_partial (w0 : AT.Gap) (t : AT.ATree) (w1 : AT.Gap) (hc : t.isContainer = true)
    (hl : AT.lineOK w0 t = true) (hw : AT.TokOK (AT.docToks w0 t w1)) (hx : t.exClass = true)
    (hkl : t.keyless = true) :
    Loader.exampleTextR (AT.docText w0 t w1) = .ok t.compact :=
  AT.annotated_roundtrip w0 t w1 hc hl hw hx

/-- the full statement is equivalent to the raw-key link on the class -/
theorem C15_annotated_text_roundtrip_full_of_keys
    (h : ∀ (w0 : AT.Gap) (t : AT.ATree) (w1 : AT.Gap), t.isContainer = true → AT.lineOK w0 t = true →
      AT.TokOK (AT.docToks w0 t w1) → AT.KeysRaw w0 t w1) : C15_annotated_text_roundtrip_full :=
  fun w0 t w1 hc hl hw hx => AT.annotated_roundtrip_of_keys w0 t w1 hc hl hw hx (h w0 t w1 hc hl hw)

/-- the result is JSON (with C05 / C06): the JSON scanner model reads the compact text of the value as exactly the
events of the value without layout — for EVERY annotated tree whose tokens are JSON tokens -/
theorem C15_annotated_result_is_json (allow : Bool) (t : AT.ATree) (hj : t.value.cls.Json) :
    JsonScan.events allow t.compact = .ok (JsonScan.evsAt 0 t.value.strip.cls.toJA) :=
  AT.annotated_result_is_json allow t hj

/-- non-vacuity (`…_partial`): `[⏎1, // {min: 0} - note⏎2⏎]` ↦ `[1,2]` -/
example : Loader.exampleTextR (AT.docText [] (AT.Ex.inner AT.Ex.aInl) []) = .ok [91, 49, 44, 50, 93] :=
  C15_annotated_text_roundtrip_partial [] (AT.Ex.inner AT.Ex.aInl) [] rfl (by decide +kernel) AT.ExC15.inner_tok rfl rfl

/-- non-vacuity (`…_of_keys`): the hypothesis `KeysRaw` is met (here through `AT.keysRaw`) -/
example : AT.KeysRaw [] (AT.Ex.inner AT.Ex.aInl) [] :=
  AT.keysRaw [] (AT.Ex.inner AT.Ex.aInl) [] rfl (by decide +kernel) AT.ExC15.inner_tok

/-- non-vacuity (`C15_annotated_result_is_json`), a tree WITH keys (`AT.Ex.t1`): its compact text is
`{"a":1,"aa":[1,2]}` -/
example : AT.Ex.t1.compact = [123, 34, 97, 34, 58, 49, 44, 34, 97, 97, 34, 58, 91, 49, 44, 50, 93, 125] := by decide +kernel

/-- (3) `C15_annotated_self_valid`, the STATEMENT (not proved in this package: `E2E.loadSchema` / `Compile` on the table
of an annotated tree — `C02_text_level` has it for one scalar, `C01_text_level` for plain trees — is not composed over
whole annotated trees yet): for every annotated tree of the class, when the model's checker accepts the schema text
(`E2E.validateText` does not answer a schema error / `unsupported`), the model's validator ACCEPTS the example the
builder emits. Tied on both sides by `c15-text` (stream T): real `Validate(Example()) == nil` whenever real `Check`
accepts, and `E2E.validateText text [] (Example()) = ACC` (or `UNSUP`) on the model. -/
def C15_annotated_self_valid_full : Prop :=
  ∀ (w0 : AT.Gap) (t : AT.ATree) (w1 : AT.Gap), t.isContainer = true → AT.lineOK w0 t = true →
    AT.TokOK (AT.docToks w0 t w1) → t.exClass = true →
    E2E.validateText (AT.docText w0 t w1) [] t.compact ≠ .rej ∧
    ∀ c p, E2E.validateText (AT.docText w0 t w1) [] t.compact ≠ .docErr c p

/-! ## The missing link `AT.KeysRaw` (work package c15keys; modules `KeysDefs`, `KeysThm`, `KeysRawProofs`)

`C13_annotated_tree_loads` reads the loaded table through `Loader.absX` (DECODED keys: what `GetAST` shows). The builder
emits the key TOKENS. `Loader.K.absK` is `absX` with the key token `src[b..e]` of every recorded key span `(b, e)` in the
`keys` slot (`Loader.K.dec` maps it to what `absX` shows); `AT.ATree.tableK` is `ATree.table` with the key tokens of the
tree as written (`AMembers.rkeys`, quotes and escapes included). The `ATreeLoad*` induction (namespace `AT.G`) is stated
for a view of the node table; the `Keys*` modules hold its instance for this abstraction (`AT.G.viewK`: the TOKEN is
recorded, the loader's duplicate test stays on the decoded keys): `C15_annotated_tree_loads_keys`. `C15_annotated_keys_raw` is `AT.KeysRaw` for every well-formed annotated tree, and with
`C15_annotated_text_roundtrip_of_keys` the round trip holds for ALL annotated trees of the class. -/

/-- **the text of a well-formed annotated tree loads into the table the tree denotes, key TOKENS included**: node by
node the key spans the loader records are the key tokens of the corresponding members, in source order, as written -/
theorem C15_annotated_tree_loads_keys (w0 : AT.Gap) (t : AT.ATree) (w1 : AT.Gap) (hc : t.isContainer = true)
    (hl : AT.lineOK w0 t = true) (hw : AT.TokOK (AT.docToks w0 t w1)) :
    ∃ st, Loader.loadText (AT.docText w0 t w1) = .ok st ∧ st.root = some 0 ∧
      st.nodes.toList.map (Loader.K.absK (AT.docText w0 t w1).toArray) = t.tableK :=
  AT.K.tree_loads_keys w0 t w1 hc hl hw

/-- the two tables agree: decoding the key tokens of `tableK` gives `table` (so `C15_annotated_tree_loads_keys` refines
`C13_annotated_tree_loads`) -/
theorem C15_tableK_decodes (t : AT.ATree) :
    t.tableK.map (fun x => { x with keys := x.keys.map Loader.K.dec }) = t.table := AT.tableK_dec t

/-- **the missing link**: for every well-formed annotated tree (container root, line discipline, token grammar) the
loaded key spans, read against the text, are the tree's key tokens — `AT.KeysRaw` holds -/
theorem C15_annotated_keys_raw (w0 : AT.Gap) (t : AT.ATree) (w1 : AT.Gap) (hc : t.isContainer = true)
    (hl : AT.lineOK w0 t = true) (hw : AT.TokOK (AT.docToks w0 t w1)) : AT.KeysRaw w0 t w1 :=
  AT.keysRaw w0 t w1 hc hl hw

/-- **every annotated tree of the class** (container root, line discipline, token grammar, no container carries `or` /
`allOf`), any layout, comments, annotations (inline / multi-line, before / behind the comma, notes), any keys (escapes
included): scanner model → loader model → builder emits the compact JSON text of the tree's VALUE, scalar and key tokens
byte for byte -/
theorem C15_annotated_text_roundtrip (w0 : AT.Gap) (t : AT.ATree) (w1 : AT.Gap) (hc : t.isContainer = true)
    (hl : AT.lineOK w0 t = true) (hw : AT.TokOK (AT.docToks w0 t w1)) (hx : t.exClass = true) :
    Loader.exampleTextR (AT.docText w0 t w1) = .ok t.compact :=
  AT.annotated_roundtrip w0 t w1 hc hl hw hx

/-- the statement at full strength holds -/
theorem C15_annotated_text_roundtrip_full_holds : C15_annotated_text_roundtrip_full :=
  C15_annotated_text_roundtrip

/-- non-vacuity, a pretty-printed tree WITH keys and annotations (`AT.Ex.t1`):
`{ // {min: 0} - note⏎"a": 1 /* {min: 0} */,⏎"aa": [⏎1, // {min: 0} - note⏎2⏎]⏎}` ↦ `{"a":1,"aa":[1,2]}` -/
example : Loader.exampleTextR (AT.docText [] AT.Ex.t1 [])
    = .ok [123, 34, 97, 34, 58, 49, 44, 34, 97, 97, 34, 58, 91, 49, 44, 50, 93, 125] :=
  C15_annotated_text_roundtrip [] AT.Ex.t1 [] rfl AT.Ex.t1_line AT.Ex.t1_tok rfl

/-- non-vacuity, a key with an escape: `{"\u0061": 1, "aa": [ ] }` ↦ `{"\u0061":1,"aa":[]}` — the TOKEN, not the
decoded key `a` -/
example : Loader.exampleTextR (AT.docText [] AT.ExKeys.tEsc [])
    = .ok [123, 34, 92, 117, 48, 48, 54, 49, 34, 58, 49, 44, 34, 97, 97, 34, 58, 91, 93, 125] :=
  C15_annotated_text_roundtrip [] AT.ExKeys.tEsc [] rfl AT.ExKeys.tEsc_line AT.ExKeys.tEsc_tok rfl

/-- non-vacuity (`C15_annotated_keys_raw`): the raw keys of `tEsc`, node by node -/
example : AT.ExKeys.tEsc.rawKeys = [[[34, 92, 117, 48, 48, 54, 49, 34], [34, 97, 97, 34]], [], []] := by decide +kernel

example := C15_annotated_keys_raw [] AT.ExKeys.tEsc [] rfl AT.ExKeys.tEsc_line AT.ExKeys.tEsc_tok

end Props.C15

#print axioms Props.C15.C15_text_builder_extends
#print axioms Props.C15.C15_text_builder_reads
#print axioms Props.C15.C15_annotated_text_roundtrip_of_keys
#print axioms Props.C15.C15_annotated_text_roundtrip_partial
#print axioms Props.C15.C15_annotated_text_roundtrip_full_of_keys
#print axioms Props.C15.C15_annotated_result_is_json
#print axioms Props.C15.C15_annotated_tree_loads_keys
#print axioms Props.C15.C15_tableK_decodes
#print axioms Props.C15.C15_annotated_keys_raw
#print axioms Props.C15.C15_annotated_text_roundtrip
#print axioms Props.C15.C15_annotated_text_roundtrip_full_holds

/-! ## C15 at TEXT level for schema texts with SHORTCUT leaves (work package c15short; modules `ExampleShort`,
`ExampleShortClass`, `ExampleShortText`, `ExampleShortCut`)

Specification level (part (2) of the package; the builder MODEL on loader nodes, `Loader.exBuildR`, still answers `none`
at a `mixed` node, so `C15_shortcut_example_closed` — model's builder = rendering of `exampleOf` — is NOT delivered).
`RE.exampleOf tys fuel : BST → Option Doc` is the closed form of `exampleBuilder.Build` on a tree with shortcut leaves
WITHOUT the recursion cut-off: a scalar leaf is its token, a container the examples of its children in order, a shortcut
leaf `@A | @B | …` the example of the tree added under its FIRST name (`GetTypes()[0]`; the other names are never
consulted); `none` = fuel exhausted (every fuel, when a type is reachable from itself through first names) or first name
not added. `RE.exampleCut` is the transliteration WITH the cut-off (`processedTypes[name] > 1` ↦ `nil`, dropped by the
enclosing container). -/

namespace Props.C15
open SE (BST TypeText TextOK TypesOK docText typeTexts typesOf cnOf)

/-- **whatever the closed form answers is admitted** by the tree it was built from (shortcut leaves read as the union of
the trees of their names, `C03_text_level_refs`) — any table, recursive ones included (there `exampleOf` answers `none`
where the real builder starts dropping members); class: scalars whose kind can be guessed, decoded keys of every object
pairwise distinct (`RE.exOK`, `RE.tysOK`: decidable; both follow from `TextOK` / `TypesOK`) -/
theorem C15_shortcut_example_admitted (tys : List TypeText) (htys : RE.tysOK tys = true) (fuel : Nat) (opt : Bool)
    (t : BST) (d : RE.Doc) (hok : RE.exOK t = true) (he : RE.exampleOf tys fuel t = some d) : RE.Admits tys opt t d :=
  RE.exampleOf_admitted tys htys fuel opt t d hok he

/-- the same for the texts of the class -/
theorem C15_shortcut_example_admitted_text (w0 : SE.Bytes) (t : BST) (w1 : SE.Bytes) (ht : TextOK w0 t w1)
    (tys : List TypeText) (htys : TypesOK tys) (fuel : Nat) (opt : Bool) (d : RE.Doc)
    (he : RE.exampleOf tys fuel t = some d) : RE.Admits tys opt t d :=
  RE.example_admitted_text w0 t w1 ht tys htys fuel opt d he

/-- the answer does not depend on the fuel -/
theorem C15_shortcut_example_fuel (tys : List TypeText) (f g : Nat) (hle : f ≤ g) (t : BST) (d : RE.Doc)
    (h : RE.exampleOf tys f t = some d) : RE.exampleOf tys g t = some d := RE.exampleOf_le tys f g hle t d h

/-- **round trip at text level**: root text and added type texts of the class, distinct user type names, the check stage
passes; when the closed form answers `e` (explicit decidable hypothesis: it does for some fuel exactly when no type is
reachable from itself through the first names met from the root), the pipeline scanner → loader → compile → check → JSON
scanner → validator machine ACCEPTS every document text (one JSON value in any white space) that denotes `e` -/
theorem C15_shortcut_text_roundtrip (w0 : SE.Bytes) (t : BST) (w1 : SE.Bytes) (ht : TextOK w0 t w1) (tys : List TypeText)
    (htys : TypesOK tys) (hn : CL.typeNamesOK (typeTexts tys) = true) (opt : Bool)
    (hc : Compile.check (cnOf opt t) (typesOf tys) = .ok ())
    (fuel : Nat) (e : RE.Doc) (he : RE.exampleOf tys fuel t = some e)
    (d : VPos.T UInt8) (hd : (VPos.toJA JsonScan.classify d).Valid) (hde : E2E.docOf d = e) (ws0 ws1 : List UInt8)
    (hw0 : JsonScan.IsWs (ws0.map JsonScan.classify)) (hw1 : JsonScan.IsWs (ws1.map JsonScan.classify)) :
    E2E.validateText (docText w0 t w1) (typeTexts tys) (ws0 ++ (d.render VPos.byteSym ++ ws1)) opt = .acc :=
  RE.shortcut_text_roundtrip w0 t w1 ht tys htys hn opt hc fuel e he d hd hde ws0 ws1 hw0 hw1

/-- the example as a token tree without layout, key TOKENS of the schema text kept (`RE.exampleT`; its rendering
`RE.exampleBytes` is the compact JSON text the builder emits), denotes the closed form -/
theorem C15_shortcut_example_tokens (tys : List TypeText) (fuel : Nat) (t : BST) :
    (RE.exampleT tys fuel t).map E2E.docOf = RE.exampleOf tys fuel t := RE.exampleT_doc tys fuel t

/-- **round trip on the example BYTES**: the pipeline accepts the compact JSON text of the example (in any white space)
against the schema text it was built from; `hd`: the token tree is JSON (scalar / key tokens of the SCHEMA grammar read
by the JSON scanner — not derived from `TextOK` here) -/
theorem C15_shortcut_bytes_roundtrip (w0 : SE.Bytes) (t : BST) (w1 : SE.Bytes) (ht : TextOK w0 t w1)
    (tys : List TypeText) (htys : TypesOK tys) (hn : CL.typeNamesOK (typeTexts tys) = true) (opt : Bool)
    (hc : Compile.check (cnOf opt t) (typesOf tys) = .ok ())
    (fuel : Nat) (d : VPos.T UInt8) (he : RE.exampleT tys fuel t = some d)
    (hd : (VPos.toJA JsonScan.classify d).Valid) (ws0 ws1 : List UInt8)
    (hw0 : JsonScan.IsWs (ws0.map JsonScan.classify)) (hw1 : JsonScan.IsWs (ws1.map JsonScan.classify)) :
    E2E.validateText (docText w0 t w1) (typeTexts tys) (ws0 ++ (d.render VPos.byteSym ++ ws1)) opt = .acc :=
  RE.shortcut_bytes_roundtrip w0 t w1 ht tys htys hn opt hc fuel d he hd ws0 ws1 hw0 hw1

/-- the statement at full strength, the builder's recursion cut-off included (`RE.exampleCut`): whatever the builder
answers on a table that passes the check stage is admitted -/
def C15_shortcut_example_cut_full : Prop := RE.cut_admitted_full

/-- it is FALSE: `@R` = `[@R, 1]` passes the check stage (the array may be empty); the builder with the cut-off answers
`[[1],1]`, not admitted (`1` at the position of `@R`): the class of the known findings K-C15-arraycut / K-C15-reqcut -/
theorem C15_shortcut_example_cut_full_false : ¬ C15_shortcut_example_cut_full := RE.cut_admitted_full_false

/-- **where the closed form answers, the cut-off does not fire**: the transliteration of the builder WITH its cut-off
answers the same document (any table; so on the tables where `exampleOf` answers, the two closed forms are one) -/
theorem C15_shortcut_example_cut_agrees (tys : List TypeText) (f : Nat) (t : BST) (d : RE.Doc)
    (he : RE.exampleOf tys f t = some d) : ∃ g, RE.exampleCut tys g [] t = some (some d) :=
  RE.exampleCut_of_exampleOf tys f t d he

/-- non-vacuity: `SE.Ex.root` = `{"a": @A | @B ,⏎ "b": [@C⏎], "c": 1}` with `@A` = `1`, `@B` = `"s"`, `@C` = `{"k": true}`:
the example is `{"a":1,"b":[{"k":true}],"c":1}` (first name `@A` at `a`) -/
example : RE.exampleOf RE.Ex.tys 5 SE.Ex.root
    = some (.obj [("a", .lit [49]), ("b", .arr [.obj [("k", .lit [116, 114, 117, 101])]]), ("c", .lit [49])]) :=
  RE.Ex.exDoc_eq

/-- … it is admitted … -/
example : RE.Admits RE.Ex.tys false SE.Ex.root RE.Ex.exDoc :=
  C15_shortcut_example_admitted_text [] SE.Ex.root [] SE.Ex.root_ok RE.Ex.tys RE.Ex.tys_ok 5 false _ RE.Ex.exDoc_eq

/-- … and the text-level pipeline accepts the text ` {"a":1,"b":[{"k":true}],"c":1}⏎` against its own schema -/
example : E2E.validateText (docText [] SE.Ex.root []) (typeTexts RE.Ex.tys)
    ([32] ++ (RE.Ex.dEx.render VPos.byteSym ++ [10])) false = .acc :=
  C15_shortcut_text_roundtrip [] SE.Ex.root [] SE.Ex.root_ok RE.Ex.tys RE.Ex.tys_ok RE.Ex.names_ok false RE.Ex.check_ok
    5 RE.Ex.exDoc RE.Ex.exDoc_eq RE.Ex.dEx RE.Ex.dEx_valid RE.Ex.dEx_doc [32] [10] RE.Ex.sp_ws RE.Ex.lf_ws

/-- the bytes: `{"a":1,"b":[{"k":true}],"c":1}` (what the real `Example()` returns on these texts), accepted -/
example : (RE.exampleBytes RE.Ex.tys 5 SE.Ex.root).map (fun b => String.fromUTF8! b.toByteArray)
    = some "{\"a\":1,\"b\":[{\"k\":true}],\"c\":1}" := by decide +kernel
example : E2E.validateText (docText [] SE.Ex.root []) (typeTexts RE.Ex.tys)
    ([32] ++ (RE.Ex.dEx.render VPos.byteSym ++ [10])) false = .acc :=
  C15_shortcut_bytes_roundtrip [] SE.Ex.root [] SE.Ex.root_ok RE.Ex.tys RE.Ex.tys_ok RE.Ex.names_ok false RE.Ex.check_ok
    5 RE.Ex.dEx RE.Ex.exT_eq RE.Ex.dEx_valid [32] [10] RE.Ex.sp_ws RE.Ex.lf_ws

/-- the witness of the cut-off: builder `[[1],1]`, closed form silent -/
example : RE.exampleCut RE.CutEx.tysR 6 [] RE.CutEx.rootR = some (some (.arr [.arr [.lit [49]], .lit [49]])) :=
  RE.CutEx.cut_eq

end Props.C15

#print axioms Props.C15.C15_shortcut_example_admitted
#print axioms Props.C15.C15_shortcut_example_admitted_text
#print axioms Props.C15.C15_shortcut_example_fuel
#print axioms Props.C15.C15_shortcut_text_roundtrip
#print axioms Props.C15.C15_shortcut_example_cut_full_false
#print axioms Props.C15.C15_shortcut_example_cut_agrees
#print axioms Props.C15.C15_shortcut_example_tokens
#print axioms Props.C15.C15_shortcut_bytes_roundtrip
