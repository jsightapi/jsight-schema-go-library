import JSight.EnumC2
import JSight.EnumCExamples
import JSight.TreeLen
import JSight.EnumPlain
import JSight.SchemaLen
import JSight.SchemaLenExamples
import JSight.SchemaLenTokEof
import JSight.SchemaLenAnnShortcut
import JSight.DocCorollaries
/-!
# C14 — Len reports exactly where an embedded JSON document ends

`lengthS true` is the model of `Document.Len()` (documents with trailing characters allowed): raw
length from the event stream (`end-top` at the first foreign byte), then trailing blanks trimmed.
For every valid JSON tree `v` with any layout, leading blanks `ws0`, separator blanks `w`, a foreign
byte `x` that cannot continue the value and any `rest`: `Len = |ws0| + |render v|` — the length of the
document as the grammar generates it, without trailing blanks. No bound on sizes.
`C14_enum_len`: the enum-rule scanner's `Length` (model `EnumScan.length`) of `ws [ items ] ws` is the offset
just after the closing bracket, for every list of grammar tokens and any layout incl. line breaks.
`C14_schema_len_whole`, `C14_schema_len_embedded`: the schema scanner's `Length` (model `SchemaScan.length`) of
a plain-JSON schema, alone in the input or followed by foreign text, is the offset just after the value, for
every value tree and layout. "Foreign" is every class except blanks, `/` and `#` (which may start an annotation
or a comment that belongs to the schema); a byte glued directly to a number must not be able to continue it
(`adjOk`, exact: after `0` only `.`/`e`/`E` are excluded, after an integer also digits, after a fraction digits
and `e`/`E`).
Extension (root type shortcuts, inline annotations, user comments):
`C14_schema_len_shortcut` — root `@name` / `@a | @b` (token grammar of scanner.go's shortcut states): `Len` = offset just
after the last name byte. `C14_schema_len_annotated_scalar` — a scalar root followed on its line by `// note` or
`// {rules} [- note]`: `Len` COUNTS the annotation (up to its last non-blank byte). `C14_schema_len_annotated` — the
general form: the schema text is a list of tokens (`Len.Tok`: blanks, line breaks, `#` line comments, inline
annotations, scalars, keys, brackets, separators) that the token-level scanner `Len.trun` accepts (a description of the
places where each token may stand, incl. the `allowAnnotation` flag and the closure installed behind a note); the
byte-level model follows it (`Len.sim_run`), and `Len` is the text length without trailing blanks (`Len.rtrimLen`).
Multi-line annotations, `###` block comments, key shortcuts and shortcuts inside containers: validated only
(`schema-diff`, `c14-len`, `c14-model`).
-/
namespace Props.C14
open JsonScan

/-- `classify` answers a white-space class on exactly the four blank bytes: they are its first two tests, and none of
the classes behind them is white space -/
theorem isBlank_classify (c : UInt8) : (isBlankB c == (classify c).isWs) = true := by
  unfold isBlankB classify
  by_cases h1 : c = 32
  · subst h1; rfl
  have e1 : (c == 32) = false := by simpa using h1
  cases e2 : (c == 9 || c == 10 || c == 13) with
  | true => simp only [e1, e2, Bool.false_or, ↓reduceIte, Bool.false_eq_true]; rfl
  | false =>
    simp only [e1, e2, Bool.false_eq_true, ↓reduceIte, Bool.false_or, apply_ite Cls.isWs]
    simp only [Cls.isWs, ite_self]
    rfl

theorem trimBlank_eq_trimC (bs : List UInt8) : ∀ n, trimBlank bs.toArray n = trimC (bs.map classify) n
  | 0 => rfl
  | n + 1 => by
    unfold trimBlank trimC
    rw [trimBlank_eq_trimC bs n]
    have : (bs.toArray[n]?.map isBlankB) = ((bs.map classify)[n]?.map Cls.isWs) := by
      simp only [List.getElem?_toArray, List.getElem?_map, Option.map_map]
      cases bs[n]? with
      | none => rfl
      | some c => simp only [Option.map_some, Function.comp]; congr 1; simpa using isBlank_classify c
    rw [this]

/-- `Len()` of an embedded document, on bytes -/
theorem C14_json_len (v : JA) (hv : v.Valid) (ws0 w : List Cls) (h0 : IsWs ws0) (hw : IsWs w)
    (x : Cls) (rest : List Cls) (hx : ∀ st, PV st = true → CannotContinue st x)
    (bs : List UInt8) (hbs : bs.map classify = ws0 ++ (v.render ++ (w ++ x :: rest))) :
    lengthS true bs = .ok (ws0.length + v.render.length) := by
  obtain ⟨evs, he, hl⟩ := JsonScan.C14_json_len v hv ws0 w h0 hw x rest hx bs.length
  unfold lengthS events
  rw [hbs, he]
  simp only
  rw [trimBlank_eq_trimC, hbs]
  exact congrArg _ hl

/-- the event stream of an embedded document: the document's events, then `end-top` at the foreign byte -/
theorem C14_events_embedded (v : JA) (hv : v.Valid) (ws0 w : List Cls) (h0 : IsWs ws0) (hw : IsWs w)
    (x : Cls) (rest : List Cls) (hx : ∀ st, PV st = true → CannotContinue st x)
    (bs : List UInt8) (hbs : bs.map classify = ws0 ++ (v.render ++ (w ++ x :: rest))) :
    events true bs = .ok (evsAt ws0.length v ++
      [⟨.endTop, ws0.length + v.render.length + w.length, ws0.length + v.render.length + w.length⟩]) := by
  unfold events
  rw [hbs]
  exact events_embedded v hv ws0 w h0 hw x rest hx bs.length

/-- an error of the scanner is the error of `Len` -/
theorem C14_len_error (bs : List UInt8) (e : ErrS) (h : events true bs = .error e) : lengthS true bs = .error e := by
  unfold lengthS; rw [h]

/-! Non-vacuity: foreign bytes that satisfy the side condition (three instances of `foreign_cannotContinue`, which gives
it for every class that is not white space, a digit, `.`, `e` or `E`), and a concrete instance. -/
theorem foreign_lbrace : ∀ st, PV st = true → CannotContinue st Cls.lbrace :=
  foreign_cannotContinue .lbrace rfl rfl nofun nofun nofun
theorem foreign_letter_t : ∀ st, PV st = true → CannotContinue st Cls.lt :=
  foreign_cannotContinue .lt rfl rfl nofun nofun nofun
theorem foreign_other : ∀ st, PV st = true → CannotContinue st Cls.other :=
  foreign_cannotContinue .other rfl rfl nofun nofun nofun

def s (x : String) : List UInt8 := x.toList.map (fun c => UInt8.ofNat c.toNat)
def lenOf (x : String) : Option Nat := match lengthS true (s x) with | .ok n => some n | .error _ => none
example : lenOf " {\"a\": [1, true]}  \n GET /x" = some 17 := by decide +kernel
example : lenOf "12x" = some 2 := by decide +kernel
example : lenOf "{}x" = some 2 := by decide +kernel
example : lenOf "{\"a\": x" = none := by decide +kernel

open EnumScan in
/-- `Len()` of an enum rule text: just after the closing bracket, trailing layout not counted -/
theorem C14_enum_len (pre ws0 post : List UInt8) (items : List Item)
    (hpre : IsWsB pre) (hws0 : IsWsB ws0) (hpost : IsWsB post) (hv : GValidItems items)
    (hnd : (items.map itemKey).Nodup) :
    EnumScan.length (renderEnum pre ws0 items post) = .ok (pre.length + 1 + ws0.length + (renderItems items).length) :=
  enum_length pre ws0 post items hpre hws0 hpost hv hnd

/-- `Len()` of a plain-JSON schema that fills the input (trailing layout not counted) -/
theorem C14_schema_len_whole (v : SchemaScan.Tree) (hv : v.Valid) (ws0 ws1 : List SchemaScan.Cls)
    (h0 : SchemaScan.IsWs ws0) (h1 : SchemaScan.IsWs ws1)
    (bs : List UInt8) (hbs : bs.map SchemaScan.classify = ws0 ++ (v.render ++ ws1)) :
    SchemaScan.length bs = .ok (ws0.length + v.render.length) :=
  SchemaScan.C14_schema_len_whole v hv ws0 ws1 h0 h1 bs hbs

/-- `Len()` of a plain-JSON schema embedded in other text -/
theorem C14_schema_len_embedded (v : SchemaScan.Tree) (hv : v.Valid) (ws0 w : List SchemaScan.Cls)
    (h0 : SchemaScan.IsWs ws0) (hw : SchemaScan.IsWs w)
    (x : SchemaScan.Cls) (rest : List SchemaScan.Cls) (hx : x.isForeign = true)
    (hadj : w = [] → SchemaScan.adjOk v.endSt x = true)
    (bs : List UInt8) (hbs : bs.map SchemaScan.classify = ws0 ++ (v.render ++ (w ++ x :: rest))) :
    SchemaScan.length bs = .ok (ws0.length + v.render.length) :=
  SchemaScan.C14_schema_len_embedded v hv ws0 w h0 hw x rest hx hadj bs hbs

/-- `Len()` of a schema whose root is a type shortcut `@name` or `@a | @b | …` -/
theorem C14_schema_len_shortcut (sc : SchemaScan.Len.Shortcut) (hv : sc.Valid) (ws0 w tail : List SchemaScan.Cls)
    (h0 : SchemaScan.IsWs ws0) (hw : SchemaScan.IsWs w) (ht : SchemaScan.Len.scTailOk w tail = true)
    (bs : List UInt8) (hbs : bs.map SchemaScan.classify = ws0 ++ (sc.render ++ (w ++ tail))) :
    SchemaScan.length bs = .ok (ws0.length + sc.render.length) :=
  SchemaScan.C14_schema_len_shortcut sc hv ws0 w tail h0 hw ht bs hbs

/-- non-vacuity: `  @cat | @dog-1 ⏎ GET /x` → 15 -/
example : SchemaScan.length (SchemaScan.Len.Ex.b "  @cat | @dog-1 \n GET /x") = .ok 15 := SchemaScan.Len.Ex.sc1_len

/-- `Len()` of a top-level scalar with an inline annotation on its line: the annotation is part of the schema -/
theorem C14_schema_len_annotated_scalar (ws0 tok s1 : List SchemaScan.Cls) (b : SchemaScan.Len.InlBody)
    (w : List SchemaScan.Cls) (x : SchemaScan.Cls) (rest : List SchemaScan.Cls)
    (h0 : SchemaScan.IsWs ws0) (hs : SchemaScan.IsScalar tok) (h1 : SchemaScan.Len.IsSpTabs s1) (hb : b.Valid)
    (hw : SchemaScan.IsWs w) (hx : x.isForeign = true) (bs : List UInt8)
    (hbs : bs.map SchemaScan.classify
      = ws0 ++ (tok ++ (s1 ++ (.slash :: .slash :: (b.render ++ (.nl :: (w ++ x :: rest))))))) :
    SchemaScan.length bs
      = .ok (SchemaScan.Len.rtrimLen (ws0 ++ (tok ++ (s1 ++ (.slash :: .slash :: b.render))))) :=
  SchemaScan.C14_schema_len_annotated_scalar ws0 tok s1 b w x rest h0 hs h1 hb hw hx bs hbs

/-- non-vacuity: `12 // {min: 0} - note⏎⏎GET` → 21 -/
example : SchemaScan.length (SchemaScan.Len.Ex.b "12 // {min: 0} - note\n\nGET") = .ok 21 := SchemaScan.Len.Ex.ann1_len

/-- the same for a top-level type shortcut: `@cat | @dog // {…} - note` -/
theorem C14_schema_len_annotated_shortcut (ws0 : List SchemaScan.Cls) (sc : SchemaScan.Len.Shortcut)
    (s1 : List SchemaScan.Cls) (b : SchemaScan.Len.InlBody) (w : List SchemaScan.Cls) (x : SchemaScan.Cls)
    (rest : List SchemaScan.Cls) (h0 : SchemaScan.IsWs ws0) (hv : sc.Valid) (h1 : SchemaScan.Len.IsSpTabs s1)
    (hb : b.Valid) (hw : SchemaScan.IsWs w) (hx : x.isForeign = true) (bs : List UInt8)
    (hbs : bs.map SchemaScan.classify
      = ws0 ++ (sc.render ++ (s1 ++ (.slash :: .slash :: (b.render ++ (.nl :: (w ++ x :: rest))))))) :
    SchemaScan.length bs
      = .ok (SchemaScan.Len.rtrimLen (ws0 ++ (sc.render ++ (s1 ++ (.slash :: .slash :: b.render))))) :=
  SchemaScan.C14_schema_len_annotated_shortcut ws0 sc s1 b w x rest h0 hv h1 hb hw hx bs hbs

/-- non-vacuity: `@cat | @dog-1 // {min: 0} - note⏎GET` -/
example := C14_schema_len_annotated_shortcut [] SchemaScan.Len.Ex.sc1 [.sp] SchemaScan.Len.Ex.body1 [] .nameo [.uE, .nameo]
  (by simp [SchemaScan.IsWs]) SchemaScan.Len.Ex.sc1_valid (by simp [SchemaScan.Len.IsSpTabs, SchemaScan.Cls.isSpTab])
  SchemaScan.Len.Ex.body1_valid (by simp [SchemaScan.IsWs]) rfl
  (SchemaScan.Len.Ex.b "@cat | @dog-1 // {min: 0} - note\nGET") (by decide +kernel)

/-- `rtrimLen` is the length without trailing blanks: behind a last non-blank byte `d` only layout is dropped -/
theorem rtrimLen_spec (pre : List SchemaScan.Cls) (d : SchemaScan.Cls) (w : List SchemaScan.Cls)
    (hd : d.isBlank = false) (hw : SchemaScan.IsWs w) : SchemaScan.Len.rtrimLen (pre ++ [d] ++ w) = pre.length + 1 :=
  SchemaScan.Len.rtrimLen_snoc pre d w hd hw

/-- `Len()` of a schema with inline annotations and `#` comments wherever the scanner accepts them (token list
accepted by `Len.trun` from the initial state and ending behind the complete top-level value), followed by a foreign byte -/
theorem C14_schema_len_annotated (toks : List SchemaScan.Len.Tok) (hw : ∀ t ∈ toks, t.WF) (c' : SchemaScan.Len.TC)
    (evs : List SchemaScan.Ev) (h : SchemaScan.Len.trun SchemaScan.Len.TC.init toks = some (c', evs))
    (x : SchemaScan.Cls) (rest : List SchemaScan.Cls) (hx : x.isForeign = true) (hend : SchemaScan.Len.EndsAt c' x)
    (bs : List UInt8) (hbs : bs.map SchemaScan.classify = SchemaScan.Len.renderToks toks ++ x :: rest) :
    SchemaScan.length bs = .ok (SchemaScan.Len.rtrimLen (SchemaScan.Len.renderToks toks)) :=
  SchemaScan.C14_schema_len_tokens toks hw c' evs h x rest hx hend bs hbs

/-- the same when the schema fills the input: `Len` = the text length without trailing blanks -/
theorem C14_schema_len_annotated_whole (toks : List SchemaScan.Len.Tok) (hw : ∀ t ∈ toks, t.WF) (c' : SchemaScan.Len.TC)
    (evs : List SchemaScan.Ev) (h : SchemaScan.Len.trun SchemaScan.Len.TC.init toks = some (c', evs))
    (hend : SchemaScan.Len.Complete c') (bs : List UInt8)
    (hbs : bs.map SchemaScan.classify = SchemaScan.Len.renderToks toks) :
    SchemaScan.length bs = .ok (SchemaScan.Len.rtrimLen (SchemaScan.Len.renderToks toks)) :=
  SchemaScan.C14_schema_len_tokens_whole toks hw c' evs h hend bs hbs

/-- non-vacuity: `{⏎"a": 1 // x⏎} #x⏎` alone -/
example := C14_schema_len_annotated_whole SchemaScan.Len.Ex.toks1 SchemaScan.Len.Ex.toks1_wf SchemaScan.Len.Ex.res1.1
  SchemaScan.Len.Ex.res1.2 SchemaScan.Len.Ex.run1 (Or.inl ⟨rfl, rfl⟩) (SchemaScan.Len.Ex.b "{\n\"a\": 1 // x\n} #x\n")
  (by decide +kernel)

/-- non-vacuity: `{⏎"a": 1 // x⏎} #x⏎GET` → 18 (annotation with a note inside the object, comment behind it) -/
example : SchemaScan.length (SchemaScan.Len.Ex.b "{\n\"a\": 1 // x\n} #x\nGET") = .ok 18 := SchemaScan.Len.Ex.toks1_len

/-- **the prefix of length `Len` is accepted with the same meaning**: `S` (a token list ending right behind its
top-level value) followed by layout `w`, a foreign byte and anything: `Len = |S|`, `S` alone scans (ordinary mode) into
the events of the token list plus the end of a top-level scalar, and those are the events `Length()` reads inside the
longer text before `end-top` (`SchemaScan.lengthEvents`), followed only by the `newLine` events of `w` -/
theorem C14_schema_prefix_same_events (toks : List SchemaScan.Len.Tok) (hw : ∀ t ∈ toks, t.WF) (st : SchemaScan.St)
    (lit : Bool) (b : Nat) (CS : List SchemaScan.Ctx) (cx : SchemaScan.Ctx) (al : Bool) (evs : List SchemaScan.Ev)
    (hpv : SchemaScan.PV st = true)
    (h : SchemaScan.Len.trun SchemaScan.Len.TC.init toks
      = some (⟨st, false, SchemaScan.pendOf lit b, (SchemaScan.Len.renderToks toks).length, CS, cx, al⟩, evs))
    (w : List SchemaScan.Cls) (hws : SchemaScan.IsWs w) (x : SchemaScan.Cls) (rest : List SchemaScan.Cls)
    (hx : x.isForeign = true) (hadj : w = [] → SchemaScan.adjOk st x = true) (bs : List UInt8)
    (hbs : bs.map SchemaScan.classify = SchemaScan.Len.renderToks toks ++ (w ++ x :: rest)) :
    SchemaScan.length bs = .ok (SchemaScan.Len.renderToks toks).length ∧
    SchemaScan.scanAll (bs.take (SchemaScan.Len.renderToks toks).length)
      = .ok (evs ++ SchemaScan.rootClosers lit b ((SchemaScan.Len.renderToks toks).length - 1)) ∧
    SchemaScan.lengthEvents bs
      = .ok (evs ++ SchemaScan.rootClosers lit b ((SchemaScan.Len.renderToks toks).length - 1)
          ++ SchemaScan.nlEvs (SchemaScan.Len.renderToks toks).length w) :=
  SchemaScan.C14_schema_prefix_same_events toks hw st lit b CS cx al evs hpv h w hws x rest hx hadj bs hbs

/-- non-vacuity: `[1, {"a": "x"}] ⏎GET` -/
example := C14_schema_prefix_same_events SchemaScan.Len.Ex.toks2 SchemaScan.Len.Ex.toks2_wf .endValue false 0 []
  { ty := .initial } false SchemaScan.Len.Ex.res2.2 rfl SchemaScan.Len.Ex.run2 [.sp, .nl]
  (by simp [SchemaScan.IsWs, SchemaScan.Cls.isBlank, SchemaScan.Cls.isSpace, SchemaScan.Cls.isNewLine]) .nameo
  [.uE, .nameo] rfl (fun h => by cases h) (SchemaScan.Len.Ex.b "[1, {\"a\": \"x\"}] \nGET") (by decide +kernel)

/-- **`Len` errs on an incomplete schema**: the input ends behind a token list (accepted from the initial state) that
leaves an object, an array, a key, a member value or an array item open: error 303 at the last byte -/
theorem C14_schema_len_error (toks : List SchemaScan.Len.Tok) (hw : ∀ t ∈ toks, t.WF) (c' : SchemaScan.Len.TC)
    (evs : List SchemaScan.Ev) (h : SchemaScan.Len.trun SchemaScan.Len.TC.init toks = some (c', evs))
    (hopen : SchemaScan.Len.eofErrK c'.K = true) (bs : List UInt8)
    (hbs : bs.map SchemaScan.classify = SchemaScan.Len.renderToks toks) :
    SchemaScan.length bs = .error (.unexpectedEOF (bs.length - 1)) :=
  SchemaScan.C14_schema_len_error_tokens toks hw c' evs h hopen bs hbs

/-- … and on an open string: where a value may start, `"` and string characters up to the end of input -/
theorem C14_schema_len_error_string (toks : List SchemaScan.Len.Tok) (hw : ∀ t ∈ toks, t.WF) (c' : SchemaScan.Len.TC)
    (evs : List SchemaScan.Ev) (h : SchemaScan.Len.trun SchemaScan.Len.TC.init toks = some (c', evs))
    (ctx : SchemaScan.VCtx) (hctx : SchemaScan.Len.vctxOf c'.st = some ctx) (body : List SchemaScan.Cls)
    (hb : SchemaScan.StrBody body) (bs : List UInt8)
    (hbs : bs.map SchemaScan.classify = SchemaScan.Len.renderToks toks ++ (.quote :: body)) :
    SchemaScan.length bs = .error (.unexpectedEOF (bs.length - 1)) :=
  SchemaScan.C14_schema_len_error_string toks hw c' evs h ctx hctx body hb bs hbs

/-- non-vacuity: `[1, {"a":` and `[1, {"a":"x\n` -/
example := SchemaScan.Len.Ex.toks3_err
example := SchemaScan.Len.Ex.toks3_str_err

end Props.C14

/-! ### enum rules with comments (from the C18 development `JSight/EnumC*.lean`) -/
namespace Props.C14
open EnumScan

/-- Enum rule text `pre [ lay item , … ] lay` whose layouts may hold `// …` and `/* … */` comments wherever the enum scanner
accepts them: `Len` is the length of the text without its trailing blanks — a comment behind the closing bracket is INSIDE
`Len` (it belongs to the rule). -/
theorem C14_enum_len_with_comments (pre : List UInt8) (ws0 post : LayB) (items : List ItemC)
    (hpre : IsWsB pre) (hws0 : ws0.Valid) (hpost : post.Valid) (hv : GValidItemsC items)
    (hnd : (items.map itemKeyC).Nodup) :
    length (renderEnumC pre ws0 items post) = .ok (rtrimB (renderEnumC pre ws0 items post)).length :=
  enumC_length pre ws0 post items hpre hws0 hpost hv hnd

-- non-vacuity: ` [ // one⏎ 1 /* a*b */ , "a" //⏎ , true ] /* end */ `
example : length (renderEnumC xPre xWs0 xItems xPost) = .ok (rtrimB (renderEnumC xPre xWs0 xItems xPost)).length :=
  C14_enum_len_with_comments xPre xWs0 xPost xItems xPre_ws xWs0_valid xPost_valid xItems_valid (by decide +kernel)

end Props.C14

/-! ## `Len()` of the json `Document` OBJECT after any history (carry-over through the C11 bridge) -/
namespace Props.C14
section document
open JsonScan DocCursor

/-- after ANY history of `NextLexeme` / `Check` / `Len` calls, `Len()` of the document answers what the whole-text model
`lengthS` answers on its text (`lenOfS`: the value, or the error with code 301 / 303 and the same index) - both modes -/
theorem C14_document_len_is_whole_text_model (t : List UInt8) (o : Bool) (ops : List Op) :
    (((Doc.new t o).run ops).2.step .len).1 = .len (DocCorollaries.lenOfS (lengthS o t)) :=
  DocCorollaries.len_after_lengthS t o ops

/-- `C14_json_len` on the object: a document (trailing characters allowed) whose text is blanks, a valid JSON tree with any
layout, blanks, a foreign byte that cannot continue the value, anything - after ANY history `Len()` answers
`|ws0| + |render v|` -/
theorem C14_document_len_history_free (v : JA) (hv : v.Valid) (ws0 w : List Cls) (h0 : IsWs ws0) (hw : IsWs w)
    (x : Cls) (rest : List Cls) (hx : ∀ st, PV st = true → CannotContinue st x)
    (bs : List UInt8) (hbs : bs.map classify = ws0 ++ (v.render ++ (w ++ x :: rest))) (ops : List Op) :
    (((Doc.new bs true).run ops).2.step .len).1 = .len (.ok (ws0.length + v.render.length)) := by
  rw [C14_document_len_is_whole_text_model, C14_json_len v hv ws0 w h0 hw x rest hx bs hbs]; rfl

/-- `C14_len_error` on the object: an error of the scanner is the error of `Len()` after any history -/
theorem C14_document_len_error (bs : List UInt8) (e : ErrS) (h : events true bs = .error e) (ops : List Op) :
    (((Doc.new bs true).run ops).2.step .len).1 = .len (DocCorollaries.lenOfS (.error e)) := by
  rw [C14_document_len_is_whole_text_model, C14_len_error bs e h]

/-- non-vacuity: ` [1] x` = blank, the array `[1]`, blank, foreign `x`; hypotheses met, and the concrete history -/
example : (((Doc.new [32, 91, 49, 93, 32, 120] true).run [.next, .next, .check, .next]).2.step .len).1 = .len (.ok 4) :=
  C14_document_len_history_free (.arr [] [([], .scalar [.d19], [])])
    (by
      have n1 : IsScalar [.d19] := ⟨.d19, [], .d1, false, .d1, rfl, rfl, rfl, rfl⟩
      simp [JA.Valid, ValidItems, IsWs, n1])
    [.sp] [.sp] (by simp [IsWs, Cls.isWs]) (by simp [IsWs, Cls.isWs]) .other [] foreign_other
    [32, 91, 49, 93, 32, 120] (by decide +kernel) [.next, .next, .check, .next]
example : ((Doc.new [32, 91, 49, 93, 32, 120] true).run [.next, .next, .check, .next, .len, .len]).1 =
    [.next (.lex ⟨.arrB, 1, 1⟩), .next (.lex ⟨.itemB, 2, 2⟩), .check .ok, .next (.lex ⟨.arrB, 1, 1⟩),
     .len (.ok 4), .len (.ok 4)] := by decide +kernel
/-- the error side: `{"a": x` -/
example : (((Doc.new (s "{\"a\": x") true).run [.next, .check]).2.step .len).1 = .len (.err 301 6) := by decide +kernel

end document
end Props.C14

#print axioms Props.C14.C14_document_len_is_whole_text_model
#print axioms Props.C14.C14_document_len_history_free
#print axioms Props.C14.C14_document_len_error
