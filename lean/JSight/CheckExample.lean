import JSight.ValidateP
/-!
C04: if every literal of a schema satisfies its own rules (what `Check` verifies through the
validator's literal validation) and object keys are unique, the schema's EXAMPLE validates against it —
for any literal-validation function.
-/
namespace VP
variable {L D : Type}

mutual
/-- the EXAMPLE as a document; `ex l` is the example token of literal `l` -/
def exampleOf (ex : L → D) : S L → J D
  | .lit l => .lit (ex l)
  | .any => .arr []                         -- any value will do
  | .arr items => .arr (exampleItems ex items)
  | .obj props => .obj (exampleProps ex props)
def exampleItems (ex : L → D) : List (S L) → List (J D)
  | [] => []
  | s :: ss => exampleOf ex s :: exampleItems ex ss
def exampleProps (ex : L → D) : List (String × Bool × S L) → List (String × J D)
  | [] => []
  | (k, _, s) :: ps => (k, exampleOf ex s) :: exampleProps ex ps
end

def keysNodup {L : Type} : List (String × Bool × S L) → Bool
  | [] => true
  | (k, _, _) :: ps => !(ps.any (fun p => p.1 == k)) && keysNodup ps

mutual
/-- what `Check` establishes: each literal's own value passes its rules; keys are unique -/
def checked (litOK : L → D → Bool) (ex : L → D) : S L → Bool
  | .lit l => litOK l (ex l)
  | .any => true
  | .arr items => checkedItems litOK ex items
  | .obj props => checkedProps litOK ex props && keysNodup props
def checkedItems (litOK : L → D → Bool) (ex : L → D) : List (S L) → Bool
  | [] => true
  | s :: ss => checked litOK ex s && checkedItems litOK ex ss
def checkedProps (litOK : L → D → Bool) (ex : L → D) : List (String × Bool × S L) → Bool
  | [] => true
  | (_, _, s) :: ps => checked litOK ex s && checkedProps litOK ex ps
end

variable (litOK : L → D → Bool) (ex : L → D)

theorem keysNodup_eq (props : List (String × Bool × S L)) : keysNodup props = Tbl.keysNodupBy (·.1) props := by
  induction props with
  | nil => rfl
  | cons p ps ih => simp only [keysNodup, Tbl.keysNodupBy, ih]

theorem lookup_of_nodup (props : List (String × Bool × S L)) (h : keysNodup props = true)
    (k : String) (r : Bool) (s : S L) (hm : (k, r, s) ∈ props) : lookup props k = some s :=
  Tbl.firstBy_of_nodup (fun p : String × Bool × S L => p.1) (·.2.2) props (keysNodup_eq props ▸ h) (k, r, s) hm

theorem example_has_key (props : List (String × Bool × S L)) (p : String × Bool × S L) (hp : p ∈ props)
    (k : String) (hk : p.1 = k) : (exampleProps ex props).any (fun m => m.1 == k) = true := by
  cases props with
  | nil => simp at hp
  | cons q qs =>
    obtain ⟨k', r', s'⟩ := q
    simp only [List.mem_cons] at hp
    rcases hp with rfl | hp
    · simp [exampleProps, ← hk]
    · have := example_has_key qs p hp k hk
      simp [exampleProps, this]

theorem required_present (props : List (String × Bool × S L)) :
    (requiredKeys props).all (fun k => (exampleProps ex props).any (fun m => m.1 == k)) = true := by
  rw [List.all_eq_true]
  intro k hk
  simp only [requiredKeys, List.mem_map, List.mem_filter] at hk
  obtain ⟨p, ⟨hp, _⟩, hpk⟩ := hk
  exact example_has_key ex props p hp k hpk

mutual
theorem example_shape (s : S L) (h : checked litOK ex s = true) :
    shape litOK s (exampleOf ex s) = true := by
  cases s with
  | lit l => simpa [checked, exampleOf, shape] using h
  | any => simp [shape]
  | arr items =>
    have := example_items [] items (by simpa [checked] using h)
    simpa [exampleOf, shape] using this
  | obj props =>
    simp only [checked, Bool.and_eq_true] at h
    have h1 := example_props props [] props rfl h.2 h.1
    simp only [exampleOf, shape, Bool.and_eq_true]
    refine ⟨h1, ?_⟩
    exact required_present ex props
theorem example_items (pre ss : List (S L)) (h : checkedItems litOK ex ss = true) :
    shapeItems litOK (pre ++ ss) pre.length (exampleItems ex ss) = true := by
  cases ss with
  | nil => simp [exampleItems, shapeItems]
  | cons s ss =>
    simp only [checkedItems, Bool.and_eq_true] at h
    have h1 := example_shape s h.1
    have h2 := example_items (pre ++ [s]) ss h.2
    simp only [exampleItems, shapeItems, childAt_eq, Tbl.clampAt_append, h1, Bool.true_and]
    simpa [List.append_assoc] using h2
theorem example_props (props pre ps : List (String × Bool × S L)) (hp : props = pre ++ ps)
    (hn : keysNodup props = true) (h : checkedProps litOK ex ps = true) :
    shapeMembers litOK props (exampleProps ex ps) = true := by
  cases ps with
  | nil => simp [exampleProps, shapeMembers]
  | cons p ps =>
    obtain ⟨k, r, s⟩ := p
    simp only [checkedProps, Bool.and_eq_true] at h
    have hmem : (k, r, s) ∈ props := by rw [hp]; simp
    have hl := lookup_of_nodup props hn k r s hmem
    have h1 := example_shape s h.1
    have h2 := example_props props (pre ++ [(k, r, s)]) ps (by rw [hp]; simp) hn h.2
    simp only [exampleProps, shapeMembers, hl, h1, Bool.true_and]
    exact h2
end

/-- C04 (model level): whenever the checker's conditions hold, validating the EXAMPLE succeeds. -/
theorem C04_example_valid (s : S L) (h : checked litOK ex s = true) :
    validate litOK s (exampleOf ex s) = true := by
  rw [C01_validate_iff_shape]
  exact example_shape litOK ex s h

end VP

#print axioms VP.C04_example_valid
