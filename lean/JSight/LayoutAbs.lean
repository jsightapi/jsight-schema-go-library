import JSight.LayoutTree
import JSight.NodeTable
/-!
C13, schema side: the table the loader builds for a tree (`Loader.nodesOf`, spans into the text), read against the
text (`absNode`), is the table of the tree's *value* (`tableOf t.value`): nothing of the layout is left.
-/
namespace Lay
open SchemaScan (classify Tree IsWs)
open Loader (nodesOf nodesItems nodesMembers idxItems idxMembers keysMembers nodeCount countItems countMembers
  nextItem nextMember valOff KeysDistinct DistinctItems DistinctMembers keyText slice)

/-! ### rendering on bytes and on classes -/

theorem toItems_isEmpty : (its : List BItem) → (toItems its).isEmpty = its.isEmpty
  | [] => rfl
  | (_, _, _) :: _ => rfl

theorem toMembers_isEmpty : (ms : List BMember) → (toMembers ms).isEmpty = ms.isEmpty
  | [] => rfl
  | (_, _, _, _, _, _) :: _ => rfl

mutual
theorem render_cls : (t : BTree) → t.render.map classify = t.toTree.render
  | .scalar tok => by simp [BTree.render, BTree.toTree, Tree.render]
  | .arr w0 its => by
    simp only [BTree.render, BTree.toTree, Tree.render, List.map_cons, List.map_append, renderItems_cls its, clsL]
    rfl
  | .obj w0 ms => by
    simp only [BTree.render, BTree.toTree, Tree.render, List.map_cons, List.map_append, renderMembers_cls ms, clsL]
    rfl
theorem renderItems_cls : (its : List BItem) → (renderItems its).map classify = SchemaScan.renderItems (toItems its)
  | [] => rfl
  | (w1, v, w2) :: its => by
    simp only [renderItems, toItems, SchemaScan.renderItems, List.map_append, render_cls v, renderItems_cls its, clsL,
      toItems_isEmpty]
    cases its <;> rfl
theorem renderMembers_cls : (ms : List BMember) →
    (renderMembers ms).map classify = SchemaScan.renderMembers (toMembers ms)
  | [] => rfl
  | (w1, k, w2, w3, v, w4) :: ms => by
    simp only [renderMembers, toMembers, SchemaScan.renderMembers, List.map_append, List.map_cons, render_cls v,
      renderMembers_cls ms, clsL, toMembers_isEmpty]
    cases ms <;> rfl
end

theorem render_length (t : BTree) : t.toTree.render.length = t.render.length := by
  rw [← render_cls, List.length_map]

theorem clsL_length (w : List LI) : (clsL w).length = (renderL w).length := by simp [clsL]

/-! ### the text holds a segment at an offset -/

def AtB (src : Array UInt8) : Nat → List UInt8 → Prop
  | _, [] => True
  | o, c :: cs => src[o]? = some c ∧ AtB src (o + 1) cs

/-- `AtB` is `NodeTable.Sits` at bytes: its facts are those of `Sits` -/
theorem AtB_iff_sits (src : Array UInt8) : ∀ (l : List UInt8) (o : Nat), AtB src o l ↔ NodeTable.Sits src o l
  | [], _ => Iff.rfl
  | _ :: cs, o => and_congr Iff.rfl (AtB_iff_sits src cs (o + 1))

theorem AtB_append (src : Array UInt8) (a b : List UInt8) (o : Nat) :
    AtB src o (a ++ b) ↔ AtB src o a ∧ AtB src (o + a.length) b := by
  simp only [AtB_iff_sits]; exact NodeTable.Sits.append_iff

theorem AtB_toArray (l pre seg : List UInt8) (h : l = pre ++ seg) : AtB l.toArray pre.length seg :=
  (AtB_iff_sits _ _ _).2 (NodeTable.sits_suffix l pre seg h)

theorem take_of_AtB (src : Array UInt8) (l : List UInt8) (o : Nat) (h : AtB src o l) :
    (src.toList.drop o).take l.length = l := ((AtB_iff_sits _ _ _).1 h).take

/-- the slice at the span of a non-empty token is the token -/
theorem slice_tok (src : Array UInt8) (tok : List UInt8) (o : Nat) (h : AtB src o tok) (hne : tok ≠ []) :
    slice src o (o + tok.length - 1) = tok := ((AtB_iff_sits _ _ _).1 h).cut hne

/-! ### node counts and indices depend on the value only -/

mutual
theorem count_toTree : (t : BTree) → nodeCount t.toTree = t.value.count
  | .scalar _ => rfl
  | .arr _ its => by simp only [BTree.toTree, nodeCount, BTree.value, JV.count, count_items its]
  | .obj _ ms => by simp only [BTree.toTree, nodeCount, BTree.value, JV.count, count_members ms]
theorem count_items : (its : List BItem) → countItems (toItems its) = countJ (valueItems its)
  | [] => rfl
  | (_, v, _) :: its => by simp only [toItems, countItems, valueItems, countJ, count_toTree v, count_items its]
theorem count_members : (ms : List BMember) → countMembers (toMembers ms) = countM (valueMembers ms)
  | [] => rfl
  | (_, _, _, _, v, _) :: ms => by
    simp only [toMembers, countMembers, valueMembers, countM, count_toTree v, count_members ms]
end

theorem idx_items : (its : List BItem) → (n : Nat) → idxItems n (toItems its) = idxJ n (valueItems its)
  | [], _ => rfl
  | (_, v, _) :: its, n => by simp only [toItems, idxItems, valueItems, idxJ, count_toTree v, idx_items its]

theorem idx_members : (ms : List BMember) → (n : Nat) → idxMembers n (toMembers ms) = idxM n (valueMembers ms)
  | [], _ => rfl
  | (_, _, _, _, v, _) :: ms, n => by
    simp only [toMembers, idxMembers, valueMembers, idxM, count_toTree v, idx_members ms]

/-! ### tokens are not empty -/

theorem scalar_ne {tok : List UInt8} (h : SchemaScan.IsScalar (tok.map classify)) : tok ≠ [] :=
  mt List.map_eq_nil_iff.2 h.ne_nil

theorem key_ne {k : List UInt8} (h : SchemaScan.IsKey (k.map classify)) : k ≠ [] :=
  mt List.map_eq_nil_iff.2 h.ne_nil

/-! ### the abstraction lemma -/

theorem absNode_lit (src : Array UInt8) (par : Option Nat) (tok : List UInt8) (o : Nat) (h : AtB src o tok)
    (hne : tok ≠ []) :
    absNode src { kind := .lit, parent := par, value := some (o, o + tok.length - 1) }
      = { kind := .lit, parent := par, children := [], keys := [], value := some tok, rules := [], note := none } := by
  simp [absNode, slice_tok src tok o h hne]

theorem keyText_tok (src : Array UInt8) (k : List UInt8) (o : Nat) (h : AtB src o k) (hne : k ≠ []) :
    keyText src (o, o + k.length - 1, false) = (Unquote.unquote k, false) := by
  simp [keyText, slice_tok src k o h hne]

/-- offsets of the class-level tree are offsets of the text -/
theorem nextItem_eq (o : Nat) (w1 : List LI) (v : BTree) (w2 : List LI) (its : List BItem) :
    nextItem o (clsL w1) v.toTree (clsL w2) (toItems its)
      = o + (renderL w1).length + v.render.length + (renderL w2).length + (if its.isEmpty then 0 else 1) := by
  simp only [nextItem, clsL_length, render_length, toItems_isEmpty]

theorem valOff_eq (o : Nat) (w1 : List LI) (k : List UInt8) (w2 w3 : List LI) :
    valOff o (clsL w1) (k.map classify) (clsL w2) (clsL w3)
      = o + (renderL w1).length + k.length + (renderL w2).length + 1 + (renderL w3).length := by
  simp only [valOff, clsL_length, List.length_map]

theorem nextMember_eq (o : Nat) (w1 : List LI) (k : List UInt8) (w2 w3 : List LI) (v : BTree) (w4 : List LI)
    (ms : List BMember) :
    nextMember o (clsL w1) (k.map classify) (clsL w2) (clsL w3) v.toTree (clsL w4) (toMembers ms)
      = o + (renderL w1).length + k.length + (renderL w2).length + 1 + (renderL w3).length + v.render.length +
        (renderL w4).length + (if ms.isEmpty then 0 else 1) := by
  simp only [nextMember, valOff_eq, clsL_length, render_length, toMembers_isEmpty]

/-- splitting the text of an item list -/
theorem AtB_items {src : Array UInt8} {o : Nat} {w1 : List LI} {v : BTree} {w2 : List LI} {its : List BItem}
    (h : AtB src o (renderItems ((w1, v, w2) :: its))) :
    AtB src (o + (renderL w1).length) v.render ∧
      AtB src (o + (renderL w1).length + v.render.length + (renderL w2).length + (if its.isEmpty then 0 else 1))
        (renderItems its) := by
  simp only [renderItems] at h
  rw [AtB_append, AtB_append, AtB_append, AtB_append] at h
  obtain ⟨_, hv, _, _, hr⟩ := h
  refine ⟨hv, ?_⟩
  cases its with
  | nil => simpa [Nat.add_assoc] using hr
  | cons it its' => simpa [Nat.add_assoc] using hr

theorem AtB_members {src : Array UInt8} {o : Nat} {w1 : List LI} {k : List UInt8} {w2 w3 : List LI} {v : BTree}
    {w4 : List LI} {ms : List BMember} (h : AtB src o (renderMembers ((w1, k, w2, w3, v, w4) :: ms))) :
    AtB src (o + (renderL w1).length) k ∧
      AtB src (o + (renderL w1).length + k.length + (renderL w2).length + 1 + (renderL w3).length) v.render ∧
      AtB src (o + (renderL w1).length + k.length + (renderL w2).length + 1 + (renderL w3).length + v.render.length +
        (renderL w4).length + (if ms.isEmpty then 0 else 1)) (renderMembers ms) := by
  simp only [renderMembers] at h
  rw [AtB_append, AtB_append, AtB_append] at h
  obtain ⟨_, hk, _, h⟩ := h
  obtain ⟨_, h⟩ := h
  rw [AtB_append, AtB_append, AtB_append, AtB_append] at h
  obtain ⟨_, hv, _, _, hr⟩ := h
  refine ⟨hk, ?_, ?_⟩
  · simpa [Nat.add_assoc] using hv
  · cases ms with
    | nil => simpa [Nat.add_assoc] using hr
    | cons m ms' => simpa [Nat.add_assoc] using hr

mutual
theorem abs_nodesOf (src : Array UInt8) : (t : BTree) → t.Valid → (par : Option Nat) → (n o : Nat) →
    AtB src o t.render → (nodesOf par n o t.toTree).map (absNode src) = tableOf par n t.value
  | .scalar tok, hv, par, n, o, hat => by
    have hs : SchemaScan.IsScalar (tok.map classify) := by simpa [BTree.Valid] using hv
    simp only [BTree.toTree, nodesOf, BTree.value, tableOf, List.map_cons, List.map_nil, List.length_map]
    rw [absNode_lit src par tok o hat (scalar_ne hs)]
  | .arr w0 its, hv, par, n, o, hat => by
    obtain ⟨_, hi⟩ : ValidL w0 ∧ ValidItems its := by simpa [BTree.Valid] using hv
    simp only [BTree.render] at hat
    obtain ⟨_, hat⟩ := hat
    rw [AtB_append] at hat
    have h := abs_items src its hi n (n + 1) (o + 1 + (renderL w0).length) hat.2
    simp only [BTree.toTree, nodesOf, BTree.value, tableOf, List.map_cons, clsL_length, h, idx_items]
    rfl
  | .obj w0 ms, hv, par, n, o, hat => by
    obtain ⟨_, hi⟩ : ValidL w0 ∧ ValidMembers ms := by simpa [BTree.Valid] using hv
    simp only [BTree.render] at hat
    obtain ⟨_, hat⟩ := hat
    rw [AtB_append] at hat
    obtain ⟨h, hk⟩ := abs_members src ms hi n (n + 1) (o + 1 + (renderL w0).length) hat.2
    simp only [BTree.toTree, nodesOf, BTree.value, tableOf, List.map_cons, clsL_length, h, idx_members]
    congr 1
    simp only [absNode, hk]
    rfl
theorem abs_items (src : Array UInt8) : (its : List BItem) → ValidItems its → (a n o : Nat) →
    AtB src o (renderItems its) →
    (nodesItems a n o (toItems its)).map (absNode src) = tableItems a n (valueItems its)
  | [], _, _, _, _, _ => rfl
  | (w1, v, w2) :: its, hv, a, n, o, hat => by
    obtain ⟨_, hvv, _, hits⟩ : ValidL w1 ∧ v.Valid ∧ ValidL w2 ∧ ValidItems its := by simpa [ValidItems] using hv
    obtain ⟨hatv, hatr⟩ := AtB_items hat
    simp only [toItems, nodesItems, valueItems, tableItems, List.map_append, nextItem_eq, clsL_length, count_toTree]
    rw [abs_nodesOf src v hvv (some a) n _ hatv, abs_items src its hits a _ _ hatr]
theorem abs_members (src : Array UInt8) : (ms : List BMember) → ValidMembers ms → (a n o : Nat) →
    AtB src o (renderMembers ms) →
    (nodesMembers a n o (toMembers ms)).map (absNode src) = tableMembers a n (valueMembers ms) ∧
      (keysMembers o (toMembers ms)).map (keyText src) = keysM (valueMembers ms)
  | [], _, _, _, _, _ => ⟨rfl, rfl⟩
  | (w1, k, w2, w3, v, w4) :: ms, hv, a, n, o, hat => by
    obtain ⟨_, hk, _, _, hvv, _, hms⟩ :
        ValidL w1 ∧ SchemaScan.IsKey (k.map classify) ∧ (ValidL w2 ∧ PlainL w2) ∧ (ValidL w3 ∧ PlainL w3) ∧ v.Valid ∧
          ValidL w4 ∧ ValidMembers ms := by
      simpa [ValidMembers] using hv
    obtain ⟨hatk, hatv, hatr⟩ := AtB_members hat
    obtain ⟨ih1, ih2⟩ := abs_members src ms hms a (n + v.value.count) _ hatr
    constructor
    · simp only [toMembers, nodesMembers, valueMembers, tableMembers, List.map_append, nextMember_eq, valOff_eq,
        count_toTree]
      rw [abs_nodesOf src v hvv (some a) n _ hatv, ih1]
    · simp only [toMembers, keysMembers, valueMembers, keysM, List.map_cons, nextMember_eq, clsL_length,
        List.length_map]
      rw [keyText_tok src k _ hatk (key_ne hk), ih2]
end

/-! ### distinct keys: in the loader's terms and on the value -/

/-- the second part of a duplicate-free concatenation is duplicate-free -/
theorem nodup_prefix {α : Type} {a b : List α} (h : (a ++ b).Nodup) : b.Nodup := (List.nodup_append.mp h).2.1

mutual
theorem distinct_of_value (src : Array UInt8) : (t : BTree) → t.Valid → t.value.KeysNodup → (o : Nat) →
    AtB src o t.render → KeysDistinct src o t.toTree
  | .scalar _, _, _, _, _ => by simp [BTree.toTree, KeysDistinct]
  | .arr w0 its, hv, hk, o, hat => by
    obtain ⟨_, hi⟩ : ValidL w0 ∧ ValidItems its := by simpa [BTree.Valid] using hv
    have hk' : NodupJ (valueItems its) := by simpa [BTree.value, JV.KeysNodup] using hk
    simp only [BTree.render] at hat
    obtain ⟨_, hat⟩ := hat
    rw [AtB_append] at hat
    have := distinct_items src its hi hk' (o + 1 + (renderL w0).length) hat.2
    simpa [BTree.toTree, KeysDistinct, clsL_length] using this
  | .obj w0 ms, hv, hk, o, hat => by
    obtain ⟨_, hi⟩ : ValidL w0 ∧ ValidMembers ms := by simpa [BTree.Valid] using hv
    obtain ⟨hk1, hk2⟩ : (keysM (valueMembers ms)).Nodup ∧ NodupM (valueMembers ms) := by
      simpa [BTree.value, JV.KeysNodup] using hk
    simp only [BTree.render] at hat
    obtain ⟨_, hat⟩ := hat
    rw [AtB_append] at hat
    have h1 := distinct_members src ms hi hk2 (o + 1 + (renderL w0).length) hat.2
    -- only the key half of `abs_members` is wanted; it does not depend on the parent and the index (`0 0`)
    have h2 := (abs_members src ms hi 0 0 (o + 1 + (renderL w0).length) hat.2).2
    simp only [BTree.toTree, KeysDistinct, clsL_length]
    exact ⟨by rw [h2]; exact hk1, h1⟩
theorem distinct_items (src : Array UInt8) : (its : List BItem) → ValidItems its → NodupJ (valueItems its) →
    (o : Nat) → AtB src o (renderItems its) → DistinctItems src o (toItems its)
  | [], _, _, _, _ => by simp [toItems, DistinctItems]
  | (w1, v, w2) :: its, hv, hk, o, hat => by
    obtain ⟨_, hvv, _, hits⟩ : ValidL w1 ∧ v.Valid ∧ ValidL w2 ∧ ValidItems its := by simpa [ValidItems] using hv
    obtain ⟨hkv, hki⟩ : v.value.KeysNodup ∧ NodupJ (valueItems its) := by simpa [valueItems, NodupJ] using hk
    obtain ⟨hatv, hatr⟩ := AtB_items hat
    simp only [toItems, DistinctItems, nextItem_eq, clsL_length]
    exact ⟨distinct_of_value src v hvv hkv _ hatv, distinct_items src its hits hki _ hatr⟩
theorem distinct_members (src : Array UInt8) : (ms : List BMember) → ValidMembers ms → NodupM (valueMembers ms) →
    (o : Nat) → AtB src o (renderMembers ms) → DistinctMembers src o (toMembers ms)
  | [], _, _, _, _ => by simp [toMembers, DistinctMembers]
  | (w1, k, w2, w3, v, w4) :: ms, hv, hk, o, hat => by
    obtain ⟨_, _, _, _, hvv, _, hms⟩ :
        ValidL w1 ∧ SchemaScan.IsKey (k.map classify) ∧ (ValidL w2 ∧ PlainL w2) ∧ (ValidL w3 ∧ PlainL w3) ∧ v.Valid ∧
          ValidL w4 ∧ ValidMembers ms := by
      simpa [ValidMembers] using hv
    obtain ⟨hkv, hki⟩ : v.value.KeysNodup ∧ NodupM (valueMembers ms) := by simpa [valueMembers, NodupM] using hk
    obtain ⟨_, hatv, hatr⟩ := AtB_members hat
    simp only [toMembers, DistinctMembers, nextMember_eq, valOff_eq]
    exact ⟨distinct_of_value src v hvv hkv _ hatv, distinct_members src ms hms hki _ hatr⟩
end

/-! ### layouts of blanks; the whole text -/

theorem classify_blank {b : UInt8} (h : isBlankB b = true) : (classify b).isBlank = true := by
  simp only [isBlankB, Bool.or_eq_true, beq_iff_eq] at h
  rcases h with ((rfl | rfl) | rfl) | rfl <;> rfl

theorem isWs_clsL {w : List LI} (hv : ValidL w) (hp : PlainL w) : IsWs (clsL w) := by
  induction w with
  | nil => intro c hc; simp [clsL, renderL] at hc
  | cons it w ih =>
    have hit := hv it (by simp)
    have hpl := hp it (by simp)
    have ih' := ih (fun x hx => hv x (by simp [hx])) (fun x hx => hp x (by simp [hx]))
    cases it with
    | blank b =>
      intro c hc
      simp only [clsL, renderL, LI.render, List.cons_append, List.nil_append, List.map_cons, List.mem_cons] at hc
      rcases hc with rfl | hc
      · exact classify_blank hit
      · exact ih' c hc
    | line _ _ => simp [LI.isBlank] at hpl
    | block _ => simp [LI.isBlank] at hpl

/-- the whole schema text: leading layout, the value, trailing layout -/
def docText (w0 : List LI) (t : BTree) (w1 : List LI) : List UInt8 := renderL w0 ++ (t.render ++ renderL w1)

end Lay
