import JSight.DocCursorFuel
/-!
Proofs about the `Document` state machine of `JSight/DocCursor.lean`: the state and the outputs after ANY history in
closed form (`run_stateOf`), from which history-freedom of `Check` / `Len`, the cursor law and the survival of the option
bit follow.  Nothing here looks into the scanner except `next_allow` (the scanner never writes its option bit).
-/
set_option linter.unusedSimpArgs false
namespace DocCursor
open JsonScan

theorem new_eq (t : List UInt8) (o : Bool) : Doc.new t o = stateOf t o false false 0 := rfl

theorem checkText_eq (t : List UInt8) (o : Bool) :
    checkText t o = checkLoop (clsOf t) (fuelOf t) { allow := o } false := rfl

theorem lenText_eq (t : List UInt8) (o : Bool) :
    lenText t o = (match lenLoop (clsOf t) (fuelOf t) { allow := o } 0 with
      | .ok n => .ok (trimBlank t.toArray n)
      | r => r) := rfl

theorem step_next (t : List UInt8) (o c l : Bool) (k : Nat) :
    (stateOf t o c l k).step .next = (.next (lexAt t o k), stateOf t o c l (k + 1)) := rfl

theorem step_check_first (t : List UInt8) (o l : Bool) (k : Nat) :
    (stateOf t o false l k).step .check = (.check (checkText t o), stateOf t o true l 0) := rfl

theorem step_check_later (t : List UInt8) (o l : Bool) (k : Nat) :
    (stateOf t o true l k).step .check = (.check (checkText t o).cached, stateOf t o true l k) := rfl

theorem step_len_first (t : List UInt8) (o c : Bool) (k : Nat) :
    (stateOf t o c false k).step .len = (.len (lenText t o), stateOf t o c true 0) := rfl

theorem step_len_later (t : List UInt8) (o c : Bool) (k : Nat) :
    (stateOf t o c true k).step .len = (.len (lenText t o).cached, stateOf t o c true k) := rfl

theorem hasCheck_cons (op : Op) (ops : List Op) :
    hasCheck (op :: ops) = (match op with | .check => true | _ => hasCheck ops) := by
  cases op <;> rfl

theorem hasLen_cons (op : Op) (ops : List Op) :
    hasLen (op :: ops) = (match op with | .len => true | _ => hasLen ops) := by
  cases op <;> rfl

/-- state and outputs after a history, from any reachable state -/
theorem run_stateOf (t : List UInt8) (o : Bool) (ops : List Op) : ∀ (c l : Bool) (k : Nat),
    (stateOf t o c l k).run ops =
      (outsFrom t o c l k ops, stateOf t o (c || hasCheck ops) (l || hasLen ops) (cursorFrom c l k ops)) := by
  induction ops with
  | nil => intro c l k; simp [Doc.run, outsFrom, cursorFrom, hasCheck, hasLen]
  | cons op ops ih =>
    intro c l k
    -- one step in closed form (`step_next` … `step_len_later`), then the history behind it
    cases op <;> cases c <;> cases l <;>
      simp [Doc.run, step_next, step_check_first, step_check_later, step_len_first, step_len_later, ih, outsFrom,
        cursorFrom, hasCheck_cons, hasLen_cons]

theorem run_new (t : List UInt8) (o : Bool) (ops : List Op) :
    (Doc.new t o).run ops =
      (outsFrom t o false false 0 ops, stateOf t o (hasCheck ops) (hasLen ops) (cursorOf ops)) := by
  rw [new_eq, run_stateOf]; simp [cursorOf]

/-! ### Check / Len after any history -/

theorem check_after (t : List UInt8) (o : Bool) (ops : List Op) :
    (((Doc.new t o).run ops).2.step .check).1 =
      .check (if hasCheck ops then (checkText t o).cached else checkText t o) := by
  rw [run_new]
  cases h : hasCheck ops
  · simp only [step_check_first]; simp
  · simp only [step_check_later]; simp

theorem len_after (t : List UInt8) (o : Bool) (ops : List Op) :
    (((Doc.new t o).run ops).2.step .len).1 =
      .len (if hasLen ops then (lenText t o).cached else lenText t o) := by
  rw [run_new]
  cases h : hasLen ops
  · simp only [step_len_first]; simp
  · simp only [step_len_later]; simp

theorem cached_of_not_crash {r : CheckRes} (h : ∀ w, r ≠ .crash w) : r.cached = r := by
  cases r with
  | crash w => exact absurd rfl (h w)
  | _ => rfl

theorem lcached_of_not_crash {r : LenRes} (h : ∀ w, r ≠ .crash w) : r.cached = r := by
  cases r with
  | crash w => exact absurd rfl (h w)
  | _ => rfl

/-! ### the cursor law -/

/-- one more operation at the end of a history -/
def cursorStep (c l : Bool) (k : Nat) : Op → Nat
  | .next => k + 1
  | .check => if c then k else 0
  | .len => if l then k else 0

theorem cursorFrom_snoc (ops : List Op) (op : Op) : ∀ (c l : Bool) (k : Nat),
    cursorFrom c l k (ops ++ [op]) =
      cursorStep (c || hasCheck ops) (l || hasLen ops) (cursorFrom c l k ops) op := by
  induction ops with
  | nil => intro c l k; cases op <;> simp [cursorFrom, cursorStep, hasCheck, hasLen]
  | cons a ops ih =>
    intro c l k
    cases a <;> simp [cursorFrom, ih, hasCheck_cons, hasLen_cons]

theorem cursorOf_snoc (ops : List Op) (op : Op) :
    cursorOf (ops ++ [op]) = cursorStep (hasCheck ops) (hasLen ops) (cursorOf ops) op := by
  unfold cursorOf; rw [cursorFrom_snoc]; simp

/-! ### the option bit -/

theorem processFound_allow (s : Scn) (f : LexT) : (processFound s f).2.allow = s.allow := by
  rcases processFound_cases s f with ⟨_, e⟩ | ⟨_, S, ev, e, _⟩ | ⟨_, S, w, e, _⟩ <;> rw [e]

theorem atEnd_allow (n : Nat) (s : Scn) : (atEnd n s).2.allow = s.allow := by
  rcases atEnd_cases n s with ⟨_, e⟩ | ⟨b, rest, _, _, e⟩ | ⟨p, b, rest, _, _, e⟩ <;> rw [e]

theorem scanLoop_allow (cls : List Cls) (fuel : Nat) (s : Scn) (hfu : cls.length - s.index ≤ fuel) :
    (scanLoop cls fuel s).2.allow = s.allow := by
  refine scanLoop_rule (I := fun s' => s'.allow = s.allow) (Q := fun r => r.2.allow = s.allow) ?_ ?_ ?_ ?_ fuel s hfu rfl
  · intro s' hI _; rw [atEnd_allow]; exact hI
  · intro s' c e hI _ _; exact hI
  · intro s' c st' unf' hI _ _; exact hI
  · intro s' c st' unf' f rest hI _ _; rw [processFound_allow]; exact hI

theorem next_allow (cls : List Cls) (s : Scn) : (s.next cls).2.allow = s.allow := by
  unfold Scn.next
  split
  · rw [processFound_allow]
  · exact scanLoop_allow _ _ s (Nat.le_refl _)

theorem nextL_allow (cls : List Cls) (p : Rd) : (nextL cls p).2.1.allow = p.1.allow := by
  unfold nextL
  split
  · rfl
  · simp only
    split <;> exact next_allow cls p.1

theorem scanAt_allow (t : List UInt8) (o : Bool) (k : Nat) : (scanAt t o k).1.allow = o := by
  induction k with
  | zero => rfl
  | succ k ih => simp only [scanAt]; rw [nextL_allow, ih]

/-! ### the sticky error -/

theorem nextL_sticky (cls : List Cls) (p : Rd) (c q : Nat) (h : p.2 = some (c, q)) :
    nextL cls p = (.err c q, p) := by
  unfold nextL; rw [h]

/-- an error answer is stored: the state behind it holds it -/
theorem nextL_err (cls : List Cls) (p : Rd) (c q : Nat) (h : (nextL cls p).1 = .err c q) :
    (nextL cls p).2.2 = some (c, q) := by
  obtain ⟨sc, le⟩ := p
  cases le with
  | some cq =>
    obtain ⟨c', q'⟩ := cq
    simp only [nextL] at h ⊢
    cases h; rfl
  | none =>
    simp only [nextL] at h ⊢
    cases hr : (sc.next cls).1 with
    | err c' q' => rw [hr] at h; simp only at h ⊢; cases h; rfl
    | lex e => rw [hr] at h; simp only at h; cases h
    | eofLex e => rw [hr] at h; simp only at h; cases h
    | eof => rw [hr] at h; simp only at h; cases h
    | crash w => rw [hr] at h; simp only at h; cases h

theorem lexAt_sticky (t : List UInt8) (o : Bool) (k : Nat) (c q : Nat) (h : lexAt t o k = .err c q) :
    ∀ j, lexAt t o (k + j) = .err c q ∧ (scanAt t o (k + j + 1)).2 = some (c, q) := by
  intro j
  induction j with
  | zero => exact ⟨h, nextL_err _ _ c q h⟩
  | succ j ih =>
    have hs : (scanAt t o (k + j + 1)).2 = some (c, q) := ih.2
    have e : nextL (clsOf t) (scanAt t o (k + j + 1)) = (.err c q, scanAt t o (k + j + 1)) := nextL_sticky _ _ c q hs
    constructor
    · show (nextL (clsOf t) (scanAt t o (k + (j + 1)))).1 = _
      rw [show k + (j + 1) = k + j + 1 from rfl, e]
    · show (nextL (clsOf t) (scanAt t o (k + (j + 1)))).2.2 = _
      rw [show k + (j + 1) = k + j + 1 from rfl, e]; exact hs

theorem option_after (t : List UInt8) (o : Bool) (ops : List Op) :
    ((Doc.new t o).run ops).2.opt = o ∧ ((Doc.new t o).run ops).2.sc.allow = o := by
  rw [run_new]
  exact ⟨rfl, scanAt_allow t o _⟩

/-! ### the sticky error along a history -/

theorem cursorFrom_append (a b : List Op) : ∀ (c l : Bool) (k : Nat),
    cursorFrom c l k (a ++ b) = cursorFrom (c || hasCheck a) (l || hasLen a) (cursorFrom c l k a) b := by
  induction a with
  | nil => intro c l k; simp [cursorFrom, hasCheck, hasLen]
  | cons x a ih =>
    intro c l k
    cases x <;> simp [cursorFrom, ih, hasCheck_cons, hasLen_cons]

/-- no first `Check` and no first `Len` (the two calls that rewind) in `mid`, the cells being done as `c` / `l` say -/
def noRewind : Bool → Bool → List Op → Bool
  | _, _, [] => true
  | c, l, .next :: r => noRewind c l r
  | c, l, .check :: r => c && noRewind c l r
  | c, l, .len :: r => l && noRewind c l r

theorem cursorFrom_noRewind (mid : List Op) : ∀ (c l : Bool) (k : Nat), noRewind c l mid = true →
    ∃ j, cursorFrom c l k mid = k + j := by
  induction mid with
  | nil => intro c l k _; exact ⟨0, rfl⟩
  | cons x mid ih =>
    intro c l k h
    cases x with
    | next =>
      obtain ⟨j, hj⟩ := ih c l (k + 1) h
      exact ⟨j + 1, by simp only [cursorFrom]; omega⟩
    | check =>
      simp only [noRewind, Bool.and_eq_true] at h
      obtain ⟨hc, hr⟩ := h
      subst hc
      obtain ⟨j, hj⟩ := ih true l k hr
      exact ⟨j, by simpa [cursorFrom] using hj⟩
    | len =>
      simp only [noRewind, Bool.and_eq_true] at h
      obtain ⟨hl, hr⟩ := h
      subst hl
      obtain ⟨j, hj⟩ := ih c true k hr
      exact ⟨j, by simpa [cursorFrom] using hj⟩

theorem next_after (t : List UInt8) (o : Bool) (ops : List Op) :
    (((Doc.new t o).run ops).2.step .next).1 = .next (lexAt t o (cursorOf ops)) := by
  rw [run_new]; rfl

theorem error_sticky (t : List UInt8) (o : Bool) (pre mid : List Op) (c q : Nat)
    (h : (((Doc.new t o).run pre).2.step .next).1 = .next (.err c q))
    (hm : noRewind (hasCheck pre) (hasLen pre) mid = true) :
    (((Doc.new t o).run (pre ++ .next :: mid)).2.step .next).1 = .next (.err c q) := by
  rw [next_after] at h ⊢
  have h0 : lexAt t o (cursorOf pre) = .err c q := by injection h
  obtain ⟨j, hj⟩ := cursorFrom_noRewind mid (hasCheck pre) (hasLen pre) (cursorOf pre + 1) hm
  have hc : cursorOf (pre ++ .next :: mid) = cursorOf pre + (1 + j) := by
    unfold cursorOf
    rw [cursorFrom_append]
    simp only [Bool.false_or, cursorFrom]
    unfold cursorOf at hj
    omega
  rw [hc, (lexAt_sticky t o _ c q h0 (1 + j)).1]

end DocCursor
