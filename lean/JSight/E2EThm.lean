import JSight.E2EShape
import JSight.E2EDoc
import JSight.ValidateKProofs
import JSight.CommentLoad
/-!
The text level, assembled. `afterCheck_valid`: the document stage of `validateText` on the text of a JSON value — JSON
scanner model, event stream and the validator machine `VK` — answers the machine's specification `VK.shape`; with
`validateText_loaded` (`E2ELoad`) every text-level theorem starts from these two. `text_level` (C01_text_level): schema
TEXT (a plain-JSON value with any layout and user comments) and document TEXT (a JSON value with any layout) ↦
`validateText` answers `acc` exactly when the document has the shape of the schema's value — scanner models, loader
model, `Compile`, JSON scanner model and the validator machine, all inside.
-/
namespace E2E
open Compile

theorem validateEvs_eq (env : VK.Env Lit) (keyOK : String → String → Bool) (s : VK.S Lit) (dd : VN.J (List UInt8)) :
    validateEvs env keyOK s (VN.evs dd) = VK.validateT env litOK keyOK s dd := by
  unfold validateEvs VK.validateT
  cases VK.runQ env litOK keyOK ((VK.heads env s).map VK.leafT) (VN.evs dd) with
  | none => rfl
  | some p => rfl

/-- the document stage on the text of a JSON value in white space, for a schema whose key shortcuts the validator model
covers: scanner, event stream and validator machine together answer the specification `VK.shape` -/
theorem afterCheck_valid (cn : CN) (ts : Types)
    (hs : (shortcutsOK ts cn && ts.all fun t => shortcutsOK ts t.2) = true)
    (hr : (rawKeyTypes ts cn || ts.any fun t => rawKeyTypes ts t.2) = false)
    (d : VPos.T UInt8) (hd : (VPos.toJA JsonScan.classify d).Valid) (ws0 ws1 : List UInt8)
    (hw0 : JsonScan.IsWs (ws0.map JsonScan.classify)) (hw1 : JsonScan.IsWs (ws1.map JsonScan.classify)) :
    afterCheck cn ts (ws0 ++ (d.render VPos.byteSym ++ ws1)) =
      if VK.shape (envOf cn ts) litOK (keyOK ts) (toVK "root" cn) (docOf d) then .acc else .rej := by
  obtain ⟨evs, he, hde⟩ := doc_events d hd ws0 ws1 hw0 hw1
  have hne : (VN.evs (docOf d)).isEmpty = false := by
    cases h : VN.evs (docOf d) with
    | nil => exact absurd h (VN.evs_ne_nil (docOf d))
    | cons _ _ => rfl
  unfold afterCheck
  -- `doc_events` has turned the text into the events of `docOf d`; what is left of `afterCheck` is the machine run on
  -- them (`validateEvs_eq`), and the content is `VK.C03_key_shortcuts`: the machine `validateT` IS `VK.shape`
  simp only [hs, hr, he, hde, hne, Bool.not_true, Bool.false_and, Bool.false_eq_true, if_false, validateEvs_eq,
    VK.C03_key_shortcuts]

theorem text_level (opt : Bool) (t : Lay.BTree) (hv : t.Valid) (hk : t.value.KeysNodup)
    (hg : guessable t.value = true) (w0 w1 : List Lay.LI) (h0 : Lay.ValidL w0) (h1 : Lay.ValidL w1)
    (fin : List UInt8) (hf : Lay.IsFin fin)
    (d : VPos.T UInt8) (hd : (VPos.toJA JsonScan.classify d).Valid) (ws0 ws1 : List UInt8)
    (hw0 : JsonScan.IsWs (ws0.map JsonScan.classify)) (hw1 : JsonScan.IsWs (ws1.map JsonScan.classify)) :
    validateText (Lay.docTextF w0 t w1 fin) [] (ws0 ++ (d.render VPos.byteSym ++ ws1)) opt
      = if VN.shape kindOKTok (schemaOf opt t.value) (docOf d) then .acc else .rej := by
  obtain ⟨st, hl, hr, ht⟩ := Lay.load_comments t hv hk w0 w1 h0 h1 fin hf
  rw [validateText_loaded (types := []) (loadSchema_plain _ opt st t.value hl hr ht hg) List.nodup_nil rfl rfl, check_plain opt t.value hg,
    afterCheck_valid _ _ (by simp [shortcutsOK_plain]) (by simp [rawKeyTypes_plain]) d hd ws0 ws1 hw0 hw1,
    envOf_plain, toVK_plain, shape_plain]

end E2E
