/-!
The descents through a type table recurse on a fuel argument. Seen as `F : Nat → A → B` (`A` the other arguments,
`μ : A → Nat` the table entries a descent from `a` can still enter), a statement about two amounts of fuel — "more fuel
gives the same answer" (`R := fun _ => Eq`), "… and the answer is not the out-of-fuel error" (`LK.SettledQ`) — needs one
unfolding only: `rel` relates the answers with `f` and any `f' ≥ f` units once `f` exceeds the measure, given that one
unfolding relates them whenever the recursive calls are related at every argument of smaller measure. Fuel then occurs
in no other lemma about `F`; the step proof hands the drop of the measure (`Visit.unvisited_enter`, `EX.W_lt`) to `ih`.
`R` may depend on the argument: the set a descent was called with is what its answer is compared to
(`List.Subset added` for `LK.buildRoot`). `step` is also told `μ a < f + 1`, for the step proof that needs a fact about
the run with `f` units itself (`VR.build_le`); the others ignore it.
-/
namespace Fuel
variable {A B : Type}

theorem rel (F : Nat → A → B) (μ : A → Nat) (R : A → B → B → Prop)
    (step : ∀ f f' a, (∀ a', μ a' < μ a → R a' (F f a') (F f' a')) → μ a < f + 1 → R a (F (f + 1) a) (F (f' + 1) a)) :
    ∀ f f' a, μ a < f → f ≤ f' → R a (F f a) (F f' a)
  | 0, _, _, h, _ => absurd h (Nat.not_lt_zero _)
  | _ + 1, 0, _, _, h => absurd h (Nat.not_succ_le_zero _)
  | f + 1, f' + 1, a, h, hle =>
    step f f' a (fun a' ha' =>
      rel F μ R step f f' a' (Nat.lt_of_lt_of_le ha' (Nat.le_of_lt_succ h)) (Nat.le_of_succ_le_succ hle)) h

end Fuel
