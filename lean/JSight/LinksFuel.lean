import JSight.LinksMain
import JSight.VisitMeasure
import JSight.FuelRel
/-!
C09 (c), termination of the link check: the descents through the type table are modelled with a fuel argument. Each
keeps a set of names (in-progress set / path set / added set) and enters a name only if it has an entry of the table
and is not in the set yet, so `U g V`, the number of entries whose name is not in `V`, falls at every descent (`U_lt`)
and `|types| + 1` units of fuel are enough for EVERY graph (accepted or not, cyclic or not). "Enough fuel" is stated
for two amounts at once: `SettledQ Q x y` says the run `x` does not answer `fuel`, its value satisfies `Q` (the set
only grows / is given back) and the run `y` with more fuel is the same answer. Here: the three descents of the check
phase. Each comes as a pair: `…Root` / `actualType` is the fuelled descent (Go's `collectAllowedJsonTypes`,
`buildList`, `actualRootTypeVisiting`), proved by `Fuel.rel`; `…Names` is its loop over the members of a node, proved
about two arbitrary recursive calls. `processType` (`CompileAllOf`) and the statements about `fuelOf` and
`linkCheckF` are in `LinksFuel2`.
-/
namespace LK
open Except (wp)

/-- table entries whose name is not in `V`: what a descent can still enter -/
def U (g : G) (V : List String) : Nat := Visit.unvisited Prod.fst g.types V

theorem U_mono (g : G) (V V' : List String) (h : ∀ x ∈ V, x ∈ V') : U g V' ≤ U g V :=
  Visit.unvisited_mono Prod.fst g.types V V' h

theorem U_lt (g : G) (V : List String) (n : String) (t : N) (hl : lookup g n = some t) (hn : n ∉ V) :
    U g (n :: V) < U g V :=
  Visit.unvisited_enter g.types V n t hl hn

/-- `x` did not run out of fuel, its value satisfies `Q`, and `y` is the same answer: what every function of the link
check satisfies between a run `x` with enough fuel and a run `y` with more (`Except.wp` for two runs) -/
def SettledQ {α : Type} (Q : α → Prop) (x y : Except Err α) : Prop := wp x Q (· ≠ .fuel) ∧ y = x

abbrev Settled {α : Type} (x y : Except Err α) : Prop := SettledQ (fun _ => True) x y

theorem SettledQ.ok {α : Type} {Q : α → Prop} {a : α} (h : Q a) : SettledQ Q (.ok a : Except Err α) (.ok a) := ⟨h, rfl⟩

theorem Settled.ok {α : Type} (a : α) : Settled (.ok a : Except Err α) (.ok a) := SettledQ.ok trivial

theorem Settled.error {α : Type} {Q : α → Prop} {e : Err} (he : e ≠ .fuel) : SettledQ Q (.error e : Except Err α) (.error e) :=
  ⟨he, rfl⟩

/-- Case analysis on two runs known to be settled: both are the same error, which is not `fuel`, or both the same
value. `refine h.elim (fun _ => Settled.error) fun a ha => ?_` abstracts both calls in the goal. -/
@[elab_as_elim]
theorem SettledQ.elim {α : Type} {Q : α → Prop} {motive : Except Err α → Except Err α → Prop} {x y : Except Err α}
    (h : SettledQ Q x y) (error : ∀ e, e ≠ .fuel → motive (.error e) (.error e)) (ok : ∀ a, Q a → motive (.ok a) (.ok a)) :
    motive x y := by
  obtain ⟨hq, heq⟩ := h
  subst heq
  exact hq.elim error ok

theorem SettledQ.noFuel {α : Type} {Q : α → Prop} {x y : Except Err α} (h : SettledQ Q x y) : x ≠ .error .fuel :=
  fun hx => h.1.error hx rfl

theorem SettledQ.mono {α : Type} {Q Q' : α → Prop} {x y : Except Err α} (h : SettledQ Q x y) (hQ : ∀ a, Q a → Q' a) :
    SettledQ Q' x y := ⟨h.1.mono hQ, h.2⟩

/-! ### `collectAllowedJsonTypes` -/

theorem collectNames_settled (g : G) (rec1 rec2 : List String → N → List JT → Except Err (List JT)) (found : List String)
    (hrec : ∀ n body al, n ∉ found → lookup g n = some body →
      Settled (rec1 (n :: found) body al) (rec2 (n :: found) body al)) :
    ∀ (ms : List Mem) (al : List JT), Settled (collectNames g rec1 found ms al) (collectNames g rec2 found ms al)
  | [], al => Settled.ok al
  | .builtin jt :: ms, al => by
    simp only [collectNames]; exact collectNames_settled g rec1 rec2 found hrec ms _
  | .user n :: ms, al => by
    unfold collectNames
    split
    · exact Settled.error nofun
    next hf =>
      cases hl : lookup g n with
      | none => exact Settled.error nofun
      | some body =>
        dsimp only
        exact (hrec n body al (mt List.contains_iff_mem.2 hf) hl).elim (fun _ => Settled.error)
          fun al1 _ => collectNames_settled g rec1 rec2 found hrec ms al1

theorem collectRoot_settled (g : G) (f f' : Nat) (found : List String) (body : N) (al : List JT) :
    U g found < f → f ≤ f' → Settled (collectRoot g f found body al) (collectRoot g f' found body al) := by
  refine Fuel.rel (fun f (x : List String × N × List JT) => collectRoot g f x.1 x.2.1 x.2.2) (fun x => U g x.1)
    (fun _ => Settled) ?_ f f' (found, body, al)
  intro f f' (found, body, al) ih _
  cases body with
  | ref names =>
    -- no descent at a reference: `collectRoot` only asks that the names exist, and `mustAll` fails with `missing` alone
    simp only [collectRoot]
    cases h1 : mustAll g names with
    | error e => obtain ⟨m, rfl⟩ := mustAll_only_missing g names e h1; exact Settled.error nofun
    | ok u => exact Settled.ok _
  | arr _ => exact Settled.ok _
  | obj _ _ _ => exact Settled.ok _
  | lit jt tl e =>
    simp only [collectRoot]
    cases hm : tl.members with
    | nil => exact Settled.ok _
    | cons x xs =>
      exact collectNames_settled g _ _ found (fun n body al' hn hl => ih (n :: found, body, al') (U_lt g found n body hl hn)) _ _

/-! ### `buildList` -/

/-- The added set grows from member to member, so the recursive calls happen at sets `a` other than the one the loop
was entered with; `bound`, the measure at entry, bounds the measure at all of them. -/
theorem buildNames_settled (g : G) (rec1 rec2 : N → List String → Except Err (List String)) (bound : Nat)
    (hrec : ∀ n body a, U g a ≤ bound → n ∉ a → lookup g n = some body →
      SettledQ (List.Subset (n :: a)) (rec1 body (n :: a)) (rec2 body (n :: a))) :
    ∀ (ms : List Mem) (added : List String), U g added ≤ bound →
      SettledQ (List.Subset added) (buildNames g rec1 ms added) (buildNames g rec2 ms added)
  | [], added, _ => SettledQ.ok (List.Subset.refl _)
  | .builtin _ :: ms, added, hb => by
    simp only [buildNames]; exact buildNames_settled g rec1 rec2 bound hrec ms added hb
  | .user n :: ms, added, hb => by
    unfold buildNames
    split
    · exact buildNames_settled g rec1 rec2 bound hrec ms added hb
    next hf =>
      cases hl : lookup g n with
      | none => exact Settled.error nofun
      | some body =>
        dsimp only
        refine (hrec n body added hb (mt List.contains_iff_mem.2 hf) hl).elim (fun _ => Settled.error) fun a1 h1 => ?_
        have hsub : added ⊆ a1 := List.subset_of_cons_subset h1
        exact (buildNames_settled g rec1 rec2 bound hrec ms a1 (Nat.le_trans (U_mono g added a1 hsub) hb)).mono
          fun _ => hsub.trans

theorem buildRoot_settled (g : G) (f f' : Nat) (body : N) (added : List String) :
    U g added < f → f ≤ f' → SettledQ (List.Subset added) (buildRoot g f body added) (buildRoot g f' body added) := by
  refine Fuel.rel (fun f (x : N × List String) => buildRoot g f x.1 x.2) (fun x => U g x.2) (fun x => SettledQ (List.Subset x.2))
    ?_ f f' (body, added)
  intro f f' (body, added) ih _
  have hrec : ∀ n body a, U g a ≤ U g added → n ∉ a → lookup g n = some body →
      SettledQ (List.Subset (n :: a)) (buildRoot g f body (n :: a)) (buildRoot g f' body (n :: a)) :=
    fun n body a hb hn hl => ih (body, n :: a) (Nat.lt_of_lt_of_le (U_lt g a n body hl hn) hb)
  cases body with
  | arr _ => exact SettledQ.ok (List.Subset.refl _)
  | obj _ _ _ => exact SettledQ.ok (List.Subset.refl _)
  | lit _ _ _ | ref _ =>
    unfold buildRoot
    split
    · exact SettledQ.ok (List.Subset.refl _)
    · exact buildNames_settled g _ _ (U g added) hrec _ added (Nat.le_refl _)

/-! ### `actualRootTypeVisiting` -/

theorem actualNames_settled (g : G) (rec1 rec2 : List String → N → Except Err JT) (vis : List String)
    (hrec : ∀ n body, n ∉ vis → lookup g n = some body → Settled (rec1 (n :: vis) body) (rec2 (n :: vis) body)) :
    ∀ (tns : List String) (acc : List JT), Settled (actualNames g rec1 vis tns acc) (actualNames g rec2 vis tns acc)
  | [], acc => Settled.ok _
  | tn :: tns, acc => by
    unfold actualNames
    split
    · exact Settled.ok _
    next hv =>
      cases hl : lookup g tn with
      | none => exact Settled.ok _
      | some body =>
        dsimp only
        exact (hrec tn body (mt List.contains_iff_mem.2 hv) hl).elim (fun _ => Settled.error)
          fun tt _ => actualNames_settled g rec1 rec2 vis hrec tns (tt :: acc)

theorem actualType_settled (g : G) (f f' : Nat) (vis : List String) (body : N) :
    U g vis < f → f ≤ f' → Settled (actualType g f vis body) (actualType g f' vis body) := by
  refine Fuel.rel (fun f (x : List String × N) => actualType g f x.1 x.2) (fun x => U g x.1) (fun _ => Settled) ?_ f f' (vis, body)
  intro f f' (vis, body) ih _
  cases body with
  | lit jt tl e => exact Settled.ok _
  | arr items => exact Settled.ok _
  | obj ao ap ps => exact Settled.ok _
  | ref names =>
    simp only [actualType]
    refine (actualNames_settled g (actualType g f) (actualType g f') vis (fun n body hn hl =>
      ih (n :: vis, body) (U_lt g vis n body hl hn)) names []).elim (fun _ => Settled.error) fun r _ => ?_
    rcases r with _ | _ | ⟨t, ts⟩
    · exact Settled.ok _
    · exact Settled.ok _
    · dsimp only
      split <;> exact Settled.ok _

end LK
