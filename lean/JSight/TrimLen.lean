/-!
The length of a text without its trailing blanks, as the scanners' `Len()` computes it: walk back from a position while
the position before it holds a blank. `SchemaScan.trimBlank` (byte classes in an array) and `JsonScan.trimC` (a class
list) are this walk with their own test `p` (`SchemaScan.Len.trimBlank_eq`, `JsonScan.trimC_eq`); the three facts
every use needs are stated here once: the walk stops at a non-blank (`len_stop`), skips a run of blanks (`len_run`),
and looks only at the positions below its start (`len_congr`).
-/
namespace Trim

def len (p : Nat → Bool) : Nat → Nat
  | 0 => 0
  | n + 1 => if p n then len p n else n + 1

variable {p q : Nat → Bool}

theorem len_stop {n : Nat} (h : p n = false) : len p (n + 1) = n + 1 := by
  rw [len, h]; rfl

theorem len_run : ∀ {n b : Nat}, b ≤ n → (∀ j, b ≤ j → j < n → p j = true) → len p n = len p b
  | 0, b, h, _ => by cases Nat.le_zero.1 h; rfl
  | n + 1, b, h, hp => by
    rcases Nat.eq_or_lt_of_le h with rfl | hlt
    · rfl
    · rw [len, hp n (by omega) (by omega), if_pos rfl]
      exact len_run (by omega) fun j h1 h2 => hp j h1 (by omega)

theorem len_congr : ∀ {n : Nat}, (∀ j, j < n → p j = q j) → len p n = len q n
  | 0, _ => rfl
  | n + 1, h => by rw [len, len, h n (by omega), len_congr fun j hj => h j (by omega)]

end Trim
