import JSight.ShortE2ECompile
/-!
`E2E.loadSchema` on the text of a tree with shortcut leaves: the side conditions of the loader theorem in the tree's own
terms (`distinct_emb`; `distinct_items`, `distinct_members`: its list parts from validity and `AtB` in place of `Emb`),
`creation` on the resolved table, the load stage on a text of the class (`TextOK.emb`: the tree
stands in it; `TextOK.loads`: the loader's table is the table of the tree) and the end-to-end statement
`SE.loadSchema_stree`.
-/
namespace SE
open SchemaScan (Cls classify STree)
open SchemaScan.Len (Shortcut)
open Loader (Node slice keyText shortNode valOff)
open LoaderS (nodesOf nodesItems nodesMembers idxItems idxMembers keysMembers nextItem nextMember nodeCount
  countItems countMembers ruleOf KeysDistinct DistinctItems DistinctMembers)
open Lay (AtB AtB_append)
open Compile

/-! ### the loader's side conditions -/

/- `KeysDistinct` asks of a shortcut leaf that `|` occurs in its slice exactly when it has alternatives: the slice is
the shortcut's bytes (`slice_sc`), and the first clause of `shortOK` says this of the bytes. -/
mutual
theorem distinct_emb (src : Array UInt8) : (t : BST) → t.sideOK = true → t.KeysNodup → (o : Nat) → Emb src o t →
    KeysDistinct src o t.cls
  | .scalar _, _, _, _, _ => by simp [BST.cls, KeysDistinct]
  | .short fi as sps, hg, _, o, he => by
    simp only [BST.sideOK, shortOK, Bool.and_eq_true, beq_iff_eq] at hg
    simp only [BST.cls, KeysDistinct, slice_sc he.2.2, hg.1]
    simp only [clsSc, clsAlts_isEmpty]
  | .arr w0 its, hg, hk, o, he =>
    distinctItems_emb src its (by simpa [BST.sideOK] using hg) (by simpa [BST.KeysNodup] using hk) _ he
  | .obj w0 ms, hg, hk, o, he => by
    obtain ⟨hk1, hk2⟩ : (keysB ms).Nodup ∧ NodupMembers ms := by simpa [BST.KeysNodup] using hk
    exact ⟨by rw [keys_text src ms _ he]; exact hk1, distinctMembers_emb src ms (by simpa [BST.sideOK] using hg) hk2 _ he⟩
theorem distinctItems_emb (src : Array UInt8) : (its : List BItem) → sideItems its = true → NodupItems its → (o : Nat) →
    EmbItems src o its → DistinctItems src o (clsItems its)
  | [], _, _, _, _ => by simp [clsItems, DistinctItems]
  | (w1, v, w2) :: its, hg, hk, o, he => by
    obtain ⟨hg1, hg2⟩ : v.sideOK = true ∧ sideItems its = true := by simpa [sideItems] using hg
    obtain ⟨hkv, hki⟩ : v.KeysNodup ∧ NodupItems its := by simpa [NodupItems] using hk
    exact ⟨distinct_emb src v hg1 hkv _ he.1, distinctItems_emb src its hg2 hki _ he.2⟩
theorem distinctMembers_emb (src : Array UInt8) : (ms : List BMember) → sideMembers ms = true → NodupMembers ms → (o : Nat) →
    EmbMembers src o ms → DistinctMembers src o (clsMembers ms)
  | [], _, _, _, _ => by simp [clsMembers, DistinctMembers]
  | (w1, k, w2, w3, v, w4) :: ms, hg, hk, o, he => by
    obtain ⟨hg1, hg2⟩ : v.sideOK = true ∧ sideMembers ms = true := by simpa [sideMembers] using hg
    obtain ⟨hkv, hki⟩ : v.KeysNodup ∧ NodupMembers ms := by simpa [NodupMembers] using hk
    exact ⟨distinct_emb src v hg1 hkv _ he.2.1, distinctMembers_emb src ms hg2 hki _ he.2.2⟩
end

theorem distinct_items (src : Array UInt8) : (its : List BItem) → SchemaScan.SValidItems (clsItems its) →
    sideItems its = true → NodupItems its → (o : Nat) → AtB src o (renderItems its) →
    DistinctItems src o (clsItems its) :=
  fun its hv hg hk o hat => distinctItems_emb src its hg hk o (embItems_of src its hv o hat)
theorem distinct_members (src : Array UInt8) : (ms : List BMember) → SchemaScan.SValidMembers (clsMembers ms) →
    sideMembers ms = true → NodupMembers ms → (o : Nat) → AtB src o (renderMembers ms) →
    DistinctMembers src o (clsMembers ms) :=
  fun ms hv hg hk o hat => distinctMembers_emb src ms hg hk o (embMembers_of src ms hv o hat)

/-! ### `creation`: every rule of the table is synthesised

A rule of a loader node is `.inl` of the span of a written name or `.inr` of a synthesised name (`Loader.Node.rules`);
`resolve` marks the second kind generated (`resolve_gen`), and `createRules` accepts generated rules unseen. -/

mutual
theorem nodes_gen : (v : STree) → (par : Option Nat) → (n o : Nat) → ∀ nd ∈ nodesOf par n o v,
    ∀ r ∈ nd.rules, ∃ s, r = .inr s
  | .scalar _, _, _, _, nd, h, r, hr => by
    simp only [nodesOf, List.mem_singleton] at h; subst h; cases hr
  | .short _ _, _, _, _, nd, h, r, hr => by
    simp only [nodesOf, List.mem_singleton] at h; subst h
    simp only [shortNode, List.mem_singleton] at hr
    exact ⟨_, hr⟩
  | .arr _ its, par, n, o, nd, h, r, hr => by
    simp only [nodesOf, List.mem_cons] at h
    rcases h with rfl | h
    · cases hr
    · exact nodesItems_gen its n (n + 1) _ nd h r hr
  | .obj _ ms, par, n, o, nd, h, r, hr => by
    simp only [nodesOf, List.mem_cons] at h
    rcases h with rfl | h
    · cases hr
    · exact nodesMembers_gen ms n (n + 1) _ nd h r hr
theorem nodesItems_gen : (its : List SchemaScan.SItem) → (a n o : Nat) → ∀ nd ∈ nodesItems a n o its,
    ∀ r ∈ nd.rules, ∃ s, r = .inr s
  | [], _, _, _, nd, h, _, _ => by simp [nodesItems] at h
  | (w1, v, w2) :: its, a, n, o, nd, h, r, hr => by
    simp only [nodesItems, List.mem_append] at h
    rcases h with h | h
    · exact nodes_gen v (some a) n _ nd h r hr
    · exact nodesItems_gen its a _ _ nd h r hr
theorem nodesMembers_gen : (ms : List SchemaScan.SMember) → (a n o : Nat) → ∀ nd ∈ nodesMembers a n o ms,
    ∀ r ∈ nd.rules, ∃ s, r = .inr s
  | [], _, _, _, nd, h, _, _ => by simp [nodesMembers] at h
  | (w1, k, w2, w3, v, w4) :: ms, a, n, o, nd, h, r, hr => by
    simp only [nodesMembers, List.mem_append] at h
    rcases h with h | h
    · exact nodes_gen v (some a) n _ nd h r hr
    · exact nodesMembers_gen ms a _ _ nd h r hr
end

theorem createRules_gen (k : Loader.NK) : (rs : List Rule) → (seen : List Bytes) → (∀ r ∈ rs, r.gen = true) →
    createRules k seen rs = .ok ()
  | [], _, _ => rfl
  | r :: rs, seen, h => by
    have hr : r.gen = true := h r (by simp)
    simp only [createRules, createRule, hr, if_true]
    exact createRules_gen k rs _ (fun x hx => h x (by simp [hx]))

theorem creation_gen : (tbl : List RNode) → (∀ n ∈ tbl, ∀ r ∈ n.rules, r.gen = true) → creation tbl = .ok ()
  | [], _ => rfl
  | n :: tbl, h => by
    have ih := creation_gen tbl (fun m hm => h m (by simp [hm]))
    unfold creation at ih ⊢
    simp only [List.foldl_cons, createRules_gen n.kind n.rules [] (h n (by simp))]
    exact ih

theorem resolve_gen (src : Array UInt8) (nd : Node) (h : ∀ r ∈ nd.rules, ∃ s, r = .inr s) :
    ∀ r ∈ (resolve src nd).rules, r.gen = true := by
  intro r hr
  simp only [resolve, List.mem_map] at hr
  obtain ⟨⟨x, v⟩, hx, rfl⟩ := hr
  obtain ⟨s, rfl⟩ := h x (List.of_mem_zip hx).1
  rfl

/-! ### end to end -/

/-- the whole schema text: leading blanks, the tree, trailing blanks -/
def docText (w0 : Bytes) (t : BST) (w1 : Bytes) : Bytes := w0 ++ (t.render ++ w1)

/-- a schema text of the class: blanks around a valid tree; behind a root shortcut a line break or nothing -/
structure TextOK (w0 : Bytes) (t : BST) (w1 : Bytes) : Prop where
  ws0 : SchemaScan.IsWs (clsB w0)
  ws1 : SchemaScan.IsWs (clsB w1)
  valid : t.cls.Valid
  follow : SchemaScan.Follow t.cls (clsB w1)
  side : t.sideOK = true
  keys : t.KeysNodup

theorem TextOK.emb {w0 : Bytes} {t : BST} {w1 : Bytes} (h : TextOK w0 t w1) : Emb (docText w0 t w1).toArray w0.length t :=
  emb_of _ t h.valid _ ((AtB_append ..).1 (Lay.AtB_toArray (docText w0 t w1) w0 (t.render ++ w1) rfl)).1

/-- the load stage on a text of the class: the loader's table is the table of the tree -/
theorem TextOK.loads {w0 : Bytes} {t : BST} {w1 : Bytes} (h : TextOK w0 t w1) :
    ∃ st, Loader.loadText (docText w0 t w1) = .ok st ∧ st.root = some 0 ∧
      st.nodes.toList = nodesOf none 0 w0.length t.cls := by
  have hbs : (docText w0 t w1).map classify = clsB w0 ++ (t.cls.render ++ clsB w1) := by
    simp only [docText, List.map_append, render_cls, clsB]
  have hd := distinct_emb (docText w0 t w1).toArray t h.side h.keys w0.length h.emb
  -- the loader theorem states its offsets in lengths of class lists
  rw [← clsB_length] at hd
  simpa only [clsB_length] using
    LoaderS.loadText_mirrors_stree t.cls h.valid (clsB w0) (clsB w1) h.ws0 h.ws1 h.follow (docText w0 t w1) hbs hd

/-- **scanner + loader + constraint constructors + `compileNode`** (the phases 1 and 2 of `Compile.lean`, the second
Go's `CompileBasic`) on the text of a tree whose leaves are scalars or
type shortcuts yield the compiled tree `cnOf` -/
theorem loadSchema_stree (w0 : Bytes) (t : BST) (w1 : Bytes) (h : TextOK w0 t w1) (opt : Bool) :
    E2E.loadSchema (docText w0 t w1) opt = .ok (some (cnOf opt t)) := by
  obtain ⟨st, hl, hr, hn⟩ := h.loads
  have hcr : creation (st.nodes.toList.map (resolve (docText w0 t w1).toArray)) = .ok () := by
    apply creation_gen
    intro n hn' r hr'
    obtain ⟨nd, hnd, rfl⟩ := List.mem_map.mp hn'
    rw [hn] at hnd
    exact resolve_gen _ nd (nodes_gen t.cls none 0 _ nd hnd) r hr'
  refine E2E.loadSchema_loaded (o := none) hl hr hcr ?_
  rw [hn]
  exact compileNode_sits _ opt t h.side none 0 w0.length h.emb (NodeTable.sits_all _) _ false
    (by rw [List.length_map, LoaderS.nodesOf_length]; omega)

#print axioms loadSchema_stree

end SE
