import JSight.EnumPlain
/-! Non-vacuity checks for `enum_events` / `enum_duplicate` / `enum_length` on concrete texts. -/
namespace EnumScan
open SchemaScan (Cls classify)

/-- ` \n[\n1, "a" \n,\ttrue]\n ` -/
def sPre : List UInt8 := [32, 10]
def sWs0 : List UInt8 := [10]
def sPost : List UInt8 := [10, 32]
def sItems : List Item :=
  [([], [49], []), ([32], [34, 97, 34], [32, 10]), ([9], [116, 114, 117, 101], [])]

theorem sItems_valid : GValidItems sItems := by
  have w0 : IsWsB [] := by intro c hc; simp at hc
  have w1 : IsWsB [32] := by unfold IsWsB IsWs; decide
  have w2 : IsWsB [32, 10] := by unfold IsWsB IsWs; decide
  have w3 : IsWsB [9] := by unfold IsWsB IsWs; decide
  have t1 : GTok (List.map classify [49]) := by
    have e : List.map classify [49] = (NumTok.mk false [.d19] none).render := by decide
    rw [e]
    exact GTok.num _ ⟨Or.inr ⟨[], rfl, by intro c hc; simp at hc⟩, by intro d ds h; cases h⟩
  have t2 : GTok (List.map classify [34, 97, 34]) := by
    have e : List.map classify [34, 97, 34] = .quote :: ([.la] ++ [.quote]) := by decide
    rw [e]
    exact GTok.str _ (.plain _ _ rfl .nil)
  have t3 : GTok (List.map classify [116, 114, 117, 101]) := by
    have e : List.map classify [116, 114, 117, 101] = [.lt, .lr, .lu, .le] := by decide
    rw [e]
    exact GTok.wtrue
  intro it hit
  simp only [sItems, List.mem_cons, List.not_mem_nil, or_false] at hit
  rcases hit with rfl | rfl | rfl
  · exact ⟨w0, t1, w0⟩
  · exact ⟨w1, t2, w2⟩
  · exact ⟨w3, t3, w0⟩

#eval (renderEnum sPre sWs0 sItems sPost)
#eval (enumEvsOf sPre sWs0 sItems sPost).map fun e => (repr e.ty, e.b, e.e)
#eval (match scanAll (renderEnum sPre sWs0 sItems sPost) with
  | .ok evs => evs == enumEvsOf sPre sWs0 sItems sPost
  | _ => false)

example : scanAll (renderEnum sPre sWs0 sItems sPost) = .ok (enumEvsOf sPre sWs0 sItems sPost) :=
  enum_events _ _ _ _ (by unfold IsWsB IsWs; decide) (by unfold IsWsB IsWs; decide) (by unfold IsWsB IsWs; decide)
    sItems_valid (by decide)
#eval length (renderEnum sPre sWs0 sItems sPost)
#eval sPre.length + 1 + sWs0.length + (renderItems sItems).length
#eval sItems.map itemKey

/-- `["a", 1, "a"]`: the third item decodes to the first one's text -/
def dItems1 : List Item := [([], [34, 97, 34], []), ([32], [49], [])]
def dDup : Item := ([32], [34, 92, 117, 48, 48, 54, 49, 34], [])
#eval scanAll (renderEnum [] [] (dItems1 ++ dDup :: []) [])
#eval ([] : List UInt8).length + 1 + 0 + (renderInit dItems1).length + dDup.1.length
#eval (itemKey dDup, dItems1.map itemKey)
-- `[1, "1", 1.0, 1]`: string vs non-string and spellings of a number are different keys; the fourth repeats the first
#eval scanAll (renderEnum [] [] [([], [49], []), ([], [34, 49, 34], []), ([], [49, 46, 48], []), ([], [49], [])] [])

end EnumScan
