import JSight.AnnotEnum
/-!
The rule object of an annotation, scanner level, in general: rule names bare or quoted, values literal or lists.
`QRule` = a `CRule` whose `name` field is a bare name or a quoted token (`qn`) and whose `val` field is a literal token
or a list `[ items ]` of literal tokens (`v`); `QObj`; `obj_runQ`: the run over the object between its braces, from any
return state, lexeme stack and context, with the `boundaryQuote` flag `false` at entry; `obj_run`: the case of bare
names and literal values (`CObj.toQ`; `CObj.toQ_evs`, `CObj.toQ_c` read the events and the text of `QObj` at `toQ` as
those of `CObj`); `eobj_run`: the object of `AnnotEnum` with its one rule `name : [ items ]` (`EObj.toQ`). The whole
annotated scalar (`annEvsQ`, `annot_emitsQ`, `annot_emits`) is in `AnnotDoc`.
-/
namespace SchemaScan

variable {data : Array Cls} {lc : Bool}

/-- a rule value: a literal token, or a list `[`, blanks `w0`, literal items with their separators (`renderCItems`) -/
inductive QV
  | lit
  | list (w0 : List Cls) (items : List CItem)

structure QRule where
  c : CRule
  /-- the name is a quoted token (`c.name` holds it with its quotes) -/
  qn : Bool
  /-- what `c.val` is -/
  v : QV

def QV.Valid (a : Ann) (val : List Cls) : QV → Prop
  | .lit => IsScalar val
  | .list w0 items => val = Cls.lbrack :: (w0 ++ renderCItems items) ∧ ABlank a w0 ∧ CItemsValid a items

def QRule.Valid (a : Ann) (r : QRule) : Prop :=
  ABlank a r.c.b1 ∧ ((r.qn = true → IsKey r.c.name) ∧ (r.qn = false → IsName r.c.name)) ∧ ABlank a r.c.b3 ∧
    r.v.Valid a r.c.val ∧ ABlank a r.c.b4

/-- last offset of the key-end event: the closing quote, or the byte before the colon -/
def QRule.keyEnd (r : QRule) (p : Nat) : Nat :=
  cond r.qn (r.c.nameOff p + r.c.name.length - 1) (r.c.nameOff p + r.c.name.length + r.c.n2 - 1)

/-- the lexemes still open behind the last byte of the value -/
def QV.pend (vo : Nat) : QV → List (LexT × Nat)
  | .lit => [(.litB, vo), (.valB, vo)]
  | .list _ _ => [(.valB, vo)]

/-- the scanner's state behind the last byte of the value -/
def QV.PendSt : QV → St → Prop
  | .lit, st => PV st = true
  | .list _ _, st => st = .endValue

/-- events from the value-begin to the last byte of the value -/
def QV.openEvs (vo : Nat) : QV → List Ev
  | .lit => [⟨.valB, vo, vo⟩, ⟨.litB, vo, vo⟩]
  | .list w0 items =>
    ⟨.valB, vo, vo⟩ :: ⟨.arrB, vo, vo⟩ :: (nlEvs (vo + 1) w0 ++ citemsEvs vo (vo + 1 + w0.length) items)

/-- the events the byte behind the value delivers -/
def QV.closeEvs (vo e : Nat) : QV → List Ev
  | .lit => [⟨.litE, vo, e⟩, ⟨.valE, vo, e⟩]
  | .list _ _ => [⟨.valE, vo, e⟩]

def QRule.openEvs (r : QRule) (p : Nat) : List Ev :=
  nlEvs p r.c.b1 ++ (⟨.keyB, r.c.nameOff p, r.c.nameOff p⟩ :: ⟨.keyE, r.c.nameOff p, r.keyEnd p⟩ ::
    (nlEvs (r.c.nameOff p + r.c.name.length + r.c.n2 + 1) r.c.b3 ++ r.v.openEvs (r.c.valOff p)))

def QRule.closeEvs (r : QRule) (p : Nat) : List Ev :=
  r.v.closeEvs (r.c.valOff p) (r.c.valOff p + r.c.val.length - 1) ++ nlEvs (r.c.valOff p + r.c.val.length) r.c.b4

def QRule.evs (r : QRule) (p : Nat) : List Ev := r.openEvs p ++ r.closeEvs p

/-- for a bare name and a literal value these are the events of the rule as `AnnotObj` has them (`CRule.evs`) -/
theorem QRule.evs_bare (c : CRule) (p : Nat) : (QRule.mk c false .lit).evs p = c.evs p := rfl

/-- the open lexemes and closing events of a rule value in the terms of `pendOf` / `closersOf` -/
theorem QV.pend_eq (v : QV) (vo : Nat) (K : List (LexT × Nat)) :
    v.pend vo ++ K = pendOf (v matches .lit) vo ++ (.valB, vo) :: K := by cases v <;> rfl

theorem QV.closeEvs_eq (v : QV) (vo e : Nat) : v.closeEvs vo e = closersOf (v matches .lit) .val vo vo e := by cases v <;> rfl

theorem QV.PendSt.pv {v : QV} {st : St} (h : v.PendSt st) : PV st = true := by
  cases v with
  | lit => exact h
  | list _ _ => subst h; rfl

/-- `close_commaQ` for a rule value, in the terms of `QV` -/
theorem qclose_comma (a : Ann) (ha : a.isAnn = true) (q : Bool) (v : QV) {st : St} (hst : v.PendSt st) (b4 : List Cls)
    (hb4 : ABlank a b4) (x : St) (vo : Nat) (K : List (LexT × Nat)) (i : Nat) (CS : List Ctx) (cx : Ctx) (al : Bool)
    (hat : At data i (b4 ++ [Cls.comma])) :
    Len.Path data (cfgG lc a q st [x] (v.pend vo ++ K) false i CS cx al) (v.closeEvs vo (i - 1) ++ nlEvs i b4)
      (cfgG lc a q .objKey [x] K false (i + b4.length + 1) CS cx al) := by
  rw [QV.pend_eq, QV.closeEvs_eq]
  exact close_commaQ a ha q hst.pv _ .val (by simp) b4 hb4 x vo vo K i CS cx al hat

/-- `close_rbraceQ` in the terms of `QV` -/
theorem qclose_rbrace (a : Ann) (ha : a.isAnn = true) (q : Bool) (v : QV) {st : St} (hst : v.PendSt st) (b4 : List Cls)
    (hb4 : ABlank a b4) (x : St) (vo o y : Nat) (R : List (LexT × Nat)) (i : Nat) (c0 : Ctx) (CS : List Ctx) (cx : Ctx)
    (al : Bool) (hat : At data i (b4 ++ [Cls.rbrace])) :
    Len.Path data (cfgG lc a q st [x] (v.pend vo ++ ((.objB, o) :: (a.B, y) :: R)) false i (c0 :: CS) cx al)
      (v.closeEvs vo (i - 1) ++ (nlEvs i b4 ++ [⟨.objE, o, i + b4.length⟩]))
      (cfgG lc a q a.prefixSt [x] ((a.B, y) :: R) false (i + b4.length + 1) CS c0 al) := by
  rw [QV.pend_eq, QV.closeEvs_eq]
  exact close_rbraceQ a ha q hst.pv _ b4 hb4 x vo vo o y R i c0 CS cx al hat

/-- one rule from the blanks before its name to the last byte of its value: the flag is what the name made it
(`r.qn`), the value's lexemes are still open (`QV.pend`) and the state is one in which the next byte closes them
(`QV.PendSt`) -/
theorem rule_openQ (a : Ann) (ha : a.isAnn = true) (q : Bool) (r : QRule) (hv : r.Valid a) {st : St}
    (hst : keySt st = true)
    (x : St) (K : List (LexT × Nat)) (p : Nat) (CS : List Ctx) (cx : Ctx) (al : Bool)
    (hat : At data p (r.c.b1 ++ (r.c.name ++ (List.replicate r.c.n2 Cls.sp ++ (Cls.colon :: (r.c.b3 ++ r.c.val)))))) :
    ∃ stE, r.v.PendSt stE ∧
      Len.Path data (cfgG lc a q st [x] K false p CS cx al) (r.openEvs p)
        (cfgG lc a r.qn stE [x] (r.v.pend (r.c.valOff p) ++ K) false (r.c.valOff p + r.c.val.length) CS cx al) := by
  obtain ⟨hb1, ⟨hq, hb⟩, hb3, hval, _⟩ := hv
  have e : r.c.b1 ++ (r.c.name ++ (List.replicate r.c.n2 Cls.sp ++ (Cls.colon :: (r.c.b3 ++ r.c.val))))
      = (r.c.b1 ++ (r.c.name ++ (List.replicate r.c.n2 Cls.sp ++ [Cls.colon]))) ++ (r.c.b3 ++ r.c.val) := by simp
  rw [e, At_append] at hat
  obtain ⟨hk, hv'⟩ := hat
  have hlen : p + (r.c.b1 ++ (r.c.name ++ (List.replicate r.c.n2 Cls.sp ++ [Cls.colon]))).length
      = p + r.c.b1.length + r.c.name.length + r.c.n2 + 1 := by
    simp only [List.length_append, List.length_cons, List.length_replicate, List.length_nil]; omega
  rw [hlen] at hv'
  -- the name
  have hkey : Len.Path data (cfgG lc a q st [x] K false p CS cx al)
      (nlEvs p r.c.b1 ++ [⟨.keyB, p + r.c.b1.length, p + r.c.b1.length⟩, ⟨.keyE, p + r.c.b1.length, r.keyEnd p⟩])
      (cfgG lc a r.qn .objValue [x] K false (p + r.c.b1.length + r.c.name.length + r.c.n2 + 1) CS cx al) := by
    cases hqn : r.qn with
    | false =>
      have s1 := key_run_bare (lc := lc) a ha q r.c.b1 r.c.name r.c.n2 hb1 (hb hqn) hst x K p CS cx al hk
      exact s1.cast (by simp [QRule.keyEnd, hqn, CRule.nameOff]) rfl
    | true =>
      have s1 := key_run_quoted (lc := lc) a ha q r.c.b1 r.c.name r.c.n2 hb1 (hq hqn) hst x K p CS cx al hk
      exact s1.cast (by simp [QRule.keyEnd, hqn, CRule.nameOff]) rfl
  -- the value
  cases hvk : r.v with
  | lit =>
    rw [hvk] at hval
    obtain ⟨stE, hp, s2⟩ := open_litQ (lc := lc) a ha r.qn .val r.c.b3 r.c.val hb3 hval (st := .objValue) rfl x K
      (p + r.c.b1.length + r.c.name.length + r.c.n2 + 1) CS cx al hv'
    refine ⟨stE, hp, (Len.Path.trans hkey s2).cast ?_ (cfgG_congr ?_ ?_)⟩
    · simp [QRule.openEvs, hvk, QV.openEvs, CRule.nameOff, CRule.valOff, CK.B]
    · simp [QV.pend, CRule.valOff, pendOf, CK.B]
    · simp only [CRule.valOff]
  | list w0 items =>
    rw [hvk] at hval
    obtain ⟨hve, hw0, hits⟩ := hval
    rw [hve] at hv'
    have s2 := list_runQ (lc := lc) a ha r.qn r.c.b3 w0 items hb3 hw0 hits x K
      (p + r.c.b1.length + r.c.name.length + r.c.n2 + 1) CS cx al hv'
    refine ⟨.endValue, rfl, (Len.Path.trans hkey s2).cast ?_ (cfgG_congr ?_ ?_)⟩
    · simp [QRule.openEvs, hvk, QV.openEvs, CRule.nameOff, CRule.valOff]
    · simp [QV.pend, CRule.valOff]
    · simp only [CRule.valOff, hve, List.length_cons, List.length_append]; omega

/-! ### the rules of an object -/

inductive QObj
  | empty (b0 : List Cls)
  | rules (r : QRule) (rs : List QRule) (tc : Option (List Cls))

/-- the same text, the names read as plain class lists -/
def QObj.c : QObj → CObj
  | .empty b0 => .empty b0
  | .rules r rs tc => .rules r.c (rs.map QRule.c) tc

def rulesEvsQ : Nat → QRule → List QRule → List Ev
  | p, r, [] => r.evs p
  | p, r, r' :: rs => r.evs p ++ rulesEvsQ (p + r.c.render.length + 1) r' rs

def QObj.evs (o : Nat) : QObj → List Ev
  | .empty b0 => nlEvs (o + 1) b0 ++ [⟨.objE, o, o + 1 + b0.length⟩]
  | .rules r rs tc =>
    rulesEvsQ (o + 1) r rs ++ (tcEvs (o + 1 + (renderRules r.c (rs.map QRule.c)).length) tc ++
      [⟨.objE, o, o + 1 + (renderRules r.c (rs.map QRule.c) ++ renderTc tc).length⟩])

def ValidRulesQ (a : Ann) (r : QRule) (rs : List QRule) : Prop := r.Valid a ∧ ∀ x ∈ rs, x.Valid a

def QObj.Valid (a : Ann) : QObj → Prop
  | .empty b0 => ABlank a b0
  | .rules r rs tc => ValidRulesQ a r rs ∧ (∀ b5, tc = some b5 → ABlank a b5)

/-- the flag behind the rules: set by the last name -/
def lastQ : QRule → List QRule → Bool
  | r, [] => r.qn
  | _, r' :: rs => lastQ r' rs

def QObj.endQ : QObj → Bool
  | .empty _ => false
  | .rules r rs _ => lastQ r rs

theorem CRule.valOff_end (r : CRule) (p : Nat) :
    r.valOff p + r.val.length + r.b4.length + 1 = p + r.render.length + 1 := by
  simp only [CRule.render_length, CRule.valOff]; omega

/-- one rule and the comma behind it -/
theorem rule_commaQ (a : Ann) (ha : a.isAnn = true) (q : Bool) (r : QRule) (hv : r.Valid a) {st : St}
    (hst : keySt st = true) (x : St) (K : List (LexT × Nat)) (p : Nat) (CS : List Ctx) (cx : Ctx) (al : Bool)
    (rest : List Cls) (hat : At data p (r.c.render ++ (Cls.comma :: rest))) :
    Len.Path data (cfgG lc a q st [x] K false p CS cx al) (r.evs p)
      (cfgG lc a r.qn .objKey [x] K false (p + r.c.render.length + 1) CS cx al) ∧
    At data (p + r.c.render.length + 1) rest := by
  obtain ⟨h1, h2, h3⟩ := rule_at_split r.c .comma rest p hat
  obtain ⟨stE, hp, s1⟩ := rule_openQ (lc := lc) a ha q r hv hst x K p CS cx al h1
  have s2 := qclose_comma (lc := lc) a ha r.qn r.v hp r.c.b4 hv.2.2.2.2 x (r.c.valOff p) K (r.c.valOff p + r.c.val.length) CS cx al h2
  exact ⟨(Len.Path.trans s1 s2).cast rfl (cfgG_congr rfl (r.c.valOff_end p)), h3⟩

/-- the last rule and the `}` behind it -/
theorem rule_rbraceQ (a : Ann) (ha : a.isAnn = true) (q : Bool) (r : QRule) (hv : r.Valid a) {st : St}
    (hst : keySt st = true) (x : St) (o y : Nat) (R : List (LexT × Nat)) (p : Nat) (c0 : Ctx) (CS : List Ctx) (cx : Ctx)
    (al : Bool) (hat : At data p (r.c.render ++ [Cls.rbrace])) :
    Len.Path data (cfgG lc a q st [x] ((.objB, o) :: (a.B, y) :: R) false p (c0 :: CS) cx al)
      (r.evs p ++ [⟨.objE, o, p + r.c.render.length⟩])
      (cfgG lc a r.qn a.prefixSt [x] ((a.B, y) :: R) false (p + r.c.render.length + 1) CS c0 al) := by
  obtain ⟨h1, h2, _⟩ := rule_at_split r.c .rbrace [] p hat
  obtain ⟨stE, hp, s1⟩ := rule_openQ (lc := lc) a ha q r hv hst x ((.objB, o) :: (a.B, y) :: R) p (c0 :: CS) cx al h1
  have s2 := qclose_rbrace (lc := lc) a ha r.qn r.v hp r.c.b4 hv.2.2.2.2 x (r.c.valOff p) o y R
    (r.c.valOff p + r.c.val.length) c0 CS cx al h2
  have e : r.c.valOff p + r.c.val.length + r.c.b4.length = p + r.c.render.length := by
    have := r.c.valOff_end p; omega
  refine (Len.Path.trans s1 s2).cast ?_ (cfgG_congr rfl (r.c.valOff_end p))
  simp only [QRule.evs, QRule.closeEvs, List.append_assoc, e]

/-- the rules, the optional trailing comma and the `}`, for either value `q` of the flag at entry (the first name sets
it before any state reads it); behind the `}` the flag is what the last name made it (`lastQ`) -/
theorem rules_runQ (a : Ann) (ha : a.isAnn = true) : ∀ (rs : List QRule) (r : QRule), ValidRulesQ a r rs →
    ∀ (tc : Option (List Cls)), (∀ b5, tc = some b5 → ABlank a b5) → ∀ {st : St}, keySt st = true →
    ∀ (q : Bool) (x : St) (o y : Nat) (R : List (LexT × Nat)) (p : Nat) (c0 : Ctx) (CS : List Ctx) (cx : Ctx) (al : Bool),
    At data p (renderRules r.c (rs.map QRule.c) ++ (renderTc tc ++ [Cls.rbrace])) →
    Len.Path data (cfgG lc a q st [x] ((.objB, o) :: (a.B, y) :: R) false p (c0 :: CS) cx al)
      (rulesEvsQ p r rs ++ (tcEvs (p + (renderRules r.c (rs.map QRule.c)).length) tc ++
        [⟨.objE, o, p + (renderRules r.c (rs.map QRule.c) ++ renderTc tc).length⟩]))
      (cfgG lc a (lastQ r rs) a.prefixSt [x] ((a.B, y) :: R) false
        (p + (renderRules r.c (rs.map QRule.c) ++ renderTc tc).length + 1) CS c0 al)
  | [], r, hv, tc, htc, st, hst, q, x, o, y, R, p, c0, CS, cx, al, hat => by
    simp only [List.map_nil, renderRules, lastQ] at hat ⊢
    cases tc with
    | none =>
      simp only [renderTc, List.nil_append, List.append_nil] at hat ⊢
      exact rule_rbraceQ a ha q r hv.1 hst x o y R p c0 CS cx al hat
    | some b5 =>
      simp only [renderTc, List.cons_append] at hat ⊢
      obtain ⟨s1, h3⟩ := rule_commaQ (lc := lc) a ha q r hv.1 hst x ((.objB, o) :: (a.B, y) :: R) p (c0 :: CS) cx al _ hat
      rw [At_append] at h3
      have s3 := ablank_runQ (lc := lc) a ha r.qn b5 (htc b5 rfl) .objKey rfl [x] ((.objB, o) :: (a.B, y) :: R)
        (p + r.c.render.length + 1) (c0 :: CS) cx al h3.1
      have s4 : Len.Path data (cfgG lc a r.qn (wsSt .objKey b5) [x] ((.objB, o) :: (a.B, y) :: R) false
          (p + r.c.render.length + 1 + b5.length) (c0 :: CS) cx al)
          [⟨.objE, o, p + r.c.render.length + 1 + b5.length⟩]
          (cfgG lc a r.qn a.prefixSt [x] ((a.B, y) :: R) false (p + r.c.render.length + 1 + b5.length + 1) CS c0 al) :=
        -- fuel 7: `cfgG_byte` asks for `dispatch 8`, the one-byte lemmas are stated at `f + 1`
        cfgG_byte h3.2.1
          (fun p1 p2 => aobj_rbraceQ 7 r.qn a ha _ (Or.inl (keySt_wsSt rfl b5)) [x] o y R _ c0 CS cx al p1 p2) rfl rfl
      refine (Len.Path.trans (Len.Path.trans s1 s3) s4).cast ?_ (cfgG_congr rfl ?_)
      · simp only [rulesEvsQ, tcEvs, List.append_assoc, List.length_append, List.length_cons, Nat.add_assoc,
          Nat.add_comm 1]
      · simp only [List.length_append, List.length_cons]; omega
  | r' :: rs, r, hv, tc, htc, st, hst, q, x, o, y, R, p, c0, CS, cx, al, hat => by
    simp only [List.map_cons, renderRules, List.cons_append, List.append_assoc] at hat
    obtain ⟨s1, h3⟩ := rule_commaQ (lc := lc) a ha q r hv.1 hst x ((.objB, o) :: (a.B, y) :: R) p (c0 :: CS) cx al _ hat
    have ih := rules_runQ a ha rs r' ⟨hv.2 r' (by simp), fun z hz => hv.2 z (by simp [hz])⟩ tc htc (st := .objKey) rfl
      r.qn x o y R (p + r.c.render.length + 1) c0 CS cx al h3
    refine (Len.Path.trans s1 ih).cast ?_ (cfgG_congr rfl ?_)
    · simp only [rulesEvsQ, renderRules, List.map_cons, List.append_assoc, List.length_append, List.length_cons,
        Nat.add_assoc, Nat.add_comm 1]
    · simp only [renderRules, List.map_cons, List.length_append, List.length_cons]; omega

/-- the rule object from behind its `{` to behind its `}`. The `boundaryQuote` flag is `false` at entry, as it is in
`ann_mark` and `ann_lbrace`, which lead there: an annotation that stands behind a QUOTED rule name of an earlier
annotation of the same text (the flag is still `true` there) is not covered. Only the empty object needs the value:
its flag at exit is the one at entry (`QObj.endQ`), while a first rule sets the flag before any state reads it
(`rules_runQ`). -/
theorem obj_runQ (a : Ann) (ha : a.isAnn = true) (ob : QObj) (hv : ob.Valid a)
    (x : St) (o y : Nat) (R : List (LexT × Nat)) (c0 : Ctx) (CS : List Ctx) (cx : Ctx) (al : Bool)
    (hat : At data (o + 1) (ob.c.body ++ [Cls.rbrace])) :
    Len.Path data (cfgG lc a false .objKeyOrEmpty [x] ((.objB, o) :: (a.B, y) :: R) false (o + 1) (c0 :: CS) cx al) (ob.evs o)
      (cfgG lc a ob.endQ a.prefixSt [x] ((a.B, y) :: R) false (o + 1 + ob.c.body.length + 1) CS c0 al) := by
  cases ob with
  | empty b0 =>
    simp only [QObj.c, CObj.body, QObj.endQ] at hat ⊢
    rw [At_append] at hat
    have s1 := ablank_runQ (lc := lc) a ha false b0 hv .objKeyOrEmpty rfl [x] ((.objB, o) :: (a.B, y) :: R) (o + 1) (c0 :: CS) cx al
      hat.1
    have s2 : Len.Path data (cfgG lc a false (wsSt .objKeyOrEmpty b0) [x] ((.objB, o) :: (a.B, y) :: R) false (o + 1 + b0.length)
        (c0 :: CS) cx al) [⟨.objE, o, o + 1 + b0.length⟩]
        (cfgG lc a false a.prefixSt [x] ((a.B, y) :: R) false (o + 1 + b0.length + 1) CS c0 al) :=
      cfgG_byte hat.2.1 (fun p1 p2 => aobj_rbraceQ 7 false a ha _ (Or.inl (keySt_wsSt rfl b0)) [x] o y R _ c0 CS cx al
        p1 p2) rfl rfl
    exact (Len.Path.trans s1 s2).cast (by simp [QObj.evs]) rfl
  | rules r rs tc =>
    simp only [QObj.c, CObj.body, List.append_assoc, QObj.endQ] at hat ⊢
    have := rules_runQ (lc := lc) a ha rs r hv.1 tc hv.2 (st := .objKeyOrEmpty) rfl false x o y R (o + 1) c0 CS cx al hat
    exact this.cast (by simp [QObj.evs]) rfl

/-! ### bare names and literal values

A rule object of `AnnotObj` (`CObj`) is the `QObj` with no quoted name and no list value. -/

def CRule.toQ (r : CRule) : QRule := ⟨r, false, .lit⟩

def CObj.toQ : CObj → QObj
  | .empty b0 => .empty b0
  | .rules r rs tc => .rules r.toQ (rs.map CRule.toQ) tc

theorem CObj.toQ_c (ob : CObj) : ob.toQ.c = ob := by
  cases ob with
  | empty b0 => rfl
  | rules r rs tc =>
    simp only [CObj.toQ, QObj.c, List.map_map]
    rw [show (QRule.c ∘ CRule.toQ) = id from rfl, List.map_id]
    rfl

theorem rulesEvsQ_toQ : ∀ (rs : List CRule) (r : CRule) (p : Nat),
    rulesEvsQ p r.toQ (rs.map CRule.toQ) = rulesEvs p r rs
  | [], _, _ => rfl
  | r' :: rs, r, p => by
    simp only [List.map_cons, rulesEvsQ, rulesEvs, rulesEvsQ_toQ rs r']
    rfl

theorem CObj.toQ_evs (ob : CObj) (o : Nat) : ob.toQ.evs o = ob.evs o := by
  have h := ob.toQ_c
  cases ob with
  | empty b0 => rfl
  | rules r rs tc =>
    simp only [CObj.toQ, QObj.c, CObj.rules.injEq] at h
    simp only [CObj.toQ, QObj.evs, CObj.evs, rulesEvsQ_toQ, h.2.1]
    rfl

theorem lastQ_toQ : ∀ (rs : List CRule) (r : CRule), lastQ r.toQ (rs.map CRule.toQ) = false
  | [], _ => rfl
  | r' :: rs, _ => lastQ_toQ rs r'

theorem CObj.toQ_valid {a : Ann} {ob : CObj} (h : ob.Valid a) : ob.toQ.Valid a := by
  have hr : ∀ r : CRule, r.Valid a → r.toQ.Valid a :=
    fun r hv => ⟨hv.1, ⟨fun hq => Bool.noConfusion hq, fun _ => hv.2.1⟩, hv.2.2.1, hv.2.2.2.1, hv.2.2.2.2⟩
  cases ob with
  | empty b0 => exact h
  | rules r rs tc =>
    refine ⟨⟨hr r h.1.1, fun x hx => ?_⟩, h.2⟩
    obtain ⟨y, hy, rfl⟩ := List.mem_map.1 hx
    exact hr y (h.1.2 y hy)

/-- `obj_runQ` for bare names and literal values: the flag is `false` at exit too -/
theorem obj_run (a : Ann) (ha : a.isAnn = true) (ob : CObj) (hv : ob.Valid a)
    (x : St) (o y : Nat) (R : List (LexT × Nat)) (c0 : Ctx) (CS : List Ctx) (cx : Ctx) (al : Bool)
    (hat : At data (o + 1) (ob.body ++ [Cls.rbrace])) :
    Len.Path data (cfgG lc a false .objKeyOrEmpty [x] ((.objB, o) :: (a.B, y) :: R) false (o + 1) (c0 :: CS) cx al) (ob.evs o)
      (cfgG lc a false a.prefixSt [x] ((a.B, y) :: R) false (o + 1 + ob.body.length + 1) CS c0 al) := by
  have h := obj_runQ (lc := lc) a ha ob.toQ (CObj.toQ_valid hv) x o y R c0 CS cx al (by rw [CObj.toQ_c]; exact hat)
  rw [CObj.toQ_evs, CObj.toQ_c] at h
  have he : ob.toQ.endQ = false := by
    cases ob with
    | empty b0 => rfl
    | rules r rs tc => exact lastQ_toQ rs r
  rw [he] at h
  exact h

/-! ### the one-rule object `{ name : [ items ] }` of `AnnotEnum` -/

def EObj.toQ (e : EObj) : QObj :=
  .rules ⟨⟨e.b1, e.name, e.n2, e.b3, Cls.lbrack :: (e.w0 ++ renderCItems e.items), e.b4⟩, false, .list e.w0 e.items⟩ [] none

theorem EObj.toQ_body (e : EObj) : e.toQ.c.body = e.body := by
  simp [EObj.toQ, QObj.c, CObj.body, renderRules, renderTc, CRule.render, EObj.body]

theorem EObj.toQ_evs (e : EObj) (o : Nat) : e.toQ.evs o = e.evs o := by
  have hb := congrArg List.length e.toQ_body
  simp only [EObj.toQ, QObj.c, CObj.body, List.map_nil] at hb
  simp only [EObj.toQ, QObj.evs, rulesEvsQ, tcEvs, QRule.evs, QRule.openEvs, QRule.closeEvs, QV.openEvs, QV.closeEvs,
    QRule.keyEnd, CRule.nameOff, CRule.valOff, cond_false, List.map_nil, hb, EObj.evs, EObj.arrOff, List.length_cons,
    List.length_append, List.append_assoc, List.cons_append, List.nil_append]
  -- `EObj.evs` writes the same offsets with the `+ 1`s in other places
  simp only [← Nat.add_assoc, Nat.add_right_comm _ 1 (e.w0.length), Nat.add_right_comm _ 1 (renderCItems e.items).length]

/-- `obj_runQ` for the one-rule object `{ name : [ items ] }` -/
theorem eobj_run (a : Ann) (ha : a.isAnn = true) (e : EObj) (hv : e.Valid a)
    (x : St) (o y : Nat) (R : List (LexT × Nat)) (c0 : Ctx) (CS : List Ctx) (cx : Ctx) (al : Bool)
    (hat : At data (o + 1) (e.body ++ [Cls.rbrace])) :
    Len.Path data (cfgG lc a false .objKeyOrEmpty [x] ((.objB, o) :: (a.B, y) :: R) false (o + 1) (c0 :: CS) cx al) (e.evs o)
      (cfgG lc a false a.prefixSt [x] ((a.B, y) :: R) false (o + 1 + e.body.length + 1) CS c0 al) := by
  obtain ⟨hb1, hname, hb3, hw0, hits, hb4⟩ := hv
  have h := obj_runQ (lc := lc) a ha e.toQ
    ⟨⟨⟨hb1, ⟨fun hq => Bool.noConfusion hq, fun _ => hname⟩, hb3, ⟨rfl, hw0, hits⟩, hb4⟩, fun _ hx => nomatch hx⟩,
      fun _ h => nomatch h⟩ x o y R c0 CS cx al (by rw [EObj.toQ_body]; exact hat)
  rwa [EObj.toQ_evs, EObj.toQ_body] at h

end SchemaScan
