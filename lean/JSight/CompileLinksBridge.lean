import JSight.CompileLinksProofs
import JSight.LinksBasics
/-!
# C09 — the two models of the link check agree (`Compile.check` with names against `LK.linkCheck` on `CL.lkOf`)

Without `allOf`, `LK.compileAllOf` copies nothing: the checker walks the pre-order lists as loaded.
Node by node, `CL.checkNodeN` and `LK.checkList` on the abstraction give related verdicts (`Rel`: both pass, or
both name the same missing type, or both name the same key shortcut whose type is not a string).
-/
namespace CL
open Compile

/-! ### `LK.linkCheck` without `allOf` -/

def plainItem : LK.Item → Bool
  | .obj _ _ ao => ao.isEmpty
  | .inh ps => ps.isEmpty
  | _ => true

theorem processItems_plain (pt : String → LK.St → Except LK.Err (List LK.CItem × LK.St)) :
    ∀ (items : List LK.Item) (st : LK.St), items.all plainItem = true →
      LK.processItems pt items st = .ok (LK.naive items, st)
  | [], _, _ => rfl
  | .lit jt ms :: rest, st, h => by
    simp only [List.all_cons, Bool.and_eq_true] at h
    simp only [LK.processItems, processItems_plain pt rest st h.2, LK.naive]
  | .ref ns :: rest, st, h => by
    simp only [List.all_cons, Bool.and_eq_true] at h
    simp only [LK.processItems, processItems_plain pt rest st h.2, LK.naive]
  | .arr :: rest, st, h => by
    simp only [List.all_cons, Bool.and_eq_true] at h
    simp only [LK.processItems, processItems_plain pt rest st h.2, LK.naive]
  | .obj keys addp ao :: rest, st, h => by
    simp only [List.all_cons, Bool.and_eq_true, plainItem, List.isEmpty_iff] at h
    obtain ⟨h1, h2⟩ := h
    subst h1
    simp only [LK.processItems, LK.extendAll, processItems_plain pt rest st h2, LK.naive]
  | .inh ps :: rest, st, h => by
    simp only [List.all_cons, Bool.and_eq_true, plainItem, List.isEmpty_iff] at h
    obtain ⟨h1, h2⟩ := h
    subst h1
    simp only [LK.processItems, processItems_plain pt rest st h2, LK.naive, LK.inherited, List.nil_append]

mutual
theorem flat_lkN_plain : (x : CN) → (LK.flat (lkN x)).all plainItem = true
  | .lit _ _ => rfl
  | .any _ _ => rfl
  | .ref names _ jt _ _ => by
    simp only [lkN]
    split <;> rfl
  | .arr items _ _ => by
    simp only [lkN, LK.flat, List.all_cons, plainItem, Bool.true_and]
    exact flatItems_lk_plain items
  | .obj props add _ _ => by
    simp only [lkN, LK.flat, List.all_cons, List.all_append, plainItem, List.isEmpty_nil, Bool.true_and, List.all_nil,
      Bool.and_true]
    exact flatProps_lk_plain props
theorem flatItems_lk_plain : (xs : List CN) → (LK.flatItems (lkItems xs)).all plainItem = true
  | [] => rfl
  | x :: xs => by
    simp only [lkItems, LK.flatItems, List.all_append, Bool.and_eq_true]
    exact ⟨flat_lkN_plain x, flatItems_lk_plain xs⟩
theorem flatProps_lk_plain : (xs : List (String × Bool × Bool × Bool × CN)) → (LK.flatProps (lkProps xs)).all plainItem = true
  | [] => rfl
  | (_, _, _, _, x) :: xs => by
    simp only [lkProps, LK.flatProps, List.all_append, Bool.and_eq_true]
    exact ⟨flat_lkN_plain x, flatProps_lk_plain xs⟩
end

/-- no `allOf` anywhere -/
def PlainG (g : LK.G) : Prop :=
  (LK.flat g.root).all plainItem = true ∧ ∀ n body, LK.lookup g n = some body → (LK.flat body).all plainItem = true

/-- what `CompileAllOf` has compiled so far is what was loaded -/
def SInv (g : LK.G) (st : LK.St) : Prop :=
  st.processing = [] ∧
    ∀ n c, st.compiled.lookup n = some c → ∃ body, LK.lookup g n = some body ∧ c = LK.naive (LK.flat body)

theorem processType_plain (g : LK.G) (hp : PlainG g) (f : Nat) (name : String) (st : LK.St) (hst : SInv g st)
    (body : LK.N) (hl : LK.lookup g name = some body) :
    ∃ st', LK.processType g (f + 1) name st = .ok (LK.naive (LK.flat body), st') ∧ SInv g st' := by
  obtain ⟨h1, h2⟩ := hst
  simp only [LK.processType, h1, List.contains_nil, Bool.false_eq_true, if_false, hl]
  cases hc : st.compiled.lookup name with
  | some c =>
    obtain ⟨b, hb, hcb⟩ := h2 name c hc
    rw [hl] at hb
    cases hb
    exact ⟨st, by rw [hcb], h1, h2⟩
  | none =>
    simp only []
    rw [processItems_plain _ _ _ (hp.2 name body hl)]
    refine ⟨_, rfl, ?_, ?_⟩
    · simp
    · intro n c hn
      simp only [List.lookup_cons] at hn
      by_cases he : (n == name) = true
      · simp only [he] at hn
        cases hn
        have : n = name := by simpa using he
        subst this
        exact ⟨body, hl, rfl⟩
      · simp only [Bool.not_eq_true] at he
        simp only [he] at hn
        exact h2 n c hn

theorem processNames_plain (g : LK.G) (hp : PlainG g) (f : Nat) : ∀ (ns : List String) (st : LK.St), SInv g st →
    (∀ n ∈ ns, ∃ body, LK.lookup g n = some body) →
    ∃ st', LK.processNames (LK.processType g (f + 1)) ns st = .ok st' ∧ SInv g st'
  | [], st, hst, _ => ⟨st, rfl, hst⟩
  | n :: ns, st, hst, hns => by
    obtain ⟨body, hl⟩ := hns n (by simp)
    obtain ⟨st1, h1, hst1⟩ := processType_plain g hp f n st hst body hl
    obtain ⟨st2, h2, hst2⟩ := processNames_plain g hp f ns st1 hst1 (fun m hm => hns m (by simp [hm]))
    exact ⟨st2, by simp only [LK.processNames, h1, h2], hst2⟩

/-- the pre-order list `checkType(name)` walks when nothing was copied down -/
def bodyItems (g : LK.G) (n : String) : List LK.CItem :=
  match LK.lookup g n with
  | some body => LK.naive (LK.flat body)
  | none => []

def checkTypesP (g : LK.G) (fuel : Nat) : List String → Except LK.Err Unit
  | [] => .ok ()
  | n :: ns => match LK.checkList g fuel (bodyItems g n) with
    | .error e => .error e
    | .ok _ => checkTypesP g fuel ns

theorem compiledOf_plain (g : LK.G) (st : LK.St) (hst : SInv g st) (n : String) :
    LK.compiledOf g st n = bodyItems g n := by
  simp only [LK.compiledOf, bodyItems]
  cases hc : st.compiled.lookup n with
  | none => rfl
  | some c =>
    obtain ⟨b, hb, hcb⟩ := hst.2 n c hc
    simp only [hb, hcb]

theorem checkTypes_plain (g : LK.G) (fuel : Nat) (st : LK.St) (hst : SInv g st) : ∀ ns : List String,
    LK.checkTypes g fuel st ns = checkTypesP g fuel ns
  | [] => rfl
  | n :: ns => by
    simp only [LK.checkTypes, checkTypesP, compiledOf_plain g st hst n, checkTypes_plain g fuel st hst ns]
    cases LK.checkList g fuel (bodyItems g n) <;> rfl

/-- `LK.linkCheck` on a graph without `allOf` -/
theorem linkCheck_plain (g : LK.G) (hp : PlainG g) (ord : List (List String)) :
    LK.linkCheck g ord =
      (match LK.checkList g (LK.fuelOf g) (LK.naive (LK.flat g.root)) with
       | .error e => .error e
       | .ok _ =>
         match LK.checkOrNodes g ord with
         | .error e => .error e
         | .ok _ => checkTypesP g (LK.fuelOf g) (LK.sortedNames g)) := by
  have hinit : SInv g ⟨[], []⟩ := ⟨rfl, fun n c h => by simp at h⟩
  obtain ⟨st', hpn, hst'⟩ := processNames_plain g hp g.types.length (LK.sortedNames g) ⟨[], []⟩ hinit
    (fun n hn => (LK.mem_sortedNames g n).1 hn)
  simp only [LK.linkCheck, LK.linkCheckF, LK.compileAllOf, LK.fuelOf, processItems_plain _ _ _ hp.1, hpn,
    LK.checkRootSchema, checkTypes_plain g _ st' hst']
  cases LK.checkList g (g.types.length + 1) (LK.naive (LK.flat g.root)) with
  | error e => rfl
  | ok _ => cases LK.checkOrNodes g ord <;> rfl

/-! ### node by node -/

/-- related verdicts: both pass, both name the same missing type, both name the same key shortcut -/
inductive Rel : Except LE Unit → Except LK.Err Unit → Prop
  | ok : Rel (.ok ()) (.ok ())
  | missing (n : String) : Rel (.error (.missing n)) (.error (.missing n))
  | key (k : String) : Rel (.error (.keyNotString k)) (.error (.keyNotString k))

/-- `a`, then `a'` if `a` passed (`seqL`: the same for the verdicts of `LK`) -/
def seqA (a a' : Except LE Unit) : Except LE Unit :=
  match a with
  | .error e => .error e
  | .ok () => a'

def seqL (b b' : Except LK.Err Unit) : Except LK.Err Unit :=
  match b with
  | .error e => .error e
  | .ok _ => b'

theorem rel_seq {a a' : Except LE Unit} {b b' : Except LK.Err Unit} (h : Rel a b) (h' : Rel a' b') :
    Rel (seqA a a') (seqL b b') := by
  cases h with
  | ok => exact h'
  | missing n => exact .missing n
  | key k => exact .key k

/-- the same when the second verdict of the right side is itself followed by a third -/
theorem rel_seq_assoc {a a' : Except LE Unit} {b b' b'' : Except LK.Err Unit} (h : Rel a b) (h' : Rel a' (seqL b' b'')) :
    Rel (seqA a a') (seqL (seqL b b') b'') := by
  cases h with
  | ok => exact h'
  | missing n => exact .missing n
  | key k => exact .key k

theorem rel_inv {a : Except LE Unit} {b : Except LK.Err Unit} (h : Rel a b) :
    (a = .ok () ∧ b = .ok ()) ∨ (∃ n, a = .error (.missing n) ∧ b = .error (.missing n)) ∨
      (∃ k, a = .error (.keyNotString k) ∧ b = .error (.keyNotString k)) := by
  cases h with
  | ok => exact .inl ⟨rfl, rfl⟩
  | missing n => exact .inr (.inl ⟨n, rfl, rfl⟩)
  | key k => exact .inr (.inr ⟨k, rfl, rfl⟩)

theorem lookup_lkTypes (n : String) : ∀ ts : Types,
    ((lkTypes ts).find? (·.1 == n)).map (·.2) = (lookupT ts n).map lkN
  | [] => rfl
  | (m, t) :: ts => by
    simp only [lkTypes, lookupT, List.find?_cons]
    by_cases h : (m == n) = true
    · simp only [h]; rfl
    · simp only [Bool.not_eq_true] at h
      simp only [h]
      exact lookup_lkTypes n ts

theorem lookup_lkOf (root : CN) (ts : Types) (n : String) :
    LK.lookup (lkOf root ts) n = (lookupT ts n).map lkN := lookup_lkTypes n ts

theorem mustAll_rel (root : CN) (ts : Types) : ∀ names : List String,
    Rel (mustAllN ts names) (LK.mustAll (lkOf root ts) names)
  | [] => .ok
  | n :: ns => by
    simp only [mustAllN, LK.mustAll, lookup_lkOf]
    cases lookupT ts n with
    | none => exact .missing n
    | some t => exact mustAll_rel root ts ns

theorem checkList_append (g : LK.G) (F : Nat) : ∀ a b : List LK.CItem,
    LK.checkList g F (a ++ b) = seqL (LK.checkList g F a) (LK.checkList g F b)
  | [], b => rfl
  | c :: cs, b => by
    simp only [List.cons_append, LK.checkList]
    cases LK.checkItem g F c with
    | error e => rfl
    | ok u => exact checkList_append g F cs b

theorem naive_append : ∀ a b : List LK.Item, LK.naive (a ++ b) = LK.naive a ++ LK.naive b
  | [], b => rfl
  | it :: r, b => by cases it <;> simp only [List.cons_append, LK.naive, naive_append r b]

/-- the JSON type of the root of a key type, in both models -/
theorem actual_direct (g : LK.G) (F : Nat) (t : CN) (hd : ∀ names nul jt ex o, t = .ref names nul jt ex o → jt ≠ .mixed) :
    ∃ j, (match t with
          | .ref _ _ jt _ _ => some jt
          | t => t.jt) = some j ∧ LK.actualType g F [] (lkN t) = .ok (jtOf j) := by
  cases t with
  | lit spec bad | any jt l | arr items nul bad | obj props add nul bad => exact ⟨_, rfl, by cases F <;> rfl⟩
  | ref names nul jt ex o =>
    have hne := hd names nul jt ex o rfl
    refine ⟨jt, rfl, ?_⟩
    have : (jt == JT.mixed) = false := by cases jt <;> first | rfl | exact absurd rfl hne
    simp only [lkN, this, Bool.false_eq_true, if_false]
    cases F <;> rfl

theorem jtOf_str (j : Compile.JT) : (jtOf j = LK.JT.str) ↔ j = .str := by
  cases j <;> simp [jtOf]

theorem keys_rel (root : CN) (ts : Types) (f F : Nat) : ∀ props : List (String × Bool × Bool × Bool × CN),
    keysDirect ts props = true →
    Rel (checkKeysN ts (f + 1) props) (LK.checkKeys (lkOf root ts) F (LK.keysOf (lkProps props)))
  | [], _ => .ok
  | (k, sc, r, o, x) :: ps, hk => by
    simp only [keysDirect, Bool.and_eq_true, Bool.or_eq_true, Bool.not_eq_true'] at hk
    obtain ⟨hk1, hk2⟩ := hk
    have ih := keys_rel root ts f F ps hk2
    cases sc with
    | false =>
      simp only [checkKeysN, lkProps, LK.keysOf, List.map_cons, Bool.false_eq_true, if_false, LK.checkKeys]
      exact ih
    | true =>
      have hkd : keyDirect ts k = true := by
        rcases hk1 with h | h
        · cases h
        · exact h
      simp only [checkKeysN, lkProps, LK.keysOf, List.map_cons, if_true, LK.checkKeys, lookup_lkOf]
      cases hl : lookupT ts ("@" ++ k) with
      | none => exact .missing _
      | some t =>
        have hd : ∀ names nul jt ex o, t = .ref names nul jt ex o → jt ≠ .mixed := by
          intro names nul jt ex o ht hj
          subst ht; subst hj
          simp [keyDirect, hl] at hkd
        obtain ⟨j, hj1, hj2⟩ := actual_direct (lkOf root ts) F t hd
        have hroot : actualRoot ts (f + 1) [] ("@" ++ k) = some j := by
          simp only [actualRoot, hl]
          cases t with
          | ref names nul jt ex o =>
            have hne := hd names nul jt ex o rfl
            have : (jt != JT.mixed) = true := by cases jt <;> first | rfl | exact absurd rfl hne
            simp only [this, if_true]
            exact hj1
          | lit spec bad | any jt l | arr items nul bad | obj props add nul bad => exact hj1
        simp only [Option.map_some, Option.isNone_some, Bool.false_eq_true, if_false, hroot, hj2]
        by_cases hs : j = .str
        · subst hs
          simp only [jtOf, bne_self_eq_false, Bool.false_eq_true, if_false, if_true]
          exact ih
        · have h1 : (some j != some JT.str) = true := by
            cases j <;> first | rfl | exact absurd rfl hs
          have h2 : ¬ jtOf j = LK.JT.str := fun h => hs ((jtOf_str j).1 h)
          simp only [h1, if_true, h2, if_false]
          exact .key _

/-- `LK.checkList` on the pre-order list of a node of the abstraction -/
def ckL (g : LK.G) (F : Nat) (x : LK.N) : Except LK.Err Unit := LK.checkList g F (LK.naive (LK.flat x))

mutual
theorem node_rel (root : CN) (ts : Types) (f F : Nat) : (x : CN) → cls ts x = true →
    Rel (checkNodeN ts (f + 1) x) (ckL (lkOf root ts) F (lkN x))
  | .lit spec bad, h => by
    simp only [cls, Bool.and_eq_true, Bool.not_eq_true', Option.isNone_iff_eq_none] at h
    simp only [checkNodeN, h.1, h.2, Bool.false_eq_true, if_false]
    exact .ok
  | .any _ _, _ => .ok
  | .ref names nul jt ex orShort, h => by
    simp only [cls, Bool.and_eq_true] at h
    simp only [checkNodeN, ckL, lkN, h.1, if_true, LK.flat, LK.naive, LK.checkList, LK.checkItem]
    rcases rel_inv (mustAll_rel root ts names) with ⟨ha, hb⟩ | ⟨n, ha, hb⟩ | ⟨k, ha, hb⟩
    · simp only [ha, hb]; exact .ok
    · simp only [ha, hb]; exact .missing n
    · simp only [ha, hb]; exact .key k
  | .arr items nul bad, h => by
    simp only [cls, Bool.and_eq_true, Bool.not_eq_true'] at h
    simp only [checkNodeN, h.1, Bool.false_eq_true, if_false, ckL, lkN, LK.flat, LK.naive, LK.checkList, LK.checkItem]
    exact items_rel root ts f F items h.2
  | .obj props add nul bad, h => by
    simp only [cls, Bool.and_eq_true, Bool.not_eq_true'] at h
    obtain ⟨hb, hk, hp⟩ := h
    have hkeys := keys_rel root ts f F props hk
    have hprops := props_rel root ts f F props hp
    simp only [checkNodeN, hb, Bool.false_eq_true, if_false, ckL, lkN, LK.flat, LK.naive, naive_append,
      List.append_nil, LK.checkList, LK.checkItem]
    refine rel_seq_assoc hkeys ?_
    cases add with
    | type n =>
      simp only [seqL, lookup_lkOf]
      cases hl : lookupT ts n with
      | none => exact .missing n
      | some t => exact hprops
    | absent | notAllowed | any | obj | arr | soft ks => exact hprops
theorem items_rel (root : CN) (ts : Types) (f F : Nat) : (xs : List CN) → clsItems ts xs = true →
    Rel (checkItemsN ts (f + 1) xs) (LK.checkList (lkOf root ts) F (LK.naive (LK.flatItems (lkItems xs))))
  | [], _ => .ok
  | x :: xs, h => by
    simp only [clsItems, Bool.and_eq_true] at h
    simp only [checkItemsN, lkItems, LK.flatItems, naive_append, checkList_append]
    exact rel_seq (node_rel root ts f F x h.1) (items_rel root ts f F xs h.2)
theorem props_rel (root : CN) (ts : Types) (f F : Nat) : (xs : List (String × Bool × Bool × Bool × CN)) →
    clsProps ts xs = true →
    Rel (checkPropsN ts (f + 1) xs) (LK.checkList (lkOf root ts) F (LK.naive (LK.flatProps (lkProps xs))))
  | [], _ => .ok
  | (_, _, _, _, x) :: xs, h => by
    simp only [clsProps, Bool.and_eq_true] at h
    simp only [checkPropsN, lkProps, LK.flatProps, naive_append, checkList_append]
    exact rel_seq (node_rel root ts f F x h.1) (props_rel root ts f F xs h.2)
end

theorem orNodes_rel (root : CN) (ts : Types) : ∀ ord : List (List String),
    Rel (checkOrListsN ts ord) (LK.checkOrNodes (lkOf root ts) ord)
  | [] => .ok
  | l :: ls => by
    simp only [checkOrListsN, LK.checkOrNodes]
    exact rel_seq (mustAll_rel root ts l) (orNodes_rel root ts ls)

theorem types_rel (root : CN) (ts : Types) (f F : Nat) (hc : ∀ n t, lookupT ts n = some t → cls ts t = true) :
    ∀ ns : List String, Rel (checkTypesN ts (f + 1) ns) (checkTypesP (lkOf root ts) F ns)
  | [] => .ok
  | n :: ns => by
    have ih := types_rel root ts f F hc ns
    simp only [checkTypesN, checkTypesP, bodyItems, lookup_lkOf]
    cases hl : lookupT ts n with
    | none => exact ih
    | some t =>
      simp only [Option.map_some]
      exact rel_seq (node_rel root ts f F t (hc n t hl)) ih

theorem lkTypes_names : ∀ ts : Types, (lkTypes ts).map (·.1) = ts.map (·.1)
  | [] => rfl
  | (n, t) :: ts => by simp only [lkTypes, List.map_cons, lkTypes_names ts]

theorem lookupT_mem : ∀ (ts : Types) (n : String) (t : CN), lookupT ts n = some t → (n, t) ∈ ts
  | [], _, _, h => by simp [lookupT] at h
  | (m, u) :: ts, n, t, h => by
    simp only [lookupT, List.find?_cons] at h
    by_cases he : (m == n) = true
    · simp only [he, Option.map_some, Option.some.injEq] at h
      have : m = n := by simpa using he
      subst this; subst h
      simp
    · simp only [Bool.not_eq_true] at he
      simp only [he] at h
      exact List.mem_cons_of_mem _ (lookupT_mem ts n t h)

theorem plainG_lkOf (root : CN) (ts : Types) : PlainG (lkOf root ts) := by
  refine ⟨flat_lkN_plain root, ?_⟩
  intro n body hl
  rw [lookup_lkOf] at hl
  cases h : lookupT ts n with
  | none => rw [h] at hl; cases hl
  | some t =>
    rw [h] at hl
    simp only [Option.map_some, Option.some.injEq] at hl
    subst hl
    exact flat_lkN_plain t

/-- the two models of the link check give related verdicts on the class `clsAll` -/
theorem models_rel (root : CN) (ts : Types) (hn : (ts.map (·.1)).Nodup) (hc : clsAll root ts = true) :
    Rel (checkRootN root ts) (LK.linkCheck (lkOf root ts) (ordOf ts)) := by
  simp only [clsAll, Bool.and_eq_true, List.all_eq_true] at hc
  obtain ⟨hroot, htypes⟩ := hc
  have hct : ∀ n t, lookupT ts n = some t → cls ts t = true :=
    fun n t h => htypes (n, t) (lookupT_mem ts n t h)
  rw [linkCheck_plain _ (plainG_lkOf root ts)]
  have hfuel : ∃ f, checkFuel (some root) ts = f + 1 := ⟨ts.length + 1 + 2 * (namesCount root + (ts.map fun t => namesCount t.2).sum), by
    simp only [checkFuel]; omega⟩
  obtain ⟨f, hf⟩ := hfuel
  have hsorted : LK.sortedNames (lkOf root ts) = sortNames (ts.map (·.1)) := by
    simp only [LK.sortedNames, lkOf, lkTypes_names]
    exact (sortNames_eq _ hn).symm
  have hrt : (lkOf root ts).root = lkN root := rfl
  simp only [checkRootN, hf, hsorted, hrt]
  have h1 := node_rel root ts f (LK.fuelOf (lkOf root ts)) root hroot
  have h2 := orNodes_rel root ts (ordOf ts)
  have h3 := types_rel root ts f (LK.fuelOf (lkOf root ts)) hct (sortNames (ts.map (·.1)))
  exact rel_seq h1 (rel_seq h2 h3)

/-- … in the common vocabulary -/
theorem models_agree (root : CN) (ts : Types) (hn : (ts.map (·.1)).Nodup) (hc : clsAll root ts = true) :
    vA (checkRootN root ts) = vL (LK.linkCheck (lkOf root ts) (ordOf ts)) := by
  rcases rel_inv (models_rel root ts hn hc) with ⟨ha, hb⟩ | ⟨m, ha, hb⟩ | ⟨k, ha, hb⟩
  · rw [ha, hb]; rfl
  · rw [ha, hb]; rfl
  · rw [ha, hb]; rfl

end CL
