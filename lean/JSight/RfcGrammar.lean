import JSight.TreeEvents
import JSight.Sim
/-!
C05, "⇐" against the grammar itself: every text the RFC 8259 grammar generates — a value tree whose scalars are
grammar tokens (string = quote *char quote, number = [-] int [frac] [exp], true / false / null), with any layout
(ws) at every place the grammar allows it — is accepted by the recogniser `Rfc.accepts` (and hence, with
`C05_check_iff_rfc`, by the scanner model). No bound on size or depth.

Tokens are not walked a second time: that a grammar token drives the scanner's token automaton to a complete scalar is
`JsonScan.string_isScalar` / `number_isScalar` / `string_isKey` (`TreeEvents`), and inside a token the recogniser follows
that automaton byte by byte (`sim_silent`, from the step simulation `Sim.sim_step`); layout and the containers are walked
on the recogniser itself.
-/
namespace RfcG
open JsonScan (Cls JA IsWs StrBody NumTok IsDigits renderItems renderMembers)
open Rfc

/-- a scalar token of the grammar, on byte classes -/
inductive GTok : List Cls → Prop
  | str (b : List Cls) : StrBody b → GTok (.quote :: (b ++ [.quote]))
  | num (t : NumTok) : t.WF → GTok t.render
  | wtrue : GTok [.lt, .lr, .lu, .le]
  | wfalse : GTok [.lf, .la, .ll, .ls, .le]
  | wnull : GTok [.ln, .lu, .ll, .ll]

def GKey (k : List Cls) : Prop := ∃ b, StrBody b ∧ k = .quote :: (b ++ [.quote])

mutual
def GValid : JA → Prop
  | .scalar tok => GTok tok
  | .arr ws0 items => IsWs ws0 ∧ GItems items
  | .obj ws0 members => IsWs ws0 ∧ GMembers members
def GItems : List (List Cls × JA × List Cls) → Prop
  | [] => True
  | (w1, v, w2) :: its => IsWs w1 ∧ GValid v ∧ IsWs w2 ∧ GItems its
def GMembers : List (List Cls × List Cls × List Cls × List Cls × JA × List Cls) → Prop
  | [] => True
  | (w1, k, w2, w3, v, w4) :: ms => IsWs w1 ∧ GKey k ∧ IsWs w2 ∧ IsWs w3 ∧ GValid v ∧ IsWs w4 ∧ GMembers ms
end

theorem run_append (r : RCfg) (a b : List Cls) : run r (a ++ b) = (run r a).bind (fun r' => run r' b) := by
  induction a generalizing r with
  | nil => rfl
  | cons c cs ih =>
    simp only [List.cons_append, run]
    cases step r c with
    | none => rfl
    | some r' => exact ih r'

theorem run_append_of {r r' : RCfg} {a : List Cls} (h : run r a = some r') (b : List Cls) : run r (a ++ b) = run r' b := by
  rw [run_append, h]; rfl

/-- a complete value has been read: `.after`, or a number in a final state -/
def Done (r : RCfg) : Prop := r.st = .after ∨ ∃ n, r.st = .num n ∧ n.final = true

/-- states in which a value may begin -/
def VSt (s : RSt) : Prop := s = .value ∨ s = .arrFirst

theorem ws_loop (st : RSt) (h : st = .value ∨ st = .arrFirst ∨ st = .objFirst ∨ st = .key ∨ st = .colon ∨ st = .after)
    (ctx : List Ctx) (ws : List Cls) (hw : IsWs ws) : run ⟨st, ctx⟩ ws = some ⟨st, ctx⟩ := by
  induction ws with
  | nil => rfl
  | cons c cs ih =>
    have hc := hw c (by simp)
    have : step ⟨st, ctx⟩ c = some ⟨st, ctx⟩ := by
      rcases JsonScan.Cls.eq_of_isWs hc with rfl | rfl <;> rcases h with rfl | rfl | rfl | rfl | rfl | rfl <;> rfl
    simp only [run, this]
    exact ih (fun x hx => hw x (by simp [hx]))

theorem done_step (r : RCfg) (h : Done r) (c : Cls)
    (hc : c = .sp ∨ c = .wsctl ∨ c = .comma ∨ c = .rbrack ∨ c = .rbrace) : step r c = afterValue r.ctx c := by
  obtain ⟨st, ctx⟩ := r
  rcases h with h | ⟨n, h, hf⟩
  · simp only at h; subst h; rfl
  · simp only at h; subst h
    cases n <;> simp [Num.final] at hf <;> rcases hc with rfl | rfl | rfl | rfl | rfl <;> rfl

theorem done_ws (r : RCfg) (h : Done r) (ws : List Cls) (hw : IsWs ws) :
    ∃ r', Done r' ∧ r'.ctx = r.ctx ∧ run r ws = some r' := by
  cases ws with
  | nil => exact ⟨r, h, rfl, rfl⟩
  | cons c cs =>
    have hc := hw c (by simp)
    have hs : step r c = some ⟨.after, r.ctx⟩ := by
      rcases JsonScan.Cls.eq_of_isWs hc with rfl | rfl
      · rw [done_step r h .sp (.inl rfl)]; rfl
      · rw [done_step r h .wsctl (.inr (.inl rfl))]; rfl
    refine ⟨⟨.after, r.ctx⟩, Or.inl rfl, rfl, ?_⟩
    simp only [run, hs]
    exact ws_loop .after (by simp) r.ctx cs (fun x hx => hw x (by simp [hx]))

/-! ### tokens: the recogniser reads a token as the scanner's token automaton does (`Sim.R`) -/

section tokens
open JsonScan (silent silentRun silent_step PV litStart IsScalar)
open Sim (R LitSt KeySt inside)

/-- a byte of the token automaton is a step of the recogniser, in every related pair -/
theorem sim_silent {r : RCfg} {m : JsonScan.Cfg} (hR : R r m) {c : Cls} {st' : JsonScan.St} {unf' : Bool}
    (hs : silent m.st m.unf c = some (st', unf')) :
    ∃ r', step r c = some r' ∧ R r' { m with st := st', unf := unf' } := by
  have hf : JsonScan.feed false m c = .ok (.cont { m with st := st', unf := unf' }) := by
    simp [JsonScan.feed, silent_step false m.st m.unf c st' unf' hs m.stack, JsonScan.applyFinds, bind, Except.bind, pure,
      Except.pure]
  rcases Sim.sim_step false hR c with ⟨r', m', h1, h2, h3⟩ | ⟨_, ⟨_, h2⟩ | ⟨_, _, h2⟩⟩
  · rw [hf] at h2; cases h2; exact ⟨r', h1, h3⟩
  · rw [hf] at h2; cases h2
  · rw [hf] at h2; cases h2

theorem run_silent : ∀ (tl : List Cls) {r : RCfg} {m : JsonScan.Cfg}, R r m → ∀ {stE : JsonScan.St} {unfE : Bool},
    silentRun m.st m.unf tl = some (stE, unfE) → ∃ r', run r tl = some r' ∧ R r' { m with st := stE, unf := unfE }
  | [], r, m, hR, _, _, h => by
    simp only [silentRun, Option.some.injEq, Prod.mk.injEq] at h
    obtain ⟨rfl, rfl⟩ := h
    exact ⟨r, rfl, hR⟩
  | c :: cs, r, m, hR, stE, unfE, h => by
    simp only [silentRun] at h
    cases hs : silent m.st m.unf c with
    | none => rw [hs] at h; cases h
    | some p =>
      obtain ⟨s1, u1⟩ := p
      rw [hs] at h
      obtain ⟨r1, e1, hR1⟩ := sim_silent hR hs
      obtain ⟨r', e2, hR'⟩ := run_silent cs hR1 h
      exact ⟨r', by simp only [run, e1]; exact e2, hR'⟩

/-- a complete scalar on the scanner's stack: the recogniser has read a value -/
theorem done_of_R {r : RCfg} {m : JsonScan.Cfg} (hR : R r m) {k : List Ctx} (hs : m.stack = .litB :: inside k)
    (hp : PV m.st = true) : Done r ∧ r.ctx = k := by
  cases hR <;> simp only [Sim.mk, JsonScan.Cfg.init, List.cons.injEq, reduceCtorEq, false_and, true_and] at hs hp
  case lit k' _ _ _ h =>
    cases Sim.inside_inj hs
    cases h <;> first | exact ⟨Or.inr ⟨_, rfl, rfl⟩, rfl⟩ | cases hp
  case afterLit k' => cases Sim.inside_inj hs; exact ⟨Or.inl rfl, rfl⟩
  case afterCont k' => rcases k' with _ | ⟨x, k'⟩ <;> first | cases hs | (cases x <;> cases hs)
  all_goals cases hs

/-- a complete key on the scanner's stack: the recogniser expects the colon -/
theorem colon_of_R {r : RCfg} {m : JsonScan.Cfg} (hR : R r m) {k : List Ctx} (hs : m.stack = .keyB :: .objB :: inside k)
    (hst : m.st = .endValue) : r = ⟨.colon, .obj :: k⟩ := by
  cases hR <;> simp only [Sim.mk, JsonScan.Cfg.init, List.cons.injEq, reduceCtorEq, false_and, true_and] at hs hst
  case keyStr k' _ _ h => cases h <;> cases hst
  case colonE k' => cases Sim.inside_inj hs; rfl
  case afterCont k' => rcases k' with _ | ⟨x, k'⟩ <;> first | cases hs | (cases x <;> cases hs)
  all_goals first | cases hs | cases hst

theorem key_run (k : List Ctx) (b : List Cls) (hb : StrBody b) :
    run ⟨.str true, .obj :: k⟩ (b ++ [.quote]) = some ⟨.colon, .obj :: k⟩ := by
  obtain ⟨tl, e, hr⟩ := JsonScan.string_isKey b hb
  cases e
  obtain ⟨r, e, hR⟩ := run_silent _ (R.keyStr k KeySt.str) hr
  rw [e, colon_of_R hR rfl rfl]

theorem tok_run (st : RSt) (hst : VSt st) (ctx : List Ctx) (tok : List Cls) (h : GTok tok) :
    ∃ r, Done r ∧ r.ctx = ctx ∧ run ⟨st, ctx⟩ tok = some r := by
  obtain ⟨c, tl, st0, unf0, stE, rfl, hs, hr, hp⟩ : IsScalar tok := by
    cases h with
    | str b hb => exact JsonScan.string_isScalar b hb
    | num t wf => exact JsonScan.number_isScalar t wf
    | wtrue => exact JsonScan.true_isScalar
    | wfalse => exact JsonScan.false_isScalar
    | wnull => exact JsonScan.null_isScalar
  obtain ⟨rst0, hl, e0⟩ : ∃ rst0, LitSt st0 unf0 rst0 ∧ step ⟨st, ctx⟩ c = some ⟨rst0, ctx⟩ := by
    rcases hst with rfl | rfl <;> cases c <;> simp only [litStart, Option.some.injEq, Prod.mk.injEq, reduceCtorEq] at hs <;>
      obtain ⟨rfl, rfl⟩ := hs <;> exact ⟨_, by constructor, rfl⟩
  obtain ⟨r, e, hR⟩ := run_silent tl (R.lit ctx hl) hr
  obtain ⟨hd, hc⟩ := done_of_R hR rfl hp
  exact ⟨r, hd, hc, by simp only [run, e0]; exact e⟩

end tokens

/-! ### values -/

mutual
theorem value_run : (v : JA) → GValid v → (st : RSt) → VSt st → (ctx : List Ctx) →
    ∃ r, Done r ∧ r.ctx = ctx ∧ run ⟨st, ctx⟩ v.render = some r
  | .scalar tok, hv, st, hst, ctx => tok_run st hst ctx tok (by simpa [GValid] using hv)
  | .arr ws0 items, hv, st, hst, ctx => by
    obtain ⟨hw0, hi⟩ : IsWs ws0 ∧ GItems items := by simpa [GValid] using hv
    refine ⟨⟨.after, ctx⟩, Or.inl rfl, rfl, ?_⟩
    have e0 : step ⟨st, ctx⟩ .lbrack = some ⟨.arrFirst, .arr :: ctx⟩ := by rcases hst with rfl | rfl <;> rfl
    simp only [JA.render, run, e0]
    rw [run_append_of (ws_loop .arrFirst (by simp) _ ws0 hw0)]
    exact items_run items hi .arrFirst (Or.inl rfl) ctx
  | .obj ws0 members, hv, st, hst, ctx => by
    obtain ⟨hw0, hi⟩ : IsWs ws0 ∧ GMembers members := by simpa [GValid] using hv
    refine ⟨⟨.after, ctx⟩, Or.inl rfl, rfl, ?_⟩
    have e0 : step ⟨st, ctx⟩ .lbrace = some ⟨.objFirst, .obj :: ctx⟩ := by rcases hst with rfl | rfl <;> rfl
    simp only [JA.render, run, e0]
    rw [run_append_of (ws_loop .objFirst (by simp) _ ws0 hw0)]
    exact members_run members hi .objFirst (Or.inl rfl) ctx
theorem items_run : (its : List (List Cls × JA × List Cls)) → GItems its → (st : RSt) →
    (st = .arrFirst ∨ (st = .value ∧ its ≠ [])) → (k : List Ctx) →
    run ⟨st, .arr :: k⟩ (renderItems its) = some ⟨.after, k⟩
  | [], _, st, hst, k => by
    rcases hst with rfl | ⟨_, h⟩
    · rfl
    · exact absurd rfl h
  | (w1, v, w2) :: its, hv, st, hst, k => by
    obtain ⟨h1, hvv, h2, hits⟩ : IsWs w1 ∧ GValid v ∧ IsWs w2 ∧ GItems its := by simpa [GItems] using hv
    have hvs : VSt st := by rcases hst with rfl | ⟨rfl, _⟩ <;> simp [VSt]
    simp only [renderItems]
    rw [run_append_of (ws_loop st (by rcases hvs with rfl | rfl <;> simp) _ w1 h1)]
    obtain ⟨r, hd, hc, e⟩ := value_run v hvv st hvs (.arr :: k)
    rw [run_append_of e]
    obtain ⟨r', hd', hc', e'⟩ := done_ws r hd w2 h2
    rw [run_append_of e']
    have hctx : r'.ctx = .arr :: k := hc'.trans hc
    cases its with
    | nil =>
      simp only [List.isEmpty_nil, if_true, List.nil_append, renderItems, run]
      rw [done_step r' hd' .rbrack (by simp), hctx]; rfl
    | cons it its' =>
      simp only [List.isEmpty_cons, Bool.false_eq_true, if_false, List.cons_append, List.nil_append, run]
      rw [done_step r' hd' .comma (by simp), hctx]
      exact items_run (it :: its') hits .value (Or.inr ⟨rfl, by simp⟩) k
theorem members_run : (ms : List (List Cls × List Cls × List Cls × List Cls × JA × List Cls)) → GMembers ms → (st : RSt) →
    (st = .objFirst ∨ (st = .key ∧ ms ≠ [])) → (k : List Ctx) →
    run ⟨st, .obj :: k⟩ (renderMembers ms) = some ⟨.after, k⟩
  | [], _, st, hst, k => by
    rcases hst with rfl | ⟨_, h⟩
    · rfl
    · exact absurd rfl h
  | (w1, key, w2, w3, v, w4) :: ms, hv, st, hst, k => by
    obtain ⟨h1, ⟨b, hb, rfl⟩, h2, h3, hvv, h4, hms⟩ :
      IsWs w1 ∧ GKey key ∧ IsWs w2 ∧ IsWs w3 ∧ GValid v ∧ IsWs w4 ∧ GMembers ms := by simpa [GMembers] using hv
    have hks : st = .objFirst ∨ st = .key := by rcases hst with rfl | ⟨rfl, _⟩ <;> simp
    simp only [renderMembers]
    rw [run_append_of (ws_loop st (by rcases hks with rfl | rfl <;> simp) _ w1 h1)]
    have e0 : step ⟨st, .obj :: k⟩ .quote = some ⟨.str true, .obj :: k⟩ := by rcases hks with rfl | rfl <;> rfl
    have ek : run ⟨st, .obj :: k⟩ (.quote :: (b ++ [.quote])) = some ⟨.colon, .obj :: k⟩ := by
      simp only [run, e0]; exact key_run k b hb
    rw [run_append_of ek, run_append_of (ws_loop .colon (by simp) _ w2 h2)]
    have ec : step ⟨.colon, .obj :: k⟩ .colon = some ⟨.value, .obj :: k⟩ := rfl
    simp only [run, ec]
    rw [run_append_of (ws_loop .value (by simp) _ w3 h3)]
    obtain ⟨r, hd, hc, e⟩ := value_run v hvv .value (Or.inl rfl) (.obj :: k)
    rw [run_append_of e]
    obtain ⟨r', hd', hc', e'⟩ := done_ws r hd w4 h4
    rw [run_append_of e']
    have hctx : r'.ctx = .obj :: k := hc'.trans hc
    cases ms with
    | nil =>
      simp only [List.isEmpty_nil, if_true, List.nil_append, renderMembers, run]
      rw [done_step r' hd' .rbrace (by simp), hctx]; rfl
    | cons m ms' =>
      simp only [List.isEmpty_cons, Bool.false_eq_true, if_false, List.cons_append, List.nil_append, run]
      rw [done_step r' hd' .comma (by simp), hctx]
      exact members_run (m :: ms') hms .key (Or.inr ⟨rfl, by simp⟩) k
end

/-- **every text of the RFC 8259 grammar is accepted** (classes level) -/
theorem grammar_accepted (v : JA) (hv : GValid v) (ws0 ws1 : List Cls) (h0 : IsWs ws0) (h1 : IsWs ws1) :
    acceptsC (ws0 ++ (v.render ++ ws1)) = true := by
  unfold acceptsC RCfg.init
  rw [run_append_of (ws_loop .value (by simp) [] ws0 h0)]
  obtain ⟨r, hd, hc, e⟩ := value_run v hv .value (Or.inl rfl) []
  rw [run_append_of e]
  obtain ⟨r', hd', hc', e'⟩ := done_ws r hd ws1 h1
  rw [e']
  have hctx : r'.ctx = [] := hc'.trans hc
  obtain ⟨st, ctx⟩ := r'
  simp only at hctx; subst hctx
  rcases hd' with h | ⟨n, h, hf⟩
  · simp only at h; subst h; rfl
  · simp only at h; subst h; simp [accepting, hf]

end RfcG
