import JSight.LoaderShortcut
import JSight.ListFacts
/-!
The loader on the events of one VALUE, stated on event lists (no tree type): what the events of a literal, a type
shortcut, an array, an object do to the node table, given what the events of the children do.

* `NL evs` — line-break events only (what any layout, blanks or user comments, delivers): the loader ignores them;
* `Value src evs nodes` — `evs` are the events of one value whose table is `nodes par n` when its root gets index `n`
  and parent `par`: run from the container that waits for it, or as the root;
* `Items` / `Members` — the events of the remaining items / members up to the closing bracket.

`Value.lit`, `Value.short`, `Items.nil/cons/value`, `Members.nil/cons/value` are the grammar.  A tree type proves, by
structural induction with no loader state in sight, that its events are built by these rules and that the tables agree.
-/
namespace Loader
open SchemaScan (Ev LexT)

def NL (evs : List Ev) : Prop := ∀ e ∈ evs, e.ty = .newLine

theorem NL.nil : NL [] := fun _ h => nomatch h

theorem NL.append {a b : List Ev} (ha : NL a) (hb : NL b) : NL (a ++ b) := fun e he =>
  (List.mem_append.mp he).elim (ha e) (hb e)

theorem NL.run {src : Array UInt8} : ∀ {evs : List Ev}, NL evs → ∀ (L : List Node) (l r : Option Nat),
    Run src evs L l r L l r
  | [], _, L, l, r => Run.nil src L l r
  | ⟨ty, x, y⟩ :: es, h, L, l, r => by
    obtain rfl : ty = .newLine := h _ List.mem_cons_self
    exact Run.cons (step_newLine src x y L l r) (NL.run (fun e he => h e (List.mem_cons_of_mem _ he)) L l r)

/-- `evs` are the events of one value with table `nodes par n` -/
structure Value (src : Array UInt8) (evs : List Ev) (nodes : Option Nat → Nat → List Node) : Prop where
  child : ∀ (a : Nat) (nw : Node) (L : List Node) (r : Option Nat), L[a]? = some nw →
    (nw.kind = .arr ∨ nw.kind = .obj) → nw.waiting = true →
    Run src evs L (some a) r
      (L.set a { nw with waiting := false, children := nw.children ++ [L.length] } ++ nodes (some a) L.length)
      (some a) r
  root : Run src evs [] none none (nodes none 0) none (some 0)

/-- the events of a value after the opening event has created its node of kind `k` -/
def Body (src : Array UInt8) (k : NK) (evs : List Ev) (nodes : Option Nat → Nat → List Node) : Prop :=
  ∀ (par : Option Nat) (L0 : List Node) (r : Option Nat),
    Run src evs (L0 ++ [fresh k par]) (some L0.length) r (L0 ++ nodes par L0.length) par r

def Items (src : Array UInt8) (evs : List Ev) (idx : Nat → List Nat) (nodes : Nat → Nat → List Node) : Prop :=
  ∀ (a : Nat) (na : Node) (L : List Node) (r : Option Nat), L[a]? = some na → na.kind = .arr → na.waiting = false →
    Run src evs L (some a) r (L.set a { na with children := na.children ++ idx L.length } ++ nodes a L.length)
      na.parent r

/-- `keys`: the key entries these members add; they must differ from each other and from the object's earlier keys -/
def Members (src : Array UInt8) (evs : List Ev) (idx : Nat → List Nat) (keys : List (Nat × Nat × Bool))
    (nodes : Nat → Nat → List Node) : Prop :=
  ∀ (a : Nat) (na : Node) (L : List Node) (r : Option Nat), L[a]? = some na → na.kind = .obj → na.waiting = false →
    ((na.keys ++ keys).map (keyText src)).Nodup →
    Run src evs L (some a) r
      (L.set a { na with children := na.children ++ idx L.length, keys := na.keys ++ keys } ++ nodes a L.length)
      na.parent r

variable {src : Array UInt8}

theorem Value.cast {evs evs' : List Ev} {nodes nodes' : Option Nat → Nat → List Node} (h : Value src evs nodes)
    (he : evs = evs') (hn : ∀ par n, nodes par n = nodes' par n) : Value src evs' nodes' := by
  obtain rfl : nodes = nodes' := funext fun par => funext (hn par)
  exact he ▸ h

theorem Items.cast {evs evs' : List Ev} {idx idx' : Nat → List Nat} {nodes nodes' : Nat → Nat → List Node}
    (h : Items src evs idx nodes) (he : evs = evs') (hi : ∀ n, idx n = idx' n) (hn : ∀ a n, nodes a n = nodes' a n) :
    Items src evs' idx' nodes' := by
  obtain rfl : nodes = nodes' := funext fun a => funext (hn a)
  obtain rfl : idx = idx' := funext hi
  exact he ▸ h

theorem Members.cast {evs evs' : List Ev} {idx idx' : Nat → List Nat} {keys keys' : List (Nat × Nat × Bool)}
    {nodes nodes' : Nat → Nat → List Node} (h : Members src evs idx keys nodes) (he : evs = evs')
    (hi : ∀ n, idx n = idx' n) (hk : keys = keys') (hn : ∀ a n, nodes a n = nodes' a n) :
    Members src evs' idx' keys' nodes' := by
  obtain rfl : nodes = nodes' := funext fun a => funext (hn a)
  obtain rfl : idx = idx' := funext hi
  exact he ▸ hk ▸ h

/-- the opening event creates the node: below the container that waits, or as the root -/
theorem Body.value {k : NK} {e : Ev} {evs : List Ev} {nodes : Option Nat → Nat → List Node}
    (hp : plainTy e.ty = true) (hk : kindOfLex e.ty = some k) (h : Body src k evs nodes) :
    Value src (e :: evs) nodes where
  child a nw L r hn hkd hw := by
    have h2 := h (some a) (L.set a { nw with waiting := false, children := nw.children ++ [L.length] }) r
    rw [List.length_set] at h2
    exact Run.cons (R_create src e k a nw L r hp hk hn hkd hw) h2
  root := (Run.cons (R_root src e k hp hk [] none) (h none [] (some 0))).cast rfl (by simp) rfl

theorem Value.lit (x y b e : Nat) :
    Value src [⟨.litB, x, y⟩, ⟨.litE, b, e⟩] (fun par _ => [{ kind := .lit, parent := par, value := some (b, e) }]) :=
  Body.value (k := .lit) rfl rfl fun par L0 r =>
    (Grows.upd List.getElem?_concat_length (.litE b e rfl) r).cast rfl
      (by rw [List.set_append_cons_length]; rfl) rfl

/-- a type shortcut in value position: the synthesised rule goes to the node created last, not to the leaf -/
theorem Value.short (o e e' : Nat) :
    Value src [⟨.mixB, o, o⟩, ⟨.tsB, o, o⟩, ⟨.tsE, o, e⟩, ⟨.mixE, o, e'⟩]
      (fun par _ => [shortNode par o e e' (shortRule src o e)]) where
  child a nw L r hn hk hw := short_nested_run src o e e' a nw L r hn hk hw
  root := short_root_run src o e e'

theorem Items.nil (x y : Nat) : Items src [⟨.arrE, x, y⟩] (fun _ => []) (fun _ _ => []) :=
  fun a na L r hn hk hw => (Grows.noop hn (.arrE x y hk hw) r).cast rfl (by simp [set_same L a na hn]) rfl

/-- layout and `item-begin`: the array waits for the item's value -/
theorem item_pre {w1 : List Ev} (h1 : NL w1) (x y a : Nat) (na : Node) (L : List Node) (r : Option Nat)
    (hn : L[a]? = some na) (hk : na.kind = .arr) (hw : na.waiting = false) :
    Run src (w1 ++ [⟨.itemB, x, y⟩]) L (some a) r (L.set a { na with waiting := true }) (some a) r :=
  Run.trans (h1.run L (some a) r) (Grows.upd hn (.itemB x y hk hw) r)

/-- one item: the array has one more child and does not wait -/
theorem item_run {w1 w2 cev : List Ev} {cn : Option Nat → Nat → List Node} (x y x' y' : Nat) (h1 : NL w1)
    (hv : Value src cev cn) (h2 : NL w2) (a : Nat) (na : Node) (L : List Node) (r : Option Nat)
    (hn : L[a]? = some na) (hk : na.kind = .arr) (hw : na.waiting = false) :
    Run src (w1 ++ ⟨.itemB, x, y⟩ :: (cev ++ ⟨.itemE, x', y'⟩ :: w2)) L (some a) r
      (L.set a (addChild na L.length) ++ cn (some a) L.length) (some a) r := by
  obtain ⟨hlt, _⟩ := List.getElem?_eq_some_iff.mp hn
  have s2 := hv.child a { na with waiting := true } (L.set a { na with waiting := true }) r (by simp [hlt])
    (Or.inl hk) rfl
  rw [List.set_set, List.length_set, node_wait_eta na hw] at s2
  have s3 := Run.cons (Grows.noop (src := src) (getElem?_set_append L (cn (some a) L.length) a (addChild na L.length) hlt) (.itemE x' y' hk hw) r) (h2.run _ (some a) r)
  exact (Run.trans (item_pre h1 x y a na L r hn hk hw) (Run.trans s2 s3)).cast (by simp) rfl rfl

/-- one item (`c` nodes), then the rest. Trap: give `cn`, `idx`, `nodes`, `c` explicitly at a call; left to unification
against a goal that mentions a recursive table function (`nodesItems` …), they make Lean unfold that function. -/
theorem Items.cons {w1 w2 cev rest : List Ev} {cn : Option Nat → Nat → List Node} {idx : Nat → List Nat}
    {nodes : Nat → Nat → List Node} {c : Nat} (x y x' y' : Nat) (h1 : NL w1) (hv : Value src cev cn)
    (hc : ∀ par n, (cn par n).length = c) (h2 : NL w2) (hr : Items src rest idx nodes) :
    Items src (w1 ++ ⟨.itemB, x, y⟩ :: (cev ++ ⟨.itemE, x', y'⟩ :: (w2 ++ rest)))
      (fun n => n :: idx (n + c)) (fun a n => cn (some a) n ++ nodes a (n + c)) := by
  intro a na L r hn hk hw
  obtain ⟨hlt, _⟩ := List.getElem?_eq_some_iff.mp hn
  have s4 := hr a _ _ r (getElem?_set_append L (cn (some a) L.length) a (addChild na L.length) hlt) hk hw
  refine (Run.trans (item_run x y x' y' h1 hv h2 a na L r hn hk hw) s4).cast (by simp) ?_ rfl
  rw [List.set_append_left _ _ (by simp [hlt]), List.set_set]
  simp only [addChild, List.length_append, List.length_set, hc, List.append_assoc, List.cons_append,
    List.nil_append]

theorem Items.value {w evs : List Ev} {idx : Nat → List Nat} {nodes : Nat → Nat → List Node} (b : Ev)
    (hb : b.ty = .arrB) (hw : NL w) (h : Items src evs idx nodes) :
    Value src (b :: (w ++ evs))
      (fun par n => { kind := .arr, parent := par, children := idx (n + 1) } :: nodes n (n + 1)) :=
  Body.value (k := .arr) (by rw [hb]; rfl) (by rw [hb]; rfl) fun par L0 r =>
    (Run.trans (hw.run _ _ r) (h L0.length (fresh .arr par) (L0 ++ [fresh .arr par]) r List.getElem?_concat_length rfl rfl)).cast
      rfl (by rw [List.set_append_cons_length]; simp [fresh]) rfl

theorem Members.nil (x y : Nat) : Members src [⟨.objE, x, y⟩] (fun _ => []) [] (fun _ _ => []) :=
  fun a na L r hn hk hw _ => (Grows.noop hn (.objE x y hk hw) r).cast rfl (by simp [set_same L a na hn]) rfl

/-- layout, the key (new among the object's keys), the colon: the object waits for the member's value -/
theorem member_pre {w1 w2 w3 : List Ev} (h1 : NL w1) (h2 : NL w2) (h3 : NL w3) (x y kb ke vx vy a : Nat) (na : Node)
    (L : List Node) (r : Option Nat) (hn : L[a]? = some na) (hk : na.kind = .obj) (hw : na.waiting = false)
    (hany : na.keys.any (fun k' => keyText src k' == keyText src (kb, ke, false)) = false) :
    Run src (w1 ++ ⟨.keyB, x, y⟩ :: ⟨.keyE, kb, ke⟩ :: (w2 ++ (w3 ++ [⟨.valB, vx, vy⟩]))) L (some a) r
      (L.set a { ({ na with keys := na.keys ++ [(kb, ke, false)] } : Node) with waiting := true }) (some a) r := by
  obtain ⟨hlt, _⟩ := List.getElem?_eq_some_iff.mp hn
  have hn1 : (L.set a { na with keys := na.keys ++ [(kb, ke, false)] })[a]?
      = some { na with keys := na.keys ++ [(kb, ke, false)] } := by simp [hlt]
  have s1 := Run.trans (h1.run L (some a) r) (Run.cons (Grows.noop hn (.keyB x y hk hw) r)
    (Run.cons (Grows.upd hn (.keyE kb ke hk hw hany) r) (Run.trans (h2.run _ (some a) r) (Run.trans (h3.run _ (some a) r)
      (Grows.upd hn1 (.valB vx vy hk hw) r)))))
  rw [List.set_set] at s1
  exact s1

/-- one member: the object has one more key and child and does not wait -/
theorem member_run {w1 w2 w3 w4 cev : List Ev} {cn : Option Nat → Nat → List Node} (x y kb ke vx vy x' y' : Nat)
    (h1 : NL w1) (h2 : NL w2) (h3 : NL w3) (hv : Value src cev cn) (h4 : NL w4) (a : Nat) (na : Node) (L : List Node)
    (r : Option Nat) (hn : L[a]? = some na) (hk : na.kind = .obj) (hw : na.waiting = false)
    (hany : na.keys.any (fun k' => keyText src k' == keyText src (kb, ke, false)) = false) :
    Run src (w1 ++ ⟨.keyB, x, y⟩ :: ⟨.keyE, kb, ke⟩ :: (w2 ++ (w3 ++ ⟨.valB, vx, vy⟩ :: (cev ++ ⟨.valE, x', y'⟩ :: w4))))
      L (some a) r (L.set a (addMember na L.length (kb, ke, false)) ++ cn (some a) L.length) (some a) r := by
  obtain ⟨hlt, _⟩ := List.getElem?_eq_some_iff.mp hn
  have s2 := hv.child a { ({ na with keys := na.keys ++ [(kb, ke, false)] } : Node) with waiting := true }
    (L.set a { ({ na with keys := na.keys ++ [(kb, ke, false)] } : Node) with waiting := true }) r (by simp [hlt])
    (Or.inr hk) rfl
  rw [List.set_set, List.length_set, node_wait_eta2 na hw] at s2
  have s3 := Run.cons (Grows.noop (src := src)
    (getElem?_set_append L (cn (some a) L.length) a (addMember na L.length (kb, ke, false)) hlt) (.valE x' y' hk hw) r) (h4.run _ (some a) r)
  exact (Run.trans (member_pre h1 h2 h3 x y kb ke vx vy a na L r hn hk hw hany) (Run.trans s2 s3)).cast (by simp) rfl
    rfl

/-- one member (key token `[kb:ke]`, value of `c` nodes), then the rest -/
theorem Members.cons {w1 w2 w3 w4 cev rest : List Ev} {cn : Option Nat → Nat → List Node} {idx : Nat → List Nat}
    {keys : List (Nat × Nat × Bool)} {nodes : Nat → Nat → List Node} {c : Nat} (x y kb ke vx vy x' y' : Nat)
    (h1 : NL w1) (h2 : NL w2) (h3 : NL w3) (hv : Value src cev cn) (hc : ∀ par n, (cn par n).length = c) (h4 : NL w4)
    (hr : Members src rest idx keys nodes) :
    Members src (w1 ++ ⟨.keyB, x, y⟩ :: ⟨.keyE, kb, ke⟩ :: (w2 ++ (w3 ++ ⟨.valB, vx, vy⟩ ::
        (cev ++ ⟨.valE, x', y'⟩ :: (w4 ++ rest)))))
      (fun n => n :: idx (n + c)) ((kb, ke, false) :: keys) (fun a n => cn (some a) n ++ nodes a (n + c)) := by
  intro a na L r hn hk hw hnd
  obtain ⟨hlt, _⟩ := List.getElem?_eq_some_iff.mp hn
  have s4 := hr a _ _ r (getElem?_set_append L (cn (some a) L.length) a (addMember na L.length (kb, ke, false)) hlt)
    hk hw (by simpa using hnd)
  refine (Run.trans (member_run x y kb ke vx vy x' y' h1 h2 h3 hv h4 a na L r hn hk hw
    (nodup_any_false src na.keys keys (kb, ke, false) hnd)) s4).cast (by simp) ?_ rfl
  rw [List.set_append_left _ _ (by simp [hlt]), List.set_set]
  simp only [addMember, List.length_append, List.length_set, hc, List.append_assoc, List.cons_append,
    List.nil_append]

theorem Members.value {w evs : List Ev} {idx : Nat → List Nat} {keys : List (Nat × Nat × Bool)}
    {nodes : Nat → Nat → List Node} (b : Ev) (hb : b.ty = .objB) (hw : NL w) (h : Members src evs idx keys nodes)
    (hk : (keys.map (keyText src)).Nodup) :
    Value src (b :: (w ++ evs))
      (fun par n => { kind := .obj, parent := par, children := idx (n + 1), keys := keys } :: nodes n (n + 1)) :=
  Body.value (k := .obj) (by rw [hb]; rfl) (by rw [hb]; rfl) fun par L0 r =>
    (Run.trans (hw.run _ _ r) (h L0.length (fresh .obj par) (L0 ++ [fresh .obj par]) r List.getElem?_concat_length rfl rfl
      (by simpa [fresh] using hk))).cast rfl (by rw [List.set_append_cons_length]; simp [fresh]) rfl

/-- the whole document: layout, the value, layout -/
theorem Value.doc {w0 evs w1 : List Ev} {nodes : Option Nat → Nat → List Node} (h0 : NL w0) (h : Value src evs nodes)
    (h1 : NL w1) : Run src (w0 ++ (evs ++ w1)) [] none none (nodes none 0) none (some 0) :=
  Run.trans (h0.run [] none none) (Run.trans h.root (h1.run _ none (some 0)))

end Loader
