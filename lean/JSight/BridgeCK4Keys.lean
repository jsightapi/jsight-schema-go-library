import JSight.BridgeCK3Tree
import JSight.VisitMeasure
/-!
Bridge (A)∩(C): **key shortcuts whose type is an alias** (`{@k: 1}` with `@k = @s`, `@k = @a | @b`):
(A)'s `Compile.actualRoot` and (C)'s `CK.actualRoot` / `CK.actualLoop` (`actualRootTypeVisiting`) give the same root type
through alias chains of any length, cycles included (`actual_agree`), whenever each side has more fuel than (A)'s table has
entries whose name is not on the path walked so far (`Visit.unvisited`; (C)'s descent stays inside the names of (A)'s table:
`EnvRelN`) — which `Compile.checkFuel` and `CK.Env.fuel` provide: (A)'s silent
"out of fuel = mixed" branch is unreachable (`actualA_fuel_enough`), (C)'s `crash "actualRootType"` too.
-/
namespace BridgeCK
open Compile

/-- the common JSON type of a list of root types (`len(types) == 1` in `actualRootTypeVisiting`), `mixed` otherwise -/
def same : List CK.JT → CK.JT
  | [] => .mixed
  | x :: xs => if xs.all (· == x) then x else .mixed

/-- (A)'s answer read as (C)'s: `none` = mixed -/
def normJ : Option JT → CK.JT
  | none => .mixed
  | some j => jtOf j

theorem jtOf_inj (a b : JT) (h : jtOf a = jtOf b) : a = b := by cases a <;> cases b <;> first | rfl | cases h

theorem same_of_all (x : CK.JT) : (l : List CK.JT) → l ≠ [] → (∀ y ∈ l, y = x) → same l = x
  | [], h, _ => absurd rfl h
  | a :: l, _, h => by
    have ha : a = x := h a List.mem_cons_self
    subst ha
    have : l.all (· == a) = true := List.all_eq_true.2 fun y hy => by
      rw [h y (List.mem_cons_of_mem _ hy)]; exact beq_self_eq_true _
    simp only [same, this, if_true]

theorem same_of_ne (a b : CK.JT) (l : List CK.JT) (ha : a ∈ l) (hb : b ∈ l) (hne : a ≠ b) : same l = .mixed := by
  cases l with
  | nil => cases ha
  | cons x xs =>
    simp only [same]
    split
    · rename_i hall
      rw [List.all_eq_true] at hall
      have e : ∀ y ∈ x :: xs, y = x := by
        intro y hy
        rcases List.mem_cons.1 hy with e | hy
        · exact e
        · exact eq_of_beq (hall y hy)
      exact absurd ((e a ha).trans (e b hb).symm) hne
    · rfl

theorem same_mem_mixed (l : List CK.JT) (h : CK.JT.mixed ∈ l) : same l = .mixed := by
  cases l with
  | nil => rfl
  | cons x xs =>
    simp only [same]
    split
    · rename_i hall
      rw [List.all_eq_true] at hall
      rcases List.mem_cons.1 h with e | hy
      · exact e.symm
      · exact (eq_of_beq (hall _ hy)).symm
    · rfl

theorem same_congr (l l' : List CK.JT) (h : ∀ y, y ∈ l ↔ y ∈ l') : same l = same l' := by
  cases l with
  | nil =>
    cases l' with
    | nil => rfl
    | cons a _ => exact absurd ((h a).2 List.mem_cons_self) (by simp)
  | cons x xs =>
    have hne' : l' ≠ [] := by
      intro e; subst e
      exact absurd ((h x).1 List.mem_cons_self) (by simp)
    by_cases hall : ∀ y ∈ x :: xs, y = x
    · rw [same_of_all x _ (by simp) hall, same_of_all x l' hne' (fun y hy => hall y ((h y).2 hy))]
    · have : ∃ y, y ∈ x :: xs ∧ y ≠ x := by
        apply Classical.byContradiction
        intro hcon
        apply hall
        intro y hy
        apply Classical.byContradiction
        intro hyx
        exact hcon ⟨y, hy, hyx⟩
      obtain ⟨y, hy, hyx⟩ := this
      rw [same_of_ne y x _ hy List.mem_cons_self hyx,
        same_of_ne y x l' ((h y).1 hy) ((h x).1 List.mem_cons_self) hyx]

theorem eraseDups_ne_nil (a : CK.JT) (l : List CK.JT) : (a :: l).eraseDups ≠ [] := by
  rw [List.eraseDups_cons]; simp

/-- the end of `actualRootTypeVisiting`'s loop: `len(types) == 1` over the set = all root types collected are the same -/
theorem end_same : (seen : List CK.JT) →
    (if seen.eraseDups.length == 1 then seen.head? else some CK.JT.mixed) = some (same seen)
  | [] => by simp [same]
  | x :: xs => by
    rw [List.eraseDups_cons]
    by_cases hall : xs.all (· == x) = true
    · have hf : xs.filter (fun b => !b == x) = [] := by
        rw [List.filter_eq_nil_iff]
        intro y hy
        rw [List.all_eq_true] at hall
        simp [hall y hy]
      simp [hf, same, hall]
    · have hf : xs.filter (fun b => !b == x) ≠ [] := by
        intro e
        rw [List.filter_eq_nil_iff] at e
        apply hall
        rw [List.all_eq_true]
        intro y hy
        have := e y hy
        simpa using this
      cases hfl : xs.filter (fun b => !b == x) with
      | nil => exact absurd hfl hf
      | cons b bs =>
        have := eraseDups_ne_nil b bs
        cases he : (b :: bs).eraseDups with
        | nil => exact absurd he this
        | cons c cs => simp [same, hall]

/-- (C)'s loop over the names of a type shortcut: early exits (a name on the path, an undefined name) answer `mixed`,
which is what the collected set would give. `w m` is the root type the loop obtains for the name `m` -/
theorem actualLoop_same (rec : List CK.Name → CK.Info → Option CK.JT) (env : CK.Env) (vis : List CK.Name)
    (w : String → CK.JT) : (names : List String) → (seen : List CK.JT) →
    (∀ m ∈ names, (vis.contains (name m) = true ∧ w m = .mixed) ∨
      (vis.contains (name m) = false ∧ env.lookup (name m) = none ∧ w m = .mixed) ∨
      (vis.contains (name m) = false ∧ ∃ t, env.lookup (name m) = some t ∧ rec (name m :: vis) t.info = some (w m))) →
    CK.actualLoop rec env vis (names.map name) seen seen.head? = some (same (seen ++ names.map w))
  | [], seen, _ => by
    simp only [List.map_nil, List.append_nil, CK.actualLoop]
    exact end_same seen
  | m :: ms, seen, h => by
    simp only [List.map_cons, CK.actualLoop]
    rcases h m List.mem_cons_self with ⟨h1, h2⟩ | ⟨h1, h2, h3⟩ | ⟨h1, t, h2, h3⟩
    · simp only [h1, if_true]
      rw [same_mem_mixed]
      simp [h2]
    · simp only [h1, Bool.false_eq_true, if_false, h2]
      rw [same_mem_mixed]
      simp [h3]
    · simp only [h1, Bool.false_eq_true, if_false, h2, h3]
      have ih := actualLoop_same rec env vis w ms (w m :: seen) (fun x hx => h x (List.mem_cons_of_mem _ hx))
      simp only [List.head?_cons] at ih
      rw [ih]
      congr 1
      apply same_congr
      intro y
      simp only [List.mem_append, List.mem_cons, List.cons_append]
      exact or_left_comm

/-- the end of (A)'s `actualRoot` on a type shortcut -/
theorem normA : (rs : List (Option JT)) →
    normJ (match rs with
      | [] => none
      | r :: rest => if rs.any (·.isNone) then none else if rest.all (· == r) then r else none) = same (rs.map normJ)
  | [] => rfl
  | r :: rest => by
    simp only []
    by_cases hany : (r :: rest).any (·.isNone) = true
    · simp only [hany, if_true, normJ]
      rw [same_mem_mixed]
      obtain ⟨x, hx, hn⟩ := List.any_eq_true.1 hany
      cases x with
      | some _ => cases hn
      | none => exact List.mem_map.2 ⟨none, hx, rfl⟩
    · simp only [hany, Bool.false_eq_true, if_false]
      have hsome : ∀ x ∈ r :: rest, ∃ j, x = some j := by
        intro x hx
        cases x with
        | some j => exact ⟨j, rfl⟩
        | none => exact absurd (List.any_eq_true.2 ⟨none, hx, rfl⟩) hany
      by_cases hall : rest.all (· == r) = true
      · simp only [hall, if_true]
        rw [same_of_all (normJ r) _ (by simp)]
        intro y hy
        obtain ⟨x, hx, rfl⟩ := List.mem_map.1 hy
        rcases List.mem_cons.1 hx with e | hx
        · rw [e]
        · rw [eq_of_beq (List.all_eq_true.1 hall x hx)]
      · simp only [hall, Bool.false_eq_true, if_false, normJ]
        have : ∃ y, y ∈ rest ∧ y ≠ r := by
          apply Classical.byContradiction
          intro hcon
          apply hall
          rw [List.all_eq_true]
          intro y hy
          apply Classical.byContradiction
          intro hyx
          exact hcon ⟨y, hy, fun e => hyx (by rw [e]; exact beq_self_eq_true _)⟩
        obtain ⟨y, hy, hyr⟩ := this
        obtain ⟨j1, e1⟩ := hsome y (List.mem_cons_of_mem _ hy)
        obtain ⟨j2, e2⟩ := hsome r List.mem_cons_self
        subst e1; subst e2
        exact (same_of_ne (jtOf j1) (jtOf j2) _ (List.mem_map.2 ⟨some j1, List.mem_cons_of_mem _ hy, rfl⟩)
          (List.mem_map.2 ⟨some j2, List.mem_cons_self, rfl⟩)
          (fun e => hyr (by rw [jtOf_inj _ _ e]))).symm

section
variable (ts : Types) (env : CK.Env)

/-- **`actualRootType` agrees in the two models**, through alias chains of any length, or-shortcuts and cycles: with
more fuel on each side than entries of (A)'s table are left to enter, (C) answers (never out of fuel) and its answer is (A)'s,
`none` read as `mixed` -/
theorem actual_agree (hE : EnvRelN ts env) (hT : ∀ n cn, lookupT ts n = some cn → headOK cn = true) :
    (fA fC : Nat) → (vis : List String) → (n : String) → (cn : CN) → lookupT ts n = some cn → (∀ v ∈ vis, nameOK v) →
    Visit.unvisited Prod.fst ts vis < fA → Visit.unvisited Prod.fst ts vis < fC →
    CK.actualRoot env fC (vis.map name) (dumpNode cn).hd.info = some (normJ (Compile.actualRoot ts fA vis n))
  | 0, _, _, _, _, _, _, hA, _ => absurd hA (Nat.not_lt_zero _)
  | _ + 1, 0, _, _, _, _, _, _, hC => absurd hC (Nat.not_lt_zero _)
  | a + 1, c + 1, vis, n, cn, hl, hv, hA, hC => by
    have hh := hT n cn hl
    by_cases hk : keyHead cn = true
    · obtain ⟨j, hj, hc⟩ := actualC_head env c (vis.map name) cn hk
      rw [hc]
      have : Compile.actualRoot ts (a + 1) vis n = cn.jt := by
        unfold Compile.actualRoot
        rw [hl]
        cases cn with
        | ref names nul jt ex os =>
          simp only [keyHead] at hk
          simp only [hk, if_true, CN.jt]
        | lit _ _ => rfl
        | any _ _ => rfl
        | arr _ _ _ => rfl
        | obj _ _ _ _ => rfl
      rw [this, hj]
      rfl
    · cases cn with
      | lit _ _ => exact absurd rfl hk
      | any _ _ => exact absurd rfl hk
      | arr _ _ _ => exact absurd rfl hk
      | obj _ _ _ _ => exact absurd rfl hk
      | ref names nul jt ex os =>
        have hm : jt = .mixed := by
          cases jt <;> first | rfl | exact absurd rfl hk
        subst hm
        have hb : ∀ m ∈ names, nameOK m := by
          simpa [headOK] using hh
        let g : String → Option JT := fun m =>
          if vis.contains m then none else Compile.actualRoot ts a (m :: vis) m
        have hAeq : Compile.actualRoot ts (a + 1) vis n =
            (match names.map g with
              | [] => none
              | r :: rest => if (names.map g).any (·.isNone) then none else if rest.all (· == r) then r else none) := by
          conv => lhs; unfold Compile.actualRoot
          rw [hl]
          rfl
        rw [hAeq, normA, List.map_map]
        have hCeq : CK.actualRoot env (c + 1) (vis.map name) (dumpNode (.ref names nul .mixed ex os)).hd.info =
            CK.actualLoop (CK.actualRoot env c) env (vis.map name) (names.map name) [] none := by
          conv => lhs; unfold CK.actualRoot
          simp [dumpNode, CK.Node.hd, jtOf, nkOfJT]
        rw [hCeq]
        have := actualLoop_same (CK.actualRoot env c) env (vis.map name) (normJ ∘ g) names [] ?_
        · simpa using this
        · intro m hm
          have hmb := hb m hm
          have hcont : (vis.map name).contains (name m) = vis.contains m :=
            contains_name vis m (fun x hx => (hv x hx).1) hmb.1
          rw [hcont]
          cases hvc : vis.contains m with
          | true => exact Or.inl ⟨rfl, by simp only [Function.comp, g, hvc, if_true, normJ]⟩
          | false =>
            refine Or.inr ?_
            cases hlm : lookupT ts m with
            | none =>
              refine Or.inl ⟨rfl, by rw [hE m hmb, hlm]; rfl, ?_⟩
              simp only [Function.comp, g, hvc, Bool.false_eq_true, if_false]
              cases a with
              | zero => rfl
              | succ a => unfold Compile.actualRoot; rw [hlm]; rfl
            | some cm =>
              refine Or.inr ⟨rfl, (dumpNode cm).hd, by rw [hE m hmb, hlm]; rfl, ?_⟩
              have := Visit.unvisited_enter ts vis m cm hlm (by simpa using hvc)
              have ih := actual_agree hE hT a c (m :: vis) m cm hlm
                (fun v h => by
                  rcases List.mem_cons.1 h with e | h
                  · exact e ▸ hmb
                  · exact hv v h)
                (by omega) (by omega)
              simp only [List.map_cons] at ih
              rw [ih]
              simp only [Function.comp, g, hvc, Bool.false_eq_true, if_false]

/-- **(A)'s fuel is enough for `actualRootType`**: any two amounts of fuel from `|table| + 2` on give the same root type
for a name, read as (C) reads it (`normJ`: `none` and `some mixed` are one answer) — so the silent branch
`| 0, _, _ => none` ("out of fuel = mixed") is never what decides. A statement about (A) alone;
`env` and `hE` are there because the proof compares both fuels with ONE run of (C)'s loop (`actual_agree`), and a related
table always exists (`envRelN_ext`, `BridgeCK3Tree`) -/
theorem actualA_fuel_enough (hE : EnvRelN ts env) (hT : ∀ n cn, lookupT ts n = some cn → headOK cn = true)
    (f1 f2 : Nat) (h1 : ts.length + 2 ≤ f1) (h2 : ts.length + 2 ≤ f2) (n : String) :
    normJ (Compile.actualRoot ts f1 [] n) = normJ (Compile.actualRoot ts f2 [] n) := by
  cases hl : lookupT ts n with
  | none =>
    obtain ⟨a, rfl⟩ : ∃ a, f1 = a + 1 := ⟨f1 - 1, by omega⟩
    obtain ⟨b, rfl⟩ : ∃ b, f2 = b + 1 := ⟨f2 - 1, by omega⟩
    unfold Compile.actualRoot
    rw [hl]
  | some cn =>
    have hu := Visit.unvisited_le Prod.fst ts []
    have e1 := actual_agree ts env hE hT f1 (ts.length + 2) [] n cn hl (by simp) (by omega) (by omega)
    have e2 := actual_agree ts env hE hT f2 (ts.length + 2) [] n cn hl (by simp) (by omega) (by omega)
    rw [e1] at e2
    exact Option.some.inj e2

theorem normJ_str (r : Option JT) : (normJ r != CK.JT.string) = (r != some JT.str) := by
  cases r with
  | none => rfl
  | some j => cases j <;> rfl

/-- `ensureShortcutKeysAreValid`, key by key, the type of a key ANY entry of the table (aliases, or-shortcuts, cycles);
`hf` is (A)'s fuel for `actual_agree` and `hlen` is (C)'s (`CK.Env.fuel` is `|env.types| + 2`) -/
theorem keys_agree_k (hE : EnvRelN ts env) (hT : ∀ n cn, lookupT ts n = some cn → headOK cn = true) (fuel : Nat)
    (hf : ts.length + 2 ≤ fuel) (hlen : ts.length ≤ env.types.length)
    (props : List (String × Bool × Bool × Bool × CN)) (h : ∀ p ∈ props, p.2.1 = true → nameOK ("@" ++ p.1)) :
    CK.keysErr env (dumpKeys props) =
      (props.find? (fun p => p.2.1 && ((lookupT ts ("@" ++ p.1)).isNone
          || Compile.actualRoot ts fuel [] ("@" ++ p.1) != some .str))).map
        (fun p => CK.Panic.doc (if (lookupT ts ("@" ++ p.1)).isNone then 1302 else 1304) 0 0) := by
  refine keys_agree_of ts env fuel props fun p hm hs => ⟨hE _ (h p hm hs), fun cn hl => ⟨_, ?_, normJ_str _⟩⟩
  have hu := Visit.unvisited_le Prod.fst ts []
  have hc := actual_agree ts env hE hT fuel env.fuel [] ("@" ++ p.1) cn hl (by simp) (by omega)
    (by simp only [CK.Env.fuel]; omega)
  simpa only [List.map_nil] using hc

end

end BridgeCK
