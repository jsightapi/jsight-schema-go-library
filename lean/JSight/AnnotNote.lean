import JSight.AnnotDoc
/-!
C13, inline versus multi-line annotations with a note: `value // {rules} - note` and `value /* {rules} - note */`.
The event stream of the scanner model for any rule object (`annot_emits_note_of`); `annot_emits_note`: the rule objects
of `AnnotQObj`.
-/
namespace SchemaScan

variable {data : Array Cls}

/-- a note: starts with a byte that is neither space nor tab; no line break, no `#`, no `*` -/
def IsNote (note : List Cls) : Prop :=
  (∃ c cs, note = c :: cs ∧ c.isSpTab = false) ∧ ∀ x ∈ note, x.isNoteCh = true

/-- the text with a note: … `}` blanks `-` spaces note tail -/
def annTextN (a : Ann) (tok s1 s2 : List Cls) (ob : CObj) (s3 n1 note tl : List Cls) : List Cls :=
  tok ++ (s1 ++ (Cls.slash :: a.mark :: (s2 ++ (Cls.lbrace :: (ob.body ++ (Cls.rbrace :: (s3 ++
    (Cls.minus :: (n1 ++ (note ++ tl))))))))))

/-- events of note and tail: the note starts at `q`, the tail at `t`. At end of input the note text and the annotation are
closed by two successive calls of `eofStep`, each of which moves the index on by one: the text ends at `t - 1`, the
annotation at `t` -/
def noteTailEvs (y q t : Nat) : Ann → List Cls → List Ev
  | .multi, tl => ⟨.mlTxtB, q, q⟩ :: ⟨.mlTxtE, q, t - 1⟩ :: ⟨.mlAnnE, y, t + 1⟩ :: nlEvs (t + 2) (tl.drop 2)
  | _, [] => [⟨.inlTxtB, q, q⟩, ⟨.inlTxtE, q, t - 1⟩, ⟨.inlAnnE, y, t⟩]
  | _, _ :: w => ⟨.inlTxtB, q, q⟩ :: ⟨.inlTxtE, q, t - 1⟩ :: ⟨.inlAnnE, y, t - 1⟩ :: ⟨.newLine, t, t⟩ :: nlEvs (t + 1) w

def noteOff (tok s1 s2 : List Cls) (ob : CObj) (s3 n1 : List Cls) : Nat := tailOff tok s1 s2 ob s3 + 1 + n1.length

/-- the events of the text with a note, for a rule object with bare or quoted names and literal or list values -/
def annEvsN (a : Ann) (tok s1 s2 : List Cls) (ob : QObj) (s3 n1 note tl : List Cls) : List Ev :=
  ⟨.litB, 0, 0⟩ :: ⟨.litE, 0, tok.length - 1⟩ :: ⟨a.B, annOff tok s1, annOff tok s1 + 1⟩ ::
    (nlEvs (annOff tok s1 + 2) s2 ++ (⟨.objB, objOff tok s1 s2, objOff tok s1 s2⟩ ::
      (ob.evs (objOff tok s1 s2) ++ (nlEvs (objOff tok s1 s2 + 1 + ob.c.body.length + 1) s3 ++
        noteTailEvs (annOff tok s1) (noteOff tok s1 s2 ob.c s3 n1) (noteOff tok s1 s2 ob.c s3 n1 + note.length) a tl))))

/-! ### the note -/

/-- `-`, spaces, the note: from behind the rule object's blanks to behind the last byte of the note -/
theorem scalar_note_run {qb : Bool} (a : Ann) (ha : a.isAnn = true) (n1 : List Cls) (hn1 : IsSpTabs n1) (note : List Cls)
    (hnote : IsNote note) (y t : Nat) (CS : List Ctx) (cx : Ctx) (al : Bool)
    (hat : At data t (Cls.minus :: (n1 ++ note))) :
    Len.Path data (cfgG false a qb a.prefixSt [.endTop] [(a.B, y)] false t CS cx al)
      [⟨a.TB, t + 1 + n1.length, t + 1 + n1.length⟩]
      (cfgG false a qb a.txtSt [.endTop] [(a.TB, t + 1 + n1.length), (a.B, y)] false (t + 1 + n1.length + note.length) CS cx al) := by
  obtain ⟨⟨c, cs, rfl, hc0⟩, hall⟩ := hnote
  exact (ann_note_run a ha n1 hn1 c cs hc0 hall [.endTop] [(a.B, y)] t CS cx al hat).cast rfl
    (cfgG_congr rfl (by simp only [List.length_cons]; omega))

/-! ### the tail behind a note -/

theorem gws_run {qb : Bool} : ∀ (w : List Cls), IsWs w → ∀ (i : Nat) (CS : List Ctx) (cx : Ctx) (al : Bool), At data i w →
    Len.Path data (cfgG false .none qb (.guard .endTop) [] [] false i CS cx al) (nlEvs i w)
      (cfgG false .none qb (.guard .endTop) [] [] false (i + w.length) CS cx al)
  | [], _, i, CS, cx, al, _ => Len.Path.refl _
  | c :: w, hw, i, CS, cx, al, hat => by
    obtain ⟨hc, hat'⟩ := hat
    have ih := gws_run (qb := qb) w hw.tail (i + 1) CS cx al hat'
    rcases blank_cases hw.head with hs | rfl
    · have h1 : Len.Path data (cfgG false .none qb (.guard .endTop) [] [] false i CS cx al) []
          (cfgG false .none qb (.guard .endTop) [] [] false (i + 1) CS cx al) :=
        cfgG_byte hc (fun p1 p2 => guard_sp 6 c hs (i + 1) CS cx al p1 p2) rfl rfl
      have := Len.Path.trans h1 ih
      simp only [nlEvs, if_neg (sptab_ne_nl hs), List.nil_append, List.length_cons]
      rw [show i + (w.length + 1) = i + 1 + w.length by omega]
      exact this
    · have h1 : Len.Path data (cfgG false .none qb (.guard .endTop) [] [] false i CS cx al) [⟨.newLine, i, i⟩]
          (cfgG false .none qb (.guard .endTop) [] [] false (i + 1) CS cx al) :=
        cfgG_byte hc (fun p1 p2 => guard_nl 6 (i + 1) CS cx al p1 p2) rfl rfl
      have := Len.Path.trans h1 ih
      simp only [nlEvs, if_true, List.length_cons]
      rw [show i + (w.length + 1) = i + 1 + w.length by omega]
      exact this

/-- end of input inside the note of an inline annotation: the text and the annotation are closed -/
theorem Emits.eofInlTxt {qb : Bool} {r : List St} {q y i : Nat} {CS : List Ctx} {cx : Ctx} {al : Bool} (hi : data.size ≤ i) :
    Emits data (cfgG false .inline qb .inlTxt r [(.inlTxtB, q), (.inlAnnB, y)] false i CS cx al)
      [⟨.inlTxtE, q, i - 1⟩, ⟨.inlAnnE, y, i⟩] := by
  have hn1 : NextOk data (cfgG false .inline qb .inlTxt r [(.inlTxtB, q), (.inlAnnB, y)] false i CS cx al)
      (some (cfgG false .inline qb .inlTxt r [(.inlAnnB, y)] false (i + 1) CS cx al, ⟨.inlTxtE, q, i - 1⟩)) := by
    refine ⟨1, by omega, ?_⟩
    rw [next_succ]
    unfold nextBody shiftFound eofStep
    simp only [cfgG, show ¬ i < data.size by omega, if_false]
    rfl
  have hn2 : NextOk data (cfgG false .inline qb .inlTxt r [(.inlAnnB, y)] false (i + 1) CS cx al)
      (some (cfgG false .inline qb .inlTxt r [] false (i + 1 + 1) CS cx al, ⟨.inlAnnE, y, i⟩)) := by
    refine ⟨1, by omega, ?_⟩
    rw [next_succ]
    unfold nextBody shiftFound eofStep
    simp only [cfgG, show ¬ i + 1 < data.size by omega, if_false]
    rfl
  exact Emits.cons hn1 (Emits.cons hn2 (Emits.done rfl (by simp only [cfgG]; omega) rfl))

/-- the tail behind the note -/
theorem ntail_run {qb : Bool} (a : Ann) (tl : List Cls) (ht : ATail a tl) (q y t : Nat) (CS : List Ctx) (cx : Ctx) (al : Bool)
    (hat : At data t tl) (hn : data.size = t + tl.length) :
    Emits data (cfgG false a qb a.txtSt [.endTop] [(a.TB, q), (a.B, y)] false t CS cx al)
      ((noteTailEvs y q t a tl).drop 1) := by
  cases ht with
  | eof => exact Emits.eofInlTxt (by simp at hn; omega)
  | nl w hw =>
    obtain ⟨hc, hatw⟩ := hat
    have s1 := Len.inl_txt_end (lc := false) (qb := qb) .endTop q y t [] rfl CS cx al hc
    have s2 := gws_run (qb := qb) w hw (t + 1) CS cx al hatw
    have e : Emits data (cfgG false .none qb (.guard .endTop) [] [] false (t + 1 + w.length) CS cx al) [] :=
      Emits.done rfl (by simp only [cfgG, List.length_cons] at hn ⊢; omega) rfl
    have := (Len.Path.trans s1 s2).emits e
    simp only [List.cons_append, List.nil_append, List.append_nil] at this
    simp only [noteTailEvs, List.drop_succ_cons, List.drop_zero]
    exact this
  | close w hw =>
    have e : Cls.star :: Cls.slash :: w = [Cls.star, Cls.slash] ++ w := rfl
    rw [e, At_append] at hat
    have := (ml_txt_end (lc := false) (q := qb) .endTop q y t [] CS cx al hat.1).emits
      (ws_endQ qb (CS := CS) (cx := cx) (al := al) w (t + 1 + 1) hw hat.2 (by simp only [List.length_cons] at hn; omega))
    simp only [List.cons_append, List.nil_append] at this
    simp only [noteTailEvs, List.drop_succ_cons, List.drop_zero]
    exact this

/-- the events of an annotated top-level scalar with a note, for any rule object (`body`, its events `bevs`, the flag `q` it
leaves) -/
theorem annot_emits_note_of (a : Ann) (ha : a.isAnn = true) (tok : List Cls) (htok : IsScalar tok) (s1 : List Cls)
    (hs1 : IsSpTabs s1) (s2 : List Cls) (hs2 : ABlank a s2) (body : List Cls) (bevs : List Ev) (q : Bool)
    (hbody : ∀ {data : Array Cls}, At data (objOff tok s1 s2 + 1) (body ++ [Cls.rbrace]) →
      Len.Path data
        (cfgG false a false .objKeyOrEmpty [.endTop] [(.objB, objOff tok s1 s2), (a.B, annOff tok s1)] false (objOff tok s1 s2 + 1)
          [{ ty := .initial }] { ty := .object } true) bevs
        (cfgG false a q a.prefixSt [.endTop] [(a.B, annOff tok s1)] false (objOff tok s1 s2 + 1 + body.length + 1) []
          { ty := .initial } true))
    (s3 : List Cls) (hs3 : ABlank a s3) (n1 : List Cls) (hn1 : IsSpTabs n1) (note : List Cls) (hnote : IsNote note)
    (tl : List Cls) (htl : ATail a tl) :
    Emits (tok ++ (s1 ++ (Cls.slash :: a.mark :: (s2 ++ (Cls.lbrace :: (body ++ (Cls.rbrace :: (s3 ++
        (Cls.minus :: (n1 ++ (note ++ tl))))))))))).toArray {}
      (⟨.litB, 0, 0⟩ :: ⟨.litE, 0, tok.length - 1⟩ :: ⟨a.B, annOff tok s1, annOff tok s1 + 1⟩ ::
        (nlEvs (annOff tok s1 + 2) s2 ++ (⟨.objB, objOff tok s1 s2, objOff tok s1 s2⟩ ::
          (bevs ++ (nlEvs (objOff tok s1 s2 + 1 + body.length + 1) s3 ++
            noteTailEvs (annOff tok s1) (objOff tok s1 s2 + 1 + body.length + 1 + s3.length + 1 + n1.length)
              (objOff tok s1 s2 + 1 + body.length + 1 + s3.length + 1 + n1.length + note.length) a tl))))) := by
  obtain ⟨D, hD⟩ : ∃ D, D = (tok ++ (s1 ++ (Cls.slash :: a.mark :: (s2 ++ (Cls.lbrace :: (body ++ (Cls.rbrace :: (s3 ++
      (Cls.minus :: (n1 ++ (note ++ tl))))))))))).toArray := ⟨_, rfl⟩
  rw [← hD]
  have hsize : D.size = (tok ++ (s1 ++ (Cls.slash :: a.mark :: (s2 ++ (Cls.lbrace :: (body ++ (Cls.rbrace :: (s3 ++
      (Cls.minus :: (n1 ++ (note ++ tl))))))))))).length := by rw [hD]; simp
  have hat : At D 0 (tok ++ (s1 ++ (Cls.slash :: a.mark :: (s2 ++ (Cls.lbrace :: (body ++ (Cls.rbrace :: (s3 ++
      (Cls.minus :: (n1 ++ (note ++ tl))))))))))) := hD ▸ At_toArray _ [] _ rfl
  have e : tok ++ (s1 ++ (Cls.slash :: a.mark :: (s2 ++ (Cls.lbrace :: (body ++ (Cls.rbrace :: (s3 ++
        (Cls.minus :: (n1 ++ (note ++ tl))))))))))
      = (tok ++ (s1 ++ (Cls.slash :: a.mark :: (s2 ++ (Cls.lbrace :: (body ++ (Cls.rbrace :: s3)))))))
        ++ ((Cls.minus :: (n1 ++ note)) ++ tl) := by
    simp
  rw [e, At_append] at hat
  obtain ⟨hat1, hat2⟩ := hat
  have hlen : 0 + (tok ++ (s1 ++ (Cls.slash :: a.mark :: (s2 ++ (Cls.lbrace :: (body ++ (Cls.rbrace :: s3))))))).length
      = objOff tok s1 s2 + 1 + body.length + 1 + s3.length := by
    simp only [objOff, List.length_append, List.length_cons]; omega
  rw [hlen, At_append] at hat2
  obtain ⟨hatn, hattl⟩ := hat2
  have r1 := ann_body_run_of a ha tok htok s1 hs1 s2 hs2 body bevs q hbody s3 hs3 hat1
  have r2 := scalar_note_run (qb := q) a ha n1 hn1 note hnote (annOff tok s1) (objOff tok s1 s2 + 1 + body.length + 1 + s3.length) []
    { ty := .initial } true hatn
  have hl : objOff tok s1 s2 + 1 + body.length + 1 + s3.length + (Cls.minus :: (n1 ++ note)).length
      = objOff tok s1 s2 + 1 + body.length + 1 + s3.length + 1 + n1.length + note.length := by
    simp only [List.length_cons, List.length_append]; omega
  rw [hl] at hattl
  have r3 := ntail_run (qb := q) a tl htl (objOff tok s1 s2 + 1 + body.length + 1 + s3.length + 1 + n1.length) (annOff tok s1)
    (objOff tok s1 s2 + 1 + body.length + 1 + s3.length + 1 + n1.length + note.length) [] { ty := .initial } true hattl
    (by
      rw [hsize]
      simp only [objOff, List.length_append, List.length_cons]
      omega)
  have := (Len.Path.trans r1 r2).emits r3
  have hd : ∀ (y q t : Nat) (tl : List Cls), noteTailEvs y q t a tl = ⟨a.TB, q, q⟩ :: (noteTailEvs y q t a tl).drop 1 := by
    intro y q t tl
    cases a with
    | none => simp [Ann.isAnn] at ha
    | multi => rfl
    | inline => cases tl <;> rfl
  rw [hd]
  simpa [List.append_assoc] using this

/-- **the events of an annotated top-level scalar with a note**, inline or multi-line -/
theorem annot_emits_note (a : Ann) (ha : a.isAnn = true) (tok : List Cls) (htok : IsScalar tok) (s1 : List Cls)
    (hs1 : IsSpTabs s1) (s2 : List Cls) (hs2 : ABlank a s2) (ob : QObj) (hob : ob.Valid a) (s3 : List Cls)
    (hs3 : ABlank a s3) (n1 : List Cls) (hn1 : IsSpTabs n1) (note : List Cls) (hnote : IsNote note)
    (tl : List Cls) (htl : ATail a tl) :
    Emits (annTextN a tok s1 s2 ob.c s3 n1 note tl).toArray {} (annEvsN a tok s1 s2 ob s3 n1 note tl) :=
  annot_emits_note_of a ha tok htok s1 hs1 s2 hs2 ob.c.body (ob.evs (objOff tok s1 s2)) ob.endQ
    (fun hat => obj_runQ (lc := false) a ha ob hob .endTop (objOff tok s1 s2) (annOff tok s1) [] { ty := .initial } []
      { ty := .object } true hat) s3 hs3 n1 hn1 note hnote tl htl

end SchemaScan
