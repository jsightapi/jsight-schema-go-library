import JSight.ATreeLoad3
/-!
C13 / C16 / C15, whole annotated trees: the entries of a container. `ents_nil` and `ents_step` are stated once for both
kinds of container (`EntStmt o`); the front of an entry is the kind's own: the layout of an item, layout, key and colon of
a member.
-/
namespace AT
open SchemaScan (St VCtx wsLoop cmtLoop nlSt keySt)

/-- what the layout lemmas (`Lvl.gapC`, `gapTC_st`) ask of the scanner states in which entries are met: blanks and comments
are read there, and a line break leaves the state except behind a separator -/
theorem posSt_loops (o : Bool) (p : Pos) (b : Bool) : wsLoop (posSt o p) = true ∧ cmtLoop (posSt o p) = true ∧
    (p ≠ .sep → (bif b then nlSt (posSt o p) else posSt o p) = posSt o p) := by
  cases o <;> cases p <;> cases b <;> exact ⟨rfl, rfl, fun h => by first | rfl | exact absurd rfl h⟩

theorem cAft_loops (o : Bool) : wsLoop (cAft o) = true ∧ cmtLoop (cAft o) = true ∧
    ∀ b : Bool, (bif b then nlSt (cAft o) else cAft o) = cAft o := by
  cases o <;> exact ⟨rfl, rfl, fun b => by cases b <;> rfl⟩

theorem entCtx_facts (o : Bool) (p : Pos) (hp : p ≠ .aft) :
    entCtx o p ≠ .root ∧ (ctxCk (entCtx o p)).aft = cAft o ∧ ctxKind (entCtx o p) = cKind o := by
  cases o <;> cases p <;> first | exact absurd rfl hp | exact ⟨by simp [entCtx], rfl, rfl⟩

theorem posSt_key (p : Pos) (hp : p ≠ .aft) (b : Bool) :
    keySt (bif b then nlSt (posSt true p) else posSt true p) = true := by
  cases p <;> cases b <;> first | rfl | exact absurd rfl hp

end AT

namespace AT.G
open SchemaScan (classify LexT St Ctx VCtx wsLoop cmtLoop nlSt keySt keyAl)
open SchemaScan.Len (TC noML)
open Loader (XNode xfresh)

variable [V : View]

/-- no entry: the layout before the closing bracket -/
theorem ents_nil (o : Bool) (g : Gap) :
    EntStmt o (gapToks g) (fun _ => []) [] (fun _ _ => [])
      (fun p _ _ pl => bif p == .sep then none else some (gapPl pl g)) := by
  intro p c ak C pl' hst hok hC hchk hw
  obtain ⟨l1, l2, l3⟩ := posSt_loops o p (Gap.hasNl g)
  have hp : p ≠ .sep ∧ pl' = gapPl C.pl g := by
    cases p with
    | first => exact ⟨by decide, (Option.some.inj hchk).symm⟩
    | sep => exact absurd hchk (by intro h; cases h)
    | aft => exact ⟨by decide, (Option.some.inj hchk).symm⟩
  have L := Lvl.gapC0 g c C ak (by rw [hst]; exact l1) (fun _ => by rw [hst]; exact l2)
  refine ⟨gapTC c g, C.last, .ofSeg ?_ L.K L.CS, ?_⟩
  · rw [Cont.grow_nil, hp.2]; exact L.seg
  · rw [(gap_facts g c).st, hst, l3 hp.1]
    cases p
    · left; rfl
    · exact absurd rfl hp.1
    · right; rfl

/-- the line discipline behind the front of an entry: the value, the layout, the comma with the annotation behind it,
then the rest -/
def stepChk (v : ATree) (g2 : Gap) (comma : Bool) (rchk : Pos → List (Bytes × Bool) → Bool → Nat → Option Nat)
    (seen : List (Bytes × Bool)) (ak1 : Bool) (pl1 : Nat) : Option Nat :=
  match v.chk ak1 pl1 with
  | none => none
  | some (ak2, pl2) =>
    bif comma then
      match v.chkB ak2 (gapPl pl2 g2) with
      | none => none
      | some (ak3, pl3) => rchk .sep seen ak3 pl3
    else bif v.hasB then none else rchk .aft seen ak2 (gapPl pl2 g2)

/-- An entry behind its front (the layout of an item; layout, key, colon of a member), in either kind of container:
the value, the layout, the comma with the annotation behind it, then the remaining entries. -/
theorem ents_step (o : Bool) (v : ATree) (g2 : Gap) (comma : Bool) (hv : ValueStmt v) {rtoks : List BTok}
    {ridx : Nat → List Nat} {rkeys : List (Bytes × Bool)} {rnodes : Nat → Nat → List XNode}
    {rchk : Pos → List (Bytes × Bool) → Bool → Nat → Option Nat} (hr : EntStmt o rtoks ridx rkeys rnodes rchk)
    (p : Pos) (hp : p ≠ .aft) (c : TC) (hst : c.st = (entCtx o p).st) (ak1 : Bool) (hok : OK c ak1) (C : Cont)
    (hC : C.Is (cKind o)) (pl' : Nat) (hchk : stepChk v g2 comma rchk (C.xa.keys.map V.kdec) ak1 C.pl = some pl')
    (hw : TokOK (v.toks ++ (gapToks g2 ++ ((bif comma then .comma :: v.toksB else []) ++ rtoks)))) :
    ∃ c' last', Lvl ⟨c, C.as, ak1⟩ (v.toks ++ (gapToks g2 ++ ((bif comma then .comma :: v.toksB else []) ++ rtoks)))
        ⟨c', (C.grow (C.next :: ridx (C.next + v.count)) rkeys
          (v.nodesV (some C.n) C.next ++ rnodes C.n (C.next + v.count)) last' pl').as, false⟩ ∧
      (c'.st = cFirst o ∨ c'.st = cAft o) := by
  obtain ⟨hctx, haft, hkind⟩ := entCtx_facts o p hp
  obtain ⟨la1, la2, la3⟩ := cAft_loops o
  unfold stepChk at hchk
  obtain ⟨hwv, hw⟩ := tokOK_append hw
  obtain ⟨hw2, hw⟩ := tokOK_append hw
  obtain ⟨hwc, hwr⟩ := tokOK_append hw
  cases hcv : v.chk ak1 C.pl with
  | none => rw [hcv] at hchk; simp at hchk
  | some r =>
    obtain ⟨ak2, pl2⟩ := r
    rw [hcv] at hchk
    simp only at hchk
    obtain ⟨c2, last2, L2, h2st, h2last⟩ := hv (entCtx o p) c ak1 C ak2 pl2 hctx hst hok (hkind ▸ hC) hcv hwv
    rw [haft] at h2st
    -- the layout behind the value
    have L3 := Lvl.gapC0 g2 c2 (C.grow [C.next] [] (v.nodesVA (some C.n) C.next) last2 pl2) ak2 (by rw [h2st]; exact la1)
      (fun _ => by rw [h2st]; exact la2)
    simp only [Cont.grow_setPl, Cont.grow_pl] at L3
    have hst3 : (gapTC c2 g2).st = cAft o := (gapTC_st g2 c2 (by rw [h2st]; exact la3 true)).trans h2st
    cases comma with
    | true =>
      simp only [cond_true] at hchk hwc
      obtain ⟨_, hwB⟩ := tokOK_cons hwc
      cases hcb : v.chkB ak2 (gapPl pl2 g2) with
      | none => rw [hcb] at hchk; simp at hchk
      | some r3 =>
        obtain ⟨ak3, pl3⟩ := r3
        rw [hcb] at hchk
        simp only at hchk
        have L24 := L2.trans (L3.trans (Lvl.comma o _ _ _ hst3))
        obtain ⟨c5, last5, L5, h5st⟩ := toksB_seg v _ ak2 (by cases o <;> simp [cSep]) rfl (L24.ok hok) C [C.next] [] last2 _ ak3 pl3
          hcb hwB (some C.n) h2last
        obtain ⟨c6, last6, L6, h6st⟩ := hr .sep c5 ak3 (C.grow [C.next] [] (v.nodesV (some C.n) C.next) last5 pl3) pl'
          h5st ((L24.trans L5).ok hok) (hC.grow ..) (by simpa using hchk) hwr
        refine ⟨c6, last6, ?_, h6st⟩
        -- `hr` stands at the grown container, whose `next` is `C.next + v.count` (`Cont.grow_next`, `nodesV_length`)
        simpa [Cont.grow_grow, nodesV_length] using L24.trans (L5.trans L6)
    | false =>
      simp only [cond_false] at hchk hwc
      cases hb : v.hasB with
      | true => rw [hb] at hchk; simp at hchk
      | false =>
        rw [hb] at hchk
        simp only [cond_false] at hchk
        obtain ⟨_, _, hnA⟩ := hasB_false hb
        rw [hnA] at L3 L2
        have L23 := L2.trans L3
        obtain ⟨c6, last6, L6, h6st⟩ := hr .aft _ ak2 (C.grow [C.next] [] (v.nodesV (some C.n) C.next) last2 (gapPl pl2 g2)) pl'
          hst3 (L23.ok hok) (hC.grow ..) (by simpa using hchk) hwr
        refine ⟨c6, last6, ?_, h6st⟩
        simpa [Cont.grow_grow, nodesV_length] using L23.trans L6

theorem items_nil (g : Gap) : ItemsStmt (.nil g) := ents_nil false g

theorem items_cons (g1 : Gap) (v : ATree) (g2 : Gap) (comma : Bool) (rest : AItems) (hv : ValueStmt v)
    (hr : ItemsStmt rest) : ItemsStmt (.cons g1 v g2 comma rest) := by
  intro p c ak C pl' hst hok hC hchk hw
  have hpa : p ≠ .aft := by rintro rfl; simp [AItems.chk] at hchk
  have hchk' : stepChk v g2 comma (fun p _ ak pl => rest.chk p ak pl) (C.xa.keys.map V.kdec) (gapAk (p == .sep) ak g1)
      (gapPl C.pl g1) = some pl' := by
    have : (p == Pos.aft) = false := by cases p <;> first | rfl | exact absurd rfl hpa
    simp only [AItems.chk, this, cond_false] at hchk
    exact hchk
  obtain ⟨l1, l2, _⟩ := posSt_loops false p (Gap.hasNl g1)
  simp only [AItems.toks] at hw
  obtain ⟨hw1, hw⟩ := tokOK_append hw
  have L1 := Lvl.gapC g1 c C ak (p == .sep) (by rw [hst]; exact l1)
    (fun _ => by rw [hst]; exact l2) (fun h => Or.inr (by rw [hst, show p = .sep by cases p <;> simp at h ⊢]; rfl))
  have hst1 : (gapTC c g1).st = (entCtx false p).st := by
    rw [(gap_facts g1 c).st, hst]; cases p <;> cases Gap.hasNl g1 <;> first | rfl | exact absurd rfl hpa
  obtain ⟨c', last', L2, h2st⟩ := ents_step false v g2 comma hv hr p hpa _ hst1 _ (L1.ok hok) (C.setPl (gapPl C.pl g1))
    (hC.setPl _) pl' hchk' hw
  exact ⟨c', last', by simpa [AItems.toks, AItems.idx, AItems.nodesV] using L1.trans L2, h2st⟩

theorem members_nil (g : Gap) : MembersStmt (.nil g) := ents_nil true g

theorem members_cons (g1 : Gap) (k : Bytes) (g2 g3 : Gap) (v : ATree) (g4 : Gap) (comma : Bool) (rest : AMembers)
    (hv : ValueStmt v) (hr : MembersStmt rest) : MembersStmt (.cons g1 k g2 g3 v g4 comma rest) := by
  intro p c ak C pl' hst hok hC hchk hw
  have hpa : p ≠ .aft := by rintro rfl; simp [AMembers.chk] at hchk
  have hpa' : (p == Pos.aft) = false := by cases p <;> first | rfl | exact absurd rfl hpa
  simp only [AMembers.chk, hpa'] at hchk
  cases hc2 : Gap.hasCmt g2 with
  | true => rw [hc2] at hchk; simp at hchk
  | false =>
  cases hc3 : Gap.hasCmt g3 with
  | true => rw [hc2, hc3] at hchk; simp at hchk
  | false =>
  cases hcd : (C.xa.keys.map V.kdec).contains (Unquote.unquote k, false) with
  | true => rw [hc2, hc3, hcd] at hchk; simp at hchk
  | false =>
  rw [hc2, hc3, hcd] at hchk
  simp only [Bool.or_self, cond_false] at hchk
  have hnd : (Unquote.unquote k, false) ∉ C.xa.keys.map V.kdec := by
    intro hm
    have := List.contains_iff_mem.mpr hm
    rw [hcd] at this; cases this
  obtain ⟨l1, l2, _⟩ := posSt_loops true p (Gap.hasNl g1)
  -- token validity
  simp only [AMembers.toks] at hw
  obtain ⟨hw1, hw⟩ := tokOK_append hw
  obtain ⟨hwk, hw⟩ := tokOK_cons hw
  obtain ⟨hw2, hw⟩ := tokOK_append hw
  obtain ⟨_, hw⟩ := tokOK_cons hw
  obtain ⟨hw3, hw⟩ := tokOK_append hw
  -- layout, key, layout, colon, layout
  have hst1 := (gap_facts g1 c).st
  rw [hst] at hst1
  have L := (Lvl.gapC g1 c C ak (p == .sep) (by rw [hst]; exact l1)
      (fun _ => by rw [hst]; exact l2) (fun h => Or.inl (by rw [hst, show p = .sep by cases p <;> simp at h ⊢]; rfl))).trans
    ((Lvl.key k hwk _ (by rw [hst1]; exact posSt_key p hpa _) _ (p == .first)
        (fun h => by rw [hst1, show p = .first by cases p <;> simp at h ⊢]; cases Gap.hasNl g1 <;> rfl)
        (C.setPl (gapPl C.pl g1)) (hC.setPl _) hnd).trans
      ((Lvl.gapC0 g2 _ _ _ rfl (by rw [hc2]; intro h; cases h)).trans
        ((Lvl.colon _ _ _ (gapTC_st g2 _ rfl)).trans (Lvl.gapC0 g3 _ _ _ rfl (by rw [hc3]; intro h; cases h)))))
  -- the value and what follows it
  obtain ⟨c', last', L5, h5st⟩ := ents_step true v g4 comma hv hr p hpa _ (gapTC_st g3 _ rfl) _ (L.ok hok)
    (C.grow [] [V.kview (k, false)] [] C.last (gapPl (gapPl (gapPl C.pl g1) g2) g3)) (hC.grow ..) pl'
    (by
      show stepChk _ _ _ _ ((C.xa.keys ++ [V.kview (k, false)]).map V.kdec) _ _ = _
      rw [List.map_append, List.map_cons, List.map_nil, V.kdec_kview]; exact hchk) hw
  refine ⟨c', last', ?_, h5st⟩
  simpa [AMembers.toks, AMembers.idx, AMembers.nodesV, keysV_cons, List.append_assoc, Cont.grow_grow] using L.trans L5

end AT.G
