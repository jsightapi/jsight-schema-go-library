import JSight.SchemaInv
/-! The offset an error carries (`Err.idx`), the end-of-file error (`Err.isEOF`), and `EAt n e`: `e` is a crash or a
structured error at offset `n - 1`, never "unexpected end of file" — what a call made at index `n` raises (`dispatch_E`,
`SchemaErrIdxStep`; `Next()` has advanced the index past the byte before the call). -/
namespace SchemaScan

/-- the offset carried by an error -/
def Err.idx : Err → Nat
  | .invalidChar i _ => i
  | .invalidKeyChar i => i
  | .annotationNotAllowed i => i
  | .unexpectedEOF i => i
  | .crash _ => 0

def Err.isEOF : Err → Bool
  | .unexpectedEOF _ => true
  | _ => false

/-- an error raised by a transition on the byte at offset `n - 1` (or a crash) -/
def EAt (n : Nat) : Err → Prop
  | .invalidChar i _ => i = n - 1
  | .invalidKeyChar i => i = n - 1
  | .annotationNotAllowed i => i = n - 1
  | .unexpectedEOF _ => False
  | .crash _ => True

theorem EAt.idx {n e} (h : EAt n e) (hc : e.isCrash = false) : e.idx = n - 1 ∧ e.isEOF = false := by
  cases e <;> simp_all [EAt, Err.idx, Err.isEOF, Err.isCrash]

end SchemaScan
