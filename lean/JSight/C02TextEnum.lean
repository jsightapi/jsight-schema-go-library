import JSight.C02TextThm2
/-!
C02 at TEXT level: the `enum` class and the closed form, at the level of the LOADED pairs
(name as the loader unquotes it, value text): `compileNode` on a scalar with an `enum` rule (beside it only `const`,
`nullable`, `type: "enum"`) computes `compiledOf`; `stages` / `closed` (what the driver word `c02t` evaluates and
`vh c02-text` compares with the real library, quoted and `\u`-escaped names and enum lists included) is the spec verdict
(`closed_spec`); no validator of an admissible rule set calls the standard library (`compiled_noStd_E`).
-/
namespace C02T
open Compile Lay SchemaScan
open Rules (Kind)

/-- `compileNode` raises nothing on a scalar whose surviving rules are `enum` and, at most, `const`, `nullable`,
`type: "enum"` -/
def okBasicRE (rs : List Rule) (jt : JT) : Bool :=
  let frs := filt rs
  hasRule frs "enum" && !hasRule frs "or"
    && (match findRule frs "type" with | some t => t.val == some (sb "\"enum\"") | none => true)
    && others frs ["enum", "optional", "const", "nullable", "type"] == 0
    && !hasRule frs "optional" && !hasRule frs "additionalProperties" && !hasRule frs "precision"
    && !hasRule frs "exclusiveMinimum" && !hasRule frs "exclusiveMaximum" && minMaxOK frs && lenOK frs
    && !(frs.any fun r => incompatible jt r.name)

theorem ofKind_scalar (k : Kind) : (JT.ofKind k == .obj || JT.ofKind k == .arr || JT.ofKind k == .mixed) = false := by
  cases k <;> rfl

theorem basic_ok_enum (ex : Bytes) (rs : List Rule) (k : Kind) (h : okBasicRE rs (JT.ofKind k) = true) :
    basic (node ex rs) (JT.ofKind k) false 0
      = .ok (⟨none, hasRule (filt rs) "nullable", false, none, false, .absent, litsOf (filt rs), false⟩ : Basic) := by
  simp only [okBasicRE, Bool.and_eq_true, Bool.not_eq_true', beq_iff_eq] at h
  obtain ⟨⟨⟨⟨⟨⟨⟨⟨⟨⟨⟨he, hor⟩, hty⟩, hoth⟩, hopt⟩, hadd⟩, hprec⟩, hxm⟩, hxM⟩, hmm⟩, hlen⟩, hinc⟩ := h
  have hb := bAllowed_ok (filt rs) (JT.ofKind k) none (Or.inl rfl) hopt hadd (by simp [hxm]) (by simp [hxM]) hmm hlen hinc
  have hoth' : (others (filt rs) ["enum", "optional", "const", "nullable", "type"] != 0) = false := by simp [hoth]
  have hbt : bType .lit (filt rs) (JT.ofKind k) false 0 none false
      = .ok (⟨none, hasRule (filt rs) "nullable", false, none, false, .absent, litsOf (filt rs), false⟩ : Basic) := by
    rw [litsOf_eq]
    unfold bType typeVal
    cases ht : findRule (filt rs) "type" with
    | none => simpa using hb
    | some t =>
      rw [ht] at hty
      have hv : t.val = some (sb "\"enum\"") := by simpa using hty
      have hu : unq (sb "\"enum\"") = sb "enum" := by decide +kernel
      have h1 : isUserTypeName (sb "enum") = false := by decide +kernel
      have h2 : (sb "enum" == sb "mixed") = false := by decide +kernel
      have h3 : fmtOfType (sb "enum") = none := by decide +kernel
      simp only [hv, Option.getD_some, hu, h1, h2, h3, he, ofKind_scalar, Bool.false_eq_true, if_false, beq_self_eq_true,
        if_true, Bool.not_true, Option.map_some, Option.bind_some]
      exact hb
  have hn : bNames .lit (filt rs) (JT.ofKind k) false 0
      = .ok (⟨none, hasRule (filt rs) "nullable", false, none, false, .absent, litsOf (filt rs), false⟩ : Basic) := by
    simp only [bNames, hor, Bool.false_eq_true, if_false, hbt]
  have hp : bEnumPrec .lit (filt rs) (JT.ofKind k) false 0
      = .ok (⟨none, hasRule (filt rs) "nullable", false, none, false, .absent, litsOf (filt rs), false⟩ : Basic) := by
    simp only [bEnumPrec, he, hprec, Bool.false_eq_true, if_false, if_true, hoth']
    cases ht : findRule (filt rs) "type" with
    | none => simp only [hn]
    | some t =>
      rw [ht] at hty
      have hv : t.val = some (sb "\"enum\"") := by simpa using hty
      simp only [hv, bne_self_eq_false, Bool.false_eq_true, if_false, hn]
  unfold basic
  have fd : ∀ l : List Rule, List.filter (fun r => !((r.name == sb "nullable" || r.name == sb "const") && r.val.bind parseBool == some false)) l = filt l := fun _ => rfl
  simp only [node, fd, hor, Bool.false_eq_true, if_false, hp]

/-- **the rule set passes creation and `compileNode`** — the class of literal-valued rules (`okRules`), or the `enum` class -/
def okRulesE (ex : Bytes) (ps : List Pair) : Bool :=
  (RulesF.kindOfTok ex).isSome && okCreate ps &&
    (okBasicR (mk ps) (JT.ofKind (kindOf ex)) || okBasicRE (mk ps) (JT.ofKind (kindOf ex)))

theorem okRulesE_of_okRules {ex : Bytes} {ps : List Pair} (h : okRules ex ps = true) : okRulesE ex ps = true := by
  simp only [okRules, okBasic, Bool.and_eq_true] at h
  simp [okRulesE, h.1.1, h.1.2, h.2]

/-- **creation and `CompileBasic` on the loaded pairs**: the literal node `compiledOf` -/
theorem stages_ok (ex : Bytes) (ps : List Pair) (h : okRulesE ex ps = true) :
    stages ex ps = .ok (.lit (compiledOf ex (mk ps)) false) := by
  simp only [okRulesE, Bool.and_eq_true, Bool.or_eq_true] at h
  obtain ⟨⟨hk, hc⟩, hb⟩ := h
  obtain ⟨k, hk⟩ := Option.isSome_iff_exists.mp hk
  have hko : kindOf ex = k := by simp [kindOf, hk]
  rw [hko] at hb
  have hcr : creation [node ex (mk ps)] = .ok () := by
    simp only [creation, List.foldl_cons, List.foldl_nil, node]
    exact isOk_iff.mp hc
  have hbas : basic (node ex (mk ps)) (JT.ofKind k) false 0
      = .ok (⟨none, hasRule (filt (mk ps)) "nullable", false, none, false, .absent, litsOf (filt (mk ps)), false⟩ : Basic) := by
    rcases hb with hb | hb
    · exact basic_ok ex (mk ps) (JT.ofKind k) hb
    · exact basic_ok_enum ex (mk ps) k hb
  simp only [stages, hcr, compileNode_single ex (mk ps) k hk hbas]

/-- an `enum` node of the class carries no validator that calls the standard library -/
theorem compiled_noStd_enum (ex : Bytes) (ps : List Pair) (k : Kind) (h : okBasicRE (mk ps) (JT.ofKind k) = true) :
    ∀ r ∈ (compiledOf ex (mk ps)).rules, usesStd r = false := by
  simp only [okBasicRE, Bool.and_eq_true, Bool.not_eq_true', beq_iff_eq] at h
  obtain ⟨⟨⟨⟨⟨⟨⟨⟨⟨⟨⟨he, hor⟩, hty⟩, hoth⟩, hopt⟩, hadd⟩, hprec⟩, hxm⟩, hxM⟩, hmm⟩, hlen⟩, hinc⟩ := h
  intro r hr
  simp only [compiledOf] at hr
  rw [filt_mk] at hr hty
  rw [litsOf_gP, List.mem_append] at hr
  rcases hr with hr | hr
  · obtain ⟨p, _, hg⟩ := List.mem_filterMap.1 hr
    exact gP_noStd _ _ p r hg
  · unfold typeVal at hr
    cases ht : findRule (mk (List.filter keepP ps)) "type" with
    | none => rw [ht] at hr; simp at hr
    | some t =>
      rw [ht] at hr hty
      have hv : t.val = some (sb "\"enum\"") := by simpa using hty
      have hu : unq (sb "\"enum\"") = sb "enum" := by decide +kernel
      have h3 : fmtOfType (sb "enum") = none := by decide +kernel
      simp [hv, hu, h3] at hr

/-- no validator of an admissible rule set (either class) calls the standard library -/
theorem compiled_noStd_E (ex : Bytes) (ps : List Pair) (h : okRulesE ex ps = true) :
    ∀ r ∈ (compiledOf ex (mk ps)).rules, usesStd r = false := by
  simp only [okRulesE, Bool.and_eq_true, Bool.or_eq_true] at h
  rcases h.2 with hb | hb
  · exact compiled_noStd ex ps hb
  · exact compiled_noStd_enum ex ps _ hb

/-- **the closed form is the spec verdict**: for an admissible rule set (either class), every oracle and every token,
`closed` answers the code of the EXAMPLE's own failing validator at offset 0, else accept / reject by
`RulesF.litOKFull` on `RulesF.compile` of the written rules -/
theorem closed_spec (o : RulesF.Oracles) (ex : Bytes) (ps : List Pair) (h : okRulesE ex ps = true)
    (doc : Bytes) :
    closed ex ps doc = match litErr (compiledOf ex (mk ps)) ex with
      | some c => .schemaErr c 0
      | none => if RulesF.litOKFull o (specOfRules ex ps) doc then .acc else .rej := by
  have hc : okCreate ps = true := by
    simp only [okRulesE, Bool.and_eq_true] at h
    exact h.1.2
  unfold closed
  rw [stages_ok ex ps h]
  simp only [check_lit, compiledOf_ex]
  cases hle : litErr (compiledOf ex (mk ps)) ex with
  | some c => simp [E2E.errOut]
  | none =>
    simp only []
    rw [litOKFull_oracle noOracles o _ ?_ doc]
    have hs := spec_vs_compiled ex ps (facts_of_okCreate hc)
    intro r hr
    exact compiled_noStd_E ex ps h r ((hs.2.2.2 r).1 hr)

end C02T
