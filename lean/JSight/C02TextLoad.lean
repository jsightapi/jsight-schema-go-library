import JSight.C02TextCompile
import JSight.AnnotThm
import JSight.E2EThm
/-!
C02 at TEXT level, loading half: the rules of the loaded literal node are, positions aside (`erase`), the written pairs,
and `Compile` does not look at positions on the way to the compiled node (`*_erase`, `createRules_ok_of_erase`).
-/
namespace C02T
open Compile Lay SchemaScan

def erase (r : Rule) : Rule := { r with pos := 0, npos := 0 }

/-- the rules `resolve` reads off the spans of an annotation -/
def loadedRules (src : Array UInt8) (sps vsps : List (Nat × Nat)) : List Rule :=
  ((sps.map Sum.inl).zip (vsps.map some)).map (resolveRule src)

theorem filt_erase (l : List Rule) : filt (l.map erase) = (filt l).map erase := by
  simp only [filt, List.filter_map]
  rfl

theorem hasRule_erase (l : List Rule) (nm : String) : hasRule (l.map erase) nm = hasRule l nm := by
  simp only [hasRule, List.any_map]
  rfl

theorem findRule_erase (l : List Rule) (nm : String) : findRule (l.map erase) nm = (findRule l nm).map erase := by
  simp only [findRule, List.find?_map]
  rfl

theorem boolRule_erase (l : List Rule) (nm : String) : boolRule (l.map erase) nm = boolRule l nm := by
  simp only [boolRule, findRule_erase]
  cases findRule l nm <;> rfl

theorem typeVal_erase (l : List Rule) : typeVal (l.map erase) = typeVal l := by
  simp only [typeVal, findRule_erase]
  cases findRule l "type" <;> rfl

theorem exMinOf_erase (l : List Rule) : exMinOf (l.map erase) = exMinOf l := by simp only [exMinOf, boolRule_erase]
theorem exMaxOf_erase (l : List Rule) : exMaxOf (l.map erase) = exMaxOf l := by simp only [exMaxOf, boolRule_erase]

theorem precOK_erase (l : List Rule) : precOK (l.map erase) = precOK l := by
  simp only [precOK, hasRule_erase, findRule_erase]
  cases findRule l "type" <;> rfl

theorem typeOK_erase (l : List Rule) (jt : JT) : typeOK (l.map erase) jt = typeOK l jt := by
  simp only [typeOK, typeVal_erase, hasRule_erase]

theorem minMaxOK_erase (l : List Rule) : minMaxOK (l.map erase) = minMaxOK l := by
  simp only [minMaxOK, findRule_erase, exMinOf_erase, exMaxOf_erase]
  cases findRule l "min" <;> cases findRule l "max" <;> rfl

theorem lenOK_erase (l : List Rule) : lenOK (l.map erase) = lenOK l := by
  simp only [lenOK, findRule_erase]
  cases findRule l "minLength" <;> cases findRule l "maxLength" <;> rfl

theorem litsOf_erase (l : List Rule) : litsOf (l.map erase) = litsOf l := by
  simp only [litsOf, typeVal_erase, exMinOf_erase, exMaxOf_erase, List.filterMap_map]
  rfl

theorem okBasicR_erase (rs : List Rule) (jt : JT) : okBasicR (rs.map erase) jt = okBasicR rs jt := by
  simp only [okBasicR, filt_erase, hasRule_erase, precOK_erase, typeOK_erase, minMaxOK_erase, lenOK_erase, List.any_map]
  rfl

theorem compiledOf_erase (ex : Bytes) (rs : List Rule) : compiledOf ex (rs.map erase) = compiledOf ex rs := by
  simp only [compiledOf, filt_erase, hasRule_erase, litsOf_erase]

theorem ite_isOk {c : Prop} [Decidable c] {a a' b b' : Except Compile.Err Unit} (h1 : isOk a = isOk a') (h2 : isOk b = isOk b') :
    isOk (if c then a else b) = isOk (if c then a' else b') := by
  by_cases h : c <;> simp [h, h1, h2]

/-- the constraint constructors use positions only inside the errors they raise -/
theorem createRule_pos (k : Loader.NK) (seen : List Bytes) (name : Bytes) (gen : Bool) (val : Option Bytes)
    (p q p' q' : Nat) :
    isOk (createRule k seen ⟨name, gen, val, p, q⟩) = isOk (createRule k seen ⟨name, gen, val, p', q'⟩) := by
  unfold createRule
  refine ite_isOk rfl (ite_isOk rfl (ite_isOk rfl ?_))
  cases val with
  | none => rfl
  | some v =>
    refine ite_isOk rfl (ite_isOk ?_ (ite_isOk ?_ (ite_isOk rfl (ite_isOk rfl (ite_isOk rfl (ite_isOk ?_ (ite_isOk ?_
      (ite_isOk ?_ (ite_isOk ?_ (ite_isOk ?_ (ite_isOk rfl rfl)))))))))))
    · cases scalarItems v <;> repeat' (first | rfl | apply ite_isOk)
    · cases scalarItems v <;> repeat' (first | rfl | apply ite_isOk)
    · cases parseUint v <;> repeat' (first | rfl | apply ite_isOk)
    · cases parseUint v <;> repeat' (first | rfl | apply ite_isOk)
    · cases RulesF.number v <;> repeat' (first | rfl | apply ite_isOk)
    · cases parseBool v <;> repeat' (first | rfl | apply ite_isOk)
    · cases parseAdd v with
      | error e => cases e <;> rfl
      | ok a => simp only []; repeat' (first | rfl | apply ite_isOk)

theorem createRules_erase (k : Loader.NK) : ∀ (rs : List Rule) (seen : List Bytes),
    isOk (createRules k seen (rs.map erase)) = isOk (createRules k seen rs)
  | [], _ => rfl
  | r :: rs, seen => by
    have h1 : isOk (createRule k seen (erase r)) = isOk (createRule k seen r) := by
      obtain ⟨name, gen, val, p, q⟩ := r
      exact createRule_pos k seen name gen val 0 0 p q
    simp only [List.map_cons, createRules]
    cases ha : createRule k seen (erase r) <;> cases hb : createRule k seen r <;> simp only [ha, hb, isOk] at h1 ⊢
    · exact absurd h1 (by simp)
    · exact absurd h1 (by simp)
    · exact createRules_erase k rs (r.name :: seen)

theorem createRules_ok_of_erase (k : Loader.NK) (rs : List Rule) (h : isOk (createRules k [] (rs.map erase)) = true) :
    createRules k [] rs = .ok () := by
  rw [createRules_erase] at h
  exact isOk_iff.mp h

end C02T
