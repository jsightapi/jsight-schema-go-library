import JSight.SchemaErrPrefix
/-!
C17, schema scanner: the statement "the prefix before the offending byte can be completed to an accepted text" is FALSE
on the known-finding class K-C17-comment-in-inline-annotation.  Witness `[1 //{#c\n}]`: reported at offset 10
("at the end of value"), but `[1 //{#c\n}` followed by ANY bytes is rejected.

Organisation: `Reach data s s'` — the scanner gets from `s` to `s'` by applying queued lexemes and reading bytes
(`Reach.fails`: a failing run from `s'` is a failing run from `s`; `Reach.byte`: one byte and everything it queues).
The run over the ten bytes `[1 //{#c\n}` is done once for EVERY continuation (`pre_reach`, four stations):

* behind `[1 ` : after an array item;
* behind `//{#` : `anyCommentStart` with `ann = inline` over `[objB, inlAnnB, arrB]` — the comment state over an
  inline-annotation marker; the comment resets `ann` to `none`;
* behind `c\n` : back in the object of the annotation, but with `ann = none`: the object is now an ordinary value;
* behind `}` : `stateEndValue` over the inline-annotation marker (`stack = [inlAnnB, arrB]`, `ann = none`).

From there (`stuck`): every byte is rejected at offset 10 ("at the end of value"), and the end of input closes the
annotation marker and is then rejected with "unexpected end of file" (the array is still open).
-/
namespace SchemaScan
namespace ViableFalse

/-- the scanner gets from `s` to `s'`: queued lexemes applied, bytes read -/
inductive Reach (data : Array Cls) : Sc → Sc → Prop
  | refl (s : Sc) : Reach data s s
  | step {s s1 s' : Sc} : micro data s = .ok (some s1) → Reach data s1 s' → Reach data s s'

variable {data : Array Cls}

theorem Reach.shift {s s1 s' : Sc} {ev : Ev} (h : shiftFound data s = .ok (some (s1, ev))) (hr : Reach data s1 s') :
    Reach data s s' :=
  .step (by unfold micro; rw [h]) hr

theorem Reach.read {s s1 s' : Sc} (h : shiftFound data s = .ok none) (hi : s.index < data.size)
    (hr : readStep data s = .ok s1) (h' : Reach data s1 s') : Reach data s s' :=
  .step (by unfold micro; rw [h]; simp only [hi, if_true, hr]; rfl) h'

theorem Reach.trans {s s1 s2 : Sc} (h1 : Reach data s s1) (h2 : Reach data s1 s2) : Reach data s s2 := by
  induction h1 with
  | refl _ => exact h2
  | step h _ ih => exact Reach.step h (ih h2)

/-- a failing run from the state reached is a failing run from the start -/
theorem Reach.fails {s s' : Sc} {e : Err} (h : Reach data s s') (hf : Fails data s' e) : Fails data s e := by
  induction h with
  | refl _ => exact hf
  | step h _ ih => exact Fails.step h (ih hf)

theorem Reach.drain : ∀ (fs : List LexT) (s s' : Sc) (evs : List Ev),
    s.finds = fs → drainL data fs s = .ok (s', evs) → Reach data s s'
  | [], s, s', evs, _, h => by
    simp only [drainL, pure, Except.pure] at h
    cases h
    exact Reach.refl s
  | t :: rest, s, s', evs, hf, h => by
    simp only [drainL] at h
    cases hp : processFound data { s with finds := rest } t with
    | error e => rw [hp] at h; cases h
    | ok p =>
      obtain ⟨s1, e⟩ := p
      rw [hp] at h
      simp only [] at h
      cases hd : drainL data rest s1 with
      | error e => rw [hd] at h; cases h
      | ok q =>
        obtain ⟨s2, es⟩ := q
        rw [hd] at h
        simp only [] at h
        have hs : shiftFound data s = .ok (some (s1, e)) := by
          unfold shiftFound
          rw [hf]
          simp only [bind, Except.bind, hp, pure, Except.pure]
        have r := Reach.drain rest s1 s2 es (processFound_finds hp).1 hd
        cases h
        exact Reach.shift hs r

/-- one byte: dispatch (whatever the look-ahead), then deliver everything it queued -/
theorem Reach.byte {s s1 s2 : Sc} {c : Cls} {evs : List Ev} (hf : s.finds = []) (hc : data[s.index]? = some c)
    (hd : ∀ p1 p2, dispatch 8 s.step { s with index := s.index + 1 } c p1 p2 = .ok s1)
    (hdr : drainL data s1.finds s1 = .ok (s2, evs)) : Reach data s s2 := by
  obtain ⟨hlt, hget⟩ := Array.getElem?_eq_some_iff.mp hc
  have hbang : data[s.index]! = c := by rw [getElem!_pos data s.index hlt]; exact hget
  refine Reach.read (shiftFound_nil data hf) hlt ?_ (Reach.drain s1.finds s1 s2 evs rfl hdr)
  unfold readStep
  rw [hbang]
  exact hd _ _

/-! ### the witness -/

/-- `[1 //{#c\n}` as byte classes -/
def pre : List Cls := [.lbrack, .d19, .sp, .slash, .slash, .lbrace, .hash, .hexo, .nl, .rbrace]

theorem pre_get (ext : List Cls) (k : Nat) (hk : k < 10) : (pre ++ ext).toArray[k]? = pre[k]? := by
  rw [List.getElem?_toArray, List.getElem?_append_left (by simpa [pre] using hk)]

theorem pre_size (ext : List Cls) : (pre ++ ext).toArray.size = 10 + ext.length := by
  simp [pre]; omega

/-- a state outside annotations and comments -/
def st (step : St) (ret : List St) (K : List (LexT × Nat)) (CS : List Ctx) (cx : Ctx) (a : Ann) (i : Nat) : Sc :=
  { step := step, ret := ret, stack := K, ctxStack := CS, ctx := cx, ann := a, index := i }

def cxArr : Ctx := { ty := .array, arrayHasItem := true }

/-- behind `[1 ` -/
def s3 : Sc := st .afterItem [] [(.arrB, 0)] [{ ty := .initial }] cxArr .none 3
/-- behind `[1 //{#`: the comment state over the inline-annotation marker -/
def s7 : Sc :=
  st .anyCommentStart [.objKeyOrEmpty, .afterItem] [(.objB, 5), (.inlAnnB, 3), (.arrB, 0)] [cxArr, { ty := .initial }]
    { ty := .object } .inline 7
/-- behind `[1 //{#c\n`: in the object of the annotation, `ann = none` -/
def s9 : Sc :=
  st .objKeyOrEmpty [.afterItem] [(.objB, 5), (.inlAnnB, 3), (.arrB, 0)] [cxArr, { ty := .initial }]
    { ty := .object } .none 9
/-- behind `[1 //{#c\n}`: `stateEndValue` over the inline-annotation marker, `ann = none` -/
def s10 : Sc := st .endValue [.afterItem] [(.inlAnnB, 3), (.arrB, 0)] [{ ty := .initial }] cxArr .none 10

macro "step_tac" : tactic =>
  `(tactic| (intro p1 p2; dsimp only [s3, s7, s9, s10, st]; simp only [dispatch, state0, endValue, dispatch']; rfl))

/-- `[1 ` -/
theorem reach3 (ext : List Cls) : Reach (pre ++ ext).toArray {} s3 := by
  have b0 : Reach (pre ++ ext).toArray {} (st .arrItemOrEmpty [] [(.arrB, 0)] [{ ty := .initial }] { ty := .array } .none 1) :=
    Reach.byte (s := {}) (c := .lbrack) rfl (pre_get ext 0 (by decide)) (by step_tac) rfl
  have b1 : Reach (pre ++ ext).toArray (st .arrItemOrEmpty [] [(.arrB, 0)] [{ ty := .initial }] { ty := .array } .none 1)
      (st .d1 [] [(.litB, 1), (.itemB, 1), (.arrB, 0)] [{ ty := .initial }] cxArr .none 2) :=
    Reach.byte (c := .d19) rfl (pre_get ext 1 (by decide)) (by step_tac) rfl
  have b2 : Reach (pre ++ ext).toArray (st .d1 [] [(.litB, 1), (.itemB, 1), (.arrB, 0)] [{ ty := .initial }] cxArr .none 2) s3 :=
    Reach.byte (c := .sp) rfl (pre_get ext 2 (by decide)) (by step_tac) rfl
  exact (b0.trans b1).trans b2

/-- `//{#` : into the comment state over the inline-annotation marker -/
theorem reach7 (ext : List Cls) : Reach (pre ++ ext).toArray s3 s7 := by
  have b3 : Reach (pre ++ ext).toArray s3 (st .anyAnnStart [.afterItem] [(.arrB, 0)] [{ ty := .initial }] cxArr .none 4) :=
    Reach.byte (c := .slash) rfl (pre_get ext 3 (by decide)) (by step_tac) rfl
  have b4 : Reach (pre ++ ext).toArray (st .anyAnnStart [.afterItem] [(.arrB, 0)] [{ ty := .initial }] cxArr .none 4)
      (st .inlAnn [.afterItem] [(.inlAnnB, 3), (.arrB, 0)] [{ ty := .initial }] cxArr .inline 5) :=
    Reach.byte (c := .slash) rfl (pre_get ext 4 (by decide)) (by step_tac) rfl
  have b5 : Reach (pre ++ ext).toArray (st .inlAnn [.afterItem] [(.inlAnnB, 3), (.arrB, 0)] [{ ty := .initial }] cxArr .inline 5)
      (st .objKeyOrEmpty [.afterItem] [(.objB, 5), (.inlAnnB, 3), (.arrB, 0)] [cxArr, { ty := .initial }]
        { ty := .object } .inline 6) :=
    Reach.byte (c := .lbrace) rfl (pre_get ext 5 (by decide)) (by step_tac) rfl
  have b6 : Reach (pre ++ ext).toArray (st .objKeyOrEmpty [.afterItem] [(.objB, 5), (.inlAnnB, 3), (.arrB, 0)]
      [cxArr, { ty := .initial }] { ty := .object } .inline 6) s7 :=
    Reach.byte (c := .hash) rfl (pre_get ext 6 (by decide)) (by step_tac) rfl
  exact ((b3.trans b4).trans b5).trans b6

/-- `c\n` : the comment resets `ann`; its line break is read a second time by the object state -/
theorem reach9 (ext : List Cls) : Reach (pre ++ ext).toArray s7 s9 := by
  have b7 : Reach (pre ++ ext).toArray s7 (st .inlineComment [.objKeyOrEmpty, .afterItem]
      [(.objB, 5), (.inlAnnB, 3), (.arrB, 0)] [cxArr, { ty := .initial }] { ty := .object } .none 8) :=
    Reach.byte (c := .hexo) rfl (pre_get ext 7 (by decide)) (by step_tac) rfl
  have b8 : Reach (pre ++ ext).toArray (st .inlineComment [.objKeyOrEmpty, .afterItem]
      [(.objB, 5), (.inlAnnB, 3), (.arrB, 0)] [cxArr, { ty := .initial }] { ty := .object } .none 8)
      (st .objKeyOrEmpty [.afterItem] [(.objB, 5), (.inlAnnB, 3), (.arrB, 0)] [cxArr, { ty := .initial }]
        { ty := .object } .none 8) :=
    Reach.byte (c := .nl) rfl (pre_get ext 8 (by decide)) (by step_tac) rfl
  have b8' : Reach (pre ++ ext).toArray (st .objKeyOrEmpty [.afterItem] [(.objB, 5), (.inlAnnB, 3), (.arrB, 0)]
      [cxArr, { ty := .initial }] { ty := .object } .none 8) s9 :=
    Reach.byte (c := .nl) rfl (pre_get ext 8 (by decide)) (by step_tac) rfl
  exact (b7.trans b8).trans b8'

/-- `}` : the object of the annotation is closed as an ordinary value (`ann = none`) -/
theorem reach10 (ext : List Cls) : Reach (pre ++ ext).toArray s9 s10 :=
  Reach.byte (c := .rbrace) rfl (pre_get ext 9 (by decide)) (by step_tac) rfl

theorem pre_reach (ext : List Cls) : Reach (pre ++ ext).toArray {} s10 :=
  (((reach3 ext).trans (reach7 ext)).trans (reach9 ext)).trans (reach10 ext)

/-- **stuck**: from the state behind `[1 //{#c\n}` every continuation fails — any byte is rejected at offset 10, the end
of input with "unexpected end of file" -/
theorem stuck (ext : List Cls) :
    Fails (pre ++ ext).toArray s10
      (match ext with | [] => .unexpectedEOF 9 | _ :: _ => .invalidChar 10 "at the end of value") := by
  cases ext with
  | nil =>
    refine Fails.eof (s' := { s10 with index := 11, stack := [(.arrB, 0)] }) (ev := ⟨.inlAnnE, 3, 9⟩) rfl (by decide) rfl ?_
    exact Fails.eofErr rfl (by decide) rfl
  | cons c rest =>
    refine Fails.readErr rfl (by rw [pre_size]; simp [s10, st]) ?_
    unfold readStep
    dsimp only [s10, st]
    simp only [dispatch, endValue]
    rfl

theorem after_pre (ext : List Cls) :
    Fails (pre ++ ext).toArray {}
      (match ext with | [] => .unexpectedEOF 9 | _ :: _ => .invalidChar 10 "at the end of value") :=
  (pre_reach ext).fails (stuck ext)

/-! ### on bytes -/

/-- `[1 //{#c\n}` -/
def preB : List UInt8 := [91, 49, 32, 47, 47, 123, 35, 99, 10, 125]
/-- `[1 //{#c\n}]` -/
def witness : List UInt8 := preB ++ [93]

theorem preB_classes (ext : List UInt8) : (preB ++ ext).map classify = pre ++ ext.map classify := by
  rw [List.map_append]; rfl

/-- the model reports the witness at offset 10 … -/
theorem witness_error : scanAll witness = .error (.invalidChar 10 "at the end of value") := by
  apply fails_scanAll
  unfold witness
  rw [preB_classes]
  exact after_pre [Cls.rbrack]

theorem witness_take : witness.take 10 = preB := rfl

/-- … but no continuation of the ten bytes before it is accepted: the prefix before the reported byte is NOT viable -/
theorem prefix_dead (ext : List UInt8) (evs : List Ev) : scanAll (preB ++ ext) ≠ .ok evs := by
  intro h
  unfold scanAll at h
  simp only [preB_classes] at h
  exact fails_not_ok (after_pre (ext.map classify)) _ _ _ h

end ViableFalse
end SchemaScan
