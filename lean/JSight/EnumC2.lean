import JSight.EnumC
/-!
C18, comments in enum rules: duplicates, exponents, `Len` — for the text grammar of `EnumC` (layout with comments).

* `enumC_duplicate`: the first item whose key repeats an earlier one is rejected with error 810 at the first byte of
  its token, whatever comments stand between the items.
* `enumC_exponent`: an `e` / `E` directly behind a number token (number of the grammar: no exponent) is rejected
  with error 301 at that byte — the enum scanner has NO exponent form.
* `enumC_length`: `Len` is the length of the text without its trailing blanks: a trailing comment is INSIDE.
-/
namespace EnumScan
open SchemaScan (Cls classify)

/-! ### a prefix of items, each followed by its comma -/

def renderInitC : List ItemC → List UInt8
  | [] => []
  | (l1, t, l2) :: its => LayB.render l1 ++ (t ++ (LayB.render l2 ++ (44 :: renderInitC its)))

def evsInitC : Nat → List ItemC → List Ev
  | _, [] => []
  | o, (l1, t, l2) :: its =>
    layEvsB o l1 ++ (itemEvs (o + (LayB.render l1).length) (o + (LayB.render l1).length + t.length) ++
      (layEvsB (o + (LayB.render l1).length + t.length) l2 ++
        evsInitC (o + (LayB.render l1).length + t.length + (LayB.render l2).length + 1) its))

theorem renderItemsC_append (its1 rest : List ItemC) (h : rest ≠ []) :
    renderItemsC (its1 ++ rest) = renderInitC its1 ++ renderItemsC rest := by
  induction its1 with
  | nil => rfl
  | cons it its ih =>
    obtain ⟨l1, t, l2⟩ := it
    have hne : (its ++ rest).isEmpty = false := by
      cases its <;> cases rest <;> simp at h ⊢
    simp only [List.cons_append, renderItemsC, renderInitC, hne, Bool.false_eq_true, if_false, ih, List.append_assoc]
    simp

theorem evsInitC_length_le (its : List ItemC) : ∀ (o : Nat), ValidItemsC its →
    (evsInitC o its).length ≤ 4 * (renderInitC its).length := by
  induction its with
  | nil => intro o _; simp [evsInitC, renderInitC]
  | cons it its ih =>
    intro o hv
    obtain ⟨l1, t, l2⟩ := it
    obtain ⟨hl1, htk, hl2⟩ : LayB.Valid l1 ∧ IsTok (t.map classify) ∧ LayB.Valid l2 := hv (l1, t, l2) (by simp)
    have ht := htk.length_pos
    simp only [List.length_map] at ht
    have h1 := layEvsB_length_le o l1 hl1
    have h2 := layEvsB_length_le (o + (LayB.render l1).length + t.length) l2 hl2
    have h3 := ih (o + (LayB.render l1).length + t.length + (LayB.render l2).length + 1)
      (fun x hx => hv x (by simp [hx]))
    simp only [evsInitC, renderInitC, itemEvs, List.length_append, List.length_cons, List.length_nil]
    omega

theorem itemsC_prefix (bs : List UInt8) (a : Nat) (lc : Bool) : ∀ (its : List ItemC) (first : Bool)
    (uq : List (List UInt8 × Bool)) (o : Nat),
    ValidItemsC its → Lay.AtB bs.toArray o (renderInitC its) → FreshAllC uq its →
    Pre bs.toArray (bs.map classify).toArray
      ⟨stFirst first, [], [(.arrB, a)], [], o, false, false, lc, false, uq⟩ (evsInitC o its)
      ⟨stFirst (first && its.isEmpty), [], [(.arrB, a)], [], o + (renderInitC its).length, false, false, lc, false,
        (its.map itemKeyC).reverse ++ uq⟩ := by
  intro its
  induction its with
  | nil =>
    intro first uq o _ _ _
    simp only [List.isEmpty_nil, Bool.and_true, renderInitC, List.length_nil, Nat.add_zero, List.map_nil,
      List.reverse_nil, List.nil_append, evsInitC]
    exact Pre.refl _
  | cons it its ih =>
    intro first uq o hv hat hfr
    obtain ⟨l1, t, l2⟩ := it
    obtain ⟨hl1, htk, hl2⟩ : LayB.Valid l1 ∧ IsTok (t.map classify) ∧ LayB.Valid l2 := hv (l1, t, l2) (by simp)
    have hv' : ValidItemsC its := fun x hx => hv x (by simp [hx])
    obtain ⟨hk, hfr'⟩ := hfr
    have hst : stFirst first = .arrItemOrEmpty ∨ stFirst first = .arrItem := by cases first <;> simp [stFirst]
    obtain ⟨hat1, hat2⟩ := atB_item (x := 44) hat
    have h := itemB_pre bs a lc hst l1 t l2 hl1 htk hl2 SchemaScan.classify_comma (Or.inl rfl) uq o hat1 hk
    have h2 := ih false (tokKey t :: uq) (o + (LayB.render l1).length + t.length + (LayB.render l2).length + 1) hv'
      hat2 hfr'
    have e : o + (renderInitC ((l1, t, l2) :: its)).length
        = o + (LayB.render l1).length + t.length + (LayB.render l2).length + 1 + (renderInitC its).length := by
      simp [renderInitC]; omega
    rw [e]
    refine (h.trans h2).cast ?_ |>.castS ?_
    · simp [evsInitC, delimEvs, List.append_assoc]
    · simp only [Bool.false_and, List.isEmpty_cons, Bool.and_false, List.map_cons, List.reverse_cons,
        List.append_assoc, List.cons_append, List.nil_append]
      rfl

/-! ### duplicates -/

theorem classify_47_delim : isDelimC (classify 47) = true := by rw [classify_slash]; rfl

theorem PieceB.head_delim (p : PieceB) (hv : p.Valid) : ∃ x rest, p.render = x :: rest ∧ isDelimC (classify x) = true := by
  cases p with
  | blank c =>
    refine ⟨c, [], rfl, ?_⟩
    have hb : (classify c).isBlank = true := hv.1
    cases h : classify c <;> rw [h] at hb <;> simp [Cls.isBlank, Cls.isSpace, Cls.isNewLine] at hb <;> rfl
  | inl sp txt nl => exact ⟨47, _, rfl, classify_47_delim⟩
  | ml ws txt => exact ⟨47, _, rfl, classify_47_delim⟩

theorem after_tok_delimC (l2 : LayB) (hl2 : l2.Valid) (its2 : List ItemC) :
    ∃ x rest, LayB.render l2 ++ ((if its2.isEmpty then [] else [44]) ++ renderItemsC its2) = x :: rest ∧
      isDelimC (classify x) = true := by
  cases l2 with
  | nil =>
    cases its2 with
    | nil => exact ⟨93, [], rfl, by rw [SchemaScan.classify_rbrack]; rfl⟩
    | cons it its => exact ⟨44, renderItemsC (it :: its), rfl, by rw [SchemaScan.classify_comma]; rfl⟩
  | cons p L =>
    obtain ⟨x, rest, hx, hd⟩ := p.head_delim (hl2 p (by simp))
    exact ⟨x, rest ++ (LayB.render L ++ ((if its2.isEmpty then [] else [44]) ++ renderItemsC its2)),
      by simp [LayB.render, hx], hd⟩

/-- the prefix `pre [ ws0 items…` up to the state in which the next item starts -/
theorem enumC_prefix (lc : Bool) (pre : List UInt8) (ws0 : LayB) (its1 : List ItemC) (bs : List UInt8)
    (hpre : IsWsB pre) (hws0 : ws0.Valid) (hv : ValidItemsC its1) (hnd : (its1.map itemKeyC).Nodup)
    (a1 : Lay.AtB bs.toArray 0 pre) (a2 : Lay.AtB bs.toArray pre.length [91])
    (a3 : Lay.AtB bs.toArray (pre.length + 1) (LayB.render ws0))
    (a4 : Lay.AtB bs.toArray (pre.length + 1 + (LayB.render ws0).length) (renderInitC its1)) :
    ∃ evs, evs.length ≤ 4 * (pre.length + 1 + (LayB.render ws0).length + (renderInitC its1).length) ∧
      Pre bs.toArray (bs.map classify).toArray ⟨.begin, [], [], [], 0, false, false, lc, false, []⟩ evs
        ⟨stFirst its1.isEmpty, [], [(.arrB, pre.length)], [],
          pre.length + 1 + (LayB.render ws0).length + (renderInitC its1).length, false, false, lc, false,
          (its1.map itemKeyC).reverse⟩ := by
  have h1 := pre_ws_begin (content := bs.toArray) lc false [] (pre.map classify) hpre 0 (segA_of_atB a1)
  have h2 := pre_lbrack (content := bs.toArray) pre.length lc false []
    (by have := (segA_of_atB a2).1; rw [SchemaScan.classify_lbrack] at this; exact this)
  have h3 := pre_lay_loop (content := bs.toArray) (st := .arrItemOrEmpty) (Or.inl rfl) pre.length lc false []
    ws0.cls (LayB.cls_valid ws0 hws0) (pre.length + 1) (segA_lay hws0 a3)
  have h4 := itemsC_prefix bs pre.length lc its1 true [] (pre.length + 1 + (LayB.render ws0).length) hv a4
    (freshAllC_of_nodup its1 [] (by simp) hnd)
  simp only [List.length_map, Nat.zero_add, LayB.render_length ws0 hws0, Bool.true_and, List.append_nil] at h1 h3 h4
  have l3 := layEvsB_length_le (pre.length + 1) ws0 hws0
  have l4 := evsInitC_length_le its1 (pre.length + 1 + (LayB.render ws0).length) hv
  refine ⟨_, ?_, ((h1.trans h2).trans h3).trans h4⟩
  simp only [List.length_append, List.length_cons, List.length_nil, layEvsB] at l3 ⊢
  omega

/-- **duplicates**, automaton tokens -/
theorem enumC_duplicate' (pre : List UInt8) (ws0 post : LayB) (its1 : List ItemC) (dup : ItemC) (its2 : List ItemC)
    (hpre : IsWsB pre) (hws0 : ws0.Valid) (hv : ValidItemsC (its1 ++ dup :: its2))
    (hnd : (its1.map itemKeyC).Nodup) (hdup : itemKeyC dup ∈ its1.map itemKeyC) :
    scanAll (renderEnumC pre ws0 (its1 ++ dup :: its2) post)
      = .error (.duplicate (pre.length + 1 + (LayB.render ws0).length + (renderInitC its1).length
          + (LayB.render dup.1).length)) := by
  obtain ⟨dl1, dt, dl2⟩ := dup
  obtain ⟨hdl1, hdt, hdl2⟩ : LayB.Valid dl1 ∧ IsTok (dt.map classify) ∧ LayB.Valid dl2 := hv (dl1, dt, dl2) (by simp)
  have hv1 : ValidItemsC its1 := fun x hx => hv x (by simp [hx])
  obtain ⟨x, rest, hx, hxd⟩ := after_tok_delimC dl2 hdl2 its2
  -- the text, split at the offending token
  have htext : renderEnumC pre ws0 (its1 ++ (dl1, dt, dl2) :: its2) post
      = pre ++ (91 :: (LayB.render ws0 ++ ((renderInitC its1 ++
          (LayB.render dl1 ++ (dt ++ [x]))) ++ (rest ++ LayB.render post)))) := by
    have hri : renderItemsC ((dl1, dt, dl2) :: its2) = LayB.render dl1 ++ (dt ++ (x :: rest)) := by
      simp only [renderItemsC]; rw [hx]
    rw [renderEnumC, renderItemsC_append its1 _ (by simp), hri]
    simp [List.append_assoc]
  generalize renderEnumC pre ws0 (its1 ++ (dl1, dt, dl2) :: its2) post = bs at htext ⊢
  obtain ⟨a1, a2, a3, a4, _⟩ := atB_enum pre (LayB.render ws0) _ _ htext
  obtain ⟨a4, a5⟩ := (Lay.AtB_append _ _ _ _).1 a4
  obtain ⟨evs, hlen, hp⟩ := enumC_prefix false pre ws0 its1 bs hpre hws0 hv1 hnd a1 a2 a3 a4
  have len1 := LayB.render_length dl1 hdl1
  have hs := segA_of_atB a5
  rw [show (LayB.render dl1 ++ (dt ++ [x])).map classify = Lay.render dl1.cls ++ (dt.map classify ++ [classify x]) by
    simp [LayB.render_map dl1 hdl1]] at hs
  have hkey : keyAt bs.toArray (pre.length + 1 + (LayB.render ws0).length + (renderInitC its1).length
      + (LayB.render dl1).length) dt.length = tokKey dt :=
    keyAt_of_atB ((Lay.AtB_append _ _ _ _).1 ((Lay.AtB_append _ _ _ _).1 a5).2).1 hdt
  have hst : stFirst its1.isEmpty = .arrItemOrEmpty ∨ stFirst its1.isEmpty = .arrItem := by
    cases its1.isEmpty <;> simp [stFirst]
  obtain ⟨n, hn, h⟩ := itemC_dup (content := bs.toArray) hst dl1.cls (dt.map classify) (LayB.cls_valid dl1 hdl1) hdt hxd
    pre.length (pre.length + 1 + (LayB.render ws0).length + (renderInitC its1).length) false
    ((its1.map itemKeyC).reverse) hs
    (by
      simp only [List.length_map, len1]
      rw [hkey]
      simpa [itemKeyC] using hdup)
  simp only [len1] at h hn
  have hfin := hp.outT h
  unfold scanAll
  refine OutT_events _ _ hfin _ ?_
  have hsz : bs.length = pre.length + 1 + (LayB.render ws0).length + (renderInitC its1).length
      + (LayB.render dl1).length + dt.length + 1 + rest.length + (LayB.render post).length := by
    rw [htext]; simp; omega
  simp only [List.size_toArray, List.length_map]
  omega

/-- **duplicates** for the token grammar -/
theorem enumC_duplicate (pre : List UInt8) (ws0 post : LayB) (its1 : List ItemC) (dup : ItemC) (its2 : List ItemC)
    (hpre : IsWsB pre) (hws0 : ws0.Valid) (hv : GValidItemsC (its1 ++ dup :: its2))
    (hnd : (its1.map itemKeyC).Nodup) (hdup : itemKeyC dup ∈ its1.map itemKeyC) :
    scanAll (renderEnumC pre ws0 (its1 ++ dup :: its2) post)
      = .error (.duplicate (pre.length + 1 + (LayB.render ws0).length + (renderInitC its1).length
          + (LayB.render dup.1).length)) :=
  enumC_duplicate' pre ws0 post its1 dup its2 hpre hws0 hv.valid hnd hdup

/-! ### exponents -/

theorem classify_e : classify 101 = .le := by decide
theorem classify_E : classify 69 = .uE := by decide

/-- **no exponent form**: behind any prefix of valid items, layout, a number of the grammar and then `e` or `E`,
the scan fails with error 301 (`invalidChar`) at the exponent letter, whatever follows -/
theorem enumC_exponent' (pre : List UInt8) (ws0 : LayB) (its1 : List ItemC) (l1 : LayB) (num : List UInt8) (x : UInt8)
    (rest : List UInt8) (hpre : IsWsB pre) (hws0 : ws0.Valid) (hv : ValidItemsC its1)
    (hnd : (its1.map itemKeyC).Nodup) (hl1 : l1.Valid) (hnum : IsNumTok (num.map classify)) (hx : x = 101 ∨ x = 69) :
    scanAll (pre ++ (91 :: (LayB.render ws0 ++ (renderInitC its1 ++ (LayB.render l1 ++ (num ++ (x :: rest)))))))
      = .error (.invalidChar (pre.length + 1 + (LayB.render ws0).length + (renderInitC its1).length
          + (LayB.render l1).length + num.length) "isn't allowed 'cause not obvious it's a float or an integer") := by
  generalize hbs : pre ++ (91 :: (LayB.render ws0 ++ (renderInitC its1 ++ (LayB.render l1 ++ (num ++ (x :: rest)))))) = bs
  obtain ⟨a1, a2, a3, a4, a5⟩ := atB_enum pre (LayB.render ws0) (renderInitC its1)
    ((LayB.render l1 ++ (num ++ [x])) ++ rest) (hbs.symm.trans (by simp))
  obtain ⟨a5, _⟩ := (Lay.AtB_append _ _ _ _).1 a5
  obtain ⟨evs, hlen, hp⟩ := enumC_prefix false pre ws0 its1 bs hpre hws0 hv hnd a1 a2 a3 a4
  have len1 := LayB.render_length l1 hl1
  have hs := segA_of_atB a5
  rw [show (LayB.render l1 ++ (num ++ [x])).map classify = Lay.render l1.cls ++ (num.map classify ++ [classify x]) by
    simp [LayB.render_map l1 hl1]] at hs
  have hxc : classify x = .le ∨ classify x = .uE := by
    rcases hx with rfl | rfl
    · exact Or.inl classify_e
    · exact Or.inr classify_E
  have hst : stFirst its1.isEmpty = .arrItemOrEmpty ∨ stFirst its1.isEmpty = .arrItem := by
    cases its1.isEmpty <;> simp [stFirst]
  obtain ⟨n, hn, h⟩ := itemC_exp (content := bs.toArray) hst l1.cls (num.map classify) (LayB.cls_valid l1 hl1) hnum hxc
    pre.length (pre.length + 1 + (LayB.render ws0).length + (renderInitC its1).length) false
    ((its1.map itemKeyC).reverse) hs
  simp only [List.length_map, len1] at h hn
  have hfin := hp.outT h
  unfold scanAll
  refine OutT_events _ _ hfin _ ?_
  have hsz : bs.length = pre.length + 1 + (LayB.render ws0).length + (renderInitC its1).length
      + (LayB.render l1).length + num.length + 1 + rest.length := by
    rw [← hbs]; simp; omega
  simp only [List.size_toArray, List.length_map]
  omega

/-- the same for the number grammar -/
theorem enumC_exponent (pre : List UInt8) (ws0 : LayB) (its1 : List ItemC) (l1 : LayB) (t : NumTok) (num : List UInt8)
    (x : UInt8) (rest : List UInt8) (hpre : IsWsB pre) (hws0 : ws0.Valid) (hv : GValidItemsC its1)
    (hnd : (its1.map itemKeyC).Nodup) (hl1 : l1.Valid) (hwf : t.WF) (hnum : num.map classify = t.render)
    (hx : x = 101 ∨ x = 69) :
    scanAll (pre ++ (91 :: (LayB.render ws0 ++ (renderInitC its1 ++ (LayB.render l1 ++ (num ++ (x :: rest)))))))
      = .error (.invalidChar (pre.length + 1 + (LayB.render ws0).length + (renderInitC its1).length
          + (LayB.render l1).length + num.length) "isn't allowed 'cause not obvious it's a float or an integer") :=
  enumC_exponent' pre ws0 its1 l1 num x rest hpre hws0 hv.valid hnd hl1 (by rw [hnum]; exact number_isNumTok t hwf) hx

/-! ### Len -/

theorem foldl_lenF_last (size : Nat) (l : List Ev) (x : Ev) (b : Nat) :
    (l ++ [x]).foldl (lenF size) b = lenF size 0 x := by
  simp [List.foldl_append, lenF]

/-- the `Len` fold over a layout: afterwards only blanks lie between the value and the end of the layout -/
theorem lenF_lay (data : Array Cls) (L : Lay) (hv : L.Valid) : ∀ (o b : Nat), SegA data o (Lay.render L) →
    o + (Lay.render L).length ≤ data.size → SchemaScan.Len.BlankRun data b o →
    SchemaScan.Len.BlankRun data ((layEvs o L).foldl (lenF data.size) b) (o + (Lay.render L).length) := by
  induction L with
  | nil => intro o b _ _ h; simpa [layEvs, Lay.render] using h
  | cons p L ih =>
    intro o b hseg hsz hb
    obtain ⟨hp, hL⟩ := SegA_append (show SegA data o (p.render ++ Lay.render L) from hseg)
    simp only [Lay.render, List.length_append] at hsz
    have hstep : SchemaScan.Len.BlankRun data ((p.evs o).foldl (lenF data.size) b) (o + p.render.length) := by
      cases p with
      | blank c =>
        have hc : c.isBlank = true := hv (.blank c) (by simp)
        simp only [Piece.render, List.length_cons, List.length_nil] at hsz ⊢
        simp only [Piece.evs, nlEvs, List.append_nil]
        split
        · simp only [List.foldl_cons, List.foldl_nil, lenF]
          -- the event ends inside the text, so `lenF` answers its end + 1 (the same in the two cases below)
          have : ¬ o ≥ data.size := by omega
          simp only [this, if_false]
          exact SchemaScan.Len.BlankRun.refl (o + 1)
        · simp only [List.foldl_nil]
          refine ⟨by have := hb.1; omega, fun j h1 h2 => ?_⟩
          rcases Nat.lt_or_ge j o with h | h
          · exact hb.2 j h1 h
          · have : j = o := by omega
            subst this
            rw [hp.1]; simp [hc]
      | inl sp txt =>
        rw [Piece.render_length_inl] at hsz ⊢
        simp only [Piece.evs, inlEvs, List.foldl_cons, List.foldl_nil, lenF]
        have : ¬ o + 1 + 1 + sp.length + txt.length ≥ data.size := by omega
        simp only [this, if_false]
        rw [show o + 1 + 1 + sp.length + txt.length + 1 = o + (2 + sp.length + txt.length + 1) by omega]
        exact SchemaScan.Len.BlankRun.refl _
      | ml ws txt =>
        rw [Piece.render_length_ml] at hsz ⊢
        simp only [Piece.evs, mlEvs, List.foldl_cons, List.foldl_append, List.foldl_nil, lenF]
        have : ¬ o + 1 + 1 + ws.length + txt.length + 1 ≥ data.size := by omega
        simp only [this, if_false]
        rw [show o + 1 + 1 + ws.length + txt.length + 1 + 1 = o + (2 + ws.length + txt.length + 2) by omega]
        exact SchemaScan.Len.BlankRun.refl _
    have := ih (fun x hx => hv x (by simp [hx])) (o + p.render.length) _ hL (by omega) hstep
    simp only [layEvs, List.foldl_append, Lay.render, List.length_append]
    rw [show o + (p.render.length + (Lay.render L).length) = o + p.render.length + (Lay.render L).length by omega]
    exact this

theorem renderItemsC_last (its : List ItemC) : ∃ init, renderItemsC its = init ++ [93] := by
  induction its with
  | nil => exact ⟨[], rfl⟩
  | cons it its ih =>
    obtain ⟨l1, t, l2⟩ := it
    obtain ⟨init, h⟩ := ih
    exact ⟨LayB.render l1 ++ (t ++ (LayB.render l2 ++ ((if its.isEmpty then [] else [44]) ++ init))),
      by simp [renderItemsC, h]⟩

theorem evsItemsC_last (a : Nat) (its : List ItemC) : ∀ (o : Nat),
    ∃ init, evsItemsC a o its = init ++ [⟨.arrE, a, o + (renderItemsC its).length - 1⟩] := by
  induction its with
  | nil => intro o; exact ⟨[], by simp [evsItemsC, renderItemsC]⟩
  | cons it its ih =>
    intro o
    obtain ⟨l1, t, l2⟩ := it
    obtain ⟨init, h⟩ := ih (o + (LayB.render l1).length + t.length + (LayB.render l2).length + (if its.isEmpty then 0 else 1))
    refine ⟨layEvsB o l1 ++ (itemEvs (o + (LayB.render l1).length) (o + (LayB.render l1).length + t.length) ++
      (layEvsB (o + (LayB.render l1).length + t.length) l2 ++ init)), ?_⟩
    simp only [evsItemsC, h, List.append_assoc, renderItemsC, List.length_append]
    congr 6
    cases its <;> simp <;> omega

/-- the text without its trailing blanks; its length is what the scanners' `SchemaScan.trimBlank` computes on the whole
text (`trimBlank_rtrim`), the byte-list reading of the length without trailing blanks (`Trim.len`, `TrimLen`) -/
def rtrimB (bs : List UInt8) : List UInt8 := (bs.reverse.dropWhile Render.isBlank).reverse

theorem trimBlank_rtrim_rev (r : List UInt8) :
    SchemaScan.trimBlank (r.reverse.map classify).toArray r.length = (rtrimB r.reverse).length := by
  induction r with
  | nil => rfl
  | cons x r ih =>
    have e : SchemaScan.trimBlank (((x :: r).reverse).map classify).toArray (r.length + 1)
        = if ((((x :: r).reverse).map classify).toArray[r.length]?.map Cls.isBlank) == some true
          then SchemaScan.trimBlank (((x :: r).reverse).map classify).toArray r.length else r.length + 1 := rfl
    rw [List.length_cons, e]
    have hx : ((((x :: r).reverse).map classify).toArray)[r.length]? = some (classify x) := by
      simp
    rw [hx]
    simp only [Option.map_some]
    have hcongr : SchemaScan.trimBlank (((x :: r).reverse).map classify).toArray r.length
        = SchemaScan.trimBlank (r.reverse.map classify).toArray r.length := by
      apply SchemaScan.Len.trimBlank_congr
      intro j hj
      simp [List.getElem?_append_left, hj]
    unfold rtrimB
    simp only [List.reverse_reverse, List.dropWhile_cons]
    rw [isBlank_classify x]
    by_cases hb : (classify x).isBlank = true
    · simp only [hb, beq_self_eq_true, if_true]
      rw [hcongr, ih]
      unfold rtrimB
      simp
    · have hb' : (classify x).isBlank = false := by simpa using hb
      simp [hb']

theorem trimBlank_rtrim (bs : List UInt8) :
    SchemaScan.trimBlank (bs.map classify).toArray bs.length = (rtrimB bs).length := by
  have := trimBlank_rtrim_rev bs.reverse
  simpa using this

/-- **Len**, automaton tokens: the length of the text without its trailing blanks — a comment behind the closing
bracket (and everything up to the last non-blank byte) is inside -/
theorem enumC_length' (pre : List UInt8) (ws0 post : LayB) (items : List ItemC)
    (hpre : IsWsB pre) (hws0 : ws0.Valid) (hpost : post.Valid) (hv : ValidItemsC items)
    (hnd : (items.map itemKeyC).Nodup) :
    length (renderEnumC pre ws0 items post) = .ok (rtrimB (renderEnumC pre ws0 items post)).length := by
  have h := enumC_out true pre ws0 post items hpre hws0 hpost hv hnd
  have hle := enumEvsC_length_le pre ws0 post items hws0 hpost hv
  have hlen := renderEnumC_length pre ws0 post items
  rw [← trimBlank_rtrim]
  generalize hbs : renderEnumC pre ws0 items post = bs at h hle hlen
  obtain ⟨ri, hri⟩ := renderItemsC_last items
  have hril : (renderItemsC items).length = ri.length + 1 := by rw [hri]; simp
  have hbs' : bs = pre ++ (91 :: (LayB.render ws0 ++ (renderItemsC items ++ LayB.render post))) := by rw [← hbs]; rfl
  unfold length
  have hinit : ({ lengthComputing := true } : Sc) = ⟨.begin, [], [], [], 0, false, false, true, false, []⟩ := rfl
  simp only [bind, Except.bind]
  rw [OutT_lengthLoop bs.toArray (bs.map classify).toArray h _ (by
    simp only [List.size_toArray, List.length_map]; omega) 0]
  simp only [Except.map, pure, Except.pure]
  congr 1
  have hsize : ((bs.map classify).toArray).size
      = pre.length + 1 + (LayB.render ws0).length + ri.length + 1 + (Lay.render post.cls).length := by
    rw [LayB.render_length post hpost]
    simp only [List.size_toArray, List.length_map]; omega
  -- the fold: only the events behind the closing bracket matter
  obtain ⟨ei, hei⟩ := evsItemsC_last pre.length items (pre.length + 1 + (LayB.render ws0).length)
  have hfold : (enumEvsC pre ws0 items post).foldl (lenF ((bs.map classify).toArray).size) 0
      = (layEvs (pre.length + 1 + (LayB.render ws0).length + ri.length + 1) post.cls).foldl
          (lenF ((bs.map classify).toArray).size) (pre.length + 1 + (LayB.render ws0).length + ri.length + 1) := by
    simp only [enumEvsC, hei, layEvsB, List.foldl_cons, List.foldl_append, List.foldl_nil, hril]
    congr 1
    simp only [lenF, hsize]
    have : ¬ (pre.length + 1 + (LayB.render ws0).length + (ri.length + 1) - 1
        ≥ pre.length + 1 + (LayB.render ws0).length + ri.length + 1 + (Lay.render post.cls).length) := by omega
    simp only [this, if_false]
    omega
  have sP : SegA (bs.map classify).toArray (pre.length + 1 + (LayB.render ws0).length + ri.length + 1)
      (Lay.render post.cls) := by
    have := segA_lay hpost (atB_enum pre _ _ _ hbs').2.2.2.2
    rwa [hril, ← Nat.add_assoc] at this
  have hb := lenF_lay (bs.map classify).toArray post.cls (LayB.cls_valid post hpost)
    (pre.length + 1 + (LayB.render ws0).length + ri.length + 1) (pre.length + 1 + (LayB.render ws0).length + ri.length + 1)
    sP (by rw [hsize]; omega) (SchemaScan.Len.BlankRun.refl _)
  show SchemaScan.trimBlank _ ((enumEvsC pre ws0 items post).foldl (lenF ((bs.map classify).toArray).size) 0) = _
  rw [hfold]
  have hsz2 : bs.length = pre.length + 1 + (LayB.render ws0).length + ri.length + 1 + (Lay.render post.cls).length := by
    rw [← hsize]; simp
  rw [hsz2]
  exact (SchemaScan.Len.trimBlank_run hb).symm

/-- **Len** for the token grammar -/
theorem enumC_length (pre : List UInt8) (ws0 post : LayB) (items : List ItemC)
    (hpre : IsWsB pre) (hws0 : ws0.Valid) (hpost : post.Valid) (hv : GValidItemsC items)
    (hnd : (items.map itemKeyC).Nodup) :
    length (renderEnumC pre ws0 items post) = .ok (rtrimB (renderEnumC pre ws0 items post)).length :=
  enumC_length' pre ws0 post items hpre hws0 hpost hv.valid hnd

end EnumScan

#print axioms EnumScan.enumC_events
#print axioms EnumScan.enumC_filter
#print axioms EnumScan.enumC_values
#print axioms EnumScan.enumC_duplicate
#print axioms EnumScan.enumC_exponent
#print axioms EnumScan.enumC_length
