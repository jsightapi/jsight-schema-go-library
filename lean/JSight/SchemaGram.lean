import JSight.SchemaGramLay
import JSight.ShortcutStep
/-!
The grammar of scanned text, values: `Gram.Val S o t ev lk stE` — "`t` is the text of a value (a scalar, a type shortcut, an
array, an object, with layout wherever the scanner takes it) which, read at offset `o`, delivers `ev`" — and
`Gram.Entries` for the items / members of a container. ONE induction drives the byte-level scanner model through a
derivation, for either value of `lengthComputing`, as a `Path` (`Val.run`, `Entries.run`). A tree type with layout
(`Tree`, `Lay.BTree`, `STree`) only shows that its `render` and its expected events form a derivation; every fact about
the scanner on such a tree is then an instance.

The closers of a value are delivered by the first byte of whatever follows it: `Val.close_byte` and, for what may
follow inside a container, `Val.close_lay`, `close_sep`, `close_end`.
-/
namespace SchemaScan

def itemCtx (first : Bool) : VCtx := if first then .item0 else .item1
def keyCtxSt (first : Bool) : St := if first then .objKeyOrEmpty else .objKey

theorem itemCtx_ne (first : Bool) : (itemCtx first).st ≠ .objKey := by cases first <;> simp [itemCtx, VCtx.st]

namespace Gram
open Len

variable {lc : Bool} {data : Array Cls}

/-- what kind of value: it decides what is pending behind its last byte -/
inductive LK | lit | cont | short
  deriving DecidableEq

/-- what is open on the lexeme stack behind the last byte of the value -/
def LK.pend (o : Nat) : LK → List (LexT × Nat) | .lit => [(.litB, o)] | .cont => [] | .short => K2 o
/-- the events of the value that have been delivered when the scanner stands behind its last byte (a container: all) -/
def LK.opn (o : Nat) (ev : List Ev) : LK → List Ev
  | .lit => [⟨.litB, o, o⟩] | .cont => ev | .short => [⟨.mixB, o, o⟩, ⟨.tsB, o, o⟩]
/-- the events of the value itself that the byte BEHIND it delivers -/
def LK.own (ev : List Ev) : LK → List Ev | .lit => ev.drop 1 | .cont => [] | .short => ev.drop 2
/-- the kind of a value that is no shortcut -/
def LK.ofLit : Bool → LK | true => .lit | false => .cont
theorem LK.ofLit_ne (b : Bool) : LK.ofLit b ≠ .short := by cases b <;> simp [LK.ofLit]
theorem LK.ofLit_pend (b : Bool) (o : Nat) : (LK.ofLit b).pend o = pendOf b o := by cases b <;> rfl

/-- the two containers -/
inductive Br | arr | obj

/-- how an entry of the container is closed: as an array item, as a member value -/
@[simp] def Br.ck : Br → CK | .arr => .item | .obj => .val
@[simp] def Br.op : Br → Cls | .arr => .lbrack | .obj => .lbrace
@[simp] def Br.cl : Br → Cls | .arr => .rbrack | .obj => .rbrace
@[simp] def Br.opB : Br → LexT | .arr => .arrB | .obj => .objB
@[simp] def Br.clE : Br → LexT | .arr => .arrE | .obj => .objE
def Br.ty : Br → CtxT | .arr => .array | .obj => .object
theorem Br.ty_ck (br : Br) : ckTy br.ck = br.ty := by cases br <;> rfl
theorem Br.ck_ne (br : Br) : br.ck ≠ .key := by cases br <;> simp
/-- the state in which an entry may start -/
def Br.slot (first : Bool) : Br → St | .arr => (itemCtx first).st | .obj => keyCtxSt first
/-- the position at which the value of an entry starts -/
def Br.vctx (first : Bool) : Br → VCtx | .arr => itemCtx first | .obj => .objv

/-- what stands between the layout in front of an entry and its value — nothing in an array, `key ws : ws` in an object
(the scanner takes no comment there) — and the offset `o'` at which the value starts -/
inductive Head : Br → Nat → List Cls → List Ev → Nat → Prop
  | item {o : Nat} : Head .arr o [] [] o
  | key {o : Nat} {k w2 w3 : List Cls} : IsKey k → IsWs w2 → IsWs w3 →
      Head .obj o (k ++ (w2 ++ (.colon :: w3)))
        (⟨.keyB, o, o⟩ :: ⟨.keyE, o, o + k.length - 1⟩ :: (nlEvs (o + k.length) w2 ++ nlEvs (o + k.length + w2.length + 1) w3))
        (o + k.length + w2.length + 1 + w3.length)

mutual
/-- `Val S o t ev lk stE`: `t` is the text of a value which, read at offset `o`, delivers `ev`; `stE`: the scanner state
behind its last byte; `S`: type shortcuts may occur as leaves -/
inductive Val (S : Bool) : Nat → List Cls → List Ev → LK → St → Prop
  | scalar {o : Nat} {c : Cls} {tl : List Cls} {st0 : St} {u0 : Bool} {stE : St} :
      litStart c = some (st0, u0) → silentRun st0 [] u0 tl = some (stE, [], false) → PV stE = true →
      Val S o (c :: tl) [⟨.litB, o, o⟩, ⟨.litE, o, o + (c :: tl).length - 1⟩] .lit stE
  | short {o : Nat} {sc : Shortcut} {sps : List Cls} : S = true → sc.Valid → IsSpTabs sps →
      Val S o (sc.render ++ sps)
        [⟨.mixB, o, o⟩, ⟨.tsB, o, o⟩, ⟨.tsE, o, o + (sc.render ++ sps).length - 1⟩,
         ⟨.mixE, o, mixEndOf (o + (sc.render ++ sps).length - 1) (sc.render ++ sps)⟩] .short (tsSt sps.isEmpty)
  | cont {br : Br} {o : Nat} {w0 t : List Cls} {e0 ei : List Ev} :
      Layout (o + 1) w0 e0 → Entries S br o (o + 1 + w0.length) true t ei →
      Val S o (br.op :: (w0 ++ t)) (⟨br.opB, o, o⟩ :: (e0 ++ ei)) .cont .endValue
/-- the entries of the container opened at `a`, from offset `o`, with the closing bracket; `first`: no entry precedes
(only then may the bracket come at once, `nil`: there is no trailing comma) -/
inductive Entries (S : Bool) : Br → Nat → Nat → Bool → List Cls → List Ev → Prop
  | nil {br : Br} {a o : Nat} : Entries S br a o true [br.cl] [⟨br.clE, a, o⟩]
  | last {br : Br} {a o o' : Nat} {first : Bool} {lk : LK} {w1 h v w2 : List Cls} {e1 eh ev e2 : List Ev} {stE : St} :
      Layout o w1 e1 → Head br (o + w1.length) h eh o' → Val S o' v ev lk stE → Layout (o' + v.length) w2 e2 →
      (lk = .short → NlFirst w2) →
      Entries S br a o first (w1 ++ (h ++ (v ++ (w2 ++ [br.cl]))))
        (e1 ++ (eh ++ (⟨br.ck.B, o', o'⟩ :: (ev ++ (⟨br.ck.E, o', o' + v.length - 1⟩ ::
          (e2 ++ [⟨br.clE, a, o' + v.length + w2.length⟩]))))))
  | cons {br : Br} {a o o' : Nat} {first : Bool} {lk : LK} {w1 h v w2 t : List Cls} {e1 eh ev e2 et : List Ev} {stE : St} :
      Layout o w1 e1 → Head br (o + w1.length) h eh o' → Val S o' v ev lk stE → Layout (o' + v.length) w2 e2 →
      (lk = .short → NlFirst w2) → Entries S br a (o' + v.length + w2.length + 1) false t et →
      Entries S br a o first (w1 ++ (h ++ (v ++ (w2 ++ (.comma :: t)))))
        (e1 ++ (eh ++ (⟨br.ck.B, o', o'⟩ :: (ev ++ (⟨br.ck.E, o', o' + v.length - 1⟩ :: (e2 ++ et))))))
end

variable {S : Bool}

theorem Val.opn_own {o : Nat} {t : List Cls} {ev : List Ev} {lk : LK} {stE : St} (h : Val S o t ev lk stE) (X : List Ev) :
    lk.opn o ev ++ (lk.own ev ++ X) = ev ++ X := by
  cases h <;> simp [LK.opn, LK.own]

theorem Val.short_S {o : Nat} {t : List Cls} {ev : List Ev} {stE : St} (h : Val S o t ev .short stE) : S = true := by
  cases h; assumption

theorem Val.pv {o : Nat} {t : List Cls} {ev : List Ev} {lk : LK} {stE : St} (h : Val S o t ev lk stE) (hk : lk ≠ .short) :
    PV stE = true := by
  cases h <;> first | assumption | rfl | exact absurd rfl hk

/-! ### the byte behind a value closes it -/

/-- the step on the byte behind a value, from the two steps it can be: behind a type shortcut (state `tsSt`) and behind a
scalar or a container (a state with `PV`); `tail` and `C` are what the closing byte itself adds -/
theorem Val.close_byte {o : Nat} {t : List Cls} {ev : List Ev} {lk : LK} {stE : St} (h : Val S o t ev lk stE) (ck : CK)
    (b2 : Nat) (R : List (LexT × Nat)) (CS : List Ctx) (cx : Ctx) (al : Bool) (tail : List Ev) (C : Sc) (hatv : At data o t)
    (hts : lk = .short → ∀ nm, Path data (cfgL lc (tsSt nm) [] (K2 o ++ (ck.B, b2) :: R) false (o + t.length) CS cx al)
      (tsClosers data ck o b2 (o + t.length) ++ tail) C)
    (hpv : lk ≠ .short → ∀ lit b st, PV st = true →
      Path data (cfgL lc st [] (pendOf lit b ++ (ck.B, b2) :: R) false (o + t.length) CS cx al)
        (closersOf lit ck b b2 (o + t.length - 1) ++ tail) C) :
    Path data (cfgL lc stE [] (lk.pend o ++ (ck.B, b2) :: R) false (o + t.length) CS cx al)
      (lk.own ev ++ ⟨ck.E, b2, o + t.length - 1⟩ :: tail) C := by
  cases h with
  | scalar _ _ hp => exact (hpv (by simp) true o _ hp).cast (by simp [closersOf, LK.own]) rfl
  | short _ _ _ =>
    refine (hts rfl _).cast ?_ rfl
    rw [tsClosers, mixEnd_at _ o hatv (short_ne _ _)]
    rfl
  | cont _ _ => exact (hpv (by simp) false 0 _ rfl).cast (by simp [closersOf, LK.own]) rfl

/-- a non-empty layout behind an item or a member value: its first byte closes the value (behind a shortcut it must be a
line break) -/
theorem Val.close_lay {o : Nat} {t : List Cls} {ev : List Ev} {lk : LK} {stE : St} (h : Val S o t ev lk stE) (ck : CK)
    (hck : ck ≠ .key) (b2 : Nat) (R : List (LexT × Nat)) (CS : List Ctx) (cx : Ctx) (hcx : lk = .short → cx.ty = ckTy ck)
    (al : Bool) (hatv : At data o t) {c : Cls} {w : List Cls} {e : List Ev} (hl : Layout (o + t.length) (c :: w) e)
    (hf : lk = .short → NlFirst (c :: w)) (hat : At data (o + t.length) (c :: w)) :
    ∃ al', Path data (cfgL lc stE [] (lk.pend o ++ (ck.B, b2) :: R) false (o + t.length) CS cx al)
      (lk.own ev ++ ⟨ck.E, b2, o + t.length - 1⟩ :: e) (cfgL lc ck.aft [] R false (o + t.length + (w.length + 1)) CS cx al') := by
  have hcm : cmtLoop ck.aft = true := by cases ck <;> first | rfl | exact absurd rfl hck
  have hnl : lk = .short → data[o + t.length]? = some .nl := fun hk => by
    rcases hf hk with h | ⟨r, h⟩
    · cases h
    · cases h; exact hat.1
  have := Layout.from (lc := lc) (pre := lk.own ev ++ [⟨ck.E, b2, o + t.length - 1⟩]) hcm (aft_ne_objKey ck) R CS cx al hl hat
    (fun c0 hs hc => (h.close_byte ck b2 R CS cx al [] _ hatv
      (fun hk => by rw [hnl hk] at hc; cases hc; cases hs)
      (fun _ lit b st hp => (S_close_sp hp hs lit ck b b2 R _ CS cx al hc).cast (List.append_nil _).symm rfl)))
    (fun hc => (h.close_byte ck b2 R CS cx al [⟨.newLine, _, _⟩] _ hatv
      (fun hk nm => S_tsc_nl nm ck hck o b2 R _ CS cx (hcx hk) al hc)
      (fun _ lit b st hp => S_close_nl hp lit ck b b2 R _ CS cx al hc)).cast (by simp) rfl)
    (fun hc => (h.close_byte ck b2 R CS cx al [] _ hatv
      (fun hk => by rw [hnl hk] at hc; cases hc)
      (fun _ lit b st hp => (Len.S_close_hash hp lit ck hcm b b2 R _ CS cx al hc).cast (List.append_nil _).symm rfl)))
  simpa using this

/-- layout, then `,` -/
theorem Val.close_sep {o : Nat} {t : List Cls} {ev : List Ev} {lk : LK} {stE : St} (h : Val S o t ev lk stE) (ck : CK)
    (hck : ck ≠ .key) (b2 : Nat) (R : List (LexT × Nat)) (CS : List Ctx) (cx : Ctx) (hcx : lk = .short → cx.ty = ckTy ck)
    (al : Bool) (hatv : At data o t) {w : List Cls} {e : List Ev} (hl : Layout (o + t.length) w e)
    (hf : lk = .short → NlFirst w) (hat : At data (o + t.length) (w ++ [ck.sep])) :
    ∃ al', Path data (cfgL lc stE [] (lk.pend o ++ (ck.B, b2) :: R) false (o + t.length) CS cx al)
      (lk.own ev ++ ⟨ck.E, b2, o + t.length - 1⟩ :: e) (cfgL lc ck.nxt [] R false (o + t.length + w.length + 1) CS cx al') := by
  cases w with
  | nil =>
    rw [hl.nil_evs]
    exact ⟨al, h.close_byte ck b2 R CS cx al [] _ hatv
      (fun hk nm => (S_tsc_sep nm ck hck o b2 R _ CS cx (hcx hk) al hat.1).cast (List.append_nil _).symm rfl)
      (fun _ lit b st hp => (S_close_sep hp lit ck b b2 R _ CS cx al hat.1).cast (List.append_nil _).symm rfl)⟩
  | cons c w =>
    rw [At_append] at hat
    obtain ⟨al', h1⟩ := h.close_lay (lc := lc) ck hck b2 R CS cx hcx al hatv hl hf hat.1
    exact ⟨al', by simpa using Path.trans h1 (S_aft_sep (lc := lc) ck R _ CS cx al' hat.2.1)⟩

/-- layout, then the closing bracket -/
theorem Val.close_end {o : Nat} {t : List Cls} {ev : List Ev} {lk : LK} {stE : St} (h : Val S o t ev lk stE) (br : Br)
    (b2 a : Nat) (K : List (LexT × Nat)) (c0 : Ctx) (CS : List Ctx) (cx : Ctx) (hcx : lk = .short → cx.ty = br.ty)
    (al : Bool) (hatv : At data o t) {w : List Cls} {e : List Ev} (hl : Layout (o + t.length) w e)
    (hf : lk = .short → NlFirst w) (hat : At data (o + t.length) (w ++ [br.cl])) :
    ∃ al', Path data (cfgL lc stE [] (lk.pend o ++ (br.ck.B, b2) :: (br.opB, a) :: K) false (o + t.length) (c0 :: CS) cx al)
      (lk.own ev ++ ⟨br.ck.E, b2, o + t.length - 1⟩ :: (e ++ [⟨br.clE, a, o + t.length + w.length⟩]))
      (cfgL lc .endValue [] K false (o + t.length + w.length + 1) CS c0 al') := by
  cases w with
  | nil =>
    rw [hl.nil_evs]
    cases br
    · exact ⟨_, h.close_byte .item b2 _ _ cx al _ _ hatv
        (fun hk nm => S_tsc_rbrack nm o b2 a K _ c0 CS cx (hcx hk) al hat.1)
        (fun _ lit b st hp => S_close_rbrack hp lit b b2 a K _ c0 CS cx al hat.1)⟩
    · exact ⟨_, h.close_byte .val b2 _ _ cx al _ _ hatv
        (fun hk nm => S_tsc_rbrace nm o b2 a K _ c0 CS cx (hcx hk) al hat.1)
        (fun _ lit b st hp => S_close_rbrace hp lit b b2 a K _ c0 CS cx al hat.1)⟩
  | cons c w =>
    rw [At_append] at hat
    obtain ⟨al', h1⟩ := h.close_lay (lc := lc) br.ck br.ck_ne b2 ((br.opB, a) :: K) (c0 :: CS) cx
      (fun hk => br.ty_ck ▸ hcx hk) al hatv hl hf hat.1
    cases br
    · exact ⟨_, by simpa [Br.ck, Br.clE, CK.B, CK.E] using Path.trans h1 (S_aft_rbrack (lc := lc) a K _ c0 CS cx al' hat.2.1)⟩
    · exact ⟨_, by simpa [Br.ck, Br.clE, CK.B, CK.E] using Path.trans h1 (S_aft_rbrace (lc := lc) a K _ c0 CS cx al' hat.2.1)⟩

/-! ### the one induction -/

theorem Br.slot_false (br : Br) : br.slot false = br.ck.nxt := by cases br <;> rfl
theorem Br.slot_cmt (br : Br) (first : Bool) : cmtLoop (br.slot first) = true := by cases br <;> cases first <;> rfl
theorem Br.vctx_pre (br : Br) (first : Bool) (o : Nat) (R : List (LexT × Nat)) :
    (br.vctx first).pre o ++ R = (br.ck.B, o) :: R := by cases br <;> cases first <;> rfl
theorem Br.vctx_preEvs (br : Br) (first : Bool) (o : Nat) : (br.vctx first).preEvs o = [⟨br.ck.B, o, o⟩] := by
  cases br <;> cases first <;> rfl
theorem Br.vctx_root (br : Br) (first : Bool) : br.vctx first ≠ .root := by cases br <;> cases first <;> simp [Br.vctx, itemCtx]

/-- the first byte of a container -/
theorem Br.start (br : Br) (ctx : VCtx) (K : List (LexT × Nat)) (o : Nat) (CS : List Ctx) (cx : Ctx) (al : Bool)
    (hc : data[o]? = some br.op) :
    Path data (cfgL lc ctx.st [] K false o CS cx al) (ctx.preEvs o ++ [⟨br.opB, o, o⟩])
      (cfgL lc (br.slot true) [] ((br.opB, o) :: (ctx.pre o ++ K)) false (o + 1) (ctx.cx' cx :: CS) { ty := br.ty } al) := by
  cases br
  · exact S_start_array ctx K o CS cx al hc
  · exact S_start_object ctx K o CS cx al hc

/-- from the slot state (possibly moved on by line ends in the layout) over the head of an entry to the state in which its
value starts -/
theorem Head.run {br : Br} {o o' : Nat} {h : List Cls} {eh : List Ev} (hh : Head br o h eh o') (first : Bool) {st : St}
    (hs : br.slot first ≠ .objKey → st = br.slot first) (hk : keySt (br.slot first) = true → keySt st = true)
    (R : List (LexT × Nat)) (CS : List Ctx) (cx : Ctx) (al : Bool) (hat : At data o h) :
    o' = o + h.length ∧ ∃ al', Path data (cfgL lc st [] R false o CS cx al) eh
      (cfgL lc (br.vctx first).st [] R false o' CS cx al') := by
  cases hh with
  | item => exact ⟨rfl, al, by rw [hs (itemCtx_ne first)]; exact Path.refl _⟩
  | @key _ k w2 w3 hkey hw2 hw3 =>
    have hat' : At data o (k ++ (w2 ++ [.colon])) ∧ At data (o + k.length + w2.length + 1) w3 := by
      rw [At_append, At_append] at hat ⊢
      exact ⟨⟨hat.1, hat.2.1, hat.2.2.1, trivial⟩, hat.2.2.2⟩
    obtain ⟨al2, h2⟩ := Len.key_run (lc := lc) (hk (by cases first <;> rfl)) k hkey R w2 hw2 o CS cx al hat'.1
    obtain ⟨al3, h3⟩ := ws_run (lc := lc) w3 hw3 .objValue rfl R (o + k.length + w2.length + 1) CS cx al2 hat'.2
    rw [wsSt_eq (by simp)] at h3
    refine ⟨by simp only [List.length_append, List.length_cons]; omega, al3, ?_⟩
    simpa [Br.vctx, VCtx.st] using Path.trans h2 h3

mutual
/-- **the scanner on a value** in the slot `ctx` (root, item, member value): from its first byte to behind its last byte it
delivers the slot's opening events and `lk.opn`, and `lk.pend` is left open for the byte that follows (`Val.close_byte`).
`al'`: whether an annotation is allowed is not tracked across line breaks.  A shortcut at the root is excluded: there the
scanner does not take the context record from the slot (`root_path` in `SchemaGramDoc` has that case). -/
theorem Val.run : ∀ {o : Nat} {t : List Cls} {ev : List Ev} {lk : LK} {stE : St}, Val S o t ev lk stE →
    ∀ (ctx : VCtx), (lk = .short → ctx ≠ .root) → ∀ (K : List (LexT × Nat)), At data o t →
    ∀ (CS : List Ctx) (cx : Ctx) (al : Bool),
    ∃ al', Path data (cfgL lc ctx.st [] K false o CS cx al) (ctx.preEvs o ++ lk.opn o ev)
      (cfgL lc stE [] (lk.pend o ++ (ctx.pre o ++ K)) false (o + t.length) CS (ctx.cx' cx) al')
  | o, _, _, _, _, .scalar (tl := tl) hs hr hp, ctx, _, K, hat, CS, cx, al => by
    have h1 := S_start_scalar (lc := lc) hs ctx K o CS cx al hat.1
    have h2 := tok_run (lc := lc) tl _ _ _ _ _ _ hr ((.litB, o) :: (ctx.pre o ++ K)) (o + 1) CS (ctx.cx' cx) al hat.2
    refine ⟨al, (Path.trans h1 h2).cast (by simp [LK.opn]) (cfg_congr (by simp [LK.pend]) ?_)⟩
    simp only [List.length_cons]; omega
  | o, _, _, _, _, .short (sc := sc) (sps := sps) _ hsc hsp, ctx, hctx, K, hat, CS, cx, al => by
    simp only [Shortcut.render, List.cons_append] at hat
    obtain ⟨hc, hat⟩ := hat
    rw [At_append] at hat
    have h1 := S_start_ts (lc := lc) ctx (hctx rfl) K o CS cx al hc
    have h2 := ts_run (lc := lc) _ _ _ _ _ (shortcut_tsRun sc hsc) (K2 o ++ (ctx.pre o ++ K)) (o + 1) CS (ctx.cx' cx) al hat.1
    have h3 := ts_run (lc := lc) sps .tsName false _ false (sp_tsRun .tsName (Or.inl rfl) sps hsp false)
      (K2 o ++ (ctx.pre o ++ K)) _ CS (ctx.cx' cx) al hat.2
    rw [tsSt_of_isEmpty] at h3
    refine ⟨al, (Path.trans (Path.trans h1 h2) h3).cast (by simp [LK.opn]) (cfg_congr (by simp [LK.pend]) ?_)⟩
    simp only [Shortcut.render, List.length_cons, List.length_append]; omega
  | o, _, _, _, _, .cont (br := br) (w0 := w0) hl hi, ctx, _, K, hat, CS, cx, al => by
    obtain ⟨hc, hat⟩ := hat
    rw [At_append] at hat
    have h1 := br.start (lc := lc) ctx K o CS cx al hc
    obtain ⟨st', al1, a, -, h2⟩ := Layout.run (lc := lc) (br.slot_cmt true) ((br.opB, o) :: (ctx.pre o ++ K))
      (ctx.cx' cx :: CS) { ty := br.ty } hl al hat.1
    rw [a (by cases br <;> simp [Br.slot, itemCtx, keyCtxSt, VCtx.st])] at h2
    obtain ⟨al2, h3⟩ := Entries.run hi (ctx.pre o ++ K) hat.2 (ctx.cx' cx) CS { ty := br.ty } (fun _ => rfl) al1
    refine ⟨al2, (Path.trans (Path.trans h1 h2) h3).cast (by simp [LK.opn]) (cfg_congr (by simp [LK.pend]) ?_)⟩
    simp only [List.length_cons, List.length_append]; omega
/-- **the scanner on the entries of a container** opened at `a`: from the slot of the first or of a later entry
(`br.slot first`) to behind the closing bracket it delivers exactly `e`.  `cx` is the container's context record; where
shortcuts occur (`S = true`) it must carry the container's type, which `finishShortcut` reads behind a shortcut entry. -/
theorem Entries.run : ∀ {br : Br} {a o : Nat} {first : Bool} {t : List Cls} {e : List Ev}, Entries S br a o first t e →
    ∀ (K : List (LexT × Nat)), At data o t → ∀ (c0 : Ctx) (CS : List Ctx) (cx : Ctx), (S = true → cx.ty = br.ty) →
    ∀ (al : Bool),
    ∃ al', Path data (cfgL lc (br.slot first) [] ((br.opB, a) :: K) false o (c0 :: CS) cx al) e
      (cfgL lc .endValue [] K false (o + t.length) CS c0 al')
  | br, a, o, _, _, _, .nil, K, hat, c0, CS, cx, _, al => by
    cases br
    · exact ⟨_, S_empty_arr a K o c0 CS cx al hat.1⟩
    · exact ⟨_, S_empty_obj a K o c0 CS cx al hat.1⟩
  | br, a, o, first, _, _, .last (o' := o') (lk := lk) (w1 := w1) (h := h) (v := v) (w2 := w2) hl1 hh hv hl2 hfo,
      K, hat, c0, CS, cx, hcx, al => by
    rw [At_append, At_append, At_append] at hat
    obtain ⟨hat1, hath, hatv, hat2⟩ := hat
    obtain ⟨st', al1, a1, b1, h1⟩ := Layout.run (lc := lc) (br.slot_cmt first) ((br.opB, a) :: K) (c0 :: CS) cx hl1 al hat1
    obtain ⟨ho', al2, h2⟩ := hh.run (lc := lc) first a1 b1 ((br.opB, a) :: K) (c0 :: CS) cx al1 hath
    rw [← ho'] at hatv hat2
    obtain ⟨al3, h3⟩ := Val.run hv (br.vctx first) (fun _ => br.vctx_root first) ((br.opB, a) :: K) hatv (c0 :: CS) cx al2
    rw [Br.vctx_pre, Br.vctx_preEvs] at h3
    have hcx3 : lk = .short → ((br.vctx first).cx' cx).ty = br.ty := fun hk => by
      subst hk; rw [cx'_ty]; exact hcx hv.short_S
    obtain ⟨al4, h4⟩ := hv.close_end (lc := lc) br o' a K c0 CS _ hcx3 al3 hatv hl2 hfo hat2
    refine ⟨al4, (Path.trans (Path.trans (Path.trans h1 h2) h3) h4).cast ?_ (cfg_congr rfl ?_)⟩
    · simp only [List.append_assoc, List.cons_append, List.nil_append, hv.opn_own]
    · simp only [List.length_append, List.length_cons, List.length_nil]; omega
  | br, a, o, first, _, _, .cons (o' := o') (lk := lk) (w1 := w1) (h := h) (v := v) (w2 := w2) (t := t) hl1 hh hv hl2 hfo hr,
      K, hat, c0, CS, cx, hcx, al => by
    rw [At_append, At_append, At_append] at hat
    obtain ⟨hat1, hath, hatv, hat2⟩ := hat
    obtain ⟨st', al1, a1, b1, h1⟩ := Layout.run (lc := lc) (br.slot_cmt first) ((br.opB, a) :: K) (c0 :: CS) cx hl1 al hat1
    obtain ⟨ho', al2, h2⟩ := hh.run (lc := lc) first a1 b1 ((br.opB, a) :: K) (c0 :: CS) cx al1 hath
    rw [← ho'] at hatv hat2
    obtain ⟨al3, h3⟩ := Val.run hv (br.vctx first) (fun _ => br.vctx_root first) ((br.opB, a) :: K) hatv (c0 :: CS) cx al2
    rw [Br.vctx_pre, Br.vctx_preEvs] at h3
    have hcx3 : lk = .short → ((br.vctx first).cx' cx).ty = br.ty := fun hk => by
      subst hk; rw [cx'_ty]; exact hcx hv.short_S
    have hat2' : At data (o' + v.length) ((w2 ++ [br.ck.sep]) ++ t) := by cases br <;> simpa [Br.ck, CK.sep] using hat2
    rw [At_append] at hat2'
    obtain ⟨al4, h4⟩ := hv.close_sep (lc := lc) br.ck br.ck_ne o' ((br.opB, a) :: K) (c0 :: CS) _
      (fun hk => br.ty_ck ▸ hcx3 hk) al3 hatv hl2 hfo hat2'.1
    obtain ⟨al5, h5⟩ := Entries.run hr K (by
      have := hat2'.2
      simp only [List.length_append, List.length_cons, List.length_nil] at this
      rw [show o' + v.length + w2.length + 1 = o' + v.length + (w2.length + (0 + 1)) by omega]
      exact this) c0 CS ((br.vctx first).cx' cx) (fun hS => by rw [cx'_ty]; exact hcx hS) al4
    rw [Br.slot_false] at h5
    refine ⟨al5, (Path.trans (Path.trans (Path.trans (Path.trans h1 h2) h3) h4) h5).cast ?_ (cfg_congr rfl ?_)⟩
    · simp only [List.append_assoc, List.cons_append, List.nil_append, hv.opn_own]
    · simp only [List.length_append, List.length_cons]; omega
end

/-! ### the events of a derivation: at most three per byte, none is `end-top` -/

theorem Head.evs_facts {br : Br} {o o' : Nat} {h : List Cls} {eh : List Ev} (hh : Head br o h eh o') :
    eh.length ≤ 3 * h.length ∧ noTop eh = true := by
  cases hh with
  | item => exact ⟨Nat.le_refl _, rfl⟩
  | @key _ k w2 w3 _ hw2 hw3 =>
    obtain ⟨a1, a2⟩ := (Layout.of_ws hw2 (o + k.length)).evs_facts
    obtain ⟨b1, b2⟩ := (Layout.of_ws hw3 (o + k.length + w2.length + 1)).evs_facts
    exact ⟨by simp only [List.length_cons, List.length_append]; omega,
      by simp only [noTop_cons, noTop_append, a2, b2]; rfl⟩

mutual
theorem Val.evs_facts : ∀ {o : Nat} {t : List Cls} {ev : List Ev} {lk : LK} {stE : St}, Val S o t ev lk stE →
    ev.length ≤ 3 * t.length ∧ noTop ev = true
  | _, _, _, _, _, .scalar _ _ _ => ⟨by simp only [List.length_cons, List.length_nil]; omega, rfl⟩
  | _, _, _, _, _, .short (sc := sc) _ hsc _ => ⟨by
      have : 1 ≤ sc.first.length := by cases hf : sc.first with | nil => exact absurd hf hsc.1.1 | cons _ _ => simp
      simp only [Shortcut.render, List.length_cons, List.length_append, List.length_nil]; omega, rfl⟩
  | _, _, _, _, _, .cont hl hi => by
    obtain ⟨a1, a2⟩ := hl.evs_facts
    obtain ⟨b1, b2⟩ := Entries.evs_facts hi
    exact ⟨by simp only [List.length_cons, List.length_append]; omega, by
      rw [noTop_cons, noTop_append, a2, b2]; cases ‹Br› <;> rfl⟩
theorem Entries.evs_facts : ∀ {br : Br} {a o : Nat} {first : Bool} {t : List Cls} {e : List Ev}, Entries S br a o first t e →
    e.length ≤ 3 * t.length ∧ noTop e = true
  | br, _, _, _, _, _, .nil => ⟨by simp, by cases br <;> rfl⟩
  | br, _, _, _, _, _, .last h1 hh hv h2 _ => by
    obtain ⟨a1, a2⟩ := h1.evs_facts
    obtain ⟨b1, b2⟩ := hh.evs_facts
    obtain ⟨c1, c2⟩ := Val.evs_facts hv
    obtain ⟨d1, d2⟩ := h2.evs_facts
    exact ⟨by simp only [List.length_cons, List.length_append, List.length_nil]; omega,
      by simp only [noTop_append, noTop_cons, a2, b2, c2, d2]; cases br <;> rfl⟩
  | br, _, _, _, _, _, .cons h1 hh hv h2 _ hr => by
    obtain ⟨a1, a2⟩ := h1.evs_facts
    obtain ⟨b1, b2⟩ := hh.evs_facts
    obtain ⟨c1, c2⟩ := Val.evs_facts hv
    obtain ⟨d1, d2⟩ := h2.evs_facts
    obtain ⟨e1, e2⟩ := Entries.evs_facts hr
    exact ⟨by simp only [List.length_cons, List.length_append]; omega,
      by simp only [noTop_append, noTop_cons, a2, b2, c2, d2, e2]; cases br <;> rfl⟩
end

end Gram
end SchemaScan
