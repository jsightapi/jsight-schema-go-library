import JSight.SchemaStepEq
import JSight.SchemaWpAttr
import JSight.ExceptWp
/-!
Outcomes of the schema scanner's transitions, stated with `Except.wp` (`ExceptWp`): `wp x Q E` says `Q` of the result of
`x` and `E` of its error.  Its rules for `pure`, `throw`, `>>=` and `if`, together with one exact description of each of
the helpers `switchToAnnotation`, `restoreContext`, `popRet`, `finishShortcut`, `foundObjectEnd`, `beginValue` (the others
are unfolded; `arrItemFinds` leaves a `match` to split on) and the equation of each step function (`SchemaStepEq`), collected
in the simp set `schema_wp`, turn a statement `wp (dispatch (f+1) st s c p1 p2) Q E` into the list of the paths through
that step function, by `simp only`.
`OKRes P x` of `SchemaInv` is `wp x P (·.isCrash = false)`; the invariant lemmas use it with `OKRes.bind` / `OKRes.ite`
(`SchemaHelpers`), `dispatch_post` (`SchemaErrIdxStep`) uses `wp`.
-/
namespace SchemaScan

open Except (wp wp_ok wp_error wp_pure wp_throw wp_bind wp_ite)

attribute [schema_wp] wp_ok wp_error wp_pure wp_throw wp_bind wp_ite

@[schema_wp] theorem wp_switchToAnnotation (s Q E) : wp (switchToAnnotation s) Q E ↔
    (s.allowAnnotation = false → E (.annotationNotAllowed (s.index - 1))) ∧
    (s.allowAnnotation = true →
      (s.ann = .none → Q { s with ret := s.step :: s.ret, step := .anyAnnStart }) ∧
      (s.ann = .multi → Q { s with ret := s.step :: s.ret, step := .inlAnnStart }) ∧
      (s.ann = .inline → E (errChar s "inside inline annotation"))) := by
  unfold switchToAnnotation
  cases s.allowAnnotation
  · simp [wp_throw]
  · cases h : s.ann <;> simp [wp_pure, wp_throw, errChar]

@[schema_wp] theorem wp_restoreContext (s Q E) : wp (restoreContext s) Q E ↔
    (∀ c rest, s.ctxStack = c :: rest → Q { s with ctx := c, ctxStack := rest }) ∧
    (s.ctxStack = [] → E (.crash "Reading from empty stack (contexts)")) := by
  unfold restoreContext
  split <;> simp_all [wp_pure, wp_throw]

@[schema_wp] theorem wp_popRet (s Q E) : wp (popRet s) Q E ↔
    (∀ r rest, s.ret = r :: rest → Q (r, { s with ret := rest })) ∧
    (s.ret = [] → E (.crash "Reading from empty stack (returnToStep)")) := by
  unfold popRet
  split <;> simp_all [wp_pure, wp_throw]

@[schema_wp] theorem wp_finishShortcut (s Q E) : wp (finishShortcut s) Q E ↔
    (s.ctx.ty = .object → Q { (found (found (found s .tsE) .mixE) .valE) with step := .afterValue }) ∧
    (s.ctx.ty = .array → Q { (found (found (found s .tsE) .mixE) .itemE) with step := .afterItem }) ∧
    (s.ctx.ty = .shortcut → wp (restoreContext { (found (found s .tsE) .mixE) with step := .endTop }) Q E) ∧
    (s.ctx.ty = .initial → E (.crash "Unexpected context")) := by
  unfold finishShortcut
  have : (found s .tsE).ctx.ty = s.ctx.ty := rfl
  cases h : s.ctx.ty <;> simp [this, h, wp_pure, wp_throw]

/-- outside an annotation the object is a value (`endValue`); inside one, `isFoundLastObjectEndOnAnnotation` looks for the
annotation's begin lexeme on the stack: an inline or a multi-line annotation goes on with its text, any other answer is a
crash, no answer again `endValue` -/
@[schema_wp] theorem wp_foundObjectEnd (s Q E) : wp (foundObjectEnd s) Q E ↔
    wp (restoreContext (found s .objE)) (fun s1 =>
      (s1.ann = .none → Q { s1 with step := .endValue }) ∧
      (s1.ann ≠ .none →
        (isFoundLastObjectEndOnAnnotation { s1 with step := .endValue } = some .inlAnnB →
          Q { s1 with step := .inlTxtPrefix }) ∧
        (isFoundLastObjectEndOnAnnotation { s1 with step := .endValue } = some .mlAnnB →
          Q { s1 with step := .mlTxtPrefix }) ∧
        (∀ t, isFoundLastObjectEndOnAnnotation { s1 with step := .endValue } = some t → t ≠ .inlAnnB → t ≠ .mlAnnB →
          E (.crash "Incorrect annotation begin in stack")) ∧
        (isFoundLastObjectEndOnAnnotation { s1 with step := .endValue } = none → Q { s1 with step := .endValue }))) E := by
  unfold foundObjectEnd
  simp only [wp_bind, wp_pure, wp_ite, beq_iff_eq]
  cases restoreContext (found s .objE) with
  | error e => rfl
  | ok s1 =>
    simp only [wp_ok]
    refine and_congr Iff.rfl (imp_congr Iff.rfl ?_)
    split <;> simp_all [wp_pure, wp_throw]

@[schema_wp] theorem wp_beginValue (s c Q E) : wp (beginValue s c) Q E ↔
    wp (isNewLineM s c) (fun nl =>
      (nl = true → Q (.cont, found s .newLine)) ∧
      (nl = false →
        (c.isBlank = true → Q (.cont, s)) ∧
        (c.isBlank = false →
          (c = .slash → wp (switchToAnnotation s) (fun s' => Q (.cont, s')) E) ∧
          (c ≠ .slash →
            (c = .lbrace → Q (.obj, { s with step := .objKeyOrEmpty })) ∧
            (c = .lbrack → Q (.arr, { s with step := .arrItemOrEmpty })) ∧
            (c = .quote → Q (.lit, { s with step := .inString, unf := true })) ∧
            (c = .minus → Q (.lit, { s with step := .neg, unf := true })) ∧
            (c = .zero → Q (.lit, { s with step := .d0 })) ∧
            (c = .lt → Q (.lit, { s with step := .t, unf := true })) ∧
            (c = .lf → Q (.lit, { s with step := .f, unf := true })) ∧
            (c = .ln → Q (.lit, { s with step := .n, unf := true })) ∧
            (c = .at → Q (.ts, { s with step := .tsBeginName, unf := true })) ∧
            (c = .d19 → Q (.lit, { s with step := .d1 })) ∧
            ((c ≠ .lbrace ∧ c ≠ .lbrack ∧ c ≠ .quote ∧ c ≠ .minus ∧ c ≠ .zero ∧ c ≠ .lt ∧ c ≠ .lf ∧ c ≠ .ln ∧ c ≠ .at ∧
                c ≠ .d19 → E (errChar s "looking for beginning of value"))))))) E := by
  unfold beginValue
  simp only [wp_bind, wp_pure, wp_ite, beq_iff_eq]
  cases isNewLineM s c with
  | error e => rfl
  | ok nl =>
    simp only [wp_ok, Bool.not_eq_true]
    -- descend to the `match` on `c` in the last conjunct
    refine and_congr Iff.rfl (imp_congr Iff.rfl (and_congr Iff.rfl (imp_congr Iff.rfl (and_congr Iff.rfl
      (imp_congr Iff.rfl ?_)))))
    split <;> simp_all [wp_pure, wp_throw]

attribute [schema_wp]
  dispatch_guard dispatch_foundRoot dispatch_objKeyOrEmpty dispatch_objKey dispatch_objKeyAfterNL dispatch_objValue
  dispatch_arrItemOrEmpty dispatch_arrItem dispatch_keyShortcut dispatch_endValue dispatch_afterKey
  dispatch_afterValue dispatch_afterItem dispatch_endTop dispatch_inString dispatch_esc dispatch_u0 dispatch_u1
  dispatch_u2 dispatch_u3 dispatch_neg dispatch_d1 dispatch_d0 dispatch_dot dispatch_dot0 dispatch_t dispatch_tr
  dispatch_tru dispatch_f dispatch_fa dispatch_fal dispatch_fals dispatch_n dispatch_nu dispatch_nul
  dispatch_anyCommentStart dispatch_inlineComment dispatch_multiLineComment dispatch_anyAnnStart dispatch_inlAnnStart
  dispatch_inlAnn dispatch_inlTxtPrefix2 dispatch_inlTxt dispatch_inlTxtSkip dispatch_mlAnn dispatch_mlTxtPrefix
  dispatch_mlTxtPrefix2 dispatch_mlAnnEnd dispatch_mlTxt dispatch_annKeyFirst dispatch_annKey dispatch_annKeyAfter
  dispatch_inlTxtPrefix dispatch_tsBeginName dispatch_tsName dispatch_tsBeforePipe dispatch_tsAfterPipe

-- `schema_wp` is used as a closed set (`simp only [schema_wp, …]`), so it also holds the propositional lemmas that tidy
-- the conditions of the paths
attribute [schema_wp] dispatch' isNewLineM switchToComment beginString beginKeyShortcut hexStep expect foundArrayEnd
  arrItemFinds beginAnnKeyOrEmpty found setContext
  Bool.false_eq_true if_false if_true ite_self beq_iff_eq ne_eq implies_true and_self and_true true_and imp_self
  false_implies true_implies forall_const

end SchemaScan
