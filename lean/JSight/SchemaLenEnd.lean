import JSight.SchemaEventsTree
import JSight.SchemaForeign
import JSight.TrimLen
/-!
`Length()` of the schema scanner model: the pure list facts (`trimBlank`, the last byte of a scalar token, the events of a tree have no `end-top`).
-/
namespace SchemaScan

namespace Len

variable {data : Array Cls}

/-! ### `trimBlank` -/

theorem At_getElem (w : List Cls) (o : Nat) (h : At data o w) : ∀ k (h : k < w.length), data[o + k]? = some w[k] :=
  ((At_iff_sits _ _ _).1 h).getElem

theorem trimBlank_eq (data : Array Cls) : ∀ n, trimBlank data n = Trim.len (fun j => data[j]?.map Cls.isBlank == some true) n
  | 0 => rfl
  | n + 1 => by rw [trimBlank, Trim.len, trimBlank_eq data n]

/-- from `b` up to `o` every byte is a blank -/
def BlankRun (data : Array Cls) (b o : Nat) : Prop :=
  b ≤ o ∧ ∀ j, b ≤ j → j < o → (data[j]?.map Cls.isBlank) = some true

theorem BlankRun.refl (o : Nat) : BlankRun data o o := ⟨Nat.le_refl _, fun j h1 h2 => by omega⟩

theorem trimBlank_run {b n : Nat} (h : BlankRun data b n) : trimBlank data n = trimBlank data b := by
  rw [trimBlank_eq, trimBlank_eq]
  exact Trim.len_run h.1 fun j h1 h2 => by rw [h.2 j h1 h2]; rfl

theorem trimBlank_stop (n : Nat) (c : Cls) (h : data[n]? = some c) (hc : c.isBlank = false) :
    trimBlank data (n + 1) = n + 1 := by
  rw [trimBlank, h]
  simp [hc]

theorem trimBlank_congr {d1 d2 : Array Cls} {n : Nat} (h : ∀ j, j < n → d1[j]? = d2[j]?) :
    trimBlank d1 n = trimBlank d2 n := by
  rw [trimBlank_eq, trimBlank_eq]
  exact Trim.len_congr fun j hj => by rw [h j hj]

theorem blankRun_of_at (w : List Cls) (hw : IsWs w) (E : Nat) (hat : At data E w) (k : Nat) (hk : k ≤ w.length) :
    BlankRun data E (E + k) :=
  ⟨Nat.le_add_right _ _, fun j h1 h2 => by
    have := At_getElem w E hat (j - E) (by omega)
    rw [show E + (j - E) = j by omega] at this
    rw [this, Option.map_some, hw _ (List.getElem_mem _)]⟩

theorem trimBlank_ws (w : List Cls) (hw : IsWs w) (E : Nat) (hat : At data E w) (k : Nat) (hk : k ≤ w.length) :
    trimBlank data (E + k) = trimBlank data E :=
  trimBlank_run (blankRun_of_at w hw E hat k hk)

/-- trimming any length between the end of the value and the end of the layout after it -/
theorem trimBlank_after (w : List Cls) (hw : IsWs w) (pre : List Cls) (c : Cls) (hc : c.isBlank = false) (o : Nat)
    (hat : At data o ((pre ++ [c]) ++ w)) (L : Nat) (h1 : o + (pre.length + 1) ≤ L) (h2 : L ≤ o + (pre.length + 1) + w.length) :
    trimBlank data L = o + (pre.length + 1) := by
  rw [At_append, At_append] at hat
  obtain ⟨⟨_, hc1⟩, hw1⟩ := hat
  simp only [List.length_append, List.length_cons, List.length_nil] at hw1
  rw [show L = o + (pre.length + 0 + 1) + (L - (o + (pre.length + 1))) by omega,
    trimBlank_ws w hw _ hw1 _ (by omega)]
  rw [show o + (pre.length + 0 + 1) = o + pre.length + 1 by omega]
  exact trimBlank_stop _ c hc1.1 hc

/-- the length of a text without its trailing blanks (spaces, tabs, line breaks) -/
def rtrimLen (l : List Cls) : Nat := trimBlank l.toArray l.length

theorem rtrimLen_snoc (pre : List Cls) (d : Cls) (w : List Cls) (hd : d.isBlank = false) (hw : IsWs w) :
    rtrimLen (pre ++ [d] ++ w) = pre.length + 1 := by
  unfold rtrimLen
  have hat : At ((pre ++ [d]) ++ w).toArray 0 ((pre ++ [d]) ++ w) := At_toArray _ [] _ rfl
  have := trimBlank_after (data := ((pre ++ [d]) ++ w).toArray) w hw pre d hd 0 hat ((pre ++ [d]) ++ w).length
    (by simp) (by simp only [List.length_append, List.length_cons, List.length_nil]; omega)
  simpa using this

/-! ### the last byte of a value is not blank -/

theorem silent_blank {st : St} {r : List St} {u : Bool} {c : Cls} {st' : St} {r' : List St} {u' : Bool}
    (hc : c.isBlank = true) (h : silent st r u c = some (st', r', u')) : PV st' = false := by
  cases c <;> try cases hc
  -- on a blank byte the token automaton has a single transition: a space inside a string
  all_goals cases st <;> first | (cases h <;> rfl) | (cases r <;> cases h)

theorem silentRun_last : ∀ (tl : List Cls) (st : St) (r : List St) (u : Bool) (stE : St) (r' : List St) (u' : Bool),
    tl ≠ [] → silentRun st r u tl = some (stE, r', u') → PV stE = true →
    ∃ pre d, tl = pre ++ [d] ∧ d.isBlank = false
  | [], _, _, _, _, _, _, h, _, _ => absurd rfl h
  | c :: cs, st, r, u, stE, r', u', _, h, hp => by
    simp only [silentRun] at h
    cases hs : silent st r u c with
    | none => rw [hs] at h; cases h
    | some p =>
      obtain ⟨s1, r1, u1⟩ := p
      rw [hs] at h
      simp only [] at h
      cases cs with
      | nil =>
        simp only [silentRun, Option.some.injEq, Prod.mk.injEq] at h
        obtain ⟨rfl, -, -⟩ := h
        refine ⟨[], c, rfl, ?_⟩
        cases hb : c.isBlank with
        | false => rfl
        | true => rw [silent_blank hb hs] at hp; cases hp
      | cons c2 cs2 =>
        obtain ⟨pre, d, he, hd⟩ := silentRun_last (c2 :: cs2) s1 r1 u1 stE r' u' (by simp) h hp
        exact ⟨c :: pre, d, by rw [he]; rfl, hd⟩

theorem scalar_last {tok : List Cls} (h : IsScalar tok) : ∃ pre d, tok = pre ++ [d] ∧ d.isBlank = false := by
  obtain ⟨c, tl, st0, u0, stE, rfl, hs, hr, hp⟩ := h
  cases tl with
  | nil => exact ⟨[], c, rfl, by cases c <;> simp [litStart] at hs <;> rfl⟩
  | cons c2 cs =>
    obtain ⟨pre, d, he, hd⟩ := silentRun_last (c2 :: cs) st0 [] u0 stE [] false (by simp) hr hp
    exact ⟨c :: pre, d, by rw [he]; rfl, hd⟩

/-! ### the events of a tree: none is `end-top` -/

theorem noTop_nlEvs : ∀ (o : Nat) (w : List Cls), noTop (nlEvs o w) = true
  | _, [] => rfl
  | o, c :: cs => by
    have := noTop_nlEvs (o + 1) cs
    simp only [nlEvs, noTop_append, this, Bool.and_true]
    split <;> rfl

mutual
theorem noTop_evs : (v : Tree) → (o : Nat) → noTop (schemaEvsAt o v) = true
  | .scalar tok, o => rfl
  | .arr ws0 items, o => by
    have h1 := noTop_nlEvs (o + 1) ws0
    have h2 := noTop_items items o (o + 1 + ws0.length)
    simp only [schemaEvsAt, ← List.singleton_append (l := _ ++ _), noTop_append, h1, h2, Bool.and_true]
    rfl
  | .obj ws0 members, o => by
    have h1 := noTop_nlEvs (o + 1) ws0
    have h2 := noTop_members members o (o + 1 + ws0.length)
    simp only [schemaEvsAt, ← List.singleton_append (l := _ ++ _), noTop_append, h1, h2, Bool.and_true]
    rfl
theorem noTop_items : (its : List (List Cls × Tree × List Cls)) → (a o : Nat) → noTop (evsItems a o its) = true
  | [], _, _ => rfl
  | (w1, v, w2) :: its, a, o => by
    have h1 := noTop_nlEvs o w1
    have h2 := noTop_evs v (o + w1.length)
    have h3 := noTop_nlEvs (o + w1.length + v.render.length) w2
    have h4 := noTop_items its a (o + w1.length + v.render.length + w2.length + (if its.isEmpty then 0 else 1))
    simp only [noTop, List.all_append, List.all_cons, evsItems] at h1 h2 h3 h4 ⊢
    simp only [h1, h2, h3, h4]
    rfl
theorem noTop_members : (ms : List (List Cls × List Cls × List Cls × List Cls × Tree × List Cls)) → (a o : Nat) →
    noTop (evsMembers a o ms) = true
  | [], _, _ => rfl
  | (w1, k, w2, w3, v, w4) :: ms, a, o => by
    have h1 := noTop_nlEvs o w1
    have h2 := noTop_nlEvs (o + w1.length + k.length) w2
    have h3 := noTop_nlEvs (o + w1.length + k.length + w2.length + 1) w3
    have h4 := noTop_evs v (o + w1.length + k.length + w2.length + 1 + w3.length)
    have h5 := noTop_nlEvs (o + w1.length + k.length + w2.length + 1 + w3.length + v.render.length) w4
    have h6 := noTop_members ms a (o + w1.length + k.length + w2.length + 1 + w3.length + v.render.length + w4.length
          + (if ms.isEmpty then 0 else 1))
    simp only [noTop, List.all_append, List.all_cons, evsMembers] at h1 h2 h3 h4 h5 h6 ⊢
    simp only [h1, h2, h3, h4, h5, h6]
    rfl
end

end Len
end SchemaScan
