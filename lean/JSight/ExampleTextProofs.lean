import JSight.ExampleText
import JSight.LoaderTree
import JSight.SchemaEventsJson
import JSight.Example
import JSight.NodeTable
/-!
C15, second sentence, end to end on TEXT: for every JSON value written with any layout (blanks, tabs, line breaks
wherever the grammar allows white space) the composition

    bytes → schema scanner model → loader model → node table → example builder (`Loader.exBuild`)

returns the compact form of the value: no white space, items / members in source order, every scalar and key
token byte for byte as written (`BT.compact`).

* `BT` — byte-level JSON trees with layout; `BT.render` the text, `BT.compact` the text without layout,
  `BT.cls` the class-level tree (`SchemaScan.Tree`) the scanner theorems speak about.
* `exBuild_sits` — the builder on a table in which the nodes `nodesOf` of a tree stand emits `compactAt` (token slices
  by offset); `exKids_nodesItems`, `exProps_nodesMembers`: its list parts with the table written out as
  `pre ++ (nodes ++ post)` (`sits_mid`).
* `compactAt_eq` — on the text of a byte tree those slices are the tokens.
* `BT.loads` — the load stage: the loader's table on the text of a byte tree in white space is `nodesOf` of the tree.
* `plain_text_roundtrip` — the composition; `plain_result_is_json` — the result under the JSON scanner model.
* `exBuild_glue` — the same table read as a schema of the abstract builder model (`toEX`): `EX.build` on it emits the
  byte classes of what `exBuild` emits.

Layout = white space only (`SchemaScan.IsWs`): the events-of-a-tree theorems (`SchemaEvents*`, `LoaderTree*`) do
not cover user comments / annotations inside the layout; those are exercised by the harness `c15-text` only.
-/
namespace Loader
open SchemaScan (Cls Tree classify)
open NodeTable (Sits sits_mid sits_all)

/-! ### what the builder emits on `nodesOf`, by offsets -/

mutual
def compactAt (src : Array UInt8) : Nat → Tree → List UInt8
  | o, .scalar tok => slice src o (o + tok.length - 1)
  | o, .arr ws0 its => 91 :: (joinB (compactItems src (o + 1 + ws0.length) its) ++ [93])
  | o, .obj ws0 ms => 123 :: (joinB (compactMembers src (o + 1 + ws0.length) ms) ++ [125])
def compactItems (src : Array UInt8) : Nat → List Item → List (List UInt8)
  | _, [] => []
  | o, (w1, v, w2) :: its => compactAt src (o + w1.length) v :: compactItems src (nextItem o w1 v w2 its) its
def compactMembers (src : Array UInt8) : Nat → List Member → List (List UInt8)
  | _, [] => []
  | o, (w1, k, w2, w3, v, w4) :: ms =>
    (slice src (o + w1.length) (o + w1.length + k.length - 1) ++ 58 :: compactAt src (valOff o w1 k w2 w3) v) ::
      compactMembers src (nextMember o w1 k w2 w3 v w4 ms) ms
end

theorem keysMembers_length : (ms : List Member) → (o : Nat) → (keysMembers o ms).length = ms.length
  | [], _ => rfl
  | (w1, k, w2, w3, v, w4) :: ms, o => by simp [keysMembers, keysMembers_length ms]

theorem idxMembers_length : (ms : List Member) → (n : Nat) → (idxMembers n ms).length = ms.length
  | [], _ => rfl
  | (w1, k, w2, w3, v, w4) :: ms, n => by simp [idxMembers, idxMembers_length ms]

theorem keysMembers_plain : (ms : List Member) → (o : Nat) → (keysMembers o ms).any (·.2.2) = false
  | [], _ => rfl
  | (w1, k, w2, w3, v, w4) :: ms, o => by simp [keysMembers, keysMembers_plain ms]

theorem nodeCount_pos (v : Tree) : 1 ≤ nodeCount v := by
  cases v <;> simp [nodeCount] <;> omega

section build
variable (src : Array UInt8)

mutual
/-- `exBuild` on any table in which the nodes of `v` stand from `n` on. In the object case the builder's two guards are
discharged by `keysMembers_length` / `idxMembers_length` (as many keys as children) and `keysMembers_plain` (no key is a
shortcut: the third component of a key entry of `Node.keys`). With fuel 0 only the containers are left to refute: a
leaf has `nodeCount = 1`, and `1 ≤ 0` has no proof. -/
theorem exBuild_sits {tbl : Array Node} : (v : Tree) → (par : Option Nat) → (n o fuel : Nat) →
    Sits tbl n (nodesOf par n o v) → nodeCount v ≤ fuel → exBuild src tbl fuel n = some (compactAt src o v)
  | .scalar tok, par, n, o, f + 1, hs, _ => by
    simp only [exBuild, hs.1]
    simp [compactAt]
  | .arr ws0 its, par, n, o, f + 1, hs, hf => by
    have h := exKids_sits its n (n + 1) (o + 1 + ws0.length) f hs.2 (by simp only [nodeCount] at hf; omega)
    simp only [exBuild, hs.1]
    simp [h, compactAt]
  | .obj ws0 ms, par, n, o, f + 1, hs, hf => by
    have h := exProps_sits ms n (n + 1) (o + 1 + ws0.length) f hs.2 (by simp only [nodeCount] at hf; omega)
    simp only [exBuild, hs.1]
    simp [h, compactAt, keysMembers_length, idxMembers_length, keysMembers_plain]
  | .arr _ _, _, _, _, 0, _, hf | .obj _ _, _, _, _, 0, _, hf => by simp only [nodeCount] at hf; omega
theorem exKids_sits {tbl : Array Node} : (its : List Item) → (a n o fuel : Nat) → Sits tbl n (nodesItems a n o its) →
    countItems its ≤ fuel → (idxItems n its).mapM (exBuild src tbl fuel) = some (compactItems src o its)
  | [], _, _, _, _, _, _ => by simp [idxItems, compactItems]
  | (w1, v, w2) :: its, a, n, o, fuel, hs, hf => by
    simp only [countItems] at hf
    obtain ⟨h1, h2⟩ := Sits.append (by simpa only [nodesItems] using hs)
    rw [nodesOf_length] at h2
    simp only [idxItems, compactItems, List.mapM_cons, exBuild_sits v (some a) n _ fuel h1 (by omega),
      exKids_sits its a _ _ fuel h2 (by omega)]
    rfl  -- the `Option` bind of two `some`s
theorem exProps_sits {tbl : Array Node} : (ms : List Member) → (a n o fuel : Nat) → Sits tbl n (nodesMembers a n o ms) →
    countMembers ms ≤ fuel →
    ((keysMembers o ms).zip (idxMembers n ms)).mapM (fun kc =>
        (exBuild src tbl fuel kc.2).map fun ex => slice src kc.1.1 kc.1.2.1 ++ 58 :: ex)
      = some (compactMembers src o ms)
  | [], _, _, _, _, _, _ => by simp [keysMembers, idxMembers, compactMembers]
  | (w1, k, w2, w3, v, w4) :: ms, a, n, o, fuel, hs, hf => by
    simp only [countMembers] at hf
    obtain ⟨h1, h2⟩ := Sits.append (by simpa only [nodesMembers] using hs)
    rw [nodesOf_length] at h2
    simp only [keysMembers, idxMembers, compactMembers, List.zip_cons_cons, List.mapM_cons,
      exBuild_sits v (some a) n _ fuel h1 (by omega), exProps_sits ms a _ _ fuel h2 (by omega)]
    rfl  -- likewise
end

theorem exKids_nodesItems : (its : List Item) → (pre post : List Node) → (a o fuel : Nat) → countItems its ≤ fuel →
    (idxItems pre.length its).mapM (exBuild src (pre ++ (nodesItems a pre.length o its ++ post)).toArray fuel)
      = some (compactItems src o its) :=
  fun its pre post a o fuel hf => exKids_sits src its a _ o fuel (sits_mid pre _ post) hf
theorem exProps_nodesMembers : (ms : List Member) → (pre post : List Node) → (a o fuel : Nat) → countMembers ms ≤ fuel →
    ((keysMembers o ms).zip (idxMembers pre.length ms)).mapM (fun kc =>
        (exBuild src (pre ++ (nodesMembers a pre.length o ms ++ post)).toArray fuel kc.2).map fun ex =>
          slice src kc.1.1 kc.1.2.1 ++ 58 :: ex)
      = some (compactMembers src o ms) :=
  fun ms pre post a o fuel hf => exProps_sits src ms a _ o fuel (sits_mid pre _ post) hf

end build

/-! ### byte-level trees -/

/-- a JSON value as BYTES with its layout: white space at every place JSON allows it -/
inductive BT
  | scalar (tok : List UInt8)
  | arr (ws0 : List UInt8) (items : List (List UInt8 × BT × List UInt8))
  | obj (ws0 : List UInt8) (members : List (List UInt8 × List UInt8 × List UInt8 × List UInt8 × BT × List UInt8))

abbrev BItem := List UInt8 × BT × List UInt8
abbrev BMember := List UInt8 × List UInt8 × List UInt8 × List UInt8 × BT × List UInt8

mutual
/-- the text -/
def BT.render : BT → List UInt8
  | .scalar tok => tok
  | .arr ws0 items => 91 :: (ws0 ++ renderItemsB items)
  | .obj ws0 members => 123 :: (ws0 ++ renderMembersB members)
def renderItemsB : List BItem → List UInt8
  | [] => [93]
  | (w1, v, w2) :: its => w1 ++ (v.render ++ (w2 ++ ((if its.isEmpty then [] else [44]) ++ renderItemsB its)))
def renderMembersB : List BMember → List UInt8
  | [] => [125]
  | (w1, k, w2, w3, v, w4) :: ms =>
    w1 ++ (k ++ (w2 ++ (58 :: (w3 ++ (v.render ++ (w4 ++ ((if ms.isEmpty then [] else [44]) ++ renderMembersB ms)))))))
end

mutual
/-- the text without layout: tokens byte for byte, items / members in source order -/
def BT.compact : BT → List UInt8
  | .scalar tok => tok
  | .arr _ items => 91 :: (joinB (compactItemsB items) ++ [93])
  | .obj _ members => 123 :: (joinB (compactMembersB members) ++ [125])
def compactItemsB : List BItem → List (List UInt8)
  | [] => []
  | (_, v, _) :: its => v.compact :: compactItemsB its
def compactMembersB : List BMember → List (List UInt8)
  | [] => []
  | (_, k, _, _, v, _) :: ms => (k ++ 58 :: v.compact) :: compactMembersB ms
end

mutual
/-- the class-level tree the scanner theorems speak about -/
def BT.cls : BT → Tree
  | .scalar tok => .scalar (tok.map classify)
  | .arr ws0 items => .arr (ws0.map classify) (clsItems items)
  | .obj ws0 members => .obj (ws0.map classify) (clsMembers members)
def clsItems : List BItem → List Item
  | [] => []
  | (w1, v, w2) :: its => (w1.map classify, v.cls, w2.map classify) :: clsItems its
def clsMembers : List BMember → List Member
  | [] => []
  | (w1, k, w2, w3, v, w4) :: ms =>
    (w1.map classify, k.map classify, w2.map classify, w3.map classify, v.cls, w4.map classify) :: clsMembers ms
end

mutual
/-- the keys of every object are pairwise distinct after decoding -/
def BT.KeysDistinct : BT → Prop
  | .scalar _ => True
  | .arr _ items => DistinctItemsB items
  | .obj _ members => (members.map fun m => Unquote.unquote m.2.1).Nodup ∧ DistinctMembersB members
def DistinctItemsB : List BItem → Prop
  | [] => True
  | (_, v, _) :: its => v.KeysDistinct ∧ DistinctItemsB its
def DistinctMembersB : List BMember → Prop
  | [] => True
  | (_, _, _, _, v, _) :: ms => v.KeysDistinct ∧ DistinctMembersB ms
end

theorem clsItems_isEmpty : (its : List BItem) → (clsItems its).isEmpty = its.isEmpty
  | [] => rfl
  | (_, _, _) :: _ => rfl

theorem clsMembers_isEmpty : (ms : List BMember) → (clsMembers ms).isEmpty = ms.isEmpty
  | [] => rfl
  | (_, _, _, _, _, _) :: _ => rfl

mutual
theorem cls_render : (t : BT) → t.cls.render = t.render.map classify
  | .scalar tok => by simp [BT.cls, BT.render, Tree.render]
  | .arr ws0 items => by
    simp only [BT.cls, BT.render, Tree.render, List.map_cons, List.map_append, clsItems_render items]
    rfl
  | .obj ws0 members => by
    simp only [BT.cls, BT.render, Tree.render, List.map_cons, List.map_append, clsMembers_render members]
    rfl
theorem clsItems_render : (its : List BItem) → SchemaScan.renderItems (clsItems its) = (renderItemsB its).map classify
  | [] => rfl
  | (w1, v, w2) :: its => by
    simp only [clsItems, SchemaScan.renderItems, renderItemsB, List.map_append, cls_render v, clsItems_render its,
      clsItems_isEmpty]
    cases its.isEmpty <;> rfl
theorem clsMembers_render : (ms : List BMember) →
    SchemaScan.renderMembers (clsMembers ms) = (renderMembersB ms).map classify
  | [] => rfl
  | (w1, k, w2, w3, v, w4) :: ms => by
    simp only [clsMembers, SchemaScan.renderMembers, renderMembersB, List.map_append, List.map_cons, cls_render v,
      clsMembers_render ms, clsMembers_isEmpty]
    cases ms.isEmpty <;> rfl
end

theorem cls_render_length (t : BT) : t.cls.render.length = t.render.length := by
  rw [cls_render, List.length_map]

/-! ### segments of the source -/

/-- the bytes `bs` stand at offset `o` of `src` -/
def AtB (src : Array UInt8) (o : Nat) (bs : List UInt8) : Prop := (src.toList.drop o).take bs.length = bs

/-- the `drop` / `take` form says what `Sits` says clause by clause -/
theorem AtB_iff_sits {src : Array UInt8} : ∀ {bs : List UInt8} {o : Nat}, AtB src o bs ↔ Sits src o bs
  | [], _ => by simp [AtB, Sits]
  | c :: bs, o => by
    refine ⟨fun h => ?_, fun h => h.take⟩
    unfold AtB at h
    by_cases ho : o < src.toList.length
    · rw [List.drop_eq_getElem_cons ho, List.length_cons, List.take_succ_cons] at h
      obtain ⟨hc, hr⟩ := List.cons.inj h
      exact ⟨by simpa [← hc] using ho, AtB_iff_sits.1 hr⟩
    · simp [List.drop_eq_nil_of_le (Nat.le_of_not_lt ho)] at h

theorem AtB.split {src : Array UInt8} {o : Nat} {a b : List UInt8} (h : AtB src o (a ++ b)) :
    AtB src o a ∧ AtB src (o + a.length) b := by
  simpa only [AtB_iff_sits] using (AtB_iff_sits.1 h).append

theorem AtB.cons {src : Array UInt8} {o : Nat} {c : UInt8} {b : List UInt8} (h : AtB src o (c :: b)) :
    AtB src (o + 1) b := AtB_iff_sits.2 (AtB_iff_sits.1 h).2

theorem slice_of_AtB {src : Array UInt8} {o : Nat} {tok : List UInt8} (h : AtB src o tok) (hne : tok ≠ []) :
    slice src o (o + tok.length - 1) = tok := (AtB_iff_sits.1 h).cut hne

/-! ### the parts of an item and of a member, in the text and in the class-level tree -/

/-- the value and the rest of an item list stand at the offsets the node table computes from the class-level tree
(`a2`, `a4`: the split behind the 2nd, 4th piece of the rendering `w1 ++ v ++ w2 ++ comma ++ rest`) -/
theorem AtB.item {src : Array UInt8} {o : Nat} {w1 : List UInt8} {v : BT} {w2 : List UInt8} {its : List BItem}
    (hat : AtB src o (renderItemsB ((w1, v, w2) :: its))) :
    AtB src (o + w1.length) v.render ∧
      AtB src (nextItem o (w1.map classify) v.cls (w2.map classify) (clsItems its)) (renderItemsB its) := by
  simp only [renderItemsB] at hat
  have a2 := AtB.split (AtB.split hat).2
  have a4 := AtB.split (AtB.split a2.2).2
  have hoff : nextItem o (w1.map classify) v.cls (w2.map classify) (clsItems its)
      = o + w1.length + v.render.length + w2.length + (if its.isEmpty then [] else [(44 : UInt8)]).length := by
    simp only [nextItem, List.length_map, cls_render_length, clsItems_isEmpty]
    cases its.isEmpty <;> rfl
  exact ⟨a2.1, hoff ▸ a4.2⟩

/-- the key, the value and the rest of a member list likewise -/
theorem AtB.member {src : Array UInt8} {o : Nat} {w1 k w2 w3 : List UInt8} {v : BT} {w4 : List UInt8} {ms : List BMember}
    (hat : AtB src o (renderMembersB ((w1, k, w2, w3, v, w4) :: ms))) :
    AtB src (o + w1.length) k ∧
      AtB src (valOff o (w1.map classify) (k.map classify) (w2.map classify) (w3.map classify)) v.render ∧
      AtB src (nextMember o (w1.map classify) (k.map classify) (w2.map classify) (w3.map classify) v.cls
        (w4.map classify) (clsMembers ms)) (renderMembersB ms) := by
  simp only [renderMembersB] at hat
  have a2 := AtB.split (AtB.split hat).2
  have a5 := AtB.split (AtB.split (AtB.cons (AtB.split a2.2).2)).2
  have a7 := AtB.split (AtB.split a5.2).2
  have hvo : valOff o (w1.map classify) (k.map classify) (w2.map classify) (w3.map classify)
      = o + w1.length + k.length + w2.length + 1 + w3.length := by
    simp [valOff]
  have hoff : nextMember o (w1.map classify) (k.map classify) (w2.map classify) (w3.map classify) v.cls
        (w4.map classify) (clsMembers ms)
      = o + w1.length + k.length + w2.length + 1 + w3.length + v.render.length + w4.length
          + (if ms.isEmpty then [] else [(44 : UInt8)]).length := by
    simp only [nextMember, hvo, List.length_map, cls_render_length, clsMembers_isEmpty]
    cases ms.isEmpty <;> rfl
  exact ⟨a2.1, hvo ▸ a5.1, hoff ▸ a7.2⟩

theorem valid_item {w1 : List UInt8} {v : BT} {w2 : List UInt8} {its : List BItem}
    (h : SchemaScan.ValidItems (clsItems ((w1, v, w2) :: its))) : v.cls.Valid ∧ SchemaScan.ValidItems (clsItems its) := by
  simp only [clsItems, SchemaScan.ValidItems] at h
  exact ⟨h.2.1, h.2.2.2⟩

theorem valid_member {w1 k w2 w3 : List UInt8} {v : BT} {w4 : List UInt8} {ms : List BMember}
    (h : SchemaScan.ValidMembers (clsMembers ((w1, k, w2, w3, v, w4) :: ms))) :
    SchemaScan.IsKey (k.map classify) ∧ v.cls.Valid ∧ SchemaScan.ValidMembers (clsMembers ms) := by
  simp only [clsMembers, SchemaScan.ValidMembers] at h
  exact ⟨h.2.1, h.2.2.2.2.1, h.2.2.2.2.2.2⟩

/-- the text of the items / members of a container, behind the bracket and the white space -/
theorem AtB.inner {src : Array UInt8} {o : Nat} {c : UInt8} {ws0 rest : List UInt8} (hat : AtB src o (c :: (ws0 ++ rest))) :
    AtB src (o + 1 + ws0.length) rest :=
  (AtB.split (AtB.cons hat)).2

theorem key_slice {src : Array UInt8} {o : Nat} {k : List UInt8} (hk : SchemaScan.IsKey (k.map classify))
    (hat : AtB src o k) : slice src o (o + k.length - 1) = k :=
  slice_of_AtB hat (mt List.map_eq_nil_iff.2 hk.ne_nil)

/-! ### the offset slices are the tokens -/

section tokens
variable (src : Array UInt8)

mutual
theorem compactAt_eq : (t : BT) → (o : Nat) → t.cls.Valid → AtB src o t.render → compactAt src o t.cls = t.compact
  | .scalar tok, o, hv, hat => by
    have hs : SchemaScan.IsScalar (tok.map classify) := by simpa [BT.cls, Tree.Valid] using hv
    simp only [BT.cls, compactAt, BT.compact, List.length_map]
    exact slice_of_AtB hat (mt List.map_eq_nil_iff.2 hs.ne_nil)
  | .arr ws0 items, o, hv, hat => by
    simp only [BT.cls, Tree.Valid] at hv
    simp only [BT.cls, compactAt, BT.compact, List.length_map, compactItems_eq items _ hv.2 (AtB.inner hat)]
  | .obj ws0 members, o, hv, hat => by
    simp only [BT.cls, Tree.Valid] at hv
    simp only [BT.cls, compactAt, BT.compact, List.length_map, compactMembers_eq members _ hv.2 (AtB.inner hat)]
theorem compactItems_eq : (its : List BItem) → (o : Nat) → SchemaScan.ValidItems (clsItems its) →
    AtB src o (renderItemsB its) → compactItems src o (clsItems its) = compactItemsB its
  | [], _, _, _ => rfl
  | (w1, v, w2) :: its, o, hv, hat => by
    obtain ⟨hvv, hr⟩ := valid_item hv
    obtain ⟨av, ar⟩ := AtB.item hat
    simp only [clsItems, compactItems, compactItemsB, List.length_map, compactAt_eq v _ hvv av,
      compactItems_eq its _ hr ar]
theorem compactMembers_eq : (ms : List BMember) → (o : Nat) → SchemaScan.ValidMembers (clsMembers ms) →
    AtB src o (renderMembersB ms) → compactMembers src o (clsMembers ms) = compactMembersB ms
  | [], _, _, _ => rfl
  | (w1, k, w2, w3, v, w4) :: ms, o, hv, hat => by
    obtain ⟨hk, hvv, hr⟩ := valid_member hv
    obtain ⟨ak, av, ar⟩ := AtB.member hat
    simp only [clsMembers, compactMembers, compactMembersB, List.length_map, key_slice hk ak,
      compactAt_eq v _ hvv av, compactMembers_eq ms _ hr ar]
end

/-! ### distinct keys, in the loader's terms -/

theorem keyText_members : (ms : List BMember) → (o : Nat) → SchemaScan.ValidMembers (clsMembers ms) →
    AtB src o (renderMembersB ms) →
    (keysMembers o (clsMembers ms)).map (keyText src) = ms.map fun m => (Unquote.unquote m.2.1, false)
  | [], _, _, _ => rfl
  | (w1, k, w2, w3, v, w4) :: ms, o, hv, hat => by
    obtain ⟨hk, _, hr⟩ := valid_member hv
    obtain ⟨ak, _, ar⟩ := AtB.member hat
    simp only [clsMembers, keysMembers, List.map_cons, List.length_map, keyText_members ms _ hr ar]
    simp [keyText, key_slice hk ak]

mutual
theorem keysDistinct_of : (t : BT) → (o : Nat) → t.cls.Valid → AtB src o t.render → t.KeysDistinct →
    KeysDistinct src o t.cls
  | .scalar tok, o, _, _, _ => by simp [BT.cls, KeysDistinct]
  | .arr ws0 items, o, hv, hat, hd => by
    simp only [BT.cls, Tree.Valid] at hv
    simp only [BT.cls, KeysDistinct, List.length_map]
    exact distinctItems_of items _ hv.2 (AtB.inner hat) hd
  | .obj ws0 members, o, hv, hat, hd => by
    simp only [BT.cls, Tree.Valid] at hv
    simp only [BT.KeysDistinct] at hd
    simp only [BT.cls, KeysDistinct, List.length_map]
    refine ⟨?_, distinctMembers_of members _ hv.2 (AtB.inner hat) hd.2⟩
    rw [keyText_members src members _ hv.2 (AtB.inner hat)]
    have hn := hd.1
    rw [List.Nodup, List.pairwise_map] at hn ⊢
    exact hn.imp (fun h e => h (by simpa using congrArg Prod.fst e))
theorem distinctItems_of : (its : List BItem) → (o : Nat) → SchemaScan.ValidItems (clsItems its) →
    AtB src o (renderItemsB its) → DistinctItemsB its → DistinctItems src o (clsItems its)
  | [], _, _, _, _ => by simp [clsItems, DistinctItems]
  | (w1, v, w2) :: its, o, hv, hat, hd => by
    obtain ⟨hvv, hr⟩ := valid_item hv
    obtain ⟨av, ar⟩ := AtB.item hat
    simp only [DistinctItemsB] at hd
    simp only [clsItems, DistinctItems, List.length_map]
    exact ⟨keysDistinct_of v _ hvv av hd.1, distinctItems_of its _ hr ar hd.2⟩
theorem distinctMembers_of : (ms : List BMember) → (o : Nat) → SchemaScan.ValidMembers (clsMembers ms) →
    AtB src o (renderMembersB ms) → DistinctMembersB ms → DistinctMembers src o (clsMembers ms)
  | [], _, _, _, _ => by simp [clsMembers, DistinctMembers]
  | (w1, k, w2, w3, v, w4) :: ms, o, hv, hat, hd => by
    obtain ⟨_, hvv, hr⟩ := valid_member hv
    obtain ⟨_, av, ar⟩ := AtB.member hat
    simp only [DistinctMembersB] at hd
    simp only [clsMembers, DistinctMembers]
    exact ⟨keysDistinct_of v _ hvv av hd.1, distinctMembers_of ms _ hr ar hd.2⟩
end

end tokens

/-! ### the composition -/

/-- the load stage on the text of a plain tree in white space: the loader's table is the table of the tree, which
stands in the text behind `ws0` -/
theorem BT.loads (t : BT) (hv : t.cls.Valid) (ws0 ws1 : List UInt8)
    (h0 : SchemaScan.IsWs (ws0.map classify)) (h1 : SchemaScan.IsWs (ws1.map classify)) (hd : t.KeysDistinct) :
    ∃ st, loadText (ws0 ++ (t.render ++ ws1)) = .ok st ∧ st.root = some 0 ∧
      st.nodes = (nodesOf none 0 ws0.length t.cls).toArray ∧ AtB (ws0 ++ (t.render ++ ws1)).toArray ws0.length t.render := by
  have hbs : (ws0 ++ (t.render ++ ws1)).map classify = ws0.map classify ++ (t.cls.render ++ ws1.map classify) := by
    simp [cls_render]
  have hat : AtB (ws0 ++ (t.render ++ ws1)).toArray ws0.length t.render := AtB_iff_sits.2 (sits_mid ws0 _ ws1)
  have hkd := keysDistinct_of _ t ws0.length hv hat hd
  obtain ⟨st, hl, hr, hn⟩ := C16_loadText_mirrors_tree t.cls hv _ _ h0 h1 _ hbs (by simpa using hkd)
  rw [List.length_map] at hn
  exact ⟨st, hl, hr, by rw [← hn], hat⟩

/-- **C15, second sentence, on text.** Scanner model, loader model and example builder, run one after the other on
the text of any JSON value with any white-space layout (and any white space around it), return the value's compact
text: tokens byte for byte as written, source order, no white space. -/
theorem plain_text_roundtrip (t : BT) (hv : t.cls.Valid) (ws0 ws1 : List UInt8)
    (h0 : SchemaScan.IsWs (ws0.map classify)) (h1 : SchemaScan.IsWs (ws1.map classify)) (hd : t.KeysDistinct) :
    exampleText (ws0 ++ (t.render ++ ws1)) = .ok t.compact := by
  obtain ⟨st, hl, hr, hn, hat⟩ := t.loads hv ws0 ws1 h0 h1 hd
  have hb := exBuild_sits (ws0 ++ (t.render ++ ws1)).toArray t.cls none 0 ws0.length (st.nodes.size + 1)
    (hn ▸ sits_all _) (by rw [hn, List.size_toArray, nodesOf_length]; omega)
  unfold exampleText
  simp only [hl, hr, hb]
  rw [compactAt_eq _ t ws0.length hv hat]

/-! ### the result under the JSON scanner model -/

mutual
/-- the tree without layout -/
def BT.strip : BT → BT
  | .scalar tok => .scalar tok
  | .arr _ items => .arr [] (stripItemsB items)
  | .obj _ members => .obj [] (stripMembersB members)
def stripItemsB : List BItem → List BItem
  | [] => []
  | (_, v, _) :: its => ([], v.strip, []) :: stripItemsB its
def stripMembersB : List BMember → List BMember
  | [] => []
  | (_, k, _, _, v, _) :: ms => ([], k, [], [], v.strip, []) :: stripMembersB ms
end

theorem stripItemsB_isEmpty : (its : List BItem) → (stripItemsB its).isEmpty = its.isEmpty
  | [] => rfl
  | (_, _, _) :: _ => rfl

theorem stripMembersB_isEmpty : (ms : List BMember) → (stripMembersB ms).isEmpty = ms.isEmpty
  | [] => rfl
  | (_, _, _, _, _, _) :: _ => rfl

theorem compactItemsB_isEmpty : (its : List BItem) → (compactItemsB its).isEmpty = its.isEmpty
  | [] => rfl
  | (_, _, _) :: _ => rfl

theorem compactMembersB_isEmpty : (ms : List BMember) → (compactMembersB ms).isEmpty = ms.isEmpty
  | [] => rfl
  | (_, _, _, _, _, _) :: _ => rfl

mutual
/-- the compact text is the text of the tree without layout -/
theorem strip_render : (t : BT) → t.strip.render = t.compact
  | .scalar tok => rfl
  | .arr ws0 items => by simp [BT.strip, BT.render, BT.compact, stripItems_render items]
  | .obj ws0 members => by simp [BT.strip, BT.render, BT.compact, stripMembers_render members]
theorem stripItems_render : (its : List BItem) → renderItemsB (stripItemsB its) = joinB (compactItemsB its) ++ [93]
  | [] => rfl
  | (w1, v, w2) :: its => by
    simp [stripItemsB, renderItemsB, compactItemsB, joinB, strip_render v, stripItems_render its,
      stripItemsB_isEmpty, compactItemsB_isEmpty]
theorem stripMembers_render : (ms : List BMember) →
    renderMembersB (stripMembersB ms) = joinB (compactMembersB ms) ++ [125]
  | [] => rfl
  | (w1, k, w2, w3, v, w4) :: ms => by
    simp [stripMembersB, renderMembersB, compactMembersB, joinB, strip_render v, stripMembers_render ms,
      stripMembersB_isEmpty, compactMembersB_isEmpty]
end

theorem isWs_nil : SchemaScan.IsWs [] := fun _ h => by simp at h

mutual
theorem strip_json : (t : BT) → t.cls.Json → t.strip.cls.Json
  | .scalar tok, h => by simpa [BT.strip, BT.cls, Tree.Json] using h
  | .arr ws0 items, h => by
    obtain ⟨_, hi⟩ : SchemaScan.IsWs (ws0.map classify) ∧ SchemaScan.JsonItems (clsItems items) := by
      simpa [BT.cls, Tree.Json] using h
    simpa [BT.strip, BT.cls, Tree.Json] using And.intro isWs_nil (stripItems_json items hi)
  | .obj ws0 members, h => by
    obtain ⟨_, hi⟩ : SchemaScan.IsWs (ws0.map classify) ∧ SchemaScan.JsonMembers (clsMembers members) := by
      simpa [BT.cls, Tree.Json] using h
    simpa [BT.strip, BT.cls, Tree.Json] using And.intro isWs_nil (stripMembers_json members hi)
theorem stripItems_json : (its : List BItem) → SchemaScan.JsonItems (clsItems its) →
    SchemaScan.JsonItems (clsItems (stripItemsB its))
  | [], _ => by simp [stripItemsB, clsItems, SchemaScan.JsonItems]
  | (w1, v, w2) :: its, h => by
    obtain ⟨_, hv, _, hr⟩ : SchemaScan.IsWs (w1.map classify) ∧ v.cls.Json ∧ SchemaScan.IsWs (w2.map classify) ∧
        SchemaScan.JsonItems (clsItems its) := by simpa [clsItems, SchemaScan.JsonItems] using h
    simpa [stripItemsB, clsItems, SchemaScan.JsonItems] using
      And.intro isWs_nil (And.intro (strip_json v hv) (And.intro isWs_nil (stripItems_json its hr)))
theorem stripMembers_json : (ms : List BMember) → SchemaScan.JsonMembers (clsMembers ms) →
    SchemaScan.JsonMembers (clsMembers (stripMembersB ms))
  | [], _ => by simp [stripMembersB, clsMembers, SchemaScan.JsonMembers]
  | (w1, k, w2, w3, v, w4) :: ms, h => by
    obtain ⟨_, hk, _, _, hv, _, hr⟩ : SchemaScan.IsWs (w1.map classify) ∧ SchemaScan.KeyTok (k.map classify) ∧
        SchemaScan.IsWs (w2.map classify) ∧ SchemaScan.IsWs (w3.map classify) ∧ v.cls.Json ∧
        SchemaScan.IsWs (w4.map classify) ∧ SchemaScan.JsonMembers (clsMembers ms) := by
      simpa [clsMembers, SchemaScan.JsonMembers] using h
    simpa [stripMembersB, clsMembers, SchemaScan.JsonMembers] using
      And.intro isWs_nil (And.intro hk (And.intro isWs_nil (And.intro isWs_nil (And.intro (strip_json v hv)
        (And.intro isWs_nil (stripMembers_json ms hr))))))
end

/-- **the result is JSON**: the JSON scanner model reads the compact text as exactly the events of the value
without layout (so it is accepted, C05 / C06) -/
theorem plain_result_is_json (allow : Bool) (t : BT) (hj : t.cls.Json) :
    JsonScan.events allow t.compact = .ok (JsonScan.evsAt 0 t.strip.cls.toJA) := by
  have hv := SchemaScan.valid_toJA t.strip.cls (strip_json t hj)
  have hcls : t.compact.map JsonScan.classify = [] ++ (t.strip.cls.toJA.render ++ []) := by
    rw [SchemaScan.map_classify_toJ, ← strip_render, ← cls_render, SchemaScan.render_toJA]; simp
  have hl : t.compact.length = ([] ++ (t.strip.cls.toJA.render ++ [])).length := by
    rw [← hcls, List.length_map]
  unfold JsonScan.events
  rw [hcls, hl]
  exact JsonScan.C06_events_of_tree allow _ hv [] [] (fun _ h => by simp at h) (fun _ h => by simp at h)

/-! ### non-vacuity: the sample text of `SchemaEventsTree` (line breaks LF and CR LF, tabs, nesting, escapes) -/

/-- ` {⏎"a\n" :⏎ [1, true,␍⏎⇥-0.50 ] ,⏎⏎ "\u00e9": { }⏎}⏎ ` as a byte tree (without the outer blanks) -/
def sampleBT : BT :=
  .obj [10] [
    ([], [34, 97, 92, 110, 34], [32], [10, 32],
      .arr [] [([], .scalar [49], []), ([32], .scalar [116, 114, 117, 101], []),
               ([13, 10, 9], .scalar [45, 48, 46, 53, 48], [32])], [32]),
    ([10, 10, 32], [34, 92, 117, 48, 48, 101, 57, 34], [], [32], .obj [32] [], [10])]

theorem sampleBT_cls : sampleBT.cls = SchemaScan.sampleTree := by
  have c : ∀ b : UInt8, ∀ k : Cls, (classify b == k) = true → classify b = k := fun _ _ h => by simpa using h
  simp only [sampleBT, BT.cls, clsItems, clsMembers, SchemaScan.sampleTree, List.map_cons, List.map_nil,
    c 10 .nl (by decide), c 34 .quote (by decide), c 97 .la (by decide), c 92 .bslash (by decide), c 110 .ln (by decide),
    c 32 .sp (by decide), c 49 .d19 (by decide), c 116 .lt (by decide), c 114 .lr (by decide), c 117 .lu (by decide),
    c 101 .le (by decide), c 13 .nl (by decide), c 9 .tab (by decide), c 45 .minus (by decide), c 48 .zero (by decide),
    c 46 .dot (by decide), c 53 .d19 (by decide), c 57 .d19 (by decide)]
theorem sampleBT_text : [32] ++ (sampleBT.render ++ [10, 32]) = SchemaScan.sampleBytes := by decide
theorem sampleBT_distinct : sampleBT.KeysDistinct := by
  simp only [sampleBT, BT.KeysDistinct, DistinctMembersB, DistinctItemsB, List.map_cons, List.map_nil]
  decide

/-- `{"a\n":[1,true,-0.50],"\u00e9":{}}` -/
theorem sample_roundtrip : exampleText SchemaScan.sampleBytes
    = .ok [123, 34, 97, 92, 110, 34, 58, 91, 49, 44, 116, 114, 117, 101, 44, 45, 48, 46, 53, 48, 93, 44,
           34, 92, 117, 48, 48, 101, 57, 34, 58, 123, 125, 125] := by
  rw [← sampleBT_text, plain_text_roundtrip sampleBT (by rw [sampleBT_cls]; exact SchemaScan.sampleTree_valid) [32] [10, 32]
    (by intro c h; simp at h; subst h; decide) (by intro c h; simp at h; rcases h with h | h <;> subst h <;> decide)
    sampleBT_distinct]
  rfl

/-! ### the glue to the abstract builder model `EX.build`

`toEX` reads the loader's node table as a schema of the `EX` model (tokens as byte classes); on it `EX.build`
(the model of `C15_wellformed` / `C15_build_is_render`, tied by `example-diff`) emits the classes of the bytes
`exBuild` emits. -/

def toEX (src : Array UInt8) (nodes : Array Node) : Nat → Nat → Option EX.N
  | 0, _ => none
  | fuel + 1, i =>
    match nodes[i]? with
    | none => none
    | some nd =>
      if nd.rules.isEmpty then
        match nd.kind with
        | .lit => nd.value.map fun sp => .lit ((slice src sp.1 sp.2).map JsonScan.classify)
        | .mixed => none
        | .arr => (nd.children.mapM (toEX src nodes fuel)).map .arr
        | .obj =>
          if nd.keys.length != nd.children.length || nd.keys.any (·.2.2) then none
          else
            ((nd.keys.zip nd.children).mapM fun kc =>
              (toEX src nodes fuel kc.2).map fun n => ((slice src kc.1.1 kc.1.2.1).map JsonScan.classify, n)).map .obj
      else none

theorem joinB_classes (parts : List (List UInt8)) :
    (joinB parts).map JsonScan.classify = EX.joinC (parts.map (·.map JsonScan.classify)) := by
  induction parts with
  | nil => rfl
  | cons x rest ih =>
    simp only [joinB, EX.joinC, List.map_append, List.map_cons, ih, List.isEmpty_map]
    cases rest.isEmpty <;> rfl

section glue
variable (src : Array UInt8) (nodes : Array Node) (ts : EX.Types) (f : Nat) (proc : String → Nat)

theorem kids_glue (fuel : Nat)
    (ih : ∀ i out, exBuild src nodes fuel i = some out →
      ∃ n, toEX src nodes fuel i = some n ∧ EX.build ts f proc n = some (some (out.map JsonScan.classify))) :
    ∀ (cs : List Nat) (parts : List (List UInt8)), cs.mapM (exBuild src nodes fuel) = some parts →
      ∃ ns, cs.mapM (toEX src nodes fuel) = some ns ∧
        EX.buildKids ts f proc ns = some (parts.map (·.map JsonScan.classify))
  | [], parts, h => by
    simp at h; subst h
    exact ⟨[], by simp, by simp [EX.buildKids]⟩
  | c :: cs, parts, h => by
    simp only [List.mapM_cons] at h
    cases h1 : exBuild src nodes fuel c with
    | none => simp [h1] at h
    | some out =>
      cases h2 : cs.mapM (exBuild src nodes fuel) with
      | none => simp [h1, h2] at h
      | some rest =>
        simp [h1, h2] at h; subst h
        obtain ⟨n, hn, hb⟩ := ih c out h1
        obtain ⟨ns, hns, hbs⟩ := kids_glue fuel ih cs rest h2
        refine ⟨n :: ns, by simp [List.mapM_cons, hn, hns], ?_⟩
        simp [EX.buildKids, hb, hbs]

theorem props_glue (fuel : Nat)
    (ih : ∀ i out, exBuild src nodes fuel i = some out →
      ∃ n, toEX src nodes fuel i = some n ∧ EX.build ts f proc n = some (some (out.map JsonScan.classify))) :
    ∀ (kcs : List ((Nat × Nat × Bool) × Nat)) (parts : List (List UInt8)),
      kcs.mapM (fun kc => (exBuild src nodes fuel kc.2).map fun ex => slice src kc.1.1 kc.1.2.1 ++ 58 :: ex) = some parts →
      ∃ ps, kcs.mapM (fun kc => (toEX src nodes fuel kc.2).map fun n =>
          ((slice src kc.1.1 kc.1.2.1).map JsonScan.classify, n)) = some ps ∧
        EX.buildProps ts f proc ps = some (parts.map (·.map JsonScan.classify))
  | [], parts, h => by
    simp at h; subst h
    exact ⟨[], by simp, by simp [EX.buildProps]⟩
  | kc :: kcs, parts, h => by
    simp only [List.mapM_cons] at h
    cases h1 : exBuild src nodes fuel kc.2 with
    | none => simp [h1] at h
    | some out =>
      cases h2 : kcs.mapM (fun kc => (exBuild src nodes fuel kc.2).map fun ex => slice src kc.1.1 kc.1.2.1 ++ 58 :: ex) with
      | none => simp [h1, h2] at h
      | some rest =>
        simp [h1, h2] at h; subst h
        obtain ⟨n, hn, hb⟩ := ih kc.2 out h1
        obtain ⟨ps, hps, hbs⟩ := props_glue fuel ih kcs rest h2
        refine ⟨((slice src kc.1.1 kc.1.2.1).map JsonScan.classify, n) :: ps, by simp [List.mapM_cons, hn, hps], ?_⟩
        have c58 : JsonScan.classify 58 = .colon := by decide
        simp [EX.buildProps, hb, hbs, c58]

/-- whatever the text-level builder emits, the abstract builder model emits its byte classes on `toEX` -/
theorem exBuild_glue : ∀ (fuel i : Nat) (out : List UInt8), exBuild src nodes fuel i = some out →
    ∃ n, toEX src nodes fuel i = some n ∧ EX.build ts f proc n = some (some (out.map JsonScan.classify))
  | 0, _, _, h => by simp [exBuild] at h
  | fuel + 1, i, out, h => by
    have ih := exBuild_glue fuel
    simp only [exBuild, toEX] at h ⊢
    cases hn : nodes[i]? with
    | none => simp [hn] at h
    | some nd =>
      simp only [hn] at h ⊢
      by_cases hr : nd.rules.isEmpty = true
      · simp only [hr, if_true] at h ⊢
        cases hk : nd.kind with
        | lit =>
          simp only [hk] at h ⊢
          cases hv : nd.value with
          | none => simp [hv] at h
          | some sp =>
            simp [hv] at h; subst h
            exact ⟨_, rfl, by simp [EX.build]⟩
        | mixed => simp [hk] at h
        | arr =>
          simp only [hk] at h ⊢
          cases hm : nd.children.mapM (exBuild src nodes fuel) with
          | none => simp [hm] at h
          | some parts =>
            simp [hm] at h; subst h
            obtain ⟨ns, hns, hb⟩ := kids_glue src nodes ts f proc fuel ih nd.children parts hm
            refine ⟨.arr ns, by simp [hns], ?_⟩
            have c91 : JsonScan.classify 91 = .lbrack := by decide
            have c93 : JsonScan.classify 93 = .rbrack := by decide
            simp [EX.build, hb, joinB_classes, c91, c93]
        | obj =>
          simp only [hk] at h ⊢
          by_cases hc : (nd.keys.length != nd.children.length || nd.keys.any (·.2.2)) = true
          · simp [hc] at h
          · simp only [hc] at h ⊢
            cases hm : (nd.keys.zip nd.children).mapM (fun kc =>
                (exBuild src nodes fuel kc.2).map fun ex => slice src kc.1.1 kc.1.2.1 ++ 58 :: ex) with
            | none => simp [hm] at h
            | some parts =>
              simp [hm] at h; subst h
              obtain ⟨ps, hps, hb⟩ := props_glue src nodes ts f proc fuel ih _ parts hm
              refine ⟨.obj ps, by simp [hps], ?_⟩
              have c123 : JsonScan.classify 123 = .lbrace := by decide
              have c125 : JsonScan.classify 125 = .rbrace := by decide
              simp [EX.build, hb, joinB_classes, c123, c125]
      · simp [hr] at h

end glue

#print axioms plain_text_roundtrip
#print axioms plain_result_is_json
#print axioms sample_roundtrip
#print axioms exBuild_glue

end Loader
