import JSight.SchemaErrPrefix
import JSight.SchemaLenErr
/-!
C17, schema scanner, input ends early (ordinary mode, `scanAll`): the token-boundary and open-string cases of
`C14_schema_len_error_*` transported from `Length()` to the event stream through `Fails`.
-/
namespace SchemaScan
open Len

theorem Len.Drain.fails {data : Array Cls} {s : Sc} {evs : List Ev} {e : Err} (h : Drain data s evs (.err e))
    (hc : e.isCrash = false) : Fails data s e := by
  generalize hf : Stop.err e = f at h
  induction h with
  | eof _ | top _ _ => cases hf
  | err hn =>
    cases hf
    obtain ⟨_, nf, _, hx⟩ := hn
    exact (next_fails data nf _).1 _ hx hc
  | ev hn _ _ ih =>
    obtain ⟨nf, _, hx⟩ := hn
    exact (next_fails data nf _).2 _ _ hx _ (ih hf)

/-- **C17, input ends early at a token boundary (ordinary mode)**: the input is the text of a token list accepted from
the initial state, and behind it an object, an array, a key, a member value or an array item is still open (`eofErrK`):
the scanner reports "unexpected end of file" (303) at the last byte. -/
theorem scanAll_eof_tokens (toks : List Tok) (hw : ∀ t ∈ toks, t.WF) (c' : TC) (evs : List Ev)
    (h : trun TC.init toks = some (c', evs)) (hopen : eofErrK c'.K = true)
    (bs : List UInt8) (hbs : bs.map classify = renderToks toks) :
    scanAll bs = .error (.unexpectedEOF (bs.length - 1)) := by
  have hat : At (bs.map classify).toArray 0 (renderToks toks) := At_toArray _ [] _ (by rw [hbs]; simp)
  have hsize : (bs.map classify).toArray.size = (renderToks toks).length := by rw [hbs]; simp
  have hsz2 : (bs.map classify).toArray.size = bs.length := by simp
  obtain ⟨P, hi', hnt⟩ := trun_doc (lc := false) toks hw c' evs h hat
  obtain ⟨ev1, hk, r⟩ := drain_eof_tc (data := (bs.map classify).toArray) false c' (by rw [hi', hsize]; exact Nat.le_refl _) hopen
  have F := (Drain.after P hnt r).fails rfl
  rw [hsz2] at F
  exact fails_scanAll F

/-- **C17, input ends inside a string (ordinary mode)**: an accepted token list that ends where a value may start, then
`"` and string characters (plain bytes and complete escapes) up to the end of input: 303 at the last byte. -/
theorem scanAll_eof_string (toks : List Tok) (hw : ∀ t ∈ toks, t.WF) (c' : TC) (evs : List Ev)
    (h : trun TC.init toks = some (c', evs)) (ctx : VCtx) (hctx : vctxOf c'.st = some ctx) (body : List Cls)
    (hb : StrBody body) (bs : List UInt8) (hbs : bs.map classify = renderToks toks ++ (Cls.quote :: body)) :
    scanAll bs = .error (.unexpectedEOF (bs.length - 1)) := by
  have hat : At (bs.map classify).toArray 0 (renderToks toks ++ (Cls.quote :: body)) := At_toArray _ [] _ (by rw [hbs]; simp)
  have hsize : (bs.map classify).toArray.size = (renderToks toks).length + (body.length + 1) := by rw [hbs]; simp
  have hsz2 : (bs.map classify).toArray.size = bs.length := by simp
  obtain ⟨es, R⟩ := drain_eof_string false toks hw c' evs h ctx hctx body hb hat hsize
  have F := R.fails rfl
  rw [hsz2] at F
  exact fails_scanAll F

end SchemaScan
