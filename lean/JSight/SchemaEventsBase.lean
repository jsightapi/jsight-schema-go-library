import JSight.SchemaRun
import JSight.NodeTable
/-!
Schema scanner model (`SchemaScan`): fuel-free description of the event stream.

* `NextOk data s r`   : `Next()` from `s` returns `r` for some fuel within `data.size - s.index + 2` (the bound `NextOk.next` and `Path` use);
* `Emits data s evs`  : draining the scanner from `s` delivers exactly `evs` and then ends;
* `Steps data s evs s'` : from `s` the scanner delivers `evs` and is then in `s'` (continuation form);
* `events_of_emits`   : `Emits data s evs → evs.length < fuel → events data fuel s acc = .ok (acc.reverse ++ evs)`.

What the later files unfold and use most: `nextBody` / `eofStep` (one round of `next` with its matches written out,
`next_succ`), `drainL` (deliver a list of queued lexemes), `At data o seg` (the input holds `seg` at offset `o`).
-/
namespace SchemaScan

/-! ### `next`, restated with explicit matches -/

/-- the end-of-input rule of `Next()` -/
def eofStep (data : Array Cls) (s : Sc) : M (Option (Sc × Ev)) :=
  if !s.stack.isEmpty then
    let s := { s with index := s.index + 1 }
    match stackTy s 0 with
    | some .litB =>
      if s.unf then throw (.unexpectedEOF (data.size - 1))
      else some <$> processFound data s .litE
    | some .inlAnnB => some <$> processFound data s .inlAnnE
    | some .inlTxtB => some <$> processFound data s .inlTxtE
    | some .tsB =>
      if s.unf then throw (.unexpectedEOF (data.size - 1))
      else some <$> processFound data (found s .mixE) .tsE
    | _ => throw (.unexpectedEOF (data.size - 1))
  else pure none

/-- one round of `next`.  `dispatch 8`: the fuel `next` gives every call of a state function; a state that hands the byte on to
another calls it with one less.  The lemmas about single states are stated at `dispatch (f + 1)`, and the runs use them at
the literal `f` that makes the chain start at 8: `7` for the first state a byte meets, `6` for the second, … -/
def nextBody (data : Array Cls) (k : Sc → M (Option (Sc × Ev))) (s : Sc) : M (Option (Sc × Ev)) :=
  match shiftFound data s with
  | .error e => .error e
  | .ok (some r) => .ok (some r)
  | .ok none =>
    if s.index < data.size then
      match dispatch 8 s.step { s with index := s.index + 1 } data[s.index]! data[s.index + 1]? data[s.index + 1 + 1]? with
      | .error e => .error e
      | .ok s1 =>
        match shiftFound data s1 with
        | .error e => .error e
        | .ok (some r) => .ok (some r)
        | .ok none => k s1
    else eofStep data s

theorem next_succ (data : Array Cls) (nf : Nat) (s : Sc) :
    next data (nf + 1) s = nextBody data (next data nf) s := by
  rw [next]
  unfold nextBody
  simp only [bind, Except.bind]
  cases h1 : shiftFound data s with
  | error e => rfl
  | ok o =>
    cases o with
    | some r => rfl
    | none =>
      simp only []
      by_cases hlt : s.index < data.size
      · simp only [hlt, if_true]
        cases h2 : dispatch 8 s.step { s with index := s.index + 1 } data[s.index]! data[s.index + 1]? data[s.index + 1 + 1]? with
        | error e => rfl
        | ok s1 =>
          simp only []
          cases h3 : shiftFound data s1 with
          | error e => rfl
          | ok o2 => cases o2 <;> rfl
      · simp only [hlt, if_false]
        rfl

theorem next_zero (data : Array Cls) (s : Sc) : next data 0 s = .error (.crash "next: fuel exhausted") := rfl

/-- whatever `nextBody` returns with the continuation `k` it returns with every `k'` that returns it wherever `k` does -/
theorem nextBody_mono (data : Array Cls) (k k' : Sc → M (Option (Sc × Ev))) (x : M (Option (Sc × Ev)))
    (hk : ∀ s, k s = x → k' s = x) (s : Sc) (h : nextBody data k s = x) : nextBody data k' s = x := by
  unfold nextBody at h ⊢
  cases h1 : shiftFound data s with
  | error e => rw [h1] at h; exact h
  | ok o =>
    rw [h1] at h
    cases o with
    | some p => exact h
    | none =>
      simp only [] at h ⊢
      by_cases hlt : s.index < data.size
      · simp only [hlt, if_true] at h ⊢
        cases h2 : dispatch 8 s.step { s with index := s.index + 1 } data[s.index]! data[s.index + 1]? data[s.index + 1 + 1]? with
        | error e => rw [h2] at h; exact h
        | ok s1 =>
          rw [h2] at h
          simp only [] at h ⊢
          cases h3 : shiftFound data s1 with
          | error e => rw [h3] at h; exact h
          | ok o2 =>
            rw [h3] at h
            cases o2 with
            | some p => exact h
            | none => exact hk _ h
      · simp only [hlt, if_false] at h ⊢
        exact h

/-- more fuel does not change a result of `next`, a value or a scanner error, other than the model's own fuel guard -/
theorem next_fuel_mono (data : Array Cls) (x : M (Option (Sc × Ev))) (hx : x ≠ .error (.crash "next: fuel exhausted")) :
    ∀ (nf m : Nat) (s : Sc), next data nf s = x → nf ≤ m → next data m s = x := by
  intro nf
  induction nf with
  | zero => intro m s h _; rw [next_zero] at h; exact absurd h.symm hx
  | succ nf ih =>
    intro m s h hm
    cases m with
    | zero => exact absurd hm (Nat.not_succ_le_zero _)
    | succ m =>
      rw [next_succ] at h ⊢
      exact nextBody_mono data _ _ x (fun s' h' => ih m s' h' (Nat.le_of_succ_le_succ hm)) s h

theorem next_mono (data : Array Cls) (nf m : Nat) (s : Sc) (r : Option (Sc × Ev))
    (h : next data nf s = .ok r) (hm : nf ≤ m) : next data m s = .ok r :=
  next_fuel_mono data (.ok r) (by simp) nf m s h hm

/-! ### fuel-free `Next()` and the event stream -/

/-- `Next()` from `s` returns `r`.  The fuel is bounded (one unit per unread byte, one for the call that returns, one to
spare) so that the fixed fuel `3 * size + 16` that `events` and `lengthLoop` pass to each call of `next` always suffices
(`NextOk.next`); the fuel of those loops themselves, `8 * size + 16`, is the subject of `SchemaRunLen`. -/
def NextOk (data : Array Cls) (s : Sc) (r : Option (Sc × Ev)) : Prop :=
  ∃ nf, nf ≤ data.size - s.index + 2 ∧ next data nf s = .ok r

inductive Emits (data : Array Cls) : Sc → List Ev → Prop
  | nil {s : Sc} : NextOk data s none → Emits data s []
  | cons {s s' : Sc} {e : Ev} {evs : List Ev} : NextOk data s (some (s', e)) → Emits data s' evs → Emits data s (e :: evs)

theorem NextOk.next {data : Array Cls} {s : Sc} {r : Option (Sc × Ev)} (h : NextOk data s r) :
    SchemaScan.next data (3 * data.size + 16) s = .ok r := by
  obtain ⟨nf, hb, hn⟩ := h
  exact next_mono data nf _ s r hn (by omega)

theorem events_of_emits {data : Array Cls} {s : Sc} {evs : List Ev} (h : Emits data s evs) :
    ∀ (fuel : Nat) (acc : List Ev), evs.length < fuel → events data fuel s acc = .ok (acc.reverse ++ evs) := by
  induction h with
  | nil hn =>
    intro fuel acc hf
    cases fuel with
    | zero => cases hf
    | succ f =>
      rw [events]
      simp only [bind, Except.bind, hn.next, List.append_nil]
      rfl
  | cons hn _ ih =>
    intro fuel acc hf
    cases fuel with
    | zero => cases hf
    | succ f =>
      rw [events]
      simp only [bind, Except.bind, hn.next]
      rw [ih f _ (by simpa using hf)]
      simp

/-- from `s` the scanner delivers `evs` and is then in `s'` -/
def Steps (data : Array Cls) (s : Sc) (evs : List Ev) (s' : Sc) : Prop :=
  ∀ tl, Emits data s' tl → Emits data s (evs ++ tl)

theorem processFound_finds {data : Array Cls} {s s' : Sc} {t : LexT} {e : Ev}
    (h : processFound data s t = .ok (s', e)) : s'.finds = s.finds ∧ s'.index = s.index := by
  unfold processFound at h
  simp only [] at h
  split at h
  · cases h; exact ⟨rfl, rfl⟩
  · split at h
    · cases h; exact ⟨rfl, rfl⟩
    · split at h
      · cases h
      · split at h
        · cases h; exact ⟨rfl, rfl⟩
        · split at h
          · cases h; exact ⟨rfl, rfl⟩
          · cases h

/-- deliver a list of queued lexemes -/
def drainL (data : Array Cls) : List LexT → Sc → M (Sc × List Ev)
  | [], s => pure (s, [])
  | t :: rest, s =>
    match processFound data { s with finds := rest } t with
    | .error e => .error e
    | .ok (s', e) =>
      match drainL data rest s' with
      | .error e => .error e
      | .ok (s'', es) => .ok (s'', e :: es)

/-- with nothing queued, `Next()` at the end of input is `eofStep` -/
theorem next_at_eof {data : Array Cls} (s : Sc) (hf : s.finds = []) (hi : data.size ≤ s.index) (nf : Nat) :
    next data (nf + 1) s = eofStep data s := by
  rw [next_succ]
  unfold nextBody shiftFound
  rw [hf]
  simp only [show ¬ s.index < data.size by omega, if_false]
  rfl

/-- end of input with nothing open -/
theorem nextOk_done {data : Array Cls} {s : Sc} (hf : s.finds = []) (hi : data.size ≤ s.index) (hs : s.stack = []) :
    NextOk data s none := by
  refine ⟨1, by omega, ?_⟩
  rw [next_at_eof s hf hi]
  unfold eofStep
  rw [hs]
  rfl

theorem Emits.done {data : Array Cls} {s : Sc} (hf : s.finds = []) (hi : data.size ≤ s.index) (hs : s.stack = []) :
    Emits data s [] := Emits.nil (nextOk_done hf hi hs)

/-- end of input right after a top-level scalar: the literal is closed -/
theorem Emits.eofLit {data : Array Cls} {s : Sc} {b : Nat} (hf : s.finds = []) (hi : data.size ≤ s.index)
    (hs : s.stack = [(.litB, b)]) (hu : s.unf = false) :
    Emits data s [⟨.litE, b, s.index - 1⟩] := by
  have hn : NextOk data s (some ({ s with index := s.index + 1, stack := [] }, ⟨.litE, b, s.index - 1⟩)) := by
    refine ⟨1, by omega, ?_⟩
    rw [next_at_eof s hf hi]
    unfold eofStep
    obtain ⟨step, ret, stack, ctxStack, ctx, finds, index, ann, unf, lc, bq, al, ht⟩ := s
    simp only at hs hu
    subst hs hu
    rfl
  exact Emits.cons hn (Emits.done hf (by simp only; omega) rfl)

/-! ### input segments -/

/-- the input holds `seg` at offset `o` -/
def At (data : Array Cls) : Nat → List Cls → Prop
  | _, [] => True
  | o, c :: cs => data[o]? = some c ∧ At data (o + 1) cs

/-- `At` is `NodeTable.Sits` at byte classes: its facts are those of `Sits` -/
theorem At_iff_sits (data : Array Cls) : ∀ (l : List Cls) (o : Nat), At data o l ↔ NodeTable.Sits data o l
  | [], _ => Iff.rfl
  | _ :: cs, o => and_congr Iff.rfl (At_iff_sits data cs (o + 1))

theorem At_append (data : Array Cls) (a b : List Cls) (o : Nat) :
    At data o (a ++ b) ↔ At data o a ∧ At data (o + a.length) b := by
  simp only [At_iff_sits]; exact NodeTable.Sits.append_iff

theorem At_toArray (l pre seg : List Cls) (h : l = pre ++ seg) : At l.toArray pre.length seg :=
  (At_iff_sits _ _ _).2 (NodeTable.sits_suffix l pre seg h)

end SchemaScan
