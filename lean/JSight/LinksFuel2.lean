import JSight.LinksFuel
/-!
C09 (c), termination of the link check: the check phase, `CompileAllOf` (in-progress set restored on return) and the assembled
statements `linkCheckF_noFuel`, `linkCheckF_stable`.
-/
namespace LK
open Except (wp)

/-! ### the check phase -/

/-- the check phase starts every descent at the empty set, so its lemmas ask `|types| < f` where the descents ask
`U g V < f` -/
theorem U_nil_le (g : G) : U g [] ≤ g.types.length := Visit.unvisited_le Prod.fst g.types []

theorem checkKeys_settled (g : G) (f f' : Nat) (hf : g.types.length < f) (hle : f ≤ f') :
    ∀ (keys : List (String × Bool)), Settled (checkKeys g f keys) (checkKeys g f' keys)
  | [] => Settled.ok ()
  | (_, false) :: ks => by simp only [checkKeys]; exact checkKeys_settled g f f' hf hle ks
  | (k, true) :: ks => by
    unfold checkKeys
    cases lookup g k with
    | none => exact Settled.error nofun
    | some body =>
      dsimp only
      refine (actualType_settled g f f' [] body (by have := U_nil_le g; omega) hle).elim (fun _ => Settled.error)
        fun t _ => ?_
      dsimp only
      split
      · exact checkKeys_settled g f f' hf hle ks
      · exact Settled.error nofun

theorem checkItem_settled (g : G) (f f' : Nat) (hf : g.types.length < f) (hle : f ≤ f') (ci : CItem) :
    Settled (checkItem g f ci) (checkItem g f' ci) := by
  have hU := U_nil_le g
  cases ci with
  | arr => exact Settled.ok ()
  | ref names =>
    simp only [checkItem]
    cases h1 : mustAll g names with
    | error e => obtain ⟨m, rfl⟩ := mustAll_only_missing g names e h1; exact Settled.error nofun
    | ok u => exact Settled.ok _
  | lit jt ms =>
    cases ms with
    | nil => exact Settled.ok ()
    | cons x xs =>
      simp only [checkItem]
      refine (collectNames_settled g (collectRoot g f) (collectRoot g f') [] (fun n body al hn hl =>
        collectRoot_settled g f f' [n] body al (by have := U_lt g [] n body hl hn; omega) hle) (x :: xs) []).elim
        (fun _ => Settled.error) fun al _ => ?_
      dsimp only
      split
      · exact (buildNames_settled g (buildRoot g f) (buildRoot g f') (U g [])
            (fun n body a hb hn hl => buildRoot_settled g f f' body (n :: a)
              (by have := U_lt g a n body hl hn; omega) hle) (x :: xs) [] (Nat.le_refl _)).elim
          (fun _ => Settled.error) fun _ _ => Settled.ok ()
      · exact Settled.error nofun
  | obj keys addp =>
    simp only [checkItem]
    refine (checkKeys_settled g f f' hf hle keys).elim (fun _ => Settled.error) fun _ _ => ?_
    cases addp with
    | none => exact Settled.ok ()
    | some a =>
      dsimp only
      cases lookup g a with
      | none => exact Settled.error nofun
      | some b => exact Settled.ok ()

theorem checkList_settled (g : G) (f f' : Nat) (hf : g.types.length < f) (hle : f ≤ f') :
    ∀ (c : List CItem), Settled (checkList g f c) (checkList g f' c)
  | [] => Settled.ok ()
  | ci :: cs => by
    unfold checkList
    exact (checkItem_settled g f f' hf hle ci).elim (fun _ => Settled.error) fun _ _ => checkList_settled g f f' hf hle cs

theorem checkTypes_settled (g : G) (f f' : Nat) (hf : g.types.length < f) (hle : f ≤ f') (st : St) :
    ∀ (names : List String), Settled (checkTypes g f st names) (checkTypes g f' st names)
  | [] => Settled.ok ()
  | n :: ns => by
    unfold checkTypes
    exact (checkList_settled g f f' hf hle (compiledOf g st n)).elim (fun _ => Settled.error)
      fun _ _ => checkTypes_settled g f f' hf hle st ns

theorem checkOrNodes_only_missing (g : G) : ∀ (ord : List (List String)) (e : Err), checkOrNodes g ord = .error e →
    ∃ m, e = .missing m
  | [], e, h => by simp [checkOrNodes] at h
  | l :: ls, e, h => by
    unfold checkOrNodes at h
    cases h1 : mustAll g l with
    | error e1 =>
      simp only [h1, Except.error.injEq] at h
      subst h
      exact mustAll_only_missing g l _ h1
    | ok u =>
      simp only [h1] at h
      exact checkOrNodes_only_missing g ls e h

theorem checkRootSchema_settled (g : G) (f f' : Nat) (hf : g.types.length < f) (hle : f ≤ f') (rootC : List CItem)
    (st : St) (ord : List (List String)) :
    Settled (checkRootSchema g f rootC st ord) (checkRootSchema g f' rootC st ord) := by
  unfold checkRootSchema
  refine (checkList_settled g f f' hf hle rootC).elim (fun _ => Settled.error) fun _ _ => ?_
  dsimp only
  cases h2 : checkOrNodes g ord with
  | error e => obtain ⟨m, rfl⟩ := checkOrNodes_only_missing g ord e h2; exact Settled.error nofun
  | ok u2 => exact checkTypes_settled g f f' hf hle st _

/-! ### `CompileAllOf` -/

/-- The value gives back the in-progress set `P`. `processType` runs its recursive calls at `name :: processing` and
erases `name` afterwards; that the loops between give the set back unchanged is what makes the erasure restore
`processing`, and is why the relation handed to `Fuel.rel` depends on the argument. -/
abbrev Keeps {α : Type} (P : List String) (r : α × St) : Prop := r.2.processing = P

theorem extendAll_settled (pt1 pt2 : String → St → Except Err (List CItem × St)) (P : List String)
    (hpt : ∀ name st, st.processing = P → SettledQ (Keeps P) (pt1 name st) (pt2 name st)) :
    ∀ (ao : List String) (acc : List (String × Bool) × Option String) (st : St), st.processing = P →
      SettledQ (Keeps P) (extendAll pt1 ao acc st) (extendAll pt2 ao acc st)
  | [], acc, st, hst => SettledQ.ok hst
  | p :: ps, acc, st, hst => by
    unfold extendAll
    refine (hpt p st hst).elim (fun _ => Settled.error) fun (pc, st1) h1 => ?_
    dsimp only
    cases h2 : extendWith p acc pc with
    -- second half of the error side of `extendWith_spec`: the error is not `fuel`
    | error e => exact Settled.error ((extendWith_spec p acc pc).error h2).2
    | ok acc1 => exact extendAll_settled pt1 pt2 P hpt ps acc1 st1 h1

theorem processItems_settled (pt1 pt2 : String → St → Except Err (List CItem × St)) (P : List String)
    (hpt : ∀ name st, st.processing = P → SettledQ (Keeps P) (pt1 name st) (pt2 name st)) :
    ∀ (items : List Item) (st : St), st.processing = P →
      SettledQ (Keeps P) (processItems pt1 items st) (processItems pt2 items st)
  | [], st, hst => SettledQ.ok hst
  | it :: rest, st, hst => by
    rcases it.obj_or_plain with ⟨keys, addp, ao, rfl⟩ | hplain
    · simp only [processItems]
      refine (extendAll_settled pt1 pt2 P hpt ao (keys, addp) st hst).elim (fun _ => Settled.error)
        fun (acc, st1) h0 => ?_
      dsimp only
      exact (processItems_settled pt1 pt2 P hpt rest st1 h0).elim (fun _ => Settled.error) fun _ h => SettledQ.ok h
    · rw [processItems_cons_plain pt1 it hplain, processItems_cons_plain pt2 it hplain]
      exact (processItems_settled pt1 pt2 P hpt rest st hst).elim (fun _ => Settled.error) fun _ h => SettledQ.ok h

theorem processType_settled (g : G) (f f' : Nat) (name : String) (st : St) : U g st.processing < f → f ≤ f' →
    SettledQ (Keeps st.processing) (processType g f name st) (processType g f' name st) := by
  refine Fuel.rel (fun f (x : String × St) => processType g f x.1 x.2) (fun x => U g x.2.processing)
    (fun x => SettledQ (Keeps x.2.processing)) ?_ f f' (name, st)
  intro f f' (name, st) ih _
  unfold processType
  split
  · exact Settled.error nofun
  next hp =>
    cases hl : lookup g name with
    | none => exact Settled.error nofun
    | some body =>
      dsimp only
      cases st.compiled.lookup name with
      | some c0 => exact SettledQ.ok rfl
      | none =>
        dsimp only
        have hlt := U_lt g st.processing name body hl (mt List.contains_iff_mem.2 hp)
        refine (processItems_settled (processType g f) (processType g f') (name :: st.processing)
          (fun n s hs => hs ▸ ih (n, s) (by rw [hs]; exact hlt))
          (flat body) { st with processing := name :: st.processing } rfl).elim
          (fun _ => Settled.error) fun (c, st1) h => SettledQ.ok ?_
        show st1.processing.erase name = st.processing
        rw [h, List.erase_cons_head]

theorem processNames_settled (pt1 pt2 : String → St → Except Err (List CItem × St)) (P : List String)
    (hpt : ∀ name st, st.processing = P → SettledQ (Keeps P) (pt1 name st) (pt2 name st)) :
    ∀ (names : List String) (st : St), st.processing = P →
      Settled (processNames pt1 names st) (processNames pt2 names st)
  | [], st, _ => Settled.ok _
  | n :: ns, st, hst => by
    unfold processNames
    exact (hpt n st hst).elim (fun _ => Settled.error) fun (c, st1) h1 => processNames_settled pt1 pt2 P hpt ns st1 h1

theorem compileAllOf_settled (g : G) (f f' : Nat) (hf : g.types.length < f) (hle : f ≤ f') :
    Settled (compileAllOf g f) (compileAllOf g f') := by
  unfold compileAllOf
  have hU := U_nil_le g
  have hpt : ∀ name (st : St), st.processing = [] →
      SettledQ (Keeps []) (processType g f name st) (processType g f' name st) :=
    fun name st hs => hs ▸ processType_settled g f f' name st (by rw [hs]; omega) hle
  refine (processItems_settled _ _ [] hpt (flat g.root) ⟨[], []⟩ rfl).elim (fun _ => Settled.error) fun (rootC, st) h1 => ?_
  dsimp only
  exact (processNames_settled _ _ [] hpt (sortedNames g) st h1).elim (fun _ => Settled.error) fun _ _ => Settled.ok _

/-! ### the link check as a whole -/

theorem linkCheckF_settled (g : G) (f f' : Nat) (hf : fuelOf g ≤ f) (hle : f ≤ f') (ord : List (List String)) :
    Settled (linkCheckF g f ord) (linkCheckF g f' ord) := by
  have hf' : g.types.length < f := by unfold fuelOf at hf; omega
  unfold linkCheckF
  exact (compileAllOf_settled g f f' hf' hle).elim (fun _ => Settled.error)
    fun (rootC, st) _ => checkRootSchema_settled g f f' hf' hle rootC st ord

/-- with `|types| + 1` units of fuel (or more) the link check never runs out of fuel — on every graph -/
theorem linkCheckF_noFuel (g : G) (f : Nat) (hf : fuelOf g ≤ f) (ord : List (List String)) :
    linkCheckF g f ord ≠ .error .fuel :=
  (linkCheckF_settled g f f hf (Nat.le_refl _) ord).noFuel

/-- any amount of fuel from `|types| + 1` on gives the verdict of `linkCheck` -/
theorem linkCheckF_stable (g : G) (f : Nat) (hf : fuelOf g ≤ f) (ord : List (List String)) :
    linkCheckF g f ord = linkCheck g ord :=
  (linkCheckF_settled g (fuelOf g) f (Nat.le_refl _) hf ord).2

end LK
