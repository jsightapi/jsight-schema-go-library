import JSight.ShortE2E
/-!
`Compile` on the resolved node table of a tree with shortcut leaves that stands in the text (`SE.Emb`): `compileNode`
yields `SE.cnOf`, on any table in which the nodes of the tree stand (`compileNode_sits`; `SE.loadSchema_stree` takes it at
the whole table, `sits_all`). `compileNode_nodes`, `compileItems_nodes`, `compileProps_nodes` are the same statements with
the table written out as `pre ++ (nodes ++ post)` and the text hypothesis as validity and `AtB` (`sits_mid`, `emb_of`).
-/
namespace SE
open SchemaScan (Cls classify STree)
open SchemaScan.Len (Shortcut)
open Loader (Node slice keyText shortNode valOff)
open LoaderS (nodesOf nodesItems nodesMembers idxItems idxMembers keysMembers nextItem nextMember nodeCount
  countItems countMembers ruleOf)
open Lay (AtB slice_tok)
open Compile
open NodeTable (Sits sits_mid)

/-- the resolved node of an object without rules -/
def objR (cs : List Nat) (ks : List (Bytes × Bool)) : RNode :=
  { kind := .obj, children := cs, keys := ks, value := none, rules := [] }

theorem resolve_short (src : Array UInt8) (par : Option Nat) (o e e' : Nat) (nm : String) :
    resolve src (shortNode par o e e' nm) = shortR nm (slice src o e') (Loader.trimSpaces (slice src o e)) o := by
  simp [resolve, shortNode, resolveRule, shortR, genRule]

theorem resolve_lit (src : Array UInt8) (par : Option Nat) (tok : Bytes) (o e : Nat) (h : slice src o e = tok) :
    resolve src { kind := .lit, parent := par, value := some (o, e) }
      = { kind := .lit, children := [], keys := [], value := some tok, rules := [] } := by
  simp [resolve, h]

theorem sc_length (f : Bytes) (as : List Alt) (sps : Bytes) :
    ((clsSc f as).render ++ clsB sps).length = (scBytes f as ++ sps).length := by
  rw [← scBytes_cls, clsB, ← List.map_append, List.length_map]

/-- the text of a shortcut leaf, as the loader's node spans it -/
theorem slice_sc {src : Array UInt8} {o : Nat} {f : Bytes} {as : List Alt} {sps : Bytes} (h : AtB src o (scBytes f as ++ sps)) :
    slice src o (o + ((clsSc f as).render ++ clsB sps).length - 1) = scBytes f as ++ sps := by
  rw [sc_length]
  exact slice_tok src _ o h (by simp [scBytes])

theorem idxItems_length : (its : List SchemaScan.SItem) → (n : Nat) → (idxItems n its).length = its.length
  | [], _ => rfl
  | (_, _, _) :: its, n => by simp [idxItems, idxItems_length its]

theorem idxMembers_length : (ms : List SchemaScan.SMember) → (n : Nat) → (idxMembers n ms).length = ms.length
  | [], _ => rfl
  | (_, _, _, _, _, _) :: ms, n => by simp [idxMembers, idxMembers_length ms]

theorem keysB_length : (ms : List BMember) → (keysB ms).length = ms.length
  | [] => rfl
  | (_, _, _, _, _, _) :: ms => by simp [keysB, keysB_length ms]

theorem clsMembers_length : (ms : List BMember) → (clsMembers ms).length = ms.length
  | [] => rfl
  | (_, _, _, _, _, _) :: ms => by simp [clsMembers, clsMembers_length ms]

/-- the keys the loader records, decoded -/
theorem keys_text (src : Array UInt8) : (ms : List BMember) → (o : Nat) → EmbMembers src o ms →
    (keysMembers o (clsMembers ms)).map (keyText src) = keysB ms
  | [], _, _ => rfl
  | (w1, k, w2, w3, v, w4) :: ms, o, h => by
    simp only [clsMembers, keysMembers, keysB, List.map_cons, h.1, keys_text src ms _ h.2.2]

mutual
/-- `compileNode` on any table in which the resolved nodes of `t` stand from `n` on -/
theorem compileNode_sits (src : Array UInt8) (opt : Bool) {tbl : Array RNode} : (t : BST) → t.sideOK = true →
    (par : Option Nat) → (n o : Nat) → Emb src o t → Sits tbl n ((nodesOf par n o t.cls).map (resolve src)) →
    (fuel : Nat) → (pobj : Bool) → nodeCount t.cls ≤ fuel → compileNode tbl opt fuel n pobj = .ok (cnOf opt t, none)
  | .scalar tok, hg, par, n, o, he, hs, f + 1, pobj, _ => by
    obtain ⟨k, hk⟩ := Option.isSome_iff_exists.mp hg
    have h1 := hs.1
    rw [resolve_lit src par tok o _ he] at h1
    simpa [cnOf, E2E.kindOf, hk] using compileNode_lit h1 hk
  | .short fi as sps, hg, par, n, o, he, hs, f + 1, pobj, _ => by
    simp only [BST.sideOK, shortOK, Bool.and_eq_true, Bool.or_eq_true, beq_iff_eq] at hg
    have hnm : ruleOf (clsSc fi as) = (bif !as.isEmpty then "or" else "type") := by
      simp only [ruleOf, clsSc, clsAlts_isEmpty]
      cases as.isEmpty <;> rfl
    have h1 := hs.1
    simp only [resolve_short, slice_sc he.2.2, hnm] at h1
    -- `compileNode_short` asks that a single name (no alternatives) be a user type name: the second clause of `shortOK`;
    -- what is left after it is `cnOf` of a shortcut leaf unfolded (`rfl`)
    rw [compileNode_short _ opt f n pobj (!as.isEmpty) _ _ o h1 (by
      intro h
      rcases hg.2.1 with h2 | h2
      · rw [h2] at h; cases h
      · exact h2)]
    rfl
  | .arr w0 its, hg, par, n, o, he, hs, f + 1, pobj, hf =>
    compileNode_arr (ks := []) (v := none) hs.1 (compileItems_sits src opt its hg n (n + 1) _ he hs.2 f
      (by simp only [BST.cls, nodeCount] at hf; omega))
  | .obj w0 ms, hg, par, n, o, he, hs, f + 1, pobj, hf => by
    have h1 : tbl[n]? = some (objR (idxMembers (n + 1) (clsMembers ms)) (keysB ms)) := by
      rw [← keys_text src ms _ he]; exact hs.1
    exact compileNode_obj h1 (by simp [keysB_length, idxMembers_length, clsMembers_length])
      (compileProps_sits src opt ms hg n (n + 1) _ he hs.2 f (by simp only [BST.cls, nodeCount] at hf; omega))
  -- fuel 0: a leaf has `nodeCount = 1` and `1 ≤ 0` has no proof, so only the containers are left to refute
  | .arr _ _, _, _, _, _, _, _, 0, _, hf | .obj _ _, _, _, _, _, _, _, 0, _, hf => by
    simp only [BST.cls, nodeCount] at hf; omega
theorem compileItems_sits (src : Array UInt8) (opt : Bool) {tbl : Array RNode} : (its : List BItem) →
    sideItems its = true → (a n o : Nat) → EmbItems src o its →
    Sits tbl n ((nodesItems a n o (clsItems its)).map (resolve src)) → (fuel : Nat) → countItems (clsItems its) ≤ fuel →
    compileItems tbl opt fuel (idxItems n (clsItems its)) = .ok (cnItems opt its)
  | [], _, _, _, _, _, _, _, _ => by simp [clsItems, idxItems, compileItems, cnItems]
  | (w1, v, w2) :: its, hg, a, n, o, he, hs, fuel, hf => by
    obtain ⟨hg1, hg2⟩ : v.sideOK = true ∧ sideItems its = true := by simpa [sideItems] using hg
    simp only [clsItems, countItems] at hf
    obtain ⟨h1, h2⟩ := Sits.append (by simpa only [clsItems, nodesItems, List.map_append] using hs)
    rw [List.length_map, LoaderS.nodesOf_length] at h2
    exact compileItems_cons (compileNode_sits src opt v hg1 (some a) n _ he.1 h1 fuel false (by omega))
      (compileItems_sits src opt its hg2 a _ _ he.2 h2 fuel (by omega))
theorem compileProps_sits (src : Array UInt8) (opt : Bool) {tbl : Array RNode} : (ms : List BMember) →
    sideMembers ms = true → (a n o : Nat) → EmbMembers src o ms →
    Sits tbl n ((nodesMembers a n o (clsMembers ms)).map (resolve src)) → (fuel : Nat) → countMembers (clsMembers ms) ≤ fuel →
    compileProps tbl opt fuel (keysB ms) (idxMembers n (clsMembers ms)) = .ok (cnMembers opt ms)
  | [], _, _, _, _, _, _, _, _ => by simp [clsMembers, keysB, idxMembers, compileProps, cnMembers]
  | (w1, k, w2, w3, v, w4) :: ms, hg, a, n, o, he, hs, fuel, hf => by
    obtain ⟨hg1, hg2⟩ : v.sideOK = true ∧ sideMembers ms = true := by simpa [sideMembers] using hg
    simp only [clsMembers, countMembers] at hf
    obtain ⟨h1, h2⟩ := Sits.append (by simpa only [clsMembers, nodesMembers, List.map_append] using hs)
    rw [List.length_map, LoaderS.nodesOf_length] at h2
    exact compileProps_cons (compileNode_sits src opt v hg1 (some a) n _ he.2.1 h1 fuel true (by omega))
      (compileProps_sits src opt ms hg2 a _ _ he.2.2 h2 fuel (by omega))
end

theorem compileNode_nodes (src : Array UInt8) (opt : Bool) (t : BST) (hv : t.cls.Valid) (hg : t.sideOK = true)
    (pre post : List RNode) (par : Option Nat) (o : Nat) (hat : AtB src o t.render) (fuel : Nat) (pobj : Bool)
    (hf : nodeCount t.cls ≤ fuel) :
    compileNode (pre ++ ((nodesOf par pre.length o t.cls).map (resolve src) ++ post)).toArray opt fuel pre.length pobj
      = .ok (cnOf opt t, none) :=
  compileNode_sits src opt t hg par _ o (emb_of src t hv o hat) (sits_mid pre _ post) fuel pobj hf
theorem compileItems_nodes (src : Array UInt8) (opt : Bool) : (its : List BItem) →
    SchemaScan.SValidItems (clsItems its) → sideItems its = true →
    (pre post : List RNode) → (a o : Nat) → AtB src o (renderItems its) → (fuel : Nat) →
    countItems (clsItems its) ≤ fuel →
    compileItems (pre ++ ((nodesItems a pre.length o (clsItems its)).map (resolve src) ++ post)).toArray opt fuel
      (idxItems pre.length (clsItems its)) = .ok (cnItems opt its) :=
  fun its hv hg pre post a o hat fuel hf =>
    compileItems_sits src opt its hg a _ o (embItems_of src its hv o hat) (sits_mid pre _ post) fuel hf
theorem compileProps_nodes (src : Array UInt8) (opt : Bool) : (ms : List BMember) →
    SchemaScan.SValidMembers (clsMembers ms) → sideMembers ms = true →
    (pre post : List RNode) → (a o : Nat) → AtB src o (renderMembers ms) → (fuel : Nat) →
    countMembers (clsMembers ms) ≤ fuel →
    compileProps (pre ++ ((nodesMembers a pre.length o (clsMembers ms)).map (resolve src) ++ post)).toArray opt fuel
      (keysB ms) (idxMembers pre.length (clsMembers ms)) = .ok (cnMembers opt ms) :=
  fun ms hv hg pre post a o hat fuel hf =>
    compileProps_sits src opt ms hg a _ o (embMembers_of src ms hv o hat) (sits_mid pre _ post) fuel hf

end SE
