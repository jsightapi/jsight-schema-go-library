import JSight.CommentTree
import JSight.LoaderTree
/-!
C13, user comments, the whole text: scanner model (`scanAll`) and scanner + loader (`Loader.loadText`) on a schema
text that is plain JSON with user comments in its layout.

* `C13_events_with_comments` — the event stream, exactly;
* `load_comments` — the loader's table, read against the text, is the table of the VALUE (`tableOf t.value`):
  no trace of comments or layout;
* `comments_invisible` — two spellings of one value, with or without comments: the same table.

The loader part rests on `cvalue_spec` / `citems_spec` / `cmembers_spec`: the events of a tree with comments meet the loader's
descriptions `Loader.Value` / `Items` / `Members` (`LoaderValue`: which nodes a run over the events of a value, of the items
of an open array, of the members of an open object adds to the table) with the nodes of `t.toTree`, the tree on byte classes in
which a layout is nothing but its bytes; layout contributes only `new-line` events (`NL`, `nl_layEvs`), which the loader
skips.  `cloader_items` / `cloader_members` are the two container forms with `Items` / `Members` written out as a `Run`;
`citems_length` / `cmembers_length`: items and members deliver at most three events per byte (`Gram.Entries.evs_facts`).
-/
namespace Lay
open SchemaScan

/-- the whole schema text: leading layout, the value, trailing layout, an unterminated last comment -/
def docTextF (w0 : List LI) (t : BTree) (w1 : List LI) (fin : List UInt8) : List UInt8 :=
  renderL w0 ++ (t.render ++ (renderL w1 ++ fin))

theorem docTextF_nil (w0 : List LI) (t : BTree) (w1 : List LI) : docTextF w0 t w1 [] = docText w0 t w1 := by
  simp [docTextF, docText]

theorem docTextF_cls (w0 : List LI) (t : BTree) (w1 : List LI) (fin : List UInt8) :
    (docTextF w0 t w1 fin).map classify = clsL w0 ++ (t.toTree.render ++ (clsL w1 ++ fin.map classify)) := by
  simp only [docTextF, List.map_append, render_cls, clsL]

/-- the events of the whole text -/
def docEvs (w0 : List LI) (t : BTree) (w1 : List LI) : List Ev :=
  layEvs 0 w0 ++ (cEvsAt (L w0) t ++ layEvs (L w0 + t.render.length) w1)

/-- the event stream of a tree with comments (fuel-free form) -/
theorem emits_of_ctree (t : BTree) (hv : t.Valid) (w0 w1 : List LI) (h0 : ValidL w0) (h1 : ValidL w1)
    (fin : List UInt8) (hf : IsFin fin) :
    Emits ((docTextF w0 t w1 fin).map classify).toArray {} (docEvs w0 t w1) := by
  rw [docTextF_cls]
  -- the two `absurd`: what `emits_doc` asks behind a root shortcut, and a tree with comments has none
  have := Gram.emits_doc (h0.gram 0) (t.gram hv _) (h1.gram _) (absurd · (Gram.LK.ofLit_ne _)) hf.gram
    (absurd · (Gram.LK.ofLit_ne _))
  simpa only [docEvs, L, clsL_length, render_length] using this

theorem citems_length : (its : List BItem) → ValidItems its → (a o : Nat) →
    (cEvsItems a o its).length ≤ 3 * (renderItems its).length :=
  fun its hv a o => by
    have := (gram_citems its hv its.isEmpty (by cases its <;> simp) a o).evs_facts.1
    rwa [← renderItems_cls, List.length_map] at this

theorem cmembers_length : (ms : List BMember) → ValidMembers ms →
    (a o : Nat) → (cEvsMembers a o ms).length ≤ 3 * (renderMembers ms).length :=
  fun ms hv a o => by
    have := (gram_cmembers ms hv ms.isEmpty (by cases ms <;> simp) a o).evs_facts.1
    rwa [← renderMembers_cls, List.length_map] at this

/-- **C13 (schema scanner, user comments)**: a plain-JSON schema text with user comments in its layout is scanned
into exactly the events of the tree; a block comment delivers nothing, a line comment two `newLine` events (its own
and the replayed line break's), an unterminated last line comment nothing. -/
theorem C13_events_with_comments (t : BTree) (hv : t.Valid) (w0 w1 : List LI) (h0 : ValidL w0) (h1 : ValidL w1)
    (fin : List UInt8) (hf : IsFin fin) :
    scanAll (docTextF w0 t w1 fin) = .ok (docEvs w0 t w1) := by
  exact scanAll_of_emits rfl (emits_of_ctree t hv w0 w1 h0 h1 fin hf)

/-! ### the loader on these events -/

section loader
open Loader

theorem nl_layEvs : ∀ (w : List LI) (o : Nat), NL (layEvs o w)
  | [], _ => NL.nil
  | it :: w, o => by
    refine NL.append ?_ (nl_layEvs w (o + it.render.length))
    cases it with
    | blank b => simp only [LI.evs]; split <;> simp [NL]
    | line text nl => simp [LI.evs, NL]
    | block body => exact NL.nil

theorem kindOf_toTree (v : BTree) : kindOf v.toTree = (match v with | .scalar _ => NK.lit | .arr _ _ => .arr | .obj _ _ => .obj) := by
  cases v <;> rfl

mutual
theorem cvalue_spec (src : Array UInt8) : (v : BTree) → (o : Nat) → KeysDistinct src o v.toTree →
    Value src (cEvsAt o v) (fun par n => nodesOf par n o v.toTree)
  | .scalar tok, o, _ => (Value.lit o o o (o + tok.length - 1)).cast rfl fun _ _ => by
    simp [BTree.toTree, nodesOf]
  | .arr w0 its, o, hd => by
    have hd' : DistinctItems src (o + 1 + L w0) (toItems its) := by
      simpa [BTree.toTree, KeysDistinct, clsL_length] using hd
    -- `toTree` keeps every byte of the layouts (`clsL_length`), so the offsets in `hd` are those of the text with comments
    exact (Items.value _ rfl (nl_layEvs w0 (o + 1)) (citems_spec src its o (o + 1 + L w0) hd')).cast (by rw [cEvsAt])
      fun _ _ => by simp [BTree.toTree, nodesOf, clsL_length, L]
  | .obj w0 ms, o, hd => by
    obtain ⟨hk, hd'⟩ : ((keysMembers (o + 1 + L w0) (toMembers ms)).map (keyText src)).Nodup ∧
        DistinctMembers src (o + 1 + L w0) (toMembers ms) := by
      simpa [BTree.toTree, KeysDistinct, clsL_length] using hd
    exact (Members.value _ rfl (nl_layEvs w0 (o + 1)) (cmembers_spec src ms o (o + 1 + L w0) hd') hk).cast
      (by rw [cEvsAt]) fun _ _ => by simp [BTree.toTree, nodesOf, clsL_length, L]
theorem citems_spec (src : Array UInt8) : (its : List BItem) → (x o : Nat) → DistinctItems src o (toItems its) →
    Items src (cEvsItems x o its) (fun n => idxItems n (toItems its)) (fun a n => nodesItems a n o (toItems its))
  | [], x, o, _ => Items.nil x o
  | (w1, v, w2) :: its, x, o, hd => by
    obtain ⟨hdv, hdi⟩ : KeysDistinct src (o + L w1) v.toTree ∧
        DistinctItems src (o + L w1 + v.render.length + L w2 + (if its.isEmpty then 0 else 1)) (toItems its) := by
      simpa [toItems, DistinctItems, nextItem_eq, clsL_length] using hd
    exact (Items.cons (c := nodeCount v.toTree) (cn := fun par n => nodesOf par n _ v.toTree) _ _ _ _ (nl_layEvs w1 o)
      (cvalue_spec src v (o + L w1) hdv) (fun par n => nodesOf_length par v.toTree n _) (nl_layEvs w2 _)
      (citems_spec src its x _ hdi)).cast (by rw [cEvsItems]) (fun _ => by simp only [toItems, idxItems])
      fun _ _ => by simp only [toItems, nodesItems, nextItem_eq, clsL_length, L]
theorem cmembers_spec (src : Array UInt8) : (ms : List BMember) → (x o : Nat) → DistinctMembers src o (toMembers ms) →
    Members src (cEvsMembers x o ms) (fun n => idxMembers n (toMembers ms)) (keysMembers o (toMembers ms))
      (fun a n => nodesMembers a n o (toMembers ms))
  | [], x, o, _ => Members.nil x o
  | (w1, k, w2, w3, v, w4) :: ms, x, o, hd => by
    obtain ⟨hdv, hdi⟩ : KeysDistinct src (o + L w1 + k.length + L w2 + 1 + L w3) v.toTree ∧
        DistinctMembers src (o + L w1 + k.length + L w2 + 1 + L w3 + v.render.length + L w4 + (if ms.isEmpty then 0 else 1))
          (toMembers ms) := by
      simpa [toMembers, DistinctMembers, nextMember_eq, valOff_eq, L] using hd
    exact (Members.cons (c := nodeCount v.toTree) (cn := fun par n => nodesOf par n _ v.toTree) _ _ _ _ _ _ _ _
      (nl_layEvs w1 o) (nl_layEvs w2 _) (nl_layEvs w3 _) (cvalue_spec src v _ hdv)
      (fun par n => nodesOf_length par v.toTree n _) (nl_layEvs w4 _) (cmembers_spec src ms x _ hdi)).cast
      (by rw [cEvsMembers]) (fun _ => by simp only [toMembers, idxMembers])
      (by simp only [toMembers, keysMembers, nextMember_eq, clsL_length, List.length_map, L])
      fun _ _ => by simp only [toMembers, nodesMembers, nextMember_eq, valOff_eq, L]
end

theorem cloader_items (src : Array UInt8) : (its : List BItem) → (x a : Nat) → (na : Node) → (N : List Node) →
    (o : Nat) → (r : Option Nat) → N[a]? = some na → na.kind = .arr → na.waiting = false →
    DistinctItems src o (toItems its) →
    Run src (cEvsItems x o its) N (some a) r
      (N.set a { na with children := na.children ++ idxItems N.length (toItems its) } ++
        nodesItems a N.length o (toItems its))
      na.parent r :=
  fun its x a na N o r hn hk hw hd => citems_spec src its x o hd a na N r hn hk hw

theorem cloader_members (src : Array UInt8) : (ms : List BMember) → (x a : Nat) → (na : Node) → (N : List Node) →
    (o : Nat) → (r : Option Nat) → N[a]? = some na → na.kind = .obj → na.waiting = false →
    ((na.keys ++ keysMembers o (toMembers ms)).map (keyText src)).Nodup → DistinctMembers src o (toMembers ms) →
    Run src (cEvsMembers x o ms) N (some a) r
      (N.set a { na with children := na.children ++ idxMembers N.length (toMembers ms),
                         keys := na.keys ++ keysMembers o (toMembers ms) }
        ++ nodesMembers a N.length o (toMembers ms))
      na.parent r :=
  fun ms x a na N o r hn hk hw hnd hd => cmembers_spec src ms x o hd a na N r hn hk hw hnd

theorem cdoc_run (src : Array UInt8) (t : BTree) (w0 w1 : List LI) (hd : KeysDistinct src (L w0) t.toTree) :
    Run src (docEvs w0 t w1) [] none none (nodesOf none 0 (L w0) t.toTree) none (some 0) :=
  (cvalue_spec src t (L w0) hd).doc (nl_layEvs w0 0) (nl_layEvs w1 _)

end loader

/-- **a plain-JSON schema text with user comments loads into the table of its value**: scanner model and loader
model interleaved as in `doLoad`; the result, read against the text, keeps nothing of comments and layout. -/
theorem load_comments (t : BTree) (hv : t.Valid) (hk : t.value.KeysNodup) (w0 w1 : List LI)
    (h0 : ValidL w0) (h1 : ValidL w1) (fin : List UInt8) (hf : IsFin fin) :
    ∃ st, Loader.loadText (docTextF w0 t w1 fin) = .ok st ∧ st.root = some 0 ∧
      absTable (docTextF w0 t w1 fin).toArray st = tableOf none 0 t.value := by
  have hat : AtB (docTextF w0 t w1 fin).toArray (renderL w0).length t.render := by
    have := AtB_toArray (docTextF w0 t w1 fin) (renderL w0) (t.render ++ (renderL w1 ++ fin)) rfl
    rw [AtB_append] at this
    exact this.1
  have hd := distinct_of_value (docTextF w0 t w1 fin).toArray t hv hk (renderL w0).length hat
  obtain ⟨st, hfold, hn, hl, hr, _⟩ := cdoc_run (docTextF w0 t w1 fin).toArray t w0 w1 hd {} Loader.core_init
  refine ⟨st, ?_, hr, ?_⟩
  · exact Loader.loadText_of_emits rfl (emits_of_ctree t hv w0 w1 h0 h1 fin hf) hfold
  · unfold absTable
    rw [hn]
    exact abs_nodesOf _ t hv none 0 _ hat

/-- **user comments are invisible**: two spellings of one value — any layouts, with or without `#` / `###`
comments, with or without an unterminated last comment — load into the same table -/
theorem comments_invisible (t t' : BTree) (hv : t.Valid) (hv' : t'.Valid) (hs : t.value = t'.value)
    (hk : t.value.KeysNodup) (w0 w1 w0' w1' : List LI) (h0 : ValidL w0) (h1 : ValidL w1)
    (h0' : ValidL w0') (h1' : ValidL w1') (fin fin' : List UInt8) (hf : IsFin fin) (hf' : IsFin fin') :
    ∃ st st', Loader.loadText (docTextF w0 t w1 fin) = .ok st ∧ Loader.loadText (docTextF w0' t' w1' fin') = .ok st' ∧
      st.root = st'.root ∧
      absTable (docTextF w0 t w1 fin).toArray st = absTable (docTextF w0' t' w1' fin').toArray st' := by
  obtain ⟨st, a, b, c⟩ := load_comments t hv hk w0 w1 h0 h1 fin hf
  obtain ⟨st', a', b', c'⟩ := load_comments t' hv' (hs ▸ hk) w0' w1' h0' h1' fin' hf'
  exact ⟨st, st', a, a', by rw [b, b'], by rw [c, c', hs]⟩

end Lay
