import JSight.BridgeCRStep
/-!
Bridge (A) `Compile` / (B) `CR.checkRules`: `Compile.createRule` against `CR.loadRule ∘ ruleOf` on one rule
(`step_agree`), folded over the annotation (`fold_agree`).  Hence the annotation-reading phases agree on every scalar /
object / array node of the common class (`creation_agree`, under `plainKind`): same verdict, same first error code, and
when both accept, (B)'s constraint map holds a constraint exactly for the rule names (A) has seen — the starting point of
the two `compileNode` models.
-/
namespace BridgeCR
open Compile

local macro "lit_head" : tactic => `(tactic| (
  rw [ruleOf_lit _ _ _ _ (by decide) (by decide) (by decide), loadRule_lit _ _ _ _ _ (by decide) (by decide) (by decide)]
  simp only [CR.mkLit, ofBytes_rbytes, ← parseBool_eq]
  unfold createRule
  names_simp))

section
variable (k : Loader.NK) (c : CR.Ctx) (env : CR.Env) (seen : List Bytes) (m : CR.CMap) (v : Bytes) (pos npos : Nat)

abbrev Goal (k : Loader.NK) (c : CR.Ctx) (env : CR.Env) (seen : List Bytes) (m : CR.CMap) (r : Rule) : Prop :=
  StepOK seen r.name (createRule k seen r) (CR.loadRule env c m (ruleOf r))

/-- the rules whose value goes through a reader that knows no bound: a number, a Boolean -/
theorem step_parsed (rn : CR.RName)
    (h : rn ∈ [.min, .max, .exclusiveMinimum, .exclusiveMaximum, .optional, .nullable, .const])
    (hI : Inv seen m) : Goal k c env seen m (mk rn v pos npos) := by
  simp only [List.mem_cons, List.not_mem_nil, or_false] at h
  rcases h with rfl | rfl | rfl | rfl | rfl | rfl | rfl <;> unfold Goal mk
  all_goals
    lit_head
    split
    next _ hp => simp [hp, StepOK, bind_err]
    next _ _ hp =>
      rw [hp, bind_ok]
      exact dup_step c seen m _ (by decide) (Or.inr ⟨by decide, by decide⟩) _ pos hI

theorem step_len (rn : CR.RName) (h : rn = .minLength ∨ rn = .maxLength) (hlen : v.length ≤ 18) (hI : Inv seen m) :
    Goal k c env seen m (mk rn v pos npos) := by
  have hgt : ¬ (v.length > 18) := by omega
  rcases h with h | h <;> subst h <;> unfold Goal mk
  all_goals
    lit_head
    simp only [parseUint_eq v hlen, hgt, if_false]
    cases hp : Compile.parseUint v with
    | none => simp [StepOK, bind_err]
    | some x =>
      rw [bind_ok]
      exact dup_step c seen m _ (by decide) (Or.inr ⟨by decide, by decide⟩) _ pos hI

theorem step_precision (hlen : v.length ≤ 18) (hI : Inv seen m) : Goal k c env seen m (mk .precision v pos npos) := by
  have hgt : ¬ (v.length > 18) := by omega
  unfold Goal mk
  lit_head
  simp only [parseUint_eq v hlen, hgt, if_false]
  cases hp : Compile.parseUint v with
  | none => simp [StepOK, bind_err]
  | some x =>
    by_cases hx : x = 0
    · simp [hx, StepOK, bind_err]
    · simp only [hx, if_false, bind_ok]
      exact dup_step c seen m .precision (by decide) (Or.inr ⟨by decide, by decide⟩) _ pos hI

theorem step_type (hkf : k ≠ Loader.NK.mixed) (hcls : c.cls ≠ .mixedValue) (hI : Inv seen m) :
    Goal k c env seen m (mk .type v pos npos) := by
  unfold Goal mk
  lit_head
  simp only [hkf, if_false, bind_ok]
  exact dup_step c seen m .type (by decide) (Or.inl hcls) _ pos hI

theorem step_addProps (hI : Inv seen m) : Goal k c env seen m (mk .additionalProperties v pos npos) := by
  unfold Goal mk
  lit_head
  have hok := parseAdd_addPropsOK v
  cases hp : parseAdd v with
  | ok a =>
    rw [hp] at hok
    simp only [← hok, okE, if_true, bind_ok]
    exact dup_step c seen m .additionalProperties (by decide) (Or.inr ⟨by decide, by decide⟩) _ pos hI
  | error e =>
    have := parseAdd_err v e hp
    subst this
    rw [hp] at hok
    simp [← hok, okE, StepOK, bind_err]

theorem step_or (hkf : k ≠ Loader.NK.mixed) (hcls : c.cls ≠ .mixedValue) (items : List Bytes)
    (hs : scalarItems v = some items)
    (hu : (items.all fun it => !Unquote.inQuotes it || isUserTypeName (unq it)) = true)
    (hI : Inv seen m) : Goal k c env seen m (mk .or v pos npos) := by
  unfold Goal mk
  have hro : ruleOf { name := rbytes .or, gen := false, val := some v, pos := pos, npos := npos }
      = (CR.n_or, .arr (items.map .lit)) := ruleOf_items (mk .or v pos npos) (Or.inl rfl) items hs
  rw [hro]
  unfold CR.loadRule
  simp only [↓reduceIte, addC_base c m .typesList _ (Or.inl hcls)]
  unfold createRule
  names_simp
  simp only [hkf, if_false, hs, hu, Bool.not_true, Bool.false_eq_true, false_and, and_false]
  have hkb : (k == Loader.NK.mixed) = false := by simpa using hkf
  have hT : m.has .typesList = seen.contains (rbytes .or) := hI .typesList
  have hO : m.has .or = seen.contains (rbytes .or) := hI .or
  unfold CR.addBase
  rw [hT]
  cases hc : seen.contains (rbytes .or)
  · simp only [Bool.false_eq_true, ↓reduceIte, bind_ok]
    rw [addC_base c _ .or _ (Or.inl hcls)]
    unfold CR.addBase
    have : (m.set .typesList (.types [])).has .or = false := by rw [has_set, hO, hc]; rfl
    rw [this]
    simp only [Bool.false_eq_true, ↓reduceIte, bind_ok, CR.loadOrValue]
    rw [orItems env c items [] hu]
    cases hq : items.all Unquote.inQuotes
    · simp [StepOK, bind_err]
    · simp only [Bool.not_true, Bool.false_eq_true, ↓reduceIte, bind_ok, List.nil_append, List.length_replicate]
      by_cases h0 : items.length = 0
      · simp [h0, StepOK, bind_err]
      · by_cases h1 : items.length = 1
        · simp [h1, StepOK, bind_err]
        · simp only [h0, h1, hkb, Bool.and_false, Bool.false_eq_true, ↓reduceIte, bind_ok, StepOK]
          refine inv_step seen m _ CR.n_or hI (fun k => ?_)
          rw [has_set, has_set, has_set, ctName_or]
          cases m.has k <;> cases decide (k = CR.CT.or) <;> cases decide (k = CR.CT.typesList) <;> rfl
  · simp only [↓reduceIte, StepOK, bind_err]

theorem step_enum (items : List Bytes) (hs : scalarItems v = some items)
    (hu : (items.all fun it => (RulesF.enumItem it).isSome) = true)
    (hI : Inv seen m) : Goal k c env seen m (mk .enum v pos npos) := by
  unfold Goal mk
  have hro : ruleOf { name := rbytes .enum, gen := false, val := some v, pos := pos, npos := npos }
      = (CR.n_enum, .arr (items.map .lit)) := ruleOf_items (mk .enum v pos npos) (Or.inr rfl) items hs
  rw [hro]
  unfold CR.loadRule
  have ne : CR.n_enum ≠ CR.n_or := by decide
  simp only [ne, ↓reduceIte, addC_base c m .enum _ (Or.inr ⟨by decide, by decide⟩)]
  unfold createRule
  names_simp
  have hany : (items.any fun it => (RulesF.enumItem it).isNone) = false := by
    rw [List.any_eq_false]
    intro x hx
    have := List.all_eq_true.1 hu x hx
    cases h : RulesF.enumItem x <;> simp_all
  simp only [hs, hany, Bool.false_eq_true, if_false]
  have hE : m.has .enum = seen.contains (rbytes .enum) := hI .enum
  unfold CR.addBase
  rw [hE]
  cases hc : seen.contains (rbytes .enum)
  · simp only [Bool.false_eq_true, ↓reduceIte, bind_ok, CR.loadEnumValue, enumItems]
    have hn := eraseDups_nodup (items.map RulesF.enumItem).length (items.map RulesF.enumItem) (Nat.le_refl _)
    rw [List.length_map] at hn
    by_cases hd : (items.map RulesF.enumItem).Nodup
    · have hd' : (items.map CR.enumKey).Nodup := hd
      have e := hn.2 hd
      simp only [e, beq_self_eq_true, Bool.not_true, Bool.false_eq_true, ↓reduceIte, List.not_mem_nil, not_false_eq_true,
        implies_true, hd', and_self, bind_ok, StepOK]
      exact inv_step seen m _ (rbytes .enum) hI (fun k => by rw [has_set, ctName_single .enum (by decide)]; rfl)
    · have hd' : ¬ (items.map CR.enumKey).Nodup := hd
      have e : ¬ ((items.map RulesF.enumItem).eraseDups.length = items.length) := fun e => hd (hn.1 e)
      simp [e, hd', StepOK, bind_err]
  · simp only [↓reduceIte, StepOK, bind_err]

end

/-! ### one rule, any name -/

theorem step_agree (k : Loader.NK) (c : CR.Ctx) (env : CR.Env) (seen : List Bytes) (m : CR.CMap) (r : Rule)
    (hI : Inv seen m) (hg : r.gen = false) (hc : ruleCommon r = true)
    (hk : k = Loader.NK.mixed → r.name ≠ CR.n_type ∧ r.name ≠ CR.n_or)
    (hcls : c.cls = .mixedValue → k = Loader.NK.mixed) : Goal k c env seen m r := by
  obtain ⟨name, gen, val, pos, npos⟩ := r
  simp only at hg hk
  subst hg
  cases val with
  | none => simp [ruleCommon] at hc
  | some v =>
  cases hof : CR.RName.ofBytes name with
  | none =>
    have hkn := (ofBytes_none_iff name).1 hof
    have h1 : name ≠ CR.n_or := fun e => by rw [e] at hof; revert hof; decide +kernel
    have h2 : name ≠ CR.n_enum := fun e => by rw [e] at hof; revert hof; decide +kernel
    have h3 : name ≠ CR.n_allOf := fun e => by rw [e] at hof; revert hof; decide +kernel
    have h4 : name ≠ CR.n_type := fun e => by rw [e] at hof; revert hof; decide +kernel
    unfold Goal
    simp only [ruleOf, valOf_lit name false v pos npos h1 h2]
    unfold CR.loadRule createRule
    have b1 : (name == CR.n_type) = false := by simpa using h4
    have b2 : (name == CR.n_or) = false := by simpa using h1
    simp only [sb_type, sb_or, h1, h2, h3, b1, b2, hkn, hof, CR.mkLit, Bool.false_eq_true, ↓reduceIte, Bool.or_self,
      Bool.and_false, Bool.not_false, bind_err, StepOK]
  | some rn =>
    have e := ofBytes_some name rn hof
    subst e
    have hkm : k = Loader.NK.mixed → rn ≠ .type ∧ rn ≠ .or := fun h =>
      ⟨fun e => (hk h).1 (by rw [e]; rfl), fun e => (hk h).2 (by rw [e]; rfl)⟩
    have hcm : rn = .type ∨ rn = .or → k ≠ Loader.NK.mixed ∧ c.cls ≠ .mixedValue := fun h => by
      have : k ≠ Loader.NK.mixed := fun hm => by
        rcases h with h | h
        · exact (hkm hm).1 h
        · exact (hkm hm).2 h
      exact ⟨this, fun hv => this (hcls hv)⟩
    cases rn with
    | min | max | exclusiveMinimum | exclusiveMaximum | optional | nullable | const =>
      exact step_parsed k c env seen m v pos npos _ (by decide) hI
    | minLength =>
      exact step_len k c env seen m v pos npos _ (Or.inl rfl) (common_len _ _ rfl (Or.inl rfl) hc) hI
    | maxLength =>
      exact step_len k c env seen m v pos npos _ (Or.inr rfl) (common_len _ _ rfl (Or.inr (Or.inl rfl)) hc) hI
    | precision =>
      exact step_precision k c env seen m v pos npos (common_len _ _ rfl (Or.inr (Or.inr rfl)) hc) hI
    | type => exact step_type k c env seen m v pos npos (hcm (Or.inl rfl)).1 (hcm (Or.inl rfl)).2 hI
    | additionalProperties => exact step_addProps k c env seen m v pos npos hI
    | or =>
      obtain ⟨items, hs, hu⟩ := common_or hc
      exact step_or k c env seen m v pos npos (hcm (Or.inr rfl)).1 (hcm (Or.inr rfl)).2 items hs hu hI
    | enum =>
      obtain ⟨items, hs, hu⟩ := common_enum hc
      exact step_enum k c env seen m v pos npos items hs hu hI
    | allOf => exact absurd rfl (common_known hc).1
    | regex => exact absurd rfl (common_known hc).2.1
    | minItems => exact absurd rfl (common_known hc).2.2.1
    | maxItems => exact absurd rfl (common_known hc).2.2.2

/-! ### the whole annotation -/

/-- how the two folds may end: both accept and (B)'s map holds a constraint exactly for `names`, or both fail with
one code; (A) never answers `unsupported` -/
def FoldOK (names : List Bytes) (a : Except Err Unit) (b : Except CR.Code CR.CMap) : Prop :=
  match a, b with
  | .ok _, .ok m' => Inv names m'
  | .error (.code ca _), .error cb => ca = cb
  | _, _ => False

theorem fold_agree (k : Loader.NK) (c : CR.Ctx) (env : CR.Env) (hcls : c.cls = .mixedValue → k = Loader.NK.mixed) :
    (rs : List Rule) → (seen : List Bytes) → (m : CR.CMap) → Inv seen m →
    (∀ r ∈ rs, r.gen = false ∧ ruleCommon r = true ∧ (k = Loader.NK.mixed → r.name ≠ CR.n_type ∧ r.name ≠ CR.n_or)) →
    FoldOK ((rs.map (·.name)).reverse ++ seen) (createRules k seen rs) ((rs.map ruleOf).foldlM (CR.loadRule env c) m)
  | [], seen, m, hI, _ => by
    simpa [FoldOK, createRules, pure, Except.pure] using hI
  | r :: rs, seen, m, hI, hr => by
    obtain ⟨hg, hc, hk⟩ := hr r (List.mem_cons_self)
    have step := step_agree k c env seen m r hI hg hc hk hcls
    unfold Goal StepOK at step
    simp only [createRules, List.map_cons, List.foldlM_cons]
    cases ha : createRule k seen r with
    | error e =>
      cases hb : CR.loadRule env c m (ruleOf r) with
      | error cb =>
        rw [ha, hb] at step
        cases e with
        | code ca p => simpa [FoldOK, bind, Except.bind] using step
        | unsupported w => exact absurd step (by simp)
      | ok m' => rw [ha, hb] at step; cases e <;> exact absurd step (by simp)
    | ok u =>
      cases hb : CR.loadRule env c m (ruleOf r) with
      | error cb => rw [ha, hb] at step; exact absurd step (by simp)
      | ok m' =>
        rw [ha, hb] at step
        have ih := fold_agree k c env hcls rs (r.name :: seen) m' step
          (fun x hx => hr x (List.mem_cons_of_mem _ hx))
        have e : (rs.map (·.name)).reverse ++ r.name :: seen = (r.name :: rs.map (·.name)).reverse ++ seen := by simp
        rw [e] at ih
        simpa [bind, Except.bind] using ih

theorem inv_empty : Inv [] CR.CMap.empty := by
  intro k
  cases hk : ctName k <;> simp [CR.CMap.has, CR.CMap.empty]

/-- the common class without type shortcuts: scalar, object and array nodes -/
def plainKind (n : RNode) : Bool := n.kind != Loader.NK.mixed

/-- on a scalar / object / array node of the common class every rule is a written one -/
theorem plain_manual (n : RNode) (h : common n = true) (hkm : n.kind ≠ Loader.NK.mixed) :
    (∀ r ∈ n.rules, r.gen = false) ∧ manual n = n.rules := by
  simp only [common, Bool.and_eq_true] at h
  obtain ⟨⟨⟨_, hshape⟩, _⟩, _⟩ := h
  have hgen : ∀ r ∈ n.rules, r.gen = false := by
    cases hkind : n.kind <;> simp only [hkind] at hshape hkm <;> first
      | exact absurd rfl hkm
      | (intro r hr; have := List.all_eq_true.1 hshape r hr; simpa using this)
  exact ⟨hgen, List.filter_eq_self.2 (fun r hr => by simp [hgen r hr])⟩

/-- **the annotation-reading phases agree** on every scalar / object / array node of the common class: both models
accept the annotation or both reject it with the same error code ((A) never answers `unsupported`), and when they
accept, (B)'s constraint map holds a constraint exactly for the rule names (A) has recorded -/
theorem creation_agree (n : RNode) (isProp : Bool) (h : common n = true) (hp : plainKind n = true) :
    FoldOK ((n.rules.map (·.name)).reverse) (createRules n.kind [] n.rules)
      ((crNodeOf n isProp).rules.foldlM
        (CR.loadRule { okRegex := [], enumRules := [] } (crNodeOf n isProp).ctx) (CR.initMap (crNodeOf n isProp).kind)) := by
  have hkm : n.kind ≠ Loader.NK.mixed := by simpa [plainKind] using hp
  obtain ⟨hgen, hman⟩ := plain_manual n h hkm
  simp only [common, Bool.and_eq_true] at h
  obtain ⟨⟨⟨hk, hshape⟩, hrc⟩, hfmt⟩ := h
  obtain ⟨nk, hnk⟩ := Option.isSome_iff_exists.1 hk
  have hki : (((nkindOf n).getD .null).ctx isProp).cls ≠ .mixedValue ∧
      CR.initMap ((nkindOf n).getD .null) = CR.CMap.empty := by
    rw [hnk]
    unfold nkindOf at hnk
    cases hkind : n.kind <;> simp only [hkind] at hnk hkm
    · cases hnk; exact ⟨by simp [CR.NKind.ctx], rfl⟩
    · cases hnk; exact ⟨by simp [CR.NKind.ctx], rfl⟩
    · cases hv : n.value.bind RulesF.kindOfTok with
      | none => simp [hv] at hnk
      | some kd =>
        simp only [hv, Option.map_some, Option.some.injEq] at hnk
        subst hnk
        cases kd <;> exact ⟨by simp [kindOfLit, CR.NKind.ctx], rfl⟩
    · exact absurd rfl hkm
  obtain ⟨hcls, hinit⟩ := hki
  have := fold_agree n.kind (((nkindOf n).getD .null).ctx isProp) { okRegex := [], enumRules := [] }
    (fun hv => absurd hv hcls) n.rules [] CR.CMap.empty inv_empty
    (fun r hr => ⟨hgen r hr, by
      have := List.all_eq_true.1 hrc r (by rw [hman]; exact hr)
      exact this, fun hm => absurd hm hkm⟩)
  simpa [crNodeOf, CR.Node.ctx, hman, hinit] using this

end BridgeCR
