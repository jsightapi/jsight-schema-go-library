import JSight.ValidatePosProofs
import JSight.ValidateNProofs
/-!
Consistency of the position spec with C01: `firstOffence` finds nothing exactly when the document (layout
stripped, keys decoded) has the shape of the schema in the sense of `VN.shape` — the spec of `C01_with_alternatives`
(every position is the union of its alternatives; a nullable container is `container | null`).
-/
namespace VPos

variable {α L : Type}

mutual
def toVN : S L → VN.S L
  | .any => .any
  | .lits ls => .alt (ls.map .lit)
  | .arr ls items => .alt (.arr (toVNItems items) :: ls.map .lit)
  | .obj ls props => .alt (.obj (toVNProps props) :: ls.map .lit)
def toVNItems : List (S L) → List (VN.S L)
  | [] => []
  | s :: ss => toVN s :: toVNItems ss
def toVNProps : List (String × Bool × S L) → List (String × Bool × VN.S L)
  | [] => []
  | (k, r, s) :: ps => (k, r, toVN s) :: toVNProps ps
end

mutual
/-- the document without layout, keys decoded -/
def strip (unq : List α → String) : T α → VN.J (List α)
  | .scalar tok => .lit tok
  | .arr _ its => .arr (stripItems unq its)
  | .obj _ ms => .obj (stripMembers unq ms)
def stripItems (unq : List α → String) : List (List α × T α × List α) → List (VN.J (List α))
  | [] => []
  | (_, v, _) :: its => strip unq v :: stripItems unq its
def stripMembers (unq : List α → String) : List (List α × List α × List α × List α × T α × List α) → List (String × VN.J (List α))
  | [] => []
  | (_, k, _, _, v, _) :: ms => (unq k, strip unq v) :: stripMembers unq ms
end

/-- the literal validators as a verdict -/
def litOKof (p : P α L) (l : L) (tok : List α) : Bool := (p.litErr l tok).isNone

theorem shapeAlts_lits_scalar (litOK : L → List α → Bool) (ls : List L) (tok : List α) :
    VN.shapeAlts litOK (ls.map .lit) (.lit tok) = ls.any (fun l => litOK l tok) := by
  induction ls with
  | nil => simp [VN.shapeAlts]
  | cons l ls ih => simp [VN.shapeAlts, VN.shape, ih]

theorem shapeAlts_lits_arr (litOK : L → List α → Bool) (ls : List L) (xs : List (VN.J (List α))) :
    VN.shapeAlts litOK (ls.map .lit) (.arr xs) = false := by
  induction ls with
  | nil => simp [VN.shapeAlts]
  | cons l ls ih => simp [VN.shapeAlts, VN.shape, ih]

theorem shapeAlts_lits_obj (litOK : L → List α → Bool) (ls : List L) (ms : List (String × VN.J (List α))) :
    VN.shapeAlts litOK (ls.map .lit) (.obj ms) = false := by
  induction ls with
  | nil => simp [VN.shapeAlts]
  | cons l ls ih => simp [VN.shapeAlts, VN.shape, ih]

theorem litsOffence_isNone (p : P α L) (ls : List L) (tok : List α) (o : Nat) :
    (litsOffence p ls tok o).isNone = ls.any (fun l => litOKof p l tok) := by
  unfold litsOffence litOKof
  split
  · simp
  · cases ls.any (fun l => (p.litErr l tok).isNone) <;> rfl

theorem toVNItems_eq_map (items : List (S L)) : toVNItems items = items.map toVN := by
  induction items with
  | nil => rfl
  | cons s ss ih => simp [toVNItems, ih]

theorem childAt_toVN (items : List (S L)) (i : Nat) :
    VN.childAt (toVNItems items) i = (childAt items i).map toVN := by
  rw [toVNItems_eq_map, VN.childAt_eq, show childAt items i = Tbl.clampAt items i by cases items <;> rfl]
  exact Tbl.clampAt_map toVN items i

theorem lookup_toVN (props : List (String × Bool × S L)) (k : String) :
    VN.lookup (toVNProps props) k = (lookup props k).map toVN := by
  induction props with
  | nil => rfl
  | cons pr ps ih =>
    obtain ⟨k', r, s⟩ := pr
    unfold VN.lookup lookup at ih ⊢
    simp only [toVNProps, List.find?_cons]
    cases h : k' == k
    · simpa using ih
    · simp

theorem requiredKeys_toVN (props : List (String × Bool × S L)) :
    VN.requiredKeys (toVNProps props) = requiredKeys props := by
  induction props with
  | nil => rfl
  | cons pr ps ih =>
    obtain ⟨k', r, s⟩ := pr
    unfold VN.requiredKeys requiredKeys at ih ⊢
    simp only [toVNProps, List.filter_cons]
    cases r <;> simp [ih]

theorem any_strip (unq : List α → String) (ms : List (List α × List α × List α × List α × T α × List α)) (k : String) :
    (stripMembers unq ms).any (fun m => m.1 == k) = hasKey unq ms k := by
  induction ms with
  | nil => rfl
  | cons m ms ih =>
    obtain ⟨w1, k', w2, w3, v, w4⟩ := m
    unfold hasKey at ih ⊢
    simp [stripMembers, ih]

mutual
/-- the spec with positions finds no offence exactly when the stripped document has the shape of the schema read as a
`VN` schema -/
theorem shape_value (p : P α L) (s : S L) (d : T α) (o : Nat) :
    (firstOffence p s o d).isNone = VN.shape (litOKof p) (toVN s) (strip p.unq d) := by
  cases s with
  | any => simp [firstOffence, toVN, VN.shape]
  | lits ls =>
    cases d with
    | scalar tok => simp [firstOffence, toVN, strip, VN.shape, shapeAlts_lits_scalar, litsOffence_isNone]
    | arr ws0 its => simp [firstOffence, toVN, strip, VN.shape, shapeAlts_lits_arr]
    | obj ws0 ms => simp [firstOffence, toVN, strip, VN.shape, shapeAlts_lits_obj]
  | arr ls items =>
    cases d with
    | scalar tok =>
      cases ls with
      | nil => simp [firstOffence, toVN, strip, VN.shape, VN.shapeAlts]
      | cons l ls' =>
        simp only [firstOffence, toVN, strip, VN.shape, VN.shapeAlts, List.isEmpty_cons, cond_false, Bool.false_or,
          shapeAlts_lits_scalar, litsOffence_isNone]
    | obj ws0 ms => simp [firstOffence, toVN, strip, VN.shape, VN.shapeAlts, shapeAlts_lits_obj]
    | arr ws0 its =>
      have h := shape_items p items its 0 (o + 1 + ws0.length)
      simp [firstOffence, toVN, strip, VN.shape, VN.shapeAlts, shapeAlts_lits_arr, h]
  | obj ls props =>
    cases d with
    | scalar tok =>
      cases ls with
      | nil => simp [firstOffence, toVN, strip, VN.shape, VN.shapeAlts]
      | cons l ls' =>
        simp only [firstOffence, toVN, strip, VN.shape, VN.shapeAlts, List.isEmpty_cons, cond_false, Bool.false_or,
          shapeAlts_lits_scalar, litsOffence_isNone]
    | arr ws0 its => simp [firstOffence, toVN, strip, VN.shape, VN.shapeAlts, shapeAlts_lits_arr]
    | obj ws0 ms =>
      have h := shape_members p props ms (o + 1 + ws0.length)
      have hreq : (VN.requiredKeys (toVNProps props)).all (fun k => (stripMembers p.unq ms).any (fun m => m.1 == k))
          = (requiredKeys props).all (hasKey p.unq ms) := by
        rw [requiredKeys_toVN]; congr 1; funext k; exact any_strip p.unq ms k
      have hspec : (firstOffence p (.obj ls props) o (.obj ws0 ms)).isNone
          = ((offMembers p props (o + 1 + ws0.length) ms).isNone && (requiredKeys props).all (hasKey p.unq ms)) := by
        simp only [firstOffence]
        cases offMembers p props (o + 1 + ws0.length) ms with
        | some x => rfl
        | none => cases (requiredKeys props).all (hasKey p.unq ms) <;> rfl
      rw [hspec, h]
      simp [toVN, strip, VN.shape, VN.shapeAlts, shapeAlts_lits_obj, hreq]
theorem shape_items (p : P α L) (items : List (S L)) (its : List (List α × T α × List α)) (i o : Nat) :
    (offItems p items i o its).isNone = VN.shapeItems (litOKof p) (toVNItems items) i (stripItems p.unq its) := by
  cases its with
  | nil => simp [offItems, stripItems, VN.shapeItems]
  | cons it its =>
    obtain ⟨w1, v, w2⟩ := it
    simp only [offItems, stripItems, VN.shapeItems, childAt_toVN]
    cases hc : childAt items i with
    | none => simp
    | some s =>
      have h1 := shape_value p s v (o + w1.length)
      have h2 := shape_items p items its (i + 1) (o + w1.length + v.len + w2.length + (if its.isEmpty then 0 else 1))
      simp only [Option.map_some]
      rw [← h1, ← h2]
      cases firstOffence p s (o + w1.length) v <;> simp
theorem shape_members (p : P α L) (props : List (String × Bool × S L))
    (ms : List (List α × List α × List α × List α × T α × List α)) (o : Nat) :
    (offMembers p props o ms).isNone = VN.shapeMembers (litOKof p) (toVNProps props) (stripMembers p.unq ms) := by
  cases ms with
  | nil => simp [offMembers, stripMembers, VN.shapeMembers]
  | cons m ms =>
    obtain ⟨w1, k, w2, w3, v, w4⟩ := m
    simp only [offMembers, stripMembers, VN.shapeMembers, lookup_toVN]
    cases hl : lookup props (p.unq k) with
    | none => simp
    | some s =>
      have h1 := shape_value p s v (o + w1.length + k.length + w2.length + 1 + w3.length)
      have h2 := shape_members p props ms (o + w1.length + k.length + w2.length + 1 + w3.length + v.len + w4.length
          + (if ms.isEmpty then 0 else 1))
      simp only [Option.map_some]
      rw [← h1, ← h2]
      cases firstOffence p s (o + w1.length + k.length + w2.length + 1 + w3.length) v <;> simp
end

end VPos
