import JSight.SchemaStep
/-! `processFound` / `shiftFound` described once, without the invariant (`processFound_cases`, `shiftFound_cases` and
what is read off them); under the invariant a queued lexeme is delivered and the invariant kept (`shiftFound_cons`). -/
namespace SchemaScan

/-- **what applying a queued lexeme does**: it follows `applyFind` on the lexeme types of the stack; where that is
defined only the stack changes, where it is not the scanner crashes; of the input only the event depends -/
theorem processFound_cases (s : Sc) (t : LexT) :
    match applyFind t (s.stack.map (·.1)) with
    | some S' => ∃ stk, stk.map (·.1) = S' ∧ ∀ data, ∃ ev, processFound data s t = .ok ({ s with stack := stk }, ev)
    | none => ∃ e, e.isCrash = true ∧ ∀ data, processFound data s t = .error e := by
  unfold applyFind processFound
  by_cases h1 : (t == LexT.newLine || t == LexT.endTop) = true
  · simp only [h1, ↓reduceIte]
    exact ⟨s.stack, rfl, fun data => ⟨_, rfl⟩⟩
  by_cases h2 : t.isOpening = true
  · simp only [h1, h2, ↓reduceIte, Bool.false_eq_true]
    exact ⟨_, rfl, fun data => ⟨_, rfl⟩⟩
  cases hst : s.stack with
  | nil =>
    simp only [h1, h2, ↓reduceIte, Bool.false_eq_true, List.map_nil]
    exact ⟨_, rfl, fun data => rfl⟩
  | cons a l =>
    obtain ⟨p, b⟩ := a
    by_cases h3 : isNonScalarPair p t = true
    · simp only [h1, h2, h3, ↓reduceIte, Bool.false_eq_true, List.map_cons, Bool.true_or]
      exact ⟨l, rfl, fun data => ⟨_, rfl⟩⟩
    by_cases h4 : isScalarPair p t = true
    · simp only [h1, h2, h3, h4, ↓reduceIte, Bool.false_eq_true, List.map_cons, Bool.or_true]
      exact ⟨l, rfl, fun data => ⟨_, rfl⟩⟩
    · simp only [h1, h2, h3, h4, ↓reduceIte, Bool.false_eq_true, List.map_cons, Bool.or_self]
      exact ⟨_, rfl, fun data => rfl⟩

theorem processFound_spec (data : Array Cls) (s : Sc) (t : LexT) {S' : List LexT}
    (h : applyFind t (s.stack.map (·.1)) = some S') :
    ∃ stk e, processFound data s t = .ok ({ s with stack := stk }, e) ∧ stk.map (·.1) = S' := by
  have := processFound_cases s t
  rw [h] at this
  obtain ⟨stk, hm, hp⟩ := this
  obtain ⟨ev, hp⟩ := hp data
  exact ⟨stk, ev, hp, hm⟩

theorem processFound_err {data : Array Cls} {s : Sc} {t : LexT} {e : Err} (h : processFound data s t = .error e) :
    e.isCrash = true := by
  have := processFound_cases s t
  split at this
  · obtain ⟨stk, _, hp⟩ := this
    obtain ⟨ev, hp⟩ := hp data
    rw [hp] at h; cases h
  · obtain ⟨e', he, hp⟩ := this
    rw [hp] at h; cases h; exact he

/-- **what delivering a queued lexeme does**: nothing with an empty queue; else it takes the first lexeme off the queue
and changes the stack, or crashes; of the input only the event depends -/
theorem shiftFound_cases (s : Sc) :
    (s.finds = [] ∧ ∀ data, shiftFound data s = .ok none) ∨
    (∃ e, e.isCrash = true ∧ ∀ data, shiftFound data s = .error e) ∨
    (∃ t rest stk, s.finds = t :: rest ∧
      ∀ data, ∃ ev, shiftFound data s = .ok (some ({ s with finds := rest, stack := stk }, ev))) := by
  unfold shiftFound
  cases hf : s.finds with
  | nil => exact Or.inl ⟨rfl, fun _ => rfl⟩
  | cons t rest =>
    refine Or.inr ?_
    simp only [bind, Except.bind, pure, Except.pure]
    have := processFound_cases { s with finds := rest } t
    split at this
    · obtain ⟨stk, _, h⟩ := this
      refine Or.inr ⟨t, rest, stk, rfl, fun data => ?_⟩
      obtain ⟨ev, h'⟩ := h data
      exact ⟨ev, by rw [h']⟩
    · obtain ⟨e, he, h⟩ := this
      exact Or.inl ⟨e, he, fun data => by rw [h]⟩

/-- a delivered lexeme: the state reached does not depend on the input, and differs in `finds` and `stack` only -/
theorem shiftFound_some {data : Array Cls} {s s' : Sc} {ev : Ev} (h : shiftFound data s = .ok (some (s', ev))) :
    (∃ t rest stk, s.finds = t :: rest ∧ s' = { s with finds := rest, stack := stk }) ∧
    ∀ data', ∃ ev', shiftFound data' s = .ok (some (s', ev')) := by
  rcases shiftFound_cases s with ⟨_, h0⟩ | ⟨e, _, h0⟩ | ⟨t, rest, stk, hf, h0⟩
  · rw [h0] at h; cases h
  · rw [h0] at h; cases h
  · obtain ⟨ev1, h1⟩ := h0 data
    rw [h1] at h; cases h
    exact ⟨⟨t, rest, stk, hf, rfl⟩, h0⟩

theorem shiftFound_err {data : Array Cls} {s : Sc} {e : Err} (h : shiftFound data s = .error e) : e.isCrash = true := by
  rcases shiftFound_cases s with ⟨_, h0⟩ | ⟨e', he, h0⟩ | ⟨t, rest, stk, _, h0⟩
  · rw [h0] at h; cases h
  · rw [h0] at h; cases h; exact he
  · obtain ⟨ev1, h1⟩ := h0 data
    rw [h1] at h; cases h

theorem shiftFound_none {data : Array Cls} {s : Sc} (h : shiftFound data s = .ok none) : s.finds = [] := by
  rcases shiftFound_cases s with ⟨hf, _⟩ | ⟨e', _, h0⟩ | ⟨t, rest, stk, _, h0⟩
  · exact hf
  · rw [h0] at h; cases h
  · obtain ⟨ev1, h1⟩ := h0 data
    rw [h1] at h; cases h

theorem shiftFound_nil (data : Array Cls) {s : Sc} (h : s.finds = []) : shiftFound data s = .ok none := by
  unfold shiftFound; rw [h]; rfl

/-- delivering one queued lexeme: cannot fail, keeps the invariant, touches only `finds` and `stack` -/
theorem shiftFound_cons (data : Array Cls) {s : Sc} {t rest} (h : Inv s) (hfs : s.finds = t :: rest) :
    ∃ stk e, shiftFound data s = .ok (some ({ s with finds := rest, stack := stk }, e)) ∧
      Inv { s with finds := rest, stack := stk } := by
  obtain ⟨eff, ⟨hA, hC⟩, hG⟩ := h
  rw [hfs] at hA
  simp only [applyFinds] at hA
  cases hS' : applyFind t (s.stack.map (·.1)) with
  | none => rw [hS'] at hA; simp at hA
  | some S' =>
    rw [hS'] at hA
    obtain ⟨stk, e, hp, hm⟩ := processFound_spec data { s with finds := rest } t hS'
    refine ⟨stk, e, ?_, ⟨eff, ⟨?_, hC⟩, hG⟩⟩
    · unfold shiftFound
      rw [hfs]
      simp only [bind, Except.bind, pure, Except.pure, hp]
    · show applyFinds rest (stk.map (·.1)) = some eff
      rw [hm]; exact hA

end SchemaScan
