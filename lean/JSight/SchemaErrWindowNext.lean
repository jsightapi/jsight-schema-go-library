import JSight.SchemaErrWindow
/-!
The error "after first #" (the only one with look-ahead window 1) is raised only where the byte behind the offending one is
not `#` (`dispatch_w`, `Fails.window_next`): `scanAll_window_next`.  With it the C17 statements on byte strings: a text that
agrees with a rejected one up to the error's window is rejected with the same error (`scanAll_error_window_exact`, and with
the window rounded up to 2, `scanAll_error_prefix`, `scanAll_error_window`); a rejected cut of an accepted text fails at
its last byte (`scanAll_prefix_of_accepted_exact`, `scanAll_prefix_of_accepted`).
-/
namespace SchemaScan

/-- the error "after first #" stands in front of a byte other than `#` (or of the end of input) -/
theorem scanAll_window_next (bs : List UInt8) (e : Err) (h : scanAll bs = .error e) (hw : e.window = 1) :
    bs[e.idx + 1]? ≠ some 35 := by
  have := (scanAll_fails h).window_next (scanAll_no_crash bs e h) hw
  intro hb
  apply this
  simp only [List.getElem?_toArray, List.getElem?_map, hb, Option.map_some]
  rfl

/-- "nothing behind the EXACT look-ahead window can repair the text" -/
theorem scanAll_error_window_exact (bs : List UInt8) (e : Err) (h : scanAll bs = .error e) (he : e.isEOF = false)
    (hw : e.idx + 1 + e.window ≤ bs.length) (ext : List UInt8) :
    scanAll (bs.take (e.idx + 1 + e.window) ++ ext) = .error e := by
  refine scanAll_error_exact bs e h he _ ?_ ?_
  · intro k hk
    rw [List.getElem?_append_left (by rw [List.length_take]; omega), List.getElem?_take_of_lt (by omega)]
  · intro hw1
    rw [hw1] at hw ⊢
    rw [List.getElem?_append_left (by rw [List.length_take]; omega), List.getElem?_take_of_lt (by omega)]
    exact scanAll_window_next bs e h hw1

/-- a rejected cut of an accepted text is rejected exactly at its last byte -/
theorem scanAll_prefix_of_accepted_exact (t : List UInt8) (evs : List Ev) (ht : scanAll t = .ok evs) (n : Nat) (e : Err)
    (h : scanAll (t.take n) = .error e) : e.idx = (t.take n).length - 1 := by
  by_cases he : e.isEOF = true
  · rw [scanAll_eof_idx _ e h he]; rfl
  · have he' : e.isEOF = false := by simpa using he
    have hlt := scanAll_error_idx _ e h he'
    apply Nat.le_antisymm (by omega)
    apply Nat.le_of_not_lt
    intro hlt2
    have hn : e.idx + 1 < n := by
      have : (t.take n).length ≤ n := List.length_take_le n t
      omega
    have : scanAll t = .error e := by
      refine scanAll_error_exact _ e h he' t ?_ ?_
      · intro k hk
        rw [List.getElem?_take_of_lt (by omega)]
      · intro hw1
        have := scanAll_window_next _ e h hw1
        rw [List.getElem?_take_of_lt hn] at this
        exact this
    rw [ht] at this
    cases this

/-- **C17, schema scanner: the error is determined by the offending byte's prefix and the look-ahead window.**
If the scanner model rejects `bs` with a structured error other than "unexpected end of file" at offset `i`, then
`i` is an offset of the text, and every byte string with the same bytes (and the same end of input) at the offsets
`0 … i + 2` is rejected with exactly the same error. -/
theorem scanAll_error_prefix (bs : List UInt8) (e : Err) (h : scanAll bs = .error e) (he : e.isEOF = false) :
    e.idx < bs.length ∧
    ∀ bs' : List UInt8, (∀ k, k < e.idx + 3 → bs'[k]? = bs[k]?) → scanAll bs' = .error e := by
  refine ⟨scanAll_error_idx bs e h he, fun bs' hA => ?_⟩
  refine scanAll_error_exact bs e h he bs' (fun k hk => hA k (by omega)) fun hw => ?_
  rw [hA (e.idx + 1) (by omega)]
  exact scanAll_window_next bs e h hw


/-- "nothing behind the look-ahead window can repair the text": the text cut behind the window, continued by anything,
is rejected with the same error -/
theorem scanAll_error_window (bs : List UInt8) (e : Err) (h : scanAll bs = .error e) (he : e.isEOF = false)
    (hw : e.idx + 3 ≤ bs.length) (ext : List UInt8) : scanAll (bs.take (e.idx + 3) ++ ext) = .error e := by
  refine (scanAll_error_prefix bs e h he).2 _ ?_
  intro k hk
  rw [List.getElem?_append_left (by rw [List.length_take]; omega), List.getElem?_take_of_lt hk]

/-- a rejected prefix of an accepted text: "unexpected end of file" at the last byte, or an invalid-character error
whose look-ahead window reaches the end of the prefix (one of the last two bytes) -/
theorem scanAll_prefix_of_accepted (t : List UInt8) (evs : List Ev) (ht : scanAll t = .ok evs) (n : Nat) (e : Err)
    (h : scanAll (t.take n) = .error e) :
    (e = .unexpectedEOF ((t.take n).length - 1)) ∨ (e.isEOF = false ∧ (t.take n).length < e.idx + 3 ∧ e.idx < (t.take n).length) := by
  by_cases he : e.isEOF = true
  · exact Or.inl (scanAll_eof_idx _ e h he)
  · have he' : e.isEOF = false := by simpa using he
    have hx := scanAll_prefix_of_accepted_exact t evs ht n e h
    have hlt := scanAll_error_idx _ e h he'
    exact Or.inr ⟨he', by omega, hlt⟩

#print axioms scanAll_error_window_exact
#print axioms scanAll_prefix_of_accepted_exact

end SchemaScan
