import JSight.AstTextThm
import JSight.AnnotQThm
/-!
C16 at text level, QUOTED rule names: `astOfText` on an annotated top-level scalar whose rule object has quoted or bare
names (`Lay.GObj`) and whose values are literals — the rule nodes carry the DECODED names, as `GetAST` shows them.
-/
namespace AstText
open SchemaScan Lay
open Loader (NK Node St slice trimSpaces nameOf keyText)

/-- **annotated scalar with quoted / bare rule names and literal values, no note** -/
theorem ast_gannot (a : Ann) (ha : a.isAnn = true) (tok s1 s2 : List UInt8) (ob : GObj) (s3 tl : List UInt8)
    (hv : GAnnValid a tok s1 s2 ob s3 tl) (hl : ob.literalValues) (he : ∀ p ∈ ob.pairs, p.1 ∉ embNames) :
    astOfText (gannText a tok s1 s2 ob s3 tl) = astOfScalar tok ob.pairs [] := by
  have hle : ob.listsEmb := by
    intro r hr b0 items hval
    obtain ⟨v, hv'⟩ := hl r hr
    rw [hv'] at hval
    cases hval
  obtain ⟨st, h1, hs⟩ := gannot_loaded a ha tok s1 s2 ob s3 none tl hv (fun _ _ h => nomatch h) hle
  exact astOfText_loaded (note := none) h1 hs he

/-- quoting / escaping rule names, the annotation's form and layout do not show in the AST -/
theorem ast_quoting (a a' : Ann) (ha : a.isAnn = true) (ha' : a'.isAnn = true) (tok : List UInt8)
    (s1 s2 : List UInt8) (ob : GObj) (s3 tl : List UInt8) (s1' s2' : List UInt8) (ob' : GObj) (s3' tl' : List UInt8)
    (hv : GAnnValid a tok s1 s2 ob s3 tl) (hv' : GAnnValid a' tok s1' s2' ob' s3' tl')
    (hl : ob.literalValues) (hl' : ob'.literalValues)
    (hsame : ob.pairs = ob'.pairs) (he : ∀ p ∈ ob.pairs, p.1 ∉ embNames) :
    astOfText (gannText a tok s1 s2 ob s3 tl) = astOfText (gannText a' tok s1' s2' ob' s3' tl') := by
  rw [ast_gannot a ha tok s1 s2 ob s3 tl hv hl he, ast_gannot a' ha' tok s1' s2' ob' s3' tl' hv' hl' (hsame ▸ he), hsame]

end AstText
