import JSight.C02TextSpec
import JSight.CompileNames
/-!
C02 at TEXT level, compile half: on the one-node table of a top-level scalar with an admissible rule set
(`C02T.okBasicR`) `Compile.basic` raises nothing and computes the node `C02T.compiledOf`.
-/
namespace C02T
open Compile

theorem isOk_iff {x : Except Err Unit} : isOk x = true ↔ x = .ok () := by
  rcases x with _ | ⟨⟨⟩⟩ <;> simp [isOk]

theorem litsOf_eq (frs : List Rule) :
    litsOf frs = bLits frs (exMinOf frs) (exMaxOf frs) ((typeVal frs).bind fmtOfType) := rfl

theorem lens_ok (frs : List Rule) (h10 : lenOK frs = true) (next : Except Err Basic) : bLens frs next = next := by
  unfold lenOK at h10
  unfold bLens
  cases h1 : findRule frs "minLength" <;> cases h2 : findRule frs "maxLength" <;> simp only [h1, h2] at h10 ⊢
  rename_i a b
  cases h3 : parseUint (a.val.getD []) <;> cases h4 : parseUint (b.val.getD []) <;> simp only [h3, h4] at h10 ⊢
  rename_i x y
  have : ¬ x > y := by simpa using h10
  simp only [this, if_false]

theorem minmax_ok (frs : List Rule) (h9 : minMaxOK frs = true) (next : Except Err Basic) :
    bMinMax frs (exMinOf frs) (exMaxOf frs) next = next := by
  unfold minMaxOK at h9
  unfold bMinMax
  cases h1 : findRule frs "min" <;> cases h2 : findRule frs "max" <;> simp only [h1, h2] at h9 ⊢
  rename_i a b
  cases h3 : cmpNum (a.val.getD []) (b.val.getD []) <;> simp only [h3] at h9 ⊢
  rename_i c
  cases h4 : (exMinOf frs || exMaxOf frs) <;> simp only [h4, Bool.false_eq_true, if_false, if_true] at h9 ⊢
  · have : (c == Ordering.gt) = false := by simpa using h9
    simp only [this, Bool.false_eq_true, if_false]
  · have : (c != Ordering.lt) = false := by simp [bne, h9]
    simp only [this, Bool.false_eq_true, if_false]

/-- the part of `basic` behind the type rule -/
theorem bAllowed_ok (frs : List Rule) (jt : JT) (fmt : Option RulesF.Fmt)
    (hf : fmt = none ∨ ((fmt = some .uuid ∨ fmt = some .date) ∧ jt = .str ∧ (hasRule frs "minLength" || hasRule frs "maxLength") = false))
    (h3 : hasRule frs "optional" = false) (h4 : hasRule frs "additionalProperties" = false)
    (h7 : (hasRule frs "exclusiveMinimum" && !hasRule frs "min") = false)
    (h8 : (hasRule frs "exclusiveMaximum" && !hasRule frs "max") = false)
    (h9 : minMaxOK frs = true) (h10 : lenOK frs = true)
    (h11 : (frs.any fun r => incompatible jt r.name) = false) :
    bAllowed frs jt false 0 false fmt none false
      = .ok (⟨none, hasRule frs "nullable", false, none, false, .absent, bLits frs (exMinOf frs) (exMaxOf frs) fmt, false⟩ : Basic) := by
  have hopt : boolRule frs "optional" = none := by simp [boolRule, findRule_none _ _ h3]
  have hadd := findRule_none _ _ h4
  have hfin : bFinish frs jt none false fmt none false (bLits frs (exMinOf frs) (exMaxOf frs) fmt) Add.absent
      = .ok (⟨none, hasRule frs "nullable", false, none, false, .absent, bLits frs (exMinOf frs) (exMaxOf frs) fmt, false⟩ : Basic) := by
    rcases hf with rfl | ⟨rfl | rfl, rfl, _⟩ <;> simp [bFinish, h11, pure, Except.pure]
  have hoptl : bOptional frs jt false false fmt none false (exMinOf frs) (exMaxOf frs)
      = .ok (⟨none, hasRule frs "nullable", false, none, false, .absent, bLits frs (exMinOf frs) (exMaxOf frs) fmt, false⟩ : Basic) := by
    simp only [bOptional, hopt, hadd, Option.isSome_none, Bool.false_and, Bool.false_eq_true, if_false, hfin]
  have hfm : (fmt.isSome && (hasRule frs "minLength" || hasRule frs "maxLength")) = false := by
    rcases hf with rfl | ⟨_, _, h⟩
    · rfl
    · rw [h]; simp
  have hpairs : bPairs frs jt false false fmt none false
      = .ok (⟨none, hasRule frs "nullable", false, none, false, .absent, bLits frs (exMinOf frs) (exMaxOf frs) fmt, false⟩ : Basic) := by
    unfold bPairs
    simp only [show (boolRule frs "exclusiveMinimum" == some true) = exMinOf frs from rfl,
      show (boolRule frs "exclusiveMaximum" == some true) = exMaxOf frs from rfl, hoptl, lens_ok frs h10, minmax_ok frs h9]
  simp only [bAllowed, hfm, h7, h8, Bool.false_and, Bool.false_eq_true, if_false, hpairs]

theorem fmtOfType_decimal : fmtOfType (sb "decimal") = none := by decide +kernel

theorem bType_ok (frs : List Rule) (jt : JT)
    (h6 : typeOK frs jt = true)
    (h3 : hasRule frs "optional" = false) (h4 : hasRule frs "additionalProperties" = false)
    (h7 : (hasRule frs "exclusiveMinimum" && !hasRule frs "min") = false)
    (h8 : (hasRule frs "exclusiveMaximum" && !hasRule frs "max") = false)
    (h9 : minMaxOK frs = true) (h10 : lenOK frs = true)
    (h11 : (frs.any fun r => incompatible jt r.name) = false) :
    bType .lit frs jt false 0 none false
      = .ok (⟨none, hasRule frs "nullable", false, none, false, .absent, litsOf frs, false⟩ : Basic) := by
  rw [litsOf_eq]
  unfold typeOK typeVal at h6
  unfold bType typeVal
  cases ht : findRule frs "type" with
  | none =>
    simp only [Option.map_none, Option.bind_none]
    exact bAllowed_ok frs jt none (Or.inl rfl) h3 h4 h7 h8 h9 h10 h11
  | some t =>
    simp only [ht, Option.map_some, Option.bind_some, Bool.and_eq_true, Bool.not_eq_true'] at h6 ⊢
    obtain ⟨⟨⟨⟨hu, hm⟩, he⟩, ha⟩, hrest⟩ := h6
    simp only [hu, hm, he, ha, Bool.false_eq_true, if_false]
    cases hd : (unq (t.val.getD []) == sb "decimal") with
    | true =>
      simp only [hd, if_true, Bool.and_eq_true] at hrest ⊢
      have hj : jt = .flt := by simpa using hrest.2
      have hfm : fmtOfType (unq (t.val.getD [])) = none := by
        have : unq (t.val.getD []) = sb "decimal" := by simpa using hd
        rw [this, fmtOfType_decimal]
      simp only [hrest.1, hj, hfm, bne_self_eq_false, Bool.true_eq_false, Bool.false_eq_true, if_false]
      exact bAllowed_ok frs .flt none (Or.inl rfl) h3 h4 h7 h8 h9 h10 (hj ▸ h11)
    | false =>
      simp only [hd, Bool.false_eq_true, if_false] at hrest ⊢
      cases hf : (fmtOfType (unq (t.val.getD []))).isSome with
      | true =>
        simp only [hf, if_true, Bool.and_eq_true, Bool.or_eq_true, Bool.not_eq_true'] at hrest ⊢
        obtain ⟨⟨hfm, hj⟩, hl⟩ := hrest
        have hj' : jt = .str := by simpa using hj
        simp only [hj', bne_self_eq_false, Bool.false_eq_true, if_false]
        refine bAllowed_ok frs .str _ (Or.inr ⟨?_, rfl, ?_⟩) h3 h4 h7 h8 h9 h10 (hj' ▸ h11)
        · rcases hfm with h | h
          · exact Or.inl (by simpa using h)
          · exact Or.inr (by simpa using h)
        · simpa using hl
      | false =>
        simp only [hf, Bool.false_eq_true, if_false, Bool.and_eq_true, isPlainType] at hrest ⊢
        have hfn : fmtOfType (unq (t.val.getD [])) = none := by
          cases h : fmtOfType (unq (t.val.getD [])) with
          | none => rfl
          | some f => rw [h] at hf; simp at hf
        have hne : (unq (t.val.getD []) != jt.name) = false := by simp [bne, hrest.2]
        simp only [hrest.1, if_true, hne, Bool.false_eq_true, if_false, hfn]
        exact bAllowed_ok frs jt none (Or.inl rfl) h3 h4 h7 h8 h9 h10 h11

theorem okBasicR_parts {rs : List Rule} {jt : JT} (h : okBasicR rs jt = true) :
    hasRule (filt rs) "or" = false ∧ hasRule (filt rs) "enum" = false ∧ hasRule (filt rs) "optional" = false ∧
    hasRule (filt rs) "additionalProperties" = false ∧ precOK (filt rs) = true ∧ typeOK (filt rs) jt = true ∧
    (hasRule (filt rs) "exclusiveMinimum" && !hasRule (filt rs) "min") = false ∧
    (hasRule (filt rs) "exclusiveMaximum" && !hasRule (filt rs) "max") = false ∧
    minMaxOK (filt rs) = true ∧ lenOK (filt rs) = true ∧
    ((filt rs).any fun r => incompatible jt r.name) = false := by
  simp only [okBasicR, Bool.and_eq_true, Bool.not_eq_true'] at h
  obtain ⟨⟨⟨⟨⟨⟨⟨⟨⟨⟨a, b⟩, c⟩, d⟩, e⟩, f⟩, g⟩, i⟩, j⟩, k⟩, l⟩ := h
  exact ⟨a, b, c, d, e, f, g, i, j, k, l⟩

/-- **`compileNode` on a scalar with an admissible rule set**: the node the code computes -/
theorem basic_ok (ex : Bytes) (rs : List Rule) (jt : JT) (h : okBasicR rs jt = true) :
    basic (node ex rs) jt false 0
      = .ok (⟨none, hasRule (filt rs) "nullable", false, none, false, .absent, litsOf (filt rs), false⟩ : Basic) := by
  obtain ⟨h1, h2, h3, h4, h5, h6, h7, h8, h9, h10, h11⟩ := okBasicR_parts h
  have hb := bType_ok (filt rs) jt h6 h3 h4 h7 h8 h9 h10 h11
  have hn : bNames .lit (filt rs) jt false 0
      = .ok (⟨none, hasRule (filt rs) "nullable", false, none, false, .absent, litsOf (filt rs), false⟩ : Basic) := by
    simp only [bNames, h1, Bool.false_eq_true, if_false, hb]
  have hp : bEnumPrec .lit (filt rs) jt false 0
      = .ok (⟨none, hasRule (filt rs) "nullable", false, none, false, .absent, litsOf (filt rs), false⟩ : Basic) := by
    unfold precOK at h5
    simp only [bEnumPrec, h2, Bool.false_eq_true, if_false]
    cases hpr : hasRule (filt rs) "precision" with
    | false => simp only [Bool.false_eq_true, if_false, hn]
    | true =>
      simp only [hpr, Bool.not_true, Bool.false_or] at h5
      cases ht : findRule (filt rs) "type" with
      | none => simp only [if_true, hn]
      | some t =>
        simp only [ht] at h5
        have : (Option.map unq t.val != some (sb "decimal")) = false := by simp [bne, h5]
        simp only [if_true, this, Bool.false_eq_true, if_false, hn]
  show basic (node ex rs) jt false 0 = _
  unfold basic
  have fd : ∀ l : List Rule, List.filter (fun r => !((r.name == sb "nullable" || r.name == sb "const") && r.val.bind parseBool == some false)) l = filt l := fun _ => rfl
  simp only [node, fd, h1, Bool.false_eq_true, if_false, hp]

end C02T
