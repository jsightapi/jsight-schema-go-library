import JSight.SchemaScan
import JSight.ByteLemmas
/-!
`classify` read backwards. `Cls.has k c`: the byte `c` passes the comparison by which `classify` answers `k`;
`classify_has`: every byte passes the comparison of its class — the one evaluation of `classify` over the 256 bytes.
A fact "the class of `c` is … ⇒ the byte `c` is …" follows from it by cases on the class; a fact "`c` is one of these few
bytes ⇒ its class is …" is an evaluation over those bytes.
-/
namespace SchemaScan

/-- the bytes of a class, as the comparison in `classify` that yields it (`other`: no information) -/
def Cls.has : Cls → UInt8 → Bool
  | .sp, c => c == 32 | .tab, c => c == 9 | .nl, c => c == 10 || c == 13
  | .lbrace, c => c == 123 | .rbrace, c => c == 125 | .lbrack, c => c == 91 | .rbrack, c => c == 93
  | .colon, c => c == 58 | .comma, c => c == 44 | .quote, c => c == 34 | .bslash, c => c == 92 | .slash, c => c == 47
  | .hash, c => c == 35 | .at, c => c == 64 | .star, c => c == 42 | .pipe, c => c == 124
  | .minus, c => c == 45 | .underscore, c => c == 95 | .plus, c => c == 43
  | .zero, c => c == 48 | .d19, c => 49 ≤ c && c ≤ 57 | .dot, c => c == 46
  | .le, c => c == 101 | .uE, c => c == 69 | .lt, c => c == 116 | .lr, c => c == 114 | .lu, c => c == 117
  | .lf, c => c == 102 | .la, c => c == 97 | .ll, c => c == 108 | .ls, c => c == 115 | .ln, c => c == 110 | .lb, c => c == 98
  | .hexo, c => c == 99 || c == 100 || (65 ≤ c && c ≤ 68) || c == 70
  | .nameo, c => (97 ≤ c && c ≤ 122) || (65 ≤ c && c ≤ 90)
  | .ctrl, c => c < 32
  | .other, _ => true

theorem classify_has : ∀ c : UInt8, (classify c).has c = true :=
  Bytes.forall_uint8 _ (by decide +kernel)

/-- the bytes of the name classes: a digit, a letter, `-` or `_` -/
theorem isName_bytes (c : UInt8) (h : (classify c).isName = true) :
    (48 ≤ c.toNat ∧ c.toNat ≤ 57) ∨ (65 ≤ c.toNat ∧ c.toNat ≤ 90) ∨ (97 ≤ c.toNat ∧ c.toNat ≤ 122) ∨ c.toNat = 45 ∨ c.toNat = 95 := by
  have hh := classify_has c
  cases hk : classify c <;> rw [hk] at hh h
  case d19 | hexo | nameo =>
    simp only [Cls.has, Bool.or_eq_true, Bool.and_eq_true, beq_iff_eq, UInt8.le_iff_toNat_le, ← UInt8.toNat_inj] at hh
    simp at hh
    omega
  case minus | underscore | zero | le | uE | lt | lr | lu | lf | la | ll | ls | ln | lb =>
    cases eq_of_beq (show (c == _) = true from hh)
    decide
  all_goals cases h

theorem classify_comma : classify 44 = .comma := by decide
theorem classify_lbrack : classify 91 = .lbrack := by decide
theorem classify_rbrack : classify 93 = .rbrack := by decide

end SchemaScan
