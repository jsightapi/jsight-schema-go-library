import JSight.OMapOpsProofs
/-!
C08, order independence: the compile / check pipeline looks at a node's constraint map only through
`Has`, `Get` / `GetValue`, `Len` (`NumberOfConstraints`), `Set`, `Delete`, the key-wise `Filter` of
`falseConstraints`, and an `Each` whose only use is "does every constraint pass" (which error is
reported is not part of the verdict). `Prog` is the language of such pipelines; `eval_congr` shows that
the verdict of *any* such pipeline is the same on two maps with the same lookup function — and two
insertion orders of the same duplicate-free rule set give such maps (`build_lookup_perm`).
That the Go pipeline stays inside this language is a regenerated fact (T-gen `tgen-cmap`).
-/
namespace RuleOrder
open OMap
variable {κ ν : Type} [DecidableEq κ]

inductive Prog (κ ν : Type)
  | ret (b : Bool)
  | has (k : κ) (cont : Bool → Prog κ ν)
  | get (k : κ) (cont : Option ν → Prog κ ν)
  | len (cont : Nat → Prog κ ν)
  | set (k : κ) (v : ν) (cont : Prog κ ν)
  | delete (k : κ) (cont : Prog κ ν)
  | filter (p : κ → ν → Bool) (cont : Prog κ ν)
  | all (q : κ → ν → Bool) (cont : Bool → Prog κ ν)

def eval : Prog κ ν → M κ ν → Bool
  | .ret b, _ => b
  | .has k c, m => eval (c (m.has k)) m
  | .get k c, m => eval (c (m.data k)) m
  | .len c, m => eval (c m.len) m
  | .set k v c, m => eval c (m.set k v)
  | .delete k c, m => eval c (m.delete k)
  | .filter p c, m => eval c (m.filter p).1
  | .all q c, m => eval (c (m.entries.all (fun e => q e.1 e.2))) m

/-- same lookup function -/
def Equiv (m m' : M κ ν) : Prop := ∀ k, m.data k = m'.data k

theorem order_perm (m m' : M κ ν) (h : WF m) (h' : WF m') (e : Equiv m m') : m.order.Perm m'.order := by
  apply (List.perm_ext_iff_of_nodup h.nodup h'.nodup).2
  intro k
  rw [h.dom k, h'.dom k, e k]

theorem len_congr (m m' : M κ ν) (h : WF m) (h' : WF m') (e : Equiv m m') : m.len = m'.len := by
  simp only [M.len, h.size, h'.size]
  exact (order_perm m m' h h' e).length_eq

theorem entries_perm (m m' : M κ ν) (h : WF m) (h' : WF m') (e : Equiv m m') : m.entries.Perm m'.entries := by
  have hf : (fun k => (m.data k).map (fun v => (k, v))) = (fun k => (m'.data k).map (fun v => (k, v))) := by
    funext k; rw [e k]
  simp only [M.entries, hf]
  exact (order_perm m m' h h' e).filterMap _

theorem set_congr (m m' : M κ ν) (e : Equiv m m') (k : κ) (v : ν) : Equiv (m.set k v) (m'.set k v) := by
  intro x; simp [M.set, e x]

theorem delete_congr (m m' : M κ ν) (e : Equiv m m') (k : κ) : Equiv (m.delete k) (m'.delete k) := by
  intro x; simp [M.delete, e x]

theorem data_iff_mem (m : M κ ν) (h : WF m) (k : κ) (v : ν) : m.data k = some v ↔ (k, v) ∈ m.entries := by
  constructor
  · intro hd
    simp only [M.entries, List.mem_filterMap]
    exact ⟨k, (h.dom k).2 (by simp [hd]), by simp [hd]⟩
  · intro he
    exact (mem_entries_fst m he).2

/-- lookup function of a filtered map: the entries satisfying the predicate -/
theorem filter_data (m : M κ ν) (h : WF m) (p : κ → ν → Bool) (k : κ) :
    (m.filter p).1.data k = (m.data k).filter (fun v => p k v) := by
  obtain ⟨w, he, _⟩ := filter_refines m h p
  apply Option.ext
  intro v
  rw [data_iff_mem _ w, he]
  simp only [Ref.filter, List.mem_filter, ← data_iff_mem m h]
  constructor
  · rintro ⟨hd, hp⟩; simp [hd, Option.filter, hp]
  · intro hf
    cases hd : m.data k with
    | none => simp [hd, Option.filter] at hf
    | some x =>
      simp only [hd, Option.filter] at hf
      split at hf
      · rename_i hpx; cases hf; exact ⟨rfl, hpx⟩
      · cases hf

theorem filter_congr (m m' : M κ ν) (h : WF m) (h' : WF m') (e : Equiv m m') (p : κ → ν → Bool) :
    Equiv (m.filter p).1 (m'.filter p).1 := by
  intro k; rw [filter_data m h, filter_data m' h', e k]

/-- the verdict of any pipeline of order-insensitive queries is a function of the lookup function -/
theorem eval_congr (prog : Prog κ ν) : ∀ (m m' : M κ ν), WF m → WF m' → Equiv m m' → eval prog m = eval prog m' := by
  induction prog with
  | ret b => intros; rfl
  | has k c ih => intro m m' h h' e; simp only [eval, M.has, e k]; exact ih _ m m' h h' e
  | get k c ih => intro m m' h h' e; simp only [eval, e k]; exact ih _ m m' h h' e
  | len c ih => intro m m' h h' e; simp only [eval, len_congr m m' h h' e]; exact ih _ m m' h h' e
  | set k v c ih => intro m m' h h' e; exact ih _ _ (wf_set m h k v) (wf_set m' h' k v) (set_congr m m' e k v)
  | delete k c ih => intro m m' h h' e; exact ih _ _ (wf_delete m h k) (wf_delete m' h' k) (delete_congr m m' e k)
  | filter p c ih =>
    intro m m' h h' e
    exact ih _ _ (filter_refines m h p).1 (filter_refines m' h' p).1 (filter_congr m m' h h' e p)
  | all q c ih =>
    intro m m' h h' e
    simp only [eval, (entries_perm m m' h h' e).all_eq]
    exact ih _ m m' h h' e

/-- building the map by `Set` in two orders of the same duplicate-free rule list gives the same lookup function -/
def build (rs : List (κ × ν)) : M κ ν := rs.foldl (fun m r => m.set r.1 r.2) M.empty

theorem foldl_set_wf (rs : List (κ × ν)) : ∀ m : M κ ν, WF m → WF (rs.foldl (fun m r => m.set r.1 r.2) m) := by
  induction rs with
  | nil => intro m h; exact h
  | cons r rs ih => intro m h; exact ih _ (wf_set m h r.1 r.2)

theorem foldl_set_data (rs : List (κ × ν)) (hn : (rs.map (·.1)).Nodup) : ∀ (m : M κ ν) (k : κ),
    (rs.foldl (fun m r => m.set r.1 r.2) m).data k =
      match rs.find? (·.1 == k) with | some r => some r.2 | none => m.data k := by
  induction rs with
  | nil => intro m k; rfl
  | cons r rs ih =>
    intro m k
    have hn' : r.1 ∉ rs.map (·.1) ∧ (rs.map (·.1)).Nodup := List.nodup_cons.1 hn
    simp only [List.foldl_cons, List.find?_cons]
    rw [ih hn'.2]
    by_cases hr : r.1 == k
    · have hk : r.1 = k := by simpa using hr
      have hnone : rs.find? (·.1 == k) = none := by
        apply List.find?_eq_none.2
        intro x hx hxk
        have : x.1 = k := by simpa using hxk
        exact hn'.1 (List.mem_map.2 ⟨x, hx, this.trans hk.symm⟩)
      simp [hr, hnone, M.set, hk]
    · have hk : ¬ k = r.1 := fun e => hr (by simp [e])
      simp only [hr]
      cases rs.find? (·.1 == k) with
      | some x => rfl
      | none => simp [M.set, hk]

theorem build_lookup_perm (rs rs' : List (κ × ν)) (hn : (rs.map (·.1)).Nodup) (hp : rs.Perm rs') :
    WF (build rs) ∧ WF (build rs') ∧ Equiv (build rs) (build rs') := by
  have hn' : (rs'.map (·.1)).Nodup := (hp.map _).nodup_iff.1 hn
  refine ⟨foldl_set_wf rs _ wf_empty, foldl_set_wf rs' _ wf_empty, ?_⟩
  intro k
  simp only [build, foldl_set_data rs hn, foldl_set_data rs' hn']
  -- both sides look the key up in a duplicate-free list; the lists are permutations
  have key : ∀ (l : List (κ × ν)), (l.map (·.1)).Nodup → ∀ r ∈ l, r.1 = k → l.find? (·.1 == k) = some r := by
    intro l hl r hr hk
    induction l with
    | nil => cases hr
    | cons a l ih =>
      have hl' : a.1 ∉ l.map (·.1) ∧ (l.map (·.1)).Nodup := List.nodup_cons.1 hl
      simp only [List.find?_cons]
      rcases List.mem_cons.1 hr with rfl | hmem
      · simp [hk]
      · have : ¬ (a.1 == k) := by
          intro ha
          have : a.1 = k := by simpa using ha
          exact hl'.1 (List.mem_map.2 ⟨r, hmem, hk.trans this.symm⟩)
        simp only [this]
        exact ih hl'.2 hmem
  cases h1 : rs.find? (·.1 == k) with
  | some r =>
    have hr := List.mem_of_find?_eq_some h1
    have hk : r.1 = k := by simpa using List.find?_some h1
    rw [key rs' hn' r (hp.mem_iff.1 hr) hk]
  | none =>
    have : rs'.find? (·.1 == k) = none := by
      apply List.find?_eq_none.2
      intro x hx
      exact List.find?_eq_none.1 h1 x (hp.mem_iff.2 hx)
    rw [this]

/-- **C08, order independence**: the verdict of every order-insensitive pipeline is the same for every
ordering of a duplicate-free rule set -/
theorem verdict_perm (prog : Prog κ ν) (rs rs' : List (κ × ν)) (hn : (rs.map (·.1)).Nodup) (hp : rs.Perm rs') :
    eval prog (build rs) = eval prog (build rs') := by
  obtain ⟨w, w', e⟩ := build_lookup_perm rs rs' hn hp
  exact eval_congr prog _ _ w w' e

end RuleOrder
