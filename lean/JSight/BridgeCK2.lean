import JSight.BridgeCK2Types
import JSight.E2EThm
/-!
Bridge (A)∩(C): plain-JSON schemas, and the text-level pipeline run with (C)'s checker.

* `agree_plain`: on the compiled tree of a plain-JSON value (`E2E.cnOf`: the class `C01_text_level` speaks about — literal
  nodes of a guessable kind, arrays, objects, no rules, no types) the checker model `CK.checkSchema` on the dump and
  `Compile`'s `CheckRootSchema` (`checkA`) give the same outcome: such a tree lies in the class `nr`
  (`nr_plain`), so this is `agree_noref`.
* `E2E.validateTextCK`: the text-level pipeline with `Compile.check` REPLACED by the checker model of C04 (`CK.checkSchema ∘
  dumpOf`, then `CheckRecursion`); `validateTextCK_eq`: wherever the two checkers agree on the compiled schema the two
  pipelines give the same outcome; `text_level_ck`: the text-level theorem of C01 for the pipeline with (C)'s checker.
* `wBad_facts`, `wAny_facts`: without a class hypothesis `resOf (checkC root ts) = some (checkA root ts)` fails, on `CN`
  trees `compileNode` never builds (a literal node whose `bad` flag does not say what its rules say; an `any` node of JSON type `mixed`).
-/
namespace BridgeCK
open Compile

/-! ### the compiled tree of a plain-JSON value lies in the class `nr` -/

theorem dumpProps_length (opt : Bool) : (ms : List (List UInt8 × Lay.JV)) →
    (dumpProps (E2E.cnMembers opt ms)).length = ms.length
  | [] => rfl
  | (k, v) :: ms => by simp [E2E.cnMembers, dumpProps, dumpProps_length opt ms]

mutual
theorem nr_plain (opt : Bool) : (v : Lay.JV) → E2E.guessable v = true → nr (E2E.cnOf opt v) = true
  | .lit tok, hg => by
    obtain ⟨k, hk⟩ := Option.isSome_iff_exists.mp (show (RulesF.kindOfTok tok).isSome = true from hg)
    simp [E2E.cnOf, nr, guessK, E2E.kindOf, hk]
  | .arr items, hg => by
    simp only [E2E.cnOf, nr]
    exact nrItems_plain opt items (by simpa [E2E.guessable] using hg)
  | .obj ms, hg => by
    simp only [E2E.cnOf, nr, Bool.and_true]
    exact nrProps_plain opt ms (by simpa [E2E.guessable] using hg)
theorem nrItems_plain (opt : Bool) : (items : List Lay.JV) → E2E.guessableItems items = true →
    nrItems (E2E.cnItems opt items) = true
  | [], _ => rfl
  | v :: vs, hg => by
    obtain ⟨hg1, hg2⟩ : E2E.guessable v = true ∧ E2E.guessableItems vs = true := by simpa [E2E.guessableItems] using hg
    simp only [E2E.cnItems, nrItems, nr_plain opt v hg1, nrItems_plain opt vs hg2, Bool.and_self]
theorem nrProps_plain (opt : Bool) : (ms : List (List UInt8 × Lay.JV)) → E2E.guessableMembers ms = true →
    nrProps (E2E.cnMembers opt ms) = true
  | [], _ => rfl
  | (k, v) :: ms, hg => by
    obtain ⟨hg1, hg2⟩ : E2E.guessable v = true ∧ E2E.guessableMembers ms = true := by simpa [E2E.guessableMembers] using hg
    simp only [E2E.cnMembers, nrProps, nr_plain opt v hg1, nrProps_plain opt ms hg2, Bool.not_false, Bool.true_or,
      Bool.and_self]
end

def env0 : CK.Env := ⟨[]⟩

theorem envRel0 : EnvRel [] env0 := fun _ _ => rfl

theorem checkNodes_items (opt : Bool) : (items : List Lay.JV) → E2E.guessableItems items = true →
    CK.checkNodes noOracles env0 (dumpItems (E2E.cnItems opt items)) = none := fun items hg => by
  rw [items_agree [] env0 1 envRel0 (fun n cn h => by cases h) ⟨0, rfl⟩ _ (nrItems_plain opt items hg),
    E2E.checkItems_plain opt 1 items hg]
  rfl

theorem checkNodes_props (opt : Bool) : (ms : List (List UInt8 × Lay.JV)) → E2E.guessableMembers ms = true →
    CK.checkNodes noOracles env0 (dumpProps (E2E.cnMembers opt ms)) = none := fun ms hg => by
  rw [props_agree [] env0 1 envRel0 (fun n cn h => by cases h) ⟨0, rfl⟩ _ (nrProps_plain opt ms hg),
    E2E.checkProps_plain opt 1 ms hg]
  rfl

/-- **the two checkers agree on the class of `C01_text_level`** -/
theorem agree_plain (opt : Bool) (v : Lay.JV) (hg : E2E.guessable v = true) :
    resOf (checkC (some (E2E.cnOf opt v)) []) = some (checkA (some (E2E.cnOf opt v)) []) :=
  agree_noref _ [] (fun r h => by cases h; exact nr_plain opt v hg) (fun t ht => by cases ht) List.nodup_nil

/-! ### the unrestricted statement is false on an ill-formed tree -/

/-- `5` with a `minLength` validator and `bad = false`: `compileNode` sets `bad` exactly when a constraint does not go
with the JSON type, so this tree is never built; (A) trusts the flag and reports the validator (603), (C) recomputes
the compatibility (1117) -/
def wBad : CN := .lit { kind := .i, ex := sb "5", nul := false, rules := [.minLength 3] } false

theorem wBad_facts : checkC (some wBad) [] = .err 1117 0 0 none ∧ codeOfA (checkA (some wBad) []) = some 603 ∧
    isUnsupported (checkA (some wBad) []) = false := by decide +kernel

/-- a second family `compileNode` never builds: a named type whose root is an `any` node of JSON type `mixed` (a type
shortcut `@x // {type: "any"}`: (A) answers `unsupported` while the annotation is read) referenced by `1 // {type: "@t"}`.
(A) counts `mixed` as the only JSON type the reference allows (1301); (C) lets a `MixedValueNode` allow every type and
then has no checker for it (`newNodeChecker`: code 1) -/
def wAnyTs : Types := [("@t", .any .mixed none)]
def wAnyRoot : CN := .ref ["@t"] false .int (some (sb "1")) false

theorem wAny_facts : checkC (some wAnyRoot) wAnyTs = .err 1 0 0 none ∧ codeOfA (checkA (some wAnyRoot) wAnyTs) = some 1301 ∧
    isUnsupported (checkA (some wAnyRoot) wAnyTs) = false := by decide +kernel

end BridgeCK

/-! ### the text-level pipeline with the checker model of C04 -/

namespace E2E
open Compile

/-- `Compile.check` = `CheckRootSchema` (what (C) models), then `CheckRecursion` -/
theorem check_splits (root : CN) (ts : Types) :
    check root ts =
      (match BridgeCK.checkA (some root) ts with
       | .error e => .error e
       | .ok () => if TG.check (tgOf root ts) then .ok () else .error (.code 104 0)) := by
  unfold check BridgeCK.checkA
  simp only []
  cases h1 : checkNode ts (checkFuel (some root) ts) root with
  | error e => rfl
  | ok u =>
    cases u
    simp only []
    by_cases h2 : (!List.all ts fun t => orShortsOK ts t.snd) = true
    · simp only [h2, if_true]
    · simp only [h2]
      cases h3 : checkTypes ts (checkFuel (some root) ts) (sortNames (List.map (fun x => x.fst) ts)) with
      | error e => rfl
      | ok u => cases u; rfl

/-- the checker stage as the model of C04 runs it: `CK.checkSchema` on the dump of the compiled schema -/
def checkCK (root : Option CN) (ts : Types) : Option (Except Err Unit) := BridgeCK.resOf (BridgeCK.checkC root ts)

/-- `validateText` with `Compile.check` replaced by the checker model of C04 (then `CheckRecursion`) -/
def validateTextCK (root : List UInt8) (types : List (String × List UInt8)) (doc : List UInt8)
    (optDefault : Bool := false) : Outcome :=
  match loadSchema root optDefault with
  | .error e => errOut e
  | .ok r =>
    if !(types.map (·.1)).Nodup || !(types.all fun t => isUserTypeName (strBytes t.1)) then .unsupported "type names"
    else
      match loadTypes types with
      | .error e => errOut e
      | .ok ts =>
        match r with
        | none =>
          match checkCK none ts with
          | none => .unsupported "checker model: fuel"
          | some (.error e) => errOut e
          | some (.ok ()) => .schemaErr 202 0
        | some cn =>
          match checkCK (some cn) ts with
          | none => .unsupported "checker model: fuel"
          | some (.error e) => errOut e
          | some (.ok ()) =>
            if !TG.check (tgOf cn ts) then errOut (.code 104 0) else afterCheck cn ts doc

/-- wherever the two checkers agree on the compiled schema, the two pipelines give the same outcome -/
theorem validateTextCK_eq (root : List UInt8) (types : List (String × List UInt8)) (doc : List UInt8) (opt : Bool)
    (hagree : ∀ r ts, loadSchema root opt = .ok r → loadTypes types = .ok ts →
      checkCK r ts = some (BridgeCK.checkA r ts)) :
    validateTextCK root types doc opt = validateText root types doc opt := by
  unfold validateTextCK validateText
  cases hL : loadSchema root opt with
  | error e => rfl
  | ok r =>
    simp only []
    -- both sides test the type names first: compare what follows
    congr 1
    cases hT : loadTypes types with
    | error e => rfl
    | ok ts =>
      have ha := hagree r ts hL hT
      cases r with
      | none =>
        simp only [ha]
        show _ = (match checkNoRoot ts with | .error e => errOut e | .ok () => Outcome.schemaErr 202 0)
        have : BridgeCK.checkA none ts = checkNoRoot ts := rfl
        rw [this]
        cases checkNoRoot ts with
        | error e => rfl
        | ok u => cases u; rfl
      | some cn =>
        simp only [ha, check_splits cn ts]
        cases BridgeCK.checkA (some cn) ts with
        | error e => rfl
        | ok u =>
          cases u
          simp only []
          cases TG.check (tgOf cn ts) <;> rfl

/-- **the text-level theorem of C01 for the pipeline that uses the checker model of C04** -/
theorem text_level_ck (opt : Bool) (t : Lay.BTree) (hv : t.Valid) (hk : t.value.KeysNodup)
    (hg : guessable t.value = true) (w0 w1 : List Lay.LI) (h0 : Lay.ValidL w0) (h1 : Lay.ValidL w1)
    (fin : List UInt8) (hf : Lay.IsFin fin)
    (d : VPos.T UInt8) (hd : (VPos.toJA JsonScan.classify d).Valid) (ws0 ws1 : List UInt8)
    (hw0 : JsonScan.IsWs (ws0.map JsonScan.classify)) (hw1 : JsonScan.IsWs (ws1.map JsonScan.classify)) :
    validateTextCK (Lay.docTextF w0 t w1 fin) [] (ws0 ++ (d.render VPos.byteSym ++ ws1)) opt
      = if VN.shape kindOKTok (schemaOf opt t.value) (docOf d) then .acc else .rej := by
  obtain ⟨st, hl, hr, ht⟩ := Lay.load_comments t hv hk w0 w1 h0 h1 fin hf
  have hs := loadSchema_plain (Lay.docTextF w0 t w1 fin) opt st t.value hl hr ht hg
  rw [validateTextCK_eq _ _ _ _ (fun r ts h1 h2 => by
    rw [hs] at h1
    cases h1
    have : ts = [] := by
      simp only [loadTypes] at h2
      cases h2; rfl
    subst this
    exact BridgeCK.agree_plain opt t.value hg)]
  exact text_level opt t hv hk hg w0 w1 h0 h1 fin hf d hd ws0 ws1 hw0 hw1

end E2E
