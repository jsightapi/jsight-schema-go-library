import JSight.C02TextThm
/-!
C02 at TEXT level: rule names as tags. The stages compare the (unquoted) rule name against fixed byte
strings in chains of `if`s, each stage in its own order; `tagOf` reads the name once, `eq_*` rewrite every comparison.
-/
namespace C02T
open Compile

theorem sbx_min : sb "min" = [109, 105, 110] := by decide +kernel
theorem sbx_max : sb "max" = [109, 97, 120] := by decide +kernel
theorem sbx_exclusiveMinimum : sb "exclusiveMinimum" = [101, 120, 99, 108, 117, 115, 105, 118, 101, 77, 105, 110, 105, 109, 117, 109] := by decide +kernel
theorem sbx_exclusiveMaximum : sb "exclusiveMaximum" = [101, 120, 99, 108, 117, 115, 105, 118, 101, 77, 97, 120, 105, 109, 117, 109] := by decide +kernel
theorem sbx_nullable : sb "nullable" = [110, 117, 108, 108, 97, 98, 108, 101] := by decide +kernel
theorem sbx_const : sb "const" = [99, 111, 110, 115, 116] := by decide +kernel
theorem sbx_minLength : sb "minLength" = [109, 105, 110, 76, 101, 110, 103, 116, 104] := by decide +kernel
theorem sbx_maxLength : sb "maxLength" = [109, 97, 120, 76, 101, 110, 103, 116, 104] := by decide +kernel
theorem sbx_precision : sb "precision" = [112, 114, 101, 99, 105, 115, 105, 111, 110] := by decide +kernel
theorem sbx_type : sb "type" = [116, 121, 112, 101] := by decide +kernel
theorem sbx_enum : sb "enum" = [101, 110, 117, 109] := by decide +kernel
theorem sbx_or : sb "or" = [111, 114] := by decide +kernel
theorem sbx_allOf : sb "allOf" = [97, 108, 108, 79, 102] := by decide +kernel
theorem sbx_regex : sb "regex" = [114, 101, 103, 101, 120] := by decide +kernel
theorem sbx_minItems : sb "minItems" = [109, 105, 110, 73, 116, 101, 109, 115] := by decide +kernel
theorem sbx_maxItems : sb "maxItems" = [109, 97, 120, 73, 116, 101, 109, 115] := by decide +kernel
theorem sbx_optional : sb "optional" = [111, 112, 116, 105, 111, 110, 97, 108] := by decide +kernel
theorem sbx_additionalProperties : sb "additionalProperties" = [97, 100, 100, 105, 116, 105, 111, 110, 97, 108, 80, 114, 111, 112, 101, 114, 116, 105, 101, 115] := by decide +kernel

inductive Tag
  | min | max | exMin | exMax | nullable | const | minLength | maxLength | precision | type | enum
  | or | allOf | regex | minItems | maxItems | optional | addProps | other
  deriving DecidableEq, Repr

def tagOf (n : Bytes) : Tag :=
  if n == sb "min" then .min else if n == sb "max" then .max
  else if n == sb "exclusiveMinimum" then .exMin else if n == sb "exclusiveMaximum" then .exMax
  else if n == sb "nullable" then .nullable else if n == sb "const" then .const
  else if n == sb "minLength" then .minLength else if n == sb "maxLength" then .maxLength
  else if n == sb "precision" then .precision else if n == sb "type" then .type else if n == sb "enum" then .enum
  else if n == sb "or" then .or else if n == sb "allOf" then .allOf else if n == sb "regex" then .regex
  else if n == sb "minItems" then .minItems else if n == sb "maxItems" then .maxItems
  else if n == sb "optional" then .optional else if n == sb "additionalProperties" then .addProps else .other

/-- the name a tag stands for -/
def nameOf : Tag → Bytes
  | .min => sb "min" | .max => sb "max" | .exMin => sb "exclusiveMinimum" | .exMax => sb "exclusiveMaximum"
  | .nullable => sb "nullable" | .const => sb "const" | .minLength => sb "minLength" | .maxLength => sb "maxLength"
  | .precision => sb "precision" | .type => sb "type" | .enum => sb "enum" | .or => sb "or" | .allOf => sb "allOf"
  | .regex => sb "regex" | .minItems => sb "minItems" | .maxItems => sb "maxItems" | .optional => sb "optional"
  | .addProps => sb "additionalProperties" | .other => []

/-- the chain of comparisons in `tagOf`, as a walk down a list of tags -/
def firstTag (n : Bytes) : List Tag → Tag
  | [] => .other
  | t :: ts => if n == nameOf t then t else firstTag n ts

/-- the tags with a name, in the order `tagOf` asks for them -/
def namedTags : List Tag := [.min, .max, .exMin, .exMax, .nullable, .const, .minLength, .maxLength, .precision, .type,
  .enum, .or, .allOf, .regex, .minItems, .maxItems, .optional, .addProps]

theorem tagOf_eq_firstTag (n : Bytes) : tagOf n = firstTag n namedTags := rfl

theorem mem_tags (t : Tag) : t ∈ .other :: namedTags := by cases t <;> decide

theorem tagOf_nameOf (t : Tag) : tagOf (nameOf t) = t := by
  have h : ((Tag.other :: namedTags).all fun t => tagOf (nameOf t) == t) = true := by decide +kernel
  exact eq_of_beq (List.all_eq_true.1 h t (mem_tags t))

theorem nameOf_firstTag {n : Bytes} {t : Tag} (ht : t ≠ .other) : ∀ ts, firstTag n ts = t → n = nameOf t
  | [], h => absurd h.symm ht
  | a :: ts, h => by
    unfold firstTag at h
    by_cases ha : (n == nameOf a) = true
    · rw [if_pos ha] at h
      exact h ▸ eq_of_beq ha
    · rw [if_neg ha] at h
      exact nameOf_firstTag ht ts h

theorem nameOf_tagOf {n : Bytes} {t : Tag} (h : tagOf n = t) (ht : t ≠ .other) : n = nameOf t :=
  nameOf_firstTag ht _ (tagOf_eq_firstTag n ▸ h)

theorem tagOf_eq_iff {n : Bytes} {t : Tag} (ht : t ≠ .other) : tagOf n = t ↔ n = nameOf t :=
  ⟨fun h => nameOf_tagOf h ht, fun h => h ▸ tagOf_nameOf t⟩

theorem beq_nameOf (n : Bytes) {t : Tag} (ht : t ≠ .other) : (n == nameOf t) = (tagOf n == t) := by
  rw [Bool.eq_iff_iff, beq_iff_eq, beq_iff_eq, tagOf_eq_iff ht]

theorem eq_min (n : Bytes) : (n == sb "min") = (tagOf n == .min) := beq_nameOf n (t := .min) Tag.noConfusion
theorem eq_max (n : Bytes) : (n == sb "max") = (tagOf n == .max) := beq_nameOf n (t := .max) Tag.noConfusion
theorem eq_exclusiveMinimum (n : Bytes) : (n == sb "exclusiveMinimum") = (tagOf n == .exMin) :=
  beq_nameOf n (t := .exMin) Tag.noConfusion
theorem eq_exclusiveMaximum (n : Bytes) : (n == sb "exclusiveMaximum") = (tagOf n == .exMax) :=
  beq_nameOf n (t := .exMax) Tag.noConfusion
theorem eq_nullable (n : Bytes) : (n == sb "nullable") = (tagOf n == .nullable) :=
  beq_nameOf n (t := .nullable) Tag.noConfusion
theorem eq_const (n : Bytes) : (n == sb "const") = (tagOf n == .const) := beq_nameOf n (t := .const) Tag.noConfusion
theorem eq_minLength (n : Bytes) : (n == sb "minLength") = (tagOf n == .minLength) :=
  beq_nameOf n (t := .minLength) Tag.noConfusion
theorem eq_maxLength (n : Bytes) : (n == sb "maxLength") = (tagOf n == .maxLength) :=
  beq_nameOf n (t := .maxLength) Tag.noConfusion
theorem eq_precision (n : Bytes) : (n == sb "precision") = (tagOf n == .precision) :=
  beq_nameOf n (t := .precision) Tag.noConfusion
theorem eq_type (n : Bytes) : (n == sb "type") = (tagOf n == .type) := beq_nameOf n (t := .type) Tag.noConfusion
theorem eq_enum (n : Bytes) : (n == sb "enum") = (tagOf n == .enum) := beq_nameOf n (t := .enum) Tag.noConfusion
theorem eq_or (n : Bytes) : (n == sb "or") = (tagOf n == .or) := beq_nameOf n (t := .or) Tag.noConfusion
theorem eq_allOf (n : Bytes) : (n == sb "allOf") = (tagOf n == .allOf) := beq_nameOf n (t := .allOf) Tag.noConfusion
theorem eq_regex (n : Bytes) : (n == sb "regex") = (tagOf n == .regex) := beq_nameOf n (t := .regex) Tag.noConfusion
theorem eq_minItems (n : Bytes) : (n == sb "minItems") = (tagOf n == .minItems) :=
  beq_nameOf n (t := .minItems) Tag.noConfusion
theorem eq_maxItems (n : Bytes) : (n == sb "maxItems") = (tagOf n == .maxItems) :=
  beq_nameOf n (t := .maxItems) Tag.noConfusion
theorem eq_optional (n : Bytes) : (n == sb "optional") = (tagOf n == .optional) :=
  beq_nameOf n (t := .optional) Tag.noConfusion
theorem eq_additionalProperties (n : Bytes) : (n == sb "additionalProperties") = (tagOf n == .addProps) :=
  beq_nameOf n (t := .addProps) Tag.noConfusion

/-- rewrite every name comparison into a comparison of tags -/
macro "tag_rw" loc:(Lean.Parser.Tactic.location)? : tactic =>
  `(tactic| simp only [eq_min, eq_max, eq_exclusiveMinimum, eq_exclusiveMaximum, eq_nullable, eq_const, eq_minLength,
      eq_maxLength, eq_precision, eq_type, eq_enum, eq_or, eq_allOf, eq_regex, eq_minItems, eq_maxItems, eq_optional,
      eq_additionalProperties] $[$loc]?)

end C02T
