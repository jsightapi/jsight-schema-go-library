import JSight.C02TextOrder
import JSight.ListFacts
/-!
C02 at TEXT level: permuting the pairs. The stages' conditions (`okRules_perm`) and the spec node
(`specOfRules_perm`, `spec_perm`) are invariant; the validator machine on a single literal leaf sees its node only
through `litOK` (`afterCheck_lit_congr`). `validateText_lit`, `afterCheck_scalar`: `E2E.validateText` on a schema that
is one literal node.
-/
namespace C02T
open Compile

/-! ### creation -/

theorem okCreate_perm {ps ps' : List Pair} (hp : ps.Perm ps') (h : okCreate ps = true) : okCreate ps' = true := by
  rw [okCreate_iff] at h ⊢
  exact ⟨(hp.map _).nodup_iff.1 h.1, fun p hm => h.2 p (hp.mem_iff.2 hm)⟩

/-! ### `compileNode`'s conditions -/

theorem findRule_mk_none_of {qs : List Pair} {nm : String} (h : ∀ p ∈ qs, p.1 ≠ sb nm) : findRule (mk qs) nm = none := by
  unfold findRule
  rw [List.find?_eq_none]
  intro x hx
  rw [mk_eq] at hx
  obtain ⟨p, hp, rfl⟩ := List.mem_map.1 hx
  simpa [mkR] using h p hp

theorem findRule_perm {qs qs' : List Pair} (hp : qs.Perm qs') (hnd : (qs.map (·.1)).Nodup) (nm : String) :
    findRule (mk qs) nm = findRule (mk qs') nm := by
  have hnd' : (qs'.map (·.1)).Nodup := (hp.map _).nodup_iff.1 hnd
  cases h : findRule (mk qs) nm with
  | none =>
    exact (findRule_mk_none_of fun p hm => findRule_mk_none h p (hp.mem_iff.2 hm)).symm
  | some x =>
    obtain ⟨p, hm, hn, rfl⟩ := findRule_mk_some h
    exact (findRule_mk_of_mem qs' hnd' p (hp.mem_iff.1 hm) nm hn).symm

theorem hasRule_perm {qs qs' : List Pair} (hp : qs.Perm qs') (nm : String) : hasRule (mk qs) nm = hasRule (mk qs') nm := by
  rw [hasRule_mk, hasRule_mk]
  exact List.any_congr_mem _ fun _ => hp.mem_iff

theorem okBasicR_perm {ps ps' : List Pair} (hp : ps.Perm ps') (hnd : (ps.map (·.1)).Nodup) (jt : JT) :
    okBasicR (mk ps) jt = okBasicR (mk ps') jt := by
  have hq : (ps.filter keepP).Perm (ps'.filter keepP) := hp.filter _
  have hndq := nodup_filter hnd keepP
  have hf := fun nm => findRule_perm hq hndq nm
  have hh := fun nm => hasRule_perm hq nm
  have ha : ((mk (ps.filter keepP)).any fun r => incompatible jt r.name)
      = ((mk (ps'.filter keepP)).any fun r => incompatible jt r.name) := by
    apply List.any_congr_mem
    intro r
    rw [mk_eq, mk_eq]
    exact (hq.map mkR).mem_iff
  -- every sub-condition reads the rule list through `findRule`, `hasRule` and the one `any` only
  simp only [okBasicR, filt_mk, precOK, typeOK, typeVal, minMaxOK, lenOK, exMinOf, exMaxOf, boolRule, hf, hh, ha]

theorem okRules_perm {ps ps' : List Pair} (ex : Bytes) (hp : ps.Perm ps') (h : okRules ex ps = true) :
    okRules ex ps' = true := by
  simp only [okRules, Bool.and_eq_true] at h ⊢
  obtain ⟨⟨hk, hc⟩, hb⟩ := h
  refine ⟨⟨hk, okCreate_perm hp hc⟩, ?_⟩
  unfold okBasic at hb ⊢
  rw [← okBasicR_perm hp (facts_of_okCreate hc).nodup]
  exact hb

/-! ### the spec node -/

/-- **permuting the written rules permutes the validators of the spec node and changes nothing else** -/
theorem specOfRules_perm {ps ps' : List Pair} (ex : Bytes) (hp : ps.Perm ps') :
    (specOfRules ex ps).kind = (specOfRules ex ps').kind ∧ (specOfRules ex ps).ex = (specOfRules ex ps').ex ∧
    (specOfRules ex ps).nul = (specOfRules ex ps').nul ∧ (specOfRules ex ps).rules.Perm (specOfRules ex ps').rules := by
  have hr : (ps.filterMap rawOf).Perm (ps'.filterMap rawOf) := hp.filterMap _
  refine ⟨rfl, rfl, hr.contains_eq, ?_⟩
  simp only [specOfRules, RulesF.compile]
  rw [compileRule_eq, compileRule_eq, hr.contains_eq, hr.contains_eq]
  exact hr.filterMap _

theorem spec_perm (o : RulesF.Oracles) {ps ps' : List Pair} (ex : Bytes) (hp : ps.Perm ps') (tok : Bytes) :
    RulesF.litOKFull o (specOfRules ex ps) tok = RulesF.litOKFull o (specOfRules ex ps') tok := by
  obtain ⟨h1, h2, h3, h4⟩ := specOfRules_perm ex hp
  exact litOKFull_congr o _ _ h1 h2 h3 (fun _ => h4.mem_iff) tok

/-! ### the validator machine on one literal leaf -/

section Machine
variable (env : VK.Env Lit) (kOK : String → String → Bool)

/-- the states a literal leaf can be in: gone, or waiting (live or not). `Rel l l'` is a bisimulation of the machine
on the two leaves when they have the same `litOK` (`stepG_rel`, `runQ_rel`). -/
inductive Rel (l l' : Lit) : List (VK.T Lit) → List (VK.T Lit) → Prop
  | nil : Rel l l' [] []
  | one (b : Bool) : Rel l l' [.node (.lit l) b []] [.node (.lit l') b []]

/-- one step of the machine on a literal leaf: only a `literal-end` event looks at the node, through `litOK` -/
theorem stepG_leaf (l : Lit) (b : Bool) (e : VN.Ev (List UInt8)) :
    VK.stepG env litOK kOK [.node (.lit l) b []] e =
      if b then
        match e with
        | .litB => ([.node (.lit l) true []], false)
        | .litE d => ([], litOK l d)
        | _ => ([], false)
      else ([], false) := by
  cases b
  · simp [VK.stepG, VK.stepT, VK.own, VK.assemble]
  · cases e <;> simp only [VK.stepG, VK.stepT, VK.own, VK.assemble, VK.feed1] <;>
      first | rfl | (rename_i d; cases litOK l d <;> rfl)

theorem stepG_rel (l l' : Lit) (h : ∀ d, litOK l d = litOK l' d) (g g' : List (VK.T Lit)) (hr : Rel l l' g g')
    (e : VN.Ev (List UInt8)) :
    Rel l l' (VK.stepG env litOK kOK g e).1 (VK.stepG env litOK kOK g' e).1 ∧
      (VK.stepG env litOK kOK g e).2 = (VK.stepG env litOK kOK g' e).2 := by
  cases hr with
  | nil => exact ⟨.nil, rfl⟩
  | one b =>
    rw [stepG_leaf, stepG_leaf]
    cases b
    · exact ⟨.nil, rfl⟩
    · cases e <;> first | exact ⟨.nil, rfl⟩ | exact ⟨.one true, rfl⟩ | exact ⟨.nil, h _⟩

/-- what a caller observes of a run: whether the stack is empty, and the verdict -/
def obs (r : Option (List (VK.T Lit) × Bool)) : Option (Bool × Bool) := r.map fun p => (p.1.isEmpty, p.2)

theorem rel_isEmpty {l l' : Lit} {g g' : List (VK.T Lit)} (h : Rel l l' g g') : g.isEmpty = g'.isEmpty := by
  cases h <;> rfl

theorem runQ_rel (l l' : Lit) (h : ∀ d, litOK l d = litOK l' d) : ∀ (evs : List (VN.Ev (List UInt8)))
    (g g' : List (VK.T Lit)), Rel l l' g g' →
    obs (VK.runQ env litOK kOK g evs) = obs (VK.runQ env litOK kOK g' evs)
  | [], g, g', hr => by simp only [VK.runQ, obs, Option.map_some, rel_isEmpty hr]
  | e :: es, g, g', hr => by
    obtain ⟨h1, h2⟩ := stepG_rel env kOK l l' h g g' hr e
    simp only [VK.runQ]
    by_cases hes : es.isEmpty = true
    · simp only [hes, if_true, obs, Option.map_some, rel_isEmpty h1, h2]
    · simp only [hes, h2]
      by_cases hb : (VK.stepG env litOK kOK g' e).2 = true
      · simp only [hb, if_true, Bool.false_eq_true, if_false]
      · simp only [hb, Bool.false_eq_true, if_false]
        exact runQ_rel l l' h es _ _ h1

end Machine

theorem heads_lit (l : Lit) : (VK.heads ([] : VK.Env Lit) (.lit l)).map VK.leafT = [.node (.lit l) true []] := rfl

/-- the document part sees a literal node only through its verdicts -/
theorem afterCheck_lit_congr (s s' : RulesF.LitSpecF) (h : ∀ d, litOK (.node s) d = litOK (.node s') d) (doc : List UInt8) :
    E2E.afterCheck (.lit s false) [] doc = E2E.afterCheck (.lit s' false) [] doc := by
  have hq := fun evs => runQ_rel [] (keyOK []) (.node s) (.node s') h evs _ _ (Rel.one true)
  have hv : ∀ evs, E2E.validateEvs [] (keyOK []) (.lit (.node s)) evs = E2E.validateEvs [] (keyOK []) (.lit (.node s')) evs := by
    intro evs
    have := hq evs
    unfold E2E.validateEvs
    rw [heads_lit, heads_lit]
    revert this
    cases VK.runQ [] litOK (keyOK []) [.node (.lit (.node s)) true []] evs <;>
      cases VK.runQ [] litOK (keyOK []) [.node (.lit (.node s')) true []] evs <;> simp [obs]
  have hf : ∀ evs, E2E.failedOn [] (keyOK []) (.lit (.node s)) evs = E2E.failedOn [] (keyOK []) (.lit (.node s')) evs := by
    intro evs
    have := hq evs
    unfold E2E.failedOn
    rw [heads_lit, heads_lit]
    revert this
    cases VK.runQ [] litOK (keyOK []) [.node (.lit (.node s)) true []] evs <;>
      cases VK.runQ [] litOK (keyOK []) [.node (.lit (.node s')) true []] evs <;> simp [obs]
    intro h1 h2; rw [h1, h2]
  have henv : ∀ x, envOf (CN.lit x false) [] = [] := fun x => by simp [envOf, synth]
  unfold E2E.afterCheck
  simp only [henv, toVK, hv, hf]
  rfl

/-- **`validateText` on a schema that loads into one literal node**, for EVERY document text -/
theorem validateText_lit (t : List UInt8) (spec : RulesF.LitSpecF)
    (hs : E2E.loadSchema t false = .ok (some (.lit spec false))) (doc : List UInt8) :
    E2E.validateText t [] doc = match litErr spec spec.ex with
      | some c => .schemaErr c 0
      | none => E2E.afterCheck (.lit spec false) [] doc := by
  rw [E2E.validateText_loaded (types := []) hs List.nodup_nil rfl rfl, check_lit]
  cases litErr spec spec.ex <;> rfl

/-- `Validate` on a document that is one scalar token with white space around it, against one literal node -/
theorem afterCheck_scalar (spec : RulesF.LitSpecF) (d ws0 ws1 : List UInt8)
    (hd : JsonScan.IsScalar (d.map JsonScan.classify))
    (hw0 : JsonScan.IsWs (ws0.map JsonScan.classify)) (hw1 : JsonScan.IsWs (ws1.map JsonScan.classify)) :
    E2E.afterCheck (.lit spec false) [] (ws0 ++ (d ++ ws1)) = if RulesF.litOKFull noOracles spec d then .acc else .rej := by
  have h := E2E.afterCheck_valid (.lit spec false) [] rfl rfl (.scalar d)
    (by simpa [VPos.toJA, JsonScan.JA.Valid] using hd) ws0 ws1 hw0 hw1
  have halts : VK.alts (envOf (CN.lit spec false) []) (.lit (.node spec)) = [.lit (.node spec)] := rfl
  simpa only [VPos.T.render, toVK, VK.shape, halts, List.any_cons, List.any_nil, Bool.or_false, E2E.docOf, VPos.strip,
    VK.shapeA, litOK] using h

end C02T
