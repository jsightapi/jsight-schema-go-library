import JSight.C02TextNames
import JSight.ListFacts
/-!
C02 at TEXT level: the SPEC form and the rule order.

* `litOKFull_congr` / `litOKFull_perm`: `ValidateLiteralValue` depends on the validator LIST only through its members
  (every validator must pass; the kind gate asks whether an `enum` is among them);
* `okCreate_iff`: the constraint constructors accept the rules exactly when the names are pairwise distinct and each rule passes
  alone; `facts_of_okCreate`: then `nullable` / `const` carry a boolean;
* `spec_eq_compiled`: under these facts the node `compileNode` leaves (`compiledOf`: validators in written order, the
  format last, exclusive flags read off the FIRST rule of that name) and `RulesF.compile` of the parsed pairs
  (`specOfRules`) have the same kind, example, nullable flag and the same validators as a set;

That the stages' conditions and the verdict are invariant under permutation of the pairs (`okRules_perm`, `spec_perm`)
is in `C02TextPerm`.
-/
namespace C02T
open Compile

/-! ### `litOKFull` and the validator list -/

/-- **the verdict depends on the validators as a SET** -/
theorem litOKFull_congr (o : RulesF.Oracles) (l l' : RulesF.LitSpecF) (hk : l.kind = l'.kind) (he : l.ex = l'.ex)
    (hn : l.nul = l'.nul) (hr : ∀ r, r ∈ l.rules ↔ r ∈ l'.rules) (tok : Bytes) :
    RulesF.litOKFull o l tok = RulesF.litOKFull o l' tok := by
  unfold RulesF.litOKFull RulesF.kindGate RulesF.hasEnum
  rw [hk, he, hn, List.any_congr_mem _ hr, List.all_congr_mem _ hr]

/-- … in particular up to permutation -/
theorem litOKFull_perm (o : RulesF.Oracles) (l : RulesF.LitSpecF) (rs' : List RulesF.Rule) (hp : l.rules.Perm rs')
    (tok : Bytes) : RulesF.litOKFull o l tok = RulesF.litOKFull o { l with rules := rs' } tok :=
  litOKFull_congr o l { l with rules := rs' } rfl rfl rfl (fun _ => hp.mem_iff) tok

/-- the validators that call the standard library -/
def usesStd : RulesF.Rule → Bool
  | .regex _ => true
  | .fmt .email | .fmt .uri | .fmt .datetime => true
  | _ => false

theorem ruleOK_oracle (o o' : RulesF.Oracles) (ex tok : Bytes) (r : RulesF.Rule) (h : usesStd r = false) :
    RulesF.ruleOK o ex tok r = RulesF.ruleOK o' ex tok r := by
  cases r with
  | regex p => simp [usesStd] at h
  | fmt f => cases f <;> first | rfl | simp [usesStd] at h
  | _ => rfl

theorem litOKFull_oracle (o o' : RulesF.Oracles) (l : RulesF.LitSpecF) (h : ∀ r ∈ l.rules, usesStd r = false) (tok : Bytes) :
    RulesF.litOKFull o l tok = RulesF.litOKFull o' l tok := by
  unfold RulesF.litOKFull
  have : l.rules.all (RulesF.ruleOK o l.ex tok) = l.rules.all (RulesF.ruleOK o' l.ex tok) := by
    rw [Bool.eq_iff_iff]
    simp only [List.all_eq_true]
    exact ⟨fun H r hr => (ruleOK_oracle o o' l.ex tok r (h r hr)) ▸ H r hr,
      fun H r hr => (ruleOK_oracle o o' l.ex tok r (h r hr)).symm ▸ H r hr⟩
  rw [this]

/-! ### what `okCreate` implies -/

def mkR (p : Pair) : Rule := { name := p.1, gen := false, val := some p.2, pos := 0, npos := 0 }

theorem mk_eq (ps : List Pair) : mk ps = ps.map mkR := rfl

theorem known_eq (n : Bytes) : knownRules.contains n = (tagOf n != .other) := by
  simp only [knownRules, List.map_cons, List.map_nil, List.contains_cons, List.contains_nil]
  tag_rw
  generalize tagOf n = t
  cases t <;> rfl

/-- `createRule` on a written pair, its chain of name comparisons sorted by tag; `dup` says the name was seen before -/
def crTag (t : Tag) (v : Bytes) (dup : Bool) : Except Err Unit :=
  let last : Except Err Unit := if dup then .error (.code 501 0) else .ok ()
  match t with
  | .other => .error (.code 601 0)
  | .or => if dup then .error (.code 501 0) else
      match scalarItems v with
      | none => .error (.unsupported "or: not an array of literals")
      | some items =>
        if !(items.all fun it => !Unquote.inQuotes it || isUserTypeName (unq it)) then
          .error (.unsupported "or: scalar type name")
        else if !items.all Unquote.inQuotes then .error (.code 904 0)
        else if items.length == 0 then .error (.code 902 0)
        else if items.length == 1 then .error (.code 903 0)
        else last
  | .enum => if dup then .error (.code 501 0) else
      match scalarItems v with
      | none => .error (.unsupported "enum: not an array of literals")
      | some items =>
        if items.any fun it => (RulesF.enumItem it).isNone then .error (.unsupported "enum: item kind")
        else if !((items.map RulesF.enumItem).eraseDups.length == items.length) then .error (.code 810 0)
        else last
  | .allOf => if dup then .error (.code 501 0) else .error (.unsupported "allOf")
  | .regex => .error (.unsupported "regex")
  | .minItems | .maxItems => .error (.unsupported "minItems / maxItems")
  | .minLength | .maxLength =>
    match parseUint v with
    | none => .error (.code 604 0)
    | some _ => if v.length > 18 then .error (.unsupported "huge length") else last
  | .precision =>
    match parseUint v with
    | none => .error (.code 604 0)
    | some n => if v.length > 18 then .error (.unsupported "huge precision")
                else if n == 0 then .error (.code 605 0) else last
  | .min | .max =>
    match RulesF.number v with
    | none => .error (.code 0 0)
    | some _ => last
  | .exMin | .exMax | .optional | .nullable | .const =>
    match parseBool v with
    | none => .error (.code 604 0)
    | some _ => last
  | .addProps =>
    match parseAdd v with
    | .error (.code c _) => .error (.code c 0)
    | .error e => .error e
    | .ok _ => last
  | .type => last

theorem createRule_tag (seen : List Bytes) (p : Pair) :
    createRule .lit seen (mkR p) = crTag (tagOf p.1) p.2 (seen.contains p.1) := by
  unfold createRule
  simp only [mkR, known_eq, show (Loader.NK.lit == Loader.NK.mixed) = false from rfl, Bool.false_and, Bool.and_false]
  tag_rw
  generalize tagOf p.1 = t
  cases t <;> rfl


/-- a name met before is refused whatever the value -/
theorem crTag_dup (t : Tag) (v : Bytes) : crTag t v true ≠ .ok () := by
  cases t <;> simp only [crTag, if_true] <;> (try split) <;> (try split) <;> (try split) <;> simp

theorem createRule_facts (seen : List Bytes) (p : Pair) (h : createRule .lit seen (mkR p) = .ok ()) :
    seen.contains p.1 = false ∧ ((tagOf p.1 = .nullable ∨ tagOf p.1 = .const) → (parseBool p.2).isSome = true) := by
  rw [createRule_tag] at h
  cases hs : seen.contains p.1 with
  | true => rw [hs] at h; exact absurd h (crTag_dup _ _)
  | false =>
    refine ⟨rfl, ?_⟩
    rintro (ht | ht) <;> rw [ht] at h <;> cases hb : parseBool p.2 <;> simp [crTag, hb] at h ⊢

/-- the facts about a rule set that the constraint constructors establish -/
structure Facts (ps : List Pair) : Prop where
  nodup : (ps.map (·.1)).Nodup
  bool : ∀ p ∈ ps, (tagOf p.1 = .nullable ∨ tagOf p.1 = .const) → (parseBool p.2).isSome = true

theorem createRule_seen (seen : List Bytes) (p : Pair) :
    createRule .lit seen (mkR p) = .ok () ↔ p.1 ∉ seen ∧ createRule .lit [] (mkR p) = .ok () := by
  rw [createRule_tag, createRule_tag, ← List.contains_iff_mem, List.contains_nil]
  cases seen.contains p.1
  · simp
  · simpa using crTag_dup _ _

theorem createRules_iff : ∀ (ps : List Pair) (seen : List Bytes), createRules .lit seen (mk ps) = .ok () ↔
    (ps.map (·.1)).Nodup ∧ ∀ p ∈ ps, p.1 ∉ seen ∧ createRule .lit [] (mkR p) = .ok ()
  | [], _ => by simp [mk, createRules]
  | p :: ps, seen => by
    have step : createRules .lit seen (mk (p :: ps)) = (match createRule .lit seen (mkR p) with
        | .error e => .error e
        | .ok () => createRules .lit (p.1 :: seen) (mk ps)) := rfl
    rw [step]
    simp only [List.map_cons, List.nodup_cons, List.mem_cons, forall_eq_or_imp]
    cases hc : createRule .lit seen (mkR p) with
    | error er =>
      simp only []
      constructor
      · intro h; cases h
      · rintro ⟨_, ⟨h1, h2⟩, _⟩
        have := (createRule_seen seen p).2 ⟨h1, h2⟩
        rw [hc] at this; cases this
    | ok u =>
      cases u
      have hp := (createRule_seen seen p).1 hc
      simp only []
      rw [createRules_iff ps (p.1 :: seen)]
      constructor
      · rintro ⟨hnd, h⟩
        refine ⟨⟨?_, hnd⟩, hp, fun q hq => ⟨fun hm => (h q hq).1 (List.mem_cons_of_mem _ hm), (h q hq).2⟩⟩
        intro hm
        obtain ⟨q, hq, hqe⟩ := List.mem_map.1 hm
        exact (h q hq).1 (by simp [hqe])
      · rintro ⟨⟨hn, hnd⟩, _, h⟩
        refine ⟨hnd, fun q hq => ⟨?_, (h q hq).2⟩⟩
        intro hm
        rcases List.mem_cons.1 hm with he | hm
        · exact hn (List.mem_map.2 ⟨q, hq, he⟩)
        · exact (h q hq).1 hm

theorem okCreate_iff (ps : List Pair) :
    okCreate ps = true ↔ (ps.map (·.1)).Nodup ∧ ∀ p ∈ ps, createRule .lit [] (mkR p) = .ok () := by
  have := createRules_iff ps []
  simp only [List.not_mem_nil, not_false_eq_true, true_and] at this
  rw [← this]
  exact isOk_iff

theorem facts_of_okCreate {ps : List Pair} (h : okCreate ps = true) : Facts ps :=
  have h := (okCreate_iff ps).1 h
  ⟨h.1, fun p hp => (createRule_facts [] p (h.2 p hp)).2⟩

/-! ### rule lookup by name in a list of pairs with distinct names -/

theorem findRule_mk_of_mem : ∀ (qs : List Pair), (qs.map (·.1)).Nodup → ∀ p ∈ qs, ∀ (nm : String), p.1 = sb nm →
    findRule (mk qs) nm = some (mkR p)
  | q :: qs, hnd, p, hp, nm, hn => by
    simp only [List.map_cons, List.nodup_cons] at hnd
    have e : mk (q :: qs) = mkR q :: mk qs := rfl
    simp only [findRule, e, List.find?_cons]
    by_cases hq : q.1 = sb nm
    · have : ((mkR q).name == sb nm) = true := by simpa [mkR] using hq
      simp only [this]
      rcases List.mem_cons.1 hp with rfl | hp'
      · rfl
      · exact absurd (List.mem_map.2 ⟨p, hp', by rw [hn, hq]⟩) hnd.1
    · have : ((mkR q).name == sb nm) = false := by simpa [mkR] using hq
      simp only [this]
      rcases List.mem_cons.1 hp with rfl | hp'
      · exact absurd hn hq
      · exact findRule_mk_of_mem qs hnd.2 p hp' nm hn

theorem findRule_mk_some {qs : List Pair} {nm : String} {x : Rule} (h : findRule (mk qs) nm = some x) :
    ∃ p ∈ qs, p.1 = sb nm ∧ x = mkR p := by
  unfold findRule at h
  have h1 := List.find?_some h
  have h2 := List.mem_of_find?_eq_some h
  rw [mk_eq] at h2
  obtain ⟨p, hp, rfl⟩ := List.mem_map.1 h2
  exact ⟨p, hp, by simpa [mkR] using h1, rfl⟩

theorem findRule_mk_none {qs : List Pair} {nm : String} (h : findRule (mk qs) nm = none) : ∀ p ∈ qs, p.1 ≠ sb nm := by
  unfold findRule at h
  rw [List.find?_eq_none] at h
  intro p hp he
  have := h (mkR p) (by rw [mk_eq]; exact List.mem_map_of_mem hp)
  simp [mkR, he] at this

theorem hasRule_mk (qs : List Pair) (nm : String) : hasRule (mk qs) nm = qs.any (fun p => p.1 == sb nm) := by
  simp only [hasRule, mk_eq, List.any_map]
  rfl

/-! ### `falseConstraints` on pairs -/

/-- `filt` on pairs: a `nullable` / `const` rule whose value is `false` is dropped -/
def keepP (p : Pair) : Bool :=
  !((tagOf p.1 == .nullable || tagOf p.1 == .const) && parseBool p.2 == some false)

theorem filt_mk (ps : List Pair) : filt (mk ps) = mk (ps.filter keepP) := by
  simp only [filt, mk_eq, List.filter_map]
  congr 1
  apply List.filter_congr
  intro p _
  simp only [Function.comp, mkR, keepP, eq_nullable, eq_const, Option.bind_some]

theorem nodup_filter {ps : List Pair} (h : (ps.map (·.1)).Nodup) (f : Pair → Bool) : ((ps.filter f).map (·.1)).Nodup :=
  List.Nodup.sublist (List.Sublist.map _ List.filter_sublist) h

/-! ### the two readings of one pair -/

theorem rawOf_tag (p : Pair) : rawOf p = match tagOf p.1 with
    | .min => some (.min p.2) | .max => some (.max p.2)
    | .exMin => (parseBool p.2).map .exclusiveMinimum | .exMax => (parseBool p.2).map .exclusiveMaximum
    | .nullable => (parseBool p.2).map .nullable | .const => (parseBool p.2).map .const
    | .minLength => (parseUint p.2).map .minLength | .maxLength => (parseUint p.2).map .maxLength
    | .precision => (parseUint p.2).map .precision
    | .type => some (match fmtOfType (unq p.2) with | some f => .typeFmt f | none => .typeOther)
    | .enum => (scalarItems p.2).map .enum
    | _ => none := by
  unfold rawOf
  tag_rw
  generalize tagOf p.1 = t
  cases t <;> rfl

/-- `RulesF.compileRule` with the two exclusive flags as parameters -/
def compileRuleB (e1 e2 : Bool) : RulesF.RawRule → Option RulesF.Rule
  | .nullable _ => none
  | .const v => if v then some .const else none
  | .min b => some (.min b e1)
  | .max b => some (.max b e2)
  | .exclusiveMinimum _ => none
  | .exclusiveMaximum _ => none
  | .precision p => some (.precision p)
  | .minLength n => some (.minLength n)
  | .maxLength n => some (.maxLength n)
  | .regex p => some (.regex p)
  | .enum items => some (.enum items)
  | .typeFmt f => some (.fmt f)
  | .typeOther => none

theorem compileRule_eq (raws : List RulesF.RawRule) :
    RulesF.compileRule raws = compileRuleB (raws.contains (.exclusiveMinimum true)) (raws.contains (.exclusiveMaximum true)) := by
  funext r
  cases r <;> rfl

/-- the validator `compileNode` derives from one surviving rule (the format of a `type` rule apart) -/
def gP (e1 e2 : Bool) (p : Pair) : Option RulesF.Rule :=
  match tagOf p.1 with
  | .min => some (.min p.2 e1) | .max => some (.max p.2 e2)
  | .minLength => (parseUint p.2).map .minLength | .maxLength => (parseUint p.2).map .maxLength
  | .precision => (parseUint p.2).map .precision
  | .const => some .const
  | .enum => (scalarItems p.2).map .enum
  | _ => none

/-- … the format included, a dropped rule excluded -/
def codeP (e1 e2 : Bool) (p : Pair) : Option RulesF.Rule :=
  if keepP p then (if tagOf p.1 == .type then (fmtOfType (unq p.2)).map .fmt else gP e1 e2 p) else none

/-- **one pair, read by the compiler and read by the spec**: the same validator -/
theorem codeP_eq_spec (e1 e2 : Bool) (p : Pair)
    (hb : (tagOf p.1 = .nullable ∨ tagOf p.1 = .const) → (parseBool p.2).isSome = true) :
    codeP e1 e2 p = (rawOf p).bind (compileRuleB e1 e2) := by
  rw [rawOf_tag]
  unfold codeP keepP gP
  generalize tagOf p.1 = t at hb ⊢
  cases t
  case exMin | exMax => cases parseBool p.2 <;> rfl
  case nullable => cases parseBool p.2 with
    | none => rfl
    | some b => cases b <;> rfl
  case const =>
    cases hp : parseBool p.2 with
    | none => rw [hp] at hb; simp at hb
    | some b => cases b <;> rfl
  case minLength | maxLength | precision => cases parseUint p.2 <;> rfl
  case type => cases fmtOfType (unq p.2) <;> rfl
  case enum => cases scalarItems p.2 <;> rfl
  all_goals rfl

/-! ### the flags -/

theorem tag_exMin {n : Bytes} : tagOf n = .exMin ↔ n = sb "exclusiveMinimum" := tagOf_eq_iff Tag.noConfusion
theorem tag_exMax {n : Bytes} : tagOf n = .exMax ↔ n = sb "exclusiveMaximum" := tagOf_eq_iff Tag.noConfusion
theorem tag_nullable {n : Bytes} : tagOf n = .nullable ↔ n = sb "nullable" := tagOf_eq_iff Tag.noConfusion
theorem tag_type {n : Bytes} : tagOf n = .type ↔ n = sb "type" := tagOf_eq_iff Tag.noConfusion

theorem keepP_of_tag {p : Pair} (h1 : tagOf p.1 ≠ .nullable) (h2 : tagOf p.1 ≠ .const) : keepP p = true := by
  simp [keepP, h1, h2]

/-- a boolean rule other than `nullable` / `const`, looked up in the surviving rules: present with value `true` -/
theorem boolRule_true_iff (ps : List Pair) (hnd : (ps.map (·.1)).Nodup) (nm : String) (t : Tag)
    (ht : ∀ n : Bytes, tagOf n = t ↔ n = sb nm) (h1 : t ≠ .nullable) (h2 : t ≠ .const) :
    (boolRule (mk (ps.filter keepP)) nm == some true) = true ↔
      ∃ p ∈ ps, tagOf p.1 = t ∧ parseBool p.2 = some true := by
  unfold boolRule
  constructor
  · intro h
    cases hf : findRule (mk (ps.filter keepP)) nm with
    | none => rw [hf] at h; simp at h
    | some x =>
      rw [hf] at h
      obtain ⟨p, hp, hn, rfl⟩ := findRule_mk_some hf
      exact ⟨p, (List.mem_filter.1 hp).1, (ht _).2 hn, by simpa [mkR] using h⟩
  · rintro ⟨p, hp, htag, hv⟩
    have hk : keepP p = true := keepP_of_tag (by rw [htag]; exact h1) (by rw [htag]; exact h2)
    rw [findRule_mk_of_mem _ (nodup_filter hnd keepP) p (List.mem_filter.2 ⟨hp, hk⟩) nm ((ht _).1 htag)]
    simp [mkR, hv]

theorem contains_raw_iff (ps : List Pair) (x : RulesF.RawRule) :
    (ps.filterMap rawOf).contains x = true ↔ ∃ p ∈ ps, rawOf p = some x := by
  simp only [List.contains_iff_mem, List.mem_filterMap]

/-- the three rules with a Boolean value, read back from the parsed rule -/
theorem rawOf_bool (p : Pair) (b : Bool) :
    (rawOf p = some (.exclusiveMinimum b) ↔ tagOf p.1 = .exMin ∧ parseBool p.2 = some b) ∧
    (rawOf p = some (.exclusiveMaximum b) ↔ tagOf p.1 = .exMax ∧ parseBool p.2 = some b) ∧
    (rawOf p = some (.nullable b) ↔ tagOf p.1 = .nullable ∧ parseBool p.2 = some b) := by
  rw [rawOf_tag]
  generalize tagOf p.1 = t
  cases t <;> simp
  all_goals (first | (cases parseUint p.2 <;> simp) | (cases scalarItems p.2 <;> simp) | (cases fmtOfType (unq p.2) <;> simp))

theorem rawOf_exMin (p : Pair) (b : Bool) : rawOf p = some (.exclusiveMinimum b) ↔ tagOf p.1 = .exMin ∧ parseBool p.2 = some b :=
  (rawOf_bool p b).1

theorem rawOf_exMax (p : Pair) (b : Bool) : rawOf p = some (.exclusiveMaximum b) ↔ tagOf p.1 = .exMax ∧ parseBool p.2 = some b :=
  (rawOf_bool p b).2.1

theorem rawOf_nullable (p : Pair) (b : Bool) : rawOf p = some (.nullable b) ↔ tagOf p.1 = .nullable ∧ parseBool p.2 = some b :=
  (rawOf_bool p b).2.2

theorem exMin_eq (ps : List Pair) (hnd : (ps.map (·.1)).Nodup) :
    exMinOf (mk (ps.filter keepP)) = (ps.filterMap rawOf).contains (.exclusiveMinimum true) := by
  rw [Bool.eq_iff_iff, contains_raw_iff]
  simp only [rawOf_exMin]
  exact boolRule_true_iff ps hnd "exclusiveMinimum" .exMin (fun _ => tag_exMin) (by decide) (by decide)

theorem exMax_eq (ps : List Pair) (hnd : (ps.map (·.1)).Nodup) :
    exMaxOf (mk (ps.filter keepP)) = (ps.filterMap rawOf).contains (.exclusiveMaximum true) := by
  rw [Bool.eq_iff_iff, contains_raw_iff]
  simp only [rawOf_exMax]
  exact boolRule_true_iff ps hnd "exclusiveMaximum" .exMax (fun _ => tag_exMax) (by decide) (by decide)

/-- `nullable` survives compilation ⇔ `nullable: true` is written -/
theorem nul_eq (ps : List Pair) (hf : Facts ps) :
    hasRule (mk (ps.filter keepP)) "nullable" = (ps.filterMap rawOf).contains (.nullable true) := by
  rw [Bool.eq_iff_iff, contains_raw_iff, hasRule_mk]
  simp only [rawOf_nullable, List.any_eq_true, List.mem_filter, eq_nullable, beq_iff_eq]
  constructor
  · rintro ⟨p, ⟨hp, hk⟩, ht⟩
    refine ⟨p, hp, ht, ?_⟩
    have hb := hf.bool p hp (Or.inl ht)
    cases hv : parseBool p.2 with
    | none => rw [hv] at hb; simp at hb
    | some b =>
      cases b
      · simp [keepP, ht, hv] at hk
      · rfl
  · rintro ⟨p, hp, ht, hv⟩
    exact ⟨p, ⟨hp, by simp [keepP, ht, hv]⟩, ht⟩

/-! ### the validators as a set -/

theorem litsOf_gP (qs : List Pair) :
    litsOf (mk qs) = qs.filterMap (gP (exMinOf (mk qs)) (exMaxOf (mk qs))) ++
      (match (typeVal (mk qs)).bind fmtOfType with | some f => [.fmt f] | none => []) := by
  unfold litsOf
  congr 1
  rw [mk_eq, List.filterMap_map]
  congr 1
  funext p
  simp only [Function.comp, mkR, Option.getD_some]
  tag_rw
  unfold gP
  generalize tagOf p.1 = t
  cases t <;> rfl

theorem mem_fmt_part (qs : List Pair) (hnd : (qs.map (·.1)).Nodup) (r : RulesF.Rule) :
    r ∈ (match (typeVal (mk qs)).bind fmtOfType with | some f => [RulesF.Rule.fmt f] | none => []) ↔
      ∃ p ∈ qs, tagOf p.1 = .type ∧ (fmtOfType (unq p.2)).map .fmt = some r := by
  unfold typeVal
  cases hf : findRule (mk qs) "type" with
  | none =>
    simp only [Option.map_none, Option.bind_none, List.not_mem_nil, false_iff]
    rintro ⟨p, hp, ht, _⟩
    exact findRule_mk_none hf p hp (tag_type.1 ht)
  | some x =>
    obtain ⟨p0, hp0, hn0, rfl⟩ := findRule_mk_some hf
    simp only [Option.map_some, Option.bind_some, mkR, Option.getD_some]
    constructor
    · intro h
      refine ⟨p0, hp0, tag_type.2 hn0, ?_⟩
      cases hfm : fmtOfType (unq p0.2) with
      | none => rw [hfm] at h; simp at h
      | some f => rw [hfm] at h; simp at h; simp [h]
    · rintro ⟨p, hp, ht, hr⟩
      have := findRule_mk_of_mem qs hnd p hp "type" (tag_type.1 ht)
      rw [hf] at this
      have hv : p0.2 = p.2 := by simpa [mkR] using congrArg Rule.val (Option.some.inj this)
      rw [hv]
      cases hfm : fmtOfType (unq p.2) with
      | none => rw [hfm] at hr; simp at hr
      | some f => rw [hfm] at hr; simp at hr; simp [hr]

theorem mem_litsOf (ps : List Pair) (hnd : (ps.map (·.1)).Nodup) (r : RulesF.Rule) :
    r ∈ litsOf (mk (ps.filter keepP)) ↔
      ∃ p ∈ ps, codeP (exMinOf (mk (ps.filter keepP))) (exMaxOf (mk (ps.filter keepP))) p = some r := by
  rw [litsOf_gP, List.mem_append, mem_fmt_part _ (nodup_filter hnd keepP), List.mem_filterMap]
  simp only [List.mem_filter]
  constructor
  · rintro (⟨p, ⟨hp, hk⟩, hg⟩ | ⟨p, ⟨hp, hk⟩, ht, hr⟩)
    · refine ⟨p, hp, ?_⟩
      have : (tagOf p.1 == Tag.type) = false := by
        cases h : tagOf p.1 <;> simp [gP, h] at hg ⊢
      simp [codeP, hk, this, hg]
    · exact ⟨p, hp, by simp [codeP, hk, ht, hr]⟩
  · rintro ⟨p, hp, hc⟩
    unfold codeP at hc
    cases hk : keepP p with
    | false => simp [hk] at hc
    | true =>
      simp only [hk, if_true] at hc
      cases ht : (tagOf p.1 == Tag.type) with
      | true => exact Or.inr ⟨p, ⟨hp, hk⟩, by simpa using ht, by simpa [ht] using hc⟩
      | false => exact Or.inl ⟨p, ⟨hp, hk⟩, by simpa [ht] using hc⟩

/-- **the node the compiler leaves and the node the spec describes**: same kind, example, nullable flag, and the same
validators as a set -/
theorem spec_vs_compiled (ex : Bytes) (ps : List Pair) (hf : Facts ps) :
    (specOfRules ex ps).kind = (compiledOf ex (mk ps)).kind ∧ (specOfRules ex ps).ex = (compiledOf ex (mk ps)).ex ∧
    (specOfRules ex ps).nul = (compiledOf ex (mk ps)).nul ∧
    ∀ r, r ∈ (specOfRules ex ps).rules ↔ r ∈ (compiledOf ex (mk ps)).rules := by
  refine ⟨rfl, rfl, ?_, ?_⟩
  · simp only [specOfRules, RulesF.compile, compiledOf, filt_mk]
    exact (nul_eq ps hf).symm
  · intro r
    simp only [specOfRules, RulesF.compile, compiledOf, filt_mk]
    rw [mem_litsOf ps hf.nodup, compileRule_eq, List.filterMap_filterMap, List.mem_filterMap,
      exMin_eq ps hf.nodup, exMax_eq ps hf.nodup]
    constructor
    · rintro ⟨p, hp, h⟩
      exact ⟨p, hp, by rw [codeP_eq_spec _ _ p (hf.bool p hp)]; exact h⟩
    · rintro ⟨p, hp, h⟩
      exact ⟨p, hp, by rw [← codeP_eq_spec _ _ p (hf.bool p hp)]; exact h⟩

/-- **the SPEC form of the verdict** -/
theorem spec_eq_compiled (o : RulesF.Oracles) (ex : Bytes) (ps : List Pair) (hf : Facts ps) (tok : Bytes) :
    RulesF.litOKFull o (specOfRules ex ps) tok = RulesF.litOKFull o (compiledOf ex (mk ps)) tok := by
  obtain ⟨h1, h2, h3, h4⟩ := spec_vs_compiled ex ps hf
  exact litOKFull_congr o _ _ h1 h2 h3 h4 tok

end C02T
