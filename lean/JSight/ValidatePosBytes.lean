import JSight.ValidatePosProofs
import JSight.TreeEvents
/-!
The position theorem end to end on BYTES: for a JSON document — the rendering of a tree whose tokens are tokens
of the scanner's automaton, with arbitrary blanks — the scanner model delivers the tree's events
(`JsonScan.C06_events_of_tree`) and the validator machine reports `firstOffence`.
-/
namespace VPos
open JsonScan (JA Cls classify IsWs)

variable {α L : Type}

mutual
def toJA (cl : α → Cls) : T α → JA
  | .scalar tok => .scalar (tok.map cl)
  | .arr ws0 its => .arr (ws0.map cl) (toJAItems cl its)
  | .obj ws0 ms => .obj (ws0.map cl) (toJAMembers cl ms)
def toJAItems (cl : α → Cls) : List (List α × T α × List α) → List (List Cls × JA × List Cls)
  | [] => []
  | (w1, v, w2) :: its => (w1.map cl, toJA cl v, w2.map cl) :: toJAItems cl its
def toJAMembers (cl : α → Cls) : List (List α × List α × List α × List α × T α × List α) →
    List (List Cls × List Cls × List Cls × List Cls × JA × List Cls)
  | [] => []
  | (w1, k, w2, w3, v, w4) :: ms => (w1.map cl, k.map cl, w2.map cl, w3.map cl, toJA cl v, w4.map cl) :: toJAMembers cl ms
end

theorem toJAItems_isEmpty (cl : α → Cls) (its : List (List α × T α × List α)) :
    (toJAItems cl its).isEmpty = its.isEmpty := by
  cases its with
  | nil => rfl
  | cons it its => obtain ⟨w1, v, w2⟩ := it; rfl

theorem toJAMembers_isEmpty (cl : α → Cls) (ms : List (List α × List α × List α × List α × T α × List α)) :
    (toJAMembers cl ms).isEmpty = ms.isEmpty := by
  cases ms with
  | nil => rfl
  | cons m ms => obtain ⟨w1, k, w2, w3, v, w4⟩ := m; rfl

/-- `cl` maps the punctuation symbols to their classes -/
structure SymOK (cl : α → Cls) (sy : Sym α) : Prop where
  lbrack : cl sy.lbrack = .lbrack
  rbrack : cl sy.rbrack = .rbrack
  lbrace : cl sy.lbrace = .lbrace
  rbrace : cl sy.rbrace = .rbrace
  comma : cl sy.comma = .comma
  colon : cl sy.colon = .colon

mutual
theorem render_toJA (cl : α → Cls) (sy : Sym α) (h : SymOK cl sy) (d : T α) :
    (toJA cl d).render = (d.render sy).map cl := by
  cases d with
  | scalar tok => simp [toJA, JA.render, T.render]
  | arr ws0 its => simp [toJA, JA.render, T.render, h.lbrack, renderItems_toJA cl sy h its]
  | obj ws0 ms => simp [toJA, JA.render, T.render, h.lbrace, renderMembers_toJA cl sy h ms]
theorem renderItems_toJA (cl : α → Cls) (sy : Sym α) (h : SymOK cl sy) (its : List (List α × T α × List α)) :
    JsonScan.renderItems (toJAItems cl its) = (renderItems sy its).map cl := by
  cases its with
  | nil => simp [toJAItems, JsonScan.renderItems, renderItems, h.rbrack]
  | cons it its =>
    obtain ⟨w1, v, w2⟩ := it
    simp only [toJAItems, JsonScan.renderItems, renderItems, List.map_append, render_toJA cl sy h v,
      renderItems_toJA cl sy h its, toJAItems_isEmpty]
    cases its <;> simp [h.comma]
theorem renderMembers_toJA (cl : α → Cls) (sy : Sym α) (h : SymOK cl sy)
    (ms : List (List α × List α × List α × List α × T α × List α)) :
    JsonScan.renderMembers (toJAMembers cl ms) = (renderMembers sy ms).map cl := by
  cases ms with
  | nil => simp [toJAMembers, JsonScan.renderMembers, renderMembers, h.rbrace]
  | cons m ms =>
    obtain ⟨w1, k, w2, w3, v, w4⟩ := m
    simp only [toJAMembers, JsonScan.renderMembers, renderMembers, List.map_append, List.map_cons, render_toJA cl sy h v,
      renderMembers_toJA cl sy h ms, toJAMembers_isEmpty, h.colon]
    cases ms <;> simp [h.comma]
end

theorem len_toJA (cl : α → Cls) (sy : Sym α) (h : SymOK cl sy) (d : T α) : (toJA cl d).render.length = d.len := by
  rw [render_toJA cl sy h d, List.length_map, render_length]

mutual
theorem evsAt_toJA (cl : α → Cls) (sy : Sym α) (h : SymOK cl sy) (d : T α) (o : Nat) :
    JsonScan.evsAt o (toJA cl d) = evsAt o d := by
  cases d with
  | scalar tok => simp [toJA, JsonScan.evsAt, evsAt]
  | arr ws0 its => simp [toJA, JsonScan.evsAt, evsAt, evsItems_toJA cl sy h its]
  | obj ws0 ms => simp [toJA, JsonScan.evsAt, evsAt, evsMembers_toJA cl sy h ms]
theorem evsItems_toJA (cl : α → Cls) (sy : Sym α) (h : SymOK cl sy) (its : List (List α × T α × List α)) (a o : Nat) :
    JsonScan.evsItems a o (toJAItems cl its) = evsItems a o its := by
  cases its with
  | nil => simp [toJAItems, JsonScan.evsItems, evsItems]
  | cons it its =>
    obtain ⟨w1, v, w2⟩ := it
    simp only [toJAItems, JsonScan.evsItems, evsItems, List.length_map, len_toJA cl sy h v, evsAt_toJA cl sy h v,
      evsItems_toJA cl sy h its, toJAItems_isEmpty]
theorem evsMembers_toJA (cl : α → Cls) (sy : Sym α) (h : SymOK cl sy)
    (ms : List (List α × List α × List α × List α × T α × List α)) (a o : Nat) :
    JsonScan.evsMembers a o (toJAMembers cl ms) = evsMembers a o ms := by
  cases ms with
  | nil => simp [toJAMembers, JsonScan.evsMembers, evsMembers]
  | cons m ms =>
    obtain ⟨w1, k, w2, w3, v, w4⟩ := m
    simp only [toJAMembers, JsonScan.evsMembers, evsMembers, List.length_map, len_toJA cl sy h v, evsAt_toJA cl sy h v,
      evsMembers_toJA cl sy h ms, toJAMembers_isEmpty]
end

mutual
theorem tokNE_of_valid (cl : α → Cls) (d : T α) (hv : (toJA cl d).Valid) : d.TokNE := by
  cases d with
  | scalar tok =>
    simp only [toJA, JA.Valid] at hv
    obtain ⟨c, tl, _, _, _, e, _⟩ := hv
    exact mt List.map_eq_nil_iff.2 (by rw [e]; simp)
  | arr ws0 its =>
    simp only [toJA, JA.Valid] at hv
    exact tokNEItems_of_valid cl its hv.2
  | obj ws0 ms =>
    simp only [toJA, JA.Valid] at hv
    exact tokNEMembers_of_valid cl ms hv.2
theorem tokNEItems_of_valid (cl : α → Cls) (its : List (List α × T α × List α))
    (hv : JsonScan.ValidItems (toJAItems cl its)) : TokNEItems its := by
  cases its with
  | nil => trivial
  | cons it its =>
    obtain ⟨w1, v, w2⟩ := it
    simp only [toJAItems, JsonScan.ValidItems] at hv
    exact ⟨tokNE_of_valid cl v hv.2.1, tokNEItems_of_valid cl its hv.2.2.2⟩
theorem tokNEMembers_of_valid (cl : α → Cls) (ms : List (List α × List α × List α × List α × T α × List α))
    (hv : JsonScan.ValidMembers (toJAMembers cl ms)) : TokNEMembers ms := by
  cases ms with
  | nil => trivial
  | cons m ms =>
    obtain ⟨w1, k, w2, w3, v, w4⟩ := m
    simp only [toJAMembers, JsonScan.ValidMembers] at hv
    obtain ⟨_, ⟨tl, e, _⟩, _, _, hvv, _, hms⟩ := hv
    exact ⟨mt List.map_eq_nil_iff.2 (by rw [e]; simp), tokNE_of_valid cl v hvv, tokNEMembers_of_valid cl ms hms⟩
end

theorem byteSymOK : SymOK classify byteSym := ⟨by decide, by decide, by decide, by decide, by decide, by decide⟩

/-- the scanner model on the text of a document tree, blanks before and after: no error, and the tree's events -/
theorem events_render (d : T UInt8) (hv : (toJA classify d).Valid) (ws0 ws1 : List UInt8)
    (h0 : IsWs (ws0.map classify)) (h1 : IsWs (ws1.map classify)) :
    JsonScan.events false (ws0 ++ (d.render byteSym ++ ws1)) = .ok (evsAt ws0.length d) := by
  have hev := JsonScan.C06_events_of_tree false (toJA classify d) hv _ _ h0 h1
  have hmap : (ws0 ++ (d.render byteSym ++ ws1)).map classify
      = ws0.map classify ++ ((toJA classify d).render ++ ws1.map classify) := by
    rw [render_toJA classify byteSym byteSymOK d]; simp
  unfold JsonScan.events
  rw [hmap, ← List.length_map (f := classify), hmap, hev, List.length_map, evsAt_toJA classify byteSym byteSymOK d]

/-- **scanner + validator on bytes**: for every JSON document (a tree of scanner tokens rendered with arbitrary
blanks, blanks before and after) and every schema of the fragment, `validateBytes` returns the first offence of
the spec: its code and the byte offset of the offending value or key in the document -/
theorem validateBytes_tree (p : P UInt8 L) (s : S L) (d : T UInt8) (hv : (toJA classify d).Valid)
    (ws0 ws1 : List UInt8) (h0 : IsWs (ws0.map classify)) (h1 : IsWs (ws1.map classify)) :
    validateBytes p s (ws0 ++ (d.render byteSym ++ ws1)) = .ok (Res.ofSpec (firstOffence p s ws0.length d)) := by
  rw [validateBytes, events_render d hv ws0 ws1 h0 h1]
  simp only [Except.map]
  rw [validatePos_render p byteSym s d (tokNE_of_valid classify d hv) ws0 ws1]

end VPos
