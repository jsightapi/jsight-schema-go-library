import JSight.SchemaLenAnnStep
-- not `AnnotDoc`: its `SchemaScan.IsSpTabs` would take the place of `Len.IsSpTabs` in the statements of the C14 modules downstream
import JSight.AnnotQObj
/-!
C14, annotated schemas: `cfgAL lc a` is `cfgG lc a false`, so the runs through blanks, names, tokens and rule objects
inside an annotation are those of `AnnotRun` … `AnnotQObj`.
-/
namespace SchemaScan
namespace Len

variable {lc : Bool} {data : Array Cls}

theorem cfgAL_eq : @cfgAL = fun lc a => @cfgG lc a false := rfl

theorem cfgAL_byte {a : Ann} {st : St} {r : List St} {K : List (LexT × Nat)} {u : Bool} {i : Nat} {CS : List Ctx}
    {cx : Ctx} {al : Bool} {c : Cls} {s1 s2 : Sc} {evs : List Ev} (hc : data[i]? = some c)
    (hd : ∀ p1 p2, dispatch 8 st (cfgAL lc a st r K u (i + 1) CS cx al) c p1 p2 = .ok s1)
    (hi : s1.index = i + 1) (hdr : drainL data s1.finds s1 = .ok (s2, evs)) :
    Path data (cfgAL lc a st r K u i CS cx al) evs s2 :=
  cfgG_byte (q := false) hc hd hi hdr

theorem ABlank.head {a : Ann} {c : Cls} {ws : List Cls} (h : ABlank a (c :: ws)) : a.okBlank c = true := SchemaScan.ABlank.head h
theorem ABlank.tail {a : Ann} {c : Cls} {ws : List Cls} (h : ABlank a (c :: ws)) : ABlank a ws := SchemaScan.ABlank.tail h

end Len
end SchemaScan
