import JSight.SchemaNextA
/-! The drain loops `events` / `lengthLoop` never crash: each call of `next` lowers the bound `m` of `RunInv`. -/
namespace SchemaScan

/-- run invariant with a bound `m` on the number of `next` calls still needed: before the end of input `Phi` events, then
at most two closing ones (`muB < 2`) and the call that answers the end, hence `+ 3`; `8 (N + 1) + 3 ≤ 8 N + 16`, the fuel of
`scanAll` / `length` (`RunInv_init`).  `3 * size + 16` is the fuel these loops give `next`, more than the `size + 1 - index`
silent reads `next_A` needs. -/
def RunInv (N : Nat) (s : Sc) (m : Nat) : Prop :=
  (Inv s ∧ s.index ≤ N ∧ Phi N s + 3 ≤ m) ∨
  (PB N s ∧ muB s.finds (s.stack.map (·.1)) + 1 ≤ m)

theorem next_run {data : Array Cls} {s : Sc} {m : Nat}
    (h : RunInv data.size s (m + 1)) :
    NPost (fun s' => RunInv data.size s' m) (next data (3 * data.size + 16) s) := by
  rcases h with ⟨hI, hidx, hm⟩ | ⟨hP, hm⟩
  · have := next_A (3 * data.size + 16) s hI hidx (by omega)
    revert this
    cases next data (3 * data.size + 16) s with
    | error e => exact id
    | ok r =>
      cases r with
      | none => exact id
      | some r =>
        obtain ⟨s', e⟩ := r
        rintro (⟨h1, h2, h3⟩ | ⟨h1, h2⟩)
        · exact Or.inl ⟨h1, h2, by omega⟩
        · exact Or.inr ⟨h1, by omega⟩
  · have := next_B (fuel := 3 * data.size + 15) hP
    revert this
    cases next data (3 * data.size + 15 + 1) s with
    | error e => exact id
    | ok r =>
      cases r with
      | none => exact id
      | some r =>
        obtain ⟨s', e⟩ := r
        rintro ⟨h1, h2⟩
        exact Or.inr ⟨h1, by omega⟩

theorem RunInv.pos {N s} (h : RunInv N s 0) : False := by
  rcases h with ⟨_, _, h⟩ | ⟨_, h⟩ <;> omega

theorem events_ok {data : Array Cls} : ∀ (fuel : Nat) (s : Sc) (acc : List Ev),
    RunInv data.size s fuel → ∀ e, events data fuel s acc = .error e → e.isCrash = false := by
  intro fuel
  induction fuel with
  | zero => intro s acc h; exact absurd h.pos id
  | succ fuel ih =>
    intro s acc h e he
    have hn := next_run h
    unfold events at he
    simp only [bind, Except.bind, pure, Except.pure] at he
    cases hnx : next data (3 * data.size + 16) s with
    | error e' =>
      rw [hnx] at hn he
      cases he
      exact hn
    | ok r =>
      rw [hnx] at hn he
      cases r with
      | none => cases he
      | some r =>
        obtain ⟨s', ev⟩ := r
        exact ih s' _ hn e he

theorem lengthLoop_ok {data : Array Cls} : ∀ (fuel : Nat) (s : Sc) (len : Nat),
    RunInv data.size s fuel → ∀ e, lengthLoop data fuel s len = .error e → e.isCrash = false := by
  intro fuel
  induction fuel with
  | zero => intro s acc h; exact absurd h.pos id
  | succ fuel ih =>
    intro s len h e he
    have hn := next_run h
    unfold lengthLoop at he
    simp only [bind, Except.bind, pure, Except.pure] at he
    cases hnx : next data (3 * data.size + 16) s with
    | error e' =>
      rw [hnx] at hn he
      cases he
      exact hn
    | ok r =>
      rw [hnx] at hn he
      cases r with
      | none => cases he
      | some r =>
        obtain ⟨s', ev⟩ := r
        dsimp only at he
        split at he
        · cases he
        · exact ih s' _ hn e he

theorem Inv_init (lc : Bool) : Inv { lengthComputing := lc } :=
  ⟨[], ⟨rfl, rfl⟩, Good.foundRoot⟩

theorem RunInv_init (N : Nat) (lc : Bool) : RunInv N { lengthComputing := lc } (8 * N + 16) := by
  refine Or.inl ⟨Inv_init lc, Nat.zero_le _, ?_⟩
  show 8 * (N + 1 - 0) + 0 + 0 + 3 ≤ 8 * N + 16
  omega

end SchemaScan
