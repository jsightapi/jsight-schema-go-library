import JSight.CommentLoad
/-!
C13, schema side, layouts without comments: a tree whose layouts are blank is a plain-JSON tree (`plain_valid`). The
text of a tree, whatever its blanks and line ends, is loaded (scanner model + loader model, `Loader.loadText`) into the
table of its value: `load_plain`, the case of `load_comments` without an unterminated last comment (it holds whether or
not the layouts are blank). Consequences: line-end style (`line_end_style`) and indentation (`indentation`) are invisible.
-/
namespace Lay
open SchemaScan (classify Tree IsWs)

mutual
theorem plain_valid : (t : BTree) → t.Valid → t.Plain → t.toTree.Valid
  | .scalar tok, hv, _ => by simpa [BTree.toTree, Tree.Valid, BTree.Valid] using hv
  | .arr w0 its, hv, hp => by
    obtain ⟨h0, hi⟩ : ValidL w0 ∧ ValidItems its := by simpa [BTree.Valid] using hv
    obtain ⟨p0, pi⟩ : PlainL w0 ∧ PlainItems its := by simpa [BTree.Plain] using hp
    simpa [BTree.toTree, Tree.Valid] using And.intro (isWs_clsL h0 p0) (plain_items its hi pi)
  | .obj w0 ms, hv, hp => by
    obtain ⟨h0, hi⟩ : ValidL w0 ∧ ValidMembers ms := by simpa [BTree.Valid] using hv
    obtain ⟨p0, pi⟩ : PlainL w0 ∧ PlainMembers ms := by simpa [BTree.Plain] using hp
    simpa [BTree.toTree, Tree.Valid] using And.intro (isWs_clsL h0 p0) (plain_members ms hi pi)
theorem plain_items : (its : List BItem) → ValidItems its → PlainItems its → SchemaScan.ValidItems (toItems its)
  | [], _, _ => by simp [toItems, SchemaScan.ValidItems]
  | (w1, v, w2) :: its, hv, hp => by
    obtain ⟨h1, hvv, h2, hits⟩ : ValidL w1 ∧ v.Valid ∧ ValidL w2 ∧ ValidItems its := by simpa [ValidItems] using hv
    obtain ⟨p1, pv, p2, pits⟩ : PlainL w1 ∧ v.Plain ∧ PlainL w2 ∧ PlainItems its := by simpa [PlainItems] using hp
    simpa [toItems, SchemaScan.ValidItems] using And.intro (isWs_clsL h1 p1)
      (And.intro (plain_valid v hvv pv) (And.intro (isWs_clsL h2 p2) (plain_items its hits pits)))
theorem plain_members : (ms : List BMember) → ValidMembers ms → PlainMembers ms →
    SchemaScan.ValidMembers (toMembers ms)
  | [], _, _ => by simp [toMembers, SchemaScan.ValidMembers]
  | (w1, k, w2, w3, v, w4) :: ms, hv, hp => by
    obtain ⟨h1, hk, ⟨h2, p2⟩, ⟨h3, p3⟩, hvv, h4, hms⟩ :
        ValidL w1 ∧ SchemaScan.IsKey (k.map classify) ∧ (ValidL w2 ∧ PlainL w2) ∧ (ValidL w3 ∧ PlainL w3) ∧ v.Valid ∧
          ValidL w4 ∧ ValidMembers ms := by
      simpa [ValidMembers] using hv
    obtain ⟨p1, pv, p4, pms⟩ : PlainL w1 ∧ v.Plain ∧ PlainL w4 ∧ PlainMembers ms := by
      simpa [PlainMembers] using hp
    simpa [toMembers, SchemaScan.ValidMembers] using And.intro (isWs_clsL h1 p1) (And.intro hk
      (And.intro (isWs_clsL h2 p2) (And.intro (isWs_clsL h3 p3) (And.intro (plain_valid v hvv pv)
        (And.intro (isWs_clsL h4 p4) (plain_members ms hms pms))))))
end

/-- **the text of a plain-JSON tree loads into the table of its value**: scanner model and loader model interleaved
as in `doLoad`; the result, read against the text, keeps nothing of the layout. The case of `load_comments` without an
unterminated last comment (whether the layouts hold comments plays no part). -/
theorem load_plain (t : BTree) (hv : t.Valid) (hk : t.value.KeysNodup) (w0 w1 : List LI) (h0 : ValidL w0) (h1 : ValidL w1) :
    ∃ st, Loader.loadText (docText w0 t w1) = .ok st ∧ st.root = some 0 ∧
      absTable (docText w0 t w1).toArray st = tableOf none 0 t.value := by
  rw [← docTextF_nil]
  exact load_comments t hv hk w0 w1 h0 h1 [] (Or.inl rfl)

/-- two layouts of one value: the same table -/
theorem indentation (t t' : BTree) (hv : t.Valid) (hv' : t'.Valid) (hp : t.Plain) (hp' : t'.Plain)
    (hs : t.value = t'.value) (hk : t.value.KeysNodup) (w0 w1 w0' w1' : List LI)
    (h0 : ValidL w0) (p0 : PlainL w0) (h1 : ValidL w1) (p1 : PlainL w1)
    (h0' : ValidL w0') (p0' : PlainL w0') (h1' : ValidL w1') (p1' : PlainL w1') :
    ∃ st st', Loader.loadText (docText w0 t w1) = .ok st ∧ Loader.loadText (docText w0' t' w1') = .ok st' ∧
      st.root = st'.root ∧
      absTable (docText w0 t w1).toArray st = absTable (docText w0' t' w1').toArray st' := by
  rw [← docTextF_nil, ← docTextF_nil]
  exact comments_invisible t t' hv hv' hs hk w0 w1 w0' w1' h0 h1 h0' h1' [] [] (.inl rfl) (.inl rfl)

/-! ### line ends -/

/-- a line break: LF, CR or CR LF -/
def IsLB (x : List LI) : Prop := x = [.blank 10] ∨ x = [.blank 13] ∨ x = [.blank 13, .blank 10]

/-- `w'` is `w` with every line break re-spelled (each one on its own) -/
inductive LEVar : List LI → List LI → Prop
  | nil : LEVar [] []
  | same (b : UInt8) {w w' : List LI} : isBlankB b = true → isNlB b = false → LEVar w w' →
      LEVar (.blank b :: w) (.blank b :: w')
  | lb (x y : List LI) {w w' : List LI} : IsLB x → IsLB y → LEVar w w' → LEVar (x ++ w) (y ++ w')

mutual
/-- `t'` is `t` with every layout replaced by a related one -/
def BTree.Rel (R : List LI → List LI → Prop) : BTree → BTree → Prop
  | .scalar a, .scalar b => a = b
  | .arr w its, .arr w' its' => R w w' ∧ RelItems R its its'
  | .obj w ms, .obj w' ms' => R w w' ∧ RelMembers R ms ms'
  | .scalar _, .arr _ _ => False
  | .scalar _, .obj _ _ => False
  | .arr _ _, .scalar _ => False
  | .arr _ _, .obj _ _ => False
  | .obj _ _, .scalar _ => False
  | .obj _ _, .arr _ _ => False
def RelItems (R : List LI → List LI → Prop) : List BItem → List BItem → Prop
  | [], [] => True
  | (w1, v, w2) :: its, (w1', v', w2') :: its' => R w1 w1' ∧ v.Rel R v' ∧ R w2 w2' ∧ RelItems R its its'
  | [], _ :: _ => False
  | _ :: _, [] => False
def RelMembers (R : List LI → List LI → Prop) : List BMember → List BMember → Prop
  | [], [] => True
  | (w1, k, w2, w3, v, w4) :: ms, (w1', k', w2', w3', v', w4') :: ms' =>
    R w1 w1' ∧ k = k' ∧ R w2 w2' ∧ R w3 w3' ∧ v.Rel R v' ∧ R w4 w4' ∧ RelMembers R ms ms'
  | [], _ :: _ => False
  | _ :: _, [] => False
end

mutual
theorem rel_value (R : List LI → List LI → Prop) : (t t' : BTree) → t.Rel R t' → t.value = t'.value
  | .scalar a, .scalar b, h => by simp only [BTree.Rel] at h; simp [BTree.value, h]
  | .arr w its, .arr w' its', h => by
    simp only [BTree.Rel] at h
    simp only [BTree.value, rel_valueItems R its its' h.2]
  | .obj w ms, .obj w' ms', h => by
    simp only [BTree.Rel] at h
    simp only [BTree.value, rel_valueMembers R ms ms' h.2]
  | .scalar _, .arr _ _, h | .scalar _, .obj _ _, h | .arr _ _, .scalar _, h | .arr _ _, .obj _ _, h
  | .obj _ _, .scalar _, h | .obj _ _, .arr _ _, h => by simp [BTree.Rel] at h
theorem rel_valueItems (R : List LI → List LI → Prop) : (its its' : List BItem) → RelItems R its its' →
    valueItems its = valueItems its'
  | [], [], _ => rfl
  | (w1, v, w2) :: its, (w1', v', w2') :: its', h => by
    simp only [RelItems] at h
    simp only [valueItems, rel_value R v v' h.2.1, rel_valueItems R its its' h.2.2.2]
  | [], _ :: _, h => by simp [RelItems] at h
  | _ :: _, [], h => by simp [RelItems] at h
theorem rel_valueMembers (R : List LI → List LI → Prop) : (ms ms' : List BMember) → RelMembers R ms ms' →
    valueMembers ms = valueMembers ms'
  | [], [], _ => rfl
  | (w1, k, w2, w3, v, w4) :: ms, (w1', k', w2', w3', v', w4') :: ms', h => by
    simp only [RelMembers] at h
    simp only [valueMembers, h.2.1, rel_value R v v' h.2.2.2.2.1, rel_valueMembers R ms ms' h.2.2.2.2.2.2]
  | [], _ :: _, h => by simp [RelMembers] at h
  | _ :: _, [], h => by simp [RelMembers] at h
end

/-- blank layouts -/
def BlankL (w : List LI) : Prop := ValidL w ∧ PlainL w

mutual
theorem rel_valid (R : List LI → List LI → Prop) (hR : ∀ w w', R w w' → BlankL w → BlankL w') :
    (t t' : BTree) → t.Rel R t' → t.Valid → t.Plain → t'.Valid ∧ t'.Plain
  | .scalar a, .scalar b, h, hv, _ => by
    simp only [BTree.Rel] at h
    subst h
    exact ⟨hv, by simp [BTree.Plain]⟩
  | .arr w its, .arr w' its', h, hv, hp => by
    simp only [BTree.Rel] at h
    obtain ⟨h0, hi⟩ : ValidL w ∧ ValidItems its := by simpa [BTree.Valid] using hv
    obtain ⟨p0, pi⟩ : PlainL w ∧ PlainItems its := by simpa [BTree.Plain] using hp
    obtain ⟨a, b⟩ := hR w w' h.1 ⟨h0, p0⟩
    obtain ⟨c, d⟩ := rel_validItems R hR its its' h.2 hi pi
    exact ⟨by simpa [BTree.Valid] using And.intro a c, by simpa [BTree.Plain] using And.intro b d⟩
  | .obj w ms, .obj w' ms', h, hv, hp => by
    simp only [BTree.Rel] at h
    obtain ⟨h0, hi⟩ : ValidL w ∧ ValidMembers ms := by simpa [BTree.Valid] using hv
    obtain ⟨p0, pi⟩ : PlainL w ∧ PlainMembers ms := by simpa [BTree.Plain] using hp
    obtain ⟨a, b⟩ := hR w w' h.1 ⟨h0, p0⟩
    obtain ⟨c, d⟩ := rel_validMembers R hR ms ms' h.2 hi pi
    exact ⟨by simpa [BTree.Valid] using And.intro a c, by simpa [BTree.Plain] using And.intro b d⟩
  | .scalar _, .arr _ _, h, _, _ | .scalar _, .obj _ _, h, _, _ | .arr _ _, .scalar _, h, _, _
  | .arr _ _, .obj _ _, h, _, _ | .obj _ _, .scalar _, h, _, _ | .obj _ _, .arr _ _, h, _, _ => by
    simp [BTree.Rel] at h
theorem rel_validItems (R : List LI → List LI → Prop) (hR : ∀ w w', R w w' → BlankL w → BlankL w') :
    (its its' : List BItem) → RelItems R its its' → ValidItems its → PlainItems its →
    ValidItems its' ∧ PlainItems its'
  | [], [], _, _, _ => ⟨by simp [ValidItems], by simp [PlainItems]⟩
  | (w1, v, w2) :: its, (w1', v', w2') :: its', h, hv, hp => by
    simp only [RelItems] at h
    obtain ⟨h1, hvv, h2, hits⟩ : ValidL w1 ∧ v.Valid ∧ ValidL w2 ∧ ValidItems its := by simpa [ValidItems] using hv
    obtain ⟨p1, pv, p2, pits⟩ : PlainL w1 ∧ v.Plain ∧ PlainL w2 ∧ PlainItems its := by simpa [PlainItems] using hp
    obtain ⟨a1, b1⟩ := hR w1 w1' h.1 ⟨h1, p1⟩
    obtain ⟨a2, b2⟩ := hR w2 w2' h.2.2.1 ⟨h2, p2⟩
    obtain ⟨c, d⟩ := rel_valid R hR v v' h.2.1 hvv pv
    obtain ⟨e, f⟩ := rel_validItems R hR its its' h.2.2.2 hits pits
    exact ⟨by simpa [ValidItems] using And.intro a1 (And.intro c (And.intro a2 e)),
      by simpa [PlainItems] using And.intro b1 (And.intro d (And.intro b2 f))⟩
  | [], _ :: _, h, _, _ => by simp [RelItems] at h
  | _ :: _, [], h, _, _ => by simp [RelItems] at h
theorem rel_validMembers (R : List LI → List LI → Prop) (hR : ∀ w w', R w w' → BlankL w → BlankL w') :
    (ms ms' : List BMember) → RelMembers R ms ms' → ValidMembers ms → PlainMembers ms →
    ValidMembers ms' ∧ PlainMembers ms'
  | [], [], _, _, _ => ⟨by simp [ValidMembers], by simp [PlainMembers]⟩
  | (w1, k, w2, w3, v, w4) :: ms, (w1', k', w2', w3', v', w4') :: ms', h, hv, hp => by
    simp only [RelMembers] at h
    obtain ⟨h1, hk, hb2, hb3, hvv, h4, hms⟩ :
        ValidL w1 ∧ SchemaScan.IsKey (k.map classify) ∧ (ValidL w2 ∧ PlainL w2) ∧ (ValidL w3 ∧ PlainL w3) ∧ v.Valid ∧
          ValidL w4 ∧ ValidMembers ms := by
      simpa [ValidMembers] using hv
    obtain ⟨p1, pv, p4, pms⟩ : PlainL w1 ∧ v.Plain ∧ PlainL w4 ∧ PlainMembers ms := by
      simpa [PlainMembers] using hp
    obtain ⟨hr1, hkk, hr2, hr3, hrv, hr4, hrm⟩ := h
    subst hkk
    obtain ⟨a1, b1⟩ := hR w1 w1' hr1 ⟨h1, p1⟩
    have c2 : ValidL w2' ∧ PlainL w2' := hR w2 w2' hr2 hb2
    have c3 : ValidL w3' ∧ PlainL w3' := hR w3 w3' hr3 hb3
    obtain ⟨a4, b4⟩ := hR w4 w4' hr4 ⟨h4, p4⟩
    obtain ⟨c, d⟩ := rel_valid R hR v v' hrv hvv pv
    obtain ⟨e, f⟩ := rel_validMembers R hR ms ms' hrm hms pms
    exact ⟨by simpa [ValidMembers] using And.intro a1 (And.intro hk (And.intro c2 (And.intro c3
        (And.intro c (And.intro a4 e))))),
      by simpa [PlainMembers] using And.intro b1 (And.intro d (And.intro b4 f))⟩
  | [], _ :: _, h, _, _ => by simp [RelMembers] at h
  | _ :: _, [], h, _, _ => by simp [RelMembers] at h
end

theorem blankL_cons {it : LI} {w : List LI} : BlankL (it :: w) ↔ (it.Valid ∧ it.isBlank = true) ∧ BlankL w := by
  simp only [BlankL, ValidL, PlainL, List.mem_cons, forall_eq_or_imp]
  constructor
  · rintro ⟨⟨a, b⟩, c, d⟩; exact ⟨⟨a, c⟩, b, d⟩
  · rintro ⟨⟨a, c⟩, b, d⟩; exact ⟨⟨a, b⟩, c, d⟩

theorem blankL_lb {y : List LI} (hy : IsLB y) {w : List LI} (hw : BlankL w) : BlankL (y ++ w) := by
  rcases hy with rfl | rfl | rfl
  · exact blankL_cons.2 ⟨⟨rfl, rfl⟩, hw⟩
  · exact blankL_cons.2 ⟨⟨rfl, rfl⟩, hw⟩
  · exact blankL_cons.2 ⟨⟨rfl, rfl⟩, blankL_cons.2 ⟨⟨rfl, rfl⟩, hw⟩⟩

theorem blankL_drop_lb {x : List LI} (hx : IsLB x) {w : List LI} (h : BlankL (x ++ w)) : BlankL w := by
  rcases hx with rfl | rfl | rfl
  · exact (blankL_cons.1 h).2
  · exact (blankL_cons.1 h).2
  · exact (blankL_cons.1 (blankL_cons.1 h).2).2

theorem leVar_blank {w w' : List LI} (h : LEVar w w') : BlankL w → BlankL w' := by
  induction h with
  | nil => exact id
  | same b hb _ _ ih => intro hw; exact blankL_cons.2 ⟨⟨hb, rfl⟩, ih (blankL_cons.1 hw).2⟩
  | lb x y hx hy _ ih => intro hw; exact blankL_lb hy (ih (blankL_drop_lb hx hw))

/-- **line ends**: every line break of the layout re-spelled as LF, CR or CR LF, each on its own: the same table -/
theorem line_end_style (t t' : BTree) (hv : t.Valid) (hp : t.Plain) (hr : t.Rel LEVar t')
    (hk : t.value.KeysNodup) (w0 w1 w0' w1' : List LI) (b0 : BlankL w0) (b1 : BlankL w1)
    (r0 : LEVar w0 w0') (r1 : LEVar w1 w1') :
    ∃ st st', Loader.loadText (docText w0 t w1) = .ok st ∧ Loader.loadText (docText w0' t' w1') = .ok st' ∧
      st.root = st'.root ∧
      absTable (docText w0 t w1).toArray st = absTable (docText w0' t' w1').toArray st' := by
  obtain ⟨hv', hp'⟩ := rel_valid LEVar (fun _ _ h => leVar_blank h) t t' hr hv hp
  obtain ⟨h0', p0'⟩ := leVar_blank r0 b0
  obtain ⟨h1', p1'⟩ := leVar_blank r1 b1
  exact indentation t t' hv hv' hp hp' (rel_value LEVar t t' hr) hk w0 w1 w0' w1' b0.1 b0.2 b1.1 b1.2 h0' p0' h1' p1'

end Lay
