import JSight.BridgeCK2NoRef
/-!
Bridge (A)∩(C): the TYPE TABLE of the class `nr` (`BridgeCK2NoRef`) — same "is it defined" (`envRel`), same
visiting order (`sortTs`: `sort_entries`), same first error — and the theorem `agree_noref`. (A)'s `orShortsOK` stage
asks that the names of every or-shortcut node below a tree are defined (`orShortsOK_all`, for any tree); a tree of `nr` has
no such node (`orShorts_nil`).
-/
namespace BridgeCK
open Compile

mutual
theorem orShorts_nil (path : String) : (cn : CN) → nr cn = true → orShorts path cn = []
  | .lit _ _, _ => rfl
  | .any _ _, _ => rfl
  | .arr items _ _, h => by simp only [orShorts]; exact orShortsItems_nil path 0 items (by simpa [nr] using h)
  | .obj props _ _ _, h => by
    simp only [nr, Bool.and_eq_true] at h
    simp only [orShorts]; exact orShortsProps_nil path 0 props h.1
  | .ref _ _ _ _ orShort, h => by
    simp only [nr, Bool.and_eq_true, Bool.not_eq_true'] at h
    rw [h.1.2]
    rfl
theorem orShortsItems_nil (path : String) : (i : Nat) → (items : List CN) → nrItems items = true →
    orShortsItems path i items = []
  | _, [], _ => rfl
  | i, x :: xs, h => by
    simp only [nrItems, Bool.and_eq_true] at h
    simp [orShortsItems, orShorts_nil _ x h.1, orShortsItems_nil path (i + 1) xs h.2]
theorem orShortsProps_nil (path : String) : (i : Nat) → (props : List (String × Bool × Bool × Bool × CN)) →
    nrProps props = true → orShortsProps path i props = []
  | _, [], _ => rfl
  | i, (_, _, _, _, x) :: xs, h => by
    simp only [nrProps, Bool.and_eq_true] at h
    simp [orShortsProps, orShorts_nil _ x h.1.2, orShortsProps_nil path (i + 1) xs h.2]
end

/-- every name of an or-shortcut node is defined -/
def okRef (ts : Types) (p : String × CN) : Bool :=
  match p.2 with
  | .ref names _ _ _ _ => names.all fun n => (lookupT ts n).isSome
  | _ => true

mutual
/-- (A)'s `orShortsOK` stage = "every or-shortcut node below has its names defined" -/
theorem orShortsOK_all (ts : Types) : (path : String) → (cn : CN) → orShortsOK ts cn = (orShorts path cn).all (okRef ts)
  | _, .lit _ _ => rfl
  | _, .any _ _ => rfl
  | path, .arr items _ _ => by simp only [orShortsOK, orShorts]; exact orShortsItems_all ts path 0 items
  | path, .obj props _ _ _ => by simp only [orShortsOK, orShorts]; exact orShortsProps_all ts path 0 props
  | _, .ref names nul jt ex os => by cases os <;> simp [orShortsOK, orShorts, okRef]
theorem orShortsItems_all (ts : Types) : (path : String) → (i : Nat) → (items : List CN) →
    Compile.orShortsItems ts items = (orShortsItems path i items).all (okRef ts)
  | _, _, [] => rfl
  | path, i, x :: xs => by
    simp only [Compile.orShortsItems, BridgeCK.orShortsItems, List.all_append,
      orShortsOK_all ts (path ++ "/" ++ toString i) x, orShortsItems_all ts path (i + 1) xs]
theorem orShortsProps_all (ts : Types) : (path : String) → (i : Nat) → (props : List (String × Bool × Bool × Bool × CN)) →
    Compile.orShortsProps ts props = (orShortsProps path i props).all (okRef ts)
  | _, _, [] => rfl
  | path, i, (_, _, _, _, x) :: xs => by
    simp only [Compile.orShortsProps, BridgeCK.orShortsProps, List.all_append,
      orShortsOK_all ts (path ++ "/" ++ toString i) x, orShortsProps_all ts path (i + 1) xs]
end

/-- a tree of the class has no or-shortcut below it, so (A)'s `orShortsOK` stage has nothing to refuse -/
theorem orShortsOK_nr (ts : Types) (cn : CN) (h : nr cn = true) : orShortsOK ts cn = true := by
  rw [orShortsOK_all ts "" cn, orShorts_nil "" cn h]; rfl

theorem orShortsOK_items (ts : Types) : (items : List CN) → nrItems items = true → Compile.orShortsItems ts items = true :=
  fun items h => by rw [orShortsItems_all ts "" 0 items, orShortsItems_nil "" 0 items h]; rfl

theorem orShortsOK_props (ts : Types) : (props : List (String × Bool × Bool × Bool × CN)) → nrProps props = true →
    Compile.orShortsProps ts props = true :=
  fun props h => by rw [orShortsProps_all ts "" 0 props, orShortsProps_nil "" 0 props h]; rfl

/-! ### the visiting order, on entries -/

/-- insertion into a list of entries sorted by `strLt` on the names -/
def insT (t : String × CN) : Types → Types
  | [] => [t]
  | u :: us => if strLt u.1 t.1 then u :: insT t us else t :: u :: us

/-- the type table in (A)'s visiting order -/
def sortTs : Types → Types
  | [] => []
  | t :: ts => insT t (sortTs ts)

theorem insT_names (t : String × CN) : (L : Types) → (insT t L).map (·.1) = sortNames.ins t.1 (L.map (·.1))
  | [] => rfl
  | u :: us => by
    unfold insT sortNames.ins
    simp only [List.map_cons]
    split
    · simp [insT_names t us]
    · rfl

theorem sortTs_names : (ts : Types) → (sortTs ts).map (·.1) = sortNames (ts.map (·.1))
  | [] => rfl
  | t :: ts => by simp [sortTs, sortNames, insT_names, sortTs_names ts]

theorem mem_insT (t : String × CN) : (L : Types) → ∀ u, u ∈ insT t L ↔ u = t ∨ u ∈ L
  | [], u => by simp [insT]
  | v :: vs, u => by
    unfold insT
    split
    · simp only [List.mem_cons, mem_insT t vs u]
      exact or_left_comm
    · simp

theorem mem_sortTs : (ts : Types) → ∀ u, u ∈ sortTs ts ↔ u ∈ ts
  | [], u => by simp [sortTs]
  | t :: ts, u => by
    unfold sortTs
    rw [mem_insT, mem_sortTs ts u]
    simp

theorem insT_entries (t : String × CN) (ht : byteChars t.1) (hnamed : CK.isUnnamed (name t.1) = false) :
    (L : Types) → (∀ u ∈ L, byteChars u.1 ∧ u.1 ≠ t.1) →
    CK.insertType (typeEntry t) (L.map typeEntry) = (insT t L).map typeEntry
  | [], _ => rfl
  | u :: us, hu => by
    obtain ⟨hub, hut⟩ := hu u List.mem_cons_self
    have hne : name t.1 ≠ name u.1 := fun e => hut (name_inj t.1 u.1 ht hub e).symm
    have hgf : CK.typeGoesFirst (typeEntry t) (typeEntry u) = CK.bytesLt (name t.1) (name u.1) := by
      unfold CK.typeGoesFirst
      show (if !CK.isUnnamed (name t.1) || !CK.isUnnamed (name u.1) then CK.bytesLt (name t.1) (name u.1) else _) = _
      rw [hnamed]
      simp
    have hlt : strLt u.1 t.1 = !CK.bytesLt (name t.1) (name u.1) := by
      rw [strLt_bytesLt u.1 t.1 hub ht, bytesLt_total (name t.1) (name u.1) hne]
      simp
    simp only [List.map_cons]
    unfold CK.insertType insT
    rw [hgf, hlt]
    cases hb : CK.bytesLt (name t.1) (name u.1)
    · simp only [Bool.not_false, if_true, Bool.false_eq_true, if_false, List.map_cons]
      rw [insT_entries t ht hnamed us (fun z hz => hu z (List.mem_cons_of_mem _ hz))]
    · simp

/-- **(C) visits the entries in (A)'s order** -/
theorem sort_entries : (ts : Types) → (ts.map (·.1)).Nodup →
    (∀ t ∈ ts, byteChars t.1 ∧ CK.isUnnamed (name t.1) = false) →
    CK.sortTypes (ts.map typeEntry) = (sortTs ts).map typeEntry
  | [], _, _ => rfl
  | t :: ts, hn, hb => by
    simp only [List.map_cons, List.nodup_cons] at hn
    have ih := sort_entries ts hn.2 (fun u hu => hb u (List.mem_cons_of_mem _ hu))
    obtain ⟨hbt, hnt⟩ := hb t List.mem_cons_self
    simp only [List.map_cons, CK.sortTypes, sortTs, ih]
    refine insT_entries t hbt hnt _ ?_
    intro u hu
    rw [mem_sortTs] at hu
    exact ⟨(hb u (List.mem_cons_of_mem _ hu)).1, fun e => hn.1 (by rw [← e]; exact List.mem_map_of_mem hu)⟩

/-- … hence the same list of names -/
theorem sort_agree (ts : Types) (hn : (ts.map (·.1)).Nodup)
    (hb : ∀ t ∈ ts, byteChars t.1 ∧ CK.isUnnamed (name t.1) = false) :
    (CK.sortTypes (ts.map typeEntry)).map (·.name) = (sortNames (ts.map (·.1))).map name := by
  rw [sort_entries ts hn hb, ← sortTs_names, List.map_map, List.map_map]
  rfl

/-! ### the tables -/

theorem find_entries (n : String) (hn : byteChars n) : (ts : Types) → (∀ t ∈ ts, byteChars t.1) →
    (((ts.map typeEntry).map fun t => (t.name, t.root.hd)).find? (·.1 == name n)).map (·.2) =
      ((ts.find? (·.1 == n)).map (·.2)).map fun cn => (dumpNode cn).hd
  | [], _ => rfl
  | t :: ts, hb => by
    have ih := find_entries n hn ts (fun u hu => hb u (List.mem_cons_of_mem _ hu))
    simp only [List.map_cons, List.find?_cons]
    by_cases e : t.1 = n
    · have e' : (typeEntry t).name = name n := by rw [← e]; rfl
      simp [e, typeEntry]
    · have e' : ¬ (typeEntry t).name = name n := fun x => e (name_inj t.1 n (hb t List.mem_cons_self) hn x)
      have b1 : (t.1 == n) = false := beq_eq_false_iff_ne.2 e
      have b2 : ((typeEntry t).name == name n) = false := beq_eq_false_iff_ne.2 e'
      simp only [b1, b2]
      exact ih

theorem envRel (ts : Types) (hb : ∀ t ∈ ts, byteChars t.1) :
    EnvRel ts ⟨(ts.map typeEntry).map fun t => (t.name, t.root.hd)⟩ := by
  intro n hn
  unfold CK.Env.lookup lookupT
  exact find_entries n hn ts hb

theorem lookup_class (ts : Types) (P : CN → Prop) (hts : ∀ t ∈ ts, P t.2) : ∀ n cn, lookupT ts n = some cn → P cn := by
  intro n cn h
  unfold lookupT at h
  cases hf : ts.find? (·.1 == n) with
  | none => rw [hf] at h; cases h
  | some t =>
    rw [hf] at h
    simp only [Option.map_some, Option.some.injEq] at h
    rw [← h]
    exact hts t (List.mem_of_find?_eq_some hf)

section
variable (ts : Types) (env : CK.Env) (fuel : Nat) (C : CN → Prop) (hC : TreeClass ts env fuel C)
include hC

/-- type by type: the first error of the visit, over entries of the class on which (A) has fuel enough -/
theorem types_c (hnd : (ts.map (·.1)).Nodup) : (L : Types) →
    (∀ t ∈ L, t ∈ ts ∧ C t.2 ∧ NoFuel (Compile.checkNode ts fuel t.2)) →
    resOf (CK.checkTypes noOracles env (L.map typeEntry)) = some (Compile.checkTypes ts fuel (L.map (·.1)))
  | [], _ => rfl
  | t :: L, h => by
    obtain ⟨htm, htc, htf⟩ := h t List.mem_cons_self
    have ih := types_c hnd L (fun u hu => h u (List.mem_cons_of_mem _ hu))
    obtain ⟨hc, hp⟩ := node_c ts env fuel C hC t.2 htc htf
    have hl : lookupT ts t.1 = some t.2 := Tbl.firstBy_of_nodup_keys Prod.fst Prod.snd ts hnd t htm
    simp only [List.map_cons, CK.checkTypes, Compile.checkTypes, hl, CK.checkType]
    show resOf (match (CK.checkNode noOracles env (dumpNode t.2)).map _ with | some r => r | none => _) = _
    rw [hc]
    cases hx : Compile.checkNode ts fuel t.2 with
    | ok u => cases u; simpa [panicOf] using ih
    | error e =>
      obtain ⟨c, rfl⟩ := hp e hx
      simp [panicOf, CK.panicRes, resOf, typeEntry]

/-- the root in front of the type table: if the table's result `res` agrees with `b`, so does root-then-table -/
theorem root_c (r : CN) (hr : C r) (hf : NoFuel (Compile.checkNode ts fuel r)) {res : CK.Res} {b : Except Err Unit}
    (h : resOf res = some b) :
    resOf (match CK.checkNode noOracles env (dumpNode r) with | some p => CK.panicRes none 0 p | none => res) =
      some (match Compile.checkNode ts fuel r with | .error e => .error e | .ok () => b) := by
  obtain ⟨hc, hp⟩ := node_c ts env fuel C hC r hr hf
  rw [hc]
  cases hx : Compile.checkNode ts fuel r with
  | ok u => cases u; exact h
  | error e =>
    obtain ⟨c, rfl⟩ := hp e hx
    rfl

end

/-- **C04_models_agree on the class `nr`** (no example-bearing references; literal nodes keep their validators) with a
table none of whose entries has a types list at its root (`notRef`: no aliases): the two checkers give the same outcome —
verdict and first error code — for any such root and type table -/
theorem agree_noref (root : Option CN) (ts : Types) (hroot : ∀ r, root = some r → nr r = true)
    (hts : ∀ t ∈ ts, nr t.2 = true ∧ byteChars t.1 ∧ CK.isUnnamed (name t.1) = false ∧ notRef t.2 = true)
    (hnd : (ts.map (·.1)).Nodup) :
    resOf (checkC root ts) = some (checkA root ts) := by
  have hun : unnamed ts = [] := by
    unfold unnamed
    have : (ts.flatMap fun t => orShorts ("#" ++ t.1) t.2) = [] := by
      rw [List.flatMap_eq_nil_iff]
      intro t ht
      exact orShorts_nil _ t.2 (hts t ht).1
    rw [this]; rfl
  have hall : (ts.all fun t => orShortsOK ts t.2) = true := by
    rw [List.all_eq_true]
    intro t ht
    exact orShortsOK_nr ts t.2 (hts t ht).1
  have hE := envRel ts (fun t ht => (hts t ht).2.1)
  have hT : ∀ n cn, lookupT ts n = some cn → nr cn = true ∧ notRef cn = true :=
    lookup_class ts (fun cn => nr cn = true ∧ notRef cn = true) (fun t ht => ⟨(hts t ht).1, (hts t ht).2.2.2⟩)
  have hfuel : ∀ r, ∃ f, checkFuel r ts = f + 1 := fun r => ⟨checkFuel r ts - 1, by
    have : 0 < checkFuel r ts := by unfold checkFuel; omega
    omega⟩
  have hvis := sort_entries ts hnd (fun t ht => ⟨(hts t ht).2.1, (hts t ht).2.2.1⟩)
  have hL : ∀ fuel, ∀ t ∈ sortTs ts, t ∈ ts ∧ nr t.2 = true ∧ NoFuel (Compile.checkNode ts fuel t.2) := fun fuel t ht =>
    have hn := (hts t ((mem_sortTs ts t).1 ht)).1
    ⟨(mem_sortTs ts t).1 ht, hn, pos_noFuel (nr_pos ts fuel t.2 hn)⟩
  have hvisit := fun r => types_c ts _ _ _ (nr_class ts _ _ hE hT (hfuel r)) hnd (sortTs ts) (hL _)
  unfold checkC CK.checkSchema dumpOf
  simp only [hun, List.append_nil, CK.Schema.visit, CK.Schema.env, hvis]
  cases root with
  | none =>
    simp only [Option.map_none, checkA, checkNoRoot, hall, Bool.not_true, Bool.false_eq_true, if_false, ← sortTs_names]
    exact hvisit none
  | some r =>
    simp only [Option.map_some, checkA, hall, Bool.not_true, Bool.false_eq_true, if_false, ← sortTs_names]
    exact root_c ts _ _ _ (nr_class ts _ _ hE hT (hfuel (some r))) r (hroot r rfl)
      (pos_noFuel (nr_pos ts _ r (hroot r rfl))) (hvisit (some r))

end BridgeCK
