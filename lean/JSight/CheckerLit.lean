import JSight.CheckerSound
/-!
# C04 — "the literal obeys its rules" in the checker is the C02 predicate

`validateLiteralValue` (with the error it raises) accepts exactly when `RulesF.litOKFull` — the model of
`ValidateLiteralValue` the C02 theorems (`C02_accept_iff_full` …) are about — accepts, on the compiled rule list read off
the node's constraint map: so "the checker rejects the node's own token" means, rule by rule, what C02 says a rule means
(exact decimal bounds, decoded string lengths, enum membership, const by value, formats, kind admissibility, `nullable`).
-/
namespace CK
open RulesF (Oracles Bytes)

/-- the token the `const` rule compares with -/
def constValue : List Cn → Bytes
  | [] => []
  | .const true v :: _ => v
  | _ :: cs => constValue cs

/-- the `LiteralValidator`s of the constraint map as rules of the C02 model, in `constraint.Type` order -/
def rulesOf (cs : List Cn) : List RulesF.Rule := (sortedCs cs).filterMap fun c => (toRule c).map (·.1)

/-- a literal node (or an or-member root) of kind `k` as a compiled scalar node of the C02 model -/
def specOf (k : Rules.Kind) (cs : List Cn) : RulesF.LitSpecF :=
  { kind := k, ex := constValue cs, nul := nullableValue cs, rules := rulesOf cs }

theorem Cn.ty_lt (c : Cn) : c.ty < 26 := by cases c <;> simp [Cn.ty]

theorem mem_sortedCs (cs : List Cn) (c : Cn) : c ∈ sortedCs cs ↔ c ∈ cs := by
  unfold sortedCs
  simp only [List.mem_flatMap, List.mem_range, List.mem_filter, beq_iff_eq]
  constructor
  · rintro ⟨t, _, hc, _⟩; exact hc
  · intro hc; exact ⟨c.ty, c.ty_lt, hc, rfl⟩

theorem toRule_enum (c : Cn) (r : RulesF.Rule) (h : (toRule c).map (·.1) = some r) (he : r.isEnum = true) :
    c.ty = 15 := by
  cases c with
  | const b v =>
    cases b
    · simp [toRule] at h
    · simp [toRule] at h; subst h; simp [RulesF.Rule.isEnum] at he
  | enum items => rfl
  | _ =>
    first
      | (simp [toRule] at h; done)
      | (simp [toRule] at h; subst h; simp [RulesF.Rule.isEnum] at he)

theorem hasEnum_specOf (k : Rules.Kind) (cs : List Cn) : RulesF.hasEnum (specOf k cs) = hasTy cs 15 := by
  unfold RulesF.hasEnum specOf rulesOf hasTy
  simp only
  rw [Bool.eq_iff_iff, List.any_eq_true, List.any_eq_true]
  constructor
  · rintro ⟨r, hr, he⟩
    obtain ⟨c, hc, hcr⟩ := List.mem_filterMap.1 hr
    exact ⟨c, (mem_sortedCs cs c).1 hc, by simpa using toRule_enum c r hcr he⟩
  · rintro ⟨c, hc, he⟩
    cases c <;> simp [Cn.ty] at he
    rename_i items
    exact ⟨.enum items, List.mem_filterMap.2 ⟨.enum items, (mem_sortedCs cs _).2 hc, rfl⟩, rfl⟩

/-- after compilation a `nullable` constraint that is present is `true` (`falseConstraints` drops the false ones) -/
def NullableTrue (cs : List Cn) : Prop := ∀ b, Cn.nullable b ∈ cs → b = true

theorem hasTy_nullable (cs : List Cn) (h : NullableTrue cs) : hasTy cs 19 = nullableValue cs := by
  induction cs with
  | nil => rfl
  | cons c cs ih =>
    have ih' := ih (fun b hb => h b (List.mem_cons_of_mem _ hb))
    cases c with
    | nullable b => rw [h b List.mem_cons_self]; rfl
    | _ => exact ih'

/-- a constraint map holds one `const` -/
def ConstUnique (cs : List Cn) : Prop := ∀ v, Cn.const true v ∈ cs → v = constValue cs

theorem cnValidate_eq (o : Oracles) (tok : Bytes) (cs : List Cn) (hc : ConstUnique cs) (c : Cn) (hm : c ∈ cs) :
    cnValidate o tok c = none ↔ ∀ r, (toRule c).map (·.1) = some r → RulesF.ruleOK o (constValue cs) tok r = true := by
  unfold cnValidate
  cases ht : toRule c with
  | none => simp
  | some re =>
    obtain ⟨r, ex⟩ := re
    simp only [Option.map_some, Option.some.injEq, forall_eq']
    have hex : RulesF.ruleOK o ex tok r = RulesF.ruleOK o (constValue cs) tok r := by
      cases c <;> simp [toRule] at ht
      all_goals (try (obtain ⟨rfl, rfl⟩ := ht; rfl))
      rename_i b v
      cases b with
      | false => simp at ht
      | true =>
        simp at ht
        obtain ⟨rfl, rfl⟩ := ht
        rw [hc _ hm]
    rw [hex]
    cases RulesF.ruleOK o (constValue cs) tok r <;> simp

theorem rules_eq (o : Oracles) (tok : Bytes) (cs : List Cn) (hc : ConstUnique cs) :
    (sortedCs cs).findSome? (cnValidate o tok) = none ↔
      (rulesOf cs).all (RulesF.ruleOK o (constValue cs) tok) = true := by
  rw [List.findSome?_eq_none_iff, List.all_eq_true]
  unfold rulesOf
  constructor
  · intro h r hr
    obtain ⟨c, hcm, hcr⟩ := List.mem_filterMap.1 hr
    exact (cnValidate_eq o tok cs hc c ((mem_sortedCs cs c).1 hcm)).1 (h c hcm) r hcr
  · intro h c hcm
    apply (cnValidate_eq o tok cs hc c ((mem_sortedCs cs c).1 hcm)).2
    intro r hr
    exact h r (List.mem_filterMap.2 ⟨c, hcm, hr⟩)

/-- `checkNotAnEnum`'s comparison of JSON types is the C02 model's comparison of kinds -/
theorem gate_kinds (d k : Rules.Kind) (nul : Bool) :
    (jtOfKind d == jtOfKind k || (jtOfKind d == .integer && jtOfKind k == .float) || (jtOfKind d == .null && nul)) =
      (d == k || (d == .i && k == .f) || (d == .n && nul)) := by
  cases d <;> cases k <;> cases nul <;> rfl

theorem gate_eq (k : Rules.Kind) (cs : List Cn) (tok : Bytes) (hn : NullableTrue cs) :
    checkNotAnEnum (jtOfKind k) cs tok = none ↔ RulesF.kindGate (specOf k cs) tok = true := by
  unfold checkNotAnEnum RulesF.kindGate
  rw [hasEnum_specOf, hasTy_nullable cs hn]
  cases he : hasTy cs 15 with
  | true => simp
  | false =>
    simp only [Bool.false_eq_true, if_false, Bool.false_or]
    unfold literalJsonType
    cases hk : RulesF.kindOfTok tok with
    | some d =>
      simp only [specOf, gate_kinds]
      cases (d == k || (d == .i && k == .f) || (d == .n && nullableValue cs)) <;> simp
    | none =>
      simp only []
      by_cases hu : isUserTypeName tok = true
      · simp only [hu, if_true]
        cases k <;> simp [jtOfKind]
      · simp [hu]

/-- LITERAL = C02: `ValidateLiteralValue` as the checker runs it accepts exactly when the C02 model accepts -/
theorem validate_iff_litOKFull (o : Oracles) (k : Rules.Kind) (cs : List Cn) (tok : Bytes)
    (hn : NullableTrue cs) (hc : ConstUnique cs) :
    validateLiteralValue o (jtOfKind k) cs tok = none ↔ RulesF.litOKFull o (specOf k cs) tok = true := by
  unfold validateLiteralValue RulesF.litOKFull
  have hg := gate_eq k cs tok hn
  have hr := rules_eq o tok cs hc
  cases hcn : checkNotAnEnum (jtOfKind k) cs tok with
  | some p =>
    have : RulesF.kindGate (specOf k cs) tok = false := by
      cases hkg : RulesF.kindGate (specOf k cs) tok with
      | false => rfl
      | true => rw [hg.2 hkg] at hcn; simp at hcn
    simp [this]
  | none =>
    rw [hg.1 hcn]
    simp only [Bool.true_and, Bool.or_eq_true, Bool.and_eq_true]
    by_cases hnull : nullableValue cs = true ∧ (tok == RulesF.sNull) = true
    · rw [if_pos hnull]
      simp only [true_iff]
      left
      simpa [specOf] using hnull
    · rw [if_neg hnull]
      rw [hr]
      constructor
      · intro h; exact .inr (by simpa [specOf] using h)
      · rintro (h | h)
        · exact absurd (by simpa [specOf] using h) hnull
        · simpa [specOf] using h

/-- a literal node without a types list is its own single alternative -/
theorem checkerList_plain (env : Env) (i : Info) (ht : typesList? i.cs = none) (hk : i.nk = .lit) :
    checkerList env i = .ok [.lit i.jt i.cs] := by
  unfold checkerList Env.fuel build
  simp [ht, newChecker, hk]

/-- … so "some alternative admits the token" is the C02 predicate on the node's own rule list -/
theorem literalAccepts_plain (o : Oracles) (env : Env) (i : Info) (k : Rules.Kind) (tok : Bytes)
    (ht : typesList? i.cs = none) (hk : i.nk = .lit) (hj : i.jt = jtOfKind k)
    (hn : NullableTrue i.cs) (hc : ConstUnique i.cs) :
    literalAccepts o env i tok = RulesF.litOKFull o (specOf k i.cs) tok := by
  unfold literalAccepts
  rw [checkerList_plain env i ht hk]
  simp only [List.any_cons, List.any_nil, Bool.or_false, Chk.check, tokLex]
  have h := validate_iff_litOKFull o k i.cs tok hn hc
  rw [← hj] at h
  cases hv : validateLiteralValue o i.jt i.cs tok with
  | none =>
    rw [h.1 hv]; simp
  | some p =>
    have : RulesF.litOKFull o (specOf k i.cs) tok = false := by
      cases hl : RulesF.litOKFull o (specOf k i.cs) tok with
      | false => rfl
      | true => rw [h.2 hl] at hv; simp at hv
    rw [this]
    cases p <;> simp

end CK
