import JSight.SchemaLenTokSim
/-!
C14: none of the events one token delivers is `end-top` (`noTop`; what `Drain.after` asks of a path that stands in front
of a drain): `noTop_*` for the parts of an annotation, `slotStep_evs`, `closePV_evs`, together `tstep_evs`.
-/
namespace SchemaScan
namespace Len

/-- `noTop l`: no event of `l` is `end-top` -/
theorem noTop_all {l : List Ev} : noTop l = true ↔ ∀ e ∈ l, e.ty ≠ .endTop := by
  simp [noTop]

theorem noTop_ruleEvs (r : CRule) (p : Nat) : noTop (r.evs p) = true := by
  simp only [CRule.evs, CRule.openEvs, CRule.closeEvs, noTop_append, noTop_cons, noTop_nlEvs]
  rfl

theorem noTop_rulesEvs : ∀ (rs : List CRule) (r : CRule) (p : Nat), noTop (rulesEvs p r rs) = true
  | [], r, p => noTop_ruleEvs r p
  | r' :: rs, r, p => by
    simp only [rulesEvs, noTop_append, noTop_ruleEvs, noTop_rulesEvs rs r']
    rfl

theorem noTop_objEvs (ob : CObj) (o : Nat) : noTop (ob.evs o) = true := by
  cases ob with
  | empty b0 => simp only [CObj.evs, noTop_append, noTop_nlEvs]; rfl
  | rules r rs tc =>
    cases tc <;> simp only [CObj.evs, tcEvs, noTop_append, noTop_rulesEvs, noTop_nlEvs] <;> rfl

theorem noTop_inlEvs (b : InlBody) (h : Nat) : noTop (b.evs h) = true := by
  cases b with
  | note s2 txt => rfl
  | obj s2 ob s3 nt =>
    cases nt with
    | none => simp only [InlBody.evs, noTop_cons, noTop_append, noTop_objEvs]; rfl
    | some p => obtain ⟨s4, txt⟩ := p; simp only [InlBody.evs, noTop_cons, noTop_append, noTop_objEvs]; rfl

/-- `VCtx.preEvs`: the `item-begin` / `value-begin` event in front of a value (none at the root) -/
theorem preEvs_noTop (ctx : VCtx) (o : Nat) : noTop (ctx.preEvs o) = true := by
  cases ctx <;> rfl

theorem slotStep_evs {c c' : TC} {t : Tok} {evs : List Ev} (h : slotStep c t = some (c', evs)) : noTop evs = true := by
  cases slotStep_slot h with
  | sp _ | nl _ | cmt _ | key _ => rfl
  | @ann c b _ _ _ _ => exact noTop_inlEvs b c.i
  | @scalar c _ ctx _ => rw [noTop_append, preEvs_noTop]; rfl
  | @op br c ctx _ => rw [noTop_append, preEvs_noTop]; cases br <;> rfl
  | cl br _ _ _ _ => cases br <;> rfl
  | sep ck _ => cases ck <;> rfl

theorem closePV_evs {c c' : TC} {evs : List Ev} (h : closePV c = some (c', evs)) : noTop evs = true := by
  unfold closePV at h
  split at h
  · cases h
    rename_i lit b _
    cases lit <;> rfl
  · cases h
    rename_i lit b ck b2 R _
    cases lit <;> cases ck <;> rfl
  · cases h

theorem tstep_evs {c c' : TC} {t : Tok} {evs : List Ev} (h : tstep c t = some (c', evs)) : noTop evs = true := by
  obtain ⟨c1, e1, e2, hc, hs, rfl⟩ := tstep_cases h
  have h1 : noTop e1 = true := by
    rcases hc with ⟨-, -, rfl⟩ | ⟨-, -, hc⟩
    · rfl
    · exact closePV_evs hc
  rw [noTop_append, h1, slotStep_evs hs]; rfl

end Len
end SchemaScan
