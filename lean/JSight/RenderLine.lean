import JSight.Render
/-!
C17, line numbers: `Line()` is 1 + the number of new-line symbols strictly before the position (`line_eq`), where
the new-line symbol is the one `detectNewLineSymbol` chose: the last byte of the first run of new-line bytes
(`detectNl_eq`), hence LF for LF and CRLF files, CR for CR files.
-/
namespace Render

/-- occurrences of `nl` among the first `k` bytes -/
def countNl (content : Array UInt8) (nl : UInt8) (k : Nat) : Nat :=
  ((content.toList.take k).filter (· == nl)).length

theorem countNl_succ (content : Array UInt8) (nl : UInt8) (k : Nat) (c : UInt8) (h : content[k]? = some c) :
    countNl content nl (k + 1) = countNl content nl k + (if c == nl then 1 else 0) := by
  unfold countNl
  have hk : content.toList[k]? = some c := by simpa using h
  rw [List.take_add_one, hk]
  simp only [Option.toList_some, List.filter_append, List.length_append]
  by_cases hc : c == nl <;> simp [hc]

/-- occurrences of `nl` at positions `< k` other than `idx` (what the backward loop counts: it starts AT `idx`, and a
new-line symbol standing there belongs to the line it ends) -/
def cntExcl (content : Array UInt8) (nl : UInt8) (idx : Nat) : Nat → Nat
  | 0 => 0
  | k + 1 => cntExcl content nl idx k + (if (content[k]?.map (· == nl)) == some true && k != idx then 1 else 0)

theorem cntExcl_succ (content : Array UInt8) (nl : UInt8) (idx k : Nat) (c : UInt8) (hc : content[k]? = some c) :
    cntExcl content nl idx (k + 1) = cntExcl content nl idx k + (if c == nl && k != idx then 1 else 0) := by
  simp [cntExcl, hc]

/-- the loop's counter, as an addition -/
theorem count_step (p : Bool) (n : Nat) : (if p then n + 1 else n) = n + (if p then 1 else 0) := by
  cases p <;> rfl

/-- `line.go` with fuel `i + 1`, cursor `i` walking down to 0 and `n` counted so far -/
theorem line_go (content : Array UInt8) (nl : UInt8) (idx : Nat) :
    ∀ (i n : Nat), i < content.size →
      line.go content idx nl (i + 1) i n = some (n + 1 + cntExcl content nl idx (i + 1)) := by
  intro i
  induction i with
  | zero =>
    intro n h
    obtain ⟨c, hc⟩ : ∃ c, content[0]? = some c := ⟨content[0], by simp [h]⟩
    unfold line.go
    simp only [hc, beq_self_eq_true, if_true, Option.some.injEq]
    rw [count_step, cntExcl_succ content nl idx 0 c hc]
    simp only [cntExcl]
    omega
  | succ i ih =>
    intro n h
    obtain ⟨c, hc⟩ : ∃ c, content[i + 1]? = some c := ⟨content[i + 1], by simp [h]⟩
    unfold line.go
    simp only [hc, Nat.add_sub_cancel]
    rw [ih _ (by omega), count_step, cntExcl_succ content nl idx (i + 1) c hc]
    rw [if_neg (by simp)]  -- the loop's exit test `i + 1 == 0`
    congr 1
    omega

theorem cntExcl_le (content : Array UInt8) (nl : UInt8) (idx : Nat) :
    ∀ k, k ≤ idx → k ≤ content.size → cntExcl content nl idx k = countNl content nl k := by
  intro k
  induction k with
  | zero => intros; simp [cntExcl, countNl]
  | succ k ih =>
    intro hk hs
    have hks : k < content.size := by omega
    obtain ⟨c, hc⟩ : ∃ c, content[k]? = some c := ⟨content[k], by simp [hks]⟩
    have : k ≠ idx := by omega
    rw [countNl_succ content nl k c hc, cntExcl_succ content nl idx k c hc, ih (by omega) (by omega)]
    simp [this]

/-- **C17**: the line number is 1 + the number of new-line symbols before the position -/
theorem line_eq (content : Array UInt8) (idx : Nat) (hidx : idx < content.size) :
    line content idx = some (1 + countNl content (detectNl content.toList) idx) := by
  unfold line
  have hne : (content.size == 0) = false := by
    have : content.size ≠ 0 := by omega
    simpa using this
  simp only [hne, Bool.false_eq_true, if_false]
  rw [line_go content _ idx idx 0 hidx]
  have : cntExcl content (detectNl content.toList) idx (idx + 1) = cntExcl content (detectNl content.toList) idx idx := by
    simp [cntExcl]  -- position `idx` itself is excluded
  rw [this, cntExcl_le content _ idx idx (Nat.le_refl _) (by omega)]

/-- the first run of newline bytes of a text -/
def firstRun (cs : List UInt8) : List UInt8 := (cs.dropWhile (fun c => !isNewLine c)).takeWhile isNewLine

theorem detectNl_go_found (cs : List UInt8) (nl : UInt8) :
    detectNl.go cs nl true = ((cs.takeWhile isNewLine).getLast?).getD nl := by
  induction cs generalizing nl with
  | nil => rfl
  | cons c cs ih =>
    unfold detectNl.go
    by_cases hn : isNewLine c = true
    · simp [hn, ih, List.getLast?_cons]
    · simp [hn]

theorem detectNl_go_eq (cs : List UInt8) (nl : UInt8) : detectNl.go cs nl false = ((firstRun cs).getLast?).getD nl := by
  induction cs with
  | nil => rfl
  | cons c cs ih =>
    unfold detectNl.go firstRun
    by_cases hn : isNewLine c = true
    · simp [hn, detectNl_go_found, List.getLast?_cons]
    · simpa [hn, firstRun] using ih

/-- **the newline symbol is the last byte of the first run of newline bytes**, LF if there is none -/
theorem detectNl_eq (cs : List UInt8) : detectNl cs = ((firstRun cs).getLast?).getD 10 := detectNl_go_eq cs 10

/-- the last byte of the first run is a newline byte of the text -/
theorem firstRun_last {cs : List UInt8} {c : UInt8} (h : (firstRun cs).getLast? = some c) :
    c ∈ cs ∧ (c = 10 ∨ c = 13) := by
  have hm := List.mem_of_getLast? h
  exact ⟨(List.dropWhile_sublist _).subset ((List.takeWhile_sublist _).subset hm),
    by simpa [isNewLine] using List.all_eq_true.1 List.all_takeWhile c hm⟩

/-- a text with a newline byte has a first run -/
theorem firstRun_ne_nil {cs : List UInt8} {c : UInt8} (hc : c ∈ cs) (hn : isNewLine c = true) : firstRun cs ≠ [] := by
  induction cs with
  | nil => cases hc
  | cons a cs ih =>
    unfold firstRun
    by_cases ha : isNewLine a = true
    · simp [ha]
    · rcases List.mem_cons.1 hc with rfl | hc'
      · exact absurd hn ha
      · simpa [ha, firstRun] using ih hc'

theorem detectNl_lf (content : List UInt8) (h : ∀ c ∈ content, c ≠ 13) : detectNl content = 10 := by
  rw [detectNl_eq]
  cases hl : (firstRun content).getLast? with
  | none => rfl
  | some c => exact ((firstRun_last hl).2.resolve_right (h c (firstRun_last hl).1))

theorem detectNl_cr (content : List UInt8) (h : ∀ c ∈ content, c ≠ 10) (hex : ∃ c ∈ content, c = 13) :
    detectNl content = 13 := by
  obtain ⟨c, hc, rfl⟩ := hex
  rw [detectNl_eq]
  cases hl : (firstRun content).getLast? with
  | none => exact absurd (List.getLast?_eq_none_iff.1 hl) (firstRun_ne_nil hc (by decide))
  | some c => exact ((firstRun_last hl).2.resolve_left (h c (firstRun_last hl).1))

/-- every CR is immediately followed by LF -/
def CRLF (cs : List UInt8) : Prop := ∀ pre post, cs = pre ++ 13 :: post → ∃ t, post = 10 :: t

/-- a CRLF file: the symbol is LF, so `Line()` counts the LFs. The first run cannot end in CR, since the LF behind it
would belong to the run. -/
theorem detectNl_crlf (content : List UInt8) (h : CRLF content) : detectNl content = 10 := by
  rw [detectNl_eq]
  cases hl : (firstRun content).getLast? with
  | none => rfl
  | some c =>
    refine (firstRun_last hl).2.elim id fun hc => ?_
    subst hc
    obtain ⟨ys, hys⟩ := List.getLast?_eq_some_iff.1 hl
    have hsplit : content = (content.takeWhile (fun c => !isNewLine c) ++ ys) ++
        13 :: (content.dropWhile (fun c => !isNewLine c)).dropWhile isNewLine := by
      have h1 := List.takeWhile_append_dropWhile (p := fun c => !isNewLine c) (l := content)
      have h2 := List.takeWhile_append_dropWhile (p := isNewLine) (l := content.dropWhile (fun c => !isNewLine c))
      rw [show List.takeWhile isNewLine (content.dropWhile (fun c => !isNewLine c)) = ys ++ [13] from hys] at h2
      rw [← h2] at h1
      simpa using h1.symm
    obtain ⟨t, ht⟩ := h _ _ hsplit
    have := List.head?_dropWhile_not isNewLine (content.dropWhile (fun c => !isNewLine c))
    rw [ht] at this
    exact absurd (show isNewLine 10 = false from this) (by decide)

end Render
