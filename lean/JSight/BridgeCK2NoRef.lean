import JSight.BridgeCK3Lit
/-!
Bridge (A)∩(C): **the class without example-bearing references** — literal nodes with their validators
(`BridgeCK2Lit.lean`; of a guessable kind and an exact flag, or flagged incompatible), `any` nodes, type shortcuts `@t`
(a node that is nothing but a types list), arrays, objects with key shortcuts and every `additionalProperties` mode incl.
`"@T"`, nullable, the compatibility flags; ANY type table of such trees under pairwise different, named, single-byte
names (the root of a named type not itself a type shortcut). On this class `Compile`'s `CheckRootSchema` (`checkA`) and
the checker model `CK.checkSchema ∘ dumpOf` give the same outcome: the same verdict and the same first error code (1117,
1302, 1304, the validator codes) — node by node in the same traversal order (`node_agree`), type by type in the same
visiting order (`BridgeCK2Types.lean`: `sort_entries`, `agree_noref`). The induction over the tree (`node_c`) is stated for
any class of nodes with `TreeClass`; `nr` is one (`nr_class`), `xr` and `xrk` (`BridgeCK3Tree`, `BridgeCK4Tree`) the others.
-/
namespace BridgeCK
open Compile

/-- a literal node with validators as `compileNode` builds it: the EXAMPLE is an enum item, no validator needs the
standard library's mail parser (`email`: (A) never emits it), the compatibility flag is exact -/
def litRulesOK (spec : RulesF.LitSpecF) : Bool :=
  (RulesF.enumItem spec.ex).isSome &&
  (spec.rules.all fun r => match r with | .fmt .email => false | _ => true) &&
  (spec.rules.all fun r => CK.compat (cnOfRule spec.ex r).ty (jtOf (JT.ofKind spec.kind)))

mutual
/-- the class: the only nodes with a types list are type shortcuts `@t` -/
def nr : CN → Bool
  | .lit spec bad => bad || (guessK spec && (spec.rules.isEmpty || litRulesOK spec))
  | .any jt lit =>
    (match lit with
     | some l => jt == JT.ofKind l.kind && guessK l
     | none => jt == .obj || jt == .arr || jt == .mixed)
  | .arr items _ _ => nrItems items
  | .obj props add _ _ => nrProps props && (match add with | .type n => decide (byteChars n) | _ => true)
  | .ref names _ jt ex orShort =>
    jt == .mixed && ex.isNone && !orShort && names.all fun n => decide (byteChars n)
def nrItems : List CN → Bool
  | [] => true
  | x :: xs => nr x && nrItems xs
def nrProps : List (String × Bool × Bool × Bool × CN) → Bool
  | [] => true
  | (k, short, _, _, x) :: xs => (!short || decide (byteChars ("@" ++ k))) && nr x && nrProps xs
end

/-- the root of the tree is not a node with a types list (the types a key shortcut names) -/
def notRef : CN → Bool
  | .ref _ _ _ _ _ => false
  | _ => true

theorem ref_of_not_notRef : (t : CN) → ¬ notRef t = true → ∃ names nul jt ex os, t = .ref names nul jt ex os
  | .ref names nul jt ex os, _ => ⟨names, nul, jt, ex, os, rfl⟩
  | .lit _ _, h | .any _ _, h | .arr _ _ _, h | .obj _ _ _ _, h => absurd rfl h

/-- (A)'s outcome of a node as the panic that leaves (C)'s `checkNode` (all positions are 0 in the dump) -/
def panicOf : Except Err Unit → Option CK.Panic
  | .ok _ => none
  | .error (.code c _) => some (.doc c 0 0)
  | .error (.unsupported _) => some .other

/-- the two type tables answer alike: the entry of `n` in (C)'s table is the dump of (A)'s -/
def EnvRel (ts : Types) (env : CK.Env) : Prop :=
  ∀ n, byteChars n → env.lookup (name n) = (lookupT ts n).map fun cn => (dumpNode cn).hd

theorem envRel_none {ts : Types} {env : CK.Env} (hE : EnvRel ts env) (n : String) (hn : byteChars n) :
    (env.lookup (name n)).isNone = (lookupT ts n).isNone := by
  rw [hE n hn]; cases lookupT ts n <;> rfl

theorem typesList_add (add : Add) (rest : List CK.Cn) : CK.typesList? (addCs add ++ rest) = CK.typesList? rest := by
  cases add <;> rfl

/-- (C)'s fuel with the unit peeled off that the call on the node itself spends (`CheckerFuel`: one more than the
loops through the table need) -/
theorem fuel_succ (env : CK.Env) : env.fuel = (env.types.length + 1) + 1 := rfl

theorem validate_none (jt : CK.JT) (cs : List CK.Cn) (tok : List UInt8) (k : Rules.Kind)
    (hk : RulesF.kindOfTok tok = some k) (hj : jt = CK.jtOfKind k) (hE : CK.hasTy cs 15 = false)
    (hg : ∀ c ∈ cs, CK.toRule c = none) : CK.validateLiteralValue noOracles jt cs tok = none := by
  unfold CK.validateLiteralValue CK.checkNotAnEnum CK.literalJsonType
  simp only [hE, Bool.false_eq_true, if_false, hk, hj, beq_self_eq_true, Bool.true_or, if_true]
  split
  · rfl
  · rw [List.findSome?_eq_none_iff]
    intro c hc
    unfold CK.cnValidate
    rw [hg c ((CK.mem_sortedCs cs c).1 hc)]

theorem nul_toRule (nul : Bool) (rest : List CK.Cn) (h : ∀ c ∈ rest, CK.toRule c = none) :
    ∀ c ∈ nulCs nul ++ rest, CK.toRule c = none := by
  intro c hc
  cases nul
  · exact h c (by simpa [nulCs] using hc)
  · simp only [nulCs, if_true, List.cons_append, List.nil_append, List.mem_cons] at hc
    rcases hc with rfl | hc
    · rfl
    · exact h c hc

section
variable (ts : Types) (env : CK.Env) (fuel : Nat)

theorem chk_lit (jt : CK.JT) (cs : List CK.Cn) (tok : List UInt8) :
    CK.Chk.check noOracles (lexLit tok) (.lit jt cs) = (CK.validateLiteralValue noOracles jt cs tok).map codeOfPanic := by
  unfold CK.Chk.check lexLit
  simp only [bne_self_eq_false, Bool.false_eq_true, if_false]
  cases CK.validateLiteralValue noOracles jt cs tok with
  | none => rfl
  | some p => cases p <;> rfl

theorem single_verdict (lex : CK.Lex) (c : CK.Chk) :
    CK.literalVerdict noOracles lex [c] = (c.check noOracles lex).map fun code => .doc code lex.file lex.begin := by
  unfold CK.literalVerdict
  cases h : c.check noOracles lex <;> simp [h]

/-- a literal node without a types list: `ValidateLiteralValue` of the node's own token, its code at the node's lexeme -/
theorem checkNode_lit (i : CK.Info) (tok : List UInt8) (hnk : i.nk = .lit) (hlex : i.lex = lexLit tok)
    (hc : (i.cs.any fun c => !CK.compat c.ty i.jt) = false) (hl : CK.typesList? i.cs = none) :
    CK.checkNode noOracles env (.mk i []) =
      (CK.validateLiteralValue noOracles i.jt i.cs tok).map fun p => .doc (codeOfPanic p) 0 0 := by
  rw [checkNode_mk, nodeErr_plain env ⟨i, _⟩ hc hl]
  simp only [hnk, CK.literalErr, CK.checkerList_plain env i hl hnk, single_verdict, hlex, chk_lit, CK.isBranch]
  cases CK.validateLiteralValue noOracles i.jt i.cs tok <;> rfl

theorem lit_node_rules (spec : RulesF.LitSpecF) (hg : guessK spec = true) (hro : litRulesOK spec = true) :
    CK.checkNode noOracles env (dumpNode (.lit spec false)) = panicOf (Compile.checkNode ts fuel (.lit spec false)) := by
  simp only [litRulesOK, Bool.and_eq_true] at hro
  obtain ⟨⟨hen, hne⟩, hfl⟩ := hro
  have hlit := lit_tok spec spec.ex spec.kind (by simpa [guessK] using hg) hen hne [] (fun c hc => by cases hc)
  rw [List.append_nil] at hlit
  have hcompat : ((litCs spec).any fun c => !CK.compat c.ty (jtOf (JT.ofKind spec.kind))) = false := by
    unfold litCs
    rw [List.any_append, List.any_map, compat_nul, Bool.false_or, List.any_eq_false]
    intro r hr
    have := List.all_eq_true.1 hfl r hr
    simp [this]
  simp only [dumpNode, Bool.false_eq_true, if_false, List.append_nil]
  rw [checkNode_lit env _ spec.ex rfl rfl hcompat (typesList_litCs spec)]
  simp only [Compile.checkNode, Bool.false_eq_true, if_false, ← hlit]
  cases CK.validateLiteralValue noOracles (jtOf (JT.ofKind spec.kind)) (litCs spec) spec.ex <;> rfl

theorem lit_agree (spec : RulesF.LitSpecF) (bad : Bool) (h : nr (.lit spec bad) = true) :
    CK.checkNode noOracles env (dumpNode (.lit spec bad)) = panicOf (Compile.checkNode ts fuel (.lit spec bad)) := by
  cases bad with
  | true =>
    rw [dumpNode, checkNode_mk, nodeErr_incompatible env _ rfl (by
      rw [List.any_append, Bool.or_eq_true]
      exact Or.inr (by cases spec.kind <;> rfl))]
    rfl
  | false =>
    simp only [nr, Bool.false_or, Bool.and_eq_true, Bool.or_eq_true, List.isEmpty_iff] at h
    obtain ⟨hg, hcase⟩ := h
    have hk : RulesF.kindOfTok spec.ex = some spec.kind := by simpa [guessK] using hg
    rcases hcase with hr | hro
    · have hA : litErr spec spec.ex = none := by
        unfold litErr RulesF.litOKFull RulesF.kindGate
        simp [hk, hr]
      have hcs : litCs spec = nulCs spec.nul := by simp [litCs, hr]
      simp only [dumpNode, Bool.false_eq_true, if_false, List.append_nil, hcs]
      rw [checkNode_lit env _ spec.ex rfl rfl (compat_nul _ _) (by cases spec.nul <;> rfl)]
      simp only [Compile.checkNode, Bool.false_eq_true, if_false, hA]
      rw [validate_none _ _ spec.ex spec.kind hk (jt_kind _) (by cases spec.nul <;> rfl)
        (by have := nul_toRule spec.nul [] (by simp); simpa using this)]
      rfl
    · exact lit_node_rules ts env fuel spec hg hro

theorem any_agree (jt : JT) (lit : Option RulesF.LitSpecF) (h : nr (.any jt lit) = true) :
    CK.checkNode noOracles env (dumpNode (.any jt lit)) = panicOf (Compile.checkNode ts fuel (.any jt lit)) := by
  cases lit with
  | none =>
    simp only [nr, Bool.or_eq_true, beq_iff_eq] at h
    rcases h with (h | h) | h <;> subst h <;> rfl
  | some l =>
    simp only [nr, Bool.and_eq_true, beq_iff_eq] at h
    obtain ⟨hj, hg⟩ := h
    subst hj
    have hk : RulesF.kindOfTok l.ex = some l.kind := by simpa [guessK] using hg
    have hnk : nkOfJT (JT.ofKind l.kind) = .lit := by cases l.kind <;> rfl
    have htl : CK.typesList? (nulCs l.nul ++ [CK.Cn.any]) = none := by rw [typesList_nul]; rfl
    rw [dumpNode, checkNode_lit env _ l.ex hnk rfl (by rw [List.any_append, compat_nul]; rfl) htl]
    simp only []
    rw [validate_none _ _ l.ex l.kind hk (jt_kind _) (by cases l.nul <;> rfl)
      (nul_toRule l.nul [CK.Cn.any] (by simp [CK.toRule]))]
    rfl

theorem jt_str (j : JT) : (jtOf j != CK.JT.string) = (some j != some JT.str) := by cases j <;> rfl

/-- the root of a type a key shortcut may name: not a type shortcut / or-shortcut (`actualRootType` would follow it) —
a typed literal `"ab" // {type: "@s"}` has its own JSON type -/
def keyHead : CN → Bool
  | .ref _ _ jt _ _ => jt != .mixed
  | _ => true

/-- (C)'s `actualRootTypeVisiting` on the dump of a type root that is not a type shortcut: that root's own JSON type, on
any path, whatever else the node carries -/
theorem actualC_head (env : CK.Env) (f : Nat) (vis : List CK.Name) : (cn : CN) → keyHead cn = true →
    ∃ j, cn.jt = some j ∧ CK.actualRoot env (f + 1) vis (dumpNode cn).hd.info = some (jtOf j)
  | .lit spec bad, _ => ⟨JT.ofKind spec.kind, rfl, by
      obtain ⟨k, _, _, _⟩ := spec
      cases k <;> rfl⟩
  | .any jt lit, _ => ⟨jt, rfl, by cases lit <;> cases jt <;> rfl⟩
  | .arr _ _ _, _ => ⟨.arr, rfl, rfl⟩
  | .obj _ _ _ _, _ => ⟨.obj, rfl, rfl⟩
  | .ref _ _ jt _ _, h => ⟨jt, rfl, by cases jt <;> first | rfl | cases h⟩

/-- (A)'s `actualRootType` of a type whose root is not an alias is that root's JSON type -/
theorem actualA (f : Nat) (n : String) (cn : CN) (hl : lookupT ts n = some cn)
    (h : ∀ names nul jt ex os, cn = .ref names nul jt ex os → (jt != .mixed) = true) :
    Compile.actualRoot ts (f + 1) [] n = cn.jt := by
  unfold Compile.actualRoot
  rw [hl]
  cases cn with
  | ref names nul jt ex os => simp only [h _ _ _ _ _ rfl, if_true, CN.jt]
  | _ => rfl

/-- `ensureShortcutKeysAreValid`: key by key, the first shortcut key that is undefined (1302) or whose type is not a
string (1304) — given that, for every shortcut key, the two tables answer alike and the two `actualRootType`s agree on
"is a string" -/
theorem keys_agree_of : (props : List (String × Bool × Bool × Bool × CN)) →
    (∀ p ∈ props, p.2.1 = true →
      env.lookup (name ("@" ++ p.1)) = (lookupT ts ("@" ++ p.1)).map (fun cn => (dumpNode cn).hd) ∧
      ∀ cn, lookupT ts ("@" ++ p.1) = some cn → ∃ j, CK.actualRoot env env.fuel [] (dumpNode cn).hd.info = some j ∧
        (j != CK.JT.string) = (Compile.actualRoot ts fuel [] ("@" ++ p.1) != some .str)) →
    CK.keysErr env (dumpKeys props) =
      (props.find? (fun p => p.2.1 && ((lookupT ts ("@" ++ p.1)).isNone
          || Compile.actualRoot ts fuel [] ("@" ++ p.1) != some .str))).map
        (fun p => CK.Panic.doc (if (lookupT ts ("@" ++ p.1)).isNone then 1302 else 1304) 0 0)
  | [], _ => rfl
  | (k, short, r, o, x) :: xs, h => by
    have ih := keys_agree_of xs (fun p hp => h p (List.mem_cons_of_mem _ hp))
    cases short with
    | false => simp [dumpKeys, CK.keysErr, ih]
    | true =>
      obtain ⟨hlk, hcn⟩ := h (k, true, r, o, x) List.mem_cons_self rfl
      simp only at hlk hcn
      simp only [dumpKeys, CK.keysErr, if_true, Bool.not_true, Bool.false_eq_true, if_false, hlk, List.find?_cons,
        Bool.true_and]
      cases hl : lookupT ts ("@" ++ k) with
      | none => simp [lexBranch, hl]
      | some cn =>
        obtain ⟨j, hc, hs⟩ := hcn cn hl
        rw [Option.map_some]
        simp only [hc, hs, Option.isNone_some, Bool.false_or]
        cases (Compile.actualRoot ts fuel [] ("@" ++ k) != some JT.str)
        · simpa using ih
        · simp [lexBranch, hl]

/-- a Boolean predicate on lists with `PL (x :: xs) = (P x && PL xs)` holds of every member -/
theorem mem_of_all {α : Type} {P : α → Bool} {PL : List α → Bool} (hcons : ∀ x xs, PL (x :: xs) = (P x && PL xs)) :
    (l : List α) → PL l = true → ∀ x ∈ l, P x = true
  | [], _, x, hx => by cases hx
  | y :: ys, h, x, hx => by
    rw [hcons, Bool.and_eq_true] at h
    rcases List.mem_cons.1 hx with rfl | hx
    · exact h.1
    · exact mem_of_all hcons ys h.2 x hx

theorem nrItems_mem (items : List CN) (h : nrItems items = true) : ∀ x ∈ items, nr x = true :=
  mem_of_all (fun _ _ => rfl) items h

theorem nrProps_mem (props : List (String × Bool × Bool × Bool × CN)) (h : nrProps props = true) :
    ∀ p ∈ props, nr p.2.2.2.2 = true ∧ (p.2.1 = true → byteChars ("@" ++ p.1)) := fun p hp => by
  have := mem_of_all (P := fun p => (!p.2.1 || decide (byteChars ("@" ++ p.1))) && nr p.2.2.2.2)
    (fun ⟨_, _, _, _, _⟩ _ => rfl) props h p hp
  simp only [Bool.and_eq_true, Bool.or_eq_true, Bool.not_eq_true', decide_eq_true_eq] at this
  exact ⟨this.2, fun hs => this.1.resolve_left (by simp [hs])⟩

/-- … when no key shortcut names an alias: each side reads the root type off the type's own root, one unit of fuel is
enough -/
theorem keys_agree_direct (hf : ∃ f, fuel = f + 1) (props : List (String × Bool × Bool × Bool × CN))
    (h : ∀ p ∈ props, p.2.1 = true →
      env.lookup (name ("@" ++ p.1)) = (lookupT ts ("@" ++ p.1)).map (fun cn => (dumpNode cn).hd) ∧
      ∀ cn, lookupT ts ("@" ++ p.1) = some cn → keyHead cn = true) :
    CK.keysErr env (dumpKeys props) =
      (props.find? (fun p => p.2.1 && ((lookupT ts ("@" ++ p.1)).isNone
          || Compile.actualRoot ts fuel [] ("@" ++ p.1) != some .str))).map
        (fun p => CK.Panic.doc (if (lookupT ts ("@" ++ p.1)).isNone then 1302 else 1304) 0 0) := by
  obtain ⟨f, rfl⟩ := hf
  refine keys_agree_of ts env (f + 1) props fun p hm hs => ⟨(h p hm hs).1, fun cn hl => ?_⟩
  have hk := (h p hm hs).2 cn hl
  obtain ⟨j, hj, hc⟩ := actualC_head env (env.types.length + 1) [] cn hk
  exact ⟨jtOf j, by rw [fuel_succ]; exact hc, by
    rw [actualA ts f _ cn hl (fun _ _ _ _ _ e => by subst e; exact hk), hj]
    exact jt_str j⟩

theorem keyHead_of_notRef : (cn : CN) → notRef cn = true → keyHead cn = true
  | .ref _ _ _ _ _, h => by cases h
  | .lit _ _, _ | .any _ _, _ | .arr _ _ _, _ | .obj _ _ _ _, _ => rfl

/-- (A) at an array node: 1117, or on to the items -/
theorem checkNode_arr (items : List CN) (nul bad : Bool) :
    (∃ c, Compile.checkNode ts fuel (.arr items nul bad) = .error (.code c 0)) ∨
      Compile.checkNode ts fuel (.arr items nul bad) = checkItems ts fuel items := by
  cases bad with
  | true => exact Or.inl ⟨1117, by simp only [Compile.checkNode, if_true]⟩
  | false => exact Or.inr (by simp only [Compile.checkNode, Bool.false_eq_true, if_false])

/-- (A) at an object node: 1117, 1302 or 1304, or on to the members -/
theorem checkNode_obj (props : List (String × Bool × Bool × Bool × CN)) (add : Add) (nul bad : Bool) :
    (∃ c, Compile.checkNode ts fuel (.obj props add nul bad) = .error (.code c 0)) ∨
      Compile.checkNode ts fuel (.obj props add nul bad) = checkProps ts fuel props := by
  cases bad with
  | true => exact Or.inl ⟨1117, by simp only [Compile.checkNode, if_true]⟩
  | false =>
    simp only [Compile.checkNode, Bool.false_eq_true, if_false]
    cases props.find? (fun p => p.2.1 && ((lookupT ts ("@" ++ p.1)).isNone
        || Compile.actualRoot ts fuel [] ("@" ++ p.1) != some .str)) with
    | some p => exact Or.inl ⟨_, rfl⟩
    | none =>
      cases add with
      | type n =>
        simp only []
        cases (lookupT ts n).isNone
        · exact Or.inr rfl
        · exact Or.inl ⟨1302, rfl⟩
      | _ => exact Or.inr rfl

/-- an array node: flagged incompatible (1117), or both checkers go on to the items -/
theorem arr_agree (items : List CN) (nul bad : Bool) :
    (∃ c, Compile.checkNode ts fuel (.arr items nul bad) = .error (.code c 0) ∧
        CK.checkNode noOracles env (dumpNode (.arr items nul bad)) = some (.doc c 0 0)) ∨
      (Compile.checkNode ts fuel (.arr items nul bad) = checkItems ts fuel items ∧
        CK.checkNode noOracles env (dumpNode (.arr items nul bad)) = CK.checkNodes noOracles env (dumpItems items)) := by
  rw [dumpNode, checkNode_mk]
  cases bad with
  | true =>
    refine Or.inl ⟨1117, by simp only [Compile.checkNode, if_true], ?_⟩
    rw [nodeErr_incompatible env _ rfl (by cases nul <;> rfl)]
    rfl
  | false =>
    refine Or.inr ⟨by simp only [Compile.checkNode, Bool.false_eq_true, if_false], ?_⟩
    rw [nodeErr_plain env _ (by cases nul <;> rfl) (by cases nul <;> rfl)]
    -- `checkArrayItems` reads a types list, `checkArrayNode` reads `minItems` / `maxItems`: the dump has none of them
    generalize (dumpItems items).length = n
    cases nul <;> cases n <;> rfl

theorem addProps_cs (nul : Bool) (add : Add) :
    CK.addProps? (nulCs nul ++ addCs add ++ []) =
      (match add with
       | .absent => none | .notAllowed => some (0, []) | .any => some (1, []) | .type n => some (2, name n)
       | .obj | .arr | .soft _ => some (3, [])) := by
  cases nul <;> cases add <;> rfl

/-- an object node, given that the checks of the key shortcuts agree: the two checkers stop at the node with the same
code (1117, 1302, 1304), or both go on to the members -/
theorem obj_agree (props : List (String × Bool × Bool × Bool × CN)) (add : Add) (nul bad : Bool)
    (hkeys : CK.keysErr env (dumpKeys props) =
      (props.find? (fun p => p.2.1 && ((lookupT ts ("@" ++ p.1)).isNone
          || Compile.actualRoot ts fuel [] ("@" ++ p.1) != some .str))).map
        (fun p => CK.Panic.doc (if (lookupT ts ("@" ++ p.1)).isNone then 1302 else 1304) 0 0))
    (hadd : ∀ n, add = .type n → (env.lookup (name n)).isNone = (lookupT ts n).isNone) :
    (∃ c, Compile.checkNode ts fuel (.obj props add nul bad) = .error (.code c 0) ∧
        CK.checkNode noOracles env (dumpNode (.obj props add nul bad)) = some (.doc c 0 0)) ∨
      (Compile.checkNode ts fuel (.obj props add nul bad) = checkProps ts fuel props ∧
        CK.checkNode noOracles env (dumpNode (.obj props add nul bad)) =
          CK.checkNodes noOracles env (dumpProps props)) := by
  rw [dumpNode, checkNode_mk]
  cases bad with
  | true =>
    refine Or.inl ⟨1117, by simp only [Compile.checkNode, if_true], ?_⟩
    rw [nodeErr_incompatible env _ rfl (by cases nul <;> cases add <;> rfl)]
    rfl
  | false =>
    rw [nodeErr_plain env _ (by cases nul <;> cases add <;> rfl)
      (by rw [List.append_assoc, typesList_nul, typesList_add]; rfl)]
    simp only [hkeys, Compile.checkNode, Bool.false_eq_true, if_false]
    cases props.find? (fun p => p.2.1 && ((lookupT ts ("@" ++ p.1)).isNone
        || Compile.actualRoot ts fuel [] ("@" ++ p.1) != some .str)) with
    | some p => exact Or.inl ⟨_, rfl, rfl⟩
    | none =>
      simp only [Option.map_none, CK.orElse, CK.addPropsErr, addProps_cs]
      cases add with
      | type n =>
        simp only [hadd n rfl]
        cases (lookupT ts n).isNone
        · exact Or.inr ⟨rfl, rfl⟩
        · exact Or.inl ⟨1302, rfl, rfl⟩
      | _ => exact Or.inr ⟨rfl, rfl⟩

/-- a type shortcut / or-shortcut node, given that the two tables agree on which of its names are defined: every name
must be defined (1302) -/
theorem ref_mixed (names : List String) (nul orShort : Bool)
    (hany : ((names.map name).any fun n => (env.lookup n).isNone) = !(names.all fun n => (lookupT ts n).isSome)) :
    CK.checkNode noOracles env (dumpNode (.ref names nul .mixed none orShort)) =
      panicOf (Compile.checkNode ts fuel (.ref names nul .mixed none orShort)) := by
  simp only [dumpNode, nkOfJT, CK.checkNode, Compile.checkNode, beq_self_eq_true, if_true, List.length_nil]
  have htl : CK.typesList? ([CK.Cn.typesList (names.map name)] ++ nulCs nul) = some (names.map name) := rfl
  rw [CK.nodeErr_eq_parts, CK.parts, show CK.compatErr _ = none from by unfold CK.compatErr; rfl]
  unfold CK.linksErr
  rw [htl, fuel_succ]
  unfold CK.collect
  simp only [beq_self_eq_true, if_true, htl, hany]
  cases hall : names.all fun n => (lookupT ts n).isSome
  · simp [CK.catchLex, lexBranch, panicOf]
  · simp [CK.allTypes, jtOf, CK.isBranch, panicOf]

theorem ref_agree (hE : EnvRel ts env) (names : List String) (nul : Bool) (jt : JT) (ex : Option (List UInt8))
    (orShort : Bool) (h : nr (.ref names nul jt ex orShort) = true) :
    CK.checkNode noOracles env (dumpNode (.ref names nul jt ex orShort)) =
      panicOf (Compile.checkNode ts fuel (.ref names nul jt ex orShort)) := by
  simp only [nr, Bool.and_eq_true, beq_iff_eq, Option.isNone_iff_eq_none, Bool.not_eq_true', List.all_eq_true,
    decide_eq_true_eq] at h
  obtain ⟨⟨⟨hj, hex⟩, _⟩, hb⟩ := h
  subst hj
  subst hex
  refine ref_mixed ts env fuel names nul orShort ?_
  rw [List.any_map]
  induction names with
  | nil => rfl
  | cons n ns ih =>
    have := envRel_none hE n (hb n List.mem_cons_self)
    simp only [List.any_cons, List.all_cons, Function.comp_apply, this, ih (fun x hx => hb x (List.mem_cons_of_mem _ hx))]
    cases lookupT ts n <;> simp

mutual
/-- (A)'s errors on this class carry position 0 and are never `unsupported` -/
theorem nr_pos : (cn : CN) → nr cn = true → ∀ e, Compile.checkNode ts fuel cn = .error e → ∃ c, e = .code c 0
  | .lit spec bad, h, e, he => by
    cases bad with
    | true => simp [Compile.checkNode] at he; exact ⟨1117, he.symm⟩
    | false =>
      simp only [Compile.checkNode, Bool.false_eq_true, if_false] at he
      cases hl : litErr spec spec.ex with
      | none => rw [hl] at he; cases he
      | some c => rw [hl] at he; cases he; exact ⟨c, rfl⟩
  | .any _ _, _, e, he => by simp [Compile.checkNode] at he
  | .arr items nul bad, h, e, he => by
    rcases checkNode_arr ts fuel items nul bad with ⟨c, hc⟩ | hc
    · rw [hc] at he; cases he; exact ⟨c, rfl⟩
    · rw [hc] at he; exact nr_pos_items items (by simpa [nr] using h) e he
  | .obj props add nul bad, h, e, he => by
    simp only [nr, Bool.and_eq_true] at h
    rcases checkNode_obj ts fuel props add nul bad with ⟨c, hc⟩ | hc
    · rw [hc] at he; cases he; exact ⟨c, rfl⟩
    · rw [hc] at he; exact nr_pos_props props h.1 e he
  | .ref names nul jt ex orShort, h, e, he => by
    simp only [nr, Bool.and_eq_true, beq_iff_eq] at h
    rw [h.1.1.1] at he
    simp only [Compile.checkNode, beq_self_eq_true, if_true] at he
    split at he
    · cases he
    · cases he; exact ⟨1302, rfl⟩
theorem nr_pos_items : (items : List CN) → nrItems items = true → ∀ e, checkItems ts fuel items = .error e → ∃ c, e = .code c 0
  | [], _, e, he => by simp [checkItems] at he
  | x :: xs, h, e, he => by
    simp only [nrItems, Bool.and_eq_true] at h
    simp only [checkItems] at he
    cases hx : Compile.checkNode ts fuel x with
    | ok u => rw [hx] at he; cases u; exact nr_pos_items xs h.2 e he
    | error e' => rw [hx] at he; cases he; exact nr_pos x h.1 e hx
theorem nr_pos_props : (props : List (String × Bool × Bool × Bool × CN)) → nrProps props = true →
    ∀ e, checkProps ts fuel props = .error e → ∃ c, e = .code c 0
  | [], _, e, he => by simp [checkProps] at he
  | (k, s, r, o, x) :: xs, h, e, he => by
    simp only [nrProps, Bool.and_eq_true] at h
    simp only [checkProps] at he
    cases hx : Compile.checkNode ts fuel x with
    | ok u => rw [hx] at he; cases u; exact nr_pos_props xs h.2 e he
    | error e' => rw [hx] at he; cases he; exact nr_pos x h.1.2 e hx
end

/-! ### the tree -/

/-- every error of (A) is a code at position 0: what `panicOf` can render as a panic of (C) -/
def Pos (a : Except Err Unit) : Prop := ∀ e, a = .error e → ∃ c, e = .code c 0

theorem pos_ok : Pos (.ok ()) := fun e he => by cases he

theorem pos_code (c : Nat) : Pos (.error (.code c 0)) := fun e he => by cases he; exact ⟨c, rfl⟩

/-- (A) did not answer `unsupported`; from `Compile.checkNode` and its loops that answer only ever means "out of fuel"
(`BridgeCK3Fuel`: it does not occur) -/
def NoFuel (a : Except Err Unit) : Prop := ∀ w, a ≠ .error (.unsupported w)

theorem pos_noFuel {a : Except Err Unit} (h : Pos a) : NoFuel a := fun w hw => by
  obtain ⟨c, hc⟩ := h _ hw
  cases hc

/-- a node and then its younger siblings, as `checkItems` / `checkProps` and `CK.checkNodes` chain them: the first error
wins -/
theorem seq_agree {a b : Except Err Unit} {c d : Option CK.Panic} (h1 : NoFuel a → c = panicOf a ∧ Pos a)
    (h2 : NoFuel b → d = panicOf b ∧ Pos b)
    (hA : NoFuel (match (generalizing := false) a with | .error e => .error e | .ok () => b)) :
    (match (generalizing := false) c with | some p => some p | none => d) =
        panicOf (match (generalizing := false) a with | .error e => .error e | .ok () => b) ∧
      Pos (match (generalizing := false) a with | .error e => .error e | .ok () => b) := by
  cases a with
  | error e =>
    obtain ⟨hc, hp⟩ := h1 hA
    obtain ⟨code, rfl⟩ := hp e rfl
    subst hc
    exact ⟨rfl, pos_code code⟩
  | ok u =>
    cases u
    obtain ⟨hc, _⟩ := h1 (fun w hw => by cases hw)
    subst hc
    exact h2 hA

/-- what the induction over a tree asks of a class of nodes: its literal and `any` nodes are those of `nr`; on its nodes
with a types list the two checkers agree; arrays and objects hand the class down to their children; on its objects the
checks of the key shortcuts and of `additionalProperties: "@T"` agree -/
structure TreeClass (C : CN → Prop) : Prop where
  lit : ∀ spec bad, C (.lit spec bad) → nr (.lit spec bad) = true
  any : ∀ jt lit, C (.any jt lit) → nr (.any jt lit) = true
  ref : ∀ names nul jt ex os, C (.ref names nul jt ex os) → NoFuel (Compile.checkNode ts fuel (.ref names nul jt ex os)) →
    CK.checkNode noOracles env (dumpNode (.ref names nul jt ex os)) =
        panicOf (Compile.checkNode ts fuel (.ref names nul jt ex os)) ∧
      Pos (Compile.checkNode ts fuel (.ref names nul jt ex os))
  items : ∀ items nul bad, C (.arr items nul bad) → ∀ x ∈ items, C x
  props : ∀ props add nul bad, C (.obj props add nul bad) → (∀ p ∈ props, C p.2.2.2.2) ∧
    CK.keysErr env (dumpKeys props) =
      (props.find? (fun p => p.2.1 && ((lookupT ts ("@" ++ p.1)).isNone
          || Compile.actualRoot ts fuel [] ("@" ++ p.1) != some .str))).map
        (fun p => CK.Panic.doc (if (lookupT ts ("@" ++ p.1)).isNone then 1302 else 1304) 0 0) ∧
    ∀ n, add = .type n → (env.lookup (name n)).isNone = (lookupT ts n).isNone

variable (C : CN → Prop)

mutual
/-- **node by node, in the same traversal order**, unless (A) runs out of fuel -/
theorem node_c (hC : TreeClass ts env fuel C) : (cn : CN) → C cn → NoFuel (Compile.checkNode ts fuel cn) →
    CK.checkNode noOracles env (dumpNode cn) = panicOf (Compile.checkNode ts fuel cn) ∧ Pos (Compile.checkNode ts fuel cn)
  | .lit spec bad, h, _ => ⟨lit_agree ts env fuel spec bad (hC.lit _ _ h), nr_pos ts fuel _ (hC.lit _ _ h)⟩
  | .any jt lit, h, _ => ⟨any_agree ts env fuel jt lit (hC.any _ _ h), nr_pos ts fuel _ (hC.any _ _ h)⟩
  | .ref names nul jt ex os, h, hA => hC.ref names nul jt ex os h hA
  | .arr items nul bad, h, hA => by
    rcases arr_agree ts env fuel items nul bad with ⟨c, hA', hC'⟩ | ⟨hA', hC'⟩
    · rw [hA', hC']
      exact ⟨rfl, pos_code c⟩
    · rw [hA'] at hA ⊢
      rw [hC']
      exact items_c hC items (hC.items _ _ _ h) hA
  | .obj props add nul bad, h, hA => by
    obtain ⟨hp, hkeys, hadd⟩ := hC.props _ _ _ _ h
    rcases obj_agree ts env fuel props add nul bad hkeys hadd with ⟨c, hA', hC'⟩ | ⟨hA', hC'⟩
    · rw [hA', hC']
      exact ⟨rfl, pos_code c⟩
    · rw [hA'] at hA ⊢
      rw [hC']
      exact props_c hC props hp hA
theorem items_c (hC : TreeClass ts env fuel C) : (items : List CN) → (∀ x ∈ items, C x) →
    NoFuel (checkItems ts fuel items) →
    CK.checkNodes noOracles env (dumpItems items) = panicOf (checkItems ts fuel items) ∧ Pos (checkItems ts fuel items)
  | [], _, _ => ⟨rfl, pos_ok⟩
  | x :: xs, h, hA => by
    simp only [dumpItems, CK.checkNodes, checkItems] at hA ⊢
    exact seq_agree (node_c hC x (h x List.mem_cons_self)) (items_c hC xs fun y hy => h y (List.mem_cons_of_mem _ hy)) hA
theorem props_c (hC : TreeClass ts env fuel C) : (props : List (String × Bool × Bool × Bool × CN)) →
    (∀ p ∈ props, C p.2.2.2.2) → NoFuel (checkProps ts fuel props) →
    CK.checkNodes noOracles env (dumpProps props) = panicOf (checkProps ts fuel props) ∧ Pos (checkProps ts fuel props)
  | [], _, _ => ⟨rfl, pos_ok⟩
  | (k, s, r, o, x) :: xs, h, hA => by
    simp only [dumpProps, CK.checkNodes, checkProps] at hA ⊢
    exact seq_agree (node_c hC x (h _ List.mem_cons_self)) (props_c hC xs fun y hy => h y (List.mem_cons_of_mem _ hy)) hA
end

end

/-! ### the class `nr` -/

section
variable (ts : Types) (env : CK.Env) (fuel : Nat)

theorem nr_class (hE : EnvRel ts env) (hT : ∀ n cn, lookupT ts n = some cn → nr cn = true ∧ notRef cn = true)
    (hf : ∃ f, fuel = f + 1) : TreeClass ts env fuel fun cn => nr cn = true where
  lit _ _ h := h
  any _ _ h := h
  ref names nul jt ex os h _ := ⟨ref_agree ts env fuel hE names nul jt ex os h, nr_pos ts fuel _ h⟩
  items items _ _ h := nrItems_mem items (by simpa only [nr] using h)
  props props add _ _ h := by
    simp only [nr, Bool.and_eq_true] at h
    exact ⟨fun p hp => (nrProps_mem props h.1 p hp).1,
      keys_agree_direct ts env fuel hf props fun p hp hs =>
        ⟨hE _ ((nrProps_mem props h.1 p hp).2 hs), fun cn hl => keyHead_of_notRef cn (hT _ cn hl).2⟩,
      fun n e => envRel_none hE n (by subst e; simpa using h.2)⟩

theorem node_agree (hE : EnvRel ts env) (hT : ∀ n cn, lookupT ts n = some cn → nr cn = true ∧ notRef cn = true) (hf : ∃ f, fuel = f + 1) :
    (cn : CN) → nr cn = true →
    CK.checkNode noOracles env (dumpNode cn) = panicOf (Compile.checkNode ts fuel cn) :=
  fun cn h => (node_c ts env fuel _ (nr_class ts env fuel hE hT hf) cn h (pos_noFuel (nr_pos ts fuel cn h))).1

theorem items_agree (hE : EnvRel ts env) (hT : ∀ n cn, lookupT ts n = some cn → nr cn = true ∧ notRef cn = true) (hf : ∃ f, fuel = f + 1) :
    (items : List CN) → nrItems items = true →
    CK.checkNodes noOracles env (dumpItems items) = panicOf (checkItems ts fuel items) :=
  fun items h => (items_c ts env fuel _ (nr_class ts env fuel hE hT hf) items (nrItems_mem items h)
    (pos_noFuel (nr_pos_items ts fuel items h))).1

theorem props_agree (hE : EnvRel ts env) (hT : ∀ n cn, lookupT ts n = some cn → nr cn = true ∧ notRef cn = true) (hf : ∃ f, fuel = f + 1) :
    (props : List (String × Bool × Bool × Bool × CN)) → nrProps props = true →
    CK.checkNodes noOracles env (dumpProps props) = panicOf (checkProps ts fuel props) :=
  fun props h => (props_c ts env fuel _ (nr_class ts env fuel hE hT hf) props (fun p hp => (nrProps_mem props h p hp).1)
    (pos_noFuel (nr_pos_props ts fuel props h))).1

end

end BridgeCK
