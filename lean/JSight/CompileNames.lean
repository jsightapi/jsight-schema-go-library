import JSight.Compile
/-!
Rule names are byte strings written as `sb "name"` (the UTF-8 bytes of a string literal). `sb` is injective, so a
comparison of two such names is a comparison of the two literals, which `simp` decides: with `sb_inj` / `sb_beq` in the
simp set a model function that dispatches on rule names (`Compile.basic`, `findRule`, `hasRule`, `others`) evaluates on a
rule list with literal names without a table of the names' bytes. Also here: `findRule` against `hasRule`.
-/
namespace Compile

theorem toList_loop (bs : ByteArray) : ∀ (k i : Nat) (r : List UInt8), bs.data.size - i = k →
    ByteArray.toList.loop bs i r = r.reverse ++ bs.data.toList.drop i := by
  intro k
  induction k with
  | zero =>
    intro i r h
    rw [ByteArray.toList.loop]
    have hn : ¬ i < bs.size := by show ¬ i < bs.data.size; omega
    rw [if_neg hn, List.drop_eq_nil_of_le (by rw [Array.length_toList]; omega), List.append_nil]
  | succ k ih =>
    intro i r h
    rw [ByteArray.toList.loop]
    have hi : i < bs.size := by show i < bs.data.size; omega
    rw [if_pos hi, ih (i + 1) _ (by omega)]
    have hi' : i < bs.data.toList.length := by rw [Array.length_toList]; exact hi
    rw [List.drop_eq_getElem_cons hi', List.reverse_cons, List.append_assoc]
    congr 1
    show bs.get! i :: _ = _
    congr 1
    simp only [ByteArray.get!, Array.getElem_toList]
    exact getElem!_pos bs.data i hi

theorem byteArray_toList (bs : ByteArray) : bs.toList = bs.data.toList := by
  rw [ByteArray.toList, toList_loop bs _ 0 [] rfl]; rfl

theorem sb_inj {a b : String} : sb a = sb b ↔ a = b := by
  refine ⟨fun h => ?_, fun h => h ▸ rfl⟩
  apply String.toByteArray_inj.1
  apply ByteArray.ext
  apply Array.ext'
  simpa only [sb, String.toUTF8, byteArray_toList] using h

theorem sb_beq (a b : String) : (sb a == sb b) = (a == b) := by
  by_cases h : a = b
  · subst h; simp
  · rw [beq_eq_false_iff_ne.2 h, beq_eq_false_iff_ne.2 fun e => h (sb_inj.1 e)]

/-! ### `findRule` and `hasRule` -/

theorem findRule_isSome (rs : List Rule) (s : String) : (findRule rs s).isSome = hasRule rs s := by
  unfold findRule hasRule
  rw [Bool.eq_iff_iff, List.find?_isSome, List.any_eq_true]

theorem findRule_none (rs : List Rule) (s : String) (h : hasRule rs s = false) : findRule rs s = none := by
  have := findRule_isSome rs s
  rw [h] at this
  cases hf : findRule rs s with
  | none => rfl
  | some r => rw [hf] at this; simp at this

theorem findRule_some_of (rs : List Rule) (s : String) (h : hasRule rs s = true) : ∃ r, findRule rs s = some r := by
  have := findRule_isSome rs s
  rw [h] at this
  exact Option.isSome_iff_exists.1 this

theorem findRule_name {rs : List Rule} {s : String} {r : Rule} (h : findRule rs s = some r) : r.name = sb s ∧ r ∈ rs := by
  unfold findRule at h
  have h1 := List.find?_some h
  exact ⟨by simpa using h1, List.mem_of_find?_eq_some h⟩

end Compile
