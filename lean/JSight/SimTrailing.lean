import JSight.Sim
/-! C05 with trailing characters: with AllowTrailingNonSpaceCharacters the scanner accepts iff the text begins with
one complete JSON value, scanned greedily. -/
open JsonScan
namespace Sim
open Rfc (Ctx RSt RCfg Num)

/-- spec: run the recogniser until it cannot continue; accept iff a complete top-level value has been read -/
def runP : RCfg → List Cls → Bool
  | r, [] => Rfc.accepting r
  | r, c :: cs => match Rfc.step r c with
    | some r' => runP r' cs
    | none => Rfc.accepting r

macro "step_caseT" : tactic => `(tactic| step_case)

macro "lit_caseT" k:ident : tactic => `(tactic| first
  | step_caseT
  | (cases $k:ident with
     | nil => step_caseT
     | cons x k' => cases x <;> step_caseT))

theorem run_eqT {m : Cfg} {r : RCfg} (h : R r m) (cs : List Cls) :
    (run true m cs).isOk = runP r cs := by
  induction cs generalizing m r with
  | nil => simpa [run, runP] using sim_eof h
  | cons c cs ih =>
    rcases sim_step true h c with ⟨r', m', hs, hf, hR⟩ | ⟨hs, ⟨ha, hf⟩ | ⟨ha, ctx, hf⟩⟩
    · simp only [run, hf, runP, hs, bind, Except.bind]
      exact ih hR
    · simp only [Bool.and_true] at ha
      simp [run, hf, runP, hs, ha, bind, Except.bind, Except.isOk, Except.toBool, pure, Except.pure]
    · simp only [Bool.and_true] at ha
      simp [run, hf, runP, hs, ha, bind, Except.bind, Except.isOk, Except.toBool]

/-- C05 for either setting of `AllowTrailingNonSpaceCharacters`: the scanner's verdict is the recogniser's, read
strictly or as "begins with a complete value". -/
theorem C05_check (allow : Bool) (bs : List UInt8) :
    check allow bs =
      if allow then runP RCfg.init (bs.map classify) else specResult RCfg.init (bs.map classify) := by
  cases allow
  · exact run_eq R.root _
  · exact run_eqT R.root _

/-- C05 with trailing characters allowed -/
theorem C05_trailing (bs : List UInt8) :
    check true bs = runP RCfg.init (bs.map classify) :=
  C05_check true bs

end Sim

#print axioms Sim.C05_trailing
