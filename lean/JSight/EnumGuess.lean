import JSight.EnumRouteEq
import JSight.NumberTotal
import JSight.ByteLemmas
import JSight.ClassifyInv
/-!
C18: every scalar token of the enum grammar (string, number without exponent, `true` / `false` / `null`) is known to
both type guessers — `GuessSchemaType` (for `Values()`) and `json.Guess(...).JsonType()` (for `NewEnumItem`):
`guessable_gtok`. With it `named_eq_inline` holds for every item list of the grammar without a side condition
(`named_eq_inline_grammar`).
-/
namespace EnumRoute
open SchemaScan (Cls classify)
open RulesF (Bytes)

/-! ### bytes and classes -/

/-- the nine bytes of the comparison `49 ≤ c ≤ 57` (class `d19`) -/
theorem d19_bytes : ∀ c : UInt8, (49 ≤ c && c ≤ 57) = true →
    ([49, 50, 51, 52, 53, 54, 55, 56, 57] : List UInt8).contains c = true := by
  have := Bytes.forall_uint8 (fun c => !(49 ≤ c && c ≤ 57) || ([49, 50, 51, 52, 53, 54, 55, 56, 57] : List UInt8).contains c)
    (by decide +kernel)
  intro c h
  simpa [h] using this c

/-- the byte of a class that holds a single byte (those the scalar tokens need) -/
def byteOf : Cls → Option UInt8
  | .quote => some 34 | .lt => some 116 | .lr => some 114 | .lu => some 117 | .le => some 101 | .lf => some 102
  | .la => some 97 | .ll => some 108 | .ls => some 115 | .ln => some 110 | _ => none

theorem byteOf_classify (c : UInt8) (b : UInt8) (hb : byteOf (classify c) = some b) : c = b := by
  have h := SchemaScan.classify_has c
  cases hk : classify c <;> rw [hk] at h hb <;> first | (cases hb; exact eq_of_beq (show (c == _) = true from h)) | cases hb

theorem cls_quote (c : UInt8) : (classify c == .quote) = (c == 34) := by
  cases hq : c == 34
  · cases hk : classify c == .quote
    · rfl
    · have := byteOf_classify c 34 (by rw [eq_of_beq hk]; rfl)
      rw [this] at hq; cases hq
  · rw [eq_of_beq hq]; rfl

/-- what `RulesF.toCh` makes of a byte of a number token (classes minus, zero, d19, dot) -/
def numCh (c : UInt8) : Num.Ch :=
  if c == 45 then .minus else if c == 46 then .dot else .d (c.toNat - 48)

/-- what is used of a byte of a number token: its character for `Num.scan`, the bytes it is not, and the byte (or
range) its class stands for -/
structure NumByte (c : UInt8) : Prop where
  toCh : RulesF.toCh [c] = [numCh c]
  ne_quote : c ≠ 34
  ne_e : c ≠ 101
  ne_E : c ≠ 69
  ne_t : c ≠ 116
  ne_f : c ≠ 102
  ne_n : c ≠ 110
  minus : classify c = .minus → c = 45
  dot : classify c = .dot → c = 46
  zero : classify c = .zero → c = 48
  d19 : classify c = .d19 → 49 ≤ c.toNat ∧ c.toNat ≤ 57
  not_dot : classify c ≠ .dot → c ≠ 46

theorem cls_num (c : UInt8) (h : classify c = .minus ∨ classify c = .zero ∨ classify c = .d19 ∨ classify c = .dot) :
    NumByte c := by
  -- the twelve bytes of these classes (`classify_has`), and the facts on each of them
  have hm : c ∈ ([45, 48, 46, 49, 50, 51, 52, 53, 54, 55, 56, 57] : List UInt8) := by
    have hh := SchemaScan.classify_has c
    rcases h with h | h | h | h <;> rw [h] at hh
    · rw [eq_of_beq hh]; decide
    · rw [eq_of_beq hh]; decide
    · exact List.mem_cons_of_mem _ (List.mem_cons_of_mem _ (List.mem_cons_of_mem _ (List.contains_iff_mem.mp (d19_bytes c hh))))
    · rw [eq_of_beq hh]; decide
  have := List.all_eq_true.mp (show ([45, 48, 46, 49, 50, 51, 52, 53, 54, 55, 56, 57] : List UInt8).all (fun c =>
    !(classify c == .minus || classify c == .zero || classify c == .d19 || classify c == .dot) ||
      ((RulesF.toCh [c] == [numCh c]) && c != 34 && c != 101 && c != 69 && c != 116 && c != 102 && c != 110 &&
        (!(classify c == .minus) || c == 45) && (!(classify c == .dot) || c == 46) && (!(classify c == .zero) || c == 48) &&
        (!(classify c == .d19) || (decide (49 ≤ c.toNat) && decide (c.toNat ≤ 57))) && ((classify c == .dot) || c != 46)))
      = true by decide +kernel) c hm
  have hc : (classify c == .minus || classify c == .zero || classify c == .d19 || classify c == .dot) = true := by
    rcases h with h | h | h | h <;> simp [h]
  simp only [hc, Bool.not_true, Bool.false_or, Bool.and_eq_true, bne_iff_ne, ne_eq, beq_iff_eq, Bool.or_eq_true,
    Bool.not_eq_true', decide_eq_true_eq, beq_eq_false_iff_ne] at this
  obtain ⟨⟨⟨⟨⟨⟨⟨⟨⟨⟨⟨a1, a2⟩, a3⟩, a4⟩, a5⟩, a6⟩, a7⟩, a8⟩, a9⟩, a10⟩, a11⟩, a12⟩ := this
  exact ⟨a1, a2, a3, a4, a5, a6, a7, fun h => a8.resolve_left (not_not_intro h), fun h => a9.resolve_left (not_not_intro h),
    fun h => a10.resolve_left (not_not_intro h), fun h => a11.resolve_left (not_not_intro h), fun h => a12.resolve_left h⟩

/-- the bytes of a class list of words -/
theorem bytes_of_word (t : Bytes) (w : List Cls) (bs : Bytes) (h : t.map classify = w)
    (hw : ∀ (i : Nat) (c : UInt8) (k : Cls), t[i]? = some c → w[i]? = some k → bs[i]? = some c) (hl : bs.length = w.length) :
    t = bs := by
  apply List.ext_getElem?
  intro i
  have hlen : t.length = w.length := by rw [← h, List.length_map]
  rcases Nat.lt_or_ge i t.length with hi | hi
  · have h1 : t[i]? = some t[i] := List.getElem?_eq_getElem hi
    have h2 : w[i]? = some w[i] := List.getElem?_eq_getElem (by omega)
    rw [hw i _ _ h1 h2, h1]
  · rw [List.getElem?_eq_none hi, List.getElem?_eq_none (by omega)]

/-- a text whose classes are single-byte classes is the text of those bytes -/
theorem word_bytes : ∀ (t : Bytes) (w : List Cls) (bs : Bytes), t.map classify = w → w.map byteOf = bs.map some → t = bs
  | [], _, bs, h, hb => by subst h; cases bs with | nil => rfl | cons _ _ => cases hb
  | c :: t, _, bs, h, hb => by
    subst h
    cases bs with
    | nil => cases hb
    | cons b bs =>
      simp only [List.map_cons, List.cons.injEq] at hb
      rw [byteOf_classify c b hb.1, word_bytes t _ bs rfl hb.2]

/-! ### numbers -/

def IsNumCls (c : Cls) : Prop := c = .minus ∨ c = .zero ∨ c = .d19 ∨ c = .dot

theorem numTok_cls (nt : EnumScan.NumTok) (wf : nt.WF) : ∀ c ∈ nt.render, IsNumCls c := by
  intro c hc
  have hd : ∀ (ds : List Cls), EnumScan.IsDigits ds → ∀ x ∈ ds, IsNumCls x := by
    intro ds hds x hx
    have := hds x hx
    cases x <;> simp [Cls.isDigit] at this <;> simp [IsNumCls]
  simp only [EnumScan.NumTok.render, List.mem_append] at hc
  rcases hc with (hc | hc) | hc
  · split at hc
    · simp at hc; subst hc; exact Or.inl rfl
    · cases hc
  · rcases wf.int with hz | ⟨ds, hi, hds⟩
    · rw [hz] at hc; simp at hc; subst hc; exact Or.inr (Or.inl rfl)
    · rw [hi] at hc
      simp only [List.mem_cons] at hc
      rcases hc with rfl | hc
      · exact Or.inr (Or.inr (Or.inl rfl))
      · exact hd ds hds c hc
  · unfold EnumScan.NumTok.tail at hc
    cases hf : nt.frac with
    | none => rw [hf] at hc; cases hc
    | some p =>
      obtain ⟨d, ds⟩ := p
      rw [hf] at hc
      obtain ⟨g1, g2⟩ := wf.frac d ds hf
      simp only [List.mem_cons] at hc
      rcases hc with rfl | rfl | hc
      · exact Or.inr (Or.inr (Or.inr rfl))
      · exact hd [c] (by intro x hx; simp at hx; subst hx; exact g1) c (by simp)
      · exact hd ds g2 c hc

theorem toCh_num (t : Bytes) (h : ∀ c ∈ t, IsNumCls (classify c)) : RulesF.toCh t = t.map numCh := by
  induction t with
  | nil => rfl
  | cons c cs ih =>
    have h1 := (cls_num c (h c (by simp))).toCh
    have e : RulesF.toCh (c :: cs) = RulesF.toCh [c] ++ RulesF.toCh cs := by simp [RulesF.toCh]
    rw [e, h1, ih (fun x hx => h x (by simp [hx]))]
    rfl

theorem num_flags (t : Bytes) (h : ∀ c ∈ t, IsNumCls (classify c)) :
    RulesF.hasExp t = false ∧ Unquote.inQuotes t = false ∧ (t == RulesF.sTrue) = false ∧ (t == RulesF.sFalse) = false ∧
      (t == RulesF.sNull) = false ∧ t ≠ [123] ∧ t ≠ [91] := by
  have hne : ∀ (c : UInt8), c ∈ t → NumByte c := fun c hc => cls_num c (h c hc)
  have hbr : ∀ (c : UInt8), c ∈ t → c ≠ 123 ∧ c ≠ 91 := by
    intro c hc
    have hcl := h c hc
    have e1 : classify 123 = .lbrace := by decide
    have e2 : classify 91 = .lbrack := by decide
    refine ⟨?_, ?_⟩ <;> intro e <;> subst e
    · rw [e1] at hcl; simp [IsNumCls] at hcl
    · rw [e2] at hcl; simp [IsNumCls] at hcl
  refine ⟨?_, ?_, ?_, ?_, ?_, ?_, ?_⟩
  · unfold RulesF.hasExp
    rw [List.any_eq_false]
    intro c hc
    have := hne c hc
    simp [this.ne_e, this.ne_E]
  · unfold Unquote.inQuotes
    cases t with
    | nil => simp
    | cons c cs =>
      have := (hne c (by simp)).ne_quote
      simp [this]
  · cases t with
    | nil => rfl
    | cons c cs =>
      have := (hne c (by simp)).ne_t
      simp [RulesF.sTrue, this]
  · cases t with
    | nil => rfl
    | cons c cs =>
      have := (hne c (by simp)).ne_f
      simp [RulesF.sFalse, this]
  · cases t with
    | nil => rfl
    | cons c cs =>
      have := (hne c (by simp)).ne_n
      simp [RulesF.sNull, this]
  · intro e; subst e; exact (hbr 123 (by simp)).1 rfl
  · intro e; subst e; exact (hbr 91 (by simp)).2 rfl

/-- an integer token is a numeral `json.NewNumber` recognises -/
theorem int_number (t : Bytes) (nt : EnumScan.NumTok) (wf : nt.WF) (ht : t.map classify = nt.render) (hf : nt.frac = none) :
    (RulesF.number t).isSome = true ∧ RulesF.hasDot t = false := by
  have hcls : ∀ c ∈ t, IsNumCls (classify c) := by
    intro c hc
    exact numTok_cls nt wf _ (by rw [← ht]; exact List.mem_map_of_mem hc)
  have hnodot : ∀ c ∈ t, classify c ≠ .dot := by
    intro c hc hd
    have hm : Cls.dot ∈ nt.render := by rw [← ht, ← hd]; exact List.mem_map_of_mem hc
    simp only [EnumScan.NumTok.render, EnumScan.NumTok.tail, hf, List.append_nil, List.mem_append] at hm
    rcases hm with hm | hm
    · split at hm <;> simp at hm
    · rcases wf.int with hz | ⟨ds, hi, hds⟩
      · rw [hz] at hm; simp at hm
      · rw [hi] at hm
        simp only [List.mem_cons] at hm
        rcases hm with hm | hm
        · cases hm
        · have := hds _ hm; simp [Cls.isDigit] at this
  refine ⟨?_, ?_⟩
  · unfold RulesF.number
    rw [toCh_num t hcls]
    -- the numeral
    have hrender : nt.render = (if nt.neg then [Cls.minus] else []) ++ nt.int := by
      simp [EnumScan.NumTok.render, EnumScan.NumTok.tail, hf]
    -- split `t` along the sign
    have key : ∀ (body : Bytes), body.map classify = nt.int →
        ∃ (h0 : Nat) (tl : List Nat), body.map numCh = Num.Ch.d h0 :: tl.map Num.Ch.d ∧ (h0 = 0 → tl = []) := by
      intro body hb
      have hdig : ∀ c ∈ body, numCh c = Num.Ch.d (c.toNat - 48) ∧ (classify c = .zero ∨ classify c = .d19) := by
        intro c hc
        have hm : classify c ∈ nt.int := by rw [← hb]; exact List.mem_map_of_mem hc
        have hz : classify c = .zero ∨ classify c = .d19 := by
          rcases wf.int with hz | ⟨ds, hi, hds⟩
          · rw [hz] at hm; simp at hm; exact Or.inl hm
          · rw [hi] at hm
            simp only [List.mem_cons] at hm
            rcases hm with hm | hm
            · exact Or.inr hm
            · have := hds _ hm
              cases hcc : classify c <;> rw [hcc] at this <;> simp [Cls.isDigit] at this <;> simp
        have hn := cls_num c (by rcases hz with h | h <;> simp [h])
        refine ⟨?_, hz⟩
        have h45 : c ≠ 45 := by
          intro e; subst e; rcases hz with h | h <;> revert h <;> decide
        have h46 : c ≠ 46 := hn.not_dot (by rcases hz with h | h <;> simp [h])
        simp [numCh, h45, h46]
      cases body with
      | nil =>
        rcases wf.int with hz | ⟨ds, hi, _⟩
        · rw [hz] at hb; cases hb
        · rw [hi] at hb; cases hb
      | cons c cs =>
        refine ⟨c.toNat - 48, cs.map (fun x => x.toNat - 48), ?_, ?_⟩
        · simp only [List.map_cons, List.map_map, List.cons.injEq]
          refine ⟨(hdig c (by simp)).1, ?_⟩
          apply List.map_congr_left
          intro x hx
          exact (hdig x (by simp [hx])).1
        · intro h0
          rcases wf.int with hz | ⟨ds, hi, _⟩
          · rw [hz] at hb
            simp only [List.map_cons, List.cons.injEq, List.map_eq_nil_iff] at hb
            rw [hb.2]; rfl
          · rw [hi] at hb
            simp only [List.map_cons, List.cons.injEq] at hb
            have := (cls_num c (Or.inr (Or.inr (Or.inl hb.1)))).d19 hb.1
            omega
    cases hneg : nt.neg with
    | false =>
      rw [hrender, hneg] at ht
      simp only [Bool.false_eq_true, if_false, List.nil_append] at ht
      obtain ⟨h0, tl, hb, hw⟩ := key t ht
      rw [hb]
      have := Num.scan_total ⟨false, h0, tl, none, none⟩ hw (by intro h; exact h.2.2 rfl)
      simpa [Num.Numeral.render, Num.fracChars, Num.expChars] using this
    | true =>
      rw [hrender, hneg] at ht
      simp only [if_true] at ht
      cases t with
      | nil => cases ht
      | cons m body =>
        simp only [List.map_cons, List.cons_append, List.nil_append, List.cons.injEq] at ht
        obtain ⟨hm, hbody⟩ := ht
        obtain ⟨h0, tl, hb, hw⟩ := key body hbody
        have h45 : m = 45 := (cls_num m (Or.inl hm)).minus hm
        simp only [List.map_cons, hb]
        have := Num.scan_total ⟨true, h0, tl, none, none⟩ hw (by intro h; exact h.2.2 rfl)
        simpa [Num.Numeral.render, Num.fracChars, Num.expChars, numCh, h45] using this
  · unfold RulesF.hasDot
    rw [List.any_eq_false]
    intro c hc
    have hn := cls_num c (hcls c hc)
    have := hn.not_dot (hnodot c hc)
    simp [this]

/-- a number token with a fraction contains the decimal point -/
theorem frac_hasDot (t : Bytes) (nt : EnumScan.NumTok) (ht : t.map classify = nt.render) (d : Cls) (ds : List Cls)
    (hf : nt.frac = some (d, ds)) : RulesF.hasDot t = true := by
  have hm : Cls.dot ∈ t.map classify := by
    rw [ht]; simp [EnumScan.NumTok.render, EnumScan.NumTok.tail, hf]
  simp only [List.mem_map] at hm
  obtain ⟨c, hc, hcd⟩ := hm
  have h46 : c = 46 := (cls_num c (Or.inr (Or.inr (Or.inr hcd)))).dot hcd
  unfold RulesF.hasDot
  rw [List.any_eq_true]
  exact ⟨c, hc, by simp [h46]⟩

/-! ### every token of the grammar -/

theorem inQuotes_of_string (t : Bytes) (b : List Cls) (h : t.map classify = .quote :: (b ++ [.quote])) :
    Unquote.inQuotes t = true := by
  have hlen : t.length = b.length + 2 := by
    have := congrArg List.length h
    simpa using this
  have hhead : t.head? = some 34 := by
    cases t with
    | nil => cases h
    | cons c cs =>
      simp only [List.map_cons, List.cons.injEq] at h
      have := cls_quote c
      rw [h.1] at this
      have hc : c = 34 := by simpa using this.symm
      subst hc
      rfl
  have hlast : t.getLast? = some 34 := by
    have hl : (t.map classify).getLast? = some .quote := by
      rw [h, show Cls.quote :: (b ++ [Cls.quote]) = (Cls.quote :: b) ++ [Cls.quote] from rfl]
      exact List.getLast?_concat
    rw [List.getLast?_map] at hl
    cases hg : t.getLast? with
    | none => rw [hg] at hl; cases hl
    | some c =>
      rw [hg] at hl
      simp only [Option.map_some, Option.some.injEq] at hl
      have := cls_quote c
      rw [hl] at this
      have hc : c = 34 := by simpa using this.symm
      rw [hc]
  unfold Unquote.inQuotes
  simp [hhead, hlast]
  omega

/-- **every scalar token of the enum grammar is known to both type guessers** -/
theorem guessable_gtok (t : Bytes) (h : EnumScan.GTok (t.map classify)) : Guessable t := by
  have htok := h.isTok
  generalize hk : t.map classify = tk at h
  cases h with
  | str b hb => exact guessable_quoted t (inQuotes_of_string t b hk) htok
  | wtrue => rw [word_bytes t _ [116, 114, 117, 101] hk rfl]; exact ⟨by decide +kernel, by decide +kernel⟩
  | wfalse => rw [word_bytes t _ [102, 97, 108, 115, 101] hk rfl]; exact ⟨by decide +kernel, by decide +kernel⟩
  | wnull => rw [word_bytes t _ [110, 117, 108, 108] hk rfl]; exact ⟨by decide +kernel, by decide +kernel⟩
  | num nt wf =>
    have hcls : ∀ c ∈ t, IsNumCls (classify c) := by
      intro c hc
      exact numTok_cls nt wf _ (by rw [← hk]; exact List.mem_map_of_mem hc)
    obtain ⟨f1, f2, f3, f4, f5, f6, f7⟩ := num_flags t hcls
    have htrim := trim_tok t htok
    cases hf : nt.frac with
    | some p =>
      obtain ⟨d, ds⟩ := p
      have hdot := frac_hasDot t nt hk d ds hf
      refine ⟨?_, ?_⟩
      · simp [guessSchemaType, f2, isIntegerTok, isFloatTok, hdot, f1]
      · unfold RulesF.enumItem
        rw [htrim]
        simp [RulesF.kindOfTok, f2, f3, f4, f5, hdot, f1]
    | none =>
      obtain ⟨hnum, hdot⟩ := int_number t nt wf hk hf
      obtain ⟨n, hn⟩ := Option.isSome_iff_exists.mp hnum
      refine ⟨?_, ?_⟩
      · simp only [guessSchemaType, f2, Bool.false_eq_true, if_false, isIntegerTok, isFloatTok, hdot, Bool.false_and, hn]
        by_cases he : n.exp = 0 <;> simp [he]
      · unfold RulesF.enumItem
        rw [htrim]
        simp only [RulesF.kindOfTok, f2, Bool.false_eq_true, if_false, f3, f4, Bool.or_self, f5, hdot, Bool.false_and, hn]
        by_cases he : n.exp = 0 <;> simp [he]

/-- **named enum rule = inline list, for every item list of the grammar** (no side condition on the tokens) -/
theorem named_eq_inline_grammar (pre : Bytes) (ws0 post : EnumScan.LayB) (items : List EnumScan.ItemC)
    (a : SchemaScan.Ann) (ha : a.isAnn = true) (ex s1 s2 : Bytes) (e : BEObj) (s3 tl : Bytes)
    (hpre : EnumScan.IsWsB pre) (hws0 : ws0.Valid) (hpost : post.Valid) (hv : EnumScan.GValidItemsC items)
    (hnd : (items.map EnumScan.itemKeyC).Nodup) (hiv : InlineValid a ex s1 s2 e s3 tl)
    (hsame : e.items.map (·.2.1) = items.map (·.2.1)) (name : Bytes) (pos : Nat) :
    ∃ vs cA cB,
      ruleValues (EnumScan.renderEnumC pre ws0 items post) = .ok vs ∧
      appendValues pos { ruleName := name } vs = .ok cA ∧
      routeInline (inlineText a ex s1 s2 e s3 tl) = .ok [cB] ∧
      proj cA = projToks (items.map (·.2.1)) ∧ proj cB = projToks (items.map (·.2.1)) ∧
      cA.items.map (·.src) = items.map (·.2.1) ∧ cB.items.map (·.src) = items.map (·.2.1) ∧
      ∀ d, enumOK cA d = enumOK cB d :=
  named_eq_inline pre ws0 post items a ha ex s1 s2 e s3 tl hpre hws0 hpost hv.valid hnd hiv hsame
    (fun it hit => guessable_gtok it.2.1 (hv it hit).2.1) name pos

end EnumRoute

#print axioms EnumRoute.guessable_gtok
#print axioms EnumRoute.named_eq_inline_grammar
