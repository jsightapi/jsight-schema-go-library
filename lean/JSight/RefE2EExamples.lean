import JSight.RefE2EThm
import JSight.ShortE2EExamples
/-!
Non-vacuity of `C03_text_level_refs`: root `{"a": @A | @B ,⏎ "b": [@C⏎], "c": 1}` (`SE.Ex.root`), added types
`@A` = `1⏎`, `@B` = `"s"`, `@C` = `{"k": true}`; three accepted and three rejected documents — by evaluation of the
closed pipeline, and through the theorem (the specification evaluated on its own).
-/
namespace RE
namespace Ex
open SE (BST TypeText typeTexts typesOf cnOf docText TextOK TypesOK)
open SE.Ex (root root_ok ws_ok one_scalar)
open JsonScan (classify IsKey IsScalar IsWs JA.Valid ValidItems ValidMembers)

def kA : List UInt8 := [34, 97, 34]
def kB : List UInt8 := [34, 98, 34]
def kC : List UInt8 := [34, 99, 34]
def kK : List UInt8 := [34, 107, 34]
def tTrue : List UInt8 := [116, 114, 117, 101]
def tFalse : List UInt8 := [102, 97, 108, 115, 101]

/-- `{"k": true}` -/
def tC : BST := .obj [] [([], kK, [], [32], .scalar tTrue, [])]

/-- `@A` = `1⏎`, `@B` = `"s"`, `@C` = `{"k": true}` -/
def tys : List TypeText := [("@A", [], .scalar [49], [10]), ("@B", [], .scalar [34, 115, 34], []), ("@C", [], tC, [])]

theorem str_scalar : SchemaScan.IsScalar (SE.clsB [34, 115, 34]) :=
  SchemaScan.string_isScalar [.ls] (.plain _ _ rfl .nil)

theorem tC_valid : tC.cls.Valid := by
  simp only [tC, BST.cls, SE.clsMembers, SchemaScan.STree.Valid, SchemaScan.SValidMembers]
  exact ⟨ws_ok _ rfl, ws_ok _ rfl, ⟨_, rfl, rfl⟩, ws_ok _ rfl, ws_ok _ rfl, SchemaScan.true_isScalar, ws_ok _ rfl,
    (by intro h; cases h), trivial⟩

theorem tys_ok : TypesOK tys := by
  intro x hx
  simp only [tys, List.mem_cons, List.not_mem_nil, or_false] at hx
  rcases hx with rfl | rfl | rfl
  · exact ⟨ws_ok _ rfl, ws_ok _ rfl, one_scalar, (by intro h; cases h), by decide +kernel, trivial⟩
  · exact ⟨ws_ok _ rfl, ws_ok _ rfl, str_scalar, (by intro h; cases h), by decide +kernel, trivial⟩
  · exact ⟨ws_ok _ rfl, ws_ok _ rfl, tC_valid, (by intro h; cases h), by decide +kernel,
      by simp only [tC, BST.KeysNodup, SE.NodupMembers, SE.keysB]; exact ⟨by decide +kernel, trivial, trivial⟩⟩

theorem names_ok : CL.typeNamesOK (typeTexts tys) = true := by decide +kernel

/-- the check stage passes: every referenced name was added, no forbidden recursion -/
theorem check_ok : Compile.check (cnOf false root) (typesOf tys) = .ok () := by
  have h : (match Compile.check (cnOf false root) (typesOf tys) with
      | .ok () => true
      | .error _ => false) = true := by decide +kernel
  revert h
  cases Compile.check (cnOf false root) (typesOf tys) with
  | ok u => intro _; rfl
  | error e => intro h; cases h

/-! ### documents -/

abbrev DT := VPos.T UInt8
def m (k : List UInt8) (v : DT) : List UInt8 × List UInt8 × List UInt8 × List UInt8 × DT × List UInt8 := ([], k, [], [], v, [])
def it (v : DT) : List UInt8 × DT × List UInt8 := ([], v, [])

/-- `{"a":1,"b":[{"k":true}],"c":2}` -/
def dAcc1 : DT := .obj [] [m kA (.scalar [49]), m kB (.arr [] [it (.obj [] [m kK (.scalar tTrue)])]), m kC (.scalar [50])]
/-- `{"a":"x","b":[],"c":2}` -/
def dAcc2 : DT := .obj [] [m kA (.scalar [34, 120, 34]), m kB (.arr [] []), m kC (.scalar [50])]
/-- `{"c":2,"b":[{"k":false},{"k":true}],"a":1}` -/
def dAcc3 : DT := .obj [] [m kC (.scalar [50]),
  m kB (.arr [] [it (.obj [] [m kK (.scalar tFalse)]), it (.obj [] [m kK (.scalar tTrue)])]), m kA (.scalar [49])]
/-- `{"a":true,"b":[],"c":2}`: `true` is in neither `@A` nor `@B` -/
def dRej1 : DT := .obj [] [m kA (.scalar tTrue), m kB (.arr [] []), m kC (.scalar [50])]
/-- `{"a":1,"b":[1],"c":2}`: `1` is not in `@C` -/
def dRej2 : DT := .obj [] [m kA (.scalar [49]), m kB (.arr [] [it (.scalar [49])]), m kC (.scalar [50])]
/-- `{"a":1,"b":[{"k":true,"z":2}],"c":2}`: `@C` has no key `z` -/
def dRej3 : DT := .obj [] [m kA (.scalar [49]),
  m kB (.arr [] [it (.obj [] [m kK (.scalar tTrue), m [34, 122, 34] (.scalar [50])])]), m kC (.scalar [50])]

example : String.fromUTF8! (dAcc3.render VPos.byteSym).toByteArray = "{\"c\":2,\"b\":[{\"k\":false},{\"k\":true}],\"a\":1}" := by
  decide +kernel

theorem ws_nil : IsWs (([] : List UInt8).map classify) := by intro c hc; cases hc
theorem kA_ok : IsKey (kA.map classify) := ⟨_, rfl, rfl⟩
theorem kB_ok : IsKey (kB.map classify) := ⟨_, rfl, rfl⟩
theorem kC_ok : IsKey (kC.map classify) := ⟨_, rfl, rfl⟩
theorem kK_ok : IsKey (kK.map classify) := ⟨_, rfl, rfl⟩
theorem kZ_ok : IsKey (([34, 122, 34] : List UInt8).map classify) := ⟨_, rfl, rfl⟩
theorem n1_ok : IsScalar (([49] : List UInt8).map classify) := ⟨.d19, [], .d1, false, .d1, rfl, rfl, rfl, rfl⟩
theorem n2_ok : IsScalar (([50] : List UInt8).map classify) := ⟨.d19, [], .d1, false, .d1, rfl, rfl, rfl, rfl⟩
theorem sx_ok : IsScalar (([34, 120, 34] : List UInt8).map classify) := JsonScan.string_isScalar [.other] (.plain _ _ rfl .nil)
theorem true_ok : IsScalar (tTrue.map classify) := JsonScan.true_isScalar
theorem false_ok : IsScalar (tFalse.map classify) := JsonScan.false_isScalar

/-! a document written with `m` and `it` is valid when its keys and scalars are -/

theorem scalar_valid {t : List UInt8} (h : IsScalar (t.map classify)) : (VPos.toJA classify (.scalar t)).Valid := by
  simpa only [VPos.toJA, JA.Valid] using h

theorem arr_valid {its : List (List UInt8 × DT × List UInt8)} (h : ValidItems (VPos.toJAItems classify its)) :
    (VPos.toJA classify (.arr [] its)).Valid := by
  simp only [VPos.toJA, JA.Valid]; exact ⟨ws_nil, h⟩

theorem obj_valid {ms : List (List UInt8 × List UInt8 × List UInt8 × List UInt8 × DT × List UInt8)}
    (h : ValidMembers (VPos.toJAMembers classify ms)) : (VPos.toJA classify (.obj [] ms)).Valid := by
  simp only [VPos.toJA, JA.Valid]; exact ⟨ws_nil, h⟩

theorem it_valid {v : DT} {its : List (List UInt8 × DT × List UInt8)} (hv : (VPos.toJA classify v).Valid)
    (h : ValidItems (VPos.toJAItems classify its)) : ValidItems (VPos.toJAItems classify (it v :: its)) := by
  simp only [it, VPos.toJAItems, ValidItems]; exact ⟨ws_nil, hv, ws_nil, h⟩

theorem m_valid {k : List UInt8} {v : DT} {ms : List (List UInt8 × List UInt8 × List UInt8 × List UInt8 × DT × List UInt8)}
    (hk : IsKey (k.map classify)) (hv : (VPos.toJA classify v).Valid) (h : ValidMembers (VPos.toJAMembers classify ms)) :
    ValidMembers (VPos.toJAMembers classify (m k v :: ms)) := by
  simp only [m, VPos.toJAMembers, ValidMembers]; exact ⟨ws_nil, hk, ws_nil, ws_nil, hv, ws_nil, h⟩

theorem items_nil : ValidItems (VPos.toJAItems classify ([] : List (List UInt8 × DT × List UInt8))) := by
  simp only [VPos.toJAItems, ValidItems]

theorem members_nil : ValidMembers (VPos.toJAMembers classify
    ([] : List (List UInt8 × List UInt8 × List UInt8 × List UInt8 × DT × List UInt8))) := by
  simp only [VPos.toJAMembers, ValidMembers]

theorem dAcc1_valid : (VPos.toJA classify dAcc1).Valid :=
  obj_valid (m_valid kA_ok (scalar_valid n1_ok) (m_valid kB_ok
    (arr_valid (it_valid (obj_valid (m_valid kK_ok (scalar_valid true_ok) members_nil)) items_nil))
    (m_valid kC_ok (scalar_valid n2_ok) members_nil)))
theorem dAcc2_valid : (VPos.toJA classify dAcc2).Valid :=
  obj_valid (m_valid kA_ok (scalar_valid sx_ok) (m_valid kB_ok (arr_valid items_nil)
    (m_valid kC_ok (scalar_valid n2_ok) members_nil)))
theorem dAcc3_valid : (VPos.toJA classify dAcc3).Valid :=
  obj_valid (m_valid kC_ok (scalar_valid n2_ok) (m_valid kB_ok
    (arr_valid (it_valid (obj_valid (m_valid kK_ok (scalar_valid false_ok) members_nil))
      (it_valid (obj_valid (m_valid kK_ok (scalar_valid true_ok) members_nil)) items_nil)))
    (m_valid kA_ok (scalar_valid n1_ok) members_nil)))
theorem dRej1_valid : (VPos.toJA classify dRej1).Valid :=
  obj_valid (m_valid kA_ok (scalar_valid true_ok) (m_valid kB_ok (arr_valid items_nil)
    (m_valid kC_ok (scalar_valid n2_ok) members_nil)))
theorem dRej2_valid : (VPos.toJA classify dRej2).Valid :=
  obj_valid (m_valid kA_ok (scalar_valid n1_ok) (m_valid kB_ok (arr_valid (it_valid (scalar_valid n1_ok) items_nil))
    (m_valid kC_ok (scalar_valid n2_ok) members_nil)))
theorem dRej3_valid : (VPos.toJA classify dRej3).Valid :=
  obj_valid (m_valid kA_ok (scalar_valid n1_ok) (m_valid kB_ok
    (arr_valid (it_valid (obj_valid (m_valid kK_ok (scalar_valid true_ok)
      (m_valid kZ_ok (scalar_valid n2_ok) members_nil))) items_nil))
    (m_valid kC_ok (scalar_valid n2_ok) members_nil)))

theorem sp_ws : IsWs (([32] : List UInt8).map classify) := by simp [IsWs, classify, JsonScan.Cls.isWs]
theorem lf_ws : IsWs (([10] : List UInt8).map classify) := by simp [IsWs, classify, JsonScan.Cls.isWs]

/-! ### the closed pipeline, evaluated -/

abbrev run (d : DT) : E2E.Outcome :=
  E2E.validateText (docText [] root []) (typeTexts tys) ([32] ++ (d.render VPos.byteSym ++ [10])) false

-- the loader stage of the model is defined by well-founded recursion: the kernel's `decide` does not reduce it; the
-- closed pipeline is evaluated by the interpreter at build time (the kernel-checked verdicts are the theorems below)
#guard run dAcc1 == .acc
#guard run dAcc2 == .acc
#guard run dAcc3 == .acc
#guard run dRej1 == .rej
#guard run dRej2 == .rej
#guard run dRej3 == .rej

/-- the stages behind the loader, evaluated by the kernel: the JSON scanner model on the document TEXT, its events fed
to the validator machine `VK.runQ` on the validator schema / table of the compiled trees -/
abbrev machine (d : DT) : Bool :=
  let doc := [32] ++ (d.render VPos.byteSym ++ [10])
  (E2E.eventsP doc).2.isNone &&
    E2E.validateEvs (Compile.envOf (cnOf false root) (typesOf tys)) (Compile.keyOK (typesOf tys))
      (Compile.toVK "root" (cnOf false root)) (E2E.docEvs doc (E2E.eventsP doc).1)

example : machine dAcc1 = true := by decide +kernel
example : machine dAcc2 = true := by decide +kernel
example : machine dAcc3 = true := by decide +kernel
example : machine dRej1 = false := by decide +kernel
example : machine dRej2 = false := by decide +kernel
example : machine dRej3 = false := by decide +kernel

/-! ### the specification, evaluated on its own -/

theorem acc1 : Admits tys false root (E2E.docOf dAcc1) := ⟨5, by decide +kernel⟩
theorem acc2 : Admits tys false root (E2E.docOf dAcc2) := ⟨5, by decide +kernel⟩
theorem acc3 : Admits tys false root (E2E.docOf dAcc3) := ⟨5, by decide +kernel⟩
theorem rej1 : ¬ Admits tys false root (E2E.docOf dRej1) := not_admits_of_top tys 5 _ _ _ (by decide +kernel)
theorem rej2 : ¬ Admits tys false root (E2E.docOf dRej2) := not_admits_of_top tys 5 _ _ _ (by decide +kernel)
theorem rej3 : ¬ Admits tys false root (E2E.docOf dRej3) := not_admits_of_top tys 5 _ _ _ (by decide +kernel)

end Ex
end RE
