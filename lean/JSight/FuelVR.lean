import JSight.Dfs
import JSight.FuelRel
/-!
C09 (c): the validator's type expansion (`NodeValidatorList` / `buildList`, model `VR.build`) keeps ONE set of
names already added; every descent adds a name of the table to it. So `|types| + 1` units of fuel are enough for
every type table — recursive or not, accepted by the recursion check or not — and more fuel changes nothing.
-/
namespace VR
variable {L : Type}
open Visit (unvisited unvisited_mono unvisited_enter unvisited_le)

/-- more fuel changes nothing once the fuel exceeds the number of table entries not yet added -/
theorem build_le (env : Env L) (t : S L) (st : List String × List (S L)) (f f' : Nat) (hf : unvisited Prod.fst env st.1 < f)
    (hle : f ≤ f') : build env f t st = build env f' t st := by
  refine Fuel.rel (fun f (x : S L × List String × List (S L)) => build env f x.1 x.2) (fun x => unvisited Prod.fst env x.2.1)
    (fun _ => Eq) ?_ f f' (t, st) hf hle
  intro f f' (t, st) ih h
  by_cases hr : isRef t = false
  · exact (build_nonref env f t hr st).trans (build_nonref env f' t hr st).symm
  · obtain ⟨names, nul, rfl⟩ : ∃ names nul, t = .ref names nul := by
      cases t <;> simp [isRef] at hr; exact ⟨_, _, rfl⟩
    have hexp : ∀ (ns : List String) (st' : List String × List (S L)), unvisited Prod.fst env st'.1 ≤ unvisited Prod.fst env st.1 →
        expand env f ns st' = expand env f' ns st' := by
      intro ns
      induction ns with
      | nil => intro _ _; rfl
      | cons n ns ihn =>
        intro st' hst
        rw [expand_cons, expand_cons]
        by_cases hc : st'.1.contains n = true
        · simp only [hc, if_true]; exact ihn st' hst
        · simp only [hc, Bool.false_eq_true, if_false]
          have hn : n ∉ st'.1 := by simpa using hc
          cases hl : lookupT env n with
          | none =>
            apply ihn
            have := unvisited_mono Prod.fst env st'.1 (n :: st'.1) (fun x hx => by simp [hx])
            simp only; omega
          | some t' =>
            have hlt := unvisited_enter env st'.1 n t' hl hn
            dsimp only
            rw [← ih (t', n :: st'.1, st'.2) (by simp only; omega)]
            apply ihn
            -- the set only grows while `t'` is expanded (`monoV`, part of what `RefSearch.build_ok` says of a run
            -- with enough fuel), so no more is left after it than before
            have := unvisited_mono Prod.fst env (n :: st'.1) (build env f t' (n :: st'.1, st'.2)).1
              (RefSearch.build_ok (isBuild env) f t' _ st'.2 (show unvisited Prod.fst env _ < f by simp only at h; omega)).good.monoV
            omega
    rw [build_ref, build_ref, hexp names st (Nat.le_refl _)]

/-- **fuel sufficiency of the validator's type expansion**, every type table: any fuel from `|types| + 1` on
yields the alternatives `alts` -/
theorem alts_fuel_stable (env : Env L) (s : S L) (fuel : Nat) (h : env.length + 1 ≤ fuel) :
    (build env fuel s ([], [])).2 = alts env s := by
  unfold alts
  rw [build_le env s ([], []) (env.length + 1) fuel (by have := unvisited_le Prod.fst env []; simp only; omega) h]

end VR
