import JSight.E2ESpec
import JSight.ValidatePosBytes
import JSight.E2ELoad
/-!
Document half of `C01_text_level`: the lexical events the JSON scanner model delivers for a document tree, read as the
validator reads them (`E2E.docEvs`: literal tokens cut out of the text, keys decoded), are the event stream of the
document the tree denotes (`VN.evs (docOf d)`): nothing of the layout is left.
-/
namespace E2E
open VPos (T byteSym renderItems renderMembers evsAt evsItems evsMembers strip stripItems stripMembers
  TokNEItems TokNEMembers Emb EmbItems EmbMembers)

theorem docEvs_append (src : List UInt8) (a b : List JsonScan.Ev) : docEvs src (a ++ b) = docEvs src a ++ docEvs src b := by
  simp [docEvs, List.filterMap_append]

theorem docEvs_nil (src : List UInt8) : docEvs src [] = [] := rfl

theorem docEvs_cons (src : List UInt8) (e : JsonScan.Ev) (b : List JsonScan.Ev) :
    docEvs src (e :: b) = (toEv src e).toList ++ docEvs src b := by
  simp only [docEvs, List.filterMap_cons]
  cases toEv src e <;> rfl

/-! Under `VPos.Emb` the tokens the events point at are the tree's own tokens, so the events read back as the lexemes
of the document, wherever the tree sits in `src`. -/
mutual
theorem docEvs_emb (src : List UInt8) : (o : Nat) → (d : T UInt8) → Emb src o d →
    docEvs src (evsAt o d) = VN.evs (docOf d)
  | o, .scalar tok, h => by
    simp only [evsAt, docEvs_cons, toEv, show slice src o (o + tok.length - 1) = tok from h, docOf, strip, VN.evs,
      docEvs_nil, Option.toList, List.cons_append, List.nil_append]
  | o, .arr ws0 its, h => by
    simp only [evsAt, docEvs_cons, toEv, docEvs_embItems src o _ its h, docOf, strip, VN.evs, Option.toList,
      List.cons_append, List.nil_append]
  | o, .obj ws0 ms, h => by
    simp only [evsAt, docEvs_cons, toEv, docEvs_embMembers src o _ ms h, docOf, strip, VN.evs, Option.toList,
      List.cons_append, List.nil_append]
theorem docEvs_embItems (src : List UInt8) (a : Nat) : (o : Nat) → (its : List (List UInt8 × T UInt8 × List UInt8)) →
    EmbItems src o its → docEvs src (evsItems a o its) = VN.evsItems (stripItems keyOf its) ++ [.arrE]
  | o, [], _ => by simp [evsItems, docEvs_cons, docEvs_nil, toEv, stripItems, VN.evsItems]
  | o, (w1, v, w2) :: its, h => by
    simp only [evsItems, docEvs_cons, docEvs_append, toEv, docEvs_emb src _ v h.1, docEvs_embItems src a _ its h.2,
      stripItems, VN.evsItems, docOf, Option.toList, List.cons_append, List.nil_append, List.append_assoc]
theorem docEvs_embMembers (src : List UInt8) (a : Nat) : (o : Nat) →
    (ms : List (List UInt8 × List UInt8 × List UInt8 × List UInt8 × T UInt8 × List UInt8)) →
    EmbMembers src o ms → docEvs src (evsMembers a o ms) = VN.evsMembers (stripMembers keyOf ms) ++ [.objE]
  | o, [], _ => by simp [evsMembers, docEvs_cons, docEvs_nil, toEv, stripMembers, VN.evsMembers]
  | o, (w1, k, w2, w3, v, w4) :: ms, h => by
    simp only [evsMembers, docEvs_cons, docEvs_append, toEv,
      show slice src (o + w1.length) (o + w1.length + k.length - 1) = k from h.1, docEvs_emb src _ v h.2.1,
      docEvs_embMembers src a _ ms h.2.2, stripMembers, VN.evsMembers, docOf, keyOf, Option.toList, List.cons_append,
      List.nil_append, List.append_assoc]
end

theorem docEvs_tree : (d : T UInt8) → d.TokNE → ∀ (pre post : List UInt8),
    docEvs (pre ++ (d.render byteSym ++ post)) (evsAt pre.length d) = VN.evs (docOf d) :=
  fun d hd pre post => docEvs_emb _ _ d (VPos.emb_value byteSym d hd _ pre post _ rfl rfl)

theorem docEvs_items : (its : List (List UInt8 × T UInt8 × List UInt8)) → TokNEItems its →
    ∀ (a : Nat) (pre post : List UInt8),
    docEvs (pre ++ (renderItems byteSym its ++ post)) (evsItems a pre.length its)
      = VN.evsItems (stripItems keyOf its) ++ [.arrE] :=
  fun its hd a pre post => docEvs_embItems _ a _ its (VPos.emb_items byteSym its hd _ pre post _ rfl rfl)

theorem docEvs_members : (ms : List (List UInt8 × List UInt8 × List UInt8 × List UInt8 × T UInt8 × List UInt8)) →
    TokNEMembers ms → ∀ (a : Nat) (pre post : List UInt8),
    docEvs (pre ++ (renderMembers byteSym ms ++ post)) (evsMembers a pre.length ms)
      = VN.evsMembers (stripMembers keyOf ms) ++ [.objE] :=
  fun ms hd a pre post => docEvs_embMembers _ a _ ms (VPos.emb_members byteSym ms hd _ pre post _ rfl rfl)

/-- **document half**: scanner model on the text of a document tree (any blanks around and inside): no error, and the
events as the validator reads them are the events of the document without layout -/
theorem doc_events (d : T UInt8) (hv : (VPos.toJA JsonScan.classify d).Valid) (ws0 ws1 : List UInt8)
    (h0 : JsonScan.IsWs (ws0.map JsonScan.classify)) (h1 : JsonScan.IsWs (ws1.map JsonScan.classify)) :
    ∃ evs, eventsP (ws0 ++ (d.render byteSym ++ ws1)) = (evs, none) ∧
      docEvs (ws0 ++ (d.render byteSym ++ ws1)) evs = VN.evs (docOf d) :=
  ⟨_, eventsP_of_ok _ _ (VPos.events_render d hv ws0 ws1 h0 h1),
    docEvs_tree d (VPos.tokNE_of_valid JsonScan.classify d hv) ws0 ws1⟩

end E2E
