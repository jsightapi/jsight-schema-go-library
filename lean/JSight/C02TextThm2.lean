import JSight.C02TextPerm
/-!
C02 at TEXT level: no validator of the class calls the standard library (`compiled_noStd`), the verdict
of the compiled node is the verdict of the spec node for every oracle (`compiled_eq_spec`) and does not depend on the
order of the pairs (`compiled_perm`).
-/
namespace C02T
open Compile Lay SchemaScan

theorem fmt_part_noStd (frs : List Rule) (jt : JT) (h : typeOK frs jt = true) :
    ∀ r ∈ (match (typeVal frs).bind fmtOfType with | some f => [RulesF.Rule.fmt f] | none => []), usesStd r = false := by
  unfold typeOK at h
  cases hv : typeVal frs with
  | none => simp
  | some v =>
    rw [hv] at h
    simp only [Option.bind_some]
    cases hfm : fmtOfType v with
    | none => simp
    | some f =>
      simp only [List.mem_singleton, forall_eq]
      by_cases hd : (v == sb "decimal") = true
      · have : fmtOfType v = none := by rw [eq_of_beq hd, fmtOfType_decimal]
        rw [this] at hfm; cases hfm
      · simp only [hd, hfm, Bool.false_eq_true, if_false, Option.isSome_some, if_true, Bool.and_eq_true,
          Bool.or_eq_true, beq_iff_eq, Option.some.injEq] at h
        rcases h.2.1.1 with rfl | rfl <;> rfl

theorem gP_noStd (e1 e2 : Bool) (p : Pair) (r : RulesF.Rule) (h : gP e1 e2 p = some r) : usesStd r = false := by
  unfold gP at h
  cases ht : tagOf p.1 <;> simp only [ht] at h
  all_goals first
    | (cases h; done)
    | (cases h; rfl)
    | (cases hu : parseUint p.2 <;> rw [hu] at h <;> cases h <;> rfl)
    | (cases hu : scalarItems p.2 <;> rw [hu] at h <;> cases h <;> rfl)

/-- no validator of the class calls the standard library -/
theorem compiled_noStd (ex : Bytes) (ps : List Pair) {jt : JT} (hb : okBasicR (mk ps) jt = true) :
    ∀ r ∈ (compiledOf ex (mk ps)).rules, usesStd r = false := by
  obtain ⟨_, _, _, _, _, h6, _⟩ := okBasicR_parts hb
  intro r hr
  simp only [compiledOf] at hr
  have h6' := h6
  rw [filt_mk] at hr h6'
  rw [litsOf_gP, List.mem_append] at hr
  rcases hr with hr | hr
  · obtain ⟨p, _, hg⟩ := List.mem_filterMap.1 hr
    exact gP_noStd _ _ p r hg
  · exact fmt_part_noStd _ _ h6' r hr

theorem okBasic_of_okRules {ex : Bytes} {ps : List Pair} (h : okRules ex ps = true) :
    okBasicR (mk ps) (JT.ofKind (kindOf ex)) = true := by
  simp only [okRules, Bool.and_eq_true] at h
  exact h.2

theorem okCreate_of_okRules {ex : Bytes} {ps : List Pair} (h : okRules ex ps = true) : okCreate ps = true := by
  simp only [okRules, Bool.and_eq_true] at h
  exact h.1.2

/-- the verdict of the compiled node, written through the spec node and any oracles -/
theorem compiled_eq_spec (o : RulesF.Oracles) (ex : Bytes) (ps : List Pair) (hok : okRules ex ps = true) (t : Bytes) :
    RulesF.litOKFull noOracles (compiledOf ex (mk ps)) t = RulesF.litOKFull o (specOfRules ex ps) t := by
  rw [spec_eq_compiled o ex ps (facts_of_okCreate (okCreate_of_okRules hok)),
    litOKFull_oracle o noOracles _ (compiled_noStd ex ps (okBasic_of_okRules hok))]

theorem litErr_none_iff (l : RulesF.LitSpecF) (tok : Bytes) :
    litErr l tok = none ↔ RulesF.litOKFull noOracles l tok = true := by
  unfold litErr
  cases RulesF.litOKFull noOracles l tok with
  | true => simp
  | false =>
    simp only [Bool.false_eq_true, if_false, iff_false]
    split
    · simp
    · split <;> simp

theorem compiled_perm {ps ps' : List Pair} (ex : Bytes) (hp : ps.Perm ps') (hok : okRules ex ps = true) (t : Bytes) :
    RulesF.litOKFull noOracles (compiledOf ex (mk ps)) t = RulesF.litOKFull noOracles (compiledOf ex (mk ps')) t := by
  rw [compiled_eq_spec noOracles ex ps hok, compiled_eq_spec noOracles ex ps' (okRules_perm ex hp hok)]
  exact spec_perm noOracles ex hp t

end C02T
