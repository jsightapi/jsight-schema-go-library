import JSight.LoaderTreeDup
import JSight.NodeTable
/-!
C16 (loader part), the pointwise reading of the result: `Mirrors N i parent o v` — "node `i` of the table `N` is the
root of a subtree that mirrors the value `v` rendered at offset `o`": the kind matches (scalar → `.lit`, array →
`.arr`, object → `.obj`), `children` are the nodes of the items / member values in source order (each mirroring its
value, with `i` as parent), `keys` are the member key tokens' spans in source order (not shortcuts), `value` of a
literal is the span of its token, no rules, no comment.

A table in which the nodes `nodesOf` (the explicit pre-order table) stand satisfies it (`mirrors_sits`), hence so does
the loader's result
(`C16_load_mirrors`, `C16_loadText_mirrors`).
-/
namespace Loader
open SchemaScan (Cls Tree nlEvs schemaEvsAt)
open NodeTable (Sits sits_mid sits_all)

/-- no annotation data on the node -/
def Node.bare (nd : Node) : Prop := nd.rules = [] ∧ nd.comment = none ∧ nd.waiting = false

mutual
/-- node `i` of `N` is the root of a subtree that mirrors `v` rendered at offset `o` -/
def Mirrors (N : List Node) : Nat → Option Nat → Nat → Tree → Prop
  | i, par, o, .scalar tok =>
    ∃ nd, N[i]? = some nd ∧ nd.kind = .lit ∧ nd.parent = par ∧ nd.bare ∧
      nd.value = some (o, o + tok.length - 1) ∧ nd.children = [] ∧ nd.keys = []
  | i, par, o, .arr ws0 its =>
    ∃ nd, N[i]? = some nd ∧ nd.kind = .arr ∧ nd.parent = par ∧ nd.bare ∧ nd.value = none ∧ nd.keys = [] ∧
      MirrorsItems N i nd.children (o + 1 + ws0.length) its
  | i, par, o, .obj ws0 ms =>
    ∃ nd, N[i]? = some nd ∧ nd.kind = .obj ∧ nd.parent = par ∧ nd.bare ∧ nd.value = none ∧
      MirrorsMembers N i nd.children nd.keys (o + 1 + ws0.length) ms
/-- the children `cs` of the array node `a` mirror the items, one by one, in source order -/
def MirrorsItems (N : List Node) (a : Nat) : List Nat → Nat → List Item → Prop
  | [], _, [] => True
  | c :: cs, o, (w1, v, w2) :: its =>
    Mirrors N c (some a) (o + w1.length) v ∧ MirrorsItems N a cs (nextItem o w1 v w2 its) its
  | [], _, _ :: _ => False
  | _ :: _, _, [] => False
/-- the children `cs` and key entries `ks` of the object node `a` mirror the members, one by one, in source order -/
def MirrorsMembers (N : List Node) (a : Nat) : List Nat → List (Nat × Nat × Bool) → Nat → List Member → Prop
  | [], [], _, [] => True
  | c :: cs, kk :: ks, o, (w1, k, w2, w3, v, w4) :: ms =>
    kk = (o + w1.length, o + w1.length + k.length - 1, false) ∧
    Mirrors N c (some a) (valOff o w1 k w2 w3) v ∧
    MirrorsMembers N a cs ks (nextMember o w1 k w2 w3 v w4 ms) ms
  | [], _, _, _ :: _ => False
  | _ :: _, [], _, _ :: _ => False
  | _ :: _, _, _, [] => False
  | [], _ :: _, _, [] => False
end

mutual
theorem mirrors_sits {N : List Node} : (v : Tree) → (par : Option Nat) → (n o : Nat) →
    Sits N.toArray n (nodesOf par n o v) → Mirrors N n par o v
  | .scalar tok, par, n, o, hs => by
    simp only [Mirrors]
    exact ⟨_, List.getElem?_toArray.symm.trans hs.1, rfl, rfl, ⟨rfl, rfl, rfl⟩, rfl, rfl, rfl⟩
  | .arr ws0 its, par, n, o, hs => by
    simp only [Mirrors]
    exact ⟨_, List.getElem?_toArray.symm.trans hs.1, rfl, rfl, ⟨rfl, rfl, rfl⟩, rfl, rfl, mirrorsItems_sits its n (n + 1) _ hs.2⟩
  | .obj ws0 ms, par, n, o, hs => by
    simp only [Mirrors]
    exact ⟨_, List.getElem?_toArray.symm.trans hs.1, rfl, rfl, ⟨rfl, rfl, rfl⟩, rfl, mirrorsMembers_sits ms n (n + 1) _ hs.2⟩
theorem mirrorsItems_sits {N : List Node} : (its : List Item) → (a n o : Nat) → Sits N.toArray n (nodesItems a n o its) →
    MirrorsItems N a (idxItems n its) o its
  | [], _, _, _, _ => by simp [MirrorsItems, idxItems]
  | (w1, v, w2) :: its, a, n, o, hs => by
    obtain ⟨h1, h2⟩ := Sits.append (by simpa only [nodesItems] using hs)
    rw [nodesOf_length] at h2
    exact ⟨mirrors_sits v (some a) n _ h1, mirrorsItems_sits its a _ _ h2⟩
theorem mirrorsMembers_sits {N : List Node} : (ms : List Member) → (a n o : Nat) →
    Sits N.toArray n (nodesMembers a n o ms) → MirrorsMembers N a (idxMembers n ms) (keysMembers o ms) o ms
  | [], _, _, _, _ => by simp [MirrorsMembers, idxMembers, keysMembers]
  | (w1, k, w2, w3, v, w4) :: ms, a, n, o, hs => by
    obtain ⟨h1, h2⟩ := Sits.append (by simpa only [nodesMembers] using hs)
    rw [nodesOf_length] at h2
    exact ⟨rfl, mirrors_sits v (some a) n _ h1, mirrorsMembers_sits ms a _ _ h2⟩
end

theorem mirrorsItems_nodesOf : (its : List Item) → (pre post : List Node) → (a o : Nat) →
    MirrorsItems (pre ++ (nodesItems a pre.length o its ++ post)) a (idxItems pre.length its) o its :=
  fun its pre post a o => mirrorsItems_sits its a _ o (sits_mid pre _ post)
theorem mirrorsMembers_nodesOf : (ms : List Member) → (pre post : List Node) → (a o : Nat) →
    MirrorsMembers (pre ++ (nodesMembers a pre.length o ms ++ post)) a (idxMembers pre.length ms) (keysMembers o ms) o ms :=
  fun ms pre post a o => mirrorsMembers_sits ms a _ o (sits_mid pre _ post)

/-- **C16 (loader), pointwise form.** The loader's node 0 mirrors the tree. -/
theorem C16_load_mirrors (src : Array UInt8) (v : Tree) (ws0 ws1 : List Cls) (hd : KeysDistinct src ws0.length v) :
    ∃ st, load src (nlEvs 0 ws0 ++ (schemaEvsAt ws0.length v ++ nlEvs (ws0.length + v.render.length) ws1)) = .ok st ∧
      st.root = some 0 ∧ st.nodes.size = nodeCount v ∧ Mirrors st.nodes.toList 0 none ws0.length v := by
  obtain ⟨st, h, hr, hn, _⟩ := C16_load_mirrors_tree src v ws0 ws1 hd
  refine ⟨st, h, hr, ?_, ?_⟩
  · rw [← Array.length_toList, hn, nodesOf_length]
  · rw [hn]
    exact mirrors_sits v none 0 ws0.length (sits_all _)

/-- **C16, end to end, pointwise form**: `loadText` (scanner and loader interleaved as in `doLoad`) on the text of a
valid plain-JSON tree with distinct keys per object yields a node table whose node 0 mirrors the tree. -/
theorem C16_loadText_mirrors (v : Tree) (hv : v.Valid) (ws0 ws1 : List Cls)
    (h0 : SchemaScan.IsWs ws0) (h1 : SchemaScan.IsWs ws1)
    (bs : List UInt8) (hbs : bs.map SchemaScan.classify = ws0 ++ (v.render ++ ws1))
    (hd : KeysDistinct bs.toArray ws0.length v) :
    ∃ st, loadText bs = .ok st ∧ st.root = some 0 ∧ st.nodes.size = nodeCount v ∧
      Mirrors st.nodes.toList 0 none ws0.length v := by
  obtain ⟨st, h, hr, hn⟩ := C16_loadText_mirrors_tree v hv ws0 ws1 h0 h1 bs hbs hd
  refine ⟨st, h, hr, ?_, ?_⟩
  · rw [← Array.length_toList, hn, nodesOf_length]
  · rw [hn]
    exact mirrors_sits v none 0 ws0.length (sits_all _)

#print axioms C16_load_mirrors
#print axioms C16_loadText_mirrors

end Loader
