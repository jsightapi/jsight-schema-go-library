import JSight.SchemaScan
/-!
`SchemaScan.dispatch` state by state: an equation `dispatch_<state>` for every state (`dispatch_guard` for the closure), so
that a proof about one state rewrites with that state's body and never meets the other branches, and a proof about all
of them (`dispatch_post`, `dispatch_la_generic`) reaches each through its equation instead of instantiating the whole
`match`.  `SchemaWp` puts the equations into the simp set `schema_wp`.
-/
namespace SchemaScan

theorem dispatch_zero (st : St) (s : Sc) (c : Cls) (p1 p2 : Option Cls) :
    dispatch 0 st s c p1 p2 = .error (.crash "re-dispatch fuel exhausted") := by
  rw [dispatch]; rfl

/-- `state0` and `beginAnnKeyOrEmpty` are the members of `dispatch`'s mutual block that proofs rewrite with; the third,
`endValue`, is described case by case where it is used (`ev_close`, `ev_root`, `ev_ts`) -/
theorem state0_eq (f : Nat) (s : Sc) (c : Cls) (p1 p2 : Option Cls) :
    state0 f s c p1 p2 =
      if c == .dot then pure { s with unf := true, step := .dot }
      else if c == .le || c == .uE then throw (errChar s "isn't allowed 'cause not obvious it's a float or an integer")
      else endValue f s c p1 p2 := by
  unfold state0; rfl

theorem beginAnnKeyOrEmpty_eq (s : Sc) (c : Cls) :
    beginAnnKeyOrEmpty s c = (do
      if c == .rbrace then return ← foundObjectEnd s
      let s := found s .keyB
      if c == .quote then pure { s with boundaryQuote := true, step := .inString }
      else
        let s := { s with boundaryQuote := false, step := .annKeyFirst }
        if c == .colon || c.isNewLine || c == .bslash || c.isLow then throw (.invalidKeyChar (s.index - 1))
        else pure { s with step := .annKey }) := by
  unfold beginAnnKeyOrEmpty; rfl

/-! ### structure states -/

theorem dispatch_guard (f : Nat) (inner : St) (s : Sc) (c : Cls) (p1 p2 : Option Cls) :
    dispatch (f + 1) (.guard inner) s c p1 p2 =
      if c == .slash then throw (errChar s "after inline annotation")
      else dispatch f inner s c p1 p2 := by
  rw [dispatch.eq_def]

/-- the closure installed behind an inline annotation with a note passes every byte but `/` to the inner state -/
theorem dispatch_guard_pass (f : Nat) (inner : St) (s : Sc) (c : Cls) (hc : c ≠ .slash) (p1 p2 : Option Cls) :
    dispatch (f + 1) (.guard inner) s c p1 p2 = dispatch f inner s c p1 p2 := by
  rw [dispatch_guard, if_neg (by simpa using hc)]

theorem dispatch_foundRoot (f : Nat) (s : Sc) (c : Cls) (p1 p2 : Option Cls) :
    dispatch (f + 1) .foundRoot s c p1 p2 = (do
      if c == .slash then return ← switchToAnnotation s
      if isCommentStart s c then return ← switchToComment s
      let (r, s) ← beginValue s c
      match r with
      | .obj => pure (setContext (found s .objB) { ty := .object })
      | .arr => pure (setContext (found s .arrB) { ty := .array })
      | .lit => pure (found s .litB)
      | .ts => pure (setContext (found (found s .mixB) .tsB) { ty := .shortcut })
      | .cont => pure s) := by
  rw [dispatch.eq_def]; rfl

theorem dispatch_objKeyOrEmpty (f : Nat) (s : Sc) (c : Cls) (p1 p2 : Option Cls) :
    dispatch (f + 1) .objKeyOrEmpty s c p1 p2 = (do
      if ← isNewLineM s c then return found s .newLine
      if c.isBlank then return s
      if c == .slash then return ← switchToAnnotation s
      if isCommentStart s c then return ← switchToComment s
      if c == .at then return ← beginKeyShortcut s
      if s.ann == .none then
        let s := { s with allowAnnotation := true }
        if c == .rbrace then foundObjectEnd s
        else beginString (found s .keyB) c
      else beginAnnKeyOrEmpty s c) := by
  rw [dispatch.eq_def]

theorem dispatch_objKey (f : Nat) (s : Sc) (c : Cls) (p1 p2 : Option Cls) :
    dispatch (f + 1) .objKey s c p1 p2 = (do
      if ← isNewLineM s c then
        let s := found s .newLine
        let s := if s.ann == .none then { s with allowAnnotation := true } else s
        return { s with step := .objKeyAfterNL }
      if c.isBlank then return s
      if c == .slash then return ← switchToAnnotation s
      if isCommentStart s c then return ← switchToComment s
      if c == .at then return ← beginKeyShortcut s
      if s.ann == .none then
        let s ← beginString s c
        pure (found s .keyB)
      else beginAnnKeyOrEmpty s c) := by
  rw [dispatch.eq_def]

theorem dispatch_objKeyAfterNL (f : Nat) (s : Sc) (c : Cls) (p1 p2 : Option Cls) :
    dispatch (f + 1) .objKeyAfterNL s c p1 p2 = (do
      if ← isNewLineM s c then return found s .newLine
      if c.isBlank then return s
      if isCommentStart s c then return ← switchToComment s
      if c == .at then return ← beginKeyShortcut s
      if s.ann == .none then
        let s ← beginString s c
        pure (found s .keyB)
      else beginAnnKeyOrEmpty s c) := by
  rw [dispatch.eq_def]

theorem dispatch_objValue (f : Nat) (s : Sc) (c : Cls) (p1 p2 : Option Cls) :
    dispatch (f + 1) .objValue s c p1 p2 = (do
      let (r, s) ← beginValue s c
      match r with
      | .lit => pure (found (found s .valB) .litB)
      | .obj => pure (setContext (found (found s .valB) .objB) { ty := .object })
      | .arr => pure (setContext (found (found s .valB) .arrB) { ty := .array })
      | .ts => pure (found (found (found s .valB) .mixB) .tsB)
      | .cont => pure s) := by
  rw [dispatch.eq_def]; rfl

theorem dispatch_arrItemOrEmpty (f : Nat) (s : Sc) (c : Cls) (p1 p2 : Option Cls) :
    dispatch (f + 1) .arrItemOrEmpty s c p1 p2 = (do
      if ← isNewLineM s c then return found s .newLine
      if isCommentStart s c then return ← switchToComment s
      if c == .rbrack then return ← foundArrayEnd s
      let s := if s.ann == .none && !c.isBlank then { s with ctx := { s.ctx with arrayHasItem := true } } else s
      let (r, s) ← beginValue s c
      arrItemFinds r s) := by
  rw [dispatch.eq_def]

theorem dispatch_arrItem (f : Nat) (s : Sc) (c : Cls) (p1 p2 : Option Cls) :
    dispatch (f + 1) .arrItem s c p1 p2 = (do
      let s := if c.isNewLine && s.ann == .none then { s with allowAnnotation := true } else s
      if isCommentStart s c then return ← switchToComment s
      let (r, s) ← beginValue s c
      arrItemFinds r s) := by
  rw [dispatch.eq_def]

theorem dispatch_keyShortcut (f : Nat) (s : Sc) (c : Cls) (p1 p2 : Option Cls) :
    dispatch (f + 1) .keyShortcut s c p1 p2 = if c.isName then pure s else endValue f s c p1 p2 := by
  rw [dispatch.eq_def]

theorem dispatch_endValue (f : Nat) (s : Sc) (c : Cls) (p1 p2 : Option Cls) :
    dispatch (f + 1) .endValue s c p1 p2 = endValue f s c p1 p2 := by
  rw [dispatch.eq_def]

theorem dispatch_afterKey (f : Nat) (s : Sc) (c : Cls) (p1 p2 : Option Cls) :
    dispatch (f + 1) .afterKey s c p1 p2 = (do
      let nl ← isNewLineM s c
      let s := if nl then found s .newLine else s
      if c.isBlank then return s
      if c == .slash then return ← switchToAnnotation s
      if c == .colon then return { s with step := .objValue }
      throw (errChar s "after object key")) := by
  rw [dispatch.eq_def]

theorem dispatch_afterValue (f : Nat) (s : Sc) (c : Cls) (p1 p2 : Option Cls) :
    dispatch (f + 1) .afterValue s c p1 p2 = (do
      if ← isNewLineM s c then return found s .newLine
      if c.isBlank then return s
      if c == .slash then return ← switchToAnnotation s
      if isCommentStart s c then return ← switchToComment s
      if c == .comma then return { s with step := .objKey }
      if c == .rbrace then return ← foundObjectEnd s
      throw (errChar s "after object key:value pair")) := by
  rw [dispatch.eq_def]

theorem dispatch_afterItem (f : Nat) (s : Sc) (c : Cls) (p1 p2 : Option Cls) :
    dispatch (f + 1) .afterItem s c p1 p2 = (do
      if ← isNewLineM s c then return found s .newLine
      if c.isBlank then return s
      if c == .slash then return ← switchToAnnotation s
      if isCommentStart s c then return ← switchToComment s
      if c == .comma then return { s with step := .arrItem }
      if c == .rbrack then return ← foundArrayEnd s
      throw (errChar s "after array item")) := by
  rw [dispatch.eq_def]

theorem dispatch_endTop (f : Nat) (s : Sc) (c : Cls) (p1 p2 : Option Cls) :
    dispatch (f + 1) .endTop s c p1 p2 = (do
      if s.hasTrailing then return found s .endTop
      if ← isNewLineM s c then return found s .newLine
      if c == .slash then return ← switchToAnnotation s
      if isCommentStart s c then return ← switchToComment s
      if !c.isBlank then
        if s.lengthComputing then
          if !s.stack.isEmpty then return { s with hasTrailing := true }
          return found s .endTop
        else if s.ann == .none then throw (errChar s "non-space byte after top-level value")
      pure s) := by
  rw [dispatch.eq_def]

/-! ### scalar tokens -/

theorem dispatch_inString (f : Nat) (s : Sc) (c : Cls) (p1 p2 : Option Cls) :
    dispatch (f + 1) .inString s c p1 p2 =
      match c with
      | .quote => pure { s with step := .endValue, unf := false }
      | .bslash => pure { s with step := .esc }
      | _ => if c.isLow then throw (errChar s "in string literal") else pure s := by
  rw [dispatch.eq_def]; rfl

theorem dispatch_esc (f : Nat) (s : Sc) (c : Cls) (p1 p2 : Option Cls) :
    dispatch (f + 1) .esc s c p1 p2 =
      match c with
      | .lb | .lf | .ln | .lr | .lt | .bslash | .slash | .quote => pure { s with step := .inString }
      | .lu => pure { s with ret := .inString :: s.ret, step := .u0 }
      | _ => throw (errChar s "in string escape code") := by
  rw [dispatch.eq_def]; rfl

theorem dispatch_u0 (f : Nat) (s : Sc) (c : Cls) (p1 p2 : Option Cls) :
    dispatch (f + 1) .u0 s c p1 p2 = hexStep s c .u1 := by
  rw [dispatch.eq_def]

theorem dispatch_u1 (f : Nat) (s : Sc) (c : Cls) (p1 p2 : Option Cls) :
    dispatch (f + 1) .u1 s c p1 p2 = hexStep s c .u2 := by
  rw [dispatch.eq_def]

theorem dispatch_u2 (f : Nat) (s : Sc) (c : Cls) (p1 p2 : Option Cls) :
    dispatch (f + 1) .u2 s c p1 p2 = hexStep s c .u3 := by
  rw [dispatch.eq_def]

theorem dispatch_u3 (f : Nat) (s : Sc) (c : Cls) (p1 p2 : Option Cls) :
    dispatch (f + 1) .u3 s c p1 p2 = (do
      if c.isHex then
        let (r, s) ← popRet s
        pure { s with step := r }
      else throw (errChar s "in \\u hexadecimal character escape")) := by
  rw [dispatch.eq_def]

theorem dispatch_neg (f : Nat) (s : Sc) (c : Cls) (p1 p2 : Option Cls) :
    dispatch (f + 1) .neg s c p1 p2 =
      match c with
      | .zero => pure { s with step := .d0, unf := false }
      | .d19 => pure { s with step := .d1, unf := false }
      | _ => throw (errChar s "in numeric literal") := by
  rw [dispatch.eq_def]; rfl

theorem dispatch_d1 (f : Nat) (s : Sc) (c : Cls) (p1 p2 : Option Cls) :
    dispatch (f + 1) .d1 s c p1 p2 = if c.isDigit then pure { s with step := .d1 } else state0 f s c p1 p2 := by
  rw [dispatch.eq_def]

theorem dispatch_d0 (f : Nat) (s : Sc) (c : Cls) (p1 p2 : Option Cls) :
    dispatch (f + 1) .d0 s c p1 p2 = state0 f s c p1 p2 := by
  rw [dispatch.eq_def]

theorem dispatch_dot (f : Nat) (s : Sc) (c : Cls) (p1 p2 : Option Cls) :
    dispatch (f + 1) .dot s c p1 p2 =
      if c.isDigit then pure { s with unf := false, step := .dot0 }
      else throw (errChar s "after decimal point in numeric literal") := by
  rw [dispatch.eq_def]

theorem dispatch_dot0 (f : Nat) (s : Sc) (c : Cls) (p1 p2 : Option Cls) :
    dispatch (f + 1) .dot0 s c p1 p2 =
      if c.isDigit then pure s
      else if c == .le || c == .uE then throw (errChar s "isn't allowed 'cause not obvious it's a float or an integer")
      else endValue f s c p1 p2 := by
  rw [dispatch.eq_def]

theorem dispatch_t (f : Nat) (s : Sc) (c : Cls) (p1 p2 : Option Cls) :
    dispatch (f + 1) .t s c p1 p2 = expect s c .lr .tr false "in literal true (expecting 'r')" := by
  rw [dispatch.eq_def]

theorem dispatch_tr (f : Nat) (s : Sc) (c : Cls) (p1 p2 : Option Cls) :
    dispatch (f + 1) .tr s c p1 p2 = expect s c .lu .tru false "in literal true (expecting 'u')" := by
  rw [dispatch.eq_def]

theorem dispatch_tru (f : Nat) (s : Sc) (c : Cls) (p1 p2 : Option Cls) :
    dispatch (f + 1) .tru s c p1 p2 = expect s c .le .endValue true "in literal true (expecting 'e')" := by
  rw [dispatch.eq_def]

theorem dispatch_f (f : Nat) (s : Sc) (c : Cls) (p1 p2 : Option Cls) :
    dispatch (f + 1) .f s c p1 p2 = expect s c .la .fa false "in literal false (expecting 'a')" := by
  rw [dispatch.eq_def]

theorem dispatch_fa (f : Nat) (s : Sc) (c : Cls) (p1 p2 : Option Cls) :
    dispatch (f + 1) .fa s c p1 p2 = expect s c .ll .fal false "in literal false (expecting 'l')" := by
  rw [dispatch.eq_def]

theorem dispatch_fal (f : Nat) (s : Sc) (c : Cls) (p1 p2 : Option Cls) :
    dispatch (f + 1) .fal s c p1 p2 = expect s c .ls .fals false "in literal false (expecting 's')" := by
  rw [dispatch.eq_def]

theorem dispatch_fals (f : Nat) (s : Sc) (c : Cls) (p1 p2 : Option Cls) :
    dispatch (f + 1) .fals s c p1 p2 = expect s c .le .endValue true "in literal false (expecting 'e')" := by
  rw [dispatch.eq_def]

theorem dispatch_n (f : Nat) (s : Sc) (c : Cls) (p1 p2 : Option Cls) :
    dispatch (f + 1) .n s c p1 p2 = expect s c .lu .nu false "in literal null (expecting 'u')" := by
  rw [dispatch.eq_def]

theorem dispatch_nu (f : Nat) (s : Sc) (c : Cls) (p1 p2 : Option Cls) :
    dispatch (f + 1) .nu s c p1 p2 = expect s c .ll .nul false "in literal null (expecting 'l')" := by
  rw [dispatch.eq_def]

theorem dispatch_nul (f : Nat) (s : Sc) (c : Cls) (p1 p2 : Option Cls) :
    dispatch (f + 1) .nul s c p1 p2 = expect s c .ll .endValue true "in literal null (expecting 'l')" := by
  rw [dispatch.eq_def]

/-! ### user comments -/

theorem dispatch_anyCommentStart (f : Nat) (s : Sc) (c : Cls) (p1 p2 : Option Cls) :
    dispatch (f + 1) .anyCommentStart s c p1 p2 =
      if c != .hash then
        let s := { s with ann := .none, step := .inlineComment }
        if c.isNewLine then do
          let (r, s) ← popRet s
          pure { (found s .newLine) with step := r, index := s.index - 1 }
        else pure s
      else if p1 == some .hash then pure { s with ann := .none, step := .multiLineComment }
      else throw (errChar s "after first #") := by
  rw [dispatch.eq_def]

theorem dispatch_inlineComment (f : Nat) (s : Sc) (c : Cls) (p1 p2 : Option Cls) :
    dispatch (f + 1) .inlineComment s c p1 p2 = (do
      if c.isNewLine then
        let (r, s) ← popRet s
        pure { (found s .newLine) with step := r, index := s.index - 1 }
      else pure s) := by
  rw [dispatch.eq_def]

theorem dispatch_multiLineComment (f : Nat) (s : Sc) (c : Cls) (p1 p2 : Option Cls) :
    dispatch (f + 1) .multiLineComment s c p1 p2 = (do
      if c == .hash && p1 == some .hash && p2 == some .hash then
        let (r, s) ← popRet s
        pure { s with step := r, index := s.index + 2 }
      else pure s) := by
  rw [dispatch.eq_def]

/-! ### annotations -/

theorem dispatch_anyAnnStart (f : Nat) (s : Sc) (c : Cls) (p1 p2 : Option Cls) :
    dispatch (f + 1) .anyAnnStart s c p1 p2 =
      match c with
      | .slash => pure { (found s .inlAnnB) with ann := .inline, step := .inlAnn }
      | .star => pure { (found s .mlAnnB) with ann := .multi, step := .mlAnn }
      | _ => throw (errChar s "after first slash") := by
  rw [dispatch.eq_def]; rfl

theorem dispatch_inlAnnStart (f : Nat) (s : Sc) (c : Cls) (p1 p2 : Option Cls) :
    dispatch (f + 1) .inlAnnStart s c p1 p2 =
      if c != .slash then throw (errChar s "after first slash on start inline annotation")
      else pure { (found s .inlAnnB) with ann := .inline, step := .inlAnn } := by
  rw [dispatch.eq_def]

theorem dispatch_inlAnn (f : Nat) (s : Sc) (c : Cls) (p1 p2 : Option Cls) :
    dispatch (f + 1) .inlAnn s c p1 p2 =
      match c with
      | .sp | .tab => pure s
      | .lbrace => dispatch f .foundRoot s c p1 p2
      | _ => dispatch f .inlTxt { (found s .inlTxtB) with step := .inlTxt } c p1 p2 := by
  rw [dispatch.eq_def]; rfl

theorem dispatch_inlTxtPrefix2 (f : Nat) (s : Sc) (c : Cls) (p1 p2 : Option Cls) :
    dispatch (f + 1) .inlTxtPrefix2 s c p1 p2 =
      if c.isSpace then pure s
      else dispatch f .inlTxt { (found s .inlTxtB) with step := .inlTxt } c p1 p2 := by
  rw [dispatch.eq_def]

theorem dispatch_inlTxt (f : Nat) (s : Sc) (c : Cls) (p1 p2 : Option Cls) :
    dispatch (f + 1) .inlTxt s c p1 p2 = (do
      if c.isNewLine then
        let s := found (found (found s .inlTxtE) .inlAnnE) .newLine
        let (fn, s) ← popRet s
        let s := { s with step := .guard fn, ann := .none }
        pure (if isInsideMultiLine s then { s with ann := .multi } else s)
      else if c == .hash then
        if !isInsideMultiLine s then pure { (found (found s .inlTxtE) .inlAnnE) with step := .inlTxtSkip }
        else pure s
      else pure s) := by
  rw [dispatch.eq_def]

theorem dispatch_inlTxtSkip (f : Nat) (s : Sc) (c : Cls) (p1 p2 : Option Cls) :
    dispatch (f + 1) .inlTxtSkip s c p1 p2 = (do
      if !c.isNewLine then return s
      let s := found s .newLine
      let (fn, s) ← popRet s
      let s := { s with step := .guard fn, ann := .none }
      pure (if isInsideMultiLine s then { s with ann := .multi } else s)) := by
  rw [dispatch.eq_def]

theorem dispatch_mlAnn (f : Nat) (s : Sc) (c : Cls) (p1 p2 : Option Cls) :
    dispatch (f + 1) .mlAnn s c p1 p2 = (do
      if ← isNewLineM s c then return found s .newLine
      if c.isBlank then return s
      if c == .lbrace then return ← dispatch f .foundRoot s c p1 p2
      dispatch f .mlTxt { (found s .mlTxtB) with step := .mlTxt } c p1 p2) := by
  rw [dispatch.eq_def]

theorem dispatch_mlTxtPrefix (f : Nat) (s : Sc) (c : Cls) (p1 p2 : Option Cls) :
    dispatch (f + 1) .mlTxtPrefix s c p1 p2 =
      if c.isNewLine then pure (found s .newLine)
      else if c.isSpace then pure s
      else if isCommentStart s c then switchToComment s
      else if c == .star then pure { s with step := .mlAnnEnd }
      else if c == .minus then pure { s with step := .mlTxtPrefix2 }
      else throw (errChar s "after object in multi-line annotation") := by
  rw [dispatch.eq_def]

theorem dispatch_mlTxtPrefix2 (f : Nat) (s : Sc) (c : Cls) (p1 p2 : Option Cls) :
    dispatch (f + 1) .mlTxtPrefix2 s c p1 p2 =
      if c.isSpace then pure s
      else dispatch f .mlTxt { (found s .mlTxtB) with step := .mlTxt } c p1 p2 := by
  rw [dispatch.eq_def]

theorem dispatch_mlAnnEnd (f : Nat) (s : Sc) (c : Cls) (p1 p2 : Option Cls) :
    dispatch (f + 1) .mlAnnEnd s c p1 p2 = (do
      if c != .slash then throw (errChar s "in multi-line annotation after \"*\" character")
      let s := found { s with ann := .none } .mlAnnE
      let (r, s) ← popRet s
      pure { s with step := r }) := by
  rw [dispatch.eq_def]

theorem dispatch_mlTxt (f : Nat) (s : Sc) (c : Cls) (p1 p2 : Option Cls) :
    dispatch (f + 1) .mlTxt s c p1 p2 =
      if c == .star && p1 == some .slash then pure { (found s .mlTxtE) with step := .mlAnnEnd }
      else pure s := by
  rw [dispatch.eq_def]

theorem dispatch_annKeyFirst (f : Nat) (s : Sc) (c : Cls) (p1 p2 : Option Cls) :
    dispatch (f + 1) .annKeyFirst s c p1 p2 =
      if (!s.boundaryQuote && (c == .colon || c.isNewLine || c == .bslash)) || (s.boundaryQuote && c == .quote) ||
          c.isLow then
        throw (.invalidKeyChar (s.index - 1))
      else pure { s with step := .annKey } := by
  rw [dispatch.eq_def]

theorem dispatch_annKey (f : Nat) (s : Sc) (c : Cls) (p1 p2 : Option Cls) :
    dispatch (f + 1) .annKey s c p1 p2 =
      if !s.boundaryQuote && c == .colon then endValue f s c p1 p2
      else if s.boundaryQuote && c == .quote then pure { s with step := .endValue }
      else if c == .sp then pure { s with step := .annKeyAfter }
      else if c.isLow || c == .quote || c.isNewLine then throw (.invalidKeyChar (s.index - 1))
      else pure s := by
  rw [dispatch.eq_def]

theorem dispatch_annKeyAfter (f : Nat) (s : Sc) (c : Cls) (p1 p2 : Option Cls) :
    dispatch (f + 1) .annKeyAfter s c p1 p2 =
      if !s.boundaryQuote && c == .colon then endValue f s c p1 p2
      else if c == .sp then pure s
      else throw (.invalidKeyChar (s.index - 1)) := by
  rw [dispatch.eq_def]

theorem dispatch_inlTxtPrefix (f : Nat) (s : Sc) (c : Cls) (p1 p2 : Option Cls) :
    dispatch (f + 1) .inlTxtPrefix s c p1 p2 = (do
      if c.isSpace then pure s
      else if c.isNewLine then
        let s := found (found s .inlAnnE) .newLine
        let (r, s) ← popRet s
        let s := { s with step := r, ann := .none }
        pure (if isInsideMultiLine s then { s with ann := .multi } else s)
      else if isCommentStart s c then switchToComment s
      else if c == .minus then pure { s with step := .inlTxtPrefix2 }
      else throw (errChar s "after object in inline annotation")) := by
  unfold dispatch; rfl

/-! ### type shortcuts -/

theorem dispatch_tsBeginName (f : Nat) (s : Sc) (c : Cls) (p1 p2 : Option Cls) :
    dispatch (f + 1) .tsBeginName s c p1 p2 =
      if c.isName then pure { s with unf := false, step := .tsName }
      else throw (errChar s "in schema name") := by
  unfold dispatch; rfl

theorem dispatch_tsName (f : Nat) (s : Sc) (c : Cls) (p1 p2 : Option Cls) :
    dispatch (f + 1) .tsName s c p1 p2 = (do
      if c == .slash then return ← switchToAnnotation (← finishShortcut s)
      if isCommentStart s c then return ← switchToComment (← finishShortcut s)
      if c.isName then pure { s with step := .tsName }
      else if c.isSpace then pure { s with step := .tsBeforePipe }
      else if c == .pipe then pure { s with unf := true, step := .tsAfterPipe }
      else endValue f s c p1 p2) := by
  unfold dispatch; rfl

theorem dispatch_tsBeforePipe (f : Nat) (s : Sc) (c : Cls) (p1 p2 : Option Cls) :
    dispatch (f + 1) .tsBeforePipe s c p1 p2 = (do
      if c == .slash then return ← switchToAnnotation (← finishShortcut s)
      if isCommentStart s c then return ← switchToComment (← finishShortcut s)
      if c.isSpace then pure { s with step := .tsBeforePipe }
      else if c == .pipe then pure { s with unf := true, step := .tsAfterPipe }
      else dispatch f .endValue { s with step := .endValue, unf := false } c p1 p2) := by
  -- only the left: `unfold dispatch` would also unfold the call on the right, whose state is a constructor
  conv => lhs; unfold dispatch

theorem dispatch_tsAfterPipe (f : Nat) (s : Sc) (c : Cls) (p1 p2 : Option Cls) :
    dispatch (f + 1) .tsAfterPipe s c p1 p2 =
      match c with
      | .sp | .tab => pure { s with step := .tsAfterPipe }
      | .at => pure { s with step := .tsBeginName }
      | _ => throw (errChar s "expects ' ', '\\t', or '@'") := by
  unfold dispatch; rfl

end SchemaScan
