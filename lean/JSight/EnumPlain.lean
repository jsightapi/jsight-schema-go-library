import JSight.EnumC2
/-!
The enum rule without comments is the enum rule with comments whose layouts hold blank bytes only: `renderEnum`,
`enumEvsOf` and the validity of the items are the instances of `renderEnumC`, `enumEvsC`, `ValidItemsC` at layouts of
`PieceB.blank` pieces. So the theorems about `renderEnum` are those about `renderEnumC` read at that instance.

A, B, C name the three theorems about the enum rule (with comments: `enumC_events`, `enumC_duplicate`, `enumC_length`).
* `enum_events` (Theorem A): pairwise distinct keys ⇒ `scanAll` delivers exactly `enumEvsOf`.
* `enum_values`: the literal-end events of that list slice out the item tokens, in source order.
* `enum_duplicate` (Theorem B): the first item whose key repeats an earlier one ⇒ error 810 at that token's first byte.
* `enum_length` (Theorem C): `length` = offset just after the closing bracket.
-/
namespace EnumScan
open SchemaScan (Cls classify)

/-- blank bytes as a layout: one piece per byte -/
def blanks (ws : List UInt8) : LayB := ws.map .blank

theorem render_blanks (ws : List UInt8) : LayB.render (blanks ws) = ws := by
  induction ws with
  | nil => rfl
  | cons c cs ih => exact congrArg (c :: ·) ih

theorem blanks_valid {ws : List UInt8} (h : IsWsB ws) : (blanks ws).Valid := by
  intro p hp
  obtain ⟨c, hc, rfl⟩ := List.mem_map.mp hp
  exact ⟨h (classify c) (List.mem_map_of_mem hc), trivial⟩

theorem layEvsB_blanks (ws : List UInt8) : ∀ o, layEvsB o (blanks ws) = nlEvsB o ws := by
  induction ws with
  | nil => intro o; rfl
  | cons c cs ih =>
    intro o
    have := ih (o + 1)
    simp only [layEvsB, nlEvsB, blanks, LayB.cls, List.map_cons, List.map_map] at this ⊢
    simp only [layEvs, PieceB.cls, Piece.evs, Piece.render, nlEvs, List.append_nil, List.length_cons, List.length_nil,
      this]

def plainItem (it : Item) : ItemC := (blanks it.1, it.2.1, blanks it.2.2)

theorem renderItemsC_plain (its : List Item) : renderItemsC (its.map plainItem) = renderItems its := by
  induction its with
  | nil => rfl
  | cons it its ih =>
    obtain ⟨w1, t, w2⟩ := it
    simp only [List.map_cons, plainItem, renderItemsC, renderItems, render_blanks, ih, List.isEmpty_map]

theorem renderInitC_plain (its : List Item) : renderInitC (its.map plainItem) = renderInit its := by
  induction its with
  | nil => rfl
  | cons it its ih =>
    obtain ⟨w1, t, w2⟩ := it
    simp only [List.map_cons, plainItem, renderInitC, renderInit, render_blanks, ih]

theorem evsItemsC_plain (a : Nat) (its : List Item) : ∀ o, evsItemsC a o (its.map plainItem) = evsItems a o its := by
  induction its with
  | nil => intro o; rfl
  | cons it its ih =>
    intro o
    obtain ⟨w1, t, w2⟩ := it
    simp only [List.map_cons, plainItem, evsItemsC, evsItems, render_blanks, layEvsB_blanks, ih, List.isEmpty_map]

theorem renderEnumC_plain (pre ws0 post : List UInt8) (items : List Item) :
    renderEnumC pre (blanks ws0) (items.map plainItem) (blanks post) = renderEnum pre ws0 items post := by
  simp only [renderEnumC, renderEnum, render_blanks, renderItemsC_plain]

theorem enumEvsC_plain (pre ws0 post : List UInt8) (items : List Item) :
    enumEvsC pre (blanks ws0) (items.map plainItem) (blanks post) = enumEvsOf pre ws0 items post := by
  simp only [enumEvsC, enumEvsOf, render_blanks, renderItemsC_plain, layEvsB_blanks, evsItemsC_plain]

theorem plain_valid {its : List Item} (h : ValidItems its) : ValidItemsC (its.map plainItem) := by
  intro it hit
  obtain ⟨x, hx, rfl⟩ := List.mem_map.mp hit
  exact ⟨blanks_valid (h x hx).1, (h x hx).2.1, blanks_valid (h x hx).2.2⟩

theorem itemKeyC_plain (its : List Item) : (its.map plainItem).map itemKeyC = its.map itemKey :=
  List.map_map

/-- **Theorem A (events)**: a list of literals with pairwise distinct keys is scanned into exactly the expected
events -/
theorem enum_events (pre ws0 post : List UInt8) (items : List Item)
    (hpre : IsWsB pre) (hws0 : IsWsB ws0) (hpost : IsWsB post) (hv : GValidItems items)
    (hnd : (items.map itemKey).Nodup) :
    scanAll (renderEnum pre ws0 items post) = .ok (enumEvsOf pre ws0 items post) := by
  rw [← renderEnumC_plain, ← enumEvsC_plain]
  exact enumC_events' pre _ _ _ hpre (blanks_valid hws0) (blanks_valid hpost) (plain_valid hv.valid)
    (by rw [itemKeyC_plain]; exact hnd)

/-- **Values lists the literals in source order**: the slices of the literal-end events of the expected
(by Theorem A: delivered) event list are the item tokens -/
theorem enum_values (pre ws0 post : List UInt8) (items : List Item) (hv : ValidItems items) :
    valuesOf (renderEnum pre ws0 items post) (enumEvsOf pre ws0 items post) = items.map (·.2.1) := by
  rw [← renderEnumC_plain, ← enumEvsC_plain, enumC_values pre _ _ _ (plain_valid hv), List.map_map]
  rfl

/-- **Theorem B (duplicates)**: the first item whose key equals an earlier item's key is rejected with error 810
(`duplicate`) at the first byte of its token -/
theorem enum_duplicate (pre ws0 post : List UInt8) (its1 : List Item) (dup : Item) (its2 : List Item)
    (hpre : IsWsB pre) (hws0 : IsWsB ws0) (hv : GValidItems (its1 ++ dup :: its2))
    (hnd : (its1.map itemKey).Nodup) (hdup : itemKey dup ∈ its1.map itemKey) :
    scanAll (renderEnum pre ws0 (its1 ++ dup :: its2) post)
      = .error (.duplicate (pre.length + 1 + ws0.length + (renderInit its1).length + dup.1.length)) := by
  have h := enumC_duplicate' pre (blanks ws0) (blanks post) (its1.map plainItem) (plainItem dup) (its2.map plainItem)
    hpre (blanks_valid hws0) (by rw [← List.map_cons, ← List.map_append]; exact plain_valid hv.valid)
    (by rw [itemKeyC_plain]; exact hnd) (by rw [itemKeyC_plain]; exact hdup)
  rw [← List.map_cons, ← List.map_append, renderEnumC_plain, renderInitC_plain] at h
  simpa only [plainItem, render_blanks] using h

/-- behind the closing bracket there are blanks only -/
theorem rtrimB_renderEnum (pre ws0 post : List UInt8) (items : List Item) (hpost : IsWsB post) :
    rtrimB (renderEnum pre ws0 items post) = pre ++ 91 :: (ws0 ++ renderItems items) := by
  obtain ⟨init, hi⟩ := renderItems_last items
  have e : renderEnum pre ws0 items post = (pre ++ 91 :: (ws0 ++ init)) ++ 93 :: post := by
    simp [renderEnum, hi]
  have hb : ∀ x ∈ post.reverse, Render.isBlank x = true := by
    intro x hx
    rw [isBlank_classify]
    exact hpost _ (List.mem_map_of_mem (List.mem_reverse.mp hx))
  rw [rtrimB, e, List.reverse_append, List.reverse_cons, List.append_assoc, List.dropWhile_append_of_pos hb, hi]
  simp [Render.isBlank, Render.isNewLine]

/-- **Theorem C (Len)**: `length` is the offset just after the closing bracket -/
theorem enum_length (pre ws0 post : List UInt8) (items : List Item)
    (hpre : IsWsB pre) (hws0 : IsWsB ws0) (hpost : IsWsB post) (hv : GValidItems items)
    (hnd : (items.map itemKey).Nodup) :
    length (renderEnum pre ws0 items post) = .ok (pre.length + 1 + ws0.length + (renderItems items).length) := by
  have h := enumC_length' pre (blanks ws0) (blanks post) (items.map plainItem) hpre (blanks_valid hws0)
    (blanks_valid hpost) (plain_valid hv.valid) (by rw [itemKeyC_plain]; exact hnd)
  rw [renderEnumC_plain, rtrimB_renderEnum pre ws0 post items hpost] at h
  rw [h]
  simp only [List.length_append, List.length_cons]
  congr 1
  omega

end EnumScan

#print axioms EnumScan.enum_events
#print axioms EnumScan.enum_values
#print axioms EnumScan.enum_length
#print axioms EnumScan.enum_duplicate
