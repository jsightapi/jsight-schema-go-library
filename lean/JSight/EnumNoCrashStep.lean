import JSight.EnumDispatch
/-!
No-crash invariant of the enum-rule scanner model (`EnumScan`) and its preservation by one `dispatch`.

`Inv s` (a decidable function `inv` of `s.step`, `s.ret`, the lexeme *types* on `s.stack` and `s.finds`):
  * at most 4 lexemes are queued in `finds`;
  * replaying the queued `finds` against the stack types (`drainTy`: openers push, closers must match the top,
    `newLine`/`endTop` are neutral) succeeds, and
  * the stack types left after the replay have the shape `qs` prescribes for `step`/`ret`:
      begin, endTop                      : ret = [],  stack = []
      arrItemOrEmpty, arrItem, afterItem : ret = [],  stack = [arrB]
      endValue                           : ret = [],  stack = [] (after `]`) or [litB, itemB, arrB]
      literal states                     : ret = [],  stack = [litB, itemB, arrB]
      u0..u3                             : ret = [inString], stack = [litB, itemB, arrB]
      anyAnnStart/inlAnn/inlTxt/mlAnn/mlTxt/mlAnnEnd :
          ret = [r] with r ∈ {arrItemOrEmpty, arrItem, afterItem, endTop},
          stack = (annotation openers of the state) ++ (stack shape of r).
`good_dispatch`: from a state with `Inv` and no queued finds, `dispatch` (fuel ≥ 2) either fails with a structured
error or yields a state with `Inv` and the same `index`.
-/
set_option linter.unusedSimpArgs false
namespace EnumScan
open SchemaScan (Cls classify)

def Err.isCrash : Err → Bool | .other _ => true | _ => false

/-- the lexeme types on the stack: all that `inv` reads of it -/
def tys (s : Sc) : List LexT := s.stack.map (·.1)

def closes (p t : LexT) : Bool :=
  (p == .arrB && t == .arrE) || (p == .mlAnnB && t == .mlAnnE) || (p == .litB && t == .litE)
  || (p == .itemB && t == .itemE) || (p == .mlTxtB && t == .mlTxtE)
  || (p == .inlTxtB && t == .inlTxtE) || (p == .inlAnnB && t == .inlAnnE)

/-- `processFound` on the stack types only -/
def popTy (st : List LexT) (t : LexT) : Option (List LexT) :=
  if t == .newLine || t == .endTop then some st
  else if t.isOpening then some (t :: st)
  else match st with
    | [] => none
    | p :: rest => if closes p t then some rest else none

def drainTy : List LexT → List LexT → Option (List LexT)
  | st, [] => some st
  | st, t :: ts => match popTy st t with
    | some st' => drainTy st' ts
    | none => none

def lit3 : List LexT := [.litB, .itemB, .arrB]

def isRet : St → Bool
  | .arrItemOrEmpty | .arrItem | .afterItem | .endTop => true
  | _ => false

def base : St → List LexT
  | .endTop => []
  | _ => [.arrB]

def annPre : St → Option (List LexT)
  | .anyAnnStart => some []
  | .inlAnn => some [.inlAnnB]
  | .inlTxt => some [.inlTxtB, .inlAnnB]
  | .mlAnn => some [.mlAnnB]
  | .mlTxt => some [.mlTxtB, .mlAnnB]
  | .mlAnnEnd => some [.mlAnnB]
  | _ => none

/-- the shape of a quiescent state (no pending finds) -/
def qs (st : St) (ret : List St) (ty : List LexT) : Bool :=
  match st with
  | .begin | .endTop => ret == [] && ty == []
  | .arrItemOrEmpty | .arrItem | .afterItem => ret == [] && ty == [.arrB]
  | .endValue => ret == [] && (ty == [] || ty == lit3)
  | .u0 | .u1 | .u2 | .u3 => ret == [.inString] && ty == lit3
  | .anyAnnStart | .inlAnn | .inlTxt | .mlAnn | .mlTxt | .mlAnnEnd =>
    match ret, annPre st with
    | [r], some pre => isRet r && ty == pre ++ base r
    | _, _ => false
  | _ => ret == [] && ty == lit3

def inv (st : St) (ret : List St) (ty : List LexT) (finds : List LexT) : Bool :=
  decide (finds.length ≤ 4) &&
  match drainTy ty finds with
  | some ty' => qs st ret ty'
  | none => false

def Inv (s : Sc) : Prop := inv s.step s.ret (tys s) s.finds = true

theorem closes_eq (p t : LexT) : closes p t =
    (((p == .arrB && t == .arrE) || (p == .mlAnnB && t == .mlAnnE)) ||
     ((p == .litB && t == .litE) || (p == .itemB && t == .itemE) || (p == .mlTxtB && t == .mlTxtE)
           || (p == .inlTxtB && t == .inlTxtE) || (p == .inlAnnB && t == .inlAnnE))) := by
  unfold closes
  simp only [Bool.or_assoc]

theorem processFound_ok (s : Sc) (t : LexT) (st' : List LexT) (h : popTy (tys s) t = some st') :
    ∃ s' ev, processFound s t = .ok (s', ev) ∧ tys s' = st' ∧ s'.step = s.step ∧ s'.ret = s.ret
      ∧ s'.finds = s.finds ∧ s'.index = s.index ∧ s'.stack.length ≤ s.stack.length + 1 := by
  unfold popTy at h
  unfold processFound
  by_cases h1 : (t == .newLine || t == .endTop) = true
  · simp only [h1, if_true] at h ⊢
    cases h
    exact ⟨_, _, rfl, rfl, rfl, rfl, rfl, rfl, Nat.le_succ _⟩
  · simp only [h1, if_false] at h ⊢
    by_cases h2 : t.isOpening = true
    · simp only [h2, if_true] at h ⊢
      cases h
      exact ⟨_, _, rfl, rfl, rfl, rfl, rfl, rfl, Nat.le_refl _⟩
    · simp only [h2, if_false] at h ⊢
      cases hs : s.stack with
      | nil => simp [tys, hs] at h
      | cons pb rest =>
        obtain ⟨p, b⟩ := pb
        simp only [tys, hs, List.map, closes_eq] at h
        simp only []
        by_cases hA : ((p == .arrB && t == .arrE) || (p == .mlAnnB && t == .mlAnnE)) = true
        · simp only [hA, if_true, Bool.true_or] at h ⊢
          cases h
          refine ⟨_, _, rfl, ?_, rfl, rfl, rfl, rfl, by simp only [List.length_cons]; omega⟩
          simp [tys]
        · simp only [hA, Bool.false_or] at h ⊢
          by_cases hB : ((p == .litB && t == .litE) || (p == .itemB && t == .itemE) || (p == .mlTxtB && t == .mlTxtE)
           || (p == .inlTxtB && t == .inlTxtE) || (p == .inlAnnB && t == .inlAnnE)) = true
          · simp only [hB, if_true] at h ⊢
            cases h
            refine ⟨_, _, rfl, ?_, rfl, rfl, rfl, rfl, by simp only [List.length_cons]; omega⟩
            simp [tys]
          · simp only [hB] at h
            cases h

def Good (s : Sc) (r : M Sc) : Prop :=
  match r with
  | .ok s' => Inv s' ∧ s'.index = s.index
  | .error e => e.isCrash = false

theorem Inv_quiescent {s : Sc} (hq : Inv s) (hf : s.finds = []) : qs s.step s.ret (tys s) = true := by
  unfold Inv inv at hq
  rw [hf] at hq
  simpa [drainTy] using hq

theorem shape0 {stack : List (LexT × Nat)} (h : stack.map (·.1) = []) : stack = [] := by
  cases stack with
  | nil => rfl
  | cons a r => cases h

theorem shape_cons {stack : List (LexT × Nat)} {a : LexT} {r : List LexT} (h : stack.map (·.1) = a :: r) :
    ∃ b rest, stack = (a, b) :: rest ∧ rest.map (·.1) = r := by
  cases stack with
  | nil => cases h
  | cons x rest =>
    obtain ⟨a', b⟩ := x
    simp only [List.map, List.cons.injEq] at h
    obtain ⟨rfl, h2⟩ := h
    exact ⟨b, rest, rfl, h2⟩

theorem shape1 {stack : List (LexT × Nat)} {a : LexT} (h : stack.map (·.1) = [a]) :
    ∃ b, stack = [(a, b)] := by
  obtain ⟨b, rest, rfl, h2⟩ := shape_cons h
  cases shape0 h2
  exact ⟨b, rfl⟩

theorem shape2 {stack : List (LexT × Nat)} {a a2 : LexT} (h : stack.map (·.1) = [a, a2]) :
    ∃ b b2, stack = [(a, b), (a2, b2)] := by
  obtain ⟨b, rest, rfl, h2⟩ := shape_cons h
  obtain ⟨b2, rfl⟩ := shape1 h2
  exact ⟨b, b2, rfl⟩

theorem shape3 {stack : List (LexT × Nat)} {a a2 a3 : LexT} (h : stack.map (·.1) = [a, a2, a3]) :
    ∃ b b2 b3, stack = [(a, b), (a2, b2), (a3, b3)] := by
  obtain ⟨b, rest, rfl, h2⟩ := shape_cons h
  obtain ⟨b2, b3, rfl⟩ := shape2 h2
  exact ⟨b, b2, b3, rfl⟩

variable {content : Array UInt8} {f : Nat} {s : Sc} {c : Cls} {p1 : Option Cls}

theorem good_throw {s : Sc} {e : Err} (h : e.isCrash = false) : Good s (throw e) := h
theorem good_throw_bind {α : Type} {s : Sc} {e : Err} {k : α → M Sc} (h : e.isCrash = false) :
    Good s ((throw e : M α) >>= k) := h
theorem good_pure {s s' : Sc} (h : inv s'.step s'.ret (tys s') s'.finds = true) (h2 : s'.index = s.index) :
    Good s (pure s') := ⟨h, h2⟩

theorem good_ite {s : Sc} {b : Prop} [Decidable b] {x y : M Sc} (hx : Good s x) (hy : Good s y) :
    Good s (if b then x else y) := by
  split
  · exact hx
  · exact hy

/-! ### the helpers of `dispatch`

Each is good as soon as the state it may produce satisfies `inv`; on an explicit state that is a computation. -/

theorem good_expect {want : Cls} {next : St} {clr : Bool} {msg : String}
    (h : inv next s.ret (tys s) s.finds = true) : Good s (expect s c want next clr msg) :=
  good_ite (good_pure h rfl) (good_throw rfl)

theorem good_hexStep {next : St} (h : inv next s.ret (tys s) s.finds = true) : Good s (hexStep s c next) :=
  good_ite (good_pure h rfl) (good_throw rfl)

theorem good_switch {s0 : Sc} (h : inv .anyAnnStart (s.step :: s.ret) (tys s) s.finds = true)
    (hi : s.index = s0.index) : Good s0 (switchToAnnotation s) :=
  good_ite (good_throw rfl) (good_pure h hi)

/-- a line break outside a comment -/
theorem good_newLine {s0 : Sc} (h : inv s.step s.ret (tys s) (s.finds ++ [.newLine]) = true)
    (hi : s.index = s0.index) :
    Good s0 (if s.ann then throw (errChar s "inside inline annotation") else pure (found s .newLine)) :=
  good_ite (good_throw rfl) (good_pure h hi)

/-- `beginItem`, where the two array-item states end (`dispatch_arrItemOrEmpty`, `dispatch_arrItem`): `h1`–`h4` are its
four ways on — a line break, a blank, the start of an annotation, the start of a literal (`litStart`) -/
theorem good_beginItem (h1 : inv s.step s.ret (tys s) (s.finds ++ [.newLine]) = true)
    (h2 : inv s.step s.ret (tys s) s.finds = true)
    (h3 : inv .anyAnnStart (s.step :: s.ret) (tys s) s.finds = true)
    (h4 : ∀ st u, litStart c = some (st, u) → inv st s.ret (tys s) (s.finds ++ [.itemB] ++ [.litB]) = true) :
    Good s (beginItem s c) := by
  rw [beginItem_eq]
  refine good_ite (good_newLine h1 rfl) (good_ite (good_pure h2 rfl) (good_ite (good_switch h3 rfl) ?_))
  cases hl : litStart c with
  | none => exact good_throw rfl
  | some p =>
    obtain ⟨st, u⟩ := p
    exact good_pure (h4 st u hl) rfl

/-- `afterItem`, also with the two closing lexemes of a literal still queued (the way `endValue` calls it) -/
theorem good_afterItem {s0 : Sc} (h : s.step = .afterItem) (hi : s.index = s0.index)
    (h1 : inv .afterItem s.ret (tys s) (s.finds ++ [.newLine]) = true)
    (h2 : inv .afterItem s.ret (tys s) s.finds = true)
    (h3 : inv .anyAnnStart (.afterItem :: s.ret) (tys s) s.finds = true)
    (h4 : inv .arrItem s.ret (tys s) s.finds = true)
    (h5 : inv (foundArrayEnd s).step s.ret (tys s) (s.finds ++ [.arrE]) = true) :
    Good s0 (dispatch content (f + 1) s c p1) := by
  rw [dispatch_afterItem h]
  exact good_ite (good_newLine (h ▸ h1) hi) (good_ite (good_pure (h ▸ h2) hi) (good_ite (good_switch (h ▸ h3) hi)
    (good_ite (good_pure h4 hi) (good_ite (good_pure h5 hi) (good_throw rfl)))))

/-- `endTop`, also the way `endValue` calls it behind the closing bracket -/
theorem good_endTop {s0 : Sc} (h : s.step = .endTop) (hi : s.index = s0.index)
    (h1 : inv .endTop s.ret (tys s) (s.finds ++ [.newLine]) = true)
    (h2 : inv .endTop s.ret (tys s) s.finds = true)
    (h3 : inv .anyAnnStart (.endTop :: s.ret) (tys s) s.finds = true) :
    Good s0 (dispatch content (f + 1) s c p1) := by
  rw [dispatch_endTop h]
  have hs : Good s0 (pure s) := good_pure (h ▸ h2) hi
  have ht : Good s0 (if s.hasTrailing then throw .eos else pure s) := good_ite (good_throw rfl) hs
  exact good_ite (good_newLine (h ▸ h1) hi) (good_ite (good_switch (h ▸ h3) hi)
    (good_ite (good_ite (good_ite (good_pure (h ▸ h2) hi) (good_throw rfl)) (good_ite (good_throw rfl) ht)) ht))

/-- a number state or `endValue` behind a complete literal: `endValue` closes the literal and the item, and
`afterItem` reads the byte -/
theorem good_endValue_item {s0 : Sc} {st : St} {b1 b2 b3 i : Nat} {ann unf lc ht : Bool} {uq : List (List UInt8 × Bool)}
    (hi : i = s0.index) :
    Good s0 (endValue content (f + 1) ⟨st, [], [(.litB, b1), (.itemB, b2), (.arrB, b3)], [], i, ann, unf, lc, ht, uq⟩ c p1) := by
  rw [endValue_item rfl]
  exact good_ite (good_throw rfl) (good_afterItem rfl hi rfl rfl rfl rfl rfl)

theorem good_state0 {s0 : Sc} {st : St} {b1 b2 b3 i : Nat} {ann unf lc ht : Bool} {uq : List (List UInt8 × Bool)}
    (hi : i = s0.index) :
    Good s0 (state0 content (f + 1) ⟨st, [], [(.litB, b1), (.itemB, b2), (.arrB, b3)], [], i, ann, unf, lc, ht, uq⟩ c p1) := by
  rw [state0_eq]
  exact good_ite (good_pure rfl hi) (good_ite (good_throw rfl) (good_endValue_item hi))

/-! ### what `qs` says about `ret` and the stack -/

theorem qs_nil {ret : List St} {stack : List (LexT × Nat)} (h : (ret == [] && stack.map (·.1) == []) = true) :
    ret = [] ∧ stack = [] := by
  simp only [Bool.and_eq_true, beq_iff_eq] at h
  exact ⟨h.1, shape0 h.2⟩

theorem qs_arr {ret : List St} {stack : List (LexT × Nat)} (h : (ret == [] && stack.map (·.1) == [.arrB]) = true) :
    ret = [] ∧ ∃ b, stack = [(.arrB, b)] := by
  simp only [Bool.and_eq_true, beq_iff_eq] at h
  exact ⟨h.1, shape1 h.2⟩

theorem qs_lit {ret r0 : List St} {stack : List (LexT × Nat)} (h : (ret == r0 && stack.map (·.1) == lit3) = true) :
    ret = r0 ∧ ∃ b1 b2 b3, stack = [(.litB, b1), (.itemB, b2), (.arrB, b3)] := by
  simp only [Bool.and_eq_true, beq_iff_eq] at h
  exact ⟨h.1, shape3 h.2⟩

theorem inv_litStart {c : Cls} {st : St} {u : Bool} (h : litStart c = some (st, u)) :
    inv st [] [.arrB] ([] ++ [.itemB] ++ [.litB]) = true := by
  cases c <;> cases h <;> rfl

theorem isRet_cases {r : St} (h : isRet r = true) :
    r = .arrItemOrEmpty ∨ r = .arrItem ∨ r = .afterItem ∨ r = .endTop := by
  unfold isRet at h
  split at h
  · exact .inl rfl
  · exact .inr (.inl rfl)
  · exact .inr (.inr (.inl rfl))
  · exact .inr (.inr (.inr rfl))
  · cases h

theorem qs_ann {st : St} {ret : List St} {ty pre : List LexT} (hp : annPre st = some pre)
    (hs : qs st ret ty = true) :
    ∃ r, ret = [r] ∧ (r = .arrItemOrEmpty ∨ r = .arrItem ∨ r = .afterItem ∨ r = .endTop) ∧ ty = pre ++ base r := by
  cases st <;> cases hp <;>
    (rcases ret with _ | ⟨r, _ | ⟨r2, t⟩⟩
     · cases hs
     · simp only [qs, annPre, Bool.and_eq_true, beq_iff_eq] at hs
       exact ⟨r, rfl, isRet_cases hs.1, hs.2⟩
     · cases hs)

/-- inside a comment: the lexemes of the comment lie on the stack of the state `r` it interrupted -/
theorem ann_shape {st : St} {ret : List St} {stack : List (LexT × Nat)} {pre : List LexT} (hp : annPre st = some pre)
    (hs : qs st ret (stack.map (·.1)) = true) :
    ∃ r P K, ret = [r] ∧ stack = P ++ K ∧ P.map (·.1) = pre ∧
      ((∃ b, K = [(.arrB, b)] ∧ (r = .arrItemOrEmpty ∨ r = .arrItem ∨ r = .afterItem)) ∨ (K = [] ∧ r = .endTop)) := by
  obtain ⟨r, rfl, hr, hk⟩ := qs_ann hp hs
  obtain ⟨P, K, rfl, hP, hK⟩ := List.map_eq_append_iff.mp hk
  refine ⟨r, P, K, rfl, rfl, hP, ?_⟩
  rcases hr with rfl | rfl | rfl | rfl
  · exact .inl ((shape1 hK).imp fun b hb => ⟨hb, .inl rfl⟩)
  · exact .inl ((shape1 hK).imp fun b hb => ⟨hb, .inr (.inl rfl)⟩)
  · exact .inl ((shape1 hK).imp fun b hb => ⟨hb, .inr (.inr rfl)⟩)
  · exact .inr ⟨shape0 hK, rfl⟩

/-- one byte from a state without queued lexemes: state by state, the shape of `ret` and of the stack that `qs`
prescribes, the equation of `dispatch`, and the invariant of every state it may produce -/
theorem good_dispatch (hq : Inv s) (hf : s.finds = []) : Good s (dispatch content (f+2) s c p1) := by
  have hs := Inv_quiescent hq hf
  obtain ⟨step, ret, stack, finds, index, ann, unf, lc, htr, uq⟩ := s
  subst hf
  cases step
  case begin =>
    obtain ⟨rfl, rfl⟩ := qs_nil hs
    rw [dispatch_begin rfl]
    exact good_ite (good_pure rfl rfl) (good_ite (good_throw rfl) (good_pure rfl rfl))
  case endTop =>
    obtain ⟨rfl, rfl⟩ := qs_nil hs
    exact good_endTop rfl rfl rfl rfl rfl
  case arrItemOrEmpty =>
    obtain ⟨rfl, b, rfl⟩ := qs_arr hs
    rw [dispatch_arrItemOrEmpty rfl]
    exact good_ite (good_newLine rfl rfl) (good_ite (good_pure rfl rfl)
      (good_beginItem rfl rfl rfl fun _ _ => inv_litStart))
  case arrItem =>
    obtain ⟨rfl, b, rfl⟩ := qs_arr hs
    rw [dispatch_arrItem rfl]
    exact good_beginItem rfl rfl rfl fun _ _ => inv_litStart
  case afterItem =>
    obtain ⟨rfl, b, rfl⟩ := qs_arr hs
    exact good_afterItem rfl rfl rfl rfl rfl rfl rfl
  case endValue =>
    simp only [qs, tys, Bool.and_eq_true, Bool.or_eq_true, beq_iff_eq] at hs
    obtain ⟨rfl, hk | hk⟩ := hs
    · cases shape0 hk
      rw [dispatch_endValue rfl, endValue_nil rfl]
      exact good_endTop rfl rfl rfl rfl rfl
    · obtain ⟨b1, b2, b3, rfl⟩ := shape3 hk
      rw [dispatch_endValue rfl]
      exact good_endValue_item rfl
  case inString =>
    obtain ⟨rfl, b1, b2, b3, rfl⟩ := qs_lit hs
    rw [dispatch_inString rfl]
    split
    · exact good_pure rfl rfl
    · exact good_pure rfl rfl
    · exact good_ite (good_throw rfl) (good_pure rfl rfl)
  case esc =>
    obtain ⟨rfl, b1, b2, b3, rfl⟩ := qs_lit hs
    rw [dispatch_esc rfl]
    split <;> first | exact good_pure rfl rfl | exact good_throw rfl
  case u0 =>
    obtain ⟨rfl, b1, b2, b3, rfl⟩ := qs_lit hs
    rw [dispatch_u0 rfl]; exact good_hexStep rfl
  case u1 =>
    obtain ⟨rfl, b1, b2, b3, rfl⟩ := qs_lit hs
    rw [dispatch_u1 rfl]; exact good_hexStep rfl
  case u2 =>
    obtain ⟨rfl, b1, b2, b3, rfl⟩ := qs_lit hs
    rw [dispatch_u2 rfl]; exact good_hexStep rfl
  case u3 =>
    obtain ⟨rfl, b1, b2, b3, rfl⟩ := qs_lit hs
    rw [dispatch_u3 rfl]
    exact good_ite (good_pure rfl rfl) (good_throw rfl)
  case neg =>
    obtain ⟨rfl, b1, b2, b3, rfl⟩ := qs_lit hs
    rw [dispatch_neg rfl]
    split
    · exact good_pure rfl rfl
    · exact good_pure rfl rfl
    · exact good_throw rfl
  case d1 =>
    obtain ⟨rfl, b1, b2, b3, rfl⟩ := qs_lit hs
    rw [dispatch_d1 rfl]
    exact good_ite (good_pure rfl rfl) (good_state0 rfl)
  case d0 =>
    obtain ⟨rfl, b1, b2, b3, rfl⟩ := qs_lit hs
    rw [dispatch_d0 rfl]
    exact good_state0 rfl
  case dot =>
    obtain ⟨rfl, b1, b2, b3, rfl⟩ := qs_lit hs
    rw [dispatch_dot rfl]
    exact good_ite (good_pure rfl rfl) (good_throw rfl)
  case dot0 =>
    obtain ⟨rfl, b1, b2, b3, rfl⟩ := qs_lit hs
    rw [dispatch_dot0 rfl]
    exact good_ite (good_pure rfl rfl) (good_ite (good_throw rfl) (good_endValue_item rfl))
  case t =>
    obtain ⟨rfl, b1, b2, b3, rfl⟩ := qs_lit hs
    rw [dispatch_t rfl]; exact good_expect rfl
  case tr =>
    obtain ⟨rfl, b1, b2, b3, rfl⟩ := qs_lit hs
    rw [dispatch_tr rfl]; exact good_expect rfl
  case tru =>
    obtain ⟨rfl, b1, b2, b3, rfl⟩ := qs_lit hs
    rw [dispatch_tru rfl]; exact good_expect rfl
  case f =>
    obtain ⟨rfl, b1, b2, b3, rfl⟩ := qs_lit hs
    rw [dispatch_f rfl]; exact good_expect rfl
  case fa =>
    obtain ⟨rfl, b1, b2, b3, rfl⟩ := qs_lit hs
    rw [dispatch_fa rfl]; exact good_expect rfl
  case fal =>
    obtain ⟨rfl, b1, b2, b3, rfl⟩ := qs_lit hs
    rw [dispatch_fal rfl]; exact good_expect rfl
  case fals =>
    obtain ⟨rfl, b1, b2, b3, rfl⟩ := qs_lit hs
    rw [dispatch_fals rfl]; exact good_expect rfl
  case n =>
    obtain ⟨rfl, b1, b2, b3, rfl⟩ := qs_lit hs
    rw [dispatch_n rfl]; exact good_expect rfl
  case nu =>
    obtain ⟨rfl, b1, b2, b3, rfl⟩ := qs_lit hs
    rw [dispatch_nu rfl]; exact good_expect rfl
  case nul =>
    obtain ⟨rfl, b1, b2, b3, rfl⟩ := qs_lit hs
    rw [dispatch_nul rfl]; exact good_expect rfl
  case anyAnnStart =>
    obtain ⟨r, P, K, rfl, rfl, hP, hK⟩ := ann_shape rfl hs
    cases shape0 hP
    rw [dispatch_anyAnnStart rfl]
    rcases hK with ⟨b, rfl, rfl | rfl | rfl⟩ | ⟨rfl, rfl⟩ <;>
      (split <;> first | exact good_pure rfl rfl | exact good_throw rfl)
  case inlAnn =>
    obtain ⟨r, P, K, rfl, rfl, hP, hK⟩ := ann_shape rfl hs
    obtain ⟨q, rfl⟩ := shape1 hP
    rw [dispatch_inlAnn rfl]
    rcases hK with ⟨b, rfl, rfl | rfl | rfl⟩ | ⟨rfl, rfl⟩ <;>
      (refine good_ite (good_pure rfl rfl) ?_
       rw [dispatch_inlTxt rfl]
       exact good_ite (good_pure rfl rfl) (good_pure rfl rfl))
  case mlAnn =>
    obtain ⟨r, P, K, rfl, rfl, hP, hK⟩ := ann_shape rfl hs
    obtain ⟨q, rfl⟩ := shape1 hP
    rw [dispatch_mlAnn rfl]
    rcases hK with ⟨b, rfl, rfl | rfl | rfl⟩ | ⟨rfl, rfl⟩ <;>
      (refine good_ite (good_pure rfl rfl) (good_ite (good_pure rfl rfl) ?_)
       rw [dispatch_mlTxt rfl]
       exact good_ite (good_pure rfl rfl) (good_pure rfl rfl))
  case mlTxt =>
    obtain ⟨r, P, K, rfl, rfl, hP, hK⟩ := ann_shape rfl hs
    obtain ⟨q1, q2, rfl⟩ := shape2 hP
    rw [dispatch_mlTxt rfl]
    rcases hK with ⟨b, rfl, rfl | rfl | rfl⟩ | ⟨rfl, rfl⟩ <;>
      exact good_ite (good_pure rfl rfl) (good_pure rfl rfl)
  case mlAnnEnd =>
    obtain ⟨r, P, K, rfl, rfl, hP, hK⟩ := ann_shape rfl hs
    obtain ⟨q, rfl⟩ := shape1 hP
    rw [dispatch_mlAnnEnd rfl]
    rcases hK with ⟨b, rfl, rfl | rfl | rfl⟩ | ⟨rfl, rfl⟩ <;>
      exact good_ite (good_throw rfl) (good_pure rfl rfl)
  case inlTxt =>
    obtain ⟨r, P, K, rfl, rfl, hP, hK⟩ := ann_shape rfl hs
    obtain ⟨q1, q2, rfl⟩ := shape2 hP
    rw [dispatch_inlTxt rfl]
    rcases hK with ⟨b, rfl, rfl | rfl | rfl⟩ | ⟨rfl, rfl⟩ <;>
      exact good_ite (good_pure rfl rfl) (good_pure rfl rfl)

end EnumScan
