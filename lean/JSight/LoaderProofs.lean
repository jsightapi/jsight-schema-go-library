import JSight.Loader
/-!
Facts about the loader model that carry C13's "line ends": a line end may be one new-line event (LF, CR) or
two (CRLF), and blank lines add more; the loader's state after a new-line event does not change when
further new-line events follow, so LF / CR / CRLF spellings and extra blank lines load identically.
Behind them, C16's binding rule read off `step`: an annotation binds to the node created last, a rule value needs
exactly one node on the annotation's line, a new-line event resets the per-line counter.
-/
namespace Loader
open SchemaScan (Ev LexT)

theorem step_newLine_default (src : Array UInt8) (st : St) (e : Ev) (he : e.ty = .newLine) (hm : st.mode = .default) :
    step src st e = .ok { st with perLine := 0 } := by
  simp [step, he, hm, nodeLoad, pure, Except.pure]

/-- rule-loader states in which a new-line event is ignored -/
def nlOK : RS → Bool
  | .begin | .commentTextBegin | .keyOrObjectEnd | .objectEndAfterRuleName | .valueBegin
  | .embContainer _ | .embLiteral | .embShortcut => true
  | _ => false

theorem ruleLoad_newLine_ok (src : Array UInt8) (st : St) (e : Ev) (he : e.ty = .newLine) (h : nlOK st.rs = true) :
    ruleLoad src st e = .ok st := by
  unfold ruleLoad
  cases hrs : st.rs <;> simp [hrs, nlOK] at h <;> simp [he, pure, Except.pure]

theorem ruleLoad_newLine_err (src : Array UInt8) (st : St) (e : Ev) (he : e.ty = .newLine) (h : nlOK st.rs = false) :
    ∃ err, ruleLoad src st e = .error err := by
  unfold ruleLoad
  cases hrs : st.rs <;> simp [hrs, nlOK] at h
  · exact ⟨.loader e.b, by simp [he, throw, throwThe, MonadExceptOf.throw]⟩
  · -- `.value`: the node-count checks or "incorrect rule value type"
    simp only [he]
    split
    · exact ⟨_, rfl⟩
    · split
      · exact ⟨_, rfl⟩
      · split <;> exact ⟨_, rfl⟩
  · exact ⟨.loader e.b, by simp [he, throw, throwThe, MonadExceptOf.throw]⟩
  · exact ⟨.loader e.b, by simp [he, throw, throwThe, MonadExceptOf.throw]⟩
  · exact ⟨.loader e.b, by simp [throw, throwThe, MonadExceptOf.throw]⟩

theorem step_newLine_ann (src : Array UInt8) (s : St) (e : Ev) (he : e.ty = .newLine) (hm : s.mode ≠ .default) :
    step src s e = ruleLoad src s e := by
  simp [step, he, hm]

/-- a second new-line event directly after a first one changes nothing -/
theorem C13_newline_idempotent (src : Array UInt8) (st st' : St) (e1 e2 : Ev)
    (h1 : e1.ty = .newLine) (h2 : e2.ty = .newLine) (h : step src st e1 = .ok st') :
    step src st' e2 = .ok st' := by
  by_cases hm : st.mode = .default
  · rw [step_newLine_default src st e1 h1 hm] at h
    injection h with h
    subst h
    exact step_newLine_default src _ e2 h2 hm
  · rw [step_newLine_ann src st e1 h1 hm] at h
    cases hok : nlOK st.rs with
    | true =>
      rw [ruleLoad_newLine_ok src st e1 h1 hok] at h
      injection h with h
      subst h
      rw [step_newLine_ann src st e2 h2 hm]
      exact ruleLoad_newLine_ok src st e2 h2 hok
    | false =>
      obtain ⟨err, herr⟩ := ruleLoad_newLine_err src st e1 h1 hok
      rw [herr] at h
      cases h

/-- hence any run of further new-line events after one new-line event is absorbed -/
theorem C13_newline_run_absorbed (src : Array UInt8) (st st' : St) (e1 : Ev) (es : List Ev)
    (h1 : e1.ty = .newLine) (hes : ∀ e ∈ es, e.ty = .newLine) (h : step src st e1 = .ok st') :
    es.foldlM (step src) st' = .ok st' := by
  induction es with
  | nil => rfl
  | cons e es ih =>
    have he : e.ty = .newLine := hes e (by simp)
    have hstep := C13_newline_idempotent src st st' e1 e h1 he h
    simp only [List.foldlM_cons, hstep, bind, Except.bind]
    exact ih (fun x hx => hes x (by simp [hx]))

end Loader

namespace Loader
open SchemaScan (Ev LexT)

/-- an annotation that starts in default mode is bound to the node created last, and remembers how many nodes
were created on the current line -/
theorem annotation_binds_last_node (src : Array UInt8) (st : St) (e : Ev) (hm : st.mode = .default)
    (he : e.ty = .inlAnnB ∨ e.ty = .mlAnnB) :
    ∃ st', step src st e = .ok st' ∧ st'.rsNode = st.last ∧ st'.rsCount = st.perLine ∧ st'.nodes = st.nodes := by
  rcases he with he | he <;> simp [step, he, hm, pure, Except.pure]

/-- a rule value is accepted only when exactly one node was created on the annotation's line -/
theorem rule_needs_exactly_one_node (src : Array UInt8) (st : St) (e : Ev) (hrs : st.rs = .value) :
    (st.rsCount = 0 → ruleLoad src st e = .error (.ruleWithoutExample e.b)) ∧
    (st.rsCount ≥ 2 → ruleLoad src st e = .error (.ruleForSeveralNode e.b)) := by
  constructor
  · intro h0
    simp [ruleLoad, hrs, h0, throw, throwThe, MonadExceptOf.throw]
  · intro h2
    have h0 : (st.rsCount == 0) = false := by simp; omega
    have h1 : (st.rsCount != 1) = true := by simp; omega
    simp [ruleLoad, hrs, h0, h1, throw, throwThe, MonadExceptOf.throw]

/-- a new-line event outside annotations resets the per-line counter; the node table and the node created last stay -/
theorem newLine_resets_counter (src : Array UInt8) (st : St) (e : Ev) (he : e.ty = .newLine) (hm : st.mode = .default) :
    ∃ st', step src st e = .ok st' ∧ st'.perLine = 0 ∧ st'.nodes = st.nodes ∧ st'.last = st.last :=
  ⟨_, step_newLine_default src st e he hm, rfl, rfl, rfl⟩

end Loader
