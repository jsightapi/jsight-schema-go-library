import JSight.SchemaLenShortcut
import JSight.AnnotObj
/-!
C14, annotated schemas: single-byte behaviour of the schema scanner model inside an annotation, for an arbitrary
`lengthComputing` flag, at `cfgAL lc a` (like `cfgL lc`, with the annotation mode as a parameter; it is `cfgG lc a false`
of `AnnotStep`, whose lemmas cover every other byte inside an annotation).
-/
namespace SchemaScan
namespace Len

variable {lc : Bool}

/-- a scanner state with the annotation mode `a` and the length-computing flag `lc` -/
def cfgAL (lc : Bool) (a : Ann) (st : St) (ret : List St) (K : List (LexT × Nat)) (u : Bool) (i : Nat) (CS : List Ctx)
    (cx : Ctx) (al : Bool) : Sc :=
  { step := st, ret := ret, stack := K, ctxStack := CS, ctx := cx, finds := [], index := i, ann := a, unf := u,
    lengthComputing := lc, boundaryQuote := false, allowAnnotation := al, hasTrailing := false }

theorem cfgAL_none (st : St) (ret : List St) (K : List (LexT × Nat)) (u : Bool) (i : Nat) (CS : List Ctx) (cx : Ctx)
    (al : Bool) : cfgAL lc .none st ret K u i CS cx al = cfgL lc st ret K u i CS cx al := rfl

theorem cfgAL_false : @cfgAL false = @cfgA := rfl

/-! ### the start of the annotation -/

theorem pv_dispatch_slash (f : Nat) (st : St) (h : PV st = true) (s : Sc) (p1 p2 : Option Cls) :
    dispatch (f + 1) st s .slash p1 p2 = endValue f s .slash p1 p2 :=
  pv_num f st h .slash rfl s p1 p2

theorem root_slash (f : Nat) (K : List (LexT × Nat)) (i : Nat) (CS : List Ctx) (cx : Ctx) (fs : List LexT)
    (p1 p2 : Option Cls) :
    dispatch (f + 1) .endTop { cfgL lc .endTop [] K false i CS cx true with finds := fs } .slash p1 p2
      = .ok { cfgL lc .anyAnnStart [.endTop] K false i CS cx true with finds := fs } :=
  SchemaScan.root_slash f K i CS cx fs p1 p2

theorem mlAnn_nl (f : Nat) (r : List St)
    (K : List (LexT × Nat)) (i : Nat) (CS : List Ctx) (cx : Ctx) (al : Bool) (p1 p2 : Option Cls) :
    dispatch (f + 1) .mlAnn (cfgAL lc .multi .mlAnn r K false i CS cx al) .nl p1 p2
      = .ok { cfgAL lc .multi .mlAnn r K false i CS cx al with finds := [.newLine] } :=
  SchemaScan.aloop_nlQ f false .mlAnn rfl r K i CS cx al p1 p2

/-! ### rule names -/

theorem akey_sp (f : Nat) (a : Ann) (st : St) (h : keySt st = true) (c : Cls) (hc : c.isSpTab = true) (r : List St)
    (K : List (LexT × Nat)) (i : Nat) (CS : List Ctx) (cx : Ctx) (al : Bool) (p1 p2 : Option Cls) :
    dispatch (f + 1) st (cfgAL lc a st r K false i CS cx al) c p1 p2 = .ok (cfgAL lc a st r K false i CS cx al) := by
  cases st <;> simp [keySt] at h <;> cases c <;> simp [Cls.isSpTab] at hc <;> cases a <;> (unfold dispatch; rfl)

theorem akey_nl (f : Nat) (st : St) (h : keySt st = true) (r : List St)
    (K : List (LexT × Nat)) (i : Nat) (CS : List Ctx) (cx : Ctx) (al : Bool) (p1 p2 : Option Cls) :
    dispatch (f + 1) st (cfgAL lc .multi st r K false i CS cx al) .nl p1 p2
      = .ok { cfgAL lc .multi (nlSt st) r K false i CS cx al with finds := [.newLine] } :=
  SchemaScan.aloop_nlQ f false st (keySt_aLoop h) r K i CS cx al p1 p2

/-! ### rule values -/

theorem aval_sp (f : Nat) (a : Ann) (c : Cls) (hc : c.isSpTab = true) (r : List St)
    (K : List (LexT × Nat)) (i : Nat) (CS : List Ctx) (cx : Ctx) (al : Bool) (p1 p2 : Option Cls) :
    dispatch (f + 1) .objValue (cfgAL lc a .objValue r K false i CS cx al) c p1 p2
      = .ok (cfgAL lc a .objValue r K false i CS cx al) := by
  cases c <;> simp [Cls.isSpTab] at hc <;> cases a <;> (unfold dispatch; rfl)

theorem aval_nl (f : Nat) (r : List St)
    (K : List (LexT × Nat)) (i : Nat) (CS : List Ctx) (cx : Ctx) (al : Bool) (p1 p2 : Option Cls) :
    dispatch (f + 1) .objValue (cfgAL lc .multi .objValue r K false i CS cx al) .nl p1 p2
      = .ok { cfgAL lc .multi .objValue r K false i CS cx al with finds := [.newLine] } :=
  SchemaScan.aloop_nlQ f false .objValue rfl r K i CS cx al p1 p2

/-! ### behind the rule object -/

theorem mlpre_nl (f : Nat) (r : List St)
    (K : List (LexT × Nat)) (i : Nat) (CS : List Ctx) (cx : Ctx) (al : Bool) (p1 p2 : Option Cls) :
    dispatch (f + 1) .mlTxtPrefix (cfgAL lc .multi .mlTxtPrefix r K false i CS cx al) .nl p1 p2
      = .ok { cfgAL lc .multi .mlTxtPrefix r K false i CS cx al with finds := [.newLine] } :=
  SchemaScan.aloop_nlQ f false .mlTxtPrefix rfl r K i CS cx al p1 p2

/-- the line break that ends an inline annotation without note -/
theorem inlpre_nl (f : Nat) (r0 : St) (rs : List St) (y : Nat)
    (i : Nat) (CS : List Ctx) (cx : Ctx) (al : Bool) (p1 p2 : Option Cls) :
    dispatch (f + 1) .inlTxtPrefix (cfgAL lc .inline .inlTxtPrefix (r0 :: rs) [(.inlAnnB, y)] false i CS cx al) .nl p1 p2
      = .ok { cfgL lc r0 rs [(.inlAnnB, y)] false i CS cx al with finds := [.inlAnnE, .newLine] } :=
  SchemaScan.inlpre_nlQ f false r0 rs y i CS cx al p1 p2

/-! ### the note `- text` behind the rule object -/

/-- the line break that ends the note of an inline annotation -/
theorem inltxt_nl (f : Nat) (r0 : St) (rs : List St) (q y : Nat)
    (i : Nat) (CS : List Ctx) (cx : Ctx) (al : Bool) (p1 p2 : Option Cls) :
    dispatch (f + 1) .inlTxt (cfgAL lc .inline .inlTxt (r0 :: rs) [(.inlTxtB, q), (.inlAnnB, y)] false i CS cx al) .nl p1 p2
      = .ok { cfgL lc (.guard r0) rs [(.inlTxtB, q), (.inlAnnB, y)] false i CS cx al with
                finds := [.inlTxtE, .inlAnnE, .newLine] } :=
  SchemaScan.inltxt_nl f r0 rs q y i CS cx al p1 p2

/-- white space behind an inline annotation with a note (the scanner is in the guard installed by its line end) -/
theorem guard_sp (f : Nat) (c : Cls) (hc : c.isSpTab = true)
    (i : Nat) (CS : List Ctx) (cx : Ctx) (al : Bool) (p1 p2 : Option Cls) :
    dispatch (f + 2) (.guard .endTop) (cfgL lc (.guard .endTop) [] [] false i CS cx al) c p1 p2
      = .ok (cfgL lc (.guard .endTop) [] [] false i CS cx al) :=
  SchemaScan.guard_sp f c hc i CS cx al p1 p2

theorem guard_nl (f : Nat) (i : Nat) (CS : List Ctx) (cx : Ctx) (al : Bool) (p1 p2 : Option Cls) :
    dispatch (f + 2) (.guard .endTop) (cfgL lc (.guard .endTop) [] [] false i CS cx al) .nl p1 p2
      = .ok { cfgL lc (.guard .endTop) [] [] false i CS cx al with finds := [.newLine] } :=
  SchemaScan.guard_nl f i CS cx al p1 p2

end Len
end SchemaScan
