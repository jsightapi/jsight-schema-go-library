import JSight.BridgeCR2Plain
import JSight.ListFacts
/-!
Bridge (A)∩(B): what `typeConstraint` needs. The type names: (A) compares the unquoted value with string literals,
(B) looks it up in `CR.tyTable` — one bijection between the non-user names and `CR.TyName` (`ofBytes_eq_iff`, `ty_beq`).
(A)'s count of foreign rules (`others_zero_of`, the `sl_*` lists). And the maps `typeConstraint` can hand on, each with
its dictionary (`relT_*`) and hence its end of `compileNode` (`tail_plain`, `tail_any`, `tail_tl`).
-/
namespace BridgeCR
open Compile
open Loader (NK)

/-! ### the type names -/

theorem ofBytes_user (b : Bytes) (h : isUserTypeName b = true) : CR.TyName.ofBytes b = .user := by
  unfold CR.TyName.ofBytes
  rw [← isUserTypeName_eq, h]
  rfl

theorem ofBytes_table (b : Bytes) (h : isUserTypeName b = false) :
    CR.TyName.ofBytes b = (CR.tyTable.lookup b).getD .unknown := by
  unfold CR.TyName.ofBytes
  rw [← isUserTypeName_eq, h]
  rfl

theorem tyTable_keys : (CR.tyTable.map (·.1)).Nodup := by decide +kernel
theorem tyTable_vals : (CR.tyTable.map (·.2)).Nodup ∧ ∀ p ∈ CR.tyTable, p.2 ≠ .unknown ∧ p.2 ≠ .user ∧ p.2 ≠ .json .mixed := by decide +kernel

/-- among the names that are not user types, the table is a bijection between names and what they name -/
theorem ofBytes_eq_iff (v : Bytes) (hu : isUserTypeName v = false) (p : Bytes × CR.TyName) (hp : p ∈ CR.tyTable) :
    CR.TyName.ofBytes v = p.2 ↔ v = p.1 := by
  rw [ofBytes_table v hu]
  constructor
  · intro h
    cases hl : CR.tyTable.lookup v with
    | none => rw [hl] at h; exact absurd h.symm (tyTable_vals.2 p hp).1
    | some ty =>
      rw [hl] at h
      have hm := List.mem_of_lookup_eq_some _ v _ hl
      exact congrArg Prod.fst (nodup_inj (·.2) _ tyTable_vals.1 _ hm _ hp h)
  · intro h
    cases hl : CR.tyTable.lookup v with
    | none => exact absurd (List.mem_map.2 ⟨p, hp, h.symm⟩) (List.not_mem_of_lookup_eq_none _ v hl)
    | some ty =>
      have hm := List.mem_of_lookup_eq_some _ v _ hl
      exact congrArg Prod.snd (nodup_inj (·.1) _ tyTable_keys _ hm _ hp h)

theorem ofBytes_ne (v : Bytes) (hu : isUserTypeName v = false) :
    CR.TyName.ofBytes v ≠ .user ∧ CR.TyName.ofBytes v ≠ .json .mixed := by
  rw [ofBytes_table v hu]
  cases hl : CR.tyTable.lookup v with
  | none => simp
  | some ty => exact (tyTable_vals.2 _ (List.mem_of_lookup_eq_some _ v _ hl)).2

/-- a test on a type name that is not a user type is a test on what it names -/
theorem ty_beq (v : Bytes) (hu : isUserTypeName v = false) (p : Bytes × CR.TyName) (hp : p ∈ CR.tyTable) :
    (v == p.1) = decide (CR.TyName.ofBytes v = p.2) := by
  rw [Bool.eq_iff_iff, beq_iff_eq, decide_eq_true_iff]
  exact (ofBytes_eq_iff v hu p hp).symm

theorem ofBytes_decimal_iff (b : Bytes) : CR.TyName.ofBytes b = .decimal ↔ b = sb "decimal" := by
  cases hu : isUserTypeName b
  · rw [sb_decimal]
    exact ofBytes_eq_iff b hu (_, _) (by decide +kernel)
  · rw [ofBytes_user b hu]
    constructor
    · intro h
      cases h
    · intro h
      subst h
      revert hu
      decide +kernel

def jsonNames : List (String × CR.JT) :=
  [("object", .object), ("array", .array), ("string", .string), ("integer", .integer), ("float", .float),
   ("boolean", .boolean), ("null", .null)]

/-! ### lists of rule names -/

theorem others_zero_iff (frs : List Rule) (L : List String) :
    others frs L = 0 ↔ ∀ r ∈ frs, (L.map sb).contains r.name = true := by
  have h1 := others_ne frs L
  constructor
  · intro h r hr
    rw [h] at h1
    have h2 : (frs.any fun r => !(L.map sb).contains r.name) = false := by rw [← h1]; rfl
    have := List.any_eq_false.1 h2 r hr
    simpa using this
  · intro h
    have h2 : (frs.any fun r => !(L.map sb).contains r.name) = false := by
      rw [List.any_eq_false]
      intro r hr
      rw [h r hr]; simp
    rw [h2] at h1
    simpa using h1

/-- no rule beside those of `L`, and each of those is in `L'` or absent: no rule beside those of `L'` -/
theorem others_zero_of (frs : List Rule) (L L' : List String) (h : others frs L = 0)
    (hsub : ∀ s ∈ L, s ∈ L' ∨ hasRule frs s = false) : others frs L' = 0 := by
  rw [others_zero_iff] at h ⊢
  intro r hr
  have hm : r.name ∈ L.map sb := by simpa using h r hr
  obtain ⟨s, hs, e⟩ := List.mem_map.1 hm
  rcases hsub s hs with h' | h'
  · simpa using List.mem_map.2 ⟨s, h', e⟩
  · have : hasRule frs s = true := by
      unfold hasRule; rw [List.any_eq_true]; exact ⟨r, hr, by simp [e]⟩
    rw [h'] at this; cases this

/-! With (B)'s names for (A)'s strings the sweeps over the constraint types compare byte lists and decode no string. -/

theorem sl_user : sameList [.type, .optional, .nullable] ["type", "optional", "nullable"] := by
  unfold sameList
  simp only [List.map_cons, List.map_nil, sb_type, sb_optional, sb_nullable]
  intro k; cases k <;> simp only [ctName] <;> decide +kernel
theorem sl_any : sameList [.type, .any, .optional, .nullable, .const] ["type", "optional", "nullable", "const"] := by
  unfold sameList
  simp only [List.map_cons, List.map_nil, sb_type, sb_optional, sb_nullable, sb_const]
  intro k; cases k <;> simp only [ctName] <;> decide +kernel
theorem sl_enum : sameList [.enum, .optional, .const, .nullable, .type] ["enum", "optional", "const", "nullable", "type"] := by
  unfold sameList
  simp only [List.map_cons, List.map_nil, sb_enum, sb_optional, sb_const, sb_nullable, sb_type]
  intro k; cases k <;> simp only [ctName] <;> decide +kernel
theorem sl_or : sameList [.or, .typesList, .optional, .nullable, .type] ["or", "optional", "nullable", "type"] := by
  unfold sameList
  simp only [List.map_cons, List.map_nil, sb_or, sb_optional, sb_nullable, sb_type]
  intro k; cases k <;> simp only [ctName] <;> decide +kernel

section
variable {frs : List Rule} {kind : NK} {jt : JT} {nch : Nat} {isProp : Bool} {c : CR.Ctx}

theorem typeTok_mapOf (frs : List Rule) :
    CR.typeTok (mapOf frs) = (findRule frs "type").map fun r => (r.val.getD [], r.gen) := by
  unfold CR.typeTok
  rw [mapOf_named frs .type "type" ct_type]
  cases findRule frs "type" <;> simp [cvAt, cvLit]

/-! ### the maps `typeConstraint` hands on -/

/-- no `type` rule: the map as it is -/
theorem relT_base (ht : findRule frs "type" = none) (hor : hasRule frs "or" = false) : RelT frs false none false (mapOf frs) where
  plain := fun _ _ _ _ _ _ _ => rfl
  type := by rw [mapOf_named frs .type "type" ct_type, ht]; rfl
  or := by rw [mapOf_named frs .or "or" ct_or, findRule_none frs "or" hor]; rfl
  uuid := by rw [mapOf_unnamed frs .uuid rfl]; rfl
  date := by rw [mapOf_unnamed frs .date rfl]; rfl
  any := by rw [mapOf_unnamed frs .any rfl]; rfl
  tl := by rw [mapOf_named frs .typesList "or" ct_typesList, findRule_none frs "or" hor]; rfl

/-- a type name that leaves nothing behind: the `type` rule is deleted -/
theorem relT_del (hor : hasRule frs "or" = false) : RelT frs false none false ((mapOf frs).del .type) where
  plain := fun k h _ _ _ _ _ => CR.del_other _ h
  type := CR.del_same _ _
  or := by rw [CR.del_other _ (by decide), mapOf_named frs .or "or" ct_or, findRule_none frs "or" hor]; rfl
  uuid := by rw [CR.del_other _ (by decide), mapOf_unnamed frs .uuid rfl]; rfl
  date := by rw [CR.del_other _ (by decide), mapOf_unnamed frs .date rfl]; rfl
  any := by rw [CR.del_other _ (by decide), mapOf_unnamed frs .any rfl]; rfl
  tl := by rw [CR.del_other _ (by decide), mapOf_named frs .typesList "or" ct_typesList, findRule_none frs "or" hor]; rfl

/-- a type name that leaves a constraint of its own behind (`uuid`, `date`, `any`, the types list of a reference) -/
theorem relT_set (hor : hasRule frs "or" = false) (k : CR.CT) (v : CR.CV)
    (hk : k = .uuid ∨ k = .date ∨ k = .any ∨ k = .typesList) :
    RelT frs (decide (k = .any)) (if k = .uuid then some .uuid else if k = .date then some .date else none) (decide (k = .typesList))
      (((mapOf frs).set k v).del .type) := by
  have hs : ∀ k', k' ≠ .type → k' ≠ k → (((mapOf frs).set k v).del .type) k' = mapOf frs k' :=
    fun k' a b => by rw [CR.del_other _ a, CR.set_other _ _ b]
  have hkk : (((mapOf frs).set k v).del .type) k = some v := by
    rw [CR.del_other _ (by rcases hk with rfl | rfl | rfl | rfl <;> decide), CR.set_same]
  have hno : mapOf frs .or = none := by rw [mapOf_named frs .or "or" ct_or, findRule_none frs "or" hor]; rfl
  have htl : mapOf frs .typesList = none := by
    rw [mapOf_named frs .typesList "or" ct_typesList, findRule_none frs "or" hor]; rfl
  rcases hk with rfl | rfl | rfl | rfl
  all_goals
    refine ⟨fun k' a _ c d e f => hs k' a (by first | exact c | exact d | exact e | exact f), CR.del_same _ _, ?_, ?_, ?_, ?_, ?_⟩
  all_goals first
    | (rw [hkk]; rfl)
    | (rw [hs _ (by decide) (by decide)]; first | (rw [hno]) | (rw [htl]; rfl) | (rw [mapOf_unnamed frs _ rfl]; rfl))

/-! ### the end of `compileNode` on each of them -/

/-- a node without types list and without `any`: the compatibility row is the table -/
theorem tail_plain {fmt : Option RulesF.Fmt} {m : CR.CMap} (R : RelT frs false fmt false m) (G : Good frs)
    (C : CtxOK kind jt nch isProp c) (hf : fmt = none ∨ fmt = some .uuid ∨ fmt = some .date) {orShort : Bool} :
    Agree (outA (bAllowed frs jt isProp nch false fmt none orShort)) (CR.firstErr (CR.tailRows c m) ()) := by
  refine tail_agree R G C.prop hf (fun h => by cases h) (fun h => by cases h) fun _ _ => ?_
  unfold CR.compatOK badA
  rw [compat_key (hasT_of R G) G C hf]
  simp [C.notMixed, C.notMV]

/-- a node with a types list: restricted to `or` / `type` / `optional` / `nullable`, nothing left to object to -/
theorem tail_tl {m : CR.CMap} (R : RelT frs false none true m) (G : Good frs) (hprop : c.isProp = isProp)
    (hres : others frs ["or", "optional", "nullable", "type"] = 0) (ns : List String) {orShort : Bool} :
    Agree (outA (bAllowed frs jt isProp nch false none (some ns) orShort)) (CR.firstErr (CR.tailRows c m) ()) := by
  refine tail_agree R G hprop (Or.inl rfl) (fun h => by cases h) (fun h => by cases h) fun _ _ => ?_
  rw [compatOK_quiet (hasT_of R G) hres]; rfl

/-- `type: "any"` -/
theorem tail_any (G : Good frs) (C : CtxOK kind jt nch isProp c) (hor : hasRule frs "or" = false) {orShort : Bool} :
    Agree (outA (bAllowed frs jt isProp nch true none none orShort))
      (CR.firstErr (CR.tailRows c (((mapOf frs).set .any .unit).del .type)) ()) := by
  have R : RelT frs true none false (((mapOf frs).set .any .unit).del .type) := relT_set hor .any .unit (by simp)
  have H := hasT_of R G
  refine tail_agree R G C.prop (Or.inl rfl) (fun _ => ?_) (fun _ => ?_) fun h2 h3 => ?_
  · -- the count of `anyConstraint` is (A)'s count of foreign rules
    have hany : (((mapOf frs).set .any .unit).del .type).has .any = true := by rw [H]; rfl
    have honly : CR.onlyHas (((mapOf frs).set .any .unit).del .type) [.any, .optional, .nullable, .const]
        = CR.onlyHas (mapOf frs) [.type, .any, .optional, .nullable, .const] := by
      unfold CR.onlyHas
      congr 1
      funext k
      by_cases k1 : k = .type
      · subst k1; simp
      · by_cases k2 : k = .any
        · subst k2; simp
        · rw [CR.has_del_other _ k1, CR.has_set_other _ _ k2]; simp [k1]
    have hc := CR.count_any _ hany
    rw [honly] at hc
    rw [hc, onlyHas_others frs G.known _ _ sl_any]
  · rw [C.branch, C.ch]
    cases hk : (kind == .obj || kind == .arr)
    · rw [C.leaf hk]; rfl
    · cases hn : nch <;> simp
  · have hz : others frs ["type", "optional", "nullable", "const"] = 0 := by simpa using h3
    have hcst : hasRule frs "const" = false := by simpa using h2
    rw [compatOK_quiet H (others_zero_of frs _ _ hz (by simp [hcst]))]
    rfl

end

end BridgeCR
