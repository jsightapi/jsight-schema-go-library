import JSight.RenderLine
namespace Render

/-! C17 (renderer): for every content and every position inside it, rendering does not panic. The model answers `none`
where a Go index expression would be out of range, so "does not panic" reads `(render content idx).isSome`. -/

/-- the backward scan stops at 0 or right after a newline that is not at `idx` -/
theorem lineBeginning_go_some (content : Array UInt8) (nl : UInt8) (idx : Nat) :
    ∀ fuel i, i < content.size → i + 1 ≤ fuel → ∃ b, lineBeginning.go content nl idx fuel i = some b ∧ b ≤ i + 1 ∧
      (0 < b → content[b - 1]? = some nl ∧ b - 1 ≠ idx) := by
  intro fuel
  induction fuel with
  | zero => intro i _ h; omega
  | succ fuel ih =>
    intro i hi hf
    have hget : content[i]? = some content[i] := by simp [hi]
    unfold lineBeginning.go
    simp only [hget]
    by_cases h1 : (content[i] == nl && i != idx) = true
    · simp only [h1, if_true]
      refine ⟨i + 1, rfl, Nat.le_refl _, fun _ => ?_⟩
      simp only [Bool.and_eq_true, beq_iff_eq, bne_iff_ne] at h1
      exact ⟨by simp [hget, h1.1], h1.2⟩
    · simp only [h1, Bool.false_eq_true, if_false]
      by_cases h0 : i = 0
      · subst h0
        exact ⟨0, by simp, by omega, fun h => by omega⟩
      · simp only [beq_iff_eq, h0, if_false]
        obtain ⟨b, hb, hle, hx⟩ := ih (i - 1) (by omega) (by omega)
        exact ⟨b, hb, by omega, hx⟩

theorem lineBeginning_some (content : Array UInt8) (nl : UInt8) (idx : Nat) (h : idx < content.size) :
    ∃ b, lineBeginning content nl idx = some b ∧ b ≤ idx ∧ (0 < b → content[b - 1]? = some nl) := by
  obtain ⟨b, hb, hle, hx⟩ := lineBeginning_go_some content nl idx (idx + 1) idx h (Nat.le_refl _)
  refine ⟨b, hb, ?_, fun h0 => (hx h0).1⟩
  by_cases h0 : 0 < b
  · have := (hx h0).2; omega
  · omega

theorem fwd_bounds (content : Array UInt8) (nl : UInt8) :
    ∀ fuel i, i ≤ content.size → i ≤ lineEnd.fwd content nl content.size fuel i ∧ lineEnd.fwd content nl content.size fuel i ≤ content.size := by
  intro fuel
  induction fuel with
  | zero => intro i hi; simp [lineEnd.fwd, hi]
  | succ fuel ih =>
    intro i hi
    unfold lineEnd.fwd
    by_cases h1 : i < content.size
    · simp only [h1, if_true]
      by_cases h2 : content[i]! == nl
      · simp [h2, hi]
      · simp only [h2, Bool.false_eq_true, if_false]
        have := ih (i + 1) (by omega)
        omega
    · simp [h1, hi]

/-- `\r\n` or `\n\r`: the byte before the newline found is the other one of the pair -/
theorem pair_ne (nl c : UInt8) (h : ((nl == 10 && c == 13) || (nl == 13 && c == 10)) = true) : c ≠ nl := by
  rintro rfl
  simp only [Bool.or_eq_true, Bool.and_eq_true, beq_iff_eq] at h
  rcases h with ⟨h1, h2⟩ | ⟨h1, h2⟩ <;> exact absurd (h1.symm.trans h2) (by decide)

/-- the end lies at `idx - 1` at the earliest, and only on a byte that is not the newline -/
theorem lineEnd_some (content : Array UInt8) (nl : UInt8) (idx : Nat) (h : idx < content.size) :
    ∃ e, lineEnd content nl idx = some e ∧ idx ≤ e + 1 ∧ e ≤ content.size ∧ (e < idx → content[e]? ≠ some nl) := by
  have hb := fwd_bounds content nl (content.size + 1) idx (Nat.le_of_lt h)
  unfold lineEnd
  simp only
  generalize lineEnd.fwd content nl content.size (content.size + 1) idx = i at hb
  by_cases hi : i > 0
  · simp only [hi, if_true]
    have hget : content[i - 1]? = some content[i - 1] := by
      have : i - 1 < content.size := by omega
      simp [this]
    simp only [hget]
    split
    · rename_i hpair
      exact ⟨i - 1, rfl, by omega, by omega, fun _ => by rw [hget]; exact fun e => pair_ne _ _ hpair (Option.some.inj e)⟩
    · exact ⟨i, rfl, by omega, by omega, fun _ => by omega⟩
  · simp only [hi, if_false]
    exact ⟨i, rfl, by omega, by omega, fun _ => by omega⟩

/-- the begin of the line never lies after its end -/
theorem begin_le_end (content : Array UInt8) (nl : UInt8) (idx : Nat) (h : idx < content.size)
    {b e : Nat} (hb : lineBeginning content nl idx = some b) (he : lineEnd content nl idx = some e) : b ≤ e := by
  obtain ⟨b', hb', hle, hnl⟩ := lineBeginning_some content nl idx h
  obtain ⟨e', he', hge, _, hne⟩ := lineEnd_some content nl idx h
  rw [hb] at hb'; rw [he] at he'
  cases hb'; cases he'
  -- b ≤ idx ≤ e + 1: otherwise b = idx = e + 1, the byte at e is the newline for the one scan and not for the other
  refine Decidable.byContradiction fun hbe => ?_
  have hbe' : b - 1 = e := by omega
  exact hne (by omega) (hbe' ▸ hnl (by omega))

/-- C17 (renderer totality): for every content and every position inside it, `Line`, `SourceSubString` and the caret
computation return: no index is out of range. The renderer modelled is the one with the fix of finding F-9a of
DESIGN.md §5 (a negative caret offset made `strings.Repeat` panic; the fix clamps it at 0): `pointer` clamps by
definition, so the caret needs the line beginning only, and nothing is claimed about the renderer without the fix. -/
theorem render_total (content : Array UInt8) (idx : Nat) (h : idx < content.size) :
    (render content idx).isSome := by
  have hne : content.size ≠ 0 := by omega
  obtain ⟨b, hb, _, _⟩ := lineBeginning_some content (detectNl content.toList) idx h
  obtain ⟨e, he, _, _⟩ := lineEnd_some content (detectNl content.toList) idx h
  have hbe := begin_le_end content _ idx h hb he
  have hline := line_eq content idx h
  have hsub : (sourceSubString content idx).isSome := by
    unfold sourceSubString
    simp only [beq_iff_eq, hne, if_false, hb, he]
    have : ¬ e < b := by omega
    simp only [this, if_false]
    split <;> simp
  have hptr : (pointer content idx).isSome := by
    unfold pointer
    simp [hb]
  unfold render
  rw [hline]
  cases hs : sourceSubString content idx with
  | none => simp [hs] at hsub
  | some s =>
    cases hp : pointer content idx with
    | none => simp [hp] at hptr
    | some p => simp [bind, Option.bind]

end Render

#print axioms Render.render_total
