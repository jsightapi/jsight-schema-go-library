import JSight.LinksSpec
/-!
C09 (a), what the proofs about the link check share: the names a node of the pre-order list mentions (`Item.Mentions`;
`refs_iff_flat`: the pre-order list of a schema mentions exactly the names the schema references), the type table
(`lookup`, `sortedNames` against `InTable`), and `processNode` on the four node kinds that are not objects (`emit`,
`processItems_cons_plain`).
-/
namespace LK

/-- the keys that are key shortcuts `@K` -/
def shortcuts (keys : List (String × Bool)) : List String := (keys.filter (·.2)).map (·.1)

/-- the names `CompileAllOf` looks up at a node: its allOf parents -/
def Item.allOfNames : Item → List String
  | .obj _ _ ao => ao
  | _ => []

/-- the names `CheckRootSchema` looks up at a node as loaded -/
def Item.checkNames : Item → List String
  | .lit _ ms => userNames ms
  | .ref ns => ns
  | .arr => []
  | .obj keys addp _ => shortcuts keys ++ addp.toList
  | .inh _ => []

/-- the names `CheckRootSchema` looks up at a node after `CompileAllOf` -/
def CItem.names : CItem → List String
  | .lit _ ms => userNames ms
  | .ref ns => ns
  | .arr => []
  | .obj keys addp => shortcuts keys ++ addp.toList

/-- the names an item mentions -/
def Item.Mentions (it : Item) (n : String) : Prop := n ∈ it.allOfNames ∨ n ∈ it.checkNames

theorem mem_userNames (ms : List Mem) (n : String) : n ∈ userNames ms ↔ Mem.user n ∈ ms := by
  induction ms with
  | nil => simp [userNames]
  | cons m ms ih =>
    cases m with
    | user x => simp [userNames, ih]
    | builtin j => simp [userNames, ih]

theorem mem_shortcuts (keys : List (String × Bool)) (n : String) : n ∈ shortcuts keys ↔ (n, true) ∈ keys := by
  unfold shortcuts
  simp only [List.mem_map, List.mem_filter]
  constructor
  · rintro ⟨⟨k, b⟩, ⟨hm, hb⟩, rfl⟩
    simp only at hb
    subst hb
    exact hm
  · intro h
    exact ⟨(n, true), ⟨h, rfl⟩, rfl⟩

theorem mem_keysOf (ps : List (String × Bool × N)) (k : String) (b : Bool) :
    (k, b) ∈ keysOf ps ↔ ∃ v, (k, b, v) ∈ ps := by
  unfold keysOf
  simp only [List.mem_map]
  constructor
  · rintro ⟨⟨k', b', v⟩, hm, he⟩
    simp only [Prod.mk.injEq] at he
    obtain ⟨rfl, rfl⟩ := he
    exact ⟨v, hm⟩
  · rintro ⟨v, hv⟩
    exact ⟨(k, b, v), hv, rfl⟩

mutual
theorem refs_iff_flat : (t : N) → (n : String) → RefsN t n ↔ ∃ it ∈ flat t, it.Mentions n
  | .lit jt tl e, n => by
    simp only [flat, List.mem_singleton, exists_eq_left, Item.Mentions, Item.allOfNames, Item.checkNames,
      List.not_mem_nil, false_or, mem_userNames]
    cases tl with
    | none =>
      simp only [TL.members, List.not_mem_nil, iff_false]
      intro h; cases h
    | typ x =>
      simp only [TL.members, List.mem_singleton, Mem.user.injEq]
      constructor
      · intro h; cases h; rfl
      · intro h; subst h; exact .litType jt n e
    | orr ms =>
      simp only [TL.members]
      constructor
      · intro h; cases h; assumption
      · intro h; exact .litOr jt ms n e h
  | .ref names, n => by
    simp only [flat, List.mem_singleton, exists_eq_left, Item.Mentions, Item.allOfNames, Item.checkNames,
      List.not_mem_nil, false_or]
    constructor
    · intro h; cases h; assumption
    · intro h; exact .ref names n h
  | .arr items, n => by
    have ih := refsItems_iff_flat items n
    constructor
    · intro h
      cases h with
      | item _ x _ hx hr =>
        obtain ⟨it, hit, hm⟩ := ih.1 ⟨x, hx, hr⟩
        exact ⟨it, by simp [flat, hit], hm⟩
    · rintro ⟨it, hit, hm⟩
      simp only [flat, List.mem_cons] at hit
      rcases hit with rfl | hit
      · rcases hm with hm | hm <;> simp [Item.allOfNames, Item.checkNames] at hm
      · obtain ⟨x, hx, hr⟩ := ih.2 ⟨it, hit, hm⟩
        exact .item items x n hx hr
  | .obj ao ap ps, n => by
    have ih := refsProps_iff_flat ps n
    have hroot : Item.obj (keysOf ps) ap ao ∈ flat (.obj ao ap ps) := by simp [flat]
    constructor
    · intro h
      cases h with
      | allOf _ _ _ _ h => exact ⟨_, hroot, Or.inl h⟩
      | addp _ _ _ => exact ⟨_, hroot, Or.inr (by simp [Item.checkNames])⟩
      | key _ _ _ _ v hv =>
        refine ⟨_, hroot, Or.inr ?_⟩
        simp only [Item.checkNames, List.mem_append]
        exact Or.inl ((mem_shortcuts _ _).2 ((mem_keysOf ps n true).2 ⟨v, hv⟩))
      | prop _ _ _ k sc v _ hm hr =>
        obtain ⟨it, hit, hmm⟩ := ih.1 ⟨k, sc, v, hm, hr⟩
        exact ⟨it, by simp [flat, hit], hmm⟩
    · rintro ⟨it, hit, hm⟩
      simp only [flat, List.mem_cons, List.mem_append, List.not_mem_nil, or_false] at hit
      rcases hit with rfl | hit | rfl
      · rcases hm with hm | hm
        · exact .allOf ao ap ps n hm
        · simp only [Item.checkNames, List.mem_append] at hm
          rcases hm with hm | hm
          · obtain ⟨v, hv⟩ := (mem_keysOf ps n true).1 ((mem_shortcuts _ _).1 hm)
            exact .key ao ap ps n v hv
          · cases ap with
            | none => simp at hm
            | some a =>
              have : n = a := by simpa using hm
              subst this; exact .addp ao ps n
      · obtain ⟨k, sc, v, hv, hr⟩ := ih.2 ⟨it, hit, hm⟩
        exact .prop ao ap ps k sc v n hv hr
      · rcases hm with hm | hm <;> simp [Item.allOfNames, Item.checkNames] at hm
theorem refsItems_iff_flat : (xs : List N) → (n : String) →
    (∃ x ∈ xs, RefsN x n) ↔ ∃ it ∈ flatItems xs, it.Mentions n
  | [], n => by simp [flatItems]
  | x :: xs, n => by
    have ih1 := refs_iff_flat x n
    have ih2 := refsItems_iff_flat xs n
    constructor
    · rintro ⟨y, hy, hr⟩
      rcases List.mem_cons.1 hy with rfl | hy
      · obtain ⟨it, hit, hm⟩ := ih1.1 hr
        exact ⟨it, by simp [flatItems, hit], hm⟩
      · obtain ⟨it, hit, hm⟩ := ih2.1 ⟨y, hy, hr⟩
        exact ⟨it, by simp [flatItems, hit], hm⟩
    · rintro ⟨it, hit, hm⟩
      simp only [flatItems, List.mem_append] at hit
      rcases hit with hit | hit
      · exact ⟨x, List.mem_cons_self, ih1.2 ⟨it, hit, hm⟩⟩
      · obtain ⟨y, hy, hr⟩ := ih2.2 ⟨it, hit, hm⟩
        exact ⟨y, List.mem_cons_of_mem _ hy, hr⟩
theorem refsProps_iff_flat : (ps : List (String × Bool × N)) → (n : String) →
    (∃ k sc v, (k, sc, v) ∈ ps ∧ RefsN v n) ↔ ∃ it ∈ flatProps ps, it.Mentions n
  | [], n => by simp [flatProps]
  | (k, sc, v) :: ps, n => by
    have ih1 := refs_iff_flat v n
    have ih2 := refsProps_iff_flat ps n
    constructor
    · rintro ⟨k', sc', w, hw, hr⟩
      rcases List.mem_cons.1 hw with hw | hw
      · have e3 : w = v := by
          have := (Prod.mk.inj hw).2
          exact (Prod.mk.inj this).2
        subst e3
        obtain ⟨it, hit, hm⟩ := ih1.1 hr
        exact ⟨it, by simp [flatProps, hit], hm⟩
      · obtain ⟨it, hit, hm⟩ := ih2.1 ⟨k', sc', w, hw, hr⟩
        exact ⟨it, by simp [flatProps, hit], hm⟩
    · rintro ⟨it, hit, hm⟩
      simp only [flatProps, List.mem_append] at hit
      rcases hit with hit | hit
      · exact ⟨k, sc, v, List.mem_cons_self, ih1.2 ⟨it, hit, hm⟩⟩
      · obtain ⟨k', sc', w, hw, hr⟩ := ih2.2 ⟨it, hit, hm⟩
        exact ⟨k', sc', w, List.mem_cons_of_mem _ hw, hr⟩
end

/-! ### the table -/

theorem lookup_mem (g : G) (t : String) (body : N) (h : lookup g t = some body) : t ∈ g.types.map (·.1) := by
  unfold lookup at h
  cases hf : g.types.find? (·.1 == t) with
  | none => simp [hf] at h
  | some p =>
    have hm := List.mem_of_find?_eq_some hf
    have hp := List.find?_some hf
    have e : p.1 = t := by simpa using hp
    exact List.mem_map.2 ⟨p, hm, e⟩

theorem lookup_of_mem (g : G) (t : String) (h : t ∈ g.types.map (·.1)) : ∃ body, lookup g t = some body := by
  unfold lookup
  obtain ⟨p, hm, e⟩ := List.mem_map.1 h
  cases hf : g.types.find? (·.1 == t) with
  | none =>
    have := List.find?_eq_none.1 hf p hm
    simp [e] at this
  | some q => exact ⟨q.2, rfl⟩

theorem notInTable_of_none (g : G) (n : String) (h : lookup g n = none) : ¬ InTable g n := by
  rintro ⟨b, hb⟩; rw [h] at hb; cases hb

theorem mem_insertSorted (x : String) (l : List String) (y : String) : y ∈ insertSorted x l ↔ y = x ∨ y ∈ l := by
  induction l with
  | nil => simp [insertSorted]
  | cons z zs ih =>
    unfold insertSorted
    by_cases h : x < z
    · simp [h]
    · simp only [h, if_false, List.mem_cons, ih]
      exact or_left_comm

theorem mem_sortStrings (l : List String) (y : String) : y ∈ sortStrings l ↔ y ∈ l := by
  induction l with
  | nil => simp [sortStrings]
  | cons x xs ih => simp [sortStrings, mem_insertSorted, ih]

theorem mem_sortedNames (g : G) (t : String) : t ∈ sortedNames g ↔ InTable g t := by
  unfold sortedNames InTable
  rw [mem_sortStrings]
  exact ⟨lookup_of_mem g t, fun ⟨b, hb⟩ => lookup_mem g t b hb⟩

/-- every mention inside a type of the table is a reference of the graph -/
theorem refs_of_flat_type (g : G) (t : String) (body : N) (hl : lookup g t = some body) (it : Item)
    (h : it ∈ flat body) (n : String) (hn : it.Mentions n) : Refs g n :=
  Or.inr ⟨t, body, hl, (refs_iff_flat body n).2 ⟨it, h, hn⟩⟩

/-! ### `processNode` on the nodes that are not objects -/

/-- what a node without an `allOf` phase puts into the compiled list: itself, or — for the marker that follows an
object — the children of the object's compiled parents -/
def emit (st : St) : Item → List CItem
  | .lit jt ms => [.lit jt ms]
  | .ref names => [.ref names]
  | .arr => [.arr]
  | .inh ps => inherited st ps
  | .obj _ _ _ => []

theorem Item.obj_or_plain (it : Item) :
    (∃ keys addp ao, it = .obj keys addp ao) ∨ ∀ keys addp ao, it ≠ .obj keys addp ao := by
  cases it with
  | obj keys addp ao => exact Or.inl ⟨keys, addp, ao, rfl⟩
  | _ => exact Or.inr (fun _ _ _ h => Item.noConfusion h)

/-- `processNode` on a node that is not an object: the rest is processed in the same state -/
theorem processItems_cons_plain (pt : String → St → Except Err (List CItem × St)) (it : Item)
    (hit : ∀ keys addp ao, it ≠ .obj keys addp ao) (rest : List Item) (st : St) :
    processItems pt (it :: rest) st =
      match processItems pt rest st with
      | .error e => .error e
      | .ok (out, st') => .ok (emit st it ++ out, st') := by
  cases it with
  | obj keys addp ao => exact absurd rfl (hit keys addp ao)
  | _ => rfl
end LK
