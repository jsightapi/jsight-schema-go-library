import JSight.BridgeCRLoad
import JSight.ListFacts
/-!
Bridge (A) `Compile` / (B) `CR.checkRules`: what the agreement on one rule of the annotation (`step_agree` in
`BridgeCRThm`) needs per rule name — what `ruleCommon` grants (`common_*`), the items of an `or` value (`orItems`),
duplicates among `enum` items (`enumItems`), the values of `additionalProperties` (`parseAdd_addPropsOK`).
-/
namespace BridgeCR
open Compile

/-- decides the tests on the name of a rule `rbytes rn`: (A)'s names are values of `rbytes`, which is injective, so
each test is a test on `rn` -/
macro "names_simp" : tactic => `(tactic|
  simp only [names_rbytes, rbytes_beq, known_rbytes, reduceCtorEq, decide_false, decide_true, ↓reduceIte,
    Bool.or_false, Bool.or_true, Bool.false_or, Bool.true_or, Bool.and_false, Bool.and_true, Bool.false_and, Bool.true_and,
    Bool.or_self, Bool.and_self, Bool.not_true, Bool.not_false, Bool.false_eq_true, beq_iff_eq])

/-- a rule as written, by the rule its name stands for -/
abbrev mk (rn : CR.RName) (v : Bytes) (pos npos : Nat) : Rule :=
  { name := rbytes rn, gen := false, val := some v, pos := pos, npos := npos }

/-! ### what `ruleCommon` says, rule by rule -/

theorem common_val {r : Rule} (h : ruleCommon r = true) : ∃ v, r.val = some v := by
  unfold ruleCommon at h
  simp only [Bool.and_eq_true] at h
  exact Option.isSome_iff_exists.1 h.1.1

theorem common_known {rn : CR.RName} {v : Bytes} {pos npos : Nat} (h : ruleCommon (mk rn v pos npos) = true) :
    rn ≠ .allOf ∧ rn ≠ .regex ∧ rn ≠ .minItems ∧ rn ≠ .maxItems := by
  refine ⟨?_, ?_, ?_, ?_⟩ <;>
    (rintro rfl; revert h; unfold ruleCommon; names_simp; exact id)

theorem common_or {v : Bytes} {pos npos : Nat} (h : ruleCommon (mk .or v pos npos) = true) :
    ∃ items, scalarItems v = some items ∧
      (items.all fun it => !Unquote.inQuotes it || isUserTypeName (unq it)) = true := by
  revert h; unfold ruleCommon
  names_simp
  cases hs : scalarItems v with
  | none => simp [hs]
  | some items => intro h; exact ⟨items, rfl, by simpa [hs] using h⟩

theorem common_enum {v : Bytes} {pos npos : Nat} (h : ruleCommon (mk .enum v pos npos) = true) :
    ∃ items, scalarItems v = some items ∧ (items.all fun it => (RulesF.enumItem it).isSome) = true := by
  revert h; unfold ruleCommon
  names_simp
  cases hs : scalarItems v with
  | none => simp [hs]
  | some items => intro h; exact ⟨items, rfl, by simpa [hs] using h⟩

/-- the 18 is the common class's bound on the digits of a length (`ruleCommon`): below it the 64-bit wrap-around of (B)'s
reader is not reached and the two readers agree (`parseUint_eq`) -/
theorem common_len (r : Rule) (rn : CR.RName) (hn : r.name = rbytes rn)
    (hrn : rn = .minLength ∨ rn = .maxLength ∨ rn = .precision) (h : ruleCommon r = true) :
    (r.val.getD []).length ≤ 18 := by
  revert h; unfold ruleCommon
  rw [hn]
  rcases hrn with rfl | rfl | rfl <;> (names_simp; cases r.val <;> simp)

/-! ### the items of an `or` value -/

theorem orItems (env : CR.Env) (c : CR.Ctx) : (items : List Bytes) → (us : List Bool) →
    (items.all fun it => !Unquote.inQuotes it || isUserTypeName (unq it)) = true →
    (items.map CR.Val.lit).foldlM (CR.loadOrItem env c) us =
      if items.all Unquote.inQuotes then .ok (us ++ List.replicate items.length true) else .error 904
  | [], us, _ => by simp [pure, Except.pure]
  | it :: items, us, h => by
    simp only [List.all_cons, Bool.and_eq_true] at h
    obtain ⟨h1, h2⟩ := h
    simp only [List.map_cons, List.foldlM_cons, List.all_cons]
    rcases Bool.eq_false_or_eq_true (Unquote.inQuotes it) with hq | hq
    · have hu : CR.isUserTypeName (Unquote.unquote it) = true := by
        rw [← isUserTypeName_eq]
        simpa [hq, unq] using h1
      simp only [CR.loadOrItem, hq, hu, Bool.not_true, Bool.false_eq_true, ↓reduceIte, bind, Except.bind, Bool.true_and]
      rw [orItems env c items (us ++ [true]) h2]
      cases items.all Unquote.inQuotes <;> simp [List.replicate_succ]
    · simp [CR.loadOrItem, hq, bind, Except.bind]

/-! ### duplicates among `enum` items -/

/-- (`n` bounds the length: `eraseDups` recurses on a FILTERED tail, so the induction is on the length, here and in
`eraseDups_nodup`) -/
theorem eraseDups_length_le {α : Type} [BEq α] : (n : Nat) → (l : List α) → l.length ≤ n → l.eraseDups.length ≤ l.length
  | _, [], _ => by simp
  | 0, _ :: _, h => by simp at h
  | n + 1, a :: as, h => by
    rw [List.eraseDups_cons]
    simp only [List.length_cons] at h ⊢
    have h1 := List.length_filter_le (fun b => !b == a) as
    have := eraseDups_length_le n (as.filter fun b => !b == a) (by omega)
    omega

theorem eraseDups_nodup {α : Type} [BEq α] [LawfulBEq α] : (n : Nat) → (l : List α) → l.length ≤ n →
    (l.eraseDups.length = l.length ↔ l.Nodup)
  | _, [], _ => by simp
  | 0, _ :: _, h => by simp at h
  | n + 1, a :: as, h => by
    rw [List.eraseDups_cons]
    simp only [List.length_cons] at h ⊢
    have h1 := List.length_filter_le (fun b => !b == a) as
    have h2 := eraseDups_length_le n (as.filter fun b => !b == a) (by omega)
    have ih := eraseDups_nodup n (as.filter fun b => !b == a) (by omega)
    rw [List.nodup_cons]
    constructor
    · intro e
      have e1 : (as.filter fun b => !b == a).length = as.length := by omega
      have e2 : (as.filter fun b => !b == a) = as := List.filter_eq_self.2 (by
        have := List.length_filter_eq_length_iff.1 e1
        exact this)
      rw [e2] at ih e
      refine ⟨?_, ih.1 (by omega)⟩
      intro hm
      have := (List.filter_eq_self.1 e2) a hm
      simp at this
    · intro ⟨hn, hd⟩
      have e2 : (as.filter fun b => !b == a) = as := List.filter_eq_self.2 (by
        intro b hb
        have : b ≠ a := fun e => hn (e ▸ hb)
        simpa using this)
      rw [e2] at ih ⊢
      have := ih.2 hd
      omega

theorem enumItems : (items : List Bytes) → (seen : List (Option (Bytes × Rules.Kind))) →
    CR.loadEnumItems (items.map CR.Val.lit) seen =
      if (∀ it ∈ items, CR.enumKey it ∉ seen) ∧ (items.map CR.enumKey).Nodup then .ok () else .error 810
  | [], _ => by simp [CR.loadEnumItems]
  | it :: items, seen => by
    simp only [List.map_cons, CR.loadEnumItems]
    by_cases hm : CR.enumKey it ∈ seen
    · simp [hm]
    · rw [if_neg hm, enumItems items (CR.enumKey it :: seen)]
      have iff : ((∀ x ∈ items, CR.enumKey x ∉ CR.enumKey it :: seen) ∧ (items.map CR.enumKey).Nodup) ↔
          ((∀ x ∈ it :: items, CR.enumKey x ∉ seen) ∧ (CR.enumKey it :: items.map CR.enumKey).Nodup) := by
        simp only [List.mem_cons, not_or, forall_eq_or_imp, List.nodup_cons, List.mem_map, not_exists, not_and]
        constructor
        · intro ⟨a, b⟩
          exact ⟨⟨hm, fun x hx => (a x hx).2⟩, fun x hx => (a x hx).1, b⟩
        · intro ⟨⟨_, a⟩, b, d⟩
          exact ⟨fun x hx => ⟨b x hx, a x hx⟩, d⟩
      by_cases hP : (∀ x ∈ items, CR.enumKey x ∉ CR.enumKey it :: seen) ∧ (items.map CR.enumKey).Nodup
      · rw [if_pos hP, if_pos (iff.1 hP)]
      · rw [if_neg hP, if_neg (fun q => hP (iff.2 q))]

/-! ### the type names: (A)'s string literals are (B)'s byte constants -/

theorem sb_any : sb "any" = CR.t_any := by decide +kernel
theorem sb_true : sb "true" = CR.t_true := by decide +kernel
theorem sb_false : sb "false" = CR.t_false := by decide +kernel
theorem sb_object : sb "object" = CR.t_object := by decide +kernel
theorem sb_array : sb "array" = CR.t_array := by decide +kernel
theorem sb_string : sb "string" = CR.t_string := by decide +kernel
theorem sb_email : sb "email" = CR.t_email := by decide +kernel
theorem sb_uri : sb "uri" = CR.t_uri := by decide +kernel
theorem sb_uuid : sb "uuid" = CR.t_uuid := by decide +kernel
theorem sb_date : sb "date" = CR.t_date := by decide +kernel
theorem sb_datetime : sb "datetime" = CR.t_datetime := by decide +kernel
theorem sb_integer : sb "integer" = CR.t_integer := by decide +kernel
theorem sb_float : sb "float" = CR.t_float := by decide +kernel
theorem sb_decimal : sb "decimal" = CR.t_decimal := by decide +kernel
theorem sb_boolean : sb "boolean" = CR.t_boolean := by decide +kernel
theorem sb_null : sb "null" = CR.t_null := by decide +kernel
theorem sb_tenum : sb "enum" = CR.t_enum := by decide +kernel
theorem sb_mixed : sb "mixed" = CR.t_mixed := by decide +kernel
theorem sb_comment : sb "comment" = CR.t_comment := by decide +kernel

/-! ### `additionalProperties` -/

/-- the names `parseAdd` takes besides a user type, in the order it tests them -/
def addNames : List Bytes := [CR.t_any, CR.t_true, CR.t_false, CR.t_object, CR.t_array, CR.t_string, CR.t_email, CR.t_uri,
  CR.t_uuid, CR.t_date, CR.t_datetime, CR.t_integer, CR.t_float, CR.t_decimal, CR.t_boolean, CR.t_null, CR.t_enum,
  CR.t_mixed, CR.t_comment]

/-- the same names as `CR.addPropsOK` lists them -/
theorem addNames_perm : addNames.Perm (CR.t_true :: CR.t_false :: CR.t_comment :: CR.tyTable.map (·.1)) := by
  decide +kernel

def okE : Except Err Add → Bool
  | .ok _ => true
  | .error _ => false

theorem okE_ite (c : Bool) (a b : Except Err Add) : okE (if c = true then a else b) = if c then okE a else okE b := by
  cases c <;> rfl
theorem okE_ok (a : Add) : okE (.ok a) = true := rfl
theorem okE_err (e : Err) : okE (.error e) = false := rfl
theorem ite_true_or (c x : Bool) : (if c then true else x) = (c || x) := by cases c <;> rfl

theorem parseAdd_ok (v : Bytes) : okE (parseAdd v) = (addNames.contains (unq v) || isUserTypeName (unq v)) := by
  unfold parseAdd
  simp only [sb_any, sb_true, sb_false, sb_object, sb_array, sb_string, sb_email, sb_uri, sb_uuid, sb_date, sb_datetime,
    sb_integer, sb_float, sb_decimal, sb_boolean, sb_null, sb_tenum, sb_mixed, sb_comment]
  generalize unq v = t
  -- with the user-type test decided the chain of tests is the disjunction, name by name in the order of `addNames`
  cases isUserTypeName t <;>
    simp only [okE_ite, okE_ok, okE_err, ite_true_or, addNames, List.contains_cons, List.contains_nil, Bool.or_false,
      Bool.or_true, Bool.or_assoc, Bool.false_eq_true, if_false, if_true]

theorem err_ite (c : Prop) [Decidable c] (a b : Except Err Add) (e : Err) (ha : a = .error e → e = .code 103 0)
    (hb : b = .error e → e = .code 103 0) : (if c then a else b) = .error e → e = .code 103 0 := by
  split <;> assumption

theorem parseAdd_err (v : Bytes) (e : Err) : parseAdd v = .error e → e = .code 103 0 := by
  unfold parseAdd
  simp only []
  repeat (first | apply err_ite | (intro h; cases h <;> rfl))

theorem lookup_isSome {α β : Type} [BEq α] : (l : List (α × β)) → (a : α) →
    (l.lookup a).isSome = (l.map (·.1)).contains a
  | [], _ => rfl
  | (k, v) :: l, a => by
    simp only [List.lookup, List.map_cons, List.contains_cons]
    cases h : a == k <;> simp [lookup_isSome l a]

theorem ty_known (u : Bytes) : (CR.TyName.ofBytes u != .unknown) = (CR.isUserTypeName u || (CR.tyTable.map (·.1)).contains u) := by
  unfold CR.TyName.ofBytes
  cases hu : CR.isUserTypeName u
  · simp only [Bool.false_eq_true, ↓reduceIte, Bool.false_or, ← lookup_isSome]
    cases hl : CR.tyTable.lookup u with
    | none => rfl
    | some ty =>
      have hm := List.mem_of_lookup_eq_some CR.tyTable u ty hl
      have : ty ≠ .unknown := by
        intro e
        subst e
        revert hm
        simp [CR.tyTable]
      simp [this]
  · simp

theorem addPropsOK_eq (v : Bytes) : CR.addPropsOK v = (addNames.contains (unq v) || isUserTypeName (unq v)) := by
  unfold CR.addPropsOK
  simp only [ty_known, isUserTypeName_eq, unq, addNames_perm.contains_eq, List.contains_cons, ← Bool.beq_eq_decide_eq, Bool.or_assoc]
  rw [Bool.or_comm (CR.isUserTypeName _)]

theorem parseAdd_addPropsOK (v : Bytes) : okE (parseAdd v) = CR.addPropsOK v := by
  rw [parseAdd_ok, addPropsOK_eq]

/-! ### the literal-valued rules -/

theorem ruleOf_lit (rn : CR.RName) (v : Bytes) (pos npos : Nat) (h1 : rn ≠ .or) (h2 : rn ≠ .enum) (h3 : rn ≠ .allOf) :
    ruleOf { name := rbytes rn, gen := false, val := some v, pos := pos, npos := npos } = (rbytes rn, .lit v) := by
  obtain ⟨a, b, _⟩ := rbytes_ne rn h1 h2 h3
  simp [ruleOf, valOf_lit _ _ _ _ _ a b]

/-- the translation of an `or` / `enum` rule: the array of the literals (A) reads -/
theorem ruleOf_items (r : Rule) (hn : r.name = CR.n_or ∨ r.name = CR.n_enum) (items : List Bytes)
    (hs : r.val.bind scalarItems = some items) : ruleOf r = (r.name, .arr (items.map .lit)) := by
  have hb : (r.name == CR.n_or || r.name == CR.n_enum) = true :=
    Bool.or_eq_true_iff.2 (hn.imp beq_iff_eq.2 beq_iff_eq.2)
  unfold ruleOf valOf
  rw [hs, sb_or, sb_enum, if_pos hb]

/-! ### a bind on a known result -/

theorem bind_ok {α β : Type} (a : α) (f : α → Except CR.Code β) : ((.ok a : Except CR.Code α) >>= f) = f a := rfl
theorem bind_err {α β : Type} (e : CR.Code) (f : α → Except CR.Code β) : ((.error e : Except CR.Code α) >>= f) = .error e := rfl

end BridgeCR
