import JSight.Compile
import JSight.CheckRules
/-!
# Bridge (A)∩(B): `Compile` (constraint creation + `CompileBasic`, property C01) and `CR.checkRules` (property C08)
on ONE annotated node

Both modules model the same piece of the library — what happens to the rules of one annotated node between the
annotation text and the end of `checkCompatibilityOfConstraints` — independently, each tied to the code by its own
differential run. This file holds the definitions both the theorem (`BridgeCRThm.lean`, statement in
`Props/C08.lean`: the `C08_models_agree_*` family) and the run-time bridge (`Driver/Bridge.lean`, harness `bridge-models`) use:

* `aNode` — (A) restricted to one node of the loader's table: `Compile.createRules` on its rules (constraint
  constructors + `AddConstraint`, in text order), `Compile.jtOf`, `Compile.basic` (`compileNode` without the
  recursion), then the kind-compatibility stage of `Compile.checkNode` on the node that `compileNode` builds
  (`bad` ⇒ 1117; the flag is dropped where `compileNode` drops it: a node with a types list or with `any`);
* `crNodeOf` — the translation of (A)'s node (`Compile.RNode`: kind, value token, rules with their value TEXT) and
  its position (`isProp`) into (B)'s `CR.Node` (kind, rules with value TREES): a scalar rule's text becomes the literal
  token, the text of `or` / `enum` is read with the JSON scanner model exactly as (A) reads it (`Compile.scalarItems`)
  and becomes the array of its literals, the synthesised rule of a type shortcut becomes the node kind;
* `common` — the class of nodes BOTH models express (decidable, syntactic): see its doc comment.
-/
namespace BridgeCR
open Compile

abbrev Bytes := List UInt8

/-! ### (A) on one node -/

/-- (A) on one node: creation, `compileNode`'s own steps, the compatibility stage of the checker -/
def aNode (n : RNode) (isProp : Bool) : Except Err Unit :=
  match createRules n.kind [] n.rules with
  | .error e => .error e
  | .ok () =>
    match jtOf n with
    | .error e => .error e
    | .ok jt =>
      match basic n jt isProp n.children.length with
      | .error e => .error e
      | .ok b => if b.names.isNone && !b.any && b.bad then .error (.code 1117 0) else .ok ()

/-- outcome reduced to what both models state: `none` = accepted, `some c` = first error code -/
def codeA : Except Err Unit → Option Nat
  | .ok _ => none
  | .error (.code c _) => some c
  | .error (.unsupported _) => none

def isUnsupported : Except Err Unit → Bool
  | .error (.unsupported _) => true
  | _ => false

def codeB : Except CR.Code Unit → Option Nat
  | .ok _ => none
  | .error c => some c

/-! ### the translation -/

def kindOfLit : Rules.Kind → CR.NKind
  | .i => .integer | .f => .float | .s => .string | .b => .boolean | .n => .null

/-- the node kind of (B): for a type shortcut the synthesised first rule tells which one -/
def nkindOf (n : RNode) : Option CR.NKind :=
  match n.kind with
  | .obj => some (.object n.children.length)
  | .arr => some (.array n.children.length)
  | .lit => (n.value.bind RulesF.kindOfTok).map kindOfLit
  | .mixed =>
    match n.rules with
    | r :: _ =>
      if r.gen && r.name == sb "type" then some (.typeRef (r.val.getD []))
      else if r.gen && r.name == sb "or" then
        some (.orShortcut ((splitPipe (r.val.getD [])).map fun b => b.head? == some 64))
      else none
    | [] => none

/-- the value tree of a rule: `or` / `enum` are arrays of literals (read as (A) reads them), anything else the token -/
def valOf (r : Rule) : CR.Val :=
  if r.name == sb "or" || r.name == sb "enum" then
    match r.val.bind scalarItems with
    | some items => .arr (items.map .lit)
    | none => .arr []
  else .lit (r.val.getD [])

def ruleOf (r : Rule) : CR.Rule := (r.name, valOf r)

/-- the rules as written (the synthesised rule of a type shortcut is part of the KIND in (B)) -/
def manual (n : RNode) : List Rule := n.rules.filter fun r => !r.gen

/-- (A)'s node ↦ (B)'s node; the kind falls back to `null` outside `common` -/
def crNodeOf (n : RNode) (isProp : Bool) : CR.Node :=
  { kind := (nkindOf n).getD .null, isProp := isProp, rules := (manual n).map ruleOf }

/-! ### the common class -/

/-- a manual rule both models read the same way:
* not `allOf`, `regex`, `minItems`, `maxItems` ((A) answers `unsupported`: the validator IR has no such rule);
* it has a value text;
* `or`: an array of literals, every quoted one the name of a user type ((A) does not take scalar type names or
  rule-sets as members);
* `enum`: an array of literals whose kinds can be guessed ((A) has no named enum rules);
* `minLength` / `maxLength` / `precision`: at most 18 digits ((A) does not model the 64-bit wrap-around) -/
def ruleCommon (r : Rule) : Bool :=
  r.val.isSome &&
  !(r.name == sb "allOf" || r.name == sb "regex" || r.name == sb "minItems" || r.name == sb "maxItems") &&
  (if r.name == sb "or" then
     match r.val.bind scalarItems with
     | some items => items.all fun it => !Unquote.inQuotes it || isUserTypeName (unq it)
     | none => false
   else if r.name == sb "enum" then
     match r.val.bind scalarItems with
     | some items => items.all fun it => (RulesF.enumItem it).isSome
     | none => false
   else if r.name == sb "minLength" || r.name == sb "maxLength" || r.name == sb "precision" then
     (r.val.getD []).length ≤ 18
   else true)

/-- the class of nodes both models express:
* a literal node has an EXAMPLE token whose kind can be guessed;
* a type-shortcut node (`@t`, `@a | @b`) starts with its synthesised rule and has no other synthesised rule; its
  manual rules are not `type` / `or` ((A): `unsupported`, (B): the special cases of `MixedValueNode.AddConstraint`,
  known finding K-C08-ref-type-or); any other node has no synthesised rule;
* every manual rule is `ruleCommon`;
* `type: "email" | "uri" | "datetime"` is absent ((A): the formats that need the standard library). -/
def common (n : RNode) : Bool :=
  (nkindOf n).isSome &&
  (match n.kind with
   | .mixed =>
     (match n.rules with
      | r :: rest => r.gen && rest.all (fun r => !r.gen && !(r.name == sb "type" || r.name == sb "or"))
      | [] => false)
   | _ => n.rules.all fun r => !r.gen) &&
  (manual n).all ruleCommon &&
  (manual n).all fun r => !(r.name == sb "type" &&
    ((r.val.map unq) == some (sb "email") || (r.val.map unq) == some (sb "uri") || (r.val.map unq) == some (sb "datetime")))

/-- the run-time comparison of the two models on one node: `none` = outside the class -/
def agree (n : RNode) (isProp : Bool) : Option Bool :=
  if !common n || isUnsupported (aNode n isProp) then none
  else some (codeA (aNode n isProp) == codeB (CR.checkRules (crNodeOf n isProp)))

end BridgeCR
