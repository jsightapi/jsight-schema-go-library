import JSight.Loader
import JSight.LoaderProofs
import JSight.SchemaEventsTree
/-!
C16 (loader part), base layer: what one plain-JSON lexical event does to the loader state, stated on the part of
the state that matters without annotations (`Core`: the node table as a list, the leaf, the root, default mode).

`Run src evs L leaf root L' leaf' root'`: from every loader state with the core `L leaf root`, folding `step src` over
`evs` succeeds and ends in a state with the core `L' leaf' root'` (whatever `perLine` / `last` are).

`Grows src i n e o l'` lists what `grow` does at the leaf's node on an event that creates no node; `Grows.grow` is the one
place where `grow` is unfolded for these events, `Grows.upd` / `Grows.noop` read a row on the core.
-/
namespace Loader
open SchemaScan (Ev LexT)

/-- the part of the loader state that matters without annotations -/
def Core (st : St) (L : List Node) (leaf root : Option Nat) : Prop :=
  st.nodes.toList = L ∧ st.leaf = leaf ∧ st.root = root ∧ st.mode = .default

def Run (src : Array UInt8) (evs : List Ev) (L : List Node) (leaf root : Option Nat)
    (L' : List Node) (leaf' root' : Option Nat) : Prop :=
  ∀ st, Core st L leaf root → ∃ st', evs.foldlM (step src) st = .ok st' ∧ Core st' L' leaf' root'

theorem Run.nil (src : Array UInt8) (L : List Node) (leaf root : Option Nat) : Run src [] L leaf root L leaf root :=
  fun st h => ⟨st, rfl, h⟩

theorem Run.trans {src : Array UInt8} {a b : List Ev} {L1 L2 L3 : List Node} {l1 l2 l3 r1 r2 r3 : Option Nat}
    (h1 : Run src a L1 l1 r1 L2 l2 r2) (h2 : Run src b L2 l2 r2 L3 l3 r3) : Run src (a ++ b) L1 l1 r1 L3 l3 r3 := by
  intro st hc
  obtain ⟨st1, e1, c1⟩ := h1 st hc
  obtain ⟨st2, e2, c2⟩ := h2 st1 c1
  refine ⟨st2, ?_, c2⟩
  rw [List.foldlM_append, e1]
  exact e2

theorem Run.cons {src : Array UInt8} {e : Ev} {b : List Ev} {L1 L2 L3 : List Node} {l1 l2 l3 r1 r2 r3 : Option Nat}
    (h1 : Run src [e] L1 l1 r1 L2 l2 r2) (h2 : Run src b L2 l2 r2 L3 l3 r3) : Run src (e :: b) L1 l1 r1 L3 l3 r3 :=
  Run.trans h1 h2

/-- a run restated along proved equations of its event list, final table and final leaf -/
theorem Run.cast {src : Array UInt8} {a a' : List Ev} {L1 L2 L2' : List Node} {l1 l2 l2' r1 r2 : Option Nat}
    (h : Run src a L1 l1 r1 L2 l2 r2) (ha : a = a') (hL : L2 = L2') (hl : l2 = l2') :
    Run src a' L1 l1 r1 L2' l2' r2 := by
  subst ha hL hl; exact h

theorem Run.one {src : Array UInt8} {e : Ev} {L L' : List Node} {l l' r r' : Option Nat}
    (h : ∀ st, Core st L l r → ∃ st', step src st e = .ok st' ∧ Core st' L' l' r') : Run src [e] L l r L' l' r' := by
  intro st hc
  obtain ⟨st', e1, c1⟩ := h st hc
  refine ⟨st', ?_, c1⟩
  simp only [List.foldlM_cons, List.foldlM_nil, e1, bind, Except.bind, pure, Except.pure]

theorem modify_eq_set' {α : Type} (L : List α) (i : Nat) (f : α → α) (n : α) (h : L[i]? = some n) :
    L.modify i f = L.set i (f n) := by
  apply List.ext_getElem?
  intro j
  rw [List.getElem?_modify, List.getElem?_set]
  obtain ⟨hlt, hn⟩ := List.getElem?_eq_some_iff.mp h
  by_cases hij : i = j
  · subst hij; simp [hlt, hn]
  · simp [hij]

theorem toList_updNode (st : St) (i : Nat) (f : Node → Node) (n : Node) (h : st.nodes.toList[i]? = some n) :
    (updNode st i f).nodes.toList = st.nodes.toList.set i (f n) := by
  simp only [updNode, Array.toList_modify]
  exact modify_eq_set' _ _ _ _ h

theorem set_same {α : Type} (L : List α) (i : Nat) (n : α) (h : L[i]? = some n) : L.set i n = L := by
  apply List.ext_getElem?
  intro j
  rw [List.getElem?_set]
  obtain ⟨hlt, hn⟩ := List.getElem?_eq_some_iff.mp h
  by_cases hij : i = j
  · subst hij; simp [hlt, hn]
  · simp [hij]

/-! ### `step` on plain-JSON events -/

/-- the event types of a plain-JSON schema apart from `newLine` -/
def plainTy : LexT → Bool
  | .litB | .litE | .objB | .objE | .keyB | .keyE | .valB | .valE | .arrB | .arrE | .itemB | .itemE => true
  | _ => false

theorem step_plain (src : Array UInt8) (st : St) (e : Ev) (hm : st.mode = .default) (hp : plainTy e.ty = true) :
    step src st e = nodeLoad src st e := by
  obtain ⟨ty, b, en⟩ := e
  cases ty <;> simp [plainTy] at hp <;> simp [step, hm]

theorem nodeLoad_leaf (src : Array UInt8) (st : St) (e : Ev) (i : Nat) (hl : st.leaf = some i)
    (hp : plainTy e.ty = true) :
    nodeLoad src st e =
      match grow src st i e with
      | .error err => .error err
      | .ok (st1, leaf', isNew) =>
        if isNew then .ok { st1 with leaf := leaf', perLine := st1.perLine + 1, last := leaf' }
        else .ok { st1 with leaf := leaf' } := by
  obtain ⟨ty, b, en⟩ := e
  cases ty <;> simp [plainTy] at hp <;> simp only [nodeLoad, hl, bind, Except.bind] <;>
    cases grow src st i _ <;> rfl

theorem step_newLine (src : Array UInt8) (x y : Nat) (L : List Node) (l r : Option Nat) :
    Run src [⟨.newLine, x, y⟩] L l r L l r :=
  Run.one fun st ⟨h1, h2, h3, h4⟩ => ⟨{ st with perLine := 0 }, step_newLine_default src st _ rfl h4, h1, h2, h3, h4⟩

theorem step_via_grow (src : Array UInt8) (st : St) (e : Ev) (i : Nat) (hm : st.mode = .default)
    (hl : st.leaf = some i) (hp : plainTy e.ty = true) (st1 : St) (leaf' : Option Nat) (isNew : Bool)
    (hg : grow src st i e = .ok (st1, leaf', isNew)) :
    step src st e = .ok (if isNew then { st1 with leaf := leaf', perLine := st1.perLine + 1, last := leaf' }
        else { st1 with leaf := leaf' }) := by
  rw [step_plain src st e hm hp, nodeLoad_leaf src st e i hl hp, hg]
  cases isNew <;> rfl

/-- in default mode `step` on `e` goes through `grow` on the leaf (the plain-JSON events; the two `mixed-value` events) -/
def ViaGrow (src : Array UInt8) (e : Ev) : Prop :=
  ∀ (st : St) (i : Nat), st.mode = .default → st.leaf = some i → ∀ (st1 : St) (leaf' : Option Nat) (isNew : Bool),
    grow src st i e = .ok (st1, leaf', isNew) →
    step src st e = .ok (if isNew then { st1 with leaf := leaf', perLine := st1.perLine + 1, last := leaf' }
        else { st1 with leaf := leaf' })

theorem ViaGrow.plain (src : Array UInt8) {e : Ev} (hp : plainTy e.ty = true) : ViaGrow src e :=
  fun st i hm hl st1 leaf' isNew hg => step_via_grow src st e i hm hl hp st1 leaf' isNew hg

theorem getElem?_nodes (st : St) (i : Nat) : st.nodes[i]? = st.nodes.toList[i]? := by simp

/-! ### `grow` on the events that create no node -/

/-- What `grow` does at the leaf's node `n` (index `i`) on an event that creates no node: the update of that node
(`none`: the table is left alone) and the new leaf. One row per `case` of the `Grow` methods of `schema/*_node.go`. -/
inductive Grows (src : Array UInt8) (i : Nat) (n : Node) : Ev → Option (Node → Node) → Option Nat → Prop
  | litE (x y : Nat) (hk : n.kind = .lit) :
    Grows src i n ⟨.litE, x, y⟩ (some fun n => { n with value := some (x, y) }) n.parent
  | mixE (x y : Nat) (hk : n.kind = .mixed) :
    Grows src i n ⟨.mixE, x, y⟩ (some fun n => { n with value := some (x, y) }) n.parent
  | itemB (x y : Nat) (hk : n.kind = .arr) (hw : n.waiting = false) :
    Grows src i n ⟨.itemB, x, y⟩ (some fun n => { n with waiting := true }) (some i)
  | itemE (x y : Nat) (hk : n.kind = .arr) (hw : n.waiting = false) : Grows src i n ⟨.itemE, x, y⟩ none (some i)
  | arrE (x y : Nat) (hk : n.kind = .arr) (hw : n.waiting = false) : Grows src i n ⟨.arrE, x, y⟩ none n.parent
  | keyB (x y : Nat) (hk : n.kind = .obj) (hw : n.waiting = false) : Grows src i n ⟨.keyB, x, y⟩ none (some i)
  /-- a key that differs (after decoding) from all earlier keys of the object is added -/
  | keyE (x y : Nat) (hk : n.kind = .obj) (hw : n.waiting = false)
      (hd : n.keys.any (fun k' => keyText src k' == keyText src (x, y, false)) = false) :
    Grows src i n ⟨.keyE, x, y⟩ (some fun n => { n with keys := n.keys ++ [(x, y, false)] }) (some i)
  | valB (x y : Nat) (hk : n.kind = .obj) (hw : n.waiting = false) :
    Grows src i n ⟨.valB, x, y⟩ (some fun n => { n with waiting := true }) (some i)
  | valE (x y : Nat) (hk : n.kind = .obj) (hw : n.waiting = false) : Grows src i n ⟨.valE, x, y⟩ none (some i)
  | objE (x y : Nat) (hk : n.kind = .obj) (hw : n.waiting = false) : Grows src i n ⟨.objE, x, y⟩ none n.parent

theorem Grows.grow {src : Array UInt8} {i : Nat} {n : Node} {e : Ev} {o : Option (Node → Node)} {l' : Option Nat}
    (h : Grows src i n e o l') {st : St} (hn : st.nodes[i]? = some n) :
    grow src st i e = .ok (o.elim st (updNode st i), l', false) := by
  unfold Loader.grow
  rw [hn]
  cases h with
  | keyE x y hk hw hd =>
    -- `keyE` shares its `case` with the key shortcut `ksE`; `isShort` is `false` here
    have : ((LexT.keyE == LexT.ksE) = false) := rfl
    simp only [hk, hw, this, hd, Bool.false_and, Bool.false_eq_true, if_false]
    rfl
  | _ => simp only [*] <;> rfl

theorem ViaGrow.mix (src : Array UInt8) (ty : LexT) (hty : ty = .mixB ∨ ty = .mixE) (x y : Nat) :
    ViaGrow src ⟨ty, x, y⟩ := by
  intro st i hm hl st1 leaf' isNew hg
  rcases hty with rfl | rfl <;> simp only [step, hm, nodeLoad, hl, bind, Except.bind, hg] <;> cases isNew <;> rfl

theorem Grows.via {src : Array UInt8} {i : Nat} {n : Node} {e : Ev} {o : Option (Node → Node)} {l' : Option Nat}
    (h : Grows src i n e o l') : ViaGrow src e := by
  cases h with
  | mixE x y => exact .mix src _ (Or.inr rfl) x y
  | _ => exact .plain src rfl

/-- a key that repeats (after decoding) an earlier key of the object: error 402 at the key's offset -/
theorem grow_obj_keyE_dup (src : Array UInt8) (st : St) (i : Nat) (n : Node) (x y : Nat)
    (h : st.nodes[i]? = some n) (hk : n.kind = .obj) (hw : n.waiting = false)
    (hd : n.keys.any (fun k' => keyText src k' == keyText src (x, y, false)) = true) :
    grow src st i ⟨.keyE, x, y⟩ = .error (.duplicateKey x) := by
  unfold grow
  rw [h]
  simp only [hk, hw]
  have : ((LexT.keyE == LexT.ksE) = false) := rfl
  simp only [this, hd, Bool.false_and, Bool.false_eq_true, if_false]
  rfl

/-- an array waiting for an item / an object waiting for a member value creates the child node -/
theorem grow_create (src : Array UInt8) (st : St) (i : Nat) (n : Node) (e : Ev) (k : NK)
    (h : st.nodes[i]? = some n) (hk : n.kind = .arr ∨ n.kind = .obj) (hw : n.waiting = true)
    (he : kindOfLex e.ty = some k) :
    grow src st i e
      = .ok (updNode (newNode (updNode st i (fun n => { n with waiting := false })) k (some i)).1 i
              (fun n => { n with children := n.children ++ [st.nodes.size] }), some st.nodes.size, true) := by
  unfold grow
  rw [h]
  rcases hk with hk | hk <;> simp only [hk, hw, he, if_true, newNode, updNode, Array.size_modify] <;> rfl

/-! ### one event, on the core -/

/-- a node as `newNode` makes it -/
def fresh (k : NK) (parent : Option Nat) : Node := { kind := k, parent := parent }

/-- `st` after the root node of kind `k` is created -/
def rootSt (st : St) (k : NK) : St :=
  { st with
    nodes := st.nodes.push { kind := k, parent := none }
    root := some st.nodes.size
    leaf := some st.nodes.size
    perLine := st.perLine + 1
    last := some st.nodes.size }

/-- the first value event, with no leaf yet, creates the root node -/
theorem step_root (src : Array UInt8) (st : St) (e : Ev) (k : NK) (hm : st.mode = .default) (hl : st.leaf = none)
    (hp : plainTy e.ty = true) (he : kindOfLex e.ty = some k) : step src st e = .ok (rootSt st k) := by
  rw [step_plain src st e hm hp]
  obtain ⟨ty, b, en⟩ := e
  unfold rootSt
  cases ty <;> simp [plainTy] at hp <;> simp [kindOfLex] at he <;> subst he <;>
    (simp only [nodeLoad, hl, kindOfLex, newNode]; rfl)

theorem R_root (src : Array UInt8) (e : Ev) (k : NK) (hp : plainTy e.ty = true) (he : kindOfLex e.ty = some k)
    (L : List Node) (r : Option Nat) :
    Run src [e] L none r (L ++ [fresh k none]) (some L.length) (some L.length) := by
  refine Run.one fun st ⟨h1, h2, h3, h4⟩ => ?_
  have hsz : st.nodes.size = L.length := by rw [← h1]; simp
  exact ⟨rootSt st k, step_root src st e k h4 h2 hp he, by simp [rootSt, h1, fresh], by simp [rootSt, hsz],
    by simp [rootSt, hsz], h4⟩

/-- an event that creates no node, on the core -/
theorem Grows.run {src : Array UInt8} {i : Nat} {n : Node} {e : Ev} {o : Option (Node → Node)} {l' : Option Nat}
    {L : List Node} (hn : L[i]? = some n) (h : Grows src i n e o l') (r : Option Nat) :
    Run src [e] L (some i) r (o.elim L fun f => L.set i (f n)) l' r := by
  refine Run.one fun st ⟨h1, h2, h3, h4⟩ => ?_
  have hs := h.via st i h4 h2 _ _ _ (h.grow (by rw [getElem?_nodes, h1]; exact hn))
  cases o with
  | none => exact ⟨_, hs, h1, rfl, h3, h4⟩
  | some f =>
    refine ⟨_, hs, ?_, rfl, h3, h4⟩
    have := toList_updNode st i f n (by rw [h1]; exact hn)
    rw [h1] at this
    exact this

theorem Grows.upd {src : Array UInt8} {i : Nat} {n : Node} {e : Ev} {f : Node → Node} {l' : Option Nat}
    {L : List Node} (hn : L[i]? = some n) (h : Grows src i n e (some f) l') (r : Option Nat) :
    Run src [e] L (some i) r (L.set i (f n)) l' r := h.run hn r

theorem Grows.noop {src : Array UInt8} {i : Nat} {n : Node} {e : Ev} {l' : Option Nat}
    {L : List Node} (hn : L[i]? = some n) (h : Grows src i n e none l') (r : Option Nat) :
    Run src [e] L (some i) r L l' r := h.run hn r

/-- the duplicate key: the loader stops with error 402 at the key's offset -/
theorem step_keyE_dup (src : Array UInt8) (x y i : Nat) (n : Node) (L : List Node) (r : Option Nat) (st : St)
    (hc : Core st L (some i) r) (hn : L[i]? = some n) (hk : n.kind = .obj) (hw : n.waiting = false)
    (hd : n.keys.any (fun k' => keyText src k' == keyText src (x, y, false)) = true) :
    step src st ⟨.keyE, x, y⟩ = .error (.duplicateKey x) := by
  obtain ⟨h1, h2, h3, h4⟩ := hc
  rw [step_plain src st _ h4 rfl, nodeLoad_leaf src st _ i h2 rfl,
    grow_obj_keyE_dup src st i n x y (by rw [getElem?_nodes, h1]; exact hn) hk hw hd]

/-- an array waiting for an item / an object waiting for a member value creates the child node, which is then the
node created last, one more on its line -/
theorem create_step (src : Array UInt8) (e : Ev) (k : NK) (i : Nat) (n : Node) (L : List Node) (r : Option Nat)
    (hv : ViaGrow src e) (he : kindOfLex e.ty = some k)
    (hn : L[i]? = some n) (hk : n.kind = .arr ∨ n.kind = .obj) (hw : n.waiting = true) (st : St)
    (hc : Core st L (some i) r) :
    ∃ st', step src st e = .ok st' ∧
      Core st' (L.set i { n with waiting := false, children := n.children ++ [L.length] } ++ [fresh k (some i)])
        (some L.length) r ∧ st'.last = some L.length ∧ st'.perLine = st.perLine + 1 := by
  obtain ⟨h1, h2, h3, h4⟩ := hc
  have hsz : st.nodes.size = L.length := by rw [← h1]; simp
  have hg := grow_create src st i n e k (by rw [getElem?_nodes, h1]; exact hn) hk hw he
  refine ⟨_, hv st i h4 h2 _ _ _ hg, ⟨?_, by simp [hsz], h3, h4⟩, by simp [hsz], by rw [if_pos rfl]; rfl⟩
  obtain ⟨hlt, hget⟩ := List.getElem?_eq_some_iff.mp hn
  have e1 : (updNode st i (fun n => { n with waiting := false })).nodes.toList
      = L.set i { n with waiting := false } := by
    have := toList_updNode st i (fun n => { n with waiting := false }) n (by rw [h1]; exact hn)
    rw [h1] at this; exact this
  have e2 : (newNode (updNode st i (fun n => { n with waiting := false })) k (some i)).1.nodes.toList
      = L.set i { n with waiting := false } ++ [fresh k (some i)] := by
    simp only [newNode, Array.toList_push, e1]; rfl
  have e3 := toList_updNode (newNode (updNode st i (fun n => { n with waiting := false })) k (some i)).1 i
    (fun m => { m with children := m.children ++ [st.nodes.size] }) { n with waiting := false }
    (by rw [e2, List.getElem?_append_left (by simp [hlt])]; simp [hlt])
  rw [if_pos rfl]
  simp only [] at e3 ⊢
  rw [e3, e2, List.set_append_left _ _ (by simp [hlt]), List.set_set, hsz]

theorem R_create (src : Array UInt8) (e : Ev) (k : NK) (i : Nat) (n : Node) (L : List Node) (r : Option Nat)
    (hp : plainTy e.ty = true) (he : kindOfLex e.ty = some k)
    (hn : L[i]? = some n) (hk : n.kind = .arr ∨ n.kind = .obj) (hw : n.waiting = true) :
    Run src [e] L (some i) r
      (L.set i { n with waiting := false, children := n.children ++ [L.length] } ++ [fresh k (some i)])
      (some L.length) r :=
  Run.one fun st hc => by
    obtain ⟨st', s, c, _⟩ := create_step src e k i n L r (.plain src hp) he hn hk hw st hc
    exact ⟨st', s, c⟩

theorem node_wait_eta2 (na : Node) (hw : na.waiting = false) (c : List Nat) (ks : List (Nat × Nat × Bool)) :
    ({ ({ ({ na with keys := ks } : Node) with waiting := true } : Node) with
        waiting := false, children := na.children ++ c } : Node)
      = { na with children := na.children ++ c, keys := ks } := by
  cases na; simp only at hw; subst hw; rfl

theorem node_wait_eta (na : Node) (hw : na.waiting = false) (c : List Nat) :
    ({ ({ na with waiting := true } : Node) with waiting := false, children := na.children ++ c } : Node)
      = { na with children := na.children ++ c } :=
  node_wait_eta2 na hw c na.keys

theorem nodup_any_false (src : Array UInt8) (ks rest : List (Nat × Nat × Bool)) (kk : Nat × Nat × Bool)
    (h : ((ks ++ kk :: rest).map (keyText src)).Nodup) :
    ks.any (fun k' => keyText src k' == keyText src kk) = false := by
  rw [List.any_eq_false]
  intro k' hk' heq
  rw [List.map_append, List.nodup_append] at h
  exact h.2.2 (keyText src k') (List.mem_map_of_mem hk') (keyText src kk) (List.mem_map_of_mem List.mem_cons_self)
    (by simpa using heq)

/-- the array node after one more child `c` -/
abbrev addChild (na : Node) (c : Nat) : Node := { na with children := na.children ++ [c] }
/-- the object node after one more member: key entry `kk`, child `c` -/
abbrev addMember (na : Node) (c : Nat) (kk : Nat × Nat × Bool) : Node :=
  { na with children := na.children ++ [c], keys := na.keys ++ [kk] }

theorem getElem?_set_append {α : Type} (L M : List α) (a : Nat) (x : α) (h : a < L.length) :
    (L.set a x ++ M)[a]? = some x := by
  rw [List.getElem?_append_left (by simpa using h)]; simp [h]

end Loader
