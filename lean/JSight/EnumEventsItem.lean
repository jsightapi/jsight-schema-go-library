import JSight.EnumEventsRun
/-! One item of the literal list: what the token automaton accepts as a token, and the four events of an item. -/
namespace EnumScan
open SchemaScan (Cls classify)

variable {content : Array UInt8} {data : Array Cls}

/-- a scalar token: one of the schema scanner's token automaton, which is the enum scanner's (`silentS_dispatch`) -/
abbrev IsTok (tok : List Cls) : Prop := SchemaScan.IsScalar tok

/-- a number token, as the automaton reads it: it ends in one of the three number states -/
def IsNumTok (tok : List Cls) : Prop :=
  ∃ c tl st0 unf0 stE, tok = c :: tl ∧ SchemaScan.litStart c = some (st0, unf0) ∧
    SchemaScan.silentRun st0 [] unf0 tl = some (stE, [], false) ∧ NumEnd (ofS stE) = true

/-- the four events of an item whose token occupies `[o1, o2)` -/
def itemEvs (o1 o2 : Nat) : List Ev :=
  [⟨.itemB, o1, o1⟩, ⟨.litB, o1, o1⟩, ⟨.litE, o1, o2 - 1⟩, ⟨.itemE, o1, o2 - 1⟩]

end EnumScan
