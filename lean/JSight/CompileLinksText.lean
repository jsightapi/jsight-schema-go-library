import JSight.CompileLinksFirst
import JSight.LinksMain
import JSight.E2ELoad
/-!
# C09 at TEXT level: the check stage of `E2E` on schema texts, through the bridge to `LK` and its theorems

`check_verdict`: on a loaded schema of the class `clsSAll` with pairwise different type names, either every reference is
resolved and `Compile.check` is the verdict of the recursion check (`ok` / 104), or the first missing name in visiting
order is reported (1302; it is referenced and not in the table). `text_level_links` and `text_level_1302_iff` read it at
the level of `E2E.validateText` (`validateText_check`: what the pipeline answers after a loaded schema). The bridge:
`models_rel` (the names-only model `CL` against `LK.linkCheck`), `checkRootN_first`, and `ordOf_ordOK` (the or-shortcut
nodes handed to `LK` are nodes of the added types).
-/
namespace CL
open Compile

theorem mem_orNodesOf_of : ∀ (items : List LK.Item) (l : List String), LK.Item.ref l ∈ items → 2 ≤ l.length →
    l ∈ LK.orNodesOf items
  | [], _, h, _ => by cases h
  | it :: rest, l, h, h2 => by
    rcases List.mem_cons.1 h with he | hr
    · subst he
      match l, h2 with
      | a :: b :: cs, _ => simp [LK.orNodesOf]
    · have ih := mem_orNodesOf_of rest l hr h2
      cases it with
      | ref ns =>
        match ns with
        | [] => simpa [LK.orNodesOf] using ih
        | [a] => simpa [LK.orNodesOf] using ih
        | a :: b :: cs => simp [LK.orNodesOf, ih]
      | lit jt ms => simpa [LK.orNodesOf] using ih
      | arr => simpa [LK.orNodesOf] using ih
      | obj k a ao => simpa [LK.orNodesOf] using ih
      | inh ps => simpa [LK.orNodesOf] using ih

mutual
theorem ref_mem_flat (ts : Types) : (x : CN) → cls ts x = true → ∀ l ∈ orLists x,
    LK.Item.ref l ∈ LK.flat (lkN x) ∧ 2 ≤ l.length
  | .lit _ _, _, l, hl => by simp [orLists] at hl
  | .any _ _, _, l, hl => by simp [orLists] at hl
  | .ref names nul jt ex orShort, h, l, hl => by
    simp only [cls, Bool.and_eq_true, beq_iff_eq] at h
    cases orShort with
    | false => simp [orLists] at hl
    | true =>
      simp only [orLists, if_true, List.mem_singleton] at hl
      subst hl
      have h2 : 2 ≤ l.length := by simpa using h.2.symm
      have hj : jt = .mixed := h.1
      subst hj
      exact ⟨by simp [lkN, LK.flat], h2⟩
  | .arr items nul bad, h, l, hl => by
    simp only [cls, Bool.and_eq_true] at h
    simp only [orLists] at hl
    obtain ⟨h1, h2⟩ := refItems_mem_flat ts items h.2 l hl
    exact ⟨by simp only [lkN, LK.flat]; exact List.mem_cons_of_mem _ h1, h2⟩
  | .obj props add nul bad, h, l, hl => by
    simp only [cls, Bool.and_eq_true] at h
    simp only [orLists] at hl
    obtain ⟨h1, h2⟩ := refProps_mem_flat ts props h.2.2 l hl
    exact ⟨by simp only [lkN, LK.flat]; exact List.mem_cons_of_mem _ (List.mem_append_left _ h1), h2⟩
theorem refItems_mem_flat (ts : Types) : (xs : List CN) → clsItems ts xs = true → ∀ l ∈ orListsItems xs,
    LK.Item.ref l ∈ LK.flatItems (lkItems xs) ∧ 2 ≤ l.length
  | [], _, l, hl => by simp [orListsItems] at hl
  | x :: xs, h, l, hl => by
    simp only [clsItems, Bool.and_eq_true] at h
    simp only [orListsItems, List.mem_append] at hl
    simp only [lkItems, LK.flatItems, List.mem_append]
    rcases hl with hl | hl
    · obtain ⟨h1, h2⟩ := ref_mem_flat ts x h.1 l hl
      exact ⟨.inl h1, h2⟩
    · obtain ⟨h1, h2⟩ := refItems_mem_flat ts xs h.2 l hl
      exact ⟨.inr h1, h2⟩
theorem refProps_mem_flat (ts : Types) : (xs : List (String × Bool × Bool × Bool × CN)) → clsProps ts xs = true →
    ∀ l ∈ orListsProps xs, LK.Item.ref l ∈ LK.flatProps (lkProps xs) ∧ 2 ≤ l.length
  | [], _, l, hl => by simp [orListsProps] at hl
  | (_, _, _, _, x) :: xs, h, l, hl => by
    simp only [clsProps, Bool.and_eq_true] at h
    simp only [orListsProps, List.mem_append] at hl
    simp only [lkProps, LK.flatProps, List.mem_append]
    rcases hl with hl | hl
    · obtain ⟨h1, h2⟩ := ref_mem_flat ts x h.1 l hl
      exact ⟨.inl h1, h2⟩
    · obtain ⟨h1, h2⟩ := refProps_mem_flat ts xs h.2 l hl
      exact ⟨.inr h1, h2⟩
end

theorem mem_orListsOfNames (ts : Types) (l : List String) : ∀ ns : List String, l ∈ orListsOfNames ts ns →
    ∃ n ∈ ns, ∃ t, lookupT ts n = some t ∧ l ∈ orLists t
  | [], h => by simp [orListsOfNames] at h
  | n :: ns, h => by
    simp only [orListsOfNames, List.mem_append] at h
    rcases h with h | h
    · cases hl : lookupT ts n with
      | none => rw [hl] at h; simp at h
      | some t => rw [hl] at h; exact ⟨n, by simp, t, hl, h⟩
    · obtain ⟨m, hm, t, ht, hlt⟩ := mem_orListsOfNames ts l ns h
      exact ⟨m, by simp [hm], t, ht, hlt⟩

/-- `ordOf ts` (the order of the unnamed types, fix F-34) only ever holds or-shortcut nodes of the added types -/
theorem ordOf_ordOK (root : CN) (ts : Types) (hc : ∀ n t, lookupT ts n = some t → cls ts t = true) :
    LK.OrdOK (lkOf root ts) (ordOf ts) := by
  intro l hl
  obtain ⟨n, hn, t, ht, hlt⟩ := mem_orListsOfNames ts l _ hl
  have hn' : n ∈ ts.map (·.1) := (mem_sortNames n _).1 hn
  obtain ⟨h1, h2⟩ := ref_mem_flat ts t (hc n t ht) l hlt
  simp only [LK.orNodes, List.mem_flatMap]
  refine ⟨n, ?_, ?_⟩
  · simp only [lkOf, lkTypes_names]; exact hn'
  · rw [lookup_lkOf, ht]
    exact mem_orNodesOf_of _ l h1 h2

/-! ### the check stage of `E2E.validateText` -/

/-- the names given to `AddType` are distinct user type names (otherwise `E2E` declines the case) -/
def typeNamesOK (types : List (String × List UInt8)) : Bool :=
  decide (types.map (·.1)).Nodup && types.all fun t => isUserTypeName (strBytes t.1)

theorem loadTypes_names : ∀ (types : List (String × List UInt8)) (ts : Types), E2E.loadTypes types = .ok ts →
    ts.map (·.1) = types.map (·.1)
  | [], ts, h => by
    simp only [E2E.loadTypes] at h
    cases h; rfl
  | (name, txt) :: rest, ts, h => by
    simp only [E2E.loadTypes] at h
    cases h1 : E2E.loadSchema txt false with
    | error e => rw [h1] at h; cases h
    | ok r =>
      rw [h1] at h
      cases r with
      | none => cases h
      | some cn =>
        simp only [] at h
        cases h2 : E2E.loadTypes rest with
        | error e => rw [h2] at h; cases h
        | ok ts' =>
          rw [h2] at h
          cases h
          simp only [List.map_cons, loadTypes_names rest ts' h2]

/-- the pipeline after the check stage: a failure of the check is the outcome, whatever the document, and once the
check has passed no later stage reports 1302 -/
theorem validateText_check (root : List UInt8) (types : List (String × List UInt8)) (doc : List UInt8) (opt : Bool)
    (cn : CN) (ts : Types) (hroot : E2E.loadSchema root opt = .ok (some cn))
    (hn : typeNamesOK types = true) (htypes : E2E.loadTypes types = .ok ts) :
    (∀ e, Compile.check cn ts = .error e → E2E.validateText root types doc opt = E2E.errOut e) ∧
    (Compile.check cn ts = .ok () → E2E.validateText root types doc opt ≠ .schemaErr 1302 0) := by
  simp only [typeNamesOK, Bool.and_eq_true, decide_eq_true_eq] at hn
  rw [E2E.validateText_loaded hroot hn.1 hn.2 htypes]
  refine ⟨fun e hck => by rw [hck], fun hck => ?_⟩
  simp only [hck, E2E.afterCheck]
  -- the stages after the check end in `unsupported`, `docErr`, `acc` or `rej`
  repeat' split
  all_goals (intro h; cases h)

theorem mustAllN_only_missing (ts : Types) : ∀ (l : List String) (e : LE), mustAllN ts l = .error e → ∃ n, e = .missing n
  | [], e, h => by cases h
  | n :: ns, e, h => by
    simp only [mustAllN] at h
    split at h
    · exact mustAllN_only_missing ts ns e h
    · cases h; exact ⟨n, rfl⟩

/-- the verdict of the check stage on a schema of the class: every reference is resolved and the verdict is that of
the recursion check, or the first missing name is reported (1302) -/
theorem check_verdict (cn : CN) (ts : Types) (hnd : (ts.map (·.1)).Nodup) (hc : clsSAll cn ts = true) :
    (LK.Resolved (lkOf cn ts) ∧
      Compile.check cn ts = if TG.check (tgOf cn ts) = true then .ok () else .error (.code 104 0)) ∨
    ∃ n, firstMissing ts (visitAll cn ts) = some n ∧ LK.Refs (lkOf cn ts) n ∧ ¬ LK.InTable (lkOf cn ts) n ∧
      checkN cn ts = .error (.missing n) ∧ Compile.check cn ts = .error (.code 1302 0) := by
  have hcA := clsSAll_clsAll cn ts hc
  have hcls : ∀ n t, lookupT ts n = some t → cls ts t = true := by
    simp only [clsAll, Bool.and_eq_true, List.all_eq_true] at hcA
    exact fun n t h => hcA.2 (n, t) (lookupT_mem ts n t h)
  have hrel := models_rel cn ts hnd hcA
  have hfirst := checkRootN_first cn ts hc
  have herase := checkN_erase cn ts hnd
  cases hm : mustAllN ts (visitAll cn ts) with
  | ok u =>
    rw [hm] at hfirst
    rw [hfirst] at hrel
    have hlk : LK.linkCheck (lkOf cn ts) (ordOf ts) = .ok () := by
      rcases rel_inv hrel with ⟨_, hb⟩ | ⟨n, ha, _⟩ | ⟨k, ha, _⟩
      · exact hb
      · cases ha
      · cases ha
    refine Or.inl ⟨LK.links_ok_resolved _ _ hlk, ?_⟩
    rw [← herase]
    simp only [checkN, hfirst]
    split <;> rfl
  | error e =>
    obtain ⟨n, rfl⟩ := mustAllN_only_missing ts _ e hm
    rw [hm] at hfirst
    rw [hfirst] at hrel
    have hlk : LK.linkCheck (lkOf cn ts) (ordOf ts) = .error (.missing n) := by
      rcases rel_inv hrel with ⟨ha, _⟩ | ⟨m, ha, hb⟩ | ⟨k, ha, _⟩
      · cases ha
      · cases ha; exact hb
      · cases ha
    obtain ⟨hrefs, hnot⟩ := LK.links_names_missing _ _ (ordOf_ordOK cn ts hcls) n hlk
    have hckN : checkN cn ts = .error (.missing n) := by simp only [checkN, hfirst]
    refine Or.inr ⟨n, ?_, hrefs, hnot, hckN, by rw [← herase, hckN]; rfl⟩
    have := mustAllN_eq_firstMissing ts (visitAll cn ts)
    rw [hm] at this
    cases hf : firstMissing ts (visitAll cn ts) with
    | none => rw [hf] at this; cases this
    | some m => rw [hf] at this; cases this; rfl

theorem loadTypes_nodup (types : List (String × List UInt8)) (ts : Types) (hn : typeNamesOK types = true)
    (htypes : E2E.loadTypes types = .ok ts) : (ts.map (·.1)).Nodup := by
  rw [loadTypes_names types ts htypes]
  simp only [typeNamesOK, Bool.and_eq_true, decide_eq_true_eq] at hn
  exact hn.1

/-- **C09 at text level** (the check stage; registered as `Props.C09.C09_text_level_links_partial`): the check passes
exactly when every reference is resolved and the recursion check passes; and when a reference is not resolved, the first
missing name in visiting order is referenced, is not in the table, is what `checkN` reports, and the pipeline answers 1302 -/
theorem text_level_links (root : List UInt8) (types : List (String × List UInt8)) (doc : List UInt8) (opt : Bool)
    (cn : CN) (ts : Types) (hroot : E2E.loadSchema root opt = .ok (some cn)) (hn : typeNamesOK types = true)
    (htypes : E2E.loadTypes types = .ok ts) (hc : clsSAll cn ts = true) :
    (Compile.check cn ts = .ok () ↔ LK.Resolved (lkOf cn ts) ∧ TG.check (tgOf cn ts) = true) ∧
    (¬ LK.Resolved (lkOf cn ts) →
      ∃ n, firstMissing ts (visitAll cn ts) = some n ∧ LK.Refs (lkOf cn ts) n ∧ ¬ LK.InTable (lkOf cn ts) n ∧
        checkN cn ts = .error (.missing n) ∧ E2E.validateText root types doc opt = .schemaErr 1302 0) := by
  rcases check_verdict cn ts (loadTypes_nodup types ts hn htypes) hc with
    ⟨hres, hck⟩ | ⟨n, hf, hrefs, hnot, hckN, hck⟩
  · refine ⟨?_, fun h => absurd hres h⟩
    rw [hck]
    by_cases htg : TG.check (tgOf cn ts) = true
    · rw [if_pos htg]; exact ⟨fun _ => ⟨hres, htg⟩, fun _ => rfl⟩
    · rw [if_neg htg]; exact ⟨nofun, fun h => absurd h.2 htg⟩
  · have hnres : ¬ LK.Resolved (lkOf cn ts) := fun h => hnot (h n hrefs)
    refine ⟨?_, fun _ => ⟨n, hf, hrefs, hnot, hckN, ?_⟩⟩
    · rw [hck]; exact ⟨nofun, fun h => absurd h.1 hnres⟩
    · rw [(validateText_check root types doc opt cn ts hroot hn htypes).1 _ hck]; rfl

/-- the 1302 outcome of the whole pipeline, as an equivalence -/
theorem text_level_1302_iff (root : List UInt8) (types : List (String × List UInt8)) (doc : List UInt8) (opt : Bool)
    (cn : CN) (ts : Types) (hroot : E2E.loadSchema root opt = .ok (some cn)) (hn : typeNamesOK types = true)
    (htypes : E2E.loadTypes types = .ok ts) (hc : clsSAll cn ts = true) :
    E2E.validateText root types doc opt = .schemaErr 1302 0 ↔ ¬ LK.Resolved (lkOf cn ts) := by
  obtain ⟨herr, hok⟩ := validateText_check root types doc opt cn ts hroot hn htypes
  rcases check_verdict cn ts (loadTypes_nodup types ts hn htypes) hc with ⟨hres, hck⟩ | ⟨n, _, hrefs, hnot, _, hck⟩
  · refine ⟨fun hv => ?_, fun hnr => absurd hres hnr⟩
    by_cases htg : TG.check (tgOf cn ts) = true
    · rw [if_pos htg] at hck; exact absurd hv (hok hck)
    · rw [if_neg htg] at hck; rw [herr _ hck] at hv; cases hv
  · refine ⟨fun _ hres => hnot (hres n hrefs), fun _ => ?_⟩
    rw [herr _ hck]; rfl

end CL
