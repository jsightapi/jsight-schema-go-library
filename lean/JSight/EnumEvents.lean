import JSight.EnumEventsTok
import JSight.LayoutAbs
import JSight.ClassifyInv
/-!
C18 / C06 / C14 for enum rules, the text without comments and what the scanner is expected to make of it.

Text (bytes): `pre [ ws0 item , item … ] post` with `item = w1 token w2`; `pre, ws0, w1, w2, post` are layout
(space, tab, LF, CR — any mix), tokens are strings / numbers without exponent / true / false / null
(`GTok` on byte classes). `renderEnum` is the text, `enumEvsOf` its expected events, `valuesOf` the literal slices.
The theorems about them are in `EnumPlain`. Below the definitions stand the small facts every theorem about a concrete
text uses: where bytes stand (`Lay.AtB`) their classes stand (`segA_of_atB`) and a token has its key (`keyAt_of_atB`),
the state before the first / a later item (`stFirst`), and the fold of `lengthLoop` (`lenF`).
-/
namespace EnumScan
open SchemaScan (Cls classify)

/-- layout, token, layout -/
abbrev Item := List UInt8 × List UInt8 × List UInt8

/-- the items with their separating commas, and the closing bracket -/
def renderItems : List Item → List UInt8
  | [] => [93]
  | (w1, t, w2) :: its => w1 ++ (t ++ (w2 ++ ((if its.isEmpty then [] else [44]) ++ renderItems its)))

/-- `pre [ ws0 items ] post` -/
def renderEnum (pre ws0 : List UInt8) (items : List Item) (post : List UInt8) : List UInt8 :=
  pre ++ (91 :: (ws0 ++ (renderItems items ++ post)))

/-- every byte is a space, a tab, LF or CR -/
def IsWsB (ws : List UInt8) : Prop := IsWs (ws.map classify)

/-- validity with the automaton's notion of token -/
def ValidItems (its : List Item) : Prop :=
  ∀ it ∈ its, IsWsB it.1 ∧ IsTok (it.2.1.map classify) ∧ IsWsB it.2.2

/-- validity with the token grammar -/
def GValidItems (its : List Item) : Prop :=
  ∀ it ∈ its, IsWsB it.1 ∧ GTok (it.2.1.map classify) ∧ IsWsB it.2.2

theorem GValidItems.valid {its : List Item} (h : GValidItems its) : ValidItems its :=
  fun it hit => ⟨(h it hit).1, (h it hit).2.1.isTok, (h it hit).2.2⟩

def nlEvsB (o : Nat) (ws : List UInt8) : List Ev := nlEvs o (ws.map classify)

/-- events of the items starting at offset `o`, then the array end of the array opened at `a` -/
def evsItems (a : Nat) : Nat → List Item → List Ev
  | o, [] => [⟨.arrE, a, o⟩]
  | o, (w1, t, w2) :: its =>
    nlEvsB o w1 ++ (itemEvs (o + w1.length) (o + w1.length + t.length) ++
      (nlEvsB (o + w1.length + t.length) w2 ++
        evsItems a (o + w1.length + t.length + w2.length + (if its.isEmpty then 0 else 1)) its))

/-- the expected events of `renderEnum pre ws0 items post` -/
def enumEvsOf (pre ws0 : List UInt8) (items : List Item) (post : List UInt8) : List Ev :=
  ⟨.arrB, pre.length, pre.length⟩ ::
    (nlEvsB (pre.length + 1) ws0 ++
      (evsItems pre.length (pre.length + 1 + ws0.length) items ++
        nlEvsB (pre.length + 1 + ws0.length + (renderItems items).length) post))

def itemKey (it : Item) : List UInt8 × Bool := tokKey it.2.1

/-! ### segments of a concrete text -/

/-- the classes of a segment of bytes stand where the bytes stand -/
theorem segA_of_atB {bs : List UInt8} : ∀ {seg : List UInt8} {o : Nat}, Lay.AtB bs.toArray o seg →
    SegA (bs.map classify).toArray o (seg.map classify)
  | [], _, _ => trivial
  | _ :: _, _, h => ⟨by simpa using congrArg (Option.map classify) h.1, segA_of_atB h.2⟩

theorem keyAt_of_atB {content : Array UInt8} {t : List UInt8} {o : Nat} (h : Lay.AtB content o t)
    (ht : IsTok (t.map classify)) : keyAt content o t.length = tokKey t := by
  unfold keyAt
  rw [Lay.take_of_AtB content t o h, keyOfTrim_tok t ht]

def stFirst (first : Bool) : St := if first then .arrItemOrEmpty else .arrItem

theorem IsTok.length_pos {tk : List Cls} (h : IsTok tk) : 1 ≤ tk.length := by
  obtain ⟨c, tl, _, _, _, rfl, _⟩ := h
  simp

theorem renderEnum_length (pre ws0 post : List UInt8) (items : List Item) :
    (renderEnum pre ws0 items post).length
      = pre.length + 1 + ws0.length + (renderItems items).length + post.length := by
  simp [renderEnum]; omega

/-- items each followed by its comma -/
def renderInit : List Item → List UInt8
  | [] => []
  | (w1, t, w2) :: its => w1 ++ (t ++ (w2 ++ (44 :: renderInit its)))

theorem renderItems_last (its : List Item) : ∃ init, renderItems its = init ++ [93] := by
  induction its with
  | nil => exact ⟨[], rfl⟩
  | cons it its ih =>
    obtain ⟨w1, t, w2⟩ := it
    obtain ⟨init, h⟩ := ih
    exact ⟨w1 ++ (t ++ (w2 ++ ((if its.isEmpty then [] else [44]) ++ init))), by simp [renderItems, h]⟩

/-- the `Len` fold of `lengthLoop`: each event overwrites the length (the accumulator is not read), so the fold over a
list is `lenF` of its last event -/
def lenF (size : Nat) : Nat → Ev → Nat := fun _ e => if e.e ≥ size then size else e.e + 1

/-! ### `Values`: the literal spans, in order, are the item tokens -/

/-- the byte slices `[b .. e]` of the literal-end events, in order (what `enum.go` collects into `Values`) -/
def valuesOf (bs : List UInt8) (evs : List Ev) : List (List UInt8) :=
  (evs.filter (fun e => e.ty == .litE)).map (fun e => (bs.drop e.b).take (e.e + 1 - e.b))

theorem valuesOf_append (bs : List UInt8) (a b : List Ev) : valuesOf bs (a ++ b) = valuesOf bs a ++ valuesOf bs b := by
  simp [valuesOf]

theorem valuesOf_nl (bs : List UInt8) (ws : List Cls) : ∀ o, valuesOf bs (nlEvs o ws) = [] := by
  induction ws with
  | nil => intro o; rfl
  | cons c cs ih =>
    intro o
    simp only [nlEvs, valuesOf_append, ih, List.append_nil]
    split <;> rfl

end EnumScan
