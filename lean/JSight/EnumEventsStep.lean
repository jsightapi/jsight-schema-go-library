import JSight.EnumEventsSem
import JSight.SchemaLenEnd
/-!
The bytes inside a token of the enum-rule scanner: its token states are those of the schema scanner (`ofS`), and a step
of the schema scanner's token automaton `SchemaScan.silent` is a step of `dispatch`; segments `SegA` of the class array.
-/
namespace EnumScan
open SchemaScan (Cls classify)

variable {content : Array UInt8} {data : Array Cls}

theorem map_map_cons (r : M (List Ev)) (a : List Ev) (e : Ev) :
    (r.map (a ++ ·)).map (e :: ·) = r.map ((e :: a) ++ ·) := by
  cases r <;> rfl

theorem map_nil_app (r : M (List Ev)) : r.map (([] : List Ev) ++ ·) = r := by
  cases r <;> simp [Except.map]

/-! ### segments of the class array -/

def SegA (data : Array Cls) : Nat → List Cls → Prop
  | _, [] => True
  | i, c :: cs => data[i]? = some c ∧ SegA data (i + 1) cs

/-- the schema scanner's development has the same notion (`SchemaScan.At`), with its lemmas -/
theorem segA_iff_at {data : Array Cls} : ∀ {i : Nat} {l : List Cls}, SegA data i l ↔ SchemaScan.At data i l
  | _, [] => Iff.rfl
  | _, _ :: _ => and_congr Iff.rfl segA_iff_at

theorem SegA_append {i : Nat} {a b : List Cls} (h : SegA data i (a ++ b)) :
    SegA data i a ∧ SegA data (i + a.length) b := by
  simpa only [segA_iff_at, SchemaScan.At_append] using h

/-! ### bytes inside a token: the token automaton is the schema scanner's (`SchemaScan.silent`) -/

/-- the token states of the schema scanner, in the enum scanner (both scanners copy the JSON scanner's literal states).
The other states go to `begin`: `SchemaScan.silent` never starts from or arrives at one of them. -/
def ofS : SchemaScan.St → St
  | .endValue => .endValue
  | .inString => .inString | .esc => .esc | .u0 => .u0 | .u1 => .u1 | .u2 => .u2 | .u3 => .u3
  | .neg => .neg | .d1 => .d1 | .d0 => .d0 | .dot => .dot | .dot0 => .dot0
  | .t => .t | .tr => .tr | .tru => .tru | .f => .f | .fa => .fa | .fal => .fal | .fals => .fals
  | .n => .n | .nu => .nu | .nul => .nul
  | _ => .begin

/-- a byte inside a token, as the schema scanner's token automaton reads it, in the enum scanner -/
theorem silentS_dispatch {st : SchemaScan.St} {ret : List SchemaScan.St} {unf : Bool} {c : Cls} {st' : SchemaScan.St}
    {ret' : List SchemaScan.St} {unf' : Bool} (h : SchemaScan.silent st ret unf c = some (st', ret', unf'))
    (stack : List (LexT × Nat)) (i : Nat) (ann lc ht : Bool) (uq : List (List UInt8 × Bool)) (p1 : Option Cls) :
    dispatch content 8 ⟨ofS st, ret.map ofS, stack, [], i, ann, unf, lc, ht, uq⟩ c p1
      = .ok ⟨ofS st', ret'.map ofS, stack, [], i, ann, unf', lc, ht, uq⟩ := by
  cases st
  case inString => rw [ofS, dispatch_inString rfl]; cases c <;> cases h <;> rfl
  case u3 =>
    cases ret with
    | nil => cases h
    | cons r ret =>
      rw [ofS, dispatch_u3 rfl]; simp only [SchemaScan.silent] at h; split at h <;> cases h; exact if_pos ‹_›
  -- in every other token state: the equation of `dispatch` for the state …
  case' esc => rw [ofS, dispatch_esc rfl]
  case' u0 => rw [ofS, dispatch_u0 rfl]
  case' u1 => rw [ofS, dispatch_u1 rfl]
  case' u2 => rw [ofS, dispatch_u2 rfl]
  case' neg => rw [ofS, dispatch_neg rfl]
  case' d1 => rw [ofS, dispatch_d1 rfl, state0_eq]
  case' d0 => rw [ofS, dispatch_d0 rfl, state0_eq]
  case' dot => rw [ofS, dispatch_dot rfl]
  case' dot0 => rw [ofS, dispatch_dot0 rfl]
  case' t => rw [ofS, dispatch_t rfl]
  case' tr => rw [ofS, dispatch_tr rfl]
  case' tru => rw [ofS, dispatch_tru rfl]
  case' f => rw [ofS, dispatch_f rfl]
  case' fa => rw [ofS, dispatch_fa rfl]
  case' fal => rw [ofS, dispatch_fal rfl]
  case' fals => rw [ofS, dispatch_fals rfl]
  case' n => rw [ofS, dispatch_n rfl]
  case' nu => rw [ofS, dispatch_nu rfl]
  case' nul => rw [ofS, dispatch_nul rfl]
  -- … then the arm of `silent` that `h` selects; both sides compute (the hex states keep their `if`)
  case u0 | u1 | u2 => simp only [SchemaScan.silent] at h; split at h <;> cases h; exact if_pos ‹_›
  case esc | neg | d1 | d0 | dot | dot0 | t | tr | tru | f | fa | fal | fals | n | nu | nul =>
    simp only [SchemaScan.silent] at h; split at h <;> cases h <;> rfl
  all_goals cases h

theorem litStart_ofS {c : Cls} {st : SchemaScan.St} {u : Bool} (h : SchemaScan.litStart c = some (st, u)) :
    litStart c = some (ofS st, u) := by
  cases c <;> cases h <;> rfl

end EnumScan
