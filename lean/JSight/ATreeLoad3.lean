import JSight.ATreeLoad2
/-! C13 / C16, whole annotated trees: a container of either kind as a value, for entries given by their `EntStmt`. -/
namespace AT.G
open SchemaScan (LexT St Ctx VCtx wsLoop cmtLoop nlSt)
open SchemaScan.Len (TC noML annLoop)
open Loader (XNode xfresh)

variable [V : View]

theorem noML_push (ctx : VCtx) (t : LexT) (ht : t = .arrB ∨ t = .objB) (i : Nat) (K : List (LexT × Nat))
    (h : noML K = true) : noML ((t, i) :: (ctx.pre i ++ K)) = true := by
  have hp : (ctx.pre i).any (fun p => p.1 == LexT.mlAnnB) = false := by cases ctx <;> rfl
  have ht' : (t == LexT.mlAnnB) = false := by rcases ht with rfl | rfl <;> rfl
  unfold noML at h ⊢
  simp only [List.any_cons, List.any_append, ht', hp, Bool.false_or]
  exact h

/-- the annotation behind an opening bracket, added to the node of the container `D`, which was created last -/
theorem head_seg (an : Option (Gap × Annot)) (c : TC) (hst : c.st = .arrItemOrEmpty ∨ c.st = .objKeyOrEmpty)
    (hg : c.g = false) (ak : Bool) (hok : OK c ak) (D : Cont) (hM : D.M = []) (hl : D.last = some D.n) (ak1 : Bool)
    (pl1 : Nat) (hchk : headChk ak D.pl an = some (ak1, pl1)) (hw : TokOK (headToks an)) :
    ∃ c', Lvl ⟨c, D.as, ak⟩ (headToks an) ⟨c', (D.ann (annX (an.map (·.2)) D.xa) pl1).as, ak1⟩ ∧ c'.st = c.st := by
  obtain ⟨L, x, M, last, pl, root⟩ := D
  simp only [Cont.n] at hM hl hchk
  subst hM hl
  match an, hchk, hw with
  | none, hchk, _ =>
    simp only [headChk, Option.some.injEq, Prod.mk.injEq] at hchk
    obtain ⟨rfl, rfl⟩ := hchk
    exact ⟨c, Lvl.refl _, rfl⟩
  | some (gh, a), hchk, hw =>
    simp only [headChk] at hchk
    have hloops : wsLoop c.st = true ∧ cmtLoop c.st = true ∧
        (bif Gap.hasNl gh then nlSt c.st else c.st) = c.st ∧ annLoop c.st = true := by
      rcases hst with h | h <;> rw [h] <;> cases Gap.hasNl gh <;> exact ⟨rfl, rfl, rfl, rfl⟩
    have hgk : gapAk false ak gh = ak := by simp [gapAk]
    obtain ⟨c', L1, h1⟩ := gap_ann_seg c gh a hw hloops.1 hloops.2.1 (by rw [hloops.2.2.1]; exact hloops.2.2.2)
      hg false (by simp) ak hok pl ak1 pl1 (by rw [hgk]; exact hchk) L x (some L.length) root
    exact ⟨c', L1, by rw [h1, hloops.2.2.1]⟩

/-- closing the container `x` created last in `C` (the leaf goes back to `C`) leaves `C` grown by `x` and the nodes behind it -/
theorem sub_closed (C : Cont) (x : XNode) (N : List XNode) (last : Option Nat) (pl : Nat) :
    { (C.sub x N last pl).as with leaf := some C.n } = (C.grow [] [] (x :: N) last pl).as := by
  simp [Cont.as, Cont.sub, Cont.grow, Cont.n]

/-- the closing bracket of the container `x` of kind `o`, created in `C` with the nodes `N` behind it, and the closing
lexeme of the value. A bare `Seg` with the scanner state field by field: the bracket pops the lexeme stack and the context
stack, so this is no step on one level (`Lvl`); the whole container is one again (`value_cont`). -/
theorem close_seg (o : Bool) (ctx : VCtx) (hctx : ctx ≠ .root) (st : St) (hst : st = cFirst o ∨ st = cAft o) (g : Bool)
    (b : Nat) (K : List (LexT × Nat)) (j : Nat) (c0 : Ctx) (CS : List Ctx) (cx : Ctx) (al : Bool) (C : Cont)
    (hC : C.Is (ctxKind ctx)) (x : XNode) (N : List XNode) (last : Option Nat) (pl : Nat) (hxk : x.kind = cKind o)
    (hxw : x.waiting = false) (hxp : x.parent = some C.n) :
    ∃ al', Seg ⟨st, g, (cB o, b) :: (ctx.pre b ++ K), j, c0 :: CS, cx, al⟩ [closeTok o]
      ⟨(ctxCk ctx).aft, false, K, j + 1, CS, c0, al'⟩ (C.sub x N last pl).as (C.grow [] [] (x :: N) last pl).as := by
  obtain ⟨al', hstep⟩ := step_close o st hst g b (ctx.pre b ++ K) j c0 CS cx al
  refine ⟨al', Seg.tokClose (t := closeTok o) hstep rfl rfl
    (by rw [pre_eq ctx hctx]; exact close_ck _ false (ctxCk ctx) 0 b K _ CS _ _) (aft_notPV _) ?_ (by cases o <;> rfl)⟩
  rw [closers_eq]
  have l1 := (loads_end o j b j (C.sub x N last pl) ⟨hxk, hxw⟩ (some C.n) hxp).mono (closeTok o).bytes
  rw [sub_closed] at l1
  exact l1.seq ((loads_post ctx j b (j + 1 - 1) _ (hC.grow [] [] (x :: N) last pl)).mono (closeTok o).bytes)

/-- the node of a container of kind `o` as it is created under `par`, with the annotation behind its bracket -/
def contNode (o : Bool) (an : Option (Gap × Annot)) (par : Option Nat) : XNode := annX (an.map (·.2)) (xfresh (cKind o) par)

theorem contNode_is (o : Bool) (an : Option (Gap × Annot)) (par : Option Nat) :
    (contNode o an par).kind = cKind o ∧ (contNode o an par).waiting = false ∧ (contNode o an par).parent = par := by
  simp only [contNode, annX_kind, annX_waiting, annX_parent]; exact ⟨rfl, rfl, rfl⟩

/-- A container of kind `o` as a value: the opening bracket, the annotation behind it, the entries (`hb`, met first),
the closing bracket and the closing lexeme of the value; `hchk` is `ATree.chk` at an array / object, unfolded.
`value_arr` and `value_obj` are its two readings. -/
theorem value_cont (o : Bool) (an : Option (Gap × Annot)) {toks : List BTok} {idx : Nat → List Nat}
    {keys : List (Bytes × Bool)} {nodes : Nat → Nat → List XNode}
    {chk : Pos → List (Bytes × Bool) → Bool → Nat → Option Nat} (hb : EntStmt o toks idx keys nodes chk)
    (ctx : VCtx) (hctx : ctx ≠ .root) (c : TC) (hst : c.st = ctx.st) (ak : Bool) (hok : OK c ak) (C : Cont)
    (hC : C.Is (ctxKind ctx)) (ak' : Bool) (pl' : Nat)
    (hchk : (match headChk ak (C.pl + 1) an with
      | none => none
      | some (ak1, pl1) => (chk .first [] ak1 pl1).map (fun pl2 => (false, pl2))) = some (ak', pl'))
    (hw : TokOK (openTok o :: (headToks an ++ (toks ++ [closeTok o])))) :
    ∃ c' last', Lvl ⟨c, C.as, ak⟩ (openTok o :: (headToks an ++ (toks ++ [closeTok o])))
        ⟨c', (C.grow [C.next] [] ({ contNode o an (some C.n) with
            children := (contNode o an (some C.n)).children ++ idx (C.next + 1),
            keys := (contNode o an (some C.n)).keys ++ keys } :: nodes C.next (C.next + 1)) last' pl').as, ak'⟩ ∧
      c'.st = (ctxCk ctx).aft := by
  cases hh : headChk ak (C.pl + 1) an with
  | none => rw [hh] at hchk; simp at hchk
  | some r =>
  obtain ⟨ak1, pl1⟩ := r
  rw [hh] at hchk
  simp only at hchk
  cases hci : chk .first [] ak1 pl1 with
  | none => rw [hci] at hchk; simp at hchk
  | some pl2 =>
  rw [hci] at hchk
  simp only [Option.map_some, Option.some.injEq, Prod.mk.injEq] at hchk
  obtain ⟨rfl, rfl⟩ := hchk
  obtain ⟨_, hw⟩ := tokOK_cons hw
  obtain ⟨hwh, hw⟩ := tokOK_append hw
  obtain ⟨hwi, _⟩ := tokOK_append hw
  have hkk : C.xa.kind = .arr ∨ C.xa.kind = .obj := by rw [hC.kind]; exact ctxKind_cases ctx
  obtain ⟨st, g, K, i, CS, cx, al⟩ := c
  simp only at hst
  subst hst
  -- the opening bracket: `C` enters the node created next as a child (`kid`), and the loader is inside that node (`sub`)
  have s1 : Seg ⟨ctx.st, g, K, i, CS, cx, al⟩ [openTok o]
      ⟨cFirst o, false, (cB o, i) :: (ctx.pre i ++ K), i + 1, ctx.cx' cx :: CS, cCtx o, al⟩ C.as
      (C.kid.sub (xfresh (cKind o) (some C.n)) [] (some C.next) (C.pl + 1)).as := by
    refine Seg.tok (t := openTok o) (step_open o ctx g K i CS cx al) ?_ (by cases o <;> rfl)
    rw [preEvs_eq ctx hctx]
    exact ((loads_pre ctx i i C hC).seq
      (loads_create i ⟨cB o, i, i⟩ (cKind o) (by cases o <;> rfl) (by cases o <;> rfl) C hkk hC.waiting)).mono _
  have hok1 : OK ⟨cFirst o, false, (cB o, i) :: (ctx.pre i ++ K), i + 1, ctx.cx' cx :: CS, cCtx o, al⟩ ak :=
    ⟨noML_push ctx (cB o) (by cases o <;> simp [cB]) i K hok.noML, hok.al⟩
  obtain ⟨c2, L2, h2st⟩ := head_seg an _ (by cases o <;> simp [cFirst]) rfl ak hok1
    (C.kid.sub (xfresh (cKind o) (some C.n)) [] (some C.next) (C.pl + 1)) rfl (by rw [Cont.sub_n]; rfl) ak1 pl1 hh hwh
  obtain ⟨c3, last3, L3, h3st⟩ := hb .first c2 ak1
    ((C.kid.sub (xfresh (cKind o) (some C.n)) [] (some C.next) (C.pl + 1)).ann (contNode o an (some C.n)) pl1) pl2 h2st
    (L2.ok hok1) ⟨(contNode_is o an _).1, (contNode_is o an _).2.1⟩
    (by simpa [contNode, annX_keys, xfresh] using hci) hwi
  -- the closing bracket and the closing lexeme of the value
  have L23 := L2.trans L3
  obtain ⟨st3, g3, K3, i3, CS3, cx3, al3⟩ := c3
  obtain rfl : K3 = _ := L23.K
  obtain rfl : CS3 = _ := L23.CS
  obtain ⟨al4, s4⟩ := close_seg o ctx hctx st3 h3st g3 i K i3 (ctx.cx' cx) CS cx3 al3 C.kid hC.kid
    { contNode o an (some C.n) with
      children := (contNode o an (some C.n)).children ++ idx (C.next + 1),
      keys := (contNode o an (some C.n)).keys ++ keys }
    (nodes C.next (C.next + 1)) last3 pl2 (contNode_is o an _).1 (contNode_is o an _).2.1 (contNode_is o an _).2.2
  refine ⟨⟨(ctxCk ctx).aft, false, K, i3 + 1, CS, ctx.cx' cx, al4⟩, last3, .ofSeg ?_ rfl rfl, rfl⟩
  rw [Cont.kid_grow] at s4
  have s23 := L23.seg
  simp only [Cont.sub_ann, Cont.sub_grow, Cont.sub_next, Cont.sub_n, Cont.kid_next, List.length_nil, Nat.add_zero,
    List.nil_append] at s23
  simpa using s1.trans (s23.trans s4)

theorem value_arr (an : Option (Gap × Annot)) (its : AItems) (hi : ItemsStmt its) : ValueStmt (.arr an its) := by
  intro ctx c ak C ak' pl' hctx hst hok hC hchk hw
  obtain ⟨c', last', L, h⟩ := value_cont false an hi ctx hctx c hst ak hok C hC ak' pl'
    (by simp only [ATree.chk] at hchk; exact hchk) (by simpa [ATree.toks, openTok, closeTok] using hw)
  refine ⟨c', last', ?_, h, fun h => (by simp [ATree.hasB] at h)⟩
  simpa [ATree.toks, ATree.nodesVA, ATree.hasB, ATree.nodesV, contNode, annX_children, annX_keys, xfresh, openTok, closeTok,
    cKind] using L

theorem value_obj (an : Option (Gap × Annot)) (ms : AMembers) (hi : MembersStmt ms) : ValueStmt (.obj an ms) := by
  intro ctx c ak C ak' pl' hctx hst hok hC hchk hw
  obtain ⟨c', last', L, h⟩ := value_cont true an hi ctx hctx c hst ak hok C hC ak' pl'
    (by simp only [ATree.chk] at hchk; exact hchk) (by simpa [ATree.toks, openTok, closeTok] using hw)
  refine ⟨c', last', ?_, h, fun h => (by simp [ATree.hasB] at h)⟩
  simpa [ATree.toks, ATree.nodesVA, ATree.hasB, ATree.nodesV, contNode, annX_children, annX_keys, xfresh, openTok, closeTok,
    cKind] using L

end AT.G
