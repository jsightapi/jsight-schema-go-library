import JSight.SchemaStep
/-! What `found`, `setContext`, `isNewLineM`, `popRet` leave unchanged: the simp facts `found_index`, `found_finds_length`
(`found_stack`, `found_ret`, `found_step` are in `SchemaEndValue`), `setContext_index`, `setContext_finds`, and
`popRet_frame`.  The frame `F k` of a transition (index unchanged, at most `k` more queued lexemes) with the tactics `fr`,
`frc` states the same of a whole call; what a call does to the index and the queue is proved as `dispatch_post`
(`SchemaErrIdxStep`), which does not go through `F`. -/
namespace SchemaScan

/-- the frame of a transition from `s` to `s'`: `index` unchanged, at most `k` more queued lexemes -/
def F (k : Nat) (s s' : Sc) : Prop := s'.index = s.index ∧ s'.finds.length ≤ s.finds.length + k

theorem F.refl (k : Nat) (s : Sc) : F k s s := ⟨rfl, Nat.le_add_right _ _⟩

@[simp] theorem found_index (s : Sc) (t : LexT) : (found s t).index = s.index := rfl
@[simp] theorem found_finds_length (s : Sc) (t : LexT) : (found s t).finds.length = s.finds.length + 1 := by
  simp [found]
@[simp] theorem setContext_index (s : Sc) (c : Ctx) : (setContext s c).index = s.index := rfl
@[simp] theorem setContext_finds (s : Sc) (c : Ctx) : (setContext s c).finds = s.finds := rfl

/-- closes `F k s s'` for an explicit `s'` -/
macro "fr" : tactic => `(tactic| (refine ⟨?_, ?_⟩ <;> simp <;> omega))

theorem isNewLineM_ok {s c b} (h : isNewLineM s c = .ok b) : b = c.isNewLine := by
  rcases isNewLineM_cases s c with h' | ⟨e, h', _⟩ <;> rw [h'] at h <;> cases h
  rfl

theorem popRet_frame {s : Sc} {v : St × Sc} (h : popRet s = .ok v) :
    v.snd.finds = s.finds ∧ v.snd.index = s.index := by
  unfold popRet at h
  split at h <;> cases h
  exact ⟨rfl, rfl⟩

/-- closes a frame goal, with the frames of the `popRet` and `finishShortcut` calls found in the context -/
macro "frc" : tactic => `(tactic| (
  try (have hp := popRet_F ‹popRet _ = Except.ok _›)
  try (have hfs := finishShortcut_F ‹finishShortcut _ = Except.ok _›)
  simp only [F] at *
  refine ⟨?_, ?_⟩ <;> simp [apply_ite Sc.index, apply_ite Sc.finds] at * <;> omega))

end SchemaScan
