/-!
What the validator machines share that does not depend on their frames: the accessors of a schema (`Tbl`), the
bookkeeping of required keys, and `TreeRun.run`, the run of a machine whose state is a group of sibling subtrees stepped
together.  `ValidateT`, `ValidateR`, `ValidateA` and `ValidateK` each define their own `runQ` over their own `stepG`; the
`runQ_eq` of the proof module next to each shows it equal to `TreeRun.run (stepG …)`, and the lemmas here are used through
that.
-/

/-! ### the accessors of a schema

Every validator model (`V`, `VP`, `VN`, `VR`, `VA`, `VK`, `VPos`) and the text-level specifications declare, over their own
schema type, the item schema for a position of the document (`childAt`: the last one stands for all further positions),
the first property under a key (`lookup`) and the table of named types (`lookupT`).  Their facts, over any element type;
a model's `childAt` is `clampAt`: by the `childAt_eq` next to `V`, `VP`, `VN`, `VR`, `VK`, whose proofs use the facts here;
for `VPos` it is shown where it is used (`VPos.childAt_toVN`); no proof about `VA` needs it.  A model's `lookup` unfolds
to `firstBy (·.1) (·.2.2)`. -/
namespace Tbl
variable {α β ε ε' : Type}

def clampAt (items : List α) (i : Nat) : Option α :=
  match items with
  | [] => none
  | _ => items[min i (items.length - 1)]?

theorem clampAt_map (f : α → β) (items : List α) (i : Nat) : clampAt (items.map f) i = (clampAt items i).map f := by
  cases items with
  | nil => rfl
  | cons s ss =>
    show (List.map f (s :: ss))[min i ((List.map f (s :: ss)).length - 1)]? = _
    rw [List.length_map, List.getElem?_map]; rfl

theorem clampAt_append (pre : List α) (s : α) (ss : List α) : clampAt (pre ++ s :: ss) pre.length = some s := by
  have h : clampAt (pre ++ s :: ss) pre.length = (pre ++ s :: ss)[min pre.length ((pre ++ s :: ss).length - 1)]? := by
    cases pre <;> rfl
  rw [h, show min pre.length ((pre ++ s :: ss).length - 1) = pre.length by simp]; simp

/-- the value of the first entry under the key `k`; `key` and `val` read an entry -/
def firstBy (key : ε → String) (val : ε → α) (es : List ε) (k : String) : Option α :=
  (es.find? (fun e => key e == k)).map val

theorem firstBy_map (key : ε → String) (val : ε → α) (key' : ε' → String) (val' : ε' → β) (g : ε → ε') (f : α → β)
    (hk : ∀ e, key' (g e) = key e) (hv : ∀ e, val' (g e) = f (val e)) (es : List ε) (k : String) :
    firstBy key' val' (es.map g) k = (firstBy key val es k).map f := by
  simp only [firstBy, List.find?_map, Option.map_map, Function.comp_def, hk, hv]

/-- a table of named entries under a translation of the entries -/
theorem named_map (f : α → β) (env : List (String × α)) (n : String) :
    ((env.map fun p => (p.1, f p.2)).find? (·.1 == n)).map (·.2) = ((env.find? (·.1 == n)).map (·.2)).map f :=
  firstBy_map (fun p : String × α => p.1) (·.2) (fun p : String × β => p.1) (·.2) _ f (fun _ => rfl) (fun _ => rfl) env n

def keysNodupBy (key : ε → String) : List ε → Bool
  | [] => true
  | e :: es => !(es.any (fun p => key p == key e)) && keysNodupBy key es

theorem keysNodupBy_iff (key : ε → String) : (es : List ε) → (keysNodupBy key es = true ↔ (es.map key).Nodup)
  | [] => by simp [keysNodupBy]
  | e :: es => by
    simp only [keysNodupBy, Bool.and_eq_true, Bool.not_eq_true', List.any_eq_false, beq_iff_eq, List.map_cons,
      List.nodup_cons, List.mem_map, keysNodupBy_iff key es, not_exists, not_and]

theorem firstBy_of_nodup_keys (key : ε → String) (val : ε → α) :
    (es : List ε) → (es.map key).Nodup → ∀ e ∈ es, firstBy key val es (key e) = some (val e)
  | [], _, e, he => by cases he
  | e' :: es, h, e, he => by
    rw [List.map_cons, List.nodup_cons] at h
    rcases List.mem_cons.1 he with rfl | he
    · simp [firstBy]
    · have hne : (key e' == key e) = false := beq_false_of_ne fun hk => h.1 (hk ▸ List.mem_map_of_mem he)
      simpa only [firstBy, List.find?_cons, hne] using firstBy_of_nodup_keys key val es h.2 e he

theorem firstBy_of_nodup (key : ε → String) (val : ε → α) (es : List ε) (h : keysNodupBy key es = true) :
    ∀ e ∈ es, firstBy key val es (key e) = some (val e) :=
  firstBy_of_nodup_keys key val es ((keysNodupBy_iff key es).1 h)

theorem firstBy_none (key : ε → String) (val : ε → α) (es : List ε) (k : String)
    (h : (es.map key).contains k = false) : firstBy key val es k = none := by
  simp only [firstBy, Option.map_eq_none_iff, List.find?_eq_none]
  intro e he hk
  have : k ∈ es.map key := List.mem_map.2 ⟨e, he, by simpa using hk⟩
  simp [this] at h

end Tbl

/-! ### required keys against the members read so far -/

theorem all_none_isEmpty {β : Type} (req : List String) :
    req.all (fun r => ([] : List (String × β)).any (fun m => m.1 == r)) = req.isEmpty := by
  cases req <;> simp

/-- striking `k` from the required keys when it is read = asking at the end whether each key was read -/
theorem req_step {β : Type} (req : List String) (k : String) (v : β) (ms : List (String × β)) :
    (req.filter (· != k)).all (fun r => ms.any (fun m => m.1 == r))
      = req.all (fun r => ((k, v) :: ms).any (fun m => m.1 == r)) := by
  induction req with
  | nil => simp
  | cons r req ih =>
    by_cases h : r = k
    · subst h; simp [ih]
    · have h1 : (k == r) = false := by simpa using fun h' => h h'.symm
      have h2 : (r != k) = true := by simp [h]
      simp only [List.filter_cons, h2, if_true, List.all_cons, List.any_cons, h1, Bool.false_or, ih]

/-! ### a group of siblings stepped together

`step g e` gives the surviving subtrees and whether one of the roots of `g` has finished. -/
namespace TreeRun
variable {T E : Type} (step : List T → E → List T × Bool)

/-- `none` when a root finishes before the last lexeme -/
def run : List T → List E → Option (List T × Bool)
  | g, [] => some (g, false)
  | g, e :: es =>
    if es.isEmpty then some (step g e)
    else if (step g e).2 then none else run (step g e).1 es

theorem run_single (g : List T) (e : E) : run step g [e] = some (step g e) := by
  simp [run]

/-- a round in which no root finishes needs no look at what follows -/
theorem run_cons (g : List T) (e : E) (es : List E) (h : (step g e).2 = false) :
    run step g (e :: es) = run step (step g e).1 es := by
  cases es with
  | nil => rw [run_single, run, ← h]
  | cons e' es => simp [run, h]

theorem run_cons_cons (g : List T) (e e' : E) (es : List E) :
    run step g (e :: e' :: es) = if (step g e).2 then none else run step (step g e).1 (e' :: es) := by
  simp [run]

theorem run_nil (h0 : ∀ e, step [] e = ([], false)) (es : List E) : run step [] es = some ([], false) := by
  induction es with
  | nil => rfl
  | cons e es ih => rw [run_cons step _ _ _ (by rw [h0]), h0]; exact ih

theorem run_append (g : List T) (es fs : List E) (hfs : fs ≠ []) :
    run step g (es ++ fs) =
      match run step g es with
      | none => none
      | some r => if r.2 then none else run step r.1 fs := by
  induction es generalizing g with
  | nil => simp [run]
  | cons e es ih =>
    cases es with
    | nil =>
      obtain ⟨f, fs, rfl⟩ := List.exists_cons_of_ne_nil hfs
      simp [run]
    | cons e2 es2 =>
      rw [List.cons_append, List.cons_append, run_cons_cons, run_cons_cons, ← List.cons_append]
      split
      · rfl
      · exact ih _

/-- siblings do not interact -/
theorem run_group_append
    (happ : ∀ g1 g2 e, step (g1 ++ g2) e = ((step g1 e).1 ++ (step g2 e).1, (step g1 e).2 || (step g2 e).2))
    (g1 g2 : List T) (es : List E) :
    run step (g1 ++ g2) es =
      match run step g1 es, run step g2 es with
      | some r1, some r2 => some (r1.1 ++ r2.1, r1.2 || r2.2)
      | _, _ => none := by
  induction es generalizing g1 g2 with
  | nil => simp [run]
  | cons e es ih =>
    cases es with
    | nil => simp only [run_single, happ]
    | cons e2 es2 =>
      simp only [run_cons_cons, happ]
      cases (step g1 e).2 <;> cases (step g2 e).2
      · exact ih _ _
      · cases run step (step g1 e).1 (e2 :: es2) <;> rfl
      · rfl
      · rfl

/-- a parent `wrap live g` that is not a leaf only waits for its children: when one of them finishes on the last
lexeme the parent becomes a leaf, when all are gone so is the parent -/
theorem run_wait (wrap : Bool → List T → T) (h0 : ∀ e, step [] e = ([], false))
    (hw : ∀ g e, step [wrap false g] e
      = (if (step g e).2 then [wrap true (step g e).1]
         else if (step g e).1.isEmpty then [] else [wrap false (step g e).1], false))
    (es : List E) : ∀ (g g' : List T) (b : Bool),
    run step g es = some (g', b) → es ≠ [] →
    run step [wrap false g] es
      = some (if b then [wrap true g'] else if g'.isEmpty then [] else [wrap false g'], false) := by
  induction es with
  | nil => intro g g' b _ h; exact absurd rfl h
  | cons e es ih =>
    intro g g' b h _
    cases es with
    | nil =>
      simp only [run_single, Option.some.injEq] at h ⊢
      rw [hw, h]
    | cons e2 es2 =>
      rw [run_cons_cons] at h
      rw [run_cons _ _ _ _ (by rw [hw]), hw]
      cases hs : (step g e).2 with
      | true => simp [hs] at h
      | false =>
        simp only [hs, Bool.false_eq_true, if_false] at h ⊢
        cases hemp : (step g e).1 with
        | nil =>
          rw [hemp, run_nil step h0] at h
          simp only [Option.some.injEq, Prod.mk.injEq] at h
          obtain ⟨rfl, rfl⟩ := h
          simp [run_nil step h0]
        | cons t ts =>
          rw [hemp] at h
          exact ih _ _ _ h (by simp)

/-- the children `g` of one position read a value `es`; then their parent goes on, if one of them accepted -/
theorem run_position (wrap : Bool → List T → T) (h0 : ∀ e, step [] e = ([], false))
    (hw : ∀ g e, step [wrap false g] e
      = (if (step g e).2 then [wrap true (step g e).1]
         else if (step g e).1.isEmpty then [] else [wrap false (step g e).1], false))
    (g : List T) (b : Bool) (es fs : List E) (hes : es ≠ []) (hfs : fs ≠ [])
    (hv : run step g es = some ([], b)) :
    run step (if g.isEmpty then [] else [wrap false g]) (es ++ fs)
      = if b then run step [wrap true []] fs else some ([], false) := by
  rw [run_append step _ es fs hfs]
  cases hg : g with
  | nil =>
    rw [hg, run_nil step h0] at hv
    simp only [Option.some.injEq, Prod.mk.injEq, true_and] at hv
    simp [run_nil step h0, ← hv]
  | cons t ts =>
    rw [← hg, if_neg (by simp [hg]), run_wait step wrap h0 hw es g [] b hv hes]
    cases b <;> simp [run_nil step h0]

end TreeRun
