import JSight.CheckerTraverse
import JSight.CheckerParts
import JSight.CheckExampleConv
/-!
# C04 — `CK.checkSchema o s = .ok → validate (toVP r) (exampleOf (toVP r)) = true` (`checker_sound`)

For schemas whose EXAMPLE is plain JSON (`plain`: literal / array / object nodes only, no key shortcuts, containers
without a types list, `any` or `allOf`) the checker model implies the predicate `VP.checked` of `CheckExample.lean`,
hence (`VP.C04_example_valid`) the validator model accepts the EXAMPLE. Literal nodes keep EVERYTHING: their rules,
`{type: "@t"}` and `or` sets — a literal is read as the list of alternatives `buildList` resolves it to, and a
token is admitted when `ValidateLiteralValue` of some alternative returns (`literalAccepts`), which is what the
checker tests on the node's own token and what the validator tests on a document token.
-/
namespace CK
open RulesF (Oracles Bytes)

/-- a token as a `LiteralEnd` lexeme -/
def tokLex (tok : Bytes) : Lex := ⟨.litEnd, 0, 0, tok⟩

/-- some alternative of the literal node admits the token: `ValidateLiteralValue` of one of the type roots the node's
types list resolves to (the node itself when it has none) returns -/
def literalAccepts (o : Oracles) (env : Env) (i : Info) (tok : Bytes) : Bool :=
  match checkerList env i with
  | .error _ => false
  | .ok l => l.any fun c => (c.check o (tokLex tok)).isNone

theorem check_lex (o : Oracles) (lex : Lex) (c : Chk) (h : lex.ty = .litEnd) :
    c.check o lex = c.check o (tokLex lex.value) := by
  cases c <;> simp [Chk.check, tokLex, h]

theorem literalVerdict_none (o : Oracles) (lex : Lex) (l : List Chk) :
    literalVerdict o lex l = none ↔ (l.any fun c => (c.check o lex).isNone) = true := by
  simp [literalVerdict_eq]

theorem literalErr_none_iff (o : Oracles) (env : Env) (i : Info) (hl : i.lex.ty = .litEnd) :
    literalErr o env i = none ↔ literalAccepts o env i i.lex.value = true := by
  unfold literalErr literalAccepts
  cases checkerList env i with
  | error e => simp
  | ok l =>
    simp only [literalVerdict_none]
    have : (fun c : Chk => (c.check o i.lex).isNone) = fun c => (c.check o (tokLex i.lex.value)).isNone := by
      funext c; rw [check_lex o i.lex c hl]
    rw [this]

/-! ### the schema as a schema of the validator model -/

def strOf (n : Name) : String := String.ofList (n.map fun b => Char.ofNat b.toNat)

def isOptional (i : Info) : Bool := i.cs.contains (.optional true)

mutual
def toVP : Node → VP.S Info
  | .mk i kids =>
    match i.nk with
    | .lit => .lit i
    | .arr => .arr (toVPs kids)
    | .obj => .obj (toProps i.keys kids)
    | .mixed => .any
    | .mixedValue => .any
def toVPs : List Node → List (VP.S Info)
  | [] => []
  | n :: ns => toVP n :: toVPs ns
/-- keys and members paired as far as both lists go; `plain` asks for equally many -/
def toProps : List Key → List Node → List (String × Bool × VP.S Info)
  | _, [] => []
  | [], _ :: _ => []
  | k :: ks, n :: ns => (strOf k.name, !isOptional n.info, toVP n) :: toProps ks ns
end

mutual
/-- the EXAMPLE is plain JSON: no type shortcut in value or key position, no `allOf`; containers are what their
EXAMPLE shows (no types list, no `any`). The numbers are `constraint.Type` values (`Cn.ty`): 8 types list, 18 `any`,
17 `allOf` -/
def plain : Node → Bool
  | .mk i kids =>
    match i.nk with
    | .lit => i.lex.ty == .litEnd
    | .arr => !hasTy i.cs 8 && !hasTy i.cs 18 && plainL kids
    | .obj => !hasTy i.cs 8 && !hasTy i.cs 18 && !hasTy i.cs 17 && i.keys.all (fun k => !k.shortcut)
        && i.keys.length == kids.length && plainL kids
    | .mixed => false
    | .mixedValue => false
def plainL : List Node → Bool
  | [] => true
  | n :: ns => plain n && plainL ns
end

theorem nodeErr_none_lit (o : Oracles) (env : Env) (i : Info) (len : Nat) (hk : i.nk = .lit)
    (h : nodeErr o env ⟨i, len⟩ = none) : literalErr o env i = none :=
  (forall_parts.1 (nodeErr_none_iff.1 h)).2.2.1 hk

mutual
theorem checked_of_checkNode (o : Oracles) (env : Env) :
    ∀ n : Node, plain n = true → VP.nodupAll (toVP n) = true → checkNode o env n = none →
      VP.checked (literalAccepts o env) (fun i => i.lex.value) (toVP n) = true
  | .mk i kids, hp, hn, h => by
    rw [checkNode] at h
    cases he : nodeErr o env ⟨i, kids.length⟩ with
    | some p => simp [he] at h
    | none =>
      simp only [he] at h
      cases hk : i.nk with
      | lit =>
        simp only [plain, hk, beq_iff_eq] at hp
        simp only [toVP, hk, VP.checked]
        exact (literalErr_none_iff o env i hp).1 (nodeErr_none_lit o env i _ hk he)
      | arr =>
        simp only [plain, hk, Bool.and_eq_true] at hp
        simp only [toVP, hk, VP.nodupAll] at hn
        simp only [hk, isBranch, if_true] at h
        simp only [toVP, hk, VP.checked]
        exact checkedItems_of_checkNodes o env kids hp.2 hn h
      | obj =>
        simp only [plain, hk, Bool.and_eq_true] at hp
        simp only [toVP, hk, VP.nodupAll, Bool.and_eq_true] at hn
        simp only [hk, isBranch, if_true] at h
        simp only [toVP, hk, VP.checked, Bool.and_eq_true]
        exact ⟨checkedProps_of_checkNodes o env i.keys kids hp.2 hn.2 h, hn.1⟩
      | mixed => simp [plain, hk] at hp
      | mixedValue => simp [plain, hk] at hp
theorem checkedItems_of_checkNodes (o : Oracles) (env : Env) :
    ∀ ns : List Node, plainL ns = true → VP.nodupItems (toVPs ns) = true → checkNodes o env ns = none →
      VP.checkedItems (literalAccepts o env) (fun i => i.lex.value) (toVPs ns) = true
  | [], _, _, _ => by simp [toVPs, VP.checkedItems]
  | n :: ns, hp, hn, h => by
    simp only [plainL, Bool.and_eq_true] at hp
    simp only [toVPs, VP.nodupItems, Bool.and_eq_true] at hn
    rw [checkNodes] at h
    cases hc : checkNode o env n with
    | some p => simp [hc] at h
    | none =>
      simp only [hc] at h
      simp only [toVPs, VP.checkedItems, Bool.and_eq_true]
      exact ⟨checked_of_checkNode o env n hp.1 hn.1 hc, checkedItems_of_checkNodes o env ns hp.2 hn.2 h⟩
theorem checkedProps_of_checkNodes (o : Oracles) (env : Env) :
    ∀ (ks : List Key) (ns : List Node), plainL ns = true → VP.nodupProps (toProps ks ns) = true →
      checkNodes o env ns = none →
      VP.checkedProps (literalAccepts o env) (fun i => i.lex.value) (toProps ks ns) = true
  | _, [], _, _, _ => by simp [toProps, VP.checkedProps]
  | [], _ :: _, _, _, _ => by simp [toProps, VP.checkedProps]
  | k :: ks, n :: ns, hp, hn, h => by
    simp only [plainL, Bool.and_eq_true] at hp
    simp only [toProps, VP.nodupProps, Bool.and_eq_true] at hn
    rw [checkNodes] at h
    cases hc : checkNode o env n with
    | some p => simp [hc] at h
    | none =>
      simp only [hc] at h
      simp only [toProps, VP.checkedProps, Bool.and_eq_true]
      exact ⟨checked_of_checkNode o env n hp.1 hn.1 hc, checkedProps_of_checkNodes o env ks ns hp.2 hn.2 h⟩
end

theorem checkNode_of_ok (o : Oracles) (s : Schema) (r : Node) (hr : s.root = some r) (h : checkSchema o s = .ok) :
    checkNode o s.env r = none := by
  rw [checkNode_eq, List.findSome?_eq_none_iff]
  exact fun hd hm => (checkSchema_ok_iff o s).1 h ⟨hd, 0, none⟩ (by simp [Schema.occs, hr, hm])

/-- the checker accepts ⇒ the conditions of `C04_example_valid` hold ⇒ the validator model accepts the EXAMPLE -/
theorem checker_sound (o : Oracles) (s : Schema) (r : Node) (hr : s.root = some r) (hp : plain r = true)
    (hn : VP.nodupAll (toVP r) = true) (h : checkSchema o s = .ok) :
    VP.validate (literalAccepts o s.env) (toVP r) (VP.exampleOf (fun i => i.lex.value) (toVP r)) = true :=
  VP.C04_example_valid _ _ _ (checked_of_checkNode o s.env r hp hn (checkNode_of_ok o s r hr h))

end CK
