import JSight.CheckerHyp
import JSight.CheckerFuel
import JSight.CheckerLit
/-! The Boolean tests of `CheckerHyp.lean` imply the hypotheses of the theorems. -/
namespace CK

theorem sortedB_sound (l : List Nat) (h : sortedB l = true) : l.Pairwise (· < ·) := of_decide_eq_true h

theorem litEndB_sound (r : Node) (h : litEndB r = true) :
    ∀ hd ∈ preorder r, hd.info.nk = .lit → hd.info.lex.ty = .litEnd := by
  intro hd hm hk
  have := List.all_eq_true.1 h hd hm
  simpa [hk] using this

theorem arraysFlatB_sound (env : Env) (h : arraysFlatB env = true) : ArraysFlat env := by
  intro n t hl hk names hn m hm u hu
  unfold Env.lookup at hl
  cases hf : env.types.find? (·.1 == n) with
  | none => simp [hf] at hl
  | some e =>
    simp only [hf, Option.map_some, Option.some.injEq] at hl
    subst hl
    have h1 := List.all_eq_true.1 h e (List.mem_of_find?_eq_some hf)
    simp only [hk, bne_self_eq_false, Bool.false_or, hn] at h1
    have h2 := List.all_eq_true.1 h1 m hm
    simpa [hu] using h2

theorem nullableTrueB_sound (cs : List Cn) (h : nullableTrueB cs = true) : NullableTrue cs := by
  intro b hb
  simpa using List.all_eq_true.1 h _ hb

theorem constUnique_of_count (cs : List Cn) (h : constCount cs ≤ 1) : ConstUnique cs := by
  induction cs with
  | nil => intro v hv; simp at hv
  | cons c cs ih =>
    intro v hv
    by_cases hc : c.ty = 25
    · -- the head is the only `const`
      have hcnt : constCount cs = 0 := by
        unfold constCount at h ⊢
        simp only [List.filter_cons, hc, beq_self_eq_true, if_true, List.length_cons] at h
        omega
      have hnone : ∀ c' ∈ cs, c'.ty ≠ 25 := by
        intro c' hc' h25
        unfold constCount at hcnt
        have : c' ∈ cs.filter fun c => c.ty == 25 := List.mem_filter.2 ⟨hc', by simp [h25]⟩
        rw [List.length_eq_zero_iff.1 hcnt] at this
        simp at this
      rcases List.mem_cons.1 hv with rfl | hv'
      · rfl
      · exact absurd rfl (hnone _ hv')
    · have hcnt : constCount cs ≤ 1 := by
        unfold constCount at h ⊢
        have : (c.ty == 25) = false := by simpa using hc
        simpa only [List.filter_cons, this, Bool.false_eq_true, if_false] using h
      rcases List.mem_cons.1 hv with rfl | hv'
      · exact absurd rfl hc
      · have := ih hcnt v hv'
        rw [this]
        cases c with
        | const b w => exact absurd rfl hc
        | _ => rfl

end CK
