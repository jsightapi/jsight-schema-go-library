import JSight.EnumNoCrash
/-!
Fuel-free big-step semantics of the enum-rule scanner's event stream (`next` iterated until `errEOS`): `OutT`, and
`Out` without the end-of-input rule of `processTail` (a comment that is still open at the end of the text is closed
there). `OutT.head` says what one call of `next` returns in a state with a given stream; the consumers of the stream in
the model, `events` (→ `scanAll`) and `lengthLoop` (→ `length`), are loops over `next` and follow by induction on their
fuel.
-/
namespace EnumScan
open SchemaScan (Cls classify)

/-- `Out s n r`: from state `s` the stream delivers the events `r` (or fails with `r`), after `n` delivered events.
Rules: deliver one queued lexeme; read one byte; fail on a byte; end of input with an empty stack. The `8` is the fuel
`next` gives `dispatch` for handing the byte it reads on to another state (a number state hands a delimiter to `endValue`,
which calls `dispatch` again in state `afterItem` or `endTop`; 2 would do: `good_dispatch`). `OutT` below has the same four rules
and one more; the theorems are about `OutT`, and `Out.toT` embeds this one. -/
inductive Out (content : Array UInt8) (data : Array Cls) : Sc → Nat → M (List Ev) → Prop
  | shift {s : Sc} {t : LexT} {rest : List LexT} {s1 : Sc} {ev : Ev} {n : Nat} {r : M (List Ev)} :
      s.finds = t :: rest → processFound { s with finds := rest } t = .ok (s1, ev) →
      Out content data s1 n r → Out content data s (n + 1) (r.map (ev :: ·))
  | byte {s : Sc} {c : Cls} {s2 : Sc} {n : Nat} {r : M (List Ev)} :
      s.finds = [] → data[s.index]? = some c →
      dispatch content 8 { s with index := s.index + 1 } c data[s.index + 1]? = .ok s2 → s2.index = s.index + 1 →
      Out content data s2 n r → Out content data s n r
  | fail {s : Sc} {c : Cls} {e : Err} :
      s.finds = [] → data[s.index]? = some c →
      dispatch content 8 { s with index := s.index + 1 } c data[s.index + 1]? = .error e → e ≠ .eos →
      Out content data s 0 (.error e)
  | eof {s : Sc} : s.finds = [] → data.size ≤ s.index → s.stack = [] → Out content data s 0 (.ok [])

theorem shiftFound_cons (s : Sc) (t : LexT) (rest : List LexT) (h : s.finds = t :: rest) :
    shiftFound s = (processFound { s with finds := rest } t).map some := by
  unfold shiftFound
  rw [h]
  rfl

theorem next_shift (content : Array UInt8) (data : Array Cls) (nf : Nat) (s : Sc) (t : LexT) (rest : List LexT)
    (h : s.finds = t :: rest) :
    next content data (nf + 1) s = processFound { s with finds := rest } t := by
  rw [next_succ, shiftFound_cons s t rest h]
  cases processFound { s with finds := rest } t <;> rfl

theorem next_byte (content : Array UInt8) (data : Array Cls) (nf : Nat) (s : Sc) (c : Cls)
    (h : s.finds = []) (hc : data[s.index]? = some c) :
    next content data (nf + 1) s =
      (match dispatch content 8 { s with index := s.index + 1 } c data[s.index + 1]? with
       | .error e => .error e
       | .ok s2 => match s2.finds with
         | [] => next content data nf s2
         | t :: rest => processFound { s2 with finds := rest } t) := by
  have hlt : s.index < data.size := by
    rcases Nat.lt_or_ge s.index data.size with h1 | h1
    · exact h1
    · rw [Array.getElem?_eq_none h1] at hc; cases hc
  have hcc : data[s.index]! = c := by
    rw [getElem!_def, hc]
  rw [next_succ]
  simp only [shift_nil h, bind, Except.bind, hlt, if_true, hcc]
  cases hd : dispatch content 8 { s with index := s.index + 1 } c data[s.index + 1]? with
  | error e => rfl
  | ok s2 =>
    simp only []
    cases hf : s2.finds with
    | nil => simp only [shift_nil hf]
    | cons t rest =>
      rw [shiftFound_cons s2 t rest hf]
      simp only []
      cases processFound { s2 with finds := rest } t <;> rfl

theorem next_eof (content : Array UInt8) (data : Array Cls) (nf : Nat) (s : Sc)
    (h : s.finds = []) (hi : data.size ≤ s.index) (hs : s.stack = []) :
    next content data (nf + 1) s = .error .eos := by
  have hn : ¬ s.index < data.size := by omega
  rw [next_succ]
  simp only [shift_nil h, bind, Except.bind, hn, if_false]
  unfold tailE
  rw [hs]
  rfl

/-- `Out` plus rule `tail`: at the end of input with a non-empty stack `processTail` delivers one closing event -/
inductive OutT (content : Array UInt8) (data : Array Cls) : Sc → Nat → M (List Ev) → Prop
  | shift {s : Sc} {t : LexT} {rest : List LexT} {s1 : Sc} {ev : Ev} {n : Nat} {r : M (List Ev)} :
      s.finds = t :: rest → processFound { s with finds := rest } t = .ok (s1, ev) →
      OutT content data s1 n r → OutT content data s (n + 1) (r.map (ev :: ·))
  | byte {s : Sc} {c : Cls} {s2 : Sc} {n : Nat} {r : M (List Ev)} :
      s.finds = [] → data[s.index]? = some c →
      dispatch content 8 { s with index := s.index + 1 } c data[s.index + 1]? = .ok s2 → s2.index = s.index + 1 →
      OutT content data s2 n r → OutT content data s n r
  | fail {s : Sc} {c : Cls} {e : Err} :
      s.finds = [] → data[s.index]? = some c →
      dispatch content 8 { s with index := s.index + 1 } c data[s.index + 1]? = .error e → e ≠ .eos →
      OutT content data s 0 (.error e)
  | eof {s : Sc} : s.finds = [] → data.size ≤ s.index → s.stack = [] → OutT content data s 0 (.ok [])
  | tail {s : Sc} {s1 : Sc} {ev : Ev} {n : Nat} {r : M (List Ev)} :
      s.finds = [] → data.size ≤ s.index → tailE data s = .ok (s1, ev) →
      OutT content data s1 n r → OutT content data s (n + 1) (r.map (ev :: ·))

theorem next_tail (content : Array UInt8) (data : Array Cls) (nf : Nat) (s : Sc)
    (h : s.finds = []) (hi : data.size ≤ s.index) :
    next content data (nf + 1) s = tailE data s := by
  have hn : ¬ s.index < data.size := by omega
  rw [next_succ]
  simp only [shift_nil h, bind, Except.bind, hn, if_false]

/-- what one call of `next` returns in a state whose stream is `n`, `r` -/
inductive Head (content : Array UInt8) (data : Array Cls) (x : M (Sc × Ev)) : Nat → M (List Ev) → Prop
  | stop : x = .error .eos → Head content data x 0 (.ok [])
  | err {e : Err} : x = .error e → e ≠ .eos → Head content data x 0 (.error e)
  | ev {s1 : Sc} {ev : Ev} {n : Nat} {r : M (List Ev)} :
      x = .ok (s1, ev) → OutT content data s1 n r → Head content data x (n + 1) (r.map (ev :: ·))

/-- `next` along an `OutT` derivation: the bytes that queue nothing are read inside the one call. Every consumer of
the stream (`events`, `lengthLoop`, `EnumRoute.compileLoop`) is a loop over `next` and follows by induction on its
fuel from this. The bound: `next` spends one unit of its fuel per byte read, and reads at most the `size - index` bytes
that are left before it answers; the consumers pass `2 * data.size + 16`, which is more than that in every state. -/
theorem OutT.head {content : Array UInt8} {data : Array Cls} {s : Sc} {n : Nat} {r : M (List Ev)}
    (h : OutT content data s n r) : ∀ nf, data.size - s.index < nf → Head content data (next content data nf s) n r := by
  induction h with
  | @shift s t rest s1 ev n r hf hp ho _ =>
    intro nf hnf
    obtain ⟨nf, rfl⟩ : ∃ k, nf = k + 1 := ⟨nf - 1, by omega⟩
    exact .ev ((next_shift content data nf s t rest hf).trans hp) ho
  | @byte s c s2 n r hf hc hd hi _ ih =>
    intro nf hnf
    have hlt : s.index < data.size := by
      rcases Nat.lt_or_ge s.index data.size with h1 | h1
      · exact h1
      · rw [Array.getElem?_eq_none h1] at hc; cases hc
    obtain ⟨nf, rfl⟩ : ∃ k, nf = k + 1 := ⟨nf - 1, by omega⟩
    rw [next_byte content data nf s c hf hc, hd]
    simp only []
    cases hf2 : s2.finds with
    | nil => exact ih nf (by omega)
    | cons t rest =>
      simp only []
      rw [← next_shift content data data.size s2 t rest hf2]
      exact ih (data.size + 1) (by omega)
  | @fail s c e hf hc hd hne =>
    intro nf hnf
    obtain ⟨nf, rfl⟩ : ∃ k, nf = k + 1 := ⟨nf - 1, by omega⟩
    exact .err (by rw [next_byte content data nf s c hf hc, hd]) hne
  | @eof s hf hi hs =>
    intro nf hnf
    obtain ⟨nf, rfl⟩ : ∃ k, nf = k + 1 := ⟨nf - 1, by omega⟩
    exact .stop (next_eof content data nf s hf hi hs)
  | @tail s s1 ev n r hf hi ht ho _ =>
    intro nf hnf
    obtain ⟨nf, rfl⟩ : ∃ k, nf = k + 1 := ⟨nf - 1, by omega⟩
    exact .ev ((next_tail content data nf s hf hi).trans ht) ho

theorem OutT_events_acc (content : Array UInt8) (data : Array Cls) : ∀ (fuel : Nat) {s : Sc} {n : Nat} {r : M (List Ev)}
    (acc : List Ev), OutT content data s n r → n < fuel → events content data fuel s acc = r.map (acc.reverse ++ ·)
  | 0, _, _, _, _, _, hfu => by omega
  | fuel + 1, s, n, r, acc, h, hfu => by
    unfold events
    cases h.head (2 * data.size + 16) (by omega) with
    | stop hx => rw [hx]; simp [Except.map, pure, Except.pure]
    | @err e hx hne => rw [hx]; cases e <;> first | rfl | exact absurd rfl hne
    | @ev s1 ev n r hx ho =>
      rw [hx]
      simp only []
      rw [OutT_events_acc content data fuel (ev :: acc) ho (by omega)]
      cases r <;> simp [Except.map]

theorem OutT_events (content : Array UInt8) (data : Array Cls) {s : Sc} {n : Nat} {r : M (List Ev)}
    (h : OutT content data s n r) (fuel : Nat) (hfu : n < fuel) :
    events content data fuel s [] = r := by
  rw [OutT_events_acc content data fuel [] h hfu]
  cases r <;> simp [Except.map]

theorem OutT_lengthLoop (content : Array UInt8) (data : Array Cls) : ∀ {s : Sc} {n : Nat} {r : M (List Ev)}
    (_ : OutT content data s n r) (fuel : Nat) (_ : n < fuel) (len : Nat),
    lengthLoop content data fuel s len
      = r.map (fun evs => evs.foldl (fun _ e => if e.e ≥ data.size then data.size else e.e + 1) len)
  | _, _, _, _, 0, hfu, _ => by omega
  | s, n, r, h, fuel + 1, hfu, len => by
    unfold lengthLoop
    cases h.head (2 * data.size + 16) (by omega) with
    | stop hx => rw [hx]; rfl
    | @err e hx hne => rw [hx]; cases e <;> first | rfl | exact absurd rfl hne
    | @ev s1 ev n r hx ho =>
      rw [hx]
      simp only []
      rw [OutT_lengthLoop content data ho fuel (by omega)]
      cases r <;> rfl

variable {content : Array UInt8} {data : Array Cls}

theorem Out.toT {s : Sc} {n : Nat} {r : M (List Ev)} (h : Out content data s n r) : OutT content data s n r := by
  induction h with
  | shift hf hp _ ih => exact OutT.shift hf hp ih
  | byte hf hc hd hi _ ih => exact OutT.byte hf hc hd hi ih
  | fail hf hc hd hne => exact OutT.fail hf hc hd hne
  | eof hf hi hs => exact OutT.eof hf hi hs

/-- the events of `scanAll`'s loop from a state with semantics `Out` -/
theorem Out_events (content : Array UInt8) (data : Array Cls) {s : Sc} {n : Nat} {r : M (List Ev)}
    (h : Out content data s n r) (fuel : Nat) (hfu : n < fuel) :
    events content data fuel s [] = r :=
  OutT_events content data h.toT fuel hfu

theorem Out_lengthLoop (content : Array UInt8) (data : Array Cls) {s : Sc} {n : Nat} {r : M (List Ev)}
    (h : Out content data s n r) (fuel : Nat) (hfu : n < fuel) (len : Nat) :
    lengthLoop content data fuel s len
      = r.map (fun evs => evs.foldl (fun _ e => if e.e ≥ data.size then data.size else e.e + 1) len) :=
  OutT_lengthLoop content data h.toT fuel hfu len

end EnumScan
