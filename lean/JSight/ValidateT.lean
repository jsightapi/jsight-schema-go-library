import JSight.ValidateNProofs
/-!
C01/C03: the validator tree *as the Go code keeps it* — children of one position share one
parent validator object, a finished child "steps back" to the parent, which becomes a leaf once (fix F-11) —
against the union semantics.  State = a forest of tries of frames; a node is fed only while it is a leaf.
-/
namespace VN
variable {L D : Type}

inductive FeedRes (L : Type)
  | fail | done | stay (f : Frame L) | kids (f : Frame L) (hs : List (Frame L))

/-- one validator object fed one lexeme (`validator.feed`) -/
def feed1 (litOK : L → D → Bool) : Frame L → Ev D → FeedRes L
  | .lit l, e =>
    match e with
    | .litB => .stay (.lit l)
    | .litE d => if litOK l d then .done else .fail
    | _ => .fail
  | .any d, e =>
    if (if e.isOpening then d + 1 else d - 1) == 0 then .done else .stay (.any (if e.isOpening then d + 1 else d - 1))
  | .arr items c, e =>
    match e with
    | .arrB | .itemE => .stay (.arr items c)
    | .itemB => match childAt items c with
      | some s => .kids (.arr items (c + 1)) (heads s)
      | none => .fail
    | .arrE => .done
    | _ => .fail
  | .obj props req last, e =>
    match e with
    | .objB | .keyB | .valE => .stay (.obj props req last)
    | .keyE k => .stay (.obj props (req.filter (· != k)) (some k))
    | .valB => match last with
      | some k => match lookup props k with
        | some s => .kids (.obj props req last) (heads s)
        | none => .fail
      | none => .fail
    | .objE => if req.isEmpty then .done else .fail
    | _ => .fail

/-- a validator object with its live flag (is it in `Tree.leaves`?) and the validators whose parent it is -/
inductive T (L : Type)
  | node (f : Frame L) (live : Bool) (kids : List (T L))

def leafT (f : Frame L) : T L := .node f true []

/-- what happens to the node's own validator in this round: (validator, still a leaf, new children, finished) -/
def own (litOK : L → D → Bool) (f : Frame L) (live : Bool) (e : Ev D) : Frame L × Bool × List (Frame L) × Bool :=
  if live then
    match feed1 litOK f e with
    | .fail => (f, false, [], false)
    | .done => (f, false, [], true)
    | .stay f' => (f', true, [], false)
    | .kids f' hs => (f', false, hs, false)
  else (f, false, [], false)

/-- put the node together again: a finished child makes the parent a leaf (once: F-11); a node that is neither a
leaf nor a parent is garbage -/
def assemble (o : Frame L × Bool × List (Frame L) × Bool) (k : List (T L) × Bool) : Option (T L) × Bool :=
  if o.2.2.2 then (none, true)
  else if !(o.2.1 || k.2) && (k.1 ++ o.2.2.1.map leafT).isEmpty then (none, false)
  else (some (.node o.1 (o.2.1 || k.2) (k.1 ++ o.2.2.1.map leafT)), false)

mutual
/-- one round (`FeedLeaves`) seen from one subtree: the new subtree and "my root has finished" -/
def stepT (litOK : L → D → Bool) : T L → Ev D → Option (T L) × Bool
  | .node f live kids, e => assemble (own litOK f live e) (stepG litOK kids e)
/-- the children of one parent (or the roots): survivors and "some child stepped back to the parent" -/
def stepG (litOK : L → D → Bool) : List (T L) → Ev D → List (T L) × Bool
  | [], _ => ([], false)
  | t :: ts, e =>
    ((match (stepT litOK t e).1 with | some x => x :: (stepG litOK ts e).1 | none => (stepG litOK ts e).1),
      (stepT litOK t e).2 || (stepG litOK ts e).2)
end

/-- run a group of siblings; `none` when one of them steps back before the last lexeme -/
def runQ (litOK : L → D → Bool) : List (T L) → List (Ev D) → Option (List (T L) × Bool)
  | g, [] => some (g, false)
  | g, e :: es =>
    if es.isEmpty then some (stepG litOK g e)
    else if (stepG litOK g e).2 then none else runQ litOK (stepG litOK g e).1 es

/-- `Validate` with the shared-parent tree: some root alternative finishes, and none before the last lexeme -/
def validateT (litOK : L → D → Bool) (s : S L) (d : J D) : Bool :=
  match runQ litOK ((heads s).map leafT) (evs d) with
  | some (_, b) => b
  | none => false

end VN
