import JSight.Utf8Unquote
import Mathlib.Tactic.Ring
/-!
C02 proofs: the model `RulesF.litOKFull` (every scalar rule, as the Go code does them) accepts exactly what the
spec `RulesF.Accepts` says, for every rule set over scalar tokens and every scalar token of a JSON document.
-/
namespace RulesF
open Rules (Kind)

/-! ### numerals -/

theorem toCh_valid (bs : Bytes) : ∀ c ∈ toCh bs, Num.ValidCh c := by
  intro c hc
  simp only [toCh, List.mem_map] at hc
  obtain ⟨b, _, rfl⟩ := hc
  repeat' split
  all_goals first | trivial | skip
  rename_i h
  simp only [Bool.and_eq_true, decide_eq_true_eq] at h
  show b.toNat - 48 < 10
  have : b.toNat ≤ 57 := by simpa using (UInt8.le_iff_toNat_le.1 h.2)
  omega

def numByte (c : UInt8) : Bool :=
  c == 45 || c == 43 || c == 46 || c == 101 || c == 69 || (48 ≤ c && c ≤ 57)

theorem toCh_one_other (c : UInt8) (h : numByte c = false) : toCh [c] = [.other] := by
  simp only [numByte, Bool.or_eq_false_iff, beq_eq_false_iff_ne, ne_eq, Bool.and_eq_false_iff,
    decide_eq_false_iff_not] at h
  obtain ⟨⟨⟨⟨⟨g1, g2⟩, g3⟩, g4⟩, g5⟩, g6⟩ := h
  have g7 : ¬ (48 ≤ c ∧ c ≤ 57) := fun h => g6.elim (· h.1) (· h.2)
  simp [toCh, g1, g2, g3, g4, g5, g7]

theorem render_no_other (t : Num.Numeral) : Num.Ch.other ∉ t.render := by
  intro h
  unfold Num.Numeral.render at h
  simp only [List.mem_append, List.mem_cons, List.mem_map] at h
  rcases h with ((h | h) | h) | h
  · split at h <;> simp at h
  · rcases h with h | ⟨_, _, h⟩ <;> cases h
  · cases hf : t.frac with
    | none => rw [hf] at h; simp [Num.fracChars] at h
    | some p => rw [hf] at h; obtain ⟨f, fs⟩ := p; simp [Num.fracChars] at h
  · cases he : t.exp with
    | none => rw [he] at h; simp [Num.expChars] at h
    | some p =>
      rw [he] at h
      obtain ⟨s, d, ds⟩ := p
      cases s with
      | none => simp [Num.expChars] at h
      | some b => cases b <;> simp [Num.expChars] at h

theorem numeral_bytes (bs : Bytes) (h : IsNumeral bs) : ∀ c ∈ bs, numByte c = true := by
  obtain ⟨t, _, _, e⟩ := h
  have hno : Num.Ch.other ∉ toCh bs := by
    rw [e]; exact render_no_other t
  intro c hc
  by_contra hn
  have hn' : numByte c = false := by simpa using hn
  apply hno
  have := toCh_one_other c hn'
  simp only [toCh, List.map_cons, List.map_nil, List.cons.injEq, and_true] at this
  simp only [toCh, List.mem_map]
  exact ⟨c, hc, this⟩

theorem numeral_ne_nil (bs : Bytes) (h : IsNumeral bs) : bs ≠ [] := by
  obtain ⟨t, _, _, e⟩ := h
  intro hb
  rw [hb] at e
  have : t.render ≠ [] := by
    unfold Num.Numeral.render
    cases t.neg <;> simp
  exact this e.symm

theorem numeral_scan (bs : Bytes) (h : IsNumeral bs) : ∃ n, number bs = some n := by
  obtain ⟨t, hw, hz, e⟩ := h
  have := Num.scan_total t hw hz
  unfold number
  rw [e]
  exact Option.isSome_iff_exists.1 this


theorem numByte_facts (c : UInt8) (h : numByte c = true) :
    c ≠ 34 ∧ c ≠ 110 ∧ c ≠ 116 ∧ c ≠ 102 ∧ isBlank c = false := by
  refine ⟨?_, ?_, ?_, ?_, ?_⟩ <;> (try (intro e; subst e; revert h; decide))
  unfold numByte at h
  unfold isBlank
  simp only [Bool.or_eq_true, Bool.and_eq_true, beq_iff_eq, decide_eq_true_eq] at h
  rcases h with ((((h | h) | h) | h) | h) | h <;> (try (subst h; decide))
  have h1 := UInt8.le_iff_toNat_le.1 h.1
  have h2 := UInt8.le_iff_toNat_le.1 h.2
  simp only [UInt8.reduceToNat] at h1 h2
  have : ∀ k : UInt8, k.toNat < 48 → (c == k) = false := by
    intro k hk
    simp only [beq_eq_false_iff_ne, ne_eq]
    intro e; subst e; omega
  simp [this]

/-- the first byte of a numeral -/
theorem numeral_head (bs : Bytes) (h : IsNumeral bs) : ∃ c rest, bs = c :: rest ∧ numByte c = true := by
  cases bs with
  | nil => exact absurd rfl (numeral_ne_nil _ h)
  | cons c rest => exact ⟨c, rest, rfl, numeral_bytes _ h c (by simp)⟩

theorem numeral_not_quoted (bs : Bytes) (h : IsNumeral bs) : Unquote.inQuotes bs = false := by
  obtain ⟨c, rest, rfl, hc⟩ := numeral_head bs h
  have := (numByte_facts c hc).1
  simp [Unquote.inQuotes, this]

theorem numeral_not_word (bs : Bytes) (h : IsNumeral bs) : bs ≠ sTrue ∧ bs ≠ sFalse ∧ bs ≠ sNull := by
  obtain ⟨c, rest, rfl, hc⟩ := numeral_head bs h
  obtain ⟨_, h1, h2, h3, _⟩ := numByte_facts c hc
  refine ⟨?_, ?_, ?_⟩ <;> intro e <;> simp [sTrue, sFalse, sNull] at e <;> simp_all

theorem scan_other (cs : List Num.Ch) : Num.scan (.other :: cs) = none := by
  simp [Num.scan, Num.Sc.step]

theorem number_str (cs : List SCh) : number (STok.str cs).bytes = none := by
  rw [str_bytes]; unfold number
  have : toCh (34 :: (bytesOf cs ++ [34])) = .other :: toCh (bytesOf cs ++ [34]) := by simp [toCh]
  rw [this, scan_other]

theorem number_words : number sNull = none ∧ number sTrue = none ∧ number sFalse = none :=
  ⟨scan_other _, scan_other _, scan_other _⟩


/-- `Cmp` of the two normal forms is the exact comparison of the two denoted values -/
theorem cmp_value (a b : Bytes) (x y : Num.N) (ha : number a = some x) (hb : number b = some y) :
    x.cmp y = Num.cmpDen (value a) (value b) :=
  Num.C10_cmp_exact _ _ (toCh_valid a) (toCh_valid b) x y ha hb

/-- `FracDigitsLE p` is a property of the value: it can be written with `p` fractional digits -/
theorem fracDigitsLE_iff (p : Nat) (d : Num.Den) :
    FracDigitsLE p d ↔ ∃ z : Int, Num.dval z p = Num.dval d.mant d.t :=
  exists_congr fun z => by rw [Num.dval_eq_iff_spec, eq_comm]

/-- `LengthOfFractionalPart ≤ p` iff the denoted value times `10^p` is an integer -/
theorem fracLen_value (bs : Bytes) (n : Num.N) (h : number bs = some n) (p : Nat) :
    n.exp ≤ p ↔ FracDigitsLE p (value bs) := by
  obtain ⟨_, hv, _⟩ := Num.scan_spec _ (toCh_valid bs) n h
  rw [Num.C10_fracLen _ (toCh_valid bs) n h p, fracDigitsLE_iff, value, ← (Num.dval_eq_iff_spec _ _ _ _).2 hv]
  exact exists_congr fun z => by rw [Num.dval_eq_iff_nat, eq_comm]


/-! ### the kind of a token -/

theorem tokKind_fun (tok : STok) (k k' : Kind) (h : tokKind tok k) (h' : tokKind tok k') : k' = k := by
  cases tok <;> simp only [tokKind] at h h' <;> try (rw [h, h'])
  rename_i bs
  split at h
  · rename_i hc; rw [if_pos hc] at h'; rw [h, h']
  · rename_i hc; rw [if_neg hc] at h'
    rcases h with ⟨a, rfl⟩ | ⟨a, rfl⟩ <;> rcases h' with ⟨b, rfl⟩ | ⟨b, rfl⟩ <;> first | rfl | exact absurd a b | exact absurd b a

theorem kind_wf (tok : STok) (h : tok.WF) : ∃ k, kindOfTok tok.bytes = some k ∧ tokKind tok k := by
  cases tok with
  | null => exact ⟨.n, by decide, rfl⟩
  | tru => exact ⟨.b, by decide, rfl⟩
  | fls => exact ⟨.b, by decide, rfl⟩
  | str cs => exact ⟨.s, by unfold kindOfTok; rw [str_inQuotes]; rfl, rfl⟩
  | num bs =>
    have hq := numeral_not_quoted bs h
    obtain ⟨w1, w2, w3⟩ := numeral_not_word bs h
    obtain ⟨n, hn⟩ := numeral_scan bs h
    have hk : kindOfTok bs = if hasDot bs && !hasExp bs then some .f else if n.exp == 0 then some .i else some .f := by
      unfold kindOfTok
      simp [hq, w1, w2, w3, hn]
    simp only [STok.bytes, tokKind, hk]
    have hf := fracLen_value bs n hn 0
    by_cases hd : (hasDot bs && !hasExp bs) = true
    · exact ⟨.f, by rw [if_pos hd], by rw [if_pos hd]⟩
    · by_cases he : n.exp = 0
      · refine ⟨.i, by rw [if_neg hd]; simp [he], ?_⟩
        rw [if_neg hd]; exact Or.inl ⟨hf.1 (by omega), rfl⟩
      · refine ⟨.f, by rw [if_neg hd]; simp [he], ?_⟩
        rw [if_neg hd]; exact Or.inr ⟨fun hc => he (by have := hf.2 hc; omega), rfl⟩

/-- the kind of a number token is integer or float -/
theorem tokKind_num (bs : Bytes) (k : Kind) (h : tokKind (.num bs) k) : k = .i ∨ k = .f := by
  simp only [tokKind] at h
  split at h
  · exact Or.inr h
  · rcases h with ⟨_, rfl⟩ | ⟨_, rfl⟩ <;> simp


/-! ### first bytes, trimming -/

/-- which of the five token forms -/
def STok.form : STok → Nat
  | .null => 0 | .tru => 1 | .fls => 2 | .str _ => 3 | .num _ => 4

theorem bytes_head (tok : STok) (h : tok.WF) : ∃ c r, tok.bytes = c :: r ∧
    (match tok with
     | .null => c = 110 | .tru => c = 116 | .fls => c = 102 | .str _ => c = 34 | .num _ => numByte c = true) := by
  cases tok with
  | null => exact ⟨110, _, rfl, rfl⟩
  | tru => exact ⟨116, _, rfl, rfl⟩
  | fls => exact ⟨102, _, rfl, rfl⟩
  | str cs => exact ⟨34, _, rfl, rfl⟩
  | num bs => obtain ⟨c, r, e, hc⟩ := numeral_head bs h; exact ⟨c, r, e, hc⟩

theorem bytes_ne (a b : STok) (ha : a.WF) (hb : b.WF) (hne : a.form ≠ b.form) : a.bytes ≠ b.bytes := by
  obtain ⟨c, r, e, hc⟩ := bytes_head a ha
  obtain ⟨c', r', e', hc'⟩ := bytes_head b hb
  intro heq
  rw [e, e'] at heq
  have hcc : c = c' := (List.cons.inj heq).1
  subst hcc
  cases a <;> cases b <;> simp only [STok.form, ne_eq, not_true_eq_false] at hne <;> simp only at hc hc' <;>
    first
    | (rw [hc] at hc'; revert hc'; decide)
    | (have := numByte_facts c hc; simp_all)
    | (have := numByte_facts c hc'; simp_all)

theorem trim_id (b : Bytes) (h1 : ∀ c, b.head? = some c → isBlank c = false)
    (h2 : ∀ c, b.getLast? = some c → isBlank c = false) : trimSpaces b = b := by
  unfold trimSpaces
  cases b with
  | nil => rfl
  | cons c r =>
    have hc := h1 c rfl
    have d1 : List.dropWhile isBlank (c :: r) = c :: r := by simp [List.dropWhile, hc]
    rw [d1]
    cases hr : (c :: r).reverse with
    | nil => simp at hr
    | cons l m =>
      have hl : (c :: r).getLast? = some l := by
        rw [← List.head?_reverse, hr]; rfl
      have := h2 l hl
      have d2 : List.dropWhile isBlank (l :: m) = l :: m := by simp [List.dropWhile, this]
      rw [d2, ← hr, List.reverse_reverse]

theorem trim_wf (tok : STok) (h : tok.WF) : trimSpaces tok.bytes = tok.bytes := by
  cases tok with
  | null => decide
  | tru => decide
  | fls => decide
  | str cs =>
    apply trim_id
    · intro c hc; rw [str_bytes] at hc; simp at hc; subst hc; decide
    · intro c hc
      rw [str_bytes, ← List.cons_append, List.getLast?_append] at hc
      simp at hc; subst hc; decide
  | num bs =>
    have hb := numeral_bytes bs h
    apply trim_id
    · intro c hc
      exact (numByte_facts c (hb c (List.mem_of_mem_head? hc))).2.2.2.2
    · intro c hc
      exact (numByte_facts c (hb c (List.mem_of_mem_getLast? hc))).2.2.2.2

/-- what `NewEnumItem` keeps of a token: the decoded text of a string, the source text of anything else -/
def payload : STok → Bytes
  | .str cs => text cs
  | t => t.bytes

theorem enumItem_wf (tok : STok) (h : tok.WF) :
    ∃ k, tokKind tok k ∧ kindOfTok tok.bytes = some k ∧ enumItem tok.bytes = some (payload tok, k) := by
  obtain ⟨k, hk, ht⟩ := kind_wf tok h
  refine ⟨k, ht, hk, ?_⟩
  unfold enumItem
  simp only [trim_wf tok h, hk]
  cases tok with
  | str cs =>
    have : k = .s := ht
    subst this
    simp [payload, unquote_str cs h]
  | null => have : k = .n := ht; subst this; rfl
  | tru => have : k = .b := ht; subst this; rfl
  | fls => have : k = .b := ht; subst this; rfl
  | num bs =>
    rcases tokKind_num bs k ht with rfl | rfl <;> rfl


/-! ### rule by rule -/

/-- only number tokens scan as numbers -/
theorem number_nonnum (tok : STok) (hn : tok.form ≠ 4) : number tok.bytes = none := by
  cases tok with
  | null => exact number_words.1
  | tru => exact number_words.2.1
  | fls => exact number_words.2.2
  | str cs => exact number_str cs
  | num bs => exact absurd rfl hn

theorem ord_ne (o : Ordering) (x : Ordering) : (o != x) = true ↔ o ≠ x := by
  cases o <;> cases x <;> decide

/-- the bound and precision rules: only a number token can satisfy them, by its exact value -/
theorem number_rule_iff (o : Oracles) (ex tok : STok) (ht : tok.WF) (r : SRule) (hw : r.WF)
    (hr : match r with | .min _ _ | .max _ _ | .precision _ => True | _ => False) :
    ruleOK o ex.bytes tok.bytes r.toModel = true ↔ Sat o ex r tok := by
  have hnn := number_nonnum tok
  cases tok with
  | num v =>
    obtain ⟨n, hn⟩ := numeral_scan v ht
    cases r with
    | min b x | max b x =>
      obtain ⟨m, hm⟩ := numeral_scan b hw
      simp only [SRule.toModel, ruleOK, STok.bytes, hn, hm, Sat, SatWith, ← cmp_value b v m n hm hn]
      cases x <;> simp
    | precision p =>
      simp only [SRule.toModel, ruleOK, STok.bytes, hn, Sat, SatWith, decide_eq_true_eq]
      exact fracLen_value v n hn p
    | _ => exact hr.elim
  | _ => cases r <;> first | exact hr.elim | simp [SRule.toModel, ruleOK, hnn (by simp [STok.form]), Sat, SatWith]

theorem email_iff (o : Oracles) (s : Bytes) : emailOK o s = true ↔ EmailSat o s := by
  unfold emailOK EmailSat
  cases s with
  | nil => simp
  | cons c r =>
    cases hl : (c :: r).getLast? with
    | none => simp at hl
    | some l =>
      simp only [List.head?_cons, ne_eq, reduceCtorEq, not_false_eq_true, true_and, Option.some.injEq,
        Bool.and_eq_true, Bool.not_eq_true', Bool.or_eq_false_iff, beq_eq_false_iff_ne]
      constructor
      · rintro ⟨⟨⟨h1, h2⟩, h3, h4⟩, h5⟩; exact ⟨h1, h2, h3, h4, h5⟩
      · rintro ⟨h1, h2, h3, h4, h5⟩; exact ⟨⟨⟨h1, h2⟩, h3, h4⟩, h5⟩

theorem fmt_iff (o : Oracles) (f : Fmt) (s : Bytes) : fmtOK o f s = true ↔ FmtSat o f s := by
  cases f <;> simp only [fmtOK, FmtSat]
  exact email_iff o s

/-- the rules that read their token as a string, whatever it is: on a number the model would measure its source text -/
def SRule.onString : SRule → Prop
  | .minLength _ | .maxLength _ | .regex _ | .fmt _ => True
  | _ => False

/-- the length / regex / format rules on a string token -/
theorem string_rule_iff (o : Oracles) (ex : STok) (cs : List SCh) (ht : (STok.str cs).WF) (r : SRule) (hr : r.onString) :
    ruleOK o ex.bytes (STok.str cs).bytes r.toModel = true ↔ Sat o ex r (.str cs) := by
  have hu := unquote_str cs ht
  cases r <;> first | exact False.elim hr | simp only [SRule.toModel, ruleOK, hu, Sat, SatWith, decide_eq_true_eq]
  exact fmt_iff o _ _

theorem tokKind_s (tok : STok) (h : tokKind tok .s) : ∃ cs, tok = .str cs := by
  cases tok with
  | str cs => exact ⟨cs, rfl⟩
  | null => cases h
  | tru => cases h
  | fls => cases h
  | num bs => rcases tokKind_num bs _ h with h | h <;> cases h

theorem tokKind_n (tok : STok) (h : tokKind tok .n) : tok = .null := by
  cases tok with
  | null => rfl
  | str cs => cases h
  | tru => cases h
  | fls => cases h
  | num bs => rcases tokKind_num bs _ h with h | h <;> cases h

/-- **enum** is type-sensitive: a token of another form equals no item -/
theorem enum_type_sensitive (a b : STok) (h : a.form ≠ b.form) : ¬ EnumEq a b := by
  cases a <;> cases b <;> simp [STok.form] at h <;> simp [EnumEq]

theorem payload_bytes (t : STok) (k : Kind) (h : tokKind t k) (hk : k ≠ .s) : payload t = t.bytes := by
  cases t <;> first | rfl | exact absurd h hk

/-- two items are the same `(value, jsonType)` pair exactly when they are equal as enum values -/
theorem enumItem_eq_iff (a b : STok) (ha : a.WF) (hb : b.WF) :
    enumItem a.bytes = enumItem b.bytes ↔ EnumEq a b := by
  obtain ⟨ka, ta, _, ea⟩ := enumItem_wf a ha
  obtain ⟨kb, tb, _, eb⟩ := enumItem_wf b hb
  rw [ea, eb]
  simp only [Option.some.injEq, Prod.mk.injEq]
  by_cases hf : a.form = b.form
  · cases a <;> cases b <;> simp only [STok.form] at hf <;> try omega
    -- `null`, `true`, `false`: one token each
    · exact ⟨fun _ => trivial, fun _ => ⟨rfl, ta.trans tb.symm⟩⟩
    · exact ⟨fun _ => trivial, fun _ => ⟨rfl, ta.trans tb.symm⟩⟩
    · exact ⟨fun _ => trivial, fun _ => ⟨rfl, ta.trans tb.symm⟩⟩
    -- strings: the decoded text
    · exact ⟨fun h => h.1, fun h => ⟨h, ta.trans tb.symm⟩⟩
    -- numbers: the spelling, which also fixes integer or float
    · exact ⟨fun h => h.1, fun h => by cases h; exact ⟨rfl, tokKind_fun _ _ _ tb ta⟩⟩
  · -- different forms: equal kinds leave only `true` against `false`, whose texts differ
    refine ⟨?_, fun h => absurd h (enum_type_sensitive a b hf)⟩
    rintro ⟨hp, rfl⟩
    by_cases hk : ka = .s
    · obtain ⟨x, rfl⟩ := tokKind_s a (hk ▸ ta)
      obtain ⟨y, rfl⟩ := tokKind_s b (hk ▸ tb)
      exact absurd rfl hf
    · rw [payload_bytes a ka ta hk, payload_bytes b ka tb hk] at hp
      exact absurd hp (bytes_ne a b ha hb hf)

theorem enum_iff (o : Oracles) (ex : STok) (items : List STok) (hi : ∀ it ∈ items, it.WF) (tok : STok) (ht : tok.WF) :
    ruleOK o ex.bytes tok.bytes (SRule.enum items).toModel = true ↔ Sat o ex (.enum items) tok := by
  obtain ⟨k, _, _, e⟩ := enumItem_wf tok ht
  simp only [SRule.toModel, ruleOK, e, Sat, SatWith, List.any_map, List.any_eq_true, Function.comp, beq_iff_eq]
  constructor
  · rintro ⟨it, hm, h⟩
    exact ⟨it, hm, (enumItem_eq_iff it tok (hi it hm) ht).1 (by rw [h, e])⟩
  · rintro ⟨it, hm, h⟩
    exact ⟨it, hm, by rw [(enumItem_eq_iff it tok (hi it hm) ht).2 h, e]⟩

theorem inQuotes_wf (tok : STok) (h : tok.WF) : Unquote.inQuotes tok.bytes = (tok.form == 3) := by
  cases tok with
  | null => decide
  | tru => decide
  | fls => decide
  | str cs => rw [str_inQuotes]; rfl
  | num bs => rw [show (STok.num bs).bytes = bs from rfl, numeral_not_quoted bs h]; rfl

theorem sameValue_form (a b : STok) (h : SameValue a b) : a.form = b.form := by
  cases a <;> cases b <;> first | rfl | cases h

/-- `sameJSONValue` is equality of the two tokens' values -/
theorem const_iff (a b : STok) (ha : a.WF) (hb : b.WF) : sameJSONValue a.bytes b.bytes = true ↔ SameValue a b := by
  unfold sameJSONValue
  rw [inQuotes_wf a ha, inQuotes_wf b hb]
  by_cases hf : a.form = b.form
  · cases a <;> cases b <;> simp only [STok.form] at hf <;> try omega
    · simp [STok.form, STok.bytes, number_words.1, SameValue]
    · simp [STok.form, STok.bytes, number_words.2.1, SameValue]
    · simp [STok.form, STok.bytes, number_words.2.2, SameValue]
    · rename_i x y
      simp [STok.form, unquote_str x ha, unquote_str y hb, SameValue]
    · rename_i x y
      obtain ⟨n, hn⟩ := numeral_scan x ha
      obtain ⟨m, hm⟩ := numeral_scan y hb
      simp only [STok.form, STok.bytes, hn, hm, ← cmp_value x y n m hn hm, SameValue]
      simp
  · -- different forms: not both quoted, not both numbers, and the source texts differ
    have hbq : (a.form == 3 && b.form == 3) = false :=
      Bool.eq_false_iff.2 fun h => hf (by simp only [Bool.and_eq_true, beq_iff_eq] at h; exact h.1.trans h.2.symm)
    have hnum : number a.bytes = none ∨ number b.bytes = none := by
      by_cases h4 : a.form = 4
      · exact Or.inr (number_nonnum b (fun e => hf (h4.trans e.symm)))
      · exact Or.inl (number_nonnum a h4)
    rw [hbq]
    simp only [Bool.false_eq_true, if_false]
    refine ⟨fun h => ?_, fun h => absurd (sameValue_form a b h) hf⟩
    rcases hnum with h' | h' <;> rw [h'] at h <;> simp [bytes_ne a b ha hb hf] at h


/-! ### the whole validator -/

theorem hasEnum_toModel (S : SSpec) : hasEnum S.toModel = S.hasEnum := by
  unfold hasEnum SSpec.hasEnum SSpec.toModel
  simp only [List.any_map]
  congr 1
  funext r
  cases r <;> rfl

theorem bytes_null_iff (tok : STok) (h : tok.WF) : tok.bytes = sNull ↔ tok = .null := by
  constructor
  · intro e
    by_contra hn
    have : tok.form ≠ STok.null.form := by cases tok <;> simp [STok.form] at hn ⊢
    exact bytes_ne tok .null h trivial this e
  · rintro rfl; rfl

/-- one rule on one token: the model decides what the specification says, provided a string rule meets a string -/
theorem rule_iff (o : Oracles) (ex tok : STok) (he : ex.WF) (ht : tok.WF) (r : SRule) (hw : r.WF)
    (hs : r.onString → ∃ cs, tok = .str cs) :
    ruleOK o ex.bytes tok.bytes r.toModel = true ↔ Sat o ex r tok := by
  cases r with
  | min b x | max b x | precision p => exact number_rule_iff o ex tok ht _ hw trivial
  | enum items => exact enum_iff o ex items hw tok ht
  | const => exact const_iff tok ex ht he
  | minLength n | maxLength n | regex n | fmt n =>
    obtain ⟨cs, rfl⟩ := hs trivial
    exact string_rule_iff o ex cs ht _ trivial

/-- in an applicable rule set a string rule stands on a string node without `enum`, whose admissible tokens are strings -/
theorem onString_str (S : SSpec) (hA : S.applicable = true) (tok : STok) (hadm : Admissible S tok)
    (r : SRule) (hr : r ∈ S.rules) (hs : r.onString) : ∃ cs, tok = .str cs := by
  unfold SSpec.applicable at hA
  simp only [Bool.and_eq_true, List.all_eq_true, Bool.or_eq_true, Bool.not_eq_true'] at hA
  have hk : S.kind = .s := by have := hA.1 r hr; cases r <;> first | exact hs.elim | simpa [SRule.fits] using this
  have hnoenum : S.hasEnum = false := by
    rcases hA.2 with h | h
    · exact h
    · have := h r hr
      cases r <;> first | exact hs.elim | simp at this
  rcases hadm with h | h | ⟨_, h⟩
  · rw [hnoenum] at h; cases h
  · rw [hk] at h; exact tokKind_s tok h
  · rw [hk] at h; cases h

/-- **C02**: the validator accepts a scalar token iff it is a null admitted by `nullable: true`, or it has an
admissible kind and satisfies every rule -/
theorem accept_iff (o : Oracles) (S : SSpec) (hS : S.WF) (hA : S.applicable = true) (tok : STok) (ht : tok.WF) :
    litOKFull o S.toModel tok.bytes = true ↔ Accepts EnumEq o S tok := by
  obtain ⟨k, hk, tk⟩ := kind_wf tok ht
  have hrules : Admissible S tok →
      ((S.toModel.rules.all (ruleOK o S.toModel.ex tok.bytes)) = true ↔ ∀ r ∈ S.rules, Sat o S.ex r tok) := by
    intro hadm
    simp only [SSpec.toModel, List.all_map, List.all_eq_true, Function.comp]
    constructor
    · intro h r hr; exact (rule_iff o S.ex tok hS.1 ht r (hS.2 r hr) (onString_str S hA tok hadm r hr)).1 (h r hr)
    · intro h r hr; exact (rule_iff o S.ex tok hS.1 ht r (hS.2 r hr) (onString_str S hA tok hadm r hr)).2 (h r hr)
  unfold litOKFull kindGate Accepts
  rw [hasEnum_toModel, hk]
  simp only [Bool.and_eq_true, Bool.or_eq_true, beq_iff_eq]
  rw [bytes_null_iff tok ht]
  have hnul : S.toModel.nul = S.nul := rfl
  have hkind : S.toModel.kind = S.kind := rfl
  rw [hnul, hkind]
  constructor
  · rintro ⟨hg, hr⟩
    rcases hr with ⟨hn, rfl⟩ | hr
    · exact Or.inl ⟨rfl, hn⟩
    · rcases hg with he | (hg | ⟨h1, h2⟩) | ⟨h1, h2⟩
      · have hadm : Admissible S tok := Or.inl he
        exact Or.inr ⟨hadm, (hrules hadm).1 hr⟩
      · have hadm : Admissible S tok := Or.inr (Or.inl (hg ▸ tk))
        exact Or.inr ⟨hadm, (hrules hadm).1 hr⟩
      · have hadm : Admissible S tok := Or.inr (Or.inr ⟨h1 ▸ tk, h2⟩)
        exact Or.inr ⟨hadm, (hrules hadm).1 hr⟩
      · exact Or.inl ⟨tokKind_n tok (h1 ▸ tk), h2⟩
  · rintro (⟨rfl, hn⟩ | ⟨hadm, hr⟩)
    · have : k = .n := tk
      exact ⟨Or.inr (Or.inr ⟨this, hn⟩), Or.inl ⟨hn, rfl⟩⟩
    · refine ⟨?_, Or.inr ((hrules hadm).2 hr)⟩
      rcases hadm with h | h | ⟨h1, h2⟩
      · exact Or.inl h
      · exact Or.inr (Or.inl (Or.inl (tokKind_fun tok _ _ h tk)))
      · exact Or.inr (Or.inl (Or.inr ⟨tokKind_fun tok _ _ h1 tk, h2⟩))


/-! ### corollaries named by the property -/

/-- having at most `p` fractional digits is a property of the VALUE -/
theorem fracDigits_value (p : Nat) (a b : Num.Den) (h : Num.cmpDen a b = .eq) :
    FracDigitsLE p a ↔ FracDigitsLE p b := by
  rw [fracDigitsLE_iff, fracDigitsLE_iff, (Num.cmpDen_eq_iff a b).1 h]

/-- **precision** looks at the value only: two spellings of one number get one verdict -/
theorem precision_exact (o : Oracles) (ex : Bytes) (p : Nat) (a b : Bytes) (ha : IsNumeral a) (hb : IsNumeral b)
    (h : Num.cmpDen (value a) (value b) = .eq) :
    ruleOK o ex a (.precision p) = ruleOK o ex b (.precision p) := by
  have ia := number_rule_iff o (.num ex) (.num a) ha (.precision p) trivial trivial
  have ib := number_rule_iff o (.num ex) (.num b) hb (.precision p) trivial trivial
  simp only [SRule.toModel, STok.bytes, Sat, SatWith] at ia ib
  rw [Bool.eq_iff_iff, ia, ib, fracDigits_value p _ _ h]

/-- **null first**: a null admitted by `nullable: true` is accepted whatever the other rules are — for every
compiled node, applicable or not -/
theorem null_first (o : Oracles) (l : LitSpecF) (h : l.nul = true) : litOKFull o l sNull = true := by
  have hk : kindOfTok sNull = some .n := by decide
  unfold litOKFull kindGate
  rw [hk, h]
  simp

/-- the converse: without it a non-null node never takes `null` -/
theorem null_needs_nullable (o : Oracles) (l : LitSpecF) (h : l.nul = false) (hk : l.kind ≠ .n) (he : hasEnum l = false) :
    litOKFull o l sNull = false := by
  have hk' : kindOfTok sNull = some .n := by decide
  unfold litOKFull kindGate
  rw [hk', h, he]
  simp [Ne.symm hk]

/-! ### false-valued rules -/

theorem contains_insert (x y : RawRule) (a b : List RawRule) (h : x ≠ y) :
    (a ++ y :: b).contains x = (a ++ b).contains x := by
  simp only [List.contains_eq_mem, List.mem_append, List.mem_cons]
  have : x ≠ y := h
  simp [this]

/-- a rule whose value is `false` — nullable, const, exclusiveMinimum, exclusiveMaximum — may be written anywhere
in the annotation or left out: the compiled node is the same -/
theorem false_rules_inert (kind : Kind) (ex : Bytes) (a b : List RawRule) (x : RawRule)
    (hx : x = .nullable false ∨ x = .const false ∨ x = .exclusiveMinimum false ∨ x = .exclusiveMaximum false) :
    compile kind ex (a ++ x :: b) = compile kind ex (a ++ b) := by
  have c1 : ∀ y, y = RawRule.nullable true ∨ y = .exclusiveMinimum true ∨ y = .exclusiveMaximum true →
      (a ++ x :: b).contains y = (a ++ b).contains y := by
    intro y hy
    apply contains_insert
    rcases hx with rfl | rfl | rfl | rfl <;> rcases hy with rfl | rfl | rfl <;> simp
  have cr : ∀ r, compileRule (a ++ x :: b) r = compileRule (a ++ b) r := by
    intro r
    cases r <;> simp only [compileRule, c1 _ (Or.inr (Or.inl rfl)), c1 _ (Or.inr (Or.inr rfl))]
  have cx : compileRule (a ++ x :: b) x = none := by
    rcases hx with rfl | rfl | rfl | rfl <;> rfl
  unfold compile
  rw [c1 _ (Or.inl rfl)]
  congr 1
  have cf : compileRule (a ++ x :: b) = compileRule (a ++ b) := funext cr
  rw [List.filterMap_append, List.filterMap_cons, cx, List.filterMap_append, cf]



/-! ### the two known classes, as statements that are FALSE of the code -/

/-- a numeral of the whole RFC 8259 grammar, `0e1` included -/
def IsNumeralAll (bs : Bytes) : Prop := ∃ t : Num.Numeral, t.wf ∧ toCh bs = t.render

def STok.WFAll : STok → Prop
  | .str cs => ∀ c ∈ cs, c.ok
  | .num bs => IsNumeralAll bs
  | _ => True

/-- C02 for every numeral the JSON scanner delivers -/
def accept_iff_every_numeral : Prop :=
  ∀ (o : Oracles) (S : SSpec), S.WF → S.applicable = true → ∀ tok : STok, tok.WFAll →
    (litOKFull o S.toModel tok.bytes = true ↔ Accepts EnumEq o S tok)

def noOracle : Oracles := ⟨fun _ _ => false, fun _ => false, fun _ => false, fun _ => false⟩

theorem one_numeral : IsNumeral [49] :=
  ⟨⟨false, 1, [], none, none⟩, by simp [Num.Numeral.wf], by simp [Num.Numeral.zeroExp], by decide⟩

/-- K-C10-zeroexp: the schema `1` has no rules, `0e1` is the integer 0 — and is rejected -/
theorem accept_iff_every_numeral_false : ¬ accept_iff_every_numeral := by
  intro h
  have hS : (SSpec.mk .i (.num [49]) false []).WF := ⟨one_numeral, by simp⟩
  have := h noOracle ⟨.i, .num [49], false, []⟩ hS (by decide) (.num [48, 101, 49])
    ⟨⟨false, 0, [], none, some (none, 1, [])⟩, by simp [Num.Numeral.wf], by decide⟩
  have hm : litOKFull noOracle (SSpec.mk .i (.num [49]) false []).toModel (STok.num [48, 101, 49]).bytes = false := by
    decide +kernel
  rw [hm] at this
  apply Bool.false_ne_true
  apply this.2
  refine Or.inr ⟨Or.inr (Or.inl ?_), by simp⟩
  show tokKind (.num [48, 101, 49]) .i
  simp only [tokKind]
  rw [if_neg (by decide)]
  refine Or.inl ⟨⟨0, ?_⟩, trivial⟩
  decide +kernel


/-- C02 with enum membership of numbers BY VALUE (what C10 asks of numeric rules) -/
def accept_iff_enum_by_value : Prop :=
  ∀ (o : Oracles) (S : SSpec), S.WF → S.applicable = true → ∀ tok : STok, tok.WF →
    (litOKFull o S.toModel tok.bytes = true ↔ Accepts EnumEqV o S tok)

/-- the class K-C10-enumtext: an enum item and the token are numbers of one value, spelled differently -/
def numEqByValueOnly (it tok : STok) : Bool :=
  match it, tok with
  | .num a, .num b => (Num.cmpDen (value a) (value b) == .eq) && a != b
  | _, _ => false

def enumTextClass (S : SSpec) (tok : STok) : Bool :=
  S.rules.any fun r => match r with
    | .enum items => items.any (numEqByValueOnly · tok)
    | _ => false

theorem n250 : IsNumeral [50, 46, 53, 48] :=
  ⟨⟨false, 2, [], some (5, [0]), none⟩, by simp [Num.Numeral.wf], by simp [Num.Numeral.zeroExp], by decide⟩
theorem n25 : IsNumeral [50, 46, 53] :=
  ⟨⟨false, 2, [], some (5, []), none⟩, by simp [Num.Numeral.wf], by simp [Num.Numeral.zeroExp], by decide⟩

/-- K-C10-enumtext: `2.50 // {enum: [2.50]}` rejects `2.5` -/
theorem accept_iff_enum_by_value_false : ¬ accept_iff_enum_by_value := by
  intro h
  let S : SSpec := ⟨.f, .num [50, 46, 53, 48], false, [.enum [.num [50, 46, 53, 48]]]⟩
  have hS : S.WF := ⟨n250, by
    intro r hr
    simp only [S, List.mem_singleton] at hr
    subst hr
    intro it hi
    simp only [List.mem_singleton] at hi
    subst hi
    exact n250⟩
  have := h ⟨fun _ _ => false, fun _ => false, fun _ => false, fun _ => false⟩ S hS (by decide) (.num [50, 46, 53]) n25
  have hm : litOKFull ⟨fun _ _ => false, fun _ => false, fun _ => false, fun _ => false⟩ S.toModel
      (STok.num [50, 46, 53]).bytes = false := by decide +kernel
  rw [hm] at this
  apply Bool.false_ne_true
  apply this.2
  refine Or.inr ⟨Or.inl (by decide), ?_⟩
  intro r hr
  simp only [S, List.mem_singleton] at hr
  subst hr
  refine ⟨.num [50, 46, 53, 48], by simp, ?_, ?_⟩
  · decide +kernel
  · intro k
    simp only [tokKind]
    rw [if_pos (by decide), if_pos (by decide)]

theorem enumEqV_iff (it tok : STok) (h : numEqByValueOnly it tok = false) : EnumEqV it tok ↔ EnumEq it tok := by
  cases it <;> cases tok <;> simp only [EnumEqV, EnumEq]
  rename_i a b
  simp only [numEqByValueOnly, Bool.and_eq_false_iff, beq_eq_false_iff_ne, bne_eq_false_iff_eq] at h
  constructor
  · rintro ⟨hc, _⟩
    rcases h with h | h
    · exact absurd hc h
    · exact h
  · rintro rfl
    exact ⟨Num.cmpDen_refl _, fun k => Iff.rfl⟩

theorem accepts_byvalue_iff (o : Oracles) (S : SSpec) (tok : STok) (h : enumTextClass S tok = false) :
    Accepts EnumEqV o S tok ↔ Accepts EnumEq o S tok := by
  unfold Accepts
  have : ∀ r ∈ S.rules, SatWith EnumEqV o S.ex r tok ↔ SatWith EnumEq o S.ex r tok := by
    intro r hr
    unfold enumTextClass at h
    simp only [List.any_eq_false] at h
    have hr' := h r hr
    cases r with
    | enum items =>
      simp only [List.any_eq_true, not_exists, not_and, Bool.not_eq_true] at hr'
      simp only [SatWith]
      constructor
      · rintro ⟨it, hm, he⟩; exact ⟨it, hm, (enumEqV_iff it tok (hr' it hm)).1 he⟩
      · rintro ⟨it, hm, he⟩; exact ⟨it, hm, (enumEqV_iff it tok (hr' it hm)).2 he⟩
    | _ => cases tok <;> simp only [SatWith]
  constructor
  · rintro (h1 | ⟨h1, h2⟩)
    · exact Or.inl h1
    · exact Or.inr ⟨h1, fun r hr => (this r hr).1 (h2 r hr)⟩
  · rintro (h1 | ⟨h1, h2⟩)
    · exact Or.inl h1
    · exact Or.inr ⟨h1, fun r hr => (this r hr).2 (h2 r hr)⟩

/-- outside that class the by-value statement holds -/
theorem accept_iff_enum_by_value_partial (o : Oracles) (S : SSpec) (hS : S.WF) (hA : S.applicable = true)
    (tok : STok) (ht : tok.WF) (hc : enumTextClass S tok = false) :
    litOKFull o S.toModel tok.bytes = true ↔ Accepts EnumEqV o S tok := by
  rw [accepts_byvalue_iff o S tok hc]; exact accept_iff o S hS hA tok ht

end RulesF
