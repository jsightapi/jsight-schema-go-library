import JSight.OMapOps
import JSight.OMapProofs
import JSight.ListFacts
/-! C19: every operation sequence on the generated ordered map behaves like the reference list. -/
namespace OMap
variable {κ ν : Type} [DecidableEq κ]

omit [DecidableEq κ] in
theorem see_order (m : M κ ν) : m.see m.order = m.entries := rfl

theorem wf_update (m : M κ ν) (h : WF m) (k : κ) (f : ν → ν) : WF (m.update k f) := by
  unfold M.update
  cases hk : m.data k with
  | none => simpa using h
  | some v =>
    refine ⟨h.nodup, ?_, h.size⟩
    intro x
    by_cases hx : x = k
    · subst hx; simp [(h.dom x), hk]
    · simp [hx, h.dom x]

theorem entries_update (m : M κ ν) (h : WF m) (k : κ) (f : ν → ν) :
    (m.update k f).entries = Ref.update m.entries k f := by
  unfold M.update
  cases hk : m.data k with
  | none =>
    simp only
    unfold Ref.update
    symm
    have : ∀ e ∈ m.entries, (fun e : κ × ν => if e.1 = k then (e.1, f e.2) else e) e = id e := by
      intro e he
      have := mem_entries_fst m he
      by_cases hx : e.1 = k
      · rw [hx, hk] at this; simp at this
      · simp [hx]
    rw [List.map_congr_left this, List.map_id]
  | some v =>
    simp only [M.entries, Ref.update]
    rw [List.map_filterMap]
    apply List.filterMap_congr_left
    intro x _
    by_cases hx : x = k
    · subst hx; simp [hk]
    · cases hd : m.data x <;> simp [hx, hd]

theorem wf_mapVals (m : M κ ν) (h : WF m) (f : κ → ν → ν) : WF (m.mapVals f) := by
  refine ⟨h.nodup, ?_, h.size⟩
  intro x
  simp only [M.mapVals]
  by_cases hx : x ∈ m.order
  · simp [hx, (h.dom x).1 hx]
  · have : m.data x = none := by
      cases hd : m.data x with
      | none => rfl
      | some v => exact absurd ((h.dom x).2 (by simp [hd])) hx
    simp [hx, this]

theorem entries_mapVals (m : M κ ν) (f : κ → ν → ν) : (m.mapVals f).entries = Ref.mapVals m.entries f := by
  simp only [M.entries, M.mapVals, Ref.mapVals]
  rw [List.map_filterMap]
  apply List.filterMap_congr_left
  intro x hx
  cases hd : m.data x <;> simp [hx, hd]

theorem get_ref (m : M κ ν) (h : WF m) (k : κ) : Ref.get m.entries k = m.data k := by
  unfold Ref.get
  cases hf : m.entries.find? (·.1 == k) with
  | none =>
    simp only [Option.map_none]
    cases hd : m.data k with
    | none => rfl
    | some v =>
      exfalso
      have hk : k ∈ m.order := (h.dom k).2 (by simp [hd])
      have : (k, v) ∈ m.entries := by
        simp only [M.entries, List.mem_filterMap]
        exact ⟨k, hk, by simp [hd]⟩
      have := List.find?_eq_none.1 hf _ this
      simp at this
  | some e =>
    have he := List.mem_of_find?_eq_some hf
    have hk := List.find?_some hf
    simp only [beq_iff_eq] at hk
    obtain ⟨_, hd⟩ := mem_entries_fst m he
    simp [← hk, hd]

theorem step_refines (m : M κ ν) (h : WF m) (op : Op κ ν) :
    WF (m.step op).1 ∧ (m.step op).1.entries = (Ref.step m.entries op).1 ∧ (m.step op).2 = (Ref.step m.entries op).2 := by
  cases op with
  | set k v => exact ⟨wf_set m h k v, entries_set m h k v, rfl⟩
  | update k f => exact ⟨wf_update m h k f, entries_update m h k f, rfl⟩
  | delete k => exact ⟨wf_delete m h k, entries_delete m h k, rfl⟩
  | filter p =>
    obtain ⟨w, e, t⟩ := filter_refines m h p
    refine ⟨w, e, ?_⟩
    simp only [M.step, Ref.step, t, see_order]
  | map f => exact ⟨wf_mapVals m h f, entries_mapVals m f, by simp only [M.step, Ref.step, see_order]⟩
  | find p => exact ⟨h, rfl, by simp only [M.step, Ref.step, see_order]⟩
  | each => exact ⟨h, rfl, by simp only [M.step, Ref.step, see_order]⟩
  | get k => exact ⟨h, rfl, by simp only [M.step, Ref.step, get_ref m h k]⟩
  | has k => exact ⟨h, rfl, by simp only [M.step, Ref.step, has_iff_ref m h k]⟩
  | len => exact ⟨h, rfl, by simp only [M.step, Ref.step, len_eq m h]⟩

theorem run_refines (ops : List (Op κ ν)) : ∀ (m : M κ ν), WF m →
    WF (m.run ops).1 ∧ (m.run ops).1.entries = (Ref.run m.entries ops).1 ∧ (m.run ops).2 = (Ref.run m.entries ops).2 := by
  induction ops with
  | nil => intro m h; exact ⟨h, rfl, rfl⟩
  | cons op ops ih =>
    intro m h
    obtain ⟨w, e, o⟩ := step_refines m h op
    obtain ⟨w', e', o'⟩ := ih (m.step op).1 w
    simp only [M.run, Ref.run]
    rw [e] at e' o'
    exact ⟨w', e', by rw [o, o']⟩

end OMap
