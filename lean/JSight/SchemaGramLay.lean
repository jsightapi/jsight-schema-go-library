import JSight.SchemaCommentRun
/-!
The grammar of scanned text, layout: `Gram.Layout o w e` — "`w` is layout text (blanks, `#` line comments, `## … ###` block
comments) that, read at offset `o`, delivers `e`" — and the scanner model on it, for either value of `lengthComputing`,
as `Path`s: in a state between tokens (`Layout.run`) and from any configuration whose first step leads there
(`Layout.from`: behind a value, where the first byte of the layout also closes what is pending).
-/
namespace SchemaScan

namespace Len

theorem cfg_congr {lc : Bool} {st : St} {r : List St} {K K' : List (LexT × Nat)} {u : Bool} {i i' : Nat} {CS : List Ctx}
    {cx : Ctx} {al : Bool} (hK : K = K') (hi : i = i') : cfgL lc st r K u i CS cx al = cfgL lc st r K' u i' CS cx al := by
  subst hK hi; rfl

end Len

namespace Gram
open Len

variable {lc : Bool} {data : Array Cls}

/-- layout text at offset `o` and what it delivers -/
inductive Layout : Nat → List Cls → List Ev → Prop
  | nil (o : Nat) : Layout o [] []
  | sp {o : Nat} {c : Cls} {w : List Cls} {e : List Ev} : c.isSpTab = true → Layout (o + 1) w e → Layout o (c :: w) e
  | nl {o : Nat} {w : List Cls} {e : List Ev} : Layout (o + 1) w e → Layout o (.nl :: w) (⟨.newLine, o, o⟩ :: e)
  | line {o : Nat} {text w : List Cls} {e : List Ev} : (∀ c ∈ text, c ≠ Cls.nl) → text.head? ≠ some Cls.hash →
      Layout (o + 1 + text.length + 1) w e →
      Layout o (.hash :: (text ++ .nl :: w))
        (⟨.newLine, o + text.length, o + text.length⟩ :: ⟨.newLine, o + 1 + text.length, o + 1 + text.length⟩ :: e)
  | block {o : Nat} {body w : List Cls} {e : List Ev} : (body ++ [Cls.hash]).head? = some Cls.hash →
      noTripleC (body ++ [.hash, .hash]) = true → Layout (o + 1 + 1 + body.length + 3) w e →
      Layout o (.hash :: .hash :: (body ++ .hash :: .hash :: .hash :: w)) e

theorem Layout.cast {o o' : Nat} {w : List Cls} {e e' : List Ev} (h : Layout o w e) (ho : o = o') (he : e = e') : Layout o' w e' :=
  ho ▸ he ▸ h

/-- a layout read in a state where comments may start.  The state `st'` behind it is `st` except for `objKey`, which a line
break turns into `objKeyAfterNL` (still a key state); `al'`: whether an annotation is allowed is not tracked across line
breaks. -/
theorem Layout.run {st : St} (hl : cmtLoop st = true) (K : List (LexT × Nat)) (CS : List Ctx) (cx : Ctx) :
    ∀ {o : Nat} {w : List Cls} {e : List Ev}, Layout o w e → ∀ (al : Bool), At data o w →
    ∃ st' al', (st ≠ .objKey → st' = st) ∧ (keySt st = true → keySt st' = true) ∧
      Path data (cfgL lc st [] K false o CS cx al) e (cfgL lc st' [] K false (o + w.length) CS cx al')
  | _, _, _, .nil o, al, _ => ⟨st, al, fun _ => rfl, id, Path.refl _⟩
  | o, _, _, .sp (w := w) hs h, al, hat => by
    obtain ⟨st', al', a, b, h2⟩ := Layout.run hl K CS cx h al hat.2
    refine ⟨st', al', a, b, (Path.trans (S_sp (cmtLoop_wsLoop hl) hs K o CS cx al hat.1) h2).cast rfl
      (cfg_congr rfl ?_)⟩
    simp only [List.length_cons]; omega
  | o, _, _, .nl (w := w) h, al, hat => by
    obtain ⟨st', al', a, b, h2⟩ := Layout.run (cmtLoop_nlSt hl) K CS cx h (nlAl st al) hat.2
    refine ⟨st', al', ?_, fun hk => b (keySt_nlSt hk),
      (Path.trans (S_nl (cmtLoop_wsLoop hl) K o CS cx al hat.1) h2).cast rfl (cfg_congr rfl ?_)⟩
    · intro hne; rw [a (by rw [nlSt_of_ne hne]; exact hne), nlSt_of_ne hne]
    · simp only [List.length_cons]; omega
  | o, _, _, .line (text := text) (w := w) hne hh h, al, hat => by
    obtain ⟨hc, hat'⟩ := hat
    rw [At_append] at hat'
    obtain ⟨hatt, hnl, hatw⟩ := hat'
    have h1 := S_hash (lc := lc) hl K o CS cx al hc
    have h2 := Len.cmt_line_run (lc := lc) text hne hh st K o CS cx al (by rw [At_append]; exact ⟨hatt, hnl, trivial⟩)
    have h3 := S_nl (lc := lc) (cmtLoop_wsLoop hl) K (o + 1 + text.length) CS cx al hnl
    obtain ⟨st', al', a, b, h4⟩ := Layout.run (cmtLoop_nlSt hl) K CS cx h (nlAl st al) hatw
    refine ⟨st', al', ?_, fun hk => b (keySt_nlSt hk),
      (Path.trans (Path.trans (Path.trans h1 h2) h3) h4).cast (by simp) (cfg_congr rfl ?_)⟩
    · intro hne; rw [a (by rw [nlSt_of_ne hne]; exact hne), nlSt_of_ne hne]
    · simp only [List.length_cons, List.length_append]; omega
  | o, _, _, .block (body := body) (w := w) hhd hnt h, al, hat => by
    obtain ⟨hc, hat'⟩ := hat
    have e : Cls.hash :: (body ++ Cls.hash :: .hash :: .hash :: w) = (Cls.hash :: (body ++ [.hash, .hash, .hash])) ++ w := by
      simp
    rw [e, At_append] at hat'
    have h1 := S_hash (lc := lc) hl K o CS cx al hc
    have h2 := cmt_block_run (lc := lc) body hhd hnt st K o CS cx al hat'.1
    obtain ⟨st', al', a, b, h4⟩ := Layout.run hl K CS cx h al (by
      have := hat'.2
      simp only [List.length_cons, List.length_append, List.length_nil] at this
      rw [show o + 1 + 1 + body.length + 3 = o + 1 + (body.length + (0 + 1 + 1 + 1) + 1) by omega]; exact this)
    refine ⟨st', al', a, b, (Path.trans (Path.trans h1 h2) h4).cast (by simp) (cfg_congr rfl ?_)⟩
    simp only [List.length_cons, List.length_append]; omega

/-- a non-empty layout read from ANY configuration `s0` whose step on a blank leads into the slot state `st` and on `#` into
`anyCommentStart` above `st` (delivering `pre` on the way): in a slot (`pre = []`), behind an item or member value, behind the
top-level value -/
theorem Layout.from {s0 : Sc} {pre : List Ev} {st : St} (hl : cmtLoop st = true) (hne : st ≠ .objKey) (K : List (LexT × Nat))
    (CS : List Ctx) (cx : Ctx) (al : Bool) {o : Nat} {c : Cls} {w : List Cls} {e : List Ev}
    (h : Layout o (c :: w) e) (hat : At data o (c :: w))
    (fsp : ∀ c, c.isSpTab = true → data[o]? = some c → Path data s0 pre (cfgL lc st [] K false (o + 1) CS cx al))
    (fnl : data[o]? = some .nl → Path data s0 (pre ++ [⟨.newLine, o, o⟩]) (cfgL lc st [] K false (o + 1) CS cx al))
    (fh : data[o]? = some .hash → Path data s0 pre (cfgL lc .anyCommentStart [st] K false (o + 1) CS cx al)) :
    ∃ al', Path data s0 (pre ++ e) (cfgL lc st [] K false (o + (w.length + 1)) CS cx al') := by
  cases h with
  | sp hs h =>
    obtain ⟨st', al', a, -, h2⟩ := Layout.run (lc := lc) hl K CS cx h al hat.2
    rw [a hne] at h2
    exact ⟨al', (Path.trans (fsp _ hs hat.1) h2).cast rfl (cfg_congr rfl (by omega))⟩
  | nl h =>
    obtain ⟨st', al', a, -, h2⟩ := Layout.run (lc := lc) hl K CS cx h al hat.2
    rw [a hne] at h2
    exact ⟨al', (Path.trans (fnl hat.1) h2).cast (by simp) (cfg_congr rfl (by omega))⟩
  | @line _ text w' _ hne' hh h =>
    obtain ⟨hc, hat'⟩ := hat
    rw [At_append] at hat'
    obtain ⟨hatt, hnl, hatw⟩ := hat'
    have h2 := Len.cmt_line_run (lc := lc) text hne' hh st K o CS cx al (by rw [At_append]; exact ⟨hatt, hnl, trivial⟩)
    have h3 := S_nl (lc := lc) (cmtLoop_wsLoop hl) K (o + 1 + text.length) CS cx al hnl
    rw [nlSt_of_ne hne] at h3
    obtain ⟨st', al', a, -, h4⟩ := Layout.run (lc := lc) hl K CS cx h (nlAl st al) hatw
    rw [a hne] at h4
    refine ⟨al', (Path.trans (Path.trans (Path.trans (fh hc) h2) h3) h4).cast (by simp) (cfg_congr rfl ?_)⟩
    simp only [List.length_cons, List.length_append]; omega
  | @block _ body w' _ hhd hnt h =>
    obtain ⟨hc, hat'⟩ := hat
    have e : Cls.hash :: (body ++ Cls.hash :: .hash :: .hash :: w') = (Cls.hash :: (body ++ [.hash, .hash, .hash])) ++ w' := by
      simp
    rw [e, At_append] at hat'
    have h2 := cmt_block_run (lc := lc) body hhd hnt st K o CS cx al hat'.1
    obtain ⟨st', al', a, -, h4⟩ := Layout.run (lc := lc) hl K CS cx h al (by
      have := hat'.2
      simp only [List.length_cons, List.length_append, List.length_nil] at this
      rw [show o + 1 + 1 + body.length + 3 = o + 1 + (body.length + (0 + 1 + 1 + 1) + 1) by omega]; exact this)
    rw [a hne] at h4
    refine ⟨al', (Path.trans (Path.trans (fh hc) h2) h4).cast (by simp) (cfg_congr rfl ?_)⟩
    simp only [List.length_cons, List.length_append]; omega

/-- a non-empty layout behind the top-level value -/
theorem Layout.close_root {st : St} (hst : PV st = true) (lit : Bool) (b : Nat)
    (CS : List Ctx) (cx : Ctx) (al : Bool) {o : Nat} {c : Cls} {w : List Cls} {e : List Ev}
    (h : Layout o (c :: w) e) (hat : At data o (c :: w)) :
    ∃ al', Path data (cfgL lc st [] (pendOf lit b) false o CS cx al)
      (rootClosers lit b (o - 1) ++ e) (cfgL lc .endTop [] [] false (o + (w.length + 1)) CS cx al') :=
  Layout.from (st := .endTop) rfl (by simp) [] CS cx al h hat
    (fun _ hs hc => S_root_sp hst hs lit b o CS cx al hc)
    (fun hc => S_root_nl hst lit b o CS cx al hc)
    (fun hc => Len.S_root_hash hst lit b o CS cx al hc)

theorem Layout.nil_evs {o : Nat} {e : List Ev} (h : Layout o [] e) : e = [] := by cases h; rfl

theorem Layout.of_ws : ∀ {ws : List Cls}, IsWs ws → ∀ o, Layout o ws (nlEvs o ws)
  | [], _, o => .nil o
  | c :: ws, h, o => by
    rcases blank_cases h.head with hs | rfl
    · simpa [nlEvs, sptab_ne_nl hs] using Layout.sp hs (Layout.of_ws h.tail (o + 1))
    · simpa [nlEvs] using Layout.nl (Layout.of_ws h.tail (o + 1))

/-- at most one event per byte, none is `end-top` -/
theorem Layout.evs_facts : ∀ {o : Nat} {w : List Cls} {e : List Ev}, Layout o w e → e.length ≤ w.length ∧ noTop e = true
  | _, _, _, .nil _ => ⟨Nat.le_refl _, rfl⟩
  | _, _, _, .sp _ h => ⟨by have := (Layout.evs_facts h).1; simp only [List.length_cons]; omega, (Layout.evs_facts h).2⟩
  | _, _, _, .nl h => ⟨by have := (Layout.evs_facts h).1; simp only [List.length_cons]; omega, by
      rw [noTop_cons, (Layout.evs_facts h).2]; rfl⟩
  | _, _, _, .line _ _ h => ⟨by have := (Layout.evs_facts h).1; simp only [List.length_cons, List.length_append]; omega, by
      rw [noTop_cons, noTop_cons, (Layout.evs_facts h).2]; rfl⟩
  | _, _, _, .block _ _ h => ⟨by have := (Layout.evs_facts h).1; simp only [List.length_cons, List.length_append]; omega,
      (Layout.evs_facts h).2⟩

end Gram
end SchemaScan
