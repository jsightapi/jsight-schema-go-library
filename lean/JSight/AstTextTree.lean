import JSight.AstText
import JSight.ExampleTextProofs
/-!
C16 at text level, plain-JSON schemas of any depth: `astOfText` of the text of a value tree with any white-space
layout is the AST computed from the TREE: one node per value in source order, token kind, literal value, key, the
children in source order, schema type = JSON kind (no rules, no note).

`astAt_sits` follows the table builder `astAt` down a tree on any table in which the nodes of the tree stand
(`astKids_nodesItems`, `astProps_nodesMembers`: its list parts with the table written out as `pre ++ (nodes ++ post)`);
`astOff_eq` turns the slices by offset into the tokens of the byte tree; `ast_plain_tree` composes them with the load
stage. `AstTextShort` holds the same walker for trees with shortcut leaves (`STree`): its `S.astAt_sits` is this one
with one more leaf case.
-/
namespace AstText
open Loader
open SchemaScan (Cls Tree classify)
open NodeTable (Sits sits_mid sits_all)

/-! ### the AST builder on `nodesOf`, by offsets -/

mutual
/-- what `astAt` yields at the node of `v`: the AST of `v` with every token read as the slice of `src` at the offset
the loader records for it (`o`: where `v` starts) -/
def astOff (src : Array UInt8) : Nat → Tree → Bytes × Bool → M AstNode
  | o, .scalar tok, key =>
    match RulesF.kindOfTok (slice src o (o + tok.length - 1)) with
    | none => unsup "literal kind"
    | some k => pure (.mk key.1 key.2 (kindTok k) (schemaTypeOf [] (kindName k))
        (unq (slice src o (o + tok.length - 1))) [] [] [])
  | o, .arr ws0 its, key =>
    match itemsOff src (o + 1 + ws0.length) its with
    | .error e => .error e
    | .ok kids => pure (.mk key.1 key.2 "array" (schemaTypeOf [] "array") [] [] [] kids)
  | o, .obj ws0 ms, key =>
    match membersOff src (o + 1 + ws0.length) ms with
    | .error e => .error e
    | .ok kids => pure (.mk key.1 key.2 "object" (schemaTypeOf [] "object") [] [] [] kids)
def itemsOff (src : Array UInt8) : Nat → List Item → M (List AstNode)
  | _, [] => pure []
  | o, (w1, v, w2) :: its => do
    let n ← astOff src (o + w1.length) v ([], false)
    let ns ← itemsOff src (nextItem o w1 v w2 its) its
    pure (n :: ns)
def membersOff (src : Array UInt8) : Nat → List Member → M (List AstNode)
  | _, [] => pure []
  | o, (w1, k, w2, w3, v, w4) :: ms => do
    let n ← astOff src (valOff o w1 k w2 w3) v (keyText src (o + w1.length, o + w1.length + k.length - 1, false))
    let ns ← membersOff src (nextMember o w1 k w2 w3 v w4 ms) ms
    pure (n :: ns)
end

theorem ownOf_plain_lit (src : Array UInt8) (evs : List SchemaScan.Ev) (par : Option Nat) (b e : Nat) :
    ownOf src evs { kind := .lit, parent := par, value := some (b, e) }
      = (match RulesF.kindOfTok (slice src b e) with
         | none => unsup "literal kind"
         | some k => pure ⟨kindTok k, schemaTypeOf [] (kindName k), unq (slice src b e), [], []⟩) := by
  simp only [ownOf, List.zip_nil_left, rulesAst, List.reverse_nil, bind, Except.bind, pure, Except.pure,
    List.length_nil, bne_self_eq_false, Bool.false_eq_true, if_false, noteOf, noteSpan]
  cases RulesF.kindOfTok (slice src b e) <;> rfl

theorem ownOf_plain_arr (src : Array UInt8) (evs : List SchemaScan.Ev) (par : Option Nat) (cs : List Nat) :
    ownOf src evs { kind := .arr, parent := par, children := cs }
      = .ok ⟨"array", schemaTypeOf [] "array", [], [], []⟩ := by
  simp only [ownOf, List.zip_nil_left, rulesAst, List.reverse_nil, bind, Except.bind, pure, Except.pure,
    List.length_nil, bne_self_eq_false, Bool.false_eq_true, if_false, noteOf, noteSpan]

theorem ownOf_plain_obj (src : Array UInt8) (evs : List SchemaScan.Ev) (par : Option Nat) (cs : List Nat)
    (ks : List (Nat × Nat × Bool)) :
    ownOf src evs { kind := .obj, parent := par, children := cs, keys := ks }
      = .ok ⟨"object", schemaTypeOf [] "object", [], [], []⟩ := by
  simp only [ownOf, List.zip_nil_left, rulesAst, List.reverse_nil, bind, Except.bind, pure, Except.pure,
    List.length_nil, bne_self_eq_false, Bool.false_eq_true, if_false, noteOf, noteSpan]

theorem idxItems_length : (its : List Item) → (n : Nat) → (idxItems n its).length = its.length
  | [], _ => rfl
  | (w1, v, w2) :: its, n => by simp [idxItems, idxItems_length its]

/-- zipping with a constant key -/
theorem mapM_zip_const {α β : Type} (k : β) (f : α → β → M AstNode) : ∀ (l : List α),
    (l.zip (l.map fun _ => k)).mapM (fun ck => f ck.1 ck.2) = l.mapM (fun c => f c k)
  | [] => rfl
  | a :: l => by simp only [List.map_cons, List.zip_cons_cons, List.mapM_cons, mapM_zip_const k f l]

section build
variable (src : Array UInt8) (evs : List SchemaScan.Ev)

mutual
/-- `astAt` on any table in which the nodes of `v` stand from `n` on -/
theorem astAt_sits {tbl : Array Node} : (v : Tree) → (par : Option Nat) → (n o fuel : Nat) → (key : Bytes × Bool) →
    Sits tbl n (nodesOf par n o v) → nodeCount v ≤ fuel → astAt src evs tbl fuel n key = astOff src o v key
  | .scalar tok, par, n, o, f + 1, key, hs, _ => by
    simp only [astAt, hs.1, ownOf_plain_lit, astOff]
    cases RulesF.kindOfTok (slice src o (o + tok.length - 1)) <;> rfl
  | .arr ws0 its, par, n, o, f + 1, key, hs, hf => by
    have h := astKids_sits its n (n + 1) (o + 1 + ws0.length) f hs.2 (by simp only [nodeCount] at hf; omega)
    simp only [astAt, hs.1, ownOf_plain_arr, astOff, show (NK.arr == NK.obj) = false from rfl, Bool.false_eq_true,
      if_false, List.length_map, bne_self_eq_false, mapM_zip_const, h]
    cases itemsOff src (o + 1 + ws0.length) its <;> rfl
  | .obj ws0 ms, par, n, o, f + 1, key, hs, hf => by
    have h := astProps_sits ms n (n + 1) (o + 1 + ws0.length) f hs.2 (by simp only [nodeCount] at hf; omega)
    simp only [astAt, hs.1, ownOf_plain_obj, astOff, show (NK.obj == NK.obj) = true from rfl, if_true,
      List.length_map, keysMembers_length, idxMembers_length, bne_self_eq_false, Bool.false_eq_true, if_false, h]
    cases membersOff src (o + 1 + ws0.length) ms <;> rfl
  | .arr _ _, _, _, _, 0, _, _, hf | .obj _ _, _, _, _, 0, _, _, hf => by simp only [nodeCount] at hf; omega
theorem astKids_sits {tbl : Array Node} : (its : List Item) → (a n o fuel : Nat) → Sits tbl n (nodesItems a n o its) →
    countItems its ≤ fuel →
    (idxItems n its).mapM (fun c => astAt src evs tbl fuel c ([], false)) = itemsOff src o its
  | [], _, _, _, _, _, _ => by simp [idxItems, itemsOff]
  | (w1, v, w2) :: its, a, n, o, fuel, hs, hf => by
    simp only [countItems] at hf
    obtain ⟨h1, h2⟩ := Sits.append (by simpa only [nodesItems] using hs)
    rw [nodesOf_length] at h2
    simp only [idxItems, itemsOff, List.mapM_cons, astAt_sits v (some a) n _ fuel _ h1 (by omega),
      astKids_sits its a _ _ fuel h2 (by omega)]
theorem astProps_sits {tbl : Array Node} : (ms : List Member) → (a n o fuel : Nat) → Sits tbl n (nodesMembers a n o ms) →
    countMembers ms ≤ fuel →
    ((idxMembers n ms).zip ((keysMembers o ms).map (keyText src))).mapM (fun ck => astAt src evs tbl fuel ck.1 ck.2)
      = membersOff src o ms
  | [], _, _, _, _, _, _ => by simp [keysMembers, idxMembers, membersOff]
  | (w1, k, w2, w3, v, w4) :: ms, a, n, o, fuel, hs, hf => by
    simp only [countMembers] at hf
    obtain ⟨h1, h2⟩ := Sits.append (by simpa only [nodesMembers] using hs)
    rw [nodesOf_length] at h2
    simp only [keysMembers, idxMembers, membersOff, List.map_cons, List.zip_cons_cons, List.mapM_cons,
      astAt_sits v (some a) n _ fuel _ h1 (by omega), astProps_sits ms a _ _ fuel h2 (by omega)]
end

theorem astKids_nodesItems : (its : List Item) → (pre post : List Node) → (a o fuel : Nat) → countItems its ≤ fuel →
    (idxItems pre.length its).mapM
      (fun c => astAt src evs (pre ++ (nodesItems a pre.length o its ++ post)).toArray fuel c ([], false))
      = itemsOff src o its :=
  fun its pre post a o fuel hf => astKids_sits src evs its a _ o fuel (sits_mid pre _ post) hf
theorem astProps_nodesMembers : (ms : List Member) → (pre post : List Node) → (a o fuel : Nat) →
    countMembers ms ≤ fuel →
    ((idxMembers pre.length ms).zip ((keysMembers o ms).map (keyText src))).mapM (fun ck =>
        astAt src evs (pre ++ (nodesMembers a pre.length o ms ++ post)).toArray fuel ck.1 ck.2)
      = membersOff src o ms :=
  fun ms pre post a o fuel hf => astProps_sits src evs ms a _ o fuel (sits_mid pre _ post) hf

end build

/-! ### the spec on the byte tree; the offset slices are the tokens -/

mutual
/-- **the AST of a plain-JSON schema, from the TREE**: one node per value; token kind and literal value (unquoted)
of a scalar; `array` / `object` nodes with their children in source order; the decoded key of a member; schema
type = JSON kind; no rules, no note -/
def astB : BT → Bytes × Bool → M AstNode
  | .scalar tok, key =>
    match RulesF.kindOfTok tok with
    | none => unsup "literal kind"
    | some k => pure (.mk key.1 key.2 (kindTok k) (schemaTypeOf [] (kindName k)) (unq tok) [] [] [])
  | .arr _ items, key =>
    match astItemsB items with
    | .error e => .error e
    | .ok kids => pure (.mk key.1 key.2 "array" (schemaTypeOf [] "array") [] [] [] kids)
  | .obj _ members, key =>
    match astMembersB members with
    | .error e => .error e
    | .ok kids => pure (.mk key.1 key.2 "object" (schemaTypeOf [] "object") [] [] [] kids)
def astItemsB : List BItem → M (List AstNode)
  | [] => pure []
  | (_, v, _) :: its => do
    let n ← astB v ([], false)
    let ns ← astItemsB its
    pure (n :: ns)
def astMembersB : List BMember → M (List AstNode)
  | [] => pure []
  | (_, k, _, _, v, _) :: ms => do
    let n ← astB v (Unquote.unquote k, false)
    let ns ← astMembersB ms
    pure (n :: ns)
end

section tokens
variable (src : Array UInt8)

mutual
theorem astOff_eq : (t : BT) → (o : Nat) → (key : Bytes × Bool) → t.cls.Valid → AtB src o t.render →
    astOff src o t.cls key = astB t key
  | .scalar tok, o, key, hv, hat => by
    have hs : SchemaScan.IsScalar (tok.map classify) := by simpa [BT.cls, Tree.Valid] using hv
    have hsl : slice src o (o + tok.length - 1) = tok := slice_of_AtB hat (mt List.map_eq_nil_iff.2 hs.ne_nil)
    simp only [BT.cls, astOff, astB, List.length_map, hsl]
  | .arr ws0 items, o, key, hv, hat => by
    simp only [BT.cls, Tree.Valid] at hv
    simp only [BT.cls, astOff, astB, List.length_map, itemsOff_eq items _ hv.2 (AtB.inner hat)]
  | .obj ws0 members, o, key, hv, hat => by
    simp only [BT.cls, Tree.Valid] at hv
    simp only [BT.cls, astOff, astB, List.length_map, membersOff_eq members _ hv.2 (AtB.inner hat)]
theorem itemsOff_eq : (its : List BItem) → (o : Nat) → SchemaScan.ValidItems (clsItems its) →
    AtB src o (renderItemsB its) → itemsOff src o (clsItems its) = astItemsB its
  | [], _, _, _ => rfl
  | (w1, v, w2) :: its, o, hv, hat => by
    obtain ⟨hvv, hr⟩ := valid_item hv
    obtain ⟨av, ar⟩ := AtB.item hat
    simp only [clsItems, itemsOff, astItemsB, List.length_map, astOff_eq v _ ([], false) hvv av, itemsOff_eq its _ hr ar]
theorem membersOff_eq : (ms : List BMember) → (o : Nat) → SchemaScan.ValidMembers (clsMembers ms) →
    AtB src o (renderMembersB ms) → membersOff src o (clsMembers ms) = astMembersB ms
  | [], _, _, _ => rfl
  | (w1, k, w2, w3, v, w4) :: ms, o, hv, hat => by
    obtain ⟨hk, hvv, hr⟩ := valid_member hv
    obtain ⟨ak, av, ar⟩ := AtB.member hat
    have hkt : keyText src (o + w1.length, o + w1.length + k.length - 1, false) = (Unquote.unquote k, false) := by
      simp [keyText, key_slice hk ak]
    simp only [clsMembers, membersOff, astMembersB, List.length_map, hkt, astOff_eq v _ (Unquote.unquote k, false) hvv av,
      membersOff_eq ms _ hr ar]
end

end tokens

/-! ### the composition -/

/-- **C16 on plain-JSON schema texts of any depth and layout**: scanner model → loader model → AST builders give the
AST of the TREE -/
theorem ast_plain_tree (t : BT) (hv : t.cls.Valid) (ws0 ws1 : List UInt8)
    (h0 : SchemaScan.IsWs (ws0.map classify)) (h1 : SchemaScan.IsWs (ws1.map classify)) (hd : t.KeysDistinct) :
    astOfText (ws0 ++ (t.render ++ ws1)) = astB t ([], false) := by
  obtain ⟨st, hl, hr, hn, hat⟩ := t.loads hv ws0 ws1 h0 h1 hd
  have hb := astAt_sits (ws0 ++ (t.render ++ ws1)).toArray (eventsOf (ws0 ++ (t.render ++ ws1))) t.cls none 0
    ws0.length (st.nodes.size + 1) ([], false) (hn ▸ sits_all _) (by rw [hn, List.size_toArray, nodesOf_length]; omega)
  unfold astOfText astOfTable
  simp only [hl, hr, hb]
  rw [astOff_eq _ t ws0.length _ hv hat]

end AstText
