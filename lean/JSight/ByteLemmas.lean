/-! Facts about all 256 bytes, proved by kernel evaluation over `List.range 256`. -/
namespace Bytes

theorem all_range (p : Nat → Bool) (n : Nat) (h : (List.range n).all p = true) : ∀ i, i < n → p i = true := by
  intro i hi
  exact List.all_eq_true.1 h i (List.mem_range.2 hi)

/-- a Boolean predicate that evaluates to `true` on `UInt8.ofNat 0 … 255` holds for every byte -/
theorem forall_uint8 (p : UInt8 → Bool) (h : (List.range 256).all (fun n => p (UInt8.ofNat n)) = true) :
    ∀ c : UInt8, p c = true := by
  intro c
  have := all_range (fun n => p (UInt8.ofNat n)) 256 h c.toNat c.toNat_lt
  simpa using this

/-- one step along a chain of `if`s (such as a byte classifier): if neither this answer nor the rest of the chain is
`x`, the chain does not answer `x` -/
theorem ite_ne {α : Type} {p : Prop} [Decidable p] {a b x : α} (ha : a ≠ x) (hb : b ≠ x) :
    (if p then a else b) ≠ x := by
  split <;> assumption

end Bytes
