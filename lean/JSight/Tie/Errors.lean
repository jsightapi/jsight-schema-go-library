import JSight.Generated.ErrorTable

/-!
# C07, part 1 — message templates and argument lists agree (tie to the generated table)

`JSight.Generated.ErrorTable` is regenerated from the library's current source by
`vh tgen-errors` (go/parser based extractor, see /verif/harness/x/tgenerrors).
The theorems below are closed by kernel evaluation over that table; they fail to
compile as soon as a construction site and its template disagree, a code has no
template, or the extractor met a flow of an error code it could not attribute to
a constant (`unresolved`).

Runtime meaning (errors/format.go, errors/code.go): `Errorf.Error()` panics with
"Invalid error message" unless the number of `%s`/`%q` of the template equals the
number of arguments given to `errors.Format`; `ErrorCode.Error()` (a bare code used
as an error value) panics unless the template has no placeholder; both panic with
"Unknown error code" for a code without template.
-/

namespace Gen

/-- number of placeholders of the template of `code`, if it has one -/
def placeholders (code : String) : Option Nat := (templates.find? (·.1 == code)).map (·.2)

/-- every `errors.Format(code, args…)` site (direct, through a wrapper function, through a struct field)
passes exactly as many arguments as the template of its code has placeholders -/
theorem C07_format_sites : ∀ s ∈ formatSites, placeholders s.2.2.1 = some s.2.2.2 := by decide +kernel

/-- every bare use of an error code as an error value has a placeholder-free template -/
theorem C07_bare_sites : ∀ s ∈ bareSites, placeholders s.2.2 = some 0 := by decide +kernel

/-- the template table is keyed by exactly the declared codes: the extractor writes both lists sorted and free of
repetitions (they are the keys of two Go maps), so the two sets are equal iff the two lists are -/
theorem templates_keys : templates.map (·.1) = codes := by decide +kernel

/-- every declared error code has a template -/
theorem C07_every_code_has_template : ∀ c ∈ codes, (placeholders c).isSome = true := by
  intro c hc
  rw [← templates_keys] at hc
  obtain ⟨t, ht, rfl⟩ := List.mem_map.1 hc
  simp only [placeholders, Option.isSome_map, List.find?_isSome]
  exact ⟨t, ht, beq_self_eq_true _⟩

/-- every template belongs to a declared error code -/
theorem C07_templates_are_codes : ∀ t ∈ templates, t.1 ∈ codes :=
  fun _ ht => templates_keys ▸ List.mem_map_of_mem ht

/-- the extractor attributed every flow of an error code to a constant (it fails closed into `unresolved`) -/
theorem C07_nothing_unresolved : unresolved = [] := by decide +kernel

end Gen
