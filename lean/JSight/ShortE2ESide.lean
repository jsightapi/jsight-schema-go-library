import JSight.ShortE2ELinks
import JSight.ClassifyInv
/-!
The byte-level side conditions `SE.shortOK` of a shortcut FOLLOW from the shortcut grammar on byte classes
(`Shortcut.Valid`): `|` occurs exactly when there are alternatives, a single name is a user type name, alternatives give
at least two names.  Hence `BST.sideOK` is: every scalar's kind can be guessed (`BST.guessable`).
-/
namespace SE
open SchemaScan (Cls classify)
open SchemaScan.Len (Shortcut IsTypeName IsSpTabs ValidAlts)
open Compile

/-! ### byte classes -/

theorem name_byte {b : UInt8} (h : (classify b).isName = true) :
    isNameByte b = true ∧ Loader.isBlank b = false ∧ b ≠ 124 := by
  have hr := SchemaScan.isName_bytes b h
  refine ⟨?_, ?_, ?_⟩
  · simp only [isNameByte, Bool.or_eq_true, Bool.and_eq_true, decide_eq_true_eq, beq_iff_eq, UInt8.le_iff_toNat_le,
      ← UInt8.toNat_inj]
    simp
    omega
  · simp only [Loader.isBlank, Bool.or_eq_false_iff, beq_eq_false_iff_ne, ne_eq, ← UInt8.toNat_inj]
    simp
    omega
  · intro e; subst e; simp at hr

theorem sp_byte {b : UInt8} (h : (classify b).isSpTab = true) : Loader.isBlank b = true ∧ b ≠ 124 := by
  have hh := SchemaScan.classify_has b
  cases hk : classify b <;> rw [hk] at hh h
  case sp | tab => cases eq_of_beq (show (b == _) = true from hh); exact ⟨rfl, by decide⟩
  all_goals cases h

theorem name_bytes {n : Bytes} (h : IsTypeName (clsB n)) :
    n ≠ [] ∧ ∀ b ∈ n, isNameByte b = true ∧ Loader.isBlank b = false ∧ b ≠ 124 := by
  obtain ⟨hne, hall⟩ := h
  refine ⟨fun h0 => hne (by simp [h0, clsB]), fun b hb => name_byte (hall _ (by simp [clsB]; exact ⟨b, hb, rfl⟩))⟩

theorem sp_bytes {w : Bytes} (h : IsSpTabs (clsB w)) : ∀ b ∈ w, Loader.isBlank b = true ∧ b ≠ 124 :=
  fun b hb => sp_byte (h _ (by simp [clsB]; exact ⟨b, hb, rfl⟩))

/-! ### pipes -/

theorem any_pipe_false {l : Bytes} (h : ∀ b ∈ l, b ≠ 124) : l.any (· == 124) = false := by
  rw [List.any_eq_false]
  intro b hb
  simpa using h b hb

theorem hasPipe_sc (f : Bytes) (as : List Alt) (sps : Bytes) (hf : IsTypeName (clsB f)) (hs : IsSpTabs (clsB sps)) :
    Loader.hasPipe (scBytes f as ++ sps) = !as.isEmpty := by
  have h1 := any_pipe_false (fun b hb => ((name_bytes hf).2 b hb).2.2)
  have h2 := any_pipe_false (fun b hb => (sp_bytes hs b hb).2)
  cases as with
  | nil => simp [Loader.hasPipe, scBytes, altBytes, h1, h2]
  | cons a r =>
    obtain ⟨s1, s2, n⟩ := a
    simp [Loader.hasPipe, scBytes, altBytes, h1, h2]

/-! ### trimming -/

theorem dropWhile_all {p : UInt8 → Bool} : ∀ (l1 l2 : Bytes), (∀ b ∈ l1, p b = true) →
    (l1 ++ l2).dropWhile p = l2.dropWhile p
  | [], _, _ => rfl
  | a :: l1, l2, h => by
    simp only [List.cons_append, List.dropWhile_cons, h a (by simp), if_true]
    exact dropWhile_all l1 l2 (fun b hb => h b (by simp [hb]))

/-- a text that starts and ends with a non-blank byte, followed by blanks: `TrimSpaces` gives the text -/
theorem trim_tail (x : Bytes) (c : UInt8) (sps : Bytes) (hc : Loader.isBlank c = false)
    (d : UInt8) (hd : Loader.isBlank d = false) (hs : ∀ b ∈ sps, Loader.isBlank b = true) :
    Loader.trimSpaces ((c :: x) ++ (d :: sps)) = (c :: x) ++ [d] := by
  unfold Loader.trimSpaces
  have e1 : ((c :: x) ++ (d :: sps)).dropWhile Loader.isBlank = (c :: x) ++ (d :: sps) := by
    simp [hc]
  rw [e1]
  have e2 : ((c :: x) ++ (d :: sps)).reverse = sps.reverse ++ (d :: (c :: x).reverse) := by simp
  rw [e2, dropWhile_all _ _ (fun b hb => hs b (by simpa using hb))]
  simp [hd]

theorem exists_snoc' (l : Bytes) (h : l ≠ []) : ∃ pre d, l = pre ++ [d] :=
  let ⟨pre, d, e⟩ := (List.eq_nil_or_concat l).resolve_left h
  ⟨pre, d, e.trans List.concat_eq_append⟩

theorem altBytes_last : (as : List Alt) → ValidAlts (clsAlts as) → as ≠ [] →
    ∃ pre d, altBytes as = pre ++ [d] ∧ Loader.isBlank d = false
  | [], _, h => absurd rfl h
  | (s1, s2, n) :: r, hv, _ => by
    obtain ⟨_, _, hn, hr⟩ : IsSpTabs (clsB s1) ∧ IsSpTabs (clsB s2) ∧ IsTypeName (clsB n) ∧ ValidAlts (clsAlts r) := by
      simpa [clsAlts, ValidAlts] using hv
    cases r with
    | nil =>
      obtain ⟨hne, hall⟩ := name_bytes hn
      obtain ⟨pre, d, hd⟩ := exists_snoc' n hne
      refine ⟨s1 ++ (124 :: (s2 ++ (64 :: pre))), d, by simp [altBytes, hd], (hall d (by simp [hd])).2.1⟩
    | cons a r' =>
      obtain ⟨pre, d, he, hd⟩ := altBytes_last (a :: r') hr (by simp)
      refine ⟨s1 ++ (124 :: (s2 ++ (64 :: (n ++ pre)))), d, ?_, hd⟩
      simp only [altBytes] at he ⊢
      rw [he]; simp

/-- the text of a shortcut ends with a non-blank byte -/
theorem scBytes_last (f : Bytes) (as : List Alt) (hv : (clsSc f as).Valid) :
    ∃ x d, scBytes f as = (64 :: x) ++ [d] ∧ Loader.isBlank d = false := by
  obtain ⟨hf, ha⟩ := hv
  cases as with
  | nil =>
    obtain ⟨hne, hall⟩ := name_bytes hf
    obtain ⟨pre, d, hd⟩ := exists_snoc' f hne
    exact ⟨pre, d, by simp [scBytes, altBytes, hd], (hall d (by simp [hd])).2.1⟩
  | cons a r =>
    obtain ⟨pre, d, he, hd⟩ := altBytes_last (a :: r) ha (by simp)
    exact ⟨f ++ pre, d, by simp [scBytes, he], hd⟩

theorem trim_sc (f : Bytes) (as : List Alt) (sps : Bytes) (hv : (clsSc f as).Valid) (hs : IsSpTabs (clsB sps)) :
    Loader.trimSpaces (scBytes f as ++ sps) = scBytes f as := by
  obtain ⟨x, d, he, hd⟩ := scBytes_last f as hv
  rw [he, List.append_assoc]
  exact trim_tail x 64 sps (by decide) d hd (fun b hb => (sp_bytes hs b hb).1)

/-! ### names -/

theorem go_pos : ∀ (b cur : Bytes), 1 ≤ (splitPipe.go b cur).length
  | [], _ => by simp [splitPipe.go]
  | c :: cs, cur => by
    simp only [splitPipe.go]
    split
    · simp
    · exact go_pos cs _

theorem go_two : ∀ (b cur : Bytes), b.any (· == 124) = true → 2 ≤ (splitPipe.go b cur).length
  | [], _, h => by simp at h
  | c :: cs, cur, h => by
    simp only [splitPipe.go]
    split
    · have := go_pos cs []
      simp only [List.length_cons]; omega
    · rename_i hc
      have : cs.any (· == 124) = true := by
        simp only [List.any_cons, Bool.or_eq_true] at h
        rcases h with h | h
        · exact absurd h hc
        · exact h
      exact go_two cs _ this

/-- **the side conditions of a shortcut follow from its grammar** -/
theorem shortOK_of_valid (f : Bytes) (as : List Alt) (sps : Bytes) (hv : (clsSc f as).Valid)
    (hs : IsSpTabs (clsB sps)) : shortOK f as sps = true := by
  have hp := hasPipe_sc f as sps hv.1 hs
  have ht := trim_sc f as sps hv hs
  simp only [shortOK, Bool.and_eq_true, beq_iff_eq, Bool.or_eq_true]
  refine ⟨hp, ?_, ?_⟩
  · cases as with
    | cons a r => exact Or.inl rfl
    | nil =>
      refine Or.inr ?_
      obtain ⟨hne, hall⟩ := name_bytes hv.1
      rw [ht]
      cases f with
      | nil => exact absurd rfl hne
      | cons c rest =>
        have hq : Unquote.inQuotes (64 :: c :: rest) = false := by simp [Unquote.inQuotes]
        simp only [scBytes, altBytes, List.append_nil, unq, Unquote.unquote, hq, Bool.false_eq_true, if_false,
          isUserTypeName, List.all_eq_true]
        exact fun b hb => (hall b hb).1
  · cases as with
    | nil => simp [namesOf, shortNames]
    | cons a r =>
      have h2 : 2 ≤ (splitPipe (scBytes f (a :: r))).length := by
        unfold splitPipe
        apply go_two
        have := hp
        rw [← ht] at this
        rw [ht] at this
        have h3 := hasPipe_sc f (a :: r) [] hv.1 (by intro c hc; simp [clsB] at hc)
        simpa [Loader.hasPipe] using h3
      simp only [namesOf, shortNames, ht, List.isEmpty_cons, Bool.not_false, cond_true, List.length_map]
      simp [h2]

/-- the names of a shortcut leaf are read from the shortcut as written (the blanks behind it do not count) -/
theorem namesOf_eq (f : Bytes) (as : List Alt) (sps : Bytes) (hv : (clsSc f as).Valid) (hs : IsSpTabs (clsB sps)) :
    namesOf f as sps = shortNames (!as.isEmpty) (scBytes f as) := by
  simp only [namesOf, trim_sc f as sps hv hs]

mutual
/-- the kind of every scalar leaf can be guessed from its token -/
def BST.guessable : BST → Bool
  | .scalar tok => (RulesF.kindOfTok tok).isSome
  | .short _ _ _ => true
  | .arr _ its => guessItems its
  | .obj _ ms => guessMembers ms
def guessItems : List BItem → Bool
  | [] => true
  | (_, v, _) :: its => v.guessable && guessItems its
def guessMembers : List BMember → Bool
  | [] => true
  | (_, _, _, _, v, _) :: ms => v.guessable && guessMembers ms
end

mutual
theorem sideOK_of_valid : (t : BST) → t.cls.Valid → t.guessable = true → t.sideOK = true
  | .scalar _, _, hg => hg
  | .short f as sps, hv, _ => by
    obtain ⟨h1, h2⟩ : (clsSc f as).Valid ∧ IsSpTabs (clsB sps) := by simpa [BST.cls, SchemaScan.STree.Valid] using hv
    exact shortOK_of_valid f as sps h1 h2
  | .arr w0 its, hv, hg => by
    obtain ⟨_, hi⟩ : SchemaScan.IsWs (clsB w0) ∧ SchemaScan.SValidItems (clsItems its) := by
      simpa [BST.cls, SchemaScan.STree.Valid] using hv
    exact sideItems_of_valid its hi (by simpa [BST.guessable] using hg)
  | .obj w0 ms, hv, hg => by
    obtain ⟨_, hi⟩ : SchemaScan.IsWs (clsB w0) ∧ SchemaScan.SValidMembers (clsMembers ms) := by
      simpa [BST.cls, SchemaScan.STree.Valid] using hv
    exact sideMembers_of_valid ms hi (by simpa [BST.guessable] using hg)
theorem sideItems_of_valid : (its : List BItem) → SchemaScan.SValidItems (clsItems its) → guessItems its = true →
    sideItems its = true
  | [], _, _ => rfl
  | (w1, v, w2) :: its, hv, hg => by
    obtain ⟨_, hvv, _, _, hits⟩ : SchemaScan.IsWs (clsB w1) ∧ v.cls.Valid ∧ SchemaScan.IsWs (clsB w2) ∧
        SchemaScan.Follow v.cls (clsB w2) ∧ SchemaScan.SValidItems (clsItems its) := by
      simpa [clsItems, SchemaScan.SValidItems] using hv
    obtain ⟨hg1, hg2⟩ : v.guessable = true ∧ guessItems its = true := by simpa [guessItems] using hg
    simp [sideItems, sideOK_of_valid v hvv hg1, sideItems_of_valid its hits hg2]
theorem sideMembers_of_valid : (ms : List BMember) → SchemaScan.SValidMembers (clsMembers ms) →
    guessMembers ms = true → sideMembers ms = true
  | [], _, _ => rfl
  | (w1, k, w2, w3, v, w4) :: ms, hv, hg => by
    obtain ⟨_, _, _, _, hvv, _, _, hms⟩ :
        SchemaScan.IsWs (clsB w1) ∧ SchemaScan.IsKey (clsB k) ∧ SchemaScan.IsWs (clsB w2) ∧ SchemaScan.IsWs (clsB w3) ∧
          v.cls.Valid ∧ SchemaScan.IsWs (clsB w4) ∧ SchemaScan.Follow v.cls (clsB w4) ∧
          SchemaScan.SValidMembers (clsMembers ms) := by
      simpa [clsMembers, SchemaScan.SValidMembers] using hv
    obtain ⟨hg1, hg2⟩ : v.guessable = true ∧ guessMembers ms = true := by simpa [guessMembers] using hg
    simp [sideMembers, sideOK_of_valid v hvv hg1, sideMembers_of_valid ms hms hg2]
end

/-- a text of the class, from what is visible in the text: blanks, a tree valid on byte classes, distinct keys, scalar
kinds that can be guessed -/
theorem TextOK.of_guessable (w0 : Bytes) (t : BST) (w1 : Bytes) (h0 : SchemaScan.IsWs (clsB w0))
    (h1 : SchemaScan.IsWs (clsB w1)) (hv : t.cls.Valid) (hf : SchemaScan.Follow t.cls (clsB w1))
    (hg : t.guessable = true) (hk : t.KeysNodup) : TextOK w0 t w1 :=
  ⟨h0, h1, hv, hf, sideOK_of_valid t hv hg, hk⟩

end SE
