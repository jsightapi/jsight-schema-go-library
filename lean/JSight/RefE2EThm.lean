import JSight.RefE2E
import JSight.RefE2ESpec
import JSight.E2EShape
/-!
C03 at TEXT level: the specification of the validator machine (`VK.shape`) on the validator schema of a tree with
shortcut leaves and the table of the added types IS the union specification `RE.Admits`:

* `shape_fix`: `VK.shape` satisfies the step equation of the specification (`C03_ref_union`, `C03_ref_single`, the
  unknown name, the non-reference positions);
* `sound`: what the iterated step admits, the validator accepts (induction on the fuel);
* `complete`: what the validator accepts is admitted with some fuel (induction on the document; inside a position on
  the chain of references `VK.RNV` the depth-first expansion follows).
-/
namespace RE
open SE (BST BItem BMember TypeText namesOf cnOf typesOf typeTexts docText TextOK TypesOK)
open Compile

variable {L D : Type}

/-! ### general facts about `VK.shape` -/

theorem shape_nonref (env : VK.Env L) (litOK : L → D → Bool) (kOK : String → String → Bool) (s : VK.S L)
    (h : VK.isRef s = false) (d : VN.J D) : VK.shape env litOK kOK s d = VK.shapeA env litOK kOK s d := by
  unfold VK.shape VK.alts
  rw [VK.build_nonref env _ _ h]
  simp

theorem shapeItems_zip (env : VK.Env L) (litOK : L → D → Bool) (kOK : String → String → Bool) (items : List (VK.S L)) :
    (xs : List (VN.J D)) → (i : Nat) →
    VK.shapeItems env litOK kOK items i xs = (xs.zipIdx i).all (fun p => match VK.childAt items p.2 with
      | some s => VK.shape env litOK kOK s p.1
      | none => false)
  | [], _ => by simp [VK.shapeItems]
  | x :: xs, i => by
    simp only [VK.shapeItems, List.zipIdx_cons, List.all_cons, shapeItems_zip env litOK kOK items xs (i + 1)]
    rfl

theorem nulAccepts_none (litOK : L → D → Bool) (d : VN.J D) : ORS.nulAccepts litOK none d = false := by
  cases d <;> rfl

/-! ### the validator schema of a tree -/

theorem vkItems_eq_map (opt : Bool) : (its : List BItem) → vkItems opt its = its.map (fun it => vkOf opt it.2.1)
  | [] => rfl
  | (_, v, _) :: its => by simp [vkItems, vkItems_eq_map opt its]

theorem childAt_vk (opt : Bool) (its : List BItem) (i : Nat) :
    VK.childAt (vkItems opt its) i = (childAtB its i).map (vkOf opt) := by
  rw [vkItems_eq_map, VK.childAt_eq, Tbl.clampAt_map,
    show childAtB its i = (Tbl.clampAt its i).map (·.2.1) by cases its <;> rfl, Option.map_map]
  rfl

theorem lookup_vk (opt : Bool) : (ms : List BMember) → (k : String) →
    VK.lookup (vkMembers opt ms) k = (lookupM ms k).map (vkOf opt)
  | [], _ => rfl
  | (_, k', _, _, v, _) :: ms, k => by
    have ih := lookup_vk opt ms k
    simp only [VK.lookup, lookupM, vkMembers, List.find?_cons] at ih ⊢
    cases h : E2E.keyOf k' == k <;> simp [ih]

theorem requiredKeys_vk (opt : Bool) : (ms : List BMember) →
    VK.requiredKeys (vkMembers opt ms) = if opt then [] else keysM ms
  | [] => by cases opt <;> rfl
  | (_, k, _, _, v, _) :: ms => by
    have ih := requiredKeys_vk opt ms
    simp only [VK.requiredKeys, vkMembers, keysM, List.filter_cons, List.map_cons] at ih ⊢
    cases opt <;> simp_all

theorem lookupT_envB (tys : List TypeText) (n : String) :
    VK.lookupT (envB tys) n = (lookupB tys n).map (vkOf false) :=
  Tbl.firstBy_map (fun x : TypeText => x.1) (·.2.2.1) (fun p : String × VK.S Lit => p.1) (·.2) _ (vkOf false)
    (fun _ => rfl) (fun _ => rfl) tys n

/-! ### the step equation -/

/-- what the validator's specification says about a tree at a document -/
abbrev acc (tys : List TypeText) (kOK : String → String → Bool) (o : Bool) (t : BST) (d : Doc) : Bool :=
  VK.shape (envB tys) litOK kOK (vkOf o t) d

theorem shape_fix (tys : List TypeText) (kOK : String → String → Bool) (opt : Bool) (t : BST) (d : Doc) :
    acc tys kOK opt t d = stepA tys (acc tys kOK) opt t d := by
  cases t with
  | short f as sps =>
    simp only [acc, vkOf, stepA]
    rw [ORS.shape_ref_union, nulAccepts_none, Bool.or_false]
    congr 1
    funext n
    cases h : lookupB tys n with
    | none => exact ORS.shape_ref_unknown _ _ _ n (by rw [lookupT_envB, h]; rfl) d
    | some t' => exact ORS.shape_ref_single _ _ _ n (vkOf false t') (by rw [lookupT_envB, h]; rfl) d
  | scalar tok =>
    simp only [acc]
    rw [shape_nonref _ _ _ _ rfl]
    cases d <;> simp [vkOf, stepA, VK.shapeA, litOK, E2E.litOK_plain]
  | arr w its =>
    simp only [acc]
    rw [shape_nonref _ _ _ _ rfl]
    cases d with
    | arr xs =>
      simp only [vkOf, VK.shapeA, stepA, shapeItems_zip, childAt_vk]
      congr 1
      funext p
      cases childAtB its p.2 <;> rfl
    | lit x => simp [vkOf, stepA, VK.shapeA]
    | obj dms => simp [vkOf, stepA, VK.shapeA]
  | obj w ms =>
    simp only [acc]
    rw [shape_nonref _ _ _ _ rfl]
    cases d with
    | obj dms =>
      simp only [vkOf, VK.shapeA, stepA, VK.requiredKeys, List.filter_nil, List.map_nil, List.append_nil]
      have hr := requiredKeys_vk opt ms
      simp only [VK.requiredKeys] at hr
      rw [E2E.shapeMembers_all, hr]
      congr 1
      · congr 1
        funext m
        rw [lookup_vk]
        cases lookupM ms m.1 <;> rfl
      · cases opt <;> simp
    | lit x => simp [vkOf, stepA, VK.shapeA]
    | arr xs => simp [vkOf, stepA, VK.shapeA]

/-! ### monotonicity, soundness -/

theorem stepA_mono (tys : List TypeText) (r r' : Bool → BST → Doc → Bool)
    (h : ∀ o t d, r o t d = true → r' o t d = true) (opt : Bool) (t : BST) (d : Doc) :
    stepA tys r opt t d = true → stepA tys r' opt t d = true := by
  cases t with
  | short f as sps =>
    simp only [stepA, List.any_eq_true]
    rintro ⟨n, hn, hp⟩
    refine ⟨n, hn, ?_⟩
    revert hp
    cases lookupB tys n with
    | none => exact id
    | some t' => exact h _ _ _
  | scalar tok => cases d <;> simp [stepA]
  | arr w its =>
    cases d with
    | arr xs =>
      simp only [stepA, List.all_eq_true]
      intro hp p hpm
      have := hp p hpm
      revert this
      cases childAtB its p.2 with
      | none => exact id
      | some t' => exact h _ _ _
    | lit x => simp [stepA]
    | obj dms => simp [stepA]
  | obj w ms =>
    cases d with
    | obj dms =>
      intro hs
      simp only [stepA] at hs ⊢
      rw [Bool.and_eq_true] at hs ⊢
      refine ⟨?_, hs.2⟩
      have h1 := hs.1
      rw [List.all_eq_true] at h1 ⊢
      intro m hm
      have := h1 m hm
      revert this
      cases lookupM ms m.1 with
      | none => exact id
      | some t' => exact h _ _ _
    | lit x => simp [stepA]
    | arr xs => simp [stepA]

theorem admits_succ (tys : List TypeText) : (f : Nat) → (o : Bool) → (t : BST) → (d : Doc) →
    admits tys f o t d = true → admits tys (f + 1) o t d = true
  | 0, _, _, _, h => by simp [admits] at h
  | f + 1, o, t, d, h => stepA_mono tys _ _ (admits_succ tys f) o t d h

theorem admits_le (tys : List TypeText) (f g : Nat) (hle : f ≤ g) (o : Bool) (t : BST) (d : Doc)
    (h : admits tys f o t d = true) : admits tys g o t d = true := by
  induction hle with
  | refl => exact h
  | step _ ih => exact admits_succ tys _ o t d ih

theorem sound (tys : List TypeText) (kOK : String → String → Bool) : (f : Nat) → (o : Bool) → (t : BST) → (d : Doc) →
    admits tys f o t d = true → acc tys kOK o t d = true
  | 0, _, _, _, h => by simp [admits] at h
  | f + 1, o, t, d, h => by
    rw [shape_fix]
    exact stepA_mono tys _ _ (sound tys kOK f) o t d h

/-! ### completeness -/

theorem all_fuel {α : Type} (Q : Nat → α → Bool) (hm : ∀ f g a, f ≤ g → Q f a = true → Q g a = true) :
    (l : List α) → (∀ a ∈ l, ∃ f, Q f a = true) → ∃ f, ∀ a ∈ l, Q f a = true
  | [], _ => ⟨0, by simp⟩
  | a :: l, h => by
    obtain ⟨f1, h1⟩ := h a (by simp)
    obtain ⟨f2, h2⟩ := all_fuel Q hm l (fun b hb => h b (by simp [hb]))
    refine ⟨max f1 f2, ?_⟩
    intro b hb
    rcases List.mem_cons.1 hb with rfl | hb
    · exact hm _ _ _ (Nat.le_max_left ..) h1
    · exact hm _ _ _ (Nat.le_max_right ..) (h2 b hb)

/-- the members of a list are admitted one by one exactly when one fuel serves them all -/
theorem admits_all {α : Type} (tys : List TypeText) (o : Bool) (g : α → Option BST) (h : α → Doc) (l : List α) :
    (∃ f, ∀ a ∈ l, (match g a with
        | some t => admits tys f o t (h a)
        | none => false) = true) ↔ ∀ a ∈ l, ∃ t, g a = some t ∧ Admits tys o t (h a) := by
  constructor
  · rintro ⟨f, hf⟩ a ha
    have h1 := hf a ha
    cases hc : g a with
    | none => rw [hc] at h1; cases h1
    | some t => rw [hc] at h1; exact ⟨t, rfl, f, h1⟩
  · intro hl
    exact all_fuel (fun f a => match g a with
        | some t => admits tys f o t (h a)
        | none => false) (by
          intro f f' a hle
          cases g a with
          | none => exact id
          | some t => exact admits_le tys f f' hle o t (h a)) l (by
          intro a ha
          obtain ⟨t, hc, f, hf⟩ := hl a ha
          exact ⟨f, by simp only [hc]; exact hf⟩)

/-- what a type name admits with a given fuel -/
def admitsName (tys : List TypeText) (f : Nat) (n : String) (d : Doc) : Bool :=
  match lookupB tys n with
  | some t => admits tys f false t d
  | none => false

theorem vkOf_ref {o : Bool} {t : BST} {names : List String} {nul : Option Lit} (h : vkOf o t = .ref names nul) :
    ∃ f as sps, t = .short f as sps ∧ names = namesOf f as sps ∧ nul = none := by
  cases t with
  | short f as sps => simp only [vkOf, VK.S.ref.injEq] at h; exact ⟨f, as, sps, rfl, h.1.symm, h.2.symm⟩
  | scalar tok => simp [vkOf] at h
  | arr w its => simp [vkOf] at h
  | obj w ms => simp [vkOf] at h

/-- along a chain of references the validator's expansion follows: a non-reference schema reached from the name `n`
that accepts `d` — the name admits `d`, provided the non-reference trees do (`ns`) -/
theorem chain (tys : List TypeText) (kOK : String → String → Bool) (d : Doc)
    (ns : ∀ (t' : BST), VK.isRef (vkOf false t') = false → acc tys kOK false t' d = true → Admits tys false t' d)
    (n : String) (a : VK.S Lit) (hr : VK.RNV (envB tys) [] n a)
    (ha : VK.shapeA (envB tys) litOK kOK a d = true) : ∃ f, admitsName tys f n d = true := by
  induction hr with
  | leaf n t' _ hl hnr =>
    rw [lookupT_envB] at hl
    cases hb : lookupB tys n with
    | none => rw [hb] at hl; cases hl
    | some bt =>
      rw [hb] at hl
      simp only [Option.map_some, Option.some.injEq] at hl
      subst hl
      obtain ⟨f, hf⟩ := ns bt hnr (by simp only [acc]; rw [shape_nonref _ _ _ _ hnr]; exact ha)
      exact ⟨f, by simp only [admitsName, hb]; exact hf⟩
  | null n names l _ hl =>
    rw [lookupT_envB] at hl
    cases hb : lookupB tys n with
    | none => rw [hb] at hl; cases hl
    | some bt =>
      rw [hb] at hl
      simp only [Option.map_some, Option.some.injEq] at hl
      obtain ⟨_, _, _, _, _, h3⟩ := vkOf_ref hl
      cases h3
  | step n names nul m a _ hl hm _ ih =>
    rw [lookupT_envB] at hl
    cases hb : lookupB tys n with
    | none => rw [hb] at hl; cases hl
    | some bt =>
      rw [hb] at hl
      simp only [Option.map_some, Option.some.injEq] at hl
      obtain ⟨fi, as, sps, rfl, rfl, _⟩ := vkOf_ref hl
      obtain ⟨f, hf⟩ := ih ha
      refine ⟨f + 1, ?_⟩
      simp only [admitsName, hb, admits, stepA, List.any_eq_true]
      exact ⟨m, hm, hf⟩

theorem complete (tys : List TypeText) (kOK : String → String → Bool) : ∀ (N : Nat) (d : Doc), sizeOf d < N →
    ∀ (opt : Bool) (t : BST), acc tys kOK opt t d = true → Admits tys opt t d
  | 0, _, h, _, _, _ => by omega
  | N + 1, d, hd, opt, t, hs => by
    have IH := complete tys kOK N
    -- the trees that are no shortcut
    have ns : ∀ (o : Bool) (t' : BST), VK.isRef (vkOf o t') = false → acc tys kOK o t' d = true →
        Admits tys o t' d := by
      intro o t' hr hs'
      rw [shape_fix] at hs'
      cases t' with
      | short f as sps => simp [vkOf, VK.isRef] at hr
      | scalar tok =>
        cases d with
        | lit x => exact ⟨1, by simpa [admits, stepA] using hs'⟩
        | arr xs => simp [stepA] at hs'
        | obj dms => simp [stepA] at hs'
      | arr w its =>
        cases d with
        | arr xs =>
          simp only [stepA, List.all_eq_true] at hs'
          obtain ⟨f, hf⟩ := (admits_all tys o (fun p => childAtB its p.2) (·.1) xs.zipIdx).2 (by
            intro p hp
            have h1 := hs' p hp
            cases hc : childAtB its p.2 with
            | none => rw [hc] at h1; cases h1
            | some t'' =>
              rw [hc] at h1
              have hsz : sizeOf p.1 < N := by
                have := List.sizeOf_lt_of_mem (List.fst_mem_of_mem_zipIdx hp)
                simp only [VN.J.arr.sizeOf_spec] at hd
                omega
              exact ⟨t'', rfl, IH p.1 hsz o t'' h1⟩)
          exact ⟨f + 1, by simp only [admits, stepA, List.all_eq_true]; exact hf⟩
        | lit x => simp [stepA] at hs'
        | obj dms => simp [stepA] at hs'
      | obj w ms =>
        cases d with
        | obj dms =>
          simp only [stepA] at hs'
          rw [Bool.and_eq_true, List.all_eq_true] at hs'
          obtain ⟨f, hf⟩ := (admits_all tys o (fun m => lookupM ms m.1) (·.2) dms).2 (by
            intro m hm
            have h1 := hs'.1 m hm
            cases hc : lookupM ms m.1 with
            | none => rw [hc] at h1; cases h1
            | some t'' =>
              rw [hc] at h1
              have hsz : sizeOf m.2 < N := by
                have := List.sizeOf_lt_of_mem hm
                have e : sizeOf m = 1 + sizeOf m.1 + sizeOf m.2 := by cases m; rfl
                simp only [VN.J.obj.sizeOf_spec] at hd
                omega
              exact ⟨t'', rfl, IH m.2 hsz o t'' h1⟩)
          refine ⟨f + 1, ?_⟩
          simp only [admits, stepA]
          rw [Bool.and_eq_true, List.all_eq_true]
          exact ⟨hf, hs'.2⟩
        | lit x => simp [stepA] at hs'
        | arr xs => simp [stepA] at hs'
    cases t with
    | short fi as sps =>
      simp only [acc, vkOf, VK.shape, List.any_eq_true] at hs
      obtain ⟨a, hmem, ha⟩ := hs
      rw [VK.alts_iff_reach] at hmem
      rcases hmem with ⟨hr, _⟩ | ⟨names, nul, he, ⟨l, hn, _⟩ | ⟨n, hn, hp⟩⟩
      · simp [VK.isRef] at hr
      · cases he; cases hn
      · cases he
        obtain ⟨f, hf⟩ := chain tys kOK d (ns false) n a hp ha
        refine ⟨f + 1, ?_⟩
        simp only [admits, stepA, List.any_eq_true]
        exact ⟨n, hn, hf⟩
    | scalar tok => exact ns opt _ rfl hs
    | arr w its => exact ns opt _ rfl hs
    | obj w ms => exact ns opt _ rfl hs

/-- **the validator's specification on a tree with shortcut leaves is the union specification** -/
theorem shape_iff_admits (tys : List TypeText) (kOK : String → String → Bool) (opt : Bool) (t : BST) (d : Doc) :
    VK.shape (envB tys) litOK kOK (vkOf opt t) d = true ↔ Admits tys opt t d :=
  ⟨complete tys kOK (sizeOf d + 1) d (Nat.lt_succ_self _) opt t, fun ⟨f, hf⟩ => sound tys kOK f opt t d hf⟩

open Classical in
/-- **C03 at text level** -/
theorem text_level_refs (w0 : SE.Bytes) (t : BST) (w1 : SE.Bytes) (ht : TextOK w0 t w1) (tys : List TypeText)
    (htys : TypesOK tys) (hn : CL.typeNamesOK (typeTexts tys) = true) (opt : Bool)
    (hc : Compile.check (cnOf opt t) (typesOf tys) = .ok ())
    (d : VPos.T UInt8) (hd : (VPos.toJA JsonScan.classify d).Valid) (ws0 ws1 : List UInt8)
    (hw0 : JsonScan.IsWs (ws0.map JsonScan.classify)) (hw1 : JsonScan.IsWs (ws1.map JsonScan.classify)) :
    E2E.validateText (docText w0 t w1) (typeTexts tys) (ws0 ++ (d.render VPos.byteSym ++ ws1)) opt
      = if Admits tys opt t (E2E.docOf d) then .acc else .rej := by
  rw [text_level_vk w0 t w1 ht tys htys hn opt hc d hd ws0 ws1 hw0 hw1]
  by_cases h : Admits tys opt t (E2E.docOf d)
  · rw [if_pos h, if_pos ((shape_iff_admits tys _ opt t _).2 h)]
  · rw [if_neg h, if_neg (fun h' => h ((shape_iff_admits tys _ opt t _).1 h'))]

/-! ### a decidable criterion for "not admitted" -/

/-- the optimistic unfolding: `k` steps, everything below admitted -/
def admitsTop (tys : List TypeText) : Nat → Bool → BST → Doc → Bool
  | 0 => fun _ _ _ => true
  | k + 1 => stepA tys (admitsTop tys k)

theorem admits_le_top (tys : List TypeText) : (k f : Nat) → (o : Bool) → (t : BST) → (d : Doc) →
    admits tys (k + f) o t d = true → admitsTop tys k o t d = true
  | 0, _, _, _, _, _ => rfl
  | k + 1, f, o, t, d, h => by
    have e : k + 1 + f = (k + f) + 1 := by omega
    rw [e] at h
    exact stepA_mono tys _ _ (admits_le_top tys k f) o t d h

/-- if even the optimistic `k`-step unfolding refuses the document, no fuel admits it -/
theorem not_admits_of_top (tys : List TypeText) (k : Nat) (o : Bool) (t : BST) (d : Doc)
    (h : admitsTop tys k o t d = false) : ¬ Admits tys o t d := by
  rintro ⟨f, hf⟩
  have := admits_le_top tys k f o t d (admits_le tys f (k + f) (by omega) o t d hf)
  rw [h] at this
  cases this

/-! ### the specification read as a recursive predicate -/

theorem admits_step (tys : List TypeText) (o : Bool) (t : BST) (d : Doc) :
    Admits tys o t d ↔ ∃ f, stepA tys (admits tys f) o t d = true := by
  constructor
  · rintro ⟨f, hf⟩
    cases f with
    | zero => simp [admits] at hf
    | succ f => exact ⟨f, hf⟩
  · rintro ⟨f, hf⟩
    exact ⟨f + 1, hf⟩

/-- a scalar leaf admits the literal documents its kind admits (an integer where a float stands) -/
theorem admits_scalar (tys : List TypeText) (o : Bool) (tok : List UInt8) (d : Doc) :
    Admits tys o (.scalar tok) d ↔ ∃ x, d = .lit x ∧ E2E.kindOKTok (E2E.kindOf tok) x = true := by
  rw [admits_step]
  cases d with
  | lit x => simp [stepA]
  | arr xs => simp [stepA]
  | obj dms => simp [stepA]

/-- **union**: a shortcut leaf `@A | @B | …` admits exactly what the tree added under one of its names admits -/
theorem admits_short (tys : List TypeText) (o : Bool) (fi : List UInt8) (as : List SE.Alt) (sps : List UInt8) (d : Doc) :
    Admits tys o (.short fi as sps) d ↔
      ∃ n ∈ namesOf fi as sps, ∃ t, lookupB tys n = some t ∧ Admits tys false t d := by
  rw [admits_step]
  simp only [stepA, List.any_eq_true]
  constructor
  · rintro ⟨f, n, hn, hp⟩
    cases hl : lookupB tys n with
    | none => rw [hl] at hp; cases hp
    | some t => rw [hl] at hp; exact ⟨n, hn, t, hl, f, hp⟩
  · rintro ⟨n, hn, t, hl, f, hf⟩
    exact ⟨f, n, hn, by rw [hl]; exact hf⟩

/-- an array: every element is admitted by the item of its index (the last item repeats) -/
theorem admits_arr (tys : List TypeText) (o : Bool) (w : List UInt8) (its : List BItem) (d : Doc) :
    Admits tys o (.arr w its) d ↔
      ∃ xs, d = .arr xs ∧ ∀ p ∈ xs.zipIdx, ∃ t, childAtB its p.2 = some t ∧ Admits tys o t p.1 := by
  rw [admits_step]
  cases d with
  | lit x => simp [stepA]
  | obj dms => simp [stepA]
  | arr xs =>
    simp only [stepA, List.all_eq_true, VN.J.arr.injEq, exists_eq_left']
    exact admits_all tys o (fun p => childAtB its p.2) (·.1) xs.zipIdx

/-- an object: every member's key is a key of the tree whose value tree admits the member's value, and every key of
the tree is present (unless keys are optional by default) -/
theorem admits_obj (tys : List TypeText) (o : Bool) (w : List UInt8) (ms : List BMember) (d : Doc) :
    Admits tys o (.obj w ms) d ↔
      ∃ dms, d = .obj dms ∧ (∀ m ∈ dms, ∃ t, lookupM ms m.1 = some t ∧ Admits tys o t m.2) ∧
        (o = true ∨ ∀ k ∈ keysM ms, ∃ m ∈ dms, m.1 = k) := by
  rw [admits_step]
  cases d with
  | lit x => simp [stepA]
  | arr xs => simp [stepA]
  | obj dms =>
    simp only [stepA, Bool.and_eq_true, List.all_eq_true, VN.J.obj.injEq, exists_eq_left', Bool.or_eq_true,
      List.any_eq_true, beq_iff_eq]
    have hall := admits_all tys o (fun m => lookupM ms m.1) (·.2) dms
    exact ⟨fun ⟨f, hf, hk⟩ => ⟨hall.1 ⟨f, hf⟩, hk⟩, fun ⟨hm, hk⟩ => (hall.2 hm).elim fun f hf => ⟨f, hf, hk⟩⟩

end RE
