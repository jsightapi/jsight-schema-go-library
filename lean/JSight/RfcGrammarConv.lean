import JSight.RfcGrammar
/-!
C05, "⇒" against the grammar itself: the converse of `RfcG.grammar_accepted`. Every class string accepted by the
recogniser `Rfc.acceptsC` is `ws value ws` for a value tree of the RFC 8259 grammar (`GValid`). No bound on size
or depth.

Method: for every configuration `⟨st, ctx⟩` the predicate `Suf ⟨st, ctx⟩ cs` describes, in grammar terms, the
*suffixes* `cs` that can lead from that configuration to acceptance (the rest of the token in progress, then for every
open container of `ctx` the rest of its items / members and its closer: `Tail ctx`). `Suf` holds for the empty suffix
in accepting configurations and is propagated backwards by every `Rfc.step` (`suf_step`), so it holds for the initial
configuration and the whole text, where it says `cs = ws ++ value ++ ws`.
-/
namespace RfcG
open JsonScan (Cls JA IsWs isWs_nil StrBody NumTok IsDigits renderItems renderMembers)
open Rfc

abbrev Item := List Cls × JA × List Cls
abbrev Member := List Cls × List Cls × List Cls × List Cls × JA × List Cls

/-! ### small facts -/

theorem isWs_cons {c : Cls} {w : List Cls} (hc : c.isWs = true) (hw : IsWs w) : IsWs (c :: w) := by
  intro x hx
  rcases List.mem_cons.1 hx with rfl | h
  · exact hc
  · exact hw x h

theorem isDigits_nil : IsDigits [] := by intro x hx; cases hx

theorem isDigits_cons {c : Cls} {w : List Cls} (hc : c.isDigit = true) (hw : IsDigits w) : IsDigits (c :: w) := by
  intro x hx
  rcases List.mem_cons.1 hx with rfl | h
  · exact hc
  · exact hw x h

theorem GValid_scalar (tok : List Cls) : GValid (.scalar tok) ↔ GTok tok := by simp [GValid]
theorem GValid_arr (w : List Cls) (its : List Item) : GValid (.arr w its) ↔ IsWs w ∧ GItems its := by simp [GValid]
theorem GValid_obj (w : List Cls) (ms : List Member) : GValid (.obj w ms) ↔ IsWs w ∧ GMembers ms := by simp [GValid]
theorem GItems_cons (w1 : List Cls) (v : JA) (w2 : List Cls) (its : List Item) :
    GItems ((w1, v, w2) :: its) ↔ IsWs w1 ∧ GValid v ∧ IsWs w2 ∧ GItems its := by simp [GItems]
theorem GMembers_cons (w1 k w2 w3 : List Cls) (v : JA) (w4 : List Cls) (ms : List Member) :
    GMembers ((w1, k, w2, w3, v, w4) :: ms) ↔
      IsWs w1 ∧ GKey k ∧ IsWs w2 ∧ IsWs w3 ∧ GValid v ∧ IsWs w4 ∧ GMembers ms := by simp [GMembers]
theorem GItems_nil : GItems [] := by simp [GItems]
theorem GMembers_nil : GMembers [] := by simp [GMembers]

/-- the separator before the remaining items / members (as in `renderItems`, `renderMembers`) -/
def sep {α : Type} (l : List α) : List Cls := if l.isEmpty then [] else [.comma]

theorem renderItems_cons (w1 : List Cls) (v : JA) (w2 : List Cls) (its : List Item) :
    renderItems ((w1, v, w2) :: its) = w1 ++ (v.render ++ (w2 ++ (sep its ++ renderItems its))) := by
  simp only [renderItems, sep]

theorem renderMembers_cons (w1 k w2 w3 : List Cls) (v : JA) (w4 : List Cls) (ms : List Member) :
    renderMembers ((w1, k, w2, w3, v, w4) :: ms) =
      w1 ++ (k ++ (w2 ++ (.colon :: (w3 ++ (v.render ++ (w4 ++ (sep ms ++ renderMembers ms))))))) := by
  simp only [renderMembers, sep]

theorem renderItems_nil : renderItems [] = [.rbrack] := by simp only [renderItems]
theorem renderMembers_nil : renderMembers [] = [.rbrace] := by simp only [renderMembers]

/-! ### what may follow a complete value, for a stack of open containers -/

/-- the texts that may follow a complete value when the containers `ctx` are open: layout, then for the innermost
container the remaining items / members and its closer, and so on outwards; at top level only layout -/
def Tail : List Ctx → List Cls → Prop
  | [], cs => IsWs cs
  | .arr :: k, cs => ∃ (w : List Cls) (its : List Item) (rest : List Cls),
      IsWs w ∧ GItems its ∧ cs = w ++ (sep its ++ (renderItems its ++ rest)) ∧ Tail k rest
  | .obj :: k, cs => ∃ (w : List Cls) (ms : List Member) (rest : List Cls),
      IsWs w ∧ GMembers ms ∧ cs = w ++ (sep ms ++ (renderMembers ms ++ rest)) ∧ Tail k rest

theorem Tail_nil (cs : List Cls) : Tail [] cs ↔ IsWs cs := by simp only [Tail]
theorem Tail_arr (k : List Ctx) (cs : List Cls) : Tail (.arr :: k) cs ↔ ∃ (w : List Cls) (its : List Item) (rest : List Cls),
      IsWs w ∧ GItems its ∧ cs = w ++ (sep its ++ (renderItems its ++ rest)) ∧ Tail k rest := by simp only [Tail]
theorem Tail_obj (k : List Ctx) (cs : List Cls) : Tail (.obj :: k) cs ↔ ∃ (w : List Cls) (ms : List Member) (rest : List Cls),
      IsWs w ∧ GMembers ms ∧ cs = w ++ (sep ms ++ (renderMembers ms ++ rest)) ∧ Tail k rest := by simp only [Tail]

theorem tail_ws_cons (ctx : List Ctx) (c : Cls) (cs : List Cls) (hc : c.isWs = true) (h : Tail ctx cs) :
    Tail ctx (c :: cs) := by
  rcases ctx with _ | ⟨x, k⟩
  · rw [Tail_nil] at h ⊢; exact isWs_cons hc h
  · cases x
    · rw [Tail_obj] at h ⊢
      obtain ⟨w, ms, rest, hw, hm, rfl, ht⟩ := h
      exact ⟨c :: w, ms, rest, isWs_cons hc hw, hm, rfl, ht⟩
    · rw [Tail_arr] at h ⊢
      obtain ⟨w, its, rest, hw, hi, rfl, ht⟩ := h
      exact ⟨c :: w, its, rest, isWs_cons hc hw, hi, rfl, ht⟩

/-! ### number tokens: completions of a number from each `Num` state -/

def SignOK (s : Option Cls) : Prop := ∀ y, s = some y → y = .plus ∨ y = .minus
def FracOK (f : Option (Cls × List Cls)) : Prop := ∀ d ds, f = some (d, ds) → d.isDigit = true ∧ IsDigits ds
def ExpOK (x : Option (Cls × Option Cls × Cls × List Cls)) : Prop :=
  ∀ e s d ds, x = some (e, s, d, ds) → (e = .le ∨ e = .uE) ∧ (∀ y, s = some y → y = .plus ∨ y = .minus) ∧
    d.isDigit = true ∧ IsDigits ds

def fracR : Option (Cls × List Cls) → List Cls
  | none => []
  | some (d, ds) => .dot :: d :: ds
def expTail : Option Cls → Cls → List Cls → List Cls
  | none, d, ds => d :: ds
  | some s, d, ds => s :: d :: ds
def expR : Option (Cls × Option Cls × Cls × List Cls) → List Cls
  | none => []
  | some (e, s, d, ds) => e :: expTail s d ds

theorem render_eq (t : NumTok) :
    t.render = (if t.neg then [.minus] else []) ++ (t.int ++ (fracR t.frac ++ expR t.exp)) := by
  obtain ⟨neg, int, frac, exp⟩ := t
  rcases frac with _ | ⟨d, ds⟩ <;> rcases exp with _ | ⟨e, _ | s, d', ds'⟩ <;>
    simp [NumTok.render, fracR, expR, expTail]

theorem fracOK_none : FracOK none := by intro d ds h; cases h
theorem expOK_none : ExpOK none := by intro e s d ds h; cases h
theorem fracOK_some {d : Cls} {ds : List Cls} (hd : d.isDigit = true) (hds : IsDigits ds) : FracOK (some (d, ds)) := by
  intro d' ds' h; cases h; exact ⟨hd, hds⟩
theorem expOK_some {e : Cls} {s : Option Cls} {d : Cls} {ds : List Cls} (he : e = .le ∨ e = .uE) (hs : SignOK s)
    (hd : d.isDigit = true) (hds : IsDigits ds) : ExpOK (some (e, s, d, ds)) := by
  intro e' s' d' ds' h; cases h; exact ⟨he, hs, hd, hds⟩

/-- `NumRest n t`: `t` completes a number when the automaton is in number state `n` -/
def NumRest : Num → List Cls → Prop
  | .exp, t => IsDigits t
  | .esign, t => ∃ d ds, d.isDigit = true ∧ IsDigits ds ∧ t = d :: ds
  | .e, t => ∃ s d ds, SignOK s ∧ d.isDigit = true ∧ IsDigits ds ∧ t = expTail s d ds
  | .frac, t => ∃ ds x, IsDigits ds ∧ ExpOK x ∧ t = ds ++ expR x
  | .dot, t => ∃ d ds x, d.isDigit = true ∧ IsDigits ds ∧ ExpOK x ∧ t = d :: (ds ++ expR x)
  | .zero, t => ∃ f x, FracOK f ∧ ExpOK x ∧ t = fracR f ++ expR x
  | .int, t => ∃ ds f x, IsDigits ds ∧ FracOK f ∧ ExpOK x ∧ t = ds ++ (fracR f ++ expR x)
  | .minus, t => (∃ f x, FracOK f ∧ ExpOK x ∧ t = .zero :: (fracR f ++ expR x)) ∨
      (∃ ds f x, IsDigits ds ∧ FracOK f ∧ ExpOK x ∧ t = .d19 :: (ds ++ (fracR f ++ expR x)))

theorem numRest_final (n : Num) (h : n.final = true) : NumRest n [] := by
  cases n <;> simp [Num.final] at h
  · exact ⟨none, none, fracOK_none, expOK_none, rfl⟩
  · exact ⟨[], none, none, isDigits_nil, fracOK_none, expOK_none, rfl⟩
  · exact ⟨[], none, isDigits_nil, expOK_none, rfl⟩
  · exact isDigits_nil

theorem tok_zero (neg : Bool) (f : Option (Cls × List Cls)) (x : Option (Cls × Option Cls × Cls × List Cls))
    (hf : FracOK f) (hx : ExpOK x) :
    GTok ((if neg then [.minus] else []) ++ (.zero :: (fracR f ++ expR x))) := by
  have := GTok.num ⟨neg, [.zero], f, x⟩ ⟨Or.inl rfl, hf, hx⟩
  rw [render_eq] at this
  exact this

theorem tok_int (neg : Bool) (ds : List Cls) (f : Option (Cls × List Cls)) (x : Option (Cls × Option Cls × Cls × List Cls))
    (hds : IsDigits ds) (hf : FracOK f) (hx : ExpOK x) :
    GTok ((if neg then [.minus] else []) ++ (.d19 :: (ds ++ (fracR f ++ expR x)))) := by
  have := GTok.num ⟨neg, .d19 :: ds, f, x⟩ ⟨Or.inr ⟨ds, rfl, hds⟩, hf, hx⟩
  rw [render_eq] at this
  exact this

theorem numRest_zero_tok (t : List Cls) (h : NumRest .zero t) : GTok (.zero :: t) := by
  obtain ⟨f, x, hf, hx, rfl⟩ := h
  exact tok_zero false f x hf hx

theorem numRest_int_tok (t : List Cls) (h : NumRest .int t) : GTok (.d19 :: t) := by
  obtain ⟨ds, f, x, hds, hf, hx, rfl⟩ := h
  exact tok_int false ds f x hds hf hx

theorem numRest_minus_tok (t : List Cls) (h : NumRest .minus t) : GTok (.minus :: t) := by
  rcases h with ⟨f, x, hf, hx, rfl⟩ | ⟨ds, f, x, hds, hf, hx, rfl⟩
  · exact tok_zero true f x hf hx
  · exact tok_int true ds f x hds hf hx

/-! ### the suffix languages of the configurations -/

def SufValue (ctx : List Ctx) (cs : List Cls) : Prop :=
  ∃ (w : List Cls) (v : JA) (rest : List Cls), IsWs w ∧ GValid v ∧ cs = w ++ (v.render ++ rest) ∧ Tail ctx rest

def SufArrFirst (k : List Ctx) (cs : List Cls) : Prop :=
  ∃ (w : List Cls) (its : List Item) (rest : List Cls),
    IsWs w ∧ GItems its ∧ cs = w ++ (renderItems its ++ rest) ∧ Tail k rest

def SufObjFirst (k : List Ctx) (cs : List Cls) : Prop :=
  ∃ (w : List Cls) (ms : List Member) (rest : List Cls),
    IsWs w ∧ GMembers ms ∧ cs = w ++ (renderMembers ms ++ rest) ∧ Tail k rest

def SufKey (k : List Ctx) (cs : List Cls) : Prop :=
  ∃ (ms : List Member) (rest : List Cls), ms ≠ [] ∧ GMembers ms ∧ cs = renderMembers ms ++ rest ∧ Tail k rest

def SufColon (ctx : List Ctx) (cs : List Cls) : Prop :=
  ∃ (w2 w3 : List Cls) (v : JA) (rest : List Cls), IsWs w2 ∧ IsWs w3 ∧ GValid v ∧
    cs = w2 ++ (.colon :: (w3 ++ (v.render ++ rest))) ∧ Tail ctx rest

def SufStrEnd : Bool → List Ctx → List Cls → Prop
  | true, ctx, cs => SufColon ctx cs
  | false, ctx, cs => Tail ctx cs

def SufStr (k : Bool) (ctx : List Ctx) (cs : List Cls) : Prop :=
  ∃ (b rest : List Cls), StrBody b ∧ cs = b ++ (.quote :: rest) ∧ SufStrEnd k ctx rest

def SufEsc (k : Bool) (ctx : List Ctx) (cs : List Cls) : Prop :=
  ∃ (b rest : List Cls), StrBody (.bslash :: b) ∧ cs = b ++ (.quote :: rest) ∧ SufStrEnd k ctx rest

def SufHex (k : Bool) (n : Nat) (ctx : List Ctx) (cs : List Cls) : Prop :=
  ∃ (hs b rest : List Cls), hs.length = n - 1 + 1 ∧ (∀ h ∈ hs, h.isHex = true) ∧ StrBody b ∧
    cs = hs ++ (b ++ (.quote :: rest)) ∧ SufStrEnd k ctx rest

def SufNum (n : Num) (ctx : List Ctx) (cs : List Cls) : Prop :=
  ∃ (t rest : List Cls), NumRest n t ∧ cs = t ++ rest ∧ Tail ctx rest

def SufWord (r : List Cls) (ctx : List Ctx) (cs : List Cls) : Prop :=
  ∃ (rest : List Cls), cs = r ++ rest ∧ Tail ctx rest

/-- the suffixes that may lead from a configuration to acceptance, in grammar terms (`True` for the configurations
that the automaton never reaches: a first-item state without its array on the stack, etc.) -/
def Suf : RCfg → List Cls → Prop
  | ⟨.value, ctx⟩, cs => SufValue ctx cs
  | ⟨.arrFirst, .arr :: k⟩, cs => SufArrFirst k cs
  | ⟨.arrFirst, _⟩, _ => True
  | ⟨.objFirst, .obj :: k⟩, cs => SufObjFirst k cs
  | ⟨.objFirst, _⟩, _ => True
  | ⟨.key, .obj :: k⟩, cs => SufKey k cs
  | ⟨.key, _⟩, _ => True
  | ⟨.str b, ctx⟩, cs => SufStr b ctx cs
  | ⟨.esc b, ctx⟩, cs => SufEsc b ctx cs
  | ⟨.hex b n, ctx⟩, cs => SufHex b n ctx cs
  | ⟨.colon, ctx⟩, cs => SufColon ctx cs
  | ⟨.after, ctx⟩, cs => Tail ctx cs
  | ⟨.num n, ctx⟩, cs => SufNum n ctx cs
  | ⟨.word r, ctx⟩, cs => SufWord r ctx cs

theorem suf_strEnd (k : Bool) (ctx : List Ctx) (cs : List Cls) : Suf (strEnd k ctx) cs = SufStrEnd k ctx cs := by
  cases k <;> rfl

/-! ### the automaton's transitions, state by state -/

theorem step_value (ctx : List Ctx) (c : Cls) :
    step ⟨.value, ctx⟩ c = if c.isWs = true then some ⟨.value, ctx⟩ else beginValue ctx c := by
  cases c <;> rfl

theorem step_arrFirst (k : List Ctx) (c : Cls) :
    step ⟨.arrFirst, .arr :: k⟩ c = if c.isWs = true then some ⟨.arrFirst, .arr :: k⟩
      else if c = .rbrack then some ⟨.after, k⟩ else beginValue (.arr :: k) c := by
  cases c <;> rfl

theorem step_objFirst (k : List Ctx) (c : Cls) :
    step ⟨.objFirst, .obj :: k⟩ c = if c.isWs = true then some ⟨.objFirst, .obj :: k⟩
      else if c = .rbrace then some ⟨.after, k⟩ else if c = .quote then some ⟨.str true, .obj :: k⟩ else none := by
  cases c <;> rfl

theorem step_key (ctx : List Ctx) (c : Cls) :
    step ⟨.key, ctx⟩ c = if c.isWs = true then some ⟨.key, ctx⟩
      else if c = .quote then some ⟨.str true, ctx⟩ else none := by
  cases c <;> rfl

theorem step_str (k : Bool) (ctx : List Ctx) (c : Cls) :
    step ⟨.str k, ctx⟩ c = if c = .quote then some (strEnd k ctx) else if c = .bslash then some ⟨.esc k, ctx⟩
      else if c.isPlainStr = true then some ⟨.str k, ctx⟩ else none := by
  cases c <;> rfl

theorem step_esc (k : Bool) (ctx : List Ctx) (c : Cls) :
    step ⟨.esc k, ctx⟩ c = if c.isSimpleEsc = true then some ⟨.str k, ctx⟩
      else if c = .lu then some ⟨.hex k 4, ctx⟩ else none := by
  cases c <;> rfl

theorem step_hex (k : Bool) (n : Nat) (ctx : List Ctx) (c : Cls) :
    step ⟨.hex k n, ctx⟩ c =
      if c.isHex = true then (if n ≤ 1 then some ⟨.str k, ctx⟩ else some ⟨.hex k (n - 1), ctx⟩) else none := rfl

theorem step_colon (ctx : List Ctx) (c : Cls) :
    step ⟨.colon, ctx⟩ c = if c.isWs = true then some ⟨.colon, ctx⟩
      else if c = .colon then some ⟨.value, ctx⟩ else none := by
  cases c <;> rfl

theorem step_after (ctx : List Ctx) (c : Cls) : step ⟨.after, ctx⟩ c = afterValue ctx c := rfl

theorem step_word_nil (ctx : List Ctx) (c : Cls) : step ⟨.word [], ctx⟩ c = afterValue ctx c := rfl
theorem step_word_one (x : Cls) (ctx : List Ctx) (c : Cls) :
    step ⟨.word [x], ctx⟩ c = if c = x then some ⟨.after, ctx⟩ else none := rfl
theorem step_word_more (x y : Cls) (ys : List Cls) (ctx : List Ctx) (c : Cls) :
    step ⟨.word (x :: y :: ys), ctx⟩ c = if c = x then some ⟨.word (y :: ys), ctx⟩ else none := rfl

theorem step_minus (ctx : List Ctx) (c : Cls) :
    step ⟨.num .minus, ctx⟩ c = if c = .zero then some ⟨.num .zero, ctx⟩
      else if c = .d19 then some ⟨.num .int, ctx⟩ else none := by
  cases c <;> rfl

theorem step_zero (ctx : List Ctx) (c : Cls) :
    step ⟨.num .zero, ctx⟩ c = if c = .dot then some ⟨.num .dot, ctx⟩
      else if c = .le ∨ c = .uE then some ⟨.num .e, ctx⟩ else afterValue ctx c := by
  cases c <;> rfl

theorem step_int (ctx : List Ctx) (c : Cls) :
    step ⟨.num .int, ctx⟩ c = if c.isDigit = true then some ⟨.num .int, ctx⟩
      else if c = .dot then some ⟨.num .dot, ctx⟩
      else if c = .le ∨ c = .uE then some ⟨.num .e, ctx⟩ else afterValue ctx c := by
  cases c <;> rfl

theorem step_dot (ctx : List Ctx) (c : Cls) :
    step ⟨.num .dot, ctx⟩ c = if c.isDigit = true then some ⟨.num .frac, ctx⟩ else none := by
  cases c <;> rfl

theorem step_frac (ctx : List Ctx) (c : Cls) :
    step ⟨.num .frac, ctx⟩ c = if c.isDigit = true then some ⟨.num .frac, ctx⟩
      else if c = .le ∨ c = .uE then some ⟨.num .e, ctx⟩ else afterValue ctx c := by
  cases c <;> rfl

theorem step_e (ctx : List Ctx) (c : Cls) :
    step ⟨.num .e, ctx⟩ c = if c = .plus ∨ c = .minus then some ⟨.num .esign, ctx⟩
      else if c.isDigit = true then some ⟨.num .exp, ctx⟩ else none := by
  cases c <;> rfl

theorem step_esign (ctx : List Ctx) (c : Cls) :
    step ⟨.num .esign, ctx⟩ c = if c.isDigit = true then some ⟨.num .exp, ctx⟩ else none := by
  cases c <;> rfl

theorem step_exp (ctx : List Ctx) (c : Cls) :
    step ⟨.num .exp, ctx⟩ c = if c.isDigit = true then some ⟨.num .exp, ctx⟩ else afterValue ctx c := by
  cases c <;> rfl

/-! ### `Suf` is propagated backwards by every transition -/

variable {ctx k : List Ctx} {isKey : Bool} {c : Cls} {r' : RCfg} {cs' : List Cls}

/-- what may follow a complete value -/
theorem after_suf (h : afterValue ctx c = some r') (hs : Suf r' cs') : Tail ctx (c :: cs') := by
  cases c <;> try (cases h; done)
  case sp | wsctl => cases h; exact tail_ws_cons ctx _ cs' rfl hs
  case comma =>
    rcases ctx with _ | ⟨_ | _, k⟩ <;> cases h
    · obtain ⟨ms, rest, hne, hm, rfl, ht⟩ := hs
      rw [Tail_obj]
      refine ⟨[], ms, rest, isWs_nil, hm, ?_, ht⟩
      cases ms with
      | nil => exact absurd rfl hne
      | cons m ms => simp [sep]
    · obtain ⟨w, v, rest, hw, hv, rfl, ht⟩ := hs
      rw [Tail_arr] at ht ⊢
      obtain ⟨w2, its, rest', hw2, hi, rfl, ht'⟩ := ht
      refine ⟨[], (w, v, w2) :: its, rest', isWs_nil, (GItems_cons _ _ _ _).2 ⟨hw, hv, hw2, hi⟩, ?_, ht'⟩
      rw [renderItems_cons]
      simp [sep, List.append_assoc]
  case rbrack =>
    rcases ctx with _ | ⟨_ | _, k⟩ <;> cases h
    rw [Tail_arr]
    exact ⟨[], [], cs', isWs_nil, GItems_nil, by simp [sep, renderItems_nil], hs⟩
  case rbrace =>
    rcases ctx with _ | ⟨_ | _, k⟩ <;> cases h
    rw [Tail_obj]
    exact ⟨[], [], cs', isWs_nil, GMembers_nil, by simp [sep, renderMembers_nil], hs⟩

/-- the first byte of a value: what follows is the rest of that value, then what may follow a value -/
theorem begin_suf (h : beginValue ctx c = some r') (hs : Suf r' cs') :
    ∃ (v : JA) (rest : List Cls), GValid v ∧ c :: cs' = v.render ++ rest ∧ Tail ctx rest := by
  cases c <;> cases h
  case lbrace =>
    obtain ⟨w, ms, rest, hw, hm, rfl, ht⟩ := hs
    exact ⟨.obj w ms, rest, (GValid_obj _ _).2 ⟨hw, hm⟩, by simp [JA.render], ht⟩
  case lbrack =>
    obtain ⟨w, its, rest, hw, hi, rfl, ht⟩ := hs
    exact ⟨.arr w its, rest, (GValid_arr _ _).2 ⟨hw, hi⟩, by simp [JA.render], ht⟩
  case quote =>
    obtain ⟨b, rest, hb, rfl, ht⟩ := hs
    exact ⟨.scalar (.quote :: (b ++ [.quote])), rest, (GValid_scalar _).2 (.str b hb), by simp [JA.render], ht⟩
  case minus =>
    obtain ⟨t, rest, hn, rfl, ht⟩ := hs
    exact ⟨.scalar (.minus :: t), rest, (GValid_scalar _).2 (numRest_minus_tok t hn), by simp [JA.render], ht⟩
  case zero =>
    obtain ⟨t, rest, hn, rfl, ht⟩ := hs
    exact ⟨.scalar (.zero :: t), rest, (GValid_scalar _).2 (numRest_zero_tok t hn), by simp [JA.render], ht⟩
  case d19 =>
    obtain ⟨t, rest, hn, rfl, ht⟩ := hs
    exact ⟨.scalar (.d19 :: t), rest, (GValid_scalar _).2 (numRest_int_tok t hn), by simp [JA.render], ht⟩
  case lt =>
    obtain ⟨rest, rfl, ht⟩ := hs
    exact ⟨.scalar [.lt, .lr, .lu, .le], rest, (GValid_scalar _).2 .wtrue, by simp [JA.render, Word.rest], ht⟩
  case lf =>
    obtain ⟨rest, rfl, ht⟩ := hs
    exact ⟨.scalar [.lf, .la, .ll, .ls, .le], rest, (GValid_scalar _).2 .wfalse, by simp [JA.render, Word.rest], ht⟩
  case ln =>
    obtain ⟨rest, rfl, ht⟩ := hs
    exact ⟨.scalar [.ln, .lu, .ll, .ll], rest, (GValid_scalar _).2 .wnull, by simp [JA.render, Word.rest], ht⟩

theorem value_suf (h : step ⟨.value, ctx⟩ c = some r') (hs : Suf r' cs') : SufValue ctx (c :: cs') := by
  rw [step_value] at h
  split at h
  next hw =>
    cases h
    obtain ⟨w, v, rest, hww, hv, rfl, ht⟩ := hs
    exact ⟨c :: w, v, rest, isWs_cons hw hww, hv, rfl, ht⟩
  next =>
    obtain ⟨v, rest, hv, e, ht⟩ := begin_suf h hs
    exact ⟨[], v, rest, isWs_nil, hv, e, ht⟩

theorem arrFirst_suf (h : step ⟨.arrFirst, .arr :: k⟩ c = some r') (hs : Suf r' cs') :
    SufArrFirst k (c :: cs') := by
  rw [step_arrFirst] at h
  split at h
  next hw =>
    cases h
    obtain ⟨w, its, rest, hww, hi, rfl, ht⟩ := hs
    exact ⟨c :: w, its, rest, isWs_cons hw hww, hi, rfl, ht⟩
  next =>
    split at h
    next hc =>
      subst hc; cases h
      exact ⟨[], [], cs', isWs_nil, GItems_nil, by simp [renderItems_nil], hs⟩
    next =>
      obtain ⟨v, rest, hv, e, ht⟩ := begin_suf h hs
      rw [Tail_arr] at ht
      obtain ⟨w2, its, rest', hw2, hi, rfl, ht'⟩ := ht
      refine ⟨[], ([], v, w2) :: its, rest', isWs_nil, (GItems_cons _ _ _ _).2 ⟨isWs_nil, hv, hw2, hi⟩, ?_, ht'⟩
      rw [e, renderItems_cons]
      simp [List.append_assoc]

/-- after the opening quote of a key: the rest of the members of the object -/
theorem keyStr_suf (hs : SufStr true (.obj :: k) cs') :
    ∃ (ms : List Member) (rest : List Cls), ms ≠ [] ∧ GMembers ms ∧ .quote :: cs' = renderMembers ms ++ rest ∧ Tail k rest := by
  obtain ⟨b, rest0, hb, rfl, w2, w3, v, rest1, hw2, hw3, hv, rfl, ht⟩ := hs
  rw [Tail_obj] at ht
  obtain ⟨w4, ms, rest, hw4, hm, rfl, ht'⟩ := ht
  refine ⟨([], .quote :: (b ++ [.quote]), w2, w3, v, w4) :: ms, rest, by simp,
    (GMembers_cons _ _ _ _ _ _ _).2 ⟨isWs_nil, ⟨b, hb, rfl⟩, hw2, hw3, hv, hw4, hm⟩, ?_, ht'⟩
  rw [renderMembers_cons]
  simp [List.append_assoc]

theorem objFirst_suf (h : step ⟨.objFirst, .obj :: k⟩ c = some r') (hs : Suf r' cs') :
    SufObjFirst k (c :: cs') := by
  rw [step_objFirst] at h
  split at h
  next hw =>
    cases h
    obtain ⟨w, ms, rest, hww, hm, rfl, ht⟩ := hs
    exact ⟨c :: w, ms, rest, isWs_cons hw hww, hm, rfl, ht⟩
  next =>
    split at h
    next hc =>
      subst hc; cases h
      exact ⟨[], [], cs', isWs_nil, GMembers_nil, by simp [renderMembers_nil], hs⟩
    next =>
      split at h
      next hq =>
        subst hq; cases h
        obtain ⟨ms, rest, _, hm, e, ht⟩ := keyStr_suf hs
        exact ⟨[], ms, rest, isWs_nil, hm, e, ht⟩
      next => cases h

theorem key_suf (h : step ⟨.key, .obj :: k⟩ c = some r') (hs : Suf r' cs') : SufKey k (c :: cs') := by
  rw [step_key] at h
  split at h
  next hw =>
    cases h
    obtain ⟨ms, rest, hne, hm, rfl, ht⟩ := hs
    rcases ms with _ | ⟨⟨w1, key, w2, w3, v, w4⟩, ms⟩
    · exact absurd rfl hne
    · rw [GMembers_cons] at hm
      obtain ⟨h1, hk, h2, h3, hv, h4, hms⟩ := hm
      refine ⟨(c :: w1, key, w2, w3, v, w4) :: ms, rest, by simp,
        (GMembers_cons _ _ _ _ _ _ _).2 ⟨isWs_cons hw h1, hk, h2, h3, hv, h4, hms⟩, ?_, ht⟩
      rw [renderMembers_cons, renderMembers_cons]
      rfl
  next =>
    split at h
    next hq => subst hq; cases h; exact keyStr_suf hs
    next => cases h

theorem str_suf (h : step ⟨.str isKey, ctx⟩ c = some r') (hs : Suf r' cs') : SufStr isKey ctx (c :: cs') := by
  rw [step_str] at h
  split at h
  next hq =>
    subst hq; cases h
    rw [suf_strEnd] at hs
    exact ⟨[], cs', .nil, rfl, hs⟩
  next =>
    split at h
    next hb =>
      subst hb; cases h
      obtain ⟨b, rest, hb, rfl, he⟩ := hs
      exact ⟨.bslash :: b, rest, hb, rfl, he⟩
    next =>
      split at h
      next hp =>
        cases h
        obtain ⟨b, rest, hb, rfl, he⟩ := hs
        exact ⟨c :: b, rest, .plain c b hp hb, rfl, he⟩
      next => cases h

theorem esc_suf (h : step ⟨.esc isKey, ctx⟩ c = some r') (hs : Suf r' cs') : SufEsc isKey ctx (c :: cs') := by
  rw [step_esc] at h
  split at h
  next he =>
    cases h
    obtain ⟨b, rest, hb, rfl, hend⟩ := hs
    exact ⟨c :: b, rest, .esc c b he hb, rfl, hend⟩
  next =>
    split at h
    next hu =>
      subst hu; cases h
      obtain ⟨hs4, b, rest, hl, hh, hb, rfl, hend⟩ := hs
      rcases hs4 with _ | ⟨h1, _ | ⟨h2, _ | ⟨h3, _ | ⟨h4, _ | ⟨h5, hs5⟩⟩⟩⟩⟩ <;> simp at hl
      exact ⟨.lu :: h1 :: h2 :: h3 :: h4 :: b, rest,
        .uni h1 h2 h3 h4 b (hh h1 (by simp)) (hh h2 (by simp)) (hh h3 (by simp)) (hh h4 (by simp)) hb, rfl, hend⟩
    next => cases h

theorem hex_suf {n : Nat} (h : step ⟨.hex isKey n, ctx⟩ c = some r') (hs : Suf r' cs') :
    SufHex isKey n ctx (c :: cs') := by
  rw [step_hex] at h
  split at h
  next hx =>
    have hall : ∀ l : List Cls, (∀ x ∈ l, x.isHex = true) → ∀ x ∈ c :: l, x.isHex = true := by
      intro l hl x hxm
      rcases List.mem_cons.1 hxm with rfl | hxm
      · exact hx
      · exact hl x hxm
    split at h
    next hn =>
      cases h
      obtain ⟨b, rest, hb, rfl, hend⟩ := hs
      exact ⟨[c], b, rest, by simp; omega, hall [] (by simp), hb, rfl, hend⟩
    next hn =>
      cases h
      obtain ⟨hs', b, rest, hl, hh, hb, rfl, hend⟩ := hs
      exact ⟨c :: hs', b, rest, by simp [hl]; omega, hall hs' hh, hb, rfl, hend⟩
  next => cases h

theorem colon_suf (h : step ⟨.colon, ctx⟩ c = some r') (hs : Suf r' cs') : SufColon ctx (c :: cs') := by
  rw [step_colon] at h
  split at h
  next hw =>
    cases h
    obtain ⟨w2, w3, v, rest, hw2, hw3, hv, rfl, ht⟩ := hs
    exact ⟨c :: w2, w3, v, rest, isWs_cons hw hw2, hw3, hv, rfl, ht⟩
  next =>
    split at h
    next hc =>
      subst hc; cases h
      obtain ⟨w, v, rest, hww, hv, rfl, ht⟩ := hs
      exact ⟨[], w, v, rest, isWs_nil, hww, hv, rfl, ht⟩
    next => cases h

theorem word_suf {r : List Cls} (h : step ⟨.word r, ctx⟩ c = some r') (hs : Suf r' cs') :
    SufWord r ctx (c :: cs') := by
  rcases r with _ | ⟨x, _ | ⟨y, ys⟩⟩
  · exact ⟨c :: cs', rfl, after_suf h hs⟩
  · rw [step_word_one] at h
    split at h
    next hc => subst hc; cases h; exact ⟨cs', rfl, hs⟩
    next => cases h
  · rw [step_word_more] at h
    split at h
    next hc =>
      subst hc; cases h
      obtain ⟨rest, rfl, ht⟩ := hs
      exact ⟨rest, rfl, ht⟩
    next => cases h

/-! ### numbers -/

/-- a number in a final state, followed by a byte that ends it -/
theorem num_fall {n : Num} (hn : n.final = true) (h : afterValue ctx c = some r') (hs : Suf r' cs') :
    SufNum n ctx (c :: cs') :=
  ⟨[], c :: cs', numRest_final n hn, rfl, after_suf h hs⟩

theorem sufNum_of_e (hs : SufNum .e ctx cs') (hc : c = .le ∨ c = .uE) :
    ∃ (x : Option (Cls × Option Cls × Cls × List Cls)) (rest : List Cls),
      ExpOK x ∧ c :: cs' = expR x ++ rest ∧ Tail ctx rest := by
  obtain ⟨t, rest, ⟨s, d, ds, hsg, hd, hds, rfl⟩, rfl, ht⟩ := hs
  exact ⟨some (c, s, d, ds), rest, expOK_some hc hsg hd hds, rfl, ht⟩

theorem sufNum_of_dot (hs : SufNum .dot ctx cs') :
    ∃ (f : Option (Cls × List Cls)) (x : Option (Cls × Option Cls × Cls × List Cls)) (rest : List Cls),
      FracOK f ∧ ExpOK x ∧ .dot :: cs' = (fracR f ++ expR x) ++ rest ∧ Tail ctx rest := by
  obtain ⟨t, rest, ⟨d, ds, x, hd, hds, hx, rfl⟩, rfl, ht⟩ := hs
  exact ⟨some (d, ds), x, rest, fracOK_some hd hds, hx, by simp [fracR], ht⟩

theorem num_suf {n : Num} (h : step ⟨.num n, ctx⟩ c = some r') (hs : Suf r' cs') : SufNum n ctx (c :: cs') := by
  cases n
  case minus =>
    rw [step_minus] at h
    split at h
    next hz =>
      subst hz; cases h
      obtain ⟨t, rest, ⟨f, x, hf, hx, rfl⟩, rfl, ht⟩ := hs
      exact ⟨_, rest, Or.inl ⟨f, x, hf, hx, rfl⟩, rfl, ht⟩
    next =>
      split at h
      next hd =>
        subst hd; cases h
        obtain ⟨t, rest, ⟨ds, f, x, hds, hf, hx, rfl⟩, rfl, ht⟩ := hs
        exact ⟨_, rest, Or.inr ⟨ds, f, x, hds, hf, hx, rfl⟩, rfl, ht⟩
      next => cases h
  case zero =>
    rw [step_zero] at h
    split at h
    next hd =>
      subst hd; cases h
      obtain ⟨f, x, rest, hf, hx, e, ht⟩ := sufNum_of_dot hs
      exact ⟨_, rest, ⟨f, x, hf, hx, rfl⟩, e, ht⟩
    next =>
      split at h
      next he =>
        cases h
        obtain ⟨x, rest, hx, e, ht⟩ := sufNum_of_e hs he
        exact ⟨_, rest, ⟨none, x, fracOK_none, hx, rfl⟩, e, ht⟩
      next => exact num_fall rfl h hs
  case int =>
    rw [step_int] at h
    split at h
    next hg =>
      cases h
      obtain ⟨t, rest, ⟨ds, f, x, hds, hf, hx, rfl⟩, rfl, ht⟩ := hs
      exact ⟨_, rest, ⟨c :: ds, f, x, isDigits_cons hg hds, hf, hx, rfl⟩, rfl, ht⟩
    next =>
      split at h
      next hd =>
        subst hd; cases h
        obtain ⟨f, x, rest, hf, hx, e, ht⟩ := sufNum_of_dot hs
        exact ⟨_, rest, ⟨[], f, x, isDigits_nil, hf, hx, rfl⟩, e, ht⟩
      next =>
        split at h
        next he =>
          cases h
          obtain ⟨x, rest, hx, e, ht⟩ := sufNum_of_e hs he
          exact ⟨_, rest, ⟨[], none, x, isDigits_nil, fracOK_none, hx, rfl⟩, e, ht⟩
        next => exact num_fall rfl h hs
  case dot =>
    rw [step_dot] at h
    split at h
    next hg =>
      cases h
      obtain ⟨t, rest, ⟨ds, x, hds, hx, rfl⟩, rfl, ht⟩ := hs
      exact ⟨_, rest, ⟨c, ds, x, hg, hds, hx, rfl⟩, rfl, ht⟩
    next => cases h
  case frac =>
    rw [step_frac] at h
    split at h
    next hg =>
      cases h
      obtain ⟨t, rest, ⟨ds, x, hds, hx, rfl⟩, rfl, ht⟩ := hs
      exact ⟨_, rest, ⟨c :: ds, x, isDigits_cons hg hds, hx, rfl⟩, rfl, ht⟩
    next =>
      split at h
      next he =>
        cases h
        obtain ⟨x, rest, hx, e, ht⟩ := sufNum_of_e hs he
        exact ⟨_, rest, ⟨[], x, isDigits_nil, hx, rfl⟩, e, ht⟩
      next => exact num_fall rfl h hs
  case e =>
    rw [step_e] at h
    split at h
    next hsg =>
      cases h
      obtain ⟨t, rest, ⟨d, ds, hd, hds, rfl⟩, rfl, ht⟩ := hs
      exact ⟨_, rest, ⟨some c, d, ds, fun y hy => by cases hy; exact hsg, hd, hds, rfl⟩, rfl, ht⟩
    next =>
      split at h
      next hg =>
        cases h
        obtain ⟨t, rest, hds, rfl, ht⟩ := hs
        exact ⟨_, rest, ⟨none, c, t, nofun, hg, hds, rfl⟩, rfl, ht⟩
      next => cases h
  case esign =>
    rw [step_esign] at h
    split at h
    next hg =>
      cases h
      obtain ⟨t, rest, hds, rfl, ht⟩ := hs
      exact ⟨_, rest, ⟨c, t, hg, hds, rfl⟩, rfl, ht⟩
    next => cases h
  case exp =>
    rw [step_exp] at h
    split at h
    next hg =>
      cases h
      obtain ⟨t, rest, hds, rfl, ht⟩ := hs
      exact ⟨_, rest, (isDigits_cons hg hds : IsDigits (c :: t)), rfl, ht⟩
    next => exact num_fall rfl h hs

/-! ### the invariant -/

/-- one transition, backwards: if `cs'` can lead from `r'` to acceptance, `c :: cs'` can from `r` -/
theorem suf_step (r : RCfg) (h : step r c = some r') (hs : Suf r' cs') : Suf r (c :: cs') := by
  obtain ⟨st, ctx⟩ := r
  cases st with
  | value => exact value_suf h hs
  | arrFirst =>
    rcases ctx with _ | ⟨_ | _, k⟩
    · trivial
    · trivial
    · exact arrFirst_suf h hs
  | objFirst =>
    rcases ctx with _ | ⟨_ | _, k⟩
    · trivial
    · exact objFirst_suf h hs
    · trivial
  | key =>
    rcases ctx with _ | ⟨_ | _, k⟩
    · trivial
    · exact key_suf h hs
    · trivial
  | str k => exact str_suf h hs
  | esc k => exact esc_suf h hs
  | hex k n => exact hex_suf h hs
  | colon => exact colon_suf h hs
  | after => exact after_suf h hs
  | num n => exact num_suf h hs
  | word w => exact word_suf h hs

/-- in an accepting configuration the empty suffix is in the suffix language -/
theorem suf_accepting (r : RCfg) (h : accepting r = true) : Suf r [] := by
  obtain ⟨st, ctx⟩ := r
  cases st <;> try (simp [accepting] at h; done)
  case after =>
    have hc : ctx = [] := by simpa [accepting] using h
    subst hc
    exact isWs_nil
  case num n =>
    have hc : n.final = true ∧ ctx = [] := by simpa [accepting] using h
    obtain ⟨hn, rfl⟩ := hc
    exact ⟨[], [], numRest_final n hn, rfl, isWs_nil⟩

/-- every run that ends in an accepting configuration reads a text of the start configuration's suffix language -/
theorem run_suf (cs : List Cls) : ∀ (r r' : RCfg), run r cs = some r' → accepting r' = true → Suf r cs := by
  induction cs with
  | nil =>
    intro r r' h ha
    obtain rfl : r = r' := Option.some.inj h
    exact suf_accepting r ha
  | cons c cs ih =>
    intro r r' h ha
    simp only [run] at h
    cases hs : step r c with
    | none => rw [hs] at h; cases h
    | some r1 =>
      rw [hs] at h
      exact suf_step r hs (ih r1 r' h ha)

/-- **every accepted text is generated by the RFC 8259 grammar** (classes level): the converse of
`grammar_accepted` -/
theorem accepted_grammar (cs : List Cls) (h : Rfc.acceptsC cs = true) :
    ∃ (v : JA) (ws0 ws1 : List Cls), GValid v ∧ IsWs ws0 ∧ IsWs ws1 ∧ cs = ws0 ++ (v.render ++ ws1) := by
  unfold acceptsC at h
  cases hr : run RCfg.init cs with
  | none => rw [hr] at h; cases h
  | some r =>
    rw [hr] at h
    have hs : SufValue [] cs := run_suf cs RCfg.init r hr h
    obtain ⟨w, v, rest, hw, hv, e, ht⟩ := hs
    exact ⟨v, w, rest, hv, hw, (Tail_nil rest).1 ht, e⟩

/-- the recogniser accepts exactly the texts `ws value ws` of the RFC 8259 grammar -/
theorem accepts_iff_grammar (cs : List Cls) :
    Rfc.acceptsC cs = true ↔
      ∃ (v : JA) (ws0 ws1 : List Cls), GValid v ∧ IsWs ws0 ∧ IsWs ws1 ∧ cs = ws0 ++ (v.render ++ ws1) := by
  constructor
  · exact accepted_grammar cs
  · rintro ⟨v, ws0, ws1, hv, h0, h1, rfl⟩
    exact grammar_accepted v hv ws0 ws1 h0 h1

/-- the same on bytes: `Rfc.accepts` looks at a text only through its byte classes -/
theorem accepts_bytes_iff_grammar (bs : List UInt8) :
    Rfc.accepts bs = true ↔
      ∃ (v : JA) (ws0 ws1 : List Cls), GValid v ∧ IsWs ws0 ∧ IsWs ws1 ∧
        bs.map JsonScan.classify = ws0 ++ (v.render ++ ws1) :=
  accepts_iff_grammar (bs.map JsonScan.classify)

#print axioms accepted_grammar
#print axioms accepts_iff_grammar

end RfcG
