import JSight.SchemaEventsRun
/-!
C13, user comments: what the schema scanner model does on `#` line comments and `## … ###` block comments, for either
value of the `lengthComputing` flag: single-byte facts about `dispatch` at explicit configurations (`cfgL lc …`), then
runs as `Path`s.

`#` in a state that looks for a value, a key, a separator or the end (`cmtLoop`) pushes the state and enters
`anyCommentStart`. A line comment runs to the next line break, queues ONE `newLine` lexeme, pops the state and steps the
index back: the line break is read again by the restored state (a second `newLine`). A block comment is left after the
first `###` behind the opening `##` (whose next byte must be `#`); it queues nothing, line breaks inside included.
-/
namespace SchemaScan

/-- states in which `#` starts a user comment -/
def cmtLoop : St → Bool
  | .foundRoot | .objKeyOrEmpty | .objKey | .objKeyAfterNL | .arrItemOrEmpty | .arrItem
  | .afterValue | .afterItem | .endTop => true
  | _ => false

theorem cmtLoop_wsLoop {st : St} (h : cmtLoop st = true) : wsLoop st = true := by
  cases st <;> cases h <;> rfl

theorem cmtLoop_nlSt {st : St} (h : cmtLoop st = true) : cmtLoop (nlSt st) = true := by
  cases st <;> cases h <;> rfl

theorem pv_dispatch_hash (f : Nat) (st : St) (h : PV st = true) (s : Sc) (p1 p2 : Option Cls) :
    dispatch (f + 1) st s .hash p1 p2 = endValue f s .hash p1 p2 :=
  pv_num f st h .hash rfl s p1 p2

/-- no occurrence of `###` -/
def noTripleC : List Cls → Bool
  | a :: t@(b :: c :: _) => !(a == Cls.hash && b == Cls.hash && c == Cls.hash) && noTripleC t
  | _ => true

theorem noTripleC_tail {c : Cls} {l : List Cls} (h : noTripleC (c :: l) = true) : noTripleC l = true := by
  cases l with
  | nil => simp [noTripleC]
  | cons d l' =>
    cases l' with
    | nil => simp [noTripleC]
    | cons e l'' =>
      simp only [noTripleC, Bool.and_eq_true] at h
      exact h.2

theorem noTripleC_head {c d e : Cls} {l : List Cls} (h : noTripleC (c :: d :: e :: l) = true) :
    ¬ (c = .hash ∧ d = .hash ∧ e = .hash) := by
  rintro ⟨rfl, rfl, rfl⟩
  simp [noTripleC] at h

namespace Len

variable {lc : Bool} {data : Array Cls}

/-! ### single bytes

`d_hash`: `#` in a state that looks for a value, key, separator or the end; `acs_…`: a byte in `anyCommentStart` (behind
that `#`); `inl_…`: a byte inside a line comment; `ml_…`: a byte inside a block comment.  (Behind `Len.` the same two
prefixes are used for inline and multi-line ANNOTATIONS in the annotation modules.) -/

theorem d_hash (f : Nat) (st : St) (h : cmtLoop st = true) (x : St)
    (K : List (LexT × Nat)) (i : Nat) (CS : List Ctx) (cx : Ctx) (al : Bool) (fs : List LexT) (p1 p2 : Option Cls) :
    dispatch (f + 1) st { cfgL lc x [] K false i CS cx al with finds := fs } .hash p1 p2
      = .ok { cfgL lc .anyCommentStart [x] K false i CS cx al with finds := fs } := by
  cases st <;> simp [cmtLoop] at h <;> (unfold dispatch; rfl)

theorem acs_text (f : Nat) (c : Cls) (hh : c ≠ .hash) (hn : c ≠ .nl) (r : List St)
    (K : List (LexT × Nat)) (i : Nat) (CS : List Ctx) (cx : Ctx) (al : Bool) (p1 p2 : Option Cls) :
    dispatch (f + 1) .anyCommentStart (cfgL lc .anyCommentStart r K false i CS cx al) c p1 p2
      = .ok (cfgL lc .inlineComment r K false i CS cx al) := by
  cases c <;> first | exact absurd rfl hh | exact absurd rfl hn | (unfold dispatch; rfl)

theorem acs_nl (f : Nat) (r0 : St) (rs : List St)
    (K : List (LexT × Nat)) (j : Nat) (CS : List Ctx) (cx : Ctx) (al : Bool) (p1 p2 : Option Cls) :
    dispatch (f + 1) .anyCommentStart (cfgL lc .anyCommentStart (r0 :: rs) K false (j + 1) CS cx al) .nl p1 p2
      = .ok { cfgL lc r0 rs K false j CS cx al with finds := [.newLine] } := by
  unfold dispatch; rfl

theorem inl_text (f : Nat) (c : Cls) (hn : c ≠ .nl) (r : List St)
    (K : List (LexT × Nat)) (i : Nat) (CS : List Ctx) (cx : Ctx) (al : Bool) (p1 p2 : Option Cls) :
    dispatch (f + 1) .inlineComment (cfgL lc .inlineComment r K false i CS cx al) c p1 p2
      = .ok (cfgL lc .inlineComment r K false i CS cx al) := by
  cases c <;> first | exact absurd rfl hn | (unfold dispatch; rfl)

theorem inl_nl (f : Nat) (r0 : St) (rs : List St)
    (K : List (LexT × Nat)) (j : Nat) (CS : List Ctx) (cx : Ctx) (al : Bool) (p1 p2 : Option Cls) :
    dispatch (f + 1) .inlineComment (cfgL lc .inlineComment (r0 :: rs) K false (j + 1) CS cx al) .nl p1 p2
      = .ok { cfgL lc r0 rs K false j CS cx al with finds := [.newLine] } := by
  unfold dispatch; rfl

theorem acs_hash (f : Nat) (r : List St)
    (K : List (LexT × Nat)) (i : Nat) (CS : List Ctx) (cx : Ctx) (al : Bool) (p2 : Option Cls) :
    dispatch (f + 1) .anyCommentStart (cfgL lc .anyCommentStart r K false i CS cx al) .hash (some .hash) p2
      = .ok (cfgL lc .multiLineComment r K false i CS cx al) := by
  unfold dispatch; rfl

theorem ml_end (f : Nat) (r0 : St) (rs : List St)
    (K : List (LexT × Nat)) (i : Nat) (CS : List Ctx) (cx : Ctx) (al : Bool) :
    dispatch (f + 1) .multiLineComment (cfgL lc .multiLineComment (r0 :: rs) K false i CS cx al) .hash (some .hash) (some .hash)
      = .ok (cfgL lc r0 rs K false (i + 2) CS cx al) := by
  unfold dispatch; rfl

theorem ml_stay (f : Nat) (c : Cls) (p1 p2 : Option Cls) (h : ¬ (c = .hash ∧ p1 = some .hash ∧ p2 = some .hash))
    (r : List St) (K : List (LexT × Nat)) (i : Nat) (CS : List Ctx) (cx : Ctx) (al : Bool) :
    dispatch (f + 1) .multiLineComment (cfgL lc .multiLineComment r K false i CS cx al) c p1 p2
      = .ok (cfgL lc .multiLineComment r K false i CS cx al) := by
  have hb : (c == Cls.hash && p1 == some Cls.hash && p2 == some Cls.hash) = false := by
    rw [Bool.eq_false_iff]
    intro hh
    simp only [Bool.and_eq_true, beq_iff_eq] at hh
    exact h ⟨hh.1.1, hh.1.2, hh.2⟩
  unfold dispatch
  simp only [hb, Bool.false_eq_true, if_false]
  rfl

/-! ### runs -/

/-- one byte is read and queues at least one lexeme: `Next()` returns it at once, wherever the index is left -/
theorem Path.emit1 {s s1 s2 : Sc} {c : Cls} {t : LexT} {rest : List LexT} {e : Ev}
    (hf : s.finds = []) (hc : data[s.index]? = some c)
    (hd : dispatch 8 s.step { s with index := s.index + 1 } c data[s.index + 1]? data[s.index + 1 + 1]? = .ok s1)
    (h1 : s1.finds = t :: rest) (hp : processFound data { s1 with finds := rest } t = .ok (s2, e)) :
    Path data s [e] s2 := by
  obtain ⟨hlt, hget⟩ := Array.getElem?_eq_some_iff.mp hc
  have hbang : data[s.index]! = c := by rw [getElem!_pos data s.index hlt]; exact hget
  have hn : NextOk data s (some (s2, e)) := by
    refine ⟨1, by omega, ?_⟩
    rw [next_succ]
    unfold nextBody
    have hs : shiftFound data s = .ok none := by unfold shiftFound; rw [hf]; rfl
    rw [hs]
    simp only [hlt, if_true, hbang, hd]
    have hs1 : shiftFound data s1 = .ok (some (s2, e)) := by
      unfold shiftFound
      rw [h1]
      simp only [bind, Except.bind, hp]
      rfl
    rw [hs1]
  exact Path.ev hn (Path.refl _)

/-- a silent byte whose `dispatch` may depend on the look-ahead -/
theorem cfg_read {st : St} {r : List St} {K : List (LexT × Nat)} {u : Bool} {i : Nat} {CS : List Ctx} {cx : Ctx}
    {al : Bool} {c : Cls} {s1 : Sc} (hc : data[i]? = some c)
    (hd : dispatch 8 st (cfgL lc st r K u (i + 1) CS cx al) c data[i + 1]? data[i + 1 + 1]? = .ok s1)
    (hi : i + 1 ≤ s1.index) : Path data (cfgL lc st r K u i CS cx al) [] s1 :=
  Path.read (nextOk_read_ge (s := cfgL lc st r K u i CS cx al) rfl hc hd hi)
    (nextErr_read_ge (s := cfgL lc st r K u i CS cx al) rfl hc hd hi) (Path.refl _)

theorem S_hash {st : St} (h : cmtLoop st = true)
    (K : List (LexT × Nat)) (i : Nat) (CS : List Ctx) (cx : Ctx) (al : Bool) (hc : data[i]? = some .hash) :
    Path data (cfgL lc st [] K false i CS cx al) [] (cfgL lc .anyCommentStart [st] K false (i + 1) CS cx al) :=
  cfg_byte hc (fun p1 p2 => d_hash 7 st h st K (i + 1) CS cx al [] p1 p2) rfl rfl

/-- `#` right behind an array item or a member value: the pending pairs are closed, then the comment starts -/
theorem S_close_hash {st : St} (hst : PV st = true) (lit : Bool) (ck : CK) (hck : cmtLoop ck.aft = true) (b b2 : Nat)
    (R : List (LexT × Nat)) (i : Nat) (CS : List Ctx) (cx : Ctx) (al : Bool) (hc : data[i]? = some .hash) :
    Path data (cfgL lc st [] (pendOf lit b ++ (ck.B, b2) :: R) false i CS cx al) (closersOf lit ck b b2 (i - 1))
      (cfgL lc .anyCommentStart [ck.aft] R false (i + 1) CS cx al) := by
  refine cfg_byte hc (fun p1 p2 => (pv_dispatch_hash 7 st hst _ p1 p2).trans
    ((ev_close 7 st lit ck b b2 R (i + 1) CS cx al .hash p1 p2).trans
      (d_hash 6 ck.aft hck ck.aft _ (i + 1) CS cx al _ p1 p2))) rfl ?_
  cases lit <;> cases ck <;> first | rfl | exact absurd hck (by decide)

/-- `#` right behind the top-level value -/
theorem S_root_hash {st : St} (hst : PV st = true) (lit : Bool) (b : Nat)
    (i : Nat) (CS : List Ctx) (cx : Ctx) (al : Bool) (hc : data[i]? = some .hash) :
    Path data (cfgL lc st [] (pendOf lit b) false i CS cx al) (rootClosers lit b (i - 1))
      (cfgL lc .anyCommentStart [.endTop] [] false (i + 1) CS cx al) := by
  refine cfg_byte hc (fun p1 p2 => (pv_dispatch_hash 7 st hst _ p1 p2).trans
    ((ev_root 7 st lit b (i + 1) CS cx al .hash p1 p2).trans
      (d_hash 6 .endTop rfl .endTop _ (i + 1) CS cx al _ p1 p2))) rfl ?_
  cases lit <;> rfl

/-- the text of a line comment after its first byte, up to the line break (which is left unread) -/
theorem inl_run : ∀ (text : List Cls), (∀ c ∈ text, c ≠ .nl) → ∀ (r0 : St)
    (K : List (LexT × Nat)) (m : Nat) (CS : List Ctx) (cx : Ctx) (al : Bool), At data (m + 1) (text ++ [.nl]) →
    Path data (cfgL lc .inlineComment [r0] K false (m + 1) CS cx al) [⟨.newLine, m + text.length, m + text.length⟩]
      (cfgL lc r0 [] K false (m + 1 + text.length) CS cx al)
  | [], _, r0, K, m, CS, cx, al, hat => by
    have hc : data[m + 1]? = some .nl := hat.1
    exact Path.emit1 (s := cfgL lc .inlineComment [r0] K false (m + 1) CS cx al) rfl hc
      (inl_nl 7 r0 [] K (m + 1) CS cx al _ _) rfl rfl
  | c :: cs, hne, r0, K, m, CS, cx, al, hat => by
    obtain ⟨hc, hat'⟩ := hat
    have h1 : Path data (cfgL lc .inlineComment [r0] K false (m + 1) CS cx al) []
        (cfgL lc .inlineComment [r0] K false (m + 1 + 1) CS cx al) :=
      cfg_byte hc (fun p1 p2 => inl_text 7 c (hne c (by simp)) [r0] K (m + 1 + 1) CS cx al p1 p2) rfl rfl
    have h2 := inl_run cs (fun x hx => hne x (by simp [hx])) r0 K (m + 1) CS cx al hat'
    have := Path.trans h1 h2
    simp only [List.nil_append, List.length_cons] at this ⊢
    rw [show m + (cs.length + 1) = m + 1 + cs.length by omega, show m + 1 + (cs.length + 1) = m + 1 + 1 + cs.length by omega]
    exact this

/-- a line comment behind its `#` (at offset `h`): one `newLine`, the state is restored, the line break is unread -/
theorem cmt_line_run (text : List Cls) (hne : ∀ c ∈ text, c ≠ .nl) (hh : text.head? ≠ some .hash) (r0 : St)
    (K : List (LexT × Nat)) (h : Nat) (CS : List Ctx) (cx : Ctx) (al : Bool) (hat : At data (h + 1) (text ++ [.nl])) :
    Path data (cfgL lc .anyCommentStart [r0] K false (h + 1) CS cx al) [⟨.newLine, h + text.length, h + text.length⟩]
      (cfgL lc r0 [] K false (h + 1 + text.length) CS cx al) := by
  cases text with
  | nil =>
    have hc : data[h + 1]? = some .nl := hat.1
    exact Path.emit1 (s := cfgL lc .anyCommentStart [r0] K false (h + 1) CS cx al) rfl hc
      (acs_nl 7 r0 [] K (h + 1) CS cx al _ _) rfl rfl
  | cons c cs =>
    obtain ⟨hc, hat'⟩ := hat
    have hch : c ≠ .hash := by intro e; subst e; simp at hh
    have h1 : Path data (cfgL lc .anyCommentStart [r0] K false (h + 1) CS cx al) []
        (cfgL lc .inlineComment [r0] K false (h + 1 + 1) CS cx al) :=
      cfg_byte hc (fun p1 p2 => acs_text 7 c hch (hne c (by simp)) [r0] K (h + 1 + 1) CS cx al p1 p2) rfl rfl
    have h2 := inl_run (lc := lc) cs (fun x hx => hne x (by simp [hx])) r0 K (h + 1) CS cx al hat'
    have := Path.trans h1 h2
    simp only [List.nil_append, List.length_cons] at this ⊢
    rw [show h + (cs.length + 1) = h + 1 + cs.length by omega, show h + 1 + (cs.length + 1) = h + 1 + 1 + cs.length by omega]
    exact this

/-- a line comment that runs to the end of input: no lexeme at all, the state is never restored -/
theorem inl_eof : ∀ (text : List Cls), (∀ c ∈ text, c ≠ .nl) → ∀ (r : List St)
    (i : Nat) (CS : List Ctx) (cx : Ctx) (al : Bool), At data i text → data.size = i + text.length →
    Emits data (cfgL lc .inlineComment r [] false i CS cx al) []
  | [], _, r, i, CS, cx, al, _, hn => Emits.done rfl (by simp only [cfgL]; simp at hn; omega) rfl
  | c :: cs, hne, r, i, CS, cx, al, hat, hn => by
    obtain ⟨hc, hat'⟩ := hat
    have h1 : Path data (cfgL lc .inlineComment r [] false i CS cx al) [] (cfgL lc .inlineComment r [] false (i + 1) CS cx al) :=
      cfg_byte hc (fun p1 p2 => inl_text 7 c (hne c (by simp)) r [] (i + 1) CS cx al p1 p2) rfl rfl
    have h2 := inl_eof cs (fun x hx => hne x (by simp [hx])) r (i + 1) CS cx al hat'
      (by simp only [List.length_cons] at hn; omega)
    exact h1.emits h2

/-- a line comment that the end of input cuts off delivers nothing -/
theorem cmt_eof (text : List Cls) (hne : ∀ c ∈ text, c ≠ .nl) (hh : text.head? ≠ some .hash) (r : List St)
    (i : Nat) (CS : List Ctx) (cx : Ctx) (al : Bool) (hat : At data i text) (hn : data.size = i + text.length) :
    Emits data (cfgL lc .anyCommentStart r [] false i CS cx al) [] := by
  cases text with
  | nil => exact Emits.done rfl (by simp only [cfgL]; simp at hn; omega) rfl
  | cons c cs =>
    obtain ⟨hc, hat'⟩ := hat
    have hch : c ≠ .hash := by intro e; subst e; simp at hh
    have h1 : Path data (cfgL lc .anyCommentStart r [] false i CS cx al) [] (cfgL lc .inlineComment r [] false (i + 1) CS cx al) :=
      cfg_byte hc (fun p1 p2 => acs_text 7 c hch (hne c (by simp)) r [] (i + 1) CS cx al p1 p2) rfl rfl
    have h2 := inl_eof (lc := lc) cs (fun x hx => hne x (by simp [hx])) r (i + 1) CS cx al hat'
      (by simp only [List.length_cons] at hn; omega)
    exact h1.emits h2

/-- the inside of a block comment up to and including the closing `###` -/
theorem ml_run : ∀ (body : List Cls), noTripleC (body ++ [.hash, .hash]) = true → ∀ (r0 : St)
    (K : List (LexT × Nat)) (i : Nat) (CS : List Ctx) (cx : Ctx) (al : Bool),
    At data i (body ++ [.hash, .hash, .hash]) →
    Path data (cfgL lc .multiLineComment [r0] K false i CS cx al) [] (cfgL lc r0 [] K false (i + body.length + 3) CS cx al)
  | [], _, r0, K, i, CS, cx, al, hat => by
    obtain ⟨h0, h1, h2, _⟩ := hat
    refine cfg_read h0 ?_ (by simp only [cfgL]; omega)
    rw [h1, h2]
    exact ml_end 7 r0 [] K (i + 1) CS cx al
  | c :: cs, hnt, r0, K, i, CS, cx, al, hat => by
    obtain ⟨hc, hat'⟩ := hat
    have ih := ml_run cs (noTripleC_tail hnt) r0 K (i + 1) CS cx al hat'
    have hla : ∃ d e l, cs ++ [Cls.hash, .hash] = d :: e :: l := by
      cases cs with
      | nil => exact ⟨_, _, _, rfl⟩
      | cons d cs' =>
        cases cs' with
        | nil => exact ⟨_, _, _, rfl⟩
        | cons e l => exact ⟨_, _, _, rfl⟩
    obtain ⟨d, e, l, hl⟩ := hla
    have hnot : ¬ (c = .hash ∧ d = .hash ∧ e = .hash) := by
      apply noTripleC_head (l := l)
      rw [← hl]
      exact hnt
    have hat2 : At data (i + 1) (d :: e :: (l ++ [.hash])) := by
      have : cs ++ [Cls.hash, .hash, .hash] = d :: e :: (l ++ [.hash]) := by
        have := congrArg (· ++ [Cls.hash]) hl
        simpa using this
      rw [← this]; exact hat'
    obtain ⟨hd1, hd2, _⟩ := hat2
    have h1 : Path data (cfgL lc .multiLineComment [r0] K false i CS cx al) []
        (cfgL lc .multiLineComment [r0] K false (i + 1) CS cx al) := by
      refine cfg_read hc ?_ (by simp only [cfgL]; omega)
      rw [hd1, hd2]
      exact ml_stay 7 c (some d) (some e) (by
        rintro ⟨a, b, c'⟩
        exact hnot ⟨a, Option.some.inj b, Option.some.inj c'⟩) [r0] K (i + 1) CS cx al
    have := Path.trans h1 ih
    simp only [List.nil_append, List.length_cons] at this ⊢
    rw [show i + (cs.length + 1) + 3 = i + 1 + cs.length + 3 by omega]
    exact this

/-- a block comment `## body ###` from behind its first `#`.  `hhd`: the byte behind `##` is `#` again — the first byte of
the body or, if the body is empty, of the closing `###`. -/
theorem cmt_block_run (body : List Cls) (hhd : (body ++ [Cls.hash]).head? = some Cls.hash)
    (hnt : noTripleC (body ++ [.hash, .hash]) = true) (r0 : St)
    (K : List (LexT × Nat)) (h : Nat) (CS : List Ctx) (cx : Ctx) (al : Bool)
    (hat : At data (h + 1) (.hash :: (body ++ [.hash, .hash, .hash]))) :
    Path data (cfgL lc .anyCommentStart [r0] K false (h + 1) CS cx al) []
      (cfgL lc r0 [] K false (h + 1 + 1 + body.length + 3) CS cx al) := by
  obtain ⟨hc, hat'⟩ := hat
  have hnext : data[h + 1 + 1]? = some .hash := by
    cases body with
    | nil => exact hat'.1
    | cons b bs =>
      simp only [List.cons_append, List.head?_cons, Option.some.injEq] at hhd
      subst hhd
      exact hat'.1
  have h1 : Path data (cfgL lc .anyCommentStart [r0] K false (h + 1) CS cx al) []
      (cfgL lc .multiLineComment [r0] K false (h + 1 + 1) CS cx al) := by
    refine cfg_read hc ?_ (by simp only [cfgL]; omega)
    rw [hnext]
    exact acs_hash 7 [r0] K (h + 1 + 1) CS cx al _
  have h2 := ml_run (lc := lc) body hnt r0 K (h + 1 + 1) CS cx al hat'
  have := Path.trans h1 h2
  simpa using this

end Len
end SchemaScan
