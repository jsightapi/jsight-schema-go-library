import JSight.BridgeCR2Tail
/-!
Bridge (A)∩(B), the compile phase: how (A) is read against (B)'s list of complaints (`CR.pipeline_rows`).
`Compile.basic` is a nest of `if … then throw … else` that ends in a call of the next stage. It is walked where it stands:
a test of (A) against a row of (B), then the rest under the hypothesis that the test passed (`agreeA_guard`); a row of (B)
that is silent for a reason (A) does not test is passed over (`agree_skipB`).
-/
namespace BridgeCR
open Compile
open Loader (NK)

/-- `basic` with the filtered rule list as a parameter -/
def basicF (kind : NK) (frs : List Rule) (jt : JT) (parentIsObj : Bool) (nChildren : Nat) : Except Err Basic :=
  let next := bEnumPrec kind frs jt parentIsObj nChildren
  if hasRule frs "or" then
    if kind == .mixed then
      if others frs ["or", "optional", "nullable"] != 0 then throw (.code 1103 0) else next
    else
      match findRule frs "type" with
      | some t =>
        if t.val != some (sb "\"mixed\"") then throw (.code 1111 0)
        else if others frs ["or", "optional", "nullable", "type"] != 0 then throw (.code 1103 0)
        else if kind == .obj || kind == .arr then throw (.code 1108 0)
        else next
      | none =>
        if others frs ["or", "optional", "nullable", "type"] != 0 then throw (.code 1103 0)
        else if kind == .obj || kind == .arr then throw (.code 1108 0)
        else next
  else next

theorem basic_eq (n : RNode) (jt : JT) (p : Bool) (nc : Nat) : basic n jt p nc = basicF n.kind (filt n.rules) jt p nc := rfl

/-! ### a test of (A) against a row of (B) -/

theorem agree_skipB {b : Option CR.Code} {a : Except Err Unit} {rb : List (Option CR.Code)} (h : b = none)
    (ht : Agree a (CR.firstErr rb ())) : Agree a (CR.firstErr (b :: rb) ()) := by
  subst h; exact ht

theorem agreeA_guard {cnd b : Bool} {code : Nat} {x : Except Err Basic} {rb : List (Option CR.Code)} (h : cnd = !b)
    (ht : cnd = false → Agree (outA x) (CR.firstErr rb ())) :
    Agree (outA (if cnd then throw (.code code 0) else x)) (CR.firstErr (CR.gd b code :: rb) ()) := by
  subst h
  cases b
  · exact rfl
  · exact ht rfl

/-- (B) tests in two steps what (A) tests in one -/
theorem agreeA_guard_and {cnd b1 b2 : Bool} {code : Nat} {x : Except Err Basic} {rb : List (Option CR.Code)}
    (h : cnd = !(b1 && b2)) (ht : cnd = false → Agree (outA x) (CR.firstErr rb ())) :
    Agree (outA (if cnd then throw (.code code 0) else x)) (CR.firstErr (CR.gd b1 code :: CR.gd b2 code :: rb) ()) := by
  subst h
  cases b1 <;> cases b2 <;> first | exact rfl | exact ht rfl

theorem agreeA_throw (code : Nat) (rb : List (Option CR.Code)) :
    Agree (outA (throw (.code code 0))) (CR.firstErr (some code :: rb) ()) := rfl

end BridgeCR
