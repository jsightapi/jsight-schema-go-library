import JSight.SchemaLenBase
/-!
Runs of the schema scanner model over white space, tokens, and the closing phase after a value: as `Path`s for either
value of the `lengthComputing` flag (`namespace Len`); the token predicates `IsKey`, `IsScalar`; in ordinary mode the end of
the document behind a top-level value (`close_root`).
-/
namespace SchemaScan

/-! ### what is delivered and where the scanner stands: after a value, over white space, over a token -/

/-- the closing events behind a value that ends at `e`: of the literal begun at `b` (if `lit`), then of the entry of kind `ck`
begun at `b2` -/
def closersOf (lit : Bool) (ck : CK) (b b2 e : Nat) : List Ev :=
  (if lit then [⟨.litE, b, e⟩] else []) ++ [⟨ck.E, b2, e⟩]

/-- the literal end of a top-level scalar -/
def rootClosers (lit : Bool) (b e : Nat) : List Ev := if lit then [⟨.litE, b, e⟩] else []

def IsWs (ws : List Cls) : Prop := ∀ c ∈ ws, c.isBlank = true

theorem IsWs.head {c : Cls} {ws : List Cls} (h : IsWs (c :: ws)) : c.isBlank = true := h c (by simp)
theorem IsWs.tail {c : Cls} {ws : List Cls} (h : IsWs (c :: ws)) : IsWs ws := fun x hx => h x (by simp [hx])

/-- one `newLine` event per line break -/
def nlEvs : Nat → List Cls → List Ev
  | _, [] => []
  | o, c :: cs => (if c = .nl then [⟨.newLine, o, o⟩] else []) ++ nlEvs (o + 1) cs

/-- the state after white space -/
def wsSt : St → List Cls → St
  | st, [] => st
  | st, c :: cs => wsSt (if c = .nl then nlSt st else st) cs

theorem blank_cases {c : Cls} (h : c.isBlank = true) : c.isSpTab = true ∨ c = .nl := by
  cases c <;> simp [Cls.isBlank, Cls.isSpace, Cls.isNewLine] at h <;> simp [Cls.isSpTab]

theorem sptab_ne_nl {c : Cls} (h : c.isSpTab = true) : c ≠ .nl := by
  cases c <;> simp [Cls.isSpTab] at h <;> simp

theorem wsLoop_nlSt {st : St} (h : wsLoop st = true) : wsLoop (nlSt st) = true := by
  cases st <;> simp [wsLoop] at h <;> rfl

/-- a line break changes one state only: `objKey` becomes `objKeyAfterNL` -/
theorem nlSt_of_ne {st : St} (h : st ≠ .objKey) : nlSt st = st := by
  cases st <;> first | rfl | exact absurd rfl h

theorem keySt_nlSt {st : St} (h : keySt st = true) : keySt (nlSt st) = true := by
  cases st <;> simp [keySt] at h <;> rfl

theorem wsSt_eq {st : St} (h : st ≠ .objKey) : ∀ (ws : List Cls), wsSt st ws = st
  | [] => rfl
  | c :: ws => by
    simp only [wsSt, nlSt_of_ne h, ite_self]
    exact wsSt_eq h ws

theorem keySt_wsSt {st : St} (h : keySt st = true) : ∀ (ws : List Cls), keySt (wsSt st ws) = true
  | [] => h
  | c :: ws => by
    simp only [wsSt]
    split
    · exact keySt_wsSt (keySt_nlSt h) ws
    · exact keySt_wsSt h ws

def silentRun : St → List St → Bool → List Cls → Option (St × List St × Bool)
  | st, r, unf, [] => some (st, r, unf)
  | st, r, unf, c :: cs => match silent st r unf c with
    | some (st', r', unf') => silentRun st' r' unf' cs
    | none => none

theorem aft_ne_objKey (ck : CK) : ck.aft ≠ .objKey := by cases ck <;> simp [CK.aft]

namespace Len

variable {lc : Bool} {data : Array Cls}

theorem S_start_scalar {c : Cls} {st0 : St} {u0 : Bool} (h : litStart c = some (st0, u0)) (ctx : VCtx)
    (K : List (LexT × Nat)) (o : Nat) (CS : List Ctx) (cx : Ctx) (al : Bool) (hc : data[o]? = some c) :
    Path data (cfgL lc ctx.st [] K false o CS cx al) (ctx.preEvs o ++ [⟨.litB, o, o⟩])
      (cfgL lc st0 [] ((.litB, o) :: (ctx.pre o ++ K)) u0 (o + 1) CS (ctx.cx' cx) al) := by
  refine cfg_byte hc (fun p1 p2 => d_scalar 7 c st0 u0 h ctx ctx.st K (o + 1) CS cx al p1 p2) rfl ?_
  cases ctx <;> rfl

theorem S_start_array (ctx : VCtx)
    (K : List (LexT × Nat)) (o : Nat) (CS : List Ctx) (cx : Ctx) (al : Bool) (hc : data[o]? = some .lbrack) :
    Path data (cfgL lc ctx.st [] K false o CS cx al) (ctx.preEvs o ++ [⟨.arrB, o, o⟩])
      (cfgL lc .arrItemOrEmpty [] ((.arrB, o) :: (ctx.pre o ++ K)) false (o + 1) (ctx.cx' cx :: CS) { ty := .array } al) := by
  refine cfg_byte hc (fun p1 p2 => d_array 7 ctx ctx.st K (o + 1) CS cx al p1 p2) rfl ?_
  cases ctx <;> rfl

theorem S_start_object (ctx : VCtx)
    (K : List (LexT × Nat)) (o : Nat) (CS : List Ctx) (cx : Ctx) (al : Bool) (hc : data[o]? = some .lbrace) :
    Path data (cfgL lc ctx.st [] K false o CS cx al) (ctx.preEvs o ++ [⟨.objB, o, o⟩])
      (cfgL lc .objKeyOrEmpty [] ((.objB, o) :: (ctx.pre o ++ K)) false (o + 1) (ctx.cx' cx :: CS) { ty := .object } al) := by
  refine cfg_byte hc (fun p1 p2 => d_object 7 ctx ctx.st K (o + 1) CS cx al p1 p2) rfl ?_
  cases ctx <;> rfl

theorem S_key_start {st : St} (h : keySt st = true)
    (K : List (LexT × Nat)) (o : Nat) (CS : List Ctx) (cx : Ctx) (al : Bool) (hc : data[o]? = some .quote) :
    Path data (cfgL lc st [] K false o CS cx al) [⟨.keyB, o, o⟩]
      (cfgL lc .inString [] ((.keyB, o) :: K) false (o + 1) CS cx (keyAl st al)) :=
  cfg_byte hc (fun p1 p2 => d_key 7 st h st K (o + 1) CS cx al p1 p2) rfl rfl

theorem S_empty_arr (a : Nat)
    (K : List (LexT × Nat)) (j : Nat) (c0 : Ctx) (CS : List Ctx) (cx : Ctx) (al : Bool) (hc : data[j]? = some .rbrack) :
    Path data (cfgL lc .arrItemOrEmpty [] ((.arrB, a) :: K) false j (c0 :: CS) cx al) [⟨.arrE, a, j⟩]
      (cfgL lc .endValue [] K false (j + 1) CS c0 (!cx.arrayHasItem)) :=
  cfg_byte hc (fun p1 p2 => d_empty_arr 7 .arrItemOrEmpty (.arrB, a) K (j + 1) c0 CS cx al p1 p2) rfl rfl

theorem S_empty_obj (a : Nat)
    (K : List (LexT × Nat)) (j : Nat) (c0 : Ctx) (CS : List Ctx) (cx : Ctx) (al : Bool) (hc : data[j]? = some .rbrace) :
    Path data (cfgL lc .objKeyOrEmpty [] ((.objB, a) :: K) false j (c0 :: CS) cx al) [⟨.objE, a, j⟩]
      (cfgL lc .endValue [] K false (j + 1) CS c0 true) :=
  cfg_byte hc (fun p1 p2 => d_empty_obj 7 .objKeyOrEmpty ((.objB, a) :: K) (j + 1) c0 CS cx al p1 p2) rfl rfl

/-- a byte read in a post-value state -/
theorem pv_byte {st : St} (hst : PV st = true) {c : Cls} (hd : c.isDelim = true)
    {K : List (LexT × Nat)} {i : Nat} {CS : List Ctx} {cx : Ctx} {al : Bool} {s1 s2 : Sc} {evs : List Ev}
    (hc : data[i]? = some c)
    (he : ∀ p1 p2, endValue 7 (cfgL lc st [] K false (i + 1) CS cx al) c p1 p2 = .ok s1)
    (hi : s1.index = i + 1) (hdr : drainL data s1.finds s1 = .ok (s2, evs)) :
    Path data (cfgL lc st [] K false i CS cx al) evs s2 :=
  cfg_byte hc (fun p1 p2 => (pv_dispatch 7 st hst c hd _ p1 p2).trans (he p1 p2)) hi hdr

theorem S_close_sp {st : St} (hst : PV st = true) {c : Cls} (hs : c.isSpTab = true) (lit : Bool) (ck : CK) (b b2 : Nat)
    (R : List (LexT × Nat)) (i : Nat) (CS : List Ctx) (cx : Ctx) (al : Bool) (hc : data[i]? = some c) :
    Path data (cfgL lc st [] (pendOf lit b ++ (ck.B, b2) :: R) false i CS cx al) (closersOf lit ck b b2 (i - 1))
      (cfgL lc ck.aft [] R false (i + 1) CS cx al) := by
  have haft : wsLoop ck.aft = true := by cases ck <;> rfl
  refine pv_byte hst (by cases c <;> simp [Cls.isSpTab] at hs <;> rfl) hc
    (fun p1 p2 => (ev_close 7 st lit ck b b2 R (i + 1) CS cx al c p1 p2).trans
      (loop_sp 6 ck.aft haft c hs _ (i + 1) CS cx al _ p1 p2)) rfl ?_
  cases lit <;> cases ck <;> rfl

theorem S_close_nl {st : St} (hst : PV st = true) (lit : Bool) (ck : CK) (b b2 : Nat)
    (R : List (LexT × Nat)) (i : Nat) (CS : List Ctx) (cx : Ctx) (al : Bool) (hc : data[i]? = some .nl) :
    Path data (cfgL lc st [] (pendOf lit b ++ (ck.B, b2) :: R) false i CS cx al)
      (closersOf lit ck b b2 (i - 1) ++ [⟨.newLine, i, i⟩])
      (cfgL lc ck.aft [] R false (i + 1) CS cx al) := by
  have haft : wsLoop ck.aft = true := by cases ck <;> rfl
  refine pv_byte hst rfl hc
    (fun p1 p2 => (ev_close 7 st lit ck b b2 R (i + 1) CS cx al .nl p1 p2).trans
      (loop_nl 6 ck.aft haft _ (i + 1) CS cx al _ p1 p2)) rfl ?_
  cases lit <;> cases ck <;> rfl

theorem S_close_sep {st : St} (hst : PV st = true) (lit : Bool) (ck : CK) (b b2 : Nat)
    (R : List (LexT × Nat)) (i : Nat) (CS : List Ctx) (cx : Ctx) (al : Bool) (hc : data[i]? = some ck.sep) :
    Path data (cfgL lc st [] (pendOf lit b ++ (ck.B, b2) :: R) false i CS cx al) (closersOf lit ck b b2 (i - 1))
      (cfgL lc ck.nxt [] R false (i + 1) CS cx al) := by
  refine pv_byte hst (by cases ck <;> rfl) hc
    (fun p1 p2 => (ev_close 7 st lit ck b b2 R (i + 1) CS cx al ck.sep p1 p2).trans
      (aft_sep 6 ck _ (i + 1) CS cx al _ p1 p2)) rfl ?_
  cases lit <;> cases ck <;> rfl

theorem S_close_rbrack {st : St} (hst : PV st = true) (lit : Bool) (b b2 a : Nat)
    (K : List (LexT × Nat)) (i : Nat) (c0 : Ctx) (CS : List Ctx) (cx : Ctx) (al : Bool) (hc : data[i]? = some .rbrack) :
    Path data (cfgL lc st [] (pendOf lit b ++ (.itemB, b2) :: (.arrB, a) :: K) false i (c0 :: CS) cx al)
      (closersOf lit .item b b2 (i - 1) ++ [⟨.arrE, a, i⟩])
      (cfgL lc .endValue [] K false (i + 1) CS c0 (!cx.arrayHasItem)) := by
  cases lit <;> exact pv_byte hst rfl hc
    (fun p1 p2 => (ev_close 7 st _ .item b b2 _ (i + 1) (c0 :: CS) cx al .rbrack p1 p2).trans
      (aft_rbrack 6 _ _ (i + 1) c0 CS cx al _ p1 p2)) rfl rfl

theorem S_close_rbrace {st : St} (hst : PV st = true) (lit : Bool) (b b2 a : Nat)
    (K : List (LexT × Nat)) (i : Nat) (c0 : Ctx) (CS : List Ctx) (cx : Ctx) (al : Bool) (hc : data[i]? = some .rbrace) :
    Path data (cfgL lc st [] (pendOf lit b ++ (.valB, b2) :: (.objB, a) :: K) false i (c0 :: CS) cx al)
      (closersOf lit .val b b2 (i - 1) ++ [⟨.objE, a, i⟩])
      (cfgL lc .endValue [] K false (i + 1) CS c0 al) := by
  cases lit <;> exact pv_byte hst rfl hc
    (fun p1 p2 => (ev_close 7 st _ .val b b2 _ (i + 1) (c0 :: CS) cx al .rbrace p1 p2).trans
      (aft_rbrace 6 _ (i + 1) c0 CS cx al _ p1 p2)) rfl rfl

theorem S_aft_sep (ck : CK)
    (R : List (LexT × Nat)) (i : Nat) (CS : List Ctx) (cx : Ctx) (al : Bool) (hc : data[i]? = some ck.sep) :
    Path data (cfgL lc ck.aft [] R false i CS cx al) [] (cfgL lc ck.nxt [] R false (i + 1) CS cx al) :=
  cfg_byte hc (fun p1 p2 => aft_sep 7 ck R (i + 1) CS cx al [] p1 p2) rfl rfl

theorem S_aft_rbrack (a : Nat)
    (K : List (LexT × Nat)) (i : Nat) (c0 : Ctx) (CS : List Ctx) (cx : Ctx) (al : Bool) (hc : data[i]? = some .rbrack) :
    Path data (cfgL lc .afterItem [] ((.arrB, a) :: K) false i (c0 :: CS) cx al) [⟨.arrE, a, i⟩]
      (cfgL lc .endValue [] K false (i + 1) CS c0 (!cx.arrayHasItem)) :=
  cfg_byte hc (fun p1 p2 => aft_rbrack 7 _ K (i + 1) c0 CS cx al [] p1 p2) rfl rfl

theorem S_aft_rbrace (a : Nat)
    (K : List (LexT × Nat)) (i : Nat) (c0 : Ctx) (CS : List Ctx) (cx : Ctx) (al : Bool) (hc : data[i]? = some .rbrace) :
    Path data (cfgL lc .afterValue [] ((.objB, a) :: K) false i (c0 :: CS) cx al) [⟨.objE, a, i⟩]
      (cfgL lc .endValue [] K false (i + 1) CS c0 al) :=
  cfg_byte hc (fun p1 p2 => aft_rbrace 7 _ (i + 1) c0 CS cx al [] p1 p2) rfl rfl

theorem S_root_sp {st : St} (hst : PV st = true) {c : Cls} (hs : c.isSpTab = true) (lit : Bool) (b : Nat)
    (i : Nat) (CS : List Ctx) (cx : Ctx) (al : Bool) (hc : data[i]? = some c) :
    Path data (cfgL lc st [] (pendOf lit b) false i CS cx al) (rootClosers lit b (i - 1))
      (cfgL lc .endTop [] [] false (i + 1) CS cx al) := by
  refine pv_byte hst (by cases c <;> simp [Cls.isSpTab] at hs <;> rfl) hc
    (fun p1 p2 => (ev_root 7 st lit b (i + 1) CS cx al c p1 p2).trans
      (loop_sp 6 .endTop rfl c hs _ (i + 1) CS cx al _ p1 p2)) rfl ?_
  cases lit <;> rfl

theorem S_root_nl {st : St} (hst : PV st = true) (lit : Bool) (b : Nat)
    (i : Nat) (CS : List Ctx) (cx : Ctx) (al : Bool) (hc : data[i]? = some .nl) :
    Path data (cfgL lc st [] (pendOf lit b) false i CS cx al) (rootClosers lit b (i - 1) ++ [⟨.newLine, i, i⟩])
      (cfgL lc .endTop [] [] false (i + 1) CS cx al) := by
  refine pv_byte hst rfl hc
    (fun p1 p2 => (ev_root 7 st lit b (i + 1) CS cx al .nl p1 p2).trans
      (loop_nl 6 .endTop rfl _ (i + 1) CS cx al _ p1 p2)) rfl ?_
  cases lit <;> rfl

/-- white space in a state that loops on it.  Here and in every run below `al'` is the `allowAnnotation` flag at the end: a
line break may change it, and the runs do not say how -/
theorem ws_run : ∀ (ws : List Cls), IsWs ws → ∀ (st : St), wsLoop st = true →
    ∀ (K : List (LexT × Nat)) (i : Nat) (CS : List Ctx) (cx : Ctx) (al : Bool), At data i ws →
    ∃ al', Path data (cfgL lc st [] K false i CS cx al) (nlEvs i ws) (cfgL lc (wsSt st ws) [] K false (i + ws.length) CS cx al')
  | [], _, st, _, K, i, CS, cx, al, _ => ⟨al, Path.refl _⟩
  | c :: ws, hw, st, hl, K, i, CS, cx, al, hat => by
    obtain ⟨hc, hat'⟩ := hat
    rcases blank_cases hw.head with hs | rfl
    · obtain ⟨al', ih⟩ := ws_run ws hw.tail st hl K (i + 1) CS cx al hat'
      refine ⟨al', ?_⟩
      have h1 := S_sp (lc := lc) hl hs K i CS cx al hc
      have := Path.trans h1 ih
      simp only [nlEvs, wsSt, if_neg (sptab_ne_nl hs), List.nil_append, List.length_cons]
      rw [show i + (ws.length + 1) = i + 1 + ws.length by omega]
      exact this
    · obtain ⟨al', ih⟩ := ws_run ws hw.tail (nlSt st) (wsLoop_nlSt hl) K (i + 1) CS cx (nlAl st al) hat'
      refine ⟨al', ?_⟩
      have h1 := S_nl (lc := lc) hl K i CS cx al hc
      have := Path.trans h1 ih
      simp only [nlEvs, wsSt, if_true, List.length_cons]
      rw [show i + (ws.length + 1) = i + 1 + ws.length by omega]
      exact this

theorem tok_run : ∀ (tok : List Cls) (st : St) (r : List St) (u : Bool) (st' : St) (r' : List St) (u' : Bool),
    silentRun st r u tok = some (st', r', u') →
    ∀ (K : List (LexT × Nat)) (i : Nat) (CS : List Ctx) (cx : Ctx) (al : Bool), At data i tok →
    Path data (cfgL lc st r K u i CS cx al) [] (cfgL lc st' r' K u' (i + tok.length) CS cx al)
  | [], st, r, u, st', r', u', h, K, i, CS, cx, al, _ => by
    simp only [silentRun, Option.some.injEq, Prod.mk.injEq] at h
    obtain ⟨rfl, rfl, rfl⟩ := h
    exact Path.refl _
  | c :: cs, st, r, u, st', r', u', h, K, i, CS, cx, al, hat => by
    obtain ⟨hc, hat'⟩ := hat
    simp only [silentRun] at h
    cases hs : silent st r u c with
    | none => rw [hs] at h; cases h
    | some p =>
      obtain ⟨s1, r1, u1⟩ := p
      rw [hs] at h
      have h1 := S_silent (lc := lc) hs K i CS cx al hc
      have h2 := tok_run cs s1 r1 u1 st' r' u' h K (i + 1) CS cx al hat'
      have := Path.trans h1 h2
      simp only [List.length_cons]
      rw [show i + (cs.length + 1) = i + 1 + cs.length by omega]
      exact this

/-- non-empty white space after a value: the pending pairs are closed by its first byte -/
theorem close_ws {st : St} (hst : PV st = true) (lit : Bool) (ck : CK) (b b2 : Nat) (R : List (LexT × Nat))
    (c : Cls) (w : List Cls) (hw : IsWs (c :: w)) (i : Nat) (CS : List Ctx) (cx : Ctx) (al : Bool)
    (hat : At data i (c :: w)) :
    ∃ al', Path data (cfgL lc st [] (pendOf lit b ++ (ck.B, b2) :: R) false i CS cx al)
      (closersOf lit ck b b2 (i - 1) ++ nlEvs i (c :: w)) (cfgL lc ck.aft [] R false (i + (w.length + 1)) CS cx al') := by
  obtain ⟨hc, hat'⟩ := hat
  have haft : wsLoop ck.aft = true := by cases ck <;> rfl
  obtain ⟨al', h2⟩ := ws_run (lc := lc) w hw.tail ck.aft haft R (i + 1) CS cx al hat'
  rw [wsSt_eq (aft_ne_objKey ck)] at h2
  refine ⟨al', ?_⟩
  rw [show i + (w.length + 1) = i + 1 + w.length by omega]
  rcases blank_cases hw.head with hs | rfl
  · have h1 := S_close_sp (lc := lc) hst hs lit ck b b2 R i CS cx al hc
    simp only [nlEvs, if_neg (sptab_ne_nl hs), List.nil_append]
    exact Path.trans h1 h2
  · have h1 := S_close_nl (lc := lc) hst lit ck b b2 R i CS cx al hc
    simp only [nlEvs, if_true]
    rw [← List.append_assoc]
    exact Path.trans h1 h2

/-- white space, then the separator (`,` after an item or a member, `:` after a key) -/
theorem close_sep {st : St} (hst : PV st = true) (lit : Bool) (ck : CK) (b b2 : Nat) (R : List (LexT × Nat))
    (w : List Cls) (hw : IsWs w) (i : Nat) (CS : List Ctx) (cx : Ctx) (al : Bool)
    (hat : At data i (w ++ [ck.sep])) :
    ∃ al', Path data (cfgL lc st [] (pendOf lit b ++ (ck.B, b2) :: R) false i CS cx al)
      (closersOf lit ck b b2 (i - 1) ++ nlEvs i w) (cfgL lc ck.nxt [] R false (i + w.length + 1) CS cx al') := by
  cases w with
  | nil =>
    refine ⟨al, ?_⟩
    simp only [nlEvs, List.append_nil, List.length_nil, Nat.add_zero]
    exact S_close_sep hst lit ck b b2 R i CS cx al hat.1
  | cons c w =>
    rw [At_append] at hat
    obtain ⟨al', h1⟩ := close_ws (lc := lc) hst lit ck b b2 R c w hw i CS cx al hat.1
    have h2 := S_aft_sep (lc := lc) ck R (i + (w.length + 1)) CS cx al' hat.2.1
    refine ⟨al', ?_⟩
    have := Path.trans h1 h2
    rw [List.append_nil] at this
    exact this

end Len

/-! ### tokens: object keys, scalars -/

/-- a key token: a string, as the scanner's token automaton reads it -/
def IsKey (k : List Cls) : Prop :=
  ∃ tl, k = .quote :: tl ∧ silentRun .inString [] false tl = some (.endValue, [], false)

/-- a scalar token, as the scanner's token automaton reads it (the JSON token grammar of `SchemaEventsTree` produces such tokens) -/
def IsScalar (tok : List Cls) : Prop :=
  ∃ c tl st0 unf0 stE, tok = c :: tl ∧ litStart c = some (st0, unf0) ∧
    silentRun st0 [] unf0 tl = some (stE, [], false) ∧ PV stE = true

theorem IsKey.ne_nil {k : List Cls} (h : IsKey k) : k ≠ [] := by
  obtain ⟨tl, rfl, _⟩ := h; simp

theorem IsScalar.ne_nil {tok : List Cls} (h : IsScalar tok) : tok ≠ [] := by
  obtain ⟨c, tl, _, _, _, rfl, _⟩ := h; simp

namespace Len

variable {lc : Bool} {data : Array Cls}

theorem key_run {st : St} (hst : keySt st = true) (k : List Cls) (hk : IsKey k) (R : List (LexT × Nat))
    (w2 : List Cls) (hw : IsWs w2) (o : Nat) (CS : List Ctx) (cx : Ctx) (al : Bool)
    (hat : At data o (k ++ (w2 ++ [.colon]))) :
    ∃ al', Path data (cfgL lc st [] R false o CS cx al)
      ([⟨.keyB, o, o⟩, ⟨.keyE, o, o + k.length - 1⟩] ++ nlEvs (o + k.length) w2)
      (cfgL lc .objValue [] R false (o + k.length + w2.length + 1) CS cx al') := by
  obtain ⟨tl, rfl, hr⟩ := hk
  rw [At_append] at hat
  obtain ⟨⟨hq, htl⟩, hrest⟩ := hat
  have h1 := S_key_start (lc := lc) hst R o CS cx al hq
  have h2 := tok_run (lc := lc) tl _ _ _ _ _ _ hr ((.keyB, o) :: R) (o + 1) CS cx (keyAl st al) htl
  simp only [List.length_cons] at hrest ⊢
  rw [show o + 1 + tl.length = o + (tl.length + 1) by omega] at h2
  obtain ⟨al', h3⟩ := close_sep (lc := lc) (st := .endValue) rfl false .key 0 o R w2 hw (o + (tl.length + 1)) CS cx (keyAl st al) hrest
  refine ⟨al', ?_⟩
  have := Path.trans (Path.trans h1 h2) h3
  simpa [closersOf, CK.E, CK.nxt] using this

end Len

/-! ### ordinary mode

The runs above at `lc := false` are runs of the ordinary scanner (`cfg` is `cfgL false`). -/

variable {data : Array Cls}

/-- the end of input behind the top-level value: a pending literal is closed -/
theorem Emits.eofRoot {s : Sc} (hf : s.finds = []) (hi : data.size ≤ s.index) (lit : Bool) (b : Nat)
    (hs : s.stack = pendOf lit b) (hu : s.unf = false) : Emits data s (rootClosers lit b (s.index - 1)) := by
  cases lit
  · exact Emits.done hf hi hs
  · exact Emits.eofLit hf hi hs hu

/-- trailing white space up to the end of input after the top-level value -/
theorem close_root {st : St} (hst : PV st = true) (lit : Bool) (b : Nat)
    (w : List Cls) (hw : IsWs w) (i : Nat) (CS : List Ctx) (cx : Ctx) (al : Bool)
    (hat : At data i w) (hn : data.size = i + w.length) :
    Emits data (cfg st [] (pendOf lit b) false i CS cx al) (rootClosers lit b (i - 1) ++ nlEvs i w) := by
  cases w with
  | nil =>
    rw [show nlEvs i [] = [] from rfl, List.append_nil]
    exact Emits.eofRoot (s := cfg st [] (pendOf lit b) false i CS cx al) rfl (by simp only [cfg]; simp at hn; omega) lit b rfl rfl
  | cons c w =>
    obtain ⟨hc, hat'⟩ := hat
    obtain ⟨al', h2⟩ := Len.ws_run (lc := false) w hw.tail .endTop rfl [] (i + 1) CS cx al hat'
    rw [wsSt_eq (by simp)] at h2
    have hend : Emits data (cfg .endTop [] [] false (i + 1 + w.length) CS cx al') [] :=
      Emits.done rfl (by simp only [cfg, List.length_cons] at hn ⊢; omega) rfl
    rcases blank_cases hw.head with hs | rfl
    · have h1 := Len.S_root_sp (lc := false) hst hs lit b i CS cx al hc
      simp only [nlEvs, if_neg (sptab_ne_nl hs), List.nil_append]
      have := (Len.Path.trans h1 h2).emits hend
      rw [List.append_nil] at this
      exact this
    · have h1 := Len.S_root_nl (lc := false) hst lit b i CS cx al hc
      simp only [nlEvs, if_true]
      have := (Len.Path.trans h1 h2).emits hend
      rw [List.append_nil, List.append_assoc] at this
      exact this

end SchemaScan
