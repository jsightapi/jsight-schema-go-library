import JSight.SchemaLeafA
/-! Transitions that read the not-yet-updated stack: object end and array end. -/
namespace SchemaScan

def lastObjAnn (S : List LexT) : Option LexT :=
  let isAnn (t : Option LexT) := t == some .inlAnnB || t == some .mlAnnB
  if S[0]? == some .tsB && S[1]? == some .mixB && S[2]? == some .valB && S[3]? == some .objB && isAnn S[4]? then S[4]?
  else if S[0]? == some .litB && S[1]? == some .valB && S[2]? == some .objB && isAnn S[3]? then S[3]?
  else if S[0]? == some .valB && S[1]? == some .objB && isAnn S[2]? then S[2]?
  else if S[0]? == some .objB && isAnn S[1]? then S[1]?
  else none

theorem isFoundLast_eq (s : Sc) :
    isFoundLastObjectEndOnAnnotation s = lastObjAnn (s.stack.map (·.1)) := by
  unfold isFoundLastObjectEndOnAnnotation lastObjAnn stackTy
  simp only [List.getElem?_map]

/-- soundness of the stack pattern used at an object end: a reported marker really lies under the object -/
def PatOK (S V : List LexT) : Prop :=
  ∀ m, lastObjAnn S = some m → m.isMarker = true ∧ ∃ σ, V = m :: σ

/-- an annotation opener found on top of `V` is a marker and heads `V` -/
theorem annHead {V : List LexT} {m : LexT}
    (h : (if (V[0]? == some LexT.inlAnnB || V[0]? == some LexT.mlAnnB) = true then V[0]? else none) = some m) :
    m.isMarker = true ∧ ∃ σ, V = m :: σ := by
  cases V with
  | nil => simp at h
  | cons a σ =>
    simp only [List.getElem?_cons_zero, Bool.or_eq_true, beq_iff_eq, Option.some.injEq] at h
    split at h
    · cases h
      refine ⟨?_, σ, rfl⟩
      rename_i ha
      rcases ha with rfl | rfl <;> rfl
    · cases h

/-- `patOK0` … `patOK3`: the four stack shapes `lastObjAnn` looks for, by the number of open lexemes above `objB` -/
theorem patOK0 (V) : PatOK (.objB :: V) V := by
  intro m h
  apply annHead
  simpa [lastObjAnn] using h

theorem patOK1 (V) : PatOK (.valB :: .objB :: V) V := by
  intro m h
  apply annHead
  simpa [lastObjAnn] using h

theorem patOK2 (V) : PatOK (.litB :: .valB :: .objB :: V) V := by
  intro m h
  apply annHead
  simpa [lastObjAnn] using h

theorem patOK3 (V) : PatOK (.tsB :: .mixB :: .valB :: .objB :: V) V := by
  intro m h
  apply annHead
  simpa [lastObjAnn] using h

theorem CH.marker_inv {m σ ret} (hm : m.isMarker = true) (h : CH (m :: σ) ret) :
    ∃ r ret', ret = r :: ret' ∧ r.annRet = true ∧ Good r σ ret' := by
  cases h with
  | vh hv => cases hv <;> simp [LexT.isMarker] at hm
  | marker _ hr hg => exact ⟨_, _, rfl, hr, hg⟩

theorem foundObjectEnd_ok {s V} (hE : Eff s (.objB :: V)) (hV : CH V s.ret)
    (hp : PatOK (s.stack.map (·.1)) V) : OKRes Inv (foundObjectEnd s) := by
  have hc : (found s .objE).ctx.ty :: (found s .objE).ctxStack.map (·.ty) = .object :: ctxsOf V := hE.2
  obtain ⟨c, rest, heq, hcr⟩ := restoreContext_ok hc
  have hE' : Eff { found s .objE with ctx := c, ctxStack := rest } V := by
    refine ⟨?_, hcr⟩
    show applyFinds (s.finds ++ [.objE]) (s.stack.map (·.1)) = some V
    rw [applyFinds_append, hE.1]; rfl
  unfold foundObjectEnd
  simp only [bind, Except.bind, pure, Except.pure, heq]
  split
  · exact ⟨_, hE', Good.done hV⟩
  · generalize hL : isFoundLastObjectEndOnAnnotation _ = L
    rw [isFoundLast_eq] at hL
    change lastObjAnn (s.stack.map (·.1)) = L at hL
    cases L with
    | none => exact ⟨_, hE', Good.done hV⟩
    | some m =>
      obtain ⟨hm, σ, rfl⟩ := hp m hL
      obtain ⟨r, ret', hret, hr, hGr⟩ := hV.marker_inv hm
      cases m <;> simp [LexT.isMarker] at hm
      · refine ⟨_, hE', ?_⟩
        show Good .inlTxtPrefix _ s.ret
        rw [hret]; exact Good.inl rfl hr hGr
      · refine ⟨_, hE', ?_⟩
        show Good .mlTxtPrefix _ s.ret
        rw [hret]; exact Good.ml rfl hr hGr


theorem Eff.stack_eq {s eff} (hE : Eff s eff) (hf : s.finds = []) : s.stack.map (·.1) = eff := by
  have h := hE.1
  rw [hf] at h
  exact Option.some.inj h

theorem foundArrayEnd_core {s V} (hE : Eff s (.arrB :: V)) (hV : CH V s.ret) (hne : s.stack ≠ []) :
    OKRes Inv (Except.bind (restoreContext (found s .arrE)) (fun s =>
      Except.ok { s with step := if s.stack.isEmpty then .endTop else .endValue })) := by
  have hc : (found s .arrE).ctx.ty :: (found s .arrE).ctxStack.map (·.ty) = .array :: ctxsOf V := hE.2
  obtain ⟨c, rest, heq, hcr⟩ := restoreContext_ok hc
  have hE' : Eff { found s .arrE with ctx := c, ctxStack := rest } V := by
    refine ⟨?_, hcr⟩
    show applyFinds (s.finds ++ [.arrE]) (s.stack.map (·.1)) = some V
    rw [applyFinds_append, hE.1]; rfl
  rw [heq]
  have he : s.stack.isEmpty = false := by
    cases hs : s.stack with
    | nil => exact absurd hs hne
    | cons a l => rfl
  refine ⟨_, hE', ?_⟩
  show Good (if s.stack.isEmpty then St.endTop else St.endValue) V s.ret
  rw [he]; exact Good.done hV

theorem foundArrayEnd_ok {s V} (hE : Eff s (.arrB :: V)) (hV : CH V s.ret) (hne : s.stack ≠ []) :
    OKRes Inv (foundArrayEnd s) := by
  unfold foundArrayEnd
  simp only [bind, pure, Except.pure]
  by_cases hc : (s.ann == Ann.none) = true <;> simp only [hc, ↓reduceIte]
  · exact foundArrayEnd_core (s := { s with allowAnnotation := !s.ctx.arrayHasItem }) hE hV hne
  · exact foundArrayEnd_core hE hV hne

end SchemaScan
