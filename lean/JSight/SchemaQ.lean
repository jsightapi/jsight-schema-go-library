import JSight.SchemaFrameComp
/-! The frame property `DispatchQ` of `dispatch` (`dispatchQ`): `dispatch_post` (`SchemaErrIdxStep`) under the invariant.
What the invariant contributes is read off `Good`: every step on the return stack is outside a user comment
(`Good.retOK`), and in a state that can pass the byte on to `endValue` the step on top of it is one an annotation started
from, hence a leaf (`Good.side`, with `St.annRet_isLeaf` of `SchemaFrameComp`). -/
namespace SchemaScan

theorem St.cflag_le (st : St) : st.cflag ≤ 1 := by
  induction st <;> simp_all [St.cflag]

/-- frame property of one `dispatch`: the index stays (or skips the two `#` of `###`) and at most 5 lexemes are queued
(`St.budget`); or a comment ends at a line break, which is queued and read again -/
def Q (s : Sc) (p2 : Option Cls) (s' : Sc) : Prop :=
  ((s'.index = s.index ∨ (s'.index = s.index + 2 ∧ p2.isSome = true)) ∧
      s'.finds.length ≤ s.finds.length + 5) ∨
  (s'.index + 1 = s.index ∧ s'.finds.length = s.finds.length + 1 ∧ s.step.cflag = 1 ∧ s'.step.cflag = 0)

/-- `Q` holds of every successful step from a state of the invariant (`dispatchQ`); 8 is the re-dispatch fuel `next` gives
a call (`SchemaRun`) -/
def DispatchQ : Prop :=
  ∀ (s : Sc) (c : Cls) (p1 p2 : Option Cls) (s' : Sc), Inv s → s.finds = [] →
    dispatch 8 s.step s c p1 p2 = .ok s' → Q s p2 s'

theorem RetOK.cons {r : St} {ret : List St} (hr : r.cflag = 0) (h : RetOK ret) : RetOK (r :: ret) := by
  intro x hx
  rcases List.mem_cons.mp hx with rfl | hx
  · exact hr
  · exact h x hx

theorem St.annRet_cflag {r : St} (h : r.annRet = true) : r.cflag = 0 := by
  cases r <;> first | rfl | cases h

mutual
theorem VH.ret_facts : ∀ {V ret}, VH V ret → Side ret ∧ RetOK ret
  | _, _, .root => ⟨fun _ _ h => (by cases h), fun _ h => (by cases h)⟩
  | _, _, .val h => CH.ret_facts h
  | _, _, .item h => CH.ret_facts h
theorem CH.ret_facts : ∀ {V ret}, CH V ret → Side ret ∧ RetOK ret
  | _, _, .vh h => VH.ret_facts h
  | _, _, .marker _ hr h =>
    ⟨fun _ _ e => (by cases e; exact St.annRet_isLeaf hr), RetOK.cons (St.annRet_cflag hr) (Good.retOK h)⟩
theorem Good.retOK : ∀ {st eff ret}, Good st eff ret → RetOK ret
  | _, _, _, .foundRoot => fun _ h => by cases h
  | _, _, _, .endTop => fun _ h => by cases h
  | _, _, _, .obj _ h => (CH.ret_facts h).2
  | _, _, _, .arr _ h => (CH.ret_facts h).2
  | _, _, _, .ks _ h => (CH.ret_facts h).2
  | _, _, _, .key _ h => (CH.ret_facts h).2
  | _, _, _, .lit _ h => (VH.ret_facts h).2
  | _, _, _, .ts _ h => (VH.ret_facts h).2
  | _, _, _, .done h => (CH.ret_facts h).2
  | _, _, _, .uesc _ h => RetOK.cons rfl (Good.retOK h)
  | _, _, _, .comment _ hr h => RetOK.cons hr (Good.retOK h)
  | _, _, _, .pend _ hr h => RetOK.cons (St.annRet_cflag hr) (Good.retOK h)
  | _, _, _, .inl _ hr h => RetOK.cons (St.annRet_cflag hr) (Good.retOK h)
  | _, _, _, .inlTxt hr h => RetOK.cons (St.annRet_cflag hr) (Good.retOK h)
  | _, _, _, .ml _ hr h => RetOK.cons (St.annRet_cflag hr) (Good.retOK h)
  | _, _, _, .mlTxt hr h => RetOK.cons (St.annRet_cflag hr) (Good.retOK h)
  | _, _, _, .guard _ h => Good.retOK h
end

/-- in a state that can pass the byte on, the step on top of the return stack is one an annotation started from -/
theorem Good.side {st eff ret} (hb : st.budget = 5) (hg : st.isGuard = false) (h : Good st eff ret) : Side ret := by
  have ev : Good .endValue eff ret → Side ret := fun h => by
    rcases h.inv with ⟨V, _, hV⟩ | ⟨V, _, hV⟩ | ⟨V, _, hV⟩ | ⟨V, _, hV⟩ | hC
    · exact (CH.ret_facts hV).1
    · exact (CH.ret_facts hV).1
    · exact (VH.ret_facts hV).1
    · exact (VH.ret_facts hV).1
    · exact (CH.ret_facts hC).1
  have ann : ∀ {r ret'}, ret = r :: ret' → r.annRet = true → Side ret := fun h1 h2 _ _ h => by
    rw [h1] at h; cases h; exact St.annRet_isLeaf h2
  -- the thirteen states of budget 5: those that pass the byte on to `endValue`, and the four that open an annotation text
  cases st <;> first | exact absurd hb (by decide) | cases hg | skip
  case endValue => exact ev h
  case keyShortcut | d1 | d0 | dot0 | tsName | tsBeforePipe | annKey | annKeyAfter => exact ev (h.toEndValue rfl)
  case inlAnn | inlTxtPrefix2 => obtain ⟨r, σ, ret', _, h1, h2, _⟩ := h.inv; exact ann h1 h2
  case mlAnn | mlTxtPrefix2 => obtain ⟨r, σ, ret', _, h1, h2, _⟩ := h.inv; exact ann h1 h2

theorem St.comment_budget {st : St} (hg : st.isGuard = false) (h : st.cflag = 1) : st.budget = 1 := by
  cases st <;> first | rfl | exact absurd h (by decide) | cases hg

/-- frame property of one call of a non-guard step function -/
theorem step_Q {f s c p1 p2 s' which} (hI : InvAt which s) (hf : s.finds = []) (hcf : s.step.cflag = which.cflag)
    (h : dispatch f which s c p1 p2 = .ok s') (hng : which.isGuard = false) : Q s p2 s' := by
  obtain ⟨eff, _, hG⟩ := hI
  obtain ⟨-, hidx, hB⟩ := (dispatch_post c p1 p2 _ _ _ _ True which.cflag_le f which s
    ⟨rfl, rfl, fun _ => Nat.le_refl _, fun _ hb => hG.side hb hng, fun _ => Nat.le_refl _, fun _ => hG.retOK⟩).ok h
  have hB := hB trivial
  have := which.budget_le
  rcases hidx with h1 | ⟨h1, _, h2⟩ | ⟨h1, _, _, h4⟩
  · exact Or.inl ⟨Or.inl h1, by omega⟩
  · obtain ⟨h3, h4, h5⟩ := h2 trivial
    have hb := St.comment_budget hng h3
    refine Or.inr ⟨h1, ?_, hcf.trans h3, h5⟩
    have : s'.finds.length ≠ 0 := fun h0 => h4 (List.length_eq_zero_iff.mp h0)
    rw [hf] at hB ⊢
    simp only [List.length_nil] at hB ⊢
    omega
  · exact Or.inl ⟨Or.inr ⟨h1, by rw [h4]; rfl⟩, by omega⟩

theorem dispatchQ : DispatchQ := by
  intro s c p1 p2 s' hI hf h
  cases hst : s.step with
  | guard x =>
    obtain ⟨eff, hE, hG⟩ := hI
    rw [hst] at hG h
    obtain ⟨hng, hGx⟩ := hG.inv
    unfold dispatch at h; dsimp only at h
    split at h
    · cases h
    · exact step_Q ⟨eff, hE, hGx⟩ hf (by rw [hst]; rfl) h hng
  | _ =>
    rw [hst] at h
    exact step_Q (by rw [← hst]; exact hI) hf (by rw [hst]) h (by rfl)

end SchemaScan
