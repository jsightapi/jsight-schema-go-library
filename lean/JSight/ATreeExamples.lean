import JSight.ATreeThm
import JSight.AnnTreeExamples
/-!
C13 / C16, whole annotated trees: a pretty-printed schema as an `ATree` that meets the hypotheses of `AT.tree_loads`:

    { // {min: 0} - note
    "a": 1 /* {min: 0} */,
    "aa": [
    1, // {min: 0} - note
    2
    ]
    }
-/
namespace AT.Ex
open SchemaScan (classify)
open SchemaScan.Len.Ex (b obB ob1 ob1_valid_ml body1_valid obB_cls mlb1 mlb1_valid)

def aMl : Annot := ⟨true, [32], obB, [32], none, 10⟩
def aInl : Annot := ⟨false, [32], obB, [32], some ([32], b "note"), 10⟩
/-- the multi-line spelling of `aInl`, with line breaks inside -/
def aInl' : Annot := ⟨true, [10, 32], obB, [32], some ([32, 32], b "note"), 10⟩

def inner (a : Annot) : ATree :=
  .arr none (.cons [.nl 10] (.scalar (b "1") (some ⟨true, [.sp 32], a⟩)) [] true
    (.cons [] (.scalar (b "2") none) [.nl 10] false (.nil [])))

def t1 : ATree :=
  .obj (some ([.sp 32], aInl))
    (.cons [] (b "\"a\"") [] [.sp 32] (.scalar (b "1") (some ⟨false, [.sp 32], aMl⟩)) [] true
    (.cons [.nl 10] (b "\"aa\"") [] [.sp 32] (inner aInl) [.nl 10] false (.nil [])))

/-- another surface form of the same annotated tree: CR LF line ends, a comment, more blanks, the note annotation in the
multi-line form before the comma -/
def t2 : ATree :=
  .obj (some ([], aInl))
    (.cons [.cmt (b " c") 10, .sp 9] (b "\"a\"") [.sp 32] [] (.scalar (b "1") (some ⟨false, [], aMl⟩)) [.sp 32] true
    (.cons [.nl 13, .nl 10] (b "\"aa\"") [] [.sp 32, .sp 32]
      (.arr none (.cons [.nl 13, .nl 10, .sp 32] (.scalar (b "1") (some ⟨false, [.sp 32], aInl'⟩)) [] true
        (.cons [.nl 10] (.scalar (b "2") none) [.nl 10] false (.nil [.sp 32])))) [.nl 10] false (.nil [])))

example : docText [] t1 [] = b "{ // {min: 0} - note\n\"a\": 1 /* {min: 0} */,\n\"aa\": [\n1, // {min: 0} - note\n2\n]\n}" := by
  decide +kernel

theorem tokOK_cons_iff (t : BTok) (ts : List BTok) : TokOK (t :: ts) ↔ t.WF ∧ TokOK ts :=
  ⟨tokOK_cons, fun h x hx => by
    rcases List.mem_cons.mp hx with rfl | h'
    · exact h.1
    · exact h.2 x h'⟩

theorem tokOK_nil : TokOK [] := fun _ h => by cases h

theorem ablank_sp : SchemaScan.ABlank .multi [.sp] := by intro c hc; simp at hc; subst hc; rfl
theorem ablank_nlsp : SchemaScan.ABlank .multi [.nl, .sp] := by
  intro c hc; simp at hc; rcases hc with rfl | rfl <;> rfl

theorem aMl_cls : Lay.mlOf [32] obB [32] none = mlb1 := by
  simp only [Lay.mlOf, Lay.clsNt, Option.map_none, obB_cls]
  rfl

theorem aMl_wf : aMl.WF :=
  ⟨show (Lay.mlOf [32] obB [32] none).Valid from aMl_cls ▸ mlb1_valid,
    (by intro _ _ h; cases h), (by intro h; cases h)⟩

theorem note_cls : (b "note").map classify = [.ln, .nameo, .lt, .le] := by decide +kernel
theorem note_ne : b "note" ≠ [] := by decide +kernel

theorem aInl_cls : Lay.inlOf [32] obB [32] (some ([32], b "note")) = SchemaScan.Len.Ex.body1 := by
  simp only [Lay.inlOf, Lay.clsNt, Option.map_some, obB_cls, note_cls]
  rfl

theorem aInl_wf : aInl.WF :=
  ⟨show (Lay.inlOf [32] obB [32] (some ([32], b "note"))).Valid from aInl_cls ▸ body1_valid,
    by
      intro s4 txt h
      simp only [aInl, Option.some.injEq, Prod.mk.injEq] at h
      rw [← h.2]; exact note_ne,
    fun _ => by decide⟩

theorem aInl'_cls : Lay.mlOf [10, 32] obB [32] (some ([32, 32], b "note"))
    = ⟨[.nl, .sp], ob1, [.sp], some ([.sp, .sp], [.ln, .nameo, .lt, .le])⟩ := by
  simp only [Lay.mlOf, Lay.clsNt, Option.map_some, obB_cls, note_cls]
  rfl

theorem aInl'_wf : aInl'.WF :=
  ⟨show (Lay.mlOf [10, 32] obB [32] (some ([32, 32], b "note"))).Valid from aInl'_cls ▸
      ⟨ablank_nlsp, ob1_valid_ml, ablank_sp, by
        intro s4 txt h
        simp only [Option.some.injEq, Prod.mk.injEq] at h
        rw [← h.1, ← h.2]
        exact ⟨by intro c hc; simp at hc; subst hc; rfl, ⟨_, _, rfl, rfl⟩, by intro c hc; simp at hc; rcases hc with rfl | rfl | rfl | rfl <;> rfl⟩⟩,
    by
      intro s4 txt h
      simp only [aInl', Option.some.injEq, Prod.mk.injEq] at h
      rw [← h.2]; exact note_ne,
    by intro h; cases h⟩

theorem one_wf : BTok.WF (.scalar (b "1")) := ⟨.d19, [], .d1, false, .d1, rfl, rfl, rfl, rfl⟩
theorem two_wf : BTok.WF (.scalar (b "2")) := ⟨.d19, [], .d1, false, .d1, rfl, rfl, rfl, rfl⟩
theorem ka_wf : BTok.WF (.key (b "\"a\"")) := ⟨[.la, .quote], rfl, rfl⟩
theorem kaa_wf : BTok.WF (.key (b "\"aa\"")) := ⟨[.la, .la, .quote], rfl, rfl⟩
theorem sp_wf : BTok.WF (.lay (.sp 32)) := (rfl : (classify 32).isSpTab = true)
theorem tab_wf : BTok.WF (.lay (.sp 9)) := (rfl : (classify 9).isSpTab = true)
theorem lf_wf : BTok.WF (.lay (.nl 10)) := (rfl : classify 10 = .nl)
theorem cr_wf : BTok.WF (.lay (.nl 13)) := (rfl : classify 13 = .nl)
theorem cmt_wf : BTok.WF (.lay (.cmt (b " c") 10)) :=
  ⟨⟨by intro c hc; simp [b, classify] at hc; rcases hc with rfl | rfl <;> decide, by decide⟩, rfl⟩

theorem t1_tok : TokOK (docToks [] t1 []) := by
  simp only [docToks, t1, inner, ATree.toks, AMembers.toks, AItems.toks, ATree.toksB, headToks, gapToks, List.map,
    List.cons_append, List.nil_append, List.append_nil, cond_true, cond_false, tokOK_cons_iff]
  refine ⟨trivial, sp_wf, aInl_wf, ka_wf, trivial, sp_wf, one_wf, sp_wf, aMl_wf, trivial, lf_wf, kaa_wf, trivial, sp_wf,
    trivial, lf_wf, one_wf, trivial, sp_wf, aInl_wf, two_wf, lf_wf, trivial, lf_wf, trivial, tokOK_nil⟩

theorem t1_line : lineOK [] t1 = true := by decide

theorem t2_tok : TokOK (docToks [.nl 10] t2 [.nl 10]) := by
  simp only [docToks, t2, ATree.toks, AMembers.toks, AItems.toks, ATree.toksB, headToks, gapToks, List.map,
    List.cons_append, List.nil_append, List.append_nil, cond_true, cond_false, tokOK_cons_iff]
  refine ⟨lf_wf, trivial, aInl_wf, cmt_wf, tab_wf, ka_wf, sp_wf, trivial, one_wf, aMl_wf, sp_wf, trivial, cr_wf, lf_wf,
    kaa_wf, trivial, sp_wf, sp_wf, trivial, cr_wf, lf_wf, sp_wf, one_wf, sp_wf, aInl'_wf, trivial, lf_wf, two_wf, lf_wf, sp_wf,
    trivial, lf_wf, trivial, lf_wf, tokOK_nil⟩

theorem t2_line : lineOK [.nl 10] t2 = true := by decide

theorem same_strip : t1.strip = t2.strip := rfl

end AT.Ex

namespace AT.ExC15
open AT.Ex

theorem inner_tok : TokOK (docToks [] (inner aInl) []) := by
  simp only [docToks, inner, ATree.toks, AItems.toks, ATree.toksB, headToks, gapToks, List.map,
    List.cons_append, List.nil_append, List.append_nil, cond_true, cond_false, tokOK_cons_iff]
  exact ⟨trivial, lf_wf, one_wf, trivial, sp_wf, aInl_wf, two_wf, lf_wf, trivial, tokOK_nil⟩

end AT.ExC15
