import JSight.CheckRulesLoad
import JSight.ListFacts
/-!
C08, the main theorems: `checkRules` (the model of what `Check` does with the rules of one annotated node) accepts
exactly the rule lists the specification `specOK` accepts — on every node outside `refTypeClass`, the `type` rules on a
shortcut node (`check_iff_partial`: a node with a JSON kind `check_iff_base`, `@a | @b` with at most one `type` rule
`check_iff_orShortcut`, `@t` without one `check_iff_typeRef`); there the verdict does not see the order of the rules
either (`check_perm`). Inside the class the equation fails (`Props/C08.lean`: `C08_check_iff_full_false`).
-/
namespace CR

def NKind.isShortcut : NKind → Bool
  | .typeRef _ => true
  | .orShortcut _ => true
  | _ => false

theorem ctx_wf (k : NKind) (p : Bool) : (k.ctx p).wf = true := by cases k <;> rfl

theorem ctx_cls_base {k : NKind} (p : Bool) (h : k.isShortcut = false) : (k.ctx p).cls ≠ .mixedValue := by
  cases k <;> simp [NKind.isShortcut] at h <;> simp [NKind.ctx]

theorem initMap_base {k : NKind} (h : k.isShortcut = false) : initMap k = CMap.empty := by
  cases k <;> simp [NKind.isShortcut] at h <;> rfl

theorem known_of_values (n : Node) (h : ValuesOK n = true) : Known n = true := by
  unfold ValuesOK at h; unfold Known
  rw [List.all_eq_true] at h ⊢
  intro e he
  obtain ⟨bs, hbs⟩ := Option.isSome_iff_exists.1 (h e he)
  cases readRule_shape hbs with
  | or h0 _ _ => simp [h0]
  | enum h0 _ _ => simp [h0]
  | allOf h0 _ _ => simp [h0]
  | lit r h0 _ _ _ _ _ _ _ _ => simp [h0]

theorem foldO_top_none (n : Node) (m0 : CMap) (h : ¬ (ValuesOK n = true ∧ Once n = true)) :
    foldO (readRule n.env n.ctx) m0 n.rules = none :=
  foldO_none_of (keyFn_top n.env n.ctx) m0 n.rules fun h' => h ⟨List.all_eq_true.2 h'.1, decide_eq_true h'.2.1⟩

theorem specOK_false (n : Node) (h : ¬ (ValuesOK n = true ∧ Once n = true)) : specOK n = false := by
  unfold specOK
  cases hV : ValuesOK n <;> cases hO : Once n <;> simp_all

/-- C08 on a node that has a JSON kind (scalar, object, array) -/
theorem check_iff_base (n : Node) (hk : n.kind.isShortcut = false) : isOk (checkRules n) = specOK n := by
  have hcls := ctx_cls_base n.isProp hk
  have hwf : n.ctx.wf = true := ctx_wf _ _
  unfold checkRules
  simp only [isOk_eq, toOpt_bind]
  have hstep : ∀ m r, toOpt (loadRule n.env n.ctx m r) = stepO (readRule n.env n.ctx) m r :=
    fun m r => toOpt_loadRule_step _ _ m r (fun _ => Or.inl hcls) (fun _ => Or.inr (Or.inl hcls))
  have henv : ({ okRegex := n.okRegex, enumRules := n.enumRules } : Env) = n.env := rfl
  rw [henv, toOpt_foldlM _ _ hstep, foldO_eq, initMap_base hk]
  have hSN : ShortcutNotRepeated n = true := by
    unfold ShortcutNotRepeated; cases hkind : n.kind <;> simp [hkind, NKind.isShortcut] at hk ⊢
  have hRS : ruleSetW n = readSet (readRule n.env n.ctx) n.rules := by
    have : ruleSetW n = ruleSet n := by
      unfold ruleSetW; cases hkind : n.kind <;> simp [hkind, NKind.isShortcut] at hk ⊢
    rw [this]
    funext k
    unfold ruleSet shortcutSet
    rw [initMap_base hk]
    cases readSet (readRule n.env n.ctx) n.rules k <;> rfl
  by_cases h : ValuesOK n = true ∧ Once n = true
  case neg => rw [foldO_top_none n _ h, specOK_false n h]; rfl
  obtain ⟨hV, hO⟩ := h
  have hall : ∀ r ∈ n.rules, (readRule n.env n.ctx r).isSome = true := List.all_eq_true.1 hV
  have hnd : (namesOf n.rules).Nodup := of_decide_eq_true hO
  have hf := (foldO_some (keyFn_top n.env n.ctx) CMap.empty n.rules _).2 ⟨hall, hnd, fun _ _ _ _ => rfl, rfl⟩
  rw [hf, overlay_empty]
  simp only [Option.bind_some]
  have := compile_iff n.ctx _ hwf (shape_top n.env n.ctx n.rules hall)
  simp only [isOk_eq, toOpt_bind] at this
  rw [this]
  unfold specOK
  rw [known_of_values n hV, hO, hV, hSN, hRS]
  simp

/-- the number of `type` rules, the count `refTypeClass` bounds on an or-shortcut node -/
def typeCount (rs : List Rule) : Nat := (rs.filter fun e => RName.ofBytes e.1 = some .type).length

theorem typeCount_cons (r : Rule) (rs : List Rule) :
    typeCount (r :: rs) = (if RName.ofBytes r.1 = some .type then 1 else 0) + typeCount rs := by
  unfold typeCount
  by_cases h : RName.ofBytes r.1 = some .type
  · simp [h]; omega
  · simp [h]

/-- a rule that is no `type` rule does not bind the key `type` -/
theorem nkTop_type {name : Bytes} (h : RName.ofBytes name ≠ some .type) : CT.type ∉ nkTop name := by
  intro hm
  obtain ⟨r, hr, h1 | ⟨_, h1⟩⟩ := mem_nkTop hm
  · exact h (ct_inj (r := .type) h1 ▸ hr)
  · cases h1

theorem stepO_type_none {env : Env} {c : Ctx} {m m' : CMap} {r : Rule} (h : stepO (readRule env c) m r = some m')
    (hr : RName.ofBytes r.1 ≠ some .type) : m' .type = m .type := by
  unfold stepO at h
  cases hb : readRule env c r with
  | none => rw [hb] at h; cases h
  | some bs =>
    rw [hb] at h; simp only [Option.bind_some] at h
    split at h
    · cases h
      apply setAll_apply_not_mem
      rw [(keyFn_top env c).keys r bs hb]
      exact nkTop_type hr
    · cases h

theorem stepO_has_mono {rd : Rule → Option (List (CT × CV))} {nk : Bytes → List CT} (hK : KeyFn rd nk) {m m' : CMap} {r : Rule}
    (h : stepO rd m r = some m') {k : CT} (hk : m.has k = true) : m'.has k = true := by
  unfold stepO at h
  cases hb : rd r with
  | none => rw [hb] at h; cases h
  | some bs =>
    rw [hb] at h; simp only [Option.bind_some] at h
    split at h
    · cases h
      have hnd : (keysOf bs).Nodup := by rw [hK.keys r bs hb]; exact hK.nodup _
      rw [setAll_has m bs hnd, hk]; simp
    · cases h

theorem hasRule_iff (n : Node) (r : RName) : hasRule n r = true ↔ ∃ e ∈ n.rules, RName.ofBytes e.1 = some r := by
  unfold hasRule; simp [List.any_eq_true]

theorem ruleSet_eq (n : Node) : ruleSet n = overlay (readSet (readRule n.env n.ctx) n.rules) (initMap n.kind) := rfl

/-- a rule that is no `or` rule binds neither `or` nor the TypesList -/
theorem nkTop_or {name : Bytes} (h : RName.ofBytes name ≠ some .or) : CT.or ∉ nkTop name ∧ CT.typesList ∉ nkTop name := by
  constructor <;> intro hm <;> obtain ⟨r, hr, h1 | ⟨h0, h1⟩⟩ := mem_nkTop hm
  · exact h (ct_inj (r := .or) h1 ▸ hr)
  · cases h1
  · exact ct_ne_typesList r h1.symm
  · exact h (h0 ▸ hr)

theorem nkTop_sub (name : Bytes) (k : CT) (h : k ∈ nkTop name) : k = .typesList ∨ ∃ r, RName.ofBytes name = some r ∧ k = r.ct := by
  obtain ⟨r, hr, h1 | ⟨_, h1⟩⟩ := mem_nkTop h
  · exact .inr ⟨r, hr, h1⟩
  · exact .inl h1

/-- on an or-shortcut node `AddConstraint` is the plain insertion as long as there is no type constraint yet: with at
most one `type` rule the loader is the plain fold -/
theorem fold_orShortcut {env : Env} {c : Ctx} (rs : List Rule) (m0 : CMap) (h1 : m0.has .typesList = true)
    (h2 : m0 .type = none) (hcnt : typeCount rs ≤ 1) :
    toOpt (rs.foldlM (loadRule env c) m0) = foldO (readRule env c) m0 rs := by
  rw [toOpt_foldlM (loadRule env c) (fun m r => toOpt (loadRule env c m r)) (fun _ _ => rfl), ← foldO_eq]
  apply foldlM_inv (I := fun m rs => m.has .typesList = true ∧ (typeCount rs = 0 ∨ (m .type = none ∧ typeCount rs ≤ 1)))
  · intro m r rest hI
    apply toOpt_loadRule_step
    · intro ht
      right
      rcases hI.2 with h | h
      · rw [typeCount_cons, if_pos ht] at h; omega
      · exact h.1
    · intro _; exact Or.inl hI.1
  · intro m r rest m' hI hg
    refine ⟨stepO_has_mono (keyFn_top _ _) hg hI.1, ?_⟩
    by_cases ht : RName.ofBytes r.1 = some .type
    · left
      rcases hI.2 with h | h
      · rw [typeCount_cons, if_pos ht] at h; omega
      · have := h.2; rw [typeCount_cons, if_pos ht] at this; omega
    · rcases hI.2 with h | h
      · left; rw [typeCount_cons, if_neg ht] at h; omega
      · right
        refine ⟨?_, ?_⟩
        · rw [stepO_type_none hg ht]; exact h.1
        · have := h.2; rw [typeCount_cons, if_neg ht] at this; omega
  · exact ⟨h1, Or.inr ⟨h2, hcnt⟩⟩

theorem overlay_has (top base : CMap) (k : CT) : (overlay top base).has k = (top.has k || base.has k) := by
  simp only [CMap.has, overlay]; cases top k <;> rfl

/-- the rule set of an or-shortcut node: a binding is one of the annotation or one of the shortcut -/
theorem shape_overlay_or {R : CMap} (hR : ∀ k v, R k = some v → BindOK k v) {us : List Bool} (hwf : 2 ≤ us.length) :
    Shape (overlay R ((CMap.empty.set .typesList (.types us)).set .or (.or true))) := by
  refine shape_of_bindings (fun k v hv => ?_) ?_
  · simp only [overlay] at hv
    split at hv
    · rename_i v' hv'
      cases hv
      exact hR k _ hv'
    · by_cases k1 : k = .or
      · subst k1; rw [set_same] at hv; cases hv; simp [BindOK]
      rw [set_other _ _ k1] at hv
      by_cases k2 : k = .typesList
      · subst k2; rw [set_same] at hv; cases hv; simp [BindOK, hwf]
      rw [set_other _ _ k2] at hv; cases hv
  · rw [overlay_has, overlay_has]
    show (_ || true) = (_ || true)
    rw [Bool.or_true, Bool.or_true]

/-- the keys of the annotation are fresh on an or-shortcut node exactly when it has no `or` rule -/
theorem fresh_or_shortcut (rs : List Rule) (us : List Bool) :
    (∀ r ∈ rs, ∀ k ∈ nkTop r.1, ((CMap.empty.set .typesList (.types us)).set .or (.or true)).has k = false) ↔
      ∀ r ∈ rs, RName.ofBytes r.1 ≠ some .or := by
  constructor
  · intro h r hr h0
    have := h r hr .typesList (by simp [nkTop, h0])
    simp [CMap.has, CMap.set] at this
  · intro h r hr k hkk
    have := nkTop_or (h r hr)
    have h1 : k ≠ .or := fun e => this.1 (e ▸ hkk)
    have h2 : k ≠ .typesList := fun e => this.2 (e ▸ hkk)
    simp [CMap.has, CMap.set, CMap.empty, h1, h2]

/-- C08 on an or-shortcut node (`@a | @b`) whose annotation has at most one `type` rule -/
theorem check_iff_orShortcut (n : Node) (us : List Bool) (hk : n.kind = .orShortcut us) (hwf : 2 ≤ us.length)
    (hcnt : typeCount n.rules ≤ 1) : isOk (checkRules n) = specOK n := by
  have hcls : n.ctx.cls = .mixedValue := by simp [Node.ctx, hk, NKind.ctx]
  have hcwf : n.ctx.wf = true := ctx_wf _ _
  have hm0 : initMap n.kind = (CMap.empty.set .typesList (.types us)).set .or (.or true) := by rw [hk]; rfl
  unfold checkRules
  simp only [isOk_eq, toOpt_bind]
  have henv : ({ okRegex := n.okRegex, enumRules := n.enumRules } : Env) = n.env := rfl
  rw [henv]
  have hfold := fold_orShortcut (env := n.env) (c := n.ctx) n.rules (initMap n.kind)
    (by rw [hm0]; rfl) (by rw [hm0]; rfl) hcnt
  rw [hfold]
  have hRS : ruleSetW n = overlay (readSet (readRule n.env n.ctx) n.rules) (initMap n.kind) := by
    unfold ruleSetW; rw [hk]; simp only; rw [ruleSet_eq, hk]
  have hSN : ShortcutNotRepeated n = !hasRule n .or := by unfold ShortcutNotRepeated; rw [hk]
  by_cases h : ValuesOK n = true ∧ Once n = true
  case neg => rw [foldO_top_none n _ h, specOK_false n h]; rfl
  obtain ⟨hV, hO⟩ := h
  have hall : ∀ r ∈ n.rules, (readRule n.env n.ctx r).isSome = true := List.all_eq_true.1 hV
  have hnd : (namesOf n.rules).Nodup := of_decide_eq_true hO
  have hfr := fresh_or_shortcut n.rules us
  rw [← hm0] at hfr
  by_cases hno : hasRule n .or = true
  · -- an `or` rule: its TypesList is already there
    obtain ⟨e, he, h0⟩ := (hasRule_iff n .or).1 hno
    rw [foldO_none_of (keyFn_top n.env n.ctx) _ _ (fun h => hfr.1 h.2.2 e he h0)]
    simp [specOK, hSN, hno]
  · simp only [Bool.not_eq_true] at hno
    have hfresh := hfr.2 fun r hr h0 => by
      have := (hasRule_iff n .or).2 ⟨r, hr, h0⟩
      rw [hno] at this; cases this
    have hf := (foldO_some (keyFn_top n.env n.ctx) (initMap n.kind) n.rules _).2 ⟨hall, hnd, hfresh, rfl⟩
    rw [hf]
    simp only [Option.bind_some]
    have hShape : Shape (overlay (readSet (readRule n.env n.ctx) n.rules) (initMap n.kind)) := by
      rw [hm0]; exact shape_overlay_or (fun _ _ => bindOK_readRule) hwf
    have := compile_iff n.ctx _ hcwf hShape
    simp only [isOk_eq, toOpt_bind] at this
    rw [this]
    unfold specOK
    rw [known_of_values n hV, hO, hV, hSN, hno, hRS]
    simp

/-- the specification's `hasRule n .or` on the bare rule list, over which `fold_typeRef` is an induction
(`hasRule n .or = hasOrRule n.rules` by `rfl`) -/
def hasOrRule (rs : List Rule) : Bool := rs.any fun e => RName.ofBytes e.1 = some .or

theorem setAll_set_comm (m : CMap) (bs : List (CT × CV)) (k : CT) (v : CV) (hk : k ∉ keysOf bs) :
    setAll (m.set k v) bs = (setAll m bs).set k v := by
  induction bs generalizing m with
  | nil => rfl
  | cons b bs ih =>
    simp only [keysOf, List.map_cons, List.mem_cons, not_or] at hk
    simp only [setAll, List.foldl_cons]
    have : (m.set k v).set b.1 b.2 = (m.set b.1 b.2).set k v := by
      funext k'
      simp only [CMap.set]
      by_cases h1 : k' = b.1 <;> by_cases h2 : k' = k <;> simp [h1, h2]
      all_goals (intro e; first | exact absurd e hk.1 | exact absurd e.symm hk.1)
    rw [this]
    exact ih (m.set b.1 b.2) (by simpa [keysOf] using hk.2)

theorem fresh_set (m : CMap) (bs : List (CT × CV)) (k : CT) (v : CV) (hk : k ∉ keysOf bs) :
    fresh (m.set k v) bs = fresh m bs := by
  unfold fresh
  rw [Bool.eq_iff_iff, List.all_eq_true, List.all_eq_true]
  constructor
  · intro h b hb
    have hne : b.1 ≠ k := fun e => hk (e ▸ mem_keysOf hb)
    have := h b hb; rwa [has_set_other _ _ hne] at this
  · intro h b hb
    have hne : b.1 ≠ k := fun e => hk (e ▸ mem_keysOf hb)
    rw [has_set_other _ _ hne]; exact h b hb

/-- on a `@t` node: a rule other than `type` / `or` -/
theorem stepO_set_type {env : Env} {c : Ctx} (m : CMap) (tv : CV) (r : Rule) (hr : RName.ofBytes r.1 ≠ some .type) :
    stepO (readRule env c) (m.set .type tv) r = (stepO (readRule env c) m r).map (·.set .type tv) := by
  unfold stepO
  cases hb : readRule env c r with
  | none => rfl
  | some bs =>
    simp only [Option.bind_some]
    have hk : CT.type ∉ keysOf bs := by rw [(keyFn_top env c).keys r bs hb]; exact nkTop_type hr
    rw [fresh_set _ _ _ _ hk, setAll_set_comm _ _ _ _ hk]
    cases fresh m bs <;> rfl

theorem unq_mixed : Unquote.unquote q_mixed = t_mixed := by decide

/-- on a `@t` node: the `or` rule widens the reference — the type constraint becomes "mixed" -/
theorem loadRule_or_typeRef {env : Env} {c : Ctx} (hc : c.cls = .mixedValue) (m : CMap)
    (tok : Bytes) (r : Rule) (hr : RName.ofBytes r.1 = some .or) :
    toOpt (loadRule env c (m.set .type (.type tok true)) r)
      = (stepO (readRule env c) m r).map (·.set .type (.type q_mixed true)) := by
  have hn : r.1 = n_or := (ofBytes_or _).1 hr
  unfold loadRule stepO readRule
  rw [if_pos hn, hr]
  have e1 : ∀ v, addC c (m.set .type (.type tok true)) .typesList v = addBase (m.set .type (.type tok true)) .typesList v :=
    fun v => addC_plain c _ _ v (Or.inr (Or.inr ⟨by decide, by decide⟩))
  have e2 : ∀ a v, toOpt (addC c ((m.set .type (.type tok true)).set .typesList a) .or v)
      = if m.has .or then none else some ((((m.set .type (.type tok true)).set .typesList a).set .type (.type q_mixed true)).set .or v) := by
    intro a v
    unfold addC
    rw [if_pos hc]
    have : ((m.set .type (.type tok true)).set .typesList a) .type = some (.type tok true) := by simp [CMap.set]
    simp only [this, addTypeMV, unq_mixed, ne_eq, not_true_eq_false, and_false, if_false, toOpt_bind, toOpt_ok,
      Option.bind_some, toOpt_addBase]
    have : ((((m.set .type (.type tok true)).set .typesList a).set .type (.type q_mixed true))).has .or = m.has .or := by
      simp [CMap.has, CMap.set]
    rw [this]
  simp only [e1, toOpt_bind, toOpt_addBase, toOpt_loadOrValue]
  have h1 : (m.set .type (.type tok true)).has .typesList = m.has .typesList := has_set_other _ _ (by decide)
  rw [h1]
  by_cases ht : m.has .typesList = true
  · by_cases h3 : orValueOK env c r.2 = true <;> simp [ht, h3, fresh]
  · simp only [Bool.not_eq_true] at ht
    simp only [ht, Bool.false_eq_true, if_false, Option.bind_some, e2]
    by_cases ho : m.has .or = true
    · by_cases h3 : orValueOK env c r.2 = true <;> simp [ht, ho, h3, fresh]
    · simp only [Bool.not_eq_true] at ho
      by_cases h3 : orValueOK env c r.2 = true
      · simp only [ho, h3, Bool.false_eq_true, if_false, if_true, Option.bind_some, toOpt_ok, fresh, List.all_cons, ht,
          Bool.not_false, List.all_nil, Bool.and_self, Option.map_some]
        congr 1
        funext k
        simp only [setAll, List.foldl_cons, List.foldl_nil, CMap.set]
        by_cases k1 : k = .typesList
        · subst k1; rfl
        by_cases k2 : k = .or
        · subst k2; rfl
        by_cases k3 : k = .type
        · subst k3; rfl
        simp only [k1, k2, k3, if_false]
      · simp [ho, h3]

theorem fold_typeRef {env : Env} {c : Ctx} (hc : c.cls = .mixedValue) :
    ∀ (rs : List Rule) (m : CMap) (tok : Bytes), (∀ r ∈ rs, RName.ofBytes r.1 ≠ some .type) → m .type = none →
      toOpt (rs.foldlM (loadRule env c) (m.set .type (.type tok true)))
        = (foldO (readRule env c) m rs).map fun m' => m'.set .type (.type (if hasOrRule rs then q_mixed else tok) true) := by
  intro rs
  induction rs with
  | nil => intro m tok _ _; simp [foldO, hasOrRule]; rfl
  | cons r rest ih =>
    intro m tok hnt hm
    have hr : RName.ofBytes r.1 ≠ some .type := hnt r (List.mem_cons_self ..)
    have hrest : ∀ r' ∈ rest, RName.ofBytes r'.1 ≠ some .type := fun r' h => hnt r' (List.mem_cons_of_mem _ h)
    simp only [List.foldlM_cons, toOpt_bind, foldO]
    by_cases hor : RName.ofBytes r.1 = some .or
    · rw [loadRule_or_typeRef hc m tok r hor]
      cases hs : stepO (readRule env c) m r with
      | none => simp
      | some m1 =>
        simp only [Option.map_some, Option.bind_some]
        have hm1 : m1 .type = none := by rw [stepO_type_none hs hr]; exact hm
        rw [ih m1 q_mixed hrest hm1]
        have : hasOrRule (r :: rest) = true := by simp [hasOrRule, hor]
        rw [this]
        simp
    · have e := toOpt_loadRule_step env c (m.set .type (.type tok true)) r (fun h => absurd h hr) (fun h => absurd h hor)
      rw [e, stepO_set_type m _ r hr]
      cases hs : stepO (readRule env c) m r with
      | none => simp
      | some m1 =>
        simp only [Option.map_some, Option.bind_some]
        have hm1 : m1 .type = none := by rw [stepO_type_none hs hr]; exact hm
        rw [ih m1 tok hrest hm1]
        have : hasOrRule (r :: rest) = hasOrRule rest := by simp [hasOrRule, hor]
        rw [this]

theorem shape_set_type {R : CMap} (hR : Shape R) (tok : Bytes) (gen : Bool) : Shape (R.set .type (.type tok gen)) :=
  hR.congr (fun k _ _ h3 => set_other _ _ h3)
    (by rw [has_set_other _ _ (by decide), has_set_other _ _ (by decide)]; exact hR.orT)
    (by
      intro h
      rw [has_set_other _ _ (by decide)] at h
      have := hR.orLen h
      unfold typesLen typesUsers at this ⊢
      rw [set_other _ _ (by decide)]; exact this)
    (by intro v hv; rw [set_same] at hv; exact ⟨tok, gen, (Option.some.inj hv).symm⟩)

/-- C08 on a type-shortcut node (`@t`) whose annotation has no `type` rule -/
theorem check_iff_typeRef (n : Node) (name : Bytes) (hk : n.kind = .typeRef name) (hnt : hasRule n .type = false) :
    isOk (checkRules n) = specOK n := by
  have hcls : n.ctx.cls = .mixedValue := by simp [Node.ctx, hk, NKind.ctx]
  have hcwf : n.ctx.wf = true := ctx_wf _ _
  have hm0 : initMap n.kind = CMap.empty.set .type (.type name true) := by rw [hk]; rfl
  have hnt' : ∀ r ∈ n.rules, RName.ofBytes r.1 ≠ some .type := by
    intro r hr h0
    have := (hasRule_iff n .type).2 ⟨r, hr, h0⟩
    rw [hnt] at this; cases this
  unfold checkRules
  simp only [isOk_eq, toOpt_bind]
  have henv : ({ okRegex := n.okRegex, enumRules := n.enumRules } : Env) = n.env := rfl
  rw [henv, hm0, fold_typeRef hcls n.rules CMap.empty name hnt' rfl]
  have hSN : ShortcutNotRepeated n = true := by unfold ShortcutNotRepeated; rw [hk]; simp [hnt]
  have hOrEq : hasRule n .or = hasOrRule n.rules := rfl
  by_cases h : ValuesOK n = true ∧ Once n = true
  case neg => rw [foldO_top_none n _ h, specOK_false n h]; rfl
  obtain ⟨hV, hO⟩ := h
  have hall : ∀ r ∈ n.rules, (readRule n.env n.ctx r).isSome = true := List.all_eq_true.1 hV
  have hnd : (namesOf n.rules).Nodup := of_decide_eq_true hO
  have hf := (foldO_some (keyFn_top n.env n.ctx) CMap.empty n.rules _).2 ⟨hall, hnd, fun _ _ _ _ => rfl, rfl⟩
  rw [hf, overlay_empty]
  simp only [Option.map_some, Option.bind_some]
  have hR := shape_top n.env n.ctx n.rules hall
  have hRt : readSet (readRule n.env n.ctx) n.rules .type = none := by
    refine Option.eq_none_iff_forall_ne_some.2 fun v hv => ?_
    obtain ⟨e, he, hkk⟩ := readSet_some_key (keyFn_top n.env n.ctx) hv
    exact nkTop_type (hnt' e he) hkk
  have hRS : ruleSetW n = (readSet (readRule n.env n.ctx) n.rules).set .type
      (.type (if hasOrRule n.rules then q_mixed else name) true) := by
    have hrs : ruleSet n = (readSet (readRule n.env n.ctx) n.rules).set .type (.type name true) := by
      rw [ruleSet_eq, hm0]
      funext k
      simp only [overlay, CMap.set, CMap.empty]
      by_cases hk' : k = .type
      · subst hk'; simp [hRt]
      · simp only [hk', if_false]; cases readSet (readRule n.env n.ctx) n.rules k <;> rfl
    unfold ruleSetW; rw [hk]; simp only
    rw [hOrEq, hrs]
    cases hasOrRule n.rules
    · simp
    · simp [set_set]
  have := compile_iff n.ctx _ hcwf (shape_set_type hR (if hasOrRule n.rules then q_mixed else name) true)
  simp only [isOk_eq, toOpt_bind] at this
  rw [this]
  unfold specOK
  rw [known_of_values n hV, hO, hV, hSN, hRS]
  simp

/-- the checker is the specification, outside the class around K-C08-ref-type-or (`refTypeClass`) -/
theorem check_iff_partial (n : Node) (hwf : n.kind.wf = true) (hK : refTypeClass n = false) :
    isOk (checkRules n) = specOK n := by
  cases hk : n.kind with
  | typeRef name =>
    apply check_iff_typeRef n name hk
    unfold refTypeClass at hK; rw [hk] at hK; exact hK
  | orShortcut us =>
    apply check_iff_orShortcut n us hk
    · rw [hk] at hwf; simpa [NKind.wf] using hwf
    · unfold refTypeClass at hK; rw [hk] at hK
      simp only [decide_eq_false_iff_not] at hK
      unfold typeCount; omega
  | _ => exact check_iff_base n (by rw [hk]; rfl)

/-! ### order independence -/

theorem lookup_of_mem_nodup (bs : List (CT × CV)) (hn : (keysOf bs).Nodup) (k : CT) (v : CV) (h : (k, v) ∈ bs) :
    bs.lookup k = some v := by
  induction bs with
  | nil => cases h
  | cons b bs ih =>
    obtain ⟨k', v'⟩ := b
    simp only [keysOf, List.map_cons, List.nodup_cons] at hn
    simp only [List.lookup]
    rcases List.mem_cons.1 h with e | e
    · cases e; simp
    · have hne : k ≠ k' := by
        intro e'; apply hn.1; subst e'
        simp only [List.mem_map]; exact ⟨(k, v), e, rfl⟩
      have : (k == k') = false := by simp [hne]
      rw [this]; exact ih (by simpa [keysOf] using hn.2) e

theorem readSet_eq_some_iff {rd : Rule → Option (List (CT × CV))} {nk : Bytes → List CT} (hK : KeyFn rd nk)
    {rs : List Rule} (hall : ∀ r ∈ rs, (rd r).isSome = true) (hnd : (namesOf rs).Nodup) (k : CT) (v : CV) :
    readSet rd rs k = some v ↔ ∃ r ∈ rs, ∃ bs, rd r = some bs ∧ (k, v) ∈ bs := by
  constructor
  · exact readSet_some_binding
  · induction rs with
    | nil => rintro ⟨r, hr, _⟩; cases hr
    | cons r0 rest ih =>
      rintro ⟨r, hr, bs, hbs, hm⟩
      simp only [namesOf, List.map_cons, List.nodup_cons] at hnd
      obtain ⟨bs0, hbs0⟩ := Option.isSome_iff_exists.1 (hall r0 (List.mem_cons_self ..))
      have hnd0 : (keysOf bs0).Nodup := by rw [hK.keys r0 bs0 hbs0]; exact hK.nodup _
      rw [readSet_cons, hbs0]
      simp only [Option.bind_some]
      rcases List.mem_cons.1 hr with e | e
      · subst e
        have e' : bs0 = bs := Option.some.inj (hbs0.symm.trans hbs)
        subst e'
        rw [lookup_of_mem_nodup bs0 hnd0 k v hm]
      · have hkr : k ∈ nk r.1 := hK.mem_keys hbs hm
        have hne : r.1 ≠ r0.1 := by
          intro e'; apply hnd.1; simp only [List.mem_map]; exact ⟨r, e, e'⟩
        have : k ∉ nk r0.1 := hK.disj r.1 r0.1 hne k hkr
        have hl : bs0.lookup k = none := by
          cases hl : bs0.lookup k with
          | none => rfl
          | some v' =>
            exfalso; apply this
            exact hK.mem_keys hbs0 (List.mem_of_lookup_eq_some bs0 k v' hl)
        rw [hl]
        exact ih (fun r' hr' => hall r' (List.mem_cons_of_mem _ hr')) hnd.2 ⟨r, e, bs, hbs, hm⟩

theorem readSet_perm {rd : Rule → Option (List (CT × CV))} {nk : Bytes → List CT} (hK : KeyFn rd nk)
    {rs rs' : List Rule} (hp : rs.Perm rs') (hall : ∀ r ∈ rs, (rd r).isSome = true) (hnd : (namesOf rs).Nodup) :
    readSet rd rs = readSet rd rs' := by
  have hall' : ∀ r ∈ rs', (rd r).isSome = true := fun r hr => hall r (hp.mem_iff.2 hr)
  have hnd' : (namesOf rs').Nodup := (hp.map _).nodup_iff.1 hnd
  funext k
  apply Option.ext
  intro v
  rw [readSet_eq_some_iff hK hall hnd, readSet_eq_some_iff hK hall' hnd']
  constructor
  · rintro ⟨r, hr, h⟩; exact ⟨r, hp.mem_iff.1 hr, h⟩
  · rintro ⟨r, hr, h⟩; exact ⟨r, hp.mem_iff.2 hr, h⟩

/-- the specification does not see the order of the rules -/
theorem specOK_perm (n : Node) (rs' : List Rule) (hp : n.rules.Perm rs') :
    specOK n = specOK { n with rules := rs' } := by
  let n' : Node := { n with rules := rs' }
  have hK : Known n = Known n' := hp.all_eq
  have hV : ValuesOK n = ValuesOK n' := hp.all_eq
  have hO : Once n = Once n' := by
    unfold Once
    have : (namesOf n.rules).Nodup ↔ (namesOf rs').Nodup := (hp.map _).nodup_iff
    simp only [this]; rfl
  have hH : ∀ r, hasRule n r = hasRule n' r := fun r => hp.any_eq
  have hSN : ShortcutNotRepeated n = ShortcutNotRepeated n' := by
    unfold ShortcutNotRepeated
    cases n.kind <;> simp only [hH] <;> rfl
  unfold specOK
  show (Known n && Once n && ValuesOK n && ShortcutNotRepeated n && Consistent n.ctx (ruleSetW n)) =
       (Known n' && Once n' && ValuesOK n' && ShortcutNotRepeated n' && Consistent n'.ctx (ruleSetW n'))
  rw [← hK, ← hO, ← hV, ← hSN]
  by_cases hv : ValuesOK n = true
  · by_cases ho : Once n = true
    · have hall : ∀ r ∈ n.rules, (readRule n.env n.ctx r).isSome = true := List.all_eq_true.1 hv
      have hnd : (namesOf n.rules).Nodup := by simpa [Once] using ho
      have hRS : ruleSet n = ruleSet n' := by
        funext k
        show (match readSet (readRule n.env n.ctx) n.rules k with | some v => some v | none => shortcutSet n.kind k)
           = (match readSet (readRule n.env n.ctx) rs' k with | some v => some v | none => shortcutSet n.kind k)
        rw [readSet_perm (keyFn_top n.env n.ctx) hp hall hnd]
      have hW : ruleSetW n = ruleSetW n' := by
        unfold ruleSetW
        show (match n.kind with | .typeRef _ => if hasRule n .or then (ruleSet n).set .type (.type q_mixed true) else ruleSet n | _ => ruleSet n)
           = (match n.kind with | .typeRef _ => if hasRule n' .or then (ruleSet n').set .type (.type q_mixed true) else ruleSet n' | _ => ruleSet n')
        rw [hRS, hH]
      rw [hW]; rfl
    · simp only [Bool.not_eq_true] at ho; simp [ho]
  · simp only [Bool.not_eq_true] at hv; simp [hv]

theorem refTypeClass_perm (n : Node) (rs' : List Rule) (hp : n.rules.Perm rs') :
    refTypeClass n = refTypeClass { n with rules := rs' } := by
  unfold refTypeClass
  cases n.kind with
  | typeRef _ => exact hp.any_eq
  | orShortcut _ => exact congrArg (fun l => decide (2 ≤ l)) (hp.filter _).length_eq
  | _ => rfl

/-- the VERDICT of the checker does not depend on the order of the rules (outside the class) -/
theorem check_perm (n : Node) (rs' : List Rule) (hp : n.rules.Perm rs') (hwf : n.kind.wf = true) (hK : refTypeClass n = false) :
    isOk (checkRules n) = isOk (checkRules { n with rules := rs' }) := by
  -- both verdicts are the specification's, which does not see the order; the class is closed under reordering
  rw [check_iff_partial n hwf hK, check_iff_partial { n with rules := rs' } hwf (by rw [← refTypeClass_perm n rs' hp]; exact hK)]
  exact specOK_perm n rs' hp

end CR
