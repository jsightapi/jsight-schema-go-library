/-!
Facts about core data (`List`, `Char`) that mention nothing of the development and that core Lean
does not state under a name of its own.  Most are used from several parts of the development; `all_congr_mem` and
`any_congr_left` have one user each and stand here beside `any_congr_mem` and `find?_congr_left`, whose forms they share.
-/

namespace List
variable {α β : Type}

/-! ### the position where two lists are joined -/

theorem getElem?_append_cons_length (pre : List α) (x : α) (post : List α) :
    (pre ++ x :: post)[pre.length]? = some x := by simp

theorem set_append_cons_length (pre : List α) (x y : α) (post : List α) :
    (pre ++ x :: post).set pre.length y = pre ++ y :: post := by simp

/-! ### congruences: the same members, or functions that agree on the members -/

theorem any_congr_mem {a b : List α} (p : α → Bool) (h : ∀ x, x ∈ a ↔ x ∈ b) : a.any p = b.any p := by
  rw [Bool.eq_iff_iff]
  simp only [any_eq_true]
  exact ⟨fun ⟨x, hx, hp⟩ => ⟨x, (h x).1 hx, hp⟩, fun ⟨x, hx, hp⟩ => ⟨x, (h x).2 hx, hp⟩⟩

theorem all_congr_mem {a b : List α} (p : α → Bool) (h : ∀ x, x ∈ a ↔ x ∈ b) : a.all p = b.all p := by
  rw [Bool.eq_iff_iff]
  simp only [all_eq_true]
  exact ⟨fun H x hx => H x ((h x).2 hx), fun H x hx => H x ((h x).1 hx)⟩

theorem find?_congr_left {p q : α → Bool} : ∀ (l : List α), (∀ a ∈ l, p a = q a) → l.find? p = l.find? q
  | [], _ => rfl
  | a :: l, h => by
    rw [find?_cons, find?_cons, h a mem_cons_self, find?_congr_left l (fun b hb => h b (mem_cons_of_mem _ hb))]

theorem any_congr_left {p q : α → Bool} : ∀ (l : List α), (∀ a ∈ l, p a = q a) → l.any p = l.any q
  | [], _ => rfl
  | a :: l, h => by
    rw [any_cons, any_cons, h a mem_cons_self, any_congr_left l (fun b hb => h b (mem_cons_of_mem _ hb))]

theorem filterMap_congr_left {f g : α → Option β} : ∀ (l : List α), (∀ a ∈ l, f a = g a) → l.filterMap f = l.filterMap g
  | [], _ => rfl
  | a :: l, h => by
    rw [filterMap_cons, filterMap_cons, h a mem_cons_self, filterMap_congr_left l (fun b hb => h b (mem_cons_of_mem _ hb))]

/-! ### `lookup` -/

theorem mem_of_lookup_eq_some [BEq α] [LawfulBEq α] (l : List (α × β)) (a : α) (b : β) (h : l.lookup a = some b) :
    (a, b) ∈ l := by
  obtain ⟨l₁, l₂, rfl, _⟩ := lookup_eq_some_iff.1 h
  simp

theorem not_mem_of_lookup_eq_none [BEq α] [LawfulBEq α] (l : List (α × β)) (a : α) (h : l.lookup a = none) :
    a ∉ l.map (·.1) := by
  intro hm
  obtain ⟨p, hp, rfl⟩ := mem_map.1 hm
  simpa using lookup_eq_none_iff.1 h p hp

/-! ### `dropWhile` -/

theorem dropWhile_eq_self_of_head? {p : α → Bool} {l : List α} {x : α} (h : l.head? = some x) (hx : p x = false) :
    l.dropWhile p = l := by
  cases l with
  | nil => rfl
  | cons y ys =>
    cases h
    rw [dropWhile_cons_of_neg (by simp [hx])]

end List

theorem Char.val_ofNat (v : Nat) (h : v.isValidChar) : (Char.ofNat v).val.toNat = v := by
  simp [Char.ofNat, h, Char.ofNatAux]
