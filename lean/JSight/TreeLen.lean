import JSight.TreeEvents
import JSight.TrimLen
/-!
C14 (JSON part): on `ws ++ render v ++ ws' ++ foreign…` with trailing characters allowed, the scanner stops
with an `end-top` event at the first foreign byte, and `Length()` is the length of `ws ++ render v`.
-/
namespace JsonScan

/-- a byte that cannot continue the value just read: from a post-value state it is handled by `stateEndValue`, and it
is not white space -/
def CannotContinue (st : St) (x : Cls) : Prop :=
  x.isWs = false ∧ ∀ allow stk unf, step allow st stk unf x = endValueStep allow stk unf x

theorem endValue_cannotContinue (x : Cls) (hx : x.isWs = false) : CannotContinue .endValue x :=
  ⟨hx, fun _ _ _ => rfl⟩

theorem endTop_foreign (n : Nat) (x : Cls) (hx : x.isWs = false) (rest : List Cls) (j : Nat) :
    evsFrom true n (x :: rest) j ⟨.endTop, [], false⟩ = .ok [⟨.endTop, j, j⟩] := by
  cases x <;> simp [Cls.isWs] at hx <;> rfl

/-- closing phase at the root when a foreign byte follows (trailing characters allowed) -/
theorem close_root_foreign (n : Nat) (st : St) (hst : PV st = true) (lit : Bool) (ov : Nat)
    (w : List Cls) (hw : IsWs w) (x : Cls) (hx : CannotContinue st x) (rest : List Cls) (i : Nat) :
    evsFrom true n (w ++ x :: rest) i ⟨st, pendOf lit ov, false⟩
      = .ok (closersOf lit ov (i - 1) ++ [⟨.endTop, i + w.length, i + w.length⟩]) := by
  cases w with
  | nil =>
    obtain ⟨hx1, hx2⟩ := hx
    simp only [List.nil_append, evsFrom, hx2]
    cases lit <;> cases x <;> simp [Cls.isWs] at hx1 <;> rfl
  | cons c w =>
    have hc : c.isWs = true := hw c (by simp)
    have hw2 : IsWs w := fun y hy => hw y (by simp [hy])
    rcases Cls.eq_of_isWs hc with rfl | rfl <;> cases lit <;> simp only [pendOf, Bool.false_eq_true, ↓reduceIte] <;>
    · rw [List.cons_append]
      pv_one hst
      rw [evsFrom_ws true n w _ hw2 _ .endTop rfl, endTop_foreign n x hx.1]
      simp only [List.length_cons]
      rw [show i + 1 + w.length = i + (w.length + 1) by omega]
      rfl

/-- events of an embedded document followed by foreign text -/
theorem events_embedded (v : JA) (hv : v.Valid) (ws0 w : List Cls) (h0 : IsWs ws0) (hw : IsWs w)
    (x : Cls) (rest : List Cls) (hx : ∀ st, PV st = true → CannotContinue st x) (n : Nat) :
    eventsLoop true n (ws0 ++ (v.render ++ (w ++ x :: rest))) 0 {} []
      = .ok (evsAt ws0.length v ++ [⟨.endTop, ws0.length + v.render.length + w.length,
                                            ws0.length + v.render.length + w.length⟩]) := by
  rw [eventsLoop_eq]
  have hcfg : ({} : CfgS) = ⟨.foundRoot, [], false⟩ := rfl
  rw [hcfg, evsFrom_ws _ _ ws0 _ h0 _ .foundRoot rfl]
  obtain ⟨st, hp, e⟩ := value_run true n v hv .root [] (0 + ws0.length) (w ++ x :: rest)
  rw [show VCtx.root.st = St.foundRoot from rfl] at e
  rw [e, show VCtx.pre (0 + ws0.length) VCtx.root ++ ([] : List (LexT × Nat)) = [] from rfl, List.append_nil,
    close_root_foreign n st hp v.isLit _ w hw x (hx st hp) rest]
  cases v <;> simp [Except.map, VCtx.preEvs, evsOpen, evsAt, closersOf, JA.isLit, JA.render, Nat.add_assoc]

#print axioms events_embedded

/-- the side condition `hx` of `events_embedded` and `C14_json_len` holds for every class that is not white space, a
digit, `.`, `e` or `E` -/
theorem foreign_cannotContinue (x : Cls) (hx : x.isWs = false) (hd : x.isDigit = false) (h1 : x ≠ .dot)
    (h2 : x ≠ .le) (h3 : x ≠ .uE) (st : St) (hp : PV st = true) : CannotContinue st x := by
  refine ⟨hx, fun allow stk unf => ?_⟩
  cases st <;> cases hp <;> cases x <;> first | rfl | contradiction

/-! ### `Length()` on byte classes -/

/-- the length computed from the event list (`Length()` before trimming; F-4 applied) -/
def rawLen (evs : List Ev) : Nat := evs.foldl (fun _ e => if e.ty == .endTop then e.e else e.e + 1) 0

/-- trailing blanks are trimmed -/
def trimC (cs : List Cls) : Nat → Nat
  | 0 => 0
  | n + 1 => if (cs[n]?.map Cls.isWs) == some true then trimC cs n else n + 1

theorem rawLen_append_endTop (evs : List Ev) (j : Nat) : rawLen (evs ++ [⟨.endTop, j, j⟩]) = j := by
  simp [rawLen, List.foldl_append]

theorem trimC_eq (cs : List Cls) : ∀ n, trimC cs n = Trim.len (fun j => cs[j]?.map Cls.isWs == some true) n
  | 0 => rfl
  | n + 1 => by rw [trimC, Trim.len, trimC_eq cs n]

theorem trimC_ws (pre w post : List Cls) (hw : IsWs w) :
    trimC (pre ++ (w ++ post)) (pre.length + w.length) = trimC (pre ++ (w ++ post)) pre.length := by
  rw [trimC_eq, trimC_eq]
  refine Trim.len_run (Nat.le_add_right _ _) fun j h1 h2 => ?_
  have hj : j - pre.length < w.length := by omega
  rw [List.getElem?_append_right h1, List.getElem?_append_left hj, List.getElem?_eq_getElem hj, Option.map_some,
    hw _ (List.getElem_mem hj)]
  rfl

theorem trimC_nonws (pre post : List Cls) (c : Cls) (hc : c.isWs = false) :
    trimC (pre ++ c :: post) (pre.length + 1) = pre.length + 1 := by
  rw [trimC_eq]
  exact Trim.len_stop (by simp [hc])

/-- the last byte of a token that leaves the automaton in a post-value state is not white space -/
theorem silent_pv_nonws (st : St) (u : Bool) (x : Cls) (st' : St) (u' : Bool)
    (h : silent st u x = some (st', u')) (hp : PV st' = true) : x.isWs = false := by
  cases x
  -- white space continues a token only inside a string, and stays inside it
  case sp | wsctl => cases st <;> cases h <;> cases hp
  all_goals rfl

theorem silentRun_last (st : St) (u : Bool) (tl : List Cls) (hne : tl ≠ []) (stE : St) (uE : Bool)
    (h : silentRun st u tl = some (stE, uE)) (hp : PV stE = true) :
    ∃ pre x, tl = pre ++ [x] ∧ x.isWs = false := by
  induction tl generalizing st u with
  | nil => exact absurd rfl hne
  | cons c cs ih =>
    simp only [silentRun] at h
    cases hs : silent st u c with
    | none => rw [hs] at h; simp at h
    | some p =>
      obtain ⟨s1, u1⟩ := p
      rw [hs] at h; simp only [] at h
      cases cs with
      | nil =>
        simp [silentRun] at h; obtain ⟨rfl, rfl⟩ := h
        exact ⟨[], c, rfl, silent_pv_nonws st u c _ _ hs hp⟩
      | cons d ds =>
        obtain ⟨pre, x, e, hx⟩ := ih s1 u1 (by simp) h
        exact ⟨c :: pre, x, by rw [e]; rfl, hx⟩

theorem renderItems_last : (its : List (List Cls × JA × List Cls)) → ∃ pre, renderItems its = pre ++ [.rbrack]
  | [] => ⟨[], rfl⟩
  | (w1, v, w2) :: its => by
    obtain ⟨pre, e⟩ := renderItems_last its
    refine ⟨w1 ++ (v.render ++ (w2 ++ ((if its.isEmpty then [] else [.comma]) ++ pre))), ?_⟩
    simp [renderItems, e, List.append_assoc]

theorem renderMembers_last : (ms : List (List Cls × List Cls × List Cls × List Cls × JA × List Cls)) →
    ∃ pre, renderMembers ms = pre ++ [.rbrace]
  | [] => ⟨[], rfl⟩
  | (w1, k, w2, w3, v, w4) :: ms => by
    obtain ⟨pre, e⟩ := renderMembers_last ms
    refine ⟨w1 ++ (k ++ (w2 ++ (.colon :: (w3 ++ (v.render ++ (w4 ++ ((if ms.isEmpty then [] else [.comma]) ++ pre))))))), ?_⟩
    simp [renderMembers, e, List.append_assoc]

theorem render_last_nonws (v : JA) (hv : v.Valid) : ∃ pre x, v.render = pre ++ [x] ∧ x.isWs = false := by
  cases v with
  | scalar tok =>
    obtain ⟨c, tl, st0, unf0, stE, rfl, hs, hr, hp⟩ : IsScalar tok := by simpa [JA.Valid] using hv
    by_cases htl : tl = []
    · subst htl
      refine ⟨[], c, rfl, ?_⟩
      cases c <;> simp [litStart] at hs <;> rfl
    · obtain ⟨pre, x, e, hx⟩ := silentRun_last st0 unf0 tl htl stE false hr hp
      exact ⟨c :: pre, x, by simp [JA.render, e], hx⟩
  | arr ws0 items =>
    obtain ⟨pre, e⟩ := renderItems_last items
    exact ⟨.lbrack :: (ws0 ++ pre), .rbrack, by simp [JA.render, e, List.append_assoc], rfl⟩
  | obj ws0 members =>
    obtain ⟨pre, e⟩ := renderMembers_last members
    exact ⟨.lbrace :: (ws0 ++ pre), .rbrace, by simp [JA.render, e, List.append_assoc], rfl⟩

/-- **C14** (JSON documents, on byte classes): for a valid document followed by blanks and a foreign byte, the scanner
in trailing mode yields events from which `Length()` computes exactly the length of the document without the blanks -/
theorem C14_json_len (v : JA) (hv : v.Valid) (ws0 w : List Cls) (h0 : IsWs ws0) (hw : IsWs w)
    (x : Cls) (rest : List Cls) (hx : ∀ st, PV st = true → CannotContinue st x) (n : Nat) :
    ∃ evs, eventsLoop true n (ws0 ++ (v.render ++ (w ++ x :: rest))) 0 {} [] = .ok evs ∧
      trimC (ws0 ++ (v.render ++ (w ++ x :: rest))) (rawLen evs) = ws0.length + v.render.length := by
  refine ⟨_, events_embedded v hv ws0 w h0 hw x rest hx n, ?_⟩
  rw [rawLen_append_endTop]
  obtain ⟨pre, l, e, hl⟩ := render_last_nonws v hv
  have h1 : ws0 ++ (v.render ++ (w ++ x :: rest)) = (ws0 ++ pre ++ [l]) ++ (w ++ x :: rest) := by
    rw [e]; simp [List.append_assoc]
  have hlen : ws0.length + v.render.length = (ws0 ++ pre ++ [l]).length := by rw [e]; simp
  rw [hlen, h1, trimC_ws _ w _ hw]
  have h2 : (ws0 ++ pre ++ [l]) ++ (w ++ x :: rest) = (ws0 ++ pre) ++ l :: (w ++ x :: rest) := by
    simp [List.append_assoc]
  rw [h2, show (ws0 ++ pre ++ [l]).length = (ws0 ++ pre).length + 1 by simp; omega]
  exact trimC_nonws _ _ l hl

#print axioms C14_json_len

end JsonScan
