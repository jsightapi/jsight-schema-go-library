import JSight.DocCursorThm
import JSight.DocCursorLink
import JSight.DocCursorSafe
import JSight.ErrPos
import JSight.TreeNested
/-!
# The whole-text JSON scanner theorems (C06 / C07 / C14 / C17) carried over to the `Document` object

`DocCursor*.lean` prove that the incremental `Document` machine equals the whole-text model `JsonScan.events` on every
text. Here: what the corollaries in `Props/C06`, `C07`, `C14`, `C17` cite.

First the pieces. `Len` / `Check` of a fresh document are a total function of the whole-text model's answer
(`lenText_eq_lengthS`, `checkText_eq_checkS`, with the tables `lenOfS`, `checkOfS`). The span-carrying machine
`events false` reports "invalid character" exactly at `Sim.errPos`, the index the C17 JSON theorem speaks about, and
"unexpected end" only when `errPos` is `none`, at `n - 1` (`events_errPos`); when no byte is rejected the text is a viable
prefix (`eof_viable`). A well-nested event list has no `EndTop`, so its deliveries are the events, then EOF (`wn_noTop`,
`conv_noTop`). No answer of any history is `.crash`, the answer that stands for a panic that is not a scanner error
(`outs_never_crash`).

The last section puts them together for a document after ANY history of calls: `Len` and `Check` answer with the table
applied to the whole-text model (`len_after_lengthS`, `check_after_checkS`), `NextLexeme` delivers the event the cursor
stands at (`doc_lexemes`, C06), and an error answer of the strict `Check` is read against `Sim.errPos` in both
directions (`doc_error_position`, `doc_check_of_errPos`, C17).
-/
namespace DocCorollaries
open JsonScan DocCursor

/-! ## `Len` and `Check` as functions of the whole-text model -/

def lenOfS : Except ErrS Nat → LenRes
  | .ok n => .ok n
  | .error (.invalidChar p) => .err 301 p
  | .error (.unexpectedEOF p) => .err 303 p
  | .error .emptyJson => .err 203 0
  | .error (.crash w) => .crash w

def checkOfS : Except ErrS Unit → CheckRes
  | .ok _ => .ok
  | .error (.invalidChar p) => .err 301 p
  | .error (.unexpectedEOF p) => .err 303 p
  | .error .emptyJson => .err 203 0
  | .error (.crash w) => .crash w

theorem lenText_eq_lengthS (t : List UInt8) (o : Bool) : lenText t o = lenOfS (lengthS o t) := by
  rw [lenText_eq, lenLoop_eq_events]
  unfold lengthS
  cases events o t with
  | ok evs => rfl
  | error e => cases e <;> rfl

theorem checkText_eq_checkS (t : List UInt8) (o : Bool) : checkText t o = checkOfS (checkS o t) := by
  rw [checkText_eq_events]
  unfold checkS
  cases events o t with
  | ok evs =>
    simp only [checkOf, nonTop, Bool.false_or]
    cases (evs.filter (·.ty != .endTop)).isEmpty <;> rfl
  | error e => cases e <;> rfl

/-! ## the error index of the span-carrying machine is `Sim.errPos` -/

/-- what the answer of the span-carrying loop says about the error index of the span-free machine -/
def Agree (n : Nat) (r : Except ErrS (List Ev)) (ep : Option Nat) : Prop :=
  match r with
  | .error (.invalidChar p) => ep = some p
  | .error (.unexpectedEOF p) => ep = none ∧ p = n - 1
  | .error (.crash _) => True
  | .error .emptyJson => False
  | .ok _ => ep = none

theorem events_errPos (t : List UInt8) :
    Agree t.length (events false t) (Sim.errPos Cfg.init (t.map classify) 0) := by
  have h := events_reads false t
  cases he : events false t with
  | ok evs => rw [he] at h; exact h.1 rfl
  | error e =>
    rw [he] at h
    cases e with
    | invalidChar p => exact h.2.2.2 rfl
    | unexpectedEOF p => exact ⟨h.2.2 rfl, h.1⟩
    | emptyJson => exact h
    | crash w => trivial

theorem errPos_of_invalid (t : List UInt8) (p : Nat) (h : events false t = .error (.invalidChar p)) :
    Sim.errPos Cfg.init (t.map classify) 0 = some p := by
  have := events_errPos t; rw [h] at this; exact this

theorem errPos_of_eof (t : List UInt8) (p : Nat) (h : events false t = .error (.unexpectedEOF p)) :
    Sim.errPos Cfg.init (t.map classify) 0 = none ∧ p = t.length - 1 := by
  have := events_errPos t; rw [h] at this; exact this

/-- the other direction: a byte rejected by the span-free machine is the "invalid character" of the span-carrying one -/
theorem invalid_of_errPos (t : List UInt8) (j : Nat) (h : Sim.errPos Cfg.init (t.map classify) 0 = some j) :
    events false t = .error (.invalidChar j) := by
  have ha := events_errPos t
  rw [h] at ha
  cases he : events false t with
  | ok evs => rw [he] at ha; cases ha
  | error e =>
    rw [he] at ha
    cases e with
    | invalidChar p => cases ha; rfl
    | unexpectedEOF p => cases ha.1
    | emptyJson => exact ha.elim
    | crash w => exact absurd he (events_no_crash false t w)

/-- in both modes "unexpected end" is reported at the last byte -/
theorem events_eof_idx (o : Bool) (t : List UInt8) (p : Nat) (h : events o t = .error (.unexpectedEOF p)) :
    p = t.length - 1 := by
  have hr := events_reads o t
  rw [h] at hr
  exact hr.1

/-- in both modes "invalid character" is reported at an index of the text -/
theorem events_invalid_idx (o : Bool) (t : List UInt8) (p : Nat) (h : events o t = .error (.invalidChar p)) :
    p < t.length := by
  have hr := events_reads o t
  rw [h] at hr
  simpa using hr.2.1

/-! ## no byte rejected: the text is a viable prefix -/

theorem run_of_errPos_none {m : Cfg} {r : Rfc.RCfg} (h : Sim.R r m) (cs : List Cls) (i : Nat)
    (he : Sim.errPos m cs i = none) : ∃ r', Rfc.run r cs = some r' := by
  induction cs generalizing m r i with
  | nil => exact ⟨r, rfl⟩
  | cons c cs ih =>
    rcases Sim.sim_step_strict h c with ⟨r1, m', hs, hf, hR⟩ | ⟨hs, ctx, hf⟩
    · simp only [Sim.errPos, hf] at he
      obtain ⟨r', hr⟩ := ih hR (i + 1) he
      exact ⟨r', by simp [Rfc.run, hs, hr]⟩
    · simp [Sim.errPos, hf] at he

/-- when the strict scanner rejects no byte of `cs`, `cs` can be continued to an accepted text -/
theorem eof_viable (cs : List Cls) (h : Sim.errPos Cfg.init cs 0 = none) :
    ∃ sfx, checkC false (cs ++ sfx) = true := by
  obtain ⟨r', hr⟩ := run_of_errPos_none Sim.R.root cs 0 h
  have hr : Rfc.run Rfc.RCfg.init cs = some r' := hr
  obtain ⟨r'', hc, ha⟩ := Rfc.viable r' (Rfc.wfc_run _ _ cs Rfc.wfc_init hr)
  refine ⟨Rfc.complete r', ?_⟩
  rw [Sim.check_iff_rfc]
  simp [Rfc.acceptsC, Rfc.run_append, hr, hc, ha]

/-! ## deliveries of a well-nested event list -/

theorem wn_noTop : ∀ (evs : List Ev) (stk : List (LexT × Nat)), wn evs stk = true → ∀ e ∈ evs, e.ty ≠ .endTop := by
  intro evs
  induction evs with
  | nil => intro _ _ e he; cases he
  | cons a as ih =>
    intro stk h e he
    unfold wn at h
    split at h
    · rename_i ho
      rcases List.mem_cons.1 he with rfl | he
      · intro ht; rw [ht] at ho; cases ho
      · exact ih _ h e he
    · cases stk with
      | nil => cases h
      | cons q rest =>
        obtain ⟨p, b⟩ := q
        simp only [Bool.and_eq_true] at h
        rcases List.mem_cons.1 he with rfl | he
        · intro ht; rw [ht] at h; cases p <;> simp [pairs] at h
        · exact ih _ h.2 e he

theorem conv_noTop : ∀ L : List Ev, (∀ e ∈ L, e.ty ≠ .endTop) → conv L = L.map .lex ++ [.eof] := by
  intro L
  induction L with
  | nil => intro _; rfl
  | cons a as ih =>
    intro h
    have ha : (a.ty == .endTop) = false := by
      have := h a (List.mem_cons_self ..)
      simpa using this
    simp only [conv, ha, Bool.false_eq_true, ↓reduceIte, List.map_cons, List.cons_append]
    rw [ih (fun e he => h e (List.mem_cons_of_mem _ he))]

/-- accepted text without `EndTop`: delivery `k` of a fresh document is event `k`, delivery `|evs|` is EOF -/
theorem lexAt_of_events_noTop (t : List UInt8) (o : Bool) (evs : List Ev) (h : events o t = .ok evs)
    (hn : ∀ e ∈ evs, e.ty ≠ .endTop) (k : Nat) (hk : k ≤ evs.length) :
    lexAt t o k = (evs.map NextRes.lex ++ [.eof])[k]?.getD .eof ∧
    scanAll t o (evs.length + 1) = evs.map .lex ++ [.eof] := by
  have hs := scanAll_of_events t o evs h
  rw [conv_noTop evs hn] at hs
  simp only [List.length_append, List.length_map, List.length_cons, List.length_nil] at hs
  refine ⟨?_, hs⟩
  have hlt : k < (scanAll t o (evs.length + 1)).length := by simp [scanAll]; omega
  have h1 : (scanAll t o (evs.length + 1))[k]? = some (lexAt t o k) := by
    unfold scanAll
    rw [List.getElem?_map, List.getElem?_range (by omega)]
    rfl
  rw [hs] at h1
  rw [h1]; rfl

/-! ## no answer of any history is `.crash` -/

def outIsCrash : DocCursor.Out → Bool
  | .next (.crash _) | .check (.crash _) | .len (.crash _) => true
  | _ => false

theorem cached_isCrash_false (r : CheckRes) : ∀ w, r.cached ≠ .crash w := by
  intro w; cases r <;> exact fun h => nomatch h

theorem lcached_isCrash_false (r : LenRes) : ∀ w, r.cached ≠ .crash w := by
  intro w; cases r <;> exact fun h => nomatch h

theorem outIsCrash_next {r : NextRes} (h : ∀ w, r ≠ .crash w) : outIsCrash (.next r) = false := by
  cases r with
  | crash w => exact absurd rfl (h w)
  | _ => rfl

theorem outIsCrash_check {r : CheckRes} (h : ∀ w, r ≠ .crash w) : outIsCrash (.check r) = false := by
  cases r with
  | crash w => exact absurd rfl (h w)
  | _ => rfl

theorem outIsCrash_len {r : LenRes} (h : ∀ w, r ≠ .crash w) : outIsCrash (.len r) = false := by
  cases r with
  | crash w => exact absurd rfl (h w)
  | _ => rfl

theorem outsFrom_never_crash (t : List UInt8) (o : Bool) : ∀ (ops : List Op) (c l : Bool) (k : Nat),
    ∀ out ∈ outsFrom t o c l k ops, outIsCrash out = false := by
  intro ops
  induction ops with
  | nil => intro c l k out h; cases h
  | cons op ops ih =>
    intro c l k out h
    cases op with
    | next =>
      rcases List.mem_cons.mp h with rfl | h
      · exact outIsCrash_next (lexAt_never_crash t o k)
      · exact ih _ _ _ out h
    | check =>
      rcases List.mem_cons.mp h with rfl | h
      · cases c
        · exact outIsCrash_check (checkText_no_crash t o)
        · exact outIsCrash_check (cached_isCrash_false _)
      · exact ih _ _ _ out h
    | len =>
      rcases List.mem_cons.mp h with rfl | h
      · cases l
        · exact outIsCrash_len (lenText_no_crash t o)
        · exact outIsCrash_len (lcached_isCrash_false _)
      · exact ih _ _ _ out h

theorem outs_never_crash (t : List UInt8) (o : Bool) (ops : List Op) :
    ∀ out ∈ ((Doc.new t o).run ops).1, outIsCrash out = false := by
  rw [run_new]
  exact outsFrom_never_crash t o ops false false 0

/-- the same with the three panic shapes spelled out -/
theorem outs_never_panic (t : List UInt8) (o : Bool) (ops : List Op) :
    ∀ out ∈ ((Doc.new t o).run ops).1, ∀ w : String,
      out ≠ .next (.crash w) ∧ out ≠ .check (.crash w) ∧ out ≠ .len (.crash w) := by
  intro out h w
  have := outs_never_crash t o ops out h
  refine ⟨?_, ?_, ?_⟩ <;> (rintro rfl; simp [outIsCrash] at this)

/-! ## `Check` / `Len` / `NextLexeme` after any history, through the whole-text model -/

theorem len_after_lengthS (t : List UInt8) (o : Bool) (ops : List Op) :
    (((Doc.new t o).run ops).2.step .len).1 = .len (lenOfS (lengthS o t)) := by
  rw [len_after, lcached_of_not_crash (fun w => lenText_no_crash t o w), lenText_eq_lengthS]; simp

theorem check_after_checkS (t : List UInt8) (o : Bool) (ops : List Op) :
    (((Doc.new t o).run ops).2.step .check).1 = .check (checkOfS (checkS o t)) := by
  rw [check_after, cached_of_not_crash (fun w => checkText_no_crash t o w), checkText_eq_checkS]; simp

/-- C06 on the document: the deliveries are the events, then EOF; and a `NextLexeme` after any history delivers the one
the cursor stands at -/
theorem doc_lexemes (t : List UInt8) (o : Bool) (evs : List Ev) (h : events o t = .ok evs)
    (hn : ∀ e ∈ evs, e.ty ≠ .endTop) :
    scanAll t o (evs.length + 1) = evs.map .lex ++ [.eof] ∧
    ∀ ops : List Op, cursorOf ops ≤ evs.length →
      (((Doc.new t o).run ops).2.step .next).1 =
        .next ((evs.map NextRes.lex ++ [.eof])[cursorOf ops]?.getD .eof) := by
  refine ⟨(lexAt_of_events_noTop t o evs h hn 0 (Nat.zero_le _)).2, fun ops hk => ?_⟩
  rw [next_after, (lexAt_of_events_noTop t o evs h hn _ hk).1]

/-- C17 on the strict document: what an error answer of `Check` after any history says about the text -/
theorem doc_error_position (t : List UInt8) (ops : List Op) (c p : Nat)
    (h : (((Doc.new t false).run ops).2.step .check).1 = .check (.err c p)) :
    ((c = 301 ∧ Sim.errPos Cfg.init (t.map classify) 0 = some p ∧ p < t.length) ∨
     (c = 303 ∧ Sim.errPos Cfg.init (t.map classify) 0 = none ∧ p = t.length - 1 ∧ check false t = false) ∨
     (c = 203 ∧ p = 0 ∧ ∃ evs, events false t = .ok evs ∧ nonTop evs = [])) ∧
    (c ≠ 203 → lexAt t false (eventsSeen false t).length = .err c p ∧
      ∀ k, k < (eventsSeen false t).length → ∃ ev, lexAt t false k = .lex ev) := by
  rw [check_after, cached_of_not_crash (fun w => checkText_no_crash t false w)] at h
  have h : checkText t false = .err c p := by
    cases hc : hasCheck ops <;> simp [hc] at h <;> exact h
  cases he : events false t with
  | ok evs =>
    rw [checkText_of_events t false evs he] at h
    split at h
    · rename_i hemp
      cases h
      refine ⟨Or.inr (Or.inr ⟨rfl, rfl, evs, rfl, by simpa using hemp⟩), fun hne => absurd rfl hne⟩
    · cases h
  | error e =>
    obtain ⟨c', p', hc, h1, _, _⟩ := rejected_main t false e he
    rw [h1] at h
    cases h
    obtain ⟨c'', p'', hc2, hall⟩ := rejected_all t false e he
    obtain ⟨rfl, rfl⟩ := isErr_unique hc hc2
    have hdel : lexAt t false (eventsSeen false t).length = .err c p ∧
        ∀ k, k < (eventsSeen false t).length → ∃ ev, lexAt t false k = .lex ev := by
      refine ⟨by rw [hall]; simp, fun k hk => ?_⟩
      rw [hall, List.getElem?_eq_getElem hk]
      exact ⟨_, rfl⟩
    refine ⟨?_, fun _ => hdel⟩
    rcases hc with ⟨rfl, rfl⟩ | ⟨rfl, rfl⟩
    · exact Or.inl ⟨rfl, errPos_of_invalid t p he, events_invalid_idx false t p he⟩
    · obtain ⟨hn, hp⟩ := errPos_of_eof t p he
      refine Or.inr (Or.inl ⟨rfl, hn, hp, ?_⟩)
      have := checkS_iff_check false t
      unfold checkS at this
      rw [he] at this
      rw [← this]; rfl

/-- the other direction for "invalid character": a byte the strict scanner rejects is what `Check` reports after any
history -/
theorem doc_check_of_errPos (t : List UInt8) (ops : List Op) (j : Nat)
    (h : Sim.errPos Cfg.init (t.map classify) 0 = some j) :
    (((Doc.new t false).run ops).2.step .check).1 = .check (.err 301 j) := by
  rw [check_after_checkS]
  unfold checkS
  rw [invalid_of_errPos t j h]; rfl

end DocCorollaries
