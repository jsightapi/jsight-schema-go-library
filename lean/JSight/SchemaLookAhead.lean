import JSight.SchemaErrPrefix
/-!
C17, schema scanner: which transitions use the look-ahead bytes `p1 = data[index]`, `p2 = data[index+1]` (the bytes behind
the one being read).  Only three step functions consult them, and only on two bytes:

* `anyCommentStart` on `#` reads `p1` (`##` must be followed by a third `#`);
* `multiLineComment` on `#` reads `p1` and `p2` (the closing `###`);
* `mlTxt` on `*` reads `p1` (the closing `*/`).

`St.core` peels the `guard` closures.  The lemmas below say that in every other situation the result of `dispatch` does
not depend on the look-ahead (re-dispatches included).
-/
namespace SchemaScan

def St.core : St → St
  | .guard x => x.core
  | x => x

/-- `*` is read without look-ahead -/
def St.starFree (st : St) : Bool :=
  match st.core with
  | .mlTxt | .mlAnn | .mlTxtPrefix2 => false
  | _ => true

/-- `#` is read without look-ahead -/
def St.hashFree1 (st : St) : Bool :=
  match st.core with
  | .anyCommentStart | .multiLineComment => false
  | _ => true

/-- `#` is read without the second look-ahead byte -/
def St.hashFree2 (st : St) : Bool :=
  match st.core with
  | .multiLineComment => false
  | _ => true

theorem ebind_ok {α β : Type} (a : α) (k : α → M β) : Except.bind (Except.ok a) k = k a := rfl
theorem ebind_err {α β : Type} (e : Err) (k : α → M β) : Except.bind (Except.error e) k = .error e := rfl

@[simp] theorem found_lc (s : Sc) (t : LexT) : (found s t).lengthComputing = s.lengthComputing := rfl

/-- **generic look-ahead lemma**: `free` is a set of step functions closed under re-dispatch in which the three look-ahead
users agree on the two look-aheads; then every step function of the set does.  In length mode `endValue` may re-dispatch
to a step popped from the return stack, so there `free` has to be everything. -/
theorem dispatch_la_generic (c : Cls) (p1 p2 p1' p2' : Option Cls) (free : St → Bool)
    (hguard : ∀ x, free (.guard x) = free x)
    (hconc : free .endTop = true ∧ free .afterKey = true ∧ free .afterValue = true ∧ free .afterItem = true ∧
      free .inlTxt = true ∧ free .foundRoot = true ∧ free .endValue = true)
    (hml : free .mlAnn = true ∨ free .mlTxtPrefix2 = true → free .mlTxt = true)
    (hleaf : ∀ st, st = .anyCommentStart ∨ st = .multiLineComment ∨ st = .mlTxt → free st = true →
      ∀ f s, dispatch (f + 1) st s c p1 p2 = dispatch (f + 1) st s c p1' p2') :
    ∀ (f : Nat) (st : St) (s : Sc), free st = true → (s.lengthComputing = false ∨ ∀ x, free x = true) →
      dispatch f st s c p1 p2 = dispatch f st s c p1' p2'
  | 0, st, s, _, _ => by rw [dispatch_zero, dispatch_zero]
  | f + 1, st, s, hfree, hC => by
    obtain ⟨f1, f2, f3, f4, f5, f6, f7⟩ := hconc
    have ihD := dispatch_la_generic c p1 p2 p1' p2' free hguard ⟨f1, f2, f3, f4, f5, f6, f7⟩ hml hleaf f
    have hfs : ∀ X : Sc, (X.lengthComputing = false ∨ ∀ x, free x = true) →
        (Except.bind (finishShortcut X) fun s2 => dispatch f s2.step s2 c p1 p2) =
        (Except.bind (finishShortcut X) fun s2 => dispatch f s2.step s2 c p1' p2') := by
      intro X hX
      cases hq : finishShortcut X with
      | error e => rfl
      | ok s2 =>
        obtain ⟨hst, hlc⟩ := finishShortcut_facts hq
        simp only [Except.bind]
        refine ihD _ _ ?_ (by rw [hlc]; exact hX)
        rcases hst with h | h | h <;> rw [h] <;> assumption
    have ihE : ∀ s : Sc, (s.lengthComputing = false ∨ ∀ x, free x = true) →
        endValue f s c p1 p2 = endValue f s c p1' p2' := by
      intro s hC
      unfold endValue dispatch'
      rcases hC with hl | hall
      · simp only [bind, pure, Except.pure, ebind_ok, hl, found_lc, Bool.false_and, Bool.false_eq_true, if_false, ihD,
          f1, f2, f3, f4, hfs, true_or]
      · simp only [bind, pure, Except.pure, ebind_ok, ihD, hall, hfs, or_true, implies_true]
    have ihS : ∀ s : Sc, (s.lengthComputing = false ∨ ∀ x, free x = true) →
        state0 f s c p1 p2 = state0 f s c p1' p2' := by
      intro s hC; unfold state0; simp only [ihE, hC]
    cases st with
    | guard x =>
      rw [dispatch_guard, dispatch_guard, ihD x s (by rw [← hguard]; exact hfree) hC]
    | anyCommentStart => exact hleaf _ (Or.inl rfl) hfree f s
    | multiLineComment => exact hleaf _ (Or.inr (Or.inl rfl)) hfree f s
    | mlTxt => exact hleaf _ (Or.inr (Or.inr rfl)) hfree f s
    | mlAnn =>
      have fm := hml (Or.inl hfree)
      simp only [dispatch_mlAnn, ihD, hC, found_lc, f6, fm]
    | mlTxtPrefix2 =>
      have fm := hml (Or.inr hfree)
      simp only [dispatch_mlTxtPrefix2, ihD, hC, found_lc, fm]
    -- the other states: both sides through the state's equation; what is passed on agrees by the hypotheses
    | _ =>
      simp only [schema_wp, ihD, ihE, ihS, hC, f5, f6, f7]

/-- two look-aheads on which the three step functions that consult the look-ahead agree give the same result in every
step function: the others do not mention `p1`, `p2` except to pass them on -/
theorem dispatch_la_of_users (c : Cls) (p1 p2 p1' p2' : Option Cls)
    (h1 : ∀ f s, dispatch (f + 1) .anyCommentStart s c p1 p2 = dispatch (f + 1) .anyCommentStart s c p1' p2')
    (h2 : ∀ f s, dispatch (f + 1) .multiLineComment s c p1 p2 = dispatch (f + 1) .multiLineComment s c p1' p2')
    (h3 : ∀ f s, dispatch (f + 1) .mlTxt s c p1 p2 = dispatch (f + 1) .mlTxt s c p1' p2') :
    ∀ (f : Nat) (st : St) (s : Sc), dispatch f st s c p1 p2 = dispatch f st s c p1' p2' := by
  intro f st s
  refine dispatch_la_generic c p1 p2 p1' p2' (fun _ => true) (fun _ => rfl) ⟨rfl, rfl, rfl, rfl, rfl, rfl, rfl⟩
    (fun _ => rfl) ?_ f st s rfl (Or.inr fun _ => rfl)
  rintro st (rfl | rfl | rfl) _
  · exact h1
  · exact h2
  · exact h3

/-- a byte other than `#` and `*`: the look-ahead is not consulted -/
theorem dispatch_la_plain (c : Cls) (hh : c ≠ .hash) (hs : c ≠ .star) (p1 p2 p1' p2' : Option Cls) :
    ∀ (f : Nat) (st : St) (s : Sc), dispatch f st s c p1 p2 = dispatch f st s c p1' p2' := by
  have h1 : (c != Cls.hash) = true := by simpa using hh
  have h2 : (c == Cls.hash) = false := by simpa using hh
  have h3 : (c == Cls.star) = false := by simpa using hs
  refine dispatch_la_of_users c p1 p2 p1' p2' ?_ ?_ ?_ <;> intro f s <;> (unfold dispatch; dsimp only) <;>
    simp only [h1, h2, h3, if_true, Bool.false_and, Bool.false_eq_true, if_false]

/-- `*`: the second look-ahead byte is not consulted -/
theorem dispatch_la_star2 (p1 p2 p2' : Option Cls) :
    ∀ (f : Nat) (st : St) (s : Sc), dispatch f st s .star p1 p2 = dispatch f st s .star p1 p2' := by
  refine dispatch_la_of_users .star p1 p2 p1 p2' ?_ ?_ ?_ <;> intro f s <;> (unfold dispatch; dsimp only) <;> rfl

theorem core_guard (x : St) : (St.guard x).core = x.core := rfl

/-- `*` outside the multi-line annotation text: the look-ahead is not consulted -/
theorem dispatch_la_star1 (p1 p2 p1' p2' : Option Cls) (f : Nat) (st : St) (s : Sc) (hfree : st.starFree = true)
    (hl : s.lengthComputing = false) : dispatch f st s .star p1 p2 = dispatch f st s .star p1' p2' := by
  rw [dispatch_la_star2 p1 p2 p2']
  refine dispatch_la_generic .star p1 p2' p1' p2' St.starFree (fun x => rfl) ⟨rfl, rfl, rfl, rfl, rfl, rfl, rfl⟩
    (by intro h; rcases h with h | h <;> cases h) ?_ f st s hfree (Or.inl hl)
  intro st' hst' hf' f' s'
  rcases hst' with rfl | rfl | rfl
  · unfold dispatch; rfl
  · unfold dispatch; rfl
  · cases hf'

/-- `#` outside `multiLineComment`: the second look-ahead byte is not consulted -/
theorem dispatch_la_hash2 (p1 p2 p2' : Option Cls) (f : Nat) (st : St) (s : Sc) (hfree : st.hashFree2 = true)
    (hl : s.lengthComputing = false) : dispatch f st s .hash p1 p2 = dispatch f st s .hash p1 p2' := by
  refine dispatch_la_generic .hash p1 p2 p1 p2' St.hashFree2 (fun x => rfl) ⟨rfl, rfl, rfl, rfl, rfl, rfl, rfl⟩
    (fun _ => rfl) ?_ f st s hfree (Or.inl hl)
  intro st' hst' hf' f' s'
  rcases hst' with rfl | rfl | rfl
  · unfold dispatch; rfl
  · cases hf'
  · unfold dispatch; rfl

/-- `#` outside `anyCommentStart` / `multiLineComment`: the look-ahead is not consulted -/
theorem dispatch_la_hash1 (p1 p2 p1' p2' : Option Cls) (f : Nat) (st : St) (s : Sc) (hfree : st.hashFree1 = true)
    (hl : s.lengthComputing = false) : dispatch f st s .hash p1 p2 = dispatch f st s .hash p1' p2' := by
  refine dispatch_la_generic .hash p1 p2 p1' p2' St.hashFree1 (fun x => rfl) ⟨rfl, rfl, rfl, rfl, rfl, rfl, rfl⟩
    (fun _ => rfl) ?_ f st s hfree (Or.inl hl)
  intro st' hst' hf' f' s'
  rcases hst' with rfl | rfl | rfl
  · cases hf'
  · cases hf'
  · unfold dispatch; rfl

#print axioms dispatch_la_plain
#print axioms dispatch_la_star1
#print axioms dispatch_la_hash1
#print axioms dispatch_la_hash2

end SchemaScan
