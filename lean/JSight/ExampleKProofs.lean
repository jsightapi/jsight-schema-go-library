import JSight.DfsK
import JSight.ValidateKProofs
import JSight.ExampleK
import JSight.ExampleKClass
import JSight.ExampleRefs
/-!
C15, self-validation beyond the reference-only, no-cut-off case — on the schema type of `ValidateK`
(literals with arbitrary rule semantics `litOK` — this covers `or` / `enum` / `const` / `{type: …}` rules on a scalar
example: `Example()` emits the example's own token and `Check` has validated it —, `any`, arrays, objects with
required / optional properties, key shortcuts `@K: v` and additionalProperties, references `@a | @b` incl. nullable
ones, arbitrary — also recursive — type tables).

`exDoc` (defined in `ExampleKClass`, with `exItems`, `exProps`, `exShorts`, `litOf`, `bump`) replays the builder and
yields the document it emits, or `none` as soon as the run leaves the class for which self-validation is claimed; its
Boolean argument `strict` narrows the class (any omitted array element leaves it) and plays no part in the proofs:

* a recursion cut-off omits the child of a REQUIRED property (known findings K-C15-reqcut / K-C15-or);
* a cut-off omits an array element that is followed by an emitted element (K-C15-arraycut) — an omitted SUFFIX of
  the elements is harmless and stays inside;
* a cut-off omits the value of a key-shortcut property;
* a key shortcut whose type is not directly a literal (alias, or-shortcut: K-C15-keyalias), or whose example key is
  also a literal key of the object (the emitted object would have the key twice: K-C15-keyclash);
* unknown type, empty name list (builder error).

Inside the class — in particular when every cut-off happens at an OPTIONAL property — the emitted document validates:
`self_valid_ext`: whenever the builder's run stays inside the class (`exDoc … = some (some d)`), the validator accepts
the document.  The second half (`ofK`, `build_ofK`) reads a `VK` schema as a node of the builder model `EXK` and shows
that `EXK.build` emits exactly the bytes of that document.  `keysNodup`, `checkedS`, `CheckedEnv`, `alts_nonref`,
`alts_of_first`, `lookup_of_nodup` are those of `ExampleRefs` again over the schema type of `ValidateK` (each validator
model has its own types), `checkedS` with the key shortcuts added.
-/
namespace VK
open VN (J)
variable {L D : Type}

def keysNodup : List (String × Bool × S L) → Bool
  | [] => true
  | (k, _, _) :: ps => !(ps.any (fun p => p.1 == k)) && keysNodup ps

mutual
/-- what `Check` establishes on one schema text: every literal passes its own rules, keys and key shortcuts of an
object are unique -/
def checkedS (litOK : L → D → Bool) (ex : L → D) : S L → Bool
  | .lit l => litOK l (ex l)
  | .any => true
  | .arr items => checkedItems litOK ex items
  | .obj props shorts _ =>
    checkedProps litOK ex props && checkedProps litOK ex shorts && keysNodup props && keysNodup shorts
  | .ref _ _ => true
def checkedItems (litOK : L → D → Bool) (ex : L → D) : List (S L) → Bool
  | [] => true
  | s :: ss => checkedS litOK ex s && checkedItems litOK ex ss
def checkedProps (litOK : L → D → Bool) (ex : L → D) : List (String × Bool × S L) → Bool
  | [] => true
  | (_, _, s) :: ps => checkedS litOK ex s && checkedProps litOK ex ps
end

def CheckedEnv (env : Env L) (litOK : L → D → Bool) (ex : L → D) : Prop :=
  ∀ n t, lookupT env n = some t → checkedS litOK ex t = true

/-- a key type that is a string literal type accepts a key exactly when its literal rules accept the string -/
def KeyLink (env : Env L) (litOK : L → D → Bool) (keyOK : String → String → Bool) (ex : L → D) (keyStr : D → String) : Prop :=
  ∀ K l, lookupT env K = some (.lit l) → keyOK K (keyStr (ex l)) = litOK l (ex l)

/-! ### list facts -/

theorem keysNodup_eq (props : List (String × Bool × S L)) : keysNodup props = Tbl.keysNodupBy (·.1) props := by
  induction props with
  | nil => rfl
  | cons p ps ih => simp only [keysNodup, Tbl.keysNodupBy, ih]

theorem lookup_of_nodup (props : List (String × Bool × S L)) (h : keysNodup props = true)
    (k : String) (r : Bool) (s : S L) (hm : (k, r, s) ∈ props) : lookup props k = some s :=
  Tbl.firstBy_of_nodup (fun p : String × Bool × S L => p.1) (·.2.2) props (keysNodup_eq props ▸ h) (k, r, s) hm

theorem keysNodup_cons {k : String} {r : Bool} {s : S L} {ps : List (String × Bool × S L)} :
    keysNodup ((k, r, s) :: ps) = true ↔ (∀ p ∈ ps, p.1 ≠ k) ∧ keysNodup ps = true := by
  simp [keysNodup]

theorem alts_nonref (env : Env L) (s : S L) (h : isRef s = false) : alts env s = [s] := by
  unfold alts; rw [build_nonref env _ s h]; rfl

theorem alts_of_first (env : Env L) (n : String) (ns : List String) (nul : Option L) (t : S L)
    (hl : lookupT env n = some t) (a : S L) (ha : a ∈ alts env t) : a ∈ alts env (.ref (n :: ns) nul) :=
  alts_complete env (n :: ns) nul n (by simp) a (reachS_of_name env n t hl a ((alts_iff_reach env t a).1 ha))

theorem litOf_some {o : Option (S L)} {l : L} (h : litOf o = some l) : o = some (.lit l) := by
  unfold litOf at h
  split at h
  · simp only [Option.some.injEq] at h; rw [h]
  · exact absurd h (by simp)

/-! ### requirements bookkeeping of `shapeMembers` -/

/-- the keys still required after the members with keys `ks` have been read (no shortcut involved) -/
def dropKeys : List String → List String → List String
  | [], req => req
  | k :: ks, req => dropKeys ks (req.filter (· != k))

theorem mem_dropKeys {ks req : List String} {r : String} (h : r ∈ dropKeys ks req) : r ∈ req ∧ r ∉ ks := by
  induction ks generalizing req with
  | nil => exact ⟨h, by simp⟩
  | cons k ks ih =>
    have := ih h
    obtain ⟨h1, h2⟩ := this
    have hm := List.mem_filter.1 h1
    refine ⟨hm.1, ?_⟩
    intro hmem
    rcases List.mem_cons.1 hmem with e | e
    · subst e; simp at hm
    · exact h2 e

/-- induction over a schema with the hypothesis for every member of a child list -/
theorem S.mem_induct {motive : S L → Prop} (lit : ∀ l, motive (.lit l)) (any : motive .any)
    (arr : ∀ items, (∀ s ∈ items, motive s) → motive (.arr items))
    (obj : ∀ props shorts add, (∀ p ∈ props, motive p.2.2) → (∀ p ∈ shorts, motive p.2.2) →
      motive (.obj props shorts add))
    (ref : ∀ names nul, motive (.ref names nul)) (s : S L) : motive s :=
  S.rec (motive_1 := motive) (motive_2 := fun ss => ∀ s ∈ ss, motive s)
    (motive_3 := fun ps => ∀ p ∈ ps, motive p.2.2) (motive_4 := fun p => motive p.2.2) (motive_5 := fun p => motive p.2)
    lit any arr obj ref
    (fun _ h => nomatch h) (fun _ _ h hs => List.forall_mem_cons.2 ⟨h, hs⟩)
    (fun _ h => nomatch h) (fun _ _ h hs => List.forall_mem_cons.2 ⟨h, hs⟩)
    (fun _ _ h => h) (fun _ _ h => h) s

/-! ### what a completed replay says about its parts -/
section replay
variable {env : Env L} {ex : L → D} {keyStr : D → String} {strict : Bool} {fuel : Nat} {proc : String → Nat}

theorem exDoc_arr {items : List (S L)} {od : Option (J D)}
    (h : exDoc env ex keyStr strict fuel proc (.arr items) = some od) :
    ∃ xs, exItems env ex keyStr strict fuel proc items = some xs ∧ od = some (.arr xs) := by
  simp only [exDoc] at h
  split at h
  · next xs hk => exact ⟨xs, hk, (Option.some.inj h).symm⟩
  · cases h

theorem exDoc_obj {props shorts : List (String × Bool × S L)} {add : AddMode L} {od : Option (J D)}
    (h : exDoc env ex keyStr strict fuel proc (.obj props shorts add) = some od) :
    ∃ pm sm, exProps env ex keyStr strict fuel proc props = some pm ∧
      exShorts env ex keyStr strict fuel proc (props.map (·.1)) shorts = some sm ∧ od = some (.obj (pm ++ sm)) := by
  simp only [exDoc] at h
  split at h
  · next pm sm hp hs => exact ⟨pm, sm, hp, hs, (Option.some.inj h).symm⟩
  · cases h

/-- a reference has spent one unit of fuel and followed its first name, unless that name was cut off -/
theorem exDoc_ref {names : List String} {nul : Option L} {od : Option (J D)}
    (h : exDoc env ex keyStr strict fuel proc (.ref names nul) = some od) :
    ∃ f n ns, fuel = f + 1 ∧ names = n :: ns ∧
      if proc n > 1 then od = none
      else ∃ t, lookupT env n = some t ∧ exDoc env ex keyStr strict f (bump proc n) t = some od := by
  cases fuel with
  | zero => simp [exDoc] at h
  | succ f =>
    cases names with
    | nil => simp [exDoc] at h
    | cons n ns =>
      refine ⟨f, n, ns, rfl, rfl, ?_⟩
      simp only [exDoc] at h
      split
      · next hp => rw [if_pos hp] at h; exact (Option.some.inj h).symm
      · next hp =>
        rw [if_neg hp] at h
        split at h
        · next t hl => exact ⟨t, hl, h⟩
        · cases h

theorem exItems_cons {s : S L} {ss : List (S L)} {xs : List (J D)}
    (h : exItems env ex keyStr strict fuel proc (s :: ss) = some xs) :
    (∃ x rest, exDoc env ex keyStr strict fuel proc s = some (some x) ∧
        exItems env ex keyStr strict fuel proc ss = some rest ∧ xs = x :: rest) ∨
      (exDoc env ex keyStr strict fuel proc s = some none ∧ exItems env ex keyStr strict fuel proc ss = some [] ∧
        xs = []) := by
  simp only [exItems] at h
  split at h
  · next x rest h1 h2 => exact Or.inl ⟨x, rest, h1, h2, (Option.some.inj h).symm⟩
  · next rest h1 h2 =>
    split at h
    · next he =>
      have : rest = [] := List.isEmpty_iff.1 (Bool.and_eq_true _ _ ▸ he).2
      exact Or.inr ⟨h1, this ▸ h2, (Option.some.inj h).symm⟩
    · cases h
  · cases h

theorem exProps_cons {k : String} {r : Bool} {s : S L} {ps : List (String × Bool × S L)} {pm : List (String × J D)}
    (h : exProps env ex keyStr strict fuel proc ((k, r, s) :: ps) = some pm) :
    (∃ x rest, exDoc env ex keyStr strict fuel proc s = some (some x) ∧
        exProps env ex keyStr strict fuel proc ps = some rest ∧ pm = (k, x) :: rest) ∨
      (exDoc env ex keyStr strict fuel proc s = some none ∧ r = false ∧
        exProps env ex keyStr strict fuel proc ps = some pm) := by
  simp only [exProps] at h
  split at h
  · next x rest h1 h2 => exact Or.inl ⟨x, rest, h1, h2, (Option.some.inj h).symm⟩
  · next rest h1 h2 =>
    cases r with
    | true => cases h
    | false => exact Or.inr ⟨h1, rfl, (Option.some.inj h) ▸ h2⟩
  · cases h

theorem exShorts_cons {pk : List String} {K : String} {rq : Bool} {s : S L} {ss : List (String × Bool × S L)}
    {sm : List (String × J D)} (h : exShorts env ex keyStr strict fuel proc pk ((K, rq, s) :: ss) = some sm) :
    ∃ l x rest, lookupT env K = some (.lit l) ∧ fuel ≠ 0 ∧ pk.contains (keyStr (ex l)) = false ∧
      exDoc env ex keyStr strict fuel proc s = some (some x) ∧
      exShorts env ex keyStr strict fuel proc pk ss = some rest ∧ sm = (keyStr (ex l), x) :: rest := by
  simp only [exShorts] at h
  split at h
  · next l hl =>
    split at h
    · cases h
    · next hpk =>
      split at h
      · next x rest h1 h2 =>
        exact ⟨l, x, rest, litOf_some hl, fun e => hpk (Or.inl e), by simpa using fun e => hpk (Or.inr e), h1, h2,
          (Option.some.inj h).symm⟩
      · cases h
  · cases h

end replay

section selfvalid
variable (env : Env L) (litOK : L → D → Bool) (keyOK : String → String → Bool) (ex : L → D) (keyStr : D → String)
  (strict : Bool)

/-- every required key of the properties is among the emitted members -/
theorem exProps_required (fuel : Nat) (proc : String → Nat) :
    (ps : List (String × Bool × S L)) → ∀ ms, exProps env ex keyStr strict fuel proc ps = some ms →
      ∀ k ∈ requiredKeys ps, k ∈ ms.map (·.1)
  | [], ms, h => by simp [requiredKeys]
  | (k, r, s) :: ps, ms, h => by
    intro k' hk'
    rcases exProps_cons h with ⟨x, rest, _, h2, rfl⟩ | ⟨_, rfl, h2⟩
    · have ih := exProps_required fuel proc ps rest h2 k'
      cases r with
      | false => exact List.mem_cons_of_mem _ (ih hk')
      | true =>
        rcases List.mem_cons.1 (show k' ∈ k :: requiredKeys ps from hk') with e | e
        · exact e ▸ List.mem_cons_self
        · exact List.mem_cons_of_mem _ (ih e)
    · exact exProps_required fuel proc ps ms h2 k' hk'

/-- reading plain members: each finds its property; only the requirement list changes -/
theorem shape_plain (props shorts : List (String × Bool × S L)) (add : AddMode L) :
    ∀ (pm : List (String × J D)) (rest : List (String × J D)) (req used : List String),
      (∀ m ∈ pm, ∃ s, lookup props m.1 = some s ∧ (alts env s).any (fun a => shapeA env litOK keyOK a m.2) = true) →
      shapeMembers env litOK keyOK props shorts add req used (pm ++ rest)
        = shapeMembers env litOK keyOK props shorts add (dropKeys (pm.map (·.1)) req) used rest
  | [], rest, req, used, _ => rfl
  | (k, v) :: pm, rest, req, used, h => by
    obtain ⟨s, hl, hs⟩ := h (k, v) (by simp)
    simp only [List.cons_append, shapeMembers, hl, hs, Bool.true_and, List.map_cons, dropKeys]
    exact shape_plain props shorts add pm rest _ used (fun m hm => h m (by simp [hm]))

theorem names_not_mem (pre : List (String × Bool × S L)) (K : String) (rq : Bool) (s : S L)
    (ss : List (String × Bool × S L)) (hn : keysNodup (pre ++ (K, rq, s) :: ss) = true) : K ∉ pre.map (·.1) := by
  induction pre with
  | nil => simp
  | cons p ps ih =>
    obtain ⟨k', r', s'⟩ := p
    obtain ⟨hne, hps⟩ := keysNodup_cons.1 hn
    intro hmem
    rcases List.mem_cons.1 hmem with e | e
    · exact hne (K, rq, s) (by simp) e
    · exact ih hps e

theorem find_short (pre : List (String × Bool × S L)) (K : String) (rq : Bool) (s : S L) (ss : List (String × Bool × S L))
    (kk : String) (hn : keysNodup (pre ++ (K, rq, s) :: ss) = true) (hk : keyOK K kk = true) :
    pickShort keyOK (pre ++ (K, rq, s) :: ss) (pre.map (·.1)).reverse kk = some (K, rq, s) := by
  unfold pickShort
  rw [List.find?_append]
  have hpre : pre.find? (fun sc => !(pre.map (·.1)).reverse.contains sc.1 && keyOK sc.1 kk) = none := by
    rw [List.find?_eq_none]
    intro sc hsc
    have : (pre.map (·.1)).reverse.contains sc.1 = true :=
      List.contains_iff_mem.2 (List.mem_reverse.2 (List.mem_map.2 ⟨sc, hsc, rfl⟩))
    rw [this]
    exact fun h => absurd h (by simp)
  have hK : (pre.map (·.1)).reverse.contains K = false := by
    rw [Bool.eq_false_iff]
    intro hc
    exact names_not_mem pre K rq s ss hn (List.mem_reverse.1 (List.contains_iff_mem.1 hc))
  rw [hpre, List.find?_cons]
  simp only [hK, hk, Bool.not_false, Bool.and_self, Option.none_or]

/-! The lists of an array or object are walked with the claim for their members as a hypothesis; `ex_shape` supplies
it by induction on the fuel and, for one fuel, on the schema. -/

theorem shapeItems_of {fuel : Nat} {proc : String → Nat} : (ss : List (S L)) →
    (∀ s ∈ ss, checkedS litOK ex s = true → ∀ d, exDoc env ex keyStr strict fuel proc s = some (some d) →
      (alts env s).any (fun a => shapeA env litOK keyOK a d) = true) →
    ∀ pre, checkedItems litOK ex ss = true → ∀ xs, exItems env ex keyStr strict fuel proc ss = some xs →
      shapeItems env litOK keyOK (pre ++ ss) pre.length xs = true
  | [], _, pre, _, xs, h => by simp [exItems] at h; subst h; simp [shapeItems]
  | s :: ss, hs, pre, hc, xs, h => by
    simp only [checkedItems, Bool.and_eq_true] at hc
    rcases exItems_cons h with ⟨x, rest, h1, h2, rfl⟩ | ⟨_, _, rfl⟩
    · have e1 := hs s (by simp) hc.1 x h1
      have e2 := shapeItems_of ss (fun t ht => hs t (by simp [ht])) (pre ++ [s]) hc.2 rest h2
      simp only [shapeItems, childAt_eq, Tbl.clampAt_append, e1, Bool.true_and]
      simpa [List.append_assoc] using e2
    · simp [shapeItems]

theorem shapeProps_of {fuel : Nat} {proc : String → Nat} (props : List (String × Bool × S L))
    (hn : keysNodup props = true) : (ps : List (String × Bool × S L)) → (∀ p ∈ ps, p ∈ props) →
    (∀ p ∈ ps, checkedS litOK ex p.2.2 = true → ∀ d, exDoc env ex keyStr strict fuel proc p.2.2 = some (some d) →
      (alts env p.2.2).any (fun a => shapeA env litOK keyOK a d) = true) →
    checkedProps litOK ex ps = true → ∀ pm, exProps env ex keyStr strict fuel proc ps = some pm →
      ∀ m ∈ pm, ∃ s, lookup props m.1 = some s ∧ (alts env s).any (fun a => shapeA env litOK keyOK a m.2) = true
  | [], _, _, _, pm, h => by simp [exProps] at h; subst h; simp
  | (k, r, s) :: ps, hsub, hs, hc, pm, h => by
    simp only [checkedProps, Bool.and_eq_true] at hc
    have e2 := shapeProps_of props hn ps (fun p hp => hsub p (by simp [hp])) (fun p hp => hs p (by simp [hp])) hc.2
    rcases exProps_cons h with ⟨x, rest, h1, h2, rfl⟩ | ⟨_, _, h2⟩
    · intro m hm
      rcases List.mem_cons.1 hm with rfl | hm
      · exact ⟨s, lookup_of_nodup props hn k r s (hsub _ (by simp)), hs (k, r, s) (by simp) hc.1 x h1⟩
      · exact e2 rest h2 m hm
    · exact e2 pm h2

section main
variable (henv : CheckedEnv env litOK ex) (hkey : KeyLink env litOK keyOK ex keyStr)
include henv hkey
set_option linter.unusedSectionVars false

theorem shapeShorts_of {fuel : Nat} {proc : String → Nat} (props shorts : List (String × Bool × S L)) (add : AddMode L)
    (hn : keysNodup shorts = true) : (pre ss : List (String × Bool × S L)) → shorts = pre ++ ss →
    (∀ p ∈ ss, checkedS litOK ex p.2.2 = true → ∀ d, exDoc env ex keyStr strict fuel proc p.2.2 = some (some d) →
      (alts env p.2.2).any (fun a => shapeA env litOK keyOK a d) = true) →
    checkedProps litOK ex ss = true →
    ∀ sm, exShorts env ex keyStr strict fuel proc (props.map (·.1)) ss = some sm →
      ∀ req, (∀ r ∈ req, ∃ sc ∈ ss, r = "@" ++ sc.1) →
      shapeMembers env litOK keyOK props shorts add req (pre.map (·.1)).reverse sm = true
  | pre, [], _, _, _, sm, h, req, hreq => by
    simp [exShorts] at h; subst h
    have : req = [] := by
      cases req with
      | nil => rfl
      | cons r rs => obtain ⟨sc, hsc, _⟩ := hreq r (by simp); simp at hsc
    subst this
    simp [shapeMembers]
  | pre, (K, rq, s) :: ss, hp, hs, hc, sm, h, req, hreq => by
    simp only [checkedProps, Bool.and_eq_true] at hc
    obtain ⟨l, x, rest, hl, _, hpk, h1, h2, rfl⟩ := exShorts_cons h
    have hnone : lookup props (keyStr (ex l)) = none := Tbl.firstBy_none _ _ props _ hpk
    have hlit : litOK l (ex l) = true := by simpa [checkedS] using henv K (.lit l) hl
    have hk : keyOK K (keyStr (ex l)) = true := by rw [hkey K l hl]; exact hlit
    have hpick := find_short keyOK pre K rq s ss (keyStr (ex l)) (by rw [← hp]; exact hn) hk
    rw [← hp] at hpick
    have e1 := hs (K, rq, s) (by simp) hc.1 x h1
    have e2 := shapeShorts_of props shorts add hn (pre ++ [(K, rq, s)]) ss (by rw [hp]; simp)
      (fun p hp => hs p (by simp [hp])) hc.2 rest h2
      ((req.filter (· != keyStr (ex l))).filter (· != "@" ++ K)) (by
        intro r hr
        have hr1 := List.mem_filter.1 hr
        have hr2 := List.mem_filter.1 hr1.1
        obtain ⟨sc, hsc, rfl⟩ := hreq r hr2.1
        rcases List.mem_cons.1 hsc with e | e
        · subst e; simp at hr1
        · exact ⟨sc, e, rfl⟩)
    simp only [shapeMembers, hnone, hpick, e1, Bool.true_and]
    simpa using e2

theorem ex_shape (fuel : Nat) : ∀ (proc : String → Nat) (s : S L), checkedS litOK ex s = true →
    ∀ d, exDoc env ex keyStr strict fuel proc s = some (some d) →
      (alts env s).any (fun a => shapeA env litOK keyOK a d) = true := by
  induction fuel using Nat.strongRecOn with
  | _ fuel ihf =>
    intro proc s
    induction s using S.mem_induct with
    | lit l =>
      intro hc d h; simp [exDoc] at h; subst h
      rw [alts_nonref env _ rfl]
      simpa [shapeA, checkedS] using hc
    | any =>
      intro _ d h
      rw [alts_nonref env _ rfl]; simp [shapeA]
    | arr items ih =>
      intro hc d h
      obtain ⟨xs, hk, hd⟩ := exDoc_arr h
      cases hd
      have := shapeItems_of env litOK keyOK ex keyStr strict items ih [] (by simpa [checkedS] using hc) xs hk
      rw [alts_nonref env _ rfl]
      simpa [shapeA] using this
    | obj props shorts add ihp ihs =>
      intro hc d h
      obtain ⟨pm, sm, hp, hs, hd⟩ := exDoc_obj h
      cases hd
      simp only [checkedS, Bool.and_eq_true] at hc
      obtain ⟨⟨⟨hcp, hcs⟩, hnp⟩, hns⟩ := hc
      have h1 := shapeProps_of env litOK keyOK ex keyStr strict props hnp props (fun _ hp => hp) ihp hcp pm hp
      rw [alts_nonref env _ rfl]
      simp only [List.any_cons, List.any_nil, Bool.or_false, shapeA]
      rw [shape_plain env litOK keyOK props shorts add pm sm _ [] h1]
      refine shapeShorts_of env litOK keyOK ex keyStr strict henv hkey props shorts add hns [] shorts rfl ihs hcs sm hs _ ?_
      intro r hr
      obtain ⟨hr0, hrk⟩ := mem_dropKeys hr
      rcases List.mem_append.1 hr0 with e | e
      · exact absurd (exProps_required env ex keyStr strict fuel proc props pm hp r e) hrk
      · obtain ⟨k, hk, rfl⟩ := List.mem_map.1 e
        simp only [requiredKeys, List.mem_map, List.mem_filter] at hk
        obtain ⟨sc, ⟨hsc, _⟩, rfl⟩ := hk
        exact ⟨sc, hsc, rfl⟩
    | ref names nul =>
      intro _ d h
      obtain ⟨f, n, ns, rfl, rfl, hr⟩ := exDoc_ref h
      split at hr
      · cases hr
      · obtain ⟨t, hl, ht⟩ := hr
        obtain ⟨a, ha, hs⟩ := List.any_eq_true.1 (ihf f (Nat.lt_succ_self f) (bump proc n) t (henv n t hl) d ht)
        exact List.any_eq_true.2 ⟨a, alts_of_first env n ns nul t hl a ha, hs⟩

theorem ex_items : (fuel : Nat) → (proc : String → Nat) → (pre ss : List (S L)) → checkedItems litOK ex ss = true →
    ∀ xs, exItems env ex keyStr strict fuel proc ss = some xs → shapeItems env litOK keyOK (pre ++ ss) pre.length xs = true :=
  fun fuel proc pre ss =>
    shapeItems_of env litOK keyOK ex keyStr strict ss
      (fun s _ => ex_shape env litOK keyOK ex keyStr strict henv hkey fuel proc s) pre

theorem ex_props : (fuel : Nat) → (proc : String → Nat) → (props pre ps : List (String × Bool × S L)) →
    props = pre ++ ps → keysNodup props = true → checkedProps litOK ex ps = true →
    ∀ pm, exProps env ex keyStr strict fuel proc ps = some pm →
      ∀ m ∈ pm, ∃ s, lookup props m.1 = some s ∧ (alts env s).any (fun a => shapeA env litOK keyOK a m.2) = true :=
  fun fuel proc props pre ps hp hn =>
    shapeProps_of env litOK keyOK ex keyStr strict props hn ps (fun p h => by rw [hp]; simp [h])
      (fun p _ => ex_shape env litOK keyOK ex keyStr strict henv hkey fuel proc p.2.2)

theorem ex_shorts : (fuel : Nat) → (proc : String → Nat) → (props shorts : List (String × Bool × S L)) → (add : AddMode L) →
    (pre ss : List (String × Bool × S L)) → shorts = pre ++ ss → keysNodup shorts = true →
    checkedProps litOK ex ss = true →
    ∀ sm, exShorts env ex keyStr strict fuel proc (props.map (·.1)) ss = some sm →
      ∀ req, (∀ r ∈ req, ∃ sc ∈ ss, r = "@" ++ sc.1) →
      shapeMembers env litOK keyOK props shorts add req (pre.map (·.1)).reverse sm = true :=
  fun fuel proc props shorts add pre ss hp hn =>
    shapeShorts_of env litOK keyOK ex keyStr strict henv hkey props shorts add hn pre ss hp
      (fun p _ => ex_shape env litOK keyOK ex keyStr strict henv hkey fuel proc p.2.2)

/-- whenever the builder's run stays inside the class (`exDoc … = some (some d)`), `Validate`
accepts what `Example()` emitted -/
theorem self_valid_ext (fuel : Nat) (proc : String → Nat) (s : S L) (hc : checkedS litOK ex s = true)
    (d : J D) (h : exDoc env ex keyStr strict fuel proc s = some (some d)) : validateT env litOK keyOK s d = true := by
  rw [C03_key_shortcuts]
  exact ex_shape env litOK keyOK ex keyStr strict henv hkey fuel proc s hc d h

end main

end selfvalid

/-! ### the builder model `EXK.build` emits exactly that document

`ofK` reads a schema as a builder node: `any` as the empty array `Example()` emits for it, a reference by its first
name (an empty name list gets the name `""`, which no table holds: `exDoc` answers `none` there). -/
section bridge
open JsonScan (Cls JA)
variable {L D : Type} (tok : D → List Cls) (keyTok : String → List Cls)

mutual
def ofK (ex : L → D) : S L → EXK.N
  | .lit l => .lit (tok (ex l))
  | .any => .arr false []
  | .arr items => .arr false (ofKItems ex items)
  | .obj props shorts _ => .obj false (ofKProps ex props ++ ofKShorts ex shorts)
  | .ref [] _ => .ref ""
  | .ref (n :: _) _ => .ref n
def ofKItems (ex : L → D) : List (S L) → List EXK.N
  | [] => []
  | s :: ss => ofK ex s :: ofKItems ex ss
def ofKProps (ex : L → D) : List (String × Bool × S L) → List (EXK.Key × EXK.N)
  | [] => []
  | (k, _, s) :: ps => (.plain (keyTok k), ofK ex s) :: ofKProps ex ps
def ofKShorts (ex : L → D) : List (String × Bool × S L) → List (EXK.Key × EXK.N)
  | [] => []
  | (K, _, s) :: ps => (.short K, ofK ex s) :: ofKShorts ex ps
end

def tsOfK (ex : L → D) (env : Env L) : EXK.Types := env.map fun p => (p.1, ofK tok keyTok ex p.2)

theorem lookup_tsOfK (ex : L → D) (env : Env L) (n : String) :
    EXK.lookupT (tsOfK tok keyTok ex env) n = (lookupT env n).map (ofK tok keyTok ex) :=
  Tbl.named_map (ofK tok keyTok ex) env n

/-- the source token of a key that is the example of a string type is that example's token -/
def KeyTokLink (env : Env L) (ex : L → D) (keyStr : D → String) : Prop :=
  ∀ K l, lookupT env K = some (.lit l) → keyTok (keyStr (ex l)) = tok (ex l)

def memText (m : List Cls × JA) : List Cls := m.1 ++ .colon :: m.2.render

theorem render_arr (vs : List JA) :
    (JA.arr [] (vs.map fun v => (([] : List Cls), v, ([] : List Cls)))).render
      = .lbrack :: (EX.joinC (vs.map JA.render) ++ [.rbrack]) := by
  simp [JA.render, EX.renderItems_compact]

theorem render_obj (ms : List (List Cls × JA)) :
    (JA.obj [] (ms.map fun m => (([] : List Cls), m.1, ([] : List Cls), ([] : List Cls), m.2, ([] : List Cls)))).render
      = .lbrace :: (EX.joinC (ms.map memText) ++ [.rbrace]) := by
  simp only [JA.render, EX.renderMembers_compact, List.nil_append]
  rfl

theorem jaMembersN_append (a b : List (String × J D)) :
    VR.jaMembersN tok keyTok (a ++ b) = VR.jaMembersN tok keyTok a ++ VR.jaMembersN tok keyTok b := by
  induction a with
  | nil => rfl
  | cons m a ih => obtain ⟨k, v⟩ := m; simp [VR.jaMembersN, ih]

variable (env : Env L) (ex : L → D) (keyStr : D → String) (strict : Bool)

theorem buildKids_of {fuel : Nat} {proc : String → Nat} : (ss : List (S L)) →
    (∀ s ∈ ss, ∀ od, exDoc env ex keyStr strict fuel proc s = some od →
      EXK.build (tsOfK tok keyTok ex env) fuel proc (ofK tok keyTok ex s)
        = some (od.map fun d => (VR.jaOfN tok keyTok d).render)) →
    ∀ xs, exItems env ex keyStr strict fuel proc ss = some xs →
      EXK.buildKids (tsOfK tok keyTok ex env) fuel proc (ofKItems tok keyTok ex ss)
        = some ((VR.jaItemsN tok keyTok xs).map JA.render)
  | [], _, xs, h => by simp [exItems] at h; subst h; simp [ofKItems, EXK.buildKids, VR.jaItemsN]
  | s :: ss, hs, xs, h => by
    have e2 := buildKids_of ss (fun t ht => hs t (by simp [ht]))
    rcases exItems_cons h with ⟨x, rest, h1, h2, rfl⟩ | ⟨h1, h2, rfl⟩
    · simp only [ofKItems, EXK.buildKids, hs s (by simp) _ h1, e2 rest h2, Option.map_some, VR.jaItemsN, List.map_cons]
    · simp only [ofKItems, EXK.buildKids, hs s (by simp) _ h1, e2 [] h2, Option.map_none, VR.jaItemsN, List.map_nil]

theorem buildProps_of {fuel : Nat} {proc : String → Nat} : (ps : List (String × Bool × S L)) →
    (∀ p ∈ ps, ∀ od, exDoc env ex keyStr strict fuel proc p.2.2 = some od →
      EXK.build (tsOfK tok keyTok ex env) fuel proc (ofK tok keyTok ex p.2.2)
        = some (od.map fun d => (VR.jaOfN tok keyTok d).render)) →
    ∀ pm, exProps env ex keyStr strict fuel proc ps = some pm →
    ∀ (tail : List (EXK.Key × EXK.N)) (tp : List (List Cls)),
      EXK.buildProps (tsOfK tok keyTok ex env) fuel proc tail = some tp →
      EXK.buildProps (tsOfK tok keyTok ex env) fuel proc (ofKProps tok keyTok ex ps ++ tail)
        = some ((VR.jaMembersN tok keyTok pm).map memText ++ tp)
  | [], _, pm, h, tail, tp, ht => by simp [exProps] at h; subst h; simpa [ofKProps, VR.jaMembersN] using ht
  | (k, r, s) :: ps, hs, pm, h, tail, tp, ht => by
    have e2 := buildProps_of ps (fun p hp => hs p (by simp [hp]))
    rcases exProps_cons h with ⟨x, rest, h1, h2, rfl⟩ | ⟨h1, _, h2⟩
    · simp only [ofKProps, List.cons_append, EXK.buildProps, hs (k, r, s) (by simp) _ h1, e2 rest h2 tail tp ht,
        Option.map_some, EXK.buildKey, VR.jaMembersN, List.map_cons, memText, List.cons_append]
    · simp only [ofKProps, List.cons_append, EXK.buildProps, hs (k, r, s) (by simp) _ h1, e2 pm h2 tail tp ht,
        Option.map_none]

variable (hkt : KeyTokLink tok keyTok env ex keyStr)
include hkt
set_option linter.unusedSectionVars false

theorem buildShorts_of {fuel : Nat} {proc : String → Nat} (pk : List String) : (ss : List (String × Bool × S L)) →
    (∀ p ∈ ss, ∀ od, exDoc env ex keyStr strict fuel proc p.2.2 = some od →
      EXK.build (tsOfK tok keyTok ex env) fuel proc (ofK tok keyTok ex p.2.2)
        = some (od.map fun d => (VR.jaOfN tok keyTok d).render)) →
    ∀ sm, exShorts env ex keyStr strict fuel proc pk ss = some sm →
    EXK.buildProps (tsOfK tok keyTok ex env) fuel proc (ofKShorts tok keyTok ex ss)
      = some ((VR.jaMembersN tok keyTok sm).map memText)
  | [], _, sm, h => by simp [exShorts] at h; subst h; simp [ofKShorts, EXK.buildProps, VR.jaMembersN]
  | (K, rq, s) :: ss, hs, sm, h => by
    obtain ⟨l, x, rest, hl, hf, _, h1, h2, rfl⟩ := exShorts_cons h
    have e2 := buildShorts_of pk ss (fun p hp => hs p (by simp [hp])) rest h2
    -- the key shortcut's type is a literal: its example token is the key
    have ek : EXK.buildKey (tsOfK tok keyTok ex env) fuel proc (.short K) = some (tok (ex l)) := by
      obtain ⟨f, rfl⟩ := Nat.exists_eq_succ_of_ne_zero hf
      simp [EXK.buildKey, lookup_tsOfK, hl, ofK, EXK.build]
    simp only [ofKShorts, EXK.buildProps, hs (K, rq, s) (by simp) _ h1, e2, ek, Option.map_some, VR.jaMembersN,
      List.map_cons, memText, hkt K l hl]

theorem build_ofK (fuel : Nat) : ∀ (proc : String → Nat) (s : S L) od,
    exDoc env ex keyStr strict fuel proc s = some od →
    EXK.build (tsOfK tok keyTok ex env) fuel proc (ofK tok keyTok ex s)
      = some (od.map fun d => (VR.jaOfN tok keyTok d).render) := by
  induction fuel using Nat.strongRecOn with
  | _ fuel ihf =>
    intro proc s
    induction s using S.mem_induct with
    | lit l => intro od h; simp [exDoc] at h; subst h; simp [ofK, EXK.build, VR.jaOfN, JA.render]
    | any =>
      intro od h; simp [exDoc] at h; subst h
      simp [ofK, EXK.build, EXK.buildKids, VR.jaOfN, VR.jaItemsN, JA.render, JsonScan.renderItems, EX.joinC]
    | arr items ih =>
      intro od h
      obtain ⟨xs, hk, rfl⟩ := exDoc_arr h
      simp only [ofK, EXK.build, Bool.false_eq_true, if_false,
        buildKids_of tok keyTok env ex keyStr strict items ih xs hk, Option.map_some, VR.jaOfN, render_arr]
    | obj props shorts add ihp ihs =>
      intro od h
      obtain ⟨pm, sm, hp, hs, rfl⟩ := exDoc_obj h
      have e2 := buildShorts_of tok keyTok env ex keyStr strict hkt (props.map (·.1)) shorts ihs sm hs
      have e1 := buildProps_of tok keyTok env ex keyStr strict props ihp pm hp (ofKShorts tok keyTok ex shorts) _ e2
      simp only [ofK, EXK.build, Bool.false_eq_true, if_false, e1, Option.map_some, VR.jaOfN, render_obj]
      simp only [jaMembersN_append, List.map_append]
    | ref names nul =>
      intro od h
      obtain ⟨f, n, ns, rfl, rfl, hr⟩ := exDoc_ref h
      split at hr
      · next hp => subst hr; simp [ofK, EXK.build, hp]
      · next hp =>
        obtain ⟨t, hl, ht⟩ := hr
        simp only [ofK, EXK.build, hp, if_false]
        rw [lookup_tsOfK, hl]
        exact ihf f (Nat.lt_succ_self f) (bump proc n) t od ht

theorem buildKids_ofK : (fuel : Nat) → (proc : String → Nat) → (ss : List (S L)) → ∀ xs,
    exItems env ex keyStr strict fuel proc ss = some xs →
    EXK.buildKids (tsOfK tok keyTok ex env) fuel proc (ofKItems tok keyTok ex ss)
      = some ((VR.jaItemsN tok keyTok xs).map JA.render) :=
  fun fuel proc ss =>
    buildKids_of tok keyTok env ex keyStr strict ss fun s _ => build_ofK tok keyTok env ex keyStr strict hkt fuel proc s

theorem buildProps_ofK : (fuel : Nat) → (proc : String → Nat) → (ps : List (String × Bool × S L)) → ∀ pm,
    exProps env ex keyStr strict fuel proc ps = some pm →
    ∀ (tail : List (EXK.Key × EXK.N)) (tp : List (List Cls)),
      EXK.buildProps (tsOfK tok keyTok ex env) fuel proc tail = some tp →
      EXK.buildProps (tsOfK tok keyTok ex env) fuel proc (ofKProps tok keyTok ex ps ++ tail)
        = some ((VR.jaMembersN tok keyTok pm).map memText ++ tp) :=
  fun fuel proc ps =>
    buildProps_of tok keyTok env ex keyStr strict ps fun p _ =>
      build_ofK tok keyTok env ex keyStr strict hkt fuel proc p.2.2

theorem buildShorts_ofK : (fuel : Nat) → (proc : String → Nat) → (pk : List String) → (ss : List (String × Bool × S L)) →
    ∀ sm, exShorts env ex keyStr strict fuel proc pk ss = some sm →
    EXK.buildProps (tsOfK tok keyTok ex env) fuel proc (ofKShorts tok keyTok ex ss)
      = some ((VR.jaMembersN tok keyTok sm).map memText) :=
  fun fuel proc pk ss =>
    buildShorts_of tok keyTok env ex keyStr strict hkt pk ss fun p _ =>
      build_ofK tok keyTok env ex keyStr strict hkt fuel proc p.2.2

end bridge

end VK
