import JSight.ExceptWp
import JSight.AnnotDoc
import JSight.LayoutAbs
import JSight.RuleNameSpelling
/-!
The loader model on the events of ONE annotation, wherever it stands (used for the annotated scalar of C02 / C13, the
enum route of C18 and annotated trees alike). `CRule.span`, `CRule.vspan`, `CObj.spans`, `CObj.vspans`: the name and
value spans the events of a rule object carry; `addSpans nd sps vsps`: the node with those rules added. `annG base m rs
i nd rn` is the loader's state while it reads an annotation bound to node `i` of an arbitrary node table (`G`: the
general table, against `annSt` on the one-node table); `Moves` lists the transitions of the rule loader on the events
of a rule object and `Moves.step` reads a row as `step` from such a state (`g_nl`, `g_txtB`, `g_txtE`, `g_annE`:
new-line, note and closing events); `ann_fold_of`: the events of `{rules} [- note]` between the annotation-begin and
-end lexemes, for any rule object (its own fold is a hypothesis), add what that fold adds and the note to node `i` and
touch nothing else. An annotated top-level scalar is the case of the one-node table behind the scalar's two events
(`scalar_ann_fold`, `annot_fold_of`). The fold over a rule object is in `AnnotQLoad` (`obj_foldQ`, and `obj_fold`
for bare names and literal values). `LayoutAbs` and `RuleNameSpelling` are imported for the modules on texts that
build on this one (`AnnotThm`, `AnnotQThm`).
-/
namespace SchemaScan

/-- the rule name's span, as the key-end event carries it (blanks before the colon included) -/
def CRule.span (r : CRule) (p : Nat) : Nat × Nat := (r.nameOff p, r.nameOff p + r.name.length + r.n2 - 1)

/-- the name spans of the rules of an object, in written order -/
def spansRules : Nat → CRule → List CRule → List (Nat × Nat)
  | p, r, [] => [CRule.span r p]
  | p, r, r' :: rs => CRule.span r p :: spansRules (p + r.render.length + 1) r' rs

def CObj.spans (o : Nat) : CObj → List (Nat × Nat)
  | .empty _ => []
  | .rules r rs _ => spansRules (o + 1) r rs

/-- the span of the rule's value token, as the literal-end event carries it -/
def CRule.vspan (r : CRule) (p : Nat) : Nat × Nat := (r.valOff p, r.valOff p + r.val.length - 1)

/-- the value spans of the rules of an object, in written order -/
def vspansRules : Nat → CRule → List CRule → List (Nat × Nat)
  | p, r, [] => [CRule.vspan r p]
  | p, r, r' :: rs => CRule.vspan r p :: vspansRules (p + r.render.length + 1) r' rs

def CObj.vspans (o : Nat) : CObj → List (Nat × Nat)
  | .empty _ => []
  | .rules r rs _ => vspansRules (o + 1) r rs

end SchemaScan

namespace Loader
open SchemaScan (Ev LexT Ann Cls CRule CObj nlEvs rulesEvs tcEvs annEvs tailEvs spansRules vspansRules)

/-- the loader's state while it reads the annotation of the (only) node, `pl` nodes on the line (`perLine`). At
`pl = 1` it is `annG (lit1 e)` (`annSt_eq`); the enum route's lemmas are stated on this form. -/
def annSt (m : Mode) (rs : RS) (nd : Node) (rn : Nat × Nat) (pl : Nat) : St :=
  { nodes := #[nd], root := some 0, leaf := none, last := some 0, perLine := pl, mode := m, rs := rs,
    rsNode := some 0, rsCount := 1, ruleName := rn }

/-- the loader's mode inside an annotation of the scanner's kind `a` -/
def modeOf : Ann → Mode | .multi => .multi | _ => .inline

theorem modeOf_ne {a : Ann} : modeOf a ≠ .default := by cases a <;> simp [modeOf]

/-- the rule name in the span `rn` is one whose value the rule loader reads as an embedded value (`or`, `enum`,
`allOf`): only under these may a list stand -/
def isEmbName (src : Array UInt8) (rn : Nat × Nat) : Bool :=
  nameOf src rn == "or".toUTF8.toList || nameOf src rn == "enum".toUTF8.toList || nameOf src rn == "allOf".toUTF8.toList

/-! ### folds -/

/-- `Except.Folds` at `step src`; the four lemmas below are its lemmas at this instance -/
def Fold (src : Array UInt8) (evs : List Ev) (s s' : St) : Prop := evs.foldlM (step src) s = .ok s'

theorem Fold.nil (src : Array UInt8) (s : St) : Fold src [] s s := rfl

theorem Fold.one {src : Array UInt8} {e : Ev} {s s' : St} (h : step src s e = .ok s') : Fold src [e] s s' :=
  Except.Folds.one h

theorem Fold.trans {src : Array UInt8} {a b : List Ev} {s1 s2 s3 : St} (h1 : Fold src a s1 s2) (h2 : Fold src b s2 s3) :
    Fold src (a ++ b) s1 s3 := Except.Folds.trans h1 h2

theorem Fold.cons {src : Array UInt8} {e : Ev} {b : List Ev} {s1 s2 s3 : St} (h1 : step src s1 e = .ok s2)
    (h2 : Fold src b s2 s3) : Fold src (e :: b) s1 s3 := Except.Folds.cons h1 h2

theorem Fold.cast {src : Array UInt8} {a a' : List Ev} {s1 s2 s2' : St} (h : Fold src a s1 s2) (ha : a = a')
    (hs : s2 = s2') : Fold src a' s1 s2' := Except.Folds.cast h ha hs

/-! ### arrays -/

theorem list_modify_set {α : Type} (L : List α) (i : Nat) (x : α) (f : α → α) :
    (L.set i x).modify i f = L.set i (f x) := by
  apply List.ext_getElem?
  intro j
  rw [List.getElem?_modify, List.getElem?_set, List.getElem?_set]
  by_cases hij : i = j
  · subst hij
    by_cases hlt : i < L.length
    · simp [hlt]
    · simp [hlt]
  · simp [hij]

theorem modify_setIfInBounds (a : Array Node) (i : Nat) (x : Node) (f : Node → Node) :
    (a.setIfInBounds i x).modify i f = a.setIfInBounds i (f x) := by
  apply Array.ext'
  simp only [Array.toList_modify, Array.toList_setIfInBounds]
  exact list_modify_set _ _ _ _

theorem setIfInBounds_self (a : Array Node) (i : Nat) (n : Node) (h : a[i]? = some n) : a.setIfInBounds i n = a := by
  apply Array.ext'
  simp only [Array.toList_setIfInBounds]
  exact set_same _ _ _ (by simpa using h)

/-! ### the annotation state over an arbitrary table

`annG base m rs i nd rn`: `base` inside an annotation (mode `m`, rule-loader state `rs`, pending rule name `rn`) bound to
node `i`, which holds `nd`. -/

def annG (base : St) (m : Mode) (rs : RS) (i : Nat) (nd : Node) (rn : Nat × Nat) : St :=
  { base with nodes := base.nodes.setIfInBounds i nd, mode := m, rs := rs, rsNode := some i, rsCount := 1, ruleName := rn }

theorem annG_upd (base : St) (m : Mode) (rs rs' : RS) (i : Nat) (nd : Node) (rn : Nat × Nat) (f : Node → Node) :
    { updNode (annG base m rs i nd rn) i f with rs := rs' } = annG base m rs' i (f nd) rn := by
  simp only [updNode, annG, modify_setIfInBounds]

/-- a new-line event inside an annotation, in a rule-loader state that ignores it (`nlOK`, `LoaderProofs`) -/
theorem g_nl (src : Array UInt8) (base : St) (m : Mode) (hm : m ≠ .default) (rs : RS) (hrs : nlOK rs = true) (i : Nat)
    (nd : Node) (rn : Nat × Nat) (e : Ev) (he : e.ty = .newLine) :
    step src (annG base m rs i nd rn) e = .ok (annG base m rs i nd rn) := by
  rw [step_newLine_ann src _ _ he (by simpa [annG] using hm)]
  exact ruleLoad_newLine_ok src _ _ he hrs

/-- The transitions of the rule loader on the events of a rule object with literal and list values: from state `rs`
with node `nd` and pending rule name `rn`, the event leads to state `rs'` with node `nd'` and pending name `rn'`. One row
per `case` of `ruleLoader.load` that such an object meets. -/
inductive Moves (src : Array UInt8) (nd : Node) (rn : Nat × Nat) : RS → Ev → RS → Node → Nat × Nat → Prop
  | objB (x y : Nat) : Moves src nd rn .begin ⟨.objB, x, y⟩ .keyOrObjectEnd nd rn
  | keyB (x y : Nat) : Moves src nd rn .keyOrObjectEnd ⟨.keyB, x, y⟩ .keyOrObjectEnd nd rn
  | keyE (x y : Nat) : Moves src nd rn .keyOrObjectEnd ⟨.keyE, x, y⟩ .valueBegin nd (x, y)
  | valB (x y : Nat) : Moves src nd rn .valueBegin ⟨.valB, x, y⟩ .value nd rn
  /-- `or` / `enum` / `allOf`: the rule is added at the start of its value, the value's span at its end -/
  | embLit (x y : Nat) (h : isEmbName src rn = true) : Moves src nd rn .value ⟨.litB, x, y⟩ .embLiteral
      { nd with rules := nd.rules ++ [.inl rn], ruleVals := nd.ruleVals ++ [none] } rn
  | embArr (x y : Nat) (h : isEmbName src rn = true) : Moves src nd rn .value ⟨.arrB, x, y⟩ (.embContainer 1)
      { nd with rules := nd.rules ++ [.inl rn], ruleVals := nd.ruleVals ++ [none] } rn
  | lit (x y : Nat) (h : isEmbName src rn = false) : Moves src nd rn .value ⟨.litB, x, y⟩ .valueLiteral nd rn
  | embLitE (x y : Nat) : Moves src nd rn .embLiteral ⟨.litE, x, y⟩ .valueEnd
      { nd with ruleVals := nd.ruleVals.dropLast ++ [some (x, y)] } rn
  | litE (x y : Nat) : Moves src nd rn .valueLiteral ⟨.litE, x, y⟩ .valueEnd
      { nd with rules := nd.rules ++ [.inl rn], ruleVals := nd.ruleVals ++ [some (x, y)] } rn
  /-- inside the list: depth `1` throughout, the items being literals -/
  | skip (t : LexT) (ht : t = .itemB ∨ t = .litB ∨ t = .litE ∨ t = .itemE) (x y : Nat) :
    Moves src nd rn (.embContainer 1) ⟨t, x, y⟩ (.embContainer 1) nd rn
  | embArrE (x y : Nat) : Moves src nd rn (.embContainer 1) ⟨.arrE, x, y⟩ .valueEnd
      { nd with ruleVals := nd.ruleVals.dropLast ++ [some (x, y)] } rn
  | valE (x y : Nat) : Moves src nd rn .valueEnd ⟨.valE, x, y⟩ .keyOrObjectEnd nd rn
  | objE (x y : Nat) : Moves src nd rn .keyOrObjectEnd ⟨.objE, x, y⟩ .commentTextBegin nd rn

/-- a row that updates the node: `step` gives `updNode` on the table, which is `annG` of the updated node -/
theorem step_annG_upd {src : Array UInt8} {base : St} {m : Mode} {rs rs' : RS} {i : Nat} {nd : Node} {rn : Nat × Nat}
    {e : Ev} (f : Node → Node)
    (h : step src (annG base m rs i nd rn) e = .ok { updNode (annG base m rs i nd rn) i f with rs := rs' }) :
    step src (annG base m rs i nd rn) e = .ok (annG base m rs' i (f nd) rn) := by
  rw [h, annG_upd]

theorem Moves.step (src : Array UInt8) (base : St) {m : Mode} (hm : m ≠ .default) (i : Nat) (nd : Node) (rn : Nat × Nat)
    {nd' : Node} {rn' : Nat × Nat} {rs rs' : RS} {e : Ev} (h : Moves src nd rn rs e rs' nd' rn') :
    Loader.step src (annG base m rs i nd rn) e = .ok (annG base m rs' i nd' rn') := by
  -- none of these events opens or closes an annotation: inside one, `step` hands them to `ruleLoad` (`if_pos hm'`)
  have hm' : (m != .default) = true := by cases m <;> first | exact absurd rfl hm | rfl
  cases h with
  | embLit x y h =>
    simp only [isEmbName] at h
    exact step_annG_upd (fun n => { n with rules := n.rules ++ [.inl rn], ruleVals := n.ruleVals ++ [none] })
      ((if_pos hm').trans (by simp only [annG, ruleLoad, h]; rfl))
  | embArr x y h =>
    simp only [isEmbName] at h
    exact step_annG_upd (fun n => { n with rules := n.rules ++ [.inl rn], ruleVals := n.ruleVals ++ [none] })
      ((if_pos hm').trans (by simp only [annG, ruleLoad, h]; rfl))
  | lit x y h =>
    simp only [isEmbName] at h
    exact (if_pos hm').trans (by simp only [annG, ruleLoad, h]; rfl)
  | embLitE x y =>
    exact step_annG_upd (fun n => { n with ruleVals := n.ruleVals.dropLast ++ [some (x, y)] }) ((if_pos hm').trans rfl)
  | embArrE x y =>
    exact step_annG_upd (fun n => { n with ruleVals := n.ruleVals.dropLast ++ [some (x, y)] }) ((if_pos hm').trans rfl)
  | litE x y =>
    exact step_annG_upd (fun n => { n with rules := n.rules ++ [.inl rn], ruleVals := n.ruleVals ++ [some (x, y)] })
      ((if_pos hm').trans rfl)
  | skip t ht x y => rcases ht with rfl | rfl | rfl | rfl <;> exact (if_pos hm').trans rfl
  | _ => exact (if_pos hm').trans rfl

theorem g_txtB (src : Array UInt8) (base : St) (a : Ann) (ha : a.isAnn = true) (i : Nat) (nd : Node) (rn : Nat × Nat)
    (x y : Nat) :
    step src (annG base (modeOf a) .commentTextBegin i nd rn) ⟨a.TB, x, y⟩
      = .ok (annG base (modeOf a) .commentTextEnd i nd rn) := by
  cases a <;> simp [Ann.isAnn] at ha <;> rfl

theorem g_txtE (src : Array UInt8) (base : St) (a : Ann) (ha : a.isAnn = true) (i : Nat) (nd : Node) (rn : Nat × Nat)
    (x y : Nat) :
    step src (annG base (modeOf a) .commentTextEnd i nd rn) ⟨a.TE, x, y⟩
      = .ok (annG base (modeOf a) .endOfLoading i { nd with comment := some (x, y) } rn) := by
  have h1 : step src (annG base (modeOf a) .commentTextEnd i nd rn) ⟨a.TE, x, y⟩
      = .ok { updNode (annG base (modeOf a) .commentTextEnd i nd rn) i
          (fun n => { n with comment := some (x, y) }) with rs := .endOfLoading } := by
    cases a <;> simp [Ann.isAnn] at ha <;> rfl
  rw [h1, annG_upd]

theorem g_annE (src : Array UInt8) (base : St) (a : Ann) (ha : a.isAnn = true) (rs : RS) (i : Nat) (nd : Node)
    (rn : Nat × Nat) (x y : Nat) :
    step src (annG base (modeOf a) rs i nd rn) ⟨a.E, x, y⟩ = .ok { annG base (modeOf a) rs i nd rn with mode := .default } := by
  cases a <;> simp [Ann.isAnn] at ha <;> rfl

/-! ### new-line events, spans, the note -/

theorem nl_foldG (src : Array UInt8) (base : St) (m : Mode) (hm : m ≠ .default) (rs : RS) (hrs : nlOK rs = true) (i : Nat)
    (nd : Node) (rn : Nat × Nat) : ∀ (evs : List Ev), (∀ e ∈ evs, e.ty = .newLine) →
    Fold src evs (annG base m rs i nd rn) (annG base m rs i nd rn)
  | [], _ => Fold.nil _ _
  | e :: evs, h =>
    Fold.cons (g_nl src base m hm rs hrs i nd rn e (h e (by simp)))
      (nl_foldG src base m hm rs hrs i nd rn evs (fun x hx => h x (by simp [hx])))

/-- `nd` with one rule per name span, and the value spans beside them -/
def addSpans (nd : Node) (sps vsps : List (Nat × Nat)) : Node :=
  { nd with rules := nd.rules ++ sps.map .inl, ruleVals := nd.ruleVals ++ vsps.map some }

theorem addSpans_cons (nd : Node) (sp vsp : Nat × Nat) (sps vsps : List (Nat × Nat)) :
    addSpans { nd with rules := nd.rules ++ [.inl sp], ruleVals := nd.ruleVals ++ [some vsp] } sps vsps
      = addSpans nd (sp :: sps) (vsp :: vsps) := by
  simp [addSpans, List.append_assoc]

/-- new-line events outside annotations keep the node table -/
theorem nl_fold_default (src : Array UInt8) : ∀ (evs : List Ev) (s : St), (∀ e ∈ evs, e.ty = .newLine) →
    s.mode = .default → ∃ s', Fold src evs s s' ∧ s'.nodes = s.nodes ∧ s'.root = s.root
  | [], s, _, _ => ⟨s, Fold.nil _ _, rfl, rfl⟩
  | e :: evs, s, he, hm => by
    obtain ⟨s', f, hn, hr⟩ := nl_fold_default src evs { s with perLine := 0 } (fun x hx => he x (by simp [hx])) hm
    exact ⟨s', Fold.cons (step_newLine_default src s e (he e (by simp)) hm) f, hn, hr⟩

theorem nlEvs_ty : ∀ (o : Nat) (ws : List Cls), ∀ e ∈ nlEvs o ws, e.ty = .newLine
  | _, [], e, h => by simp [nlEvs] at h
  | o, c :: ws, e, h => by
    simp only [nlEvs, List.mem_append] at h
    rcases h with h | h
    · split at h
      · simp only [List.mem_singleton] at h; subst h; rfl
      · simp at h
    · exact nlEvs_ty (o + 1) ws e h

theorem nl_fold (src : Array UInt8) (base : St) (m : Mode) (hm : m ≠ .default) (rs : RS) (hrs : nlOK rs = true) (i : Nat)
    (nd : Node) (rn : Nat × Nat) (ws : List Cls) (o : Nat) :
    Fold src (nlEvs o ws) (annG base m rs i nd rn) (annG base m rs i nd rn) :=
  nl_foldG src base m hm rs hrs i nd rn _ (nlEvs_ty o ws)

/-- the note events -/
def noteEvs (a : Ann) : Option (Nat × Nat) → List Ev
  | none => []
  | some (q, e) => [⟨a.TB, q, q⟩, ⟨a.TE, q, e⟩]

/-- `nd` with the note's span, if there is a note -/
def setNote (nd : Node) : Option (Nat × Nat) → Node
  | none => nd
  | some sp => { nd with comment := some sp }

/-- **an annotation over an arbitrary table**: from a state in default mode whose last node is `i` (exactly one node
on the line), the events of `{rules} [- note]` between the annotation-begin and -end lexemes (new-line events `pre`,
`mid` anywhere blanks are; `bevs` the events of the rule object, `hobj` its fold, which turns the node into `nd'` — from
any pending rule name `rn`, since at entry the state's `ruleName` is whatever `st` holds) put
`nd'` with the note in place of node `i`; every other field the node loader reads is kept -/
theorem ann_fold_of (src : Array UInt8) (a : Ann) (ha : a.isAnn = true) (st : St) (i : Nat) (nd : Node)
    (hm : st.mode = .default) (hl : st.last = some i) (hp : st.perLine = 1) (hn : st.nodes[i]? = some nd)
    (pre mid : List Ev) (hpre : ∀ e ∈ pre, e.ty = .newLine) (hmid : ∀ e ∈ mid, e.ty = .newLine) (bevs : List Ev) (nd' : Node)
    (hobj : ∀ rn, ∃ rn', Fold src bevs (annG st (modeOf a) .keyOrObjectEnd i nd rn) (annG st (modeOf a) .commentTextBegin i nd' rn'))
    (o x y x2 y2 : Nat) (nt : Option (Nat × Nat)) :
    ∃ st', Fold src (⟨a.B, x, y⟩ :: (pre ++ (⟨.objB, o, o⟩ :: (bevs ++ (mid ++ (noteEvs a nt ++ [⟨a.E, x2, y2⟩])))))) st st' ∧
      st'.nodes = st.nodes.setIfInBounds i (setNote nd' nt) ∧
      st'.leaf = st.leaf ∧ st'.last = st.last ∧ st'.perLine = st.perLine ∧ st'.root = st.root ∧ st'.mode = .default := by
  have hmo := @modeOf_ne a
  have f0 : Fold src [⟨a.B, x, y⟩] st (annG st (modeOf a) .begin i nd st.ruleName) := by
    apply Fold.one
    have e1 : annG st (modeOf a) .begin i nd st.ruleName
        = { st with mode := modeOf a, rs := .begin, rsNode := st.last, rsCount := st.perLine } := by
      simp only [annG, setIfInBounds_self _ _ _ hn, hl, hp]
    rw [e1]
    cases a <;> simp [Ann.isAnn] at ha <;> simp [step, hm, modeOf, Ann.B, pure, Except.pure]
  have f1 := nl_foldG src st (modeOf a) hmo .begin rfl i nd st.ruleName pre hpre
  have f2 := Fold.one (Moves.step src st hmo i nd st.ruleName (.objB o o))
  obtain ⟨rn', f3⟩ := hobj st.ruleName
  have f4 := nl_foldG src st (modeOf a) hmo .commentTextBegin rfl i nd' rn' mid hmid
  cases nt with
  | none =>
    have f5 := Fold.one (g_annE src st a ha .commentTextBegin i nd' rn' x2 y2)
    refine ⟨_, (Fold.trans f0 (Fold.trans f1 (Fold.trans f2 (Fold.trans f3 (Fold.trans f4 f5))))).cast ?_ rfl,
      rfl, rfl, rfl, rfl, rfl, rfl⟩
    simp [noteEvs]
  | some sp =>
    obtain ⟨q, e⟩ := sp
    have g1 := Fold.one (g_txtB src st a ha i nd' rn' q q)
    have g2 := Fold.one (g_txtE src st a ha i nd' rn' q e)
    have g3 := Fold.one (g_annE src st a ha .endOfLoading i
      { nd' with comment := some (q, e) } rn' x2 y2)
    refine ⟨_, (Fold.trans f0 (Fold.trans f1 (Fold.trans f2 (Fold.trans f3 (Fold.trans f4
      (Fold.trans g1 (Fold.trans g2 g3))))))).cast ?_ rfl, rfl, rfl, rfl, rfl, rfl, rfl⟩
    simp [noteEvs]

/-- the loader state behind a top-level scalar whose token ends at `e` -/
def lit1 (e : Nat) : St :=
  { nodes := #[{ kind := .lit, parent := none, value := some (0, e) }], root := some 0, leaf := none, last := some 0,
    perLine := 1 }

theorem annSt_eq (m : Mode) (rs : RS) (nd : Node) (rn : Nat × Nat) (e : Nat) :
    annSt m rs nd rn 1 = annG (lit1 e) m rs 0 nd rn := rfl

/-- **the loader on an annotated top-level scalar**, for any rule object (its fold `hobj`), with or without a note, whatever
new-line events follow: `ann_fold_of` behind the scalar's two events -/
theorem scalar_ann_fold (src : Array UInt8) (a : Ann) (ha : a.isAnn = true) (e : Nat) (pre mid : List Ev)
    (hpre : ∀ x ∈ pre, x.ty = .newLine) (hmid : ∀ x ∈ mid, x.ty = .newLine) (bevs : List Ev) (nd' : Node)
    (hobj : ∀ rn, ∃ rn', Fold src bevs
      (annG (lit1 e) (modeOf a) .keyOrObjectEnd 0 { kind := .lit, parent := none, value := some (0, e) } rn)
      (annG (lit1 e) (modeOf a) .commentTextBegin 0 nd' rn'))
    (o x y x2 y2 : Nat) (nt : Option (Nat × Nat)) (rest : List Ev) (hrest : ∀ x ∈ rest, x.ty = .newLine) :
    ∃ st, Fold src (⟨.litB, 0, 0⟩ :: ⟨.litE, 0, e⟩ :: ⟨a.B, x, y⟩ ::
        (pre ++ (⟨.objB, o, o⟩ :: (bevs ++ (mid ++ (noteEvs a nt ++ (⟨a.E, x2, y2⟩ :: rest))))))) {} st ∧
      st.root = some 0 ∧ st.nodes = #[setNote nd' nt] := by
  have f0 : Fold src [⟨.litB, 0, 0⟩, ⟨.litE, 0, e⟩] {} (lit1 e) := rfl
  obtain ⟨s1, f1, hn, _, _, _, hr, hm⟩ := ann_fold_of src a ha (lit1 e) 0 _ rfl rfl rfl rfl pre mid hpre hmid bevs nd' hobj
    o x y x2 y2 nt
  obtain ⟨st, f2, hn2, hr2⟩ := nl_fold_default src rest s1 hrest hm
  refine ⟨st, (Fold.trans f0 (Fold.trans f1 f2)).cast (by simp) rfl, by rw [hr2, hr]; rfl, by rw [hn2, hn]; rfl⟩

/-- the tail of an annotated scalar without note: the closing lexeme, then new-line events only -/
theorem tailEvs_split {a : Ann} (ha : a.isAnn = true) (y t : Nat) (tl : List Cls) :
    ∃ x2 y2 rest, tailEvs y t a tl = ⟨a.E, x2, y2⟩ :: rest ∧ ∀ e ∈ rest, e.ty = .newLine := by
  cases a with
  | none => simp [Ann.isAnn] at ha
  | multi => exact ⟨_, _, _, rfl, nlEvs_ty _ _⟩
  | inline =>
    cases tl with
    | nil => exact ⟨_, _, [], rfl, by simp⟩
    | cons c w =>
      refine ⟨_, _, _, rfl, ?_⟩
      intro e he
      simp only [List.mem_cons] at he
      rcases he with rfl | he
      · rfl
      · exact nlEvs_ty _ _ e he

/-- the loader on the events of an annotated scalar without note, for any rule object: one node, the one its fold leaves -/
theorem annot_fold_of (src : Array UInt8) (a : Ann) (ha : a.isAnn = true) (tok s1 s2 : List Cls)
    (bevs : List Ev) (blen : Nat) (nd' : Node)
    (hobj : ∀ rn, ∃ rn', Fold src bevs
      (annG (lit1 (tok.length - 1)) (modeOf a) .keyOrObjectEnd 0 { kind := .lit, parent := none, value := some (0, tok.length - 1) } rn)
      (annG (lit1 (tok.length - 1)) (modeOf a) .commentTextBegin 0 nd' rn')) (s3 tl : List Cls) (t : Nat) :
    ∃ st, Fold src
      (⟨.litB, 0, 0⟩ :: ⟨.litE, 0, tok.length - 1⟩ :: ⟨a.B, SchemaScan.annOff tok s1, SchemaScan.annOff tok s1 + 1⟩ ::
        (nlEvs (SchemaScan.annOff tok s1 + 2) s2 ++ (⟨.objB, SchemaScan.objOff tok s1 s2, SchemaScan.objOff tok s1 s2⟩ ::
          (bevs ++ (nlEvs (SchemaScan.objOff tok s1 s2 + 1 + blen + 1) s3 ++
            tailEvs (SchemaScan.annOff tok s1) t a tl))))) {} st ∧ st.root = some 0 ∧ st.nodes = #[nd'] := by
  obtain ⟨x2, y2, rest, hte, hrest⟩ := tailEvs_split ha (SchemaScan.annOff tok s1) t tl
  obtain ⟨st, f, hr, hn⟩ := scalar_ann_fold src a ha (tok.length - 1) _ _ (nlEvs_ty (SchemaScan.annOff tok s1 + 2) s2)
    (nlEvs_ty (SchemaScan.objOff tok s1 s2 + 1 + blen + 1) s3) bevs nd' hobj (SchemaScan.objOff tok s1 s2)
    (SchemaScan.annOff tok s1) (SchemaScan.annOff tok s1 + 1) x2 y2 none rest hrest
  exact ⟨st, f.cast (by simp [hte, noteEvs]) rfl, hr, hn⟩

end Loader
