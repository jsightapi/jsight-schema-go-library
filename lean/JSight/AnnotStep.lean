import JSight.SchemaCommentRun
import JSight.LayoutPlain
import JSight.ByteLemmas
/-!
C13, inline versus multi-line annotations: single-byte behaviour of the schema scanner model inside an annotation
`// {name: value, …} - note` / `/* {name: value, …} - note */` (wherever it stands: any return stack, lexeme stack and
context) — `dispatch` at explicit configurations `cfgG lc a q`: the annotation mode `a`, the `boundaryQuote` flag `q` and the `lengthComputing` flag `lc`
are parameters (`cfgA a`, `cfgQ a q`, `Len.cfgL lc`, `Len.cfgAL lc a` are its special cases; no branch taken inside an
annotation reads `lc`). The steps that look further than one state function (`step_…`, `endValue_close`) are stated
for an arbitrary scanner state, with hypotheses on the fields the branch reads.  A lemma whose name ends in `Q`, here
and in the modules that follow, has the flag `q` as an explicit argument; the lemmas about the note, which no branch
reads the flag for, carry it as the implicit `qb`.
-/
namespace SchemaScan

/-- a scanner state with the annotation mode `a` -/
def cfgA (a : Ann) (st : St) (ret : List St) (K : List (LexT × Nat)) (u : Bool) (i : Nat) (CS : List Ctx) (cx : Ctx)
    (al : Bool) : Sc :=
  { step := st, ret := ret, stack := K, ctxStack := CS, ctx := cx, finds := [], index := i, ann := a, unf := u,
    lengthComputing := false, boundaryQuote := false, allowAnnotation := al, hasTrailing := false }

theorem cfgA_none (st : St) (ret : List St) (K : List (LexT × Nat)) (u : Bool) (i : Nat) (CS : List Ctx) (cx : Ctx)
    (al : Bool) : cfgA .none st ret K u i CS cx al = cfg st ret K u i CS cx al := rfl

/-- `cfgA` with the scanner's `boundaryQuote` flag as a parameter `q`: a quoted rule name sets the flag and only the
next bare name clears it -/
def cfgQ (a : Ann) (q : Bool) (st : St) (ret : List St) (K : List (LexT × Nat)) (u : Bool) (i : Nat) (CS : List Ctx)
    (cx : Ctx) (al : Bool) : Sc :=
  { step := st, ret := ret, stack := K, ctxStack := CS, ctx := cx, finds := [], index := i, ann := a, unf := u,
    lengthComputing := false, boundaryQuote := q, allowAnnotation := al, hasTrailing := false }

/-- the configurations of the run lemmas: `cfgQ` with the `lengthComputing` flag as a parameter too. The event mode
(`cfgQ a q`, `cfgA a`, `cfg`) is `lc = false`; the length mode (`Len.cfgAL lc a`, `Len.cfgL lc`) is `q = false`. -/
def cfgG (lc : Bool) (a : Ann) (q : Bool) (st : St) (ret : List St) (K : List (LexT × Nat)) (u : Bool) (i : Nat)
    (CS : List Ctx) (cx : Ctx) (al : Bool) : Sc :=
  { step := st, ret := ret, stack := K, ctxStack := CS, ctx := cx, finds := [], index := i, ann := a, unf := u,
    lengthComputing := lc, boundaryQuote := q, allowAnnotation := al, hasTrailing := false }

theorem cfgG_false : @cfgG false = @cfgQ := rfl
theorem cfgG_none {lc : Bool} : @cfgG lc .none false = @Len.cfgL lc := rfl

variable {lc : Bool}

/-- `a` is one of the two annotation modes, inline or multi-line -/
def Ann.isAnn : Ann → Bool | .none => false | _ => true
/-- the opening lexeme of the mode; `Ann.E` is the closing one, `Ann.startSt` the state behind the opening marker,
`Ann.prefixSt` the state after the rule object -/
def Ann.B : Ann → LexT | .multi => .mlAnnB | _ => .inlAnnB
def Ann.E : Ann → LexT | .multi => .mlAnnE | _ => .inlAnnE
def Ann.prefixSt : Ann → St | .multi => .mlTxtPrefix | _ => .inlTxtPrefix
def Ann.startSt : Ann → St | .multi => .mlAnn | _ => .inlAnn
/-- the second byte of the opening marker -/
def Ann.mark : Ann → Cls | .multi => .star | _ => .slash

/-- blanks inside an annotation: space and tab; a line break in the multi-line form only -/
def Ann.okBlank (a : Ann) (c : Cls) : Bool := c.isSpTab || (a == .multi && c == .nl)

/-! ### blanks inside an annotation -/

/-- the states inside an annotation that skip blanks -/
def aLoop (a : Ann) : St → Bool
  | .objKeyOrEmpty | .objKey | .objKeyAfterNL | .objValue | .afterValue | .arrItemOrEmpty | .arrItem | .afterItem => true
  | st => st == a.prefixSt || st == a.startSt

theorem aloop_spQ (f : Nat) (q : Bool) (a : Ann) (ha : a.isAnn = true) (st : St) (h : aLoop a st = true) (c : Cls)
    (hc : c.isSpTab = true) (r : List St)
    (K : List (LexT × Nat)) (i : Nat) (CS : List Ctx) (cx : Ctx) (al : Bool) (p1 p2 : Option Cls) :
    dispatch (f + 1) st (cfgG lc a q st r K false i CS cx al) c p1 p2 = .ok (cfgG lc a q st r K false i CS cx al) := by
  cases c <;> cases hc <;> cases a <;> cases ha <;> cases st <;> cases h <;> (unfold dispatch; rfl)

theorem aloop_nlQ (f : Nat) (q : Bool) (st : St) (h : aLoop .multi st = true) (r : List St)
    (K : List (LexT × Nat)) (i : Nat) (CS : List Ctx) (cx : Ctx) (al : Bool) (p1 p2 : Option Cls) :
    dispatch (f + 1) st (cfgG lc .multi q st r K false i CS cx al) .nl p1 p2
      = .ok { cfgG lc .multi q (nlSt st) r K false i CS cx al with finds := [.newLine] } := by
  cases st <;> cases h <;> (unfold dispatch; rfl)

theorem keySt_aLoop {a : Ann} {st : St} (h : keySt st = true) : aLoop a st = true := by
  cases st <;> simp [keySt] at h <;> rfl

/-! ### the start of the annotation -/

theorem root_slash (f : Nat) (K : List (LexT × Nat)) (i : Nat) (CS : List Ctx) (cx : Ctx) (fs : List LexT)
    (p1 p2 : Option Cls) :
    dispatch (f + 1) .endTop { cfgG lc .none false .endTop [] K false i CS cx true with finds := fs } .slash p1 p2
      = .ok { cfgG lc .none false .anyAnnStart [.endTop] K false i CS cx true with finds := fs } := by
  unfold dispatch; rfl

theorem ann_mark (f : Nat) (a : Ann) (ha : a.isAnn = true) (r : List St)
    (K : List (LexT × Nat)) (i : Nat) (CS : List Ctx) (cx : Ctx) (al : Bool) (p1 p2 : Option Cls) :
    dispatch (f + 1) .anyAnnStart (cfgG lc .none false .anyAnnStart r K false i CS cx al) a.mark p1 p2
      = .ok { cfgG lc a false a.startSt r K false i CS cx al with finds := [a.B] } := by
  cases a <;> cases ha <;> (unfold dispatch; rfl)

theorem ann_sp (f : Nat) (a : Ann) (ha : a.isAnn = true) (c : Cls) (hc : c.isSpTab = true) (r : List St)
    (K : List (LexT × Nat)) (i : Nat) (CS : List Ctx) (cx : Ctx) (al : Bool) (p1 p2 : Option Cls) :
    dispatch (f + 1) a.startSt (cfgA a a.startSt r K false i CS cx al) c p1 p2
      = .ok (cfgA a a.startSt r K false i CS cx al) :=
  aloop_spQ f false a ha a.startSt (by cases a <;> cases ha <;> rfl) c hc r K i CS cx al p1 p2

theorem mlAnn_nl (f : Nat) (r : List St)
    (K : List (LexT × Nat)) (i : Nat) (CS : List Ctx) (cx : Ctx) (al : Bool) (p1 p2 : Option Cls) :
    dispatch (f + 1) .mlAnn (cfgA .multi .mlAnn r K false i CS cx al) .nl p1 p2
      = .ok { cfgA .multi .mlAnn r K false i CS cx al with finds := [.newLine] } :=
  aloop_nlQ f false .mlAnn rfl r K i CS cx al p1 p2

theorem ann_lbrace (f : Nat) (a : Ann) (ha : a.isAnn = true) (r : List St)
    (K : List (LexT × Nat)) (i : Nat) (CS : List Ctx) (cx : Ctx) (al : Bool) (p1 p2 : Option Cls) :
    dispatch (f + 2) a.startSt (cfgG lc a false a.startSt r K false i CS cx al) .lbrace p1 p2
      = .ok { cfgG lc a false .objKeyOrEmpty r K false i (cx :: CS) { ty := .object } al with finds := [.objB] } := by
  cases a <;> cases ha
  · rw [show Ann.inline.startSt = .inlAnn from rfl, dispatch_inlAnn, dispatch_foundRoot]; rfl
  · rw [show Ann.multi.startSt = .mlAnn from rfl, dispatch_mlAnn, dispatch_foundRoot]; rfl

/-! ### rule names -/

theorem akey_sp (f : Nat) (a : Ann) (st : St) (h : keySt st = true) (c : Cls) (hc : c.isSpTab = true) (r : List St)
    (K : List (LexT × Nat)) (i : Nat) (CS : List Ctx) (cx : Ctx) (al : Bool) (p1 p2 : Option Cls) :
    dispatch (f + 1) st (cfgA a st r K false i CS cx al) c p1 p2 = .ok (cfgA a st r K false i CS cx al) := by
  cases c <;> cases hc <;> cases st <;> cases h <;> cases a <;> (unfold dispatch; rfl)

theorem akey_nl (f : Nat) (st : St) (h : keySt st = true) (r : List St)
    (K : List (LexT × Nat)) (i : Nat) (CS : List Ctx) (cx : Ctx) (al : Bool) (p1 p2 : Option Cls) :
    dispatch (f + 1) st (cfgA .multi st r K false i CS cx al) .nl p1 p2
      = .ok { cfgA .multi (nlSt st) r K false i CS cx al with finds := [.newLine] } :=
  aloop_nlQ f false st (keySt_aLoop h) r K i CS cx al p1 p2

/-- first byte of a bare rule name, whatever the rest of the scanner state is: the `boundaryQuote` flag is cleared -/
theorem step_akey_first (f : Nat) (a : Ann) (ha : a.isAnn = true) (st : St) (h : keySt st = true) (c : Cls)
    (hc : c.isName = true) (s : Sc) (hs : s.ann = a) (p1 p2 : Option Cls) :
    dispatch (f + 1) st s c p1 p2 = .ok { found s .keyB with boundaryQuote := false, step := .annKey } := by
  obtain ⟨st0, r, K, CS, cx, fs, i, a, u, lc, q, al, tr⟩ := s
  subst hs
  cases st <;> cases h <;> cases a <;> cases ha
  all_goals simp only [dispatch_objKeyOrEmpty, dispatch_objKey, dispatch_objKeyAfterNL, beginAnnKeyOrEmpty_eq]
  all_goals cases c <;> cases hc <;> rfl

theorem annKey_name (f : Nat) (a : Ann) (c : Cls) (hc : c.isName = true) (r : List St)
    (K : List (LexT × Nat)) (i : Nat) (CS : List Ctx) (cx : Ctx) (al : Bool) (p1 p2 : Option Cls) :
    dispatch (f + 1) .annKey (cfgG lc a false .annKey r K false i CS cx al) c p1 p2
      = .ok (cfgG lc a false .annKey r K false i CS cx al) := by
  cases c <;> cases hc <;> (unfold dispatch; rfl)

theorem annKey_sp (f : Nat) (a : Ann) (r : List St)
    (K : List (LexT × Nat)) (i : Nat) (CS : List Ctx) (cx : Ctx) (al : Bool) (p1 p2 : Option Cls) :
    dispatch (f + 1) .annKey (cfgG lc a false .annKey r K false i CS cx al) .sp p1 p2
      = .ok (cfgG lc a false .annKeyAfter r K false i CS cx al) := by
  unfold dispatch; rfl

theorem annKeyAfter_sp (f : Nat) (a : Ann) (r : List St)
    (K : List (LexT × Nat)) (i : Nat) (CS : List Ctx) (cx : Ctx) (al : Bool) (p1 p2 : Option Cls) :
    dispatch (f + 1) .annKeyAfter (cfgG lc a false .annKeyAfter r K false i CS cx al) .sp p1 p2
      = .ok (cfgG lc a false .annKeyAfter r K false i CS cx al) := by
  unfold dispatch; rfl

def keyEndSt : St → Bool | .annKey | .annKeyAfter => true | _ => false

/-- `stateEndValue` closes the pending pairs and hands the byte to the after-state, whatever the rest of the
scanner state is -/
theorem endValue_close (f : Nat) (lit : Bool) (ck : CK) (b b2 : Nat) (R : List (LexT × Nat)) (s : Sc)
    (hK : s.stack = pendOf lit b ++ (ck.B, b2) :: R) (c : Cls) (p1 p2 : Option Cls) :
    endValue f s c p1 p2
      = dispatch f ck.aft { found (if lit then found s .litE else s) ck.E with step := ck.aft } c p1 p2 := by
  obtain ⟨st, r, K, CS, cx, fs, i, a, u, lc, q, al, tr⟩ := s
  subst hK
  cases lit <;> cases ck <;> (unfold endValue dispatch'; rfl)

/-- `:` behind a rule name whose `keyB` is on top of the stack -/
theorem endValue_key_colon (f : Nat) (s : Sc) (p : Nat) (K : List (LexT × Nat)) (hK : s.stack = (.keyB, p) :: K)
    (p1 p2 : Option Cls) :
    endValue (f + 1) s .colon p1 p2 = .ok { found s .keyE with step := .objValue } := by
  rw [endValue_close (f + 1) false .key 0 p K s hK, show CK.key.aft = .afterKey from rfl, dispatch_afterKey]
  rfl

/-- the colon after a bare rule name: the key ends, the value is looked for -/
theorem step_annKey_colon (f : Nat) (st : St) (h : keyEndSt st = true) (s : Sc) (hq : s.boundaryQuote = false)
    (p : Nat) (K : List (LexT × Nat)) (hK : s.stack = (.keyB, p) :: K) (p1 p2 : Option Cls) :
    dispatch (f + 3) st s .colon p1 p2 = .ok { found s .keyE with step := .objValue } := by
  cases st <;> cases h
  · rw [dispatch_annKey, hq, endValue_key_colon (f + 1) s p K hK]; rfl
  · rw [dispatch_annKeyAfter, hq, endValue_key_colon (f + 1) s p K hK]; rfl

theorem annKey_colon (f : Nat) (a : Ann) (st : St) (h : keyEndSt st = true) (r : List St) (p : Nat)
    (K : List (LexT × Nat)) (i : Nat) (CS : List Ctx) (cx : Ctx) (al : Bool) (p1 p2 : Option Cls) :
    dispatch (f + 3) st (cfgG lc a false st r ((.keyB, p) :: K) false i CS cx al) .colon p1 p2
      = .ok { cfgG lc a false .objValue r ((.keyB, p) :: K) false i CS cx al with finds := [.keyE] } :=
  step_annKey_colon f st h (cfgG lc a false st r ((.keyB, p) :: K) false i CS cx al) rfl p K rfl p1 p2

/-! ### rule values -/

theorem aval_sp (f : Nat) (a : Ann) (c : Cls) (hc : c.isSpTab = true) (r : List St)
    (K : List (LexT × Nat)) (i : Nat) (CS : List Ctx) (cx : Ctx) (al : Bool) (p1 p2 : Option Cls) :
    dispatch (f + 1) .objValue (cfgA a .objValue r K false i CS cx al) c p1 p2
      = .ok (cfgA a .objValue r K false i CS cx al) := by
  cases c <;> cases hc <;> cases a <;> (unfold dispatch; rfl)

theorem aval_nl (f : Nat) (r : List St)
    (K : List (LexT × Nat)) (i : Nat) (CS : List Ctx) (cx : Ctx) (al : Bool) (p1 p2 : Option Cls) :
    dispatch (f + 1) .objValue (cfgA .multi .objValue r K false i CS cx al) .nl p1 p2
      = .ok { cfgA .multi .objValue r K false i CS cx al with finds := [.newLine] } :=
  aloop_nlQ f false .objValue rfl r K i CS cx al p1 p2

/-! ### after a rule value -/

/-- `}` behind blanks, or closing an empty rule object, or behind a trailing comma -/
theorem aobj_rbraceQ (f : Nat) (q : Bool) (a : Ann) (ha : a.isAnn = true) (st : St)
    (h : keySt st = true ∨ st = .afterValue) (r : List St) (o y : Nat)
    (R : List (LexT × Nat)) (i : Nat) (c0 : Ctx) (CS : List Ctx) (cx : Ctx) (al : Bool) (p1 p2 : Option Cls) :
    dispatch (f + 1) st (cfgG lc a q st r ((.objB, o) :: (a.B, y) :: R) false i (c0 :: CS) cx al) .rbrace p1 p2
      = .ok { cfgG lc a q a.prefixSt r ((.objB, o) :: (a.B, y) :: R) false i CS c0 al with finds := [.objE] } := by
  rcases h with h | rfl
  · cases a <;> cases ha <;> cases st <;> cases h <;>
      (unfold dispatch; unfold beginAnnKeyOrEmpty; rfl)
  · cases a <;> cases ha <;> (unfold dispatch; rfl)

theorem aobj_rbrace (f : Nat) (a : Ann) (ha : a.isAnn = true) (st : St) (h : keySt st = true ∨ st = .afterValue)
    (r : List St) (o y : Nat)
    (R : List (LexT × Nat)) (i : Nat) (c0 : Ctx) (CS : List Ctx) (cx : Ctx) (al : Bool) (p1 p2 : Option Cls) :
    dispatch (f + 1) st (cfgG lc a false st r ((.objB, o) :: (a.B, y) :: R) false i (c0 :: CS) cx al) .rbrace p1 p2
      = .ok { cfgG lc a false a.prefixSt r ((.objB, o) :: (a.B, y) :: R) false i CS c0 al with finds := [.objE] } :=
  aobj_rbraceQ f false a ha st h r o y R i c0 CS cx al p1 p2

/-! ### behind the rule object -/

theorem pre_sp (f : Nat) (a : Ann) (ha : a.isAnn = true) (c : Cls) (hc : c.isSpTab = true) (r : List St)
    (K : List (LexT × Nat)) (i : Nat) (CS : List Ctx) (cx : Ctx) (al : Bool) (p1 p2 : Option Cls) :
    dispatch (f + 1) a.prefixSt (cfgA a a.prefixSt r K false i CS cx al) c p1 p2
      = .ok (cfgA a a.prefixSt r K false i CS cx al) :=
  aloop_spQ f false a ha a.prefixSt (by cases a <;> cases ha <;> rfl) c hc r K i CS cx al p1 p2

theorem mlpre_nl (f : Nat) (r : List St)
    (K : List (LexT × Nat)) (i : Nat) (CS : List Ctx) (cx : Ctx) (al : Bool) (p1 p2 : Option Cls) :
    dispatch (f + 1) .mlTxtPrefix (cfgA .multi .mlTxtPrefix r K false i CS cx al) .nl p1 p2
      = .ok { cfgA .multi .mlTxtPrefix r K false i CS cx al with finds := [.newLine] } :=
  aloop_nlQ f false .mlTxtPrefix rfl r K i CS cx al p1 p2

/-- the line break that ends an inline annotation without note -/
theorem inlpre_nlQ (f : Nat) (q : Bool) (r0 : St) (rs : List St) (y : Nat)
    (i : Nat) (CS : List Ctx) (cx : Ctx) (al : Bool) (p1 p2 : Option Cls) :
    dispatch (f + 1) .inlTxtPrefix (cfgG lc .inline q .inlTxtPrefix (r0 :: rs) [(.inlAnnB, y)] false i CS cx al) .nl p1 p2
      = .ok { cfgG lc .none q r0 rs [(.inlAnnB, y)] false i CS cx al with finds := [.inlAnnE, .newLine] } := by
  unfold dispatch; rfl

theorem inlpre_nl (f : Nat) (r0 : St) (rs : List St) (y : Nat)
    (i : Nat) (CS : List Ctx) (cx : Ctx) (al : Bool) (p1 p2 : Option Cls) :
    dispatch (f + 1) .inlTxtPrefix (cfgG lc .inline false .inlTxtPrefix (r0 :: rs) [(.inlAnnB, y)] false i CS cx al) .nl p1 p2
      = .ok { cfgG lc .none false r0 rs [(.inlAnnB, y)] false i CS cx al with finds := [.inlAnnE, .newLine] } :=
  inlpre_nlQ f false r0 rs y i CS cx al p1 p2

theorem mlpre_starQ (f : Nat) (q : Bool) (r : List St)
    (K : List (LexT × Nat)) (i : Nat) (CS : List Ctx) (cx : Ctx) (al : Bool) (p1 p2 : Option Cls) :
    dispatch (f + 1) .mlTxtPrefix (cfgG lc .multi q .mlTxtPrefix r K false i CS cx al) .star p1 p2
      = .ok (cfgG lc .multi q .mlAnnEnd r K false i CS cx al) := by
  unfold dispatch; rfl

theorem mlpre_star (f : Nat) (r : List St)
    (K : List (LexT × Nat)) (i : Nat) (CS : List Ctx) (cx : Ctx) (al : Bool) (p1 p2 : Option Cls) :
    dispatch (f + 1) .mlTxtPrefix (cfgG lc .multi false .mlTxtPrefix r K false i CS cx al) .star p1 p2
      = .ok (cfgG lc .multi false .mlAnnEnd r K false i CS cx al) :=
  mlpre_starQ f false r K i CS cx al p1 p2

theorem mlend_slashQ (f : Nat) (q : Bool) (r0 : St) (rs : List St)
    (K : List (LexT × Nat)) (i : Nat) (CS : List Ctx) (cx : Ctx) (al : Bool) (p1 p2 : Option Cls) :
    dispatch (f + 1) .mlAnnEnd (cfgG lc .multi q .mlAnnEnd (r0 :: rs) K false i CS cx al) .slash p1 p2
      = .ok { cfgG lc .none q r0 rs K false i CS cx al with finds := [.mlAnnE] } := by
  unfold dispatch; rfl

theorem mlend_slash (f : Nat) (r0 : St) (rs : List St)
    (K : List (LexT × Nat)) (i : Nat) (CS : List Ctx) (cx : Ctx) (al : Bool) (p1 p2 : Option Cls) :
    dispatch (f + 1) .mlAnnEnd (cfgG lc .multi false .mlAnnEnd (r0 :: rs) K false i CS cx al) .slash p1 p2
      = .ok { cfgG lc .none false r0 rs K false i CS cx al with finds := [.mlAnnE] } :=
  mlend_slashQ f false r0 rs K i CS cx al p1 p2

/-! ### the note `- text` behind the rule object -/

def Ann.prefix2St : Ann → St | .multi => .mlTxtPrefix2 | _ => .inlTxtPrefix2
def Ann.txtSt : Ann → St | .multi => .mlTxt | _ => .inlTxt
def Ann.TB : Ann → LexT | .multi => .mlTxtB | _ => .inlTxtB
def Ann.TE : Ann → LexT | .multi => .mlTxtE | _ => .inlTxtE

/-- bytes a note may consist of: no line break, no `#`, no `*` -/
def Cls.isNoteCh : Cls → Bool
  | .nl | .hash | .star => false
  | _ => true

theorem pre_minus (f : Nat) {qb : Bool} (a : Ann) (ha : a.isAnn = true) (r : List St)
    (K : List (LexT × Nat)) (i : Nat) (CS : List Ctx) (cx : Ctx) (al : Bool) (p1 p2 : Option Cls) :
    dispatch (f + 1) a.prefixSt (cfgG lc a qb a.prefixSt r K false i CS cx al) .minus p1 p2
      = .ok (cfgG lc a qb a.prefix2St r K false i CS cx al) := by
  cases a <;> cases ha <;> (unfold dispatch; rfl)

theorem pre2_sp (f : Nat) {qb : Bool} (a : Ann) (ha : a.isAnn = true) (c : Cls) (hc : c.isSpTab = true) (r : List St)
    (K : List (LexT × Nat)) (i : Nat) (CS : List Ctx) (cx : Ctx) (al : Bool) (p1 p2 : Option Cls) :
    dispatch (f + 1) a.prefix2St (cfgG lc a qb a.prefix2St r K false i CS cx al) c p1 p2
      = .ok (cfgG lc a qb a.prefix2St r K false i CS cx al) := by
  cases a <;> cases ha <;> cases c <;> cases hc <;> (unfold dispatch; rfl)

/-- the first byte of the note, whatever the rest of the scanner state is -/
theorem step_pre2_first (f : Nat) (a : Ann) (ha : a.isAnn = true) (c : Cls) (hs : c.isSpTab = false)
    (hn : c.isNoteCh = true) (s : Sc) (p1 p2 : Option Cls) :
    dispatch (f + 2) a.prefix2St s c p1 p2 = .ok { found s a.TB with step := a.txtSt } := by
  cases a <;> cases ha
  · rw [show Ann.inline.prefix2St = .inlTxtPrefix2 from rfl, dispatch_inlTxtPrefix2, dispatch_inlTxt]
    cases c <;> cases hs <;> cases hn <;> rfl
  · rw [show Ann.multi.prefix2St = .mlTxtPrefix2 from rfl, dispatch_mlTxtPrefix2, dispatch_mlTxt]
    cases c <;> cases hs <;> cases hn <;> rfl

theorem pre2_first (f : Nat) {qb : Bool} (a : Ann) (ha : a.isAnn = true) (c : Cls) (hs : c.isSpTab = false)
    (hn : c.isNoteCh = true) (r : List St)
    (K : List (LexT × Nat)) (i : Nat) (CS : List Ctx) (cx : Ctx) (al : Bool) (p1 p2 : Option Cls) :
    dispatch (f + 2) a.prefix2St (cfgG lc a qb a.prefix2St r K false i CS cx al) c p1 p2
      = .ok { cfgG lc a qb a.txtSt r K false i CS cx al with finds := [a.TB] } :=
  step_pre2_first f a ha c hs hn (cfgG lc a qb a.prefix2St r K false i CS cx al) p1 p2

theorem txt_char (f : Nat) {qb : Bool} (a : Ann) (ha : a.isAnn = true) (c : Cls) (hn : c.isNoteCh = true) (r : List St)
    (K : List (LexT × Nat)) (i : Nat) (CS : List Ctx) (cx : Ctx) (al : Bool) (p1 p2 : Option Cls) :
    dispatch (f + 1) a.txtSt (cfgG lc a qb a.txtSt r K false i CS cx al) c p1 p2
      = .ok (cfgG lc a qb a.txtSt r K false i CS cx al) := by
  cases a <;> cases ha
  · rw [show Ann.inline.txtSt = .inlTxt from rfl, dispatch_inlTxt]; cases c <;> cases hn <;> rfl
  · rw [show Ann.multi.txtSt = .mlTxt from rfl, dispatch_mlTxt]; cases c <;> cases hn <;> rfl

/-- the line break that ends the note of an inline annotation -/
theorem inltxt_nl (f : Nat) {qb : Bool} (r0 : St) (rs : List St) (q y : Nat)
    (i : Nat) (CS : List Ctx) (cx : Ctx) (al : Bool) (p1 p2 : Option Cls) :
    dispatch (f + 1) .inlTxt (cfgG lc .inline qb .inlTxt (r0 :: rs) [(.inlTxtB, q), (.inlAnnB, y)] false i CS cx al) .nl p1 p2
      = .ok { cfgG lc .none qb (.guard r0) rs [(.inlTxtB, q), (.inlAnnB, y)] false i CS cx al with
                finds := [.inlTxtE, .inlAnnE, .newLine] } := by
  unfold dispatch; rfl

/-- `*/` behind the note of a multi-line annotation: its `*` -/
theorem mltxt_end (f : Nat) {qb : Bool} (r : List St)
    (K : List (LexT × Nat)) (i : Nat) (CS : List Ctx) (cx : Ctx) (al : Bool) (p2 : Option Cls) :
    dispatch (f + 1) .mlTxt (cfgG lc .multi qb .mlTxt r K false i CS cx al) .star (some .slash) p2
      = .ok { cfgG lc .multi qb .mlAnnEnd r K false i CS cx al with finds := [.mlTxtE] } := by
  unfold dispatch; rfl

/-- white space behind an inline annotation with a note (the scanner is in the guard installed by its line end) -/
theorem guard_sp (f : Nat) {qb : Bool} (c : Cls) (hc : c.isSpTab = true)
    (i : Nat) (CS : List Ctx) (cx : Ctx) (al : Bool) (p1 p2 : Option Cls) :
    dispatch (f + 2) (.guard .endTop) (cfgG lc .none qb (.guard .endTop) [] [] false i CS cx al) c p1 p2
      = .ok (cfgG lc .none qb (.guard .endTop) [] [] false i CS cx al) := by
  rw [dispatch_guard, dispatch_endTop]; cases c <;> cases hc <;> rfl

theorem guard_nl (f : Nat) {qb : Bool} (i : Nat) (CS : List Ctx) (cx : Ctx) (al : Bool) (p1 p2 : Option Cls) :
    dispatch (f + 2) (.guard .endTop) (cfgG lc .none qb (.guard .endTop) [] [] false i CS cx al) .nl p1 p2
      = .ok { cfgG lc .none qb (.guard .endTop) [] [] false i CS cx al with finds := [.newLine] } := by
  rw [dispatch_guard, dispatch_endTop]; rfl

end SchemaScan
