import JSight.AstTextTree
import JSight.AstTextThm
import JSight.ShortE2ELoad
/-!
C16 at text level, schema texts whose values are type shortcuts: `astOfText` of the text of a tree whose leaves are
scalars or type shortcuts (`SE.BST`, any depth and layout) is the AST computed from the TREE by offsets (`AstText.S.astOff`):
one node per value in source order; a scalar leaf as in `AstTextTree`; a shortcut leaf is what `ownOf` makes of the
loader's shortcut node (`Loader.shortNode`) — by `C16_shortcut_reference_nodes` / `_or` a REFERENCE node carrying the
names, its synthesised rule marked generated (`S.astOff_short_type`, `S.astOff_short_or`).

`S.astOff`, `S.astAt_sits` and the list parts with the table written out (`S.astKids_nodesItems`,
`S.astProps_nodesMembers`) are those of `AstTextTree` over the other tree type (`STree` with the loader's `LoaderS.nodesOf`
in place of `Tree` with `Loader.nodesOf`): the cases of scalars, arrays and objects read the same, the shortcut leaf is
the one case more.
-/
namespace AstText
namespace S
open Loader hiding nodesOf nodesItems nodesMembers idxItems idxMembers keysMembers nextItem nextMember nodeCount
  countItems countMembers Item Member
open LoaderS (nodesOf nodesItems nodesMembers idxItems idxMembers keysMembers nextItem nextMember nodeCount
  countItems countMembers ruleOf)
open SchemaScan (Cls STree classify)
open NodeTable (Sits sits_mid sits_all)

abbrev Item := SchemaScan.SItem
abbrev Member := SchemaScan.SMember

/-- the end of a shortcut's `types-shortcut-end` lexeme (its last byte, blanks behind the names included), and of its
`mixed-value-end` lexeme (`SchemaScan.mixEndOf`: one byte less when the last class is a space) -/
def tsEnd (o : Nat) (sc : SchemaScan.Len.Shortcut) (sps : List Cls) : Nat := o + (sc.render ++ sps).length - 1
def mixEnd (o : Nat) (sc : SchemaScan.Len.Shortcut) (sps : List Cls) : Nat :=
  SchemaScan.mixEndOf (o + (sc.render ++ sps).length - 1) (sc.render ++ sps)

mutual
def astOff (src : Array UInt8) (evs : List SchemaScan.Ev) : Nat → STree → Bytes × Bool → M AstNode
  | o, .scalar tok, key =>
    match RulesF.kindOfTok (slice src o (o + tok.length - 1)) with
    | none => unsup "literal kind"
    | some k => pure (.mk key.1 key.2 (kindTok k) (schemaTypeOf [] (kindName k))
        (unq (slice src o (o + tok.length - 1))) [] [] [])
  | o, .short sc sps, key =>
    match ownOf src evs (shortNode none o (tsEnd o sc sps) (mixEnd o sc sps) (ruleOf sc)) with
    | .error e => .error e
    | .ok w => pure (.mk key.1 key.2 w.tok w.schemaType w.value w.comment w.rules [])
  | o, .arr ws0 its, key =>
    match itemsOff src evs (o + 1 + ws0.length) its with
    | .error e => .error e
    | .ok kids => pure (.mk key.1 key.2 "array" (schemaTypeOf [] "array") [] [] [] kids)
  | o, .obj ws0 ms, key =>
    match membersOff src evs (o + 1 + ws0.length) ms with
    | .error e => .error e
    | .ok kids => pure (.mk key.1 key.2 "object" (schemaTypeOf [] "object") [] [] [] kids)
def itemsOff (src : Array UInt8) (evs : List SchemaScan.Ev) : Nat → List Item → M (List AstNode)
  | _, [] => pure []
  | o, (w1, v, w2) :: its => do
    let n ← astOff src evs (o + w1.length) v ([], false)
    let ns ← itemsOff src evs (nextItem o w1 v w2 its) its
    pure (n :: ns)
def membersOff (src : Array UInt8) (evs : List SchemaScan.Ev) : Nat → List Member → M (List AstNode)
  | _, [] => pure []
  | o, (w1, k, w2, w3, v, w4) :: ms => do
    let n ← astOff src evs (valOff o w1 k w2 w3) v (keyText src (o + w1.length, o + w1.length + k.length - 1, false))
    let ns ← membersOff src evs (nextMember o w1 k w2 w3 v w4 ms) ms
    pure (n :: ns)
end

theorem ownOf_par (src : Array UInt8) (evs : List SchemaScan.Ev) (par : Option Nat) (o e e' : Nat) (nm : String) :
    ownOf src evs (shortNode par o e e' nm) = ownOf src evs (shortNode none o e e' nm) := rfl

theorem keysMembers_length : (ms : List Member) → (o : Nat) → (keysMembers o ms).length = ms.length
  | [], _ => rfl
  | (w1, k, w2, w3, v, w4) :: ms, o => by simp [keysMembers, keysMembers_length ms]

section build
variable (src : Array UInt8) (evs : List SchemaScan.Ev)

mutual
/-- `astAt` on any table in which the nodes of `v` stand from `n` on -/
theorem astAt_sits {tbl : Array Node} : (v : STree) → (par : Option Nat) → (n o fuel : Nat) → (key : Bytes × Bool) →
    Sits tbl n (nodesOf par n o v) → nodeCount v ≤ fuel → astAt src evs tbl fuel n key = astOff src evs o v key
  | .scalar tok, par, n, o, f + 1, key, hs, _ => by
    simp only [astAt, hs.1, ownOf_plain_lit, astOff]
    cases RulesF.kindOfTok (slice src o (o + tok.length - 1)) <;> rfl
  | .short sc sps, par, n, o, f + 1, key, hs, _ => by
    simp only [astAt, hs.1, astOff, tsEnd, mixEnd]
    rw [ownOf_par]
    cases ownOf src evs (shortNode none o (o + (sc.render ++ sps).length - 1)
      (SchemaScan.mixEndOf (o + (sc.render ++ sps).length - 1) (sc.render ++ sps)) (ruleOf sc)) <;> rfl
  | .arr ws0 its, par, n, o, f + 1, key, hs, hf => by
    have h := astKids_sits its n (n + 1) (o + 1 + ws0.length) f hs.2 (by simp only [nodeCount] at hf; omega)
    simp only [astAt, hs.1, ownOf_plain_arr, astOff, show (NK.arr == NK.obj) = false from rfl, Bool.false_eq_true,
      if_false, List.length_map, bne_self_eq_false, mapM_zip_const, h]
    cases itemsOff src evs (o + 1 + ws0.length) its <;> rfl
  | .obj ws0 ms, par, n, o, f + 1, key, hs, hf => by
    have h := astProps_sits ms n (n + 1) (o + 1 + ws0.length) f hs.2 (by simp only [nodeCount] at hf; omega)
    simp only [astAt, hs.1, ownOf_plain_obj, astOff, show (NK.obj == NK.obj) = true from rfl, if_true,
      List.length_map, keysMembers_length, SE.idxMembers_length, bne_self_eq_false, Bool.false_eq_true, if_false, h]
    cases membersOff src evs (o + 1 + ws0.length) ms <;> rfl
  | .arr _ _, _, _, _, 0, _, _, hf | .obj _ _, _, _, _, 0, _, _, hf => by simp only [nodeCount] at hf; omega
theorem astKids_sits {tbl : Array Node} : (its : List Item) → (a n o fuel : Nat) → Sits tbl n (nodesItems a n o its) →
    countItems its ≤ fuel →
    (idxItems n its).mapM (fun c => astAt src evs tbl fuel c ([], false)) = itemsOff src evs o its
  | [], _, _, _, _, _, _ => by simp [idxItems, itemsOff]
  | (w1, v, w2) :: its, a, n, o, fuel, hs, hf => by
    simp only [countItems] at hf
    obtain ⟨h1, h2⟩ := Sits.append (by simpa only [nodesItems] using hs)
    rw [LoaderS.nodesOf_length] at h2
    simp only [idxItems, itemsOff, List.mapM_cons, astAt_sits v (some a) n _ fuel _ h1 (by omega),
      astKids_sits its a _ _ fuel h2 (by omega)]
theorem astProps_sits {tbl : Array Node} : (ms : List Member) → (a n o fuel : Nat) → Sits tbl n (nodesMembers a n o ms) →
    countMembers ms ≤ fuel →
    ((idxMembers n ms).zip ((keysMembers o ms).map (keyText src))).mapM (fun ck => astAt src evs tbl fuel ck.1 ck.2)
      = membersOff src evs o ms
  | [], _, _, _, _, _, _ => by simp [keysMembers, idxMembers, membersOff]
  | (w1, k, w2, w3, v, w4) :: ms, a, n, o, fuel, hs, hf => by
    simp only [countMembers] at hf
    obtain ⟨h1, h2⟩ := Sits.append (by simpa only [nodesMembers] using hs)
    rw [LoaderS.nodesOf_length] at h2
    simp only [keysMembers, idxMembers, membersOff, List.map_cons, List.zip_cons_cons, List.mapM_cons,
      astAt_sits v (some a) n _ fuel _ h1 (by omega), astProps_sits ms a _ _ fuel h2 (by omega)]
end

theorem astKids_nodesItems : (its : List Item) → (pre post : List Node) → (a o fuel : Nat) → countItems its ≤ fuel →
    (idxItems pre.length its).mapM
      (fun c => astAt src evs (pre ++ (nodesItems a pre.length o its ++ post)).toArray fuel c ([], false))
      = itemsOff src evs o its :=
  fun its pre post a o fuel hf => astKids_sits src evs its a _ o fuel (sits_mid pre _ post) hf
theorem astProps_nodesMembers : (ms : List Member) → (pre post : List Node) → (a o fuel : Nat) →
    countMembers ms ≤ fuel →
    ((idxMembers pre.length ms).zip ((keysMembers o ms).map (keyText src))).mapM (fun ck =>
        astAt src evs (pre ++ (nodesMembers a pre.length o ms ++ post)).toArray fuel ck.1 ck.2)
      = membersOff src evs o ms :=
  fun ms pre post a o fuel hf => astProps_sits src evs ms a _ o fuel (sits_mid pre _ post) hf

end build

/-- **C16 on schema texts with shortcut values, any depth and layout**: scanner model → loader model → AST builders give
the AST of the TREE (`astOff`, by offsets into the text) -/
theorem ast_of_stree_text (w0 : SE.Bytes) (t : SE.BST) (w1 : SE.Bytes) (h : SE.TextOK w0 t w1) :
    astOfText (SE.docText w0 t w1)
      = astOff (SE.docText w0 t w1).toArray (eventsOf (SE.docText w0 t w1)) w0.length t.cls ([], false) := by
  obtain ⟨st, hl, hr, hn⟩ := h.loads
  have hnodes : st.nodes = (nodesOf none 0 w0.length t.cls).toArray := by rw [← hn]
  have hsz : st.nodes.size = nodeCount t.cls := by rw [hnodes, List.size_toArray, LoaderS.nodesOf_length]
  have hb := astAt_sits (SE.docText w0 t w1).toArray (eventsOf (SE.docText w0 t w1)) t.cls none 0
    w0.length (st.nodes.size + 1) ([], false) (hnodes ▸ sits_all _) (by omega)
  unfold astOfText astOfTable
  simp only [hl, hr, hb]

/-! ### a shortcut leaf is a reference node -/

/-- **`@A`** (no alternatives): TokenType `reference`, Value and SchemaType the name, the rule `type` marked generated.
`ha` picks the rule name the loader synthesised (class level), `hp` is what `ownOf` tests on the bytes; for a tree that
stands in the text the two agree (`AstTextShort2`), here `src` is any array and both are asked. -/
theorem astOff_short_type (src : Array UInt8) (evs : List SchemaScan.Ev) (o : Nat) (sc : SchemaScan.Len.Shortcut)
    (sps : List Cls) (key : Bytes × Bool) (ha : sc.alts = [])
    (hp : hasPipe (trimSpaces (slice src o (mixEnd o sc sps))) = false) :
    astOff src evs o (.short sc sps) key
      = .ok (.mk key.1 key.2 "reference" (trimSpaces (slice src o (mixEnd o sc sps)))
          (trimSpaces (slice src o (mixEnd o sc sps))) []
          [(sb "type", leaf
            (if isUserTypeName (unq (trimSpaces (slice src o (tsEnd o sc sps)))) then "reference" else "string")
            (unq (trimSpaces (slice src o (tsEnd o sc sps)))) .generated)] []) := by
  have hr : ruleOf sc = "type" := by simp [ruleOf, ha]
  simp only [astOff, hr]
  rw [ownOf_shortcut_type src evs _ o (mixEnd o sc sps) o (tsEnd o sc sps) rfl rfl rfl rfl hp]
  rfl

/-- **`@A | @B`**: TokenType `reference`, SchemaType `mixed`, Value the names as written, the rule `or` — one item per
name in written order — marked generated throughout -/
theorem astOff_short_or (src : Array UInt8) (evs : List SchemaScan.Ev) (o : Nat) (sc : SchemaScan.Len.Shortcut)
    (sps : List Cls) (key : Bytes × Bool) (ha : sc.alts ≠ [])
    (hp : hasPipe (trimSpaces (slice src o (mixEnd o sc sps))) = true) :
    astOff src evs o (.short sc sps) key
      = .ok (.mk key.1 key.2 "reference" (sb "mixed") (trimSpaces (slice src o (mixEnd o sc sps))) []
          [(sb "or", .mk "array" [] [] .generated []
            ((splitPipe (slice src o (tsEnd o sc sps))).map fun nm => leaf "string" nm .generated))] []) := by
  have hr : ruleOf sc = "or" := by
    cases h : sc.alts with
    | nil => exact absurd h ha
    | cons _ _ => simp [ruleOf, h]
  simp only [astOff, hr]
  rw [ownOf_shortcut_or src evs _ o (mixEnd o sc sps) o (tsEnd o sc sps) rfl rfl rfl rfl hp]
  rfl

#print axioms ast_of_stree_text

end S
end AstText
