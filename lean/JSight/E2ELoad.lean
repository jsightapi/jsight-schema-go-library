import JSight.E2E
import JSight.ExceptWp
/-!
The two loops of `E2E` that also return what was reached before an error (`loadLoopP`, `eventsLoopP`) agree with the
loops the loader and scanner theorems speak about (`Loader.loadLoop`, `JsonScan.eventsLoop`) whenever those succeed.
The stages of `loadSchema` on a text that loads (`loadSchema_loaded`: the constraint constructors, then `compileNode` at
the root). The stages of `validateText`: once the root and the types have loaded, the outcome is that of `Check`, then of the
document stage `afterCheck` (`validateText_loaded`); every text-level theorem starts there.
-/
namespace E2E

/-- the two loaders run in step: where `Loader.loadLoop` succeeds `loadLoopP` returns its state and no error, where it
fails `loadLoopP` returns an error with the state reached -/
theorem loadLoopP_spec (src : Array UInt8) (data : Array SchemaScan.Cls) :
    ∀ (fuel : Nat) (sc : SchemaScan.Sc) (st : Loader.St),
      (Loader.loadLoop src data fuel sc st).wp (fun st' => loadLoopP src data fuel sc st = (st', none))
        (fun _ => ∃ st' le, loadLoopP src data fuel sc st = (st', some le))
  | 0, _, st => ⟨st, .fuel, rfl⟩
  | fuel + 1, sc, st => by
    unfold Loader.loadLoop loadLoopP
    cases SchemaScan.next data (3 * data.size + 16) sc with
    | error e => exact ⟨st, .scan e, rfl⟩
    | ok r =>
      cases r with
      | none => exact rfl
      | some p =>
        obtain ⟨sc', e⟩ := p
        dsimp only
        cases Loader.step src st e with
        | error le => exact ⟨st, .load le, rfl⟩
        | ok st1 => exact loadLoopP_spec src data fuel sc' st1

theorem loadTextP_of_ok (bs : List UInt8) (st : Loader.St) (h : Loader.loadText bs = .ok st) :
    loadTextP bs = (st, none) :=
  (loadLoopP_spec _ _ _ _ _).ok h

/-- where `JsonScan.eventsLoop` succeeds `eventsLoopP` returns its events and no error -/
theorem eventsLoopP_spec (n : Nat) : ∀ (cs : List JsonScan.Cls) (i : Nat) (cfg : JsonScan.CfgS) (acc : List JsonScan.Ev),
    (JsonScan.eventsLoop false n cs i cfg acc).wp (fun evs => eventsLoopP n cs i cfg acc = (evs, none)) fun _ => True
  | [], i, cfg, acc => by
    unfold JsonScan.eventsLoop eventsLoopP
    cases cfg.stack with
    | nil => exact rfl
    | cons p rest =>
      obtain ⟨ty, b⟩ := p
      cases rest with
      | nil =>
        cases ty <;> first | trivial | skip
        dsimp only
        cases cfg.unf
        · exact rfl
        · trivial
      | cons q rest' => cases ty <;> trivial
  | c :: cs, i, cfg, acc => by
    unfold JsonScan.eventsLoop eventsLoopP
    cases JsonScan.step false cfg.st (cfg.stack.map (·.1)) cfg.unf c with
    | error e => trivial
    | ok r =>
      obtain ⟨st', unf', finds⟩ := r
      dsimp only
      cases JsonScan.applyFindsS i cfg.stack finds [] with
      | error e => trivial
      | ok r2 =>
        obtain ⟨stack', evs', stop⟩ := r2
        dsimp only
        cases stop with
        | true => exact rfl
        | false => exact eventsLoopP_spec n cs (i + 1) _ _

theorem eventsP_of_ok (bs : List UInt8) (evs : List JsonScan.Ev) (h : JsonScan.events false bs = .ok evs) :
    eventsP bs = (evs, none) :=
  (eventsLoopP_spec _ _ _ _ _).ok h

open Compile

/-- the stages of `loadSchema` on a text that loads: the constraint constructors accept the resolved table, and the
root compiles -/
theorem loadSchema_loaded {bs : List UInt8} {opt : Bool} {st : Loader.St} {r : Nat} {cn : CN} {o : Option Bool}
    (hl : Loader.loadText bs = .ok st) (hr : st.root = some r)
    (hcr : creation (st.nodes.toList.map (resolve bs.toArray)) = .ok ())
    (hc : compileNode (st.nodes.toList.map (resolve bs.toArray)).toArray opt
      ((st.nodes.toList.map (resolve bs.toArray)).length + 1) r false = .ok (cn, o)) :
    loadSchema bs opt = .ok (some cn) := by
  unfold loadSchema
  rw [loadTextP_of_ok bs st hl]
  simp only [hcr, hr, hc]

/-- a text the scanner model / loader model refuse is refused by `loadSchema` -/
theorem loadSchema_of_load_error (bs : List UInt8) (opt : Bool) (s : String) (h : Loader.loadText bs = .error s) :
    ∃ x, loadSchema bs opt = .error x := by
  obtain ⟨st', le, hp⟩ := (loadLoopP_spec _ _ _ _ _).error h
  unfold loadSchema loadTextP
  rw [hp]
  simp only
  cases creation (st'.nodes.toList.map (resolve bs.toArray)) with
  | error e => exact ⟨e, rfl⟩
  | ok u =>
    simp only
    split
    · exact ⟨_, rfl⟩
    · cases le.code with
      | none => exact ⟨_, rfl⟩
      | some p => exact ⟨_, rfl⟩

/-- on a schema text the scanner model / loader model refuse, `validateText` answers a schema error (or `unsupported`),
whatever the document: never a verdict -/
theorem validateText_of_load_error (bs : List UInt8) (types : List (String × List UInt8)) (doc : List UInt8) (opt : Bool)
    (s : String) (h : Loader.loadText bs = .error s) :
    validateText bs types doc opt ≠ .acc ∧ validateText bs types doc opt ≠ .rej := by
  obtain ⟨x, hx⟩ := loadSchema_of_load_error bs opt s h
  unfold validateText
  rw [hx]
  cases x <;> simp [errOut]

/-- what `validateText` does once `Check` has accepted the schema (its text from there on, so that `validateText_loaded`
ends in `rfl`); the document errors are Go's 203 `ErrEmptyJson`, 301 `ErrInvalidCharacter`, 303 `ErrUnexpectedEOF` -/
def afterCheck (cn : CN) (ts : Types) (doc : List UInt8) : Outcome :=
  if !(shortcutsOK ts cn && ts.all fun t => shortcutsOK ts t.2) then .unsupported "key type is not a string literal"
  else
    let (evs, err) := eventsP doc
    if (rawKeyTypes ts cn || ts.any fun t => rawKeyTypes ts t.2) && escapedKey doc evs then
      .unsupported "escaped document key against a key type without rules"
    else
      let env := envOf cn ts
      let s := toVK "root" cn
      let vevs := docEvs doc evs
      match err with
      | none =>
        if vevs.isEmpty then .docErr 203 0
        else if validateEvs env (keyOK ts) s vevs then .acc else .rej
      | some e =>
        if !vevs.isEmpty && failedOn env (keyOK ts) s vevs then .rej
        else match e with
          | .invalidChar i => .docErr 301 i
          | .unexpectedEOF i => .docErr 303 i
          | .emptyJson => .docErr 203 0
          | .crash w => .unsupported w

/-- the stages of `validateText` before the check: once root and types have loaded (under distinct user type names),
the outcome is that of `Check`, then of the document stage `afterCheck` -/
theorem validateText_loaded {root : List UInt8} {types : List (String × List UInt8)} {opt : Bool} {cn : CN} {ts : Types}
    (hroot : loadSchema root opt = .ok (some cn)) (hnd : (types.map (·.1)).Nodup)
    (hnm : (types.all fun t => isUserTypeName (strBytes t.1)) = true) (htypes : loadTypes types = .ok ts)
    (doc : List UInt8) :
    validateText root types doc opt =
      match check cn ts with
      | .error e => errOut e
      | .ok () => afterCheck cn ts doc := by
  unfold validateText
  simp only [hroot, hnd, hnm, htypes, decide_true, Bool.not_true, Bool.or_self, Bool.false_eq_true, if_false]
  rfl

end E2E
