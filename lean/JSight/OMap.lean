/-
C19: the generated ordered map (Go `map` + order slice) refines an insertion-ordered
association list.  A Go map is modelled as a finite partial function together with its
cardinality (`len(m.data)`), the order slice as a list.
`delete` / `filter` are the *fixed* code (F-1); `deletePinned` is the pinned variant.
-/
namespace OMap

variable {κ ν : Type} [DecidableEq κ]

structure M (κ ν : Type) where
  data : κ → Option ν
  size : Nat              -- len(m.data)
  order : List κ

def M.empty : M κ ν := ⟨fun _ => none, 0, []⟩

def M.has (m : M κ ν) (k : κ) : Bool := (m.data k).isSome

def M.set (m : M κ ν) (k : κ) (v : ν) : M κ ν :=
  { data := fun x => if x = k then some v else m.data x,
    size := if m.has k then m.size else m.size + 1,
    order := if m.has k then m.order else m.order ++ [k] }

def M.update (m : M κ ν) (k : κ) (f : ν → ν) : M κ ν :=
  match m.data k with
  | some v => { m with data := fun x => if x = k then some (f v) else m.data x }
  | none => m

/-- fixed `delete`: the index stays -1 when the key is not in `order`. -/
def M.delete (m : M κ ν) (k : κ) : M κ ν :=
  { data := fun x => if x = k then none else m.data x,
    size := if m.has k then m.size - 1 else m.size,
    order := m.order.erase k }

/-- pinned `delete`: the range variable is left at the last index when the key is absent. -/
def M.deletePinned (m : M κ ν) (k : κ) : M κ ν :=
  { data := fun x => if x = k then none else m.data x,
    size := if m.has k then m.size - 1 else m.size,
    order := if k ∈ m.order then m.order.erase k else m.order.dropLast }

/-- fixed `Filter`: ranges over a copy of `order`; returns the new map and the visit trace. -/
def M.filterAux (p : κ → ν → Bool) : List κ → M κ ν → List κ → M κ ν × List κ
  | [], m, tr => (m, tr)
  | k :: ks, m, tr =>
    match m.data k with
    | some v => M.filterAux p ks (if p k v then m else m.delete k) (tr ++ [k])
    | none => M.filterAux p ks (m.delete k) (tr ++ [k])     -- fn(k, zero value); unreachable under WF

def M.filter (m : M κ ν) (p : κ → ν → Bool) : M κ ν × List κ := M.filterAux p m.order m []

def M.entries (m : M κ ν) : List (κ × ν) :=
  m.order.filterMap (fun k => (m.data k).map (fun v => (k, v)))

def M.len (m : M κ ν) : Nat := m.size

/-! ### reference: insertion-ordered association list -/

abbrev Ref (κ ν : Type) := List (κ × ν)

def Ref.has (r : Ref κ ν) (k : κ) : Bool := r.any (·.1 == k)
def Ref.set (r : Ref κ ν) (k : κ) (v : ν) : Ref κ ν :=
  if Ref.has r k then r.map (fun e => if e.1 = k then (k, v) else e) else r ++ [(k, v)]
def Ref.delete (r : Ref κ ν) (k : κ) : Ref κ ν := r.filter (fun e => e.1 != k)
def Ref.filter (r : Ref κ ν) (p : κ → ν → Bool) : Ref κ ν := List.filter (fun e => p e.1 e.2) r

/-- invariant -/
structure WF (m : M κ ν) : Prop where
  nodup : m.order.Nodup
  dom : ∀ k, k ∈ m.order ↔ (m.data k).isSome
  size : m.size = m.order.length

theorem wf_empty : WF (M.empty : M κ ν) := ⟨by simp [M.empty], by simp [M.empty], rfl⟩

end OMap
