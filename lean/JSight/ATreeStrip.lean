import JSight.ATreeThm
/-!
C13 / C16, whole annotated trees: the table is a function of the STRIPPED tree (`ATree.strip`: the annotations' form,
position, blanks, trailing comma, layout, line ends, comments erased): `table_of_strip`.
-/
namespace AT
open Loader (XNode xfresh)

/-- `annX` on what `Annot.strip` keeps of the annotation: the pairs and the note -/
def sAnnX (a : Option (List (Bytes × Bytes) × Option Bytes)) (x : XNode) : XNode :=
  match a with
  | none => x
  | some (ps, nt) =>
    { x with
      rules := x.rules ++ ps.map (·.1)
      ruleVals := x.ruleVals ++ (ps.map (·.2)).map some
      note := match nt with
        | none => x.note
        | some t => some t }

mutual
def STree.count : STree → Nat
  | .scalar _ _ => 1
  | .arr _ its => 1 + countL its
  | .obj _ ms => 1 + countM ms
def countL : List STree → Nat
  | [] => 0
  | v :: r => v.count + countL r
def countM : List (Bytes × STree) → Nat
  | [] => 0
  | (_, v) :: r => v.count + countM r
end

def idxL : Nat → List STree → List Nat
  | _, [] => []
  | n, v :: r => n :: idxL (n + v.count) r
def idxM : Nat → List (Bytes × STree) → List Nat
  | _, [] => []
  | n, (_, v) :: r => n :: idxM (n + v.count) r
def keysM : List (Bytes × STree) → List (Bytes × Bool)
  | [] => []
  | (k, _) :: r => (k, false) :: keysM r

mutual
/-- the table of a stripped tree -/
def STree.nodes (par : Option Nat) : Nat → STree → List XNode
  | _, .scalar tok an => [sAnnX an { xfresh .lit par with value := some tok }]
  | n, .arr an its => { sAnnX an (xfresh .arr par) with children := idxL (n + 1) its } :: nodesL n (n + 1) its
  | n, .obj an ms =>
    { sAnnX an (xfresh .obj par) with children := idxM (n + 1) ms, keys := keysM ms } :: nodesM n (n + 1) ms
def nodesL (a : Nat) : Nat → List STree → List XNode
  | _, [] => []
  | n, v :: r => v.nodes (some a) n ++ nodesL a (n + v.count) r
def nodesM (a : Nat) : Nat → List (Bytes × STree) → List XNode
  | _, [] => []
  | n, (_, v) :: r => v.nodes (some a) n ++ nodesM a (n + v.count) r
end

theorem annX_strip (a : Option Annot) (x : XNode) : annX a x = sAnnX (a.map Annot.strip) x := by
  cases a with
  | none => rfl
  | some a =>
    obtain ⟨multi, s2, ob, s3, nt, nlb⟩ := a
    simp only [annX, Lay.addAnn, Option.map_some, sAnnX, Annot.strip, Annot.pairs, Annot.note, Lay.names_of_pairs,
      Lay.vals_of_pairs]
    cases nt <;> rfl

mutual
theorem count_strip : (v : ATree) → v.strip.count = v.count
  | .scalar _ _ => rfl
  | .arr _ its => by simp [ATree.strip, STree.count, ATree.count, countL_strip its]
  | .obj _ ms => by simp [ATree.strip, STree.count, ATree.count, countM_strip ms]
theorem countL_strip : (its : AItems) → countL its.strip = its.count
  | .nil _ => rfl
  | .cons _ v _ _ rest => by simp [AItems.strip, countL, AItems.count, count_strip v, countL_strip rest]
theorem countM_strip : (ms : AMembers) → countM ms.strip = ms.count
  | .nil _ => rfl
  | .cons _ _ _ _ v _ _ rest => by simp [AMembers.strip, countM, AMembers.count, count_strip v, countM_strip rest]
end

theorem idxL_strip : (its : AItems) → (n : Nat) → idxL n its.strip = its.idx n
  | .nil _, _ => rfl
  | .cons _ v _ _ rest, n => by simp [AItems.strip, idxL, AItems.idx, count_strip v, idxL_strip rest]
theorem idxM_strip : (ms : AMembers) → (n : Nat) → idxM n ms.strip = ms.idx n
  | .nil _, _ => rfl
  | .cons _ _ _ _ v _ _ rest, n => by simp [AMembers.strip, idxM, AMembers.idx, count_strip v, idxM_strip rest]
theorem keysM_strip : (ms : AMembers) → keysM ms.strip = ms.keys
  | .nil _ => rfl
  | .cons _ _ _ _ _ _ _ rest => by simp [AMembers.strip, keysM, AMembers.keys, keysM_strip rest]

mutual
theorem nodes_strip : (v : ATree) → (par : Option Nat) → (n : Nat) → v.strip.nodes par n = v.nodes par n
  | .scalar tok an, par, n => by
    simp only [ATree.strip, STree.nodes, ATree.nodes, annX_strip, Option.map_map]; rfl
  | .arr an its, par, n => by
    simp only [ATree.strip, STree.nodes, ATree.nodes, annX_strip, Option.map_map, idxL_strip, nodesL_strip its]; rfl
  | .obj an ms, par, n => by
    simp only [ATree.strip, STree.nodes, ATree.nodes, annX_strip, Option.map_map, idxM_strip, keysM_strip,
      nodesM_strip ms]; rfl
theorem nodesL_strip : (its : AItems) → (a n : Nat) → nodesL a n its.strip = its.nodes a n
  | .nil _, _, _ => rfl
  | .cons _ v _ _ rest, a, n => by
    simp only [AItems.strip, nodesL, AItems.nodes, nodes_strip v, count_strip v, nodesL_strip rest]
theorem nodesM_strip : (ms : AMembers) → (a n : Nat) → nodesM a n ms.strip = ms.nodes a n
  | .nil _, _, _ => rfl
  | .cons _ _ _ _ v _ _ rest, a, n => by
    simp only [AMembers.strip, nodesM, AMembers.nodes, nodes_strip v, count_strip v, nodesM_strip rest]
end

/-- **the table depends on the stripped tree only** -/
theorem table_of_strip (t t' : ATree) (h : t.strip = t'.strip) : t.table = t'.table := by
  unfold ATree.table
  rw [← nodes_strip t, ← nodes_strip t', h]

/-- two surface forms of one annotated tree load into the same table -/
theorem layout_invariant (w0 w0' : Gap) (t t' : ATree) (w1 w1' : Gap) (hs : t.strip = t'.strip)
    (hc : t.isContainer = true) (hl : lineOK w0 t = true) (hl' : lineOK w0' t' = true)
    (hw : TokOK (docToks w0 t w1)) (hw' : TokOK (docToks w0' t' w1')) :
    ∃ st st', Loader.loadText (docText w0 t w1) = .ok st ∧ Loader.loadText (docText w0' t' w1') = .ok st' ∧
      st.root = st'.root ∧
      abstractOf (docText w0 t w1).toArray st = abstractOf (docText w0' t' w1').toArray st' := by
  have hc' : t'.isContainer = true := by
    cases t <;> cases t' <;> simp [ATree.isContainer, ATree.strip] at hc hs ⊢
  obtain ⟨st, h1, h2, h3⟩ := tree_loads w0 t w1 hc hl hw
  obtain ⟨st', h1', h2', h3'⟩ := tree_loads w0' t' w1' hc' hl' hw'
  exact ⟨st, st', h1, h1', by rw [h2, h2'], by rw [h3, h3', table_of_strip t t' hs]⟩

#print axioms layout_invariant

end AT
