import JSight.TreeEvents
/-!
C15 (well-formedness): the example builder of `example.go` (with F-5: separator before every emitted
child after the first, keys written as source tokens) emits the rendering of a JSON tree; hence the scanner accepts it.
Plain keys only; `ExampleK` adds key shortcuts and containers that carry a types list.
-/
namespace EX
open JsonScan

inductive N
  | lit (tok : List Cls)                         -- the example token of a literal node
  | arr (items : List N)
  | obj (props : List (List Cls × N))            -- key source token (with quotes), value
  | ref (first : String)                         -- a type reference: only `tt[0]` is used

abbrev Types := List (String × N)
def lookupT (ts : Types) (n : String) : Option N := (ts.find? (·.1 == n)).map (·.2)
def bump (proc : String → Nat) (n : String) : String → Nat := fun m => if m == n then proc m + 1 else proc m

def joinC : List (List Cls) → List Cls
  | [] => []
  | x :: rest => x ++ ((if rest.isEmpty then [] else [.comma]) ++ joinC rest)

-- `none` = error (unknown type / out of fuel); `some none` = the child is omitted (recursion cut-off)
mutual
def build (ts : Types) : Nat → (String → Nat) → N → Option (Option (List Cls))
  | _, _, .lit tok => some (some tok)
  | fuel, proc, .arr items =>
    match buildKids ts fuel proc items with
    | some parts => some (some (.lbrack :: (joinC parts ++ [.rbrack])))
    | none => none
  | fuel, proc, .obj props =>
    match buildProps ts fuel proc props with
    | some parts => some (some (.lbrace :: (joinC parts ++ [.rbrace])))
    | none => none
  | 0, _, .ref _ => none
  | fuel + 1, proc, .ref n =>
    if proc n > 1 then some none
    else match lookupT ts n with
      | some t => build ts fuel (bump proc n) t
      | none => none
termination_by fuel _ n => (fuel, sizeOf n)
def buildKids (ts : Types) : Nat → (String → Nat) → List N → Option (List (List Cls))
  | _, _, [] => some []
  | fuel, proc, c :: cs =>
    match build ts fuel proc c, buildKids ts fuel proc cs with
    | some (some ex), some rest => some (ex :: rest)
    | some none, some rest => some rest
    | _, _ => none
termination_by fuel _ cs => (fuel, sizeOf cs)
def buildProps (ts : Types) : Nat → (String → Nat) → List (List Cls × N) → Option (List (List Cls))
  | _, _, [] => some []
  | fuel, proc, (k, c) :: ps =>
    match build ts fuel proc c, buildProps ts fuel proc ps with
    | some (some ex), some rest => some ((k ++ .colon :: ex) :: rest)
    | some none, some rest => some rest
    | _, _ => none
termination_by fuel _ ps => (fuel, sizeOf ps)
end

/-! the same recursion producing trees (compact layout) -/
mutual
def tree (ts : Types) : Nat → (String → Nat) → N → Option (Option JA)
  | _, _, .lit tok => some (some (.scalar tok))
  | fuel, proc, .arr items =>
    match treeKids ts fuel proc items with
    | some vs => some (some (.arr [] (vs.map fun v => ([], v, []))))
    | none => none
  | fuel, proc, .obj props =>
    match treeProps ts fuel proc props with
    | some ms => some (some (.obj [] (ms.map fun m => ([], m.1, [], [], m.2, []))))
    | none => none
  | 0, _, .ref _ => none
  | fuel + 1, proc, .ref n =>
    if proc n > 1 then some none
    else match lookupT ts n with
      | some t => tree ts fuel (bump proc n) t
      | none => none
termination_by fuel _ n => (fuel, sizeOf n)
def treeKids (ts : Types) : Nat → (String → Nat) → List N → Option (List JA)
  | _, _, [] => some []
  | fuel, proc, c :: cs =>
    match tree ts fuel proc c, treeKids ts fuel proc cs with
    | some (some v), some rest => some (v :: rest)
    | some none, some rest => some rest
    | _, _ => none
termination_by fuel _ cs => (fuel, sizeOf cs)
def treeProps (ts : Types) : Nat → (String → Nat) → List (List Cls × N) → Option (List (List Cls × JA))
  | _, _, [] => some []
  | fuel, proc, (k, c) :: ps =>
    match tree ts fuel proc c, treeProps ts fuel proc ps with
    | some (some v), some rest => some ((k, v) :: rest)
    | some none, some rest => some rest
    | _, _ => none
termination_by fuel _ ps => (fuel, sizeOf ps)
end

/-! ### compact layout -/

theorem renderItems_compact (vs : List JA) :
    renderItems (vs.map fun v => (([] : List Cls), v, ([] : List Cls))) = joinC (vs.map JA.render) ++ [.rbrack] := by
  induction vs with
  | nil => rfl
  | cons v vs ih =>
    simp only [List.map_cons, renderItems, joinC, List.nil_append, ih, List.append_assoc, List.isEmpty_map]

theorem renderMembers_compact (ms : List (List Cls × JA)) :
    renderMembers (ms.map fun m => (([] : List Cls), m.1, ([] : List Cls), ([] : List Cls), m.2, ([] : List Cls)))
      = joinC (ms.map fun m => m.1 ++ .colon :: m.2.render) ++ [.rbrace] := by
  induction ms with
  | nil => rfl
  | cons m ms ih =>
    simp only [List.map_cons, renderMembers, joinC, List.nil_append, ih, List.append_assoc, List.isEmpty_map,
      List.cons_append]

/-! ### the builder emits the rendering of the tree -/

/-- induction over a node with the hypothesis for every member of a child list -/
theorem N.mem_induct {motive : N → Prop} (lit : ∀ tok, motive (.lit tok))
    (arr : ∀ items, (∀ c ∈ items, motive c) → motive (.arr items))
    (obj : ∀ props, (∀ p ∈ props, motive p.2) → motive (.obj props))
    (ref : ∀ n, motive (.ref n)) (n : N) : motive n :=
  N.rec (motive_1 := motive) (motive_2 := fun cs => ∀ c ∈ cs, motive c)
    (motive_3 := fun ps => ∀ p ∈ ps, motive p.2) (motive_4 := fun p => motive p.2)
    lit arr obj ref
    (fun _ h => nomatch h) (fun _ _ h hs => List.forall_mem_cons.2 ⟨h, hs⟩)
    (fun _ h => nomatch h) (fun _ _ h hs => List.forall_mem_cons.2 ⟨h, hs⟩)
    (fun _ _ h => h) n

/-! The child lists are walked with the claim for their members as a hypothesis; `build_eq` supplies it by induction
on the fuel and, for one fuel, on the node. -/

theorem buildKids_eq_of (ts : Types) {fuel : Nat} {proc : String → Nat} : (cs : List N) →
    (∀ c ∈ cs, build ts fuel proc c = (tree ts fuel proc c).map (Option.map JA.render)) →
    buildKids ts fuel proc cs = (treeKids ts fuel proc cs).map (List.map JA.render)
  | [], _ => by simp [buildKids, treeKids]
  | c :: cs, h => by
    simp only [buildKids, treeKids, h c (by simp), buildKids_eq_of ts cs fun d hd => h d (by simp [hd])]
    cases tree ts fuel proc c with
    | none => rfl
    | some o => cases o <;> cases treeKids ts fuel proc cs <;> simp

theorem buildProps_eq_of (ts : Types) {fuel : Nat} {proc : String → Nat} : (ps : List (List Cls × N)) →
    (∀ p ∈ ps, build ts fuel proc p.2 = (tree ts fuel proc p.2).map (Option.map JA.render)) →
    buildProps ts fuel proc ps = (treeProps ts fuel proc ps).map (List.map fun m => m.1 ++ .colon :: m.2.render)
  | [], _ => by simp [buildProps, treeProps]
  | (k, c) :: ps, h => by
    simp only [buildProps, treeProps, h (k, c) (by simp), buildProps_eq_of ts ps fun p hp => h p (by simp [hp])]
    cases tree ts fuel proc c with
    | none => rfl
    | some o => cases o <;> cases treeProps ts fuel proc ps <;> simp

theorem build_eq (ts : Types) : (fuel : Nat) → (proc : String → Nat) → (n : N) →
    build ts fuel proc n = (tree ts fuel proc n).map (Option.map JA.render) := by
  intro fuel
  induction fuel using Nat.strongRecOn with
  | _ fuel ihf =>
    intro proc n
    induction n using N.mem_induct with
    | lit tok => simp [build, tree, JA.render]
    | arr items ih =>
      simp only [build, tree, buildKids_eq_of ts items ih]
      cases treeKids ts fuel proc items with
      | none => rfl
      | some vs => simp [JA.render, renderItems_compact]
    | obj props ih =>
      simp only [build, tree, buildProps_eq_of ts props ih]
      cases treeProps ts fuel proc props with
      | none => rfl
      | some ms => simp [JA.render, renderMembers_compact]
    | ref n =>
      cases fuel with
      | zero => simp [build, tree]
      | succ f =>
        simp only [build, tree]
        split
        · rfl
        · cases h : lookupT ts n with
          | none => rfl
          | some t => exact ihf f (Nat.lt_succ_self f) (bump proc n) t

theorem buildKids_eq (ts : Types) : (fuel : Nat) → (proc : String → Nat) → (cs : List N) →
    buildKids ts fuel proc cs = (treeKids ts fuel proc cs).map (List.map JA.render) :=
  fun fuel proc cs => buildKids_eq_of ts cs fun c _ => build_eq ts fuel proc c

theorem buildProps_eq (ts : Types) : (fuel : Nat) → (proc : String → Nat) → (ps : List (List Cls × N)) →
    buildProps ts fuel proc ps = (treeProps ts fuel proc ps).map (List.map fun m => m.1 ++ .colon :: m.2.render) :=
  fun fuel proc ps => buildProps_eq_of ts ps fun p _ => build_eq ts fuel proc p.2

/-! ### the tree is a valid JSON tree when the schema's own tokens are -/

mutual
def WFN : N → Prop
  | .lit tok => IsScalar tok
  | .arr items => WFKids items
  | .obj props => WFProps props
  | .ref _ => True
def WFKids : List N → Prop
  | [] => True
  | c :: cs => WFN c ∧ WFKids cs
def WFProps : List (List Cls × N) → Prop
  | [] => True
  | (k, c) :: ps => IsKey k ∧ WFN c ∧ WFProps ps
end

def WFTypes (ts : Types) : Prop := ∀ n t, lookupT ts n = some t → WFN t

theorem validItems_compact (vs : List JA) (h : ∀ v ∈ vs, v.Valid) :
    ValidItems (vs.map fun v => (([] : List Cls), v, ([] : List Cls))) := by
  induction vs with
  | nil => simp [ValidItems]
  | cons v vs ih =>
    simp only [List.map_cons, ValidItems]
    exact ⟨isWs_nil, h v (by simp), isWs_nil, ih (fun x hx => h x (by simp [hx]))⟩

theorem validMembers_compact (ms : List (List Cls × JA)) (h : ∀ m ∈ ms, IsKey m.1 ∧ m.2.Valid) :
    ValidMembers (ms.map fun m => (([] : List Cls), m.1, ([] : List Cls), ([] : List Cls), m.2, ([] : List Cls))) := by
  induction ms with
  | nil => simp [ValidMembers]
  | cons m ms ih =>
    simp only [List.map_cons, ValidMembers]
    exact ⟨isWs_nil, (h m (by simp)).1, isWs_nil, isWs_nil, (h m (by simp)).2, isWs_nil,
      ih (fun x hx => h x (by simp [hx]))⟩

theorem treeKids_valid_of (ts : Types) {fuel : Nat} {proc : String → Nat} : (cs : List N) →
    (∀ c ∈ cs, WFN c → ∀ v, tree ts fuel proc c = some (some v) → v.Valid) →
    WFKids cs → ∀ vs, treeKids ts fuel proc cs = some vs → ∀ v ∈ vs, v.Valid
  | [], _, _, vs, h => by simp [treeKids] at h; subst h; simp
  | c :: cs, hv, hw, vs, h => by
    obtain ⟨hc, hcs⟩ : WFN c ∧ WFKids cs := by simpa [WFKids] using hw
    simp only [treeKids] at h
    cases h1 : tree ts fuel proc c with
    | none => rw [h1] at h; simp at h
    | some o =>
      cases h2 : treeKids ts fuel proc cs with
      | none => rw [h1, h2] at h; cases o <;> simp at h
      | some rest =>
        have ih := treeKids_valid_of ts cs (fun d hd => hv d (by simp [hd])) hcs rest h2
        rw [h1, h2] at h
        cases o with
        | none => simp at h; subst h; exact ih
        | some v0 =>
          simp at h; subst h
          intro v hm
          rcases List.mem_cons.1 hm with rfl | hm
          · exact hv c (by simp) hc _ h1
          · exact ih v hm

theorem treeProps_valid_of (ts : Types) {fuel : Nat} {proc : String → Nat} : (ps : List (List Cls × N)) →
    (∀ p ∈ ps, WFN p.2 → ∀ v, tree ts fuel proc p.2 = some (some v) → v.Valid) →
    WFProps ps → ∀ ms, treeProps ts fuel proc ps = some ms → ∀ m ∈ ms, IsKey m.1 ∧ m.2.Valid
  | [], _, _, ms, h => by simp [treeProps] at h; subst h; simp
  | (k, c) :: ps, hv, hw, ms, h => by
    obtain ⟨hk, hc, hps⟩ : IsKey k ∧ WFN c ∧ WFProps ps := by simpa [WFProps] using hw
    simp only [treeProps] at h
    cases h1 : tree ts fuel proc c with
    | none => rw [h1] at h; simp at h
    | some o =>
      cases h2 : treeProps ts fuel proc ps with
      | none => rw [h1, h2] at h; cases o <;> simp at h
      | some rest =>
        have ih := treeProps_valid_of ts ps (fun p hp => hv p (by simp [hp])) hps rest h2
        rw [h1, h2] at h
        cases o with
        | none => simp at h; subst h; exact ih
        | some v0 =>
          simp at h; subst h
          intro m hm
          rcases List.mem_cons.1 hm with rfl | hm
          · exact ⟨hk, hv (k, c) (by simp) hc _ h1⟩
          · exact ih m hm

theorem tree_valid (ts : Types) (hts : WFTypes ts) : (fuel : Nat) → (proc : String → Nat) → (n : N) → WFN n →
    ∀ v, tree ts fuel proc n = some (some v) → v.Valid := by
  intro fuel
  induction fuel using Nat.strongRecOn with
  | _ fuel ihf =>
    intro proc n
    induction n using N.mem_induct with
    | lit tok => intro hw v h; simp [tree] at h; subst h; simpa [JA.Valid, WFN] using hw
    | arr items ih =>
      intro hw v h
      simp only [tree] at h
      cases hk : treeKids ts fuel proc items with
      | none => rw [hk] at h; simp at h
      | some vs =>
        rw [hk] at h; simp at h; subst h
        have := treeKids_valid_of ts items ih (by simpa [WFN] using hw) vs hk
        simp only [JA.Valid]
        exact ⟨isWs_nil, validItems_compact vs this⟩
    | obj props ih =>
      intro hw v h
      simp only [tree] at h
      cases hk : treeProps ts fuel proc props with
      | none => rw [hk] at h; simp at h
      | some ms =>
        rw [hk] at h; simp at h; subst h
        have := treeProps_valid_of ts props ih (by simpa [WFN] using hw) ms hk
        simp only [JA.Valid]
        exact ⟨isWs_nil, validMembers_compact ms this⟩
    | ref n =>
      intro _ v h
      cases fuel with
      | zero => simp [tree] at h
      | succ f =>
        simp only [tree] at h
        split at h
        · simp at h
        · cases hl : lookupT ts n with
          | none => rw [hl] at h; simp at h
          | some t =>
            rw [hl] at h
            exact ihf f (Nat.lt_succ_self f) (bump proc n) t (hts n t hl) v h

theorem treeKids_valid (ts : Types) (hts : WFTypes ts) : (fuel : Nat) → (proc : String → Nat) → (cs : List N) →
    WFKids cs → ∀ vs, treeKids ts fuel proc cs = some vs → ∀ v ∈ vs, v.Valid :=
  fun fuel proc cs => treeKids_valid_of ts cs fun c _ => tree_valid ts hts fuel proc c

theorem treeProps_valid (ts : Types) (hts : WFTypes ts) : (fuel : Nat) → (proc : String → Nat) →
    (ps : List (List Cls × N)) → WFProps ps → ∀ ms, treeProps ts fuel proc ps = some ms → ∀ m ∈ ms, IsKey m.1 ∧ m.2.Valid :=
  fun fuel proc ps => treeProps_valid_of ts ps fun p _ => tree_valid ts hts fuel proc p.2

/-- **C15, well-formedness**: whatever the builder emits is the rendering of a valid JSON tree, so the JSON scanner
delivers exactly that tree's events for it (in particular, it is accepted) -/
theorem C15_wellformed (ts : Types) (hts : WFTypes ts) (fuel : Nat) (n : N) (hn : WFN n) (bs : List Cls)
    (h : build ts fuel (fun _ => 0) n = some (some bs)) :
    ∃ v : JA, v.Valid ∧ bs = v.render ∧
      eventsLoop false bs.length bs 0 {} [] = .ok (evsAt 0 v) := by
  rw [build_eq] at h
  cases ht : tree ts fuel (fun _ => 0) n with
  | none => rw [ht] at h; simp at h
  | some o =>
    cases o with
    | none => rw [ht] at h; simp at h
    | some v =>
      rw [ht] at h
      simp at h; subst h
      have hv := tree_valid ts hts fuel _ n hn v ht
      refine ⟨v, hv, rfl, ?_⟩
      have := C06_events_of_tree false v hv [] [] isWs_nil isWs_nil
      simpa using this

#print axioms C15_wellformed

end EX
