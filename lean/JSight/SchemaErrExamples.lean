import JSight.SchemaErrEof
import JSight.SchemaLenExamples
/-! Concrete instances for the C17 schema-scanner theorems (non-vacuity). -/
namespace SchemaScan
namespace ErrEx
open Len Len.Ex

/-- `x` : invalid character at offset 0 -/
theorem ex_x : scanAll [120] = .error (.invalidChar 0 "looking for beginning of value") := by
  apply fails_scanAll
  refine Fails.readErr rfl (by decide) ?_
  unfold readStep
  unfold dispatch
  simp [classify, isCommentStart, beginValue, isNewLineM, Cls.isNewLine, Cls.isBlank, Cls.isSpace, bind, Except.bind,
    pure, Except.pure, errChar, throw, throwThe, MonadExceptOf.throw]

/-- `##xy` : the second `#` is the offending byte (a third `#` would have opened a `###` comment): the error depends on
the byte behind it -/
theorem ex_hash : scanAll [35, 35, 120, 121] = .error (.invalidChar 1 "after first #") := by
  apply fails_scanAll
  have h1 : readStep ([35, 35, 120, 121].map classify).toArray {} =
      .ok { step := .anyCommentStart, ret := [.foundRoot], index := 1 } := by
    unfold readStep
    unfold dispatch
    simp [classify, isCommentStart, switchToComment, pure, Except.pure]
  refine Fails.read rfl (by decide) h1 ?_
  refine Fails.readErr rfl (by decide) ?_
  unfold readStep
  unfold dispatch
  simp [classify, errChar, throw, throwThe, MonadExceptOf.throw]

/-- `[1, {"a":` : the input ends early -/
theorem ex_eof : scanAll (b "[1, {\"a\":") = .error (.unexpectedEOF ((b "[1, {\"a\":").length - 1)) :=
  scanAll_eof_tokens toks3 toks3_wf res3.1 res3.2 run3 rfl (b "[1, {\"a\":") (by decide)

/-- `[1, {"a":"x\n` : the input ends inside a string -/
theorem ex_eof_str : scanAll (b "[1, {\"a\":\"x\\n") = .error (.unexpectedEOF ((b "[1, {\"a\":\"x\\n").length - 1)) :=
  scanAll_eof_string toks3 toks3_wf res3.1 res3.2 run3 .objv rfl [.nameo, .bslash, .ln]
    (.plain _ _ rfl (.esc _ _ rfl .nil)) (b "[1, {\"a\":\"x\\n") (by decide)

end ErrEx
end SchemaScan
