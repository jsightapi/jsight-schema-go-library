import JSight.Loader
import JSight.RegexQuote
import JSight.ListFacts
/-!
C13, "quoted versus bare rule names": the rule name the loader dispatches on (`nameOf` =
`TrimSpaces().Unquote()` of the name token) is the same for the bare and the quoted spelling, with any blanks
around the token. Names are printable ASCII without quote, backslash and blank (`plainName`; every name the schema
scanner accepts as a bare rule name is one: `Lay.plainName_of_isName` in `AnnotThm`).
-/
namespace Loader
open Unquote GoQuote

def plainName (n : List UInt8) : Prop := n ≠ [] ∧ ∀ c ∈ n, printable c = true ∧ c ≠ 34 ∧ c ≠ 92 ∧ c ≠ 32

theorem isBlank_of_printable_ne (c : UInt8) (hp : printable c = true) (h32 : c ≠ 32) : isBlank c = false := by
  simp only [printable, Bool.and_eq_true, decide_eq_true_eq] at hp
  simp only [isBlank, Bool.or_eq_false_iff, beq_eq_false_iff_ne, ne_eq]
  -- the other three blanks are below 0x20, hence not printable
  refine ⟨⟨⟨h32, ?_⟩, ?_⟩, ?_⟩ <;> (intro e; subst e; exact absurd hp.1 (by decide))

/-- trimming removes exactly the surrounding blanks of a token that begins and ends with a non-blank byte. The first
byte and the last (the head of the reverse) are given by equations, so that a caller names them and needs no `getLast` -/
theorem trimSpaces_token (w1 w2 x : List UInt8) (h1 : ∀ c ∈ w1, isBlank c = true) (h2 : ∀ c ∈ w2, isBlank c = true)
    (a : UInt8) (t : List UInt8) (hx : x = a :: t) (ha : isBlank a = false)
    (b : UInt8) (u : List UInt8) (hr : x.reverse = b :: u) (hb : isBlank b = false) :
    trimSpaces (w1 ++ x ++ w2) = x := by
  unfold trimSpaces
  rw [List.append_assoc, List.dropWhile_append_of_pos h1]
  have e1 : (x ++ w2).dropWhile isBlank = x ++ w2 := by
    subst hx; simp [List.dropWhile_cons, ha]
  rw [e1, List.reverse_append, List.dropWhile_append_of_pos (by intro c hc; exact h2 c (by simpa using hc))]
  rw [List.dropWhile_eq_self_of_head? (by rw [hr]; rfl) hb, List.reverse_reverse]

theorem esc_plain (n : List UInt8) (h : ∀ c ∈ n, c ≠ 34 ∧ c ≠ 92) : esc n = n := by
  induction n with
  | nil => rfl
  | cons c cs ih =>
    have hc := h c (by simp)
    have e1 : (c == 34) = false := by simpa using hc.1
    have e2 : (c == 92) = false := by simpa using hc.2
    simp only [esc, e1, e2, Bool.false_eq_true, if_false]
    rw [ih (fun x hx => h x (by simp [hx]))]

theorem unquote_quoted (n : List UInt8) (hn : plainName n) : unquote (34 :: (n ++ [34])) = n := by
  have := C18_goquote_roundtrip n (fun c hc => (hn.2 c hc).1)
  unfold q at this
  rwa [esc_plain n (fun c hc => ⟨(hn.2 c hc).2.1, (hn.2 c hc).2.2.1⟩)] at this

theorem unquote_bare (n : List UInt8) (hn : plainName n) : unquote n = n := by
  unfold unquote
  have : inQuotes n = false := by
    obtain ⟨hne, hall⟩ := hn
    cases n with
    | nil => exact absurd rfl hne
    | cons a t =>
      have ha := (hall a (by simp)).2.1
      simp [inQuotes, ha]
  simp [this]

/-- **bare and quoted spelling of a rule name give the loader the same name**, whatever blanks surround the token -/
theorem C13_rule_name_spelling (n w1 w2 : List UInt8) (hn : plainName n)
    (h1 : ∀ c ∈ w1, isBlank c = true) (h2 : ∀ c ∈ w2, isBlank c = true) :
    unquote (trimSpaces (w1 ++ n ++ w2)) = n ∧ unquote (trimSpaces (w1 ++ (34 :: (n ++ [34])) ++ w2)) = n := by
  obtain ⟨hne, hall⟩ := hn
  constructor
  · cases n with
    | nil => exact absurd rfl hne
    | cons a t =>
      have ha := hall a (by simp)
      cases hr : (a :: t).reverse with
      | nil => simp at hr
      | cons b u =>
        have hbm : b ∈ a :: t := by
          have : b ∈ (a :: t).reverse := by rw [hr]; simp
          exact List.mem_reverse.1 this
        have hb := hall b hbm
        rw [trimSpaces_token w1 w2 (a :: t) h1 h2 a t rfl (isBlank_of_printable_ne a ha.1 ha.2.2.2) b u hr
          (isBlank_of_printable_ne b hb.1 hb.2.2.2)]
        exact unquote_bare _ ⟨hne, hall⟩
  · have hq : isBlank 34 = false := by decide
    rw [trimSpaces_token w1 w2 (34 :: (n ++ [34])) h1 h2 34 (n ++ [34]) rfl hq 34 (n.reverse ++ [34])
      (by simp) hq]
    exact unquote_quoted n ⟨hne, hall⟩

/-- non-vacuity: `enum` is such a name (bytes 101 110 117 109) -/
example : plainName [101, 110, 117, 109] := ⟨by simp, by decide⟩

end Loader
