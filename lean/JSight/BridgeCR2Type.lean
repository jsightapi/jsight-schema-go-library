import JSight.BridgeCR2Front
/-!
Bridge (A)∩(B): `typeConstraint` and everything after it — `bType` walked against `CR.typeRows` followed by the end of
`compileNode` on the map `typeConstraint` hands on (`type_rows_agree`; the case of a type reference alone:
`type_user_rows`, which a `@t` node needs as well).
-/
namespace BridgeCR
open Compile
open Loader (NK)

/-- the `type` rule names none of the formats (A) leaves to the standard library -/
def NoFmt (frs : List Rule) : Prop :=
  ∀ r ∈ frs, r.name = sb "type" →
    unq (r.val.getD []) ≠ sb "email" ∧ unq (r.val.getD []) ≠ sb "uri" ∧ unq (r.val.getD []) ≠ sb "datetime"

theorem json_pre (s : String) (t : CR.JT) (h : (s, t) ∈ jsonNames) :
    isUserTypeName (sb s) = false ∧ (sb s == sb "mixed") = false ∧ (sb s == sb "enum") = false ∧ (sb s == sb "any") = false ∧
    (sb s == sb "decimal") = false ∧ fmtOfType (sb s) = none := by
  simp only [jsonNames, List.mem_cons, Prod.mk.injEq, List.mem_nil_iff, or_false] at h
  rcases h with ⟨rfl, rfl⟩ | ⟨rfl, rfl⟩ | ⟨rfl, rfl⟩ | ⟨rfl, rfl⟩ | ⟨rfl, rfl⟩ | ⟨rfl, rfl⟩ | ⟨rfl, rfl⟩ <;> decide +kernel

/-- (A)'s kind tests of `typeConstraint` are (B)'s `realTypeOK`, negated: the type `enum` … -/
theorem rt_enum (jt : JT) (hj : jt ≠ .mixed) : (jt == .obj || jt == .arr || jt == .mixed) = !CR.realTypeOK .enum (cjt jt) := by
  cases jt <;> first | exact absurd rfl hj | rfl

/-- … and `decimal`, `uuid`, `date` -/
theorem rt_fit (jt : JT) : (jt != .flt) = !CR.realTypeOK .decimal (cjt jt) ∧
    (jt != .str) = !CR.realTypeOK .uuid (cjt jt) ∧ (jt != .str) = !CR.realTypeOK .date (cjt jt) := by
  cases jt <;> exact ⟨rfl, rfl, rfl⟩

section
variable {frs : List Rule} {kind : NK} {jt : JT} {nch : Nat} {isProp : Bool} {c : CR.Ctx}

theorem typesLen_zero (hor : hasRule frs "or" = false) : CR.typesLen (mapOf frs) = 0 := by
  unfold CR.typesLen CR.typesUsers
  rw [mapOf_named frs .typesList "or" ct_typesList, findRule_none frs "or" hor]
  rfl

/-- a type reference: the types list takes the place of the type rule -/
theorem type_user_rows (G : Good frs) (hprop : c.isProp = isProp) (hbranch : c.isBranch = (kind == .obj || kind == .arr))
    (hor : hasRule frs "or" = false)
    (t : Rule) (hft : findRule frs "type" = some t) (hu : isUserTypeName (unq (t.val.getD [])) = true)
    (hg1 : (kind == NK.mixed && !t.gen) = false) (hg2 : (decide (c.cls = .mixedValue) && !t.gen) = false) {orShort : Bool} :
    Agree (outA (bType kind frs jt isProp nch none orShort))
      (CR.firstErr (CR.typeRows c (mapOf frs) ++ CR.tailRows c (CR.typeNext (mapOf frs))) ()) := by
  have hht : (mapOf frs).has .type = true := by rw [has_mapOf_named _ _ _ ct_type, ← findRule_isSome, hft]; rfl
  have hc := count_others frs G.known sl_user (CR.count_user (mapOf frs) hht)
  have hlist : (mapOf frs).has .typesList = false := by rw [has_mapOf_named _ _ _ ct_typesList, hor]
  have hty : CR.tyOf (t.val.getD []) = .user := ofBytes_user _ hu
  unfold bType CR.typeRows CR.typeNext
  rw [typeTok_mapOf, hft]
  simp only [Option.map_some, hu, if_true, hty, CR.tyRows, CR.tyAdd, CR.tyAddVal, List.cons_append, List.nil_append]
  refine agreeA_guard hc fun h1 => ?_
  refine agreeA_guard (by rw [hbranch, Bool.not_not]) fun _ => ?_
  refine agreeA_guard (by rw [hg1, hg2]; rfl) fun _ => ?_
  refine agree_skipB (by rw [hlist]; rfl) ?_
  have hz : others frs ["type", "optional", "nullable"] = 0 := by simpa using h1
  exact tail_tl (relT_set hor .typesList _ (by simp)) G hprop (others_zero_of frs _ _ hz (by simp)) _

/-- `typeConstraint` and everything after it on a node with a JSON kind and without `or` -/
theorem type_rows_agree (G : Good frs) (hng : ∀ r ∈ frs, r.gen = false) (C : CtxOK kind jt nch isProp c)
    (hor : hasRule frs "or" = false) (hnf : NoFmt frs) :
    Agree (outA (bType kind frs jt isProp nch none false))
      (CR.firstErr (CR.typeRows c (mapOf frs) ++ CR.tailRows c (CR.typeNext (mapOf frs))) ()) := by
  cases hft : findRule frs "type" with
  | none =>
    unfold bType CR.typeRows CR.typeNext
    rw [typeTok_mapOf, hft]
    exact tail_plain (relT_base hft hor) G C (Or.inl rfl)
  | some t =>
    obtain ⟨tn, tm⟩ := findRule_name hft
    cases hu : isUserTypeName (unq (t.val.getD []))
    case true =>
      exact type_user_rows G C.prop C.branch hor t hft hu (by simp [hng t tm, C.kindm]) (by simp [C.notMV])
    case false =>
      obtain ⟨nf1, nf2, nf3⟩ := hnf t tm tn
      have tp : ∀ {orShort}, Agree (outA (bAllowed frs jt isProp nch false none none orShort))
          (CR.firstErr (CR.tailRows c ((mapOf frs).del .type)) ()) := tail_plain (relT_del hor) G C (Or.inl rfl)
      unfold bType CR.typeRows CR.typeNext
      rw [typeTok_mapOf, hft]
      simp only [Option.map_some, hng t tm]
      have hty : CR.tyOf (t.val.getD []) = CR.TyName.ofBytes (unq (t.val.getD [])) := rfl
      rw [hty]
      revert hu nf1 nf2 nf3
      generalize unq (t.val.getD []) = v
      intro hu nf1 nf2 nf3
      -- (A)'s tests on the name become tests on the `TyName` it stands for; then one case per `TyName`
      have T := ty_beq v hu
      simp only [CR.tyTable, List.forall_mem_cons, List.not_mem_nil, false_imp_iff, implies_true, and_true] at T
      have hjn : (v != jt.name) = !decide (CR.TyName.ofBytes v = .json (cjt jt)) := by
        cases jt <;> first
          | exact absurd rfl C.jtm
          | (simp only [JT.name, bne, sb_object, sb_array, sb_string, sb_integer, sb_float, sb_boolean, sb_null, T, cjt]; rfl)
      rw [← beq_eq_false_iff_ne] at nf1 nf2 nf3
      simp only [sb_email, sb_uri, sb_datetime, T, decide_eq_false_iff_not] at nf1 nf2 nf3
      simp only [hu, Bool.false_eq_true, if_false, fmtOfType, hjn, sb_mixed, sb_tenum, sb_any, sb_decimal, sb_email, sb_uri, sb_uuid,
        sb_date, sb_datetime, sb_object, sb_array, sb_string, sb_integer, sb_float, sb_boolean, sb_null, T]
      obtain ⟨hnu, hnm⟩ := ofBytes_ne v hu
      generalize CR.TyName.ofBytes v = ty at nf1 nf2 nf3 hnu hnm ⊢
      have fit : ∀ ty, CR.fits c ty = CR.realTypeOK ty (cjt jt) := fun ty => by simp [CR.fits, C.notMixed, C.notMV, C.jtc]
      cases ty <;>
        simp only [reduceCtorEq, decide_false, decide_true, ↓reduceIte, Bool.or_self, Bool.false_eq_true,
          Option.isSome_some, Option.isSome_none, CR.TyName.json.injEq, CR.tyRows, CR.tyAdd, CR.tyAddVal, List.cons_append,
          List.nil_append]
      case user => exact absurd rfl hnu
      case mixed => rw [typesLen_zero hor]; exact agreeA_throw _ _
      case enum =>
        refine agreeA_guard (by rw [has_mapOf_named _ _ _ ct_enum]) fun _ => ?_
        exact agreeA_guard (by rw [fit, rt_enum jt C.jtm]) fun _ => tp
      case any => exact agree_skipB (by rw [has_mapOf_unnamed _ _ rfl]; rfl) (tail_any G C hor)
      case decimal =>
        refine agreeA_guard (by rw [has_mapOf_named _ _ _ ct_precision]) fun _ => ?_
        exact agreeA_guard (by rw [fit, (rt_fit jt).1]) fun _ => tp
      case email => exact absurd rfl nf1
      case uri => exact absurd rfl nf2
      case datetime => exact absurd rfl nf3
      case uuid =>
        refine agree_skipB (by rw [has_mapOf_unnamed _ _ rfl]; rfl) ?_
        exact agreeA_guard (by rw [fit, (rt_fit jt).2.1]) fun _ =>
          tail_plain (relT_set hor .uuid .unit (by simp)) G C (Or.inr (Or.inl rfl))
      case date =>
        refine agree_skipB (by rw [has_mapOf_unnamed _ _ rfl]; rfl) ?_
        exact agreeA_guard (by rw [fit, (rt_fit jt).2.2]) fun _ =>
          tail_plain (relT_set hor .date .unit (by simp)) G C (Or.inr (Or.inr rfl))
      case json tt =>
        have hall : (decide (tt = .object) || decide (tt = .array) || decide (tt = .string) || decide (tt = .integer) ||
            decide (tt = .float) || decide (tt = .boolean) || decide (tt = .null)) = true := by
          cases tt <;> first | rfl | exact absurd rfl hnm
        simp only [hall, if_true]
        refine agreeA_guard (by simp [C.notMixed, C.jtc]) fun _ => ?_
        by_cases ht : tt = cjt jt
        · exact agree_skipB (by rw [fit, CR.realTypeOK_json]; simp [ht, CR.gd]) tp
        · simp [ht] at *
      case unknown => exact agreeA_throw _ _

end

end BridgeCR
