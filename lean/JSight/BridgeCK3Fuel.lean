import JSight.BridgeCK3Tree
import JSight.BridgeCK2
import JSight.ExceptWp
import JSight.VisitMeasure
/-!
Bridge (A)∩(C): **(A) never runs out of its fuel** — `Compile.checkFuel` units are enough for every
reference-following loop of `Compile.checkNode` (`allowed`, `exampleAlts`; `actualRoot` treats exhaustion as "mixed" and
is bounded by the path set), on every tree and every type table, cyclic ones included. The measure: a loop spends one
unit per name it reads and one per type it enters; a type is entered only while it is not on the path / in the added
set, so what can still be spent is the names of the list in hand plus the root lists of the types not yet entered
(`budget`); `node_fuel`, `table_fuel`, `root_fuel` are what `agree_typed_k` uses, `checkA_no_fuel` the statement for `checkA`.
-/
namespace BridgeCK
open Compile

/-- what a loop spends inside a named type: the names of its root's types list (and the step into it) -/
def rootCount : CN → Nat
  | .ref names _ _ _ _ => names.length + 1
  | _ => 0

theorem rootCount_le (cn : CN) : rootCount cn ≤ namesCount cn := by
  cases cn <;> simp [rootCount, namesCount]

/-- what the loops can still spend: the root lists of the types not yet entered -/
def budget (found : List String) : Types → Nat
  | [] => 0
  | t :: ts => (if found.contains t.1 then 0 else rootCount t.2) + budget found ts

theorem budget_eq (found : List String) : (ts : Types) →
    budget found ts = (ts.map fun t => if found.contains t.1 then 0 else rootCount t.2).sum
  | [] => rfl
  | t :: ts => by rw [budget, budget_eq found ts]; rfl

theorem weight_anti (f1 f2 : List String) (h : ∀ x, f1.contains x = true → f2.contains x = true) (t : String × CN) :
    (if f2.contains t.1 then 0 else rootCount t.2) ≤ if f1.contains t.1 then 0 else rootCount t.2 := by
  cases h1 : f1.contains t.1
  · split <;> simp
  · rw [h _ h1]; exact Nat.le_refl _

theorem budget_anti (f1 f2 : List String) (h : ∀ x, f1.contains x = true → f2.contains x = true) (ts : Types) :
    budget f2 ts ≤ budget f1 ts := by
  rw [budget_eq, budget_eq]
  exact Visit.sum_add_le _ _ 0 ts (fun t _ => weight_anti f1 f2 h t) (.inl rfl)

theorem contains_cons_of (n : String) (found : List String) (x : String) (h : found.contains x = true) :
    (n :: found).contains x = true := by
  rw [List.contains_cons, h, Bool.or_true]

theorem budget_split (found : List String) (n : String) (hn : found.contains n = false) (ts : Types) (cn : CN)
    (hl : lookupT ts n = some cn) : budget (n :: found) ts + rootCount cn ≤ budget found ts := by
  rw [budget_eq, budget_eq]
  refine Visit.sum_add_le _ _ _ ts (fun t _ => weight_anti _ _ (contains_cons_of n found) t)
    (.inr ⟨(n, cn), Visit.find_entry hl, ?_⟩)
  dsimp only
  rw [hn, List.contains_cons, beq_self_eq_true]
  simp

/-! ### the two loops -/

/-- an error of (A) other than "out of fuel" -/
def Fueled (e : Err) : Prop := ∀ w, e ≠ .unsupported w

theorem fueled_code (c p : Nat) : Fueled (.code c p) := fun _ h => by cases h

theorem noFuel_iff {a : Except Err Unit} : NoFuel a ↔ a.wp (fun _ => True) Fueled := by
  cases a <;> simp [NoFuel, Except.wp, Fueled]

/-- `allowed` does not run out of fuel: one unit per name it reads, `budget` for the types it enters, and the `+ 1` is the
unit the empty list still asks for (only fuel 0 answers "out of fuel") -/
theorem allowed_fuel (ts : Types) : ∀ (fuel : Nat) (found names : List String),
    names.length + 1 + budget found ts ≤ fuel → (allowed ts fuel found names).wp (fun _ => True) Fueled
  | 0, _, _, h => by omega
  | fuel + 1, found, [], _ => by rw [allowed]; trivial
  | fuel + 1, found, n :: rest, h => by
    rw [allowed_cons]
    simp only [List.length_cons] at h
    cases hc : found.contains n
    · simp only [Bool.false_eq_true, if_false]
      cases hl : lookupT ts n with
      | none => exact fueled_code _ _
      | some t =>
        dsimp only
        have hsplit := budget_split found n hc ts t hl
        have hhere : (hereA ts fuel found n t).wp (fun _ => True) Fueled := by
          cases t with
          | ref names' nul jt ex os =>
            simp only [hereA]
            cases hm : (jt == JT.mixed)
            · exact allowed_fuel ts fuel (n :: found) names' (by simp only [rootCount] at hsplit; omega)
            · simp only [if_true]
              split
              · trivial
              · exact fueled_code _ _
          | lit _ _ | any _ _ | arr _ _ _ | obj _ _ _ _ => trivial
        unfold joinA
        refine hhere.elim (fun _ he => he) fun a _ => ?_
        exact (allowed_fuel ts fuel found rest (by omega)).elim (fun _ he => he) fun b _ => trivial
    · exact fueled_code _ _

/-- `exampleAlts` does not run out of fuel either, and the set of expanded names only grows -/
theorem exampleAlts_fuel (ts : Types) (tok : Bytes) : ∀ (fuel : Nat) (added names : List String),
    names.length + 1 + budget added ts ≤ fuel →
    (exampleAlts ts tok fuel added names).wp (fun r => ∀ x, added.contains x = true → r.1.contains x = true) Fueled
  | 0, _, _, h => by omega
  | fuel + 1, added, [], _ => by rw [exampleAlts]; exact fun _ hx => hx
  | fuel + 1, added, n :: rest, h => by
    rw [exampleAlts_cons]
    simp only [List.length_cons] at h
    cases hc : added.contains n
    · simp only [Bool.false_eq_true, if_false]
      cases hl : lookupT ts n with
      | none => exact fueled_code _ _
      | some t =>
        dsimp only
        have hsplit := budget_split added n hc ts t hl
        have hhere : (hereB ts tok fuel added n t).wp
            (fun r => ∀ x, (n :: added).contains x = true → r.1.contains x = true) Fueled := by
          cases t with
          | ref names' nul jt ex os =>
            exact exampleAlts_fuel ts tok fuel (n :: added) names' (by simp only [rootCount] at hsplit; omega)
          | any jt l => cases l <;> exact fun _ hx => hx
          | lit _ _ | arr _ _ _ | obj _ _ _ _ => exact fun _ hx => hx
        unfold joinB
        refine hhere.elim (fun _ he => he) fun (added1, xs1) h1 => ?_
        have hg0 : ∀ x, added.contains x = true → added1.contains x = true :=
          fun x hx => h1 x (contains_cons_of n added x hx)
        have hb1 := budget_anti added added1 hg0 ts
        dsimp only
        exact (exampleAlts_fuel ts tok fuel added1 rest (by omega)).elim (fun _ he => he)
          fun (added2, xs2) h2 x hx => h2 x (hg0 x hx)
    · simp only [if_true]
      exact exampleAlts_fuel ts tok fuel added rest (by omega)

/-! ### the tree -/

section
variable (ts : Types) (fuel : Nat)

/-- a check and the checks that follow it: "out of fuel" comes from one of the two. The `match` is how the model's
definitions put one check after another (`checkItems`, `checkProps`, `checkTypes`, `checkA`), so the lemma applies to
their unfoldings as it stands -/
theorem noFuel_seq {a b : Except Err Unit} (ha : NoFuel a) (hb : NoFuel b) :
    NoFuel (match (generalizing := false) a with | .error e => .error e | .ok () => b) := by
  cases a with
  | error e => exact ha
  | ok u => cases u; exact hb

theorem verdictA_noFuel (alts : List (Option Nat)) : NoFuel (verdictA alts) := by
  intro w hw
  unfold verdictA at hw
  split at hw
  · split at hw <;> cases hw
  · cases hw

/-- (A)'s check of a node with a types list and no EXAMPLE (`node_fuel` below; the case with an EXAMPLE is
`checkNode_refex`, `BridgeCK3Node`) -/
theorem checkNode_refnone (names : List String) (nul : Bool) (jt : JT) (os : Bool) (hj : (jt == JT.mixed) = false) :
    Compile.checkNode ts fuel (.ref names nul jt none os) =
      match allowed ts fuel [] names with
      | .error e => .error e
      | .ok al => if !(alOK jt al) then .error (.code 1301 0) else .ok () := by
  simp only [Compile.checkNode, hj]
  cases allowed ts fuel [] names with
  | error e => rfl
  | ok al => cases al <;> rfl

mutual
theorem node_fuel : (cn : CN) → namesCount cn + budget [] ts ≤ fuel → NoFuel (Compile.checkNode ts fuel cn)
  | .lit spec bad, _ => by
    intro w hw
    simp only [Compile.checkNode] at hw
    split at hw
    · cases hw
    · split at hw <;> cases hw
  | .any _ _, _ => by intro w hw; simp [Compile.checkNode] at hw
  | .arr items nul bad, h => by
    rcases checkNode_arr ts fuel items nul bad with ⟨c, hc⟩ | hc
    · rw [hc]; intro w hw; cases hw
    · rw [hc]; exact items_fuel items (by simpa [namesCount] using h)
  | .obj props add nul bad, h => by
    rcases checkNode_obj ts fuel props add nul bad with ⟨c, hc⟩ | hc
    · rw [hc]; intro w hw; cases hw
    · rw [hc]; exact props_fuel props (by simpa [namesCount] using h)
  | .ref names nul jt ex os, h => by
    simp only [namesCount] at h
    cases hm : (jt == JT.mixed)
    · have ha := allowed_fuel ts fuel [] names (by omega)
      cases ex with
      | none =>
        rw [checkNode_refnone ts fuel names nul jt os hm, noFuel_iff]
        refine ha.elim (fun _ he => he) fun al _ => ?_
        dsimp only
        split
        · exact fueled_code _ _
        · trivial
      | some tok =>
        rw [checkNode_refex ts fuel names nul jt tok os hm, noFuel_iff]
        refine ha.elim (fun _ he => he) fun al _ => ?_
        dsimp only
        split
        · exact fueled_code _ _
        · exact (exampleAlts_fuel ts tok fuel [] names (by omega)).elim (fun _ he => he)
            fun (_, alts) _ => noFuel_iff.1 (verdictA_noFuel alts)
    · intro w hw
      simp only [Compile.checkNode, hm, if_true] at hw
      split at hw <;> cases hw
theorem items_fuel : (items : List CN) → namesCountItems items + budget [] ts ≤ fuel → NoFuel (checkItems ts fuel items)
  | [], _ => by intro w hw; simp [checkItems] at hw
  | x :: xs, h => by
    simp only [namesCountItems] at h
    simp only [checkItems]
    exact noFuel_seq (node_fuel x (by omega)) (items_fuel xs (by omega))
theorem props_fuel : (props : List (String × Bool × Bool × Bool × CN)) → namesCountProps props + budget [] ts ≤ fuel →
    NoFuel (checkProps ts fuel props)
  | [], _ => by intro w hw; simp [checkProps] at hw
  | (_, _, _, _, x) :: xs, h => by
    simp only [namesCountProps] at h
    simp only [checkProps]
    exact noFuel_seq (node_fuel x (by omega)) (props_fuel xs (by omega))
end

theorem types_fuel (hF : ∀ n cn, lookupT ts n = some cn → namesCount cn + budget [] ts ≤ fuel) :
    (L : List String) → NoFuel (Compile.checkTypes ts fuel L)
  | [] => by intro w hw; simp [Compile.checkTypes] at hw
  | n :: L => by
    simp only [Compile.checkTypes]
    cases hl : lookupT ts n with
    | none => exact types_fuel hF L
    | some t => exact noFuel_seq (node_fuel ts fuel t (hF n t hl)) (types_fuel hF L)

end

theorem budget_nil_le : (ts : Types) → budget [] ts ≤ (ts.map fun t => namesCount t.2).sum
  | [] => Nat.le_refl _
  | t :: ts => by
    have ih := budget_nil_le ts
    have := rootCount_le t.2
    simp only [budget, List.contains_nil, Bool.false_eq_true, if_false, List.map_cons, List.sum_cons]
    omega

theorem lookup_count : (ts : Types) → ∀ n cn, lookupT ts n = some cn → namesCount cn ≤ (ts.map fun t => namesCount t.2).sum
  | [], n, cn, h => by simp [lookupT] at h
  | t :: ts, n, cn, h => by
    simp only [List.map_cons, List.sum_cons]
    by_cases e : t.1 = n
    · simp only [lookupT, List.find?_cons, e, beq_self_eq_true, Option.map_some, Option.some.injEq] at h
      rw [← h]; omega
    · have hb : (t.1 == n) = false := beq_eq_false_iff_ne.2 e
      simp only [lookupT, List.find?_cons, hb] at h
      have := lookup_count ts n cn h
      omega

/-- `Compile.checkFuel` covers every entry of the table … -/
theorem table_fuel (root : Option CN) (ts : Types) (n : String) (cn : CN) (hl : lookupT ts n = some cn) :
    namesCount cn + budget [] ts ≤ checkFuel root ts := by
  have := budget_nil_le ts
  have := lookup_count ts n cn hl
  unfold checkFuel
  omega

/-- … and the root -/
theorem root_fuel (r : CN) (ts : Types) : namesCount r + budget [] ts ≤ checkFuel (some r) ts := by
  have := budget_nil_le ts
  unfold checkFuel
  simp only []
  omega

/-- **(A) never runs out of fuel**: `Compile.checkFuel` is enough on every tree and every type table -/
theorem checkA_no_fuel (root : Option CN) (ts : Types) : NoFuel (checkA root ts) := by
  have htab : ∀ r, NoFuel (if !(ts.all fun t => orShortsOK ts t.2) then .error (.code 1302 0)
      else Compile.checkTypes ts (checkFuel r ts) (sortNames (ts.map (·.1)))) := fun r => by
    split
    · exact fun w hw => by cases hw
    · exact types_fuel ts _ (table_fuel r ts) _
  cases root with
  | none => exact htab none
  | some r => exact noFuel_seq (node_fuel ts _ r (root_fuel r ts)) (htab (some r))

/-- `Compile.check` (CheckRootSchema + CheckRecursion) never answers "out of fuel" either -/
theorem check_no_fuel (root : CN) (ts : Types) : NoFuel (Compile.check root ts) := by
  rw [E2E.check_splits]
  exact noFuel_seq (checkA_no_fuel (some root) ts) (by split <;> exact fun w hw => by cases hw)

end BridgeCK
