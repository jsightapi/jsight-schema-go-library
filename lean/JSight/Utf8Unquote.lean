import JSight.RulesFullSpec
import JSight.ByteLemmas
import JSight.ListFacts
/-!
C02 proofs, strings: the library's `Bytes.Unquote` (model `Unquote.unquote`, a copy of encoding/json's
`unquoteBytes`) computes the RFC 8259 meaning `RulesF.text` of every string token of the grammar — raw characters
(any valid UTF-8), two-character escapes, `\uXXXX` with surrogate pairs; unpaired surrogates become U+FFFD.
The reference UTF-8 encoder is Lean's `String.utf8EncodeChar`.
-/
namespace RulesF

theorem validNat (c : Char) : c.val.toNat < 0xd800 ∨ (0xdfff < c.val.toNat ∧ c.val.toNat < 0x110000) := by
  have := c.valid
  simpa [UInt32.isValidChar, Nat.isValidChar] using this

/-- the model writes the bytes with division and remainder, Lean's encoder with shifts and masks: the same numbers,
byte by byte -/
theorem encodeRune_eq (c : Char) : Unquote.encodeRune c.val.toNat = String.utf8EncodeChar c := by
  have hv := validNat c
  unfold Unquote.encodeRune String.utf8EncodeChar Unquote.isSurrogate
  generalize c.val.toNat = v at *
  have h1 : (decide (v > 0x10FFFF) || (decide (0xD800 ≤ v) && decide (v < 0xE000))) = false := by
    simp; omega
  simp only [h1, Bool.false_eq_true, if_false]
  by_cases a1 : v < 0x80
  · have : v ≤ 0x7f := by omega
    simp [a1, this]
  · by_cases a2 : v < 0x800
    · have b1 : ¬ v ≤ 0x7f := by omega
      have b2 : v ≤ 0x7ff := by omega
      simp only [a1, a2, b1, b2, if_true, if_false]
      exact congr (congrArg List.cons (congrArg UInt8.ofNat (by omega)))
        (congr (congrArg List.cons (congrArg UInt8.ofNat (by omega))) rfl)
    · by_cases a3 : v < 0x10000
      · have b1 : ¬ v ≤ 0x7f := by omega
        have b2 : ¬ v ≤ 0x7ff := by omega
        have b3 : v ≤ 0xffff := by omega
        simp only [a1, a2, a3, b1, b2, b3, if_true, if_false]
        exact congr (congrArg List.cons (congrArg UInt8.ofNat (by omega)))
          (congr (congrArg List.cons (congrArg UInt8.ofNat (by omega)))
            (congr (congrArg List.cons (congrArg UInt8.ofNat (by omega))) rfl))
      · have b1 : ¬ v ≤ 0x7f := by omega
        have b2 : ¬ v ≤ 0x7ff := by omega
        have b3 : ¬ v ≤ 0xffff := by omega
        simp only [a1, a2, a3, b1, b2, b3, if_false]
        exact congr (congrArg List.cons (congrArg UInt8.ofNat (by omega)))
          (congr (congrArg List.cons (congrArg UInt8.ofNat (by omega)))
            (congr (congrArg List.cons (congrArg UInt8.ofNat (by omega)))
              (congr (congrArg List.cons (congrArg UInt8.ofNat (by omega))) rfl)))

/-- a continuation byte `10yyyyyy` -/
theorem cont_eq {c : UInt8} {y : Nat} (h : c.toNat = y + 0x80) (hy : y < 64) : Unquote.cont? c = some y := by
  unfold Unquote.cont?
  rw [if_pos (by simp [UInt8.le_iff_toNat_le]; omega), h, Nat.add_sub_cancel]

theorem beq_toNat (a : UInt8) (k : UInt8) : (a == k) = decide (a.toNat = k.toNat) := by
  by_cases h : a = k
  · subst h; simp
  · have : a.toNat ≠ k.toNat := fun e => h (UInt8.toNat_inj.1 e)
    simp [h, this]

/-! `decodeRune` on well-formed sequences: a lead byte carrying `x`, continuation bytes carrying six bits each; the
second byte is restricted after the lead bytes `E0`, `ED`, `F0`, `F4` (no overlong form, no surrogate, nothing above
U+10FFFF) -/

theorem decodeRune_2 (c0 c1 : UInt8) (tl : List UInt8) (x y : Nat) (h0 : c0.toNat = x + 0xC0) (hx : 2 ≤ x ∧ x < 32)
    (h1 : c1.toNat = y + 0x80) (hy : y < 64) :
    Unquote.decodeRune (c0 :: c1 :: tl) = (x * 64 + y, 2) := by
  simp only [Unquote.decodeRune]
  rw [if_neg (by simp [UInt8.lt_iff_toNat_lt]; omega), if_pos (by simp [UInt8.le_iff_toNat_le]; omega)]
  simp only [cont_eq h1 hy, h0, Nat.add_sub_cancel]

theorem decodeRune_3 (c0 c1 c2 : UInt8) (tl : List UInt8) (x y z : Nat) (h0 : c0.toNat = x + 0xE0) (hx : x < 16)
    (h1 : c1.toNat = y + 0x80) (hy : y < 64) (hE0 : x = 0 → 32 ≤ y) (hED : x = 13 → y < 32)
    (h2 : c2.toNat = z + 0x80) (hz : z < 64) :
    Unquote.decodeRune (c0 :: c1 :: c2 :: tl) = (x * 4096 + y * 64 + z, 3) := by
  simp only [Unquote.decodeRune]
  rw [if_neg (by simp [UInt8.lt_iff_toNat_lt]; omega), if_neg (by simp [UInt8.le_iff_toNat_le]; omega),
    if_pos (by simp [UInt8.le_iff_toNat_le]; omega)]
  simp only [beq_toNat]
  rw [if_pos]
  · simp only [cont_eq h2 hz, h0, h1, Nat.add_sub_cancel]
  · by_cases a : x = 0 <;> by_cases b : x = 13 <;>
      simp [UInt8.le_iff_toNat_le, h0, h1, a, b] <;> omega

theorem decodeRune_4 (c0 c1 c2 c3 : UInt8) (tl : List UInt8) (x y z w : Nat) (h0 : c0.toNat = x + 0xF0) (hx : x < 5)
    (h1 : c1.toNat = y + 0x80) (hy : y < 64) (hF0 : x = 0 → 16 ≤ y) (hF4 : x = 4 → y < 16)
    (h2 : c2.toNat = z + 0x80) (hz : z < 64) (h3 : c3.toNat = w + 0x80) (hw : w < 64) :
    Unquote.decodeRune (c0 :: c1 :: c2 :: c3 :: tl) = (x * 262144 + y * 4096 + z * 64 + w, 4) := by
  simp only [Unquote.decodeRune]
  rw [if_neg (by simp [UInt8.lt_iff_toNat_lt]; omega), if_neg (by simp [UInt8.le_iff_toNat_le]; omega),
    if_neg (by simp [UInt8.le_iff_toNat_le]; omega), if_pos (by simp [UInt8.le_iff_toNat_le]; omega)]
  simp only [beq_toNat]
  rw [if_pos]
  · simp only [cont_eq h2 hz, cont_eq h3 hw, h0, h1, Nat.add_sub_cancel]
  · by_cases a : x = 0 <;> by_cases b : x = 4 <;>
      simp [UInt8.le_iff_toNat_le, h0, h1, a, b] <;> omega

theorem toNat_ofNat_lt (n : Nat) (h : n < 256) : (UInt8.ofNat n).toNat = n := by
  simp [UInt8.toNat_ofNat']; omega

/-- the UTF-8 encoding of a character as the decoder meets it: below `0x80` a single byte with the character's value;
otherwise a lead byte from `0xC2` on, every byte at least `0x80`, and `decodeRune` reads the sequence back whole
(by size: the lead byte carries the top bits, each continuation byte six more) -/
theorem enc_view (c : Char) :
    (c.val.toNat < 0x80 ∧ ∃ b0 : UInt8, String.utf8EncodeChar c = [b0] ∧ b0.toNat = c.val.toNat) ∨
    (0x80 ≤ c.val.toNat ∧ ∃ b0 rest, String.utf8EncodeChar c = b0 :: rest ∧ 0xC2 ≤ b0.toNat ∧
      (∀ b ∈ String.utf8EncodeChar c, 0x80 ≤ b.toNat) ∧
      ∀ tl, Unquote.decodeRune (String.utf8EncodeChar c ++ tl) = (c.val.toNat, (String.utf8EncodeChar c).length)) := by
  have hv := validNat c
  unfold String.utf8EncodeChar
  generalize c.val.toNat = v at *
  have hi : ∀ n, 128 ≤ n → n < 256 → 0x80 ≤ (UInt8.ofNat n).toNat :=
    fun n h1 h2 => by rw [toNat_ofNat_lt n h2]; exact h1
  by_cases a1 : v ≤ 0x7f
  · exact .inl ⟨by omega, _, if_pos a1, toNat_ofNat_lt _ (by omega)⟩
  refine .inr ⟨by omega, ?_⟩
  simp only [if_neg a1]
  by_cases a2 : v ≤ 0x7ff
  · simp only [if_pos a2]
    refine ⟨_, _, rfl, by rw [toNat_ofNat_lt _ (by omega)]; omega, ?_, fun tl => ?_⟩
    · simp only [List.forall_mem_cons, List.not_mem_nil, false_imp_iff, implies_true, and_true]
      refine ⟨?_, ?_⟩ <;> exact hi _ (by omega) (by omega)
    exact (decodeRune_2 _ _ tl (v / 64) (v % 64) (by rw [toNat_ofNat_lt _ (by omega)]; omega) (by omega)
      (toNat_ofNat_lt _ (by omega)) (by omega)).trans (by congr 1; omega)
  simp only [if_neg a2]
  by_cases a3 : v ≤ 0xffff
  · simp only [if_pos a3]
    refine ⟨_, _, rfl, by rw [toNat_ofNat_lt _ (by omega)]; omega, ?_, fun tl => ?_⟩
    · simp only [List.forall_mem_cons, List.not_mem_nil, false_imp_iff, implies_true, and_true]
      refine ⟨?_, ?_, ?_⟩ <;> exact hi _ (by omega) (by omega)
    -- a surrogate is not a character: after the lead byte `0xED` the second byte stays below `0xA0`
    exact (decodeRune_3 _ _ _ tl (v / 4096) (v / 64 % 64) (v % 64) (by rw [toNat_ofNat_lt _ (by omega)]; omega)
      (by omega) (toNat_ofNat_lt _ (by omega)) (by omega) (by omega) (by omega) (toNat_ofNat_lt _ (by omega))
      (by omega)).trans (by congr 1; omega)
  · simp only [if_neg a3]
    refine ⟨_, _, rfl, by rw [toNat_ofNat_lt _ (by omega)]; omega, ?_, fun tl => ?_⟩
    · simp only [List.forall_mem_cons, List.not_mem_nil, false_imp_iff, implies_true, and_true]
      refine ⟨?_, ?_, ?_, ?_⟩ <;> exact hi _ (by omega) (by omega)
    exact (decodeRune_4 _ _ _ _ tl (v / 262144) (v / 4096 % 64) (v / 64 % 64) (v % 64)
      (by rw [toNat_ofNat_lt _ (by omega)]; omega) (by omega) (toNat_ofNat_lt _ (by omega)) (by omega) (by omega)
      (by omega) (toNat_ofNat_lt _ (by omega)) (by omega) (toNat_ofNat_lt _ (by omega)) (by omega)).trans
      (by congr 1; omega)

theorem body_chr (c : Char) (hc : (SCh.chr c).ok) (fuel : Nat) (tl : List UInt8) :
    Unquote.body (fuel + 1) (String.utf8EncodeChar c ++ tl)
      = (Unquote.body fuel tl).map (String.utf8EncodeChar c ++ ·) := by
  obtain ⟨h20, hq, hb⟩ := hc
  rcases enc_view c with ⟨hs, b, e, hn⟩ | ⟨hs, b0, rest, e, hb0, _, hd⟩
  · rw [e]
    have n92 : c.val.toNat ≠ 92 := by
      intro h; apply hb; apply Char.ext; apply UInt32.toNat_inj.1; rw [h]; rfl
    have n34 : c.val.toNat ≠ 34 := by
      intro h; apply hq; apply Char.ext; apply UInt32.toNat_inj.1; rw [h]; rfl
    generalize c.val.toNat = v at *
    simp only [List.cons_append, List.nil_append, Unquote.body, beq_toNat, UInt8.lt_iff_toNat_lt]
    rw [if_neg (by simp; omega), if_neg (by simp; omega), if_pos (by simp; omega)]
  · replace hd := hd tl
    rw [e] at hd ⊢
    simp only [List.cons_append] at hd ⊢
    simp only [Unquote.body, beq_toNat, UInt8.lt_iff_toNat_lt]
    rw [if_neg (by simp; omega), if_neg (by simp; omega), if_neg (by simp; omega), hd]
    simp only [encodeRune_eq, e]
    have : List.drop (b0 :: rest).length (b0 :: (rest ++ tl)) = tl := by
      rw [← List.cons_append]; exact List.drop_left
    rw [this]; rfl

theorem body_esc (e : Esc) (fuel : Nat) (tl : List UInt8) :
    Unquote.body (fuel + 1) (92 :: e.byte :: tl)
      = (Unquote.body fuel tl).map (String.utf8EncodeChar e.char ++ ·) := by
  cases e <;> simp [Unquote.body, Esc.byte, Esc.char, String.utf8EncodeChar]

theorem hex_eq (c : UInt8) (h : isHexByte c = true) : Unquote.hex? c = some (hexDigit c) := by
  have := Bytes.forall_uint8 (fun c => !isHexByte c || Unquote.hex? c == some (hexDigit c)) (by decide +kernel) c
  simpa [h] using this

theorem getu4_u4 (a b c d : UInt8) (h : (SCh.u4 a b c d).ok) (tl : List UInt8) :
    Unquote.getu4 (92 :: 117 :: a :: b :: c :: d :: tl) = some (u4val a b c d) := by
  obtain ⟨ha, hb, hc, hd⟩ := h
  simp only [Unquote.getu4, hex_eq _ ha, hex_eq _ hb, hex_eq _ hc, hex_eq _ hd, u4val]
  simp only [Option.bind_eq_bind, Option.bind_some, Option.pure_def, Option.some.injEq]
  omega

theorem encodeRune_ofNat (v : Nat) (h : v < 0xd800 ∨ (0xdfff < v ∧ v < 0x110000)) :
    Unquote.encodeRune v = String.utf8EncodeChar (Char.ofNat v) := by
  have := encodeRune_eq (Char.ofNat v)
  rwa [Char.val_ofNat v h] at this

theorem hexDigit_lt (c : UInt8) (h : isHexByte c = true) : hexDigit c < 16 := by
  have := Bytes.forall_uint8 (fun c => !isHexByte c || decide (hexDigit c < 16)) (by decide +kernel) c
  simpa [h] using this

theorem u4val_lt (a b c d : UInt8) (h : (SCh.u4 a b c d).ok) : u4val a b c d < 0x10000 := by
  obtain ⟨ha, hb, hc, hd⟩ := h
  have := hexDigit_lt _ ha; have := hexDigit_lt _ hb; have := hexDigit_lt _ hc; have := hexDigit_lt _ hd
  unfold u4val; omega

theorem body_u4 (a b c d : UInt8) (h : (SCh.u4 a b c d).ok) (fuel : Nat) (tl : List UInt8) :
    Unquote.body (fuel + 1) (92 :: 117 :: a :: b :: c :: d :: tl) =
      if Unquote.isSurrogate (u4val a b c d) then
        match (Unquote.getu4 tl).bind (Unquote.decodeSurrogates (u4val a b c d)) with
        | some dec => (Unquote.body fuel (tl.drop 6)).map (Unquote.encodeRune dec ++ ·)
        | none => (Unquote.body fuel tl).map (Unquote.encodeRune 0xFFFD ++ ·)
      else (Unquote.body fuel tl).map (Unquote.encodeRune (u4val a b c d) ++ ·) := by
  have g := getu4_u4 a b c d h tl
  simp only [Unquote.body, g]
  simp
  rfl

def bytesOf (cs : List SCh) : Bytes := cs.flatMap SCh.render

theorem bytesOf_cons (c : SCh) (r : List SCh) : bytesOf (c :: r) = c.render ++ bytesOf r := by
  simp [bytesOf]

theorem utf8_cons (c : Char) (l : List Char) : utf8 (c :: l) = String.utf8EncodeChar c ++ utf8 l := by
  simp [utf8]

/-- a string character that is not a `\u` escape does not start like one -/
theorem getu4_not_u4 (r : List SCh) (hok : ∀ c ∈ r, c.ok)
    (hr : ∀ (a' b' c' d' : UInt8) (r' : List SCh), r = SCh.u4 a' b' c' d' :: r' → False) :
    Unquote.getu4 (bytesOf r) = none := by
  cases r with
  | nil => rfl
  | cons x r =>
    rw [bytesOf_cons]
    cases x with
    | u4 a b c d => exact absurd rfl (fun e => hr a b c d r e)
    | esc e => cases e <;> simp [SCh.render, Esc.byte, Unquote.getu4]
    | chr c =>
      obtain ⟨h20, hq, hb⟩ := hok (.chr c) (by simp)
      simp only [SCh.render]
      rcases enc_view c with ⟨hs, b, e, hn⟩ | ⟨hs, b0, rest, e, hb0, _⟩
      · rw [e]
        have n92 : b ≠ 92 := by
          intro h
          rw [h] at hn
          apply hb; apply Char.ext; apply UInt32.toNat_inj.1; rw [← hn]; rfl
        simp only [List.cons_append, List.nil_append]
        unfold Unquote.getu4
        split
        · rename_i heq; simp only [List.cons.injEq] at heq; exact absurd heq.1 n92
        · rfl
      · rw [e]
        simp only [List.cons_append]
        unfold Unquote.getu4
        split
        · rename_i heq; simp only [List.cons.injEq] at heq
          rw [heq.1] at hb0; simp at hb0
        · rfl

theorem surr_iff (v : Nat) : Unquote.isSurrogate v = (isHighSurrogate v || isLowSurrogate v) := by
  unfold Unquote.isSurrogate isHighSurrogate isLowSurrogate
  by_cases a : 0xD800 ≤ v <;> by_cases b : v < 0xDC00 <;> by_cases c : v < 0xE000 <;> simp [a, b, c] <;> omega

/-- a `\u` escape that is not the first half of a pair: its character, U+FFFD for a surrogate -/
theorem lone_text (v : Nat) (hv : v < 0x10000) (t : Bytes) :
    (if (isHighSurrogate v || isLowSurrogate v) = true then Option.map (fun x => Unquote.encodeRune 0xFFFD ++ x) (some t)
      else Option.map (fun x => Unquote.encodeRune v ++ x) (some t))
      = some (String.utf8EncodeChar (bmp v) ++ t) := by
  unfold bmp
  by_cases hs : (isHighSurrogate v || isLowSurrogate v) = true
  · rw [if_pos hs, if_pos hs, encodeRune_ofNat _ (by omega)]
    rfl
  · rw [if_neg hs, if_neg hs]
    unfold isHighSurrogate isLowSurrogate at hs
    rw [encodeRune_ofNat _ (by simp at hs; omega)]
    rfl

theorem body_text (cs : List SCh) (hok : ∀ c ∈ cs, c.ok) :
    ∀ fuel, (bytesOf cs).length < fuel → Unquote.body fuel (bytesOf cs) = some (text cs) := by
  unfold text
  -- the cases of `decodeS`: end; raw character; two-character escape; `\u` pair (high, low surrogate); two `\u` that
  -- are no pair; a `\u` followed by something else or nothing
  fun_induction decodeS cs
  case case1 =>
    intro fuel hf
    cases fuel with
    | zero => simp at hf
    | succ n => rfl
  case case2 c r ih =>
    intro fuel hf
    rw [bytesOf_cons] at hf ⊢
    simp only [SCh.render, List.length_append] at hf ⊢
    have : 0 < (String.utf8EncodeChar c).length := String.length_utf8EncodeChar c ▸ c.utf8Size_pos
    cases fuel with
    | zero => omega
    | succ n =>
      rw [body_chr c (hok _ (by simp)), ih (fun x hx => hok x (by simp [hx])) n (by omega), utf8_cons]
      rfl
  case case3 e r ih =>
    intro fuel hf
    rw [bytesOf_cons] at hf ⊢
    simp only [SCh.render, List.length_append, List.length_cons, List.length_nil] at hf ⊢
    cases fuel with
    | zero => omega
    | succ n =>
      simp only [List.cons_append, List.nil_append]
      rw [body_esc, ih (fun x hx => hok x (by simp [hx])) n (by omega), utf8_cons]
      rfl
  case case4 a b c d a' b' c' d' r' h ih =>
    intro fuel hf
    rw [bytesOf_cons, bytesOf_cons] at hf ⊢
    simp only [SCh.render, List.length_append, List.length_cons, List.length_nil] at hf ⊢
    have ok1 := hok (.u4 a b c d) (by simp)
    have ok2 := hok (.u4 a' b' c' d') (by simp)
    have l1 := u4val_lt a b c d ok1
    have l2 := u4val_lt a' b' c' d' ok2
    simp only [Bool.and_eq_true] at h
    obtain ⟨hh, hl⟩ := h
    cases fuel with
    | zero => omega
    | succ n =>
      simp only [List.cons_append, List.nil_append]
      rw [body_u4 a b c d ok1, surr_iff, hh, Bool.true_or, if_pos rfl, getu4_u4 a' b' c' d' ok2]
      unfold isHighSurrogate at hh
      unfold isLowSurrogate at hl
      simp only [Bool.and_eq_true, decide_eq_true_eq] at hh hl
      have hd : Unquote.decodeSurrogates (u4val a b c d) (u4val a' b' c' d')
          = some (0x10000 + (u4val a b c d - 0xD800) * 0x400 + (u4val a' b' c' d' - 0xDC00)) := by
        unfold Unquote.decodeSurrogates
        rw [if_pos (by simp; omega)]
        exact congrArg some (by omega)
      simp only [Option.bind_some, hd]
      rw [encodeRune_ofNat _ (by omega)]
      simp only [List.drop_succ_cons, List.drop_zero]
      rw [ih (fun x hx => hok x (by simp [hx])) n (by omega), utf8_cons]
      rfl
  case case5 a b c d a' b' c' d' r' h ih =>
    intro fuel hf
    rw [bytesOf_cons] at hf ⊢
    simp only [SCh.render, List.length_append, List.length_cons, List.length_nil] at hf ⊢
    have ok1 := hok (.u4 a b c d) (by simp)
    have ok2 := hok (.u4 a' b' c' d') (by simp)
    have l1 := u4val_lt a b c d ok1
    cases fuel with
    | zero => omega
    | succ n =>
      simp only [List.cons_append, List.nil_append]
      rw [body_u4 a b c d ok1, surr_iff, ih (fun x hx => hok x (by simp [hx])) n (by omega), utf8_cons]
      have hg : Unquote.getu4 (bytesOf (SCh.u4 a' b' c' d' :: r')) = some (u4val a' b' c' d') := by
        rw [bytesOf_cons]; exact getu4_u4 a' b' c' d' ok2 _
      rw [hg]
      have hd : Unquote.decodeSurrogates (u4val a b c d) (u4val a' b' c' d') = none := by
        unfold Unquote.decodeSurrogates
        rw [if_neg]
        intro hc
        apply h
        unfold isHighSurrogate isLowSurrogate
        simpa [Bool.and_assoc] using hc
      simp only [Option.bind_some, hd]
      exact lone_text _ l1 _
  case case6 a b c d r hr ih =>
    intro fuel hf
    rw [bytesOf_cons] at hf ⊢
    simp only [SCh.render, List.length_append, List.length_cons, List.length_nil] at hf ⊢
    have ok1 := hok (.u4 a b c d) (by simp)
    have l1 := u4val_lt a b c d ok1
    cases fuel with
    | zero => omega
    | succ n =>
      simp only [List.cons_append, List.nil_append]
      rw [body_u4 a b c d ok1, surr_iff, ih (fun x hx => hok x (by simp [hx])) n (by omega), utf8_cons,
        getu4_not_u4 r (fun x hx => hok x (by simp [hx])) hr]
      simp only [Option.bind_none]
      exact lone_text _ l1 _

theorem str_bytes (cs : List SCh) : (STok.str cs).bytes = 34 :: (bytesOf cs ++ [34]) := rfl

theorem str_inQuotes (cs : List SCh) : Unquote.inQuotes (STok.str cs).bytes = true := by
  rw [str_bytes]
  have : (34 :: (bytesOf cs ++ [34]) : List UInt8).getLast? = some 34 := by
    rw [← List.cons_append, List.getLast?_append]; rfl
  simp [Unquote.inQuotes, this]

/-- **the library's `Unquote` computes the RFC 8259 meaning of every string token** -/
theorem unquote_str (cs : List SCh) (hok : ∀ c ∈ cs, c.ok) : Unquote.unquote (STok.str cs).bytes = text cs := by
  unfold Unquote.unquote
  rw [str_inQuotes, if_pos rfl, str_bytes]
  have : (List.drop 1 (34 :: (bytesOf cs ++ [34]))).dropLast = bytesOf cs := by simp
  rw [this, body_text cs hok _ (by simp; omega)]

end RulesF
#print axioms RulesF.unquote_str
