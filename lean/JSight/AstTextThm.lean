import JSight.AstTextAnnot
/-!
C16 at text level: the theorems about `astOfText` on annotated top-level scalars (with and without a note), and what
the loader and `ownOf` do with a type shortcut (`shortcut_step`, `ownOf_shortcut_*`).
-/
namespace AstText
open SchemaScan Lay
open Loader (NK Node St slice trimSpaces nameOf keyText)

/-- **annotated scalar, no note**: `tok // {rules}` / `tok /* {rules} */` -/
theorem ast_annot (a : Ann) (ha : a.isAnn = true) (tok s1 s2 : List UInt8) (ob : BObj) (s3 tl : List UInt8)
    (hv : AnnValid a tok s1 s2 ob s3 tl) (he : ∀ p ∈ ob.pairs, p.1 ∉ embNames) :
    astOfText (annTextB a tok s1 s2 ob s3 tl) = astOfScalar tok ob.pairs [] := by
  obtain ⟨st, h1, hs⟩ := annotB_loaded a ha tok s1 s2 ob s3 tl hv
  exact astOfText_loaded (note := none) h1 hs he

/-- **annotated scalar with a note**: `tok // {rules} - note` / `tok /* {rules} - note */` -/
theorem ast_annot_note (a : Ann) (ha : a.isAnn = true) (tok s1 s2 : List UInt8) (ob : BObj)
    (s3 n1 note tl : List UInt8) (hv : AnnValidN a tok s1 s2 ob s3 n1 note tl) (he : ∀ p ∈ ob.pairs, p.1 ∉ embNames) :
    astOfText (annTextNB a tok s1 s2 ob s3 n1 note tl) = astOfScalar tok ob.pairs note := by
  obtain ⟨st, h1, hs⟩ := annot_note_loaded a ha tok s1 s2 ob s3 n1 note tl hv
  exact astOfText_loaded (note := some note) h1 hs he

/-! ### type shortcuts -/

/-- what the loader model does when a type shortcut ends outside an annotation: the node created last gets the
synthesised rule — `type` for `@A`, `or` for `@A | @B` — with the shortcut's span as its value -/
theorem shortcut_step (src : Array UInt8) (st : Loader.St) (i b e : Nat) (hm : st.mode = .default)
    (hl : st.last = some i) :
    Loader.step src st ⟨.tsE, b, e⟩ = .ok (Loader.updNode st i (fun n =>
      { n with rules := n.rules ++ [.inr (if Loader.hasPipe (slice src b e) then "or" else "type")],
               ruleVals := n.ruleVals ++ [some (b, e)] })) := by
  simp [Loader.step, hm, hl]
  rfl

/-- **`@A`**: a shortcut node whose only rule is the synthesised `type` becomes a reference node carrying the name:
TokenType `reference`, Value and SchemaType the name, and the rule `type` marked generated -/
theorem ownOf_shortcut_type (src : Array UInt8) (evs : List Ev) (n : Node) (vb ve b e : Nat)
    (hk : n.kind = .mixed) (hv : n.value = some (vb, ve)) (hr : n.rules = [.inr "type"])
    (hrv : n.ruleVals = [some (b, e)]) (hp : hasPipe (trimSpaces (slice src vb ve)) = false) :
    ownOf src evs n = .ok ⟨"reference", trimSpaces (slice src vb ve), trimSpaces (slice src vb ve), noteOf src n,
      [(sb "type", leaf (if isUserTypeName (unq (trimSpaces (slice src b e))) then "reference" else "string")
        (unq (trimSpaces (slice src b e))) .generated)]⟩ := by
  simp only [ownOf, hk, hv, hr, hrv, List.zip_cons_cons, List.zip_nil_right, rulesAst, ruleAst, List.any_nil,
    Bool.false_eq_true, if_false, List.reverse_cons, List.reverse_nil, List.nil_append, hp]
  rfl

/-- **`@A | @B`**: a shortcut node whose only rule is the synthesised `or` becomes a reference node carrying the
names as written (Value), SchemaType `mixed`, and the rule `or` — an array with one item per name, in written
order — marked generated, items included -/
theorem ownOf_shortcut_or (src : Array UInt8) (evs : List Ev) (n : Node) (vb ve b e : Nat)
    (hk : n.kind = .mixed) (hv : n.value = some (vb, ve)) (hr : n.rules = [.inr "or"])
    (hrv : n.ruleVals = [some (b, e)]) (hp : hasPipe (trimSpaces (slice src vb ve)) = true) :
    ownOf src evs n = .ok ⟨"reference", sb "mixed", trimSpaces (slice src vb ve), noteOf src n,
      [(sb "or", .mk "array" [] [] .generated []
        ((splitPipe (slice src b e)).map fun nm => leaf "string" nm .generated))]⟩ := by
  simp only [ownOf, hk, hv, hr, hrv, List.zip_cons_cons, List.zip_nil_right, rulesAst, ruleAst, List.any_nil,
    Bool.false_eq_true, if_false, List.reverse_cons, List.reverse_nil, List.nil_append, hp]
  rfl

/-! ### layout -/

/-- two layouts of one annotated scalar — inline or multi-line form, any blanks / line breaks the form allows, with
or without a trailing comma — give the same AST -/
theorem ast_layout_note (a a' : Ann) (ha : a.isAnn = true) (ha' : a'.isAnn = true) (tok : List UInt8)
    (s1 s2 : List UInt8) (ob : BObj) (s3 n1 note tl : List UInt8)
    (s1' s2' : List UInt8) (ob' : BObj) (s3' n1' tl' : List UInt8)
    (hv : AnnValidN a tok s1 s2 ob s3 n1 note tl) (hv' : AnnValidN a' tok s1' s2' ob' s3' n1' note tl')
    (hsame : ob.pairs = ob'.pairs) (he : ∀ p ∈ ob.pairs, p.1 ∉ embNames) :
    astOfText (annTextNB a tok s1 s2 ob s3 n1 note tl) = astOfText (annTextNB a' tok s1' s2' ob' s3' n1' note tl') := by
  rw [ast_annot_note a ha tok s1 s2 ob s3 n1 note tl hv he,
    ast_annot_note a' ha' tok s1' s2' ob' s3' n1' note tl' hv' (hsame ▸ he), hsame]

/-- … and without a note -/
theorem ast_layout (a a' : Ann) (ha : a.isAnn = true) (ha' : a'.isAnn = true) (tok : List UInt8)
    (s1 s2 : List UInt8) (ob : BObj) (s3 tl : List UInt8) (s1' s2' : List UInt8) (ob' : BObj) (s3' tl' : List UInt8)
    (hv : AnnValid a tok s1 s2 ob s3 tl) (hv' : AnnValid a' tok s1' s2' ob' s3' tl')
    (hsame : ob.pairs = ob'.pairs) (he : ∀ p ∈ ob.pairs, p.1 ∉ embNames) :
    astOfText (annTextB a tok s1 s2 ob s3 tl) = astOfText (annTextB a' tok s1' s2' ob' s3' tl') := by
  rw [ast_annot a ha tok s1 s2 ob s3 tl hv he, ast_annot a' ha' tok s1' s2' ob' s3' tl' hv' (hsame ▸ he), hsame]

end AstText
