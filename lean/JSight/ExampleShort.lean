import JSight.RefE2EThm
/-!
C15 at TEXT level for schema texts with SHORTCUT leaves, specification level.

`exampleBuilder.Build` (`notations/jschema/example.go`) on the nodes of such a text: a literal emits its token; an array
/ object emits brackets around the examples of its children (key TOKEN `:` example); a `MixedValueNode` (shortcut leaf
`@A | @B | …`) takes `GetTypes()[0]` — the FIRST name — and builds the root of the type added under that name (the other
alternatives are never consulted); `processedTypes[name] > 1` cuts a recursive type off (`nil`: the member / element is
DROPPED — findings K-C15-reqcut / K-C15-uninhabited).

`RE.exampleOf tys fuel` is the closed form WITHOUT the cut-off: the document (not the bytes) the builder denotes as
long as the cut-off never fires; it answers `none` when the fuel is exhausted (a table where some type is reachable from
itself exhausts every fuel on the cycle), when a shortcut has no name, and when its first name was not added. So for a
non-recursive table it is total for `fuel` > the depth of the unfolding, and on a recursive table it is silent exactly
where the real builder starts dropping members: nothing here speaks about the output of the real builder once the
cut-off has fired.

`exampleOf_admitted`: whatever `exampleOf` answers is admitted (`RE.Admits`) by the tree — with the SAME fuel.
The specification it is measured against (`Doc`, `stepA`, `admits`, `lookupB`, `childAtB`, `lookupM`, `keysM`) is that of
`RefE2ESpec`.
-/
namespace RE
open SE (BST BItem BMember TypeText namesOf)

/-- examples of the items, in order -/
def exItems (r : BST → Option Doc) : List BItem → Option (List Doc)
  | [] => some []
  | it :: its =>
    match r it.2.1, exItems r its with
    | some d, some ds => some (d :: ds)
    | _, _ => none

/-- examples of the members, in order, under the decoded keys -/
def exMembers (r : BST → Option Doc) : List BMember → Option (List (String × Doc))
  | [] => some []
  | m :: ms =>
    match r m.2.2.2.2.1, exMembers r ms with
    | some d, some ds => some ((E2E.keyOf m.2.1, d) :: ds)
    | _, _ => none

/-- one step of the builder; `r` = the builder on the sub-positions / on the root of a referenced type -/
def stepE (tys : List TypeText) (r : BST → Option Doc) : BST → Option Doc
  | .scalar tok => some (.lit tok)
  | .short f as sps =>
    match namesOf f as sps with
    | [] => none
    | n :: _ =>
      match lookupB tys n with
      | some t => r t
      | none => none
  | .arr _ its => (exItems r its).map .arr
  | .obj _ ms => (exMembers r ms).map .obj

/-- the example of a tree with shortcut leaves: a shortcut leaf is replaced by the example of the tree added under its
FIRST name; `fuel` nested steps -/
def exampleOf (tys : List TypeText) : Nat → BST → Option Doc
  | 0 => fun _ => none
  | fuel + 1 => stepE tys (exampleOf tys fuel)

/-! ### the class: scalars whose kind can be guessed, decoded keys pairwise distinct -/

mutual
def exOK : BST → Bool
  | .scalar tok => (RulesF.kindOfTok tok).isSome
  | .short _ _ _ => true
  | .arr _ its => okItems its
  | .obj _ ms => decide (keysM ms).Nodup && okMembers ms
def okItems : List BItem → Bool
  | [] => true
  | (_, v, _) :: its => exOK v && okItems its
def okMembers : List BMember → Bool
  | [] => true
  | (_, _, _, _, v, _) :: ms => exOK v && okMembers ms
end

/-- every tree of the table is of the class -/
def tysOK (tys : List TypeText) : Bool := tys.all fun x => exOK x.2.2.1

theorem kindOK_self (tok : List UInt8) (h : (RulesF.kindOfTok tok).isSome = true) :
    E2E.kindOKTok (E2E.kindOf tok) tok = true := by
  obtain ⟨d, hd⟩ := Option.isSome_iff_exists.mp h
  simp only [E2E.kindOf, E2E.kindOKTok, hd, Option.getD_some]
  cases d <;> rfl

theorem lookupB_ok (tys : List TypeText) (h : tysOK tys = true) (n : String) (t : BST)
    (hl : lookupB tys n = some t) : exOK t = true := by
  simp only [lookupB, Option.map_eq_some_iff] at hl
  obtain ⟨x, hx, rfl⟩ := hl
  have hm := List.mem_of_find?_eq_some hx
  simp only [tysOK, List.all_eq_true] at h
  exact h x hm

/-- the examples of the items: as many as the items, and each admitted by its item when `r` answers only what `ra`
admits -/
theorem items_lemma (r : BST → Option Doc) (ra : BST → Doc → Bool)
    (h : ∀ t d, exOK t = true → r t = some d → ra t d = true) :
    (its : List BItem) → (xs : List Doc) → okItems its = true → exItems r its = some xs →
      xs.length = its.length ∧
      ∀ (i : Nat) (x : Doc), xs[i]? = some x → ∃ it : BItem, its[i]? = some it ∧ ra it.2.1 x = true
  | [], xs, _, he => by
    simp only [exItems, Option.some.injEq] at he
    subst he
    exact ⟨rfl, by intro i x hx; simp at hx⟩
  | (w1, v, w2) :: its, xs, hok, he => by
    simp only [okItems, Bool.and_eq_true] at hok
    simp only [exItems] at he
    cases hr : r v with
    | none => simp [hr] at he
    | some d =>
      cases hrs : exItems r its with
      | none => simp [hr, hrs] at he
      | some ds =>
        simp only [hr, hrs, Option.some.injEq] at he
        subst he
        obtain ⟨hl, hi⟩ := items_lemma r ra h its ds hok.2 hrs
        refine ⟨by simp [hl], ?_⟩
        intro i x hx
        cases i with
        | zero =>
          simp only [List.getElem?_cons_zero, Option.some.injEq] at hx
          subst hx
          exact ⟨_, rfl, h v d hok.1 hr⟩
        | succ i =>
          simp only [List.getElem?_cons_succ] at hx ⊢
          exact hi i x hx

/-- the examples of the members: under the keys of the members in order, each admitted by a member of its key -/
theorem members_lemma (r : BST → Option Doc) (ra : BST → Doc → Bool)
    (h : ∀ t d, exOK t = true → r t = some d → ra t d = true) :
    (ms : List BMember) → (dms : List (String × Doc)) → okMembers ms = true → exMembers r ms = some dms →
      dms.map (·.1) = keysM ms ∧
      ∀ m ∈ dms, ∃ mm ∈ ms, E2E.keyOf mm.2.1 = m.1 ∧ ra mm.2.2.2.2.1 m.2 = true
  | [], dms, _, he => by
    simp only [exMembers, Option.some.injEq] at he
    subst he
    exact ⟨rfl, by intro m hm; simp at hm⟩
  | (w1, k, w2, w3, v, w4) :: ms, dms, hok, he => by
    simp only [okMembers, Bool.and_eq_true] at hok
    simp only [exMembers] at he
    cases hr : r v with
    | none => simp [hr] at he
    | some d =>
      cases hrs : exMembers r ms with
      | none => simp [hr, hrs] at he
      | some ds =>
        simp only [hr, hrs, Option.some.injEq] at he
        subst he
        obtain ⟨hl, hi⟩ := members_lemma r ra h ms ds hok.2 hrs
        refine ⟨by simp [keysM] at hl ⊢; exact hl, ?_⟩
        intro m hm
        simp only [List.mem_cons] at hm
        rcases hm with rfl | hm
        · exact ⟨_, List.mem_cons_self, rfl, h v d hok.1 hr⟩
        · obtain ⟨mm, hmm, h1, h2⟩ := hi m hm
          exact ⟨mm, List.mem_cons_of_mem _ hmm, h1, h2⟩

/-- `exOK` on an array, on an object -/
theorem okItems_arr (w : List UInt8) (its : List BItem) : exOK (.arr w its) = okItems its := by
  simp [exOK]

theorem okMembers_obj (w : List UInt8) (ms : List BMember) :
    exOK (.obj w ms) = (decide (keysM ms).Nodup && okMembers ms) := by
  simp [exOK]

/-- one step: if `r` answers only what `ra` admits, so does `stepE` against `stepA` -/
theorem stepE_admitted (tys : List TypeText) (htys : tysOK tys = true) (r : BST → Option Doc)
    (ra : Bool → BST → Doc → Bool) (h : ∀ o t d, exOK t = true → r t = some d → ra o t d = true)
    (opt : Bool) (t : BST) (d : Doc) (hok : exOK t = true) (he : stepE tys r t = some d) :
    stepA tys ra opt t d = true := by
  cases t with
  | scalar tok =>
    simp only [stepE, Option.some.injEq] at he
    subst he
    simp only [stepA]
    exact kindOK_self tok (by simpa [exOK] using hok)
  | short f as sps =>
    simp only [stepE] at he
    simp only [stepA, List.any_eq_true]
    cases hn : namesOf f as sps with
    | nil => simp [hn] at he
    | cons n rest =>
      simp only [hn] at he
      cases hl : lookupB tys n with
      | none => simp [hl] at he
      | some t' =>
        simp only [hl] at he
        exact ⟨n, List.mem_cons_self, by simp only [hl]; exact h false t' d (lookupB_ok tys htys n t' hl) he⟩
  | arr w its =>
    rw [okItems_arr] at hok
    simp only [stepE, Option.map_eq_some_iff] at he
    obtain ⟨xs, hxs, rfl⟩ := he
    obtain ⟨hl, hi⟩ := items_lemma r (ra opt) (h opt) its xs hok hxs
    simp only [stepA, List.all_eq_true]
    intro p hp
    obtain ⟨x, i⟩ := p
    have hx : xs[i]? = some x := List.mem_zipIdx_iff_getElem?.mp hp
    obtain ⟨it, hit, hra⟩ := hi i x hx
    have hlt : i < its.length := by
      rcases Nat.lt_or_ge i its.length with h1 | h1
      · exact h1
      · rw [List.getElem?_eq_none h1] at hit; cases hit
    have hc : childAtB its i = some it.2.1 := by
      cases its with
      | nil => simp at hlt
      | cons a rest =>
        simp only [childAtB]
        have : min i ((a :: rest).length - 1) = i := by
          simp only [List.length_cons] at hlt ⊢
          omega
        rw [this, hit]
        rfl
    simp only [hc]
    exact hra
  | obj w ms =>
    rw [okMembers_obj, Bool.and_eq_true, decide_eq_true_eq] at hok
    simp only [stepE, Option.map_eq_some_iff] at he
    obtain ⟨dms, hdms, rfl⟩ := he
    obtain ⟨hk, hi⟩ := members_lemma r (ra opt) (h opt) ms dms hok.2 hdms
    simp only [stepA, Bool.and_eq_true, List.all_eq_true]
    refine ⟨?_, ?_⟩
    · intro m hm
      obtain ⟨mm, hmm, h1, h2⟩ := hi m hm
      rw [← h1, show lookupM ms (E2E.keyOf mm.2.1) = some mm.2.2.2.2.1 from
        Tbl.firstBy_of_nodup_keys (fun m : BMember => E2E.keyOf m.2.1) (·.2.2.2.2.1) ms hok.1 mm hmm]
      exact h2
    · rw [Bool.or_eq_true]
      apply Or.inr
      rw [List.all_eq_true]
      intro k hkm
      rw [← hk, List.mem_map] at hkm
      obtain ⟨m, hm, rfl⟩ := hkm
      exact List.any_eq_true.mpr ⟨m, hm, by simp⟩

/-- whatever the closed form answers is admitted, with the same fuel -/
theorem exampleOf_admits (tys : List TypeText) (htys : tysOK tys = true) :
    (fuel : Nat) → (opt : Bool) → (t : BST) → (d : Doc) → exOK t = true → exampleOf tys fuel t = some d →
      admits tys fuel opt t d = true
  | 0, _, _, _, _, he => by simp [exampleOf] at he
  | fuel + 1, opt, t, d, hok, he =>
    stepE_admitted tys htys (exampleOf tys fuel) (admits tys fuel)
      (fun o t d hok he => exampleOf_admits tys htys fuel o t d hok he) opt t d hok he

theorem exampleOf_admitted (tys : List TypeText) (htys : tysOK tys = true) (fuel : Nat) (opt : Bool) (t : BST)
    (d : Doc) (hok : exOK t = true) (he : exampleOf tys fuel t = some d) : Admits tys opt t d :=
  ⟨fuel, exampleOf_admits tys htys fuel opt t d hok he⟩

end RE
