import JSight.ATreeSeg
import JSight.ListFacts
/-!
C13 / C16, whole annotated trees: the structural tokens (scalars, keys, brackets, separators) as segments, in a
container whose node is `xa` at index `L0.length` of the table `L0 ++ xa :: M` (`Cont`); the loader's single events on
`Cont`, and the separators and the key as steps on one level (`Lvl`).
-/
namespace AT
open SchemaScan (Cls classify Ev LexT St Ctx CK VCtx PV wsLoop cmtLoop nlSt nlAl keySt keyAl closersOf)
open SchemaScan.Len (ATok Tok TC arun astep aslot slotStep closePV noML isObjKey nlStep mlSlot pendOfK annLoop cxA
  endStOf)
open Loader (XNode xfresh Fold NK)

/-! ### the loader inside a container

The node table is a zipper `L0 ++ xa :: M`: the node `xa` of the container at index `L0.length`, the nodes `M` created
behind it so far; it is read and written there by `List.getElem?_append_cons_length` and `List.set_append_cons_length`.
`Cont` names that state of the loader, `Cont.grow` what reading entries does to it. -/

theorem zip_len {α : Type} (L0 : List α) (x : α) (M : List α) : (L0 ++ x :: M).length = L0.length + 1 + M.length := by
  simp; omega

theorem zip_snoc {α : Type} (L0 : List α) (x : α) (M N : List α) : (L0 ++ x :: M) ++ N = L0 ++ x :: (M ++ N) := by simp

/-- the loader inside a container: the table is `L0 ++ xa :: M`, the container's node `xa` is the leaf -/
structure Cont where
  L0 : List XNode
  xa : XNode
  M : List XNode
  last : Option Nat
  pl : Nat
  root : Option Nat

namespace Cont

/-- the index of the container's node -/
def n (C : Cont) : Nat := C.L0.length
/-- the index of the node created next -/
def next (C : Cont) : Nat := C.L0.length + 1 + C.M.length
/-- the loader state (`AS`) the container stands for -/
def as (C : Cont) : AS := ⟨C.L0 ++ C.xa :: C.M, some C.L0.length, C.last, C.pl, C.root⟩
/-- children `cs`, key entries `ks` and nodes `N` added; `last` and `pl` are the new values, not increments -/
def grow (C : Cont) (cs : List Nat) (ks : List (Bytes × Bool)) (N : List XNode) (last : Option Nat) (pl : Nat) : Cont :=
  { C with xa := { C.xa with children := C.xa.children ++ cs, keys := C.xa.keys ++ ks }, M := C.M ++ N, last := last, pl := pl }
/-- the number of nodes on the line replaced (a layout read: `gapPl`) -/
def setPl (C : Cont) (p : Nat) : Cont := { C with pl := p }
/-- the container waits for a child -/
def wait (C : Cont) : Cont := { C with xa := { C.xa with waiting := true } }
/-- the node created next is entered as a child -/
def kid (C : Cont) : Cont := { C with xa := { C.xa with children := C.xa.children ++ [C.next] } }
/-- inside the container `x` created last in `C`, behind whose node the nodes `N` stand -/
def sub (C : Cont) (x : XNode) (N : List XNode) (last : Option Nat) (pl : Nat) : Cont :=
  ⟨C.L0 ++ C.xa :: C.M, x, N, last, pl, C.root⟩
/-- the container's node and the number of nodes on the line replaced (an annotation read) -/
def ann (C : Cont) (x : XNode) (p : Nat) : Cont := { C with xa := x, pl := p }
/-- the container is of kind `k` and does not wait for a child -/
structure Is (C : Cont) (k : NK) : Prop where
  kind : C.xa.kind = k
  waiting : C.xa.waiting = false

theorem grow_grow (C : Cont) (cs cs' : List Nat) (ks ks' : List (Bytes × Bool)) (N N' : List XNode) (l l' : Option Nat)
    (p p' : Nat) : (C.grow cs ks N l p).grow cs' ks' N' l' p' = C.grow (cs ++ cs') (ks ++ ks') (N ++ N') l' p' := by
  simp [grow, List.append_assoc]
@[simp] theorem grow_n (C : Cont) cs ks N l p : (C.grow cs ks N l p).n = C.n := rfl
@[simp] theorem grow_next (C : Cont) cs ks N l p : (C.grow cs ks N l p).next = C.next + N.length := by
  simp [grow, next]; omega
@[simp] theorem grow_keys (C : Cont) cs ks N l p : (C.grow cs ks N l p).xa.keys = C.xa.keys ++ ks := rfl
@[simp] theorem grow_pl (C : Cont) cs ks N l p : (C.grow cs ks N l p).pl = p := rfl
theorem Is.grow {C : Cont} {k : NK} (h : C.Is k) cs ks N l p : (C.grow cs ks N l p).Is k := ⟨h.kind, h.waiting⟩
theorem Is.setPl {C : Cont} {k : NK} (h : C.Is k) p : (C.setPl p).Is k := ⟨h.kind, h.waiting⟩
@[simp] theorem setPl_grow (C : Cont) q cs ks N l p : (C.setPl q).grow cs ks N l p = C.grow cs ks N l p := rfl
@[simp] theorem grow_setPl (C : Cont) q cs ks N l p : (C.grow cs ks N l p).setPl q = C.grow cs ks N l q := rfl
@[simp] theorem setPl_next (C : Cont) q : (C.setPl q).next = C.next := rfl
@[simp] theorem setPl_n (C : Cont) q : (C.setPl q).n = C.n := rfl
theorem kid_grow (C : Cont) cs ks N l p : C.kid.grow cs ks N l p = C.grow (C.next :: cs) ks N l p := by
  simp [kid, grow]
theorem Is.kid {C : Cont} {k : NK} (h : C.Is k) : C.kid.Is k := ⟨h.kind, h.waiting⟩
@[simp] theorem kid_next (C : Cont) : C.kid.next = C.next := rfl
theorem grow_nil (C : Cont) (p : Nat) : C.grow [] [] [] C.last p = C.setPl p := by
  obtain ⟨L0, xa, M, last, pl, root⟩ := C
  simp [grow, setPl]
@[simp] theorem sub_n (C : Cont) x N l p : (C.sub x N l p).n = C.next := zip_len _ _ _
@[simp] theorem sub_next (C : Cont) x N l p : (C.sub x N l p).next = C.next + 1 + N.length := by
  simp [sub, next]; omega
theorem sub_ann (C : Cont) x N l p x' p' : (C.sub x N l p).ann x' p' = C.sub x' N l p' := rfl
theorem sub_grow (C : Cont) x N l p cs ks N' l' p' : (C.sub x N l p).grow cs ks N' l' p'
    = C.sub { x with children := x.children ++ cs, keys := x.keys ++ ks } (N ++ N') l' p' := rfl
@[simp] theorem ann_xa (C : Cont) x p : (C.ann x p).xa = x := rfl
@[simp] theorem ann_pl (C : Cont) x p : (C.ann x p).pl = p := rfl

end Cont

/-! ### scanner steps -/

/-- the container a value stands in, read off the value's context `ctx`: what the scanner has pending around the value
(`ctxCk`) and the kind of the container's node (`ctxKind`) -/
def ctxCk : VCtx → CK | .objv => .val | _ => .item
def ctxKind : VCtx → NK | .objv => .obj | _ => .arr

theorem step_scalar (ctx : VCtx) (g : Bool) (K : List (LexT × Nat)) (i : Nat) (CS : List Ctx) (cx : Ctx) (al : Bool)
    (tok : List Cls) :
    astep ⟨ctx.st, g, K, i, CS, cx, al⟩ (.base (.scalar tok))
      = some (⟨endStOf tok, false, (.litB, i) :: (ctx.pre i ++ K), i + tok.length, CS, ctx.cx' cx, al⟩,
          ctx.preEvs i ++ [⟨.litB, i, i⟩]) := by
  cases ctx <;> rfl

/-! ### the two kinds of container: `o = true` the object, `o = false` the array -/

def cFirst (o : Bool) : St := bif o then .objKeyOrEmpty else .arrItemOrEmpty
def cSep (o : Bool) : St := bif o then .objKey else .arrItem
def cAft (o : Bool) : St := bif o then .afterValue else .afterItem
def cKind (o : Bool) : NK := bif o then .obj else .arr
def cB (o : Bool) : LexT := bif o then .objB else .arrB
def cE (o : Bool) : LexT := bif o then .objE else .arrE
def cCtx (o : Bool) : Ctx := bif o then { ty := .object } else { ty := .array }
def openTok (o : Bool) : BTok := bif o then .lbrace else .lbrack
def closeTok (o : Bool) : BTok := bif o then .rbrace else .rbrack

theorem step_open (o : Bool) (ctx : VCtx) (g : Bool) (K : List (LexT × Nat)) (i : Nat) (CS : List Ctx) (cx : Ctx)
    (al : Bool) :
    astep ⟨ctx.st, g, K, i, CS, cx, al⟩ (openTok o).cls
      = some (⟨cFirst o, false, (cB o, i) :: (ctx.pre i ++ K), i + 1, ctx.cx' cx :: CS, cCtx o, al⟩,
          ctx.preEvs i ++ [⟨cB o, i, i⟩]) := by
  cases o <;> cases ctx <;> rfl

/-- the closing bracket; `al'`: whatever `allowAnnotation` becomes, nothing is claimed about it behind a container -/
theorem step_close (o : Bool) (st : St) (h : st = cFirst o ∨ st = cAft o) (g : Bool) (b : Nat)
    (K : List (LexT × Nat)) (i : Nat) (c0 : Ctx) (CS : List Ctx) (cx : Ctx) (al : Bool) :
    ∃ al', astep ⟨st, g, (cB o, b) :: K, i, c0 :: CS, cx, al⟩ (closeTok o).cls
      = some (⟨.endValue, false, K, i + 1, CS, c0, al'⟩, [⟨cE o, b, i⟩]) := by
  cases o <;> rcases h with rfl | rfl <;> exact ⟨_, rfl⟩

theorem step_comma (o : Bool) (g : Bool) (K : List (LexT × Nat)) (i : Nat) (CS : List Ctx) (cx : Ctx) (al : Bool) :
    astep ⟨cAft o, g, K, i, CS, cx, al⟩ (.base .comma) = some (⟨cSep o, false, K, i + 1, CS, cx, al⟩, []) := by
  cases o <;> rfl

theorem step_colon (g : Bool) (K : List (LexT × Nat)) (i : Nat) (CS : List Ctx) (cx : Ctx) (al : Bool) :
    astep ⟨.afterKey, g, K, i, CS, cx, al⟩ (.base .colon) = some (⟨.objValue, false, K, i + 1, CS, cx, al⟩, []) := rfl

theorem step_key (st : St) (h : keySt st = true) (g : Bool) (K : List (LexT × Nat)) (i : Nat) (CS : List Ctx) (cx : Ctx)
    (al : Bool) (k : List Cls) :
    astep ⟨st, g, K, i, CS, cx, al⟩ (.base (.key k))
      = some (⟨.endValue, false, (.keyB, i) :: K, i + k.length, CS, cx, keyAl st al⟩, [⟨.keyB, i, i⟩]) := by
  cases st <;> simp [keySt] at h <;> rfl

theorem close_ck (st : St) (lit : Bool) (ck : CK) (b b2 : Nat) (K : List (LexT × Nat)) (j : Nat) (CS : List Ctx)
    (cx : Ctx) (al : Bool) :
    closePV ⟨st, false, SchemaScan.pendOf lit b ++ (ck.B, b2) :: K, j, CS, cx, al⟩
      = some (⟨ck.aft, false, K, j, CS, cx, al⟩, closersOf lit ck b b2 (j - 1)) := by
  cases lit <;> cases ck <;> rfl

theorem pre_eq (ctx : VCtx) (h : ctx ≠ .root) (b : Nat) (K : List (LexT × Nat)) :
    ctx.pre b ++ K = ((ctxCk ctx).B, b) :: K := by
  cases ctx <;> first | exact absurd rfl h | rfl

theorem aft_notPV (ck : CK) : PV ck.aft = false := by cases ck <;> rfl

/-- the events around a value in a container: item-begin / value-begin before it, item-end / value-end behind it -/
def preEv (ctx : VCtx) (x : Nat) : Ev := match ctx with | .objv => ⟨.valB, x, x⟩ | _ => ⟨.itemB, x, x⟩
def postEv (ctx : VCtx) (x y : Nat) : Ev := match ctx with | .objv => ⟨.valE, x, y⟩ | _ => ⟨.itemE, x, y⟩

theorem preEvs_eq (ctx : VCtx) (h : ctx ≠ .root) (x : Nat) : ctx.preEvs x = [preEv ctx x] := by
  cases ctx <;> first | exact absurd rfl h | rfl

theorem closers_eq (ctx : VCtx) (lit : Bool) (b b2 e : Nat) :
    closersOf lit (ctxCk ctx) b b2 e = (if lit then [⟨.litE, b, e⟩] else []) ++ [postEv ctx b2 e] := by
  cases ctx <;> rfl

theorem wait_eta (xa : XNode) (hw : xa.waiting = false) (cs : List Nat) :
    { xa with waiting := false, children := cs } = { xa with children := cs } := by
  cases xa; simp only at hw; subst hw; rfl

end AT

/-! ### loader pieces -/

namespace AT.G
open SchemaScan (Cls classify Ev LexT St Ctx CK VCtx PV wsLoop cmtLoop nlSt nlAl keySt keyAl closersOf)
open SchemaScan.Len (ATok Tok TC arun astep aslot slotStep closePV noML isObjKey nlStep mlSlot pendOfK annLoop cxA
  endStOf)
open Loader (XNode xfresh Fold NK)

variable [V : View]

theorem Loads.mono {i : Nat} {e : List Ev} {a a' : AS} (h : Loads i [] e a a') (bs : Bytes) : Loads i bs e a a' :=
  fun src st _ hl => h src st trivial hl

theorem Loads.seq {i : Nat} {bs : Bytes} {e1 e2 : List Ev} {a a1 a2 : AS} (h1 : Loads i bs e1 a a1)
    (h2 : Loads i bs e2 a1 a2) : Loads i bs (e1 ++ e2) a a2 := by
  intro src st hat hl
  obtain ⟨s1, f1, l1⟩ := h1 src st hat hl
  obtain ⟨s2, f2, l2⟩ := h2 src s1 hat l1
  exact ⟨s2, Fold.trans f1 f2, l2⟩

/-- the event before a value (item-begin / value-begin): the container waits for a child -/
theorem loads_pre (ctx : VCtx) (i x : Nat) (C : Cont) (hC : C.Is (ctxKind ctx)) :
    Loads i [] [preEv ctx x] C.as C.wait.as := by
  obtain ⟨L0, xa, M, last, pl, root⟩ := C
  obtain ⟨hk, hw⟩ := hC
  intro src st _ hl
  simp only [Cont.as, Cont.wait] at hl hk hw ⊢
  obtain ⟨n, hn, rfl⟩ := hl.get (List.getElem?_append_cons_length L0 xa M)
  cases ctx with
  | objv =>
    obtain ⟨st', s, l⟩ := Loader.X_upd src hl hn (.valB x x hk hw)
    rw [List.set_append_cons_length] at l
    exact ⟨st', Fold.one s, l⟩
  | _ =>
    obtain ⟨st', s, l⟩ := Loader.X_upd src hl hn (.itemB x x hk hw)
    rw [List.set_append_cons_length] at l
    exact ⟨st', Fold.one s, l⟩

/-- the event behind a value (item-end / value-end) -/
theorem loads_post (ctx : VCtx) (i x y : Nat) (C : Cont) (hC : C.Is (ctxKind ctx)) :
    Loads i [] [postEv ctx x y] C.as C.as := by
  obtain ⟨L0, xa, M, last, pl, root⟩ := C
  obtain ⟨hk, hw⟩ := hC
  intro src st _ hl
  simp only [Cont.as] at hl hk hw ⊢
  obtain ⟨n, hn, rfl⟩ := hl.get (List.getElem?_append_cons_length L0 xa M)
  cases ctx with
  | objv => obtain ⟨st', s, l⟩ := Loader.X_noop src hl hn (.valE x y hk hw); exact ⟨st', Fold.one s, l⟩
  | _ => obtain ⟨st', s, l⟩ := Loader.X_noop src hl hn (.itemE x y hk hw); exact ⟨st', Fold.one s, l⟩

/-- a waiting container creates its child: `C.kid.sub x [] …` is the loader just behind an opening bracket or the begin of
a literal, inside the new node `x`, which `C` has entered as a child -/
theorem loads_create (i : Nat) (e : Ev) (k : NK) (hp : Loader.plainTy e.ty = true) (he : Loader.kindOfLex e.ty = some k)
    (C : Cont) (hk : C.xa.kind = .arr ∨ C.xa.kind = .obj) (hw : C.xa.waiting = false) :
    Loads i [] [e] C.wait.as (C.kid.sub (xfresh k (some C.n)) [] (some C.next) (C.pl + 1)).as := by
  obtain ⟨L0, xa, M, last, pl, root⟩ := C
  intro src st _ hl
  simp only [Cont.as, Cont.wait, Cont.sub, Cont.kid, Cont.next, Cont.n, zip_len] at hl hk hw ⊢
  obtain ⟨st', s, l⟩ := Loader.X_create src hl { xa with waiting := true } (List.getElem?_append_cons_length L0 _ M) hk rfl e k hp he
  rw [List.set_append_cons_length, zip_len] at l
  have := wait_eta xa hw (xa.children ++ [L0.length + 1 + M.length])
  simp only at this l
  rw [this] at l
  exact ⟨st', Fold.one s, l⟩

/-- the end of a literal: its token is its value -/
theorem loads_litE (i : Nat) (tok : Bytes) (hne : tok ≠ []) (C : Cont) (x : XNode) (hk : x.kind = .lit)
    (last : Option Nat) (pl : Nat) :
    Loads i tok [⟨.litE, i, i + tok.length - 1⟩] (C.sub x [] last pl).as
      { (C.grow [] [] [{ x with value := some tok }] last pl).as with leaf := x.parent } := by
  obtain ⟨L0, xa, M, last0, pl0, root⟩ := C
  intro src st hat hl
  simp only [Cont.as, Cont.sub] at hl
  obtain ⟨n, hn, rfl⟩ := hl.get (List.getElem?_append_cons_length (L0 ++ xa :: M) x [])
  obtain ⟨st', s, l⟩ := Loader.X_upd src hl hn (.litE i (i + tok.length - 1) hk)
  rw [List.set_append_cons_length] at l
  simp only [Loader.absG, Loader.absX, Option.map_some, Lay.slice_tok src tok i hat hne] at l
  refine ⟨st', Fold.one s, ?_⟩
  rw [zip_snoc] at l
  simp only [Cont.as, Cont.grow, List.append_nil]
  exact l

/-- the end of the container `C` of kind `o`; the leaf goes back to its parent `par` -/
theorem loads_end (o : Bool) (i x y : Nat) (C : Cont) (hC : C.Is (cKind o)) (par : Option Nat) (hpar : C.xa.parent = par) :
    Loads i [] [⟨cE o, x, y⟩] C.as { C.as with leaf := par } := by
  obtain ⟨L0, xa, M, last, pl, root⟩ := C
  obtain ⟨hk, hw⟩ := hC
  subst hpar
  intro src st _ hl
  simp only [Cont.as] at hl hk hw ⊢
  obtain ⟨n, hn, rfl⟩ := hl.get (List.getElem?_append_cons_length L0 xa M)
  cases o with
  | true => obtain ⟨st', s, l⟩ := Loader.X_noop src hl hn (.objE x y hk hw); exact ⟨st', Fold.one s, l⟩
  | false => obtain ⟨st', s, l⟩ := Loader.X_noop src hl hn (.arrE x y hk hw); exact ⟨st', Fold.one s, l⟩

/-- a key: begin and end; the entry the view shows for the key token is recorded -/
theorem loads_key (i : Nat) (k : Bytes) (hne : k ≠ []) (C : Cont) (hC : C.Is .obj)
    (hd : (Unquote.unquote k, false) ∉ C.xa.keys.map V.kdec) :
    Loads i k [⟨.keyB, i, i⟩, ⟨.keyE, i, i + k.length - 1⟩] C.as (C.grow [] [V.kview (k, false)] [] C.last C.pl).as := by
  obtain ⟨L0, xa, M, last, pl, root⟩ := C
  obtain ⟨hk, hw⟩ := hC
  intro src st hat hl
  simp only [Cont.as, Cont.grow, List.append_nil] at hl hk hw hd ⊢
  have hn := List.getElem?_append_cons_length L0 xa M
  obtain ⟨n, hc, rfl⟩ := hl.get hn
  obtain ⟨s1, f1, l1⟩ := Loader.X_noop src hl hc (.keyB i i hk hw)
  have hkt := Lay.keyText_tok src k i hat hne
  obtain ⟨s2, f2, l2⟩ := Loader.X_keyE src l1 _ hn hk hw i (i + k.length - 1) V.kdec (fun _ => V.kdec_kview _) (by rw [hkt]; exact hd)
  have hraw : Loader.K.rawOf src (i, i + k.length - 1, false) = (k, false) := by
    simp only [Loader.K.rawOf, Lay.slice_tok src k i hat hne]
  rw [List.set_append_cons_length, hraw] at l2
  exact ⟨s2, Loader.Fold.cons f1 (Fold.one f2), l2⟩

/-- one token followed by the closing lexemes of the value it ends -/
theorem Seg.tokClose {c c0 c1 : TC} {t : BTok} {e0 e1 : List Ev} {a a1 : AS} (h : astep c t.cls = some (c0, e0))
    (hpv : PV c0.st = true) (hg : c0.g = false) (hc : closePV c0 = some (c1, e1)) (h1 : PV c1.st = false)
    (hl : Loads c.i t.bytes (e0 ++ e1) a a1) (hi : c0.i = c.i + t.bytes.length) : Seg c [t] c1 a a1 := by
  refine ⟨⟨e0 ++ e1, ?_, by simpa [bytesOf] using hl⟩, ?_⟩
  · have := (ScansA.one h).weak.trans (Scans.close hpv hg hc h1)
    simpa using this
  · have := SchemaScan.Len.closePV_index hc
    simp [bytesOf, this, hi]

/-! ### steps on one level, at any scanner state of the right kind -/

/-- `Lvl.gap` at a container: a layout only sets the number of nodes on the line -/
theorem Lvl.gapC (g : Gap) (c : TC) (C : Cont) (ak sep : Bool) (hws : wsLoop c.st = true)
    (hcm : Gap.hasCmt g = true → cmtLoop c.st = true) (hsep : sep = true → c.st = .objKey ∨ c.st = .arrItem) :
    Lvl ⟨c, C.as, ak⟩ (gapToks g) ⟨gapTC c g, (C.setPl (gapPl C.pl g)).as, gapAk sep ak g⟩ :=
  Lvl.gap g c C.as ak sep hws hcm hsep

/-- a layout at a place that is not behind a separator: `ak` stays -/
theorem Lvl.gapC0 (g : Gap) (c : TC) (C : Cont) (ak : Bool) (hws : wsLoop c.st = true)
    (hcm : Gap.hasCmt g = true → cmtLoop c.st = true) :
    Lvl ⟨c, C.as, ak⟩ (gapToks g) ⟨gapTC c g, (C.setPl (gapPl C.pl g)).as, ak⟩ := by
  simpa [gapAk] using Lvl.gapC g c C ak false hws hcm (by simp)

/-- the comma and the colon: no event, the loader stays -/
theorem Lvl.comma (o : Bool) (c : TC) (a : AS) (ak : Bool) (h : c.st = cAft o) :
    Lvl ⟨c, a, ak⟩ [.comma] ⟨{ c with st := cSep o, g := false, i := c.i + 1 }, a, ak⟩ := by
  obtain ⟨st, g, K, i, CS, cx, al⟩ := c
  subst h
  exact ⟨Seg.tok (t := .comma) (step_comma o g K i CS cx al) (Loads.nil _ _ _) rfl, rfl, rfl, id⟩

theorem Lvl.colon (c : TC) (a : AS) (ak : Bool) (h : c.st = .afterKey) :
    Lvl ⟨c, a, ak⟩ [.colon] ⟨{ c with st := .objValue, g := false, i := c.i + 1 }, a, ak⟩ := by
  obtain ⟨st, g, K, i, CS, cx, al⟩ := c
  subst h
  exact ⟨Seg.tok (t := .colon) (step_colon g K i CS cx al) (Loads.nil _ _ _) rfl, rfl, rfl, id⟩

/-- a key and its closing lexeme; behind the opening bracket (`first`) the scanner switches `allowAnnotation` on -/
theorem Lvl.key (k : Bytes) (hkey : SchemaScan.IsKey (k.map classify)) (c : TC) (hks : keySt c.st = true) (ak first : Bool)
    (hf : first = true → c.st = .objKeyOrEmpty) (C : Cont) (hC : C.Is .obj)
    (hnd : (Unquote.unquote k, false) ∉ C.xa.keys.map V.kdec) :
    Lvl ⟨c, C.as, ak⟩ [.key k]
      ⟨{ c with st := .afterKey, g := false, i := c.i + k.length, al := keyAl c.st c.al },
        (C.grow [] [V.kview (k, false)] [] C.last C.pl).as, first || ak⟩ := by
  obtain ⟨st, g, K, i, CS, cx, al⟩ := c
  have h := step_key st hks g K i CS cx al (k.map classify)
  rw [List.length_map] at h
  refine ⟨Seg.tokClose (t := .key k) h rfl rfl (close_ck _ false .key 0 i K _ CS _ _) rfl
    (loads_key i k (Lay.key_ne hkey) C hC hnd) rfl, rfl, rfl, fun hak h => ?_⟩
  cases first with
  | true => rw [show st = .objKeyOrEmpty from hf rfl]; rfl
  | false =>
    have : al = true := hak (by simpa using h)
    subst this
    show keyAl st true = true
    cases st <;> rfl

end AT.G
