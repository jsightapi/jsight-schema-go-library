import JSight.ValidateT
/-!
The shared-parent tree of `ValidateT` accepts exactly the union semantics (`C03_shared_tree`), hence agrees with the
independent-leaves machine (`shared_eq_independent`).  `runQ_eq` carries the run over to `TreeRun.run`.
-/
namespace VN
variable {L D : Type} (litOK : L → D → Bool)

theorem stepG_append (g1 g2 : List (T L)) (e : Ev D) :
    stepG litOK (g1 ++ g2) e
      = ((stepG litOK g1 e).1 ++ (stepG litOK g2 e).1, (stepG litOK g1 e).2 || (stepG litOK g2 e).2) := by
  induction g1 with
  | nil => simp [stepG]
  | cons t ts ih =>
    simp only [List.cons_append, stepG, ih]
    cases (stepT litOK t e).1 <;> simp [Bool.or_assoc]

theorem runQ_eq (g : List (T L)) (es : List (Ev D)) : runQ litOK g es = TreeRun.run (stepG litOK) g es := by
  induction es generalizing g with
  | nil => rfl
  | cons e es ih => simp only [runQ, TreeRun.run, ih]

theorem runQ_nil (es : List (Ev D)) : runQ litOK ([] : List (T L)) es = some ([], false) := by
  rw [runQ_eq]; exact TreeRun.run_nil _ (fun _ => rfl) es

theorem runQ_cons (g : List (T L)) (e : Ev D) (es : List (Ev D)) (h : (stepG litOK g e).2 = false) :
    runQ litOK g (e :: es) = runQ litOK (stepG litOK g e).1 es := by
  simp only [runQ_eq]; exact TreeRun.run_cons _ g e es h

/-- siblings do not interact -/
theorem runQ_group_append (g1 g2 : List (T L)) (es : List (Ev D)) :
    runQ litOK (g1 ++ g2) es =
      match runQ litOK g1 es, runQ litOK g2 es with
      | some r1, some r2 => some (r1.1 ++ r2.1, r1.2 || r2.2)
      | _, _ => none := by
  simp only [runQ_eq, TreeRun.run_group_append _ (stepG_append litOK)]
  cases TreeRun.run (stepG litOK) g1 es <;> cases TreeRun.run (stepG litOK) g2 es <;> rfl

/-! ### a parent that is not a leaf only waits for its children -/

theorem stepG_node_wait (P : Frame L) (g : List (T L)) (e : Ev D) :
    stepG litOK [T.node P false g] e
      = (if (stepG litOK g e).2 then [T.node P true (stepG litOK g e).1]
         else if (stepG litOK g e).1.isEmpty then [] else [T.node P false (stepG litOK g e).1], false) := by
  simp only [stepG, stepT, own, assemble, Bool.false_eq_true, if_false, List.map_nil, List.append_nil, Bool.false_or]
  cases (stepG litOK g e).2 <;> cases h : (stepG litOK g e).1.isEmpty <;> simp [h]

theorem node_wait (P : Frame L) (es : List (Ev D)) : ∀ (g g' : List (T L)) (b : Bool),
    runQ litOK g es = some (g', b) → es ≠ [] →
    runQ litOK [T.node P false g] es
      = some (if b then [T.node P true g'] else if g'.isEmpty then [] else [T.node P false g'], false) := by
  simp only [runQ_eq]
  exact TreeRun.run_wait _ (T.node P) (fun _ => rfl) (stepG_node_wait litOK P) es

def leafRes : FeedRes L → List (T L) × Bool
  | .fail => ([], false)
  | .done => ([], true)
  | .stay f' => ([leafT f'], false)
  | .kids f' hs => (if hs.isEmpty then [] else [T.node f' false (hs.map leafT)], false)

theorem stepG_leaf (f : Frame L) (e : Ev D) : stepG litOK [leafT f] e = leafRes (feed1 litOK f e) := by
  simp only [leafT, stepG, stepT, own, if_true]
  cases feed1 litOK f e with
  | fail => rfl
  | done => rfl
  | stay f' => rfl
  | kids f' hs => cases hs <;> rfl

variable {litOK}

theorem leaf_fail {f : Frame L} {e : Ev D} (h : feed1 litOK f e = .fail) (es : List (Ev D)) :
    runQ litOK [leafT f] (e :: es) = some ([], false) := by
  rw [runQ_cons _ _ _ _ (by rw [stepG_leaf, h]; rfl), stepG_leaf, h]; exact runQ_nil litOK es

theorem leaf_done {f : Frame L} {e : Ev D} (h : feed1 litOK f e = .done) :
    runQ litOK [leafT f] [e] = some ([], true) := by
  rw [runQ, stepG_leaf, h]; rfl

theorem leaf_stay {f f' : Frame L} {e : Ev D} (h : feed1 litOK f e = .stay f') (es : List (Ev D)) :
    runQ litOK [leafT f] (e :: es) = runQ litOK [leafT f'] es := by
  rw [runQ_cons _ _ _ _ (by rw [stepG_leaf, h]; rfl), stepG_leaf, h]; rfl

theorem leaf_kids {f f' : Frame L} {hs : List (Frame L)} {e : Ev D} (h : feed1 litOK f e = .kids f' hs)
    (es : List (Ev D)) :
    runQ litOK [leafT f] (e :: es) = runQ litOK (leafRes (.kids f' hs)).1 es := by
  rw [runQ_cons _ _ _ _ (by rw [stepG_leaf, h]; rfl), stepG_leaf, h]

variable (litOK)

/-! ### the cases of `feed1` that depend on more than the frame and the lexeme -/

theorem feed1_any (n : Nat) (e : Ev D) :
    feed1 litOK (.any n : Frame L) e
      = if (if e.isOpening then n + 1 else n - 1) == 0 then .done else .stay (.any (if e.isOpening then n + 1 else n - 1)) :=
  rfl

theorem feed1_litE (l : L) (d : D) : feed1 litOK (.lit l : Frame L) (.litE d) = if litOK l d then .done else .fail :=
  rfl

theorem feed1_itemB (items : List (S L)) (c : Nat) :
    feed1 litOK (.arr items c) (.itemB : Ev D)
      = match childAt items c with
        | some s => .kids (.arr items (c + 1)) (heads s)
        | none => .fail :=
  rfl

theorem feed1_valB (props : List (String × Bool × S L)) (req : List String) (k : String) :
    feed1 litOK (.obj props req (some k)) (.valB : Ev D)
      = match lookup props k with
        | some s => .kids (.obj props req (some k)) (heads s)
        | none => .fail :=
  rfl

theorem any_openT (n : Nat) (e : Ev D) (es : List (Ev D)) (h : e.isOpening = true) :
    runQ litOK [leafT (.any n : Frame L)] (e :: es) = runQ litOK [leafT (.any (n+1))] es :=
  leaf_stay (by rw [feed1_any, h]; rfl) es

theorem any_closeT (n : Nat) (e : Ev D) (es : List (Ev D)) (h : e.isOpening = false) :
    runQ litOK [leafT (.any (n+2) : Frame L)] (e :: es) = runQ litOK [leafT (.any (n+1))] es :=
  leaf_stay (by rw [feed1_any, h]; rfl) es

theorem any_lastT (e : Ev D) (h : e.isOpening = false) :
    runQ litOK [leafT (.any 1 : Frame L)] [e] = some ([], true) :=
  leaf_done (by rw [feed1_any, h]; rfl)

theorem any_keepT (d : J D) (n : Nat) (r : Ev D) (rs : List (Ev D)) :
    runQ litOK [leafT (.any (n+1) : Frame L)] (evs d ++ r :: rs) = runQ litOK [leafT (.any (n+1))] (r :: rs) :=
  skip_value (fun n es => runQ litOK [leafT (.any n)] es) (any_openT litOK) (any_closeT litOK) d n (r :: rs)

theorem any_topT (d : J D) : runQ litOK [leafT (.any 0 : Frame L)] (evs d) = some ([], true) := by
  simpa using skip_top (fun n es => runQ litOK [leafT (.any n)] es) (any_openT litOK) (any_closeT litOK) d [] _
    (any_lastT litOK)

/-! ### the union semantics for the shared-parent tree -/

/-- after the children of a position have run over the value: the parent is a leaf again iff one of them accepted -/
theorem position_run (P : Frame L) (s : S L) (x : J D) (r : Ev D) (rs : List (Ev D))
    (hv : runQ litOK ((heads s).map leafT) (evs x) = some ([], shape litOK s x)) :
    runQ litOK (leafRes (FeedRes.kids P (heads s))).1 (evs x ++ r :: rs)
      = if shape litOK s x then runQ litOK [leafT P] (r :: rs) else some ([], false) := by
  rw [runQ_eq] at hv
  simpa [runQ_eq, leafRes, leafT] using
    TreeRun.run_position _ (T.node P) (fun _ => rfl) (stepG_node_wait litOK P) _ _ _ (r :: rs)
      (evs_ne_nil x) (by simp) hv

/-! As in `ValidateNProofs`: from arrays and objects to every schema by recursion on the schema, and for arrays
and objects by recursion on the value. -/

mutual
theorem value_of_T (d : J D)
    (harr : ∀ items, runQ litOK ((heads (.arr items)).map leafT) (evs d) = some ([], shape litOK (.arr items) d))
    (hobj : ∀ props, runQ litOK ((heads (.obj props)).map leafT) (evs d) = some ([], shape litOK (.obj props) d)) :
    (s : S L) → runQ litOK ((heads s).map leafT) (evs d) = some ([], shape litOK s d)
  | .alt alts => by simpa only [heads, shape] using alts_of_T d harr hobj alts
  | .any => by simpa only [heads, shape, List.map_cons, List.map_nil] using any_topT litOK d
  | .arr items => harr items
  | .obj props => hobj props
  | .lit l => by
    cases d with
    | lit dk =>
      simp only [heads, List.map_cons, List.map_nil, evs, shape]
      rw [leaf_stay (f' := .lit l) rfl]
      cases h : litOK l dk
      · exact leaf_fail (by rw [feed1_litE, h]; rfl) _
      · exact leaf_done (by rw [feed1_litE, h]; rfl)
    | arr xs => simp only [heads, List.map_cons, List.map_nil, evs, shape]; exact leaf_fail rfl _
    | obj ms => simp only [heads, List.map_cons, List.map_nil, evs, shape]; exact leaf_fail rfl _
theorem alts_of_T (d : J D)
    (harr : ∀ items, runQ litOK ((heads (.arr items)).map leafT) (evs d) = some ([], shape litOK (.arr items) d))
    (hobj : ∀ props, runQ litOK ((heads (.obj props)).map leafT) (evs d) = some ([], shape litOK (.obj props) d)) :
    (alts : List (S L)) → runQ litOK ((headsList alts).map leafT) (evs d) = some ([], shapeAlts litOK alts d)
  | [] => by simpa only [headsList, shapeAlts, List.map_nil] using runQ_nil litOK (evs d)
  | a :: as => by
    simp only [headsList, List.map_append, shapeAlts]
    rw [runQ_group_append, value_of_T d harr hobj a, alts_of_T d harr hobj as]
    rfl
end

mutual
theorem arr_T (items : List (S L)) (d : J D) :
    runQ litOK ((heads (.arr items)).map leafT) (evs d) = some ([], shape litOK (.arr items) d) := by
  cases d with
  | lit dk => simp only [heads, List.map_cons, List.map_nil, evs, shape]; exact leaf_fail rfl _
  | arr xs =>
    simp only [heads, List.map_cons, List.map_nil, evs, shape]
    rw [leaf_stay (f' := .arr items 0) rfl]
    exact items_T items xs 0
  | obj ms => simp only [heads, List.map_cons, List.map_nil, evs, shape]; exact leaf_fail rfl _
theorem obj_T (props : List (String × Bool × S L)) (d : J D) :
    runQ litOK ((heads (.obj props)).map leafT) (evs d) = some ([], shape litOK (.obj props) d) := by
  cases d with
  | lit dk => simp only [heads, List.map_cons, List.map_nil, evs, shape]; exact leaf_fail rfl _
  | arr xs => simp only [heads, List.map_cons, List.map_nil, evs, shape]; exact leaf_fail rfl _
  | obj ms =>
    simp only [heads, List.map_cons, List.map_nil, evs, shape]
    rw [leaf_stay (f' := .obj props (requiredKeys props) none) rfl]
    exact members_T props ms (requiredKeys props) none
theorem items_T (items : List (S L)) (xs : List (J D)) (c : Nat) :
    runQ litOK [leafT (.arr items c)] (evsItems xs ++ [.arrE]) = some ([], shapeItems litOK items c xs) := by
  cases xs with
  | nil =>
    simp only [evsItems, List.nil_append, shapeItems]
    exact leaf_done rfl
  | cons x xs =>
    cases hc : childAt items c with
    | none =>
      simp only [evsItems, List.cons_append, List.append_assoc, shapeItems, hc]
      exact leaf_fail (by rw [feed1_itemB, hc]) _
    | some s =>
      simp only [evsItems, List.cons_append, List.append_assoc, shapeItems, hc]
      rw [leaf_kids (f' := .arr items (c+1)) (hs := heads s) (by rw [feed1_itemB, hc]),
        position_run litOK _ s x .itemE _ (value_of_T litOK x (arr_T · x) (obj_T · x) s)]
      cases shape litOK s x with
      | false => rfl
      | true =>
        simp only [if_true, Bool.true_and]
        rw [leaf_stay (f' := .arr items (c+1)) rfl]
        exact items_T items xs (c+1)
theorem members_T (props : List (String × Bool × S L)) (ms : List (String × J D)) (req : List String)
    (last : Option String) :
    runQ litOK [leafT (.obj props req last)] (evsMembers ms ++ [.objE])
      = some ([], shapeMembers litOK props ms && req.all (fun r => ms.any (fun m => m.1 == r))) := by
  cases ms with
  | nil =>
    simp only [evsMembers, List.nil_append, shapeMembers, all_none_isEmpty, Bool.true_and]
    cases req
    · exact leaf_done rfl
    · exact leaf_fail rfl _
  | cons m ms =>
    obtain ⟨k, v⟩ := m
    simp only [evsMembers, List.cons_append, List.append_assoc]
    rw [leaf_stay (f' := .obj props req last) rfl, leaf_stay (f' := .obj props (req.filter (· != k)) (some k)) rfl]
    cases hl : lookup props k with
    | none =>
      simp only [shapeMembers, hl]
      exact leaf_fail (by rw [feed1_valB, hl]) _
    | some s =>
      simp only [shapeMembers, hl]
      rw [leaf_kids (f' := .obj props (req.filter (· != k)) (some k)) (hs := heads s) (by rw [feed1_valB, hl]),
        position_run litOK _ s v .valE _ (value_of_T litOK v (arr_T · v) (obj_T · v) s)]
      cases shape litOK s v with
      | false => rfl
      | true =>
        simp only [if_true, Bool.true_and]
        rw [leaf_stay (f' := .obj props (req.filter (· != k)) (some k)) rfl,
          members_T props ms (req.filter (· != k)) (some k), req_step req k v ms]
end

theorem value_T (s : S L) (d : J D) :
    runQ litOK ((heads s).map leafT) (evs d) = some ([], shape litOK s d) :=
  value_of_T litOK d (arr_T litOK · d) (obj_T litOK · d) s

theorem alts_T (alts : List (S L)) (d : J D) :
    runQ litOK ((headsList alts).map leafT) (evs d) = some ([], shapeAlts litOK alts d) :=
  alts_of_T litOK d (arr_T litOK · d) (obj_T litOK · d) alts

/-- **C01/C03** for the shared-parent validator tree (as the code keeps it, with F-11): `Validate` accepts exactly
the union semantics, for every schema with alternatives and every document -/
theorem C03_shared_tree (s : S L) (d : J D) : validateT litOK s d = shape litOK s d := by
  unfold validateT
  rw [value_T]

/-- and therefore the shared-parent tree and the independent-leaves machine agree -/
theorem shared_eq_independent (s : S L) (d : J D) : validateT litOK s d = validate litOK s d := by
  rw [C03_shared_tree, C03_validate_iff_union]

#print axioms C03_shared_tree

end VN
