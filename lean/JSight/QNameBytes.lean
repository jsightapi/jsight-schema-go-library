import JSight.Utf8Unquote
import JSight.SchemaEventsTree
import JSight.ByteLemmas
import JSight.ClassifyInv
/-!
A string token of the JSON string grammar (`RulesF.SCh`: raw characters as UTF-8, two-character escapes, `\uXXXX`) is a
key of the schema scanner model's token automaton (`SchemaScan.IsKey`): what makes a QUOTED rule name — any JSON string
— scannable.
-/
namespace SchemaScan
open RulesF (SCh Esc)

theorem silent_plain (r : List St) (u : Bool) (c : Cls) (h : Cls.isPlainStr c = true) :
    silent .inString r u c = some (.inString, r, u) := by
  cases c <;> simp [Cls.isPlainStr] at h <;> rfl

/-- by `classify_has` a byte of a class that is not plain in a string is a control byte, `"` or `\`; the hypotheses
exclude each -/
theorem plain_byte (b : UInt8) (h : 32 ≤ b.toNat) (h1 : b.toNat ≠ 34) (h2 : b.toNat ≠ 92) :
    Cls.isPlainStr (classify b) = true := by
  have hh := classify_has b
  cases hk : classify b <;> rw [hk] at hh <;> first
    | rfl
    | (exfalso; simp only [Cls.has, Bool.or_eq_true, beq_iff_eq, decide_eq_true_eq] at hh
       first | (rcases hh with rfl | rfl <;> revert h <;> decide) | (subst hh; revert h h1 h2; decide)
             | (have := UInt8.lt_iff_toNat_lt.mp hh; simp at this; omega))

/-- checked for all 256 bytes -/
theorem hex_byte (b : UInt8) (h : RulesF.isHexByte b = true) : (classify b).isHex = true := by
  have := Bytes.forall_uint8 (fun b => !RulesF.isHexByte b || (classify b).isHex) (by decide +kernel) b
  simpa [h] using this

theorem silentRun_plain (r : List St) (u : Bool) : ∀ (bs rest : List Cls), (∀ c ∈ bs, Cls.isPlainStr c = true) →
    silentRun .inString r u (bs ++ rest) = silentRun .inString r u rest
  | [], _, _ => rfl
  | c :: bs, rest, h => by
    simp only [List.cons_append, silentRun, silent_plain r u c (h c (by simp))]
    exact silentRun_plain r u bs rest (fun x hx => h x (by simp [hx]))

/-- the bytes of a raw character of the string grammar -/
theorem chr_plain (c : Char) (hc : (SCh.chr c).ok) : ∀ b ∈ String.utf8EncodeChar c, Cls.isPlainStr (classify b) = true := by
  obtain ⟨h20, hq, hb⟩ := hc
  have n92 : c.val.toNat ≠ 92 := by
    intro h; apply hb; apply Char.ext; apply UInt32.toNat_inj.1; rw [h]; rfl
  have n34 : c.val.toNat ≠ 34 := by
    intro h; apply hq; apply Char.ext; apply UInt32.toNat_inj.1; rw [h]; rfl
  intro b hbm
  -- one byte: the character itself; more: every byte is at least 0x80
  rcases RulesF.enc_view c with ⟨-, b0, e, h0⟩ | ⟨-, _, _, _, _, hge, -⟩
  · rw [e, List.mem_singleton] at hbm
    subst hbm
    exact plain_byte _ (by omega) (by omega) (by omega)
  · have := hge b hbm
    exact plain_byte _ (by omega) (by omega) (by omega)

theorem cls92 : classify 92 = .bslash := by decide
theorem cls117 : classify 117 = .lu := by decide
theorem cls34 : classify 34 = .quote := by decide

/-- one character of the string grammar takes the automaton from `inString` back to `inString` -/
theorem silentRun_sch (r : List St) (u : Bool) (c : SCh) (hc : c.ok) (rest : List Cls) :
    silentRun .inString r u (c.render.map classify ++ rest) = silentRun .inString r u rest := by
  cases c with
  | chr ch =>
    exact silentRun_plain r u _ rest (by
      intro x hx
      obtain ⟨b, hb, rfl⟩ := List.mem_map.1 hx
      exact chr_plain ch hc b hb)
  | esc e => cases e <;> rfl
  | u4 a b c d =>
    obtain ⟨ha, hb, hc', hd⟩ := hc
    have h1 := hex_byte a ha
    have h2 := hex_byte b hb
    have h3 := hex_byte c hc'
    have h4 := hex_byte d hd
    simp only [SCh.render, List.map_cons, List.map_nil, List.cons_append, List.nil_append, silentRun, cls92, cls117,
      silent, h1, h2, h3, h4, if_true]

theorem silentRun_body (r : List St) (u : Bool) : ∀ (cs : List SCh), (∀ c ∈ cs, c.ok) → ∀ (rest : List Cls),
    silentRun .inString r u ((cs.flatMap SCh.render).map classify ++ rest) = silentRun .inString r u rest
  | [], _, _ => rfl
  | c :: cs, h, rest => by
    simp only [List.flatMap_cons, List.map_append, List.append_assoc]
    rw [silentRun_sch r u c (h c (by simp))]
    exact silentRun_body r u cs (fun x hx => h x (by simp [hx])) rest

/-- **every JSON string token is a key of the scanner's token automaton** -/
theorem isKey_of_str (cs : List SCh) (hok : ∀ c ∈ cs, c.ok) :
    IsKey ((34 :: (cs.flatMap SCh.render ++ [34])).map classify) := by
  refine ⟨(cs.flatMap SCh.render ++ [34]).map classify, by simp [cls34], ?_⟩
  rw [List.map_append, silentRun_body [] false cs hok]
  rfl

end SchemaScan
