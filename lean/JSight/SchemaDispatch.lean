import JSight.SchemaEndValue
/-! The invariant across the composite transitions: the states that re-dispatch, the ends of a type shortcut, and the
states from which an annotation or its text begins.  The fuel in a statement is the depth of its re-dispatch: `f+2`
where the byte goes to `endValue`, which passes it on once more (the annotation states, which pass it to a leaf, are
stated at the same fuel), `f+3` for `tsBeforePipe`, which first re-dispatches to the state `endValue`. -/
namespace SchemaScan

theorem foundRoot_lbrace_eq {f s p1 p2} : dispatch (f+1) .foundRoot s .lbrace p1 p2 =
    .ok (setContext (found { s with step := .objKeyOrEmpty } .objB) { ty := .object }) := by
  unfold dispatch; dsimp only
  simp [isCommentStart, beginValue, isNewLineM, Cls.isNewLine, Cls.isBlank, Cls.isSpace, bind, Except.bind,
    pure, Except.pure]

/-- the root object of an annotation begins -/
theorem foundRoot_lbrace_ok {f s p1 p2 V} (hE : Eff s V) (hC : CH V s.ret) :
    OKRes Inv (dispatch (f+1) .foundRoot s .lbrace p1 p2) := by
  rw [foundRoot_lbrace_eq]
  exact ⟨_, Eff_found_setContext (s := { s with step := .objKeyOrEmpty }) hE rfl rfl, Good.obj rfl hC⟩

/-- the kinds of states that pass the byte on to `endValue` when it does not continue their token -/
def StKind.toEndValue : StKind → Bool
  | .ks | .lit | .ts | .key => true
  | _ => false

theorem Good.toEndValue {st eff ret} (h : Good st eff ret) (hk : st.kind.toEndValue = true) :
    Good .endValue eff ret := by
  have := h.inv
  cases hst : st.kind <;> rw [hst] at hk this <;> first | cases hk | skip
  all_goals obtain ⟨V, rfl, hV⟩ := this
  · exact Good.ks rfl hV
  · exact Good.key rfl hV
  · exact Good.lit rfl hV
  · exact Good.ts rfl hV

theorem keyShortcut_ok {f s c p1 p2} (h : InvAt .keyShortcut s) (hf : s.finds = [])
    (hs : StepOK .keyShortcut s c) : OKRes Inv (dispatch (f+2) .keyShortcut s c p1 p2) := by
  obtain ⟨eff, hE, hG⟩ := h
  have hK := Good.keep hs hG
  unfold dispatch; dsimp only
  split
  · exact ⟨_, hE, hK⟩
  · exact endValue_ok hE hf (hG.toEndValue rfl)

/-- the state `.endValue` (`endValue_ok` is about the helper it calls) -/
theorem endValueSt_ok {f s c p1 p2} (h : InvAt .endValue s) (hf : s.finds = []) :
    OKRes Inv (dispatch (f+2) .endValue s c p1 p2) := by
  obtain ⟨eff, hE, hG⟩ := h
  unfold dispatch; dsimp only
  exact endValue_ok hE hf hG

theorem state0_ok {f s c p1 p2 V} (hE : Eff s (.litB :: V)) (hV : VH V s.ret) (hf : s.finds = []) :
    OKRes Inv (state0 (f+1) s c p1 p2) := by
  unfold state0
  split
  · exact ⟨_, hE, Good.lit rfl hV⟩
  split
  · rfl
  · exact endValue_ok hE hf (Good.lit rfl hV)

theorem d1_ok {f s c p1 p2} (h : InvAt .d1 s) (hf : s.finds = []) :
    OKRes Inv (dispatch (f+2) .d1 s c p1 p2) := by
  obtain ⟨eff, hE, hG⟩ := h
  obtain ⟨V, rfl, hV⟩ := hG.inv
  unfold dispatch; dsimp only
  split
  · exact ⟨_, hE, Good.lit rfl hV⟩
  · exact state0_ok hE hV hf

theorem d0_ok {f s c p1 p2} (h : InvAt .d0 s) (hf : s.finds = []) :
    OKRes Inv (dispatch (f+2) .d0 s c p1 p2) := by
  obtain ⟨eff, hE, hG⟩ := h
  obtain ⟨V, rfl, hV⟩ := hG.inv
  unfold dispatch; dsimp only
  exact state0_ok hE hV hf

theorem dot0_ok {f s c p1 p2} (h : InvAt .dot0 s) (hf : s.finds = []) (hs : StepOK .dot0 s c) :
    OKRes Inv (dispatch (f+2) .dot0 s c p1 p2) := by
  obtain ⟨eff, hE, hG⟩ := h
  have hK := Good.keep hs hG
  obtain ⟨V, rfl, hV⟩ := hG.inv
  unfold dispatch; dsimp only
  split
  · exact ⟨_, hE, hK⟩
  split
  · rfl
  · exact endValue_ok hE hf (Good.lit rfl hV)

theorem FSPost.inv {s V s'} (h : FSPost s V s') :
    ∃ eff, Eff s' eff ∧ Good s'.step eff s'.ret ∧ s'.step.annRet = true ∧ s'.step.cflag = 0 := by
  obtain ⟨hr, _, ⟨V', rfl, hst, hE', hV'⟩ | ⟨V', rfl, hst, hE', hV'⟩ | ⟨rfl, hret, hst, hE'⟩⟩ := h
  · exact ⟨_, hE', by rw [hst, hr]; exact Good.obj rfl hV', by rw [hst]; rfl, by rw [hst]; rfl⟩
  · exact ⟨_, hE', by rw [hst, hr]; exact Good.arr rfl hV', by rw [hst]; rfl, by rw [hst]; rfl⟩
  · exact ⟨_, hE', by rw [hst, hr, hret]; exact Good.endTop, by rw [hst]; rfl, by rw [hst]; rfl⟩

theorem finishThenAnn_ok {s V} (hE : Eff s (.tsB :: .mixB :: V)) (hV : VH V s.ret) :
    OKRes Inv (Except.bind (finishShortcut s) switchToAnnotation) := by
  refine OKRes.bind (finishShortcut_spec hE hV) ?_
  intro v hv
  obtain ⟨eff, h1, h2, h3, _⟩ := hv.inv
  exact switchToAnnotation_ok h1 h2 h3

theorem finishThenCom_ok {s V} (hE : Eff s (.tsB :: .mixB :: V)) (hV : VH V s.ret) :
    OKRes Inv (Except.bind (finishShortcut s) switchToComment) := by
  refine OKRes.bind (finishShortcut_spec hE hV) ?_
  intro v hv
  obtain ⟨eff, h1, h2, _, h4⟩ := hv.inv
  exact switchToComment_ok h1 h2 h4

theorem tsName_ok {f s c p1 p2} (h : InvAt .tsName s) (hf : s.finds = []) :
    OKRes Inv (dispatch (f+2) .tsName s c p1 p2) := by
  obtain ⟨eff, hE, hG⟩ := h
  obtain ⟨V, rfl, hV⟩ := hG.inv
  unfold dispatch; dsimp only
  simp only [bind, Except.bind, pure, Except.pure]
  refine OKRes.ite (fun _ => finishThenAnn_ok hE hV) fun _ => ?_
  refine OKRes.ite (fun _ => finishThenCom_ok hE hV) fun _ => ?_
  refine OKRes.ite (fun _ => ⟨_, hE, Good.ts rfl hV⟩) fun _ => ?_
  refine OKRes.ite (fun _ => ⟨_, hE, Good.ts rfl hV⟩) fun _ => ?_
  exact OKRes.ite (fun _ => ⟨_, hE, Good.ts rfl hV⟩) fun _ => endValue_ok hE hf (Good.ts rfl hV)

theorem tsBeforePipe_ok {f s c p1 p2} (h : InvAt .tsBeforePipe s) (hf : s.finds = []) :
    OKRes Inv (dispatch (f+3) .tsBeforePipe s c p1 p2) := by
  obtain ⟨eff, hE, hG⟩ := h
  obtain ⟨V, rfl, hV⟩ := hG.inv
  unfold dispatch; dsimp only
  simp only [bind, Except.bind, pure, Except.pure]
  refine OKRes.ite (fun _ => finishThenAnn_ok hE hV) fun _ => ?_
  refine OKRes.ite (fun _ => finishThenCom_ok hE hV) fun _ => ?_
  refine OKRes.ite (fun _ => ⟨_, hE, Good.ts rfl hV⟩) fun _ => ?_
  exact OKRes.ite (fun _ => ⟨_, hE, Good.ts rfl hV⟩) fun _ =>
    endValueSt_ok (s := { s with step := .endValue, unf := false }) ⟨_, hE, Good.ts rfl hV⟩ hf

theorem annKey_ok {f s c p1 p2} (h : InvAt .annKey s) (hf : s.finds = []) (hs : StepOK .annKey s c) :
    OKRes Inv (dispatch (f+2) .annKey s c p1 p2) := by
  obtain ⟨eff, hE, hG⟩ := h
  have hK := Good.keep hs hG
  obtain ⟨V, rfl, hV⟩ := hG.inv
  unfold dispatch; dsimp only
  refine OKRes.ite (fun _ => endValue_ok hE hf (Good.key rfl hV)) fun _ => ?_
  refine OKRes.ite (fun _ => ⟨_, hE, Good.key rfl hV⟩) fun _ => ?_
  refine OKRes.ite (fun _ => ⟨_, hE, Good.key rfl hV⟩) fun _ => ?_
  exact OKRes.ite (fun _ => rfl) fun _ => ⟨_, hE, hK⟩

theorem annKeyAfter_ok {f s c p1 p2} (h : InvAt .annKeyAfter s) (hf : s.finds = [])
    (hs : StepOK .annKeyAfter s c) :
    OKRes Inv (dispatch (f+2) .annKeyAfter s c p1 p2) := by
  obtain ⟨eff, hE, hG⟩ := h
  have hK := Good.keep hs hG
  obtain ⟨V, rfl, hV⟩ := hG.inv
  unfold dispatch; dsimp only
  refine OKRes.ite (fun _ => endValue_ok hE hf (Good.key rfl hV)) fun _ => ?_
  exact OKRes.ite (fun _ => ⟨_, hE, hK⟩) fun _ => rfl

theorem inlAnn_ok {f s c p1 p2} (h : InvAt .inlAnn s) (hs : StepOK .inlAnn s c) :
    OKRes Inv (dispatch (f+2) .inlAnn s c p1 p2) := by
  obtain ⟨eff, hE, hG⟩ := h
  have hK := Good.keep hs hG
  obtain ⟨r, σ, ret', rfl, hret, hr, hGr⟩ := hG.inv
  have hC : CH (.inlAnnB :: σ) s.ret := by rw [hret]; exact CH.marker rfl hr hGr
  have hT : OKRes Inv (dispatch (f+1) .inlTxt { (found s .inlTxtB) with step := .inlTxt } c p1 p2) := by
    refine inlTxt_ok ⟨_, Eff_found hE rfl rfl, ?_⟩ (Or.inl rfl)
    show Good .inlTxt _ s.ret
    rw [hret]; exact Good.inlTxt hr hGr
  unfold dispatch; dsimp only
  cases c <;> first | exact ⟨_, hE, hK⟩ | exact foundRoot_lbrace_ok hE hC | exact hT

theorem inlTxtPrefix2_ok {f s c p1 p2} (h : InvAt .inlTxtPrefix2 s) (hs : StepOK .inlTxtPrefix2 s c) :
    OKRes Inv (dispatch (f+2) .inlTxtPrefix2 s c p1 p2) := by
  obtain ⟨eff, hE, hG⟩ := h
  have hK := Good.keep hs hG
  obtain ⟨r, σ, ret', rfl, hret, hr, hGr⟩ := hG.inv
  unfold dispatch; dsimp only
  split
  · exact ⟨_, hE, hK⟩
  · refine inlTxt_ok ⟨_, Eff_found hE rfl rfl, ?_⟩ (Or.inl rfl)
    show Good .inlTxt _ s.ret
    rw [hret]; exact Good.inlTxt hr hGr

theorem mlAnn_ok {f s c p1 p2} (h : InvAt .mlAnn s) (hs : StepOK .mlAnn s c) :
    OKRes Inv (dispatch (f+2) .mlAnn s c p1 p2) := by
  obtain ⟨eff, hE, hG⟩ := h
  have hK := Good.keep hs hG
  obtain ⟨r, σ, ret', rfl, hret, hr, hGr⟩ := hG.inv
  have hC : CH (.mlAnnB :: σ) s.ret := by rw [hret]; exact CH.marker rfl hr hGr
  unfold dispatch; dsimp only
  simp only [bind, Except.bind, pure, Except.pure]
  rcases isNewLineM_cases s c with hn | ⟨e, hn, he⟩ <;> simp only [hn]
  · refine OKRes.ite (fun _ => ⟨_, Eff_found hE rfl rfl, hK⟩) fun _ => ?_
    refine OKRes.ite (fun _ => ⟨_, hE, hK⟩) fun _ => ?_
    refine OKRes.ite (fun h => ?_) fun _ => ?_
    · have : c = .lbrace := eq_of_beq h
      subst this
      exact foundRoot_lbrace_ok hE hC
    · refine mlTxt_ok ⟨_, Eff_found hE rfl rfl, ?_⟩ (Or.inl rfl)
      show Good .mlTxt _ s.ret
      rw [hret]; exact Good.mlTxt hr hGr
  · exact he

theorem mlTxtPrefix2_ok {f s c p1 p2} (h : InvAt .mlTxtPrefix2 s) (hs : StepOK .mlTxtPrefix2 s c) :
    OKRes Inv (dispatch (f+2) .mlTxtPrefix2 s c p1 p2) := by
  obtain ⟨eff, hE, hG⟩ := h
  have hK := Good.keep hs hG
  obtain ⟨r, σ, ret', rfl, hret, hr, hGr⟩ := hG.inv
  unfold dispatch; dsimp only
  split
  · exact ⟨_, hE, hK⟩
  · refine mlTxt_ok ⟨_, Eff_found hE rfl rfl, ?_⟩ (Or.inl rfl)
    show Good .mlTxt _ s.ret
    rw [hret]; exact Good.mlTxt hr hGr

end SchemaScan
