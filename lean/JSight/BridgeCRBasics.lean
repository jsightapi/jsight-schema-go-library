import JSight.BridgeCR
import JSight.CheckRulesBasics
import JSight.ListFacts
/-!
Bridge between (A) = `Compile` and (B) = `CR.checkRules`, basics: the two vocabularies agree.  Rule names: (A)'s byte
strings are the values of the injective `rbytes` on (B)'s `CR.RName`; readers: `parseBool_eq`, `isUserTypeName_eq`,
`parseUint_eq` (up to 18 digits).
-/
namespace BridgeCR
open Compile

/-! ### names -/

theorem sb_minLength : sb "minLength" = CR.n_minLength := by decide +kernel
theorem sb_maxLength : sb "maxLength" = CR.n_maxLength := by decide +kernel
theorem sb_min : sb "min" = CR.n_min := by decide +kernel
theorem sb_max : sb "max" = CR.n_max := by decide +kernel
theorem sb_exclusiveMinimum : sb "exclusiveMinimum" = CR.n_exclusiveMinimum := by decide +kernel
theorem sb_exclusiveMaximum : sb "exclusiveMaximum" = CR.n_exclusiveMaximum := by decide +kernel
theorem sb_type : sb "type" = CR.n_type := by decide +kernel
theorem sb_precision : sb "precision" = CR.n_precision := by decide +kernel
theorem sb_optional : sb "optional" = CR.n_optional := by decide +kernel
theorem sb_minItems : sb "minItems" = CR.n_minItems := by decide +kernel
theorem sb_maxItems : sb "maxItems" = CR.n_maxItems := by decide +kernel
theorem sb_additionalProperties : sb "additionalProperties" = CR.n_additionalProperties := by decide +kernel
theorem sb_nullable : sb "nullable" = CR.n_nullable := by decide +kernel
theorem sb_regex : sb "regex" = CR.n_regex := by decide +kernel
theorem sb_const : sb "const" = CR.n_const := by decide +kernel
theorem sb_or : sb "or" = CR.n_or := by decide +kernel
theorem sb_enum : sb "enum" = CR.n_enum := by decide +kernel
theorem sb_allOf : sb "allOf" = CR.n_allOf := by decide +kernel

theorem knownRules_eq : knownRules = CR.rnameTable.map (·.1) := by decide +kernel

/-- the bytes of a rule name -/
def rbytes : CR.RName → Bytes
  | .minLength => CR.n_minLength | .maxLength => CR.n_maxLength | .min => CR.n_min | .max => CR.n_max
  | .exclusiveMinimum => CR.n_exclusiveMinimum | .exclusiveMaximum => CR.n_exclusiveMaximum | .type => CR.n_type
  | .precision => CR.n_precision | .optional => CR.n_optional | .minItems => CR.n_minItems | .maxItems => CR.n_maxItems
  | .additionalProperties => CR.n_additionalProperties | .nullable => CR.n_nullable | .regex => CR.n_regex
  | .const => CR.n_const | .or => CR.n_or | .enum => CR.n_enum | .allOf => CR.n_allOf

theorem ofBytes_rbytes (r : CR.RName) : CR.RName.ofBytes (rbytes r) = some r := by
  cases r <;> decide +kernel

/-- a name the table knows IS the bytes of its rule -/
theorem ofBytes_some (a : Bytes) (r : CR.RName) (h : CR.RName.ofBytes a = some r) : a = rbytes r := by
  have hm := List.mem_of_lookup_eq_some CR.rnameTable a r h
  simp only [CR.rnameTable, List.mem_cons, Prod.mk.injEq, List.mem_nil_iff, or_false] at hm
  rcases hm with ⟨h1, h2⟩ | ⟨h1, h2⟩ | ⟨h1, h2⟩ | ⟨h1, h2⟩ | ⟨h1, h2⟩ | ⟨h1, h2⟩ | ⟨h1, h2⟩ | ⟨h1, h2⟩ | ⟨h1, h2⟩ |
    ⟨h1, h2⟩ | ⟨h1, h2⟩ | ⟨h1, h2⟩ | ⟨h1, h2⟩ | ⟨h1, h2⟩ | ⟨h1, h2⟩ | ⟨h1, h2⟩ | ⟨h1, h2⟩ | ⟨h1, h2⟩ <;>
    (subst h1; subst h2; rfl)

theorem ofBytes_none_iff (a : Bytes) : CR.RName.ofBytes a = none ↔ knownRules.contains a = false := by
  rw [knownRules_eq]
  constructor
  · intro h
    have := List.not_mem_of_lookup_eq_none CR.rnameTable a h
    simpa using this
  · intro h
    cases hh : CR.RName.ofBytes a with
    | none => rfl
    | some r =>
      have := List.mem_of_lookup_eq_some CR.rnameTable a r hh
      have hm : a ∈ CR.rnameTable.map (·.1) := List.mem_map.2 ⟨(a, r), this, rfl⟩
      simp only [List.contains_eq_mem, decide_eq_false_iff_not] at h
      exact absurd hm h

theorem rbytes_inj (r s : CR.RName) (h : rbytes r = rbytes s) : r = s := by
  have h1 := ofBytes_rbytes r
  rw [h, ofBytes_rbytes] at h1
  exact (Option.some.inj h1).symm

/-- a test on the name of a rule is a test on the rule -/
theorem rbytes_beq (r s : CR.RName) : (rbytes r == rbytes s) = decide (r = s) := by
  by_cases h : r = s
  · simp [h]
  · simpa [h] using fun e => h (rbytes_inj r s e)

/-- (A)'s rule names are the bytes of (B)'s -/
theorem names_rbytes :
    sb "minLength" = rbytes .minLength ∧ sb "maxLength" = rbytes .maxLength ∧ sb "min" = rbytes .min ∧
    sb "max" = rbytes .max ∧ sb "exclusiveMinimum" = rbytes .exclusiveMinimum ∧
    sb "exclusiveMaximum" = rbytes .exclusiveMaximum ∧ sb "type" = rbytes .type ∧ sb "precision" = rbytes .precision ∧
    sb "optional" = rbytes .optional ∧ sb "minItems" = rbytes .minItems ∧ sb "maxItems" = rbytes .maxItems ∧
    sb "additionalProperties" = rbytes .additionalProperties ∧ sb "nullable" = rbytes .nullable ∧
    sb "regex" = rbytes .regex ∧ sb "const" = rbytes .const ∧ sb "or" = rbytes .or ∧ sb "enum" = rbytes .enum ∧
    sb "allOf" = rbytes .allOf :=
  ⟨sb_minLength, sb_maxLength, sb_min, sb_max, sb_exclusiveMinimum, sb_exclusiveMaximum, sb_type, sb_precision,
    sb_optional, sb_minItems, sb_maxItems, sb_additionalProperties, sb_nullable, sb_regex, sb_const, sb_or, sb_enum,
    sb_allOf⟩

theorem known_rbytes (rn : CR.RName) : knownRules.contains (rbytes rn) = true := by
  cases h : knownRules.contains (rbytes rn)
  · have := (ofBytes_none_iff _).2 h
    rw [ofBytes_rbytes] at this
    cases this
  · rfl

/-! ### readers -/

theorem parseBool_eq (b : Bytes) : Compile.parseBool b = CR.parseBool b := by
  unfold Compile.parseBool CR.parseBool
  have e1 : RulesF.sTrue = CR.t_true := rfl
  have e2 : RulesF.sFalse = CR.t_false := rfl
  rw [e1, e2]
  by_cases h1 : b = CR.t_true
  · simp [h1]
  · by_cases h2 : b = CR.t_false
    · simp [h2]
    · simp [h1, h2]

theorem isNameByte_eq (c : UInt8) : Compile.isNameByte c = CR.isNameByte c := by
  unfold Compile.isNameByte CR.isNameByte
  generalize (48 ≤ c && c ≤ 57) = a
  generalize (65 ≤ c && c ≤ 90) = b
  generalize (97 ≤ c && c ≤ 122) = d
  generalize (c == 45) = e
  generalize (c == 95) = f
  cases a <;> cases b <;> cases d <;> cases e <;> cases f <;> rfl

theorem isUserTypeName_eq (b : Bytes) : Compile.isUserTypeName b = CR.isUserTypeName b := by
  have : Compile.isNameByte = CR.isNameByte := funext isNameByte_eq
  match b with
  | [] => rfl
  | [_] => simp [Compile.isUserTypeName, CR.isUserTypeName]
  | a :: c :: rest =>
    by_cases ha : a = 64
    · subst ha
      simp only [Compile.isUserTypeName, CR.isUserTypeName, this]
    · simp [Compile.isUserTypeName, CR.isUserTypeName, ha]

theorem parseUint_none (b : Bytes) : Compile.parseUint b = none ↔ CR.parseUint b = none := by
  unfold Compile.parseUint CR.parseUint
  have : Compile.isDigit = CR.isDigit := rfl
  rw [this]
  split <;> simp_all

/-- digits only: the value stays below `10 ^ (number of digits)` -/
theorem foldl_digits_lt : (ds : List UInt8) → ds.all Compile.isDigit = true → (acc k : Nat) → acc < 10 ^ k →
    ds.foldl (fun a c => a * 10 + (c.toNat - 48)) acc < 10 ^ (k + ds.length)
  | [], _, acc, k, h => by simpa using h
  | d :: ds, hd, acc, k, h => by
    simp only [List.all_cons, Bool.and_eq_true] at hd
    have hdig : d.toNat - 48 ≤ 9 := by
      have := hd.1
      simp only [Compile.isDigit, Bool.and_eq_true, decide_eq_true_eq] at this
      have h2 : d.toNat ≤ 57 := by
        have := this.2
        exact UInt8.le_iff_toNat_le.mp this
      omega
    have hstep : acc * 10 + (d.toNat - 48) < 10 ^ (k + 1) := by
      have : 10 ^ (k + 1) = 10 ^ k * 10 := by rw [Nat.pow_succ]
      omega
    have := foldl_digits_lt ds hd.2 (acc * 10 + (d.toNat - 48)) (k + 1) hstep
    simp only [List.foldl_cons, List.length_cons]
    have e : k + 1 + ds.length = k + (ds.length + 1) := by omega
    rw [e] at this
    exact this

theorem foldl_mod_eq : (ds : List UInt8) → ds.all Compile.isDigit = true → (acc k : Nat) → acc < 10 ^ k →
    k + ds.length ≤ 19 →
    ds.foldl (fun u c => (u * 10 + (c.toNat - 48)) % 18446744073709551616) acc
      = ds.foldl (fun a c => a * 10 + (c.toNat - 48)) acc
  | [], _, _, _, _, _ => rfl
  | d :: ds, hd, acc, k, h, hk => by
    simp only [List.all_cons, Bool.and_eq_true] at hd
    have hdig : d.toNat - 48 ≤ 9 := by
      have := hd.1
      simp only [Compile.isDigit, Bool.and_eq_true, decide_eq_true_eq] at this
      have h2 : d.toNat ≤ 57 := UInt8.le_iff_toNat_le.mp this.2
      omega
    have hstep : acc * 10 + (d.toNat - 48) < 10 ^ (k + 1) := by
      have : 10 ^ (k + 1) = 10 ^ k * 10 := by rw [Nat.pow_succ]
      omega
    simp only [List.length_cons] at hk
    have hle : 10 ^ (k + 1) ≤ 10 ^ 19 := Nat.pow_le_pow_right (by decide) (by omega)
    have hsmall : acc * 10 + (d.toNat - 48) < 18446744073709551616 := by
      have : (10 : Nat) ^ 19 < 18446744073709551616 := by decide
      omega
    simp only [List.foldl_cons, Nat.mod_eq_of_lt hsmall]
    exact foldl_mod_eq ds hd.2 _ (k + 1) hstep (by omega)

/-- up to 18 digits the 64-bit wrap-around of `Bytes.ParseUint` is not reached: the two readers agree -/
theorem parseUint_eq (b : Bytes) (h : b.length ≤ 18) : CR.parseUint b = Compile.parseUint b := by
  unfold Compile.parseUint CR.parseUint
  have e : CR.isDigit = Compile.isDigit := rfl
  rw [e]
  split
  · rfl
  · rename_i hc
    have hall : b.all Compile.isDigit = true := by
      cases hh : b.all Compile.isDigit <;> simp_all
    rw [foldl_mod_eq b hall 0 0 (by decide) (by omega)]

end BridgeCR
