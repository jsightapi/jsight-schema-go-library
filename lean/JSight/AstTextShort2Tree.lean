import JSight.AstTextShort2
/-!
C16 at text level, schema texts whose values are type shortcuts: the AST on TOKENS.

`astS t key` is a structural function of the byte-level tree `t : SE.BST` alone (no offsets, no text): scalar leaves as in
`AstText.astB`, shortcut leaves `S2.shortLeaf` (names as byte lists, rules `type` / `or` marked generated), `array` /
`object` nodes with their children in written order and the decoded keys.  `ast_of_stree` : `astOfText` of every text of
the class is `astS` of its tree (through `astOff_emb`, the walker under `SE.Emb`; `itemsOff_eq`, `membersOff_eq`: its list
parts from validity and `AtB`).  `leaf_at`: the AST node at the position (path) of any leaf of the tree.
-/
namespace AstText
namespace S2
open Loader (slice keyText valOff)
open LoaderS (nextItem nextMember)
open SE (Bytes Alt BST BItem BMember scBytes clsSc clsB clsItems clsMembers renderItems renderMembers)
open SchemaScan (Cls classify STree)
open SchemaScan.Len (IsSpTabs)
open Lay (AtB)

mutual
/-- **the AST of a schema whose leaves are scalars or type shortcuts, from the TREE** -/
def astS : BST → Bytes × Bool → M AstNode
  | .scalar tok, key =>
    match RulesF.kindOfTok tok with
    | none => unsup "literal kind"
    | some k => pure (.mk key.1 key.2 (kindTok k) (schemaTypeOf [] (kindName k)) (unq tok) [] [] [])
  | .short f as _, key => pure (shortLeaf key f as)
  | .arr _ items, key =>
    match astItemsS items with
    | .error e => .error e
    | .ok kids => pure (.mk key.1 key.2 "array" (schemaTypeOf [] "array") [] [] [] kids)
  | .obj _ members, key =>
    match astMembersS members with
    | .error e => .error e
    | .ok kids => pure (.mk key.1 key.2 "object" (schemaTypeOf [] "object") [] [] [] kids)
def astItemsS : List BItem → M (List AstNode)
  | [] => pure []
  | (_, v, _) :: its => do
    let n ← astS v ([], false)
    let ns ← astItemsS its
    pure (n :: ns)
def astMembersS : List BMember → M (List AstNode)
  | [] => pure []
  | (_, k, _, _, v, _) :: ms => do
    let n ← astS v (Unquote.unquote k, false)
    let ns ← astMembersS ms
    pure (n :: ns)
end

section tokens
variable (src : Array UInt8) (evs : List SchemaScan.Ev)

mutual
theorem astOff_emb : (t : BST) → (o : Nat) → (key : Bytes × Bool) → SE.Emb src o t → S.astOff src evs o t.cls key = astS t key
  | .scalar tok, o, key, he => by
    simp only [BST.cls, S.astOff, astS, show slice src o (o + (clsB tok).length - 1) = tok from he]
    rfl
  | .short f as sps, o, key, he => astOff_short_leaf src evs o f as sps key he.1 he.2.1 he.2.2
  | .arr w0 its, o, key, he => by
    simp only [BST.cls, S.astOff, astS, itemsOff_emb its _ he]
    rfl
  | .obj w0 ms, o, key, he => by
    simp only [BST.cls, S.astOff, astS, membersOff_emb ms _ he]
    rfl
theorem itemsOff_emb : (its : List BItem) → (o : Nat) → SE.EmbItems src o its →
    S.itemsOff src evs o (clsItems its) = astItemsS its
  | [], _, _ => rfl
  | (w1, v, w2) :: its, o, he => by
    simp only [clsItems, S.itemsOff, astItemsS, astOff_emb v _ ([], false) he.1, itemsOff_emb its _ he.2]
theorem membersOff_emb : (ms : List BMember) → (o : Nat) → SE.EmbMembers src o ms →
    S.membersOff src evs o (clsMembers ms) = astMembersS ms
  | [], _, _ => rfl
  | (w1, k, w2, w3, v, w4) :: ms, o, he => by
    simp only [clsMembers, S.membersOff, astMembersS, he.1, astOff_emb v _ (Unquote.unquote k, false) he.2.1,
      membersOff_emb ms _ he.2.2]
end

theorem itemsOff_eq : (its : List BItem) → (o : Nat) → SchemaScan.SValidItems (clsItems its) →
    AtB src o (renderItems its) → S.itemsOff src evs o (clsItems its) = astItemsS its :=
  fun its o hv hat => itemsOff_emb src evs its o (SE.embItems_of src its hv o hat)
theorem membersOff_eq : (ms : List BMember) → (o : Nat) → SchemaScan.SValidMembers (clsMembers ms) →
    AtB src o (renderMembers ms) → S.membersOff src evs o (clsMembers ms) = astMembersS ms :=
  fun ms o hv hat => membersOff_emb src evs ms o (SE.embMembers_of src ms hv o hat)

end tokens

/-- **C16 on schema texts with shortcut values, any depth and layout, on tokens**: scanner model → loader model → AST
builders give the AST of the TREE, stated on tokens -/
theorem ast_of_stree (w0 : Bytes) (t : BST) (w1 : Bytes) (h : SE.TextOK w0 t w1) :
    astOfText (SE.docText w0 t w1) = astS t ([], false) := by
  rw [S.ast_of_stree_text w0 t w1 h]
  exact astOff_emb _ _ t w0.length ([], false) h.emb

/-! ### the result is not an error -/

mutual
theorem astS_ok : (t : BST) → t.sideOK = true → (key : Bytes × Bool) → ∃ n, astS t key = .ok n
  | .scalar tok, hg, key => by
    simp only [BST.sideOK, Option.isSome_iff_exists] at hg
    obtain ⟨k, hk⟩ := hg
    exact ⟨_, by simp only [astS, hk]; rfl⟩
  | .short f as sps, _, key => ⟨_, rfl⟩
  | .arr w0 its, hg, key => by
    obtain ⟨ns, hn⟩ := astItemsS_ok its (by simpa [BST.sideOK] using hg)
    exact ⟨_, by simp only [astS, hn]; rfl⟩
  | .obj w0 ms, hg, key => by
    obtain ⟨ns, hn⟩ := astMembersS_ok ms (by simpa [BST.sideOK] using hg)
    exact ⟨_, by simp only [astS, hn]; rfl⟩
theorem astItemsS_ok : (its : List BItem) → SE.sideItems its = true → ∃ ns, astItemsS its = .ok ns
  | [], _ => ⟨[], rfl⟩
  | (w1, v, w2) :: its, hg => by
    obtain ⟨hg1, hg2⟩ : v.sideOK = true ∧ SE.sideItems its = true := by simpa [SE.sideItems] using hg
    obtain ⟨n, hn⟩ := astS_ok v hg1 ([], false)
    obtain ⟨ns, hns⟩ := astItemsS_ok its hg2
    exact ⟨n :: ns, by simp only [astItemsS, hn, hns]; rfl⟩
theorem astMembersS_ok : (ms : List BMember) → SE.sideMembers ms = true → ∃ ns, astMembersS ms = .ok ns
  | [], _ => ⟨[], rfl⟩
  | (w1, k, w2, w3, v, w4) :: ms, hg => by
    obtain ⟨hg1, hg2⟩ : v.sideOK = true ∧ SE.sideMembers ms = true := by simpa [SE.sideMembers] using hg
    obtain ⟨n, hn⟩ := astS_ok v hg1 (Unquote.unquote k, false)
    obtain ⟨ns, hns⟩ := astMembersS_ok ms hg2
    exact ⟨n :: ns, by simp only [astMembersS, hn, hns]; rfl⟩
end

/-! ### positions: the node of the tree and the node of the AST at a path -/

def itemKids : List BItem → List ((Bytes × Bool) × BST)
  | [] => []
  | (_, v, _) :: its => (([], false), v) :: itemKids its

def memberKids : List BMember → List ((Bytes × Bool) × BST)
  | [] => []
  | (_, k, _, _, v, _) :: ms => ((Unquote.unquote k, false), v) :: memberKids ms

/-- the children of a value in written order, each with the key the AST shows for it (items: none; members: the
decoded key) -/
def kids : BST → List ((Bytes × Bool) × BST)
  | .scalar _ => []
  | .short _ _ _ => []
  | .arr _ its => itemKids its
  | .obj _ ms => memberKids ms

/-- the value at a path (child indices from the root), with its key -/
def valueAt : (Bytes × Bool) × BST → List Nat → Option ((Bytes × Bool) × BST)
  | kt, [] => some kt
  | kt, i :: p =>
    match (kids kt.2)[i]? with
    | none => none
    | some c => valueAt c p

def children : AstNode → List AstNode
  | .mk _ _ _ _ _ _ _ cs => cs

/-- the AST node at a path -/
def nodeAt : AstNode → List Nat → Option AstNode
  | n, [] => some n
  | n, i :: p =>
    match (children n)[i]? with
    | none => none
    | some c => nodeAt c p

theorem items_rel : (its : List BItem) → (ns : List AstNode) → astItemsS its = .ok ns →
    List.Forall₂ (fun kc m => astS kc.2 kc.1 = .ok m) (itemKids its) ns
  | [], ns, h => by cases h; exact .nil
  | (w1, v, w2) :: its, ns, h => by
    simp only [astItemsS, bind, Except.bind] at h
    split at h
    · cases h
    next n hv =>
      split at h
      · cases h
      next ns' hr => cases h; exact .cons hv (items_rel its ns' hr)

theorem members_rel : (ms : List BMember) → (ns : List AstNode) → astMembersS ms = .ok ns →
    List.Forall₂ (fun kc m => astS kc.2 kc.1 = .ok m) (memberKids ms) ns
  | [], ns, h => by cases h; exact .nil
  | (w1, k, w2, w3, v, w4) :: ms, ns, h => by
    simp only [astMembersS, bind, Except.bind] at h
    split at h
    · cases h
    next n hv =>
      split at h
      · cases h
      next ns' hr => cases h; exact .cons hv (members_rel ms ns' hr)

/-- one level: the children of the AST node are the ASTs of the children of the value, in written order -/
theorem kids_rel (t : BST) (key : Bytes × Bool) (n : AstNode) (h : astS t key = .ok n) :
    List.Forall₂ (fun kc m => astS kc.2 kc.1 = .ok m) (kids t) (children n) := by
  cases t with
  | scalar tok =>
    simp only [astS] at h
    split at h <;> cases h
    exact .nil
  | short f as sps =>
    cases h
    cases as <;> exact .nil  -- `shortLeaf` is defined by cases on the alternatives; either way a leaf
  | arr w0 its =>
    simp only [astS] at h
    split at h <;> cases h
    next ns hr => exact items_rel its ns hr
  | obj w0 ms =>
    simp only [astS] at h
    split at h <;> cases h
    next ns hr => exact members_rel ms ns hr

/-- related lists are related index by index -/
theorem forall₂_get {α β : Type} {R : α → β → Prop} : ∀ {l : List α} {l' : List β}, List.Forall₂ R l l' →
    ∀ (i : Nat) (a : α), l[i]? = some a → ∃ b, l'[i]? = some b ∧ R a b
  | _, _, .nil, i, a, h => by simp at h
  | _, _, .cons hr ht, 0, a, h => by
    simp only [List.getElem?_cons_zero, Option.some.injEq] at h
    subst h
    exact ⟨_, rfl, hr⟩
  | _, _, .cons hr ht, i + 1, a, h => by
    simp only [List.getElem?_cons_succ] at h ⊢
    exact forall₂_get ht i a h

/-- the AST node at the path of a value of the tree is the AST of that value (with the key of that position) -/
theorem nodeAt_valueAt : ∀ (p : List Nat) (kt : (Bytes × Bool) × BST) (n : AstNode), astS kt.2 kt.1 = .ok n →
    ∀ c, valueAt kt p = some c → ∃ m, nodeAt n p = some m ∧ astS c.2 c.1 = .ok m
  | [], kt, n, h, c, hc => by
    simp only [valueAt, Option.some.injEq] at hc
    subst hc
    exact ⟨n, rfl, h⟩
  | i :: p, kt, n, h, c, hc => by
    simp only [valueAt] at hc
    cases hk : (kids kt.2)[i]? with
    | none => rw [hk] at hc; cases hc
    | some d =>
      rw [hk] at hc
      obtain ⟨m, hm, hr⟩ := forall₂_get (kids_rel kt.2 kt.1 n h) i d hk
      obtain ⟨m', hm', hr'⟩ := nodeAt_valueAt p d m hr c hc
      exact ⟨m', by simp only [nodeAt, hm, hm'], hr'⟩

/-- **every shortcut leaf of a text of the class, at any position of the tree**: the AST of the text has, at the path of
the leaf, the reference node of that shortcut on tokens -/
theorem leaf_at (w0 : Bytes) (t : BST) (w1 : Bytes) (h : SE.TextOK w0 t w1) (p : List Nat) (key : Bytes × Bool)
    (f : Bytes) (as : List Alt) (sps : Bytes) (hl : valueAt (([], false), t) p = some (key, .short f as sps)) :
    ∃ root, astOfText (SE.docText w0 t w1) = .ok root ∧ nodeAt root p = some (shortLeaf key f as) := by
  obtain ⟨root, hroot⟩ := astS_ok t h.side ([], false)
  refine ⟨root, by rw [ast_of_stree w0 t w1 h, hroot], ?_⟩
  obtain ⟨m, hm, hr⟩ := nodeAt_valueAt p (([], false), t) root hroot _ hl
  have : m = shortLeaf key f as := (Except.ok.inj hr).symm
  rw [hm, this]

#print axioms ast_of_stree
#print axioms leaf_at

end S2
end AstText
