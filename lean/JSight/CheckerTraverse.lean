import JSight.Checker
/-!
# C04 — the checker's traversal: the first offending node in source order

`checkNode` with its early exits (panics) is `findSome?` of the node-local check over the PRE-ORDER list of the
nodes — parent before children, children in order: the order of the nodes' first bytes in the text —, and
`CheckRootSchema` is the same over "the nodes of the root, then the nodes of every type in table order"
(`checkSchema_eq_firstErr`); it accepts exactly when no node offends (`checkSchema_ok_iff`). Where the error of a node
sits is `CheckerPos`.
-/
namespace CK
open RulesF (Oracles)

mutual
/-- the nodes `checkNode` visits, in the order it visits them: the node, then — for arrays and objects — the
children in order -/
def preorder : Node → List Hd
  | .mk i kids => ⟨i, kids.length⟩ :: (if isBranch i.nk then preorderL kids else [])
def preorderL : List Node → List Hd
  | [] => []
  | n :: ns => preorder n ++ preorderL ns
end

mutual
theorem checkNode_eq (o : Oracles) (env : Env) :
    ∀ n : Node, checkNode o env n = (preorder n).findSome? (nodeErr o env)
  | .mk i kids => by
    rw [checkNode, preorder, List.findSome?_cons]
    cases h : nodeErr o env ⟨i, kids.length⟩ with
    | some p => rfl
    | none =>
      simp only []
      cases hb : isBranch i.nk with
      | true => simp only [if_true]; exact checkNodes_eq o env kids
      | false => simp
theorem checkNodes_eq (o : Oracles) (env : Env) :
    ∀ ns : List Node, checkNodes o env ns = (preorderL ns).findSome? (nodeErr o env)
  | [] => by simp [checkNodes, preorderL]
  | n :: ns => by
    rw [checkNodes, preorderL, List.findSome?_append, checkNode_eq o env n, checkNodes_eq o env ns]
    cases (preorder n).findSome? (nodeErr o env) <;> rfl
end

/-- an occurrence of a node in the schema: the node, and what `checkType` adds to an error raised under it
(the index shift `typ.Begin()` and the name of the type; nothing for the root) -/
structure Occ where
  hd : Hd
  shift : Nat
  ut : Option Name

/-- every node of the schema in the order `CheckRootSchema` reaches it: the nodes of the root in source order, then
the nodes of every entry of the type table (in the order `Schema.visit`: `typeGoesFirst`), each in source order -/
def Schema.occs (s : Schema) : List Occ :=
  (match s.root with
   | some r => (preorder r).map (⟨·, 0, none⟩)
   | none => []) ++
  s.visit.flatMap fun t => (preorder t.root).map (⟨·, t.begin, some t.name⟩)

/-- the node-local check of an occurrence as the outcome of `Check` -/
def occErr (o : Oracles) (env : Env) (x : Occ) : Option Res := (nodeErr o env x.hd).map (panicRes x.ut x.shift)

/-- what `Check` should answer: the outcome of the first offending occurrence; `ok` when there is none -/
def firstErr (o : Oracles) (s : Schema) : Res := (s.occs.findSome? (occErr o s.env)).getD .ok

theorem checkTypes_eq (o : Oracles) (env : Env) (ts : List TypeEntry) :
    checkTypes o env ts =
      ((ts.flatMap fun t => (preorder t.root).map (⟨·, t.begin, some t.name⟩ : Hd → Occ)).findSome? (occErr o env)).getD .ok := by
  induction ts with
  | nil => rfl
  | cons t ts ih =>
    rw [checkTypes, List.flatMap_cons, List.findSome?_append, List.findSome?_map]
    have h : checkType o env t = (preorder t.root).findSome? (occErr o env ∘ fun h => (⟨h, t.begin, some t.name⟩ : Occ)) := by
      rw [checkType, checkNode_eq, List.map_findSome?]; rfl
    rw [h]
    cases (preorder t.root).findSome? (occErr o env ∘ fun h => (⟨h, t.begin, some t.name⟩ : Occ)) with
    | some r => rfl
    | none => simpa using ih

/-- `CheckRootSchema` reports the first offending node in the order root (source order), types (table order, each
in source order), with the error of that node's own check -/
theorem checkSchema_eq_firstErr (o : Oracles) (s : Schema) : checkSchema o s = firstErr o s := by
  unfold checkSchema firstErr Schema.occs
  cases hr : s.root with
  | none => simpa using checkTypes_eq o s.env s.visit
  | some r =>
    simp only [List.findSome?_append, List.findSome?_map]
    have h : checkNode o s.env r = ((preorder r).findSome? (nodeErr o s.env)) := checkNode_eq o s.env r
    have h2 : (preorder r).findSome? (occErr o s.env ∘ fun h => (⟨h, 0, none⟩ : Occ))
        = ((preorder r).findSome? (nodeErr o s.env)).map (panicRes none 0) := by
      rw [List.map_findSome?]; rfl
    rw [h2, h]
    cases (preorder r).findSome? (nodeErr o s.env) with
    | some p => rfl
    | none => simpa using checkTypes_eq o s.env s.visit

theorem panicRes_ne_ok (ut : Option Name) (shift : Nat) (p : Panic) : panicRes ut shift p ≠ .ok := by
  cases p <;> simp [panicRes]

/-- `Check` accepts exactly when no node of the root or of a type offends -/
theorem checkSchema_ok_iff (o : Oracles) (s : Schema) :
    checkSchema o s = .ok ↔ ∀ x ∈ s.occs, nodeErr o s.env x.hd = none := by
  rw [checkSchema_eq_firstErr, firstErr]
  cases hf : s.occs.findSome? (occErr o s.env) with
  | none => simpa [occErr] using List.findSome?_eq_none_iff.1 hf
  | some res =>
    obtain ⟨_, y, _, hs, hy, _⟩ := List.findSome?_eq_some_iff.1 hf
    obtain ⟨p, hp, rfl⟩ := Option.map_eq_some_iff.1 hy
    refine ⟨fun h => absurd h (panicRes_ne_ok _ _ p), fun h => ?_⟩
    rw [h y (by rw [hs]; simp)] at hp
    cases hp

/-! ### the visiting order is a rearrangement of the table: every type is visited, once -/

theorem insertType_perm (t : TypeEntry) : ∀ ts : List TypeEntry, (insertType t ts).Perm (t :: ts)
  | [] => List.Perm.refl _
  | u :: us => by
    unfold insertType
    split
    · exact List.Perm.refl _
    · exact ((insertType_perm t us).cons u).trans (List.Perm.swap t u us)

theorem sortTypes_perm : ∀ ts : List TypeEntry, (sortTypes ts).Perm ts
  | [] => List.Perm.refl _
  | t :: ts => (insertType_perm t (sortTypes ts)).trans ((sortTypes_perm ts).cons t)

theorem mem_visit (s : Schema) (t : TypeEntry) : t ∈ s.visit ↔ t ∈ s.types := (sortTypes_perm s.types).mem_iff

/-- every node of every type of the table is reached -/
theorem mem_occs_of_type (s : Schema) (t : TypeEntry) (ht : t ∈ s.types) (h : Hd) (hh : h ∈ preorder t.root) :
    (⟨h, t.begin, some t.name⟩ : Occ) ∈ s.occs := by
  unfold Schema.occs
  apply List.mem_append_right
  exact List.mem_flatMap.2 ⟨t, (mem_visit s t).2 ht, List.mem_map.2 ⟨h, hh, rfl⟩⟩

end CK
