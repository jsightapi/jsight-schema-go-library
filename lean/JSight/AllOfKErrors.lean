import JSight.AllOfKProofs
/-!
C03, allOf: when the expansion fails, as coded.

* `compileWith_obj_fails_iff`: the expansion of an object with an allOf list fails iff the list is empty, or a
  base does not expand (cycle, unknown type, or a failure inside it: `processType_fails_iff`), or a base is not an
  object, or — all bases being objects — a (key, isShortcut) pair comes twice or two additionalProperties
  constraints are not `IsEqual`, or an own child fails. The statement does not depend on the order in which the
  code meets the defects (the order only decides which one is reported; that is compared with the code by the
  harness).
* `cycle_fails` / `recursion_error_cycle`: the in-progress set reports exactly the cycles of the inheritance
  graph: every table with a cycle among its types is refused, and error 703 is only reported when there is one.
-/
namespace AOK
variable {L : Type}

/-! ### resolution of a list of names -/

theorem resolves_mem_left (pt : String → Except Err (CS L)) : ∀ (names : List String) (bases : List (CS L)),
    Resolves pt names bases → ∀ n ∈ names, ∃ b ∈ bases, pt n = .ok b := by
  intro names bases h
  induction h with
  | nil => intro n hn; cases hn
  | cons hb _ ih =>
    intro n hn
    rcases List.mem_cons.1 hn with rfl | hn
    · exact ⟨_, List.mem_cons_self .., hb⟩
    · obtain ⟨b, hbm, hb'⟩ := ih n hn
      exact ⟨b, List.mem_cons_of_mem _ hbm, hb'⟩

theorem resolves_mem_right (pt : String → Except Err (CS L)) : ∀ (names : List String) (bases : List (CS L)),
    Resolves pt names bases → ∀ b ∈ bases, ∃ n ∈ names, pt n = .ok b := by
  intro names bases h
  induction h with
  | nil => intro b hb; cases hb
  | cons hb _ ih =>
    intro b hbm
    rcases List.mem_cons.1 hbm with rfl | hbm
    · exact ⟨_, List.mem_cons_self .., hb⟩
    · obtain ⟨n, hn, hb'⟩ := ih b hbm
      exact ⟨n, List.mem_cons_of_mem _ hn, hb'⟩

theorem resolves_exists (pt : String → Except Err (CS L)) : ∀ (names : List String),
    (∀ n ∈ names, ∃ b, pt n = .ok b) → ∃ bases, Resolves pt names bases := by
  intro names
  induction names with
  | nil => intro _; exact ⟨[], .nil⟩
  | cons n ns ih =>
    intro h
    obtain ⟨b, hb⟩ := h n (List.mem_cons_self ..)
    obtain ⟨bs, hbs⟩ := ih (fun m hm => h m (List.mem_cons_of_mem _ hm))
    exact ⟨b :: bs, .cons hb hbs⟩

section
variable [DecidableEq L]

/-- **when the expansion of an object fails** -/
theorem compileWith_obj_fails_iff (pt : String → Except Err (CS L)) (ents : List (String × Bool × Bool × PS L))
    (add : Option (AP L)) (names : List String) :
    (∃ e, compileWith pt (.obj ents add (some names)) = .error e) ↔
        names = []
      ∨ (∃ n ∈ names, ∃ e, pt n = .error e)
      ∨ (∃ n ∈ names, ∃ b, pt n = .ok b ∧ isObj b = false)
      ∨ (∃ bases, Resolves pt names bases ∧
          (¬ Fresh (ents.map keyOf) (bases.flatMap keysOf) ∨ ¬ Compatible (add :: bases.map addOf)))
      ∨ (∃ e, compileEnts pt ents = .error e) := by
  have hiff := compileWith_obj_ok_iff pt ents add names
  constructor
  · rintro ⟨e, he⟩
    by_cases h0 : names = []
    · exact Or.inl h0
    by_cases h1 : ∀ n ∈ names, ∃ b, pt n = .ok b
    · obtain ⟨bases, hr⟩ := resolves_exists pt names h1
      by_cases h2 : ∀ b ∈ bases, isObj b = true
      · cases h3 : compileEnts pt ents with
        | error e' => exact Or.inr (Or.inr (Or.inr (Or.inr ⟨e', rfl⟩)))
        | ok own =>
          by_cases h4 : Fresh (ents.map keyOf) (bases.flatMap keysOf) ∧ Compatible (add :: bases.map addOf)
          · have := (hiff _).2 ⟨h0, bases, own, hr, h2, h3, h4.1, h4.2, rfl⟩
            rw [he] at this; cases this
          · refine Or.inr (Or.inr (Or.inr (Or.inl ⟨bases, hr, ?_⟩)))
            by_cases hf : Fresh (ents.map keyOf) (bases.flatMap keysOf)
            · exact Or.inr (fun hc => h4 ⟨hf, hc⟩)
            · exact Or.inl hf
      · obtain ⟨b, hb'⟩ := Classical.not_forall.1 h2
        obtain ⟨hb, hnb⟩ := Classical.not_imp.1 hb'
        obtain ⟨n, hn, hpn⟩ := resolves_mem_right pt names bases hr b hb
        exact Or.inr (Or.inr (Or.inl ⟨n, hn, b, hpn, by simpa using hnb⟩))
    · obtain ⟨n, hn'⟩ := Classical.not_forall.1 h1
      obtain ⟨hn, hne⟩ := Classical.not_imp.1 hn'
      cases hp : pt n with
      | ok b => exact absurd ⟨b, hp⟩ hne
      | error e' => exact Or.inr (Or.inl ⟨n, hn, e', hp⟩)
  · intro h
    cases hc : compileWith pt (.obj ents add (some names)) with
    | error e => exact ⟨e, rfl⟩
    | ok c =>
      exfalso
      obtain ⟨h0, bases, own, hr, hobj, hown, hf, hcomp, _⟩ := (hiff c).1 hc
      rcases h with h | ⟨n, hn, e, he⟩ | ⟨n, hn, b, hb, hnb⟩ | ⟨bases', hr', hbad⟩ | ⟨e, he⟩
      · exact h0 h
      · obtain ⟨b, _, hb⟩ := resolves_mem_left pt names bases hr n hn
        rw [he] at hb; cases hb
      · obtain ⟨b', hb'm, hb'⟩ := resolves_mem_left pt names bases hr n hn
        rw [hb] at hb'; cases hb'
        rw [hobj b hb'm] at hnb; cases hnb
      · have := resolves_unique pt names _ _ hr' hr; subst this
        rcases hbad with hb | hb
        · exact hb hf
        · exact hb hcomp
      · rw [he] at hown; cases hown

/-- a type does not expand iff it is in progress (a cycle), unknown, or its body does not expand -/
theorem processType_fails_iff (env : PEnv L) (f : Nat) (P : List String) (n : String) :
    (∃ e, processType env (f + 1) P n = .error e) ↔
      n ∈ P ∨ lookupP env n = none ∨
      ∃ t, lookupP env n = some t ∧ ∃ e, compileWith (fun m => processType env f (n :: P) m) t = .error e := by
  simp only [processType]
  by_cases hn : P.contains n = true
  · have : n ∈ P := List.contains_iff_mem.1 hn
    simp [this]
  · have : n ∉ P := fun h => hn (List.contains_iff_mem.2 h)
    rw [if_neg hn]
    cases hl : lookupP env n with
    | none => simp
    | some t => simp [this]

/-! ### cycles of the inheritance graph -/

/-- type `a` names type `b` in an allOf list somewhere in its body -/
def Dep (env : PEnv L) (a b : String) : Prop := ∃ t, lookupP env a = some t ∧ b ∈ allOfNames t

/-- one or more inheritance steps -/
inductive DepPlus (env : PEnv L) : String → String → Prop
  | one {a b : String} : Dep env a b → DepPlus env a b
  | step {a b c : String} : Dep env a b → DepPlus env b c → DepPlus env a c

/-- an expansion that succeeds has resolved every name of every allOf list -/
theorem compileList_ok_names (pt : String → Except Err (CS L)) :
    ∀ (xs : List (PS L)) (cs : List (CS L)), compileList pt xs = .ok cs → ∀ n ∈ allOfNamesList xs, ∃ cn, pt n = .ok cn :=
  fun xs _ h => (compileList_names pt xs).ok h

theorem compileEnts_ok_names (pt : String → Except Err (CS L)) :
    ∀ (es : List (String × Bool × Bool × PS L)) (cs : List (String × Bool × Bool × CS L)),
      compileEnts pt es = .ok cs → ∀ n ∈ allOfNamesEnts es, ∃ cn, pt n = .ok cn :=
  fun es _ h => (compileEnts_names pt es).ok h

/-- a type that expands has expanded everything it inherits from, outside the types in progress -/
theorem processType_ok_dep (env : PEnv L) (f : Nat) (P : List String) (a b : String) (c : CS L)
    (h : processType env f P a = .ok c) (hd : Dep env a b) :
    a ∉ P ∧ ∃ g cb, g < f ∧ processType env g (a :: P) b = .ok cb := by
  cases f with
  | zero => simp [processType] at h
  | succ f =>
    obtain ⟨t, ht, hb⟩ := hd
    obtain ⟨hn, t', ht', h⟩ := (processType_succ_ok_iff env f P a c).1 h
    rw [ht] at ht'; cases ht'
    obtain ⟨cb, hcb⟩ := (compileWith_names _ t).ok h b hb
    exact ⟨hn, f, cb, Nat.lt_succ_self f, hcb⟩

theorem processType_ok_depPlus (env : PEnv L) (a b : String) (hd : DepPlus env a b) :
    ∀ (f : Nat) (P : List String) (c : CS L), processType env f P a = .ok c → b ∉ a :: P := by
  induction hd with
  | one hab =>
    intro f P c h
    obtain ⟨_, g, cb, _, hb⟩ := processType_ok_dep env f P _ _ c h hab
    cases g with
    | zero => simp [processType] at hb
    | succ g => exact ((processType_succ_ok_iff env g _ _ cb).1 hb).1
  | step hab _ ih =>
    intro f P c h
    obtain ⟨_, g, cb, _, hb⟩ := processType_ok_dep env f P _ _ c h hab
    intro hm
    exact ih g _ cb hb (List.mem_cons_of_mem _ hm)

/-- **a cycle of the inheritance graph is refused**: a type that inherits from itself, through any number of
steps and from any depth of its body, never expands -/
theorem cycle_fails (env : PEnv L) (a : String) (hc : DepPlus env a a) (f : Nat) (P : List String) :
    ∃ e, processType env f P a = .error e := by
  cases h : processType env f P a with
  | error e => exact ⟨e, rfl⟩
  | ok c => exact absurd (List.mem_cons_self ..) (processType_ok_depPlus env a a hc f P c h)


/-! ### error 703 is only reported on a cycle -/

/-- an error that `compileWith` (Go's `processNode`) does not raise itself comes out of `pt` (`processType`) for a name of an allOf list -/
theorem compileWith_foreign (pt : String → Except Err (CS L)) (e : Err) (hloc : e.isLocal = false) :
    ∀ (t : PS L), compileWith pt t = .error e → ∃ n ∈ allOfNames t, pt n = .error e :=
  fun t h => ((compileWith_names pt t).error h).resolve_left (by rw [hloc]; exact Bool.false_ne_true)

theorem compileList_foreign (pt : String → Except Err (CS L)) (e : Err) (hloc : e.isLocal = false) :
    ∀ (xs : List (PS L)), compileList pt xs = .error e → ∃ n ∈ allOfNamesList xs, pt n = .error e :=
  fun xs h => ((compileList_names pt xs).error h).resolve_left (by rw [hloc]; exact Bool.false_ne_true)

theorem compileEnts_foreign (pt : String → Except Err (CS L)) (e : Err) (hloc : e.isLocal = false) :
    ∀ (es : List (String × Bool × Bool × PS L)), compileEnts pt es = .error e → ∃ n ∈ allOfNamesEnts es, pt n = .error e :=
  fun es h => ((compileEnts_names pt es).error h).resolve_left (by rw [hloc]; exact Bool.false_ne_true)

/-- the types in progress form a chain of inheritance steps that ends in `n` -/
def ChainTo (env : PEnv L) : List String → String → Prop
  | [], _ => True
  | p :: ps, n => Dep env p n ∧ ChainTo env ps p

omit [DecidableEq L] in
theorem depPlus_snoc (env : PEnv L) (a b c : String) (h : DepPlus env a b) (hbc : Dep env b c) : DepPlus env a c := by
  induction h with
  | one hab => exact .step hab (.one hbc)
  | step hab _ ih => exact .step hab (ih hbc)

omit [DecidableEq L] in
theorem chainTo_depPlus (env : PEnv L) : ∀ (P : List String) (n : String), ChainTo env P n → ∀ x ∈ P, DepPlus env x n := by
  intro P
  induction P with
  | nil => intro n _ x hx; cases hx
  | cons p ps ih =>
    intro n h x hx
    obtain ⟨hd, hc⟩ := h
    rcases List.mem_cons.1 hx with rfl | hx
    · exact .one hd
    · exact depPlus_snoc env x p n (ih p hc x hx) hd

/-- **error 703 means a cycle**: when `processType` reports the recursion error for a name reached along a
chain of inheritance steps, some type inherits from itself -/
theorem recursion_error_cycle (env : PEnv L) : ∀ (f : Nat) (P : List String) (n : String),
    ChainTo env P n → processType env f P n = .error .recursion → ∃ a, DepPlus env a a := by
  intro f
  induction f with
  | zero => intro P n _ h; simp [processType] at h
  | succ f ih =>
    intro P n hch h
    rcases processType_succ_error env f P n .recursion rfl h with ⟨hn, _⟩ | ⟨_, h⟩ | ⟨_, t, hl, m, hm, hp⟩
    · exact ⟨n, chainTo_depPlus env P n hch n hn⟩
    · cases h
    · exact ih (n :: P) m ⟨⟨t, hl, hm⟩, hch⟩ hp

/-! ### the whole table -/

omit [DecidableEq L] in
theorem mem_insertName (n m : String) (ms : List String) : m ∈ insertName n ms ↔ m = n ∨ m ∈ ms := by
  induction ms with
  | nil => simp [insertName]
  | cons x xs ih =>
    simp only [insertName]
    split
    · simp
    · simp only [List.mem_cons, ih]
      exact or_left_comm

omit [DecidableEq L] in
theorem mem_sortNames (m : String) (ns : List String) : m ∈ sortNames ns ↔ m ∈ ns := by
  induction ns with
  | nil => simp [sortNames]
  | cons n ns ih =>
    simp only [sortNames, List.foldr_cons] at ih ⊢
    rw [mem_insertName, ih]; simp

theorem firstErr_none (env : PEnv L) (f : Nat) : ∀ (ns : List String), firstErr env f ns = none →
    ∀ n ∈ ns, ∃ c, processType env f [] n = .ok c := by
  intro ns
  induction ns with
  | nil => intro _ n hn; cases hn
  | cons m ms ih =>
    intro h n hn
    simp only [firstErr] at h
    cases hp : processType env f [] m with
    | error e => rw [hp] at h; cases h
    | ok c =>
      rw [hp] at h
      rcases List.mem_cons.1 hn with rfl | hn
      · exact ⟨c, hp⟩
      · exact ih h n hn

omit [DecidableEq L] in
theorem lookupP_some_mem (env : PEnv L) (n : String) (t : PS L) (h : lookupP env n = some t) : n ∈ env.map (·.1) :=
  mem_keys_of_find? h

/-- `CompileAllOf` refuses every table in which a type inherits from itself, whether or not the root uses it -/
theorem compileAll_cycle_fails (env : PEnv L) (root : PS L) (a : String) (hc : DepPlus env a a) :
    ∃ e, compileAll env root = .error e := by
  cases h : compileAll env root with
  | error e => exact ⟨e, rfl⟩
  | ok r =>
    exfalso
    obtain ⟨_, h2, _⟩ := (compileAll_spec env root).ok h
    have ha : a ∈ env.map (·.1) := by
      cases hc with
      | one hd => obtain ⟨t, ht, _⟩ := hd; exact lookupP_some_mem env a t ht
      | step hd _ => obtain ⟨t, ht, _⟩ := hd; exact lookupP_some_mem env a t ht
    obtain ⟨c, hok⟩ := firstErr_none env _ _ h2 a ((mem_sortNames a _).2 ha)
    obtain ⟨e, he⟩ := cycle_fails env a hc (env.length + 1) []
    rw [hok] at he; cases he

/-- when `CompileAllOf` reports the recursion error (703) some type of the table inherits from itself -/
theorem compileAll_recursion_cycle (env : PEnv L) (root : PS L) (h : compileAll env root = .error .recursion) :
    ∃ a, DepPlus env a a := by
  rcases (compileAll_spec env root).error h with h | ⟨n, h⟩
  · obtain ⟨m, _, hp⟩ := compileWith_foreign _ .recursion rfl root h
    exact recursion_error_cycle env _ [] m trivial hp
  · exact recursion_error_cycle env _ [] n trivial h

end

end AOK
