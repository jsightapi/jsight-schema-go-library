import JSight.BridgeCRBasics
/-!
Bridge (A)∩(B), the annotation-reading phase: `Compile.createRule` (constraint constructor + `AddConstraint`) against
`CR.loadRule` on the translated rule, rule by rule, under the invariant "the constraint map has a constraint exactly
for the names read so far".
-/
namespace BridgeCR
open Compile

/-- the rule name a constraint type comes from (`typesList` comes with `or`) -/
def ctName : CR.CT → Option Bytes
  | .minLength => some CR.n_minLength | .maxLength => some CR.n_maxLength | .min => some CR.n_min | .max => some CR.n_max
  | .exclusiveMinimum => some CR.n_exclusiveMinimum | .exclusiveMaximum => some CR.n_exclusiveMaximum
  | .type => some CR.n_type | .precision => some CR.n_precision | .optional => some CR.n_optional
  | .minItems => some CR.n_minItems | .maxItems => some CR.n_maxItems
  | .additionalProperties => some CR.n_additionalProperties | .nullable => some CR.n_nullable | .regex => some CR.n_regex
  | .const => some CR.n_const | .or => some CR.n_or | .enum => some CR.n_enum | .allOf => some CR.n_allOf
  | .typesList => some CR.n_or
  | _ => none

/-- the constraint map holds a constraint exactly for the rule names read so far -/
def Inv (seen : List Bytes) (m : CR.CMap) : Prop :=
  ∀ k, m.has k = (match ctName k with | some nm => seen.contains nm | none => false)

theorem inv_step (seen : List Bytes) (m m' : CR.CMap) (nm0 : Bytes) (h1 : Inv seen m)
    (h2 : ∀ k, m'.has k = (m.has k || (ctName k == some nm0))) : Inv (nm0 :: seen) m' := by
  intro k
  rw [h2 k, h1 k]
  cases hk : ctName k with
  | none => simp
  | some nm =>
    simp only [List.contains_cons, Option.some_beq_some]
    rw [Bool.or_comm]

theorem ctName_single (rn : CR.RName) (hne : rn ≠ .or) (k : CR.CT) :
    (ctName k == some (rbytes rn)) = decide (k = rn.ct) := by
  cases rn <;> first | exact absurd rfl hne | (cases k <;> decide +kernel)

theorem ctName_or (k : CR.CT) : (ctName k == some CR.n_or) = (decide (k = .or) || decide (k = .typesList)) := by
  cases k <;> decide +kernel

theorem has_set (m : CR.CMap) (k0 : CR.CT) (v : CR.CV) (k : CR.CT) :
    (m.set k0 v).has k = (m.has k || decide (k = k0)) := by
  unfold CR.CMap.has CR.CMap.set
  by_cases h : k = k0 <;> simp [h]

theorem addC_base (c : CR.Ctx) (m : CR.CMap) (k : CR.CT) (v : CR.CV)
    (h : c.cls ≠ .mixedValue ∨ (k ≠ .type ∧ k ≠ .or)) : CR.addC c m k v = CR.addBase m k v := by
  unfold CR.addC
  rcases h with h | ⟨h1, h2⟩
  · simp [h]
  · split
    · cases k <;> first | rfl | exact absurd rfl h1 | exact absurd rfl h2
    · rfl

/-- how a step of the two models may end: both accept (invariant for the longer list), or both fail with one code -/
def StepOK (seen : List Bytes) (nm : Bytes) (a : Except Err Unit) (b : Except CR.Code CR.CMap) : Prop :=
  match a, b with
  | .ok _, .ok m' => Inv (nm :: seen) m'
  | .error (.code ca _), .error cb => ca = cb
  | _, _ => False

/-- a plain insertion: duplicate (501) or the invariant for the longer list -/
theorem dup_step (c : CR.Ctx) (seen : List Bytes) (m : CR.CMap) (rn : CR.RName) (hne : rn ≠ .or)
    (hb : c.cls ≠ .mixedValue ∨ (rn.ct ≠ .type ∧ rn.ct ≠ .or)) (v : CR.CV) (pos : Nat) (hI : Inv seen m) :
    StepOK seen (rbytes rn)
      (if seen.contains (rbytes rn) then .error (.code 501 pos) else .ok ())
      (CR.addC c m rn.ct v) := by
  rw [addC_base c m _ _ hb]
  unfold CR.addBase
  have hh : m.has rn.ct = seen.contains (rbytes rn) := by
    rw [hI rn.ct]
    cases rn <;> rfl
  rw [hh]
  cases hs : seen.contains (rbytes rn)
  · simp only [StepOK, Bool.false_eq_true, ↓reduceIte]
    exact inv_step seen m _ _ hI (fun k => by rw [has_set, ctName_single rn hne])
  · simp [StepOK]

end BridgeCR

namespace BridgeCR
open Compile

theorem rbytes_ne (rn : CR.RName) (h1 : rn ≠ .or) (h2 : rn ≠ .enum) (h3 : rn ≠ .allOf) :
    rbytes rn ≠ CR.n_or ∧ rbytes rn ≠ CR.n_enum ∧ rbytes rn ≠ CR.n_allOf := by
  cases rn <;> first | exact absurd rfl h1 | exact absurd rfl h2 | exact absurd rfl h3 | decide +kernel

/-- a literal-valued rule in (B): the constructor, then the insertion -/
theorem loadRule_lit (env : CR.Env) (c : CR.Ctx) (m : CR.CMap) (rn : CR.RName) (v : Bytes)
    (h1 : rn ≠ .or) (h2 : rn ≠ .enum) (h3 : rn ≠ .allOf) :
    CR.loadRule env c m (rbytes rn, .lit v) = CR.mkLit env (rbytes rn) v >>= fun kv => CR.addC c m kv.1 kv.2 := by
  obtain ⟨a, b, d⟩ := rbytes_ne rn h1 h2 h3
  unfold CR.loadRule
  simp [a, b, d]

theorem valOf_lit (nm : Bytes) (gen : Bool) (v : Bytes) (pos npos : Nat) (h1 : nm ≠ CR.n_or) (h2 : nm ≠ CR.n_enum) :
    valOf { name := nm, gen := gen, val := some v, pos := pos, npos := npos } = .lit v := by
  unfold valOf
  simp [sb_or, sb_enum, h1, h2]

end BridgeCR
