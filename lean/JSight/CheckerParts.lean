import JSight.Checker
/-!
# C04 — the own check of a node as the first failure in a list of checks

`CK.nodeErr` runs the checks of a node one after the other and stops at the first that fails (`parts`, `nodeErr_eq_parts`),
as `CK.checkSchema` does with the nodes (`CK.firstErr`, `CheckerTraverse`). What holds of every part holds of the node's own error
(`nodeErr_some`, `forall_parts`).
-/
namespace CK
open RulesF (Oracles)

/-- the own checks of a node in the order `checkNode` runs them, each with the panic it raises (before
`CatchLexEventError`) -/
def parts (o : Oracles) (env : Env) (h : Hd) : List (Option Panic) :=
  compatErr h.info :: linksErr env h.info ::
    (match h.info.nk with
     | .lit => [literalErr o env h.info]
     | .arr => [arrayItems env env.fuel h, arrayNodeErr h]
     | .obj => [keysErr env h.info.keys, addPropsErr env h.info]
     | .mixed | .mixedValue => [])

theorem nodeErr_eq_parts (o : Oracles) (env : Env) (h : Hd) :
    nodeErr o env h = ((parts o env h).findSome? id).map (catchLex h.info.lex) := by
  unfold nodeErr parts
  dsimp only
  congr 1
  generalize h.info.nk = k
  cases compatErr h.info with
  | some p => rfl
  | none =>
    cases linksErr env h.info with
    | some p => rfl
    | none =>
      cases k with
      | lit => cases literalErr o env h.info <;> rfl
      | arr => cases arrayItems env env.fuel h <;> cases arrayNodeErr h <;> rfl
      | obj => cases keysErr env h.info.keys <;> cases addPropsErr env h.info <;> rfl
      | mixed => rfl
      | mixedValue => rfl

/-- the own error of a node is the error of one of its parts, caught at the node's lexeme -/
theorem nodeErr_some {o : Oracles} {env : Env} {h : Hd} {p : Panic} (hp : nodeErr o env h = some p) :
    ∃ q, some q ∈ parts o env h ∧ catchLex h.info.lex q = p := by
  rw [nodeErr_eq_parts, Option.map_eq_some_iff] at hp
  obtain ⟨q, hq, rfl⟩ := hp
  obtain ⟨x, hx, hq⟩ := List.exists_of_findSome?_eq_some hq
  exact ⟨q, by cases hq; exact hx, rfl⟩

theorem nodeErr_none_iff {o : Oracles} {env : Env} {h : Hd} : nodeErr o env h = none ↔ ∀ x ∈ parts o env h, x = none := by
  rw [nodeErr_eq_parts, Option.map_eq_none_iff, List.findSome?_eq_none_iff]
  rfl

/-- a claim about every part of a node, part by part -/
theorem forall_parts {o : Oracles} {env : Env} {h : Hd} {P : Option Panic → Prop} :
    (∀ x ∈ parts o env h, P x) ↔ P (compatErr h.info) ∧ P (linksErr env h.info) ∧
      (h.info.nk = .lit → P (literalErr o env h.info)) ∧
      (h.info.nk = .arr → P (arrayItems env env.fuel h) ∧ P (arrayNodeErr h)) ∧
      (h.info.nk = .obj → P (keysErr env h.info.keys) ∧ P (addPropsErr env h.info)) := by
  unfold parts
  cases h.info.nk <;> simp

/-! ### bare codes; the three parts whose definitions show that they raise nothing else (`linksErr_raw` needs the fuel argument: `CheckerFuel`) -/

/-- a bare error code (`errors.Err` without a lexeme): neither the model's "out of fuel" nor a positioned `DocumentError` -/
def Raw (p : Panic) : Prop := ∃ c, p = .raw c

theorem Raw.no_crash {p : Panic} (h : Raw p) (w : String) : p ≠ .crash w := by
  obtain ⟨_, rfl⟩ := h; nofun

theorem compatErr_raw (i : Info) (p : Panic) (h : compatErr i = some p) : Raw p := by
  unfold compatErr at h
  split at h
  · simp at h
  · split at h
    · cases h; exact ⟨_, rfl⟩
    · simp at h

theorem arrayNodeErr_raw (h : Hd) (p : Panic) (hp : arrayNodeErr h = some p) : Raw p := by
  unfold arrayNodeErr at hp
  repeat' split at hp
  all_goals first | (cases hp; exact ⟨_, rfl⟩) | simp at hp

theorem addPropsErr_raw (env : Env) (i : Info) (p : Panic) (hp : addPropsErr env i = some p) : Raw p := by
  unfold addPropsErr at hp
  split at hp
  · split at hp
    · cases hp; exact ⟨_, rfl⟩
    · simp at hp
  · simp at hp

/-! ### the verdict of `checkLiteralNode` as a function of the checkers' verdicts -/

/-- the code reported when every checker fails: the single checker's own, 204 for several (or none) -/
def verdictCode : List (Option Nat) → Nat
  | [some c] => c
  | _ => 204

theorem literalVerdict_eq (o : Oracles) (lex : Lex) (l : List Chk) :
    literalVerdict o lex l =
      if l.all fun c => (c.check o lex).isSome then some (.doc (verdictCode (l.map (Chk.check o lex))) lex.file lex.begin)
      else none := by
  unfold literalVerdict
  split
  · match l with
    | [] => rfl
    | [c] => cases hc : c.check o lex <;> simp_all [verdictCode]
    | c :: _ :: _ => cases hc : c.check o lex <;> simp [verdictCode, hc]
  · rfl

end CK
