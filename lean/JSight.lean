import JSight.AllOf
import JSight.AllOfProofs
import JSight.AllOfK
import JSight.AllOfKProofs
import JSight.AllOfKSem
import JSight.AllOfKErrors
import JSight.AllOfKTrans
import JSight.AllOfKFull
import JSight.OrRuleSet
import JSight.OrRuleSetProofs
import JSight.Ast
import JSight.ByteLemmas
import JSight.ListFacts
import JSight.ClassifyInv
import JSight.CheckExample
import JSight.CheckRules
import JSight.CheckRulesSpec
import JSight.CheckRulesBasics
import JSight.CheckRulesSteps
import JSight.CheckRulesCompile
import JSight.CheckRulesLoad
import JSight.CheckRulesThm
import JSight.CheckRulesTie
import JSight.CheckExampleConv
import JSight.CheckerHypProofs
import JSight.CheckerParts
import JSight.CompileNames
import JSight.RefSearch
import JSight.Dfs
import JSight.DocCursorRem
import JSight.DocCursorOne
import JSight.EnumScan
import JSight.EnumDispatch
import JSight.EnumNoCrashStep
import JSight.EnumNoCrash
import JSight.ErrPos
import JSight.Example
import JSight.ExampleRefs
import JSight.ExampleSelf
import JSight.ExampleText
import JSight.ExampleTextProofs
import JSight.ExampleK
import JSight.ExampleKProofs
import JSight.ExampleKWitness
import JSight.ExampleAllOf
import JSight.DfsK
import JSight.FinishProofs
import JSight.Formats
import JSight.JsonRun
import JSight.JsonBridge
import JSight.JsonScan
import JSight.Loader
import JSight.LoaderProofs
import JSight.NoCrash
import JSight.Number
import JSight.NumberCompare
import JSight.NumberDen
import JSight.NumberTotal
import JSight.NumberValue
import JSight.NumberProofs
import JSight.OMap
import JSight.OMapOps
import JSight.OMapOpsProofs
import JSight.OMapProofs
import JSight.PinnedOMap
import JSight.PinnedTree
import JSight.PoolRace
import JSight.Protocol
import JSight.ProtocolProofs
import JSight.RegexQuote
import JSight.Render
import JSight.RenderLine
import JSight.RenderProofs
import JSight.Rfc
import JSight.RfcGrammar
import JSight.RfcGrammarConv
import JSight.RuleOrder
import JSight.Rules
import JSight.RulesFull
import JSight.RulesFullSpec
import JSight.Utf8Unquote
import JSight.RulesFullProofs
import JSight.SchemaRun
import JSight.SchemaScan
import JSight.SchemaStepEq
import JSight.SchemaWpAttr
import JSight.SchemaWp
import JSight.Sim
import JSight.SimTrailing
import JSight.TreeEvents
import JSight.TreeLen
import JSight.TreeNested
import JSight.TreeRebuild
import JSight.TreeSpans
import JSight.TreeStrip
import JSight.TypeGraph
import JSight.TypeGraphProofs
import JSight.Unquote
import JSight.Validate
import JSight.ValidateA
import JSight.ValidateAProofs
import JSight.ValidateCommon
import JSight.ValidateK
import JSight.ValidateKProofs
import JSight.ValidateKSpec
import JSight.ValidateN
import JSight.ValidateNProofs
import JSight.ValidateP
import JSight.ValidatePos
import JSight.ValidatePosProofs
import JSight.ValidatePosBytes
import JSight.ValidatePosShape
import JSight.ValidateR
import JSight.ValidateRProofs
import JSight.ValidateT
import JSight.ValidateTProofs
import JSight.Viable
import JSight.EnumEvents
import JSight.EnumEventsExamples
import JSight.EnumEventsItem
import JSight.EnumEventsRun
import JSight.EnumEventsSem
import JSight.EnumEventsStep
import JSight.EnumEventsTok
import JSight.RuleNameSpelling
import JSight.SchemaDispatch
import JSight.SchemaEndValue
import JSight.SchemaEof
import JSight.SchemaFrame
import JSight.SchemaWalkTactics
import JSight.SchemaFrameComp
import JSight.SchemaHelpers
import JSight.SchemaInv
import JSight.SchemaInvLemmas
import JSight.SchemaLeafA
import JSight.SchemaLeafB
import JSight.SchemaLeafC
import JSight.SchemaLeafD
import JSight.SchemaLeafE
import JSight.SchemaNext
import JSight.SchemaNextA
import JSight.SchemaNoCrash
import JSight.SchemaQ
import JSight.SchemaRunOK
import JSight.SchemaShift
import JSight.SchemaStep
import JSight.SchemaEvents
import JSight.SchemaEventsBase
import JSight.SchemaEventsJson
import JSight.SchemaEventsRun
import JSight.SchemaEventsStep
import JSight.SchemaEventsTree
import JSight.LoaderTree
import JSight.LoaderTreeBase
import JSight.LoaderTreeDup
import JSight.LoaderValue
import JSight.LoaderTreeExamples
import JSight.LoaderTreeMirrors
import JSight.LayoutTree
import JSight.LayoutAbs
import JSight.LayoutPlain
import JSight.LayoutExamples
import JSight.CommentLayout
import JSight.CommentTree
import JSight.CommentLoad
import JSight.CommentErase
import JSight.CommentExamples
import JSight.AnnotStep
import JSight.AnnotRun
import JSight.AnnotObj
import JSight.AnnotDoc
import JSight.AnnotLoad
import JSight.AnnotThm
import JSight.AnnotNote
import JSight.AnnotNoteLoad
import JSight.AnnotNoteThm
import JSight.AnnotExamples
import JSight.SchemaLen
import JSight.SchemaLenBase
import JSight.SchemaRunLen
import JSight.SchemaLenEnd
import JSight.SchemaLenShortcut
import JSight.SchemaLenAnnStep
import JSight.SchemaLenAnnRun
import JSight.SchemaLenTokStep
import JSight.SchemaCommentRun
import JSight.SchemaGramLay
import JSight.SchemaGram
import JSight.SchemaGramDoc
import JSight.SchemaGramLen
import JSight.SchemaForeign
import JSight.ShortcutRun
import JSight.SchemaLenAnnLine
import JSight.SchemaLenTok
import JSight.SchemaLenTokSim
import JSight.SchemaLenTokEvs
import JSight.SchemaLenTokLen
import JSight.SchemaLenAnnScalar
import JSight.SchemaLenEvents
import JSight.SchemaLenTokEv
import JSight.SchemaLenPrefix
import JSight.SchemaLenErr
import JSight.SchemaErrIdx
import JSight.SchemaErrIdxStep
import JSight.SchemaFails
import JSight.SchemaErrPrefix
import JSight.SchemaErrEof
import JSight.SchemaErrExamples
import JSight.SchemaViable
import JSight.SchemaViableFalse
import JSight.SchemaTokViable
import JSight.SchemaTokViableExamples
import JSight.SchemaLookAhead
import JSight.SchemaLcFrame
import JSight.SchemaErrWindow
import JSight.SchemaErrWindowNext
import JSight.SchemaLenTokEof
import JSight.SchemaLenAnnShortcut
import JSight.SchemaLenExamples
import JSight.Props.C01
import JSight.Props.C02
import JSight.Props.C03
import JSight.Props.C04
import JSight.Props.C05
import JSight.Props.C06
import JSight.Props.C07
import JSight.Props.C08
import JSight.Props.C09
import JSight.Props.C10
import JSight.Props.C11
import JSight.Props.C12
import JSight.Props.C13
import JSight.Props.C14
import JSight.Props.C15
import JSight.Props.C16
import JSight.Props.C17
import JSight.Props.C18
import JSight.Props.C19
import JSight.Tie.CMap
import JSight.Tie.Compat
import JSight.Tie.CheckerCompat
import JSight.Tie.Errors
import JSight.Tie.Kinds
import JSight.Tie.PanicTypes
import JSight.Tie.Panics
import JSight.Tie.Sync
import JSight.Tie.SyncGlobals
import JSight.Tie.SyncHealth
import JSight.Tie.SyncLocks
import JSight.Tie.SyncOnce
import JSight.Tie.SyncPool
import JSight.Tie.SyncRanges
import JSight.Tie.SyncTypes
import JSight.EnumRoute
import JSight.EnumCStep
import JSight.EnumCLay
import JSight.EnumC
import JSight.EnumC2
import JSight.EnumPlain
import JSight.EnumRouteA
import JSight.AnnotEnum
import JSight.EnumRouteB
import JSight.EnumRouteEq
import JSight.EnumCExamples
import JSight.EnumGuess
import JSight.Compile
import JSight.E2E
import JSight.E2ELoad
import JSight.E2ESpec
import JSight.E2ESchema
import JSight.E2EDoc
import JSight.E2EShape
import JSight.E2EKinds
import JSight.E2EThm
import JSight.VisitMeasure
import JSight.FuelRel
import JSight.ExceptWp
import JSight.TrimLen
import JSight.CompileLinks
import JSight.CompileLinksProofs
import JSight.CompileLinksBridge
import JSight.CompileLinksFirst
import JSight.CompileLinksText
import JSight.C02TextSpec
import JSight.C02TextCompile
import JSight.C02TextLoad
import JSight.C02TextThm
import JSight.BridgeCR
import JSight.BridgeCK
import JSight.BridgeCK2Order
import JSight.BridgeCK2Lit
import JSight.BridgeCK2NoRef
import JSight.BridgeCK2Types
import JSight.BridgeCK2
import JSight.BridgeCK3Lit
import JSight.BridgeCK3Loops
import JSight.BridgeCK3Node
import JSight.BridgeCK3Tree
import JSight.BridgeCK3Fuel
import JSight.BridgeCK3False
import JSight.BridgeCK4Keys
import JSight.BridgeCK4Tree
import JSight.BridgeCRBasics
import JSight.BridgeCRLoad
import JSight.BridgeCRStep
import JSight.BridgeCRThm
import JSight.BridgeCR2Load
import JSight.BridgeCR2Map
import JSight.BridgeCR2Tail
import JSight.BridgeCR2Rows
import JSight.BridgeCR2Plain
import JSight.BridgeCR2Front
import JSight.BridgeCR2Type
import JSight.BridgeCR2Thm
import JSight.BridgeCR2Main
import JSight.BridgeCR2Short
import JSight.AstText
import JSight.AstTextAnnot
import JSight.AstTextThm
import JSight.AstTextTree
import JSight.AnnTreeTok
import JSight.AnnTreeLoad
import JSight.AnnTree
import JSight.AnnTreeEffect
import JSight.AnnTreeExamples
import JSight.ATreeDefs
import JSight.ATreeSeg
import JSight.ATreeTok
import JSight.ATreeLoad
import JSight.ATreeLoad2
import JSight.ATreeLoad3
import JSight.ATreeLoad4
import JSight.ATreeThm
import JSight.ATreeStrip
import JSight.ATreeExamples
import JSight.C02TextNames
import JSight.C02TextOrder
import JSight.C02TextPerm
import JSight.C02TextThm2
import JSight.C02TextEnum
import JSight.C02TextGrammar2
import JSight.ExampleTextR
import JSight.ATreeExample
import JSight.ExampleTextRProofs
import JSight.ExampleTextRKeys
import JSight.KeysDefs
import JSight.KeysThm
import JSight.KeysRawProofs
import JSight.AnnotQStep
import JSight.AnnotQRun
import JSight.AnnotQObj
import JSight.AnnotQLoad
import JSight.QNameBytes
import JSight.AnnotQThm
import JSight.C02TextQ
import JSight.C02TextQEmb
import JSight.AnnotQExamples
import JSight.AstTextQ
import JSight.ScalarItemsBridge
import JSight.ShortcutStep
import JSight.ShortcutTree
import JSight.ShortcutTreeRun
import JSight.ShortcutTreeDoc
import JSight.LoaderShortcut
import JSight.LoaderSTree
import JSight.NodeTable
import JSight.CompileShortcut
import JSight.ShortE2E
import JSight.ShortE2ECompile
import JSight.ShortE2ELoad
import JSight.ShortE2ELinks
import JSight.ShortE2EExamples
import JSight.AstTextShort
import JSight.AstTextShort2
import JSight.AstTextShort2Tree
import JSight.ShortE2ESide
import JSight.RefE2E
import JSight.RefE2ESpec
import JSight.RefE2EThm
import JSight.RefE2EExamples
import JSight.ExampleShort
import JSight.ExampleShortClass
import JSight.ExampleShortText
import JSight.ExampleShortCut
import JSight.ExampleShortAgree
import JSight.ExampleShortBytes
